import Goyang.Lemmas.Session
import Goyang.Model.TypesLite
/-
Property C18: re-processing, incremental loading and failed loads do not skew results.

The machine is `Goyang.Model.Session` (one `yang.Modules` value: `load` = `Modules.Parse` of a raw
text - generic parser, AST builder and registry of the model, `loadText` - or of statement trees
with the front end's verdict as a flag; `process` = `Modules.Process`; `read` =
`ToEntry(…).Find(…)`), the reference is
`Goyang.Spec.Session` (batch run of the good texts on a fresh set; indistinguishable states).
All statements are for every history, every start state where one is mentioned, every plug-in
of the type / identity layers and every option setting.

WHAT THE THEOREMS ASSUME, AND WHICH RUNNER CHECK COVERS IT.  In the model `process` is
`processAll reg opts (plug reg)`, a pure function of the registry; the Go `Modules` value carries more.
Each theorem is about the real code only as far as the runner (harness/cmd/corr-c18) confirms, on
histories executed on ONE `Modules` value, that this extra state is transparent:

  theorem                    | Go state assumed transparent                        | runner check
  ---------------------------+-----------------------------------------------------+---------------------------------
  process_idempotent         | entryCache, mergedSubmodule, includes, byNS (reset   | histories with `process process`
                             | by hand at the top of Process); Type.YangType /     | and `process read process`: 2nd
                             | Typedef.YangType / Type.resolveErrs memo (D30);     | dump = 1st dump = batch dump =
                             | Identity.Values (appended to, then rebuilt as a     | model dump (extended Go dump:
                             | de-duplicated closure: D55); identity dictionary    | resolved types, identity values)
  incremental_eq_batch,      | all of the above across a CHANGED registry: memoised| after every `process`: dump on
  process_outcome,           | types and errors of an earlier run (D44), Import/   | the one value = dump of a batch
  load_order_of_accepted_only| Include `.Module` links and identity dictionary     | run of the accepted texts on a
                             | entries of an earlier run (D46), value lists of     | fresh Modules (Go vs Go, a
                             | identities that lost their key (D55), typeDict.dict,| violation by itself) = model
                             | Modules/SubModules/unrevisioned maps                |
                             | the same through Modules.GetModule (processes on    | `getmodule` operations (on demand
                             | demand: a "nothing to do" shortcut must see loads:  | after loads, repeatedly, touched /
                             | seeded change C18-l21); links of imports / includes | untouched modules): returned tree =
                             | PINNED by revision-date after a run that fell back  | a fresh set's; pinned revision
                             | to another revision (seeded change C18-l22)         | arriving after a run (origin `pinned/`)
  failed_load_no_trace       | typeDict.dict (typedefs of nested scopes register   | bad texts with ONE late fault,
                             | while the AST is built: D31), name maps after a     | exact duplicates, two-module
                             | partial add (D32), `mod.Modules` back pointer       | texts whose second module is
                             | entryCache = the processed trees, links, identity   | rejected, then more operations;
                             | value lists ACROSS a refused text whose earlier      | texts of 2-4 statements refused
                             | statements had registered (a cache dropped in `add` | at the LAST one (new module, newer
                             | is not brought back by restoreNames: seeded change  | revision, submodule registered
                             | C18-i22; statically: Props/C18State, stray writer)  | before), then the READ BATTERY
                             |                                                     | (ToEntry of everything, GetErrors,
                             |                                                     | identity values, Find) on the value
                             |                                                     | and on a shadow value that never
                             |                                                     | saw the refused texts, before the
                             |                                                     | next Process; `read` vs the model
                             | ANYTHING kept between texts that a failing text can | every refused offer is also put to
                             | leave dirty (a parser with its brace depth: seeded   | a FRESH value that took the accepted
                             | change C18-m22)                                      | operations: same answer (accepted /
                             |                                                     | refused, same (position, class))
                             | ms.Path and pathMap, the duplicate table of AddPath | FILE histories (origin `files/`): Read by
                             | (Modules.Read puts the directory of a file on the   | path / name, AddPath, files that
                             | path before Parse sees the text: a roll back of one | appear, imports found through the
                             | of the two only is seeded change C18-m21; the        | path only, vs the same history
                             | tree used to roll back neither: D18-P1, found by    | without the refused loads: path,
                             | the file histories, repaired in /repo 2488dfd);     | later offers, errors, trees, lookups
                             | outside the machine, Go vs Go only                  | after every operation
  incremental_eq_batch       | the type generation across a run that could NOT     | FILE histories: a run with a missing
                             | link (memoised "unknown prefix" must not survive:   | import, then the path grows / the
                             | seeded change C09-m22)                              | file appears, a run = a fresh set's
  read_no_trace              | entryCache entries and memoised types / errors made | ToEntry / Find / GetErrors walks
                             | by ToEntry before a Process (D45), rpc input/output | between operations; later dumps
                             | created lazily by Find                              | must equal batch and model

(D30-D32, D44-D46, D55, D18-P1: the ways in which the unchanged tree was NOT transparent; all repaired in
/repo, the witnesses are corpus/C18/*.json.  DESIGN.md section 8, known_findings.txt.  `pinned/` and `files/`
are the origin labels the runner gives the histories of those two generators.)

Beside the table: `failed_load_state_eq` and `failed_load_indistinguishable` are the one-step form of
`failed_load_no_trace` (the state after a rejected load is the state before, so no later history tells them
apart) and lean on the same Go state; `good_texts_batch` (the good texts of a history, offered as a batch to a
fresh set, are all accepted and reach the same registry) is the step from `load_order_of_accepted_only` to
`incremental_eq_batch`; `good_source_is_pipeline_load` and `text_rejected_registry_unchanged` are about the
model alone: what a load is in terms of `loadText` / `loadFile`, and that the Lean front end leaves the
registry alone unless it answers `accepted`.

The layer between this machine and the Go value is Props/C18Cached.lean.
`Goyang.Model.SessionCached` is a stateful machine in which entry cache, links, identity tables,
generation counter + stamped per-type memo and the snapshot / restore around a refused load persist
between operations; `cached_refines_session` shows that under the reset discipline (a decidable
predicate over the regenerated inventory Gen/State.lean, evaluated on the current one) it answers
every history as the machine below does, and `cached_process_outcome` carries `process_outcome` over
to it.  What the table above calls "assumed transparent" is thereby reduced to: the Go functions
compute what the pure functions of that machine compute and store nothing else (runner), and the
inventory is a faithful reading of the source (translator).
-/
namespace Goyang.Props.C18
open Goyang.Model Goyang.Model.Session Goyang.Spec.Session Goyang.Lemmas.Session

/-! ### processing twice -/

/-- Processing twice gives the same answer twice, equal to processing once, and leaves the same
state: for every history `h` from every state. -/
theorem process_idempotent (plug : Registry → Plug) (s : Session) (h : List Op) :
    (runFrom plug s (h ++ [.process, .process])).1 = (runFrom plug s (h ++ [.process])).1 ∧
    ∃ o, (runFrom plug s (h ++ [.process])).2 = (runFrom plug s h).2 ++ [o] ∧
         (runFrom plug s (h ++ [.process, .process])).2 = (runFrom plug s h).2 ++ [o, o] := by
  refine ⟨?_, (step plug (runFrom plug s h).1 .process).2, ?_, ?_⟩
  all_goals simp only [runFrom_append, runFrom_cons, runFrom_nil, step_process]

/-! ### a failed load leaves no trace -/

/-- A rejected load (`Parse` returned an error: parser, AST builder or `add`) leaves the state
*equal* to the state before. -/
theorem failed_load_state_eq (plug : Registry → Plug) (s : Session) (src : Src) (w : Reject)
    (h : (step plug s (.load src)).2 = .rejected w) : (step plug s (.load src)).1 = s :=
  step_rejected_state plug s src w h

/-- … so no later history of loads, processing runs and reads can tell the two apart. -/
theorem failed_load_indistinguishable (plug : Registry → Plug) (s : Session) (src : Src) (w : Reject)
    (h : (step plug s (.load src)).2 = .rejected w) :
    Indistinguishable plug (step plug s (.load src)).1 s := by
  intro later
  rw [failed_load_state_eq plug s src w h]

/-- A load anywhere in a history that is answered `rejected`: cutting it out of the history
changes neither any other answer nor the final state — the set behaves, for every later load,
processing run and read, exactly as if the failed text had never been offered. -/
theorem failed_load_no_trace (plug : Registry → Plug) (s : Session) (pre post : List Op) (src : Src) (w : Reject)
    (h : (runFrom plug s (pre ++ .load src :: post)).2[pre.length]? = some (.rejected w)) :
    (runFrom plug s (pre ++ .load src :: post)).1 = (runFrom plug s (pre ++ post)).1 ∧
    (runFrom plug s (pre ++ .load src :: post)).2.eraseIdx pre.length = (runFrom plug s (pre ++ post)).2 := by
  rw [(isRun plug).getElem?_mid, Option.some.injEq] at h
  exact (isRun plug).cut s pre post _ (step_rejected_state plug _ src w h)

/-! ### incremental loading = batch loading of the accepted texts -/

/-- The registry a history leaves behind is the one obtained by loading, in order, exactly the
texts whose load the caller saw accepted; rejected texts, processing runs and reads do not enter. -/
theorem load_order_of_accepted_only (plug : Registry → Plug) (opts : Opts) (h : List Op) :
    (after plug opts h).reg = loadSrcs (goodTexts plug opts h) ∧ (after plug opts h).opts = opts :=
  ⟨runFrom_reg plug { opts := opts } h, runFrom_opts plug { opts := opts } h⟩

/-- Offered as a batch to a fresh set, the good texts of a history are all accepted, in their
order, and are their own good texts. -/
theorem good_texts_batch (plug : Registry → Plug) (opts : Opts) (h : List Op) :
    run plug opts (loads (goodTexts plug opts h)) = (goodTexts plug opts h).map (fun _ => Out.accepted) ∧
    (after plug opts (loads (goodTexts plug opts h))).reg = (after plug opts h).reg :=
  have := batch_replays plug h { opts := opts } { opts := opts } rfl
  ⟨this.2, this.1⟩

/-- Every `process` answer in a history is `processAll` of the registry obtained by loading, in
order, exactly the accepted texts that precede it. -/
theorem process_outcome (plug : Registry → Plug) (opts : Opts) (pre post : List Op) :
    (run plug opts (pre ++ .process :: post))[pre.length]? =
      some (.processed (processAll (loadSrcs (goodTexts plug opts pre)) opts (plug (loadSrcs (goodTexts plug opts pre))))) := by
  have hr := load_order_of_accepted_only plug opts pre
  simp only [after] at hr
  rw [run, (isRun plug).getElem?_mid, step_process, hr.1, hr.2]

/-- Loading more texts after processing runs (and failed loads, and reads) and processing again
answers exactly what the batch run of the good texts on a fresh set answers. -/
theorem incremental_eq_batch (plug : Registry → Plug) (opts : Opts) (h : List Op) :
    (run plug opts (h ++ [.process])).getLast? = batch plug opts (goodTexts plug opts h) ∧
    batch plug opts (goodTexts plug opts h) =
      some (.processed (processAll (loadSrcs (goodTexts plug opts h)) opts (plug (loadSrcs (goodTexts plug opts h))))) := by
  have hb := good_texts_batch plug opts h
  have hr := load_order_of_accepted_only plug opts h
  simp only [after] at hb hr
  have e2 : batch plug opts (goodTexts plug opts h) =
      some (.processed (processAll (loadSrcs (goodTexts plug opts h)) opts (plug (loadSrcs (goodTexts plug opts h))))) := by
    simp only [batch, run, runFrom_append, runFrom_cons, runFrom_nil, step_process, List.getLast?_append,
      List.getLast?_singleton, Option.some_or, hb.2, runFrom_opts, hr.1]
  refine ⟨?_, e2⟩
  rw [e2]
  simp only [run, runFrom_append, runFrom_cons, runFrom_nil, step_process, List.getLast?_append, List.getLast?_singleton,
    Option.some_or, hr.1, hr.2]

/-- What loading a good source does to the registry, in terms of the two loaders of the resolver
pipeline: a raw text is loaded by `loadText` (Load.lean: parser, AST builder, registry), a text
given as statement trees by `loadFile` (Pipeline.lean). -/
theorem good_source_is_pipeline_load (reg : Registry) :
    (∀ name text, loadSrc reg (.text name text) = (loadText reg name text).1) ∧
    (∀ f, (∃ r, tryLoad reg f = .ok r) → loadSrc reg (.stmts f true) = loadFile reg f) :=
  ⟨loadSrc_text reg, loadSrc_stmts reg⟩

/-- The Lean front end leaves the registry alone unless it answers `accepted`. -/
theorem text_rejected_registry_unchanged (reg : Registry) (name text : List UInt8)
    (h : (loadText reg name text).2 ≠ .accepted) : (loadText reg name text).1 = reg :=
  loadText_rejected_reg reg name text h

/-! ### reads -/

/-- Reads interleaved anywhere in a history change no answer to a `load` or a `process`, and not
the registry reached (they do write the entry cache, as `Find` does in Go when it creates the
absent input / output of an rpc; `process` rebuilds that cache from nothing). -/
theorem read_no_trace (plug : Registry → Plug) (opts : Opts) (h : List Op) :
    (run plug opts h).filter (fun o => !o.isReadOut) = run plug opts (h.filter fun op => !op.isRead) ∧
    (after plug opts h).reg = (after plug opts (h.filter fun op => !op.isRead)).reg :=
  runFrom_skip_reads plug h { opts := opts } { opts := opts } rfl rfl

/-! ### non-vacuity: a history with a rejected duplicate and a rejected bad text between two
processing runs, and a read -/

section Examples

private def plug0 : Registry → Plug := fun _ => { tres := typesLite, identityErrs := fun _ => [], typedefErrs := fun _ => [] }

private def st (file kw arg : String) (l : Nat) (subs : List Stmt := []) : Stmt := .mk kw true arg file l 1 subs

private def textA : SrcFile :=
  { name := "a.yang",
    stmts := [st "a.yang" "module" "a" 1 [st "a.yang" "namespace" "urn:a" 2, st "a.yang" "prefix" "a" 3,
      st "a.yang" "container" "c" 4 [st "a.yang" "leaf" "x" 5 [st "a.yang" "type" "string" 6]]]] }

private def textB : SrcFile :=
  { name := "b.yang",
    stmts := [st "b.yang" "module" "b" 1 [st "b.yang" "namespace" "urn:b" 2, st "b.yang" "prefix" "b" 3,
      st "b.yang" "import" "a" 4 [st "b.yang" "prefix" "a" 5],
      st "b.yang" "augment" "/a:c" 6 [st "b.yang" "leaf" "y" 7 [st "b.yang" "type" "int8" 8]]]] }

/-- one text with two modules, the second a duplicate of the loaded `a` (the D32 shape) -/
private def textTwo : SrcFile :=
  { name := "two.yang",
    stmts := [st "two.yang" "module" "z" 1 [st "two.yang" "namespace" "urn:z" 2, st "two.yang" "prefix" "z" 3]] ++ textA.stmts }

/-- a text the builder rejected (its content does not matter to the machine) -/
private def textBad : SrcFile := { name := "bad.yang", stmts := [st "bad.yang" "module" "q" 1] }

private def hist : List Op :=
  [.read "a" "/a:c", .load (.stmts textA true), .read "a" "/a:c/a:x", .process, .load (.stmts textA true),
   .load (.stmts textBad false), .load (.stmts textTwo true), .read "nosuch" "/a:c", .load (.stmts textB true), .process]

/-- What the caller saw of each load: the name of the text and whether it was accepted. -/
private def loadAnswers (h : List Op) (outs : List Out) : List (String × Bool) :=
  (h.zip outs).filterMap fun (op, o) =>
    match op with
    | .load (.stmts f _) => some (f.name, match o with | .accepted => true | _ => false)
    | _ => none

/-- The history does what its name says: the duplicate, the bad text and the two-module text are
rejected between the two processing runs. -/
example : loadAnswers hist (run plug0 {} hist) =
    [("a.yang", true), ("a.yang", false), ("bad.yang", false), ("two.yang", false), ("b.yang", true)] := by decide +kernel

/-- Its good texts are exactly the two accepted ones, in order. -/
example : (goodTexts plug0 {} hist).map (fun | .stmts f _ => f.name | .text _ _ => "") = ["a.yang", "b.yang"] := by decide +kernel

/-- The hypothesis of `failed_load_no_trace` is met at position 4 (duplicate), 5 (bad text) and
6 (two modules, the second rejected: the first one, `z`, is not left behind). -/
example : ∃ w, (runFrom plug0 {} hist).2[4]? = some (.rejected w) := ⟨_, rfl⟩
example : ∃ w, (runFrom plug0 {} hist).2[5]? = some (.rejected w) := ⟨_, rfl⟩
example : ∃ w, (runFrom plug0 {} hist).2[6]? = some (.rejected w) := ⟨_, rfl⟩
example : ((after plug0 {} hist).reg.getModule "z").isNone = true := by decide +kernel
example : ((after plug0 {} hist).reg.getModule "b").isSome = true := by decide +kernel

/-- The reads of the history are answered (of a module that is not there: nothing; before any
`Process`: not from a finished run). -/
example : (runFrom plug0 {} hist).2[0]? = some .noModule := rfl
example : (runFrom plug0 {} hist).2[2]? = some .unprocessed := rfl
example : (runFrom plug0 {} hist).2[7]? = some .noModule := rfl

/-- The statement-level sources above satisfy the hypothesis of `good_source_is_pipeline_load`. -/
example : ∃ r, tryLoad {} textA = .ok r := ⟨_, rfl⟩

/-! The same with raw texts: parser, AST builder and registry of the model decide. -/

private def b (s : String) : List UInt8 := s.toUTF8.toList

private def rawA := b "module a { namespace \"urn:a\"; prefix a; container c { leaf x { type string; } } }"
private def rawB := b "module b { namespace \"urn:b\"; prefix b; import a { prefix a; } augment \"/a:c\" { leaf y { type int8; } } }"
/-- one late fault (an unknown substatement in the last statement) after a nested scope whose
typedef cannot be resolved: the D31 shape -/
private def rawLate := b "module n { namespace \"urn:n\"; prefix n; container c { typedef t { type nosuch; } leaf u { type t; } } leaf l { type string; frobnicate 1; } }"
private def rawSyntax := b "module q { namespace \"urn:q\"; prefix q; leaf l { type string; }"
private def rawTwo := b "module z { namespace \"urn:z\"; prefix z; } module a { namespace \"urn:a\"; prefix a; }"
private def rawTrail := b "module z { namespace \"urn:z\"; prefix z; } container t { leaf q { type string; } }"

private def histT : List Op :=
  [.load (.text (b "a.yang") rawA), .process, .load (.text (b "a-again.yang") rawA), .load (.text (b "n.yang") rawLate),
   .load (.text (b "q.yang") rawSyntax), .load (.text (b "two.yang") rawTwo), .load (.text (b "trail.yang") rawTrail),
   .load (.text (b "b.yang") rawB), .process]

private def tagT : Out → String
  | .accepted => "accepted"
  | .rejected (.text .rejectedSyntax) => "syntax"
  | .rejected (.text .rejectedBuild) => "build"
  | .rejected (.text .rejectedTop) => "top"
  | .rejected (.text .rejectedAdd) => "add"
  | _ => "other"

private def loadTags (h : List Op) (outs : List Out) : List String :=
  (h.zip outs).filterMap fun (op, o) => match op with | .load _ => some (tagT o) | _ => none

/-- What the model says of `histT`: the answers to its loads, the registry it leaves, and what its
text with the late fault gets from a fresh set.  Stated together because each of them needs the
lexing and parsing of the same texts. -/
theorem histT_facts :
    loadTags histT (run plug0 {} histT) = ["accepted", "add", "build", "syntax", "add", "top", "accepted"] ∧
    ((after plug0 {} histT).reg.getModule "z").isNone = true ∧
    ((loadText {} (b "n.yang") rawLate).2 == .rejectedBuild) = true := by
  decide +kernel

/-- Duplicate, late fault, syntax error, two modules with a duplicate second one and a trailing
non-module node are all rejected by the model itself, between two processing runs. -/
example : loadTags histT (run plug0 {} histT) = ["accepted", "add", "build", "syntax", "add", "top", "accepted"] :=
  histT_facts.1

/-- … and the module `z` of the two rejected two-statement texts is not left behind (D32). -/
example : ((after plug0 {} histT).reg.getModule "z").isNone = true := histT_facts.2.1

/-- The hypothesis of `text_rejected_registry_unchanged` on a concrete text. -/
example : (loadText {} (b "n.yang") rawLate).2 ≠ .accepted := by
  intro h
  have := histT_facts.2.2
  rw [h] at this
  cases this

/- What the two processing runs answer (and that they differ: the second sees the augment of `b`
in the tree of `a`) is not evaluated in the kernel; the same histories are
corpus/C18/example-history.json and example-history-texts.json of the correspondence runner, where the answers of the compiled
model are compared with those of the real code. -/

end Examples

end Goyang.Props.C18
