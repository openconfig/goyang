import Goyang.Props.C18
import Goyang.Gen.State
import Goyang.Lemmas.SessionCachedReal
import Goyang.Lemmas.SessionCachedToy
/-
Property C18, the layer between the session model and the Go value: a STATEFUL machine in which the
derived state a `yang.Modules` value keeps between calls is explicit, and the proof that it cannot be
told from the machine that recomputes.

The theorems of Props/C18.lean are about `Goyang.Model.Session`, where `process` is by construction
`processAll reg opts (plug reg)`.  The Go value caches.  `Goyang.Model.SessionCached` (see the table at
the top of that file) keeps, from one operation to the next: the entry cache (filled by `process` AND
by a `read` = ToEntry with no run before it, emptied by `clear` and at the top of `process`, left alone
by `load` - Go's `add` / `Parse` never write it), the link tables and the visited set of `include`,
the identity tables, the generation counter and the memo of resolved types stamped with the
generation that made them, and the snapshot / restore of the name tables around a refused text.
WHAT it stores are results of the same pure functions the session model uses (a `Kit`; for the real
resolver `realKit plug`: `linkAll`, the passes of `plug reg`, `processAll` re-stated with the link
phase as a parameter, `find`); what it ADDS is when a stored result is reused instead of recomputed.
What the value does about each piece at the start of a run is a `Policy`; `Policy.ofTable` reads it
off a field table of the shape of `Goyang.Gen.State.table` (regenerated from the Go source by
harness/cmd/extract-state on every run), and `ResetDiscipline table` says every flag is on.

  theorem                           | says
  ----------------------------------+---------------------------------------------------------------------
  reset_discipline_holds            | the CURRENT regenerated table satisfies the discipline (kernel evaluation)
  cached_refines_pure               | any kit with the three size laws, any table with the discipline, any
                                    |   start registry, any history of load (accepted or refused) / process /
                                    |   read / clear: the cached machine answers what the recomputing machine
                                    |   answers (a read the latter declines - no finished run, or texts accepted
                                    |   since: outside the contract "Process first" - may be answered anyhow),
                                    |   and ends coherent with it (same registry and options; `Coh`)
  cached_refines_from_coherent      | the same from ANY pair of coherent states (not only a fresh value)
  cached_refines_session            | the same for the real resolver against `Goyang.Model.Session` itself
  cached_answers_as_session         | ... position by position as an equation
  cached_process_outcome            | every Process answer of the CACHED machine, in any history, is `processAll`
                                    |   of the registry obtained by loading exactly the texts accepted before it
                                    |   (C18.process_outcome carried over: incremental = batch for the stateful value)
  cached_process_idempotent,        | C18.process_idempotent / read_no_trace / failed_load_no_trace carried over to the
  cached_read_no_trace,             |   stateful value - where a read DOES write hidden state (entry cache, memo
  cached_failed_load_no_trace       |   entries with the current stamp) and a second run DOES find what the first left;
                                    |   the last one for every kit and including the answers of reads outside the contract
  cached_failed_load_state_eq       | a refused load leaves the whole hidden state as it was
  forgot_clear_entry_cache_fails,   | the same machine with ONE reset dropped does not refine: a concrete
  forgot_generation_guard_fails,    |   history on the toy kit, by kernel evaluation (entry cache not emptied at
  forgot_generation_bump_fails,     |   the top of Process; memo used without the generation test: D30/D44; counter
  forgot_relink_fails,              |   not incremented, so what a ToEntry before Process resolved is a hit: D45;
  forgot_identity_reset_fails,      |   stale links: D46; identity tables kept across runs: D55; name tables not
  forgot_restore_fails              |   restored: D32)
  broken_table_gives_broken_policy  | a table in which one of those fields lost its reset (the shapes C18State
                                    |   rejects) yields exactly the refuted policy

What stays abstract / is not proved here: that the Go functions compute what the kit's functions
compute (the correspondence runner), that the table is a faithful reading of the source (the
translator), granularity (links, identity tables and the entry cache are reused as a whole; the type
memo is per type statement, keyed in the real kit by the identity of the AST node - module and
position - as Go keeps it in the node), what Go converts on the fly outside the contract
(`earlyRead`: a parameter; a dummy in the real kit, never compared), and operations the session
model does not have (GetModule = a run, as in the runner; option changes; Read / the search path).
-/
namespace Goyang.Props.C18Cached
open Goyang.Model Goyang.Model.SessionCached Goyang.Model.StateInv
open Goyang.Lemmas.SessionCached Goyang.Lemmas.SessionCachedReal Goyang.Lemmas.SessionCachedToy

/-! ### the discipline, and the table regenerated from the source -/

/-- The inventory regenerated from the current source satisfies the reset discipline: entry cache,
merged-submodule table, links, visited set, namespace answers, identity dictionary and value lists
are reset completely at the start of `Process`, the counter is incremented there, every memo of a
resolved type is generation-guarded, none of them has a storing writer outside its pinned functions,
and the table lists no derived field beside these (the machine models all of them). -/
theorem reset_discipline_holds : ResetDiscipline Goyang.Gen.State.table = true := by decide +kernel

/-- ... so the policy read off the table is the all-on policy. -/
theorem policy_of_current_table : Policy.ofTable Goyang.Gen.State.table = {} :=
  sound_eq (ResetDiscipline.sound reset_discipline_holds)

/-! ### the refinement -/

/-- Cache coherence, for every kit: under the reset discipline the cached machine cannot be told
from the recomputing one by any history from a fresh value. -/
theorem cached_refines_pure (K : Kit) (hl : Laws K) (t : List Field) (ht : ResetDiscipline t = true)
    (reg : K.Reg) (opts : K.Opts) (h : List (SessionCached.Op K)) :
    AgreeAll (prunFrom K { reg := reg, opts := opts } h).2 (crunFrom K (Policy.ofTable t) { reg := reg, opts := opts } h).2 ∧
    (crunFrom K (Policy.ofTable t) { reg := reg, opts := opts } h).1.abs =
      ((prunFrom K { reg := reg, opts := opts } h).1.reg, (prunFrom K { reg := reg, opts := opts } h).1.opts) ∧
    Coh (prunFrom K { reg := reg, opts := opts } h).1 (crunFrom K (Policy.ofTable t) { reg := reg, opts := opts } h).1 := by
  have := run_refines K hl (Policy.ofTable t) (ResetDiscipline.sound ht) h _ _ (coh_init K reg opts)
  refine ⟨this.2, ?_, this.1⟩
  unfold CState.abs
  rw [this.1.reg, this.1.opts]

/-- ... and from any two states that are coherent (`Coh`: same registry and options, no memo stamp
beyond the generation, and the trees the pure machine would answer from are those in the entry
cache unless texts were accepted since): coherence is an invariant. -/
theorem cached_refines_from_coherent (K : Kit) (hl : Laws K) (t : List Field) (ht : ResetDiscipline t = true)
    (s : PState K) (c : CState K) (hc : Coh s c) (h : List (SessionCached.Op K)) :
    AgreeAll (prunFrom K s h).2 (crunFrom K (Policy.ofTable t) c h).2 ∧
    Coh (prunFrom K s h).1 (crunFrom K (Policy.ofTable t) c h).1 :=
  have := run_refines K hl (Policy.ofTable t) (ResetDiscipline.sound ht) h s c hc
  ⟨this.2, this.1⟩

/-- Coherent pairs that are not fresh exist: the states after a run followed by a read. -/
example : Coh (prunFrom toy { reg := [], opts := () } [.load [1], .process, .read 1 0]).1
    (crunFrom toy {} { reg := [], opts := () } [.load [1], .process, .read 1 0]).1 :=
  (run_refines toy toy_laws {} rfl _ _ _ (coh_init toy [] ())).1

/-- The cached machine of the real resolver, with the policy of the current table, on a fresh value. -/
def cachedRun (plug : Registry → Plug) (opts : Opts) (h : List Goyang.Model.Op) :
    CState (realKit plug) × List (SessionCached.Out (realKit plug)) :=
  crunFrom (realKit plug) (Policy.ofTable Goyang.Gen.State.table) { reg := ({} : Registry), opts := opts } (h.map (embOp plug))

/-- The cached machine refines `Goyang.Model.Session`: for every history of loads (accepted and
refused), processing runs and reads on a fresh value, every plug-in of the type / identity layers
and every option setting, its answers are those of the session model (which declines reads outside
the contract), and it holds the registry and options the session model holds. -/
theorem cached_refines_session (plug : Registry → Plug) (opts : Opts) (h : List Goyang.Model.Op) :
    AgreeAll ((Session.run plug opts h).map (embOut plug)) (cachedRun plug opts h).2 ∧
    (cachedRun plug opts h).1.abs = ((Session.after plug opts h).reg, (Session.after plug opts h).opts) := by
  have h1 := cached_refines_pure (realKit plug) (laws_real plug) _ reset_discipline_holds ({} : Registry) opts (h.map (embOp plug))
  have h2 := prun_real plug h { opts := opts }
  have h3 : (toP plug ({ opts := opts } : Session)) = ({ reg := ({} : Registry), opts := opts } : PState (realKit plug)) := rfl
  rw [h3] at h2
  rw [h2] at h1
  exact ⟨h1.1, h1.2.1⟩

/-- Position by position: where the session model answers (anything but `unprocessed`), the cached
machine gives that answer. -/
theorem cached_answers_as_session (plug : Registry → Plug) (opts : Opts) (h : List Goyang.Model.Op) (i : Nat)
    (o : Goyang.Model.Out) (ho : (Session.run plug opts h)[i]? = some o) (hne : ∀ _ : o = .unprocessed, False) :
    (cachedRun plug opts h).2[i]? = some (embOut plug o) := by
  refine agreeAll_getElem? (cached_refines_session plug opts h).1 i (embOut plug o) ?_ ?_
  · rw [List.getElem?_map, ho]; rfl
  · intro e
    cases o <;> first | exact hne rfl | cases e

/-- Incremental = batch for the stateful value: every `Process` answer of the cached machine in any
history is `processAll` of the registry obtained by loading, in order, exactly the texts the caller
saw accepted before it - whatever runs, refused loads and reads (also reads before any run, which
fill the entry cache and the memo) came before. -/
theorem cached_process_outcome (plug : Registry → Plug) (opts : Opts) (pre post : List Goyang.Model.Op) :
    (cachedRun plug opts (pre ++ .process :: post)).2[pre.length]? =
      some (.processed (processAll (Session.loadSrcs (Goyang.Spec.Session.goodTexts plug opts pre)) opts
        (plug (Session.loadSrcs (Goyang.Spec.Session.goodTexts plug opts pre))))) :=
  cached_answers_as_session plug opts _ pre.length _ (Goyang.Props.C18.process_outcome plug opts pre post)
    (fun e => by cases e)

/-! The cached machine of the real kit runs: a text, the same text again (refused: duplicate), a read
before any run (answered on the fly - the session model declines it - and it parks one stamped memo
entry for the type statement it met), a read of a module that is not there. -/

section RealExample

private def plug0 : Registry → Plug := fun _ => { tres := typesLite, identityErrs := fun _ => [], typedefErrs := fun _ => [] }

private def st (file kw arg : String) (l : Nat) (subs : List Stmt := []) : Stmt := .mk kw true arg file l 1 subs

private def textA : SrcFile :=
  { name := "a.yang",
    stmts := [st "a.yang" "module" "a" 1 [st "a.yang" "namespace" "urn:a" 2, st "a.yang" "prefix" "a" 3,
      st "a.yang" "container" "c" 4 [st "a.yang" "leaf" "x" 5 [st "a.yang" "type" "string" 6]]]] }

private def histA : List Goyang.Model.Op :=
  [.load (.stmts textA true), .load (.stmts textA true), .read "a" "/a:c", .read "zz" "/a:c"]

private def tag : SessionCached.Out (realKit plug0) → String
  | .accepted => "accepted"
  | .rejected _ => "rejected"
  | .processed _ => "processed"
  | .found _ => "found"
  | .noModule => "noModule"
  | .unprocessed => "unprocessed"
  | .cleared => "cleared"

example : (cachedRun plug0 {} histA).2.map tag = ["accepted", "rejected", "found", "noModule"] := by decide +kernel
example : ((Session.run plug0 {} histA).map (embOut plug0)).map tag = ["accepted", "rejected", "unprocessed", "noModule"] := by
  decide +kernel
example : (cachedRun plug0 {} histA).1.memo.map (fun e => (e.1.2.2.2.line, e.2.1)) = [(6, 0)] := by decide +kernel
example : (cachedRun plug0 {} histA).1.extra.isSome = true := by decide +kernel

end RealExample

/-- A refused load leaves the whole hidden state of the cached machine - entry cache, links, identity
tables, generation, memo, name tables - equal to the state before. -/
theorem cached_failed_load_state_eq (K : Kit) (t : List Field) (ht : ResetDiscipline t = true) (c : CState K) (src : K.Src)
    (w : K.Rej) (h : (cstep K (Policy.ofTable t) c (.load src)).2 = .rejected w) :
    (cstep K (Policy.ofTable t) c (.load src)).1 = c := by
  rw [sound_eq (ResetDiscipline.sound ht)] at h ⊢
  exact cstep_rejected_state K c src w h

/-- A load anywhere in a history of the cached machine that is answered `rejected`: cutting it out of
the history changes no other answer - also not the answers of reads outside the contract, which the
session model declines and which show hidden state - and not the final state, hidden state
included.  (C18.failed_load_no_trace for the stateful value, for every kit.) -/
theorem cached_failed_load_no_trace (K : Kit) (t : List Field) (ht : ResetDiscipline t = true) (c : CState K)
    (pre post : List (SessionCached.Op K)) (src : K.Src) (w : K.Rej)
    (h : (crunFrom K (Policy.ofTable t) c (pre ++ .load src :: post)).2[pre.length]? = some (.rejected w)) :
    (crunFrom K (Policy.ofTable t) c (pre ++ .load src :: post)).1 = (crunFrom K (Policy.ofTable t) c (pre ++ post)).1 ∧
    (crunFrom K (Policy.ofTable t) c (pre ++ .load src :: post)).2.eraseIdx pre.length =
      (crunFrom K (Policy.ofTable t) c (pre ++ post)).2 := by
  rw [sound_eq (ResetDiscipline.sound ht)] at h ⊢
  exact crun_failed_load_no_trace K c pre post src w h

/-- The hypothesis is met: a text refused at its second statement, at position 1 of a history on the toy kit. -/
example : (crunFrom toy (Policy.ofTable Goyang.Gen.State.table) { reg := [], opts := () }
    ([SessionCached.Op.load [1]] ++ .load [2, 1] :: [.process])).2[1]? = some (.rejected 1) := by decide +kernel

/-- Processing twice: the cached machine answers the second run exactly as the first (C18.process_idempotent
for the stateful value: the second run finds the entry cache, links, identity tables and memo the
first one left). -/
theorem cached_process_idempotent (plug : Registry → Plug) (opts : Opts) (h : List Goyang.Model.Op) :
    ∃ o, (cachedRun plug opts (h ++ [.process, .process])).2[h.length]? = some (.processed o) ∧
         (cachedRun plug opts (h ++ [.process, .process])).2[h.length + 1]? = some (.processed o) := by
  have e1 := cached_process_outcome plug opts h [.process]
  have e2 := cached_process_outcome plug opts (h ++ [.process]) []
  have r1 := (Goyang.Props.C18.load_order_of_accepted_only plug opts h).1
  have r2 := (Goyang.Props.C18.load_order_of_accepted_only plug opts (h ++ [.process])).1
  have hr : (Session.after plug opts (h ++ [.process])).reg = (Session.after plug opts h).reg := by
    simp only [Session.after, Goyang.Lemmas.Session.runFrom_append, Goyang.Lemmas.Session.runFrom_cons,
      Goyang.Lemmas.Session.runFrom_nil, Goyang.Lemmas.Session.step_process]
  rw [r1, r2] at hr
  rw [List.append_assoc, List.singleton_append, List.length_append, List.length_singleton, hr] at e2
  exact ⟨_, e1, e2⟩

/-- Reads interleaved anywhere in a history change no answer of the cached machine to a `load` or a
`process` - although here they DO write hidden state (the entry cache, and memo entries stamped with
the current generation: the shape of D45).  (C18.read_no_trace for the stateful value.) -/
theorem cached_read_no_trace (plug : Registry → Plug) (opts : Opts) (h : List Goyang.Model.Op) :
    (cachedRun plug opts h).2.filter (fun o => !o.isReadOut) =
      (cachedRun plug opts (h.filter fun op => !op.isRead)).2 := by
  have a := agreeAll_filter (cached_refines_session plug opts h).1
  have b := agreeAll_filter (cached_refines_session plug opts (h.filter fun op => !op.isRead)).1
  have c : (cachedRun plug opts (h.filter fun op => !op.isRead)).2.filter (fun o => !o.isReadOut) =
      (cachedRun plug opts (h.filter fun op => !op.isRead)).2 := by
    refine crun_no_reads _ _ _ ?_ _
    intro op hop
    obtain ⟨op0, h0, rfl⟩ := List.mem_map.mp hop
    rw [embOp_isRead]
    have := (List.mem_filter.mp h0).2
    cases hr : op0.isRead with
    | false => rfl
    | true => rw [hr] at this; cases this
  have d := (Goyang.Props.C18.read_no_trace plug opts h).1
  rw [filter_map_embOut] at a b
  rw [← d, List.filter_filter] at b
  simp only [Bool.and_self] at b
  rw [a, ← c, b]

/-! ### every reset is needed: one flag off, and the machine does not refine

All on the toy kit (Lemmas/SessionCachedToy.lean), by kernel evaluation. -/

section Refutations

/-- module 1, a run, module 2, a run -/
private def hTwoRuns : List (SessionCached.Op toy) := [.load [1], .process, .load [2], .process]
/-- module 1, a read (ToEntry before any run: fills the entry cache and the memo), a run -/
private def hEarlyRead : List (SessionCached.Op toy) := [.load [1], .read 1 0, .process]
/-- module 1, a text with module 2 and then module 1 again (refused at its second statement), a run -/
private def hRefused : List (SessionCached.Op toy) := [.load [1], .load [2, 1], .process]
/-- everything: reads before, between and after runs, a refused text, `clear` -/
private def hMixed : List (SessionCached.Op toy) :=
  [.read 1 0, .load [1], .read 1 0, .process, .read 1 5, .load [2, 1], .read 2 0, .load [2], .read 1 1, .read 2 1,
   .process, .process, .read 2 7, .clear, .read 2 7, .process, .read 3 0]

/-- The entry cache not emptied at the top of `Process`: the second run answers with the trees of
the first. -/
theorem forgot_clear_entry_cache_fails :
    ¬ AgreeAll (pureAns hTwoRuns) (cachedAns { clearEntry := false } hTwoRuns) := by decide +kernel

/-- The memo used without the generation test (the tree before the repair of D30 / D44): the second
run takes the type of module 1 as resolved against the registry of the first. -/
theorem forgot_generation_guard_fails :
    ¬ AgreeAll (pureAns hTwoRuns) (cachedAns { genGuard := false } hTwoRuns) := by decide +kernel

/-- The counter not incremented by `Process` (D45): what a ToEntry BEFORE the run resolved - with no
links, no identities - carries the current stamp and is a hit in the run. -/
theorem forgot_generation_bump_fails :
    ¬ AgreeAll (pureAns hEarlyRead) (cachedAns { bumpGen := false } hEarlyRead) := by decide +kernel

/-- Links and the visited set kept across runs (D46): the second run resolves against the links of
the first. -/
theorem forgot_relink_fails :
    ¬ AgreeAll (pureAns hTwoRuns) (cachedAns { relink := false } hTwoRuns) := by decide +kernel

/-- The identity tables kept across runs (D55). -/
theorem forgot_identity_reset_fails :
    ¬ AgreeAll (pureAns hTwoRuns) (cachedAns { resetIdents := false } hTwoRuns) := by decide +kernel

/-- The name tables not put back when a text is refused at a later statement (D32): module 2 of the
refused text stays and the next run sees it. -/
theorem forgot_restore_fails :
    ¬ AgreeAll (pureAns hRefused) (cachedAns { restoreOnReject := false } hRefused) := by decide +kernel

/-- The same histories with every flag on agree (as `cached_refines_pure` says they must), and they
are not trivial: the two runs of `hTwoRuns` answer differently, the refused text is refused, reads
are answered. -/
example : AgreeAll (pureAns hTwoRuns) (cachedAns {} hTwoRuns) := by decide +kernel
example : AgreeAll (pureAns hEarlyRead) (cachedAns {} hEarlyRead) := by decide +kernel
example : AgreeAll (pureAns hRefused) (cachedAns {} hRefused) := by decide +kernel
example : AgreeAll (pureAns hMixed) (cachedAns {} hMixed) := by decide +kernel
example : pureAns hTwoRuns = [.accepted, .processed (14, 1), .accepted, .processed (58, 2)] := by decide +kernel
example : cachedAns { clearEntry := false } hTwoRuns = [.accepted, .processed (14, 1), .accepted, .processed (14, 1)] := by
  decide +kernel
example : pureAns hRefused = [.accepted, .rejected 1, .processed (14, 1)] := by decide +kernel
example : pureAns hMixed =
    [.noModule, .accepted, .unprocessed, .processed (14, 1), .found 20, .rejected 1, .noModule, .accepted, .unprocessed,
     .unprocessed, .processed (58, 2), .processed (58, 2), .found 67, .cleared, .unprocessed, .processed (58, 2), .noModule] := by
  decide +kernel

/-- The hypotheses of `cached_refines_pure` are satisfiable: the toy kit has the laws (and so has
the real kit: `laws_real`), the current table has the discipline. -/
example : Laws toy := toy_laws
example (plug : Registry → Plug) : Laws (realKit plug) := laws_real plug

end Refutations

/-! ### from the table to the policy: the broken tables C18State rejects give the refuted machines -/

section Tables

/-- the entry cache pruned instead of flushed at the start of Process (reset class `partly`) -/
private def prunedEntryCache : Field :=
  { owner := "Modules", name := "entryCache", type := "map[Node]*Entry", exported := false, allow := .derived,
    reset := .partly, reads := 1, writers := ["Modules.ClearEntryCache", "Modules.setEntryCache"], pinned := ["Modules.setEntryCache"] }

/-- a memo that is no longer generation-guarded (seeded change C09-b2) -/
private def lostStamp : Field :=
  { owner := "Typedef", name := "YangType", type := "*YangType", exported := true, allow := .derived,
    reset := .absent, reads := 3, writers := ["Typedef.resolve"], pinned := [] }

/-- the entry cache dropped on the load path (seeded change C18-i22): a stray writer -/
private def strayEntryCache : Field :=
  { owner := "Modules", name := "entryCache", type := "map[Node]*Entry", exported := false, allow := .derived,
    reset := .full, reads := 1, writers := ["Modules.ClearEntryCache", "Modules.setEntryCache"],
    pinned := ["Modules.setEntryCache"], stray := ["Modules.add -> Modules.ClearEntryCache"] }

/-- the counter no longer incremented -/
private def stuckCounter : Field :=
  { owner := "typeDictionary", name := "gen", type := "int", exported := false, allow := .derived, reset := .absent, reads := 4,
    writers := [], pinned := [] }

/-- a new cache that the allow-list calls derived and that IS flushed, but that the machine has no
component for -/
private def unmodelledCache : Field :=
  { owner := "Modules", name := "groupingCache", type := "map[groupingKey]*Grouping", exported := false, allow := .derived,
    reset := .full, reads := 2, writers := ["Modules.findGrouping", "Modules.Process"], pinned := ["Modules.findGrouping"] }

/-- A table in which one field lost its reset does not have the discipline, and the policy read off
it is exactly the machine refuted above. -/
theorem broken_table_gives_broken_policy :
    Policy.ofTable (prunedEntryCache :: Goyang.Gen.State.table) = { clearEntry := false } ∧
    Policy.ofTable (lostStamp :: Goyang.Gen.State.table) = { genGuard := false } ∧
    Policy.ofTable (stuckCounter :: Goyang.Gen.State.table) = { bumpGen := false } ∧
    ResetDiscipline (prunedEntryCache :: Goyang.Gen.State.table) = false ∧
    ResetDiscipline (lostStamp :: Goyang.Gen.State.table) = false ∧
    ResetDiscipline (stuckCounter :: Goyang.Gen.State.table) = false ∧
    ResetDiscipline (strayEntryCache :: Goyang.Gen.State.table) = false ∧
    ResetDiscipline (unmodelledCache :: Goyang.Gen.State.table) = false ∧
    ResetDiscipline [] = false := by decide +kernel

end Tables

end Goyang.Props.C18Cached
