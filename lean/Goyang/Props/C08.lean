import Goyang.Model.Process
import Goyang.Spec.Deviate
import Goyang.Lemmas.Deviate
import Goyang.Lemmas.DevExtMain
import Goyang.Lemmas.DevExtAugMain
import Goyang.Lemmas.DevExtUses
import Goyang.Lemmas.DevExtLink
import Goyang.Lemmas.DevExtFuel
import Goyang.Lemmas.DevExtLoad
/-
C08 — deviations change exactly what they name, in written order, or are reported.
Property theorems only; helper lemmas live in Goyang/Lemmas/Deviate.lean and, for the frame across
module sets, in Goyang/Lemmas/DevExt{Base,Stage,Conv,Main}.lean (base without `uses` / augments),
DevExt{Aug,AugLoop,AugMain}.lean (augments in the base) and DevExt{Uses,Link,Fg,Fuel,Load}.lean (`uses` in the base:
two registries at one fuel, the linking stage, the grouping search at two fuels, `toEntry` at two fuels;
`DevExtCore` from `Registry.add`).

Reading aid.
* `Spec.Deviate` is the transcription of RFC 7950 §7.20.3.2: `violations p s` lists every condition
  the deviate statement `s` breaks on a node with properties `p`, `effect` is what the statement
  does to the properties, `deviate` = first broken condition or the effect, `deviateSeq` = several
  statements in written order.  `DevErr.claimed` marks the broken conditions the property says must
  be reported.
* `propsOf : Entry → NodeProps` reads the §7.20.3 properties off a schema tree node, `stmtOf kind e`
  reads the statement off a deviate entry (`toEntry` of a `deviate` statement), `untouched` is
  everything else about a node: its children and all other data fields.
* `applyOneDeviate` is Go's `ApplyDeviate` for one deviate statement on the target node: new node,
  "remove it from its parent", errors.  `nodeFold` is the loop over the deviate statements of one
  deviation, `applyDeviations` all deviations of a module, `deviationStage` the loop over the modules
  in `processAll` (`processAll_clean` ties it to `processAll`).
* Locations: `(tree, path)`; `obs f t q` = the node data at a location of forest `f` (`none` if it
  does not exist), `obsE` = the same with the recorded-errors list blanked.

Where the Go code is more lenient or stricter than the transcription (all replayed on the real
code, see `harness/cmd/corr-c08`, combinations `add/config/leaf/different`, `replace/default/leaf/absent`,
`delete/config/leaf/different`, `delete/default/leaf-list/same`):
  L1  `add` of a single-instance property other than default that the target already has: overwritten;
  L2  `replace` of a property the target does not have: set;
  L3  `delete` of config / mandatory that is absent or has another value: unset;
  L5  add / replace / delete after a not-supported in the same deviation: applied to the unlinked node, silently;
  S1  `delete` of a leaf-list default that is there: refused as unsupported (the library's own test
      "error case - deviation delete on a leaf-list" pins this).
None of L1–L3, L5 is in the property's list of conditions that must be reported; S1 is reported.
`deviate_code_exact` states exactly what the code does, `deviate_matches_rfc_fails` refutes the full
RFC statement on these witnesses, `deviate_matches_rfc_partial` proves it everywhere else.

The four witness shapes against the property text (re-run on the Go code at /repo 0c84daa with a
stand-alone program: base module with `leaf l1 {config false}`, `leaf l2`, `leaf-list ll {default a; default b}`
and one deviating module; outcomes as the `witness_*` theorems say):
  L1  `deviate add {config true}` on l1: no error, config = true.      RFC: invalid deviation (the property exists).
  L2  `deviate replace {default x}` on l2: no error, default = [x].    RFC: invalid deviation (nothing to replace).
  L3  `deviate delete {config true}` on l1: no error, config unset.    RFC: invalid deviation (value differs).
  S1  `deviate delete {default a}` on ll: one error, ll unchanged.     RFC: valid, default becomes [b].
L1–L3 are OUTSIDE the claim of C08: the property enumerates the deviations that "cannot be applied" and
must be reported (missing target, adding a default where one exists, deleting a default or element
bound that is absent or different, element bounds on a non-list, unresolvable replacement type,
unknown kind); an `add` of an existing config / mandatory / units / type, a `replace` of an absent
property and a `delete` of a config / mandatory that is absent or different are not in that list.  The
code applies them, and what it then leaves at the target is the named property with the statement's
value (add / replace) or unset (delete) — the RFC effect function, `deviate_code_exact` (3) — and
nothing else.  S1 is INSIDE the disjunction of the claim ("… or are reported"): the deviation is
never applied silently or partly, it is refused with an error (`witness_delete_leaflist_default`, and
`deviate_reported_conditions` for the general case); the library documents the refusal in the source
(TODO in `ApplyDeviate`) and pins it in its own test ("error case - deviation delete on a leaf-list"),
so a change would break the unedited test suite.  None of the four is therefore a defect of the code
with respect to the property text; `deviate_matches_rfc_partial` names exactly these shapes as
excluded from the stronger "equals RFC 7950 everywhere" statement.

Status of the statements of DESIGN 7.8.
* `deviate_matches_rfc`: `deviate_code_exact` (all inputs), `deviate_matches_rfc_partial` (all inputs outside
  L1–L3, S1), refuted in full (`deviate_matches_rfc_fails`, `_fails_strict`).
* `deviate_written_order`: proved (`deviate_source_order`, `deviate_written_order`, `deviate_written_order_spec`).
* `deviate_frame`: inside one run `deviate_frame_partial` / `deviate_frame_module` (all inputs); across the
  runs with and without the deviating modules:
  - `frame_across_modules`: deviation-only modules loaded last and sorting last (`DevExt`); base without
    submodules, `uses`, top-level `augment`;
  - `frame_across_modules_augments`: the same WITHOUT the restriction on augments (any top-level augments
    in the base: applied, chained, left over) — restriction (b) is lifted in full
    (`preDevAgree_of_devExt`: the hypothesis of `frame_across_modules_of_preDev` always holds);
  - `frame_across_modules_of_conv`: base with any `uses` and augments (`DevExtCore` = `DevExt` without
    the `uses` restriction), from the hypothesis that the conversions of the base statements agree in
    the two runs (`ConvAgree`);
  - `frame_across_modules_uses`: `ConvAgree` reduced, for a base with `uses`, to (i) `DeepImports` and
    `LinkAgree` (finite conditions on the two registries) and (ii) `FuelStable`: the conversion in the
    base registry ALONE is the same at the larger fuel of the run with the new modules, at EVERY call
    (any list of statements of the module as scope).  Kept as it was; `FuelStable` / `ConvAgree` ask
    more than the frame needs and more than is true for a base in which a `uses` resolves (a scope list
    longer than the fuel of the grouping search lets the search succeed at the larger fuel only), so
    this theorem says little there — superseded by `frame_across_modules_with_uses`;
  - `linkAgree_of_devExtCore`: `LinkAgree` IS a consequence of `DevExtCore` (the new modules are walked
    last by `linkAll` and mark new modules only; `Lemmas/DevExtLink.lean`), and
    `frame_across_modules_uses_linked` = `frame_across_modules_uses` with that hypothesis discharged;
  - `fuelStableTop_all`: for EVERY registry the conversions `processAll` starts itself (module and
    submodule statements, deviate statements: `TopCall`) are the same at every fuel from `entryFuel` on —
    the grouping search is never cut short at the fuels that occur (`Lemmas/DevExtFg.lean`: fuel
    independence of `findGrouping` from a bound without the length of the name; `DevExtFuel.lean`: that
    bound against the slack of `entryFuel`, induction along the reached calls);
  - `frame_across_modules_of_convTop`: the frame from agreement of the top-level conversions
    (`ConvAgreeTop`; all the lemma files now ask for no more);
  - `frame_across_modules_with_uses` (+ `_flat`): **base with any `uses` and any augments, nothing about
    fuel or linking assumed**: `DevExtCore`, `PlugAgree` and `ModImports` (imports of nested statements
    with the keyword `module` / `submodule` resolve alike; vacuous — `FlatModKw` — for every tree the AST
    builder accepts).  Restriction (a) "no `uses` in the base" is lifted in full.
  - `frame_across_modules_loaded`: the same with the structural half of `DevExtCore` computed from
    `Registry.add` of one more module onto a loaded base (`Lemmas/DevExtLoad.lean`).
  Still restrictions of the proofs, not of the claim: the new modules sort after the base modules
  (table keys and full names), no submodules.  Where the hypotheses do not hold the runner's
  with/without comparison checks the statement case by case.
* `deviate_reported`: statement level `claimed_violation_reported`, `deviate_reported_conditions`; chain to
  `processAll` `deviate_reported`; the two conversion-time conditions (unknown kind, unresolvable type):
  here `deviate_reported_conversion_partial`, `deviate_reported_unknown_kind_partial` (entry level), completed
  in Props/C08Bridge.lean (`conversionErrorsReported`, `_loaded`, `_loadTexts`: `processAll` returns errors, for
  every registry loading can produce; false for registries loading cannot produce,
  `conversionErrorsReported_needs_loadedShape`).  Nothing of `deviate_reported` is left open.
* `ignore_not_supported_option`: proved.
-/
namespace Goyang.Props.C08
open Goyang.Model
open Goyang.Spec.Deviate
open Goyang.Lemmas.Deviate

/-! ### deviate_matches_rfc -/

/-- The full statement for one deviate statement on one target (with a parent): the data outside
§7.20.3 and the children are untouched, an error is reported iff `Spec.deviate` errs, and otherwise
the node's properties afterwards (or its removal) are what `Spec.deviate` says. -/
def MatchesRfc (opts : Opts) (ms : Stmt) (kind : String) (spec node : Entry) : Prop :=
  let r := applyOneDeviate opts ms kind spec true node
  untouched r.1 = untouched node ∧
  match deviate opts.ignoreNotSupported (propsOf node) (stmtOf kind spec) with
  | .error _ => r.2.2 ≠ []
  | .ok res => r.2.2 = [] ∧ res = (if r.2.1 then none else some (propsOf r.1))

/-- **What the code does, exactly**, for every option, kind, deviate entry and target node:
(1) children and all data outside the §7.20.3 properties are untouched, reported or not;
(2) no error is reported iff none of the broken RFC conditions is one the code checks (the
    conditions the property lists, see `reportedByCode`) and the statement is not a deletion of a
    leaf-list default;
(3) when no error is reported the node's properties afterwards are exactly the RFC effect of the
    statement — for not-supported: removal, or the unchanged node under the ignore option. -/
theorem deviate_code_exact (opts : Opts) (ms : Stmt) (kind : String) (spec node : Entry) :
    let r := applyOneDeviate opts ms kind spec true node
    untouched r.1 = untouched node ∧
    (r.2.2 = [] ↔ ((∀ e ∈ violations (propsOf node) (stmtOf kind spec), reportedByCode e = false) ∧
                    leafListDeleteUnsupported (propsOf node) (stmtOf kind spec) = false)) ∧
    (r.2.2 = [] → effect opts.ignoreNotSupported (propsOf node) (stmtOf kind spec) =
                    if r.2.1 then none else some (propsOf r.1)) := by
  intro r
  refine ⟨applyOneDeviate_untouched opts ms kind spec true node, ?_, ?_⟩
  · show (applyOneDeviate opts ms kind spec true node).2.2 = [] ↔ _
    rw [applyOneDeviate_eq_staged, staged_errs opts ms kind spec true node (fun _ => rfl), unrep_iff]
  · intro h
    show effect _ _ _ = if (applyOneDeviate opts ms kind spec true node).2.1 then none
      else some (propsOf (applyOneDeviate opts ms kind spec true node).1)
    have h' : (applyOneDeviate opts ms kind spec true node).2.2 = [] := h
    rw [applyOneDeviate_eq_staged] at h' ⊢
    exact staged_effect opts ms kind spec true node h'

/-- The conditions the code checks are the ones the property lists, plus "more than one default for a
node that takes one" (which no parsed deviate statement can carry). -/
theorem claimed_are_checked (e : DevErr) : e.claimed = true → reportedByCode e = true := by
  intro h; simp [reportedByCode, h]

/-- **Every claimed error condition of a single statement is reported**: adding a default where one
exists, deleting a default or element bound that is absent or different, element bounds on a
non-list, unknown kind. -/
theorem claimed_violation_reported (opts : Opts) (ms : Stmt) (kind : String) (spec node : Entry) (hp : Bool)
    (e : DevErr) (he : e ∈ violations (propsOf node) (stmtOf kind spec)) (hc : e.claimed = true) :
    (applyOneDeviate opts ms kind spec hp node).2.2 ≠ [] := by
  rw [applyOneDeviate_eq_staged]
  intro hnil
  by_cases hk : kindOf kind = .notSupported
  · have : violations (propsOf node) (stmtOf kind spec) = [] := by simp [violations, kind_stmtOf, hk]
    rw [this] at he; cases he
  · have := (staged_errs opts ms kind spec hp node (fun h => absurd h hk)).mp hnil
    have hu := (unrep_iff _).mp this.1 e he
    rw [claimed_are_checked e hc] at hu
    cases hu

/-- The full RFC statement holds wherever every broken condition is one the code checks and the
statement is not a deletion of a leaf-list default — i.e. outside L1–L3 and S1. -/
theorem deviate_matches_rfc_partial (opts : Opts) (ms : Stmt) (kind : String) (spec node : Entry)
    (hchecked : ∀ e ∈ violations (propsOf node) (stmtOf kind spec), reportedByCode e = true)
    (hsupp : leafListDeleteUnsupported (propsOf node) (stmtOf kind spec) = false) :
    MatchesRfc opts ms kind spec node := by
  obtain ⟨h1, h2, h3⟩ := deviate_code_exact opts ms kind spec node
  refine ⟨h1, ?_⟩
  unfold deviate
  cases hv : violations (propsOf node) (stmtOf kind spec) with
  | nil =>
    simp only
    have hnil : (applyOneDeviate opts ms kind spec true node).2.2 = [] := h2.mpr ⟨by simp [hv], hsupp⟩
    exact ⟨hnil, h3 hnil⟩
  | cons e es =>
    simp only
    intro hnil
    have := (h2.mp hnil).1 e (by simp [hv])
    rw [hchecked e (by simp [hv])] at this
    cases this

/-! #### the witnesses -/

def wModStmt : Stmt := .mk "module" true "d" "d.yang" 1 1 []
/-- `leaf l { type string; config false; }` -/
def wLeafCfgFalse : Entry := .mk { name := "l", kind := .leaf, hasDir := false, config := .false_ } [] [] []
/-- `leaf l { type string; }` -/
def wLeafPlain : Entry := .mk { name := "l", kind := .leaf, hasDir := false } [] [] []
/-- `leaf-list l { type string; default a; default b; }` -/
def wLeafListAB : Entry :=
  .mk { name := "l", kind := .leaf, hasDir := false, listAttr := some {}, default := ["a", "b"] } [] [] []
/-- `deviate … { config true; }` -/
def wDevCfgTrue : Entry := .mk { kind := .deviate, config := .true_ } [] [] []
/-- `deviate … { default x; }` / `{ default a; }` -/
def wDevDefault (v : String) : Entry := .mk { kind := .deviate, default := [v] } [] [] []

/-- L1: `deviate add { config true; }` on a leaf with `config false` is accepted and overwrites. -/
theorem witness_add_existing_config :
    (applyOneDeviate {} wModStmt "add" wDevCfgTrue true wLeafCfgFalse).2.2 = [] ∧
    (applyOneDeviate {} wModStmt "add" wDevCfgTrue true wLeafCfgFalse).1.d.config = .true_ ∧
    violations (propsOf wLeafCfgFalse) (stmtOf "add" wDevCfgTrue) = [.addExists .config] := by decide

/-- L2: `deviate replace { default x; }` on a leaf without default is accepted and sets it. -/
theorem witness_replace_absent_default :
    (applyOneDeviate {} wModStmt "replace" (wDevDefault "x") true wLeafPlain).2.2 = [] ∧
    (applyOneDeviate {} wModStmt "replace" (wDevDefault "x") true wLeafPlain).1.d.default = ["x"] ∧
    violations (propsOf wLeafPlain) (stmtOf "replace" (wDevDefault "x")) = [.replaceAbsent .default] := by decide

/-- L3: `deviate delete { config true; }` on a leaf with `config false` is accepted and unsets it. -/
theorem witness_delete_other_config :
    (applyOneDeviate {} wModStmt "delete" wDevCfgTrue true wLeafCfgFalse).2.2 = [] ∧
    (applyOneDeviate {} wModStmt "delete" wDevCfgTrue true wLeafCfgFalse).1.d.config = .unset ∧
    violations (propsOf wLeafCfgFalse) (stmtOf "delete" wDevCfgTrue) = [.deleteMismatch .config] := by decide

/-- S1: `deviate delete { default a; }` on a leaf-list with defaults a, b breaks no RFC condition and is
refused. -/
theorem witness_delete_leaflist_default :
    (applyOneDeviate {} wModStmt "delete" (wDevDefault "a") true wLeafListAB).2.2 ≠ [] ∧
    violations (propsOf wLeafListAB) (stmtOf "delete" (wDevDefault "a")) = [] ∧
    effect false (propsOf wLeafListAB) (stmtOf "delete" (wDevDefault "a")) =
      some { propsOf wLeafListAB with default := ["b"] } := by decide

/-- The full RFC statement is false of the code: more lenient (L1) and stricter (S1) than §7.20.3.2. -/
theorem deviate_matches_rfc_fails : ¬ ∀ (opts : Opts) (ms : Stmt) (kind : String) (spec node : Entry),
    MatchesRfc opts ms kind spec node := by
  intro h
  have h1 := (h {} wModStmt "add" wDevCfgTrue wLeafCfgFalse).2
  unfold deviate at h1
  rw [witness_add_existing_config.2.2] at h1
  exact h1 witness_add_existing_config.1

/-- … and in the other direction: S1 alone refutes it too. -/
theorem deviate_matches_rfc_fails_strict :
    ¬ MatchesRfc {} wModStmt "delete" (wDevDefault "a") wLeafListAB := by
  intro h
  have h1 := h.2
  unfold deviate at h1
  rw [witness_delete_leaflist_default.2.1] at h1
  exact witness_delete_leaflist_default.1 h1.1

/-- Non-vacuity of `deviate_matches_rfc_partial`: `deviate add { default x; }` on a leaf without a
default satisfies its hypotheses, and is applied. -/
example : (∀ e ∈ violations (propsOf wLeafPlain) (stmtOf "add" (wDevDefault "x")), reportedByCode e = true) ∧
    leafListDeleteUnsupported (propsOf wLeafPlain) (stmtOf "add" (wDevDefault "x")) = false ∧
    (applyOneDeviate {} wModStmt "add" (wDevDefault "x") true wLeafPlain).1.d.default = ["x"] := by decide
/-- … and an instance where the hypotheses hold because the broken condition is a checked one. -/
example : violations (propsOf wLeafListAB) (stmtOf "add" (.mk { kind := .deviate, hasMin := true, listAttr := some { min := 1 } } [] [] [])) = [] ∧
    violations (propsOf wLeafPlain) (stmtOf "add" (.mk { kind := .deviate, hasMin := true, listAttr := some { min := 1 } } [] [] [])) =
      [.boundOnNonList .min] := by decide

/-! ### deviate_written_order -/

/-- The deviation statements and, per deviation, the deviate statements reach `applyDeviations` in
the order they are written in the module: the lists are filters of the substatement lists. -/
theorem deviate_source_order (env : Env) (fuel : Nat) (m : Mod) :
    (devsOf env fuel m).map (·.1) = m.stmt.subs.filter (·.kw == "deviation") ∧
    ∀ x ∈ devsOf env fuel m,
      x.2.map (·.1) = ((x.1.subs.filter (·.kw == "deviate")).map (·.arg)).filter (deviateKinds.contains ·) := by
  constructor
  · simp [devsOf, Stmt.all, Function.comp_def]
  · intro x hx
    simp only [devsOf, List.mem_map] at hx
    obtain ⟨dv, _, rfl⟩ := hx
    simp only [Stmt.all]
    induction dv.subs.filter (·.kw == "deviate") with
    | nil => rfl
    | cons s ss ih =>
      by_cases hc : deviateKinds.contains s.arg = true
      · simp only [List.filterMap_cons, List.map_cons, List.filter_cons, hc, if_true, ih]
      · simp only [List.filterMap_cons, List.map_cons, List.filter_cons, hc, if_false, Bool.false_eq_true, ih]

/-- **Several deviate statements on one target take effect in list order.**  The forest holds `node0`
at the target `(t, path)` when the deviation starts.  After the inner loop of `applyDeviations`:
the node / unlinked flag / errors are the left fold `nodeFold` of `applyOneDeviate` over the statements;
while no not-supported has been applied the target location holds exactly that node; afterwards
neither the target nor anything below it exists.  A longer statement list continues the shorter one. -/
theorem deviate_written_order (opts : Opts) (m : Mod) (t : Nat) (path : Path) (ds : List (String × Entry))
    (f : Forest) (node0 : Entry) (errs : List Err) (h0 : (f.tree? t).bind (·.getAt path) = some node0) :
    let r := ds.foldl (innerStep opts m t path) (f, node0, false, errs)
    let n := nodeFold opts m.stmt (!path.isEmpty) (node0, false, errs) ds
    r.2 = n ∧
    (n.2.1 = false → (r.1.tree? t).bind (·.getAt path) = some n.1) ∧
    (n.2.1 = true → ∀ q, (r.1.tree? t).bind (·.getAt (path ++ q)) = none) ∧
    (∀ a b, ds = a ++ b →
      n = nodeFold opts m.stmt (!path.isEmpty) (nodeFold opts m.stmt (!path.isEmpty) (node0, false, errs) a) b) := by
  intro r n
  obtain ⟨h1, h2, h3⟩ := innerFold_spec opts m t path ds f node0 errs h0
  exact ⟨h1, h2, h3, fun a b hab => by subst hab; exact nodeFold_append _ _ _ _ a b⟩

/-- **… and the fold is the specification's fold.**  When the statements of a deviation (target with a
parent) go through without an error, the target's properties afterwards are what `Spec.deviateSeq`
computes from the statements in written order — `none` exactly when the node was unlinked — and the
specification saw no broken condition that the code checks and no leaf-list default deletion. -/
theorem deviate_written_order_spec (opts : Opts) (ms : Stmt) (ds : List (String × Entry)) (node0 : Entry)
    (h : (nodeFold opts ms true (node0, false, []) ds).2.2 = []) :
    let n := nodeFold opts ms true (node0, false, []) ds
    let s := deviateSeq opts.ignoreNotSupported (propsOf node0) (ds.map fun d => stmtOf d.1 d.2)
    s.node = (if n.2.1 then none else some (propsOf n.1)) ∧
    (∀ e ∈ s.errs, reportedByCode e = false) ∧ s.unsupported = false := by
  intro n s
  have hr : SeqRel (node0, false, []) { node := some (propsOf node0) } := ⟨rfl, rfl, rfl, rfl⟩
  obtain ⟨_, h2, h3, h4⟩ := nodeFold_seq opts ms ds _ _ hr h
  exact ⟨h2, (unrep_iff _).mp h3, h4⟩

/-- Non-vacuity and order sensitivity: on a leaf with default "x", `delete {default x}` then
`add {default y}` goes through and leaves "y"; in the other order the add is refused. -/
example :
    let leafX : Entry := .mk { name := "l", kind := .leaf, hasDir := false, default := ["x"] } [] [] []
    (nodeFold {} wModStmt true (leafX, false, []) [("delete", wDevDefault "x"), ("add", wDevDefault "y")]).2.2 = [] ∧
    (nodeFold {} wModStmt true (leafX, false, []) [("delete", wDevDefault "x"), ("add", wDevDefault "y")]).1.d.default = ["y"] ∧
    (nodeFold {} wModStmt true (leafX, false, []) [("add", wDevDefault "y"), ("delete", wDevDefault "x")]).2.2 ≠ [] := by
  decide

/-! ### deviate_frame -/

/-- Frame of `updateAt`: a location that is neither the updated one nor below it holds the same data
afterwards (`NameStable`: the update does not rename the node it is applied to — `applyOneDeviate`
never does, `applyOneDeviate_name`). -/
theorem updateAt_frame (f : Entry → Entry) (p q : Path) (hs : NameStable p f) (root : Entry) (h : ¬ p <+: q) :
    ((root.updateAt p f).getAt q).map (·.d) = (root.getAt q).map (·.d) :=
  getAt_updateAt_frame f p q hs root h

/-- … the updated location holds the updated node, and below it nothing changes when the update
keeps the children (`applyOneDeviate` does: `deviate_code_exact` (1)). -/
theorem updateAt_target (f : Entry → Entry) (p : Path) (hs : NameStable p f) (root : Entry) :
    (root.updateAt p f).getAt p = (root.getAt p).map f ∧
    ((∀ x, (f x).dir = x.dir ∧ (f x).inp = x.inp ∧ (f x).out = x.out) →
      ∀ s r, (root.updateAt p f).getAt (p ++ s :: r) = root.getAt (p ++ s :: r)) :=
  ⟨getAt_updateAt_self f p hs root, fun hk s r => getAt_updateAt_below f p hs root hk s r⟩

/-- Frame of `removeAt` (not-supported): the removed location and everything below it is gone; every
other location holds the same data as before. -/
theorem removeAt_frame (root : Entry) (p : Path) (hp : p ≠ []) :
    (∀ r, (removeAt root p).getAt (p ++ r) = none) ∧
    (∀ q, ¬ p <+: q → ((removeAt root p).getAt q).map (·.d) = (root.getAt q).map (·.d)) :=
  ⟨getAt_removeAt_gone root p hp, fun q h => getAt_removeAt_frame root p q h⟩

/-- **Frame of the deviation stage of `processAll`**, for a run that reports no error.  The forest
returned is what the deviation stage made of the forest `f0` of the earlier stages, and every location
that exists in `f0` and is neither a target of some deviation nor below one (`stageTargets`: the
locations the deviation paths resolve to, each at its turn) shows the same data in the result
(recorded-errors list aside: a path lookup that fails on its prefix records an error on the root
of the deviating module's own tree). -/
theorem deviate_frame_partial (reg : Registry) (opts : Opts) (plug : Plug) (h : (processAll reg opts plug).errors = []) :
    ∃ (env : Env) (f0 : Forest), env.reg = reg ∧ env.opts = opts ∧ env.tres = plug.tres ∧
      (processAll reg opts plug).forest = (deviationStage reg opts env (entryFuel reg) f0).1 ∧
      ∀ (t : Nat) (q : Path) (dd : EData), obsE f0 t q = some dd →
        (∀ loc ∈ stageTargets reg opts env (entryFuel reg) (devOrderOf reg) (f0, [], []), ¬ (loc.1 = t ∧ loc.2 <+: q)) →
        obsE (processAll reg opts plug).forest t q = some dd := by
  obtain ⟨env, f0, h1, h2, h3, _, hf⟩ := processAll_clean reg opts plug h
  refine ⟨env, f0, h1, h2, h3, hf, ?_⟩
  intro t q dd hobs hq
  rw [hf]
  exact stage_frame reg opts env (entryFuel reg) t q dd (devOrderOf reg) (f0, [], []) hobs hq

/-- The frame of one module's deviations, for any forest and whether or not errors are reported. -/
theorem deviate_frame_module (reg : Registry) (opts : Opts) (m : Mod) (devs : List (Stmt × List (String × Entry)))
    (f : Forest) (t : Nat) (q : Path) (dd : EData) (hobs : obsE f t q = some dd)
    (hq : ∀ loc ∈ targetsFrom reg opts m devs (f, []), ¬ (loc.1 = t ∧ loc.2 <+: q)) :
    obsE (applyDeviations reg opts m devs f).1 t q = some dd := by
  rw [applyDeviations_eq]
  exact applyDeviations_frame' reg opts m t q dd devs (f, []) hobs hq

/-- The full frame statement of the property, across module sets: the run with the deviating modules
equals the run without them except at targets.  `regWithout` is the registry without the deviating
modules; the claim is about every location of the run without them.  PROVED below as
`frame_across_modules` for registries `regWith` that extend `regWithout` by deviation-only modules
(`DevExt`), with `targets` = the locations the deviations of the new modules resolve to
(`newTargets`); what the hypotheses leave out is listed there; `frame_across_modules_augments` lifts
the restriction on augments, `frame_across_modules_of_conv` / `_uses` treat `uses` in the base.  The correspondence runner processes
every case with and without the deviating modules on the model and on the Go code. -/
def FrameAcrossModules (regWith regWithout : Registry) (opts : Opts) (plug : Plug)
    (targets : List Loc) : Prop :=
  (processAll regWith opts plug).errors = [] → (processAll regWithout opts plug).errors = [] →
  ∀ (t : Nat) (q : Path) (dd : EData), obsE (processAll regWithout opts plug).forest t q = some dd →
    (∀ loc ∈ targets, ¬ (loc.1 = t ∧ loc.2 <+: q)) →
    obsE (processAll regWith opts plug).forest t q = some dd

open Goyang.Lemmas.DevExt in
/-- **Every node that no deviation targets is identical to what the same modules yield without the
deviating modules.**  `B` is the registry without, `X` the registry with the deviating modules `ds`
(`dk` = their rows of the module table).  Hypotheses (`Lemmas/DevExtBase.lean`, `DevExt`; all are
decidable conditions on the two registries, see the example below):
* `X` is `B` with the modules `ds` loaded after it, under new sequence numbers and new table keys;
* each new module is deviation-only: header statements, imports and deviations (`DeviationOnly`);
* nobody in `B` imports a new module or belongs to one (stated on the lookups: every import of a
  module of `B` resolves in `X` to what it resolves to in `B`);
* the plugged-in type resolution answers the same for the modules of `B` in both registries (`PlugAgree`);
* restrictions of the present proof, not of the claim: the new modules sort after the modules of `B`
  (table keys and full names: conversion order, and the swap-remove order of the augment loop, are
  then the same for the modules of `B`), `B` has no submodules, no `uses` statement (the fuel of the
  grouping search depends on the size of the registry); `NoAugments` (no top-level `augment`
  statement in `B`) is not needed: `frame_across_modules_augments` is the same statement without it.
Conclusion: every location of the run without the new modules that is neither a target of one of
their deviations nor below one (`newTargets`: the locations their deviation paths resolve to, each at
its turn in the run with them) shows the same data in the run with them.  The stages, each proved
insensitive to the new modules for the trees of `B` (`Lemmas/DevExt*.lean`): registry lookups
(`byId_ext`, `findModuleByPrefix_ext`), `Find` (`find_ext`, `find_tree_old`), conversion
(`toEntry_env`: the conversion of a statement of `B` is the same in both environments at any two
sufficient fuels; `toEntry_devOnly`: a deviation-only module files one tree without data nodes and an
empty row of pending augments), the augment stage and `fixChoice` (`preDev_ext_aug`), the deviations of
the modules of `B` (`stageFold_ext`), and then `stage_frame` for the deviations of the new modules. -/
theorem frame_across_modules (B X : Registry) (ds : List Mod) (dk : KeyMap) (opts : Opts) (plug : Plug)
    (hext : DevExt B X ds dk) (hno : NoAugments B) (hplug : PlugAgree plug B X) :
    FrameAcrossModules X B opts plug (newTargets B X opts plug) := by
  intro hX hB t q dd ho hq
  have hconv := (convAgree_noUses hext.toDevExtCore hext.noUsesB hplug opts).top
  exact frame_core_of_preDev hext.toDevExtCore hconv (preDev_ext_aug hext.toDevExtCore hconv) hX hB t q dd ho hq

open Goyang.Lemmas.DevExt in
/-- The same from the deviation stage on, without the restriction on augments: if the two runs reach
the deviation stage with forests that agree on the trees of `B` (`PreDevAgree`: the forest of the run
with the new modules is that of the run without them plus trees of new modules — what `preDev_ext_aug`
proves), the results agree outside the targets. -/
theorem frame_across_modules_of_preDev (B X : Registry) (ds : List Mod) (dk : KeyMap) (opts : Opts) (plug : Plug)
    (hext : DevExt B X ds dk) (hplug : PlugAgree plug B X) (hpre : PreDevAgree B X ds opts plug) :
    FrameAcrossModules X B opts plug (newTargets B X opts plug) := by
  intro hX hB t q dd ho hq
  exact frame_core_of_preDev hext.toDevExtCore (convAgree_noUses hext.toDevExtCore hext.noUsesB hplug opts).top hpre hX hB t q dd ho hq

open Goyang.Lemmas.DevExt in
/-- **The same without the restriction on augments**: the base registry `B` may have any top-level
`augment` statements (applied, chained, or left over and reported — the claim is about clean runs).
The other hypotheses are those of `frame_across_modules`.  How: the run with the new modules visits,
in the augment loop, the modules of `B` followed by the new modules (they sort last); a new module has
nothing pending, so the swap-remove of `augmentPass` drops it the first time it is visited
(`Lemmas/DevExtAugLoop.lean`: `drain_mid`, `drain_end`), after which the loop's array is that of the
run without them (`pass_ext`, `loop_ext`); on the states, every `augmentTree` for a tree of `B` does in
`X` what it does in `B` (`augmentTree_lift`: `find`, the target's namespace and the merge do not see
the new modules).  This yields `PreDevAgree` (`preDev_ext_aug`), and `frame_across_modules_of_preDev`
does the rest. -/
theorem frame_across_modules_augments (B X : Registry) (ds : List Mod) (dk : KeyMap) (opts : Opts) (plug : Plug)
    (hext : DevExt B X ds dk) (hplug : PlugAgree plug B X) :
    FrameAcrossModules X B opts plug (newTargets B X opts plug) :=
  frame_across_modules_of_preDev B X ds dk opts plug hext hplug
    (preDev_ext_aug hext.toDevExtCore (convAgree_noUses hext.toDevExtCore hext.noUsesB hplug opts).top)

open Goyang.Lemmas.DevExt in
/-- `PreDevAgree` holds under `DevExt` alone: the hypothesis of `frame_across_modules_of_preDev` is
always satisfied for deviation-only modules that sort last. -/
theorem preDevAgree_of_devExt (B X : Registry) (ds : List Mod) (dk : KeyMap) (opts : Opts) (plug : Plug)
    (hext : DevExt B X ds dk) (hplug : PlugAgree plug B X) : PreDevAgree B X ds opts plug :=
  preDev_ext_aug hext.toDevExtCore (convAgree_noUses hext.toDevExtCore hext.noUsesB hplug opts).top

open Goyang.Lemmas.DevExt in
/-- **The frame from the conversions on**, for a base with any `uses` and any augments: if the
conversions of the statements of `B` agree in the two runs (`ConvAgree`: `toEntry` in the environment
of `X` at `entryFuel X` against `toEntry` in the environment of `B` at `entryFuel B`), the results
agree outside the targets.  `DevExtCore` is `DevExt` without the restriction on `uses`.
`convAgree_noUses` proves `ConvAgree` for a base without `uses`; `frame_across_modules_uses` below
reduces it, for a base with `uses`, to a fact about `B` alone. -/
theorem frame_across_modules_of_conv (B X : Registry) (ds : List Mod) (dk : KeyMap) (opts : Opts) (plug : Plug)
    (hext : DevExtCore B X ds dk) (hconv : ConvAgree B X opts plug) :
    FrameAcrossModules X B opts plug (newTargets B X opts plug) :=
  fun hX hB t q dd ho hq => frame_core_of_preDev hext hconv.top (preDev_ext_aug hext hconv.top) hX hB t q dd ho hq

open Goyang.Lemmas.DevExt in
/-- **`uses` (and augments) in the base registry**, up to one fact about `B` alone.  Hypotheses besides
`DevExtCore` and `PlugAgree`:
* `DeepImports B X`: the import statements of every statement of a module of `B` resolve alike in both
  registries (`DevExtCore.imports` says this of the top-level ones; a statement tree may carry a
  `module` keyword further down, and the grouping search would read its imports) — a finite
  conjunction for a given registry, see the example;
* `LinkAgree B X`: a module of `B` is linked (`linkAll`) in the one run iff in the other (the grouping
  search follows the imports of linked modules only) — decidable for a given pair of registries;
* `FuelStable B (entryFuel X)`: the conversion of the statements of `B`, in `B` alone, is the same at
  the fuel `entryFuel X` as at `entryFuel B`.  This is the part that is NOT proved for a base with
  `uses`: `toEntry` hands `2 * fuel + 16` to the grouping search, and that the search is not cut short
  at the fuels that occur needs a sharper bound than `groupingNeed` (which counts the length of the
  name).  For a base without `uses` it holds (`fuelStable_noUses`).
What IS proved for `uses` (`Lemmas/DevExtUses.lean`): at one and the same fuel the two environments
convert every statement of `B` alike (`toEntry_sameFuel`), the grouping search included (`fg_all`: a
step-by-step simulation of `findGrouping` / `fgScope` / `fgImports` / `fgIncludes` between the two
registries). -/
theorem frame_across_modules_uses (B X : Registry) (ds : List Mod) (dk : KeyMap) (opts : Opts) (plug : Plug)
    (hext : DevExtCore B X ds dk) (hplug : PlugAgree plug B X) (hdeep : DeepImports B X) (hlink : LinkAgree B X)
    (hst : FuelStable B (entryFuel X) opts plug) :
    FrameAcrossModules X B opts plug (newTargets B X opts plug) :=
  frame_across_modules_of_conv B X ds dk opts plug hext (convAgree_of_stable hext hplug opts hdeep hlink hst)

open Goyang.Lemmas.DevExt in
/-- **`LinkAgree` is a consequence of `DevExtCore`**: a module of the base is linked (`linkAll`) in the run
with the deviation-only modules iff it is in the run without them.  `linkAll X` walks the modules of `B`
first (the new ones sort last); those walks stay in `B` and are the walks of `linkAll B`, at either
fuel (`Lemmas/DevExtLink.lean`: `includeWalk_ext`, `includeWalk_fuels`); after them every module the table
of `B` points to is marked, so the walks from the new modules mark new modules only (`includeWalk_new`):
`(linkAll X).1 = N ++ (linkAll B).1` with `N` sequence numbers of new modules (`linkAll_ext`). -/
theorem linkAgree_of_devExtCore (B X : Registry) (ds : List Mod) (dk : KeyMap) (hext : DevExtCore B X ds dk) :
    LinkAgree B X :=
  Goyang.Lemmas.DevExt.linkAgree_of_devExtCore hext

open Goyang.Lemmas.DevExt in
/-- `frame_across_modules_uses` with the hypothesis `LinkAgree` discharged (`linkAgree_of_devExtCore`). -/
theorem frame_across_modules_uses_linked (B X : Registry) (ds : List Mod) (dk : KeyMap) (opts : Opts) (plug : Plug)
    (hext : DevExtCore B X ds dk) (hplug : PlugAgree plug B X) (hdeep : DeepImports B X)
    (hst : FuelStable B (entryFuel X) opts plug) :
    FrameAcrossModules X B opts plug (newTargets B X opts plug) :=
  frame_across_modules_uses B X ds dk opts plug hext hplug hdeep (linkAgree_of_devExtCore B X ds dk hext) hst

open Goyang.Lemmas.DevExt in
/-- **Fuel stability of the conversions `processAll` starts, for EVERY registry**: the conversion of a
loaded (sub)module statement, and of a deviate statement of a deviation (`TopCall`), is the same at every
fuel `fX ≥ entryFuel B` as at `entryFuel B` — whatever `uses`, groupings, submodules and names `B` has.
How (`Lemmas/DevExtFg.lean`, `DevExtFuel.lean`): the grouping search is independent of its fuel from
`scope.length + W + 3 + (loaded modules + 1) * (W + 4)` on, `W` the widest statement — the name does not
enter the bound, because the model's import hop fires only when what follows the prefix has no further
colon (`findGrouping_fuelC`, potential "has a colon" + unseen modules); that bound is at most
`2 * (entryFuel - entryNeed) + 18` (`fgBound_le_slack`: arithmetic over statement counts, with
`widest + highest ≤ total + 1`), which `2 * fuel + 16` reaches at every call reached from a top-level one
(C06's `Uses.reached_good`: the remaining fuel stays `need + slack`); induction along the reached calls
(`toEntry_shift`).  `FuelStable` — the same for EVERY call whose scope is any list of statements of the
module — is strictly more than the frame theorems need and is not true in general (a scope list longer
than the fuel of the grouping search makes a search succeed at the larger fuel only); the frame theorems
below use `FuelStableTop` / `ConvAgreeTop`. -/
theorem fuelStableTop_all (B : Registry) (fX : Nat) (hf : entryFuel B ≤ fX) (opts : Opts) (plug : Plug) :
    FuelStableTop B fX opts plug :=
  fuelStableTop B fX hf opts plug

open Goyang.Lemmas.DevExt in
/-- The frame from the conversions on, from agreement of the conversions `processAll` starts itself
(`ConvAgreeTop`; `frame_across_modules_of_conv` asks for agreement at every call). -/
theorem frame_across_modules_of_convTop (B X : Registry) (ds : List Mod) (dk : KeyMap) (opts : Opts) (plug : Plug)
    (hext : DevExtCore B X ds dk) (hconv : ConvAgreeTop B X opts plug) :
    FrameAcrossModules X B opts plug (newTargets B X opts plug) :=
  fun hX hB t q dd ho hq => frame_core_of_preDev hext hconv (preDev_ext_aug hext hconv) hX hB t q dd ho hq

open Goyang.Lemmas.DevExt in
/-- **The frame across module sets for a base WITH `uses` (and augments)** — no hypothesis about fuel or
linking left.  Hypotheses: `DevExtCore` (the deviation-only modules are loaded last, under new sequence
numbers and keys, sort last, nobody in `B` imports them, no submodules), `PlugAgree`, and `ModImports`:
the import statements of every statement of `B` that carries the keyword `module` / `submodule` resolve
alike in both registries (`DevExtCore.imports` says this of the module statements themselves;
`frame_across_modules_with_uses_flat`: nothing more to ask when no such keyword occurs further down).
Proof: same fuel, two registries — `toEntry_sameFuel` with `linkAgree_of_devExtCore`; same registry, two
fuels — `fuelStableTop_all`; together `ConvAgreeTop` (`convAgreeTop_of_devExtCore`), then
`frame_across_modules_of_convTop`. -/
theorem frame_across_modules_with_uses (B X : Registry) (ds : List Mod) (dk : KeyMap) (opts : Opts) (plug : Plug)
    (hext : DevExtCore B X ds dk) (hplug : PlugAgree plug B X) (hmi : ModImports B X) :
    FrameAcrossModules X B opts plug (newTargets B X opts plug) :=
  frame_across_modules_of_convTop B X ds dk opts plug hext (convAgreeTop_of_devExtCore hext hplug opts hmi)

open Goyang.Lemmas.DevExt in
/-- The same for a base in which no statement below a (sub)module statement has the keyword `module` or
`submodule` (`FlatModKw`; decidable through `flatModKw_of_noModKw`; true of every tree the AST builder
accepts): `DevExtCore` and `PlugAgree` suffice. -/
theorem frame_across_modules_with_uses_flat (B X : Registry) (ds : List Mod) (dk : KeyMap) (opts : Opts) (plug : Plug)
    (hext : DevExtCore B X ds dk) (hplug : PlugAgree plug B X) (hflat : FlatModKw B) :
    FrameAcrossModules X B opts plug (newTargets B X opts plug) :=
  frame_across_modules_with_uses B X ds dk opts plug hext hplug (modImports_of_flat hext hflat)

open Goyang.Lemmas.DevExt in
/-- **The same in terms of loading**: `B` a registry as loading produces it (`Bridge.TablesOK`: sequence
numbers are positions, the rows of the tables point to loaded modules — proved of every result of
`Registry.loadAll` / `Model.loadTexts`), `X` the result of adding (`Registry.add` = `Modules.add`) one more
module statement `d` whose name is not yet bound.  The structural half of `DevExtCore` (module list and
table grow at the end, new sequence number, rows) then holds by computation (`Lemmas/DevExtLoad.lean`:
`add_fresh`, `devExtCore_of_add`); what is asked are the conditions on the contents: `d` is deviation-only
and sorts after the modules of `B` (rows `newRows` and full name), nobody in `B` imports it or belongs to it,
`B` has no submodules and no nested `module` keyword, the type resolution agrees. -/
theorem frame_across_modules_loaded (B X : Registry) (d : Stmt) (opts : Opts) (plug : Plug)
    (hB : Goyang.Lemmas.Bridge.TablesOK B) (ha : B.add d = .ok X)
    (hsub : (⟨B.mods.length, d⟩ : Mod).isSub = false) (hfresh : B.modules.get? d.arg = none)
    (subsB : B.subModules = [])
    (keyLast : ∀ kb ∈ B.modules, ∀ kd ∈ newRows B.mods.length d, kb.1 < kd.1)
    (nameLast : ∀ m ∈ B.mods, m.fullName < (⟨B.mods.length, d⟩ : Mod).fullName)
    (imports : ∀ m ∈ B.mods, ∀ i ∈ m.imports, X.findModule false i = B.findModule false i)
    (ownerEq : ∀ m ∈ B.mods, X.owner m = B.owner m)
    (devOnly : DeviationOnly d) (hplug : PlugAgree plug B X) (hflat : FlatModKw B) :
    FrameAcrossModules X B opts plug (newTargets B X opts plug) :=
  frame_across_modules_with_uses_flat B X _ _ opts plug
    (devExtCore_of_add hB ha hsub hfresh subsB keyLast nameLast imports ownerEq devOnly) hplug hflat

/-! #### non-vacuity -/
section FrameExample
open Goyang.Lemmas.DevExt

private def fst_ (file : String) (line : Nat) (kw arg : String) (subs : List Stmt := []) : Stmt :=
  .mk kw true arg file line 1 subs

/-- `module a { namespace urn:a; prefix a; import b { prefix b; } container c { leaf x { type string; } } }` -/
private def exA : Stmt := fst_ "a.yang" 1 "module" "a" [fst_ "a.yang" 2 "namespace" "urn:a", fst_ "a.yang" 3 "prefix" "a",
  fst_ "a.yang" 4 "import" "b" [fst_ "a.yang" 4 "prefix" "b"],
  fst_ "a.yang" 5 "container" "c" [fst_ "a.yang" 6 "leaf" "x" [fst_ "a.yang" 6 "type" "string"]]]
/-- `module b { namespace urn:b; prefix b; leaf y { type string; } }` -/
private def exB : Stmt := fst_ "b.yang" 1 "module" "b" [fst_ "b.yang" 2 "namespace" "urn:b", fst_ "b.yang" 3 "prefix" "b",
  fst_ "b.yang" 4 "leaf" "y" [fst_ "b.yang" 4 "type" "string"]]
/-- `module z-dev { namespace urn:z; prefix z; import a { prefix a; } revision 2024-01-01; }` -/
private def exZ : Stmt := fst_ "z.yang" 1 "module" "z-dev" [fst_ "z.yang" 2 "namespace" "urn:z", fst_ "z.yang" 3 "prefix" "z",
  fst_ "z.yang" 4 "import" "a" [fst_ "z.yang" 4 "prefix" "a"], fst_ "z.yang" 5 "revision" "2024-01-01"]
/-- the same with `deviation /a:c/a:x { deviate replace { default w; } }` -/
private def exZ' : Stmt := fst_ "z.yang" 1 "module" "z-dev" [fst_ "z.yang" 2 "namespace" "urn:z", fst_ "z.yang" 3 "prefix" "z",
  fst_ "z.yang" 4 "import" "a" [fst_ "z.yang" 4 "prefix" "a"],
  fst_ "z.yang" 5 "deviation" "/a:c/a:x" [fst_ "z.yang" 6 "deviate" "replace" [fst_ "z.yang" 7 "default" "w"]]]

private def exPlug : Plug :=
  { tres := { resolve := fun _ _ _ t => (some { dump := t.arg }, []) },
    identityErrs := fun _ => [], typedefErrs := fun _ => [] }

private def regB : Registry := (Registry.loadAll [exA, exB]).1
private def regX : Registry := (Registry.loadAll [exA, exB, exZ]).1
private def regX' : Registry := (Registry.loadAll [exA, exB, exZ']).1

private def impB : Stmt := fst_ "a.yang" 4 "import" "b" [fst_ "a.yang" 4 "prefix" "b"]

theorem all_pair {α} {P : α → Prop} {l : List α} {a b : α} (hl : l = [a, b]) (ha : P a) (hb : P b) :
    ∀ x ∈ l, P x := by
  subst hl
  intro x hx
  simp only [List.mem_cons, List.not_mem_nil, or_false] at hx
  rcases hx with rfl | rfl <;> assumption

theorem all_single {α} {P : α → Prop} {l : List α} {a : α} (hl : l = [a]) (ha : P a) : ∀ x ∈ l, P x := by
  subst hl
  intro x hx
  rw [List.mem_singleton.mp hx]
  exact ha

theorem all_none {α} {P : α → Prop} {l : List α} (hl : l = []) : ∀ x ∈ l, P x := by
  subst hl
  intro x hx
  cases hx

theorem allB {P : Mod → Prop} (ha : P ⟨0, exA⟩) (hb : P ⟨1, exB⟩) : ∀ m ∈ regB.mods, P m :=
  all_pair rfl ha hb

/-- The core hypotheses for a, b and z-dev (first form).  The two fields that are not decided by
evaluation: every import of a module of the base resolves alike in both registries (a has the one
import `impB`, b has none), and every module of the base is its own owner in both. -/
theorem coreBX : DevExtCore regB regX [⟨2, exZ⟩] [("z-dev@2024-01-01", 2), ("z-dev", 2)] :=
  .of_tables rfl rfl rfl (by decide +kernel)
    (allB (all_single (a := impB) rfl rfl)
      (all_none rfl))
    (allB rfl rfl)

/-- The hypotheses of `frame_across_modules` hold of the three-module set a, b, z-dev (a imports b,
z-dev imports a and is loaded last), both runs are clean, and the run without z-dev has the leaf
`/a/c/x` the conclusion speaks about (all evaluated by the kernel); the hypothesis `PreDevAgree` of
`frame_across_modules_of_preDev` holds of it too. -/
example : DevExt regB regX [⟨2, exZ⟩] [("z-dev@2024-01-01", 2), ("z-dev", 2)] ∧ NoAugments regB ∧
    PlugAgree exPlug regB regX ∧
    (processAll regX {} exPlug).errors = [] ∧ (processAll regB {} exPlug).errors = [] ∧
    (obsE (processAll regB {} exPlug).forest 0 [.child "c", .child "x"]).isSome = true ∧
    PreDevAgree regB regX [⟨2, exZ⟩] {} exPlug := by
  have hs : DevExt regB regX [⟨2, exZ⟩] [("z-dev@2024-01-01", 2), ("z-dev", 2)] :=
    ⟨coreBX, allB rfl rfl⟩
  have hna : NoAugments regB := allB rfl rfl
  have hplug : PlugAgree exPlug regB regX := fun _ _ _ _ => rfl
  have hrunB : (processAll regB {} exPlug).errors = [] ∧
      (obsE (processAll regB {} exPlug).forest 0 [.child "c", .child "x"]).isSome = true := by decide +kernel
  exact ⟨hs, hna, hplug, by decide +kernel, hrunB.1, hrunB.2,
    preDev_ext_aug coreBX (convAgree_noUses coreBX hs.noUsesB hplug {}).top⟩

/-- … and with a real deviation in the new module (`deviation /a:c/a:x { deviate replace { default w; } }`)
the hypotheses on the registries hold as well.  (That both runs are clean cannot be evaluated by the
kernel here: applying a deviation goes through `String.splitOn`, which does not reduce; the
correspondence runner runs such sets with and without the deviating module.) -/
example : DevExt regB regX' [⟨2, exZ'⟩] [("z-dev", 2)] ∧ NoAugments regB ∧ PlugAgree exPlug regB regX' := by
  exact ⟨⟨.of_tables rfl rfl rfl (by decide +kernel)
      (allB (all_single (a := impB) rfl rfl) (all_none rfl))
      (allB rfl rfl),
    allB rfl rfl⟩,
    allB rfl rfl, fun _ _ _ _ => rfl⟩

/-- `module a { namespace urn:a; prefix a; import b { prefix b; } augment /b:k { leaf z { type string; } } }` -/
private def exAug : Stmt := fst_ "a.yang" 1 "module" "a" [fst_ "a.yang" 2 "namespace" "urn:a", fst_ "a.yang" 3 "prefix" "a",
  fst_ "a.yang" 4 "import" "b" [fst_ "a.yang" 4 "prefix" "b"],
  fst_ "a.yang" 5 "augment" "/b:k" [fst_ "a.yang" 6 "leaf" "z" [fst_ "a.yang" 6 "type" "string"]]]
/-- `module b { namespace urn:b; prefix b; container k { leaf y { type string; } } }` -/
private def exBk : Stmt := fst_ "b.yang" 1 "module" "b" [fst_ "b.yang" 2 "namespace" "urn:b", fst_ "b.yang" 3 "prefix" "b",
  fst_ "b.yang" 4 "container" "k" [fst_ "b.yang" 5 "leaf" "y" [fst_ "b.yang" 5 "type" "string"]]]
private def regBa : Registry := (Registry.loadAll [exAug, exBk]).1
private def regXa : Registry := (Registry.loadAll [exAug, exBk, exZ']).1

theorem allBa {P : Mod → Prop} (ha : P ⟨0, exAug⟩) (hb : P ⟨1, exBk⟩) : ∀ m ∈ regBa.mods, P m :=
  all_pair rfl ha hb

/-- Non-vacuity of `frame_across_modules_augments`: a base registry WITH a top-level augment (a augments
`/b:k`) and the deviating module z-dev (`deviation /a:c/a:x …`, here reported as a missing target —
the hypotheses are about the registries): `DevExt` and `PlugAgree` hold, `NoAugments` does not.
(Clean runs with an applied augment cannot be evaluated by the kernel: `find` splits the path with
`String.splitOn`; the correspondence runner runs such sets with and without the deviating module.) -/
example : DevExt regBa regXa [⟨2, exZ'⟩] [("z-dev", 2)] ∧ PlugAgree exPlug regBa regXa ∧ ¬ NoAugments regBa := by
  refine ⟨⟨.of_tables rfl rfl rfl (by decide +kernel)
      (allBa (all_single (a := impB) rfl rfl) (all_none rfl))
      (allBa rfl rfl),
    allBa rfl rfl⟩, fun _ _ _ _ => rfl, fun hno => ?_⟩
  have h1 : exAug.all "augment" = [] := hno ⟨0, exAug⟩ (List.mem_cons_self ..)
  cases h1

set_option linter.unusedSimpArgs false in
/-- The hypotheses of `frame_across_modules_of_conv` and of `frame_across_modules_uses` hold of the
set a, b, z-dev above (a base without `uses`, where `FuelStable` is proved; for a base with `uses`
`FuelStable` is the open part, and the other hypotheses are of the same finite kind as here). -/
example : DevExtCore regB regX [⟨2, exZ⟩] [("z-dev@2024-01-01", 2), ("z-dev", 2)] ∧ PlugAgree exPlug regB regX ∧
    ConvAgree regB regX {} exPlug ∧ DeepImports regB regX ∧ LinkAgree regB regX ∧
    FuelStable regB (entryFuel regX) {} exPlug := by
  have hno : ∀ m ∈ regB.mods, noUses m.stmt = true := allB rfl rfl
  have hplug : PlugAgree exPlug regB regX := fun _ _ _ _ => rfl
  refine ⟨coreBX, hplug, convAgree_noUses coreBX hno hplug {}, allB ?_ ?_,
    allB (by decide +kernel) (by decide +kernel),
    fuelStable_noUses hno _ (by decide +kernel) {} exPlug⟩
  · simp only [exA, fst_, Deep, DeepL, and_true]
    repeat' apply And.intro
    all_goals intro i hi
    all_goals simp (config := { decide := true }) only [Stmt.all, Stmt.subs, Stmt.kw, List.filter_cons, List.filter_nil,
      List.mem_cons, List.not_mem_nil, or_false, if_true, if_false, Bool.false_eq_true] at hi
    all_goals try subst hi
    all_goals rfl
  · simp only [exB, fst_, Deep, DeepL, and_true]
    repeat' apply And.intro
    all_goals intro i hi
    all_goals simp (config := { decide := true }) only [Stmt.all, Stmt.subs, Stmt.kw, List.filter_cons, List.filter_nil,
      List.mem_cons, List.not_mem_nil, or_false, if_true, if_false, Bool.false_eq_true] at hi

/-- `module a { namespace urn:a; prefix a; import b { prefix b; } grouping g { leaf x { type string; } }
container c { uses g; } }` -/
private def exAu : Stmt := fst_ "a.yang" 1 "module" "a" [fst_ "a.yang" 2 "namespace" "urn:a", fst_ "a.yang" 3 "prefix" "a",
  fst_ "a.yang" 4 "import" "b" [fst_ "a.yang" 4 "prefix" "b"],
  fst_ "a.yang" 5 "grouping" "g" [fst_ "a.yang" 6 "leaf" "x" [fst_ "a.yang" 6 "type" "string"]],
  fst_ "a.yang" 7 "container" "c" [fst_ "a.yang" 8 "uses" "g"]]
private def regBu : Registry := (Registry.loadAll [exAu, exB]).1
private def regXu : Registry := (Registry.loadAll [exAu, exB, exZ]).1

theorem allBu {P : Mod → Prop} (ha : P ⟨0, exAu⟩) (hb : P ⟨1, exB⟩) : ∀ m ∈ regBu.mods, P m :=
  all_pair rfl ha hb

/-- Non-vacuity of `frame_across_modules_with_uses` / `_flat`, `linkAgree_of_devExtCore`, `fuelStableTop_all`
and `frame_across_modules_of_convTop`: a base WITH a `uses` (module a: `container c { uses g; }`, b, and the
deviation-only module z-dev loaded last): `DevExtCore`, `PlugAgree`, `FlatModKw` (hence `ModImports`) hold,
the base is outside `DevExt` (`noUses` fails), the fuels of the two runs differ (`entryFuel` 353 against
593), both runs are clean and the run without z-dev has the leaf `/a/c/x` — copied from the grouping — that
the conclusion speaks about (all evaluated by the kernel); `LinkAgree`, `FuelStableTop` and `ConvAgreeTop`
then hold by the theorems. -/
example : DevExtCore regBu regXu [⟨2, exZ⟩] [("z-dev@2024-01-01", 2), ("z-dev", 2)] ∧ PlugAgree exPlug regBu regXu ∧
    FlatModKw regBu ∧ ModImports regBu regXu ∧ ¬ (∀ m ∈ regBu.mods, noUses m.stmt = true) ∧
    entryFuel regBu < entryFuel regXu ∧
    (processAll regXu {} exPlug).errors = [] ∧ (processAll regBu {} exPlug).errors = [] ∧
    (obsE (processAll regBu {} exPlug).forest 0 [.child "c", .child "x"]).isSome = true ∧
    LinkAgree regBu regXu ∧ FuelStableTop regBu (entryFuel regXu) {} exPlug ∧ ConvAgreeTop regBu regXu {} exPlug := by
  have hplug : PlugAgree exPlug regBu regXu := fun _ _ _ _ => rfl
  have hcore : DevExtCore regBu regXu [⟨2, exZ⟩] [("z-dev@2024-01-01", 2), ("z-dev", 2)] :=
    .of_tables rfl rfl rfl (by decide +kernel)
      (allBu (all_single (a := impB) rfl rfl) (all_none rfl))
      (allBu rfl rfl)
  have hflat : FlatModKw regBu :=
    flatModKw_of_noModKw (allBu rfl rfl)
  have hmi : ModImports regBu regXu := modImports_of_flat hcore hflat
  have hrunB : (processAll regBu {} exPlug).errors = [] ∧
      (obsE (processAll regBu {} exPlug).forest 0 [.child "c", .child "x"]).isSome = true := by decide +kernel
  refine ⟨hcore, hplug, hflat, hmi, fun hno => ?_, by decide +kernel, by decide +kernel, hrunB.1, hrunB.2,
    Goyang.Lemmas.DevExt.linkAgree_of_devExtCore hcore, fuelStableTop _ _ (entryFuel_le hcore) _ _,
    convAgreeTop_of_devExtCore hcore hplug {} hmi⟩
  have h1 : noUses exAu = true := hno ⟨0, exAu⟩ (List.mem_cons_self ..)
  cases h1

/-- Non-vacuity of `frame_across_modules_loaded`: the registry with z-dev IS the result of adding z-dev to the
loaded base a (with `uses`), b; the base has `TablesOK` (as every loaded registry), z-dev is a module with a
fresh name, and its rows are the ones `newRows` computes. -/
example : Goyang.Lemmas.Bridge.TablesOK regBu ∧ regBu.add exZ = .ok regXu ∧
    (⟨regBu.mods.length, exZ⟩ : Mod).isSub = false ∧ regBu.modules.get? exZ.arg = none ∧
    newRows regBu.mods.length exZ = [("z-dev@2024-01-01", 2), ("z-dev", 2)] :=
  ⟨Goyang.Lemmas.Bridge.tablesOK_loadFrom _ _ Goyang.Lemmas.Bridge.tablesOK_empty, rfl, by decide +kernel,
    by decide +kernel, by decide +kernel⟩

private def exC : Stmt := fst_ "a.yang" 7 "container" "c" [fst_ "a.yang" 8 "uses" "g"]
private def exU : Stmt := fst_ "a.yang" 8 "uses" "g"
private def longScope : List Stmt := List.replicate 800 exC ++ [exAu]

theorem longScope_inv : Goyang.Lemmas.Fuel.Inv (Goyang.Lemmas.Tree.envOf regBu {} exPlug) ⟨0, exAu⟩ longScope exU := by
  have hc : exC ∈ exAu.subs :=
    List.mem_cons_of_mem _ (List.mem_cons_of_mem _ (List.mem_cons_of_mem _ (List.mem_cons_of_mem _ (List.mem_cons_self ..))))
  have hsub : Goyang.Lemmas.Fuel.Sub exC exAu := .step (t := exAu) hc (.refl _)
  refine ⟨?_, .step (t := exAu) hc (.step (List.mem_cons_self ..) (.refl _)), ?_⟩
  · show (⟨0, exAu⟩ : Mod) ∈ [⟨0, exAu⟩, ⟨1, exB⟩]
    exact List.mem_cons_self ..
  · intro s hs
    rcases List.mem_append.mp hs with hs | hs
    · rw [List.eq_of_mem_replicate hs]; exact hsub
    · rw [List.mem_singleton] at hs; subst hs; exact .refl _

/-- That call in the three settings: without z-dev at the fuel of the run without z-dev the grouping is
not found; at the fuel of the run with z-dev it is, in either registry. -/
theorem longScope_runs :
    (toEntry (Goyang.Lemmas.Tree.envOf regBu {} exPlug) (entryFuel regBu) ⟨0, exAu⟩ longScope exU [] {}).1.d.errors.isEmpty = false ∧
    (toEntry (Goyang.Lemmas.Tree.envOf regBu {} exPlug) (entryFuel regXu) ⟨0, exAu⟩ longScope exU [] {}).1.d.errors.isEmpty = true ∧
    (toEntry (Goyang.Lemmas.Tree.envOf regXu {} exPlug) (entryFuel regXu) ⟨0, exAu⟩ longScope exU [] {}).1.d.errors.isEmpty = true := by
  decide +kernel

/-- **`FuelStable` (the hypothesis of `frame_across_modules_uses`) asks too much**: it fails for the base
a, b above, whose `uses g` resolves.  The call: the `uses` statement of module a with 800 copies of the
container statement and the module statement as scope (all statements of a, so `Fuel.Inv` holds — no run
of `processAll` makes this call).  At `entryFuel regBu = 353` the grouping search gets `2 * 352 + 16 = 720`
units, fewer than the scope is long: "unknown-group"; at `entryFuel regXu = 593` it gets 1200 and finds
`g`.  The frame theorems therefore work with `FuelStableTop` (`fuelStableTop_all`: true of every
registry). -/
theorem fuelStable_fails : ¬ FuelStable regBu (entryFuel regXu) {} exPlug := by
  intro hst
  have h := congrArg (fun r => r.1.d.errors.isEmpty) (hst ⟨0, exAu⟩ longScope exU [] {} longScope_inv)
  simp only [longScope_runs.1, longScope_runs.2.1] at h
  cases h

/-- … and so does `ConvAgree` (the hypothesis of `frame_across_modules_of_conv`) for the pair above, on the
same call: the run with z-dev (fuel 593) finds the grouping, the run without it (fuel 353) does not.
`ConvAgreeTop`, which holds (example above), is what `frame_across_modules_of_convTop` asks for. -/
theorem convAgree_fails : ¬ ConvAgree regBu regXu {} exPlug := by
  intro hcv
  have h := congrArg (fun r => r.1.d.errors.isEmpty) (hcv ⟨0, exAu⟩ longScope exU [] {} longScope_inv)
  simp only [longScope_runs.1, longScope_runs.2.2] at h
  cases h

end FrameExample

/-! ### deviate_reported -/

/-- **A deviation that cannot be applied makes `processAll` return errors** — the chain from one
statement to the result:
(a) a deviate statement that breaks a condition the property lists reports (`claimed_violation_reported`);
(b) a statement that reports at its turn makes its deviation report; so does a target path that
    resolves to nothing;
(c) a deviation that reports at its turn makes its module's `applyDeviations` report;
(d) a module that reports at its turn makes the deviation stage report;
(e) if the deviation stage it ran reported anything, or an earlier stage did, `processAll` returns
    errors: a clean `processAll` ran the stage and the stage reported nothing. -/
theorem deviate_reported :
    -- (b) statement → deviation
    (∀ (reg : Registry) (opts : Opts) (m : Mod) (acc : Forest × List Err) (dstmt : Stmt)
        (pre post : List (String × Entry)) (d : String × Entry) (t : Nat) (path : Path) (node0 : Entry),
      (find reg acc.1 (m.seq, []) m.seq dstmt.arg).1 = some (t, path) →
      ((find reg acc.1 (m.seq, []) m.seq dstmt.arg).2.tree? t).bind (·.getAt path) = some node0 →
      (applyOneDeviate opts m.stmt d.1 d.2 (!path.isEmpty)
        (nodeFold opts m.stmt (!path.isEmpty) (node0, false, acc.2) pre).1).2.2 ≠ [] →
      (outerStep reg opts m acc (dstmt, pre ++ d :: post)).2 ≠ []) ∧
    -- (b) missing target → deviation
    (∀ (reg : Registry) (opts : Opts) (m : Mod) (acc : Forest × List Err) (dv : Stmt × List (String × Entry)),
      (find reg acc.1 (m.seq, []) m.seq dv.1.arg).1 = none → (outerStep reg opts m acc dv).2 ≠ []) ∧
    -- (c) deviation → module
    (∀ (reg : Registry) (opts : Opts) (m : Mod) (f : Forest) (pre post : List (Stmt × List (String × Entry)))
        (dv : Stmt × List (String × Entry)),
      (outerStep reg opts m (pre.foldl (outerStep reg opts m) (f, [])) dv).2 ≠ [] →
      (applyDeviations reg opts m (pre ++ dv :: post) f).2 ≠ []) ∧
    -- (d) module → stage
    (∀ (reg : Registry) (opts : Opts) (env : Env) (fuel : Nat) (f0 : Forest) (pre post : List Mod) (m : Mod),
      devOrderOf reg = pre ++ m :: post →
      (pre.foldl (stageStep reg opts env fuel) (f0, [], [])).2.2.contains m.name = false →
      (applyDeviations reg opts m (devsOf env fuel m) (pre.foldl (stageStep reg opts env fuel) (f0, [], [])).1).2 ≠ [] →
      (deviationStage reg opts env fuel f0).2.1 ≠ []) ∧
    -- (e) stage → processAll
    (∀ (reg : Registry) (opts : Opts) (plug : Plug), (processAll reg opts plug).errors = [] →
      ∃ (env : Env) (f0 : Forest), env.reg = reg ∧ env.opts = opts ∧ env.tres = plug.tres ∧
        (deviationStage reg opts env (entryFuel reg) f0).2.1 = [] ∧
        (processAll reg opts plug).forest = (deviationStage reg opts env (entryFuel reg) f0).1) :=
  ⟨fun reg opts m acc dstmt pre post d t path node0 h1 h2 h3 =>
      outerStep_reports_stmt reg opts m acc dstmt pre post d t path node0 h1 h2 h3,
   fun reg opts m acc dv h => outerStep_reports_missing reg opts m acc dv (fun loc hl => by rw [h] at hl; cases hl),
   fun reg opts m f pre post dv h => applyDeviations_reports reg opts m f pre post dv h,
   fun reg opts env fuel f0 pre post m h1 h2 h3 => stage_reports reg opts env fuel f0 pre post m h1 h2 h3,
   fun reg opts plug h => processAll_clean reg opts plug h⟩

/-- The four statement-level conditions of the property, spelled out on the model's data
(instances of `claimed_violation_reported`): a default added where one exists (not a leaf-list); a
default deleted that is absent or different (not a leaf-list — there every deletion is refused);
an element bound deleted whose value differs from the target's; an element bound on a node that
is neither list nor leaf-list (any kind). -/
theorem deviate_reported_conditions (opts : Opts) (ms : Stmt) (spec node : Entry) (hp : Bool) :
    (spec.d.default ≠ [] → node.isLeafList = false → node.d.default ≠ [] →
      (applyOneDeviate opts ms "add" spec hp node).2.2 ≠ []) ∧
    (spec.d.default ≠ [] → spec.d.default.head? ≠ node.d.default.head? →
      (applyOneDeviate opts ms "delete" spec hp node).2.2 ≠ []) ∧
    (spec.d.hasMin = true → nodeMin node ≠ specMin spec.d → (applyOneDeviate opts ms "delete" spec hp node).2.2 ≠ []) ∧
    (spec.d.hasMax = true → nodeMax node ≠ specMax spec.d → (applyOneDeviate opts ms "delete" spec hp node).2.2 ≠ []) ∧
    (∀ kind, kind = "add" ∨ kind = "replace" ∨ kind = "delete" → (spec.d.hasMin = true ∨ spec.d.hasMax = true) →
      listLike node = false → (applyOneDeviate opts ms kind spec hp node).2.2 ≠ []) ∧
    (∀ kind, kindOf kind = .other → (applyOneDeviate opts ms kind spec hp node).2.2 ≠ []) := by
  refine ⟨?_, ?_, ?_, ?_, ?_, ?_⟩
  · intro h1 h2 h3
    rw [applyOneDeviate_eq_staged]
    show (addReplace ms true spec node).2.2 ≠ []
    intro hnil
    have := ((addReplace_errs ms true spec node).mp hnil).1
    rw [stDefAR_errs, (flags_stCfg _ _).2, default_stCfg] at this
    simp [h1, h2, h3] at this
  · intro h1 h2
    rw [applyOneDeviate_eq_staged]
    show (delete_ ms spec node).2.2 ≠ []
    intro hnil
    have := ((delete_errs ms spec node).mp hnil).1
    rw [stDefDel_errs, (flags_stCfgDel _ _).2, default_stCfgDel] at this
    simp [h1, h2] at this
  · intro h1 h2
    rw [applyOneDeviate_eq_staged]
    show (delete_ ms spec node).2.2 ≠ []
    intro hnil
    exact h2 (((delete_errs ms spec node).mp hnil).2.1 h1).2
  · intro h1 h2
    rw [applyOneDeviate_eq_staged]
    show (delete_ ms spec node).2.2 ≠ []
    intro hnil
    exact h2 (((delete_errs ms spec node).mp hnil).2.2 h1).2
  · intro kind hk hb hl
    rw [applyOneDeviate_eq_staged]
    intro hnil
    rcases hk with rfl | rfl | rfl
    · have := (addReplace_errs ms true spec node).mp hnil
      rcases hb with hb | hb
      · exact this.2.1 ⟨hb, hl⟩
      · exact this.2.2 ⟨hb, hl⟩
    · have := (addReplace_errs ms false spec node).mp hnil
      rcases hb with hb | hb
      · exact this.2.1 ⟨hb, hl⟩
      · exact this.2.2 ⟨hb, hl⟩
    · have := (delete_errs ms spec node).mp hnil
      rcases hb with hb | hb
      · have := (this.2.1 hb).1; rw [hl] at this; cases this
      · have := (this.2.2 hb).1; rw [hl] at this; cases this
  · intro kind hk
    rw [applyOneDeviate_eq_staged]
    exact staged_other_errs opts ms kind spec hp node hk

/-- The two conditions that are detected when the deviating module is converted (`toEntry`), before
the deviation stage: an unknown deviate argument and a replacement type that does not resolve.
FULL STATEMENT, not proved in this file; PROVED in Props/C08Bridge.lean (`conversionErrorsReported`)
for every registry of the loaded shape whose loaded statements are module / submodule statements —
hence for everything `Registry.loadAll` / `Model.loadTexts` produce (`conversionErrorsReported_loaded`,
`conversionErrorsReported_loadTexts`) — and REFUTED there for arbitrary registries
(`conversionErrorsReported_needs_loadedShape`: two entries under one sequence number): `processAll`
returns errors whenever a loaded module contains such a statement.  Proved here
(`deviate_reported_conversion_partial`): the entry of the `deviation` statement
carries a recorded error whenever one of its deviate statements has an unknown argument or a deviate
entry with an error, for every fuel, scope and conversion state.  Missing here, supplied by the bridge (`deviate_bad_type_recorded`, `deviation_errors_recorded`,
`module_errors_cached`): (i) that the `"type"` case
of `Model.toEntry` leaves `deviate-bad-type` on the deviate entry through the remaining field steps
(plain unfolding of the seven nested steps), and (ii) the way from the deviation entry into the module
entry (the `"deviation"` step imports it; ten more field steps follow) and through the conversion
cache to "the forest `processAll` inspects contains that module entry" — an invariant of the whole
`toEntry` recursion, which is the subject of C04.  The runner covers both conditions
(`unknown-kind/*`, `bad-type/*` combinations, and at random). -/
def ConversionErrorsReported (reg : Registry) (opts : Opts) (plug : Plug) : Prop :=
  (∃ m ∈ reg.distinctModules ++ reg.distinctSubs, ∃ dv ∈ m.stmt.all "deviation", ∃ ds ∈ dv.all "deviate",
      deviateKinds.contains ds.arg = false ∨
      (∃ ty, ds.one? "type" = some ty ∧ (plug.tres.resolve reg m [ds, dv, m.stmt] ty).2 ≠ [])) →
    (processAll reg opts plug).errors ≠ []

/-- The conversion records the error where the module's error sweep finds it: on the entry of the
deviation statement (which `toEntry` of the module imports into the module entry). -/
theorem deviate_reported_conversion_partial (env : Env) (fuel : Nat) (root : Mod) (scope : List Stmt) (n : Stmt)
    (visiting : List NodeId) (st : TState) (hkw : n.kw = "deviation")
    (h : ∃ ds ∈ n.all "deviate", deviateKinds.contains ds.arg = false ∨
      ∀ st', (toEntry env (fuel - 1) root (n :: scope) ds visiting st').1.d.errors ≠ []) :
    (toEntry env fuel root scope n visiting st).1.d.errors ≠ [] :=
  toEntry_deviation_errs env fuel root scope n visiting st hkw h

/-- Non-vacuity: `deviation /b:t { deviate shrink; }`. -/
example :
    let n : Stmt := .mk "deviation" true "/b:t" "d.yang" 3 3 [.mk "deviate" true "shrink" "d.yang" 4 5 []]
    n.kw = "deviation" ∧ ∃ ds ∈ n.all "deviate", deviateKinds.contains ds.arg = false := by
  refine ⟨rfl, .mk "deviate" true "shrink" "d.yang" 4 5 [], ?_, by decide⟩
  simp [Stmt.all, Stmt.subs, Stmt.kw]

/-- What is proved of it: an unknown kind never reaches the deviation stage as something to apply
(it is filtered out, so the report has to come — and in the model does come — from the conversion),
and if it did reach `applyOneDeviate` it would be reported there too. -/
theorem deviate_reported_unknown_kind_partial (env : Env) (fuel : Nat) (m : Mod) :
    (∀ x ∈ devsOf env fuel m, ∀ d ∈ x.2, deviateKinds.contains d.1 = true) ∧
    (∀ (opts : Opts) (ms : Stmt) (kind : String) (spec node : Entry) (hp : Bool), kindOf kind = .other →
      (applyOneDeviate opts ms kind spec hp node).2.2 ≠ []) := by
  constructor
  · intro x hx d hd
    simp only [devsOf, List.mem_map] at hx
    obtain ⟨dv, _, rfl⟩ := hx
    simp only [List.mem_filterMap] at hd
    obtain ⟨s, _, hs⟩ := hd
    split at hs
    · next hc => simp only [Option.some.injEq] at hs; subst hs; exact hc
    · cases hs
  · intro opts ms kind spec node hp hk
    rw [applyOneDeviate_eq_staged]
    exact staged_other_errs opts ms kind spec hp node hk

/-! ### ignore_not_supported_option -/

/-- **With the ignore option the target of not-supported is retained and everything else is
unchanged.**  (1) not-supported on a target with a parent returns the node as it is, does not remove
it and reports nothing; (2) for every other kind the option plays no role at all; (3) with the
option no statement whatsoever asks for a removal, so `removeAt` is never called; (4) the
specification agrees: under the option no statement removes the node. -/
theorem ignore_not_supported_option (ms : Stmt) (spec node : Entry) :
    (∀ ic, applyOneDeviate { ignoreCircular := ic, ignoreNotSupported := true } ms "not-supported" spec true node =
      (node, false, [])) ∧
    (∀ (kind : String) (hp : Bool) (o1 o2 : Opts), kind ≠ "not-supported" →
      applyOneDeviate o1 ms kind spec hp node = applyOneDeviate o2 ms kind spec hp node) ∧
    (∀ (opts : Opts) (kind : String) (hp : Bool), opts.ignoreNotSupported = true →
      (applyOneDeviate opts ms kind spec hp node).2.1 = false) ∧
    (∀ (p : NodeProps) (s : DeviateStmt), effect true p s ≠ none) := by
  refine ⟨fun _ => rfl, ?_, ?_, ?_⟩
  · intro kind hp o1 o2 hk
    rw [applyOneDeviate_eq_staged, applyOneDeviate_eq_staged]
    unfold staged
    have : kindOf kind ≠ .notSupported := by
      unfold kindOf
      repeat' split
      all_goals first | (intro h; cases h) | (intro _; contradiction)
    cases hkk : kindOf kind <;> first | rfl | exact absurd hkk this
  · intro opts kind hp ho
    cases hr : (applyOneDeviate opts ms kind spec hp node).2.1 with
    | false => rfl
    | true =>
      have := (applyOneDeviate_remove opts ms kind spec hp node hr).2
      rw [ho] at this; cases this
  · intro p s
    unfold effect
    cases s.kind <;> simp

/-- Without the option not-supported on a target with a parent asks for the removal (and
`deviate_written_order` shows the subtree is then gone). -/
example : (applyOneDeviate {} wModStmt "not-supported" (.mk { kind := .deviate } [] [] []) true wLeafPlain).2.1 = true := by
  decide

end Goyang.Props.C08
