import Goyang.Model.Identity
import Goyang.Spec.Identity
import Goyang.Lemmas.IdentitySurvEq
import Goyang.Spec.IdentityReport
import Goyang.Lemmas.IdentityReports
/-
C11 — each identity lists exactly its transitive derivations, once, in fixed order.
Property theorems only; helper lemmas live in Goyang/Lemmas/Identity*.lean.

Reading aid.
* `Model.Identity.resolveIdentities o r lk vals0` is Go's `ms.resolveIdentities()` (after the
  repairs of D3, D25, nested includes, absent owners) on the loaded set `r`, with the
  `Include.Module` links `lk` that `ms.include` left, starting from `Values` lists `vals0`
  (`fun _ => []` on fresh `Modules`); `o` decides the order of every `range` over a Go map.
  `none` would mean that the recursion budget the model hands to the two recursive walks was too
  small; every theorem below shows `some`.
* `Spec.Identity.graph r` is the identity graph read off the schema: `verts` (one per identity
  statement of a loaded module or of a submodule included — directly or through other submodules —
  by one), `edges` (derived, base), `dangling` (base statements that name no vertex), `orphans`
  (included submodules whose `belongs-to` module is not loaded).  `Derives G j i`: a non-empty
  chain of base statements leads from `j` to `i`.
* `ValuesOK G i l`: `l` holds exactly the `j` with `Derives G j i`, strictly ascending by
  (identity name, module name).  There is exactly one such list (`values_unique`).

Hypotheses that appear, and why.
* `o.Valid`: the oracle visits every map entry exactly once.
* `Linked r lk`: the include statements of every part of the schema are linked.  That is what
  `ms.include` establishes when no include/import fails (`include_establishes_linked`); failing
  ones are reported by `process` as "no such (sub)module" and are outside this property (the runner
  only checks that report).  `process_end_to_end` has neither this hypothesis nor (a) below.
* `WellFormed r` (first group of theorems): (a) the module table holds modules only — an invariant
  of `Modules.add` (`loaded_module_table`);
  (b) no module name contains a colon — otherwise `m:a:b` is ambiguous in Go's string-keyed
  dictionary; DERIVED for texts whose (sub)module names are YANG identifiers
  (`identifier_names_colon_free`); goyang does not check names, and with the illegal names `m:a` /
  `a:b` it does misattribute a derived identity (`colon_in_module_name_misattributes`, replayed on
  the real code);
  (c) no two identity statements of the schema define the same vertex (RFC 7950 §7.18; module
  names unique).  NOT needed by the second group (`…_surviving`, `process_end_to_end_surviving`):
  with duplicates, or with two revisions of one module loaded, Go's dictionary keeps the statement
  registered last, and those theorems speak about `Spec.Identity.survivorGraph`, the identity graph
  of the surviving statements.  Go reports duplicates on no path (identity.go never looks for them).
* `LoadedOK r` (second group): (a), (a') the keys of the module table are distinct
  (`loaded_module_keys_distinct`), (b).  `loaded_ok`: all three hold of identifier-named texts that
  `Modules.add` accepted, so `process_end_to_end_surviving` has no hypothesis on the schema at all.
* `errors_oracle_independent` (the error lists under two map orders are permutations of each other,
  same dictionary, same lists) needs (a') only — no `Linked`, no `WellFormed`.

The specification always answers (`specification_answers`): `graph r`, `registrations r` and
`survivorGraph r` are `some` for EVERY registry — the rounds of `parts` and the step budget of the
explicit-stack traversal always suffice — so the hypotheses `graph r = some G` /
`survivorGraph r = some G` of the theorems only name the graph; `process_end_to_end_loaded` and
`process_end_to_end_total` are the end-to-end theorems without them.
The two groups are connected: when (c) holds, `survivorGraph r` is `graph r` up to the order of its
lists (`survivor_graph_is_graph`: vertices, edges, dangling bases are permutations of each other,
orphans and missing equal; the orders do differ, and without (c) it fails:
`survivor_graph_is_graph_without_c_fails`); lists, errors, derivations, acyclicity do not see the
order (`same_up_to_order_transports`); `process_end_to_end_via_surviving` (the statement of
`process_end_to_end`) and `values_are_derived_via_surviving` are the first-group main theorems
obtained as corollaries of the second group.

The error clause per defect (last section, `errors_are_exactly_the_defects` and corollaries):
`errors_iff` / `identity_errors` only say "the error list is non-empty exactly when a defect
exists".  Proved in addition, for every map order, over the surviving statements (and, under (c),
over `graph r` and all identity statements: `…_one_per_vertex`): EVERY vertex derived from itself
gets a `cycle` error at its own identity statement (`cycle_reported_per_member`; hence one per
cyclic component, a cycle derived from another cycle included: `cycle_reported_per_component`);
every dangling base gets an identity-base-local / identity-base-remote / identity-prefix error at
the module or submodule statement of the text that writes it (`undefined_base_reported`); no other
error carries these classes (`cycle_errors_sound`, `base_errors_sound`); the runner's executable
per-defect verdict `Spec.Identity.judgeReports` answers `holds` on the model's own errors and on
everything `Process` returns (`judgeReports_holds_of_model`, `judgeReports_holds_of_run`,
`judgeReports_holds_of_model_one_per_vertex`), so a `violates` of that verdict on Go's errors is
always a Go-vs-model difference; `error_clause_end_to_end` is all of it from identifier-named
loaded texts without further hypotheses.  Two undefined bases written in one text get two errors
that differ in nothing the comparison sees (position = the module statement, class), so the
statements are per writing text, as the verdict is.

What is not proved here: nothing about what the link stage reports under two map orders beyond its
presence; ownerless submodules (`G.orphans`) are covered by `errors_iff` only (their
no-such-module report at the belongs-to statement is not stated per orphan).  The runner's executable verdict (driver `spec.ident`) now judges schemas with several
statements per vertex too, over `survivorGraph` and the items of the surviving statements; several
such statements within ONE (sub)module text give dump items the driver cannot tell apart, and of
such a group it asks that one item carries the right list (model and Go are compared item by item
in any case).
-/
namespace Goyang.Props.C11
open Goyang.Model Goyang.Model.Identity
open Goyang.Spec.Identity (Reach closure Graph graph Derives Acyclic AllBasesResolve ValuesOK Before
  OneStatementPerVertex refTarget names Vertex survivorGraph registrations survivors isIdentifier)
open Goyang.Lemmas.Identity (LinkOK Hyp RegOK resolveIdentities_graph vtxLt_iff vtxLt_strictTotal
  sorted_unique graph_facts GraphFacts buildDict_spec
  closure_spec walk_nil pairwise_before regOK_of_entries linkOK_of_all acyclic_of_rank
  regOK_of_loadAll linkAll_spec RegOK KeysDistinct keysDistinct_of_loadAll resolve_two_oracles
  resolveIdentities_survivors survivorGraph_facts survivors_nodup derives_left_vertexS IdentifierNames
  noColon_of_identifierNames buildDict_eq dictStep walk_congr foldlM_congr_opt mem_modulesByKey
  GraphPerm survivorGraph_perm_graph graph_some survivorGraph_some registrations_some)
open Goyang.Spec.Identity (undefinedBaseClasses undefinedBases cycleClass locatedAt judgeReports Verdict)
open Goyang.Lemmas.Identity (survivor_dangling mem_undefinedBases locatedAt_at
  judgeReports_holds fullStmts survivors_perm_full)

/-- The include statements of every part of the schema are linked (see the header). -/
abbrev Linked (r : Registry) (lk : Link) : Prop := LinkOK r lk

/-- Well-formedness of the loaded set (see the header). -/
abbrev WellFormed (r : Registry) : Prop := Hyp r

/-! ### the specification's one algorithm means reachability -/

/-- When the breadth-first `closure` of the specification answers, the answer holds exactly what is
reachable from the start set — so `parts` are the (sub)modules reachable from the loaded modules
through include statements, and `derived G i` are the vertices `j` with `Derives G j i`. -/
theorem closure_is_reachability {α : Type} [DecidableEq α] (succ : α → List α) (rounds : Nat)
    (s out : List α) (h : closure succ rounds s = some out) (y : α) :
    y ∈ out ↔ ∃ c ∈ s, Reach succ c y :=
  closure_spec succ rounds s out h y

/-- Go's recursive walk (`addChildren`, `includeClosure`: the result slice is the visited set), on
any graph — cyclic ones included — whose nodes are among the `fuel - 1` elements of `U`: it
terminates and returns exactly the nodes reachable from the start, each once. -/
theorem walk_terminates_and_is_reachability {α : Type} [DecidableEq α] (succ : α → List α) (U : List α)
    (hU : ∀ x ∈ U, ∀ y ∈ succ x, y ∈ U) (fuel : Nat) (r : α) (hr : r ∈ U) (hf : U.length < fuel) :
    ∃ out, walk succ fuel r [] = some out ∧ out.Nodup ∧ ∀ y, y ∈ out ↔ Reach succ r y :=
  walk_nil succ U hU fuel r hr hf

/-! ### the lists -/

/-- There is only one list that satisfies the specification. -/
theorem values_unique (G : Graph) (i : Vertex) (l1 l2 : List Vertex)
    (h1 : ValuesOK G i l1) (h2 : ValuesOK G i l2) : l1 = l2 :=
  sorted_unique vtxLt_strictTotal
    (h1.ascending.imp (fun hab => (vtxLt_iff _ _).mpr hab))
    (h2.ascending.imp (fun hab => (vtxLt_iff _ _).mpr hab))
    (fun a => (h1.exact a).trans (h2.exact a).symm)

/-- For every map order: `resolveIdentities` terminates, and every identity of the schema ends up
with the ascending list of exactly the identities derived from it — whether or not the graph has
cycles or dangling bases. -/
theorem values_are_derived (r : Registry) (lk : Link) (hl : Linked r lk) (hw : WellFormed r)
    (G : Graph) (hG : graph r = some G) (o : Oracle) (ho : o.Valid) :
    ∃ res, resolveIdentities o r lk (fun _ => []) = some res ∧
      ∀ i ∈ G.verts, ValuesOK G i (res.vals i) := by
  obtain ⟨res, hres, h⟩ := resolveIdentities_graph o ho r lk hl hw G hG (fun _ => []) (fun _ _ h => nomatch h)
  exact ⟨res, hres, fun _ hi => h.valuesOK hi⟩

/-- DESIGN 7.11 `values_eq_closure`: acyclic graph, all bases resolve ⇒ for every map order no
error is reported and every identity lists exactly its strict transitive derivations, each once
(strictly ascending), never itself. -/
theorem values_eq_closure (r : Registry) (lk : Link) (hl : Linked r lk) (hw : WellFormed r)
    (G : Graph) (hG : graph r = some G) (hac : Acyclic G) (hall : AllBasesResolve G)
    (o : Oracle) (ho : o.Valid) :
    ∃ res, resolveIdentities o r lk (fun _ => []) = some res ∧ res.errs = [] ∧
      ∀ i ∈ G.verts, ValuesOK G i (res.vals i) ∧ (res.vals i).Nodup ∧ i ∉ res.vals i := by
  obtain ⟨res, hres, h⟩ := resolveIdentities_graph o ho r lk hl hw G hG (fun _ => []) (fun _ _ h => nomatch h)
  exact ⟨res, hres, h.closed hac hall⟩

/-- The result does not depend on the order in which Go walks its maps: same lists for every
identity (and for everything else: empty), and errors under one order iff errors under the other. -/
theorem values_oracle_independent (r : Registry) (lk : Link) (hl : Linked r lk) (hw : WellFormed r)
    (G : Graph) (hG : graph r = some G) (o1 o2 : Oracle) (h1 : o1.Valid) (h2 : o2.Valid) :
    ∃ res1 res2, resolveIdentities o1 r lk (fun _ => []) = some res1 ∧
      resolveIdentities o2 r lk (fun _ => []) = some res2 ∧
      res1.vals = res2.vals ∧ (res1.errs = [] ↔ res2.errs = []) := by
  obtain ⟨res1, hr1, g1⟩ := resolveIdentities_graph o1 h1 r lk hl hw G hG (fun _ => []) (fun _ _ h => nomatch h)
  obtain ⟨res2, hr2, g2⟩ := resolveIdentities_graph o2 h2 r lk hl hw G hG (fun _ => []) (fun _ _ h => nomatch h)
  exact ⟨res1, res2, hr1, hr2, g1.unique g2⟩

/-- A second `Process` on the same `Modules`: even if it started from the lists the first one left
(the AST mutation persists) and appended the direct children again, the result would be the same.
(Since commit 41df8a9 Go clears the lists first, which is the case `vals0 = fun _ => []` directly;
the runner processes every source set twice on one `Modules` and compares.) -/
theorem second_process_same (r : Registry) (lk : Link) (hl : Linked r lk) (hw : WellFormed r)
    (G : Graph) (hG : graph r = some G) (o1 o2 : Oracle) (h1 : o1.Valid) (h2 : o2.Valid) :
    ∃ res1 res2, resolveIdentities o1 r lk (fun _ => []) = some res1 ∧
      resolveIdentities o2 r lk res1.vals = some res2 ∧
      res2.vals = res1.vals ∧ (res2.errs = [] ↔ res1.errs = []) := by
  obtain ⟨res1, hr1, g1⟩ := resolveIdentities_graph o1 h1 r lk hl hw G hG (fun _ => []) (fun _ _ h => nomatch h)
  obtain ⟨res2, hr2, g2⟩ := resolveIdentities_graph o2 h2 r lk hl hw G hG res1.vals g1.upper
  exact ⟨res1, res2, hr1, hr2, g2.unique g1⟩

/-! ### errors -/

/-- DESIGN 7.11 `identity_errors`, both directions: `resolveIdentities` reports an error exactly
when a base statement names no identity, an included submodule has no loaded owner, or some
identity is derived from itself — under every map order. -/
theorem errors_iff (r : Registry) (lk : Link) (hl : Linked r lk) (hw : WellFormed r)
    (G : Graph) (hG : graph r = some G) (o : Oracle) (ho : o.Valid) :
    ∃ res, resolveIdentities o r lk (fun _ => []) = some res ∧
      (res.errs ≠ [] ↔ (G.dangling ≠ [] ∨ G.orphans ≠ [] ∨ ∃ v, Derives G v v)) := by
  obtain ⟨res, hres, h⟩ := resolveIdentities_graph o ho r lk hl hw G hG (fun _ => []) (fun _ _ h => nomatch h)
  exact ⟨res, hres, h.errs_ne⟩

/-- DESIGN 7.11 `identity_errors`: an undefined base or a derivation cycle is reported. -/
theorem identity_errors (r : Registry) (lk : Link) (hl : Linked r lk) (hw : WellFormed r)
    (G : Graph) (hG : graph r = some G) (hbad : G.dangling ≠ [] ∨ ¬ Acyclic G) (o : Oracle) (ho : o.Valid) :
    ∃ res, resolveIdentities o r lk (fun _ => []) = some res ∧ res.errs ≠ [] := by
  obtain ⟨res, hres, h⟩ := errors_iff r lk hl hw G hG o ho
  refine ⟨res, hres, h.mpr ?_⟩
  rcases hbad with h | h
  · exact Or.inl h
  · right; right
    unfold Acyclic at h
    exact Classical.not_forall_not.mp h

/-! ### identityref -/

/-- DESIGN 7.11 `identityref_base`: an identityref type written in a loaded (sub)module `m`, with
base statement `b`, resolves exactly when `b` names a vertex of the graph, and then
`YangType.IdentityBase` is that vertex's dictionary entry — so the type sees the list of
`values_are_derived`.  (Every dictionary entry is a vertex and vice versa.) -/
theorem identityref_base (r : Registry) (lk : Link) (hl : Linked r lk) (hw : WellFormed r)
    (G : Graph) (hG : graph r = some G) (o : Oracle) (ho : o.Valid) :
    ∃ res, resolveIdentities o r lk (fun _ => []) = some res ∧
      (∀ v, (∃ e ∈ res.dict, e.vtx = v) ↔ v ∈ G.verts) ∧
      ∀ m ∈ r.mods, ∀ (ty b : Stmt), ty.one? "base" = some b → ∀ v,
        (∃ e, identityrefBase r res.dict m ty = .ok e ∧ e ∈ res.dict ∧ e.vtx = v) ↔
          refTarget r G m b.arg = some v := by
  obtain ⟨res, hres, h⟩ := resolveIdentities_graph o ho r lk hl hw G hG (fun _ => []) (fun _ _ h => nomatch h)
  exact ⟨res, hres, h.dict, h.identityref⟩

/-- An identityref without a base statement is an error. -/
theorem identityref_needs_base (r : Registry) (dict : Dict) (m : Mod) (ty : Stmt)
    (h : ty.one? "base" = none) : ∃ err, identityrefBase r dict m ty = .error err := by
  unfold identityrefBase
  simp [h]

/-! ### end to end: load, link, resolve -/

/-- `Modules.add` keeps modules, and only modules, in the module table: part (a) of `WellFormed`
holds of whatever was loaded. -/
theorem loaded_module_table (files : List SrcFile) (r : Registry) (h : loadAll files = .ok r) :
    ∀ k m, r.getModule k = some m → m.isSub = false :=
  regOK_of_loadAll h

/-- `ms.include` over all modules (any map order) never exhausts the recursion budget, and when it
reports no error the hypothesis `Linked` of the theorems above holds of the links it leaves. -/
theorem include_establishes_linked (r : Registry) (o : Oracle) (ho : o.Valid) :
    ∃ lk errs, linkAll o r = some (lk, errs) ∧ (errs = [] → Linked r lk) :=
  linkAll_spec o ho r

theorem run_cases (r : Registry) (o : Oracle) (ho : o.Valid) :
    (∃ errs, run o r = .linkFailed errs ∧ errs ≠ []) ∨
    ∃ lk, Linked r lk ∧ ∀ res, resolveIdentities o r lk (fun _ => []) = some res →
      run o r = .done res (identityrefLeaves r res.dict) := by
  obtain ⟨lk, lerrs, hlink, hlinked⟩ := linkAll_spec o ho r
  unfold run
  simp only [hlink]
  cases lerrs with
  | cons e es => exact Or.inl ⟨e :: es, by simp, by simp⟩
  | nil => exact Or.inr ⟨lk, hlinked rfl, fun res hres => by simp [hres]⟩

/-- The whole of what `Process` does for identities, from the loaded texts, for every map order:
either an include/import is reported missing, or every identity of the schema gets the ascending
list of exactly its derived identities and an error is reported exactly when a base names no
identity, an included submodule has no loaded owner, or an identity is derived from itself.  The
model never runs out of recursion budget.  (Remaining hypotheses: module names without colon,
one identity statement per vertex.) -/
theorem process_end_to_end (files : List SrcFile) (r : Registry) (hload : loadAll files = .ok r)
    (hnc : ∀ m ∈ r.mods, ':' ∉ m.name.toList) (G : Graph) (hG : graph r = some G)
    (hone : OneStatementPerVertex G) (o : Oracle) (ho : o.Valid) :
    (∃ errs, run o r = .linkFailed errs ∧ errs ≠ []) ∨
    (∃ res, run o r = .done res (identityrefLeaves r res.dict) ∧
      (∀ i ∈ G.verts, ValuesOK G i (res.vals i)) ∧
      (res.errs ≠ [] ↔ (G.dangling ≠ [] ∨ G.orphans ≠ [] ∨ ∃ v, Derives G v v))) := by
  have hw : WellFormed r := ⟨regOK_of_loadAll hload, hnc, fun G' hG' => by
    rw [hG] at hG'; cases hG'; exact hone⟩
  rcases run_cases r o ho with h | ⟨lk, hl, hrun⟩
  · exact Or.inl h
  · obtain ⟨res, hres, h⟩ := resolveIdentities_graph o ho r lk hl hw G hG (fun _ => []) (fun _ _ h => nomatch h)
    exact Or.inr ⟨res, hrun res hres, fun _ hi => h.valuesOK hi, h.errs_ne⟩

/-! ### independence of the map order, without hypotheses on the schema -/

/-- The keys of `ms.Modules` are distinct — it is a Go map; an invariant of `Modules.add`
(`loaded_module_keys_distinct`).  Then `sort.Strings(keys)` has one possible result. -/
abbrev ModuleKeysDistinct (r : Registry) : Prop := KeysDistinct r

/-- `Modules.add` keeps the keys of the module table distinct. -/
theorem loaded_module_keys_distinct (files : List SrcFile) (r : Registry) (h : loadAll files = .ok r) :
    ModuleKeysDistinct r :=
  keysDistinct_of_loadAll h

/-- The reported errors do not depend on the order in which Go walks its maps: under any two
admissible oracles `resolveIdentities` answers, builds the same dictionary, leaves the same lists,
and the two error lists are permutations of each other — the same errors, each the same number of
times; in particular the same set.  No hypothesis on the schema (duplicates, cycles, dangling
bases, colons, unlinked includes: all allowed); the registry only has to be one with distinct
table keys, as every loaded one is. -/
theorem errors_oracle_independent (r : Registry) (lk : Link) (hk : ModuleKeysDistinct r)
    (o1 o2 : Oracle) (h1 : o1.Valid) (h2 : o2.Valid) :
    ∃ res1 res2, resolveIdentities o1 r lk (fun _ => []) = some res1 ∧
      resolveIdentities o2 r lk (fun _ => []) = some res2 ∧
      res1.dict = res2.dict ∧ res1.vals = res2.vals ∧
      res1.errs.Perm res2.errs ∧ (∀ e, e ∈ res1.errs ↔ e ∈ res2.errs) := by
  obtain ⟨res1, res2, hr1, hr2, hd, hv, hp⟩ := resolve_two_oracles r lk hk o1 o2 h1 h2
  exact ⟨res1, res2, hr1, hr2, hd, hv, hp, fun e => hp.mem_iff⟩

/-- `resolveIdentities` reads the link state only through the include closures of the loaded
modules: two link states that both have every include of the schema linked (what `ms.include`
leaves under two map orders) give the same result. -/
theorem links_irrelevant (r : Registry) (lk1 lk2 : Link) (hl1 : Linked r lk1) (hl2 : Linked r lk2)
    (o : Oracle) (ho : o.Valid) (vals0 : Vtx → List Vtx) :
    resolveIdentities o r lk1 vals0 = resolveIdentities o r lk2 vals0 := by
  have hb : buildDict o r lk1 = buildDict o r lk2 := by
    rw [buildDict_eq, buildDict_eq]
    apply foldlM_congr_opt
    intro acc md hmd
    have hmd' := (mem_modulesByKey o ho r md).mp hmd
    unfold dictStep
    have : walk (includeSucc r lk1) (r.mods.length + 1) md.seq [] =
        walk (includeSucc r lk2) (r.mods.length + 1) md.seq [] := by
      apply walk_congr
      intro x hx
      have hin : Goyang.Lemmas.Identity.InSchema r x := by
        refine ⟨md, hmd', ?_⟩
        exact (Goyang.Lemmas.Identity.reach_congr (fun y hy => hl2 y ⟨md, hmd', hy⟩) x).mp hx
      rw [hl1 x hin, hl2 x hin]
    rw [this]
  unfold resolveIdentities
  rw [hb]

/-- What `Process` reports for identities (errors of `resolveIdentities` and of the typedefs, else
those of the identityref leaves) is, as a multiset, the same under any two map orders — also when
the two runs of `ms.include` left different link states. -/
theorem process_errors_oracle_independent (r : Registry) (lk1 lk2 : Link) (hl1 : Linked r lk1)
    (hl2 : Linked r lk2) (hk : ModuleKeysDistinct r) (o1 o2 : Oracle) (h1 : o1.Valid) (h2 : o2.Valid) :
    ∃ res1 res2, resolveIdentities o1 r lk1 (fun _ => []) = some res1 ∧
      resolveIdentities o2 r lk2 (fun _ => []) = some res2 ∧
      res1.vals = res2.vals ∧ identityrefLeaves r res1.dict = identityrefLeaves r res2.dict ∧
      (processErrs r res1 (identityrefLeaves r res1.dict)).Perm
        (processErrs r res2 (identityrefLeaves r res2.dict)) := by
  obtain ⟨res1, res2, hr1, hr2, hd, hv, hp, _⟩ := errors_oracle_independent r lk1 hk o1 o2 h1 h2
  rw [links_irrelevant r lk1 lk2 hl1 hl2 o2 h2] at hr2
  refine ⟨res1, res2, hr1, hr2, hv, by rw [hd], ?_⟩
  unfold processErrs
  simp only
  rw [← hd]
  have hs : (res1.errs ++ typedefErrs r res1.dict).Perm (res2.errs ++ typedefErrs r res1.dict) :=
    hp.append_right _
  have he : (res1.errs ++ typedefErrs r res1.dict).isEmpty = (res2.errs ++ typedefErrs r res1.dict).isEmpty := by
    rw [Bool.eq_iff_iff, List.isEmpty_iff, List.isEmpty_iff]
    exact Goyang.Lemmas.Identity.perm_nil_iff hs
  rw [he]
  split
  · exact List.Perm.refl _
  · exact hs

/-! ### schemas with several identity statements for one vertex

RFC 7950 rules them out, goyang loads them (two identity statements of one name in a module and
its submodules; several revisions of one module side by side).  Go's dictionary then keeps the
statement registered last; `Spec.Identity.survivorGraph` is the identity graph of these surviving
statements (registration order: module-table keys ascending, under a key the module and its
includes depth first, within a (sub)module source order).  The theorems above, over that graph,
without hypothesis (c). -/

/-- What the theorems over the surviving statements ask of the loaded set: (a) the module table
holds modules only, (a') its keys are distinct, (b) no module name contains a colon.  (a) and (a')
hold of everything `Modules.add` built, (b) when the names are YANG identifiers
(`loaded_ok`). -/
structure LoadedOK (r : Registry) : Prop where
  modulesOnly : ∀ k m, r.getModule k = some m → m.isSub = false
  keys : ModuleKeysDistinct r
  noColon : ∀ m ∈ r.mods, ':' ∉ m.name.toList

/-- The surviving statements define each vertex once: `survivorGraph` always is a graph in the
sense of the main theorems. -/
theorem survivor_graph_one_per_vertex (r : Registry) (G : Graph) (hG : survivorGraph r = some G) :
    OneStatementPerVertex G := by
  obtain ⟨ps, R, _, sf⟩ := survivorGraph_facts hG
  unfold OneStatementPerVertex
  rw [sf.vertsEq]
  exact survivors_nodup R

/-- `values_are_derived` for schemas with any number of statements per vertex: for every map
order, every vertex ends up with the ascending list of exactly the vertices derived from it through
base statements of SURVIVING statements; the dictionary holds exactly the surviving vertices. -/
theorem values_are_derived_surviving (r : Registry) (lk : Link) (hl : Linked r lk) (hw : LoadedOK r)
    (G : Graph) (hG : survivorGraph r = some G) (o : Oracle) (ho : o.Valid) :
    ∃ res, resolveIdentities o r lk (fun _ => []) = some res ∧
      (∀ v, (∃ e ∈ res.dict, e.vtx = v) ↔ v ∈ G.verts) ∧
      (∀ i ∈ G.verts, ValuesOK G i (res.vals i)) ∧ (∀ x, x ∉ G.verts → res.vals x = []) := by
  obtain ⟨res, hres, h⟩ := resolveIdentities_survivors o ho r lk hl hw.modulesOnly hw.keys hw.noColon G hG
  exact ⟨res, hres, h.dict, fun _ hi => h.valuesOK hi, h.outside⟩

/-- `values_eq_closure` over the surviving statements: their graph acyclic, all their bases
resolve ⇒ no error, and every vertex lists exactly its strict transitive derivations, each once,
never itself. -/
theorem values_eq_closure_surviving (r : Registry) (lk : Link) (hl : Linked r lk) (hw : LoadedOK r)
    (G : Graph) (hG : survivorGraph r = some G) (hac : Acyclic G) (hall : AllBasesResolve G)
    (o : Oracle) (ho : o.Valid) :
    ∃ res, resolveIdentities o r lk (fun _ => []) = some res ∧ res.errs = [] ∧
      ∀ i ∈ G.verts, ValuesOK G i (res.vals i) ∧ (res.vals i).Nodup ∧ i ∉ res.vals i := by
  obtain ⟨res, hres, h⟩ := resolveIdentities_survivors o ho r lk hl hw.modulesOnly hw.keys hw.noColon G hG
  exact ⟨res, hres, h.closed hac hall⟩

/-- `errors_iff` over the surviving statements: an error is reported exactly when a base
statement of a surviving statement names no surviving vertex, an included submodule has no loaded
owner, or a surviving vertex is derived from itself.  A dangling base or a cycle that exists only
through shadowed statements is NOT reported. -/
theorem errors_iff_surviving (r : Registry) (lk : Link) (hl : Linked r lk) (hw : LoadedOK r)
    (G : Graph) (hG : survivorGraph r = some G) (o : Oracle) (ho : o.Valid) :
    ∃ res, resolveIdentities o r lk (fun _ => []) = some res ∧
      (res.errs ≠ [] ↔ (G.dangling ≠ [] ∨ G.orphans ≠ [] ∨ ∃ v, Derives G v v)) := by
  obtain ⟨res, hres, h⟩ := resolveIdentities_survivors o ho r lk hl hw.modulesOnly hw.keys hw.noColon G hG
  exact ⟨res, hres, h.errs_ne⟩

/-- `identityref_base` over the surviving statements: an identityref type written in a loaded
(sub)module `m`, with base statement `b`, resolves exactly when `b` names a surviving vertex, and
then `YangType.IdentityBase` is that vertex's dictionary entry (the surviving statement). -/
theorem identityref_base_surviving (r : Registry) (lk : Link) (hl : Linked r lk) (hw : LoadedOK r)
    (G : Graph) (hG : survivorGraph r = some G) (o : Oracle) (ho : o.Valid) :
    ∃ res, resolveIdentities o r lk (fun _ => []) = some res ∧
      ∀ m ∈ r.mods, ∀ (ty b : Stmt), ty.one? "base" = some b → ∀ v,
        (∃ e, identityrefBase r res.dict m ty = .ok e ∧ e ∈ res.dict ∧ e.vtx = v) ↔
          refTarget r G m b.arg = some v := by
  obtain ⟨res, hres, h⟩ := resolveIdentities_survivors o ho r lk hl hw.modulesOnly hw.keys hw.noColon G hG
  exact ⟨res, hres, h.identityref⟩

/-! ### hypothesis (b): module names without colon -/

/-- The name of every module and submodule handed to `Modules.add` is a YANG identifier
(RFC 7950 §6.2: a letter or `_`, then letters, digits, `_`, `-`, `.`).  Every legal YANG text
satisfies this; goyang's parser and AST builder do not check it
(`colon_in_module_name_misattributes`). -/
abbrev IdentifierNamed (files : List SrcFile) : Prop := IdentifierNames files

/-- Hypothesis (b) is derived: texts whose (sub)module names are identifiers load into a registry
without a colon in any module name. -/
theorem identifier_names_colon_free (files : List SrcFile) (r : Registry) (h : loadAll files = .ok r)
    (hid : IdentifierNamed files) : ∀ m ∈ r.mods, ':' ∉ m.name.toList :=
  noColon_of_identifierNames h hid

/-- Everything `LoadedOK` asks holds of identifier-named texts that `Modules.add` accepted. -/
theorem loaded_ok (files : List SrcFile) (r : Registry) (h : loadAll files = .ok r)
    (hid : IdentifierNamed files) : LoadedOK r :=
  ⟨regOK_of_loadAll h, keysDistinct_of_loadAll h, noColon_of_identifierNames h hid⟩

/-- What `Process` does for identities on a registry with `LoadedOK`, over the surviving
statements (the core of `process_end_to_end_surviving`, without the loading step). -/
theorem process_surviving (r : Registry) (hw : LoadedOK r) (G : Graph) (hG : survivorGraph r = some G)
    (o : Oracle) (ho : o.Valid) :
    (∃ errs, run o r = .linkFailed errs ∧ errs ≠ []) ∨
    (∃ res, run o r = .done res (identityrefLeaves r res.dict) ∧
      (∀ i ∈ G.verts, ValuesOK G i (res.vals i)) ∧
      (res.errs ≠ [] ↔ (G.dangling ≠ [] ∨ G.orphans ≠ [] ∨ ∃ v, Derives G v v))) := by
  rcases run_cases r o ho with h | ⟨lk, hl, hrun⟩
  · exact Or.inl h
  · obtain ⟨res, hres, h⟩ := resolveIdentities_survivors o ho r lk hl hw.modulesOnly hw.keys hw.noColon G hG
    exact Or.inr ⟨res, hrun res hres, fun _ hi => h.valuesOK hi, h.errs_ne⟩

/-- `process_end_to_end` without hypotheses (b) and (c): from identifier-named texts, for every
map order, either an include/import is reported missing, or every surviving vertex gets the
ascending list of exactly what is derived from it among the surviving statements, and an error is
reported exactly when one of them has a base that names no surviving vertex, an included submodule
has no loaded owner, or a surviving vertex is derived from itself. -/
theorem process_end_to_end_surviving (files : List SrcFile) (r : Registry) (hload : loadAll files = .ok r)
    (hid : IdentifierNamed files) (G : Graph) (hG : survivorGraph r = some G) (o : Oracle) (ho : o.Valid) :
    (∃ errs, run o r = .linkFailed errs ∧ errs ≠ []) ∨
    (∃ res, run o r = .done res (identityrefLeaves r res.dict) ∧
      (∀ i ∈ G.verts, ValuesOK G i (res.vals i)) ∧
      (res.errs ≠ [] ↔ (G.dangling ≠ [] ∨ G.orphans ≠ [] ∨ ∃ v, Derives G v v))) :=
  process_surviving r (loaded_ok files r hload hid) G hG o ho

/-! ### non-vacuity: a diamond across two modules, one corner in a sub-submodule

```
module a    { prefix a; include sa; identity top; identity left { base top; } }
submodule sa { belongs-to a { prefix a; } include sb; }
submodule sb { belongs-to a { prefix x; } identity deep { base x:left; } }
module b    { prefix b; import a { prefix pa; }
              identity right { base pa:top; } identity bottom { base pa:left; base right; }
              leaf l { type identityref { base pa:top; } } }
```
loaded in the order b, sb, a, sa.  All hypotheses of the theorems hold of it, and the model computes
`a:top ↦ [b:bottom, a:deep, a:left, b:right]` under two different map orders.  A second example (a
two-cycle through both modules plus a dangling base) shows the hypotheses of `identity_errors`. -/

def exStmt (kw arg : String) (subs : List Stmt := []) : Stmt := .mk kw true arg "x.yang" 1 1 subs

def exModA : Stmt := exStmt "module" "a" [exStmt "namespace" "urn:a", exStmt "prefix" "a", exStmt "include" "sa",
  exStmt "identity" "top", exStmt "identity" "left" [exStmt "base" "top"]]
def exSubSA : Stmt := exStmt "submodule" "sa" [exStmt "belongs-to" "a" [exStmt "prefix" "a"], exStmt "include" "sb"]
def exSubSB : Stmt := exStmt "submodule" "sb" [exStmt "belongs-to" "a" [exStmt "prefix" "x"],
  exStmt "identity" "deep" [exStmt "base" "x:left"]]
def exTypeL : Stmt := exStmt "type" "identityref" [exStmt "base" "pa:top"]
def exModB : Stmt := exStmt "module" "b" [exStmt "namespace" "urn:b", exStmt "prefix" "b", exStmt "import" "a" [exStmt "prefix" "pa"],
  exStmt "identity" "right" [exStmt "base" "pa:top"],
  exStmt "identity" "bottom" [exStmt "base" "pa:left", exStmt "base" "right"],
  exStmt "leaf" "l" [exTypeL]]

def exLoad (files : List SrcFile) : Registry :=
  match loadAll files with
  | .ok r => r
  | .error _ => {}

def exR : Registry := exLoad [⟨"b", [exModB]⟩, ⟨"sb", [exSubSB]⟩, ⟨"a", [exModA]⟩, ⟨"sa", [exSubSA]⟩]

def exLink (r : Registry) : Link :=
  match linkAll (Oracle.ofNat 0) r with
  | some (lk, _) => lk
  | none => {}

/-- The graph the specification reads off `exR`. -/
def exG : Graph :=
  { verts := [("b", "right"), ("b", "bottom"), ("a", "top"), ("a", "left"), ("a", "deep")]
    edges := [(("b", "right"), ("a", "top")), (("b", "bottom"), ("a", "left")), (("b", "bottom"), ("b", "right")),
      (("a", "left"), ("a", "top")), (("a", "deep"), ("a", "left"))]
    dangling := [], orphans := [], missing := [] }

deriving instance DecidableEq for Graph

instance (G : Graph) : Decidable (OneStatementPerVertex G) := inferInstanceAs (Decidable G.verts.Nodup)

/-- How the examples below read a recorded evaluation: the result exists and has the properties. -/
theorem of_any {α : Type} {x : Option α} {p : α → Prop} [DecidablePred p]
    (h : x.any (fun a => decide (p a)) = true) : ∃ a, x = some a ∧ p a := by
  cases x with
  | none => cases h
  | some a => exact ⟨a, rfl, of_decide_eq_true h⟩

theorem example_graph : graph exR = some exG := by decide +kernel
example : graph exR = some exG := example_graph
example : (linkAll (Oracle.ofNat 0) exR).map (·.2) = some [] := by decide +kernel
theorem example_linked : Linked exR (exLink exR) := linkOK_of_all (by decide +kernel)
theorem example_wellFormed : WellFormed exR :=
  have ⟨hmodules, hnames, hverts⟩ : (∀ kv ∈ exR.modules, ∀ m, exR.byId kv.2 = some m → m.isSub = false) ∧
      (∀ m ∈ exR.mods, ':' ∉ m.name.toList) ∧ exG.verts.Nodup := by decide +kernel
  ⟨regOK_of_entries hmodules, hnames, fun G hG => by
    rw [example_graph] at hG
    cases hG
    exact hverts⟩
theorem example_acyclic : Acyclic exG :=
  acyclic_of_rank (fun v => if v.2 == "top" then 0 else if v.2 == "left" then 1 else if v.2 == "bottom" then 3 else 2)
    (by decide +kernel)
example : AllBasesResolve exG := ⟨rfl, rfl⟩
example : (Oracle.ofNat 0).order (α := Nat) 3 [1, 2, 3] ≠ (Oracle.ofNat 5).order 3 [1, 2, 3] := by decide

/-- What the model computes on the example, under both map orders. -/
theorem example_resolved : ∀ n ∈ [0, 5],
    (resolveIdentities (Oracle.ofNat n) exR (exLink exR) (fun _ => [])).any (fun res =>
      res.vals ("a", "top") = [("b", "bottom"), ("a", "deep"), ("a", "left"), ("b", "right")] ∧
      res.vals ("a", "left") = [("b", "bottom"), ("a", "deep")] ∧
      res.vals ("b", "right") = [("b", "bottom")] ∧ res.vals ("b", "bottom") = [] ∧ res.errs.length = 0 ∧
      (exR.byId 0).map (fun b => (identityrefBase exR res.dict b exTypeL).toOption.map (·.vtx)) =
        some (some ("a", "top"))) = true := by decide +kernel

/-- What the model computes for the example, under two map orders. -/
example : ((resolveIdentities (Oracle.ofNat 0) exR (exLink exR) (fun _ => [])).map fun res =>
      (res.vals ("a", "top"), res.vals ("a", "left"))) =
    some ([("b", "bottom"), ("a", "deep"), ("a", "left"), ("b", "right")], [("b", "bottom"), ("a", "deep")]) := by
  obtain ⟨res, hres, h1, h2, -⟩ := of_any (example_resolved 0 (by decide))
  rw [hres, Option.map_some, h1, h2]
example : ((resolveIdentities (Oracle.ofNat 0) exR (exLink exR) (fun _ => [])).map fun res =>
      (res.vals ("b", "right"), res.vals ("b", "bottom"), res.errs.length)) =
    some ([("b", "bottom")], [], 0) := by
  obtain ⟨res, hres, -, -, h3, h4, h5, -⟩ := of_any (example_resolved 0 (by decide))
  rw [hres, Option.map_some, h3, h4, h5]
example : ((resolveIdentities (Oracle.ofNat 5) exR (exLink exR) (fun _ => [])).map fun res =>
      (res.vals ("a", "top"), res.vals ("a", "left"))) =
    some ([("b", "bottom"), ("a", "deep"), ("a", "left"), ("b", "right")], [("b", "bottom"), ("a", "deep")]) := by
  obtain ⟨res, hres, h1, h2, -⟩ := of_any (example_resolved 5 (by decide))
  rw [hres, Option.map_some, h1, h2]
example : ((resolveIdentities (Oracle.ofNat 5) exR (exLink exR) (fun _ => [])).map fun res =>
      (res.vals ("b", "right"), res.vals ("b", "bottom"), res.errs.length)) =
    some ([("b", "bottom")], [], 0) := by
  obtain ⟨res, hres, -, -, h3, h4, h5, -⟩ := of_any (example_resolved 5 (by decide))
  rw [hres, Option.map_some, h3, h4, h5]
/-- The identityref leaf of module `b` points at `a:top`. -/
example : ((resolveIdentities (Oracle.ofNat 0) exR (exLink exR) (fun _ => [])).bind fun res =>
      (exR.byId 0).map fun b => (identityrefBase exR res.dict b exTypeL).toOption.map (·.vtx)) = some (some ("a", "top")) := by
  obtain ⟨res, hres, -, -, -, -, -, h⟩ := of_any (example_resolved 0 (by decide))
  rw [hres, Option.bind_some, h]
example : (exR.byId 0).map (fun b => refTarget exR exG b "pa:top") = some (some ("a", "top")) := by decide +kernel

/-- A two-cycle through both modules, and a dangling base. -/
def exModC : Stmt := exStmt "module" "c" [exStmt "namespace" "urn:c", exStmt "prefix" "c", exStmt "import" "d" [exStmt "prefix" "d"],
  exStmt "identity" "x" [exStmt "base" "d:y"], exStmt "identity" "z" [exStmt "base" "nosuch"]]
def exModD : Stmt := exStmt "module" "d" [exStmt "namespace" "urn:d", exStmt "prefix" "d", exStmt "import" "c" [exStmt "prefix" "c"],
  exStmt "identity" "y" [exStmt "base" "c:x"]]
def exR2 : Registry := exLoad [⟨"c", [exModC]⟩, ⟨"d", [exModD]⟩]
def exG2 : Graph :=
  { verts := [("c", "x"), ("c", "z"), ("d", "y")]
    edges := [(("c", "x"), ("d", "y")), (("d", "y"), ("c", "x"))]
    dangling := [(("c", "z"), "nosuch")], orphans := [], missing := [] }
theorem example2_graph : graph exR2 = some exG2 := by decide +kernel
example : graph exR2 = some exG2 := example2_graph
example : Linked exR2 (exLink exR2) := linkOK_of_all (by decide +kernel)
example : WellFormed exR2 :=
  have ⟨hmodules, hnames, hverts⟩ : (∀ kv ∈ exR2.modules, ∀ m, exR2.byId kv.2 = some m → m.isSub = false) ∧
      (∀ m ∈ exR2.mods, ':' ∉ m.name.toList) ∧ exG2.verts.Nodup := by decide +kernel
  ⟨regOK_of_entries hmodules, hnames, fun G hG => by
    rw [example2_graph] at hG
    cases hG
    exact hverts⟩
example : exG2.dangling ≠ [] := by decide
example : ¬ Acyclic exG2 := fun h =>
  h ("c", "x") (Derives.step (k := ("d", "y")) (by decide) (Derives.base (by decide)))
example : ((resolveIdentities (Oracle.ofNat 0) exR2 (exLink exR2) (fun _ => [])).map fun res =>
      (res.vals ("c", "x"), res.errs.map (·.cls))) =
    some ([("c", "x"), ("d", "y")], ["identity-base-local", "cycle", "cycle"]) := by decide +kernel


/-! ### non-vacuity of the new theorems -/

/-- The keys of `exR`'s module table are distinct; its names are identifiers. -/
theorem example_keysDistinct : ModuleKeysDistinct exR := by decide +kernel
example : ModuleKeysDistinct exR := example_keysDistinct
/-- `exLoad` is the registry `loadAll` returns when it accepts the texts. -/
def exLoads (files : List SrcFile) : Bool :=
  match loadAll files with
  | .ok _ => true
  | .error _ => false
theorem exLoad_ok (files : List SrcFile) (h : exLoads files = true) : loadAll files = .ok (exLoad files) := by
  unfold exLoads at h
  unfold exLoad
  cases hl : loadAll files with
  | ok r => rfl
  | error e => simp [hl] at h
theorem example_identifierNamed :
    IdentifierNamed [⟨"b", [exModB]⟩, ⟨"sb", [exSubSB]⟩, ⟨"a", [exModA]⟩, ⟨"sa", [exSubSA]⟩] := by decide +kernel
example : loadAll [⟨"b", [exModB]⟩, ⟨"sb", [exSubSB]⟩, ⟨"a", [exModA]⟩, ⟨"sa", [exSubSA]⟩] = .ok exR :=
  exLoad_ok _ (by decide +kernel)
/-- On a schema with one statement per vertex every statement survives: same vertices and edges
as `graph` (listed in registration order). -/
theorem example_survivorGraph : survivorGraph exR = some
    { exG with
      verts := [("a", "top"), ("a", "left"), ("a", "deep"), ("b", "right"), ("b", "bottom")]
      edges := [(("a", "left"), ("a", "top")), (("a", "deep"), ("a", "left")), (("b", "right"), ("a", "top")),
        (("b", "bottom"), ("a", "left")), (("b", "bottom"), ("b", "right"))] } := by decide +kernel
example : (survivorGraph exR).map (fun G => (G.verts, G.dangling, G.orphans)) =
    some ([("a", "top"), ("a", "left"), ("a", "deep"), ("b", "right"), ("b", "bottom")], [], []) := by
  rw [example_survivorGraph]; rfl

/-- Two revisions of module `a` side by side, and module `b` with two statements `identity dup`:
```
module a { revision 2019-01-01; identity top; identity old { base top; } }
module a { revision 2021-01-01; identity top; identity new { base top; } }
module b { import a { prefix pa; } identity dup { base pa:top; } identity dup; }
```
Table keys ascending: `a` (→ 2021), `a@2019-01-01`, `a@2021-01-01`, `b`.  Survivors: `top` and `new`
of revision 2021, `old` of revision 2019, the SECOND `dup` (which has no base).  Go lists
`a:top ↦ [new, old]` through the 2021 statement and nothing for `b:dup`'s first statement (replayed
on the real code: /tmp probe, both load orders). -/
def exStmtAt (line : Nat) (kw arg : String) (subs : List Stmt := []) : Stmt := .mk kw true arg "x.yang" line 1 subs
def exModA19 : Stmt := exStmt "module" "a" [exStmt "namespace" "urn:a", exStmt "prefix" "a", exStmt "revision" "2019-01-01",
  exStmtAt 19 "identity" "top", exStmtAt 19 "identity" "old" [exStmt "base" "top"]]
def exModA21 : Stmt := exStmt "module" "a" [exStmt "namespace" "urn:a", exStmt "prefix" "a", exStmt "revision" "2021-01-01",
  exStmtAt 21 "identity" "top", exStmtAt 21 "identity" "new" [exStmt "base" "top"]]
def exModDup : Stmt := exStmt "module" "b" [exStmt "namespace" "urn:b", exStmt "prefix" "b", exStmt "import" "a" [exStmt "prefix" "pa"],
  exStmtAt 1 "identity" "dup" [exStmt "base" "pa:top"], exStmtAt 2 "identity" "dup"]
def exFiles3 : List SrcFile := [⟨"a19", [exModA19]⟩, ⟨"a21", [exModA21]⟩, ⟨"b", [exModDup]⟩]
def exR3 : Registry := exLoad exFiles3

theorem example3_loaded : loadAll exFiles3 = .ok exR3 := exLoad_ok _ (by decide +kernel)
example : (Goyang.Spec.Identity.ascendingKeys exR3.modules).map (·.1) = ["a", "a@2019-01-01", "a@2021-01-01", "b"] := by
  decide +kernel
theorem example3_identifierNamed : IdentifierNamed exFiles3 := by decide +kernel
/-- Hypothesis (c) of the first theorems fails here: `graph` has every vertex of `a` twice. -/
theorem example3_fullGraph_verts : (graph exR3).map (fun G => G.verts) =
    some [("a", "top"), ("a", "old"), ("a", "top"), ("a", "new"), ("b", "dup"), ("b", "dup")] := by decide +kernel
example : (graph exR3).map (fun G => G.verts) =
    some [("a", "top"), ("a", "old"), ("a", "top"), ("a", "new"), ("b", "dup"), ("b", "dup")] := example3_fullGraph_verts
/-- The registrations and who survives (line numbers tell the statements apart). -/
theorem example3_registrations : (registrations exR3).any (fun R =>
    R.map (fun x => (x.1, x.2.2.line)) =
      [(("a", "top"), 21), (("a", "new"), 21), (("a", "top"), 19), (("a", "old"), 19),
        (("a", "top"), 21), (("a", "new"), 21), (("b", "dup"), 1), (("b", "dup"), 2)] ∧
    (survivors R).map (fun x => (x.1, x.2.2.line)) =
      [(("a", "old"), 19), (("a", "top"), 21), (("a", "new"), 21), (("b", "dup"), 2)]) = true := by decide +kernel
example : (registrations exR3).map (fun R => R.map fun x => (x.1, x.2.2.line)) =
    some [(("a", "top"), 21), (("a", "new"), 21), (("a", "top"), 19), (("a", "old"), 19),
      (("a", "top"), 21), (("a", "new"), 21), (("b", "dup"), 1), (("b", "dup"), 2)] := by
  obtain ⟨R, hR, h, -⟩ := of_any example3_registrations
  rw [hR, Option.map_some, h]
example : (registrations exR3).map (fun R => (survivors R).map fun x => (x.1, x.2.2.line)) =
    some [(("a", "old"), 19), (("a", "top"), 21), (("a", "new"), 21), (("b", "dup"), 2)] := by
  obtain ⟨R, hR, -, h⟩ := of_any example3_registrations
  rw [hR, Option.map_some, h]
def exG3 : Graph :=
  { verts := [("a", "old"), ("a", "top"), ("a", "new"), ("b", "dup")]
    edges := [(("a", "old"), ("a", "top")), (("a", "new"), ("a", "top"))]
    dangling := [], orphans := [], missing := [] }
theorem example3_graph : survivorGraph exR3 = some exG3 := by decide +kernel
example : Linked exR3 (exLink exR3) := linkOK_of_all (by decide +kernel)
example : LoadedOK exR3 := loaded_ok exFiles3 exR3 example3_loaded example3_identifierNamed
example : Acyclic exG3 := acyclic_of_rank (fun v => if v.2 == "top" then 0 else 1) (by decide +kernel)
example : AllBasesResolve exG3 := ⟨rfl, rfl⟩
/-- What the model computes (the same as Go): `b:dup` is not derived from `a:top`. -/
theorem example3_resolved : ∀ n ∈ [0, 3],
    (resolveIdentities (Oracle.ofNat n) exR3 (exLink exR3) (fun _ => [])).any (fun res =>
      res.vals ("a", "top") = [("a", "new"), ("a", "old")] ∧ res.vals ("b", "dup") = [] ∧ res.errs.length = 0 ∧
      res.dict.map (fun e => (e.vtx, e.stmt.line)) =
        [(("a", "top"), 21), (("a", "new"), 21), (("a", "old"), 19), (("b", "dup"), 2)]) = true := by decide +kernel
example : ((resolveIdentities (Oracle.ofNat 0) exR3 (exLink exR3) (fun _ => [])).map fun res =>
      (res.vals ("a", "top"), res.vals ("b", "dup"), res.errs.length)) =
    some ([("a", "new"), ("a", "old")], [], 0) := by
  obtain ⟨res, hres, h1, h2, h3, -⟩ := of_any (example3_resolved 0 (by decide))
  rw [hres, Option.map_some, h1, h2, h3]
example : ((resolveIdentities (Oracle.ofNat 0) exR3 (exLink exR3) (fun _ => [])).map fun res =>
      res.dict.map (fun e => (e.vtx, e.stmt.line))) =
    some [(("a", "top"), 21), (("a", "new"), 21), (("a", "old"), 19), (("b", "dup"), 2)] := by
  obtain ⟨res, hres, -, -, -, h⟩ := of_any (example3_resolved 0 (by decide))
  rw [hres, Option.map_some, h]
example : ((resolveIdentities (Oracle.ofNat 3) exR3 (exLink exR3) (fun _ => [])).map fun res =>
      (res.vals ("a", "top"), res.vals ("b", "dup"), res.errs.length)) =
    some ([("a", "new"), ("a", "old")], [], 0) := by
  obtain ⟨res, hres, h1, h2, h3, -⟩ := of_any (example3_resolved 3 (by decide))
  rw [hres, Option.map_some, h1, h2, h3]

/-- The identityref leaf-less example still has hypotheses of `identityref_base_surviving` that can
be met: from module `b` (sequence number 2) the base `pa:top` names the surviving `a:top`. -/
example : (exR3.byId 2).map (fun b => refTarget exR3 exG3 b "pa:top") = some (some ("a", "top")) := by decide +kernel

/-! ### hypothesis (b) is needed, and goyang does not enforce it

```
module m:a { prefix p; identity b; }
module m   { prefix q; identity a:b; }
module z   { prefix z; import m { prefix q; } identity d3 { base q:a:b; } }
```
Neither `m:a` nor `a:b` is an identifier, but goyang's parser and AST builder accept the texts.
`m:a`+`:`+`b` and `m`+`:`+`a:b` are the same dictionary key, the entry of `m:a` (later table key)
wins, and `z:d3`, whose base names `a:b` of module `m`, is listed under `b` of module `m:a`.
Replayed on the real code: `identity b` of `m:a` gets `Values = [d3]`, `identity a:b` of `m` gets
none; without module `m:a` loaded `a:b` of `m` gets `[d3]`.  With legal YANG this cannot happen
(`identifier_names_colon_free`). -/
def exModMA : Stmt := exStmt "module" "m:a" [exStmt "namespace" "urn:ma", exStmt "prefix" "p", exStmt "identity" "b"]
def exModM : Stmt := exStmt "module" "m" [exStmt "namespace" "urn:m", exStmt "prefix" "q", exStmt "identity" "a:b"]
def exModZ : Stmt := exStmt "module" "z" [exStmt "namespace" "urn:z", exStmt "prefix" "z", exStmt "import" "m" [exStmt "prefix" "q"],
  exStmt "identity" "d3" [exStmt "base" "q:a:b"]]
def exR4 : Registry := exLoad [⟨"x", [exModMA]⟩, ⟨"y", [exModM]⟩, ⟨"z", [exModZ]⟩]
def exG4 : Graph :=
  { verts := [("m:a", "b"), ("m", "a:b"), ("z", "d3")]
    edges := [(("z", "d3"), ("m", "a:b"))]
    dangling := [], orphans := [], missing := [] }

/-- With a colon in a module name the lists are wrong although every other hypothesis of
`values_are_derived` holds: the schema says `z:d3` is derived from `a:b` of module `m`; the model
(and Go) list it under `b` of module `m:a` and leave the list of `m`'s `a:b` empty. -/
theorem colon_in_module_name_misattributes :
    graph exR4 = some exG4 ∧ OneStatementPerVertex exG4 ∧ Linked exR4 (exLink exR4) ∧
    (∀ k m, exR4.getModule k = some m → m.isSub = false) ∧
    Derives exG4 ("z", "d3") ("m", "a:b") ∧
    ((resolveIdentities (Oracle.ofNat 0) exR4 (exLink exR4) (fun _ => [])).map fun res =>
      (res.vals ("m", "a:b"), res.vals ("m:a", "b"))) = some ([], [("z", "d3")]) :=
  have ⟨hgraph, hone, hlinked, hmodules, hedge, hvals⟩ : graph exR4 = some exG4 ∧ OneStatementPerVertex exG4 ∧
      (∀ m ∈ exR4.mods, includeSucc exR4 (exLink exR4) m.seq = Goyang.Spec.Identity.includedBy exR4 m.seq) ∧
      (∀ kv ∈ exR4.modules, ∀ m, exR4.byId kv.2 = some m → m.isSub = false) ∧
      (("z", "d3"), ("m", "a:b")) ∈ exG4.edges ∧
      ((resolveIdentities (Oracle.ofNat 0) exR4 (exLink exR4) (fun _ => [])).map fun res =>
        (res.vals ("m", "a:b"), res.vals ("m:a", "b"))) = some ([], [("z", "d3")]) := by decide +kernel
  ⟨hgraph, hone, linkOK_of_all hlinked, regOK_of_entries hmodules, Derives.base hedge, hvals⟩
/-- The oracle that walks every map in insertion order. -/
def exIdOracle : Oracle := ⟨fun _ l => l⟩
theorem exIdOracle_valid : exIdOracle.Valid := fun _ _ l => List.Perm.refl l

/-- `values_are_derived` with hypothesis (b) dropped is false of the model (and of the Go code). -/
theorem values_are_derived_without_b_fails :
    ¬ ∀ (r : Registry) (lk : Link), Linked r lk → (∀ k m, r.getModule k = some m → m.isSub = false) →
      ∀ G, graph r = some G → OneStatementPerVertex G → ∀ o : Oracle, o.Valid →
      ∃ res, resolveIdentities o r lk (fun _ => []) = some res ∧ ∀ i ∈ G.verts, ValuesOK G i (res.vals i) := by
  intro h
  obtain ⟨hg, hone, hl, hreg, hd, _⟩ := colon_in_module_name_misattributes
  obtain ⟨res, hres, hv⟩ := h exR4 (exLink exR4) hl hreg exG4 hg hone exIdOracle exIdOracle_valid
  have hmem := ((hv ("m", "a:b") (by decide)).exact ("z", "d3")).mpr hd
  have hnil : (resolveIdentities exIdOracle exR4 (exLink exR4) (fun _ => [])).map
      (fun res => res.vals ("m", "a:b")) = some [] := by decide +kernel
  rw [hres] at hnil
  simp only [Option.map_some, Option.some.injEq] at hnil
  rw [hnil] at hmem
  cases hmem
/-- … and the names of that example are not identifiers. -/
example : isIdentifier "m:a" = false ∧ isIdentifier "a:b" = false ∧ isIdentifier "ietf-interfaces" = true := by
  decide +kernel

/-! ### the specification always answers; the two groups of theorems connected

`graph r`, `registrations r` and `survivorGraph r` are `some` for EVERY registry: the breadth-first
rounds of `parts` and the step budget of the explicit-stack traversal always suffice.  So the
hypotheses `graph r = some G` / `survivorGraph r = some G` above only NAME the graph.  And when
hypothesis (c) holds, `survivorGraph r` is `graph r` up to the order of its lists, so the first
group of theorems is a special case of the second. -/

/-- The specification answers for every registry, loaded or not. -/
theorem specification_answers (r : Registry) :
    (∃ G, graph r = some G) ∧ (∃ R, registrations r = some R) ∧ ∃ G, survivorGraph r = some G :=
  ⟨graph_some r, registrations_some r, survivorGraph_some r⟩

/-- Same vertices, same edges, same dangling bases — each the same number of times (the lists are
permutations of each other) — and the same orphans and missing references. -/
abbrev SameUpToOrder (G' G : Graph) : Prop := GraphPerm G' G

/-- With one identity statement per vertex every statement survives: `survivorGraph r` answers and
is `graph r` up to the order of the lists (`graph` lists by ascending part of the schema,
`survivorGraph` by registration; the example below shows the orders do differ). -/
theorem survivor_graph_is_graph (r : Registry) (G : Graph) (hG : graph r = some G)
    (hone : OneStatementPerVertex G) : ∃ G', survivorGraph r = some G' ∧ SameUpToOrder G' G :=
  survivorGraph_perm_graph hG hone

/-- Everything the theorems say about a graph is insensitive to the order of its lists. -/
theorem same_up_to_order_transports (G' G : Graph) (h : SameUpToOrder G' G) :
    (∀ v, v ∈ G'.verts ↔ v ∈ G.verts) ∧ (∀ j i, Derives G' j i ↔ Derives G j i) ∧
    (∀ i l, ValuesOK G' i l ↔ ValuesOK G i l) ∧ (Acyclic G' ↔ Acyclic G) ∧
    (AllBasesResolve G' ↔ AllBasesResolve G) ∧ (G'.dangling = [] ↔ G.dangling = []) ∧
    G'.orphans = G.orphans ∧ (OneStatementPerVertex G' ↔ OneStatementPerVertex G) :=
  ⟨fun _ => h.verts.mem_iff, h.derives_iff, h.valuesOK_iff, h.acyclic_iff, h.allBasesResolve_iff,
    Goyang.Lemmas.Identity.perm_nil_iff h.dangling, h.orphans, h.one_iff⟩

/-- Hypothesis (c) is needed for that: with two revisions of one module loaded `graph` has six
vertices, `survivorGraph` four. -/
theorem survivor_graph_is_graph_without_c_fails :
    ¬ ∀ (r : Registry) (G : Graph), graph r = some G → ∃ G', survivorGraph r = some G' ∧ SameUpToOrder G' G := by
  intro h
  obtain ⟨G, hG⟩ := graph_some exR3
  obtain ⟨G', hG', hp⟩ := h exR3 G hG
  rw [example3_graph] at hG'
  cases hG'
  have h6 := example3_fullGraph_verts
  rw [hG, Option.map_some, Option.some.injEq] at h6
  have := hp.verts.length_eq
  rw [h6] at this
  exact absurd this (by decide)

/-- `values_are_derived` (first group) obtained from `values_are_derived_surviving` (second group):
under (c) the graph of the surviving statements is the identity graph.  (The second group asks for
distinct table keys, which `WellFormed` does not mention; every loaded registry has them.) -/
theorem values_are_derived_via_surviving (r : Registry) (lk : Link) (hl : Linked r lk) (hw : WellFormed r)
    (hk : ModuleKeysDistinct r) (G : Graph) (hG : graph r = some G) (o : Oracle) (ho : o.Valid) :
    ∃ res, resolveIdentities o r lk (fun _ => []) = some res ∧
      ∀ i ∈ G.verts, ValuesOK G i (res.vals i) := by
  obtain ⟨G', hG', hp⟩ := survivor_graph_is_graph r G hG (hw.one G hG)
  obtain ⟨res, hres, _, hvals, _⟩ :=
    values_are_derived_surviving r lk hl ⟨hw.reg, hk, hw.noColon⟩ G' hG' o ho
  exact ⟨res, hres, fun i hi => (hp.valuesOK_iff i _).mp (hvals i (hp.verts.mem_iff.mpr hi))⟩

/-- The main theorem of the first group, `process_end_to_end` (same statement), as a corollary of
the second group: under (c) `survivorGraph r` is `graph r` up to order, and lists, errors and
derivations do not see the order. -/
theorem process_end_to_end_via_surviving (files : List SrcFile) (r : Registry) (hload : loadAll files = .ok r)
    (hnc : ∀ m ∈ r.mods, ':' ∉ m.name.toList) (G : Graph) (hG : graph r = some G)
    (hone : OneStatementPerVertex G) (o : Oracle) (ho : o.Valid) :
    (∃ errs, run o r = .linkFailed errs ∧ errs ≠ []) ∨
    (∃ res, run o r = .done res (identityrefLeaves r res.dict) ∧
      (∀ i ∈ G.verts, ValuesOK G i (res.vals i)) ∧
      (res.errs ≠ [] ↔ (G.dangling ≠ [] ∨ G.orphans ≠ [] ∨ ∃ v, Derives G v v))) := by
  obtain ⟨G', hG', hp⟩ := survivor_graph_is_graph r G hG hone
  have hw : LoadedOK r := ⟨regOK_of_loadAll hload, keysDistinct_of_loadAll hload, hnc⟩
  rcases process_surviving r hw G' hG' o ho with h | ⟨res, hrun, hvals, herr⟩
  · exact Or.inl h
  · refine Or.inr ⟨res, hrun, fun i hi => (hp.valuesOK_iff i _).mp (hvals i (hp.verts.mem_iff.mpr hi)), herr.trans ?_⟩
    rw [Ne, Ne, Goyang.Lemmas.Identity.perm_nil_iff hp.dangling, hp.orphans]
    exact or_congr Iff.rfl (or_congr Iff.rfl (exists_congr fun v => hp.derives_iff v v))

/-- `process_end_to_end_surviving` without the hypothesis `survivorGraph r = some G`: from
identifier-named texts that `Modules.add` accepted, for every map order — no hypothesis on the
schema, none on the specification.  The graph of the surviving statements exists, defines every
vertex once, and either an include/import is reported missing, or every surviving vertex gets the
ascending list of exactly what is derived from it among the surviving statements and an error is
reported exactly when one of them has a base that names no surviving vertex, an included submodule
has no loaded owner, or a surviving vertex is derived from itself. -/
theorem process_end_to_end_loaded (files : List SrcFile) (r : Registry) (hload : loadAll files = .ok r)
    (hid : IdentifierNamed files) (o : Oracle) (ho : o.Valid) :
    ∃ G, survivorGraph r = some G ∧ OneStatementPerVertex G ∧
      ((∃ errs, run o r = .linkFailed errs ∧ errs ≠ []) ∨
       (∃ res, run o r = .done res (identityrefLeaves r res.dict) ∧
        (∀ i ∈ G.verts, ValuesOK G i (res.vals i)) ∧
        (res.errs ≠ [] ↔ (G.dangling ≠ [] ∨ G.orphans ≠ [] ∨ ∃ v, Derives G v v)))) := by
  obtain ⟨G, hG⟩ := survivorGraph_some r
  exact ⟨G, hG, survivor_graph_one_per_vertex r G hG,
    process_end_to_end_surviving files r hload hid G hG o ho⟩

/-- The first group likewise loses `graph r = some G`: the identity graph exists, and when it has one
statement per vertex the conclusion of `process_end_to_end` holds of it. -/
theorem process_end_to_end_total (files : List SrcFile) (r : Registry) (hload : loadAll files = .ok r)
    (hnc : ∀ m ∈ r.mods, ':' ∉ m.name.toList) (o : Oracle) (ho : o.Valid) :
    ∃ G, graph r = some G ∧ (OneStatementPerVertex G →
      ((∃ errs, run o r = .linkFailed errs ∧ errs ≠ []) ∨
       (∃ res, run o r = .done res (identityrefLeaves r res.dict) ∧
        (∀ i ∈ G.verts, ValuesOK G i (res.vals i)) ∧
        (res.errs ≠ [] ↔ (G.dangling ≠ [] ∨ G.orphans ≠ [] ∨ ∃ v, Derives G v v))))) := by
  obtain ⟨G, hG⟩ := graph_some r
  exact ⟨G, hG, fun hone => process_end_to_end files r hload hnc G hG hone o ho⟩

/-! non-vacuity of this section -/

/-- The diamond example: hypotheses of `survivor_graph_is_graph`, `values_are_derived_via_surviving`
and `process_end_to_end_via_surviving` hold of it … -/
example : graph exR = some exG ∧ OneStatementPerVertex exG ∧ ModuleKeysDistinct exR ∧
    (∀ m ∈ exR.mods, ':' ∉ m.name.toList) :=
  ⟨example_graph, example_wellFormed.one exG example_graph, example_keysDistinct, example_wellFormed.noColon⟩
example : ∃ G', survivorGraph exR = some G' ∧ SameUpToOrder G' exG :=
  survivor_graph_is_graph exR exG example_graph (example_wellFormed.one exG example_graph)
/-- … and the two graphs are NOT equal as records: the vertex lists come in different orders. -/
example : (survivorGraph exR).map (fun G => G.verts) ≠ (graph exR).map (fun G => G.verts) := by
  rw [example_survivorGraph, example_graph]; decide
example : (survivorGraph exR).map (fun G => G.edges) ≠ (graph exR).map (fun G => G.edges) := by
  rw [example_survivorGraph, example_graph]; decide
/-- `process_end_to_end_loaded` on the example with two revisions and a duplicate statement: all its
hypotheses hold (`example3_loaded`, `example3_identifierNamed`, `exIdOracle_valid`), and the graph it
speaks about is `exG3`. -/
example : ∃ G, survivorGraph exR3 = some G ∧ OneStatementPerVertex G := by
  obtain ⟨G, h1, h2, _⟩ :=
    process_end_to_end_loaded exFiles3 exR3 example3_loaded example3_identifierNamed exIdOracle exIdOracle_valid
  exact ⟨G, h1, h2⟩
/-- A registry that no loading produced (a module table entry that points nowhere, a submodule in
the module table): the specification still answers. -/
example : ∃ G, survivorGraph { mods := [⟨7, exSubSB⟩, ⟨7, exModA⟩], modules := [("zz", 3), ("a", 7)] } = some G :=
  (specification_answers _).2.2

/-! ### which errors: every cycle, every undefined base — and nothing else

`errors_iff` / `identity_errors` only say that the error list is non-empty exactly when the schema
has a defect.  The theorems of this section say WHICH errors the model reports, defect by defect,
over the surviving statements `survivors R` (`R = registrations r`; with one statement per vertex:
all identity statements): an entry `x = (vertex, declaring (sub)module, identity statement)`.

* every vertex derived from itself gets a `cycle` error at its OWN identity statement
  (`cycle_reported_per_member`), so every cyclic component is named by an error located at one of
  its members — a cycle derived from another cycle by its own members, not by the report of the
  upper one (`cycle_reported_per_component`);
* every dangling base of the graph is answered by an error of class identity-base-local /
  identity-base-remote / identity-prefix located at the module or submodule statement of the text
  that writes it (`undefined_base_reported`);
* nothing else carries these classes: a `cycle` error sits at the identity statement of a vertex
  derived from itself (`cycle_errors_sound`), an undefined-base error at the text of a base
  statement that is a dangling base of the graph (`base_errors_sound`);
* hence the runner's executable verdict `Spec.Identity.judgeReports` answers `holds` on the model's
  own errors, for every loaded registry and map order (`judgeReports_holds_of_model`,
  `judgeReports_holds_of_run`): a `violates` of the per-defect verdict on Go's errors is always a
  difference between Go and the model. -/

/-- All four per-defect statements at once, for the one result `resolveIdentities` returns. -/
theorem errors_are_exactly_the_defects (r : Registry) (lk : Link) (hl : Linked r lk) (hw : LoadedOK r)
    (G : Graph) (hG : survivorGraph r = some G) (R : List (Vertex × Mod × Stmt)) (hR : registrations r = some R)
    (o : Oracle) (ho : o.Valid) :
    ∃ res, resolveIdentities o r lk (fun _ => []) = some res ∧
      (∀ x ∈ survivors R, Derives G x.1 x.1 → Err.at_ x.2.2 cycleClass ∈ res.errs) ∧
      (∀ x ∈ survivors R, ∀ base ∈ x.2.2.all "base",
        (¬ ∃ b, names r x.2.1 base.arg = some b ∧ b ∈ G.verts) →
          ∃ c ∈ undefinedBaseClasses, Err.at_ x.2.1.stmt c ∈ res.errs) ∧
      (∀ e ∈ res.errs, e.cls = cycleClass →
        ∃ x ∈ survivors R, e = Err.at_ x.2.2 cycleClass ∧ Derives G x.1 x.1) ∧
      (∀ e ∈ res.errs, e.cls ∈ undefinedBaseClasses →
        ∃ x ∈ survivors R, ∃ base ∈ x.2.2.all "base", e = Err.at_ x.2.1.stmt e.cls ∧
          ¬ ∃ b, names r x.2.1 base.arg = some b ∧ b ∈ G.verts) := by
  obtain ⟨ps, R', hR', sf⟩ := survivorGraph_facts hG
  rw [hR] at hR'
  cases hR'
  exact Goyang.Lemmas.Identity.resolveIdentities_reports o ho r lk hw.modulesOnly hw.noColon sf
    (survivors_nodup R) (Goyang.Lemmas.Identity.buildDict_survivors o ho r lk hl hw.keys hw.noColon R hR)

/-- Every vertex that is derived from itself gets a `cycle` error at its own identity statement:
one report per MEMBER of every cycle, under every map order. -/
theorem cycle_reported_per_member (r : Registry) (lk : Link) (hl : Linked r lk) (hw : LoadedOK r)
    (G : Graph) (hG : survivorGraph r = some G) (R : List (Vertex × Mod × Stmt)) (hR : registrations r = some R)
    (o : Oracle) (ho : o.Valid) :
    ∃ res, resolveIdentities o r lk (fun _ => []) = some res ∧
      ∀ x ∈ survivors R, Derives G x.1 x.1 →
        ∃ e ∈ res.errs, e.cls = cycleClass ∧ locatedAt e x.2.2 = true := by
  obtain ⟨res, hres, hA, _⟩ := errors_are_exactly_the_defects r lk hl hw G hG R hR o ho
  exact ⟨res, hres, fun x hx hd => ⟨_, hA x hx hd, rfl, locatedAt_at _ _⟩⟩

/-- The error clause, cycles: for every vertex `v` that reaches itself the errors hold a `cycle`
error located at the identity statement of a member of ITS cycle (a vertex derived from `v` from
which `v` is derived).  A cycle derived from another cycle is answered by an error at one of its
own members. -/
theorem cycle_reported_per_component (r : Registry) (lk : Link) (hl : Linked r lk) (hw : LoadedOK r)
    (G : Graph) (hG : survivorGraph r = some G) (R : List (Vertex × Mod × Stmt)) (hR : registrations r = some R)
    (o : Oracle) (ho : o.Valid) :
    ∃ res, resolveIdentities o r lk (fun _ => []) = some res ∧
      ∀ v, Derives G v v → ∃ x ∈ survivors R, Derives G x.1 v ∧ Derives G v x.1 ∧
        ∃ e ∈ res.errs, e.cls = cycleClass ∧ locatedAt e x.2.2 = true := by
  obtain ⟨res, hres, hA⟩ := cycle_reported_per_member r lk hl hw G hG R hR o ho
  obtain ⟨ps, R', hR', sf⟩ := survivorGraph_facts hG
  rw [hR] at hR'
  cases hR'
  refine ⟨res, hres, ?_⟩
  intro v hv
  obtain ⟨x, hx, hxv⟩ := (sf.verts v).mp (derives_left_vertexS sf hv)
  subst hxv
  exact ⟨x, hx, hv, hv, hA x hx hv⟩

/-- The error clause, undefined bases: every dangling base `(identity, argument)` of the graph is a
base statement of a surviving identity statement, and the errors hold one of class
identity-base-local / identity-base-remote / identity-prefix located at the module or submodule
statement of the text that writes it. -/
theorem undefined_base_reported (r : Registry) (lk : Link) (hl : Linked r lk) (hw : LoadedOK r)
    (G : Graph) (hG : survivorGraph r = some G) (R : List (Vertex × Mod × Stmt)) (hR : registrations r = some R)
    (o : Oracle) (ho : o.Valid) :
    ∃ res, resolveIdentities o r lk (fun _ => []) = some res ∧
      ∀ va ∈ G.dangling, ∃ x ∈ survivors R, x.1 = va.1 ∧ (∃ b ∈ x.2.2.all "base", b.arg = va.2) ∧
        ∃ e ∈ res.errs, e.cls ∈ undefinedBaseClasses ∧ locatedAt e x.2.1.stmt = true := by
  obtain ⟨res, hres, _, hB, _⟩ := errors_are_exactly_the_defects r lk hl hw G hG R hR o ho
  refine ⟨res, hres, ?_⟩
  rintro ⟨v, a⟩ hva
  obtain ⟨m, hu⟩ := (survivor_dangling hG hR v a).mp hva
  obtain ⟨x, hx, b, hb, he, hno⟩ := mem_undefinedBases.mp hu
  simp only [Prod.mk.injEq] at he
  obtain ⟨hv, _, ha⟩ := he
  obtain ⟨c, hc, hmem⟩ := hB x hx b hb hno
  exact ⟨x, hx, hv.symm, ⟨b, hb, ha.symm⟩, _, hmem, hc, locatedAt_at _ _⟩

/-- Soundness of the cycle reports: every error of class `cycle` is located at the surviving
identity statement of a vertex that is derived from itself. -/
theorem cycle_errors_sound (r : Registry) (lk : Link) (hl : Linked r lk) (hw : LoadedOK r)
    (G : Graph) (hG : survivorGraph r = some G) (R : List (Vertex × Mod × Stmt)) (hR : registrations r = some R)
    (o : Oracle) (ho : o.Valid) :
    ∃ res, resolveIdentities o r lk (fun _ => []) = some res ∧
      ∀ e ∈ res.errs, e.cls = cycleClass →
        ∃ x ∈ survivors R, e = Err.at_ x.2.2 cycleClass ∧ Derives G x.1 x.1 := by
  obtain ⟨res, hres, _, _, hC, _⟩ := errors_are_exactly_the_defects r lk hl hw G hG R hR o ho
  exact ⟨res, hres, hC⟩

/-- Soundness of the undefined-base reports: every error of one of the three classes is located at
the (sub)module statement of a text in which a surviving identity statement has a base statement
that is a dangling base of the graph. -/
theorem base_errors_sound (r : Registry) (lk : Link) (hl : Linked r lk) (hw : LoadedOK r)
    (G : Graph) (hG : survivorGraph r = some G) (R : List (Vertex × Mod × Stmt)) (hR : registrations r = some R)
    (o : Oracle) (ho : o.Valid) :
    ∃ res, resolveIdentities o r lk (fun _ => []) = some res ∧
      ∀ e ∈ res.errs, e.cls ∈ undefinedBaseClasses →
        ∃ x ∈ survivors R, ∃ b ∈ x.2.2.all "base", e = Err.at_ x.2.1.stmt e.cls ∧
          (x.1, b.arg) ∈ G.dangling := by
  obtain ⟨res, hres, _, _, _, hD⟩ := errors_are_exactly_the_defects r lk hl hw G hG R hR o ho
  refine ⟨res, hres, ?_⟩
  intro e he hcls
  obtain ⟨x, hx, b, hb, heq, hno⟩ := hD e he hcls
  exact ⟨x, hx, b, hb, heq,
    (survivor_dangling hG hR x.1 b.arg).mpr ⟨x.2.1, mem_undefinedBases.mpr ⟨x, hx, b, hb, rfl, hno⟩⟩⟩

theorem judgeReports_holds_of_reports {r : Registry} {G : Graph} {stmts : List (Vertex × Mod × Stmt)}
    {errs0 : List Err} (hcov : ∀ v, Derives G v v → ∃ x ∈ stmts, x.1 = v)
    (hA : ∀ x ∈ stmts, Derives G x.1 x.1 → Err.at_ x.2.2 cycleClass ∈ errs0)
    (hB : ∀ x ∈ stmts, ∀ base ∈ x.2.2.all "base", (¬ ∃ b, names r x.2.1 base.arg = some b ∧ b ∈ G.verts) →
      ∃ c ∈ undefinedBaseClasses, Err.at_ x.2.1.stmt c ∈ errs0)
    (errs : List Err) (hsub : ∀ e ∈ errs0, e ∈ errs) : judgeReports r G stmts errs = Verdict.holds := by
  apply judgeReports_holds _ _ _ _ hcov
  · intro x hx hd
    exact ⟨_, hsub _ (hA x hx hd), rfl, locatedAt_at _ _⟩
  · intro u hu
    obtain ⟨x, hx, b, hb, rfl, hno⟩ := mem_undefinedBases.mp hu
    obtain ⟨c, hc, hmem⟩ := hB x hx b hb hno
    exact ⟨_, hsub _ hmem, hc, locatedAt_at _ _⟩

/-- The runner's per-defect verdict answers `holds` on the model's own errors — and on every error
list that contains them. -/
theorem judgeReports_holds_of_model (r : Registry) (lk : Link) (hl : Linked r lk) (hw : LoadedOK r)
    (G : Graph) (hG : survivorGraph r = some G) (R : List (Vertex × Mod × Stmt)) (hR : registrations r = some R)
    (o : Oracle) (ho : o.Valid) :
    ∃ res, resolveIdentities o r lk (fun _ => []) = some res ∧
      ∀ errs, (∀ e ∈ res.errs, e ∈ errs) → judgeReports r G (survivors R) errs = Verdict.holds := by
  obtain ⟨res, hres, hA, hB, _⟩ := errors_are_exactly_the_defects r lk hl hw G hG R hR o ho
  obtain ⟨ps, R', hR', sf⟩ := survivorGraph_facts hG
  rw [hR] at hR'
  cases hR'
  exact ⟨res, hres, judgeReports_holds_of_reports
    (fun v hv => (sf.verts v).mp (derives_left_vertexS sf hv)) hA hB⟩

theorem errs_sub_processErrs (r : Registry) (res : Result)
    (leaves : List (String × String × List (Option DEntry) × List Err)) :
    ∀ e ∈ res.errs, e ∈ processErrs r res leaves := by
  intro e he
  unfold processErrs
  simp only
  split
  · rename_i hemp
    rw [List.isEmpty_iff, List.append_eq_nil_iff] at hemp
    rw [hemp.1] at he
    cases he
  · exact List.mem_append_left _ he

/-- The same from the loaded registry, for what `Process` returns: either an include/import is
reported missing, or the verdict on the errors of `resolveIdentities`, and on the whole error list
of `Process` (`processErrs`), is `holds`. -/
theorem judgeReports_holds_of_run (r : Registry) (hw : LoadedOK r) (G : Graph) (hG : survivorGraph r = some G)
    (R : List (Vertex × Mod × Stmt)) (hR : registrations r = some R) (o : Oracle) (ho : o.Valid) :
    (∃ errs, run o r = .linkFailed errs ∧ errs ≠ []) ∨
    (∃ res, run o r = .done res (identityrefLeaves r res.dict) ∧
      judgeReports r G (survivors R) res.errs = Verdict.holds ∧
      judgeReports r G (survivors R) (processErrs r res (identityrefLeaves r res.dict)) = Verdict.holds) := by
  rcases run_cases r o ho with h | ⟨lk, hl, hrun⟩
  · exact Or.inl h
  · obtain ⟨res, hres, hj⟩ := judgeReports_holds_of_model r lk hl hw G hG R hR o ho
    exact Or.inr ⟨res, hrun res hres, hj _ (fun _ h => h), hj _ (errs_sub_processErrs r res _)⟩

/-- The error clause end to end, without hypotheses on the schema: from identifier-named texts that
`Modules.add` accepted, for every map order, the graph `G` of the surviving statements and the
registrations `R` exist, and either an include/import is reported missing, or `Process` finishes
with the errors `res.errs` of `resolveIdentities` such that
(1) every surviving vertex derived from itself has a `cycle` error at its own identity statement,
(2) every dangling base of `G` is a base statement of a surviving statement and has an
    undefined-base error at the (sub)module statement of the text that writes it,
(3) every `cycle` error sits at the surviving statement of a vertex derived from itself,
(4) every undefined-base error sits at the text of a base statement that is a dangling base of `G`,
(5) the runner's per-defect verdict on everything `Process` returns is `holds`. -/
theorem error_clause_end_to_end (files : List SrcFile) (r : Registry) (hload : loadAll files = .ok r)
    (hid : IdentifierNamed files) (o : Oracle) (ho : o.Valid) :
    ∃ G R, survivorGraph r = some G ∧ registrations r = some R ∧
      ((∃ errs, run o r = .linkFailed errs ∧ errs ≠ []) ∨
       (∃ res, run o r = .done res (identityrefLeaves r res.dict) ∧
        (∀ x ∈ survivors R, Derives G x.1 x.1 →
          ∃ e ∈ res.errs, e.cls = cycleClass ∧ locatedAt e x.2.2 = true) ∧
        (∀ va ∈ G.dangling, ∃ x ∈ survivors R, x.1 = va.1 ∧ (∃ b ∈ x.2.2.all "base", b.arg = va.2) ∧
          ∃ e ∈ res.errs, e.cls ∈ undefinedBaseClasses ∧ locatedAt e x.2.1.stmt = true) ∧
        (∀ e ∈ res.errs, e.cls = cycleClass →
          ∃ x ∈ survivors R, e = Err.at_ x.2.2 cycleClass ∧ Derives G x.1 x.1) ∧
        (∀ e ∈ res.errs, e.cls ∈ undefinedBaseClasses →
          ∃ x ∈ survivors R, ∃ b ∈ x.2.2.all "base", e = Err.at_ x.2.1.stmt e.cls ∧
            (x.1, b.arg) ∈ G.dangling) ∧
        judgeReports r G (survivors R) (processErrs r res (identityrefLeaves r res.dict)) = Verdict.holds)) := by
  obtain ⟨G, hG⟩ := survivorGraph_some r
  obtain ⟨R, hR⟩ := registrations_some r
  have hw : LoadedOK r := loaded_ok files r hload hid
  refine ⟨G, R, hG, hR, ?_⟩
  rcases run_cases r o ho with h | ⟨lk, hl, hrun⟩
  · exact Or.inl h
  · obtain ⟨res, hres, h1⟩ := cycle_reported_per_member r lk hl hw G hG R hR o ho
    obtain ⟨res2, hres2, h2⟩ := undefined_base_reported r lk hl hw G hG R hR o ho
    obtain ⟨res3, hres3, h3⟩ := cycle_errors_sound r lk hl hw G hG R hR o ho
    obtain ⟨res4, hres4, h4⟩ := base_errors_sound r lk hl hw G hG R hR o ho
    obtain ⟨res5, hres5, hj⟩ := judgeReports_holds_of_model r lk hl hw G hG R hR o ho
    rw [hres] at hres2 hres3 hres4 hres5
    cases hres2
    cases hres3
    cases hres4
    cases hres5
    exact Or.inr ⟨res, hrun res hres, h1, h2, h3, h4, hj _ (errs_sub_processErrs r res _)⟩

/-! The same for the first group (one identity statement per vertex, `graph r`): the statements are
all identity statements of the parts of the schema — the list the driver hands to `judgeReports`
when no vertex has two statements. -/

/-- Every identity statement of the parts `ps` of the schema: (vertex, declaring (sub)module,
statement). -/
abbrev identityStatements (r : Registry) (ps : List Mod) : List (Vertex × Mod × Stmt) := fullStmts r ps

/-- `errors_are_exactly_the_defects` over `graph r` and all identity statements of the schema, under
hypothesis (c). -/
theorem errors_are_exactly_the_defects_one_per_vertex (r : Registry) (lk : Link) (hl : Linked r lk)
    (hw : WellFormed r) (G : Graph) (hG : graph r = some G)
    (ps : List Mod) (hps : Goyang.Spec.Identity.parts r = some ps) (o : Oracle) (ho : o.Valid) :
    ∃ res, resolveIdentities o r lk (fun _ => []) = some res ∧
      (∀ x ∈ identityStatements r ps, Derives G x.1 x.1 → Err.at_ x.2.2 cycleClass ∈ res.errs) ∧
      (∀ x ∈ identityStatements r ps, ∀ base ∈ x.2.2.all "base",
        (¬ ∃ b, names r x.2.1 base.arg = some b ∧ b ∈ G.verts) →
          ∃ c ∈ undefinedBaseClasses, Err.at_ x.2.1.stmt c ∈ res.errs) ∧
      (∀ e ∈ res.errs, e.cls = cycleClass →
        ∃ x ∈ identityStatements r ps, e = Err.at_ x.2.2 cycleClass ∧ Derives G x.1 x.1) ∧
      (∀ e ∈ res.errs, e.cls ∈ undefinedBaseClasses →
        ∃ x ∈ identityStatements r ps, ∃ base ∈ x.2.2.all "base", e = Err.at_ x.2.1.stmt e.cls ∧
          ¬ ∃ b, names r x.2.1 base.arg = some b ∧ b ∈ G.verts) := by
  obtain ⟨ps', gf⟩ := graph_facts hG
  obtain rfl : ps' = ps := Option.some.inj (gf.parts.symm.trans hps)
  obtain ⟨dict, errs, hbd, hs, hc, _⟩ := buildDict_spec o ho r lk hl
  refine Goyang.Lemmas.Identity.resolveIdentities_reports o ho r lk hw.reg hw.noColon gf.toSurv
    (gf.toSurv.vertsEq ▸ hw.one G hG) ?_
  intro dict' errs' hbd'
  rw [hbd] at hbd'
  cases hbd'
  exact Goyang.Lemmas.Identity.agrees_full hw (hw.one G hG) gf hs hc

/-- The per-defect verdict answers `holds` on the model's own errors over `graph r` too (the case
the driver judges when no vertex has two statements). -/
theorem judgeReports_holds_of_model_one_per_vertex (r : Registry) (lk : Link) (hl : Linked r lk)
    (hw : WellFormed r) (hk : ModuleKeysDistinct r) (G : Graph) (hG : graph r = some G)
    (ps : List Mod) (hps : Goyang.Spec.Identity.parts r = some ps) (o : Oracle) (ho : o.Valid) :
    ∃ res, resolveIdentities o r lk (fun _ => []) = some res ∧
      ∀ errs, (∀ e ∈ res.errs, e ∈ errs) →
        judgeReports r G (identityStatements r ps) errs = Verdict.holds := by
  obtain ⟨res, hres, hA, hB, _⟩ :=
    errors_are_exactly_the_defects_one_per_vertex r lk hl hw G hG ps hps o ho
  obtain ⟨ps', gf⟩ := graph_facts hG
  obtain rfl : ps' = ps := Option.some.inj (gf.parts.symm.trans hps)
  refine ⟨res, hres, judgeReports_holds_of_reports (fun v hv => ?_) hA hB⟩
  obtain ⟨m, hm, vs, hvs, rfl⟩ := (gf.verts v).mp (derives_left_vertexS gf.toSurv hv)
  exact ⟨(vs.1, m, vs.2), Goyang.Lemmas.Identity.mem_fullStmts.mpr ⟨m, hm, vs, hvs, rfl⟩, rfl⟩

/-! non-vacuity: two cycles, the lower derived from the upper (the C11-m22 witness,
corpus/C11/m22-two-cycles-lower-derived-from-upper.json), and one undefined base

```
module up    { prefix u; identity P1 { base P2; } identity P2 { base P1; } }
module zdown { prefix d; import up { prefix u; }
               identity Q1 { base Q2; base u:P1; } identity Q2 { base Q1; }
               identity Z { base nosuch; } }
``` -/
def exModUp : Stmt := .mk "module" true "up" "up.yang" 1 1 [exStmt "namespace" "urn:up", exStmt "prefix" "u",
  .mk "identity" true "P1" "up.yang" 3 3 [exStmt "base" "P2"],
  .mk "identity" true "P2" "up.yang" 4 3 [exStmt "base" "P1"]]
def exModDown : Stmt := .mk "module" true "zdown" "zdown.yang" 1 1 [exStmt "namespace" "urn:zdown", exStmt "prefix" "d",
  exStmt "import" "up" [exStmt "prefix" "u"],
  .mk "identity" true "Q1" "zdown.yang" 4 3 [exStmt "base" "Q2", exStmt "base" "u:P1"],
  .mk "identity" true "Q2" "zdown.yang" 5 3 [exStmt "base" "Q1"],
  .mk "identity" true "Z" "zdown.yang" 6 3 [exStmt "base" "nosuch"]]
def exFiles5 : List SrcFile := [⟨"up", [exModUp]⟩, ⟨"zdown", [exModDown]⟩]
def exR5 : Registry := exLoad exFiles5
def exG5 : Graph :=
  { verts := [("up", "P1"), ("up", "P2"), ("zdown", "Q1"), ("zdown", "Q2"), ("zdown", "Z")]
    edges := [(("up", "P1"), ("up", "P2")), (("up", "P2"), ("up", "P1")), (("zdown", "Q1"), ("zdown", "Q2")),
      (("zdown", "Q1"), ("up", "P1")), (("zdown", "Q2"), ("zdown", "Q1"))]
    dangling := [(("zdown", "Z"), "nosuch")], orphans := [], missing := [] }
theorem example5_graph : survivorGraph exR5 = some exG5 := by decide +kernel
theorem example5_loaded : loadAll exFiles5 = .ok exR5 := exLoad_ok _ (by decide +kernel)
theorem example5_identifierNamed : IdentifierNamed exFiles5 := by decide +kernel
/-- The hypotheses of the theorems of this section hold of the example. -/
example : Linked exR5 (exLink exR5) := linkOK_of_all (by decide +kernel)
example : LoadedOK exR5 := loaded_ok exFiles5 exR5 example5_loaded example5_identifierNamed
/-- … and those of the one-statement-per-vertex forms: `graph exR5` is `exG5` too (here even in the
same order), its vertices are distinct, the table keys are distinct. -/
theorem example5_fullGraph : graph exR5 = some exG5 := by decide +kernel
example : graph exR5 = some exG5 := example5_fullGraph
example : WellFormed exR5 :=
  have ⟨hmodules, hnames, hverts⟩ : (∀ kv ∈ exR5.modules, ∀ m, exR5.byId kv.2 = some m → m.isSub = false) ∧
      (∀ m ∈ exR5.mods, ':' ∉ m.name.toList) ∧ exG5.verts.Nodup := by decide +kernel
  ⟨regOK_of_entries hmodules, hnames, fun G hG => by
    rw [example5_fullGraph] at hG
    cases hG
    exact hverts⟩
example : ModuleKeysDistinct exR5 := by decide +kernel
example : ((Goyang.Spec.Identity.parts exR5).map fun ps => (identityStatements exR5 ps).map fun x => (x.1, x.2.1.name, x.2.2.line)) =
    some [(("up", "P1"), "up", 3), (("up", "P2"), "up", 4), (("zdown", "Q1"), "zdown", 4),
      (("zdown", "Q2"), "zdown", 5), (("zdown", "Z"), "zdown", 6)] := by decide +kernel
/-- `error_clause_end_to_end` applies to the example (`example5_loaded`, `example5_identifierNamed`,
`exIdOracle_valid`), and the graph it speaks about is `exG5`. -/
example : ∃ G R, survivorGraph exR5 = some G ∧ registrations exR5 = some R := by
  obtain ⟨G, R, h1, h2, _⟩ :=
    error_clause_end_to_end exFiles5 exR5 example5_loaded example5_identifierNamed exIdOracle exIdOracle_valid
  exact ⟨G, R, h1, h2⟩
example : (match run exIdOracle exR5 with | .done _ _ => true | _ => false) = true := by decide +kernel
/-- The surviving statements: (vertex, declaring module, line of the identity statement). -/
def exSurv5 : List (Vertex × Mod × Stmt) :=
  match registrations exR5 with
  | some R => survivors R
  | none => []
example : (registrations exR5).map (fun R => (survivors R).map fun x => (x.1, x.2.1.name, x.2.2.line)) =
    some [(("up", "P1"), "up", 3), (("up", "P2"), "up", 4), (("zdown", "Q1"), "zdown", 4),
      (("zdown", "Q2"), "zdown", 5), (("zdown", "Z"), "zdown", 6)] := by decide +kernel
/-- Two cycles, the lower derived from the upper, and a dangling base: the defects are there. -/
example : Derives exG5 ("up", "P1") ("up", "P1") :=
  Derives.step (k := ("up", "P2")) (by decide) (Derives.base (by decide))
example : Derives exG5 ("zdown", "Q2") ("zdown", "Q2") :=
  Derives.step (k := ("zdown", "Q1")) (by decide) (Derives.base (by decide))
example : Derives exG5 ("zdown", "Q2") ("up", "P1") :=
  Derives.step (k := ("zdown", "Q1")) (by decide) (Derives.base (by decide))
example : exG5.dangling = [(("zdown", "Z"), "nosuch")] := rfl
def exIsHolds : Verdict → Bool
  | .holds => true
  | _ => false
def exIsViolates : Verdict → Bool
  | .violates _ => true
  | _ => false
/-- What the model reports: the undefined base at the module statement of `zdown`, and one cycle
error at the identity statement of EVERY member of both cycles.  The verdict on these errors is
`holds`; with the reports of the lower cycle taken away (what the seeded defect C11-m22 did: only
the upper cycle reported) it is `violates`. -/
theorem example5_resolved :
    (resolveIdentities exIdOracle exR5 (exLink exR5) (fun _ => [])).any (fun res =>
      res.errs.map (fun e => (e.file, e.line, e.cls)) =
        [("zdown.yang", 1, "identity-base-local"), ("up.yang", 3, "cycle"), ("up.yang", 4, "cycle"),
          ("zdown.yang", 4, "cycle"), ("zdown.yang", 5, "cycle")] ∧
      exIsHolds (judgeReports exR5 exG5 exSurv5 res.errs) = true ∧
      exIsViolates (judgeReports exR5 exG5 exSurv5
        (res.errs.filter fun e => e.file != "zdown.yang" || e.cls != "cycle")) = true ∧
      exIsViolates (judgeReports exR5 exG5 exSurv5 (res.errs.filter fun e => e.cls == "cycle")) = true) = true := by
  decide +kernel
example : ((resolveIdentities exIdOracle exR5 (exLink exR5) (fun _ => [])).map fun res =>
      res.errs.map fun e => (e.file, e.line, e.cls)) =
    some [("zdown.yang", 1, "identity-base-local"), ("up.yang", 3, "cycle"), ("up.yang", 4, "cycle"),
      ("zdown.yang", 4, "cycle"), ("zdown.yang", 5, "cycle")] := by
  obtain ⟨res, hres, h, -⟩ := of_any example5_resolved
  rw [hres, Option.map_some, h]
example : ((resolveIdentities exIdOracle exR5 (exLink exR5) (fun _ => [])).map fun res =>
      exIsHolds (judgeReports exR5 exG5 exSurv5 res.errs)) = some true := by
  obtain ⟨res, hres, -, h, -⟩ := of_any example5_resolved
  rw [hres, Option.map_some, h]
example : ((resolveIdentities exIdOracle exR5 (exLink exR5) (fun _ => [])).map fun res =>
      exIsViolates (judgeReports exR5 exG5 exSurv5 (res.errs.filter fun e => e.file != "zdown.yang" || e.cls != "cycle"))) =
    some true := by
  obtain ⟨res, hres, -, -, h, -⟩ := of_any example5_resolved
  rw [hres, Option.map_some, h]
example : ((resolveIdentities exIdOracle exR5 (exLink exR5) (fun _ => [])).map fun res =>
      exIsViolates (judgeReports exR5 exG5 exSurv5 (res.errs.filter fun e => e.cls == "cycle"))) =
    some true := by
  obtain ⟨res, hres, -, -, -, h⟩ := of_any example5_resolved
  rw [hres, Option.map_some, h]

end Goyang.Props.C11
