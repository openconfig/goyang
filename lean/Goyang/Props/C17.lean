import Goyang.Lemmas.Find
/-
C17 — schema path lookup finds exactly the node the path names.

Model: `Goyang.Model.find` / `walkParts` (Model/Find.lean, a transliteration of `Entry.Find` after
the repairs ec88a45 (below an rpc/action only `input`/`output` exist, an absent one is created with
its parent), 181512d (an action without written input/output is rpc-like too) and a18c57d (an
absolute path without prefix started in a submodule's private tree is looked up in its owner's).  Specification: Spec/Find.lean (`absPath`, `relPath`, `Spells`/`AbsSpelling`,
`Denotes`, `wfKeys`/`WFForest`, `NamesNoChild`, `Grown`).

Hypotheses and where they come from
* `WFForest f` is a hypothesis here; Props/C17Bridge.lean derives it for the forest of every
  error-free `processAll` (`wfForest_processAll`) from the input predicate `NamesPlain` (the third
  item below) and restates the round trips for `processAll` (`find_abs_roundtrip_processAll`,
  `find_rel_roundtrip_processAll`, …).  Its parts: tree ids are not repeated (`toEntry` files a (sub)module's entry in its cache only
  when the cache has none) and every tree satisfies `wfKeys`:
  - sibling names differ: `Entry.add` / `Entry.merge` refuse a second child of the same name
    (Model/Entry.lean), `wrapCases` and `removeAt` keep names; in Go `Dir` is a map;
  - an rpc/action has no `Dir` children, and only an rpc/action has input/output: `toEntry` gives an
    rpc only `input`/`output` (`fieldOrder "rpc"`), and `augmentTree` refuses an rpc/action node
    itself as target (`cannotHaveChildren` includes `isRpc`; Go: repair 049247d of the former limit
    D17-L2 — `augment "/m:r"` used to file nodes in the rpc's `Dir`, where no path reaches them;
    runner case `augment-into-rpc-rejected`);
  - child names are spellable (`goodName`: not empty, not `.`/`..`, no `/`, no `:`): NOT guaranteed
    by the code (in the bridge: the hypothesis `NamesPlain` on the loaded statements) —
    goyang never checks that a node name is a YANG identifier, so `leaf "a/b"`, `container ".."`,
    `leaf "p:x"` are accepted and cannot be named by any path: documented limit L1 (runner
    witnesses `name-with-slash`, `name-dotdot`, `name-with-colon`, replayed on the Go code on every
    run; the driver evaluates `wfKeys` on every processed forest and the runner reports a lookup
    failure on a forest with `wfKeys = true` as a violation).
* `Denotes reg ctx pfx t`: the property's "module that imports the needed prefixes".

The concrete forest of the non-vacuity examples (`exReg`, `exF`: two modules, b imports a as `qa`;
an rpc with input only, a choice with an implicit case) is `Goyang.Lemmas.Find.Example`.

Everything is proved for all registries, forests, start nodes, targets and spellings; nothing is
left `_partial`.  Axioms: propext, Classical.choice, Quot.sound (via `simp`/`omega` and the
Batteries string lemmas).
-/
namespace Goyang.Props.C17
open Goyang.Model Goyang.Spec.Find Goyang.Lemmas.Find Goyang.Lemmas.Find.Example

/-! ### absolute paths -/

/-- **Absolute round trip, every spelling.**  In a well-formed forest, from any start location
(of any tree, existing or not) whose context module resolves the first step's prefix to the
target's module — or with a bare first step when the target is in the tree of the start's own module
(`homeTree`: a submodule's private tree gives way to its owner's) — and with
the later steps spelled with any prefixes or none: the lookup returns exactly the target location
and leaves the forest untouched.  Targets below rpc/action input and output, inside cases and
grafted nodes are ordinary locations. -/
theorem find_abs_roundtrip_spelled (reg : Registry) (f : Forest) (hwf : WFForest f)
    (start : Loc) (ctx : Nat) (t : Nat) (p : Path) (x : Entry) (parts : List String)
    (hx : nodeAt f (t, p) = some x) (hsp : AbsSpelling reg start ctx t parts p) :
    find reg f start ctx (renderAbs parts) = (some (t, p), f) := by
  obtain ⟨root, ht, hx⟩ := nodeAt_some hx
  exact abs_roundtrip reg f start ctx t parts p root x hwf hsp ht hx

/-- **Absolute round trip** (the statement of DESIGN 7.17): the absolute prefixed schema path of
any node, every step carrying a prefix that denotes the target's module in the start node's
context module, finds that node from anywhere, and changes nothing. -/
theorem find_abs_roundtrip (reg : Registry) (f : Forest) (hwf : WFForest f)
    (start : Loc) (ctx : Nat) (pfx : String) (t : Nat) (p : Path) (x : Entry)
    (hp : GoodPrefix pfx) (hden : Denotes reg ctx pfx t) (hne : p ≠ [])
    (hx : nodeAt f (t, p) = some x) :
    find reg f start ctx (absPath pfx p) = (some (t, p), f) := by
  cases p with
  | nil => exact absurd rfl hne
  | cons s q =>
    exact find_abs_roundtrip_spelled reg f hwf start ctx t (s :: q) x _ hx
      (AbsSpelling.pfx pfx s _ q hp hden (spells_prefixed hp q))

/-- The same for every node of every tree as enumerated by walking the tree (`nodes`): with
distinct sibling names the enumeration and the locations coincide, so "every node" is covered. -/
theorem find_abs_roundtrip_nodes (reg : Registry) (f : Forest) (hwf : WFForest f)
    (start : Loc) (ctx : Nat) (pfx : String) (t : Nat) (root : Entry) (p : Path) (x : Entry)
    (hp : GoodPrefix pfx) (hden : Denotes reg ctx pfx t) (ht : f.tree? t = some root)
    (hmem : (p, x) ∈ nodes root) (hne : p ≠ []) :
    find reg f start ctx (absPath pfx p) = (some (t, p), f) ∧ nodeAt f (t, p) = some x := by
  have hroot : wfKeys root = true := hwf.2 _ (tree?_mem ht)
  have hx : nodeAt f (t, p) = some x := by
    simp only [nodeAt, ht, Option.bind_some]
    exact getAt_nodes root hroot (p, x) hmem
  exact ⟨find_abs_roundtrip reg f hwf start ctx pfx t p x hp hden hne hx, hx⟩

/-- Non-vacuity: from `/b/k/z` (module b, which imports a as `qa`) the path
`/qa:r/qa:input/qa:i` finds the leaf below the rpc input of module a. -/
example : find exReg exF (1, [.child "k", .child "z"]) 1 (absPath "qa" [.child "r", .input, .child "i"]) =
    (some (0, [.child "r", .input, .child "i"]), exF) :=
  find_abs_roundtrip exReg exF exF_wf _ 1 "qa" 0 _ (leaf "i") good_qa exReg_qa (by simp) (by rfl)

/-- Non-vacuity: the node inside the implicit case, later steps written without prefix. -/
example : find exReg exF (1, []) 1 (renderAbs ["qa:ch", "x0", "zz:x0"]) =
    (some (0, [.child "ch", .child "x0", .child "x0"]), exF) :=
  find_abs_roundtrip_spelled exReg exF exF_wf _ 1 0 _ (leaf "x0") _ (by rfl)
    (AbsSpelling.pfx "qa" (.child "ch") _ _ good_qa exReg_qa
      (Spells.cons (SpellsStep.bare (.child "x0")) (Spells.cons (SpellsStep.pfx "zz" (.child "x0") ⟨by decide, by decide, by decide⟩) Spells.nil)))

/-- Non-vacuity: a bare first step stays in the start node's own tree. -/
example : find exReg exF (1, [.child "y"]) 1 (renderAbs ["k", "z"]) = (some (1, [.child "k", .child "z"]), exF) :=
  find_abs_roundtrip_spelled exReg exF exF_wf _ 1 1 _ (leaf "z") _ (by rfl)
    (AbsSpelling.own (.child "k") _ _ (by rfl) (Spells.cons (SpellsStep.bare (.child "z")) Spells.nil))

/-- Non-vacuity of the enumeration: the rpc input leaf is a member of `nodes treeA`. -/
example : (([.child "r", .input, .child "i"] : Path), leaf "i") ∈ nodes treeA := by
  simp [nodes, nodesDir, nodesSlot, treeA, dirE, leaf, Entry.name, Entry.d]

/-! ### relative paths -/

/-- **Relative round trip**: between any two nodes `a`, `b` of one tree of a well-formed forest
the relative path (`..` up to the deepest common ancestor, then the names down; `.` when `a = b`)
leads from `a` to exactly `b` and changes nothing — also out of and into rpc input/output and
cases. -/
theorem find_rel_roundtrip (reg : Registry) (f : Forest) (hwf : WFForest f) (ctx t : Nat) (a b : Path)
    (xa xb : Entry) (ha : nodeAt f (t, a) = some xa) (hb : nodeAt f (t, b) = some xb) :
    find reg f (t, a) ctx (relPath a b) = (some (t, b), f) := by
  obtain ⟨root, ht, ha⟩ := nodeAt_some ha
  obtain ⟨_, ht', hb⟩ := nodeAt_some hb
  cases ht.symm.trans ht'
  exact rel_roundtrip reg f ctx t a b root xa xb hwf ht ha hb

/-- The general form: any number of `..` up to *any* common ancestor `c` (not only the deepest),
then any spelling of the steps down (with or without prefixes). -/
theorem find_rel_roundtrip_spelled (reg : Registry) (f : Forest) (hwf : WFForest f) (ctx t : Nat)
    (c ra rb : Path) (dparts : List String) (xa xb : Entry)
    (ha : nodeAt f (t, c ++ ra) = some xa) (hb : nodeAt f (t, c ++ rb) = some xb)
    (hd : Spells dparts rb) (hne : List.replicate ra.length ".." ++ dparts ≠ []) :
    find reg f (t, c ++ ra) ctx (renderRel (List.replicate ra.length ".." ++ dparts)) = (some (t, c ++ rb), f) := by
  obtain ⟨root, ht, ha⟩ := nodeAt_some ha
  obtain ⟨_, ht', hb⟩ := nodeAt_some hb
  cases ht.symm.trans ht'
  exact rel_roundtrip_gen reg f ctx t c ra rb dparts root xa xb hwf ht ha hb hd hne

/-- Non-vacuity: from the leaf below the rpc input up three levels and down into the implicit case. -/
example : find exReg exF (0, [.child "r", .input, .child "i"]) 0
      (relPath [.child "r", .input, .child "i"] [.child "ch", .child "x0", .child "x0"]) =
    (some (0, [.child "ch", .child "x0", .child "x0"]), exF) :=
  find_rel_roundtrip exReg exF exF_wf 0 0 _ _ (leaf "i") (leaf "x0") (by rfl) (by rfl)

example : relParts [.child "r", .input, .child "i"] [.child "r", .input] = [".."] := by decide +kernel
example : relParts [.child "c"] [.child "c"] = ["."] := by decide +kernel
example : relParts [.child "c", .child "x"] [.child "ch", .child "x0"] = ["..", "..", "ch", "x0"] := by decide +kernel

/-! ### steps that name nothing -/

/-- **Absent step.**  If the path up to some step reaches a node (`find` on the prefix path
returns it) and the next written step names no child of that node — below an rpc/action anything
but `input`/`output`; elsewhere a name that is not a key of `Dir`, including the empty name — then
the lookup of the whole path, whatever follows the bad step, returns nothing.  Absolute
(`abs = true`) and relative paths. -/
theorem find_absent_step (reg : Registry) (f : Forest) (start : Loc) (ctx : Nat) (abs : Bool)
    (pre : List String) (bad : String) (post : List String) (loc : Loc) (f' : Forest) (e : Entry)
    (hne : pre ≠ []) (hslash : ∀ s ∈ pre ++ bad :: post, '/' ∉ s.toList)
    (hrel : abs = false → pre.head? ≠ some "")
    (hreach : find reg f start ctx (render abs pre) = (some loc, f'))
    (hnode : nodeAt f' loc = some e) (hbad : NamesNoChild e bad) :
    (find reg f start ctx (render abs (pre ++ bad :: post))).1 = none := by
  have hs1 : ∀ s ∈ pre, '/' ∉ s.toList := fun s hs => hslash s (List.mem_append_left _ hs)
  have hne2 : pre ++ bad :: post ≠ [] := by simp
  have hrel2 : abs = false → (pre ++ bad :: post).head? ≠ some "" := by
    intro ha; cases pre with
    | nil => exact absurd rfl hne
    | cons a l => simpa using hrel ha
  rw [find_eq_findParts _ _ _ _ _ (render_ne abs pre hne hs1 hrel), splitOn_render_gen abs pre hne hs1] at hreach
  rw [find_eq_findParts _ _ _ _ _ (render_ne abs _ hne2 hslash hrel2), splitOn_render_gen abs _ hne2 hslash]
  unfold findParts at hreach ⊢
  rw [startOf_extend reg start ctx abs pre (bad :: post) hne hrel]
  cases hst : startOf reg start ctx (if abs then "" :: pre else pre) with
  | none => simp [hst] at hreach
  | some r =>
    obtain ⟨t, cur, ps⟩ := r
    simp only [hst, Option.map_some] at hreach ⊢
    cases htr : f.tree? t with
    | none => simp [htr] at hreach
    | some root =>
      simp only [htr] at hreach ⊢
      rw [walkParts_append]
      cases hw : walkParts ps root (some cur) with
      | mk r root1 =>
        simp only [hw, Prod.mk.injEq] at hreach ⊢
        obtain ⟨h1, h2⟩ := hreach
        cases r with
        | none => simp at h1
        | some p =>
          simp only [Option.map_some, Option.some.injEq] at h1
          subst h1 h2
          rw [nodeAt_setTree htr] at hnode
          simp [walk_bad post hnode hbad]

/-- The first step of a relative path names no child of the start node. -/
theorem find_absent_first_step_rel (reg : Registry) (f : Forest) (start : Loc) (ctx : Nat)
    (bad : String) (post : List String) (e : Entry)
    (hslash : ∀ s ∈ bad :: post, '/' ∉ s.toList) (hb0 : bad ≠ "")
    (hnode : nodeAt f start = some e) (hbad : NamesNoChild e bad) :
    (find reg f start ctx (renderRel (bad :: post))).1 = none := by
  obtain ⟨root, htr, hnode⟩ := nodeAt_some hnode
  rw [find_renderRel reg f start ctx (by simp) hslash (by simpa using hb0) htr]
  simp [walk_bad post hnode hbad]

/-- The first step of an absolute path names no child of the root of the tree its prefix selects
(`t`: the tree of the start's own module for a bare step, else the tree the prefix denotes). -/
theorem find_absent_first_step_abs (reg : Registry) (f : Forest) (start : Loc) (ctx : Nat)
    (bad : String) (post : List String) (t : Nat) (root : Entry)
    (hslash : ∀ s ∈ bad :: post, '/' ∉ s.toList)
    (hsel : (if (splitPrefix bad).1 == "" then some (homeTree reg start.1)
             else prefixTree reg ctx (splitPrefix bad).1) = some t)
    (ht : f.tree? t = some root) (hbad : NamesNoChild root bad) :
    (find reg f start ctx (renderAbs (bad :: post))).1 = none := by
  rw [find_renderAbs reg f start ctx (by simp) hslash (by simpa using hsel) ht]
  simp [walk_bad post (show root.getAt [] = some root from rfl) hbad]

/-- A first prefix that the context module does not bind to a loaded module: nothing is found;
goyang records the failure as an error on the root entry of the tree the lookup started in (that
is the forest `withPrefixError`), everything else is unchanged. -/
theorem find_unknown_prefix (reg : Registry) (f : Forest) (start : Loc) (ctx : Nat) (parts : List String)
    (hne : parts ≠ []) (hslash : ∀ s ∈ parts, '/' ∉ s.toList)
    (hp : (splitPrefix (parts.headD "")).1 ≠ "")
    (hsel : prefixTree reg ctx (splitPrefix (parts.headD "")).1 = none) :
    find reg f start ctx (renderAbs parts) = (none, withPrefixError f start.1) := by
  rw [find_eq_findParts _ _ _ _ _ (renderAbs_ne parts hne hslash), splitOn_renderAbs parts hslash]
  unfold findParts
  rw [startOf_abs]
  simp only [beq_iff_eq, hp, if_false, hsel, Option.map_none]

/-- `..` above the root of a tree returns nothing. -/
theorem find_above_root (reg : Registry) (f : Forest) (t ctx : Nat) (post : List String)
    (hslash : ∀ s ∈ post, '/' ∉ s.toList) :
    (find reg f (t, []) ctx (renderRel (".." :: post))).1 = none := by
  have hs : ∀ s ∈ ".." :: post, '/' ∉ s.toList := by
    intro s h; rcases List.mem_cons.1 h with rfl | h
    · decide
    · exact hslash s h
  rw [find_eq_findParts _ _ _ _ _ (renderRel_ne ".." post (by decide) hs), splitOn_render _ (by simp) hs]
  unfold findParts
  rw [startOf_rel _ _ _ _ (by intro parts h; simp at h)]
  simp only
  cases htr : f.tree? t with
  | none => rfl
  | some root =>
    simp only
    rw [walk_dotdot post (show root.getAt [] = some root from rfl)]
    simp [walkParts_none]

/-- The empty path returns nothing. -/
theorem find_empty (reg : Registry) (f : Forest) (start : Loc) (ctx : Nat) :
    find reg f start ctx "" = (none, f) := by simp [find]

/-- Non-vacuity (the defect D17 repaired by ec88a45): `/qa:r/qa:bogus/qa:i` — a step other than
input/output below the rpc — finds nothing. -/
example : (find exReg exF (1, []) 1 (render true (["qa:r"] ++ "qa:bogus" :: ["qa:i"]))).1 = none :=
  find_absent_step exReg exF (1, []) 1 true ["qa:r"] "qa:bogus" ["qa:i"] (0, [.child "r"]) exF
    (.mk { name := "r", isRpc := true } [] [.mk { name := "input", kind := .input } [leaf "i"] [] []] [])
    (by simp) (by decide) (by simp)
    (find_abs_roundtrip exReg exF exF_wf _ 1 "qa" 0 [.child "r"] _ good_qa exReg_qa (by simp) (by rfl))
    (by rfl)
    ⟨by decide, by decide, by
      show (if true = true then _ else _)
      rw [if_pos rfl]
      simp only [stripPrefix, bogus_split]
      decide⟩

/-- Non-vacuity: an extra trailing step below a leaf (`x/q` from `/a/c`). -/
example : (find exReg exF (0, [.child "c"]) 0 (render false (["x"] ++ "q" :: []))).1 = none :=
  find_absent_step exReg exF (0, [.child "c"]) 0 false ["x"] "q" [] (0, [.child "c", .child "x"]) exF (leaf "x")
    (by simp) (by decide) (by simp)
    (find_rel_roundtrip exReg exF exF_wf 0 0 [.child "c"] [.child "c", .child "x"] _ (leaf "x") (by rfl) (by rfl))
    (by rfl)
    ⟨by decide, by decide, by
      show (if false = true then _ else _)
      rw [if_neg (by decide)]
      simp only [stripPrefix, splitPrefix_bare "q" (by decide)]
      exact ⟨by decide, by rfl⟩⟩

/-! ### frame -/

/-- **Frame.**  Whatever the start and the path, a lookup changes at most one tree of the
forest, and only in one of two ways: by `Grown` — zero or more creations of an absent rpc/action
input or output (`GrowStep`), nothing else — or, when the lookup fails because the first prefix
cannot be resolved, by the error goyang records on the root entry of the start tree.  (For the
paths of existing nodes the round-trip theorems give "no change at all".) -/
theorem find_frame (reg : Registry) (f : Forest) (start : Loc) (ctx : Nat) (name : String) :
    (find reg f start ctx name).2 = f ∨
    (∃ t root root', f.tree? t = some root ∧ Grown root root' ∧ (find reg f start ctx name).2 = f.setTree t root') ∨
    ((find reg f start ctx name).1 = none ∧ (find reg f start ctx name).2 = withPrefixError f start.1) :=
  frame reg f start ctx name

/-- What `Grown` cannot do: every location of the old tree is a location of the new tree and
carries the same node data (name, kind, config, …) — nothing is lost, moved or edited. -/
theorem grown_keeps_nodes (a b : Entry) (h : Grown a b) (q : Path) (x : Entry) (hx : a.getAt q = some x) :
    ∃ x', b.getAt q = some x' ∧ x'.d = x.d := by
  induction h generalizing x with
  | refl e => exact ⟨x, hx, rfl⟩
  | step s _ ih =>
    obtain ⟨x1, h1, d1⟩ := growStep_getAt s q x hx
    obtain ⟨x2, h2, d2⟩ := ih x1 h1
    exact ⟨x2, h2, d2.trans d1⟩

/-- The step loop itself, for any parts (the statement `find_frame` is built on). -/
theorem walkParts_frame (parts : List String) (root : Entry) (cur : Option Path) :
    Grown root (walkParts parts root cur).2 :=
  walkParts_grown parts root cur

/-- Non-vacuity of growth: rpc `r` of the example has no output; creating it is a `GrowStep`, and
the new tree has the implicit output where the old tree had nothing. -/
example : GrowStep treeA (treeA.updateAt [.child "r"] (addImplicit false)) ∧
    treeA.getAt [.child "r", .output] = none ∧
    ((treeA.updateAt [.child "r"] (addImplicit false)).getAt [.child "r", .output]).map (·.name) = some "output" :=
  ⟨GrowStep.output treeA [.child "r"] _ (by rfl) (by rfl) (by rfl), by rfl, by rfl⟩

end Goyang.Props.C17
