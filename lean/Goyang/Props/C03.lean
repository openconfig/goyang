import Goyang.Model.Ast
import Goyang.Spec.Ast
import Goyang.Gen.AstSchema
import Goyang.Lemmas.Ast
/-
C03 — the AST mirrors the statement tree one-to-one or the build fails.
Property theorems only; helper lemmas live in Goyang/Lemmas/Ast.lean.

Reading aid.
 * `build tbl s parent` is the model of `build` in pkg/yang/ast.go, generic over the tag table `tbl`
   exactly as the Go code is generic by reflection; `parseTop tbl dup ss` is `Modules.Parse` on the
   statements `ss` the generic parser returned (build all, then `Modules.add` each; `dup` stands for
   whatever `add` decides about colliding module names, the theorems hold for every such policy).
 * `Mirrors tbl a s` (`mirrors tbl parent a s = true`): node `a` is the image of statement `s` — see
   `mirrors_unfold` for what that says, one level at a time.
 * `accepts tbl s = true`: the tree below `s` has none of the defects that must be rejected
   (`accepts_unfold`, `acceptsSubs_unfold`, `Goyang.Spec.Ast.cardOk`).
 * `WF tbl`: well-formedness of the table.  The theorems hold for every well-formed table;
   `gen_table_wf` re-proves well-formedness of the table regenerated from the Go source on every run
   by kernel evaluation, `gen_table_mandatory` that the regenerated table still demands the
   mandatory substatements the property names.
 * A Go panic is the error class `crash`; `build_total` / `parse_total` say it is unreachable.

Everything is stated for all statement trees (any keyword under any keyword, any multiplicity, any
order, any arguments and positions).  The model mirrors the repaired code (fix commits a6c22d9 and
40e58d4 in /repo); on the tree before them the statements below were false: `foo;` at top level
and `Parent x;` under `module` dereferenced nil / panicked in reflect (`build_total`),
`Statement x;` replaced the node's source statement and `Name x;` set the name of a node without
argument (`build_mirrors`, `build_rejects_unknown`).
-/
namespace Goyang.Props.C03
open Goyang.Model.Ast Goyang.Spec.Ast
open Goyang.Lemmas.Ast (ParentOk WF.toP fails_of_not_ok)

abbrev table : Schema := Goyang.Gen.AstSchema.table

/-! ### per-run obligations on the regenerated table -/

/-- The tag table regenerated from pkg/yang on this run is well-formed (kernel evaluation). -/
theorem gen_table_wf : WF table := by decide +kernel

/-- The regenerated table still demands the mandatory substatements the property names
(leaf/leaf-list/typedef: type; import, belongs-to: prefix; module: namespace, prefix;
submodule: belongs-to; deviation: deviate). -/
theorem gen_table_mandatory : namedMandatory.all (fun pc => requiresB table pc.1 pc.2) = true := by
  decide +kernel

/-! ### what `Mirrors` and `accepts` say -/

/-- `Mirrors`, one level unfolded: type, name, source reference, parent link; the extension list is
the prefixed substatements unknown in the context, in order; every substatement is known or
prefixed; one child list per struct field, and for each field `fieldOk` (next theorem). -/
theorem mirrors_unfold {tbl : Schema} {p : Option Nat} {a : ANode} {s : Stmt} :
    mirrors tbl p a s = true ↔
      ∃ T, typeFor tbl s.kw = some a.ty ∧ tbl.types[a.ty]? = some T ∧
        a.name = s.arg ∧ a.src = some s ∧ a.parent = p ∧
        a.exts = extsOf tbl T s.subs ∧
        s.subs.all (fun ss => knownIn tbl T ss.kw || prefixed ss.kw) = true ∧
        a.fields.length = T.fields.length ∧
        ∀ (i : Nat) (f : Field) (kids : List ANode), T.fields[i]? = some f → a.fields[i]? = some kids →
          Goyang.Lemmas.Ast.fieldOk tbl a.ty s.subs f kids = true :=
  Goyang.Lemmas.Ast.mirrors_iff

/-- A substatement field holds, in source order, the images (with this node as parent) of exactly
the substatements spelled like its tag — at most one for a pointer field; a meta field holds nothing. -/
theorem fieldOk_unfold (tbl : Schema) (t : Nat) (subs : List Stmt) (f : Field) (kids : List ANode) :
    Goyang.Lemmas.Ast.fieldOk tbl t subs f kids =
      if f.kind.isSub then
        mirrorsKids tbl t kids (subs.filter (fun ss => tbl.kwName f.tag == some ss.kw)) &&
          (f.kind != .ptr || kids.length ≤ 1)
      else kids.isEmpty := rfl

/-- Children correspond to statements one to one, in order. -/
theorem mirrorsKids_unfold (tbl : Schema) (t : Nat) (k : ANode) (ks : List ANode) (s : Stmt) (ss : List Stmt) :
    mirrorsKids tbl t [] [] = true ∧ mirrorsKids tbl t (k :: ks) [] = false ∧
    mirrorsKids tbl t [] (s :: ss) = false ∧
    mirrorsKids tbl t (k :: ks) (s :: ss) = (mirrors tbl (some t) k s && mirrorsKids tbl t ks ss) := by
  simp [mirrorsKids]

theorem accepts_unfold {tbl : Schema} {s : Stmt} :
    accepts tbl s = true ↔
      ∃ t T, typeFor tbl s.kw = some t ∧ tbl.types[t]? = some T ∧
        acceptsSubs tbl T s.subs = true ∧ T.fields.all (cardOk tbl s.kw s.subs) = true :=
  Goyang.Lemmas.Ast.accepts_iff

theorem acceptsSubs_unfold {tbl : Schema} {T : TypeDef} (subs : List Stmt) :
    acceptsSubs tbl T subs = true ↔
      ∀ ss ∈ subs, (knownIn tbl T ss.kw = true → accepts tbl ss = true) ∧
        (knownIn tbl T ss.kw = false → prefixed ss.kw = true) :=
  Goyang.Lemmas.Ast.acceptsSubs_iff subs

/-! ### a successful build mirrors the statement tree -/

/-- Main theorem: whenever building the top-level statement `s` succeeds, the node mirrors `s`
(recursively: every substatement exactly once, under the field of its keyword and in source order,
or in the extension list when prefixed; name = argument; parent link; source reference). -/
theorem build_mirrors {tbl : Schema} (h : WF tbl) {s : Stmt} {a : ANode}
    (hb : build tbl s none = .ok a) : Mirrors tbl a s :=
  (Goyang.Lemmas.Ast.build_sound (WF.toP h) s none a hb).1

/-- The same for a statement built below a node of type `p`. -/
theorem build_mirrors_nested {tbl : Schema} (h : WF tbl) {s : Stmt} {p : Option Nat} {a : ANode}
    (hb : build tbl s p = .ok a) : mirrors tbl p a s = true :=
  (Goyang.Lemmas.Ast.build_sound (WF.toP h) s p a hb).1

/-- A successful build means the whole tree (through every known substatement) has no defect. -/
theorem build_accepts {tbl : Schema} (h : WF tbl) {s : Stmt} {p : Option Nat} {a : ANode}
    (hb : build tbl s p = .ok a) : accepts tbl s = true :=
  (Goyang.Lemmas.Ast.build_sound (WF.toP h) s p a hb).2

/-- The build fails on exactly the defective trees: it succeeds iff `accepts`. -/
theorem build_exact {tbl : Schema} (h : WF tbl) (s : Stmt) {p : Option Nat} (hp : ParentOk tbl p) :
    (∃ a, build tbl s p = .ok a) ↔ accepts tbl s = true :=
  ⟨fun ⟨_, hb⟩ => build_accepts h hb, Goyang.Lemmas.Ast.build_complete (WF.toP h) s p hp⟩

/-- `Modules.Parse`: on success there is one node per top-level statement, in order, each mirroring
its statement, in `SubModules` exactly for the keyword `submodule`; and every top-level statement is
a module or submodule whose tree has no defect.  (`dup`: whatever `Modules.add` decides about
colliding module names.) -/
theorem parse_mirrors {tbl : Schema} (h : WF tbl) {dup : List TopMod → TopMod → Bool} {ss : List Stmt}
    {mods : List TopMod} (hp : parseTop tbl dup ss = .ok mods) :
    mirrorsTop tbl (mods.map fun m => (m.isSub, m.node)) ss = true ∧ acceptsTop tbl ss = true :=
  (Goyang.Lemmas.Ast.parseTop_spec (WF.toP h)).ok hp

/-! ### what is always rejected -/

/-- A statement whose keyword has no node type (top level: anything but the table's keywords) fails. -/
theorem build_rejects_unknown_statement {tbl : Schema} (h : WF tbl) {s : Stmt} {p : Option Nat}
    (hk : typeFor tbl s.kw = none) : ∃ e, build tbl s p = .error e := by
  apply fails_of_not_ok
  intro a hb
  obtain ⟨t, _, ht, _⟩ := accepts_unfold.1 (build_accepts h hb)
  rw [hk] at ht; cases ht

/-- A substatement whose keyword is unknown in its context and not prefixed is rejected. -/
theorem build_rejects_unknown {tbl : Schema} (h : WF tbl) {s ss : Stmt} {p : Option Nat}
    (hss : ss ∈ s.subs) (hnp : prefixed ss.kw = false)
    (hunk : ∀ t T, typeFor tbl s.kw = some t → tbl.types[t]? = some T → knownIn tbl T ss.kw = false) :
    ∃ e, build tbl s p = .error e := by
  apply fails_of_not_ok
  intro a hb
  obtain ⟨t, T, ht, hT, hsubs, _⟩ := accepts_unfold.1 (build_accepts h hb)
  have := ((acceptsSubs_unfold s.subs).1 hsubs ss hss).2 (hunk t T ht hT)
  rw [hnp] at this; cases this

/-- A second occurrence of a single-valued (pointer field) substatement is rejected. -/
theorem build_rejects_duplicate_single {tbl : Schema} (h : WF tbl) {s : Stmt} {p : Option Nat}
    {t : Nat} {T : TypeDef} {f : Field} (ht : typeFor tbl s.kw = some t) (hT : tbl.types[t]? = some T)
    (hf : f ∈ T.fields) (hp : f.kind = .ptr) (hdup : 2 ≤ (subsOf tbl f s.subs).length) :
    ∃ e, build tbl s p = .error e := by
  apply fails_of_not_ok
  intro a hb
  have hc := Goyang.Lemmas.Ast.card_of_ok (WF.toP h) hb ht hT hf
  have hs : f.kind.isSub = true := by rw [hp]; rfl
  simp only [cardOk, hs, Bool.not_true, Bool.false_or, Bool.and_eq_true, Bool.or_eq_true,
    decide_eq_true_eq] at hc
  rcases hc.1.1.1 with h1 | h1
  · simp [hp] at h1
  · omega

/-- An absent mandatory (`required`) substatement is rejected. -/
theorem build_rejects_missing_required {tbl : Schema} (h : WF tbl) {s : Stmt} {p : Option Nat}
    {t : Nat} {T : TypeDef} {f : Field} (ht : typeFor tbl s.kw = some t) (hT : tbl.types[t]? = some T)
    (hf : f ∈ T.fields) (hs : f.kind.isSub = true) (hr : f.required = true)
    (hnone : subsOf tbl f s.subs = []) : ∃ e, build tbl s p = .error e := by
  apply fails_of_not_ok
  intro a hb
  have hc := Goyang.Lemmas.Ast.card_of_ok (WF.toP h) hb ht hT hf
  simp only [cardOk, hs, hr, hnone, Bool.not_true, Bool.false_or, Bool.and_eq_true, Bool.or_eq_true,
    decide_eq_true_eq, List.length_nil] at hc
  omega

/-- An absent substatement that is mandatory for this keyword (`required=KIND`: module without
namespace or prefix, submodule without belongs-to) is rejected. -/
theorem build_rejects_missing_required_kind {tbl : Schema} (h : WF tbl) {s : Stmt} {p : Option Nat}
    {t : Nat} {T : TypeDef} {f : Field} (ht : typeFor tbl s.kw = some t) (hT : tbl.types[t]? = some T)
    (hf : f ∈ T.fields) (hs : f.kind.isSub = true)
    (hk : f.reqKinds.any (fun k => tbl.kwName k == some s.kw) = true)
    (hnone : subsOf tbl f s.subs = []) : ∃ e, build tbl s p = .error e := by
  apply fails_of_not_ok
  intro a hb
  have hc := Goyang.Lemmas.Ast.card_of_ok (WF.toP h) hb ht hT hf
  simp only [cardOk, hs, hk, hnone, Bool.not_true, Bool.false_or, Bool.and_eq_true, Bool.or_eq_true,
    decide_eq_true_eq, List.length_nil] at hc
  omega

/-- A substatement that is mandatory for a different keyword only (belongs-to in a module,
namespace in a submodule) is rejected. -/
theorem build_rejects_foreign_required {tbl : Schema} (h : WF tbl) {s : Stmt} {p : Option Nat}
    {t : Nat} {T : TypeDef} {f : Field} (ht : typeFor tbl s.kw = some t) (hT : tbl.types[t]? = some T)
    (hf : f ∈ T.fields) (hs : f.kind.isSub = true)
    (hk : f.reqKinds.any (fun k => tbl.kwName k != some s.kw) = true)
    (hsome : subsOf tbl f s.subs ≠ []) : ∃ e, build tbl s p = .error e := by
  apply fails_of_not_ok
  intro a hb
  have hc := Goyang.Lemmas.Ast.card_of_ok (WF.toP h) hb ht hT hf
  simp only [cardOk, hs, hk, Bool.not_true, Bool.false_or, Bool.and_eq_true, Bool.or_eq_true,
    beq_iff_eq] at hc
  exact hsome (List.length_eq_zero_iff.1 hc.2)

/-- A defect anywhere below a known substatement makes the enclosing build fail as well (so the
four rejections above apply at every depth). -/
theorem build_rejects_nested {tbl : Schema} (h : WF tbl) {s ss : Stmt} {p : Option Nat}
    (hss : ss ∈ s.subs)
    (hknown : ∀ t T, typeFor tbl s.kw = some t → tbl.types[t]? = some T → knownIn tbl T ss.kw = true)
    (hbad : accepts tbl ss = false) : ∃ e, build tbl s p = .error e := by
  apply fails_of_not_ok
  intro a hb
  obtain ⟨t, T, ht, hT, hsubs, _⟩ := accepts_unfold.1 (build_accepts h hb)
  have := ((acceptsSubs_unfold s.subs).1 hsubs ss hss).1 (hknown t T ht hT)
  rw [hbad] at this; cases this

/-- By spelling: when the table demands substatement `C` of statement `P` (`requiresB`), a `P`
without any `C` is rejected. -/
theorem build_rejects_missing_named {tbl : Schema} (h : WF tbl) {P C : Bytes} (hreq : requiresB tbl P C = true)
    {s : Stmt} {p : Option Nat} (hkw : s.kw = P) (hnone : ∀ ss ∈ s.subs, ss.kw ≠ C) :
    ∃ e, build tbl s p = .error e := by
  unfold requiresB at hreq
  split at hreq
  · cases hreq
  rename_i t ht
  split at hreq
  · cases hreq
  rename_i T hT
  rw [List.any_eq_true] at hreq
  obtain ⟨f, hf, hfc⟩ := hreq
  simp only [Bool.and_eq_true, fieldIs, beq_iff_eq, Bool.or_eq_true] at hfc
  obtain ⟨⟨hs, hname⟩, hr⟩ := hfc
  have hempty : subsOf tbl f s.subs = [] := by
    simp only [subsOf, List.filter_eq_nil_iff, beq_iff_eq]
    intro ss hss he
    rw [hname] at he
    exact hnone ss hss (Option.some.inj he).symm
  subst hkw
  rcases hr with hr | hr
  · exact build_rejects_missing_required h ht hT hf hs hr hempty
  · exact build_rejects_missing_required_kind h ht hT hf hs hr hempty

/-- For the regenerated table: leaf / leaf-list / typedef without type, import / belongs-to without
prefix, module without namespace or prefix, submodule without belongs-to, deviation without deviate
are rejected, wherever they occur. -/
theorem gen_rejects_named_mandatory {P C : Bytes} (hpc : (P, C) ∈ namedMandatory) {s : Stmt} {p : Option Nat}
    (hkw : s.kw = P) (hnone : ∀ ss ∈ s.subs, ss.kw ≠ C) : ∃ e, build table s p = .error e :=
  build_rejects_missing_named gen_table_wf
    (List.all_eq_true.1 gen_table_mandatory (P, C) hpc) hkw hnone

/-- A top-level statement that is not a module or submodule is always rejected — whatever else the
text contains — and not by a crash. -/
theorem build_rejects_toplevel_non_module {tbl : Schema} (h : WF tbl) {dup : List TopMod → TopMod → Bool}
    {ss : List Stmt} {s : Stmt} (hs : s ∈ ss) (hkw : s.kw ≠ kwModule ∧ s.kw ≠ kwSubmodule) :
    ∃ e, parseTop tbl dup ss = .error e ∧ e.cls ≠ .crash := by
  cases hp : parseTop tbl dup ss with
  | error e => exact ⟨e, rfl, (Goyang.Lemmas.Ast.parseTop_spec (WF.toP h)).error hp⟩
  | ok mods =>
    exfalso
    have hacc := (parse_mirrors h hp).2
    simp only [acceptsTop, List.all_eq_true, Bool.and_eq_true, Bool.or_eq_true, beq_iff_eq] at hacc
    rcases (hacc s hs).1 with h1 | h1
    · exact hkw.1 h1
    · exact hkw.2 h1

/-! ### totality: no input reaches a panic -/

/-- `build` never reaches a path on which the Go code panics (nil `typeMap` entry, reflect type
mismatch, `Parent` of a non-`Node`), for an absent or proper enclosing node. -/
theorem build_total {tbl : Schema} (h : WF tbl) (s : Stmt) {p : Option Nat} (hp : ParentOk tbl p) :
    ∀ e, build tbl s p = .error e → e.cls ≠ .crash :=
  fun e he => Goyang.Lemmas.Ast.build_no_crash (WF.toP h) s p e hp he

/-- The same at top level (no enclosing node). -/
theorem build_total_top {tbl : Schema} (h : WF tbl) (s : Stmt) :
    ∀ e, build tbl s none = .error e → e.cls ≠ .crash :=
  build_total h s (Goyang.Lemmas.Ast.parentOk_none tbl)

/-- `Modules.Parse` (build of every top-level statement, then `add` of every node) never reaches a panic. -/
theorem parse_total {tbl : Schema} (h : WF tbl) (dup : List TopMod → TopMod → Bool) (ss : List Stmt) :
    ∀ e, parseTop tbl dup ss = .error e → e.cls ≠ .crash :=
  fun _ he => (Goyang.Lemmas.Ast.parseTop_spec (WF.toP h)).error he

/-! ### non-vacuity: concrete inputs over the regenerated table -/

section Examples

private def b (s : String) : Bytes := s.toList.map (fun c => c.toNat.toUInt8)
private def st (kw arg : String) (subs : List Stmt := []) : Stmt := .mk (b kw) true (b arg) 1 1 subs
private def okB : Except Err ANode → Bool | .ok _ => true | .error _ => false
private def clsOf : Except Err ANode → Option ErrClass | .ok _ => none | .error e => some e.cls
private def topCls : Except Err (List TopMod) → Option ErrClass | .ok _ => none | .error e => some e.cls

private def goodModule : Stmt :=
  st "module" "m" [st "namespace" "n", st "prefix" "p", st "oc:ext" "v" [st "anything" "x"],
    st "leaf" "l" [st "type" "string"], st "leaf" "k" [st "type" "string" [st "length" "1..2"]]]

-- WF is satisfiable by a non-trivial table: `gen_table_wf` (the regenerated one: ~37 struct types).
example : 30 ≤ table.types.length ∧ 60 ≤ table.kwNames.length := by decide +kernel

-- build succeeds on a module with extensions, repeated and nested statements; the result mirrors it
example : okB (build table goodModule none) = true := by decide +kernel
example : (match build table goodModule none with
    | .ok a => mirrors table none a goodModule | .error _ => false) = true := by decide +kernel
example : accepts table goodModule = true := by decide +kernel

-- the four rejections, on concrete inputs (error class as the Go code reports it)
example : clsOf (build table (st "module" "m" [st "namespace" "n", st "prefix" "p", st "foo" "x"]) none)
    = some .unknownField := by decide +kernel
example : clsOf (build table (st "module" "m" [st "namespace" "n", st "prefix" "p", st "namespace" "q"]) none)
    = some .alreadySet := by decide +kernel
example : clsOf (build table (st "module" "m" [st "namespace" "n", st "prefix" "p", st "leaf" "l"]) none)
    = some .missing := by decide +kernel
example : clsOf (build table (st "submodule" "s") none) = some .missing := by decide +kernel
example : clsOf (build table (st "module" "m" [st "namespace" "n", st "prefix" "p",
    st "belongs-to" "x" [st "prefix" "p"]]) none) = some .unknownField := by decide +kernel
example : topCls (parseTop table (fun _ _ => false) [st "container" "c"]) = some .notModule := by decide +kernel
example : topCls (parseTop table (fun _ _ => false) [goodModule, st "foo" "x"]) = some .unknownStmt := by decide +kernel

-- an extension statement whose local name is that of the mandatory substatement does not stand in for it
example : clsOf (build table (st "leaf" "x" [st "d2:type" "string"]) none) = some .missing := by decide +kernel
example : clsOf (build table (st "module" "m" [st "prefix" "m", st "m:namespace" "urn:m"]) none)
    = some .missing := by decide +kernel
example : accepts table (st "leaf" "x" [st "d2:type" "string"]) = false := by decide +kernel
example : okB (build table (st "leaf" "x" [st "d2:type" "int8", st "type" "string"]) none) = true := by
  decide +kernel

-- Modules.add refuses a module name with '@' (registry rule, fix b0bffce), after the kind check
example : topCls (parseTop table (fun _ _ => false) [st "module" "a@b" [st "namespace" "n", st "prefix" "p"]])
    = some .badName := by decide +kernel
example : topCls (parseTop table (fun _ _ => false) [st "container" "a@b"]) = some .notModule := by
  decide +kernel

-- the witnesses of the repaired defects D1 / D2 are plain rejections
example : clsOf (build table (st "foo" "x") none) = some .unknownStmt := by decide +kernel
example : clsOf (build table (st "module" "m" [st "namespace" "n", st "prefix" "p", st "Parent" "x"]) none)
    = some .unknownField := by decide +kernel
example : clsOf (build table (st "module" "m" [st "namespace" "n", st "prefix" "p", st "Statement" "x"]) none)
    = some .unknownField := by decide +kernel
example : clsOf (build table (st "module" "" [st "namespace" "n", st "prefix" "p", st "Name" "x"]) none)
    = some .unknownField := by decide +kernel

-- hypotheses of the rejection theorems are satisfiable
example : typeFor table (b "foo") = none := by decide +kernel
example : (b "leaf", b "type") ∈ namedMandatory := by decide +kernel
example : prefixed (b "foo") = false ∧ prefixed (b "oc:ext") = true ∧ prefixed (b "a:b:c") = false := by
  decide +kernel
example : (match typeFor table (b "leaf") with
    | some t =>
      match table.types[t]? with
      | some T => T.fields.any (fun f => f.kind == .ptr && f.required && table.kwName f.tag == some (b "type"))
      | none => false
    | none => false) = true := by decide +kernel

-- `build_rejects_unknown`: `foo` is neither prefixed nor known under `module`
example : (match typeFor table (b "module") with
    | some t =>
      match table.types[t]? with
      | some T => knownIn table T (b "foo") || knownIn table T (b "Parent") || knownIn table T (b "Name") ||
          knownIn table T (b "Statement") || knownIn table T (b "Ext")
      | none => true
    | none => true) = false := by decide +kernel

-- `build_rejects_duplicate_single`: `namespace` twice under `module` is two entries of one pointer field
example : (match typeFor table (b "module") with
    | some t =>
      match table.types[t]? with
      | some T => T.fields.any (fun f => f.kind == .ptr &&
          decide (2 ≤ (subsOf table f [st "namespace" "n", st "prefix" "p", st "namespace" "q"]).length))
      | none => false
    | none => false) = true := by decide +kernel

-- `build_rejects_foreign_required`: `belongs-to` is mandatory for `submodule`, hence forbidden in `module`
example : (match typeFor table (b "module") with
    | some t =>
      match table.types[t]? with
      | some T => T.fields.any (fun f => f.kind.isSub && table.kwName f.tag == some (b "belongs-to") &&
          f.reqKinds.any (fun k => table.kwName k != some (b "module")))
      | none => false
    | none => false) = true := by decide +kernel

-- `build_rejects_toplevel_non_module`, `build_total`: their hypotheses on concrete data
example : b "container" ≠ kwModule ∧ b "container" ≠ kwSubmodule := by decide +kernel
example : ParentOk table none := Goyang.Lemmas.Ast.parentOk_none table
example : ParentOk table (some table.moduleTy) := by
  intro pt hpt
  cases hpt
  have hlt : table.moduleTy < table.types.length := by decide +kernel
  exact ⟨table.types[table.moduleTy], List.getElem?_eq_getElem hlt,
    ((WF.toP gen_table_wf).types _ (List.getElem_mem hlt)).isNode⟩

end Examples

end Goyang.Props.C03
