import Goyang.Lemmas.LoadOrderDump
import Goyang.Lemmas.LoadOrderLoad
import Goyang.Lemmas.LoadOrderKept
import Goyang.Lemmas.LoadOrderTexts
import Goyang.Lemmas.LoadOrderWitness
import Goyang.Props.C05
import Goyang.Lemmas.LoadOrderPlug
import Goyang.Model.Pipeline
import Goyang.Model.TypesLite
/-
Property C05, load order: the same sources give the same result whatever the order in which they
were loaded.  This file proves the core statement `Props.C05.ProcessLoadOrderIrrelevant` (there
only stated) — with the one hypothesis it needs: no two sources define the same (kind, name,
revision) (`Distinct`; without it the statement is false: `distinct_needed`, and
`process_load_order_unconditional_fails : ¬ Props.C05.ProcessLoadOrderIrrelevant` for the real
pipeline `processFiles` with `plugFull`).

What the quantifier "all module sets x all permutations of the load order" ranges over.  A
*module set* is a collection of sources of which no two define the same header (kind, name,
latest revision): `Modules` holds one module per header and `Modules.add` refuses a second load
of a header (`Props.C13.duplicate_rejected`), so of two sources with one header only the first
ever becomes part of the set — "the same sources" in two orders are then two different module
sets (`distinct_needed`: the dumps differ).  `Distinct` says exactly that the load list is a
module set.  Module names are arbitrary (`NamesOk`, no `@` in a name, is not a hypothesis):
after the repair of D61 a load whose name contains `@` is refused in every order and
leaves no trace (`names_rejected`, `refused_loads_leave_no_trace`); such loads are filtered out
on both sides and the simulation below is applied to the rest.  The refusals themselves are
order independent as well (`refused_load_errors_perm`, `load_outcomes_perm`).

For load lists that are not module sets the strongest statement that holds is proved: the
outcome — registry (`registry_determined_by_first_loads`) and canonical dump
(`process_determined_by_first_loads`) — is a function of the FIRST load of every header; hence
it is invariant under every rearrangement that keeps the loads of each header in their relative
order (`process_stable_order_irrelevant`), and `Distinct` is the special case in which every
permutation is such a rearrangement.

Texts (`processFiles`, `Modules.Parse` atomic per text): `process_files_load_order_irrelevant`
(pairwise different modules, arbitrary names) and `process_files_load_order_irrelevant_acceptable`
(texts that are refused on their own — `@` name, one header twice inside the text — may be
present: they are refused wherever they stand; the texts acceptable on their own must define
pairwise different modules).  Texts that are both acceptable alone and SHARE a header: which
texts are accepted then depends on the order through atomicity —
a text refused for one duplicate header frees its other headers, so the first load of every
header of the flattened statement list does NOT decide (`first_loads_of_statements_do_not_decide_texts`).
The exact statement is proved instead (last section of this file, `Lemmas/LoadOrderTexts.lean`):
`acceptedIn files` = the texts `Modules.Parse` accepts in that order (the fold Go performs; read
off the headers in `accepted_texts_characterised`); `processFiles files = processFiles (acceptedIn
files)` (`process_files_eq_accepted`), the accepted texts being a module set
(`accepted_texts_are_a_module_set`); and two lists of texts with the same accepted texts, as a
multiset, have the same outcome — registry up to load sequence numbers, canonical dump, error
list (`process_files_determined_by_accepted`, `process_determined_by_accepted_texts`).  This
delimits the property at the level of texts: "the same sources" in two load orders give the same
result exactly as far as both orders accept the same texts; every order does when the texts
acceptable alone define pairwise different headers (`accepted_eq_acceptable_of_distinct`,
`accepted_perm_of_distinct`), and for two texts the condition is necessary as well
(`accepted_pair_perm_iff`, `pair_order_irrelevant_iff`: with a shared header `[f, g]` is processed
as `f` alone and `[g, f]` as `g` alone).  With shared headers the accepted set itself depends on
the order: `process_files_order_matters_with_shared_headers` (three texts, `a` in two and `b` in
two of them; `t1, t2, t3` accepts `t1, t3`, `t2, t1, t3` accepts `t2` only; the dumps differ;
kernel-evaluated on `processFiles` with `plugFull`, and replayed on the Go code, which answers
`duplicate module a at t1.yang:1:1 and t2.yang:1:1` and accepts / refuses the same texts).  This
is the documented first-wins behaviour of duplicate loads, not a defect: the property speaks of
the same SOURCES of a module set, and two texts for one (kind, name, revision) are two different
candidate sets.  Nothing about texts remains open; the tie to Go remains by runs.

In the resolver model a loaded module is identified by its load sequence number `Mod.seq`
(tree ids, `nodeMod`, visited sets, caches, pending augments, link sets, the identity dictionary
and the type-resolution stack are keyed by it) and `Registry.mods` is in load order.  Another load
order permutes those numbers.  The proof is a simulation through every stage of the pipeline
(`Lemmas/LoadOrder*.lean`, about 4000 lines, core Lean only — except `LoadOrderWitness.lean`, which
serves the refutation only and reaches one Mathlib module through `Lemmas.Find`):

* `Lemmas.LoadOrder.regRel_of_perm` (on top of C13's registry invariant): two load orders of
  pairwise different modules give registries that hold the same modules under renamed sequence
  numbers, every key of both tables bound to corresponding modules (`RegRel σ r₁ r₂`);
  `Lemmas.LoadOrder.loadAll_kept` / `regRel_of_sameFirsts` (`Lemmas/LoadOrderKept.lean`): a refused
  load leaves the registry as it was, so any load list can be replaced by its accepted loads;
* every registry lookup, `findGrouping`, `toEntry` (with its caches and visited set), `find` /
  `walkParts`, linking, the augment loop, `FixChoice`, the retry rounds and the reporting sweep, deviations commute with
  the renaming `σ` (`toEntry_ren`, `find_ren`, `augmentPhase_rel`, `applyDeviations_ren`,
  `processAll_rel`); the orders in which `Process` walks the tables are sorted orders over distinct
  keys / full names and therefore correspond element by element (`Lemmas/SortUnique`);
* the layers plugged into `processAll` — `Type.resolve` / `resolveTypedefs` (C09 layer) and
  `resolveIdentities` (C11 layer, with the oracle the pipeline uses) — do the same
  (`plugFull_rel`: `resolveTypeF_ren`, `buildDict_ren`, `identityErrsOf_eq`, …);
* the canonical dump mentions no sequence number (`dumpOutcome_ren`).

The theorems are stated for an arbitrary plug that respects the renaming (`PlugRel`) and then
instantiated: `process_load_order_irrelevant` (statement lists, `plugFull`),
`process_files_load_order_irrelevant` (`processFiles` on texts: the statement of
`ProcessLoadOrderIrrelevant`), `process_load_order_irrelevant_resolver` (placeholder type layer).
-/
namespace Goyang.Props.C05Order
open Goyang.Model Goyang.Lemmas.LoadOrder
open Goyang.Lemmas.Registry (NoAt)
open Goyang.Lemmas.Registry renaming hdr → header
open Goyang.Spec.Registry (Header)

/-- Module names are identifiers: no `@` (as in C13).  Not a hypothesis of any theorem of this
file; it is what the witnesses (`names_rejected`) and `refused_loads_leave_no_trace` speak of. -/
def NamesOk (loads : List Stmt) : Prop := ∀ s ∈ loads, '@' ∉ s.arg.toList

/-- The loads are a module set: no two have the same header (kind, name, latest revision), nothing
is rejected as a duplicate.  (Of two loads with one header the second is rejected,
`Props.C13.duplicate_rejected`: which text survives depends on the order; for such lists see
`process_determined_by_first_loads`.) -/
def Distinct (loads : List Stmt) : Prop := (loads.map header).Nodup

instance (loads : List Stmt) : Decidable (NamesOk loads) := by unfold NamesOk; infer_instance
instance (loads : List Stmt) : Decidable (Distinct loads) := by unfold Distinct; infer_instance

/-- **Registry level.**  Two registries that hold the same modules under renamed sequence numbers
(`RegRel`: the module lists correspond up to order, every key of `ms.Modules` / `ms.SubModules` is
bound to corresponding modules) are processed to outcomes with the same canonical dump — for any
plugged layers that respect the renaming. -/
theorem processAll_renaming_invariant {σ : Nat → Nat} {r₁ r₂ : Registry} (h : RegRel σ r₁ r₂) (opts : Opts)
    {p₁ p₂ : Plug} (hp : PlugRel σ r₁ r₂ p₁ p₂) :
    dumpOutcome (processAll r₂ opts p₂) = dumpOutcome (processAll r₁ opts p₁) := by
  obtain ⟨h1, h2, h3, h4⟩ := processAll_rel h opts hp
  have eta : ∀ o : Outcome, o = ⟨o.errors, o.forest, o.reg⟩ := fun _ => rfl
  have e₁ := eta (processAll r₁ opts p₁)
  rw [h4] at e₁
  rw [eta (processAll r₂ opts p₂), h1, h2, h3, dumpOutcome_ren h, ← e₁]

/-- **Load order does not matter**, for any plugged layers that respect the renaming.  Loading
pairwise different modules (arbitrary names) in two orders and processing gives the same canonical dump: the same
error set, or the same trees node by node.  `plug` builds the plugged layers from the registry
(as `plugFull` does). -/
theorem process_load_order_irrelevant_of_plug {loads₁ loads₂ : List Stmt} (hperm : loads₁.Perm loads₂)
    (hd : Distinct loads₁) (opts : Opts) (plug : Registry → Plug)
    (hplug : ∀ σ, RegRel σ (Registry.loadAll loads₁).1 (Registry.loadAll loads₂).1 →
      PlugRel σ (Registry.loadAll loads₁).1 (Registry.loadAll loads₂).1
        (plug (Registry.loadAll loads₁).1) (plug (Registry.loadAll loads₂).1)) :
    dumpOutcome (processAll (Registry.loadAll loads₁).1 opts (plug (Registry.loadAll loads₁).1)) =
      dumpOutcome (processAll (Registry.loadAll loads₂).1 opts (plug (Registry.loadAll loads₂).1)) := by
  obtain ⟨σ, h⟩ := regRel_of_sameFirsts (sameFirsts_of_perm_nodup hperm hd)
  exact (processAll_renaming_invariant h opts (hplug σ h)).symm

/-- The placeholder layers: a type is its written name, no identity or typedef errors. -/
def plugLite : Registry → Plug :=
  fun _ => { tres := typesLite, identityErrs := fun _ => [], typedefErrs := fun _ => [] }

theorem plugLite_rel (σ : Nat → Nat) (r₁ r₂ : Registry) : PlugRel σ r₁ r₂ (plugLite r₁) (plugLite r₂) where
  tres := fun _ _ _ => rfl
  identityErrs := List.Perm.refl _
  typedefErrs := List.Perm.refl _

/-- **Load order does not matter for the resolver proper** (linking, `ToEntry` with groupings,
uses, submodule merging, rpcs, the augment loop, `FixChoice`, deviations, error collection), with
the placeholder type layer: unconditionally for pairwise different modules. -/
theorem process_load_order_irrelevant_resolver {loads₁ loads₂ : List Stmt} (hperm : loads₁.Perm loads₂)
    (hd : Distinct loads₁) (opts : Opts) :
    dumpOutcome (processAll (Registry.loadAll loads₁).1 opts (plugLite (Registry.loadAll loads₁).1)) =
      dumpOutcome (processAll (Registry.loadAll loads₂).1 opts (plugLite (Registry.loadAll loads₂).1)) :=
  process_load_order_irrelevant_of_plug hperm hd opts plugLite (fun σ _ => plugLite_rel σ _ _)

/-- The layers of the real pipeline (`plugFull`: `Type.resolve` / `resolveTypedefs` of the C09
layer, `resolveIdentities` of the C11 layer with the insertion-order oracle — every map walk of
the repaired code sorts first) respect the renaming. -/
theorem plugFull_respects_renaming {σ : Nat → Nat} {r₁ r₂ : Registry} (h : RegRel σ r₁ r₂) :
    PlugRel σ r₁ r₂ (plugFull r₁) (plugFull r₂) :=
  plugFull_rel h

/-- **Load order does not matter** — the whole pipeline after generic parsing (`Modules.add` of
every load, then `Modules.Process` with type, typedef and identity resolution plugged in).  Two
load orders of pairwise different modules give the same canonical dump: the same error set
(file, line, column, class), or — when there are no errors — the same trees, node by node, with
the same kinds, types, defaults, config / mandatory flags, list attributes, namespaces and
instantiating modules. -/
theorem process_load_order_irrelevant {loads₁ loads₂ : List Stmt} (hperm : loads₁.Perm loads₂)
    (hd : Distinct loads₁) (opts : Opts) :
    dumpOutcome (processAll (Registry.loadAll loads₁).1 opts (plugFull (Registry.loadAll loads₁).1)) =
      dumpOutcome (processAll (Registry.loadAll loads₂).1 opts (plugFull (Registry.loadAll loads₂).1)) :=
  process_load_order_irrelevant_of_plug hperm hd opts plugFull (fun _ h => plugFull_rel h)

/-- The statements of all texts, in load order. -/
def stmtsOf (files : List SrcFile) : List Stmt := files.flatMap (·.stmts)

/-- The text would be accepted by a fresh `Modules`: every name is free of `@` and no two of its
statements have the same header.  (A text that is not is refused wherever it stands.) -/
def AcceptableAlone (f : SrcFile) : Bool := okAlone f

/-- **Texts, the form the correspondence runner checks**: a text that `Modules.Parse` refuses on
its own (a name with `@`, one header twice in the text) is refused in every load order and leaves
no trace; when the texts that are acceptable on their own define pairwise different modules, the
result of `processFiles` does not depend on the order of the texts.  (Only two texts that are
both acceptable alone and define one header make the outcome depend on the order.) -/
theorem process_files_load_order_irrelevant_acceptable (opts : Opts) {files₁ files₂ : List SrcFile}
    (hperm : files₁.Perm files₂) (hd : Distinct (stmtsOf (files₁.filter AcceptableAlone))) :
    (processFiles opts files₁).toOption.map dumpOutcome = (processFiles opts files₂).toOption.map dumpOutcome := by
  have hpf : (files₁.filter okAlone).Perm (files₂.filter okAlone) := hperm.filter _
  have hps : (stmtsOf (files₁.filter okAlone)).Perm (stmtsOf (files₂.filter okAlone)) := List.Perm.flatMap_right _ hpf
  have hd₂ : Distinct (stmtsOf (files₂.filter okAlone)) := (hps.map header).nodup_iff.mp hd
  apply processFiles_perm_of_dump opts hperm
  rw [loadFiles_filter_okAlone files₁, loadFiles_filter_okAlone files₂,
    loadFiles_eq_loadAll _ (noAt_filter_okAlone files₁) hd, loadFiles_eq_loadAll _ (noAt_filter_okAlone files₂) hd₂]
  exact process_load_order_irrelevant hps hd opts

/-- **The open core statement `Props.C05.ProcessLoadOrderIrrelevant`, with the hypothesis it
needs**: for texts whose modules are pairwise different, the result of `processFiles`
(`Modules.Parse` of every text in order, atomically, then `Modules.Process`) does not depend on
the order of the texts — also not whether the set is inside the model at all.  Names are
arbitrary: a text with a name containing `@` is refused as a whole in every order. -/
theorem process_files_load_order_irrelevant (opts : Opts) {files₁ files₂ : List SrcFile} (hperm : files₁.Perm files₂)
    (hd : Distinct (stmtsOf files₁)) :
    (processFiles opts files₁).toOption.map dumpOutcome = (processFiles opts files₂).toOption.map dumpOutcome :=
  process_files_load_order_irrelevant_acceptable opts hperm
    (List.Nodup.sublist ((sublist_flatMap_filter AcceptableAlone files₁).map header) hd)

/-- The registry after any list of texts is the registry after the texts that are acceptable on
their own. -/
theorem texts_refused_alone_leave_no_trace (files : List SrcFile) :
    loadFiles files = loadFiles (files.filter AcceptableAlone) :=
  loadFiles_filter_okAlone files

/-! ### several loads with one header: the first one decides

`Distinct` excludes load lists in which two loads carry the same (kind, name, latest revision).
Such a list is not a *set of modules* in the sense of the property: the registry holds one module
per header, `Modules.add` refuses the second load (`Props.C13.duplicate_rejected`), and which text
survives is decided by the order (`distinct_needed`) — first come, first served.  What does hold
for arbitrary load lists is proved here: the outcome is a function of the *first* load of every
header.  A refused load leaves no trace (`refused_loads_leave_no_trace`); two load lists — not
even permutations of each other — with the same first load for every header give the same dump
(`process_determined_by_first_loads`); in particular every permutation that keeps the loads of
each header in their relative order does (`process_stable_order_irrelevant`).  The refusals agree
too: as errors, for every permutation whatever (`refused_load_errors_perm`), and load by load
when the first loads agree (`load_outcomes_perm`). -/

/-- The first load that carries header `h`. -/
def firstLoad (h : Header) (loads : List Stmt) : Option Stmt := loads.find? fun s => header s == h

/-- The two load lists have the same first load for every header (with an `@`-free name: the
other loads are refused anyway). -/
def SameFirstLoads (loads₁ loads₂ : List Stmt) : Prop :=
  ∀ h : Header, '@' ∉ h.name.toList → firstLoad h loads₁ = firstLoad h loads₂

/-- The loads of every header stand in the same relative order in both lists. -/
def StableRearrangement (loads₁ loads₂ : List Stmt) : Prop :=
  ∀ h : Header, loads₁.filter (fun s => header s == h) = loads₂.filter (fun s => header s == h)

theorem sameFirsts_of_sameFirstLoads {loads₁ loads₂ : List Stmt} (h : SameFirstLoads loads₁ loads₂) :
    SameFirsts loads₁ loads₂ := by
  intro x hx
  apply h x
  simpa [Spec.Registry.nameOk] using hx

/-- Pairwise different headers: every permutation has the same first loads. -/
theorem sameFirstLoads_of_distinct {loads₁ loads₂ : List Stmt} (hperm : loads₁.Perm loads₂) (hd : Distinct loads₁) :
    SameFirstLoads loads₁ loads₂ :=
  fun h _ => find?_perm_unique header hperm hd h

/-- A rearrangement that keeps the loads of every header in their relative order has the same
first loads. -/
theorem sameFirstLoads_of_stable {loads₁ loads₂ : List Stmt} (h : StableRearrangement loads₁ loads₂) :
    SameFirstLoads loads₁ loads₂ := by
  intro x _
  unfold firstLoad
  rw [← List.head?_filter, ← List.head?_filter, h x]

/-- The loads `Modules.add` accepts, in load order: of every header with an `@`-free name the
first load that carries it. -/
def acceptedLoads (loads : List Stmt) : List Stmt := kept loads

theorem mem_acceptedLoads (loads : List Stmt) (s : Stmt) :
    s ∈ acceptedLoads loads ↔ '@' ∉ s.arg.toList ∧ firstLoad (header s) loads = some s := by
  unfold acceptedLoads
  rw [mem_kept]
  constructor
  · rintro ⟨hg, hf⟩; exact ⟨Lemmas.Registry.noAt_of_good hg, hf⟩
  · rintro ⟨hg, hf⟩; exact ⟨Lemmas.Registry.good_of_noAt hg, hf⟩

/-- **A refused load leaves no trace**: the registry after any list of loads is the registry
after the accepted loads alone — whose names are `@`-free and whose headers are pairwise
different, so that everything proved under `NamesOk` and `Distinct` applies to it. -/
theorem refused_loads_leave_no_trace (loads : List Stmt) :
    (Registry.loadAll loads).1 = (Registry.loadAll (acceptedLoads loads)).1 ∧
    NamesOk (acceptedLoads loads) ∧ Distinct (acceptedLoads loads) :=
  ⟨loadAll_kept loads, kept_noAt loads, kept_nodup loads⟩

/-- **Registry level: the first load of every header decides.**  Two load lists with the same
first loads give registries that hold the same modules under renamed sequence numbers, every key
of `ms.Modules` / `ms.SubModules` bound to corresponding modules. -/
theorem registry_determined_by_first_loads {loads₁ loads₂ : List Stmt} (h : SameFirstLoads loads₁ loads₂) :
    ∃ σ, RegRel σ (Registry.loadAll loads₁).1 (Registry.loadAll loads₂).1 :=
  regRel_of_sameFirsts (sameFirsts_of_sameFirstLoads h)

/-- The accepted loads are the same set. -/
theorem accepted_loads_perm {loads₁ loads₂ : List Stmt} (h : SameFirstLoads loads₁ loads₂) :
    (acceptedLoads loads₁).Perm (acceptedLoads loads₂) :=
  kept_perm_of_sameFirsts (sameFirsts_of_sameFirstLoads h)

/-- **The whole pipeline: the first load of every header decides**, for any plugged layers that
respect the renaming. -/
theorem process_determined_by_first_loads_of_plug {loads₁ loads₂ : List Stmt} (hf : SameFirstLoads loads₁ loads₂)
    (opts : Opts) (plug : Registry → Plug)
    (hplug : ∀ σ, RegRel σ (Registry.loadAll loads₁).1 (Registry.loadAll loads₂).1 →
      PlugRel σ (Registry.loadAll loads₁).1 (Registry.loadAll loads₂).1
        (plug (Registry.loadAll loads₁).1) (plug (Registry.loadAll loads₂).1)) :
    dumpOutcome (processAll (Registry.loadAll loads₁).1 opts (plug (Registry.loadAll loads₁).1)) =
      dumpOutcome (processAll (Registry.loadAll loads₂).1 opts (plug (Registry.loadAll loads₂).1)) := by
  obtain ⟨σ, h⟩ := registry_determined_by_first_loads hf
  exact (processAll_renaming_invariant h opts (hplug σ h)).symm

/-- **The whole pipeline (`plugFull`): the first load of every header decides.**  Arbitrary load
lists — names with `@`, several texts for one header, the lists need not even be permutations of
each other: when the first load of every header is the same, the canonical dumps are equal. -/
theorem process_determined_by_first_loads {loads₁ loads₂ : List Stmt} (hf : SameFirstLoads loads₁ loads₂)
    (opts : Opts) :
    dumpOutcome (processAll (Registry.loadAll loads₁).1 opts (plugFull (Registry.loadAll loads₁).1)) =
      dumpOutcome (processAll (Registry.loadAll loads₂).1 opts (plugFull (Registry.loadAll loads₂).1)) :=
  process_determined_by_first_loads_of_plug hf opts plugFull (fun _ h => plugFull_rel h)

/-- **Load order does not matter as long as the loads of each header keep their relative
order** — the strongest order independence that holds when several texts define one (kind, name,
revision). -/
theorem process_stable_order_irrelevant {loads₁ loads₂ : List Stmt} (hs : StableRearrangement loads₁ loads₂)
    (opts : Opts) :
    dumpOutcome (processAll (Registry.loadAll loads₁).1 opts (plugFull (Registry.loadAll loads₁).1)) =
      dumpOutcome (processAll (Registry.loadAll loads₂).1 opts (plugFull (Registry.loadAll loads₂).1)) :=
  process_determined_by_first_loads (sameFirstLoads_of_stable hs) opts

/-- **The refusals do not depend on the load order** — no hypothesis at all: the errors
`Modules.add` answers the refused loads with (`bad module name` with kind and name, `duplicate`
with kind and full name) are the same multiset in every order. -/
theorem refused_load_errors_perm {loads₁ loads₂ : List Stmt} (hperm : loads₁.Perm loads₂) :
    ((Registry.loadAll loads₁).2.filterMap id).Perm ((Registry.loadAll loads₂).2.filterMap id) :=
  load_errors_perm hperm

/-- **Load by load**: when the first loads agree (in particular for pairwise different headers,
`sameFirstLoads_of_distinct`), every load has the same outcome — accepted, or refused with the
same error — in both orders. -/
theorem load_outcomes_perm {loads₁ loads₂ : List Stmt} (hperm : loads₁.Perm loads₂) (hf : SameFirstLoads loads₁ loads₂) :
    (loads₁.zip (Registry.loadAll loads₁).2).Perm (loads₂.zip (Registry.loadAll loads₂).2) :=
  Lemmas.LoadOrder.load_outcomes_perm hperm (sameFirsts_of_sameFirstLoads hf)

/-- The outcome of every load, read off the load list: refused for its name, refused as a
duplicate of an earlier `@`-free load with the same header, or accepted. -/
theorem load_outcomes (loads : List Stmt) : (Registry.loadAll loads).2 = outsAfter [] loads :=
  loadAll_outs loads

/-! ### the hypothesis is satisfiable, and it is needed

`exA` includes its submodule `exAs` (which uses a typedef), `exB` imports `exA`, augments its
container and deviates its leaf: linking, submodule merging, type resolution, the augment loop
and deviations all run.  Three load orders. -/

private def st (file kw arg : String) (l : Nat) (subs : List Stmt := []) : Stmt := .mk kw true arg file l 1 subs

def exA : Stmt :=
  st "a.yang" "module" "a" 1 [st "a.yang" "namespace" "urn:a" 2, st "a.yang" "prefix" "a" 3,
    st "a.yang" "include" "as" 4,
    st "a.yang" "container" "c" 5 [st "a.yang" "leaf" "x" 6 [st "a.yang" "type" "string" 7]]]
def exAs : Stmt :=
  st "as.yang" "submodule" "as" 1 [st "as.yang" "belongs-to" "a" 2 [st "as.yang" "prefix" "a" 3],
    st "as.yang" "leaf" "z" 4 [st "as.yang" "type" "t" 5],
    st "as.yang" "typedef" "t" 6 [st "as.yang" "type" "int8" 7]]
def exB : Stmt :=
  st "b.yang" "module" "b" 1 [st "b.yang" "namespace" "urn:b" 2, st "b.yang" "prefix" "b" 3,
    st "b.yang" "import" "a" 4 [st "b.yang" "prefix" "a" 5],
    st "b.yang" "augment" "/a:c" 6 [st "b.yang" "leaf" "y" 7 [st "b.yang" "type" "int8" 8]],
    st "b.yang" "deviation" "/a:c/a:x" 9 [st "b.yang" "deviate" "add" 10 [st "b.yang" "default" "d" 11]]]

example : NamesOk [exA, exAs, exB] := by decide
example : Distinct [exA, exAs, exB] := by decide
theorem exPerm : [exA, exAs, exB].Perm [exB, exAs, exA] :=
  (List.Perm.swap exAs exA [exB]).trans (((List.Perm.swap exB exA []).cons exAs).trans (List.Perm.swap exB exAs [exA]))
/-- the instance of the theorem for these loads -/
example (opts : Opts) :
    dumpOutcome (processAll (Registry.loadAll [exA, exAs, exB]).1 opts (plugFull (Registry.loadAll [exA, exAs, exB]).1)) =
      dumpOutcome (processAll (Registry.loadAll [exB, exAs, exA]).1 opts (plugFull (Registry.loadAll [exB, exAs, exA]).1)) :=
  process_load_order_irrelevant exPerm (by decide) opts
/-- the sequence numbers really are permuted: `a` is module 0 in one order and module 2 in the other -/
example : ((Registry.loadAll [exA, exAs, exB]).1.getModule "a").map (·.seq) = some 0 ∧
    ((Registry.loadAll [exB, exAs, exA]).1.getModule "a").map (·.seq) = some 2 := by decide
/-- processing is not trivial (placeholder type layer, module and submodule only, which the
kernel can evaluate): no errors, two trees, the submodule's leaf merged into the module -/
example : (processAll (Registry.loadAll [exAs, exA]).1 {} (plugLite (Registry.loadAll [exAs, exA]).1)).errors = [] ∧
    (processAll (Registry.loadAll [exAs, exA]).1 {} (plugLite (Registry.loadAll [exAs, exA]).1)).forest.trees.map
      (fun p => (p.1, p.2.dir.map (·.name))) = [(0, ["z"]), (1, ["z", "c"])] := by
  decide +kernel

/-- Two texts for one module name (no revision): the second load is rejected as a duplicate
(`Props.C13.duplicate_rejected`), so which text is processed depends on the order. -/
def dupA : Stmt :=
  st "a1.yang" "module" "a" 1 [st "a1.yang" "namespace" "urn:a" 2, st "a1.yang" "prefix" "a" 3,
    st "a1.yang" "container" "c" 4]
def dupA' : Stmt :=
  st "a2.yang" "module" "a" 1 [st "a2.yang" "namespace" "urn:a" 2, st "a2.yang" "prefix" "a" 3]

/-- **`Distinct` cannot be dropped**: for two different texts of one module the dumps of the two
load orders differ (here: in length).  The unconditional statement
`Props.C05.ProcessLoadOrderIrrelevant` is therefore too strong as written: "the same sources"
must not contain two sources for one (kind, name, revision). -/
theorem distinct_needed :
    NamesOk [dupA, dupA'] ∧ [dupA, dupA'].Perm [dupA', dupA] ∧ ¬ Distinct [dupA, dupA'] ∧
    dumpOutcome (processAll (Registry.loadAll [dupA, dupA']).1 {} (plugLite (Registry.loadAll [dupA, dupA']).1)) ≠
      dumpOutcome (processAll (Registry.loadAll [dupA', dupA]).1 {} (plugLite (Registry.loadAll [dupA', dupA]).1)) := by
  refine ⟨by decide, List.Perm.swap _ _ _, by decide, ?_⟩
  intro h
  -- the two dumps differ already in size; `utf8ByteSize` reduces without decoding the characters
  have hl := congrArg String.utf8ByteSize h
  revert hl
  decide +kernel

/-- the two witness texts are inside the resolver model -/
theorem dup_inside_model : outsideL "" [dupA] = none ∧ outsideL "" [dupA'] = none := by
  have h1 := split_colon_length "module" (by decide)
  have h2 := split_colon_length "namespace" (by decide)
  have h3 := split_colon_length "prefix" (by decide)
  have h4 := split_colon_length "container" (by decide)
  constructor <;> simp [dupA, dupA', st, outsideL, outside, h1, h2, h3, h4]

/-- **The unconditional statement `Props.C05.ProcessLoadOrderIrrelevant` is false** — of the
model of the whole pipeline (`processFiles`: `Modules.Parse` text by text, `Modules.Process` with
the full type and identity layers), on the witness of `distinct_needed`: two texts of module `a`.
The text loaded first is the one processed; the dumps of the two orders differ.  (The same
happens in the Go code, by design: `Modules.add` answers the second text with `duplicate
module`.)  The quantifier of the property therefore ranges over module sets (`Distinct`). -/
theorem process_load_order_unconditional_fails : ¬ Props.C05.ProcessLoadOrderIrrelevant := by
  intro h
  have hh := h {} [⟨"a1.yang", [dupA]⟩, ⟨"a2.yang", [dupA']⟩] [⟨"a2.yang", [dupA']⟩, ⟨"a1.yang", [dupA]⟩]
    (List.Perm.swap _ _ _)
  have o1 : List.findSome? (fun f : SrcFile => outsideL "" f.stmts) [⟨"a1.yang", [dupA]⟩, ⟨"a2.yang", [dupA']⟩] = none := by
    simp only [List.findSome?, dup_inside_model.1, dup_inside_model.2]
  have o2 : List.findSome? (fun f : SrcFile => outsideL "" f.stmts) [⟨"a2.yang", [dupA']⟩, ⟨"a1.yang", [dupA]⟩] = none := by
    simp only [List.findSome?, dup_inside_model.1, dup_inside_model.2]
  -- the text loaded second is refused: the registries are those of `dupA` alone and of `dupA'` alone
  rw [processFiles_noTypedefs {} o1 (loads := [dupA]) rfl (by decide),
    processFiles_noTypedefs {} o2 (loads := [dupA']) rfl (by decide)] at hh
  simp only [Except.toOption, Option.map_some, Option.some.injEq] at hh
  have hl := congrArg String.utf8ByteSize hh
  revert hl
  decide +kernel

/-- A module whose *name* contains `@` (not a YANG identifier; goyang does not check identifiers)
and a module whose full name `name@revision` is the same string. -/
def atA : Stmt :=
  st "x.yang" "module" "m@2020" 1 [st "x.yang" "namespace" "urn:x" 2, st "x.yang" "prefix" "x" 3,
    st "x.yang" "container" "c" 4]
def atB : Stmt :=
  st "m.yang" "module" "m" 1 [st "m.yang" "namespace" "urn:m" 2, st "m.yang" "prefix" "m" 3,
    st "m.yang" "revision" "2020" 4]

/-- **The ambiguity behind `NamesOk` is gone from the code** (defect D61, repaired: `Modules.add`
refuses a name containing `@`).  Before the repair the key `m@2020` was claimed by both modules
and whichever was loaded first kept it, so the two load orders gave different dumps; now `m@2020`
is refused in both orders, the registries are equal and so are the dumps.  (`NamesOk` is not a
hypothesis of the theorems above: this witness is an instance of `process_load_order_irrelevant`,
see the examples below.) -/
theorem names_rejected :
    Distinct [atA, atB] ∧ [atA, atB].Perm [atB, atA] ∧ ¬ NamesOk [atA, atB] ∧
    (Registry.loadAll [atA, atB]).2.map Option.isSome = [true, false] ∧
    (Registry.loadAll [atB, atA]).2.map Option.isSome = [false, true] ∧
    dumpOutcome (processAll (Registry.loadAll [atA, atB]).1 {} (plugLite (Registry.loadAll [atA, atB]).1)) =
      dumpOutcome (processAll (Registry.loadAll [atB, atA]).1 {} (plugLite (Registry.loadAll [atB, atA]).1)) := by
  have hreg : (Registry.loadAll [atA, atB]).1 = (Registry.loadAll [atB, atA]).1 := by rfl
  refine ⟨by decide, List.Perm.swap _ _ _, by decide, by decide, by decide, ?_⟩
  rw [hreg]

/-! ### the theorems without `NamesOk`, and the theorems about several loads of one header, apply -/

/-- an instance of `process_load_order_irrelevant` with a name that contains `@` -/
example (opts : Opts) : ¬ NamesOk [atA, exA, exAs, atB] ∧
    dumpOutcome (processAll (Registry.loadAll [atA, exA, exAs, atB]).1 opts (plugFull (Registry.loadAll [atA, exA, exAs, atB]).1)) =
      dumpOutcome (processAll (Registry.loadAll [atB, exAs, exA, atA]).1 opts (plugFull (Registry.loadAll [atB, exAs, exA, atA]).1)) :=
  ⟨by decide, process_load_order_irrelevant (perm_rev4 _ _ _ _) (by decide) opts⟩

/-- the same for texts: the text with the `@` name holds a second module, which goes with it -/
example (opts : Opts) :
    (processFiles opts [⟨"x.yang", [atA, exB]⟩, ⟨"a.yang", [exA]⟩, ⟨"as.yang", [exAs]⟩]).toOption.map dumpOutcome =
      (processFiles opts [⟨"as.yang", [exAs]⟩, ⟨"a.yang", [exA]⟩, ⟨"x.yang", [atA, exB]⟩]).toOption.map dumpOutcome :=
  process_files_load_order_irrelevant opts (perm_rev3 _ _ _) (by decide)
/-- a text with one header twice (`exB`, `exB`) is refused in every order too: not `Distinct` -/
example (opts : Opts) : ¬ Distinct (stmtsOf [⟨"b.yang", [exB, exB]⟩, ⟨"a.yang", [exA]⟩, ⟨"as.yang", [exAs]⟩]) ∧
    (processFiles opts [⟨"b.yang", [exB, exB]⟩, ⟨"a.yang", [exA]⟩, ⟨"as.yang", [exAs]⟩]).toOption.map dumpOutcome =
      (processFiles opts [⟨"as.yang", [exAs]⟩, ⟨"a.yang", [exA]⟩, ⟨"b.yang", [exB, exB]⟩]).toOption.map dumpOutcome :=
  ⟨by decide, process_files_load_order_irrelevant_acceptable opts (perm_rev3 _ _ _) (by decide)⟩
example : (loadFiles [⟨"x.yang", [atA, exB]⟩, ⟨"a.yang", [exA]⟩, ⟨"as.yang", [exAs]⟩]).mods.map (·.stmt.arg) = ["a", "as"] := by
  decide

/-- Two load lists with two texts of module `a` (`dupA` first in both), a refused `@` name and
another module: not `Distinct`, not `NamesOk`, but the loads of every header keep their order. -/
def dupL₁ : List Stmt := [dupA, atA, exB, dupA']
def dupL₂ : List Stmt := [exB, dupA, dupA', atA]

theorem dupL_stable : StableRearrangement dupL₁ dupL₂ := by
  intro h
  have eA : header dupA = ⟨false, "a", ""⟩ := by decide
  have eA' : header dupA' = ⟨false, "a", ""⟩ := by decide
  have eB : header exB = ⟨false, "b", ""⟩ := by decide
  have eX : header atA = ⟨false, "m@2020", ""⟩ := by decide
  simp only [dupL₁, dupL₂, List.filter_cons, List.filter_nil, eA, eA', eB, eX]
  by_cases h1 : (⟨false, "a", ""⟩ : Header) = h
  · subst h1; simp
  · by_cases h2 : (⟨false, "b", ""⟩ : Header) = h
    · subst h2; simp
    · by_cases h3 : (⟨false, "m@2020", ""⟩ : Header) = h
      · subst h3; simp
      · simp [h1, h2, h3]

example : ¬ Distinct dupL₁ ∧ ¬ NamesOk dupL₁ ∧ dupL₁.Perm dupL₂ ∧ SameFirstLoads dupL₁ dupL₂ := by
  refine ⟨by decide, by decide, ?_, sameFirstLoads_of_stable dupL_stable⟩
  -- [dupA, atA, exB, dupA'] ~ [exB, dupA, dupA', atA]
  exact ((List.Perm.swap exB atA [dupA']).cons dupA).trans
    ((List.Perm.swap exB dupA (atA :: [dupA'])).trans (((List.Perm.swap dupA' atA []).cons dupA).cons exB))
/-- the instance of `process_stable_order_irrelevant` -/
example (opts : Opts) :
    dumpOutcome (processAll (Registry.loadAll dupL₁).1 opts (plugFull (Registry.loadAll dupL₁).1)) =
      dumpOutcome (processAll (Registry.loadAll dupL₂).1 opts (plugFull (Registry.loadAll dupL₂).1)) :=
  process_stable_order_irrelevant dupL_stable opts
/-- what is accepted and what is refused, in the two orders -/
example : (Registry.loadAll dupL₁).2.map Lemmas.Registry.toOutcome = [.ok, .badName, .ok, .dup] ∧
    (Registry.loadAll dupL₂).2.map Lemmas.Registry.toOutcome = [.ok, .ok, .dup, .badName] ∧
    (acceptedLoads dupL₁).map (·.file) = ["a1.yang", "b.yang"] ∧ (acceptedLoads dupL₂).map (·.file) = ["b.yang", "a1.yang"] := by
  decide
/-- the first loads are not the same when the two texts of `a` change places -/
example : ¬ SameFirstLoads [dupA, dupA'] [dupA', dupA] := by
  intro h
  have := h ⟨false, "a", ""⟩ (by decide)
  have e : (firstLoad ⟨false, "a", ""⟩ [dupA, dupA']).map (·.file) = (firstLoad ⟨false, "a", ""⟩ [dupA', dupA]).map (·.file) := by
    rw [this]
  revert e
  decide

/-! ### texts that share headers: the accepted texts decide

`Modules.Parse` is atomic per text.  When two texts that are both acceptable on their own define
one header, the later one is refused as a whole — and its OTHER headers stay free for later
texts.  Which texts are accepted is therefore decided by the order (first come, first served, the
documented behaviour of a duplicate load: `duplicate module a at … and …`), and not by the first
load of every header of the flattened statement list: a header's first carrier may sit in a
refused text (`first_loads_of_statements_do_not_decide_texts`).  What holds, exactly:
`processFiles` of a list of texts is `processFiles` of the texts accepted in that order
(`process_files_eq_accepted`; `acceptedIn` is the fold Go performs, `accepted_texts_characterised`
reads it off the headers), the accepted texts are a module set (`accepted_texts_are_a_module_set`),
and two lists with the same accepted texts — as a multiset — have the same outcome: registry up
to the load sequence numbers, canonical dump, error list (`process_files_determined_by_accepted`).
Load-order independence of a given list of texts thus holds exactly as far as its orders accept
the same texts; they all do when the texts acceptable alone define pairwise different headers
(`accepted_eq_acceptable_of_distinct`: then `process_files_load_order_irrelevant_acceptable` is
the special case), and with shared headers they need not
(`process_files_order_matters_with_shared_headers`, replayed on the Go code). -/

/-- The texts `Modules.Parse` accepts, in load order, when the texts are parsed one after the
other into a fresh `Modules` — defined by the fold `loadFiles` performs: a text is accepted when
`Registry.addText` (every statement added in turn, all or nothing) succeeds on the registry built
from the texts accepted before it. -/
def acceptedIn (files : List SrcFile) : List SrcFile := Lemmas.LoadOrder.acceptedIn files

/-- The same list read off the headers alone (`before` = the headers of the texts accepted so
far): a text is accepted when it is acceptable on its own and none of its headers is held. -/
def acceptedGiven (before : List Header) : List SrcFile → List SrcFile
  | [] => []
  | f :: rest =>
    if AcceptableAlone f && f.stmts.all (fun s => !before.contains (header s)) then
      f :: acceptedGiven (before ++ f.stmts.map header) rest
    else acceptedGiven before rest

/-- **Which texts are accepted**: a text is accepted exactly when it is acceptable on its own
(`@`-free names, no header twice) and none of its headers is defined by a text accepted before it;
the accepted texts are a sublist of the texts, and accepting them again accepts them all. -/
theorem accepted_texts_characterised (files : List SrcFile) :
    acceptedIn files = acceptedGiven [] files ∧ (acceptedIn files).Sublist files ∧
    acceptedIn (acceptedIn files) = acceptedIn files := by
  refine ⟨?_, acceptedIn_sublist files, acceptedIn_idem files⟩
  unfold acceptedIn
  rw [acceptedIn_eq]
  generalize ([] : List Header) = before
  induction files generalizing before with
  | nil => rfl
  | cons f rest ih =>
    simp only [acceptedAfter, acceptedGiven, AcceptableAlone, freshFor, ih]
    rfl

/-- **The accepted texts are a module set**: their statements have `@`-free names and pairwise
different headers, and the registry after ALL the texts is the registry `Modules.add` builds from
these statements one by one. -/
theorem accepted_texts_are_a_module_set (files : List SrcFile) :
    NamesOk (stmtsOf (acceptedIn files)) ∧ Distinct (stmtsOf (acceptedIn files)) ∧
    loadFiles files = (Registry.loadAll (stmtsOf (acceptedIn files))).1 :=
  ⟨acceptedIn_noAt files, acceptedIn_nodup files, loadFiles_accepted files⟩

/-- None of the texts is outside the resolver model (`processFiles` answers `.ok`). -/
def InsideModel (files : List SrcFile) : Prop := (files.findSome? fun f => outsideL "" f.stmts) = none

/-- **`processFiles` of a list of texts is `processFiles` of the texts accepted in that order**:
a refused text leaves no trace in the registry, so registry and outcome are those of the accepted
sublist.  (`InsideModel`: the refused texts are inspected by the model's applicability test too.) -/
theorem process_files_eq_accepted (opts : Opts) (files : List SrcFile) :
    loadFiles files = loadFiles (acceptedIn files) ∧
    (InsideModel files → processFiles opts files = processFiles opts (acceptedIn files)) := by
  refine ⟨loadFiles_acceptedIn files, fun hin => ?_⟩
  have hin' : ((acceptedIn files).findSome? fun f => outsideL "" f.stmts) = none :=
    findSome?_none_sublist (acceptedIn_sublist files) hin
  unfold processFiles
  unfold InsideModel at hin
  rw [hin, hin']
  have e : loadFiles (acceptedIn files) = loadFiles files := (loadFiles_acceptedIn files).symm
  rw [e]

/-- **The accepted texts decide the outcome** — lists of texts, not necessarily permutations of
each other, arbitrary shared headers: when the same texts are accepted (as a multiset), the
registries hold the same modules under renamed load sequence numbers, the canonical dumps are
equal and so are the error lists. -/
theorem process_determined_by_accepted_texts (opts : Opts) {files₁ files₂ : List SrcFile}
    (hacc : (acceptedIn files₁).Perm (acceptedIn files₂)) :
    (∃ σ, RegRel σ (loadFiles files₁) (loadFiles files₂)) ∧
    dumpOutcome (processAll (loadFiles files₁) opts (plugFull (loadFiles files₁))) =
      dumpOutcome (processAll (loadFiles files₂) opts (plugFull (loadFiles files₂))) ∧
    (processAll (loadFiles files₁) opts (plugFull (loadFiles files₁))).errors =
      (processAll (loadFiles files₂) opts (plugFull (loadFiles files₂))).errors := by
  obtain ⟨σ, h⟩ := regRel_of_accepted_perm hacc
  exact ⟨⟨σ, h⟩, (processAll_renaming_invariant h opts (plugFull_rel h)).symm,
    (processAll_rel h opts (plugFull_rel h)).1.symm⟩

/-- **Two load orders of one list of texts that accept the same texts have the same result** — the
statement of `Props.C05.ProcessLoadOrderIrrelevant` with the hypothesis that delimits it exactly
at the level of texts: the result of `processFiles` (inside the model or not; canonical dump), the
registry up to load sequence numbers and the error list agree.  The texts may share headers and
contain texts refused on their own. -/
theorem process_files_determined_by_accepted (opts : Opts) {files₁ files₂ : List SrcFile}
    (hperm : files₁.Perm files₂) (hacc : (acceptedIn files₁).Perm (acceptedIn files₂)) :
    (processFiles opts files₁).toOption.map dumpOutcome = (processFiles opts files₂).toOption.map dumpOutcome ∧
    (∃ σ, RegRel σ (loadFiles files₁) (loadFiles files₂)) ∧
    (processAll (loadFiles files₁) opts (plugFull (loadFiles files₁))).errors =
      (processAll (loadFiles files₂) opts (plugFull (loadFiles files₂))).errors := by
  obtain ⟨h1, h2, h3⟩ := process_determined_by_accepted_texts opts hacc
  exact ⟨processFiles_perm_of_dump opts hperm h2, h1, h3⟩

/-- **When the texts acceptable on their own define pairwise different headers, every load order
accepts exactly these texts** — so the hypothesis of `process_files_determined_by_accepted` holds
for all permutations, and `process_files_load_order_irrelevant_acceptable` is its special case. -/
theorem accepted_eq_acceptable_of_distinct {files : List SrcFile}
    (hd : Distinct (stmtsOf (files.filter AcceptableAlone))) : acceptedIn files = files.filter AcceptableAlone :=
  acceptedIn_eq_filter hd

theorem accepted_perm_of_distinct {files₁ files₂ : List SrcFile} (hperm : files₁.Perm files₂)
    (hd : Distinct (stmtsOf (files₁.filter AcceptableAlone))) : (acceptedIn files₁).Perm (acceptedIn files₂) := by
  have hpf : (files₁.filter AcceptableAlone).Perm (files₂.filter AcceptableAlone) := hperm.filter _
  have hd₂ : Distinct (stmtsOf (files₂.filter AcceptableAlone)) :=
    ((List.Perm.flatMap_right _ hpf).map header).nodup_iff.mp hd
  rw [accepted_eq_acceptable_of_distinct hd, accepted_eq_acceptable_of_distinct hd₂]
  exact hpf

/-! #### two texts: the exact condition -/

/-- The two texts define no common header. -/
def NoSharedHeader (f g : SrcFile) : Prop := ∀ s ∈ f.stmts, ∀ t ∈ g.stmts, header s ≠ header t

theorem accepted_pair {f g : SrcFile} (hf : AcceptableAlone f = true) (hg : AcceptableAlone g = true) :
    (NoSharedHeader f g → acceptedIn [f, g] = [f, g]) ∧ (¬ NoSharedHeader f g → acceptedIn [f, g] = [f]) := by
  have hc : (g.stmts.all fun s => !(f.stmts.map header).contains (header s)) = true ↔ NoSharedHeader f g :=
    (freshFor_iff _ g).trans
      ⟨fun h s hs t ht e => h t ht (e ▸ List.mem_map_of_mem hs), fun h t ht hm => by
        obtain ⟨s, hs, e⟩ := List.mem_map.mp hm
        exact h s hs t ht e⟩
  rw [(accepted_texts_characterised _).1]
  simp only [acceptedGiven, hf, hg, Bool.true_and, List.contains_nil, Bool.not_false, List.all_eq_true, implies_true,
    if_true, List.nil_append]
  constructor
  · intro h; rw [if_pos (by simpa [List.all_eq_true] using hc.mpr h)]
  · intro h; rw [if_neg (by intro h'; exact h (hc.mp (by simpa [List.all_eq_true] using h')))]

/-- **Two texts, both acceptable alone**: the two load orders accept the same texts exactly when the
texts share no header (or are the same text). -/
theorem accepted_pair_perm_iff {f g : SrcFile} (hf : AcceptableAlone f = true) (hg : AcceptableAlone g = true) :
    (acceptedIn [f, g]).Perm (acceptedIn [g, f]) ↔ (f = g ∨ NoSharedHeader f g) := by
  have hsym : NoSharedHeader g f ↔ NoSharedHeader f g :=
    ⟨fun h s hs t ht e => h t ht s hs e.symm, fun h s hs t ht e => h t ht s hs e.symm⟩
  by_cases hP : NoSharedHeader f g
  · rw [(accepted_pair hf hg).1 hP, (accepted_pair hg hf).1 (hsym.mpr hP)]
    exact ⟨fun _ => .inr hP, fun _ => List.Perm.swap _ _ _⟩
  · rw [(accepted_pair hf hg).2 hP, (accepted_pair hg hf).2 (fun h => hP (hsym.mp h))]
    rw [List.perm_singleton, List.singleton_inj]
    exact ⟨fun h => .inl h, fun h => h.elim id (fun h => absurd h hP)⟩

instance (f g : SrcFile) : Decidable (NoSharedHeader f g) := by unfold NoSharedHeader; infer_instance

/-- **Two texts, both acceptable alone — when exactly the load order does not matter.**  With a
shared header the second text is refused as a whole: `[f, g]` is processed as `f` alone and
`[g, f]` as `g` alone.  Hence the dumps of the two orders agree if and only if the texts share no
header or each text alone is processed to the same dump (the converse of
`process_files_determined_by_accepted` for two texts: nothing but an accident of the two texts
makes the orders agree when the accepted texts differ). -/
theorem pair_order_irrelevant_iff (opts : Opts) {f g : SrcFile} (hf : AcceptableAlone f = true)
    (hg : AcceptableAlone g = true) :
    (¬ NoSharedHeader f g → loadFiles [f, g] = loadFiles [f] ∧ loadFiles [g, f] = loadFiles [g]) ∧
    (dumpOutcome (processAll (loadFiles [f, g]) opts (plugFull (loadFiles [f, g]))) =
        dumpOutcome (processAll (loadFiles [g, f]) opts (plugFull (loadFiles [g, f]))) ↔
      NoSharedHeader f g ∨
      dumpOutcome (processAll (loadFiles [f]) opts (plugFull (loadFiles [f]))) =
        dumpOutcome (processAll (loadFiles [g]) opts (plugFull (loadFiles [g])))) := by
  have hsym : NoSharedHeader g f → NoSharedHeader f g := fun h s hs t ht e => h t ht s hs e.symm
  have hsh : ¬ NoSharedHeader f g → loadFiles [f, g] = loadFiles [f] ∧ loadFiles [g, f] = loadFiles [g] := by
    intro hP
    have e1 := loadFiles_acceptedIn [f, g]
    have e2 := loadFiles_acceptedIn [g, f]
    have a1 : Lemmas.LoadOrder.acceptedIn [f, g] = [f] := (accepted_pair hf hg).2 hP
    have a2 : Lemmas.LoadOrder.acceptedIn [g, f] = [g] := (accepted_pair hg hf).2 (fun h => hP (hsym h))
    rw [a1] at e1
    rw [a2] at e2
    exact ⟨e1, e2⟩
  refine ⟨hsh, ?_⟩
  by_cases hP : NoSharedHeader f g
  · exact ⟨fun _ => .inl hP, fun _ =>
      (process_determined_by_accepted_texts opts ((accepted_pair_perm_iff hf hg).mpr (.inr hP))).2.1⟩
  · obtain ⟨e1, e2⟩ := hsh hP
    rw [e1, e2]
    exact ⟨fun h => .inr h, fun h => h.elim (fun h => absurd h hP) id⟩

/-! #### the witness: three texts, `a` in two of them, `b` in two of them

`wT1` = module `a` (with a container), `wT2` = module `a` and module `b` (with a container) in one
text, `wT3` = module `b`.  Each is acceptable alone.  Loaded `wT1, wT2, wT3`: `wT2` is refused for
`a`, which frees `b` for `wT3` — accepted `wT1, wT3`.  Loaded `wT2, wT1, wT3`: only `wT2` is
accepted.  The real code does the same (replayed: `duplicate module a at t1.yang:1:1 and
t2.yang:1:1`, then `t3.yang` accepted; in the other order both `t1.yang` and `t3.yang` refused). -/

def wA1 : Stmt :=
  st "t1.yang" "module" "a" 1 [st "t1.yang" "namespace" "urn:a" 1, st "t1.yang" "prefix" "a" 1,
    st "t1.yang" "container" "c" 1]
def wA2 : Stmt :=
  st "t2.yang" "module" "a" 1 [st "t2.yang" "namespace" "urn:a" 1, st "t2.yang" "prefix" "a" 1]
def wB2 : Stmt :=
  st "t2.yang" "module" "b" 2 [st "t2.yang" "namespace" "urn:b" 2, st "t2.yang" "prefix" "b" 2,
    st "t2.yang" "container" "dd" 2]
def wB3 : Stmt :=
  st "t3.yang" "module" "b" 1 [st "t3.yang" "namespace" "urn:b" 1, st "t3.yang" "prefix" "b" 1]
def wT1 : SrcFile := ⟨"t1.yang", [wA1]⟩
def wT2 : SrcFile := ⟨"t2.yang", [wA2, wB2]⟩
def wT3 : SrcFile := ⟨"t3.yang", [wB3]⟩

theorem w_inside_model : outsideL "" [wA1] = none ∧ outsideL "" [wA2, wB2] = none ∧ outsideL "" [wB3] = none := by
  have h1 := split_colon_length "module" (by decide)
  have h2 := split_colon_length "namespace" (by decide)
  have h3 := split_colon_length "prefix" (by decide)
  have h4 := split_colon_length "container" (by decide)
  refine ⟨?_, ?_, ?_⟩ <;> simp [wA1, wA2, wB2, wB3, st, outsideL, outside, h1, h2, h3, h4]

/-- which texts are accepted in four of the six orders -/
theorem w_accepted :
    (acceptedIn [wT1, wT2, wT3]).map (·.name) = ["t1.yang", "t3.yang"] ∧
    (acceptedIn [wT2, wT1, wT3]).map (·.name) = ["t2.yang"] ∧
    (acceptedIn [wT3, wT2, wT1]).map (·.name) = ["t3.yang", "t1.yang"] ∧
    (acceptedIn [wT1, wT3, wT2]).map (·.name) = ["t1.yang", "t3.yang"] := by
  simp only [(accepted_texts_characterised _).1]
  decide

/-- **With shared headers the load order matters** (by design: first come, first served).  Three
texts, each acceptable on its own and inside the model, `a` defined by two of them and `b` by two
of them; two orders of the same three texts accept different texts (`t1, t3` against `t2` alone)
and the canonical dumps of the real pipeline (`processFiles`, `plugFull`) differ. -/
theorem process_files_order_matters_with_shared_headers :
    [wT1, wT2, wT3].Perm [wT2, wT1, wT3] ∧
    (∀ f ∈ [wT1, wT2, wT3], AcceptableAlone f = true) ∧ InsideModel [wT1, wT2, wT3] ∧
    (acceptedIn [wT1, wT2, wT3]).map (·.name) = ["t1.yang", "t3.yang"] ∧
    (acceptedIn [wT2, wT1, wT3]).map (·.name) = ["t2.yang"] ∧
    (processFiles {} [wT1, wT2, wT3]).toOption.map dumpOutcome ≠
      (processFiles {} [wT2, wT1, wT3]).toOption.map dumpOutcome := by
  have o1 : List.findSome? (fun f : SrcFile => outsideL "" f.stmts) [wT1, wT2, wT3] = none := by
    simp only [List.findSome?, wT1, wT2, wT3, w_inside_model.1, w_inside_model.2.1, w_inside_model.2.2]
  have o2 : List.findSome? (fun f : SrcFile => outsideL "" f.stmts) [wT2, wT1, wT3] = none := by
    simp only [List.findSome?, wT1, wT2, wT3, w_inside_model.1, w_inside_model.2.1, w_inside_model.2.2]
  refine ⟨List.Perm.swap _ _ _, by decide, o1, w_accepted.1, w_accepted.2.1, ?_⟩
  intro hh
  rw [processFiles_noTypedefs {} o1 (loads := [wA1, wB3]) rfl (by decide),
    processFiles_noTypedefs {} o2 (loads := [wA2, wB2]) rfl (by decide)] at hh
  simp only [Except.toOption, Option.map_some, Option.some.injEq] at hh
  have hl := congrArg String.utf8ByteSize hh
  revert hl
  decide +kernel

/-- **The first load of every header of the flattened statement list does not decide texts**: in
the order `t1, t2, t3` the first statement that carries `b` is the one of `t2`, but `t2` is
refused as a whole and the `b` of `t3` is loaded — the registry after the texts is not the
registry after their statements one by one.  (This is why `process_determined_by_first_loads`
does not lift to texts that hold several modules; `process_files_determined_by_accepted` is the
statement that does.) -/
theorem first_loads_of_statements_do_not_decide_texts :
    (acceptedLoads (stmtsOf [wT1, wT2, wT3])).map (fun s => (s.file, s.arg)) = [("t1.yang", "a"), ("t2.yang", "b")] ∧
    (stmtsOf (acceptedIn [wT1, wT2, wT3])).map (fun s => (s.file, s.arg)) = [("t1.yang", "a"), ("t3.yang", "b")] := by
  refine ⟨by decide, ?_⟩
  simp only [(accepted_texts_characterised _).1]
  decide

/-- Two orders that accept the same texts: `t1, t2, t3` and `t3, t2, t1` (and `t1, t3, t2`) — an
instance of `process_files_determined_by_accepted` with shared headers, where neither `Distinct`
nor `SameFirstLoads` of the statement lists holds. -/
theorem w_same_accepted : (acceptedIn [wT1, wT2, wT3]).Perm (acceptedIn [wT3, wT2, wT1]) := by
  have e1 : acceptedIn [wT1, wT2, wT3] = [wT1, wT3] := by
    rw [(accepted_texts_characterised _).1]
    simp only [acceptedGiven]
    rw [if_pos (by decide), if_neg (by decide), if_pos (by decide)]
  have e2 : acceptedIn [wT3, wT2, wT1] = [wT3, wT1] := by
    rw [(accepted_texts_characterised _).1]
    simp only [acceptedGiven]
    rw [if_pos (by decide), if_neg (by decide), if_pos (by decide)]
  rw [e1, e2]
  exact List.Perm.swap _ _ _

example (opts : Opts) : ¬ Distinct (stmtsOf ([wT1, wT2, wT3].filter AcceptableAlone)) ∧
    (processFiles opts [wT1, wT2, wT3]).toOption.map dumpOutcome =
      (processFiles opts [wT3, wT2, wT1]).toOption.map dumpOutcome :=
  ⟨by decide, (process_files_determined_by_accepted opts (perm_rev3 _ _ _) w_same_accepted).1⟩
/-- non-vacuity of `process_files_eq_accepted` and of `accepted_perm_of_distinct` -/
example : InsideModel [wT1, wT2, wT3] := process_files_order_matters_with_shared_headers.2.2.1
example : Distinct (stmtsOf ([wT1, ⟨"b.yang", [exB, exB]⟩, wT3].filter AcceptableAlone)) ∧
    (acceptedIn [wT1, ⟨"b.yang", [exB, exB]⟩, wT3]).map (·.name) = ["t1.yang", "t3.yang"] := by
  refine ⟨by decide, ?_⟩
  simp only [(accepted_texts_characterised _).1]
  decide


/-- non-vacuity of the two-text theorems: `t1`, `t3` share no header, `t1`, `t2` share `a` -/
example : AcceptableAlone wT1 = true ∧ AcceptableAlone wT2 = true ∧ AcceptableAlone wT3 = true ∧
    NoSharedHeader wT1 wT3 ∧ ¬ NoSharedHeader wT1 wT2 ∧ ¬ NoSharedHeader wT2 wT3 := by decide

end Goyang.Props.C05Order
