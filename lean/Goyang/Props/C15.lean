/-
C15 — numbers print, parse, convert and compare as exact decimal arithmetic does.

Statements are about the impl model `Goyang.Model.Number` (a transliteration of the Go code, tied to
it by `harness/cmd/corr-c15`) against `Goyang.Spec.Number`:  ⟦n⟧ = `den n` = ±value / 10^fd  (a `Rat`).
Domains: `WF` (64-bit magnitude, fd ≤ 18) for order/equality; `WFInt` (fd = 0, 64-bit magnitude with
sign) and `WFDec` (1 ≤ fd ≤ 18, signed 64-bit mantissa) for print/parse.
Helper lemmas: `Goyang/Lemmas/Number*.lean`.
-/
import Goyang.Lemmas.NumberPrint
import Goyang.Lemmas.NumberRat

namespace Goyang.Props.C15
open Goyang.Model.Number
open Goyang.Spec.Number
open Goyang.Lemmas.Number (toLit)

/-- `Less` never panics on well-formed numbers and is the strict order of the denoted rationals —
    mixed fraction digits, the extremes and negative zero included. -/
theorem less_iff (n m : Number) (hn : WF n) (hm : WF m) :
    less? n m = some (less n m) ∧ (less n m = true ↔ den n < den m) := by
  have hp := Lemmas.Number.lessPanics_false n m (by have := hn.2; omega) (by have := hm.2; omega)
  exact ⟨by simp [less?, hp], (Lemmas.Number.less_iff n m hn hm).trans (Lemmas.Number.den_lt_iff n m).symm⟩

example : WF ⟨18446744073709551615, 18, true⟩ ∧ WF ⟨0, 0, true⟩ := by decide

/-- `Equal` is equality of the denoted rationals (so `-0 = 0`, `1.50 = 1.5`). -/
theorem equal_iff (n m : Number) (hn : WF n) (hm : WF m) :
    equal? n m = some (equal n m) ∧ (equal n m = true ↔ den n = den m) := by
  have hp := Lemmas.Number.lessPanics_false n m (by have := hn.2; omega) (by have := hm.2; omega)
  have hq := Lemmas.Number.lessPanics_false m n (by have := hm.2; omega) (by have := hn.2; omega)
  exact ⟨by simp [equal?, hp, hq], (Lemmas.Number.equal_iff n m hn hm).trans (Lemmas.Number.den_eq_iff n m).symm⟩

example : WF ⟨15, 1, false⟩ ∧ WF ⟨150, 2, false⟩ ∧ WF ⟨0, 18, true⟩ := by decide

/-- `Int` returns the exact value or an error, never a wrapped value: it succeeds with `i` exactly when
    the number is an integer whose value `i` lies in the int64 range.  (Any magnitude, also ≥ 2^64.) -/
theorem int_exact (n : Number) (i : Int) : toInt n = .ok i ↔ toInt64 n = some i := by
  rw [Lemmas.Number.toInt_eq n]
  unfold toInt64
  by_cases hfd : n.fd = 0 <;> by_cases hin : inInt64 (num n) <;> simp [hfd, hin]

/-- `Int` fails exactly for decimals and for values outside the int64 range. -/
theorem int_error_iff (n : Number) : (∃ e, toInt n = .error e) ↔ (n.fd ≠ 0 ∨ ¬ inInt64 (num n)) := by
  rw [Lemmas.Number.toInt_eq n]
  by_cases hfd : n.fd = 0 <;> by_cases hin : inInt64 (num n) <;> simp [hfd, hin]

/-- a successful `Int` is the denoted rational, and lies in the int64 range -/
theorem int_den (n : Number) (i : Int) (h : toInt n = .ok i) : (i : Rat) = den n ∧ inInt64 i := by
  have h' := (int_exact n i).mp h
  unfold toInt64 at h'
  split at h'
  · next hc => cases h'; exact ⟨(Lemmas.Number.den_int n hc.1).symm, hc.2⟩
  · cases h'

example : toInt ⟨9223372036854775808, 0, true⟩ = .ok (-9223372036854775808) := by decide

/-- `FromInt` of an int64 is the integer with exactly that value. -/
theorem fromInt_exact (i : Int) (h : inInt64 i) :
    WFInt (fromInt i) ∧ num (fromInt i) = i ∧ den (fromInt i) = (i : Rat) := by
  have hH : (H : Int) = 9223372036854775808 := rfl
  unfold inInt64 at h
  have e := Lemmas.Number.fromInt_eq i (by omega) (by omega)
  have hn : num (fromInt i) = i := by
    rw [e]; unfold num
    by_cases hi : i < 0
    · simp only [hi, decide_true, if_true]; omega
    · simp only [hi, decide_false, Bool.false_eq_true, if_false]; omega
  refine ⟨?_, hn, ?_⟩
  · rw [e]; unfold WFInt; simp; omega
  · rw [Lemmas.Number.den_int _ (by rw [e]), hn]

example : inInt64 (-9223372036854775808) := by decide

/-- `FromUint` of a uint64 is the integer with exactly that value. -/
theorem fromUint_exact (u : Nat) (h : u < 2 ^ 64) :
    WFInt (fromUint u) ∧ den (fromUint u) = (u : Rat) := by
  refine ⟨⟨rfl, h⟩, ?_⟩
  rw [Lemmas.Number.den_int _ rfl]; simp [num, fromUint]

example : (18446744073709551615 : Nat) < 2 ^ 64 := by decide

/-- `String` does not panic for fd ≤ 18 and prints a literal `[-] digits [. digits]` (both digit strings
    non-empty, exactly fd fraction digits) that denotes exactly ⟦n⟧. -/
theorem print_exact (n : Number) (h : n.fd ≤ 18) :
    toStr? n = some (toStr n) ∧
    ∃ l : Lit, toStr n = l.render ∧ l.digitsOK ∧ l.proper ∧ l.scale = n.fd ∧ l.den = den n := by
  refine ⟨by simp [toStr?, Lemmas.Number.toStrPanics_false n h], toLit n, Lemmas.Number.toStr_eq_render n h,
    Lemmas.Number.toLit_digitsOK n, Lemmas.Number.toLit_proper n, Lemmas.Number.toLit_scale n, ?_⟩
  unfold Lit.den den Lit.num num
  rw [Lemmas.Number.toLit_scale, Lemmas.Number.toLit_mant, Lemmas.Number.toLit_neg]

example : (⟨5, 18, true⟩ : Number).fd ≤ 18 := by decide

/-- print/parse round trip, integers: every integer of 64-bit magnitude with sign (also `-0`) parses back
    to the identical number. -/
theorem print_parse_int (n : Number) (h : WFInt n) : parseInt (toStr n) = .ok n :=
  Lemmas.Number.print_parse_int n h

example : WFInt ⟨18446744073709551615, 0, true⟩ := by decide

/-- print/parse round trip, decimal64: printing and parsing back at the same precision gives a number
    with the same fraction digits that is `Equal` to, and denotes the same rational as, the original
    (it is the original, except that negative zero comes back as zero). -/
theorem print_parse (n : Number) (h : WFDec n) :
    ∃ n', parseDecimal (toStr n) n.fd = .ok n' ∧ n'.fd = n.fd ∧ n'.value = n.value ∧
      equal n' n = true ∧ den n' = den n := by
  refine ⟨_, Lemmas.Number.print_parse_dec n h, rfl, rfl, ?_⟩
  have hw : WF n := by
    obtain ⟨_, h2, h3⟩ := h
    refine ⟨?_, h2⟩
    split at h3 <;> omega
  have hw' : WF { n with neg := n.neg && n.value != 0 } := hw
  have hden : den { n with neg := n.neg && n.value != 0 } = den n := by
    unfold den num
    by_cases h0 : n.value = 0
    · simp [h0]
    · simp [h0]
  exact ⟨((equal_iff _ _ hw' hw).2).mpr hden, hden⟩

example : WFDec ⟨9223372036854775808, 18, true⟩ ∧ WFDec ⟨0, 1, true⟩ ∧ WFDec ⟨9223372036854775807, 1, false⟩ := by
  decide

/-- the bound of the 64-bit mantissa for a literal scaled to `f` fraction digits -/
def fits (l : Lit) (f : Nat) : Prop :=
  if l.neg then l.mant * 10 ^ (f - l.scale) ≤ 2 ^ 63 else l.mant * 10 ^ (f - l.scale) < 2 ^ 63

/-- a zero mantissa has no sign, which changes neither the value … -/
theorem num_unsigned_zero (m f : Nat) (b : Bool) :
    num { value := m, fd := f, neg := b && m != 0 } = if b then -(m : Int) else (m : Int) := by
  unfold num
  cases b <;> by_cases h0 : m = 0 <;> simp [h0]

/-- … nor the bound -/
theorem bound_unsigned_zero (m : Nat) (b : Bool) (h : if b then m ≤ 2 ^ 63 else m < 2 ^ 63) :
    if (b && m != 0) = true then m ≤ 2 ^ 63 else m < 2 ^ 63 := by
  revert h
  cases b <;> by_cases h0 : m = 0 <;> simp [h0]

/-- `ParseDecimal` on a literal `[sign] digits [. digits]` (leading zeros allowed; the theorem even covers
    an empty digit string on one side of the dot) at precision 1 ≤ f ≤ 18: the result is the decimal64
    number denoting exactly the literal's value, and it is an error exactly when more than `f` fraction
    digits are written or the mantissa scaled to `f` digits does not fit a signed 64-bit integer. -/
theorem parseDecimal_exact (l : Lit) (f : Nat) (hd : l.digitsOK) (hne : l.ip ≠ [] ∨ l.fp ≠ none)
    (hf1 : 1 ≤ f) (hf2 : f ≤ 18) :
    (∀ n, parseDecimal l.render f = .ok n → n.fd = f ∧ WFDec n ∧ den n = l.den) ∧
    ((∃ e, parseDecimal l.render f = .error e) ↔ (l.scale > f ∨ ¬ fits l f)) := by
  rw [Lemmas.Number.parseDecimal_render l f hd hne hf1 hf2]
  unfold fits parseDecimalSpec
  by_cases hsc : l.scale > f
  · simp [hsc]
  · simp only [hsc, if_false, false_or]
    by_cases hfit : (if l.neg then l.mant * 10 ^ (f - l.scale) ≤ 2 ^ 63 else l.mant * 10 ^ (f - l.scale) < 2 ^ 63)
    · rw [if_pos hfit]
      simp only [hfit, not_true_eq_false, iff_false]
      refine ⟨?_, by simp⟩
      rintro n ⟨⟩
      refine ⟨rfl, ⟨hf1, hf2, bound_unsigned_zero _ _ hfit⟩, ?_⟩
      · -- denotations: ±(mant·10^(f-scale)) / 10^f = ±mant / 10^scale
        have hk : (10 : Rat) ^ (f - l.scale) ≠ 0 := pow_ne_zero _ (by norm_num)
        have hpow : (10 : Rat) ^ f = (10 : Rat) ^ (f - l.scale) * (10 : Rat) ^ l.scale := by
          rw [← pow_add]; congr 1; omega
        have key : ∀ a : Rat, a * 10 ^ (f - l.scale) / 10 ^ f = a / 10 ^ l.scale := by
          intro a; rw [hpow, mul_comm a, mul_div_mul_left _ _ hk]
        unfold den Lit.den Lit.num
        rw [num_unsigned_zero]
        split
        · push_cast; rw [← neg_mul, key]
        · push_cast; rw [key]
    · rw [if_neg hfit]
      simp only [hfit, not_false_eq_true, iff_true]
      exact ⟨by simp, ⟨_, rfl⟩⟩

example : (⟨some true, [9, 2], some [2, 3]⟩ : Lit).digitsOK ∧ (⟨some true, [9, 2], some [2, 3]⟩ : Lit).ip ≠ [] := by
  refine ⟨⟨by decide, by decide⟩, by decide⟩

/-- `ParseInt` on `[sign] digits` without superfluous leading zeros: the integer denoting exactly the
    literal's value, and an error exactly when the magnitude does not fit 64 bits.
    (With a leading zero Go's base-0 syntax reads octal; that is outside the claimed literal form and
    covered by the correspondence run only.) -/
theorem parseInt_exact (l : Lit) (hd : l.digitsOK) (hip : l.ip ≠ []) (hfp : l.fp = none) (hz : l.noLeadingZero) :
    (∀ n, parseInt l.render = .ok n → WFInt n ∧ den n = l.den) ∧
    ((∃ e, parseInt l.render = .error e) ↔ ¬ l.mant < 2 ^ 64) := by
  rw [Lemmas.Number.parseInt_render l hd hip hfp hz]
  unfold parseIntSpec
  by_cases hw : l.mant < 2 ^ 64
  · simp only [hw, if_true, not_true_eq_false, iff_false]
    refine ⟨?_, by simp⟩
    intro n hn
    simp only [Except.ok.injEq] at hn
    subst hn
    refine ⟨⟨rfl, hw⟩, ?_⟩
    unfold den Lit.den num Lit.num Lit.scale
    simp [hfp]
  · simp only [hw, if_false, not_false_eq_true, iff_true]
    exact ⟨by simp, ⟨_, rfl⟩⟩

example : (⟨some true, [1, 0], none⟩ : Lit).digitsOK ∧ (⟨some true, [1, 0], none⟩ : Lit).ip ≠ [] ∧
    (⟨some true, [1, 0], none⟩ : Lit).noLeadingZero := by
  refine ⟨⟨by decide, by decide⟩, by decide, by decide⟩

/-- `asRangeInt` (fraction-digits, enum values, bit positions …) on an integer literal of the stated
    form: it returns `i` exactly when the literal's value is `i` and `lo ≤ i ≤ hi`; no wrap-around
    whatever the magnitude written. -/
theorem asRangeInt_exact (l : Lit) (lo hi i : Int) (hd : l.digitsOK) (hip : l.ip ≠ []) (hfp : l.fp = none)
    (hz : l.noLeadingZero) (hlo : inInt64 lo) (hhi : inInt64 hi) :
    asRangeInt (some l.render) lo hi = .ok i ↔ (l.num = i ∧ lo ≤ i ∧ i ≤ hi) := by
  unfold asRangeInt inInt64 at *
  rcases Lemmas.Number.parseInt_toInt_render l hd hip hfp hz with ⟨_, n, hp, ht⟩ | ⟨_, hp, hin⟩
  · simp only [hp, ht]
    by_cases hin : inInt64 l.num
    · simp only [hin, if_true]
      by_cases hr : l.num < lo ∨ l.num > hi
      · -- out of range: an error on the left, no such `i` on the right
        have : (decide (l.num < lo) || decide (l.num > hi)) = true := by simpa using hr
        simp only [this, if_true, reduceCtorEq, false_iff]
        rintro ⟨rfl, _, _⟩
        omega
      · have : (decide (l.num < lo) || decide (l.num > hi)) = false := by simpa using hr
        simp only [this, Bool.false_eq_true, if_false, Except.ok.injEq]
        constructor
        · intro h; subst h; omega
        · rintro ⟨h, _, _⟩; exact h
    · simp only [hin, if_false, reduceCtorEq, false_iff]
      rintro ⟨rfl, _, _⟩
      exact hin ⟨by omega, by omega⟩
  · simp only [hp, reduceCtorEq, false_iff]
    rintro ⟨rfl, _, _⟩
    exact hin ⟨by omega, by omega⟩

example : inInt64 1 ∧ inInt64 18 ∧ (⟨none, [1, 8], none⟩ : Lit).noLeadingZero := by decide

end Goyang.Props.C15
