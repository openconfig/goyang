import Goyang.Lemmas.AugmentReport
import Goyang.Lemmas.AugmentPaths
import Goyang.Lemmas.AugmentExamples
import Goyang.Lemmas.AugmentErrs
import Goyang.Lemmas.AugmentErrsExamples
/-
C07 — augments are applied exactly once, order-independently, or reported.
Property theorems; the work is in Goyang/Lemmas/Augment*.lean.

Reading aid.

* `Spec.Augment` (Goyang/Spec/Augment.lean) is the reference semantics on the *flat view* of a
  forest: `viewOf f l d` = "location `l` (tree, node names from its root) exists in `f` and carries
  data `d`" (all recorded data except the error list); an rpc / action node has an `input` and an
  `output` child whether or not the source wrote them.  `Aug` = a resolved augment (target
  location, namespace of the writing module, body).  `A.Applicable v` = the target exists in `v` as
  a node that can have children (not leaf / leaf-list / anydata / anyxml / an rpc or action node
  itself); `A.Collides v` = some node name of the body is already a child of the target;
  `graft v A` = `v` plus, below the target, the subtree of every body node with its root stamped
  with the module's namespace.  `Valid P v seq` = `seq` is a collision-free run over the pending
  set `P` (each member applicable and collision-free when applied, none twice), `Complete` = no
  pending augment outside `seq` is applicable at the end, `IsResult` = final view + unapplied set of
  a complete run.

* The model (`Model/Process.lean`: `augmentTree`, `augmentPass`, `augmentLoop`, `augmentPhase`,
  `processAll`) is analysed through `Lemmas.AugmentModel`: `augmentLoopR R …` is the same loop with
  the forest-independent part of `Find` (which tree, which step names — `Res.tgt`; the module
  namespace — `Res.ns`) as a parameter `R`, and with the *trace* of the run as an extra result:
  `loopState`, `loopMods`, `loopTrace` are its three results started with an empty trace; an event
  `ev` of the trace records owner tree, augment entry and the forest it was applied to
  (`ev.before`).  `model_loop_eq` says that for `R = Res.ofReg reg` this is exactly the model's
  `augmentLoop reg`, for pending augments whose arguments are absolute schema node identifiers
  (`PlainPending`: no `.`, `..` or empty steps — the Go code tolerates those, RFC 7950 does not
  have them).  `absAug R f0 id a` is the `Spec` augment of the pending entry `a` of tree `id`.
  The parameter exists because `String.splitOn` does not reduce in the kernel: the non-vacuity
  examples run the loop on concrete forests with a table for `R`.

* `mu s` is the number of pending augments (per row of the pending table); `Cover s mods` says
  the module list mentions every tree that has pending augments; `NodupPending s` that no augment
  entry is listed twice for one tree; `FVisErr f er` that error `er` is recorded on a node of `f`
  that can be reached by names (such errors are among those `GetErrors` sweeps: `visible_error_swept`).

What is claimed where.  (a) `augment_monotone`, (b) `graft_paths` + `graft_stamps` +
`grafted_namespace` + `view_eq_paths`, (c) `loop_is_complete_run` + `loop_no_truncation` + `model_fuel_sufficient`,
(d) `augment_loop_confluent` + `augment_loop_confluent_free` + `collision_in_every_order`,
(d′, on the ERROR LIST) `application_errors` + `failed_attempt_errors` (the bound on the errors one
attempt can add — exact, not only from above), `loop_error_set` (which errors `GetErrors` sweeps after
the loop), `augment_loop_confluent_errors` / `_observed` / `_model` (collision-free first order ⇒ every order ends
with the same error set, the same `canonErrs` list, no `duplicate-node` error),
`augment_loop_clean_iff` (one order ends without errors iff every order does),
`collision_error_in_every_order` + `fresh_duplicate_error_in_every_order` (a collision in one order ⇔
a new `duplicate-node` error, reported in every order), (e) `augment_exactly_once`,
(f) `augment_reported` (+ `augment_reported_phase` on the parametrised model).
The error-list theorems (d′) take three well-formedness hypotheses on the pure-value forest that Go
has for free from maps and pointers: one tree per id, `Spec.Tree.KeysUnique` of every tree (sibling
names pairwise different, at most one rpc input / output), and `KeysUnique` of the children of the
applied augment entries — `Entry.updateAt` rewrites every child of the name on its path and
`Forest.setTree` every tree of the id, so without them a second, invisible copy of the target could
collide on its own.  Props/C07Bridge.lean proves them of the state `processAll` enters the phase with
(`phaseStart_wellformed`).  In a run with collisions the error SETS of two orders differ by design
(the application that comes second is blamed: see the `Bad.collide` example); what is order
independent then is that a `duplicate-node` error is reported.
The invariant
"child names are distinct at every level" (`NoDupNames`), which `view_eq_paths` takes as a
hypothesis, is proved in Props/C07Bridge.lean: `merge` keeps it unconditionally
(`noDupNames_merge`), every tree has it when the augment phase starts, and every tree in which no
error is recorded has it after the loop (`phaseStart_noDupNames`, `loop_noDupNames`,
`view_eq_paths_phaseStart` / `_loop` / `_processAll`).  Equality of forests is equality of the flat
view: same locations with the same data; child order and whether an unwritten rpc input / output
entry has been created are abstracted (the dump sorts children; the correspondence run compares
the created entries).  `PhaseInput` (hypotheses of (f) about what `ToEntry` and the registry hand
to the loop) is not derived here; Props/C07Bridge.lean derives it from the `ToEntry` model for the
state `processAll` enters the phase with (`phaseInput_holds`) and restates (d), (e), (f) for
`processAll` itself (`augment_loop_confluent_processAll`, `augment_exactly_once_processAll`,
`augment_reported_processAll`, and for (d′) `augment_clean_iff_processAll`,
`augment_error_list_order_independent_processAll`).  What remains there are two decidable predicates
on the loaded statements: `AugPosDistinct` (augment statements of one module stand at different
positions) and `AugArgsPlain` (augment arguments are absolute schema node identifiers); C07Bridge
shows by kernel-checked witnesses that neither can be dropped (`augPosDistinct_needed`, the `..` example),
derives `AugPosDistinct` for registries loaded from C02-admissible texts (`augPosDistinct_of_loadTexts`;
the `_loadTexts` restatements keep `AugArgsPlain` only), and proves the error-set equality also when
pending augment entries carry errors of their own (`phaseStart_keysUnique`,
`augment_error_set_order_independent_processAll`).
Outside the claim, as in the property text: the implicit case of a shorthand choice member as
target (such an augment is applied by the stage after FixChoice — since the repair of D67 a fixpoint:
the loop is retried over the modules that still hold pending augments, FixChoice after every
productive round, then one reporting sweep `Augment(true)`; (f) counts it as applied there:
second trace of `phaseR`) and uses-augment.
-/
open Goyang.Lemmas.SortAux (canonErrs_ne_nil)
namespace Goyang.Props.C07
open Goyang.Model Goyang.Spec.Augment
open Goyang.Lemmas.AugmentConfl Goyang.Lemmas.AugmentTree Goyang.Lemmas.AugmentModel Goyang.Lemmas.AugmentStep
open Goyang.Lemmas.AugmentLoop Goyang.Lemmas.Augment Goyang.Lemmas.AugmentReport Goyang.Lemmas.AugmentPaths
open Goyang.Lemmas.AugmentErrs (FErr FKU)
open Goyang.Spec.Tree (KeysUnique)

/-! ### the reference semantics is well defined -/

/-- `Spec.IsResult` is a function of the pending set: two complete collision-free runs from the
same view end in the same view and leave the same augments unapplied. -/
theorem result_unique (P : Aug → Prop) (v0 f1 f2 : View) (u1 u2 : Aug → Prop)
    (h1 : IsResult P v0 f1 u1) (h2 : IsResult P v0 f2 u2) :
    (∀ l d, f1 l d ↔ f2 l d) ∧ (∀ a, u1 a ↔ u2 a) :=
  Goyang.Lemmas.AugmentConfl.result_unique P v0 f1 f2 u1 u2 h1 h2

/-- If ONE complete collision-free run exists, no collision-free run can get into a state in
which a still pending, applicable augment collides: a collision is a property of the pending set,
not of the order. -/
theorem never_collides (P : Aug → Prop) (v0 : View) (hp0 : PrefixClosed v0)
    (seq1 : List Aug) (hv1 : Valid P v0 seq1) (hc1 : Complete P v0 seq1)
    (seq2 : List Aug) (hv2 : Valid P v0 seq2) (a : Aug) (haP : P a) (hpend : a ∉ seq2)
    (happ : a.Applicable (after v0 seq2)) : ¬ a.Collides (after v0 seq2) :=
  Goyang.Lemmas.AugmentConfl.never_collides P v0 hp0 seq1 hv1 hc1 seq2 hv2 a haP hpend happ

/-! ### the model's loop is the analysed loop -/

/-- For augments with plain paths the model's `augmentLoop` is the parametrised loop at the
registry's resolution, trace erased. -/
theorem model_loop_eq (reg : Registry) (fuel : Nat) (mods : Array Nat) (s : PState) (hp : PlainPending reg s) :
    augmentLoop reg fuel mods s =
      (loopMods (Res.ofReg reg) fuel mods s, loopState (Res.ofReg reg) fuel mods s) :=
  augmentLoop_eq reg fuel mods s [] hp

/-- Likewise the whole augment part of `Process` (loop, FixChoice, retry rounds with FixChoice,
reporting sweep, FixChoice). -/
theorem model_phase_eq (reg : Registry) (order : List Nat) (fuel : Nat) (s : PState) (hp : PlainPending reg s) :
    augmentPhase reg order fuel s = (phaseR (Res.ofReg reg) order fuel s).1 :=
  augmentPhase_eq reg order fuel s hp

/-! ### (a) a step never removes or changes an existing node -/

/-- One attempt of one augment (one iteration of the loop in `Entry.Augment`), applied or not,
with or without `addErrors`: every location of the forest is still there afterwards with the same
data, every error recorded on a visible node is still recorded, and the same trees exist.  (What
may change: the target's child list and error lists; implicit rpc input / output nodes may have
been created, which the view contains anyway.) -/
theorem augment_monotone (R : Res) (id : Nat) (addErrors : Bool) (nsOf : String) (a : Entry) (f : Forest) :
    let f' := (attemptR R id addErrors nsOf a f).1
    (∀ l d, viewOf f l d → viewOf f' l d) ∧ (∀ er, FVisErr f er → FVisErr f' er) ∧
    (∀ t, (f'.tree? t).isSome = (f.tree? t).isSome) := by
  have hle : FLe f (attemptR R id addErrors nsOf a f).1 := by
    cases h : attemptR R id addErrors nsOf a f with
    | mk f' b =>
      cases b with
      | false => exact (attempt_fail h).2.1
      | true => exact attempt_ok_le h
  exact ⟨fun l d h => hle.view h, fun er h => h.mono hle, fun t => hle.isSome t⟩

/-- The same for the model's `augmentTree` (a whole `Entry.Augment` call). -/
theorem augment_monotone_model (reg : Registry) (id : Nat) (addErrors : Bool) (s : PState)
    (hp : PlainPending reg s) :
    let s' := (augmentTree reg id addErrors s).1
    (∀ l d, viewOf s.forest l d → viewOf s'.forest l d) ∧ (∀ er, FVisErr s.forest er → FVisErr s'.forest er) ∧
    (∀ t, (s'.forest.tree? t).isSome = (s.forest.tree? t).isSome) := by
  rw [augmentTree_eq reg id addErrors s (hp id)]
  have hle := tree_le (Res.ofReg reg) id addErrors s
  exact ⟨fun l d h => hle.view h, fun er h => h.mono hle, fun t => hle.isSome t⟩

/-! ### (b) what a step adds -/

/-- A successful attempt whose body names are distinct and do not collide changes the view by
exactly `Spec.graft`: nothing is removed, and what is added is, below the target, the subtree of
each body node.  The augment was applicable.  (`nsOf` is what `augmentTree` passes: the namespace
of the owner's module.) -/
theorem graft_paths (R : Res) (id : Nat) (addErrors : Bool) (a : Entry) (f f' f0 : Forest)
    (h : attemptR R id addErrors (nsOfR R f0 id) a f = (f', true))
    (hnd : (absAug R f0 id a).roots.Nodup) (hnc : ¬ (absAug R f0 id a).Collides (viewOf f)) :
    (absAug R f0 id a).Applicable (viewOf f) ∧ viewOf f' = graft (viewOf f) (absAug R f0 id a) := by
  obtain ⟨_, happ, hgraft, _⟩ := attempt_ok h f0 rfl
  exact ⟨happ, hgraft hnd hnc⟩

/-- Exactly once and attribution, in the added part: each body node appears at
`target/name` and the root of the copy carries the augmenting module's namespace. -/
theorem graft_stamps (A : Aug) (t : NLoc) (ht : A.target = some t) (c : Entry) (hc : c ∈ A.body.dir) :
    A.adds (Aug.rootLoc t c.name) (nodeData (stamp A.ns c).d) ∧ (nodeData (stamp A.ns c).d).ns = some A.ns ∧
    (nodeData (stamp A.ns c).d).name = c.name :=
  ⟨⟨t, ht, rfl, c, hc, [], rfl, _, rfl, rfl⟩, by simp [stamp, nodeData], by simp [stamp, nodeData, Entry.name]⟩

/-- Attribution of descendants: `Namespace()` of a node below a stamped node — here: below the
root of a grafted copy — is that node's stamp, as far down as no deeper node carries a stamp of
its own (a node grafted into the copy by a further augment does, and starts its own region). -/
theorem grafted_namespace (reg : Registry) (f : Forest) (t : Nat) (root x : Entry) (p q : Path) (n : String)
    (ht : f.tree? t = some root) (hp : p ≠ []) (hx : root.getAt p = some x) (hn : x.d.ns = some n)
    (hq : ∀ q' y, q' ≠ [] → q' <+: q → x.getAt q' = some y → y.d.ns = none) :
    namespaceAt reg f (t, p ++ q) = n := by
  simp [namespaceAt, ht, stampAt_below root x p q n hp hx hn hq]

/-- The flat view as a list: for a tree whose child names are distinct at every level,
`Spec.paths` lists exactly the locations of the view with their data. -/
theorem view_eq_paths (f : Forest) (t : Nat) (root : Entry) (h : f.tree? t = some root) (hn : NoDupNames root)
    (P : NPath) (d : EData) : viewOf f (t, P) d ↔ (P, d) ∈ paths root := by
  rw [viewOf_at h, mem_paths root hn]

/-! ### (c) the loop performs a complete run, within its fuel -/

/-- Whatever the order and multiplicity of the module list (as long as it mentions every tree with
pending augments) and whatever the order inside the pending lists: with fuel above `mu s` the loop
ends in a state where no pending augment is applicable; its trace is a chain of successful
attempts from the initial to the final forest; the pending lists shrink by exactly the trace; and
the returned module list still mentions every tree with pending augments. -/
theorem loop_is_complete_run (R : Res) (fuel : Nat) (mods : Array Nat) (s : PState) (hn : NodupPending s)
    (hcov : Cover s mods) (hfuel : mu s < fuel) :
    Chain R s.forest s.forest (loopTrace R fuel mods s) (loopState R fuel mods s).forest ∧
    Book s (loopState R fuel mods s) (loopTrace R fuel mods s) ∧
    Cover (loopState R fuel mods s) (loopMods R fuel mods s) ∧
    (∀ id, ∀ a ∈ (loopState R fuel mods s).pendingOf id,
      ¬ (absAug R s.forest id a).Applicable (viewOf (loopState R fuel mods s).forest)) := by
  obtain ⟨h1, h2, h3, _, h5⟩ := loop_run R fuel mods s hn hcov hfuel
  exact ⟨h1, h2, h3, h5⟩

/-- In the reference semantics: when the loop leaves no `duplicate-node` error, its trace is a
complete collision-free run, its final view is the run's result and its leftover set is the run's
unapplied set — i.e. `Spec.IsResult`. -/
theorem loop_result (R : Res) (fuel : Nat) (mods : Array Nat) (s : PState) (hn : NodupPending s)
    (hcov : Cover s mods) (hfuel : mu s < fuel)
    (hfree : ∀ er, FVisErr (loopState R fuel mods s).forest er → er.cls ≠ "duplicate-node") :
    IsResult (PSet R s.forest s) (viewOf s.forest) (viewOf (loopState R fuel mods s).forest)
      (PSet R s.forest (loopState R fuel mods s)) := by
  obtain ⟨hv, hc, hview, hleft⟩ := loop_isResult_free R fuel mods s hn hcov hfuel (loop_free R fuel mods s hn hcov hfuel hfree)
  exact ⟨_, hv, hc, fun l d => by rw [hview], hleft⟩

/-- No truncation: above `mu s` the amount of fuel does not matter. -/
theorem loop_no_truncation (R : Res) (fuel1 fuel2 : Nat) (mods : Array Nat) (s : PState) (tr : List Ev)
    (hn : NodupPending s) (h1 : mu s < fuel1) (h2 : mu s < fuel2) :
    augmentLoopR R fuel1 mods s tr = augmentLoopR R fuel2 mods s tr :=
  loop_fuel_irrelevant R fuel1 fuel2 mods s tr hn h1 h2

/-- The fuel `processAll` gives the loop (`total + 2`, `total` = sum of the lengths of the rows of
the pending table) is above `mu` when the table has one row per tree: the bound in the model is
sufficient (with one unit to spare). -/
theorem model_fuel_sufficient (s : PState) (hk : (keys s).Nodup) :
    mu s < s.pending.foldl (fun n p => n + p.2.length) 0 + 2 :=
  fuel_sufficient s hk

/-! ### (d) order independence -/

/-- Two runs of the loop from the same forest over the same pending sets: any two module lists
(orders, repetitions) that mention the trees with pending augments, any order inside each pending
list.  If the first run leaves no `duplicate-node` error then the second run never collides,
applies the same augments, ends in the same view and leaves the same augments unapplied. -/
theorem augment_loop_confluent (R : Res) (fuel1 fuel2 : Nat) (mods1 mods2 : Array Nat) (s1 s2 : PState)
    (hforest : s2.forest = s1.forest) (hpend : ∀ id a, a ∈ s2.pendingOf id ↔ a ∈ s1.pendingOf id)
    (hn1 : NodupPending s1) (hn2 : NodupPending s2) (hcov1 : Cover s1 mods1) (hcov2 : Cover s2 mods2)
    (hfuel1 : mu s1 < fuel1) (hfuel2 : mu s2 < fuel2)
    (hfree : ∀ er, FVisErr (loopState R fuel1 mods1 s1).forest er → er.cls ≠ "duplicate-node") :
    viewOf (loopState R fuel2 mods2 s2).forest = viewOf (loopState R fuel1 mods1 s1).forest ∧
    (∀ id a, a ∈ (loopState R fuel2 mods2 s2).pendingOf id ↔ a ∈ (loopState R fuel1 mods1 s1).pendingOf id) ∧
    (∀ ev ∈ loopTrace R fuel2 mods2 s2, EvFree R s1.forest ev) ∧
    (∀ x, x ∈ (loopTrace R fuel2 mods2 s2).map Ev.key ↔ x ∈ (loopTrace R fuel1 mods1 s1).map Ev.key) :=
  loop_confluent_free R ⟨hforest, hpend, hn1, hn2, hcov1, hcov2, hfuel1, hfuel2⟩ (loop_free R fuel1 mods1 s1 hn1 hcov1 hfuel1 hfree)

/-- The symmetric form, with collision-freeness stated on the applications themselves: if no
application of one order collides, none of any other order does, and both orders apply the same
augments, end in the same view and leave the same augments unapplied. -/
theorem augment_loop_confluent_free (R : Res) (fuel1 fuel2 : Nat) (mods1 mods2 : Array Nat) (s1 s2 : PState)
    (hforest : s2.forest = s1.forest) (hpend : ∀ id a, a ∈ s2.pendingOf id ↔ a ∈ s1.pendingOf id)
    (hn1 : NodupPending s1) (hn2 : NodupPending s2) (hcov1 : Cover s1 mods1) (hcov2 : Cover s2 mods2)
    (hfuel1 : mu s1 < fuel1) (hfuel2 : mu s2 < fuel2)
    (hfr1 : ∀ ev ∈ loopTrace R fuel1 mods1 s1, EvFree R s1.forest ev) :
    viewOf (loopState R fuel2 mods2 s2).forest = viewOf (loopState R fuel1 mods1 s1).forest ∧
    (∀ id a, a ∈ (loopState R fuel2 mods2 s2).pendingOf id ↔ a ∈ (loopState R fuel1 mods1 s1).pendingOf id) ∧
    (∀ ev ∈ loopTrace R fuel2 mods2 s2, EvFree R s1.forest ev) ∧
    (∀ x, x ∈ (loopTrace R fuel2 mods2 s2).map Ev.key ↔ x ∈ (loopTrace R fuel1 mods1 s1).map Ev.key) :=
  loop_confluent_free R ⟨hforest, hpend, hn1, hn2, hcov1, hcov2, hfuel1, hfuel2⟩ hfr1

/-- The same for the model's `augmentLoop` (what cannot be said without the trace is left out). -/
theorem augment_loop_confluent_model (reg : Registry) (fuel1 fuel2 : Nat) (mods1 mods2 : Array Nat) (s1 s2 : PState)
    (hp1 : PlainPending reg s1) (hp2 : PlainPending reg s2)
    (hforest : s2.forest = s1.forest) (hpend : ∀ id a, a ∈ s2.pendingOf id ↔ a ∈ s1.pendingOf id)
    (hn1 : NodupPending s1) (hn2 : NodupPending s2) (hcov1 : Cover s1 mods1) (hcov2 : Cover s2 mods2)
    (hfuel1 : mu s1 < fuel1) (hfuel2 : mu s2 < fuel2)
    (hfree : ∀ er, FVisErr (augmentLoop reg fuel1 mods1 s1).2.forest er → er.cls ≠ "duplicate-node") :
    viewOf (augmentLoop reg fuel2 mods2 s2).2.forest = viewOf (augmentLoop reg fuel1 mods1 s1).2.forest ∧
    (∀ id a, a ∈ (augmentLoop reg fuel2 mods2 s2).2.pendingOf id ↔ a ∈ (augmentLoop reg fuel1 mods1 s1).2.pendingOf id) := by
  rw [model_loop_eq reg fuel1 mods1 s1 hp1] at hfree ⊢
  rw [model_loop_eq reg fuel2 mods2 s2 hp2]
  obtain ⟨h1, h2, _, _⟩ := loop_confluent_free (Res.ofReg reg) ⟨hforest, hpend, hn1, hn2, hcov1, hcov2, hfuel1, hfuel2⟩
    (loop_free _ fuel1 mods1 s1 hn1 hcov1 hfuel1 hfree)
  exact ⟨h1, h2⟩

/-- Collision in one order ⇒ collision, and an error, in every order.  Part 1: an application
that collides (a body name already present below the target, or repeated inside the body) leaves
a `duplicate-node` error on a visible node of the final forest, in any order.  Part 2 is the third
conjunct of `augment_loop_confluent`: if one order ends without such an error, no application of
any other order collides — so if some application of some order collides, every order ends with a
`duplicate-node` error. -/
theorem collision_in_every_order (R : Res) {fuel1 fuel2 : Nat} {mods1 mods2 : Array Nat} {s1 s2 : PState}
    (h2 : TwoRuns fuel1 fuel2 mods1 mods2 s1 s2)
    (ev : Ev) (hev : ev ∈ loopTrace R fuel2 mods2 s2)
    (hbad : ¬ (absEv R s1.forest ev).roots.Nodup ∨ (absEv R s1.forest ev).Collides (viewOf ev.before)) :
    (∃ er, FVisErr (loopState R fuel2 mods2 s2).forest er ∧ er.cls = "duplicate-node") ∧
    (∃ er, FVisErr (loopState R fuel1 mods1 s1).forest er ∧ er.cls = "duplicate-node") := by
  refine ⟨?_, ?_⟩
  · exact loop_collision_reported R fuel2 mods2 s2 h2.nodup2 h2.cover2 h2.lt2 ev hev (by rw [h2.forest]; exact hbad)
  · apply Classical.byContradiction
    intro hno
    have hfree : ∀ er, FVisErr (loopState R fuel1 mods1 s1).forest er → er.cls ≠ "duplicate-node" :=
      fun er h1 h2 => hno ⟨er, h1, h2⟩
    obtain ⟨_, _, hfr, _⟩ := loop_confluent_free R h2 (loop_free R fuel1 mods1 s1 h2.nodup1 h2.cover1 h2.lt1 hfree)
    rcases hbad with h | h
    · exact h (hfr ev hev).1
    · exact (hfr ev hev).2 h

/-! ### (d′) order independence of the ERROR LIST

`FErr f er`: error `er` is recorded somewhere in a tree of `f` (one that `tree?` finds); with one tree
per id this is membership in the sweep `allErrs f` (`GetErrors`).  `FKU f`: every tree has
`Spec.Tree.KeysUnique` (C04: sibling names pairwise different, at most one rpc input / output at
every node).  The pure-value model needs both where Go has maps and pointers: `updateAt` rewrites
every child of the name on its path and `setTree` every tree of the id. -/

/-- **Upper bound on the errors of one application** (with the lower bound: it is exact).  A
successful attempt adds to the errors recorded in the forest the errors recorded inside the augment
entry (`merge` imports them) and the `duplicate-node` error positioned at the augment statement —
the latter exactly when a body name is repeated or already a child of the target; nothing else. -/
theorem application_errors (R : Res) (id : Nat) (nsOf : String) (a : Entry) (f f' : Forest)
    (h : attemptR R id false nsOf a f = (f', true)) (hku : FKU f) (er : Err) :
    FErr f' er ↔ FErr f er ∨ er ∈ a.allErrors ∨
      (er = Err.at_ a.d.node "duplicate-node" ∧
        (¬ (absAug R f id a).roots.Nodup ∨ (absAug R f id a).Collides (viewOf f))) := by
  have hout := Goyang.Lemmas.AugmentErrs.attempt_errs R id nsOf a f
  rw [h] at hout
  generalize hfe : (f', true) = res at hout
  cases hout with
  | fail _ _ _ _ => simp at hfe
  | ok f'' _ _ h3 =>
    simp only [Prod.mk.injEq, and_true] at hfe
    subst hfe
    exact h3 hku er

/-- A failed attempt of the loop adds nothing — except the `other` error `Find` records on the root
of the owner's tree when the first prefix of the path denotes no module. -/
theorem failed_attempt_errors (R : Res) (id : Nat) (nsOf : String) (a : Entry) (f f' : Forest)
    (h : attemptR R id false nsOf a f = (f', false)) (hku : FKU f) (er : Err) :
    FErr f' er ↔ FErr f er ∨ (er = Err.bare "other" ∧ R.tgt id a = .badPrefix ∧ (f.tree? id).isSome = true) := by
  have hout := Goyang.Lemmas.AugmentErrs.attempt_errs R id nsOf a f
  rw [h] at hout
  generalize hfe : (f', false) = res at hout
  cases hout with
  | ok _ _ _ _ => simp at hfe
  | fail f'' _ _ h3 =>
    simp only [Prod.mk.injEq, and_true] at hfe
    subst hfe
    exact h3 hku er

/-- **The error list of the loop.**  For a forest with one tree per id and unique keys, and applied
augment bodies with unique keys: `GetErrors` after the loop sweeps exactly the errors recorded before
the loop, the `other` error when some pending augment of an existing tree has an unresolvable first
prefix, the errors recorded inside the APPLIED augment entries, and, for each applied augment, the
`duplicate-node` error at its statement when — and only when — its application collided. -/
theorem loop_error_set (R : Res) (fuel : Nat) (mods : Array Nat) (s : PState) (hcov : Cover s mods) (hfuel : 0 < fuel)
    (hids : (s.forest.trees.map (·.1)).Nodup) (hku : ∀ t ∈ s.forest.trees, KeysUnique t.2)
    (hbody : ∀ ev ∈ loopTrace R fuel mods s, ∀ c ∈ ev.aug.dir, KeysUnique c) (er : Err) :
    er ∈ allErrs (loopState R fuel mods s).forest ↔
      er ∈ allErrs s.forest ∨
      (er = Err.bare "other" ∧
        ∃ id a, a ∈ s.pendingOf id ∧ R.tgt id a = .badPrefix ∧ (s.forest.tree? id).isSome = true) ∨
      ∃ ev ∈ loopTrace R fuel mods s, er ∈ ev.aug.allErrors ∨
        (er = Err.at_ ev.aug.d.node "duplicate-node" ∧
          (¬ (absEv R s.forest ev).roots.Nodup ∨ (absEv R s.forest ev).Collides (viewOf ev.before))) :=
  Goyang.Lemmas.AugmentErrs.loop_errs R fuel mods s hcov hfuel hids hku hbody er

/-- **Confluence on the error list.**  Two runs of the loop from the same forest over the same
pending sets (any module lists that mention the trees with pending augments, any order inside the
pending lists).  If no application of the first run collides, both runs end with the same SET of
recorded errors, hence with the same canonical (sorted, duplicate-free) error list. -/
theorem augment_loop_confluent_errors (R : Res) (fuel1 fuel2 : Nat) (mods1 mods2 : Array Nat) (s1 s2 : PState)
    (hforest : s2.forest = s1.forest) (hpend : ∀ id a, a ∈ s2.pendingOf id ↔ a ∈ s1.pendingOf id)
    (hn1 : NodupPending s1) (hn2 : NodupPending s2) (hcov1 : Cover s1 mods1) (hcov2 : Cover s2 mods2)
    (hfuel1 : mu s1 < fuel1) (hfuel2 : mu s2 < fuel2)
    (hids : (s1.forest.trees.map (·.1)).Nodup) (hku : ∀ t ∈ s1.forest.trees, KeysUnique t.2)
    (hbody : ∀ ev ∈ loopTrace R fuel1 mods1 s1, ∀ c ∈ ev.aug.dir, KeysUnique c)
    (hfr1 : ∀ ev ∈ loopTrace R fuel1 mods1 s1, EvFree R s1.forest ev) :
    (∀ er, er ∈ allErrs (loopState R fuel2 mods2 s2).forest ↔ er ∈ allErrs (loopState R fuel1 mods1 s1).forest) ∧
    canonErrs (allErrs (loopState R fuel2 mods2 s2).forest) = canonErrs (allErrs (loopState R fuel1 mods1 s1).forest) := by
  have h := Goyang.Lemmas.AugmentErrs.loop_errs_confluent R ⟨hforest, hpend, hn1, hn2, hcov1, hcov2, hfuel1, hfuel2⟩ hids hku hbody hfr1
  exact ⟨h, Goyang.Lemmas.AugmentErrs.canonErrs_set_invariant h⟩

/-- The same with the observable hypothesis of `augment_loop_confluent`: the first run leaves no
`duplicate-node` error.  Then the second run's error list is the first's — in particular it has no
`duplicate-node` error either. -/
theorem augment_loop_confluent_errors_observed (R : Res) (fuel1 fuel2 : Nat) (mods1 mods2 : Array Nat) (s1 s2 : PState)
    (hforest : s2.forest = s1.forest) (hpend : ∀ id a, a ∈ s2.pendingOf id ↔ a ∈ s1.pendingOf id)
    (hn1 : NodupPending s1) (hn2 : NodupPending s2) (hcov1 : Cover s1 mods1) (hcov2 : Cover s2 mods2)
    (hfuel1 : mu s1 < fuel1) (hfuel2 : mu s2 < fuel2)
    (hids : (s1.forest.trees.map (·.1)).Nodup) (hku : ∀ t ∈ s1.forest.trees, KeysUnique t.2)
    (hbody : ∀ ev ∈ loopTrace R fuel1 mods1 s1, ∀ c ∈ ev.aug.dir, KeysUnique c)
    (hfree : ∀ er ∈ allErrs (loopState R fuel1 mods1 s1).forest, er.cls ≠ "duplicate-node") :
    (∀ er, er ∈ allErrs (loopState R fuel2 mods2 s2).forest ↔ er ∈ allErrs (loopState R fuel1 mods1 s1).forest) ∧
    canonErrs (allErrs (loopState R fuel2 mods2 s2).forest) = canonErrs (allErrs (loopState R fuel1 mods1 s1).forest) ∧
    (∀ er ∈ allErrs (loopState R fuel2 mods2 s2).forest, er.cls ≠ "duplicate-node") := by
  have hfr1 := loop_free R fuel1 mods1 s1 hn1 hcov1 hfuel1 fun er h => hfree er (fVisErr_allErrs h)
  obtain ⟨h1, h2⟩ := augment_loop_confluent_errors R fuel1 fuel2 mods1 mods2 s1 s2 hforest hpend hn1 hn2 hcov1 hcov2
    hfuel1 hfuel2 hids hku hbody hfr1
  exact ⟨h1, h2, fun er her => hfree er ((h1 er).mp her)⟩

/-- The same for the model's `augmentLoop` (the hypothesis on the bodies is stated on the pending
entries, since the model's loop returns no trace). -/
theorem augment_loop_confluent_errors_model (reg : Registry) (fuel1 fuel2 : Nat) (mods1 mods2 : Array Nat) (s1 s2 : PState)
    (hp1 : PlainPending reg s1) (hp2 : PlainPending reg s2)
    (hforest : s2.forest = s1.forest) (hpend : ∀ id a, a ∈ s2.pendingOf id ↔ a ∈ s1.pendingOf id)
    (hn1 : NodupPending s1) (hn2 : NodupPending s2) (hcov1 : Cover s1 mods1) (hcov2 : Cover s2 mods2)
    (hfuel1 : mu s1 < fuel1) (hfuel2 : mu s2 < fuel2)
    (hids : (s1.forest.trees.map (·.1)).Nodup) (hku : ∀ t ∈ s1.forest.trees, KeysUnique t.2)
    (hbody : ∀ id, ∀ a ∈ s1.pendingOf id, ∀ c ∈ a.dir, KeysUnique c)
    (hfree : ∀ er ∈ allErrs (augmentLoop reg fuel1 mods1 s1).2.forest, er.cls ≠ "duplicate-node") :
    (∀ er, er ∈ allErrs (augmentLoop reg fuel2 mods2 s2).2.forest ↔ er ∈ allErrs (augmentLoop reg fuel1 mods1 s1).2.forest) ∧
    canonErrs (allErrs (augmentLoop reg fuel2 mods2 s2).2.forest) =
      canonErrs (allErrs (augmentLoop reg fuel1 mods1 s1).2.forest) ∧
    (∀ er ∈ allErrs (augmentLoop reg fuel2 mods2 s2).2.forest, er.cls ≠ "duplicate-node") := by
  rw [model_loop_eq reg fuel1 mods1 s1 hp1] at hfree ⊢
  rw [model_loop_eq reg fuel2 mods2 s2 hp2]
  have hbook := (loop_run (Res.ofReg reg) fuel1 mods1 s1 hn1 hcov1 hfuel1).2.1
  exact augment_loop_confluent_errors_observed (Res.ofReg reg) fuel1 fuel2 mods1 mods2 s1 s2 hforest hpend hn1 hn2 hcov1 hcov2
    hfuel1 hfuel2 hids hku (fun ev hev => hbody ev.owner ev.aug (hbook.fromPending ev hev)) hfree

/-- **One order ends without errors iff every other order does.**  Only augment entries WITHOUT
recorded errors are asked to have unique keys (an entry with errors is never applied in a clean run:
its errors would be imported). -/
theorem augment_loop_clean_iff (R : Res) (fuel1 fuel2 : Nat) (mods1 mods2 : Array Nat) (s1 s2 : PState)
    (hforest : s2.forest = s1.forest) (hpend : ∀ id a, a ∈ s2.pendingOf id ↔ a ∈ s1.pendingOf id)
    (hn1 : NodupPending s1) (hn2 : NodupPending s2) (hcov1 : Cover s1 mods1) (hcov2 : Cover s2 mods2)
    (hfuel1 : mu s1 < fuel1) (hfuel2 : mu s2 < fuel2)
    (hids : (s1.forest.trees.map (·.1)).Nodup) (hku : ∀ t ∈ s1.forest.trees, KeysUnique t.2)
    (hbody : ∀ id, ∀ a ∈ s1.pendingOf id, a.allErrors = [] → ∀ c ∈ a.dir, KeysUnique c) :
    allErrs (loopState R fuel1 mods1 s1).forest = [] ↔ allErrs (loopState R fuel2 mods2 s2).forest = [] := by
  constructor
  · exact Goyang.Lemmas.AugmentErrs.loop_clean_imp R ⟨hforest, hpend, hn1, hn2, hcov1, hcov2, hfuel1, hfuel2⟩ hids hku hbody
  · exact Goyang.Lemmas.AugmentErrs.loop_clean_imp R (TwoRuns.symm ⟨hforest, hpend, hn1, hn2, hcov1, hcov2, hfuel1, hfuel2⟩) (by rw [hforest]; exact hids)
      (by rw [hforest]; exact hku) (fun id a ha => hbody id a ((hpend id a).mp ha))

/-- `collision_in_every_order` on the error list: an application of some order that collides puts a
`duplicate-node` error into the error list of EVERY order. -/
theorem collision_error_in_every_order (R : Res) (fuel1 fuel2 : Nat) (mods1 mods2 : Array Nat) (s1 s2 : PState)
    (hforest : s2.forest = s1.forest) (hpend : ∀ id a, a ∈ s2.pendingOf id ↔ a ∈ s1.pendingOf id)
    (hn1 : NodupPending s1) (hn2 : NodupPending s2) (hcov1 : Cover s1 mods1) (hcov2 : Cover s2 mods2)
    (hfuel1 : mu s1 < fuel1) (hfuel2 : mu s2 < fuel2)
    (ev : Ev) (hev : ev ∈ loopTrace R fuel2 mods2 s2)
    (hbad : ¬ (absEv R s1.forest ev).roots.Nodup ∨ (absEv R s1.forest ev).Collides (viewOf ev.before)) :
    (∃ er ∈ allErrs (loopState R fuel2 mods2 s2).forest, er.cls = "duplicate-node") ∧
    (∃ er ∈ allErrs (loopState R fuel1 mods1 s1).forest, er.cls = "duplicate-node") := by
  obtain ⟨⟨e2, h2, c2⟩, ⟨e1, h1, c1⟩⟩ := collision_in_every_order R ⟨hforest, hpend, hn1, hn2, hcov1, hcov2, hfuel1, hfuel2⟩ ev hev hbad
  exact ⟨⟨e2, fVisErr_allErrs h2, c2⟩, ⟨e1, fVisErr_allErrs h1, c1⟩⟩

/-- The converse tie between the error list and the applications: a `duplicate-node` error in the
error list of one order that was not there before the loop and is not recorded inside a pending
augment entry stems from a colliding application — so every other order reports a `duplicate-node`
error too. -/
theorem fresh_duplicate_error_in_every_order (R : Res) (fuel1 fuel2 : Nat) (mods1 mods2 : Array Nat) (s1 s2 : PState)
    (hforest : s2.forest = s1.forest) (hpend : ∀ id a, a ∈ s2.pendingOf id ↔ a ∈ s1.pendingOf id)
    (hn1 : NodupPending s1) (hn2 : NodupPending s2) (hcov1 : Cover s1 mods1) (hcov2 : Cover s2 mods2)
    (hfuel1 : mu s1 < fuel1) (hfuel2 : mu s2 < fuel2)
    (hids : (s1.forest.trees.map (·.1)).Nodup) (hku : ∀ t ∈ s1.forest.trees, KeysUnique t.2)
    (hbody : ∀ ev ∈ loopTrace R fuel1 mods1 s1, ∀ c ∈ ev.aug.dir, KeysUnique c)
    (er : Err) (her : er ∈ allErrs (loopState R fuel1 mods1 s1).forest) (hcls : er.cls = "duplicate-node")
    (hnew : er ∉ allErrs s1.forest) (hnotbody : ∀ id, ∀ a ∈ s1.pendingOf id, er ∉ a.allErrors) :
    (∃ ev ∈ loopTrace R fuel1 mods1 s1, er = Err.at_ ev.aug.d.node "duplicate-node" ∧
      (¬ (absEv R s1.forest ev).roots.Nodup ∨ (absEv R s1.forest ev).Collides (viewOf ev.before))) ∧
    ∃ er' ∈ allErrs (loopState R fuel2 mods2 s2).forest, er'.cls = "duplicate-node" := by
  have hbook1 := (loop_run R fuel1 mods1 s1 hn1 hcov1 hfuel1).2.1
  rcases (loop_error_set R fuel1 mods1 s1 hcov1 (by omega) hids hku hbody er).mp her with h | ⟨h, _⟩ | ⟨ev, hev, h | ⟨h1, h2⟩⟩
  · exact absurd h hnew
  · rw [h] at hcls; exact absurd hcls (by decide)
  · exact absurd h (hnotbody ev.owner ev.aug (hbook1.fromPending ev hev))
  · refine ⟨⟨ev, hev, h1, h2⟩, ?_⟩
    obtain ⟨_, ⟨e2, h3, c2⟩⟩ := collision_in_every_order R (TwoRuns.symm ⟨hforest, hpend, hn1, hn2, hcov1, hcov2, hfuel1, hfuel2⟩) ev hev h2
    exact ⟨e2, fVisErr_allErrs h3, c2⟩

/-! ### (e) exactly once -/

/-- Every pending augment is applied at most once (the trace has no repetition), and it is
applied exactly when its target exists in the final forest as a node that can have children —
which is the same as: it is no longer pending at the end. -/
theorem augment_exactly_once (R : Res) (fuel : Nat) (mods : Array Nat) (s : PState) (hn : NodupPending s)
    (hcov : Cover s mods) (hfuel : mu s < fuel) :
    ((loopTrace R fuel mods s).map Ev.key).Nodup ∧
    ∀ id, ∀ a ∈ s.pendingOf id,
      ((id, a) ∈ (loopTrace R fuel mods s).map Ev.key ↔
        (absAug R s.forest id a).Applicable (viewOf (loopState R fuel mods s).forest)) ∧
      ((id, a) ∈ (loopTrace R fuel mods s).map Ev.key ↔ a ∉ (loopState R fuel mods s).pendingOf id) := by
  obtain ⟨hchain, hbook, _, _, hcomp⟩ := loop_run R fuel mods s hn hcov hfuel
  refine ⟨hbook.nodup, ?_⟩
  intro id a ha
  have hleft : (id, a) ∈ (loopTrace R fuel mods s).map Ev.key ↔ a ∉ (loopState R fuel mods s).pendingOf id := by
    rw [hbook.pending]
    constructor
    · intro h hh; exact hh.2 h
    · intro h
      apply Classical.byContradiction
      intro hnot; exact h ⟨ha, hnot⟩
  refine ⟨?_, hleft⟩
  constructor
  · intro hm
    obtain ⟨ev, hev, hk⟩ := List.mem_map.mp hm
    simp only [Ev.key, Prod.mk.injEq] at hk
    obtain ⟨hle, happ⟩ := chain_before_le hchain ev hev
    have : absEv R s.forest ev = absAug R s.forest id a := by simp [absEv, hk.1, hk.2]
    rw [this] at happ
    exact applicable_mono (fun l d h => hle.view h) happ
  · intro happ
    apply Classical.byContradiction
    intro hnot
    exact hcomp id a (Classical.byContradiction fun h => hnot (hleft.mpr h)) happ

/-- When the loop leaves no `duplicate-node` error, the target of every applied augment holds, in
the final forest, the stamped copy of each node the augment defines. -/
theorem augment_copies_present (R : Res) (fuel : Nat) (mods : Array Nat) (s : PState) (hn : NodupPending s)
    (hcov : Cover s mods) (hfuel : mu s < fuel)
    (hfree : ∀ er, FVisErr (loopState R fuel mods s).forest er → er.cls ≠ "duplicate-node")
    (ev : Ev) (hev : ev ∈ loopTrace R fuel mods s) (t : NLoc) (ht : (absEv R s.forest ev).target = some t)
    (c : Entry) (hc : c ∈ ev.aug.dir) :
    viewOf (loopState R fuel mods s).forest (Aug.rootLoc t c.name) (nodeData (stamp (absEv R s.forest ev).ns c).d) := by
  obtain ⟨_, _, hview, _⟩ := loop_isResult_free R fuel mods s hn hcov hfuel (loop_free R fuel mods s hn hcov hfuel hfree)
  rw [hview]
  refine (mem_after _ _ _ _).mpr (Or.inr ⟨absEv R s.forest ev, List.mem_map.mpr ⟨ev, hev, rfl⟩, ?_⟩)
  exact (graft_stamps (absEv R s.forest ev) t ht c hc).1

/-- The model's reading of (e): an augment has left the pending list of the model's loop exactly
when its target exists in the loop's final forest as a node that can have children. -/
theorem augment_exactly_once_model (reg : Registry) (fuel : Nat) (mods : Array Nat) (s : PState)
    (hp : PlainPending reg s) (hn : NodupPending s) (hcov : Cover s mods) (hfuel : mu s < fuel) :
    ∀ id, ∀ a ∈ s.pendingOf id,
      (a ∉ (augmentLoop reg fuel mods s).2.pendingOf id ↔
        (absAug (Res.ofReg reg) s.forest id a).Applicable (viewOf (augmentLoop reg fuel mods s).2.forest)) := by
  rw [model_loop_eq reg fuel mods s hp]
  intro id a ha
  obtain ⟨_, h⟩ := augment_exactly_once (Res.ofReg reg) fuel mods s hn hcov hfuel
  obtain ⟨h1, h2⟩ := h id a ha
  exact h2.symm.trans h1

/-! ### (f) … or reported -/

/-- A visible error is swept: `GetErrors` (the model's `allErrors` of every tree) contains it. -/
theorem visible_error_swept (f : Forest) (er : Err) (h : FVisErr f er) : er ∈ allErrs f :=
  fVisErr_allErrs h

/-- On the parametrised model of the whole augment part of `Process`: every augment pending at
the start is applied by the loop, or applied by the stage after FixChoice — a retry round or the
reporting sweep, second trace of `phaseR` — (which happens only for targets that FixChoice creates:
implicit cases, and what augments applied there create in turn — outside the claim), or its `augment-not-found` error is
among the errors swept at the end; and an application of the loop that collides leaves a
`duplicate-node` error among them. -/
theorem augment_reported_phase (R : Res) (order : List Nat) (fuel : Nat) (s : PState) (hn : NodupPending s)
    (hcov : Cover s order.toArray) (hfuel : mu s < fuel)
    (hpres : ∀ id, s.pendingOf id ≠ [] → (s.forest.tree? id).isSome = true) :
    (∀ id, ∀ a ∈ s.pendingOf id,
      (id, a) ∈ (phaseR R order fuel s).2.1.map Ev.key ∨ (id, a) ∈ (phaseR R order fuel s).2.2.map Ev.key ∨
      notFound a ∈ allErrs (phaseR R order fuel s).1.forest) ∧
    (∀ ev ∈ (phaseR R order fuel s).2.1,
      (¬ (absEv R s.forest ev).roots.Nodup ∨ (absEv R s.forest ev).Collides (viewOf ev.before)) →
      ∃ er ∈ allErrs (phaseR R order fuel s).1.forest, er.cls = "duplicate-node") :=
  phase_reported R order fuel s hn hcov hfuel hpres

/-- For `processAll` itself.  `phaseStart reg opts plug` is the state and module order with which
`processAll` enters the augment phase (`none`: it stops before, with errors from linking,
identities, typedefs or conversion).  From that state — provided what reaches the phase is well
formed (`PhaseInput`: plain augment paths, no augment entry twice, the tree of every module with
augments present, one row per tree; that the loop's module order mentions every tree with augments
is proved: `phaseStart_cover`) — every pending augment is applied (by the loop, or by the
stage after FixChoice) or `processAll` returns errors, and a colliding application makes `processAll`
return errors. -/
theorem augment_reported (reg : Registry) (opts : Opts) (plug : Plug) :
    (phaseStart reg opts plug = none → ∃ errs, errs ≠ [] ∧ (processAll reg opts plug).errors = canonErrs errs) ∧
    (∀ s order, phaseStart reg opts plug = some (s, order) → allErrs s.forest = [] ∧
      (PhaseInput reg s →
        let fuel := s.pending.foldl (fun n p => n + p.2.length) 0 + 2
        let ph := phaseR (Res.ofReg reg) order fuel s
        (∀ id, ∀ a ∈ s.pendingOf id,
          (id, a) ∈ ph.2.1.map Ev.key ∨ (id, a) ∈ ph.2.2.map Ev.key ∨ (processAll reg opts plug).errors ≠ []) ∧
        (∀ ev ∈ ph.2.1,
          (¬ (absEv (Res.ofReg reg) s.forest ev).roots.Nodup ∨
            (absEv (Res.ofReg reg) s.forest ev).Collides (viewOf ev.before)) →
          (processAll reg opts plug).errors ≠ []))) := by
  obtain ⟨hps1, hps2⟩ := processAll_phaseStart reg opts plug
  refine ⟨hps1, ?_⟩
  · intro s order hstart
    obtain ⟨h0, derrs, herr⟩ := hps2 s order hstart
    refine ⟨h0, ?_⟩
    intro hin
    simp only
    have hfuel := fuel_sufficient s hin.keys
    obtain ⟨h1, h2⟩ := phase_reported (Res.ofReg reg) order _ s hin.nodup (phaseStart_cover reg opts plug s order hstart) hfuel hin.trees
    rw [augmentPhase_eq reg order _ s hin.plain] at herr
    have hne : ∀ er, er ∈ allErrs (phaseR (Res.ofReg reg) order
        (s.pending.foldl (fun n p => n + p.2.length) 0 + 2) s).1.forest → (processAll reg opts plug).errors ≠ [] := by
      intro er her
      rw [herr]
      apply canonErrs_ne_nil
      intro hnil
      have : er ∈ allErrs (phaseR (Res.ofReg reg) order
        (s.pending.foldl (fun n p => n + p.2.length) 0 + 2) s).1.forest ++ derrs := List.mem_append_left _ her
      rw [hnil] at this
      cases this
    refine ⟨?_, ?_⟩
    · intro id a ha
      rcases h1 id a ha with h | h | h
      · exact Or.inl h
      · exact Or.inr (Or.inl h)
      · exact Or.inr (Or.inr (hne _ h))
    · intro ev hev hbad
      obtain ⟨er, her, _⟩ := h2 ev hev hbad
      exact hne er her

/-- `phaseStart` is where `processAll` enters the augment phase: what `processAll` returns is the
error sweep after `augmentPhase` run from there (plus the errors of the deviations). -/
theorem phaseStart_is_processAll (reg : Registry) (opts : Opts) (plug : Plug) (s : PState) (order : List Nat)
    (h : phaseStart reg opts plug = some (s, order)) :
    ∃ derrs, (processAll reg opts plug).errors =
      canonErrs (allErrs (augmentPhase reg order (s.pending.foldl (fun n p => n + p.2.length) 0 + 2) s).forest ++ derrs) :=
  ((processAll_phaseStart reg opts plug).2 s order h).2

/-! ### non-vacuity: the hypotheses hold, and the conclusions say something, on concrete inputs

The scenarios are in Goyang/Lemmas/AugmentExamples.lean.  Everything below is evaluated by the
kernel (`decide`) on the functions the theorems are about. -/
section Examples
open Goyang.Lemmas.AugmentExamples

/-! #### chain A → B → C across three modules, worst order (hypotheses of (c), (d), (e)) -/

example : NodupPending Chain.s1 ∧ NodupPending Chain.s2 := ⟨nodupPending_of _ (by decide +kernel), nodupPending_of _ (by decide +kernel)⟩
example : Cover Chain.s1 #[0, 1, 2] ∧ Cover Chain.s2 #[1, 2, 0, 1, 2] := ⟨cover_of _ _ (by decide +kernel), cover_of _ _ (by decide +kernel)⟩
example : mu Chain.s1 < 5 ∧ mu Chain.s2 < 5 := by decide +kernel
example : Chain.s2.forest = Chain.s1.forest := rfl
/-- the two states have the same pending sets (module a's augments swapped, table rows permuted) -/
example : ∀ id a, a ∈ Chain.s2.pendingOf id ↔ a ∈ Chain.s1.pendingOf id := by
  intro id a
  have h : ∀ id, Chain.s2.pendingOf id = Chain.s1.pendingOf id ∨
      (Chain.s2.pendingOf id = [Chain.a0, Chain.a3] ∧ Chain.s1.pendingOf id = [Chain.a3, Chain.a0]) := by
    intro id
    match id with
    | 0 => exact Or.inr ⟨rfl, rfl⟩
    | 1 => exact Or.inl rfl
    | 2 => exact Or.inl rfl
    | n + 3 => exact Or.inl rfl
  rcases h id with h | ⟨h2, h1⟩
  · rw [h]
  · rw [h1, h2]; simp [or_comm]
/-- the first order ends without `duplicate-node` error -/
example : ∀ er, FVisErr (loopState Chain.R 5 #[0, 1, 2] Chain.s1).forest er → er.cls ≠ "duplicate-node" :=
  noDupErr_of _ (by decide +kernel)
/-- the worst order needs three passes: the last link (module a, visited first) is applied last -/
example : (loopTrace Chain.R 5 #[0, 1, 2] Chain.s1).map (fun ev => (ev.owner, ev.aug.d.name)) =
    [(0, "/a:top"), (2, "/a:top"), (1, "/a:top/c:b1"), (0, "/a:top/c:b1/b:c1")] := by decide +kernel
/-- another module order (with repetitions) and declaration order: other trace, … -/
example : (loopTrace Chain.R 5 #[1, 2, 0, 1, 2] Chain.s2).map (fun ev => (ev.owner, ev.aug.d.name)) =
    [(2, "/a:top"), (1, "/a:top/c:b1"), (0, "/a:top"), (0, "/a:top/c:b1/b:c1")] := by decide +kernel
/-- … same nodes, each once, each attributed to the module that grafted it (child order differs:
the dump sorts children) -/
example : ((loopState Chain.R 5 #[0, 1, 2] Chain.s1).forest.tree? 0).map (fun t => (paths t).map fun x => (x.1, x.2.ns)) =
    some [([], none), (["top"], none), (["top", "la"], some "urn:a"), (["top", "b1"], some "urn:c"),
      (["top", "b1", "c1"], some "urn:b"), (["top", "b1", "c1", "l3"], some "urn:a")] := by decide +kernel
example : ((loopState Chain.R 5 #[1, 2, 0, 1, 2] Chain.s2).forest.tree? 0).map (fun t => (paths t).map fun x => (x.1, x.2.ns)) =
    some [([], none), (["top"], none), (["top", "b1"], some "urn:c"), (["top", "b1", "c1"], some "urn:b"),
      (["top", "b1", "c1", "l3"], some "urn:a"), (["top", "la"], some "urn:a")] := by decide +kernel
/-- `Namespace()` of the chain's nodes: each link answers the module that grafted it -/
example : ((loopState Chain.R 5 #[0, 1, 2] Chain.s1).forest.tree? 0).map (fun t =>
      [t.stampAt [.child "top"], t.stampAt [.child "top", .child "b1"], t.stampAt [.child "top", .child "b1", .child "c1"],
       t.stampAt [.child "top", .child "b1", .child "c1", .child "l3"]]) =
    some [none, some "urn:c", some "urn:b", some "urn:a"] := by decide +kernel
example : (loopState Chain.R 5 #[0, 1, 2] Chain.s1).pending.all (·.2.isEmpty) = true ∧
    (loopState Chain.R 5 #[1, 2, 0, 1, 2] Chain.s2).pending.all (·.2.isEmpty) = true := by decide +kernel
/-- the fuel `processAll` would give (`total + 2 = 6`) and the minimal one (`mu + 1 = 5`) agree -/
example : (augmentLoopR Chain.R 6 #[0, 1, 2] Chain.s1 []).2.2.length = (augmentLoopR Chain.R 5 #[0, 1, 2] Chain.s1 []).2.2.length := by
  decide +kernel
example : (keys Chain.s1).Nodup := by decide +kernel

/-! #### a target created by `uses`; targets in an rpc's implicit input and written output -/

example : NodupPending UsesRpc.s ∧ Cover UsesRpc.s #[0, 1] ∧ mu UsesRpc.s < 4 :=
  ⟨nodupPending_of _ (by decide +kernel), cover_of _ _ (by decide +kernel), by decide +kernel⟩
example : ∀ er, FVisErr (loopState UsesRpc.R 4 #[0, 1] UsesRpc.s).forest er → er.cls ≠ "duplicate-node" :=
  noDupErr_of _ (by decide +kernel)
example : ((loopState UsesRpc.R 4 #[0, 1] UsesRpc.s).forest.tree? 0).map (fun t => (paths t).map fun x => (x.1, x.2.ns)) =
    some [([], none), (["c"], none), (["c", "g1"], none), (["c", "g1", "x"], none), (["c", "g1", "y"], some "urn:n"),
      (["r"], none), (["r", "input"], none), (["r", "input", "i1"], some "urn:n"), (["r", "output"], none),
      (["r", "output", "o"], none), (["r", "output", "o1"], some "urn:n")] := by decide +kernel
/-- the implicit input is in the view before anything is applied (the specification treats it as
always there), and an rpc node itself is not a target that can have children -/
example : (nodeAt UsesRpc.forest (0, ["r", "input"])).map (·.d.kind) = some Kind.input := by decide +kernel
example : (nodeAt UsesRpc.forest (0, ["r"])).map (fun e => canHaveChildren e.d) = some false := by decide +kernel

/-! #### reported: collision between two modules (either order), leaf target, missing target (f) -/

example : NodupPending Bad.collide ∧ Cover Bad.collide #[1, 2] ∧ Cover Bad.collide #[2, 1] ∧ mu Bad.collide < 3 :=
  ⟨nodupPending_of _ (by decide +kernel), cover_of _ _ (by decide +kernel), cover_of _ _ (by decide +kernel), by decide +kernel⟩
/-- both augments are applied in both orders; the second one collides and is blamed -/
example : (allErrs (loopState Bad.R 3 #[1, 2] Bad.collide).forest).map (fun e => (e.line, e.cls)) = [(20, "duplicate-node")] ∧
    (allErrs (loopState Bad.R 3 #[2, 1] Bad.collide).forest).map (fun e => (e.line, e.cls)) = [(10, "duplicate-node")] := by
  decide +kernel
example : NodupPending Bad.unfound ∧ Cover Bad.unfound [1].toArray ∧ mu Bad.unfound < 4 ∧
    (∀ id, Bad.unfound.pendingOf id ≠ [] → (Bad.unfound.forest.tree? id).isSome = true) := by
  refine ⟨nodupPending_of _ (by decide +kernel), cover_of _ _ (by decide +kernel), by decide +kernel, ?_⟩
  intro id hne
  rcases pendingOf_cases Bad.unfound id with h | ⟨p, hp, hid, _⟩
  · exact absurd h hne
  · have : p.1 = 1 := by
      have : ∀ p ∈ Bad.unfound.pending, p.1 = 1 := by decide +kernel
      exact this p hp
    rw [← hid, this]; decide +kernel
/-- neither the leaf target nor the missing target is applied; both are reported -/
example : (phaseR Bad.R [1] 4 Bad.unfound).2.1 = [] ∧ (phaseR Bad.R [1] 4 Bad.unfound).2.2 = [] := by
  constructor <;> (apply List.eq_nil_of_length_eq_zero; decide +kernel)
example : (allErrs (phaseR Bad.R [1] 4 Bad.unfound).1.forest).map (fun e => (e.line, e.cls)) =
    [(30, "augment-not-found"), (40, "augment-not-found")] := by decide +kernel

/-! #### the error list (d′): a body with a recorded error, a chain, an unknown prefix, two orders -/

example : NodupPending Errs.s1 ∧ NodupPending Errs.s2 := ⟨nodupPending_of _ (by decide +kernel), nodupPending_of _ (by decide +kernel)⟩
example : Cover Errs.s1 #[2, 1] ∧ Cover Errs.s2 #[1, 2, 1] := ⟨cover_of _ _ (by decide +kernel), cover_of _ _ (by decide +kernel)⟩
example : mu Errs.s1 < 4 ∧ mu Errs.s2 < 4 := by decide +kernel
example : Errs.s2.forest = Errs.s1.forest := rfl
example : ∀ id a, a ∈ Errs.s2.pendingOf id ↔ a ∈ Errs.s1.pendingOf id := by
  intro id a
  have h : ∀ id, Errs.s2.pendingOf id = Errs.s1.pendingOf id ∨
      (Errs.s2.pendingOf id = [Errs.e3, Errs.e2] ∧ Errs.s1.pendingOf id = [Errs.e2, Errs.e3]) := by
    intro id
    match id with
    | 0 => exact Or.inl rfl
    | 1 => exact Or.inl rfl
    | 2 => exact Or.inr ⟨rfl, rfl⟩
    | n + 3 => exact Or.inl rfl
  rcases h id with h | ⟨h2, h1⟩
  · rw [h]
  · rw [h1, h2]; simp [or_comm]
/-- one tree per id, unique keys in every tree and in every applied augment body -/
example : (Errs.s1.forest.trees.map (·.1)).Nodup ∧ (∀ t ∈ Errs.s1.forest.trees, KeysUnique t.2) := by decide +kernel
example : ∀ ev ∈ loopTrace Errs.R 4 #[2, 1] Errs.s1, ∀ c ∈ ev.aug.dir, KeysUnique c := by decide +kernel
example : ∀ id, ∀ a ∈ Errs.s1.pendingOf id, a.allErrors = [] → ∀ c ∈ a.dir, KeysUnique c := by
  intro id a ha
  have : ∀ p ∈ Errs.s1.pending, ∀ a ∈ p.2, a.allErrors = [] → ∀ c ∈ a.dir, KeysUnique c := by decide +kernel
  rcases pendingOf_cases Errs.s1 id with h | ⟨p, hp, _, h⟩
  · rw [h] at ha; cases ha
  · rw [h] at ha; exact this p hp a ha
/-- the first order leaves no `duplicate-node` error (hypothesis of `augment_loop_confluent_errors_observed`) -/
example : ∀ er ∈ allErrs (loopState Errs.R 4 #[2, 1] Errs.s1).forest, er.cls ≠ "duplicate-node" := by decide +kernel
/-- both orders apply the chain (the second link of module o after the first of module n) … -/
example : (loopTrace Errs.R 4 #[2, 1] Errs.s1).map (fun ev => (ev.owner, ev.aug.d.name)) = [(1, "/m:c"), (2, "/m:c/n:d")] ∧
    (loopTrace Errs.R 4 #[1, 2, 1] Errs.s2).map (fun ev => (ev.owner, ev.aug.d.name)) = [(1, "/m:c"), (2, "/m:c/n:d")] := by
  decide +kernel
/-- … and sweep the same errors: the error recorded inside the applied body (on the target and in the
grafted copy) and the `other` error of the unknown prefix, once per attempt — as lists they differ
(the first order attempts `/zz:q` three times, the second twice), as sets and as canonical lists
they are equal, which is what `augment_loop_confluent_errors` says. -/
example : (allErrs (loopState Errs.R 4 #[2, 1] Errs.s1).forest).map (fun e => (e.line, e.cls)) =
      [(11, "unknown-type"), (11, "unknown-type"), (0, "other"), (0, "other"), (0, "other")] ∧
    (allErrs (loopState Errs.R 4 #[1, 2, 1] Errs.s2).forest).map (fun e => (e.line, e.cls)) =
      [(11, "unknown-type"), (11, "unknown-type"), (0, "other"), (0, "other")] := by decide +kernel
/-- the collision scenario (`Bad.collide`) satisfies the hypotheses of `fresh_duplicate_error_in_every_order`:
the error of the first order is new and is not recorded inside a pending entry -/
example : (Bad.collide.forest.trees.map (·.1)).Nodup ∧ (∀ t ∈ Bad.collide.forest.trees, KeysUnique t.2) ∧
    (∀ ev ∈ loopTrace Bad.R 3 #[1, 2] Bad.collide, ∀ c ∈ ev.aug.dir, KeysUnique c) ∧
    allErrs Bad.collide.forest = [] ∧ (∀ p ∈ Bad.collide.pending, ∀ a ∈ p.2, a.allErrors = []) := by decide +kernel

end Examples

end Goyang.Props.C07
