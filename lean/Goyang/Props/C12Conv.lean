import Goyang.Props.C12
import Goyang.Lemmas.ConfigNsToEntry
/-
C12, conversion part (kept in a file of its own because its proof follows the text of
`Goyang.Model.toEntry`, see Lemmas/ConfigNsToEntry.lean): `ToEntry` writes no namespace stamp, so
the forest `Process` starts its augment phase from is `Built.init`: every node of a module's tree —
own body, bodies of included submodules, contents of used groupings at any depth, from whichever
module they come — is placed by that module and reports its namespace.
-/
namespace Goyang.Props.C12
open Goyang.Model
open Goyang.Spec.ConfigNs

/-- **ToEntry writes no stamp.**  For every fuel, node, scope and state: if the trees already in
the conversion caches (module entries, grouping entries, pending augments) are stamp-free, then
so are the returned tree and everything in the caches afterwards. -/
theorem toEntry_noStamp (env : Env) (fuel : Nat) (root : Mod) (scope : List Stmt) (n : Stmt)
    (visiting : List NodeId) (st : TState)
    (hst : (∀ x ∈ st.cache, noStamp x.2 = true) ∧ (∀ x ∈ st.gcache, noStamp x.2 = true) ∧
      (∀ x ∈ st.augs, noStampL x.2 = true)) :
    let r := toEntry env fuel root scope n visiting st
    noStamp r.1 = true ∧ (∀ x ∈ r.2.cache, noStamp x.2 = true) ∧ (∀ x ∈ r.2.gcache, noStamp x.2 = true) ∧
      (∀ x ∈ r.2.augs, noStampL x.2 = true) :=
  Lemmas.ConfigNsToEntry.toEntry_noStamp env fuel root scope n visiting st hst

/-- **The forest after the conversion phase of `Process` is `Built`** (constructor `init`), with
the provenance "everything in tree `id` is placed by (sub)module `id`"; and every pending augment
entry satisfies the premise of the `graft` constructor. `ms` is the list of modules and submodules
in conversion order, `{ trees := st.cache }` is the forest `processAll` continues with. -/
theorem conversion_forest_built (env : Env) (fuel : Nat) (ms : List Mod) :
    let st := ms.foldl (fun st m => (toEntry env fuel m [] m.stmt [] st).2) {}
    Built env.reg { trees := st.cache } (fun loc => some loc.1) ∧
    (∀ x ∈ st.augs, ∀ a ∈ x.2, noStampL a.dir = true) := by
  intro st
  have hst := Lemmas.ConfigNsToEntry.conversion_stOK env fuel ms
  refine ⟨Built.init (Lemmas.ConfigNsToEntry.conversion_free env fuel ms), ?_⟩
  · intro x hx a ha
    exact Lemmas.ConfigNs.noStamp_dir a ((Lemmas.ConfigNs.noStampL_iff _).mp (hst.2.2 x hx) a ha)

/-- Consequently, before any augment is applied, every node of every tree reports the namespace
of its tree's module (the owner, for a submodule's tree): grouping content takes the namespace of
the module that uses it, not of the module that defines it — now as a statement about the model's
`toEntry`, for all module sets. -/
theorem converted_tree_namespace (env : Env) (fuel : Nat) (ms : List Mod) (id : Nat) (p : Path) (root : Entry) :
    let st := ms.foldl (fun st m => (toEntry env fuel m [] m.stmt [] st).2) {}
    Forest.tree? { trees := st.cache } id = some root →
    namespaceAt env.reg { trees := st.cache } (id, p) = ownerNs env.reg id := by
  intro st h
  exact namespace_placedBy (conversion_forest_built env fuel ms).1 (id, p) id root h rfl

end Goyang.Props.C12
