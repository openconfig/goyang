import Goyang.Model.Process
import Goyang.Spec.ConfigNs
import Goyang.Lemmas.ConfigNs
/-
C12 — config inheritance and namespace attribution follow the instantiated tree.
Property theorems only; helper lemmas live in Goyang/Lemmas/ConfigNs.lean, the declarative
readings in Goyang/Spec/ConfigNs.lean.

Reading aid.
* `configsAlong root p` lists (config, kind) of the nodes from the root to the node at `p`
  (`configsAlong_nodes`); `Spec.readOnly` is the property's sentence over that list: the *nearest*
  explicit config says false, or an output lies on the path.  `Spec.ReadOnly` is the same sentence
  with the path decomposition written out (`readOnly_rule_iff`).
* A node with a namespace stamp (`EData.ns`, Go's unexported `Entry.namespace`) is the root of a
  graft.  `namespaceOf` = the deepest graft root on the path decides, else the tree's module (its
  owner for a submodule).
* `Built reg f prov` is provenance: which (sub)module's text placed each node, defined over how a
  forest is built (conversion / graft by augment / FixChoice).  `ownerNs reg m` is the namespace
  that module's nodes must report.

What is proved about the model for *all* trees, paths, registries: the theorems below.  The end-to-end
composition — the forest `processAll` returns on an error-free run without deviations is `Built`
(`processAll_built_statement`, kept as a `def` at the end of this file because its proof needs the
bridge lemmas) — is PROVED in Props/C12Bridge.lean: `C12Bridge.processAll_built :
C12.processAll_built_statement`, with `processAll_namespace_placedBy` as the corollary stated directly on
`processAll`.  The three constructors of `Built` are exactly the stamp-relevant steps of `processAll` —
`augmentStep_is_graft` shows a successful augment step is the `graft` constructor's forest with the
augmenting tree's owner namespace, `uses_no_stamp` and `conversion_ops_no_stamp` show that every
tree-building operation `toEntry` applies (add a child, merge without a namespace for uses and include,
record errors, set a data field) keeps trees stamp-free — Props/C12Conv.lean carries this through
`toEntry`'s fuel recursion (`toEntry_noStamp`, `conversion_forest_built`: the forest `Process` starts its
augment phase from is `Built.init`).  The other steps the augment loop takes are accounted for in the
bridge: an error recorded on a root never disappears, so it is absent on an error-free run; a tree stored
back unchanged changes nothing; an rpc input / output created by `Find` is moved back through every
earlier graft and `FixChoice` to the conversion (Lemmas/ConfigNsComm.lean, Lemmas/ConfigNsBuilt.lean).
With deviations: Props/C12Bridge.lean `processAll_built_with_deviations` /
`processAll_namespace_readOnly_literal` — the forest of every error-free run is `BuiltD`: `Built` plus the
three steps of the deviation stage, each with its provenance clause (an rpc input / output created by the
path lookup of a deviation is placed by the placer of the rpc; a deviated node keeps its placer; a removed
one has none), no `congr` and no error-recording step; (`processAll_provenance` /
`processAll_namespace_readOnly` state the same for the wider class `BuiltX`).  Kernel-evaluated
module sets with augment and deviations: C12Bridge `ExDev`, `ExCorner`.
-/
namespace Goyang.Props.C12
open Goyang.Model
open Goyang.Spec.ConfigNs
open Goyang.Lemmas.ConfigNs (nsOfMod wraps)

/-! ### read-only -/

/-- **Config inheritance.**  For every tree and every path: under the property's exclusion (no
`config true` below an rpc/action output — the property excludes all config statements inside
rpc, action and notification) `ReadOnly()` is the property's rule: the nearest explicit config on
the path says false, or the path passes an output; with nothing on the path, read-write. -/
theorem readOnly_spec (root : Entry) (p : Path) (h : NoConfigTrueBelowOutput (configsAlong root p)) :
    root.readOnlyAt p = readOnly (configsAlong root p) := by
  rw [Lemmas.ConfigNs.readOnlyAt_exact, Lemmas.ConfigNs.readOnly_eq_exact _ h]

/-- Without any hypothesis: what `ReadOnly()` computes on every input — the nearest node that is
an output or has a config statement decides (an output counts as `config false` at that node). -/
theorem readOnly_exact (root : Entry) (p : Path) :
    root.readOnlyAt p = readOnlyExact (configsAlong root p) :=
  Lemmas.ConfigNs.readOnlyAt_exact root p

/-- The executable rule is the sentence of the property. -/
theorem readOnly_rule_iff (cs : List CK) : readOnly cs = true ↔ ReadOnly cs :=
  Lemmas.ConfigNs.readOnly_iff cs

/-- No config statement and no output on the path: read-write. -/
theorem readOnly_none (cs : List CK) (h : ∀ c ∈ cs, c.1 = .unset ∧ c.2 ≠ .output) : readOnly cs = false :=
  Lemmas.ConfigNs.readOnly_none cs h

/-- `configsAlong` is the list of nodes on the path: entry `i` is the node reached by the first
`i` steps, and there is one entry per node. -/
theorem configsAlong_nodes (root : Entry) (p : Path) (h : (root.getAt p).isSome) :
    (configsAlong root p).length = p.length + 1 ∧
    ∀ i, i ≤ p.length → (configsAlong root p)[i]? = (root.getAt (p.take i)).map ck :=
  ⟨Lemmas.ConfigNs.configsAlong_length root p h, fun i hi => Lemmas.ConfigNs.configsAlong_getElem? root p h i hi⟩

private def nd (name : String) (kind : Kind := .directory) (config : Tri := .unset) (ns : Option String := none)
    (kids : List Entry := []) (inp : List Entry := []) (out : List Entry := []) : Entry :=
  .mk { name := name, kind := kind, config := config, ns := ns } kids inp out

/-- explicit `config false` three levels above the leaf, nothing in between -/
private def tCfg : Entry :=
  nd "m" (kids := [nd "c1" (config := .false_) (kids := [nd "c2" (kids := [nd "c3" (kids := [nd "x" .leaf])])]),
                   nd "d1" (config := .false_) (kids := [nd "d2" (config := .true_) (kids := [nd "y" .leaf])])])
private def pX : Path := [.child "c1", .child "c2", .child "c3", .child "x"]
private def pY : Path := [.child "d1", .child "d2", .child "y"]

example : (tCfg.getAt pX).isSome = true ∧ tCfg.readOnlyAt pX = true ∧ readOnly (configsAlong tCfg pX) = true := by decide
example : NoConfigTrueBelowOutput (configsAlong tCfg pX) := by
  have hno : ∀ c ∈ configsAlong tCfg pX, c.2 ≠ .output := by decide
  intro pre c post h ho
  exact absurd ho (hno c (by rw [h]; simp))
-- the nearest statement wins: `config true` below `config false`
example : tCfg.readOnlyAt pY = false ∧ readOnly (configsAlong tCfg pY) = false := by decide

/-- an rpc with an output: everything in it is read-only although nothing says `config false` -/
private def tRpc : Entry :=
  nd "m" (kids := [.mk { name := "r", isRpc := true } []
    [nd "input" .input (kids := [nd "i" .leaf])]
    [nd "output" .output (kids := [nd "c" (kids := [nd "o" .leaf])])]])
private def pO : Path := [.child "r", .output, .child "c", .child "o"]
private def pI : Path := [.child "r", .input, .child "i"]

example : (tRpc.getAt pO).isSome = true ∧ tRpc.readOnlyAt pO = true ∧ readOnly (configsAlong tRpc pO) = true ∧
    tRpc.readOnlyAt pI = false ∧ readOnly (configsAlong tRpc pI) = false := by decide

/-- Outside the property's quantifier (RFC 7950 ignores config inside an rpc): a `config true`
written below an output makes the code answer read-write, where the property's sentence taken
literally says read-only.  So the exclusion in `readOnly_spec` is needed. -/
private def tBad : Entry :=
  nd "m" (kids := [.mk { name := "r", isRpc := true } [] []
    [nd "output" .output (kids := [nd "c" (config := .true_) (kids := [nd "o" .leaf])])]])

theorem readOnly_spec_without_exclusion_fails :
    ¬ ∀ (root : Entry) (p : Path), root.readOnlyAt p = readOnly (configsAlong root p) := by
  intro h
  have := h tBad pO
  revert this; decide

/-! ### namespace: grafts -/

/-- **Namespace, tree reading.**  `Namespace()` is the stamp of the deepest graft root on the
path (the root of the tree excluded), else the namespace of the tree's module — of the module it
belongs to, for a submodule. -/
theorem namespace_spec (reg : Registry) (f : Forest) (loc : Loc) :
    namespaceAt reg f loc = namespaceOf reg f loc :=
  Lemmas.ConfigNs.namespaceAt_eq_spec reg f loc

/-- What an augment stamps: the namespace its own tree's root reports is its module's, the
owner's for a submodule. -/
theorem augment_stamps_owner (reg : Registry) (f : Forest) (id : Nat) (root : Entry) (h : f.tree? id = some root) :
    namespaceAt reg f (id, []) = ownerNs reg id :=
  Lemmas.ConfigNs.namespaceAt_root reg f id root h

/-- **stamp_merge.**  The children of the receiver after `merge`: its own first; then those of the
merged entry whose names are free, stamped with the namespace when one is given (augment) and
untouched when none is (uses, include). -/
theorem stamp_merge (e : Entry) (ns : Option String) (oe : Entry) (k : String) :
    (e.merge ns oe).child? k =
      match e.child? k with
      | some c => some c
      | none => (oe.child? k).map (stamp ns) :=
  Lemmas.ConfigNs.merge_child? e ns oe k

/-- **stamp_augment.**  After grafting `a` under the node at `path` with namespace `n`: every
grafted child root carries the stamp `n`, every node at or below it reports `n` (the augment's
own content being stamp-free), and (frame) every path that does not enter a grafted child sees
exactly the stamps it saw before. -/
theorem stamp_augment (root : Entry) (path : Path) (te a : Entry) (n : String) (h : root.getAt path = some te) :
    let root' := root.updateAt path fun te => te.merge (some n) a
    (∀ k v, te.child? k = none → a.child? k = some v →
        root'.getAt (path ++ [.child k]) = some (stamp (some n) v) ∧
        (noStampBelow v = true → ∀ r, root'.stampAt (path ++ .child k :: r) = some n)) ∧
    (∀ q, (¬ ∃ k r, q = path ++ Step.child k :: r ∧ te.child? k = none ∧ (a.child? k).isSome) →
        root'.stampAt q = root.stampAt q) := by
  intro root'
  refine ⟨fun k v hk hv => ⟨Lemmas.ConfigNs.graft_root root path te a n k v h hk hv,
    fun hns r => Lemmas.ConfigNs.graft_new root path te a n k v r h hk hv hns⟩,
    fun q hq => Lemmas.ConfigNs.graft_frame root path te a (some n) q h hq⟩

/-- **uses_no_stamp.**  `merge` without a namespace — what `uses` and `include` do — writes no
stamp: merged children are copied as they are, a stamp-free receiver and stamp-free content give
a stamp-free result, and so every node of the result, grouping content at any depth included,
reports the namespace of the tree it has been copied into: the user's, not the definer's. -/
theorem uses_no_stamp (reg : Registry) (f : Forest) (id : Nat) (e oe : Entry)
    (he : noStampBelow e = true) (ho : noStampL oe.dir = true) (hf : f.tree? id = some (e.merge none oe)) :
    (∀ k, (e.merge none oe).child? k = match e.child? k with | some c => some c | none => oe.child? k) ∧
    noStampBelow (e.merge none oe) = true ∧
    ∀ p, namespaceAt reg f (id, p) = ownerNs reg id := by
  have hns := Lemmas.ConfigNs.noStampBelow_merge_none e oe he ho
  refine ⟨fun k => ?_, hns, fun p => ?_⟩
  · rw [Lemmas.ConfigNs.merge_child?]; cases e.child? k <;> cases oe.child? k <;> rfl
  · rw [Lemmas.ConfigNs.namespaceAt_tree reg f (id, p) _ hf]
    unfold Lemmas.ConfigNs.nsOfTree Entry.stampAt
    rw [Lemmas.ConfigNs.stampGo_noStampBelow _ _ _ hns]

/-- The operations `toEntry` builds trees with keep them stamp-free: adding a child, merging a
used grouping or an included submodule (no namespace), recording or importing errors, and any
update of the node's data that leaves the stamp field alone. -/
theorem conversion_ops_no_stamp (e v : Entry) (he : noStamp e = true) (hv : noStamp v = true) :
    (∀ key, noStamp (e.add key v) = true) ∧
    noStamp (e.merge none v) = true ∧
    noStamp (e.importErrors v) = true ∧
    (∀ x, noStamp (e.addErr x) = true) ∧ (∀ xs, noStamp (e.addErrs xs) = true) ∧
    (∀ f : EData → EData, (∀ d, (f d).ns = d.ns) → noStamp (e.withD f) = true) := by
  refine ⟨fun key => Lemmas.ConfigNs.noStamp_add e key v he hv, Lemmas.ConfigNs.noStamp_merge_none e v he hv,
    ?_, fun x => ?_, fun xs => ?_, fun f hf => ?_⟩
  · rw [Lemmas.ConfigNs.noStamp_importErrors]; exact he
  · rw [Lemmas.ConfigNs.noStamp_addErr]; exact he
  · rw [Lemmas.ConfigNs.noStamp_addErrs]; exact he
  · rw [Lemmas.ConfigNs.noStamp_withD e f hf]; exact he

/-- Frame for uses / include in an already stamped tree: whatever stamps exist stay where they
are; the walk through a merged child continues with the child's own stamps only. -/
theorem merge_none_frame (e oe : Entry) (k : String) (c : Entry) (h : e.child? k = some c) :
    (e.merge none oe).child? k = some c := by
  rw [Lemmas.ConfigNs.merge_child?, h]

/-! ### namespace: provenance -/

/-- **Namespace attribution.**  In any forest built by conversion, grafts (augments) and
`FixChoice`, a node placed by the text of (sub)module `m` reports the namespace of the module `m`
belongs to: grouping content the user's, augment content the augmenting module's, submodule
content the owner's. -/
theorem namespace_placedBy {reg : Registry} {f : Forest} {prov : Loc → Option Nat} (hb : Built reg f prov)
    (loc : Loc) (m : Nat) (root : Entry) (hroot : f.tree? loc.1 = some root) (hp : prov loc = some m) :
    namespaceAt reg f loc = ownerNs reg m :=
  Lemmas.ConfigNs.built_namespace hb loc m root hroot hp

/-- **instantiatingModule_spec.**  `InstantiatingModule()` is the name of the loaded module that
declares the node's namespace, provided loaded modules with that namespace all have that name
(in particular when namespaces of differently named modules are pairwise distinct; several
loaded revisions of one module are fine — D40, repaired). -/
theorem instantiatingModule_spec (reg : Registry) (f : Forest) (loc : Loc) (m : Mod)
    (hm : m ∈ reg.distinctModules) (hns : nsOfMod m = namespaceAt reg f loc)
    (hdistinct : ∀ m' ∈ reg.distinctModules, nsOfMod m' = nsOfMod m → m'.name = m.name) :
    instantiatingModuleAt reg f loc = some m.name :=
  (Lemmas.ConfigNs.instantiatingModuleAt_eq_some_iff reg f loc m.name).mpr
    ⟨⟨m, hm, hns, rfl⟩, fun m' hm' hns' => hdistinct m' hm' (hns'.trans hns.symm)⟩

/-- The exact behaviour: it answers `n` iff some loaded module with the namespace is called `n`
and all of them are; it fails iff none declares the namespace or two differently named ones do. -/
theorem instantiatingModule_exact (reg : Registry) (f : Forest) (loc : Loc) :
    (∀ n, instantiatingModuleAt reg f loc = some n ↔
      (∃ m ∈ reg.distinctModules, nsOfMod m = namespaceAt reg f loc ∧ m.name = n) ∧
      (∀ m ∈ reg.distinctModules, nsOfMod m = namespaceAt reg f loc → m.name = n)) ∧
    (instantiatingModuleAt reg f loc = none ↔
      (¬ ∃ m ∈ reg.distinctModules, nsOfMod m = namespaceAt reg f loc) ∨
      (∃ m ∈ reg.distinctModules, ∃ m' ∈ reg.distinctModules,
        nsOfMod m = namespaceAt reg f loc ∧ nsOfMod m' = namespaceAt reg f loc ∧ m.name ≠ m'.name)) :=
  ⟨fun n => Lemmas.ConfigNs.instantiatingModuleAt_eq_some_iff reg f loc n,
   Lemmas.ConfigNs.instantiatingModuleAt_eq_none_iff reg f loc⟩

/-- **The augment step of `Process` is the `graft` constructor.**  A successful augment of tree
`id` merges the augment's entry under the target with the namespace of the module tree `id`
belongs to, so a `Built` forest stays `Built` and exactly the nodes at and below the added children
are placed by module `id` (stated for one pending augment, and for a `Find` that did not have to
create an absent rpc input/output on the way).  (`Find` splits its path with `String.splitOn`, which
the kernel cannot evaluate, so `hfind` is not instantiated by an `example` here; every augment the
correspondence run applies is an instance.  The other hypotheses are those of `Built.graft`, shown
satisfiable below.) -/
theorem augmentStep_is_graft (reg : Registry) (id : Nat) (addErrors : Bool) (s : PState) (a : Entry)
    (t : Nat) (path : Path) (root te r0 : Entry) (prov : Loc → Option Nat)
    (hb : Built reg s.forest prov)
    (hid : s.forest.tree? id = some r0)
    (hp : s.pendingOf id = [a]) (ha : noStampL a.dir = true)
    (hfind : find reg s.forest (id, []) a.d.nodeMod a.d.name = (some (t, path), s.forest))
    (hroot : s.forest.tree? t = some root) (hte : root.getAt path = some te) (hok : cannotHaveChildren te = false) :
    (augmentTree reg id addErrors s).1.forest =
      s.forest.setTree t (root.updateAt path fun te => te.merge (some (ownerNs reg id)) a) ∧
    ∃ prov', Built reg (augmentTree reg id addErrors s).1.forest prov' ∧
      (∀ loc, NewBelow t path te a loc → prov' loc = some id) ∧
      (∀ loc, ¬ NewBelow t path te a loc → prov' loc = prov loc) := by
  refine ⟨?_, Lemmas.ConfigNs.augmentStep_built reg id addErrors s a t path root te r0 prov hb hid hp ha hfind hroot hte hok⟩
  rw [Lemmas.ConfigNs.augmentStep_eq reg id addErrors s a t path s.forest root te hp hfind hroot hte hok,
    Lemmas.ConfigNs.namespaceAt_root reg s.forest id r0 hid]

/-! ### FixChoice -/

/-- **fixChoice_preserves.**  Inserting the implied cases changes nothing for the nodes that were
there: each is found again at its translated path (`liftPath`: one more step in front of every
shorthand member of an error-free choice) with the same data, the same read-only answer and the
same namespace. -/
theorem fixChoice_preserves (reg : Registry) (f : Forest) (id : Nat) (root : Entry) (p : Path)
    (h : f.tree? id = some root) :
    (fixChoice root).getAt (liftPath root p) = (root.getAt p).map fixChoice ∧
    (∀ e, (fixChoice e).d = e.d) ∧
    (fixChoice root).readOnlyAt (liftPath root p) = root.readOnlyAt p ∧
    (fixChoice root).stampAt (liftPath root p) = root.stampAt p ∧
    namespaceAt reg (fixAll f) (id, liftPath root p) = namespaceAt reg f (id, p) := by
  refine ⟨Lemmas.ConfigNs.getAt_fix root p, Lemmas.ConfigNs.fixChoice_d, Lemmas.ConfigNs.readOnlyAt_fix root p,
    Lemmas.ConfigNs.stampAt_fix root p, ?_⟩
  rw [Lemmas.ConfigNs.namespaceAt_tree reg f (id, p) root h,
    Lemmas.ConfigNs.namespaceAt_tree reg (fixAll f) (id, liftPath root p) (fixChoice root)
      (by rw [Lemmas.ConfigNs.tree?_fixAll]; simp [h])]
  unfold Lemmas.ConfigNs.nsOfTree
  rw [Lemmas.ConfigNs.stampAt_fix]

/-- What the library-inserted case itself reports (DESIGN D39; the property does not speak about
these nodes and the correspondence excludes them from `ns`/`im`): it is a case node; its
namespace is the one seen at the *choice* — for a shorthand member grafted by an augment that is
the augmented module's namespace, while the member directly below reports its own stamp, the
augmenting module's; its read-only answer is the member's. -/
theorem impliedCase_reports (root : Entry) (p : Path) (e x : Entry) (k : String)
    (he : root.getAt p = some e) (hw : wraps e = true) (hx : e.child? k = some x) (hk : x.d.kind ≠ .case_) :
    let pc := liftPath root p ++ [Step.child k]
    ((fixChoice root).getAt pc).map (·.d.kind) = some .case_ ∧
    (fixChoice root).stampAt pc = root.stampAt p ∧
    (fixChoice root).stampAt (pc ++ [Step.child k]) = x.d.ns.or (root.stampAt p) ∧
    (x.d.kind ≠ .output → (fixChoice root).readOnlyAt pc = root.readOnlyAt (p ++ [Step.child k])) :=
  Lemmas.ConfigNs.impliedCase_reports root p e x k he hw hx hk

/-! ### non-vacuity: a grouping used from another module, an augment from a submodule, D39 -/

private def st (kw arg : String) (subs : List Stmt := []) : Stmt := .mk kw true arg "f" 1 1 subs

/-- module a (urn:a), module b (urn:b), submodule b-s of b -/
private def regX : Registry :=
  { mods := [⟨0, st "module" "a" [st "namespace" "urn:a", st "prefix" "pa"]⟩,
             ⟨1, st "module" "b" [st "namespace" "urn:b", st "prefix" "pb"]⟩,
             ⟨2, st "submodule" "b-s" [st "belongs-to" "b" [st "prefix" "pb"]]⟩],
    modules := [("a", 0), ("b", 1)], subModules := [("b-s", 2)] }

example : ownerNs regX 0 = "urn:a" ∧ ownerNs regX 1 = "urn:b" ∧ ownerNs regX 2 = "urn:b" := by decide +kernel

/-- grouping g of module a (its nodes' AST belongs to module 0), used in module b -/
private def gA : Entry := .mk { name := "g", nodeMod := 0 } [.mk { name := "c", nodeMod := 0 } [.mk { name := "x", kind := .leaf, nodeMod := 0 } [] [] []] [] []] [] []
private def tB : Entry := (nd "b" (kids := [nd "own"])).merge none gA
private def fB : Forest := { trees := [(1, tB)] }

example : (tB.getAt [.child "c", .child "x"]).isSome = true ∧
    namespaceAt regX fB (1, [.child "c", .child "x"]) = "urn:b" ∧
    instantiatingModuleAt regX fB (1, [.child "c", .child "x"]) = some "b" := by decide +kernel
example : noStampBelow (nd "b" (kids := [nd "own"])) = true ∧ noStampL gA.dir = true := by decide

/-- module a's tree with a choice; submodule b-s augments the choice with a container `via` -/
private def tA : Entry := nd "a" (kids := [nd "ch" .choice (kids := [nd "k1" .case_ (kids := [nd "l" .leaf])])])
private def teCh : Entry := nd "ch" .choice (kids := [nd "k1" .case_ (kids := [nd "l" .leaf])])
private def augS : Entry := .mk { name := "/pa:ch", nodeMod := 2 } [nd "via" (kids := [nd "y" .leaf])] [] []
private def fA : Forest := { trees := [(0, tA), (2, nd "b-s")] }
private def tA' : Entry := tA.updateAt [.child "ch"] fun te => te.merge (some (ownerNs regX 2)) augS
private def fA' : Forest := fA.setTree 0 tA'

-- the graft root and what is below report the owner of the augmenting submodule; the rest of a's tree does not
example : namespaceAt regX fA' (0, [.child "ch", .child "via"]) = "urn:b" ∧
    namespaceAt regX fA' (0, [.child "ch", .child "via", .child "y"]) = "urn:b" ∧
    instantiatingModuleAt regX fA' (0, [.child "ch", .child "via", .child "y"]) = some "b" ∧
    namespaceAt regX fA' (0, [.child "ch", .child "k1", .child "l"]) = "urn:a" ∧
    namespaceAt regX fA' (0, [.child "ch"]) = "urn:a" := by decide +kernel

-- the hypotheses of the `graft` constructor are satisfiable, with a provenance that says "b-s"
example : ∃ prov, Built regX fA' prov ∧ prov (0, [.child "ch", .child "via", .child "y"]) = some 2 ∧
    prov (0, [.child "ch", .child "k1"]) = some 0 := by
  classical
  refine ⟨fun loc => if NewBelow 0 [.child "ch"] teCh augS loc
      then some 2 else some loc.1, ?_, ?_, ?_⟩
  · exact Built.graft (f := fA) (prov := fun loc => some loc.1) (by_ := 2) (t := 0) (path := [.child "ch"])
      (root := tA) (te := teCh) (a := augS)
      (Built.init (by
        intro id t h
        have : t = tA ∨ t = nd "b-s" := by
          unfold fA Forest.tree? at h
          simp only [List.find?] at h
          split at h
          · left; simpa using h.symm
          · split at h
            · right; simpa using h.symm
            · cases h
        rcases this with rfl | rfl <;> decide))
      rfl rfl (by decide)
      (fun loc h => by simp only [h, if_true]) (fun loc h => by simp only [h, if_false])
  · have : NewBelow 0 [.child "ch"] teCh augS
        (0, [.child "ch", .child "via", .child "y"]) :=
      ⟨rfl, "via", [.child "y"], rfl, by decide, by decide⟩
    simp [this]
  · have : ¬ NewBelow 0 [.child "ch"] teCh augS
        (0, [.child "ch", .child "k1"]) := by
      rintro ⟨_, k, r, h, _, hk⟩
      simp only [List.cons_append, List.nil_append, List.cons.injEq, Step.child.injEq, true_and] at h
      obtain ⟨rfl, _⟩ := h
      revert hk; decide
    simp [this]

-- D39: after FixChoice the implied case `via` reports the augmented module, its child the augmenting one
example : ((fixChoice tA').getAt [.child "ch", .child "via"]).map (·.d.kind) = some .case_ ∧
    namespaceAt regX (fixAll fA') (0, [.child "ch", .child "via"]) = "urn:a" ∧
    namespaceAt regX (fixAll fA') (0, [.child "ch", .child "via", .child "via"]) = "urn:b" ∧
    namespaceAt regX (fixAll fA') (0, [.child "ch", .child "via", .child "via", .child "y"]) = "urn:b" ∧
    liftPath tA' [.child "ch", .child "via", .child "y"] = [.child "ch", .child "via", .child "via", .child "y"] := by
  decide +kernel

/-! ### `FindModuleByNamespace` asked directly; near-twin namespaces -/

/-- `InstantiatingModule()` is `FindModuleByNamespace` applied to the node's namespace. -/
theorem instantiatingModule_is_findByNamespace (reg : Registry) (f : Forest) (loc : Loc) :
    instantiatingModuleAt reg f loc = findByNamespace reg (namespaceAt reg f loc) :=
  Lemmas.ConfigNs.instantiatingModuleAt_eq_findByNamespace reg f loc

/-- **Namespaces are compared as strings.**  `FindModuleByNamespace(ns)` answers `n` exactly when
some loaded module declares exactly `ns` and is called `n` and all loaded modules declaring
exactly `ns` are called `n`; a spelling that no loaded module declares exactly — another letter
case, a trailing slash or blank, another percent-encoding, a prefix of a declared namespace —
finds nothing, whatever else is loaded and whatever was asked before (the function has no state). -/
theorem findByNamespace_exact (reg : Registry) (ns : String) :
    (∀ n, findByNamespace reg ns = some n ↔
      (∃ m ∈ reg.distinctModules, nsOfMod m = ns ∧ m.name = n) ∧
      (∀ m ∈ reg.distinctModules, nsOfMod m = ns → m.name = n)) ∧
    ((∀ m ∈ reg.distinctModules, nsOfMod m ≠ ns) → findByNamespace reg ns = none) :=
  ⟨fun n => Lemmas.ConfigNs.findByNamespace_eq_some_iff reg ns n,
   Lemmas.ConfigNs.findByNamespace_undeclared reg ns⟩

/-- two modules whose namespaces differ only in letter case, one whose namespace is a prefix -/
private def regTwin : Registry :=
  { mods := [⟨0, st "module" "va" [st "namespace" "urn:nt:Vendor", st "prefix" "va"]⟩,
             ⟨1, st "module" "vb" [st "namespace" "urn:nt:vendor", st "prefix" "vb"]⟩,
             ⟨2, st "module" "vc" [st "namespace" "urn:nt:vendor/", st "prefix" "vc"]⟩],
    modules := [("va", 0), ("vb", 1), ("vc", 2)] }

example : findByNamespace regTwin "urn:nt:Vendor" = some "va" ∧ findByNamespace regTwin "urn:nt:vendor" = some "vb" ∧
    findByNamespace regTwin "urn:nt:vendor/" = some "vc" ∧ findByNamespace regTwin "URN:NT:VENDOR" = none ∧
    findByNamespace regTwin "urn:nt:vendor " = none ∧ findByNamespace regTwin "urn:nt:vendo" = none := by decide +kernel

/-! ### two revisions of one module (D40) -/

private def regRev : Registry :=
  { mods := [⟨0, st "module" "m" [st "namespace" "urn:m", st "prefix" "m", st "revision" "2019-01-01"]⟩,
             ⟨1, st "module" "m" [st "namespace" "urn:m", st "prefix" "m", st "revision" "2020-01-01"]⟩],
    modules := [("m@2019-01-01", 0), ("m", 1), ("m@2020-01-01", 1)] }

example : instantiatingModuleAt regRev { trees := [(0, nd "m" (kids := [nd "c"])), (1, nd "m" (kids := [nd "c"]))] }
    (0, [.child "c"]) = some "m" := by decide +kernel

/-! ### the end-to-end statement (proved in Props/C12Bridge.lean: `processAll_built`) -/

/-- **Proved in Props/C12Bridge.lean** (`C12Bridge.processAll_built : processAll_built_statement`; the
statement is kept here as a `def` because the proof needs the bridge lemmas, which import this file):
the forest of an error-free `processAll` run without deviations is `Built`, with a provenance that
assigns every node of the initial trees to its tree's module and every grafted node to the module of the
augment.  Ingredients: the start (`conversion_forest_built` in Props/C12Conv.lean: the converted forest
is `Built.init` and every pending augment meets the premise of `graft`), each augment step
(`augmentStep_is_graft`), the `FixChoice` step (constructor `fix` with `fixChoice_preserves`), the
theorem that gives the namespaces of any `Built` forest (`namespace_placedBy`), and — in the bridge —
the threading through `augmentLoop` / `augmentPass` / the retry rounds / the reporting sweep with the three steps `Built` has
no constructor for: error recording on a root (absent on an error-free run: such errors stay), storing a
tree back unchanged, and `Find` creating an absent rpc input / output (commuted back to the conversion:
`C12Bridge.builtU_closed_implicit`).  With `Built'` for `Built` the statement holds for every input
(`C12Bridge.preDev_builtPrime`); the claim itself is also checked by the correspondence runner (Go-side
provenance oracle on generated schemas). -/
def processAll_built_statement : Prop :=
  ∀ (reg : Registry) (opts : Opts) (plug : Plug),
    (processAll reg opts plug).errors = [] →
    (∀ m ∈ reg.mods, m.stmt.all "deviation" = []) →
    ∃ prov, Built reg (processAll reg opts plug).forest prov

end Goyang.Props.C12
