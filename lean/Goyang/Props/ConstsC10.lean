/-
Constants tie for C10 (see `Goyang/Gen/Consts.lean`, regenerated from the Go source on every run):
the built-in ranges of the model are what the model's `parseRangesInt` computes from the string
literals the Go source hands to `mustParseRangesInt` today.
-/
import Goyang.Gen.Consts
import Goyang.Props.C10

namespace Goyang.Props.ConstsC10
open Goyang.Gen.Consts Goyang.Model.Range

/-- every built-in integer range variable is initialised by `mustParseRangesInt` on one literal -/
theorem builtin_ranges_initialised_by_parse :
    «yang.Int8Range.init».1 = "mustParseRangesInt" ∧ «yang.Int16Range.init».1 = "mustParseRangesInt" ∧
    «yang.Int32Range.init».1 = "mustParseRangesInt" ∧ «yang.Int64Range.init».1 = "mustParseRangesInt" ∧
    «yang.Uint8Range.init».1 = "mustParseRangesInt" ∧ «yang.Uint16Range.init».1 = "mustParseRangesInt" ∧
    «yang.Uint32Range.init».1 = "mustParseRangesInt" ∧ «yang.Uint64Range.init».1 = "mustParseRangesInt" := by
  refine ⟨?_, ?_, ?_, ?_, ?_, ?_, ?_, ?_⟩ <;> rfl

/-- the model's built-in ranges are the parse of exactly those literals -/
theorem builtin_ranges_tied :
    «yang.Int8Range.initBytes».map parseRangesInt = [.ok int8Range] ∧
    «yang.Int16Range.initBytes».map parseRangesInt = [.ok int16Range] ∧
    «yang.Int32Range.initBytes».map parseRangesInt = [.ok int32Range] ∧
    «yang.Int64Range.initBytes».map parseRangesInt = [.ok int64Range] ∧
    «yang.Uint8Range.initBytes».map parseRangesInt = [.ok uint8Range] ∧
    «yang.Uint16Range.initBytes».map parseRangesInt = [.ok uint16Range] ∧
    «yang.Uint32Range.initBytes».map parseRangesInt = [.ok uint32Range] ∧
    «yang.Uint64Range.initBytes».map parseRangesInt = [.ok uint64Range] := by
  -- the generated literals are the ones `C10.builtin_parse` evaluates
  obtain ⟨h1, h2, h3, h4, h5, h6, h7, h8⟩ := C10.builtin_parse
  have one {s : List UInt8} {r} (h : parseRangesInt s = .ok r) : [s].map parseRangesInt = [.ok r] :=
    congrArg (fun x => [x]) h
  exact ⟨one h1, one h2, one h3, one h4, one h5, one h6, one h7, one h8⟩

end Goyang.Props.ConstsC10
