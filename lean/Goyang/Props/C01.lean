import Goyang.Lemmas.Fuel
import Goyang.Lemmas.FuelCycle
import Goyang.Lemmas.FuelProcess
import Goyang.Props.C02
import Goyang.Props.C09
import Goyang.Props.C11
/-
C01 — no input can crash, overflow or hang the loader and resolver (DESIGN.md 7.1).

The logic part of "bounded time, no unbounded recursion, cycles are errors", about the impl
models of the loader and resolver (Model/Lex, Parse, Ctx, Entry, ToEntry, Find, Process, Dump,
Identity, Types):

* Every model function is a total Lean definition: nothing in `Goyang/Model` is `partial`
  (`Model/Proto.lean`, the stdin loop of the driver executables, is the one exception and is not a
  model function).  The kernel accepted each definition by structural or well-founded recursion,
  so each terminates on every input; the C01 runner greps for `partial def` in `Goyang/Model` on
  every run and reports it as a broken obligation.
* Recursion that the Go code bounds by the shape of its input (nesting depth, a visited set) is
  modelled with a fuel argument.  Totality alone would then be cheap: the theorems below give, for
  every such recursion, a closed-form bound on the fuel under which the out-of-fuel answer is never
  produced — so the recursion depth of the modelled code is bounded by that function of the loaded
  input, which is the precise sense of "no unbounded recursion":
    (a) `includeWalk_fuel`, `linking_never_out_of_fuel`     import / include linking
    (b) `findGrouping_fuel`                                 grouping lookup
    (c) `toEntry_fuel`, `toEntry_fuel_of_entryFuel`         ToEntry
    (e) `dump_fuel`, `augmentPass_fuel`, `augmentLoop_terminates`
        lexer and parser: `lexer_parser_total` (C02), type resolution: `type_resolution_fuel` (C09),
        identity closure: `identity_walk_terminates` (C11)
* (d) Cycles are errors, never divergence: `cycles_are_errors` (a `uses` that leads back into a
  grouping under conversion answers the `cycle` error entry), `typedef_cycle_is_error_below` (C09;
  the older `typedef_cycle_is_error` is vacuous — its hypothesis `Unambiguous` holds of no registry,
  `Goyang.Props.C09.unambiguous_false` — and is kept only for the record),
  `identity_cycle_is_error` (C11); include / import cycles are cut by the visited set of
  `includeWalk` (a).

Partial scope (DESIGN 7.1 "Partial").  Proved here: the models terminate within the fuel bounds
and cycles are errors.  Not provable here: that the Go binary has no other fault site than the
ones the models make explicit, runtime faults inside `reflect`, memory exhaustion on exponentially
expanding legal schemas, stack depth around 10^7.  Those are covered by the fuzzing stream of
harness/cmd/corr-c01 only, and reported separately in the evidence.

`toEntry_fuel` is stated with the bound `entryNeed` that the proof yields (a product: tracked
statements × statement height); `toEntry_fuel_model` shows that the fuel the model passes
(`entryFuel reg`, quadratic in the number of loaded statements) is at least that, and
`toEntry_fuel_of_entryFuel` is the statement for the calls `processAll` makes.
-/
namespace Goyang.Props.C01
open Goyang.Model
open Goyang.Lemmas.Fuel

/-! ## (a) import / include linking -/

/-- `Modules.include` as modelled, with the fuel `linkAll` passes (number of loaded modules + 1),
never answers out-of-fuel, whatever has been visited before: every recursive call first adds a
module that was not yet visited.  Import and include cycles are cut by the visited set. -/
theorem includeWalk_fuel (reg : Registry) (visited : List Nat) (m : Mod) (hm : m ∈ reg.mods) :
    (includeWalk reg (reg.mods.length + 1) visited m).2 ≠ some (Err.bare "out-of-fuel") :=
  Goyang.Lemmas.Fuel.includeWalk_fuel reg _ visited m hm
    (Nat.succ_le_succ (Goyang.Lemmas.Fuel.unvisited_le reg visited))

/-- … and more fuel changes nothing. -/
theorem includeWalk_fuel_stable (reg : Registry) (fuel : Nat) (visited : List Nat) (m : Mod) (hm : m ∈ reg.mods)
    (hf : reg.mods.length + 1 ≤ fuel) :
    includeWalk reg (fuel + 1) visited m = includeWalk reg fuel visited m :=
  Goyang.Lemmas.Fuel.includeWalk_fuel_stable reg fuel visited m hm
    (Nat.le_trans (Nat.succ_le_succ (Goyang.Lemmas.Fuel.unvisited_le reg visited)) hf)

/-- The linking stage of `Process` reports no out-of-fuel error, for every registry. -/
theorem linking_never_out_of_fuel (reg : Registry) : Err.bare "out-of-fuel" ∉ (linkAll reg).2 :=
  Goyang.Lemmas.Fuel.linkAll_never_out_of_fuel reg

/-! ## (b) grouping lookup -/

/-- `FindGrouping` as modelled: above `groupingNeed` (closed form: scope length, name length,
loaded modules not yet seen, widest statement) the fuel does not matter, so the lookup is not
cut short.  Import hops shorten the name, include and owner hops consume an unseen module. -/
theorem findGrouping_fuel (reg : Registry) (linked : List Nat) (fuel fuel' : Nat) (root : Mod) (scope : List Stmt)
    (name : String) (seen : List String) (h : groupingNeed reg scope name seen ≤ fuel) (h' : fuel ≤ fuel') :
    findGrouping reg linked fuel' root scope name seen = findGrouping reg linked fuel root scope name seen :=
  findGrouping_fuel_ge h h'

/-- The bound in terms of the input alone. -/
theorem groupingNeed_closed_form (reg : Registry) (scope : List Stmt) (name : String) (seen : List String) :
    groupingNeed reg scope name seen ≤
      scope.length + (name.length + reg.mods.length + 1) * (groupingWidth reg scope + 4) :=
  groupingNeed_le reg scope name seen

/-- What the lookup returns is a grouping statement of a loaded module (or of the module the
lookup started in), together with the scope it was found in. -/
theorem findGrouping_returns_a_grouping {reg : Registry} {linked : List Nat} {fuel : Nat} {root : Mod}
    {scope : List Stmt} {name : String} {seen : List String} {g : Stmt} {groot : Mod} {gscope : List Stmt}
    (h : (findGrouping reg linked fuel root scope name seen).1 = some (g, groot, gscope)) :
    g.kw = "grouping" ∧ (∃ n up, gscope = n :: up ∧ g ∈ n.subs) ∧
    ((groot = root ∧ ∃ pre, scope = pre ++ gscope) ∨ (groot ∈ reg.mods ∧ gscope = [groot.stmt])) :=
  findGrouping_sound h

/-! ## (c) ToEntry -/

/-- **`ToEntry` never runs out of fuel.**  For a call on a statement `n` of a loaded module `root`
(`scope` statements of it) with `fuel ≥ entryNeed reg = (tracked statements + 1) × (maximal
statement height + 2)`, `toEntry` equals `toEntryZ z` — the same function with the answer of its
out-of-fuel branch replaced by `z` — for every `z`: nothing of what that branch would answer
reaches the result, the recursion ends before.  Along a call path every grouping and module is
entered at most once (`visiting`), and between two of them the statement height decreases. -/
theorem toEntry_fuel (env : Env) (fuel : Nat) (root : Mod) (scope : List Stmt) (n : Stmt) (visiting : List NodeId)
    (st : TState) (hroot : root ∈ env.reg.mods) (hn : Sub n root.stmt) (hscope : ∀ s ∈ scope, Sub s root.stmt)
    (hfuel : entryNeed env.reg ≤ fuel) (z : Mod → Stmt → TState → Entry × TState) :
    toEntry env fuel root scope n visiting st = toEntryZ env z fuel root scope n visiting st :=
  Goyang.Lemmas.Fuel.toEntry_fuel env fuel root scope n visiting st ⟨hroot, hn, hscope⟩ hfuel z

/-- `toEntryZ` really is `toEntry` with another out-of-fuel answer (so the statement above is not
about some other function). -/
theorem toEntryZ_is_toEntry (env : Env) (fuel : Nat) : toEntryZ env oofAnswer fuel = toEntry env fuel :=
  toEntryZ_oof env fuel

theorem toEntryZ_zero (env : Env) (z : Mod → Stmt → TState → Entry × TState) (root : Mod) (scope : List Stmt)
    (n : Stmt) (visiting : List NodeId) (st : TState) : toEntryZ env z 0 root scope n visiting st = z root n st := rfl

theorem toEntryZ_succ (env : Env) (z : Mod → Stmt → TState → Entry × TState) (fuel : Nat) :
    toEntryZ env z (fuel + 1) = toEntryBody env fuel (toEntryZ env z fuel) := rfl

/-- The copy of the body the proof works on is the model's (kernel-checked by `rfl`). -/
theorem toEntry_unfolds (env : Env) (fuel : Nat) : toEntry env (fuel + 1) = toEntryBody env fuel (toEntry env fuel) :=
  toEntry_succ env fuel

/-- The bound is at most quadratic in the number of loaded statements. -/
theorem entryNeed_quadratic (reg : Registry) : entryNeed reg ≤ (totalStmts reg + 1) * (totalStmts reg + 2) :=
  entryNeed_le_quadratic reg

/-- The fuel the model passes, `entryFuel reg = (totalStmts reg + 2)² + 64`, is at least the bound. -/
theorem toEntry_fuel_model (reg : Registry) : entryNeed reg ≤ entryFuel reg :=
  entryNeed_le_entryFuel reg

/-- **The calls `processAll` makes never run out of fuel**: every module and submodule statement
from an empty `visiting`, and every deviate statement, with the fuel the model passes
(`entryFuel reg`), for every registry, every state and every answer `z` of the out-of-fuel
branch.  (`processAll` takes its modules from `reg.distinctModules` / `distinctSubs` / `byId`, all
of which are members of `reg.mods`: `processAll_calls_are_loaded`.) -/
theorem toEntry_fuel_of_entryFuel (env : Env) (z : Mod → Stmt → TState → Entry × TState) :
    (∀ m ∈ env.reg.mods, ∀ st, toEntry env (entryFuel env.reg) m [] m.stmt [] st =
        toEntryZ env z (entryFuel env.reg) m [] m.stmt [] st) ∧
    (∀ m ∈ env.reg.mods, ∀ dv ∈ m.stmt.all "deviation", ∀ ds ∈ dv.all "deviate", ∀ st,
        toEntry env (entryFuel env.reg) m [dv, m.stmt] ds [] st =
        toEntryZ env z (entryFuel env.reg) m [dv, m.stmt] ds [] st) :=
  ⟨fun _ hm st => Goyang.Lemmas.Fuel.toEntry_fuel env _ _ _ _ _ st (Inv.top hm) (toEntry_fuel_model env.reg) z,
   fun _ hm _ hdv _ hds st =>
     Goyang.Lemmas.Fuel.toEntry_fuel env _ _ _ _ _ st (Inv.deviate hm hdv hds) (toEntry_fuel_model env.reg) z⟩

/-- The modules `processAll` converts are loaded modules. -/
theorem processAll_calls_are_loaded (reg : Registry) :
    (∀ m ∈ reg.distinctModules, m ∈ reg.mods) ∧ (∀ m ∈ reg.distinctSubs, m ∈ reg.mods) ∧
    (∀ id m, reg.byId id = some m → m ∈ reg.mods) :=
  ⟨fun _ h => (List.mem_filter.mp h).1, fun _ h => (List.mem_filter.mp h).1,
   fun _ _ h => List.mem_of_find?_eq_some h⟩

/-! ## (d) cycles are errors -/

/-- **A grouping that (transitively) uses itself yields a `cycle` error, never divergence.**
While a grouping `g` is being converted it is in `visiting` (so are all groupings entered on the
way down).  A `uses` statement reached from there that resolves to `g` — directly (`grouping g {
uses g; }`) or through any chain of other groupings — is answered by the error entry `cycle`
positioned at `g`, with the state untouched, for every fuel ≥ 2.  Together with `toEntry_fuel`
(which holds for cyclic registries like for all others) this is "reported, not diverging". -/
theorem cycles_are_errors (env : Env) (k : Nat) (root : Mod) (scope : List Stmt) (u : Stmt)
    (visiting : List NodeId) (st : TState) (g : Stmt) (groot : Mod) (gscope : List Stmt)
    (hu : u.kw = "uses")
    (hfind : (findGrouping env.reg env.linked (2 * (k + 1) + 16) root scope u.arg []).1 = some (g, groot, gscope))
    (hv : visiting.contains (nodeId groot g) = true)
    (hg : st.gcache.find? (·.1 == nodeId groot g) = none) :
    toEntry env (k + 2) root scope u visiting st = (errorEntry groot g "cycle", st) :=
  uses_of_grouping_in_progress env k root scope u visiting st g groot gscope hu hfind hv hg

/-- The same for modules and submodules (include cycles that reach `ToEntry`): re-entering any
tracked statement under conversion answers `cycle`. -/
theorem reentry_is_cycle_error (env : Env) (k : Nat) (root : Mod) (scope : List Stmt) (n : Stmt)
    (visiting : List NodeId) (st : TState) (ht : isTracked n = true) (hv : visiting.contains (nodeId root n) = true)
    (hcache : (if (n.kw == "module" || n.kw == "submodule") then st.cache.find? (·.1 == root.seq) else none) = none)
    (hg : (if n.kw == "grouping" then st.gcache.find? (·.1 == nodeId root n) else none) = none) :
    toEntry env (k + 1) root scope n visiting st = (errorEntry root n "cycle", st) :=
  toEntry_reentry env k root scope n visiting st ht hv hcache hg

/-- Typedef cycles (C09), first form.  SUPERSEDED by `typedef_cycle_is_error_below`: the hypothesis
`Unambiguous env.reg` quantifies over every conceivable site (made-up enclosing statements
included) and holds of no registry (`Goyang.Props.C09.unambiguous_false`), so this statement is
vacuous.  Kept as it was for the record. -/
theorem typedef_cycle_is_error (env : Goyang.Model.Types.Env) (hU : Goyang.Spec.Types.Unambiguous env.reg) (fuel : Nat)
    (root : Mod) (scope : List Stmt) (t : Stmt) (stack : List Goyang.Model.Types.TypeKey)
    (ht : Goyang.Spec.Types.scopeKinds.contains t.kw = false)
    (hc : Goyang.Spec.Types.Cyclic env.reg (root, scope, t)) :
    (Goyang.Model.Types.resolveTypeF env fuel root scope t stack).errs ≠ [] :=
  Goyang.Props.C09.cyclic_is_error env hU fuel root scope t stack ht hc

/-- Typedef cycles (C09): a type statement that is defined in terms of itself, or depends on one
that is, resolves with an error — for every fuel and every stack, so also without divergence —
whenever no name met while resolving it denotes two typedefs (`UnambiguousBelow`: only the sites
reachable from the reference through "names the typedef whose type is" / "has the member type"
steps; satisfiable, see the example). -/
theorem typedef_cycle_is_error_below (env : Goyang.Model.Types.Env) (fuel : Nat)
    (root : Mod) (scope : List Stmt) (t : Stmt)
    (hU : Goyang.Lemmas.TypesDefs.UnambiguousBelow env.reg (root, scope, t))
    (stack : List Goyang.Model.Types.TypeKey)
    (ht : Goyang.Spec.Types.scopeKinds.contains t.kw = false)
    (hc : Goyang.Spec.Types.Cyclic env.reg (root, scope, t)) :
    (Goyang.Model.Types.resolveTypeF env fuel root scope t stack).errs ≠ [] :=
  Goyang.Props.C09.cyclic_is_error_below env fuel root scope t hU stack ht hc

/-- Non-vacuity: `typedef a { type b; } typedef b { type a; } leaf l { type a; }` (the schema
`Goyang.Props.C09.Ex.env4`): the leaf's type is `Cyclic` (`cyclic_q0`), no name met denotes two
typedefs (`unamb_q0`, discharged through the executable binding), and the model answers `cycle`. -/
example (fuel : Nat) (stack : List Goyang.Model.Types.TypeKey) :
    (Goyang.Model.Types.resolveTypeF Goyang.Props.C09.Ex.env4 fuel Goyang.Props.C09.Ex.mD
      [Goyang.Props.C09.Ex.leafQ, Goyang.Props.C09.Ex.d] Goyang.Props.C09.Ex.tyQ stack).errs ≠ [] :=
  typedef_cycle_is_error_below Goyang.Props.C09.Ex.env4 fuel Goyang.Props.C09.Ex.mD
    [Goyang.Props.C09.Ex.leafQ, Goyang.Props.C09.Ex.d] Goyang.Props.C09.Ex.tyQ
    Goyang.Props.C09.Ex.unamb_q0 stack (by decide) Goyang.Props.C09.Ex.cyclic_q0
example : ((Goyang.Model.Types.resolveTypeF Goyang.Props.C09.Ex.env4 10 Goyang.Props.C09.Ex.mD
      [Goyang.Props.C09.Ex.leafQ, Goyang.Props.C09.Ex.d] Goyang.Props.C09.Ex.tyQ []).errs.map (·.cls)) = ["cycle"] := by
  decide +kernel

/-- Type resolution never reports an exhausted budget with the fuel the model supplies (C09). -/
theorem type_resolution_fuel (reg : Registry) (root : Mod) (scope : List Stmt) (t : Stmt)
    (hroot : root ∈ reg.mods) (ht : t ∈ Goyang.Model.Types.descendants root.stmt) (hkw : t.kw = "type")
    (hscope : ∀ s ∈ scope, s ∈ Goyang.Model.Types.descendants root.stmt) :
    ∀ e ∈ (Goyang.Model.Types.resolveType reg root scope t).2, e.cls ≠ "out-of-fuel" :=
  Goyang.Props.C09.fuel_suffices reg root scope t hroot ht hkw hscope

/-- Identity cycles (C11): an undefined base or a cycle of base statements is reported by
`resolveIdentities`, which terminates, for every map order. -/
theorem identity_cycle_is_error (r : Registry) (lk : Goyang.Model.Identity.Link)
    (hl : Goyang.Props.C11.Linked r lk) (hw : Goyang.Props.C11.WellFormed r)
    (G : Goyang.Spec.Identity.Graph) (hG : Goyang.Spec.Identity.graph r = some G)
    (hbad : G.dangling ≠ [] ∨ ¬ Goyang.Spec.Identity.Acyclic G)
    (o : Goyang.Model.Identity.Oracle) (ho : o.Valid) :
    ∃ res, Goyang.Model.Identity.resolveIdentities o r lk (fun _ => []) = some res ∧ res.errs ≠ [] :=
  Goyang.Props.C11.identity_errors r lk hl hw G hG hbad o ho

/-- Go's recursive closure walk (`addChildren`, `includeClosure`) terminates on every graph, cyclic
ones included, within fuel `|U| + 1`, and returns the reachable nodes, each once (C11). -/
theorem identity_walk_terminates {α : Type} [DecidableEq α] (succ : α → List α) (U : List α)
    (hU : ∀ x ∈ U, ∀ y ∈ succ x, y ∈ U) (fuel : Nat) (r : α) (hr : r ∈ U) (hf : U.length < fuel) :
    ∃ out, Goyang.Model.Identity.walk succ fuel r [] = some out ∧ out.Nodup ∧
      ∀ y, y ∈ out ↔ Goyang.Spec.Identity.Reach succ r y :=
  Goyang.Props.C11.walk_terminates_and_is_reachability succ U hU fuel r hr hf

/-! ## (e) dump, augment loop; lexer and parser -/

/-- The canonical dump never prints the out-of-fuel marker with the fuel `dumpOutcome` passes
(`entryDepth root + 1`), and any fuel from the depth of the tree on gives the same dump. -/
theorem dump_fuel (reg : Registry) (f : Forest) (modName : String) (root : Entry) (id : Nat) (fuel : Nat)
    (path : Path) (e : Entry) (h : entryDepth e ≤ fuel) :
    "N out-of-fuel" ∉ dumpTree reg f modName root id fuel path e ∧
    dumpTree reg f modName root id fuel path e = dumpTree reg f modName root id (entryDepth e) path e :=
  ⟨dumpTree_never_out_of_fuel reg f modName root id fuel path e h,
   dumpTree_fuel_stable reg f modName root id fuel path e h⟩

/-- One pass of the augment loop ends within `mods.size - i + 1` steps: every step either drops a
module or advances. -/
theorem augmentPass_fuel (reg : Registry) (fuel : Nat) (mods : Array Nat) (i processed : Nat) (s : PState)
    (h : mods.size - i + 1 ≤ fuel) :
    augmentPass reg fuel mods i processed s = augmentPass reg (mods.size - i + 1) mods i processed s :=
  Goyang.Lemmas.Fuel.augmentPass_fuel reg fuel mods i processed s h

/-- **The augment loop ends within `total + 1` passes** (`total` = number of pending augments; the
model passes `total + 2`): every pass but the last applies at least one augment, and an applied
augment leaves the pending lists.  Hypothesis: the pending lists are keyed by distinct trees, as
`processAll` builds them from the distinct loaded modules (without it the count can grow:
`augmentTree_pending_needs_nodup`). -/
theorem augmentLoop_terminates (reg : Registry) (fuel : Nat) (mods : Array Nat) (s : PState)
    (hnd : (s.pending.map (·.1)).Nodup) (h : pendingTotal s + 1 ≤ fuel) :
    augmentLoop reg fuel mods s = augmentLoop reg (pendingTotal s + 1) mods s :=
  Goyang.Lemmas.Fuel.augmentLoop_terminates reg fuel mods s hnd h

/-- … in particular with the fuel `processAll` computes. -/
theorem augmentLoop_model_fuel (reg : Registry) (mods : Array Nat) (s : PState)
    (hnd : (s.pending.map (·.1)).Nodup) :
    augmentLoop reg (s.pending.foldl (fun n p => n + p.2.length) 0 + 2) mods s =
      augmentLoop reg (pendingTotal s + 1) mods s :=
  Goyang.Lemmas.Fuel.augmentLoop_model_fuel reg mods s hnd

/-- The hypothesis of `augmentLoop_terminates` holds of the state `processAll` starts the loop
from — one pending list per distinct module, then per distinct submodule, keyed by sequence number
— for every registry of the shape loading produces (`LoadedShape`: sequence numbers distinct, no
module bound in both tables), whatever the pending lists hold. -/
theorem processAll_pending_keys_distinct (reg : Registry) (h : LoadedShape reg) (augsOf : Mod → List Entry) :
    (((reg.distinctModules ++ reg.distinctSubs).map fun m => (m.seq, augsOf m)).map (·.1)).Nodup :=
  processAll_pending_keys_nodup reg h augsOf

/-- Every pass accounts for what it applied: pending after + applied = pending before. -/
theorem augmentPass_accounts (reg : Registry) (fuel : Nat) (mods : Array Nat) (i processed : Nat) (s : PState)
    (hnd : (s.pending.map (·.1)).Nodup) :
    (augmentPass reg fuel mods i processed s).2.2.pending.map (·.1) = s.pending.map (·.1) ∧
    pendingTotal (augmentPass reg fuel mods i processed s).2.2 + (augmentPass reg fuel mods i processed s).2.1 =
      pendingTotal s + processed :=
  augmentPass_pending reg fuel mods i processed s hnd

/-- Lexer and parser (C02): `yang.Parse` as modelled is total on arbitrary bytes; with the fuel
the model supplies no loop runs dry, no slice is taken out of range. -/
theorem lexer_parser_total (file text : List UInt8) (f : Goyang.Model.Lex.Fault) :
    Goyang.Model.Parse.parseText file text ≠ .fault f :=
  Goyang.Props.C02.parse_no_fault file text f

/-- … and answers either a forest or a non-empty list of error lines (the error budget: after
eight errors the lexer drops its input). -/
theorem lexer_parser_answers (file text : List UInt8) :
    (∃ forest, Goyang.Model.Parse.parseText file text = .ok forest) ∨
    (∃ errs, errs ≠ [] ∧ Goyang.Model.Parse.parseText file text = .rejected errs) :=
  Goyang.Props.C02.parse_ok_or_rejected file text

/-! ## Non-vacuity -/
namespace Ex

/-- `module m { grouping g { uses g; } uses g; }` -/
def usesInner : Stmt := .mk "uses" true "g" "m.yang" 1 25 []
def gS : Stmt := .mk "grouping" true "g" "m.yang" 1 12 [usesInner]
def usesTop : Stmt := .mk "uses" true "g" "m.yang" 1 35 []
def mS : Stmt := .mk "module" true "m" "m.yang" 1 1 [gS, usesTop]
def m0 : Mod := ⟨0, mS⟩
def reg0 : Registry := { mods := [m0], modules := [("m", 0)] }
def env0 : Env := { reg := reg0, tres := ⟨fun _ _ _ _ => (none, [])⟩, linked := [0] }

/-- The self-using grouping: conversion of the module ends (100 units of fuel, 15 needed) and
reports the cycle at the grouping, twice (once from the grouping's own conversion, once from the
module-level `uses`). -/
example : ((toEntry env0 (entryFuel reg0) m0 [] mS [] {}).1.allErrors.map (·.render)) =
    ["m.yang:1:12:cycle", "m.yang:1:12:cycle"] := by decide +kernel

example : entryNeed reg0 = 15 ∧ entryFuel reg0 = 100 ∧ (tracked reg0).length = 2 ∧ maxHeight reg0 = 3 := by decide +kernel

/-- `toEntry_fuel` instantiated: the result is the same whatever the out-of-fuel branch answers. -/
example (z : Mod → Stmt → TState → Entry × TState) :
    toEntry env0 (entryFuel reg0) m0 [] mS [] {} = toEntryZ env0 z (entryFuel reg0) m0 [] mS [] {} :=
  (toEntry_fuel_of_entryFuel env0 z).1 m0 (List.mem_singleton.mpr rfl) {}

/-- With too little fuel the out-of-fuel answer does show, so the bound is not vacuous: at fuel 3
the inner `uses` is not reached. -/
example : ((toEntry env0 3 m0 [] mS [] {}).1.allErrors.map (·.cls)).contains "out-of-fuel" = true := by decide +kernel

/-- `cycles_are_errors` instantiated: inside `g` (in progress) the inner `uses g` answers `cycle`. -/
example : toEntry env0 5 m0 [gS, mS] usesInner [nodeId m0 gS, nodeId m0 mS] {} =
    (errorEntry m0 gS "cycle", {}) :=
  cycles_are_errors env0 3 m0 [gS, mS] usesInner [nodeId m0 gS, nodeId m0 mS] {} gS m0 [mS] rfl rfl (by decide) rfl

/-- Two groupings using each other: `module m { grouping g { uses h; } grouping h { uses g; } uses g; }`. -/
def uH : Stmt := .mk "uses" true "h" "m.yang" 2 14 []
def uG : Stmt := .mk "uses" true "g" "m.yang" 3 14 []
def g2 : Stmt := .mk "grouping" true "g" "m.yang" 2 3 [uH]
def h2 : Stmt := .mk "grouping" true "h" "m.yang" 3 3 [uG]
def top2 : Stmt := .mk "uses" true "g" "m.yang" 4 3 []
def mS2 : Stmt := .mk "module" true "m" "m.yang" 1 1 [g2, h2, top2]
def m2 : Mod := ⟨0, mS2⟩
def reg2 : Registry := { mods := [m2], modules := [("m", 0)] }
def env2 : Env := { reg := reg2, tres := ⟨fun _ _ _ _ => (none, [])⟩, linked := [0] }

example : ((toEntry env2 (entryFuel reg2) m2 [] mS2 [] {}).1.allErrors.map (·.cls)).all (· == "cycle") = true ∧
    (toEntry env2 (entryFuel reg2) m2 [] mS2 [] {}).1.allErrors ≠ [] ∧ entryNeed reg2 ≤ entryFuel reg2 := by decide +kernel

/-- Linking a module that imports itself and a pair that import each other: the walk ends. -/
def impSelf : Stmt := .mk "module" true "a" "a.yang" 1 1 [.mk "import" true "a" "a.yang" 2 3 [], .mk "import" true "b" "a.yang" 3 3 []]
def impBack : Stmt := .mk "module" true "b" "b.yang" 1 1 [.mk "import" true "a" "b.yang" 2 3 []]
def reg3 : Registry := { mods := [⟨0, impSelf⟩, ⟨1, impBack⟩], modules := [("a", 0), ("b", 1)] }
example : linkAll reg3 = ([1, 0], []) := by decide +kernel

/-- `LoadedShape` holds of a registry with two modules and a submodule. -/
example : LoadedShape { mods := [⟨0, impSelf⟩, ⟨1, impBack⟩, ⟨2, .mk "submodule" true "s" "s.yang" 1 1 []⟩],
                        modules := [("a", 0), ("b", 1)], subModules := [("s", 2)] } :=
  ⟨by decide, by decide⟩

/-- The `Nodup` hypothesis of `augmentLoop_terminates` is satisfiable on a non-empty state. -/
example : ∃ s : PState, s.pending ≠ [] ∧ (s.pending.map (·.1)).Nodup ∧ pendingTotal s = 1 :=
  ⟨{ pending := [(0, [.mk { name := "a" } [] [] []]), (1, [])] }, by decide, by decide, by decide⟩

end Ex

end Goyang.Props.C01
