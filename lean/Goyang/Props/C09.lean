import Goyang.Lemmas.Types
import Goyang.Lemmas.TypesFuel
import Goyang.Lemmas.TypesAdm
import Goyang.Lemmas.TypesSpecErr
import Goyang.Lemmas.TypesLinked
import Goyang.Lemmas.TypesWfMain
import Goyang.Lemmas.TypesSpecClaim
import Goyang.Lemmas.TypesEnumRfc
import Goyang.Lemmas.TypesFdRfc
import Goyang.Lemmas.TypesPartOf
import Goyang.Lemmas.TypesWellLinked
import Goyang.Lemmas.TypesAgreeFull
import Goyang.Lemmas.TypesRangeRfc
/-
C09 — type names bind lexically and derived types inherit the whole chain.

Statements are about the impl model `Goyang.Model.Types` (a transliteration of pkg/yang/types.go
after the repairs listed there, tied to the Go code by harness/cmd/corr-c09) against the
specification `Goyang.Spec.Types`: the binding relation `Binds` (nearest enclosing scope, then the
module and its submodules; a foreign prefix: exactly the imported module and its submodules), the
finite-derivation predicate `Resolvable`, the derivation chain `DerivesFrom` and "nearest
definition wins / patterns accumulate" over that chain.  Helper lemmas: Goyang/Lemmas/Types.lean.

`env : Env` is what the type layer reads from the loaded set (registry, include links, identity
dictionary, fuel); the theorems hold for every environment, in particular for `Env.of reg`.

What is proved (all for unbounded inputs):
* soundness: `resolve_binds`, `resolve_errors` (+ `unknown_is_error`, `unresolvable_is_error`,
  `cyclic_is_error_below`), `resolve_chain` / `resolve_inherits` / `resolve_members`, `fuel_suffices`;
* completeness: `resolve_complete_binding` (for a `Resolvable` type statement the model raises no
  binding-level error: unknown and cyclic names are the ONLY binding-level error sources),
  `resolve_complete` (what the specification accepts — `Admissible`: a finite derivation along which
  every restriction passes the decidable side conditions `typeOk` / `typedefOk` of
  Lemmas/TypesRestr.lean — is resolved without error, with the kind / fraction-digits / range /
  length the specification computes), `resolve_accepts` (converse) and `resolve_errors_iff` (the
  model reports an error iff the specification rejects).  Standing hypotheses of the completeness
  half (`Standing`, Lemmas/TypesComplete.lean): sequence numbers identify the loaded modules, every
  include is linked, import prefixes are distinct, no name met below the reference denotes two
  typedefs (`UnambiguousBelow`), type statements met below the reference are identified by their
  position (`KeysIdentify`); the reference stands in the loaded set; fuel above the number of type
  statements.  All are shown satisfiable on a concrete schema (`Ex.standing_env`);
* executable vs relational specification: `spec_exec_binds_sound`, `spec_exec_binds_iff`,
  `spec_exec_unbound`, `spec_exec_chain`, `spec_exec_chain_unique`, `spec_exec_inherits`,
  `spec_exec_members`, `spec_exec_accepts`, `spec_exec_error`;
* `unambiguous_false`: the hypothesis `Spec.Types.Unambiguous` of `cyclic_is_error` holds of no registry,
  so that theorem is vacuous; the statement with a satisfiable hypothesis is `cyclic_is_error_below`.
* discharging the hypotheses: `env_of_linked` (`Env.of reg` satisfies `Linked` whenever `linkOk reg`,
  through C11's `linkAll_spec`), `standing_of_wellformed` (`SeqId`, `ImportsDistinct`,
  `UnambiguousBelow`, `KeysIdentify` follow from the DECIDABLE well-formedness `WfReg` of the loaded
  set — distinct sequence numbers / import prefixes / statement positions, no typedef name declared
  twice in a statement or at the top level of a module and its submodules — for every reference
  that stands in it, `InPlace`); `resolve_complete_loaded`, `resolve_errors_iff_loaded`: completeness
  and the iff in terms of `resolveType reg` (what the driver computes) under `linkOk`, `WfReg`,
  `InPlace`, `PartOfSchema`.
* when the executable specification makes no claim (Lemmas/TypesSpecFuel.lean, TypesSpecClaim.lean):
  `spec_budget_suffices` (with the budget `specFuel reg` neither `chainOf` nor `specResolve` ever answers
  `noClaim "fuel"` for a type statement of the loaded set — no hypothesis on the set: a chain either
  ends within the number of loaded `type` statements or comes back to a statement in progress, the
  cyclic verdict `error`), `spec_noClaim_reason` (a `noClaim w` gives one of six reasons and names a
  `Feature` of a type statement met below the reference: ambiguous name, typedef without type,
  malformed enum values / bit positions / fraction-digits, a member type whose chain restates),
  `spec_ok_inside_claim` (an `ok` answer meets no such feature; on the way `chainOf_ok_stable`: `ok`
  answers do not depend on budget or statements in progress), `chainOf_noClaim_iff` and
  `specResolve_noClaim_iff` (exactly when no claim is made), `chainOf_ok_iff` (`ok` iff `Resolvable`
  and `InsideClaim`), `chainOf_error_iff` (inside the claim: `error` iff not `Resolvable`);
* the main theorems against the executable specification, without `noClaim`:
  `resolve_verdict_inside_claim` (inside the claim the verdict is `error` — then the model reports an
  error — or `ok k ls` — then the model raises no binding-level error and an error-free result agrees
  with `inherit k ls`; no third case), `resolve_complete_exec`, `resolve_errors_iff_exec` (restatements
  of `resolve_complete` / `resolve_errors_iff` for `resolveType reg` under `linkOk`, `WfReg`, `InPlace`,
  `PartOfSchema`, `InsideClaim`);
* one side condition tied to its sub-model's specification: `resolve_enum_rfc`, `resolve_bits_rfc`
  (the enum / bit table of an error-free resolution holds exactly the values `Spec.Enum.assign` /
  `table` of RFC 7950 sections 9.6.4.2 / 9.7.4.2 give the written members, through C14's `text_fold`;
  Lemmas/TypesEnumRfc.lean), `resolve_fd_rfc` (the fraction-digits of an error-free resolution are the
  written integer, which lies in 1 … 18, through C15's `asRangeInt_exact`; Lemmas/TypesFdRfc.lean).
* the executable specification's own reading of enum values / bit positions tied to the RFC assignment
  of property C14: `assignValues_table` (an answer of `assignValues` is `Spec.Enum.table` of the members
  read as integers, names pairwise different, values in range), `assignValues_eq_assign_bits` (it IS
  `Spec.Enum.assign .bits`), `assignValues_eq_assign_enum` (it is `Spec.Enum.assign .enumeration` up to
  the uniqueness of values, which the executable specification checks in `chainInClaim`)
  (Lemmas/TypesAssignDefs.lean, TypesAssign.lean);
* full agreement: `AgreesWithFull` (= `AgreesWith` + enum table + bit table + fraction-digits) and
  `resolve_verdict_inside_claim_full` (+ `resolve_complete_exec_full`): inside the claim an error-free resolution agrees with
  `inherit k ls` in every attribute, nearest definition winning along the chain — for chains whose
  integer arguments (`value`, `position`, `fraction-digits`) are canonically written (`CanonArgs` /
  `CanonInt`: optional `-`, decimal digits, no superfluous leading zero; Lemmas/TypesStrBridge.lean ties
  core Lean's `String.toNat!` / `toNat?` / `toUTF8` to the literals of C14 / C15, Lemmas/TypesAssignFold.lean
  and TypesAgreeFull.lean do the rest); `canonArgs_of_canonReg`: it suffices that every such argument of the
  loaded set is canonically written (`CanonReg`).  The hypothesis cannot be dropped:
  `Ex.noncanonical_value_disagrees` (`value 010` is 8 for the model and for Go — `ParseInt` with base 0 —
  and 10 for `parseIntLit`; replayed on the Go code);
* `linkOk` / `PartOfSchema` against the Bool checks of the executable specification, for registries
  produced by loading (`Goyang.Lemmas.Bridge.TablesOK`; `loaded_tables_ok`, `loaded_texts_tables_ok`):
  `modules_entries_nonsub` (the registry invariant: entries of `ms.Modules` are loaded non-submodules),
  `partOfSchema_of_PartOfSchema`, `linkOk_resolved` (after an error-free `Process` every include / import
  of every part of a schema names a loaded (sub)module), `wellLinked_of_linkOk` (when every loaded
  (sub)module is part of a schema), `wellLinked_iff_of_linkOk` (in general: exactly up to the dangling
  includes / imports of (sub)modules that belong to no schema), `wellLinked_of_linkOk_fails` (the
  unrestricted implication is FALSE: a submodule nobody includes with an unresolved import — `Process`
  reports nothing, replayed on the Go code), and `specResolve_noClaim_iff_loaded`
  (`specResolve_noClaim_iff` without the cases `wellLinked` / `partOfSchema` and without `SeqId`)
  (Lemmas/TypesPartOf.lean, TypesWellLinked.lean);
* the range / length side condition tied to property C10's specification: `resolve_range_denotes` (the
  range of an error-free resolution of a numeric type is reached from the built-in range of its kind by
  the `range` statements of the chain, each an accepted step `Goyang.Props.C10.StepOk`: denotes exactly
  the written set relative to the one before it, sorted / disjoint / coalesced, within it),
  `resolve_range_within_base`, `resolve_length_denotes` (Lemmas/TypesRangeRfc.lean).
Not proved / outside: the identityref side condition of `typeOk` is stated with the sub-model's function
(`Identity.findIdentityBase`), whose own specification is the subject of C11; for a reference outside the
claim (`¬ InsideClaim`: one of the six features is met below it, exactly the `noClaim` answers) the
executable specification claims nothing — the relational theorems (`resolve_errors_iff` …) still
apply wherever `UnambiguousBelow` holds; `AgreesWithFull` is proved for canonically written integer
arguments only (outside that form the two readings genuinely differ, see above) and does not compare
union members (`resolve_members` / `spec_exec_members` speak about them separately); the kernel cannot evaluate `String.toNat!`, so the
non-vacuity examples with explicit `value` / `fraction-digits` arguments (`Ex.inside_tyR`, `Ex.inside_tyF`) go
through `insideClaim_builtin` and the evaluation lemmas of Lemmas/TypesStrBridge.lean instead of one kernel
evaluation of `chainOf`;
a reference in a submodule nobody includes is outside the claim (`PartOfSchema`), as in the executable
specification.
Helper lemmas: Goyang/Lemmas/Types*.lean.
-/
namespace Goyang.Props.C09
open Goyang.Model hiding Env
open Goyang.Model.Types Goyang.Spec.Types Goyang.Lemmas.Types
open Goyang.Lemmas.TypesDefs Goyang.Lemmas.TypesComplete Goyang.Lemmas.TypesRestr Goyang.Lemmas.TypesAdm
open Goyang.Lemmas.TypesSpecBind Goyang.Lemmas.TypesSpecChain Goyang.Lemmas.TypesSpecErr
open Goyang.Lemmas.TypesWf Goyang.Lemmas.TypesWfMain
open Goyang.Lemmas.TypesSpecFuel Goyang.Lemmas.TypesSpecClaim

/-- **Lexical binding.**  Whatever typedef the resolver picks for a type statement `t` is the one the
name denotes: for an unprefixed or own-prefixed name the typedef of the nearest enclosing scope
that declares it, else a top-level typedef of the module `t` stands in, of the module that belongs
to, or of their submodules; for a foreign prefix a top-level typedef of exactly the module imported
under that prefix or of its submodules.  (`t` is a `type` statement: it declares no typedefs.) -/
theorem resolve_binds (env : Env) (root : Mod) (scope : List Stmt) (t : Stmt)
    (ht : scopeKinds.contains t.kw = false) (src : Source) (r : TdRef)
    (h : lookup env root scope t = .typedef src r) :
    Binds env.reg root scope t.arg r.root r.td r.scope :=
  lookup_binds env root scope t ht src r h

/-- **Unknown, unresolvable or cyclic references are errors.**  If `Type.resolve` returns no error
for a type statement, then the statement has a finite derivation in the sense of the
specification: every name on the way (the statement's own, those of the typedefs it is derived
from, those of all union member types, recursively) binds as `Binds` says, down to built-in types.
Contrapositive: a reference to a name or prefix that binds to nothing, a typedef whose own type
cannot be resolved, and a definition in terms of itself (no finite derivation exists) are all
reported.  Holds for every fuel and every set of types in progress (running out of fuel is
reported as an error as well). -/
theorem resolve_errors (env : Env) :
    ∀ (fuel : Nat) (root : Mod) (scope : List Stmt) (t : Stmt) (stack : List TypeKey),
      scopeKinds.contains t.kw = false →
      (resolveTypeF env fuel root scope t stack).errs = [] → Resolvable env.reg root scope t := by
  intro fuel
  induction fuel with
  | zero => intro root scope t stack _ h; simp [resolveTypeF] at h
  | succ fuel ih =>
    intro root scope t stack ht h
    obtain ⟨y, hy⟩ := resolve_ty_some env _ root scope t stack h
    -- the member types, once the overlay is known to be error-free
    have hmem : ∀ {src : Source} {tdY : YType},
        overlayType env root t src tdY (memberRes env fuel root scope t stack) = { ty := some y, errs := [] } →
        ∀ ut ∈ t.all "type", Resolvable env.reg root (t :: scope) ut := by
      intro src tdY ho ut hut
      have := overlayType_errs_nil (congrArg Res.errs ho) _ (List.mem_map_of_mem (f := fun ut =>
        resolveTypeF env fuel root (t :: scope) ut (typeKey root t :: stack)) hut)
      exact ih root (t :: scope) ut _ (type_not_scope (kw_of_all hut)) this
    rcases resolve_ok_cases hy with ⟨y0, hl, ho⟩ | ⟨src, r, tt, bty, tdY, hl, htt, hb, _, ho⟩
    · exact Resolvable.builtin (builtin_some (lookup_builtin hl)) (hmem ho)
    · exact Resolvable.derived r.root r.td r.scope tt (resolve_binds env root scope t ht src r hl) htt
        (ih r.root (r.td :: r.scope) tt _ (type_not_scope (kw_of_one htt)) (by rw [hb])) (hmem ho)

/-- Reading `resolve_errors` the other way round, case by case: a name that binds to nothing
(unknown name, unknown prefix, a typedef that is not visible from the reference) is an error. -/
theorem unknown_is_error (env : Env) (fuel : Nat) (root : Mod) (scope : List Stmt) (t : Stmt) (stack : List TypeKey)
    (ht : scopeKinds.contains t.kw = false) (hb : builtinNames.contains t.arg = false)
    (hunbound : ∀ m td sc, ¬ Binds env.reg root scope t.arg m td sc) :
    (resolveTypeF env fuel root scope t stack).errs ≠ [] := by
  intro h
  cases resolve_errors env fuel root scope t stack ht h with
  | builtin hb' _ => rw [hb] at hb'; cases hb'
  | derived m td sc tt hbind _ _ _ => exact hunbound m td sc hbind

/-- … a typedef whose own type statement, or a union one of whose member types, cannot be resolved
is an error (errors are handed up the derivation). -/
theorem unresolvable_is_error (env : Env) (fuel : Nat) (root : Mod) (scope : List Stmt) (t : Stmt) (stack : List TypeKey)
    (ht : scopeKinds.contains t.kw = false) (h : ¬ Resolvable env.reg root scope t) :
    (resolveTypeF env fuel root scope t stack).errs ≠ [] :=
  fun he => h (resolve_errors env fuel root scope t stack ht he)

/-- … and so is a type statement that is defined in terms of itself or depends on one that is
(`Cyclic`: a chain of "names the typedef whose type is" / "has the member type" steps that comes
back to where it started), in every schema in which no name denotes two typedefs.
VACUOUS: the hypothesis `Unambiguous env.reg` holds of no registry (`unambiguous_false` below); the
statement with a satisfiable hypothesis is `cyclic_is_error_below`. -/
theorem cyclic_is_error (env : Env) (hU : Unambiguous env.reg) (fuel : Nat) (root : Mod) (scope : List Stmt) (t : Stmt)
    (stack : List TypeKey) (ht : scopeKinds.contains t.kw = false) (hc : Cyclic env.reg (root, scope, t)) :
    (resolveTypeF env fuel root scope t stack).errs ≠ [] :=
  fun he => resolvable_not_cyclic hU (resolve_errors env fuel root scope t stack ht he) hc

/-- What a resolved type `y` shows of a derivation chain (nearest first) ending in the built-in
`kind`: the base kind; units and default of the nearest typedef that states them; the path of the
nearest type statement that states one; exactly the patterns of all type statements of the chain;
the enum (bit) table the resolve loop builds from the members of the nearest type statement that
lists any (which values that table holds is property C14); the fraction-digits of the nearest type
statement that states them (read by `asRangeInt(1, 18)`, property C15). -/
def Inherits (y : YType) (kind : String) (chain : List Link) : Prop :=
  y.kind = kind ∧
  y.units = (chainUnits chain).getD "" ∧
  y.hasDefault = (chainDefault chain).isSome ∧ y.default = (chainDefault chain).getD "" ∧
  y.path = (chainPath chain).getD "" ∧
  (∀ p, p ∈ y.pattern ↔ p ∈ chainPatterns chain) ∧
  y.enum = (chainEnums chain).map (fun es => (enumFold newEnum "value" es).1) ∧
  y.bit = (chainBits chain).map (fun bs => (enumFold newBits "position" bs).1) ∧
  y.fractionDigits = ((chainFractionDigits chain).map parseFd).getD 0

/-- The union members a resolved type `y` shows of a derivation chain: every member is the
error-free resolution of a member type statement of one of the chain's type statements, and every
such statement resolved error-free to a type that is in the list or was left out because a type
that is `Equal` to it is (Go de-duplicates union members by `YangType.Equal`). -/
def MembersOf (env : Env) (y : YType) (chain : List Link) : Prop :=
  (∀ m ∈ y.members, ∃ lroot lscope lt ut fuel' stack', Link.ty lroot lscope lt ∈ chain ∧ ut ∈ lt.all "type" ∧
      resolveTypeF env fuel' lroot (lt :: lscope) ut stack' = { ty := some m, errs := [] }) ∧
  (∀ lroot lscope lt, Link.ty lroot lscope lt ∈ chain → ∀ ut ∈ lt.all "type", ∃ fuel' stack' m,
      resolveTypeF env fuel' lroot (lt :: lscope) ut stack' = { ty := some m, errs := [] } ∧
      ∃ m' ∈ y.members, m' = m ∨ m.equal m' = true)

/-- A built-in type shows the empty chain. -/
theorem inherits_builtin {n : String} {y0 : YType} (hb : builtin? n = some y0) : Inherits y0 n [] := by
  obtain ⟨_, hkind, _, hu, hhd, hd, hp, hpat, hen, hbi, _, hfd⟩ := builtin_shape hb
  exact ⟨hkind, hu, hhd, hd, hp, by simp [hpat, chainPatterns], hen, hbi, hfd⟩

/-- The typedef's overlay puts its `units` and `default` in front. -/
theorem inherits_td {env : Env} {root : Mod} {td tt : Stmt} {bty tdY : YType} {kind : String} {chain : List Link}
    (htd : typedefOverlay env root td tt bty = { ty := some tdY, errs := [] }) (h : Inherits bty kind chain) :
    Inherits tdY kind (.td td :: chain) := by
  obtain ⟨_, b2, b3, b4, b5, b6, b7, b8, b9, _, b11⟩ := typedefOverlay_ok htd
  obtain ⟨hk, hu, hhd, hd, hp, hpat, hen, hbi, hfd⟩ := h
  refine ⟨by rw [b2, hk], ?_, ?_, ?_, ?_, ?_, ?_, ?_, ?_⟩
  · rw [b3, hu]
    simp only [chainUnits, List.findSome?_cons]
    cases td.argOf? "units" <;> simp
  · rw [b4, hhd]
    simp only [chainDefault, List.findSome?_cons]
    cases td.argOf? "default" <;> simp
  · rw [b5, hd]
    simp only [chainDefault, List.findSome?_cons]
    cases td.argOf? "default" <;> simp
  · rw [b6, hp]; rfl
  · intro p
    rw [b7, hpat]
    simp [chainPatterns]
  · rw [b8, hen]; rfl
  · rw [b9, hbi]; rfl
  · rw [b11, hfd]; rfl

/-- The overlay of a type statement puts its path, enums, bits and fraction-digits in front and adds
its patterns. -/
theorem inherits_ty {env : Env} {root : Mod} {scope : List Stmt} {t : Stmt} {src : Source} {tdY y : YType}
    {ms : List Res} {kind : String} {rest : List Link}
    (h : overlayType env root t src tdY ms = { ty := some y, errs := [] }) (hI : Inherits tdY kind rest) :
    Inherits y kind (.ty root scope t :: rest) := by
  obtain ⟨a1, a2, a3, a4, a5, a6, a7, a8, a9, _⟩ := overlay_attrs h
  obtain ⟨hk, hu, hhd, hd, hp, hpat, hen, hbi, hfd⟩ := hI
  refine ⟨by rw [a1, hk], ?_, ?_, ?_, ?_, ?_, ?_, ?_, ?_⟩
  · rw [a2, hu]; rfl
  · rw [a3, hhd]; rfl
  · rw [a4, hd]; rfl
  · rw [a5, hp]
    simp only [chainPath, List.findSome?_cons]
    cases t.argOf? "path" <;> simp
  · intro p
    rw [a6, mem_appendNew, hpat]
    simp only [chainPatterns, List.flatMap_cons, List.mem_append]
    exact Or.comm
  · rw [a7, hen]
    simp only [chainEnums, List.findSome?_cons]
    split <;> simp
  · rw [a8, hbi]
    simp only [chainBits, List.findSome?_cons]
    split <;> simp
  · rw [a9, hfd]
    simp only [chainFractionDigits, List.findSome?_cons]
    cases t.one? "fraction-digits" <;> simp

/-- The induction behind `resolve_inherits` and `resolve_members`. -/
theorem resolve_chain (env : Env) :
    ∀ (fuel : Nat) (root : Mod) (scope : List Stmt) (t : Stmt) (stack : List TypeKey) (y : YType),
      scopeKinds.contains t.kw = false →
      resolveTypeF env fuel root scope t stack = { ty := some y, errs := [] } →
      ∃ kind chain, DerivesFrom env.reg root scope t kind chain ∧ Inherits y kind chain ∧ MembersOf env y chain := by
  refine resolve_chain_ind env (Q := fun kind chain y => Inherits y kind chain ∧ MembersOf env y chain) ?_ ?_
  · -- a built-in type
    intro fuel root scope t stack y0 y hb0 h
    obtain ⟨_, _, _, _, _, _, _, _, _, _, hmem0, _⟩ := builtin_shape hb0
    obtain ⟨m1, m2, _⟩ := level_members h
    refine ⟨inherits_ty h (inherits_builtin hb0), ?_, ?_⟩
    · intro m hm
      rcases m1 m hm with h0 | ⟨ut, hut, hres⟩
      · rw [hmem0] at h0; cases h0
      · exact ⟨root, scope, t, ut, fuel, _, List.mem_singleton.mpr rfl, hut, hres⟩
    · intro lroot lscope lt hlink ut hut
      rw [List.mem_singleton] at hlink
      cases hlink
      obtain ⟨m, hres, hcov⟩ := m2 ut hut
      exact ⟨fuel, _, m, hres, hcov⟩
  · -- derived from a typedef
    intro fuel root scope t stack src r tt bty tdY y kind chain ⟨hI, hmA, hmB⟩ htd h
    obtain ⟨_, _, _, _, _, _, _, _, _, b10, _⟩ := typedefOverlay_ok htd
    obtain ⟨m1, m2, m3⟩ := level_members h
    refine ⟨inherits_ty h (inherits_td htd hI), ?_, ?_⟩
    · intro m hm
      rcases m1 m hm with h0 | ⟨ut, hut, hres⟩
      · rw [b10] at h0
        obtain ⟨lroot, lscope, lt, ut, f', s', hlink, hut, hres⟩ := hmA m h0
        exact ⟨lroot, lscope, lt, ut, f', s',
          List.mem_cons_of_mem _ (List.mem_cons_of_mem _ hlink), hut, hres⟩
      · exact ⟨root, scope, t, ut, fuel, _, List.mem_cons_self, hut, hres⟩
    · intro lroot lscope lt hlink ut hut
      cases hlink with
      | head =>
        obtain ⟨m, hres, hcov⟩ := m2 ut hut
        exact ⟨fuel, _, m, hres, hcov⟩
      | tail _ hlink =>
        cases hlink with
        | tail _ hlink =>
          obtain ⟨f', s', m, hres, m', hm', hcov⟩ := hmB lroot lscope lt hlink ut hut
          exact ⟨f', s', m, hres, m', m3 m' (by rw [b10]; exact hm'), hcov⟩

/-- **Derived types inherit the whole chain.**  An error-free resolution of a type statement `t`
went along a derivation chain in the sense of the specification (every link binds as `Binds`
says, down to a built-in type), and the resolved type carries the chain's attributes: the base
kind, and — nearest definition winning — units, default, fraction-digits, enum / bit sets, path;
patterns accumulate (`Inherits`). -/
theorem resolve_inherits (env : Env) (fuel : Nat) (root : Mod) (scope : List Stmt) (t : Stmt)
    (stack : List TypeKey) (y : YType) (ht : scopeKinds.contains t.kw = false)
    (h : resolveTypeF env fuel root scope t stack = { ty := some y, errs := [] }) :
    ∃ kind chain, DerivesFrom env.reg root scope t kind chain ∧ Inherits y kind chain := by
  obtain ⟨kind, chain, hd, hi, _⟩ := resolve_chain env fuel root scope t stack y ht h
  exact ⟨kind, chain, hd, hi⟩

/-- **Union members** of the chain: the members the resolved type lists are exactly the resolved
member types of the chain's type statements, up to the de-duplication by `Equal`; each of them is
itself an error-free resolution, to which `resolve_inherits` and `resolve_members` apply again. -/
theorem resolve_members (env : Env) (fuel : Nat) (root : Mod) (scope : List Stmt) (t : Stmt)
    (stack : List TypeKey) (y : YType) (ht : scopeKinds.contains t.kw = false)
    (h : resolveTypeF env fuel root scope t stack = { ty := some y, errs := [] }) :
    ∃ kind chain, DerivesFrom env.reg root scope t kind chain ∧ MembersOf env y chain := by
  obtain ⟨kind, chain, hd, _, hm⟩ := resolve_chain env fuel root scope t stack y ht h
  exact ⟨kind, chain, hd, hm⟩

/-- `resolveType reg` is `resolveTypeF` with the environment, the fuel of `Env.of reg` and no type in progress. -/
theorem resolveType_ok_iff (reg : Registry) (root : Mod) (scope : List Stmt) (t : Stmt) (y : YType) :
    resolveType reg root scope t = (some y, []) ↔
      resolveTypeF (Env.of reg) (Env.of reg).fuel root scope t [] = { ty := some y, errs := [] } := by
  unfold resolveType resolveTypeE
  simp only [Prod.mk.injEq]
  exact ⟨fun h => res_eq h.1 h.2, fun h => by rw [h]; exact ⟨rfl, rfl⟩⟩

/-- The fuel `Env.of` supplies covers every `type` statement of the loaded set. -/
theorem envOf_fuel (reg : Registry) : (allTypeKeys (Env.of reg).reg).length + 1 ≤ (Env.of reg).fuel :=
  Nat.le_succ _

/-- **The recursion budget suffices.**  With the fuel `Env.of` supplies (two more than the number of
`type` statements loaded; one more than the number of loaded modules for the walk over a module
and its submodules), resolving a type statement that stands in the loaded set — `root` is a
loaded module, `t` a `type` statement of it, `scope` statements of it — never reports an exhausted
budget: the fuel arguments of the model do not cut any run short, every run ends because a
built-in type, an error or a type already in progress (a cycle) is reached. -/
theorem fuel_suffices (reg : Registry) (root : Mod) (scope : List Stmt) (t : Stmt)
    (hroot : root ∈ reg.mods) (ht : t ∈ descendants root.stmt) (hkw : t.kw = "type")
    (hscope : ∀ s ∈ scope, s ∈ descendants root.stmt) :
    ∀ e ∈ (resolveType reg root scope t).2, e.cls ≠ "out-of-fuel" := by
  exact Goyang.Lemmas.TypesFuel.resolve_noOof (Env.of reg) (Env.of reg).fuel root scope t []
    ⟨hroot, ht, hscope⟩ hkw (.nil (envOf_fuel reg))

/-! ## The hypothesis `Unambiguous` is unsatisfiable; its replacement

`Spec.Types.Unambiguous reg` asks that no name denote two typedefs at *any* conceivable site, made-up
enclosing statements included, and `Binds.lexical` accepts any scope list: a made-up container with
two `typedef x` refutes it for every registry.  `cyclic_is_error` above is therefore vacuous; the
statement to use is `cyclic_is_error_below`, whose hypothesis (`UnambiguousBelow reg site`: only the
sites met while resolving the reference) is satisfiable (examples at the end of the file). -/

/-- `Unambiguous` holds of no registry. -/
theorem unambiguous_false (reg : Registry) : ¬ Unambiguous reg := by
  intro h
  let td1 : Stmt := Stmt.mk "typedef" true "x" "f" 2 1 []
  let td2 : Stmt := Stmt.mk "typedef" true "x" "f" 3 1 []
  let n : Stmt := Stmt.mk "container" true "c" "f" 1 1 [td1, td2]
  let r : Mod := ⟨0, Stmt.mk "module" true "m" "f" 1 1 []⟩
  have hd : declared n (baseName "x") = [td1, td2] := by rfl
  have h1 : Binds reg r [n] "x" r td1 [n] :=
    Binds.lexical [] n [] td1 (by decide) (by decide) rfl (by intro x hx; cases hx) (by rw [hd]; simp)
  have h2 : Binds reg r [n] "x" r td2 [n] :=
    Binds.lexical [] n [] td2 (by decide) (by decide) rfl (by intro x hx; cases hx) (by rw [hd]; simp)
  have := (h _ _ _ _ _ _ _ _ _ h1 h2).2.1
  simp [td1, td2] at this

/-- **A cyclic definition is an error** (supersedes `cyclic_is_error`): a type statement that is
defined in terms of itself or depends on one that is, is reported, whenever no name met while
resolving it denotes two typedefs. -/
theorem cyclic_is_error_below (env : Env) (fuel : Nat) (root : Mod) (scope : List Stmt) (t : Stmt)
    (hU : UnambiguousBelow env.reg (root, scope, t))
    (stack : List TypeKey) (ht : scopeKinds.contains t.kw = false) (hc : Cyclic env.reg (root, scope, t)) :
    (resolveTypeF env fuel root scope t stack).errs ≠ [] :=
  fun he => resolvable_not_cyclic' hU (resolve_errors env fuel root scope t stack ht he) hc

/-! ## The executable specification and the relational one agree

The runner judges every Go result by the executable rendering (`bindType`, `chainOf`, `finish`,
`inherit`); the theorems above are stated against the relations.  These theorems tie the two. -/

/-- Whatever typedef the executable binding answers is one the name `Binds` to. -/
theorem spec_exec_binds_sound (reg : Registry) (root : Mod) (scope : List Stmt) (name : String) (m : Mod) (td : Stmt)
    (sc : List Stmt) (h : bindType reg root scope name = .typedef m td sc) : Binds reg root scope name m td sc :=
  bindType_sound reg root scope name m td sc h

/-- **Binding.**  Where the executable binding makes a claim (it does not answer `ambiguous`: more than
one candidate), it answers the typedef `d` iff the name `Binds` to `d`. -/
theorem spec_exec_binds_iff (reg : Registry) (hid : SeqId reg) (root : Mod) (hroot : root ∈ reg.mods)
    (scope : List Stmt) (name : String) (hna : bindType reg root scope name ≠ .ambiguous)
    (m : Mod) (td : Stmt) (sc : List Stmt) :
    bindType reg root scope name = .typedef m td sc ↔ Binds reg root scope name m td sc := by
  constructor
  · exact bindType_sound reg root scope name m td sc
  · intro h
    rcases bindType_complete reg hid root hroot scope name m td sc h with h1 | h1
    · exact h1
    · exact absurd h1 hna

/-- … and it answers `unbound` only for a name that binds to nothing. -/
theorem spec_exec_unbound (reg : Registry) (hid : SeqId reg) (root : Mod) (hroot : root ∈ reg.mods)
    (scope : List Stmt) (name : String) (h : bindType reg root scope name = .unbound) (m : Mod) (td : Stmt) (sc : List Stmt) :
    ¬ Binds reg root scope name m td sc := by
  intro hb
  rcases bindType_complete reg hid root hroot scope name m td sc hb with h1 | h1 <;> rw [h] at h1 <;> cases h1

/-- **Derivation chain.**  When `chainOf` answers `ok kind layers`, the type statement has a
derivation chain in the sense of `DerivesFrom` ending in the built-in `kind`, and the layers are
what the statements of that chain say, link by link (`LayerOf`). -/
theorem spec_exec_chain (reg : Registry) (fuel : Nat) (root : Mod) (scope : List Stmt) (t : Stmt) (vis : List Key)
    (k : String) (ls : List Layer) (h : chainOf reg fuel root scope t vis = .ok k ls) :
    ∃ chain, DerivesFrom reg root scope t k chain ∧ List.Forall₂ (LayerOf reg) chain ls :=
  chainOf_sound reg (bindType_sound reg) fuel root scope t vis k ls h

/-- … that chain is the only one, when no name met on the way denotes two typedefs. -/
theorem spec_exec_chain_unique (reg : Registry) :
    ∀ (root : Mod) (scope : List Stmt) (t : Stmt) (k k' : String) (c c' : List Link),
      UnambiguousBelow reg (root, scope, t) →
      DerivesFrom reg root scope t k c → DerivesFrom reg root scope t k' c' → k = k' ∧ c = c' := by
  intro root scope t k k' c c' hU h
  induction h generalizing k' c' with
  | builtin hb =>
    intro h'
    cases h' with
    | builtin _ => exact ⟨rfl, rfl⟩
    | derived m td sc tt kind chain hbind _ _ => rw [binds_not_builtin hbind] at hb; cases hb
  | derived m td sc tt kind chain hbind htt hd ih =>
    intro h'
    cases h' with
    | builtin hb => rw [binds_not_builtin hbind] at hb; cases hb
    | derived m' td' sc' tt' kind' chain' hbind' htt' hd' =>
      obtain ⟨e1, e2, e3⟩ := hU _ (UsesStar.refl _) _ _ _ _ _ _ hbind hbind'
      subst e1 e2 e3
      rw [htt] at htt'
      cases htt'
      obtain ⟨hk, hc⟩ := ih _ _ (hU.step (UsesStar.tail (UsesStar.refl _) (Uses.base m td sc tt hbind htt))) hd'
      subst hk hc
      exact ⟨rfl, rfl⟩

/-- **Inheritance.**  `inherit` over the layers of a chain computes the relational chain functions:
base kind; units, default, path, fraction-digits, enum / bit members of the nearest statement that
states them; all patterns. -/
theorem spec_exec_inherits (reg : Registry) (chain : List Link) (ls : List Layer)
    (h : List.Forall₂ (LayerOf reg) chain ls) (k : String) :
    (inherit k ls).kind = k ∧
    (inherit k ls).units = (chainUnits chain).getD "" ∧
    (inherit k ls).default = chainDefault chain ∧
    (inherit k ls).path = (chainPath chain).getD "" ∧
    (inherit k ls).patterns = chainPatterns chain ∧
    (inherit k ls).enum = (chainEnums chain).bind (assignValues "value" (-2147483648) 2147483647) ∧
    (inherit k ls).bit = (chainBits chain).bind (assignValues "position" 0 4294967295) ∧
    (inherit k ls).fd = ((chainFractionDigits chain).bind (fun f => f.arg.toNat?)).getD 0 :=
  inherit_eq h k

/-- **Union members.**  The members `inherit` reports are the accepted member types of the nearest
type statement of the chain that has member types (none if there is none). -/
theorem spec_exec_members (reg : Registry) (chain : List Link) (ls : List Layer)
    (h : List.Forall₂ (LayerOf reg) chain ls) (k : String) :
    ((∀ r s t, Link.ty r s t ∈ chain → t.all "type" = []) ∧ (inherit k ls).members = []) ∨
    (∃ pre r s t post, chain = pre ++ Link.ty r s t :: post ∧ (∀ r' s' t', Link.ty r' s' t' ∈ pre → t'.all "type" = []) ∧
        t.all "type" ≠ [] ∧ ∃ fuel vis, List.Forall₂
          (fun ut st => finish (chainOf reg fuel r (t :: s) ut vis) = .ok st) (t.all "type") (inherit k ls).members) :=
  inherit_members h k

/-- **Acceptance.**  What the executable specification accepts (`finish (chainOf …) = ok st`) is
`Resolvable`, and `st` carries the attributes of its derivation chain. -/
theorem spec_exec_accepts (reg : Registry) (fuel : Nat) (root : Mod) (scope : List Stmt) (t : Stmt) (vis : List Key)
    (st : SType) (h : finish (chainOf reg fuel root scope t vis) = .ok st) :
    Resolvable reg root scope t ∧
    ∃ chain, DerivesFrom reg root scope t st.kind chain ∧
      st.units = (chainUnits chain).getD "" ∧ st.default = chainDefault chain ∧
      st.path = (chainPath chain).getD "" ∧ st.patterns = chainPatterns chain ∧
      st.enum = (chainEnums chain).bind (assignValues "value" (-2147483648) 2147483647) ∧
      st.bit = (chainBits chain).bind (assignValues "position" 0 4294967295) ∧
      st.fd = ((chainFractionDigits chain).bind (fun f => f.arg.toNat?)).getD 0 :=
  finish_chainOf_sound reg (bindType_sound reg) fuel root scope t vis st h

/-- **Rejection.**  The executable specification answers `error` (the verdict "an error is required")
only for a type statement without a finite derivation: an unknown name or prefix, or a cyclic
definition, somewhere below it.  (Hypotheses: sequence numbers identify the loaded modules; no name
met on the way denotes two typedefs; type statements are identified by their position.) -/
theorem spec_exec_error (reg : Registry) (hid : SeqId reg) (fuel : Nat) (root : Mod) (scope : List Stmt) (t : Stmt)
    (hroot : root ∈ reg.mods) (hU : UnambiguousBelow reg (root, scope, t)) (hK : KeysIdentify reg (root, scope, t))
    (h : chainOf reg fuel root scope t [] = .error) : ¬ Resolvable reg root scope t := by
  intro hres
  exact chainOf_not_error reg hid (root, scope, t) hU hK fuel root scope t [] hroot hres (UsesStar.refl _)
    (fun k hk => by cases hk) h

/-! ## Completeness: what the specification accepts is resolved without error -/

/-- **Unknown and cyclic names are the only binding-level error sources.**  For a type statement
with a finite derivation (`Resolvable`: every name on the way binds, no cycle) standing in the
loaded set, `Type.resolve` raises no binding-level error — no unknown type, no unknown prefix, no
cycle, no exhausted budget, none of the model's "cannot happen" records: every error it returns is
a restriction error (range, length, enum, fraction-digits, identity base, pattern, …).
Standing hypotheses (`Standing`): sequence numbers identify the loaded modules, every include of
every part of a schema is linked, import prefixes are distinct, no name met on the way denotes two typedefs, type statements
are identified by their position. -/
theorem resolve_complete_binding (env : Env) (root : Mod) (scope : List Stmt) (t : Stmt)
    (hS : Standing env (root, scope, t))
    (hroot : root ∈ env.reg.mods) (hsch : PartOfSchema env.reg root) (ht : t ∈ descendants root.stmt) (hkw : t.kw = "type")
    (hscope : ∀ s ∈ scope, s ∈ descendants root.stmt)
    (hres : Resolvable env.reg root scope t) (fuel : Nat) (hfuel : (allTypeKeys env.reg).length + 1 ≤ fuel) :
    ∀ e ∈ (resolveTypeF env fuel root scope t []).errs, ¬ BindErr e ∧ e.cls ≠ "out-of-fuel" :=
  resolve_noBind env (root, scope, t) hS fuel root scope t [] ⟨hroot, ht, hscope⟩ hsch hkw hres (UsesStar.refl _)
    (fun k hk => by cases hk) (.nil hfuel)

/-- **Completeness.**  A type statement the specification accepts (`Admissible`: a finite derivation
along which every restriction passes its decidable side condition `typeOk` / `typedefOk`) is
resolved without any error, to a type whose kind, fraction-digits, range and length are the ones
the specification computes. -/
theorem resolve_complete (env : Env) (root : Mod) (scope : List Stmt) (t : Stmt) (a : Attrs)
    (hS : Standing env (root, scope, t))
    (hroot : root ∈ env.reg.mods) (hsch : PartOfSchema env.reg root) (ht : t ∈ descendants root.stmt) (hkw : t.kw = "type")
    (hscope : ∀ s ∈ scope, s ∈ descendants root.stmt)
    (hadm : Admissible env root scope t a) (fuel : Nat) (hfuel : (allTypeKeys env.reg).length + 1 ≤ fuel) :
    ∃ y, resolveTypeF env fuel root scope t [] = { ty := some y, errs := [] } ∧ attrsOf y = a :=
  resolve_admissible env (root, scope, t) hS fuel root scope t [] a ⟨hroot, ht, hscope⟩ hsch hkw hadm (UsesStar.refl _)
    (fun k hk => by cases hk) (.nil hfuel)

/-- The converse (soundness of acceptance, no hypotheses on the loaded set): an error-free
resolution is of a type statement the specification accepts. -/
theorem resolve_accepts (env : Env) (fuel : Nat) (root : Mod) (scope : List Stmt) (t : Stmt) (stack : List TypeKey)
    (ht : scopeKinds.contains t.kw = false) (h : (resolveTypeF env fuel root scope t stack).errs = []) :
    ∃ a, Admissible env root scope t a := by
  obtain ⟨y, hy⟩ := resolve_ty_some env fuel root scope t stack h
  exact ⟨attrsOf y, resolve_ok_admissible env fuel root scope t stack y ht hy⟩

/-- **The model reports an error iff the specification rejects.** -/
theorem resolve_errors_iff (env : Env) (root : Mod) (scope : List Stmt) (t : Stmt)
    (hS : Standing env (root, scope, t))
    (hroot : root ∈ env.reg.mods) (hsch : PartOfSchema env.reg root) (ht : t ∈ descendants root.stmt) (hkw : t.kw = "type")
    (hscope : ∀ s ∈ scope, s ∈ descendants root.stmt) (fuel : Nat) (hfuel : (allTypeKeys env.reg).length + 1 ≤ fuel) :
    (resolveTypeF env fuel root scope t []).errs ≠ [] ↔ ¬ ∃ a, Admissible env root scope t a := by
  constructor
  · rintro hne ⟨a, hadm⟩
    obtain ⟨y, hy, _⟩ := resolve_complete env root scope t a hS hroot hsch ht hkw hscope hadm fuel hfuel
    rw [hy] at hne
    exact hne rfl
  · intro hno he
    exact hno (resolve_accepts env fuel root scope t [] (type_not_scope hkw) he)

/-- The link state `Env.of reg` works with has every include statement of every part of a schema
linked, whenever `Modules.Process` linked all includes and imports without error (`linkOk reg`, which
the driver checks before it answers): the standing hypothesis `Linked` holds of the environment the
correspondence run uses. -/
theorem env_of_linked (reg : Registry) (hok : linkOk reg = true) : Linked (Env.of reg) :=
  Goyang.Lemmas.TypesLinked.linked_envOf reg hok

/-- **Completeness for a loaded set**, in terms of `resolveType reg` (what the driver computes): if
`Process` linked everything, sequence numbers and import prefixes are distinct, no name met below
the reference denotes two typedefs and type statements below it are identified by position, then a
type statement of a part of a schema that the specification accepts is resolved without error. -/
theorem resolve_complete_loaded (reg : Registry) (hok : linkOk reg = true) (hid : SeqId reg) (himp : ImportsDistinct reg)
    (root : Mod) (scope : List Stmt) (t : Stmt) (a : Attrs)
    (hU : UnambiguousBelow reg (root, scope, t)) (hK : KeysIdentify reg (root, scope, t))
    (hroot : root ∈ reg.mods) (hsch : PartOfSchema reg root) (ht : t ∈ descendants root.stmt) (hkw : t.kw = "type")
    (hscope : ∀ s ∈ scope, s ∈ descendants root.stmt)
    (hadm : Admissible (Env.of reg) root scope t a) :
    (resolveType reg root scope t).2 = [] := by
  have hS : Standing (Env.of reg) (root, scope, t) :=
    { seqId := hid, linked := env_of_linked reg hok, imports := himp, unamb := hU, keys := hK }
  obtain ⟨y, hy, _⟩ := resolve_complete (Env.of reg) root scope t a hS hroot hsch ht hkw hscope hadm
    (Env.of reg).fuel (envOf_fuel reg)
  exact congrArg Prod.snd ((resolveType_ok_iff reg root scope t y).mpr hy)

/-- **The standing hypotheses follow from decidable well-formedness.**  In a loaded set that is
well-formed (`WfReg`, decidable: sequence numbers and, per module, import prefixes pairwise
different; the statements of a module at pairwise different positions; no typedef name declared
twice in one statement, nor twice at the top level of a module and its submodules) and linked,
every reference that stands in the loaded set (`InPlace`: its module is loaded, the type statement
with its enclosing statements is a path of that module's statement tree) satisfies `Standing`: in
particular no name met below it denotes two typedefs and positions identify the type statements. -/
theorem standing_of_wellformed (env : Env) (hwf : WfReg env.reg) (hlink : Linked env) (root : Mod) (scope : List Stmt)
    (t : Stmt) (hin : InPlace env.reg (root, scope, t)) : Standing env (root, scope, t) :=
  standing_of_wf env hwf hlink (root, scope, t) hin

/-- **The model reports an error iff the specification rejects — for a loaded set**, in terms of
`resolveType reg` (what the driver computes), with decidable hypotheses on the loaded set: `Process`
linked everything (`linkOk`), the set is well-formed (`WfReg`), the reference stands in it
(`InPlace`) in a part of a schema. -/
theorem resolve_errors_iff_loaded (reg : Registry) (hok : linkOk reg = true) (hwf : WfReg reg)
    (root : Mod) (scope : List Stmt) (t : Stmt) (hin : InPlace reg (root, scope, t)) (hsch : PartOfSchema reg root)
    (hkw : t.kw = "type") :
    (resolveType reg root scope t).2 ≠ [] ↔ ¬ ∃ a, Admissible (Env.of reg) root scope t a := by
  have hS := standing_of_wellformed (Env.of reg) hwf (env_of_linked reg hok) root scope t hin
  obtain ⟨hroot, ht, hscope⟩ := inSet_of_inPlace (env := Env.of reg) hin
  have := resolve_errors_iff (Env.of reg) root scope t hS hroot hsch ht hkw hscope (Env.of reg).fuel
    (envOf_fuel reg)
  exact this

/-! ## When the executable specification makes no claim; its budget

`chainOf` answers `ok`, `error` or `noClaim why`.  The theorems of this section say exactly when the
third answer is given with the budget `specFuel reg` the runner uses: never for lack of budget, and
only for a reference below which a `Feature` (Lemmas/TypesSpecFuel.lean) is met: a name that denotes
two typedefs, a typedef without a type statement, malformed enum values / bit positions /
fraction-digits, a member type whose chain restates enum / bit members, member types or
fraction-digits.  `InsideClaim reg site` (Lemmas/TypesSpecClaim.lean): no such feature is met. -/

/-- **Why no claim.**  With the budget `specFuel reg`, for a type statement standing in the loaded set
(no other hypothesis on the set), a `noClaim w` answer of `chainOf` gives one of six reasons — never
`"fuel"` — and the reason names a feature of a type statement met while resolving the reference. -/
theorem spec_noClaim_reason (reg : Registry) (root : Mod) (scope : List Stmt) (t : Stmt)
    (hroot : root ∈ reg.mods) (ht : t ∈ descendants root.stmt) (hkw : t.kw = "type")
    (hscope : ∀ s ∈ scope, s ∈ descendants root.stmt) (w : String)
    (h : chainOf reg (specFuel reg) root scope t [] = .noClaim w) :
    w ∈ ["ambiguous", "typedef-without-type", "enum-values", "bit-positions", "fraction-digits", "restated"] ∧
    ∃ site, UsesStar reg (root, scope, t) site ∧ Feature reg site w := by
  obtain ⟨site, hs, hf⟩ := chainOf_noClaim_reason reg _ root scope t [] w hroot ht hscope hkw (.nil (specFuel_ge reg)) h
  exact ⟨hf.reason, site, hs, hf⟩

/-- **The budget of the executable specification suffices.**  With `specFuel reg` (two more than the
number of `type` statements loaded) neither `chainOf` nor `specResolve` ever answers `noClaim "fuel"`
for a type statement that stands in the loaded set: the type statements in progress are pairwise
different `type` statements of the loaded set, so a derivation either ends within that many steps
or comes back to a statement in progress, which is answered `error` (the cyclic verdict). -/
theorem spec_budget_suffices (reg : Registry) (root : Mod) (scope : List Stmt) (t : Stmt)
    (hroot : root ∈ reg.mods) (ht : t ∈ descendants root.stmt) (hkw : t.kw = "type")
    (hscope : ∀ s ∈ scope, s ∈ descendants root.stmt) :
    chainOf reg (specFuel reg) root scope t [] ≠ .noClaim "fuel" ∧
    specResolve reg (specFuel reg) root scope t [] ≠ .noClaim "fuel" := by
  have h1 : chainOf reg (specFuel reg) root scope t [] ≠ .noClaim "fuel" :=
    chainOf_not_fuel reg _ root scope t [] hroot ht hscope hkw (.nil (specFuel_ge reg))
  refine ⟨h1, ?_⟩
  unfold specResolve
  split
  · intro h; injection h with h; revert h; decide
  · split
    · intro h; injection h with h; revert h; decide
    · intro h
      rcases finish_noClaim h with h | ⟨_, _, _, _, h⟩
      · exact h1 h
      · revert h; decide

/-- **An `ok` answer is inside the claim**: no feature that would have made the answer `noClaim` is
met anywhere below the reference (for every budget and every set of statements in progress). -/
theorem spec_ok_inside_claim (reg : Registry) (hid : SeqId reg) (fuel : Nat) (root : Mod) (scope : List Stmt) (t : Stmt)
    (vis : List Key) (k : String) (ls : List Layer) (hroot : root ∈ reg.mods)
    (h : chainOf reg fuel root scope t vis = .ok k ls) : InsideClaim reg (root, scope, t) :=
  chainOf_ok_no_feature reg hid fuel root scope t vis k ls hroot h

/-- **Exactly when no claim is made.**  With the budget `specFuel reg`, `chainOf` answers `noClaim`
iff it does not answer `error` and a feature outside the claim is met below the reference. -/
theorem chainOf_noClaim_iff (reg : Registry) (hid : SeqId reg) (root : Mod) (scope : List Stmt) (t : Stmt)
    (hroot : root ∈ reg.mods) (ht : t ∈ descendants root.stmt) (hkw : t.kw = "type")
    (hscope : ∀ s ∈ scope, s ∈ descendants root.stmt) :
    (∃ w, chainOf reg (specFuel reg) root scope t [] = .noClaim w) ↔
      chainOf reg (specFuel reg) root scope t [] ≠ .error ∧
      ∃ site w, UsesStar reg (root, scope, t) site ∧ Feature reg site w := by
  constructor
  · rintro ⟨w, h⟩
    refine ⟨(by rw [h]; intro h'; cases h'), ?_⟩
    obtain ⟨_, site, hs, hf⟩ := spec_noClaim_reason reg root scope t hroot ht hkw hscope w h
    exact ⟨site, w, hs, hf⟩
  · rintro ⟨hne, site, w, hs, hf⟩
    cases hc : chainOf reg (specFuel reg) root scope t [] with
    | ok k ls => exact absurd hf (spec_ok_inside_claim reg hid _ root scope t [] k ls hroot hc site w hs)
    | error => exact absurd hc hne
    | noClaim w' => exact ⟨w', rfl⟩

/-- **Exactly when `specResolve` (the verdict the runner applies) makes no claim**, with the budget
`specFuel reg`: an include or import of the loaded set is unresolved; the reference stands in a
submodule nobody includes; or the chain is not answered `error` and a feature outside the claim is
met below the reference, or the reference's own chain restates enum / bit members, member types or
fraction-digits.  Never for lack of budget (`spec_budget_suffices`). -/
theorem specResolve_noClaim_iff (reg : Registry) (hid : SeqId reg) (root : Mod) (scope : List Stmt) (t : Stmt)
    (hroot : root ∈ reg.mods) (ht : t ∈ descendants root.stmt) (hkw : t.kw = "type")
    (hscope : ∀ s ∈ scope, s ∈ descendants root.stmt) :
    (∃ w, specResolve reg (specFuel reg) root scope t [] = .noClaim w) ↔
      wellLinked reg = false ∨ partOfSchema reg root = false ∨
      (chainOf reg (specFuel reg) root scope t [] ≠ .error ∧
        ((∃ site w, UsesStar reg (root, scope, t) site ∧ Feature reg site w) ∨
         ∃ k ls, chainOf reg (specFuel reg) root scope t [] = .ok k ls ∧ chainInClaim ls = false)) := by
  unfold specResolve
  cases hwl : wellLinked reg with
  | false => simp
  | true =>
    cases hps : partOfSchema reg root with
    | false => simp
    | true =>
      simp only [Bool.not_true, Bool.false_eq_true, if_false, Bool.true_eq_false, false_or]
      constructor
      · rintro ⟨w, h⟩
        rcases finish_noClaim h with hc | ⟨k, ls, hc, hcl, _⟩
        · have := (chainOf_noClaim_iff reg hid root scope t hroot ht hkw hscope).mp ⟨w, hc⟩
          exact ⟨this.1, Or.inl this.2⟩
        · exact ⟨(by rw [hc]; intro h'; cases h'), Or.inr ⟨k, ls, hc, hcl⟩⟩
      · rintro ⟨hne, hfeat | ⟨k, ls, hc, hcl⟩⟩
        · obtain ⟨w, hc⟩ := (chainOf_noClaim_iff reg hid root scope t hroot ht hkw hscope).mpr ⟨hne, hfeat⟩
          exact ⟨w, by rw [hc]; rfl⟩
        · exact ⟨"restated", by rw [hc]; simp [finish, hcl]⟩

/-- **Exactly when the type statement is accepted**: `chainOf` answers `ok` iff the type statement has
a finite derivation and is inside the claim.  (No name met on the way denotes two typedefs; type
statements are identified by their position.) -/
theorem chainOf_ok_iff (reg : Registry) (hid : SeqId reg) (root : Mod) (scope : List Stmt) (t : Stmt)
    (hU : UnambiguousBelow reg (root, scope, t)) (hK : KeysIdentify reg (root, scope, t))
    (hroot : root ∈ reg.mods) (ht : t ∈ descendants root.stmt) (hkw : t.kw = "type")
    (hscope : ∀ s ∈ scope, s ∈ descendants root.stmt) :
    (∃ k ls, chainOf reg (specFuel reg) root scope t [] = .ok k ls) ↔
      Resolvable reg root scope t ∧ InsideClaim reg (root, scope, t) := by
  constructor
  · rintro ⟨k, ls, h⟩
    exact ⟨chainOf_resolvable reg (bindType_sound reg) _ root scope t [] k ls h,
      spec_ok_inside_claim reg hid _ root scope t [] k ls hroot h⟩
  · rintro ⟨hres, hcl⟩
    cases hc : chainOf reg (specFuel reg) root scope t [] with
    | ok k ls => exact ⟨k, ls, rfl⟩
    | error => exact absurd hres (spec_exec_error reg hid _ root scope t hroot hU hK hc)
    | noClaim w =>
      obtain ⟨_, site, hs, hf⟩ := spec_noClaim_reason reg root scope t hroot ht hkw hscope w hc
      exact absurd hf (hcl site w hs)

/-- **Exactly when an error is demanded**, inside the claim: `chainOf` answers `error` iff the type
statement has no finite derivation (an unknown name or prefix, or a cyclic definition, below it). -/
theorem chainOf_error_iff (reg : Registry) (hid : SeqId reg) (root : Mod) (scope : List Stmt) (t : Stmt)
    (hU : UnambiguousBelow reg (root, scope, t)) (hK : KeysIdentify reg (root, scope, t))
    (hroot : root ∈ reg.mods) (ht : t ∈ descendants root.stmt) (hkw : t.kw = "type")
    (hscope : ∀ s ∈ scope, s ∈ descendants root.stmt) (hcl : InsideClaim reg (root, scope, t)) :
    chainOf reg (specFuel reg) root scope t [] = .error ↔ ¬ Resolvable reg root scope t := by
  constructor
  · exact spec_exec_error reg hid _ root scope t hroot hU hK
  · intro hno
    cases hc : chainOf reg (specFuel reg) root scope t [] with
    | ok k ls => exact absurd (chainOf_resolvable reg (bindType_sound reg) _ root scope t [] k ls hc) hno
    | error => rfl
    | noClaim w =>
      obtain ⟨_, site, hs, hf⟩ := spec_noClaim_reason reg root scope t hroot ht hkw hscope w hc
      exact absurd hf (hcl site w hs)

/-! ## The main theorems against the executable specification, without `noClaim`

For a reference inside the claim the verdict of the executable specification (budget `specFuel reg`,
what the runner applies to every Go result) is `error` or `ok`, and the model does what the verdict
demands. -/

/-- What a resolved type `y` shows of the type `st` the executable specification computes: base kind,
units, default, path, and the same patterns. -/
def AgreesWith (y : YType) (st : SType) : Prop :=
  y.kind = st.kind ∧ y.units = st.units ∧ y.hasDefault = st.default.isSome ∧ y.default = st.default.getD "" ∧
  y.path = st.path ∧ ∀ p, p ∈ y.pattern ↔ p ∈ st.patterns

/-- **Verdict and model, inside the claim** (for a loaded set: `linkOk`, `WfReg`, `InPlace`,
`PartOfSchema`): either the executable specification demands an error — then the type statement has
no finite derivation and the model reports an error — or it answers `ok k ls` — then the type
statement has a finite derivation, the model raises no binding-level error, and whenever it raises no
error at all the resolved type agrees with `inherit k ls`.  There is no third case. -/
theorem resolve_verdict_inside_claim (reg : Registry) (hok : linkOk reg = true) (hwf : WfReg reg)
    (root : Mod) (scope : List Stmt) (t : Stmt) (hin : InPlace reg (root, scope, t)) (hsch : PartOfSchema reg root)
    (hkw : t.kw = "type") (hcl : InsideClaim reg (root, scope, t)) :
    (chainOf reg (specFuel reg) root scope t [] = .error ∧ ¬ Resolvable reg root scope t ∧
      (resolveType reg root scope t).2 ≠ []) ∨
    (∃ k ls, chainOf reg (specFuel reg) root scope t [] = .ok k ls ∧ Resolvable reg root scope t ∧
      (∀ e ∈ (resolveType reg root scope t).2, ¬ BindErr e ∧ e.cls ≠ "out-of-fuel") ∧
      (∀ y, resolveType reg root scope t = (some y, []) → AgreesWith y (inherit k ls))) := by
  have hS := standing_of_wellformed (Env.of reg) hwf (env_of_linked reg hok) root scope t hin
  obtain ⟨hroot, ht, hscope⟩ := inSet_of_inPlace (env := Env.of reg) hin
  have hid : SeqId reg := hS.seqId
  have hU : UnambiguousBelow reg (root, scope, t) := hS.unamb
  have hK : KeysIdentify reg (root, scope, t) := hS.keys
  have hroot' : root ∈ reg.mods := hroot
  by_cases hres : Resolvable reg root scope t
  · right
    obtain ⟨k, ls, hc⟩ := (chainOf_ok_iff reg hid root scope t hU hK hroot' ht hkw hscope).mpr ⟨hres, hcl⟩
    refine ⟨k, ls, hc, hres, ?_, ?_⟩
    · have := resolve_complete_binding (Env.of reg) root scope t hS hroot hsch ht hkw hscope hres (Env.of reg).fuel
        (envOf_fuel reg)
      exact this
    · intro y hy
      have hy' := (resolveType_ok_iff reg root scope t y).mp hy
      obtain ⟨kind, chain, hder, ⟨i1, i2, i3, i4, i5, i6, _⟩, _⟩ :=
        resolve_chain (Env.of reg) _ root scope t [] y (type_not_scope hkw) hy'
      obtain ⟨chain', hder', hfor⟩ := spec_exec_chain reg _ root scope t [] k ls hc
      obtain ⟨rfl, rfl⟩ := spec_exec_chain_unique reg root scope t kind k chain chain' hU hder hder'
      obtain ⟨j1, j2, j3, j4, j5, _⟩ := spec_exec_inherits reg chain ls hfor kind
      refine ⟨by rw [i1, j1], by rw [i2, j2], by rw [i3, j3], by rw [i4, j3], by rw [i5, j4], ?_⟩
      intro p
      rw [i6, j5]
  · left
    refine ⟨(chainOf_error_iff reg hid root scope t hU hK hroot' ht hkw hscope hcl).mpr hres, hres, ?_⟩
    intro he
    apply hres
    exact resolve_errors (Env.of reg) _ root scope t [] (type_not_scope hkw) he

/-- **Completeness, against the executable specification** (`resolve_complete` restated): inside the
claim, a type statement the specification accepts gets the verdict `ok` (not `noClaim`), is resolved
without error, and the resolved type agrees with what the executable specification computes. -/
theorem resolve_complete_exec (reg : Registry) (hok : linkOk reg = true) (hwf : WfReg reg)
    (root : Mod) (scope : List Stmt) (t : Stmt) (a : Attrs) (hin : InPlace reg (root, scope, t))
    (hsch : PartOfSchema reg root) (hkw : t.kw = "type") (hcl : InsideClaim reg (root, scope, t))
    (hadm : Admissible (Env.of reg) root scope t a) :
    ∃ k ls y, chainOf reg (specFuel reg) root scope t [] = .ok k ls ∧
      resolveType reg root scope t = (some y, []) ∧ attrsOf y = a ∧ AgreesWith y (inherit k ls) := by
  have hS := standing_of_wellformed (Env.of reg) hwf (env_of_linked reg hok) root scope t hin
  obtain ⟨hroot, ht, hscope⟩ := inSet_of_inPlace (env := Env.of reg) hin
  obtain ⟨y, hy, ha⟩ := resolve_complete (Env.of reg) root scope t a hS hroot hsch ht hkw hscope hadm
    (Env.of reg).fuel (envOf_fuel reg)
  have hy' := (resolveType_ok_iff reg root scope t y).mpr hy
  rcases resolve_verdict_inside_claim reg hok hwf root scope t hin hsch hkw hcl with ⟨_, hno, _⟩ | ⟨k, ls, hc, _, _, hag⟩
  · exact absurd (admissible_resolvable hadm) hno
  · exact ⟨k, ls, y, hc, hy', ha, hag y hy'⟩

/-- **The model reports an error iff the executable specification demands one or a restriction
fails** (`resolve_errors_iff` restated, inside the claim): the verdict `noClaim` does not occur. -/
theorem resolve_errors_iff_exec (reg : Registry) (hok : linkOk reg = true) (hwf : WfReg reg)
    (root : Mod) (scope : List Stmt) (t : Stmt) (hin : InPlace reg (root, scope, t)) (hsch : PartOfSchema reg root)
    (hkw : t.kw = "type") (hcl : InsideClaim reg (root, scope, t)) :
    (resolveType reg root scope t).2 ≠ [] ↔
      chainOf reg (specFuel reg) root scope t [] = .error ∨
      ((∃ k ls, chainOf reg (specFuel reg) root scope t [] = .ok k ls) ∧
        ¬ ∃ a, Admissible (Env.of reg) root scope t a) := by
  have hiff := resolve_errors_iff_loaded reg hok hwf root scope t hin hsch hkw
  constructor
  · intro hne
    have hno := hiff.mp hne
    rcases resolve_verdict_inside_claim reg hok hwf root scope t hin hsch hkw hcl with ⟨hc, _, _⟩ | ⟨k, ls, hc, _, _, _⟩
    · exact Or.inl hc
    · exact Or.inr ⟨⟨k, ls, hc⟩, hno⟩
  · rintro (hc | ⟨_, hno⟩)
    · rcases resolve_verdict_inside_claim reg hok hwf root scope t hin hsch hkw hcl with ⟨_, _, hne⟩ | ⟨k, ls, hc', _, _, _⟩
      · exact hne
      · rw [hc] at hc'; cases hc'
    · exact hiff.mpr hno

/-! ## One side condition tied to its sub-model's specification: enum / bit members (C14)

`Inherits` says which statement's members the resolved type carries, as the table `enumFold` builds.
Through property C14 (`Goyang.Props.C14.text_fold`, used by Lemmas/TypesEnumRfc.lean) that table is
the RFC 7950 assignment (`Spec.Enum.assign` / `table`: an explicit value is kept, a member without a
value gets 0 if it is the first and else one more than the highest value so far). -/

/-- **A resolved enumeration carries the RFC values.**  An error-free resolution went along a
derivation chain; if the nearest type statement of that chain that lists `enum` members lists the
members `ms` (names, and values written as integer literals without superfluous zeros), the resolved
type has an enum table, the RFC assignment accepts `ms`, and the table holds exactly the RFC values. -/
theorem resolve_enum_rfc (env : Env) (fuel : Nat) (root : Mod) (scope : List Stmt) (t : Stmt)
    (stack : List TypeKey) (y : YType) (ht : scopeKinds.contains t.kw = false)
    (h : resolveTypeF env fuel root scope t stack = { ty := some y, errs := [] }) :
    ∃ kind chain, DerivesFrom env.reg root scope t kind chain ∧
      ∀ es, chainEnums chain = some es →
        ∀ ms : List (Goyang.Spec.Enum.Name × Option Goyang.Spec.Number.Lit),
          (∀ p ∈ ms, ∀ l, p.2 = some l → Goyang.Lemmas.Enum.LitForm l) →
          es.map (fun e => (bytesOf e.arg, (e.argOf? "value").map bytesOf))
            = ms.map (fun p => (p.1, p.2.map Goyang.Spec.Number.Lit.render)) →
          ∃ tab, y.enum = some tab ∧
            Goyang.Spec.Enum.assign .enumeration (ms.map fun p => (p.1, p.2.map Goyang.Spec.Number.Lit.num))
              = some (Goyang.Spec.Enum.table (ms.map fun p => (p.1, p.2.map Goyang.Spec.Number.Lit.num))) ∧
            tab.toInt = (Goyang.Spec.Enum.table (ms.map fun p => (p.1, p.2.map Goyang.Spec.Number.Lit.num))).reverse := by
  obtain ⟨kind, chain, hder, hen, _, hE, _⟩ :=
    Goyang.Lemmas.TypesEnumRfc.resolve_chain_folds env fuel root scope t stack y ht h
  refine ⟨kind, chain, hder, ?_⟩
  intro es hes ms hform hwritten
  obtain ⟨h1, h2⟩ := Goyang.Lemmas.TypesEnumRfc.enumFold_rfc .enumeration "value" es ms hform hwritten (hE es hes)
  exact ⟨_, by rw [hen, hes]; rfl, h1, h2⟩

/-- **… and a resolved bits type the RFC positions** (the same for `bit` members and `position`). -/
theorem resolve_bits_rfc (env : Env) (fuel : Nat) (root : Mod) (scope : List Stmt) (t : Stmt)
    (stack : List TypeKey) (y : YType) (ht : scopeKinds.contains t.kw = false)
    (h : resolveTypeF env fuel root scope t stack = { ty := some y, errs := [] }) :
    ∃ kind chain, DerivesFrom env.reg root scope t kind chain ∧
      ∀ bs, chainBits chain = some bs →
        ∀ ms : List (Goyang.Spec.Enum.Name × Option Goyang.Spec.Number.Lit),
          (∀ p ∈ ms, ∀ l, p.2 = some l → Goyang.Lemmas.Enum.LitForm l) →
          bs.map (fun e => (bytesOf e.arg, (e.argOf? "position").map bytesOf))
            = ms.map (fun p => (p.1, p.2.map Goyang.Spec.Number.Lit.render)) →
          ∃ tab, y.bit = some tab ∧
            Goyang.Spec.Enum.assign .bits (ms.map fun p => (p.1, p.2.map Goyang.Spec.Number.Lit.num))
              = some (Goyang.Spec.Enum.table (ms.map fun p => (p.1, p.2.map Goyang.Spec.Number.Lit.num))) ∧
            tab.toInt = (Goyang.Spec.Enum.table (ms.map fun p => (p.1, p.2.map Goyang.Spec.Number.Lit.num))).reverse := by
  obtain ⟨kind, chain, hder, _, hbi, _, hB⟩ :=
    Goyang.Lemmas.TypesEnumRfc.resolve_chain_folds env fuel root scope t stack y ht h
  refine ⟨kind, chain, hder, ?_⟩
  intro bs hbs ms hform hwritten
  obtain ⟨h1, h2⟩ := Goyang.Lemmas.TypesEnumRfc.enumFold_rfc .bits "position" bs ms hform hwritten (hB bs hbs)
  exact ⟨_, by rw [hbi, hbs]; rfl, h1, h2⟩

/-- **A resolved decimal64 carries the written fraction-digits, and they lie in 1 … 18** (the
fraction-digits side condition tied to C15's reading of integer arguments, `asRangeInt_exact`): in an
error-free resolution, if the nearest type statement of the chain that states fraction-digits writes
them as the integer literal `l` (digits, no superfluous leading zeros), then `1 ≤ l.num ≤ 18` and the
resolved type has exactly `l.num` fraction digits. -/
theorem resolve_fd_rfc (env : Env) (fuel : Nat) (root : Mod) (scope : List Stmt) (t : Stmt)
    (stack : List TypeKey) (y : YType) (ht : scopeKinds.contains t.kw = false)
    (h : resolveTypeF env fuel root scope t stack = { ty := some y, errs := [] }) :
    ∃ kind chain, DerivesFrom env.reg root scope t kind chain ∧
      ∀ f, chainFractionDigits chain = some f →
        ∀ l : Goyang.Spec.Number.Lit, l.digitsOK → l.ip ≠ [] → l.fp = none → l.noLeadingZero →
          bytesOf f.arg = l.render →
          1 ≤ l.num ∧ l.num ≤ 18 ∧ (y.fractionDigits : Int) = l.num := by
  obtain ⟨kind, chain, hder, _, hF⟩ := Goyang.Lemmas.TypesFdRfc.resolve_chain_fd env fuel root scope t stack y ht h
  refine ⟨kind, chain, hder, ?_⟩
  intro f hf l hd hip hfp hz hw
  obtain ⟨i, hi, hy⟩ := hF f hf
  obtain ⟨h1, h2, h3⟩ := Goyang.Lemmas.TypesFdRfc.fd_written hd hip hfp hz hw hi
  subst h1
  refine ⟨h2, h3, ?_⟩
  rw [hy]
  omega

/-! ## `linkOk` / `PartOfSchema` against the executable `wellLinked` / `partOfSchema`

`specResolve` makes no claim when `wellLinked reg = false` or `partOfSchema reg root = false`; the
main theorems are stated with the model-side `linkOk reg` and `PartOfSchema reg root`.  For a
registry produced by loading (`TablesOK`, Lemmas/BridgeRegistry.lean: sequence numbers are positions
and every entry of `ms.Modules` / `ms.SubModules` is a loaded module of that kind — the invariant
"`modules` entries are non-submodules") the second follows; the first follows exactly up to
(sub)modules that belong to no schema, which `Modules.Process` never visits. -/

/-- Loading produces registries that satisfy the table invariant (one statement per load … -/
theorem loaded_tables_ok (loads : List Stmt) : Goyang.Lemmas.Bridge.TablesOK (Registry.loadAll loads).1 :=
  Goyang.Lemmas.TypesPartOf.tablesOK_loadAll loads

/-- … or whole texts, each accepted or refused atomically). -/
theorem loaded_texts_tables_ok (texts : List (List Stmt)) : Goyang.Lemmas.Bridge.TablesOK (Registry.loadTexts texts).1 :=
  Goyang.Lemmas.TypesPartOf.tablesOK_loadTexts texts

/-- **The registry invariant**: in a registry produced by loading every entry of `ms.Modules` is a
loaded module that is not a submodule. -/
theorem modules_entries_nonsub (reg : Registry) (h : Goyang.Lemmas.Bridge.TablesOK reg) :
    ∀ top ∈ Identity.moduleEntries reg, top ∈ reg.mods ∧ top.isSub = false :=
  Goyang.Lemmas.TypesPartOf.moduleEntries_nonSub h

/-- `PartOfSchema` implies the Bool check `partOfSchema` of the executable specification, for loaded registries. -/
theorem partOfSchema_of_PartOfSchema (reg : Registry) (h : Goyang.Lemmas.Bridge.TablesOK reg) (root : Mod)
    (hp : PartOfSchema reg root) : partOfSchema reg root = true :=
  Goyang.Lemmas.TypesPartOf.partOfSchema_of_PartOfSchema h hp

/-- When `Modules.Process` linked everything without error, every include and import statement of
every part of a schema names a loaded (sub)module. -/
theorem linkOk_resolved (reg : Registry) (hok : linkOk reg = true) :
    ∀ m ∈ reg.mods, PartOfSchema reg m →
      (m.includes.all fun i => (reg.findModule true i).isSome) = true ∧
      (m.imports.all fun i => (reg.findModule false i).isSome) = true :=
  Goyang.Lemmas.TypesWellLinked.linkOk_resolved reg hok

/-- `linkOk` implies the Bool check `wellLinked` of the executable specification when every loaded
(sub)module is part of a schema … -/
theorem wellLinked_of_linkOk (reg : Registry) (hok : linkOk reg = true)
    (hall : ∀ m ∈ reg.mods, PartOfSchema reg m) : wellLinked reg = true :=
  Goyang.Lemmas.TypesWellLinked.wellLinked_of_linkOk reg hok hall

/-- … and in general exactly when the (sub)modules that are part of no schema have no dangling
include or import either. -/
theorem wellLinked_iff_of_linkOk (reg : Registry) (hok : linkOk reg = true) :
    wellLinked reg = true ↔
      ∀ m ∈ reg.mods, ¬ PartOfSchema reg m →
        (m.includes.all fun i => (reg.findModule true i).isSome) = true ∧
        (m.imports.all fun i => (reg.findModule false i).isSome) = true :=
  Goyang.Lemmas.TypesWellLinked.wellLinked_iff_of_linkOk reg hok

/-- The unrestricted implication is FALSE, also for registries produced by loading: a submodule that
nobody includes is never visited by `Modules.Process` (no error is reported for its unresolved import —
replayed on the Go code), while `wellLinked` looks at every loaded (sub)module. -/
theorem wellLinked_of_linkOk_fails :
    ¬ ∀ reg : Registry, Goyang.Lemmas.Bridge.TablesOK reg → linkOk reg = true → wellLinked reg = true := by
  intro h
  have hT : Goyang.Lemmas.Bridge.TablesOK Goyang.Lemmas.TypesWellLinked.Ex.regW := by
    refine ⟨?_, ?_⟩
    · intro i hi
      have hi' : i < 2 := hi
      match i, hi' with
      | 0, _ => rfl
      | 1, _ => rfl
    · intro sub kv hkv
      cases sub with
      | false =>
        have hkv' : kv ∈ [("m", 0)] := hkv
        rw [List.mem_singleton] at hkv'
        subst hkv'
        exact ⟨⟨0, Goyang.Lemmas.TypesWellLinked.Ex.m⟩, List.Mem.head _, rfl, rfl⟩
      | true =>
        have hkv' : kv ∈ [("s", 1)] := hkv
        rw [List.mem_singleton] at hkv'
        subst hkv'
        exact ⟨⟨1, Goyang.Lemmas.TypesWellLinked.Ex.s⟩, List.Mem.tail _ (List.Mem.head _), rfl, rfl⟩
  have := h _ hT Goyang.Lemmas.TypesWellLinked.Ex.linkOk_regW
  rw [Goyang.Lemmas.TypesWellLinked.Ex.wellLinked_regW] at this
  cases this

/-- **Exactly when `specResolve` makes no claim, for a loaded registry** (`TablesOK`, `linkOk`) and a
reference in a part of a schema: the cases `wellLinked reg = false` / `partOfSchema reg root = false`
of `specResolve_noClaim_iff` reduce to "some (sub)module that is part of no schema has a dangling
include or import"; the hypothesis `SeqId` follows from `TablesOK`. -/
theorem specResolve_noClaim_iff_loaded (reg : Registry) (hT : Goyang.Lemmas.Bridge.TablesOK reg) (hok : linkOk reg = true)
    (root : Mod) (scope : List Stmt) (t : Stmt)
    (hroot : root ∈ reg.mods) (hsch : PartOfSchema reg root) (ht : t ∈ descendants root.stmt) (hkw : t.kw = "type")
    (hscope : ∀ s ∈ scope, s ∈ descendants root.stmt) :
    (∃ w, specResolve reg (specFuel reg) root scope t [] = .noClaim w) ↔
      (∃ m ∈ reg.mods, ¬ PartOfSchema reg m ∧
        ¬ ((m.includes.all fun i => (reg.findModule true i).isSome) = true ∧
           (m.imports.all fun i => (reg.findModule false i).isSome) = true)) ∨
      (chainOf reg (specFuel reg) root scope t [] ≠ .error ∧
        ((∃ site w, UsesStar reg (root, scope, t) site ∧ Feature reg site w) ∨
         ∃ k ls, chainOf reg (specFuel reg) root scope t [] = .ok k ls ∧ chainInClaim ls = false)) := by
  have hid : SeqId reg := Goyang.Lemmas.TypesPartOf.seqId_of_tablesOK hT
  have hp : partOfSchema reg root = true := partOfSchema_of_PartOfSchema reg hT root hsch
  rw [specResolve_noClaim_iff reg hid root scope t hroot ht hkw hscope]
  constructor
  · rintro (hw | hp' | hc)
    · left
      apply Classical.byContradiction
      intro hne
      have : wellLinked reg = true := (wellLinked_iff_of_linkOk reg hok).mpr (fun m hm hnp =>
        Classical.byContradiction fun hx => hne ⟨m, hm, hnp, hx⟩)
      rw [this] at hw
      cases hw
    · rw [hp] at hp'; cases hp'
    · exact Or.inr hc
  · rintro (⟨m, hm, hnp, hx⟩ | hc)
    · left
      cases hw : wellLinked reg with
      | false => rfl
      | true => exact absurd ((wellLinked_iff_of_linkOk reg hok).mp hw m hm hnp) hx
    · exact Or.inr (Or.inr hc)

/-! ## The executable specification's reading of enum values is the RFC 7950 assignment; full agreement

`assignValues` (Spec/Types.lean) folds over the members; `Spec.Enum.assign` / `table` (property C14)
is the declarative RFC assignment.  With the members read as integers (`readMembers`,
Lemmas/TypesAssignDefs.lean: name and `parseIntLit` of the `value` / `position` argument) the two
coincide, up to the uniqueness of enum values, which the executable specification checks separately
(`chainInClaim`).  Through this tie, property C14 (`text_fold`) and C15 (`asRangeInt_exact`), the enum
table, bit table and fraction-digits of an error-free resolution are those of `inherit k ls` —
`AgreesWithFull` — whenever the integer arguments on the chain are canonically written (`CanonInt`:
optional `-`, digits, no superfluous leading zero; Lemmas/TypesStrBridge.lean).  Outside that form the
two readings differ: `noncanonical_value_disagrees`. -/

open Goyang.Lemmas.TypesAssign in
/-- **`assignValues` is the RFC table**: when it answers `tab`, the members were readable as integers
`ms`, and `tab` (names as bytes) is `Spec.Enum.table ms`, names pairwise different, values in range. -/
theorem assignValues_table (kw : String) (lo hi : Int) (es : List Stmt) (tab : List (String × Int))
    (h : assignValues kw lo hi es = some tab) :
    ∃ ms, readMembers kw es = some ms ∧
      toB tab = Goyang.Spec.Enum.table (ms.map fun p => (bytesOf p.1, p.2)) ∧
      (tab.map (·.1)).Nodup ∧ ∀ p ∈ tab, lo ≤ p.2 ∧ p.2 ≤ hi := by
  obtain ⟨ms, hr, ht, hn, hrg⟩ := assignValues_some h
  subst ht
  exact ⟨ms, hr, toB_tableS ms, hn, hrg⟩

open Goyang.Lemmas.TypesAssign in
/-- **Bit positions**: `assignValues` is exactly `Spec.Enum.assign .bits` of the members read. -/
theorem assignValues_eq_assign_bits (kw : String) (es : List Stmt) :
    (assignValues kw 0 4294967295 es).map toB
      = (readMembers kw es).bind fun ms => Goyang.Spec.Enum.assign .bits (ms.map fun p => (bytesOf p.1, p.2)) :=
  Goyang.Lemmas.TypesAssign.assignValues_eq_assign_bits (fun _ _ h => Goyang.Lemmas.TypesStrBridge.bytesOf_inj h) kw es

open Goyang.Lemmas.TypesAssign in
/-- **Enum values**: `assignValues` answers with pairwise different values exactly what
`Spec.Enum.assign .enumeration` answers (it does not itself check that values are pairwise different:
`chainInClaim` does). -/
theorem assignValues_eq_assign_enum (kw : String) (es : List Stmt) :
    ((assignValues kw (-2147483648) 2147483647 es).filter fun tab => decide ((tab.map (·.2)).Nodup)).map toB
      = (readMembers kw es).bind fun ms => Goyang.Spec.Enum.assign .enumeration (ms.map fun p => (bytesOf p.1, p.2)) :=
  Goyang.Lemmas.TypesAssign.assignValues_eq_assign_enum (fun _ _ h => Goyang.Lemmas.TypesStrBridge.bytesOf_inj h) kw es

open Goyang.Lemmas.TypesAssign in
/-- `AgreesWith`, and the same enum table, bit table (the model lists the members last first, names as
bytes) and fraction-digits. -/
def AgreesWithFull (y : YType) (st : SType) : Prop :=
  AgreesWith y st ∧
  y.enum.map (·.toInt) = st.enum.map (fun tab => (toB tab).reverse) ∧
  y.bit.map (·.toInt) = st.bit.map (fun tab => (toB tab).reverse) ∧
  y.fractionDigits = st.fd

open Goyang.Lemmas.TypesAgreeFull in
/-- **Verdict and model, inside the claim, all attributes** (`resolve_verdict_inside_claim` extended):
when the integer arguments of the derivation chain are canonically written, an error-free resolution
agrees with `inherit k ls` also in the enum table, the bit table and the fraction-digits, nearest
definition winning along the chain. -/
theorem resolve_verdict_inside_claim_full (reg : Registry) (hok : linkOk reg = true) (hwf : WfReg reg)
    (root : Mod) (scope : List Stmt) (t : Stmt) (hin : InPlace reg (root, scope, t)) (hsch : PartOfSchema reg root)
    (hkw : t.kw = "type") (hcl : InsideClaim reg (root, scope, t))
    (hcanon : ∀ kind chain, DerivesFrom reg root scope t kind chain → CanonArgs chain) :
    (chainOf reg (specFuel reg) root scope t [] = .error ∧ ¬ Resolvable reg root scope t ∧
      (resolveType reg root scope t).2 ≠ []) ∨
    (∃ k ls, chainOf reg (specFuel reg) root scope t [] = .ok k ls ∧ Resolvable reg root scope t ∧
      (∀ e ∈ (resolveType reg root scope t).2, ¬ BindErr e ∧ e.cls ≠ "out-of-fuel") ∧
      (∀ y, resolveType reg root scope t = (some y, []) → AgreesWithFull y (inherit k ls))) := by
  rcases resolve_verdict_inside_claim reg hok hwf root scope t hin hsch hkw hcl with h | ⟨k, ls, hc, hres, hnb, hag⟩
  · exact Or.inl h
  · right
    refine ⟨k, ls, hc, hres, hnb, ?_⟩
    intro y hy
    have hS := standing_of_wellformed (Env.of reg) hwf (env_of_linked reg hok) root scope t hin
    have hU : UnambiguousBelow reg (root, scope, t) := hS.unamb
    have hy0 := hy
    have hy' := (resolveType_ok_iff reg root scope t y).mp hy
    obtain ⟨chain', hder', hfor⟩ := spec_exec_chain reg _ root scope t [] k ls hc
    obtain ⟨k1, c1, hd1, hen, hbi, hE, hB⟩ :=
      Goyang.Lemmas.TypesEnumRfc.resolve_chain_folds (Env.of reg) _ root scope t [] y (type_not_scope hkw) hy'
    obtain ⟨k2, c2, hd2, hfd, hF⟩ :=
      Goyang.Lemmas.TypesFdRfc.resolve_chain_fd (Env.of reg) _ root scope t [] y (type_not_scope hkw) hy'
    obtain ⟨_, e1⟩ := spec_exec_chain_unique reg root scope t k1 k c1 chain' hU hd1 hder'
    obtain ⟨_, e2⟩ := spec_exec_chain_unique reg root scope t k2 k c2 chain' hU hd2 hder'
    subst e1 e2
    have hc' := hcanon k _ hder'
    exact ⟨hag y hy0, enum_agree k hfor hc' hen hE, bit_agree k hfor hc' hbi hB, fd_agree k hfor hc' hfd hF⟩

open Goyang.Lemmas.TypesAgreeFull in
/-- **Completeness against the executable specification, all attributes** (`resolve_complete_exec`
extended): what the specification accepts is resolved without error to a type that agrees with
`inherit k ls` also in enum table, bit table and fraction-digits. -/
theorem resolve_complete_exec_full (reg : Registry) (hok : linkOk reg = true) (hwf : WfReg reg)
    (root : Mod) (scope : List Stmt) (t : Stmt) (a : Attrs) (hin : InPlace reg (root, scope, t))
    (hsch : PartOfSchema reg root) (hkw : t.kw = "type") (hcl : InsideClaim reg (root, scope, t))
    (hcanon : ∀ kind chain, DerivesFrom reg root scope t kind chain → CanonArgs chain)
    (hadm : Admissible (Env.of reg) root scope t a) :
    ∃ k ls y, chainOf reg (specFuel reg) root scope t [] = .ok k ls ∧
      resolveType reg root scope t = (some y, []) ∧ attrsOf y = a ∧ AgreesWithFull y (inherit k ls) := by
  obtain ⟨k, ls, y, hc, hy, ha, _⟩ := resolve_complete_exec reg hok hwf root scope t a hin hsch hkw hcl hadm
  rcases resolve_verdict_inside_claim_full reg hok hwf root scope t hin hsch hkw hcl hcanon with
    ⟨he, _, _⟩ | ⟨k', ls', hc', _, _, hag⟩
  · rw [hc] at he; cases he
  · rw [hc] at hc'
    cases hc'
    exact ⟨k, ls, y, hc, hy, ha, hag y hy⟩

/-- **A registry-level sufficient condition** for the hypothesis of `resolve_verdict_inside_claim_full`:
when every `value` / `position` / `fraction-digits` argument of the loaded set is canonically written
(`CanonReg`), every derivation chain of a reference that stands in the set has canonical arguments (the
statements of a chain stand in the loaded set). -/
theorem canonArgs_of_canonReg (reg : Registry) (hc : Goyang.Lemmas.TypesAgreeFull.CanonReg reg)
    (root : Mod) (scope : List Stmt) (t : Stmt) (hin : InPlace reg (root, scope, t)) :
    ∀ kind chain, DerivesFrom reg root scope t kind chain → Goyang.Lemmas.TypesAgreeFull.CanonArgs chain := by
  intro kind chain h
  obtain ⟨hroot, ht, hscope⟩ := inSet_of_inPlace (env := Env.of reg) hin
  exact Goyang.Lemmas.TypesAgreeFull.canonArgs_of_canonReg hc hroot ht hscope h

/-! ## The range / length side condition tied to property C10's specification

`Inherits` / `AgreesWith` do not speak about `range` and `length`: their meaning is the subject of
property C10 (`Goyang.Props.C10.StepOk`: an accepted restriction denotes exactly the set written, `min` /
`max` being the bounds of the set before it, is sorted, disjoint and coalesced, and lies within the set
before it).  Lemmas/TypesRangeRfc.lean follows the resolution along the derivation chain. -/

/-- **The range of an error-free resolution denotes the written sets, narrowing along the chain.**  An
error-free resolution went along a derivation chain ending in the built-in `kind`; if `kind` is numeric
(`BaseOf`: the eight integer types at scale `(false, 0)` with their built-in ranges; decimal64 at
`(true, f)`, `f` the fraction-digits of the resolved type, from `decimalBase f`) then the range of the
resolved type is reached from the built-in range by the `range` statements of the chain's type
statements, farthest first, each an accepted step in the sense of C10 (`RangeSteps` of `StepOk`), and is
again a legitimate non-empty parent. -/
theorem resolve_range_denotes (env : Env) (fuel : Nat) (root : Mod) (scope : List Stmt) (t : Stmt)
    (stack : List TypeKey) (y : YType) (ht : scopeKinds.contains t.kw = false)
    (h : resolveTypeF env fuel root scope t stack = { ty := some y, errs := [] }) :
    ∃ kind chain, DerivesFrom env.reg root scope t kind chain ∧ y.kind = kind ∧
      ∀ dec f base, Goyang.Lemmas.TypesRangeRfc.BaseOf kind y.fractionDigits dec f base →
        Goyang.Props.C10.IsBase dec f base ∧
        Goyang.Lemmas.TypesRangeRfc.RangeSteps dec f base (Goyang.Lemmas.TypesRangeRfc.chainRanges chain).reverse y.range ∧
        Goyang.Lemmas.Range.ParentOk f y.range ∧ y.range ≠ [] :=
  Goyang.Lemmas.TypesRangeRfc.resolve_chain_range env fuel root scope t stack y ht h

/-- … hence it denotes a subset of the built-in range of its kind. -/
theorem resolve_range_within_base (env : Env) (fuel : Nat) (root : Mod) (scope : List Stmt) (t : Stmt)
    (stack : List TypeKey) (y : YType) (ht : scopeKinds.contains t.kw = false)
    (h : resolveTypeF env fuel root scope t stack = { ty := some y, errs := [] })
    (dec : Bool) (f : Nat) (base : Goyang.Model.Range.YangRange)
    (hb : Goyang.Lemmas.TypesRangeRfc.BaseOf y.kind y.fractionDigits dec f base) :
    Goyang.Spec.Range.Within (Goyang.Lemmas.Range.abs y.range) (Goyang.Lemmas.Range.abs base) :=
  Goyang.Lemmas.TypesRangeRfc.resolve_range_within_base env fuel root scope t stack y ht h dec f base hb

/-- **… and the same for `length`**, whatever the kind: the length of the resolved type is reached from
`0..2^64-1` by the `length` statements of the chain (each an accepted step in the sense of C10); it is
empty exactly when the chain states no length. -/
theorem resolve_length_denotes (env : Env) (fuel : Nat) (root : Mod) (scope : List Stmt) (t : Stmt)
    (stack : List TypeKey) (y : YType) (ht : scopeKinds.contains t.kw = false)
    (h : resolveTypeF env fuel root scope t stack = { ty := some y, errs := [] }) :
    ∃ kind chain, DerivesFrom env.reg root scope t kind chain ∧
      Goyang.Lemmas.TypesRangeRfc.RangeSteps false 0 Goyang.Model.Range.uint64Range
        (Goyang.Lemmas.TypesRangeRfc.chainLengths chain).reverse
        (if y.length.isEmpty then Goyang.Model.Range.uint64Range else y.length) ∧
      Goyang.Lemmas.Range.ParentOk 0 y.length ∧ (y.length = [] ↔ Goyang.Lemmas.TypesRangeRfc.chainLengths chain = []) :=
  Goyang.Lemmas.TypesRangeRfc.resolve_chain_length env fuel root scope t stack y ht h

/-! ## Non-vacuity: concrete schemas on which the hypotheses of the theorems hold

The environments are written out (registry, include links) instead of being computed by `Env.of`,
so that the kernel can evaluate the examples; the theorems hold for every environment. -/
namespace Ex
/-- statement in file `f` -/
def S (f kw arg : String) (l c : Nat) (subs : List Stmt) : Stmt := Stmt.mk kw true arg f l c subs

/-! Shadowing at three scopes: module, container, list all declare `t`. -/
def ty : Stmt := S "m.yang" "type" "t" 5 20 []
def leaf : Stmt := S "m.yang" "leaf" "x" 5 10 [ty]
def tdL : Stmt := S "m.yang" "typedef" "t" 4 10 [S "m.yang" "type" "int32" 4 20 []]
def lst : Stmt := S "m.yang" "list" "l" 4 5 [tdL, leaf]
def tdC : Stmt := S "m.yang" "typedef" "t" 3 10 [S "m.yang" "type" "int16" 3 20 []]
def tyC : Stmt := S "m.yang" "type" "p:t" 3 60 []
def leafC : Stmt := S "m.yang" "leaf" "y" 3 50 [tyC]
def con : Stmt := S "m.yang" "container" "c" 3 1 [tdC, leafC, lst]
def tdM : Stmt := S "m.yang" "typedef" "t" 2 10 [S "m.yang" "type" "int8" 2 20 []]
def tyM : Stmt := S "m.yang" "type" "t" 6 20 []
def leafM : Stmt := S "m.yang" "leaf" "z" 6 10 [tyM]
def m : Stmt := S "m.yang" "module" "m" 1 1 [S "m.yang" "prefix" "p" 1 10 [], tdM, con, leafM]
def mM : Mod := ⟨0, m⟩
def env : Env := { reg := { mods := [mM], modules := [("m", 0)] }, link := {}, dict := [], fuel := 10 }

example : (match lookup env mM [leaf, lst, con, m] ty with
    | .typedef _ r => r.td.line == 4 && r.scope.map (·.line) == [4, 3, 1] | _ => false) = true := by decide +kernel
example : (match lookup env mM [leafC, con, m] tyC with
    | .typedef _ r => r.td.line == 3 && r.scope.map (·.line) == [3, 1] | _ => false) = true := by decide +kernel
example : (match lookup env mM [leafM, m] tyM with
    | .typedef _ r => r.td.line == 2 && r.scope.map (·.line) == [1] | _ => false) = true := by decide +kernel
example : (resolveTypeF env 10 mM [leaf, lst, con, m] ty []).errs = [] ∧
    ((resolveTypeF env 10 mM [leaf, lst, con, m] ty []).ty.map (·.kind)) = some "int32" := by decide +kernel

/-! A chain of depth 3 across an import (`a` imports `b` as `q`; `b` includes submodule `bs`). -/
def t1 : Stmt := S "bs.yang" "typedef" "t1" 2 1
  [S "bs.yang" "type" "string" 2 10 [S "bs.yang" "pattern" "p1" 2 20 []], S "bs.yang" "units" "u1" 2 30 [], S "bs.yang" "default" "d1" 2 40 []]
def bs : Stmt := S "bs.yang" "submodule" "bs" 1 1 [S "bs.yang" "belongs-to" "b" 1 10 [S "bs.yang" "prefix" "pb" 1 20 []], t1]
def t2 : Stmt := S "b.yang" "typedef" "t2" 3 1
  [S "b.yang" "type" "t1" 3 10 [S "b.yang" "pattern" "p2" 3 20 []], S "b.yang" "default" "d2" 3 40 []]
def b : Stmt := S "b.yang" "module" "b" 1 1 [S "b.yang" "prefix" "pb" 1 10 [], S "b.yang" "include" "bs" 2 1 [], t2]
def t3 : Stmt := S "a.yang" "typedef" "t3" 3 1 [S "a.yang" "type" "q:t2" 3 10 [S "a.yang" "pattern" "p3" 3 20 []]]
def tyA : Stmt := S "a.yang" "type" "t3" 4 10 [S "a.yang" "pattern" "p1" 4 20 []]
def leafA : Stmt := S "a.yang" "leaf" "l" 4 1 [tyA]
def a : Stmt := S "a.yang" "module" "a" 1 1
  [S "a.yang" "prefix" "pa" 1 10 [], S "a.yang" "import" "b" 2 1 [S "a.yang" "prefix" "q" 2 10 []], t3, leafA]
def mA : Mod := ⟨0, a⟩
def env2 : Env :=
  { reg := { mods := [mA, ⟨1, b⟩, ⟨2, bs⟩], modules := [("a", 0), ("b", 1)], subModules := [("bs", 2)] },
    link := { visited := [0, 1, 2], linked := [(1, 0)] }, dict := [], fuel := 10 }

example : (resolveTypeF env2 10 mA [leafA, a] tyA []).errs = [] := by decide +kernel
example : (match (resolveTypeF env2 10 mA [leafA, a] tyA []).ty with
    | some y => y.kind == "string" && y.name == "t3" && y.units == "u1" && y.hasDefault && y.default == "d2" &&
        y.pattern == ["p1", "p2", "p3"]
    | none => false) = true := by decide +kernel

/-! Unknown names, unknown prefixes and cyclic definitions are errors. -/
def cyA : Stmt := S "c.yang" "typedef" "a" 2 1 [S "c.yang" "type" "b" 2 10 []]
def cyB : Stmt := S "c.yang" "typedef" "b" 3 1 [S "c.yang" "type" "union" 3 10 [S "c.yang" "type" "string" 3 20 [], S "c.yang" "type" "a" 3 30 []]]
def tyCy : Stmt := S "c.yang" "type" "a" 4 10 []
def tyUn : Stmt := S "c.yang" "type" "nosuch" 5 10 []
def tyPf : Stmt := S "c.yang" "type" "zz:a" 6 10 []
def c : Stmt := S "c.yang" "module" "c" 1 1 [S "c.yang" "prefix" "pc" 1 10 [], cyA, cyB,
  S "c.yang" "leaf" "l1" 4 1 [tyCy], S "c.yang" "leaf" "l2" 5 1 [tyUn], S "c.yang" "leaf" "l3" 6 1 [tyPf]]
def mC : Mod := ⟨0, c⟩
def env3 : Env := { reg := { mods := [mC], modules := [("c", 0)] }, link := {}, dict := [], fuel := 10 }
example : ((resolveTypeF env3 10 mC [S "c.yang" "leaf" "l1" 4 1 [tyCy], c] tyCy []).errs.map (·.cls)) = ["cycle"] := by decide +kernel
example : ((resolveTypeF env3 10 mC [S "c.yang" "leaf" "l2" 5 1 [tyUn], c] tyUn []).errs.map (·.cls)) = ["unknown-type"] := by decide +kernel
example : ((resolveTypeF env3 10 mC [S "c.yang" "leaf" "l3" 6 1 [tyPf], c] tyPf []).errs.map (·.cls)) = ["unknown-prefix"] := by decide +kernel
/-! ### Completeness on the shadowing example: `type t` in the list binds to the list's typedef

The standing hypotheses are discharged through the executable binding (`bindType … = …` by kernel
evaluation, then `unambiguousAt_of_bind`, `uses_of_bind`): the sites below the reference are the
reference itself (`s0`) and the type statement of the list's typedef (`s1`). -/
def tyL : Stmt := S "m.yang" "type" "int32" 4 20 []
def s0 : Site := (mM, [leaf, lst, con, m], ty)
def s1 : Site := (mM, [tdL, lst, con, m], tyL)

theorem seqId_env : SeqId env.reg := seqId_single rfl

theorem mM_mem : mM ∈ env.reg.mods := List.mem_singleton.mpr rfl
theorem mM_sch : PartOfSchema env.reg mM := partOfSchema_single rfl

theorem bind0 : bindType env.reg mM [leaf, lst, con, m] ty.arg = .typedef mM tdL [lst, con, m] := by rfl

theorem uses_s0 {x : Site} (h : Uses env.reg s0 x) : x = s1 := by
  rcases uses_of_bind seqId_env mM_mem bind0 (tt := tyL) rfl h with h | ⟨ut, hut, _⟩
  · exact h
  · exact absurd hut (by rw [show ty.all "type" = [] from rfl]; exact List.not_mem_nil)

theorem uses_s1 {x : Site} (h : Uses env.reg s1 x) : False := by
  obtain ⟨ut, hut, _⟩ := uses_of_builtin (t := tyL) (by decide) h
  exact absurd hut (by rw [show tyL.all "type" = [] from rfl]; exact List.not_mem_nil)

theorem reach {a : Site} (h : UsesStar env.reg s0 a) : a = s0 ∨ a = s1 := by
  induction h with
  | refl => exact Or.inl rfl
  | tail _ hbc ih =>
    rcases ih with rfl | rfl
    · exact Or.inr (uses_s0 hbc)
    · exact (uses_s1 hbc).elim

theorem plus_s1 {x : Site} (h : UsesPlus env.reg s1 x) : False := by
  cases h with
  | one h => exact uses_s1 h
  | cons h _ => exact uses_s1 h

theorem plus_s0 {x : Site} (h : UsesPlus env.reg s0 x) : x = s1 := by
  cases h with
  | one h => exact uses_s0 h
  | cons h h' => rw [uses_s0 h] at h'; exact (plus_s1 h').elim

/-- The standing hypotheses of `resolve_complete` hold of the example. -/
theorem standing_env : Standing env s0 where
  seqId := seqId_env
  linked := by
    intro a ha _
    have ha' : a ∈ [mM] := ha
    rw [List.mem_singleton] at ha'
    subst ha'
    rfl
  imports := by
    intro a ha i hi
    have ha' : a ∈ [mM] := ha
    rw [List.mem_singleton] at ha'
    subst ha'
    exact absurd hi (by rw [show mM.imports = [] from rfl]; exact List.not_mem_nil)
  unamb := by
    intro a ha
    rcases reach ha with rfl | rfl
    · exact unambiguousAt_of_bind seqId_env mM_mem bind0
    · exact unambiguousAt_of_builtin (t := tyL) (by decide)
  keys := by
    intro a b ha hab hk
    rcases reach ha with rfl | rfl
    · rw [plus_s0 hab] at hk
      exact absurd hk (by decide)
    · exact (plus_s1 hab).elim

theorem no_members_ty : ∀ ut ∈ ty.all "type", Resolvable env.reg mM (ty :: [leaf, lst, con, m]) ut := by
  intro ut hut
  exact absurd hut (by rw [show ty.all "type" = [] from rfl]; exact List.not_mem_nil)

/-- The reference is `Resolvable` … -/
theorem resolvable_ty : Resolvable env.reg mM [leaf, lst, con, m] ty :=
  Resolvable.derived mM tdL [lst, con, m] tyL (bindType_sound _ _ _ _ _ _ _ bind0) rfl
    (resolvable_leaf (by decide) rfl)
    no_members_ty

/-- … and accepted by the specification (`typeOk` / `typedefOk` evaluate to `true` at both levels). -/
theorem admissible_ty : ∃ a, Admissible env mM [leaf, lst, con, m] ty a := by
  obtain ⟨y, hy⟩ : ∃ y, builtin? tyL.arg = some y := ⟨_, rfl⟩
  refine ⟨_, Admissible.derived mM tdL [lst, con, m] tyL _ (fun _ => ⟨"", 0, [], []⟩)
    (bindType_sound _ _ _ _ _ _ _ bind0) rfl
    (Admissible.builtin y (fun _ => ⟨"", 0, [], []⟩) hy ?_ ?_) ?_ ?_ ?_⟩
  · cases hy; decide +kernel
  · intro ut hut; exact absurd hut (by rw [show tyL.all "type" = [] from rfl]; exact List.not_mem_nil)
  · decide +kernel
  · cases hy; decide +kernel
  · intro ut hut; exact absurd hut (by rw [show ty.all "type" = [] from rfl]; exact List.not_mem_nil)

open Goyang.Lemmas.TypesFuel in
theorem ty_in_m : ty ∈ descendants mM.stmt ∧ ∀ s ∈ [leaf, lst, con, m], s ∈ descendants mM.stmt := by
  have hm : m ∈ descendants mM.stmt := self_mem_descendants _
  have hcon : con ∈ descendants mM.stmt := child_below hm (List.Mem.tail _ (List.Mem.tail _ (List.Mem.head _)))
  have hlst : lst ∈ descendants mM.stmt := child_below hcon (List.Mem.tail _ (List.Mem.tail _ (List.Mem.head _)))
  have hleaf : leaf ∈ descendants mM.stmt := child_below hlst (List.Mem.tail _ (List.Mem.head _))
  refine ⟨child_below hleaf (List.Mem.head _), ?_⟩
  intro s hs
  simp only [List.mem_cons, List.not_mem_nil, or_false] at hs
  rcases hs with rfl | rfl | rfl | rfl <;> assumption

/-- `resolve_complete_binding`, `resolve_complete` and `resolve_errors_iff` apply: no error, for every sufficient fuel. -/
example (fuel : Nat) (hfuel : (allTypeKeys env.reg).length + 1 ≤ fuel) :
    (resolveTypeF env fuel mM [leaf, lst, con, m] ty []).errs = [] := by
  obtain ⟨a, hadm⟩ := admissible_ty
  obtain ⟨y, hy, _⟩ := resolve_complete env mM [leaf, lst, con, m] ty a standing_env mM_mem mM_sch ty_in_m.1 rfl ty_in_m.2 hadm fuel hfuel
  rw [hy]
example (fuel : Nat) (hfuel : (allTypeKeys env.reg).length + 1 ≤ fuel) :
    ∀ e ∈ (resolveTypeF env fuel mM [leaf, lst, con, m] ty []).errs, ¬ BindErr e ∧ e.cls ≠ "out-of-fuel" :=
  resolve_complete_binding env mM [leaf, lst, con, m] ty standing_env mM_mem mM_sch ty_in_m.1 rfl ty_in_m.2 resolvable_ty fuel hfuel
/-- The example set is well-formed in the decidable sense, the reference stands in it: `standing_of_wellformed` applies. -/
example : WfReg env.reg := by decide +kernel
example : InPlace env.reg (mM, [leaf, lst, con, m], ty) :=
  ⟨mM_mem, List.Mem.head _, List.Mem.tail _ (List.Mem.head _), List.Mem.tail _ (List.Mem.tail _ (List.Mem.head _)),
    List.Mem.tail _ (List.Mem.tail _ (List.Mem.head _)), rfl⟩
/-- The executable specification accepts the reference (so `spec_exec_accepts` applies) … -/
example : (match finish (chainOf env.reg 10 mM [leaf, lst, con, m] ty []) with
    | .ok st => st.kind == "int32" | _ => false) = true := by decide +kernel
/-- … and `spec_exec_binds_iff` applies at the reference (the binding is not `ambiguous`). -/
example : bindType env.reg mM [leaf, lst, con, m] ty.arg ≠ .ambiguous := by rw [bind0]; intro h; cases h

/-! ### A cyclic pair of typedefs (`typedef a { type b; } typedef b { type a; }`): `cyclic_is_error_below` applies -/
def tyQa : Stmt := S "d.yang" "type" "b" 2 10 []
def tyQb : Stmt := S "d.yang" "type" "a" 3 10 []
def qa : Stmt := S "d.yang" "typedef" "a" 2 1 [tyQa]
def qb : Stmt := S "d.yang" "typedef" "b" 3 1 [tyQb]
def tyQ : Stmt := S "d.yang" "type" "a" 4 10 []
def leafQ : Stmt := S "d.yang" "leaf" "l" 4 1 [tyQ]
def d : Stmt := S "d.yang" "module" "d" 1 1 [S "d.yang" "prefix" "pd" 1 10 [], qa, qb, leafQ]
def mD : Mod := ⟨0, d⟩
def env4 : Env := { reg := { mods := [mD], modules := [("d", 0)] }, link := {}, dict := [], fuel := 10 }
def q0 : Site := (mD, [leafQ, d], tyQ)
def q1 : Site := (mD, [qa, d], tyQa)
def q2 : Site := (mD, [qb, d], tyQb)

theorem seqId_env4 : SeqId env4.reg := seqId_single rfl
theorem mD_mem : mD ∈ env4.reg.mods := List.mem_singleton.mpr rfl
theorem bindQ0 : bindType env4.reg mD [leafQ, d] tyQ.arg = .typedef mD qa [d] := by rfl
theorem bindQ1 : bindType env4.reg mD [qa, d] tyQa.arg = .typedef mD qb [d] := by rfl
theorem bindQ2 : bindType env4.reg mD [qb, d] tyQb.arg = .typedef mD qa [d] := by rfl

theorem usesQ0 : Uses env4.reg q0 q1 := Uses.base mD qa [d] tyQa (bindType_sound _ _ _ _ _ _ _ bindQ0) rfl
theorem usesQ1 : Uses env4.reg q1 q2 := Uses.base mD qb [d] tyQb (bindType_sound _ _ _ _ _ _ _ bindQ1) rfl
theorem usesQ2 : Uses env4.reg q2 q1 := Uses.base mD qa [d] tyQa (bindType_sound _ _ _ _ _ _ _ bindQ2) rfl

/-- The reference `type a` of the leaf depends on a definition in terms of itself. -/
theorem cyclic_q0 : Cyclic env4.reg q0 :=
  ⟨q1, Or.inr (UsesPlus.one usesQ0), UsesPlus.cons usesQ1 (UsesPlus.one usesQ2)⟩

theorem reachQ {a : Site} (h : UsesStar env4.reg q0 a) : a = q0 ∨ a = q1 ∨ a = q2 := by
  induction h with
  | refl => exact Or.inl rfl
  | tail _ hbc ih =>
    rcases ih with rfl | rfl | rfl
    · rcases uses_of_bind seqId_env4 mD_mem bindQ0 (tt := tyQa) rfl hbc with h | ⟨ut, hut, _⟩
      · exact Or.inr (Or.inl h)
      · exact absurd hut (by rw [show tyQ.all "type" = [] from rfl]; exact List.not_mem_nil)
    · rcases uses_of_bind seqId_env4 mD_mem bindQ1 (tt := tyQb) rfl hbc with h | ⟨ut, hut, _⟩
      · exact Or.inr (Or.inr h)
      · exact absurd hut (by rw [show tyQa.all "type" = [] from rfl]; exact List.not_mem_nil)
    · rcases uses_of_bind seqId_env4 mD_mem bindQ2 (tt := tyQa) rfl hbc with h | ⟨ut, hut, _⟩
      · exact Or.inr (Or.inl h)
      · exact absurd hut (by rw [show tyQb.all "type" = [] from rfl]; exact List.not_mem_nil)

/-- No name met while resolving it denotes two typedefs. -/
theorem unamb_q0 : UnambiguousBelow env4.reg q0 := by
  intro a ha
  rcases reachQ ha with rfl | rfl | rfl
  · exact unambiguousAt_of_bind seqId_env4 mD_mem bindQ0
  · exact unambiguousAt_of_bind seqId_env4 mD_mem bindQ1
  · exact unambiguousAt_of_bind seqId_env4 mD_mem bindQ2

/-- `cyclic_is_error_below` applies: an error for every fuel and stack (the model says `cycle`). -/
example (fuel : Nat) (stack : List TypeKey) : (resolveTypeF env4 fuel mD [leafQ, d] tyQ stack).errs ≠ [] :=
  cyclic_is_error_below env4 fuel mD [leafQ, d] tyQ unamb_q0 stack (by decide) cyclic_q0
example : ((resolveTypeF env4 10 mD [leafQ, d] tyQ []).errs.map (·.cls)) = ["cycle"] := by decide +kernel
/-- The executable specification demands the error (`spec_exec_error` applies). -/
example : (match chainOf env4.reg 10 mD [leafQ, d] tyQ [] with | .error => true | _ => false) = true := by decide +kernel

/-! ### The `noClaim` theorems on the examples -/

/-- The shadowing example is inside the claim: the executable specification answers `ok`. -/
theorem ok_ty : ∃ k ls, chainOf env.reg 10 mM [leaf, lst, con, m] ty [] = .ok k ls := by
  have h : (match chainOf env.reg 10 mM [leaf, lst, con, m] ty [] with | .ok _ _ => true | _ => false) = true := by
    decide +kernel
  cases hc : chainOf env.reg 10 mM [leaf, lst, con, m] ty [] with
  | ok k ls => exact ⟨k, ls, rfl⟩
  | error => rw [hc] at h; cases h
  | noClaim w => rw [hc] at h; cases h

theorem inside_ty : InsideClaim env.reg s0 := by
  obtain ⟨k, ls, h⟩ := ok_ty
  exact spec_ok_inside_claim env.reg seqId_env 10 mM [leaf, lst, con, m] ty [] k ls mM_mem h

theorem inPlace_ty : InPlace env.reg (mM, [leaf, lst, con, m], ty) :=
  ⟨mM_mem, List.Mem.head _, List.Mem.tail _ (List.Mem.head _), List.Mem.tail _ (List.Mem.tail _ (List.Mem.head _)),
    List.Mem.tail _ (List.Mem.tail _ (List.Mem.head _)), rfl⟩

/-- `spec_budget_suffices`, `chainOf_noClaim_iff`, `chainOf_ok_iff`, `chainOf_error_iff` apply to it … -/
example : chainOf env.reg (specFuel env.reg) mM [leaf, lst, con, m] ty [] ≠ .noClaim "fuel" :=
  (spec_budget_suffices env.reg mM [leaf, lst, con, m] ty mM_mem ty_in_m.1 rfl ty_in_m.2).1
example : ∃ k ls, chainOf env.reg (specFuel env.reg) mM [leaf, lst, con, m] ty [] = .ok k ls :=
  (chainOf_ok_iff env.reg seqId_env mM [leaf, lst, con, m] ty standing_env.unamb standing_env.keys mM_mem
    ty_in_m.1 rfl ty_in_m.2).mpr ⟨resolvable_ty, inside_ty⟩
/-- … and so do the theorems for a loaded set (`linkOk`, `WfReg`, `InPlace`, `PartOfSchema`, `InsideClaim`):
the second case of `resolve_verdict_inside_claim` holds of it. -/
example : linkOk env.reg = true := by decide +kernel
example : ∃ k ls, chainOf env.reg (specFuel env.reg) mM [leaf, lst, con, m] ty [] = .ok k ls ∧
    ∀ y, resolveType env.reg mM [leaf, lst, con, m] ty = (some y, []) → AgreesWith y (inherit k ls) := by
  rcases resolve_verdict_inside_claim env.reg (by decide +kernel) (by decide +kernel) mM [leaf, lst, con, m] ty
    inPlace_ty mM_sch rfl inside_ty with ⟨_, hno, _⟩ | ⟨k, ls, hc, _, _, hag⟩
  · exact absurd resolvable_ty hno
  · exact ⟨k, ls, hc, hag⟩

/-! An enumeration that lists the name `a` twice: the executable specification answers
`noClaim "enum-values"`, and `spec_noClaim_reason` names the feature (at the type statement itself). -/
def tyE : Stmt := S "e.yang" "type" "enumeration" 2 10 [S "e.yang" "enum" "a" 2 30 [], S "e.yang" "enum" "a" 2 40 []]
def leafE : Stmt := S "e.yang" "leaf" "l" 2 1 [tyE]
def e : Stmt := S "e.yang" "module" "e" 1 1 [S "e.yang" "prefix" "pe" 1 10 [], leafE]
def mE : Mod := ⟨0, e⟩
def regE : Registry := { mods := [mE], modules := [("e", 0)] }

open Goyang.Lemmas.TypesFuel in
theorem tyE_in_e : tyE ∈ descendants mE.stmt ∧ ∀ s ∈ [leafE, e], s ∈ descendants mE.stmt := by
  have he : e ∈ descendants mE.stmt := self_mem_descendants _
  have hleaf : leafE ∈ descendants mE.stmt := child_below he (List.Mem.tail _ (List.Mem.head _))
  refine ⟨child_below hleaf (List.Mem.head _), ?_⟩
  intro s hs
  simp only [List.mem_cons, List.not_mem_nil, or_false] at hs
  rcases hs with rfl | rfl <;> assumption

example : (match chainOf regE (specFuel regE) mE [leafE, e] tyE [] with
    | .noClaim w => w == "enum-values" | _ => false) = true := by decide +kernel
example (w : String) (h : chainOf regE (specFuel regE) mE [leafE, e] tyE [] = .noClaim w) :
    ∃ site, UsesStar regE (mE, [leafE, e], tyE) site ∧ Feature regE site w :=
  (spec_noClaim_reason regE mE [leafE, e] tyE (List.mem_singleton.mpr rfl) tyE_in_e.1 rfl tyE_in_e.2 w h).2
/-- The feature, directly. -/
example : Feature regE (mE, [leafE, e], tyE) "enum-values" :=
  Feature.enumValues (by intro h; cases h) (by decide +kernel)

/-! ### `resolve_enum_rfc` on `type enumeration { enum a; enum b { value 5; } enum c; }`: the values are 0, 5, 6 -/
def tyR : Stmt := S "r.yang" "type" "enumeration" 2 10
  [S "r.yang" "enum" "a" 2 30 [], S "r.yang" "enum" "b" 2 40 [S "r.yang" "value" "5" 2 50 []], S "r.yang" "enum" "c" 2 60 []]
def leafR : Stmt := S "r.yang" "leaf" "l" 2 1 [tyR]
def r : Stmt := S "r.yang" "module" "r" 1 1 [S "r.yang" "prefix" "pr" 1 10 [], leafR]
def mR : Mod := ⟨0, r⟩
def envR : Env := { reg := { mods := [mR], modules := [("r", 0)] }, link := {}, dict := [], fuel := 10 }
/-- the members as written: names as bytes, `5` as a literal -/
def msR : List (Goyang.Spec.Enum.Name × Option Goyang.Spec.Number.Lit) :=
  [([97], none), ([98], some ⟨none, [5], none⟩), ([99], none)]

example : (resolveTypeF envR 10 mR [leafR, r] tyR []).errs = [] := by decide +kernel
example : ∀ p ∈ msR, ∀ l, p.2 = some l → Goyang.Lemmas.Enum.LitForm l := by
  intro p hp l hl
  simp only [msR, List.mem_cons, List.not_mem_nil, or_false] at hp
  rcases hp with rfl | rfl | rfl
  · cases hl
  · cases hl; exact ⟨⟨by decide, by decide⟩, by decide, rfl, by decide⟩
  · cases hl
example : (tyR.all "enum").map (fun e => (bytesOf e.arg, (e.argOf? "value").map bytesOf))
    = msR.map (fun p => (p.1, p.2.map Goyang.Spec.Number.Lit.render)) := by decide +kernel
example : Goyang.Spec.Enum.table (msR.map fun p => (p.1, p.2.map Goyang.Spec.Number.Lit.num))
    = [([97], 0), ([98], 5), ([99], 6)] := by decide +kernel

/-! ### `resolve_fd_rfc` on `type decimal64 { fraction-digits 3; }` -/
def tyF : Stmt := S "f.yang" "type" "decimal64" 2 10 [S "f.yang" "fraction-digits" "3" 2 30 []]
def leafF : Stmt := S "f.yang" "leaf" "l" 2 1 [tyF]
def fM : Stmt := S "f.yang" "module" "f" 1 1 [S "f.yang" "prefix" "pf" 1 10 [], leafF]
def mF : Mod := ⟨0, fM⟩
def envF : Env := { reg := { mods := [mF], modules := [("f", 0)] }, link := {}, dict := [], fuel := 10 }
def litF : Goyang.Spec.Number.Lit := ⟨none, [3], none⟩
example : (resolveTypeF envF 10 mF [leafF, fM] tyF []).errs = [] ∧
    ((resolveTypeF envF 10 mF [leafF, fM] tyF []).ty.map (·.fractionDigits)) = some 3 := by decide +kernel
example : litF.digitsOK ∧ litF.ip ≠ [] ∧ litF.fp = none ∧ litF.noLeadingZero :=
  ⟨⟨by decide, by decide⟩, by decide, rfl, by decide⟩
example : bytesOf "3" = litF.render := by decide +kernel

/-! ### `specResolve_noClaim_iff_loaded`, `resolve_verdict_inside_claim_full` on
`type enumeration { enum a; enum b; }` (values 0 and 1 are assigned) -/
def tyN : Stmt := S "n.yang" "type" "enumeration" 2 10 [S "n.yang" "enum" "a" 2 30 [], S "n.yang" "enum" "b" 2 40 []]
def leafN : Stmt := S "n.yang" "leaf" "l" 2 1 [tyN]
def n : Stmt := S "n.yang" "module" "n" 1 1 [S "n.yang" "prefix" "pn" 1 10 [], leafN]
def mN : Mod := ⟨0, n⟩
def regN : Registry := { mods := [mN], modules := [("n", 0)] }

theorem seqId_regN : SeqId regN := seqId_single rfl
theorem mN_mem : mN ∈ regN.mods := List.mem_singleton.mpr rfl
theorem mN_sch : PartOfSchema regN mN := partOfSchema_single rfl
theorem inPlace_tyN : InPlace regN (mN, [leafN, n], tyN) :=
  ⟨mN_mem, List.Mem.head _, List.Mem.tail _ (List.Mem.head _), rfl⟩
theorem tablesOK_regN : Goyang.Lemmas.Bridge.TablesOK regN := by
  refine ⟨?_, ?_⟩
  · intro i hi
    have hi' : i < 1 := hi
    match i, hi' with
    | 0, _ => rfl
  · intro sub kv hkv
    cases sub with
    | false =>
      have hkv' : kv ∈ [("n", 0)] := hkv
      rw [List.mem_singleton] at hkv'
      subst hkv'
      exact ⟨mN, List.Mem.head _, rfl, rfl⟩
    | true => exact absurd hkv (by show kv ∉ ([] : List (String × Nat)); exact List.not_mem_nil)
theorem ok_tyN : ∃ k ls, chainOf regN 10 mN [leafN, n] tyN [] = .ok k ls := by
  have h : (match chainOf regN 10 mN [leafN, n] tyN [] with | .ok _ _ => true | _ => false) = true := by
    decide +kernel
  cases hc : chainOf regN 10 mN [leafN, n] tyN [] with
  | ok k ls => exact ⟨k, ls, rfl⟩
  | error => rw [hc] at h; cases h
  | noClaim w => rw [hc] at h; cases h
theorem inside_tyN : InsideClaim regN (mN, [leafN, n], tyN) := by
  obtain ⟨k, ls, h⟩ := ok_tyN
  exact spec_ok_inside_claim regN seqId_regN 10 mN [leafN, n] tyN [] k ls mN_mem h
/-- No integer argument is written on the chain (the members have no `value`): `CanonArgs` holds. -/
theorem canon_tyN : ∀ kind chain, DerivesFrom regN mN [leafN, n] tyN kind chain →
    Goyang.Lemmas.TypesAgreeFull.CanonArgs chain := by
  refine Goyang.Lemmas.TypesAgreeFull.canonArgs_builtin (t := tyN) (by decide) ?_ ?_ ?_
  · intro e he a ha
    simp only [show tyN.all "enum" = [S "n.yang" "enum" "a" 2 30 [], S "n.yang" "enum" "b" 2 40 []] from rfl,
      List.mem_cons, List.not_mem_nil, or_false] at he
    rcases he with rfl | rfl <;> cases ha
  · intro b hb
    cases hb
  · intro f hf
    cases hf

/-- The model resolves it without error to the table a ↦ 0, b ↦ 1 (last member first) … -/
example : (resolveType regN mN [leafN, n] tyN).2 = [] ∧
    ((resolveType regN mN [leafN, n] tyN).1.bind (·.enum)).map (·.toInt) = some [([98], 1), ([97], 0)] := by decide +kernel
/-- … `resolve_verdict_inside_claim_full` applies: its second case holds … -/
example : ∃ k ls, chainOf regN (specFuel regN) mN [leafN, n] tyN [] = .ok k ls ∧
    ∀ y, resolveType regN mN [leafN, n] tyN = (some y, []) → AgreesWithFull y (inherit k ls) := by
  rcases resolve_verdict_inside_claim_full regN (by decide +kernel) (by decide +kernel) mN [leafN, n] tyN
    inPlace_tyN mN_sch rfl inside_tyN canon_tyN with ⟨_, hno, _⟩ | ⟨k, ls, hc, _, _, hag⟩
  · exact absurd (resolvable_leaf (by decide) rfl) hno
  · exact ⟨k, ls, hc, hag⟩
/-- … and so does `specResolve_noClaim_iff_loaded` (`TablesOK`, `linkOk`): here the specification makes a claim. -/
example : ¬ ∃ m ∈ regN.mods, ¬ PartOfSchema regN m := by
  rintro ⟨m, hm, hn⟩
  have hm' : m ∈ [mN] := hm
  rw [List.mem_singleton] at hm'
  subst hm'
  exact hn mN_sch
open Goyang.Lemmas.TypesFuel in
example : (∃ w, specResolve regN (specFuel regN) mN [leafN, n] tyN [] = .noClaim w) →
    ∃ k ls, chainOf regN (specFuel regN) mN [leafN, n] tyN [] = .ok k ls ∧ chainInClaim ls = false := by
  intro h
  have hiff := specResolve_noClaim_iff_loaded regN tablesOK_regN (by decide +kernel) mN [leafN, n] tyN mN_mem mN_sch
    (child_below (child_below (self_mem_descendants _) (List.Mem.tail _ (List.Mem.head _))) (List.Mem.head _)) rfl
    (by
      intro s hs
      simp only [List.mem_cons, List.not_mem_nil, or_false] at hs
      rcases hs with rfl | rfl
      · exact child_below (self_mem_descendants _) (List.Mem.tail _ (List.Mem.head _))
      · exact self_mem_descendants _)
  rcases hiff.mp h with ⟨m, hm, hn, _⟩ | ⟨_, ⟨site, w, hs, hf⟩ | hc⟩
  · have hm' : m ∈ [mN] := hm
    rw [List.mem_singleton] at hm'
    subst hm'
    exact absurd mN_sch hn
  · exact absurd hf (inside_tyN site w hs)
  · exact hc
/-- `wellLinked_of_linkOk` applies (every loaded module is part of a schema). -/
example : wellLinked regN = true :=
  wellLinked_of_linkOk regN (by decide +kernel) (by
    intro m hm
    have hm' : m ∈ [mN] := hm
    rw [List.mem_singleton] at hm'
    subst hm'
    exact mN_sch)

/-! ### `resolve_verdict_inside_claim_full` with an explicit value: `enum a; enum b { value 5; } enum c;`

The kernel cannot evaluate `chainOf` here (`parseIntLit "5"` runs `String.toNat!`), so `InsideClaim` is
shown through `insideClaim_builtin` and the evaluation lemmas of Lemmas/TypesStrBridge.lean. -/
def eRa : Stmt := S "r.yang" "enum" "a" 2 30 []
def eRb : Stmt := S "r.yang" "enum" "b" 2 40 [S "r.yang" "value" "5" 2 50 []]
def eRc : Stmt := S "r.yang" "enum" "c" 2 60 []
theorem enums_tyR : tyR.all "enum" = [eRa, eRb, eRc] := rfl

open Goyang.Lemmas.TypesAssign Goyang.Lemmas.TypesStrBridge in
/-- The executable specification assigns 0, 5, 6. -/
theorem assign_tyR : assignValues "value" (-2147483648) 2147483647 (tyR.all "enum") = some [("a", 0), ("b", 5), ("c", 6)] := by
  have h3 : parseIntLit "5" = some 5 := by
    rw [parseIntLit_digits "5" ['5'] (by simp) (by simp) (by simp) (by simp)]; rfl
  have hr : readMembers "value" (tyR.all "enum") = some [("a", none), ("b", some 5), ("c", none)] := by
    rw [enums_tyR]
    unfold readMembers
    have ha : eRa.argOf? "value" = none := rfl
    have hb : eRb.argOf? "value" = some "5" := rfl
    have hc : eRc.argOf? "value" = none := rfl
    simp [ha, hb, hc, h3]
    exact ⟨rfl, rfl, rfl⟩
  rw [assignValues_eq, hr]
  rfl

theorem seqId_regR : SeqId envR.reg := seqId_single rfl
theorem mR_mem : mR ∈ envR.reg.mods := List.mem_singleton.mpr rfl
theorem mR_sch : PartOfSchema envR.reg mR := partOfSchema_single rfl
theorem inPlace_tyR : InPlace envR.reg (mR, [leafR, r], tyR) :=
  ⟨mR_mem, List.Mem.head _, List.Mem.tail _ (List.Mem.head _), rfl⟩
theorem inside_tyR : InsideClaim envR.reg (mR, [leafR, r], tyR) :=
  Goyang.Lemmas.TypesAgreeFull.insideClaim_builtin (t := tyR) (by decide) rfl ⟨_, rfl⟩
    (fun _ => by rw [assign_tyR]; intro h; cases h)
    (fun h => absurd (show tyR.all "bit" = [] from rfl) h)
    (fun a ha => by
      have h0 : tyR.argOf? "fraction-digits" = none := rfl
      rw [h0] at ha
      cases ha)
/-- The only integer argument on the chain is `5`: canonical. -/
theorem canon_tyR : ∀ kind chain, DerivesFrom envR.reg mR [leafR, r] tyR kind chain →
    Goyang.Lemmas.TypesAgreeFull.CanonArgs chain := by
  refine Goyang.Lemmas.TypesAgreeFull.canonArgs_builtin (t := tyR) (by decide) ?_ ?_ ?_
  · intro e he a ha
    simp only [enums_tyR, List.mem_cons, List.not_mem_nil, or_false] at he
    rcases he with rfl | rfl | rfl
    · cases ha
    · cases ha
      exact ⟨false, ['5'], by show ("5" : String).toList = _; simp, by simp, by simp, Or.inr (by simp)⟩
    · cases ha
  · intro b hb
    cases hb
  · intro f hf
    cases hf

/-- The model's table (last member first) … -/
example : (resolveType envR.reg mR [leafR, r] tyR).2 = [] ∧
    ((resolveType envR.reg mR [leafR, r] tyR).1.bind (·.enum)).map (·.toInt) = some [([99], 6), ([98], 5), ([97], 0)] := by
  decide +kernel
/-- … agrees with the executable specification: the second case of `resolve_verdict_inside_claim_full`. -/
example : ∃ k ls, chainOf envR.reg (specFuel envR.reg) mR [leafR, r] tyR [] = .ok k ls ∧
    ∀ y, resolveType envR.reg mR [leafR, r] tyR = (some y, []) → AgreesWithFull y (inherit k ls) := by
  rcases resolve_verdict_inside_claim_full envR.reg (by decide +kernel) (by decide +kernel) mR [leafR, r] tyR
    inPlace_tyR mR_sch rfl inside_tyR canon_tyR with ⟨_, hno, _⟩ | ⟨k, ls, hc, _, _, hag⟩
  · exact absurd (resolvable_leaf (by decide) rfl) hno
  · exact ⟨k, ls, hc, hag⟩

/-- `CanonReg` holds of the explicit-value example (its only integer argument is `5`), so
`canonArgs_of_canonReg` gives `canon_tyR` again. -/
theorem canonReg_envR : Goyang.Lemmas.TypesAgreeFull.CanonReg envR.reg := by
  intro m hm s hs
  have hm' : m ∈ [mR] := hm
  rw [List.mem_singleton] at hm'
  subst hm'
  have hs' : s ∈ [r, S "r.yang" "prefix" "pr" 1 10 [], leafR, tyR, eRa, eRb, S "r.yang" "value" "5" 2 50 [], eRc] := hs
  simp only [List.mem_cons, List.not_mem_nil, or_false] at hs'
  have hno : ∀ (x : Stmt) (k : String), x.argOf? k = none → ∀ a, x.argOf? k = some a →
      Goyang.Lemmas.TypesStrBridge.CanonInt a := by
    intro x k h0 a ha; rw [h0] at ha; cases ha
  rcases hs' with rfl | rfl | rfl | rfl | rfl | rfl | rfl | rfl
  · exact ⟨hno _ _ rfl, hno _ _ rfl, hno _ _ rfl⟩
  · exact ⟨hno _ _ rfl, hno _ _ rfl, hno _ _ rfl⟩
  · exact ⟨hno _ _ rfl, hno _ _ rfl, hno _ _ rfl⟩
  · exact ⟨hno _ _ rfl, hno _ _ rfl, hno _ _ rfl⟩
  · exact ⟨hno _ _ rfl, hno _ _ rfl, hno _ _ rfl⟩
  · refine ⟨?_, hno _ _ rfl, hno _ _ rfl⟩
    intro a ha
    have hb : eRb.argOf? "value" = some "5" := rfl
    rw [hb] at ha
    cases ha
    exact ⟨false, ['5'], by simp, by simp, by simp, Or.inr (by simp)⟩
  · exact ⟨hno _ _ rfl, hno _ _ rfl, hno _ _ rfl⟩
  · exact ⟨hno _ _ rfl, hno _ _ rfl, hno _ _ rfl⟩
example : ∀ kind chain, DerivesFrom envR.reg mR [leafR, r] tyR kind chain → Goyang.Lemmas.TypesAgreeFull.CanonArgs chain :=
  canonArgs_of_canonReg envR.reg canonReg_envR mR [leafR, r] tyR inPlace_tyR

/-! ### … and with fraction-digits: `type decimal64 { fraction-digits 3; }` -/
def fdF : Stmt := S "f.yang" "fraction-digits" "3" 2 30 []
theorem mF_mem : mF ∈ envF.reg.mods := List.mem_singleton.mpr rfl
theorem mF_sch : PartOfSchema envF.reg mF := partOfSchema_single rfl
theorem inPlace_tyF : InPlace envF.reg (mF, [leafF, fM], tyF) :=
  ⟨mF_mem, List.Mem.head _, List.Mem.tail _ (List.Mem.head _), rfl⟩
open Goyang.Lemmas.TypesStrBridge in
theorem inside_tyF : InsideClaim envF.reg (mF, [leafF, fM], tyF) :=
  Goyang.Lemmas.TypesAgreeFull.insideClaim_builtin (t := tyF) (by decide) rfl ⟨_, rfl⟩
    (fun h => absurd (show tyF.all "enum" = [] from rfl) h)
    (fun h => absurd (show tyF.all "bit" = [] from rfl) h)
    (fun a ha => by
      have h0 : tyF.argOf? "fraction-digits" = some "3" := rfl
      rw [h0] at ha
      cases ha
      exact ⟨3, by rw [toNat?_digits "3" ['3'] (by simp) (by simp) (by simp)]; rfl, by omega, by omega⟩)
theorem canon_tyF : ∀ kind chain, DerivesFrom envF.reg mF [leafF, fM] tyF kind chain →
    Goyang.Lemmas.TypesAgreeFull.CanonArgs chain := by
  refine Goyang.Lemmas.TypesAgreeFull.canonArgs_builtin (t := tyF) (by decide) ?_ ?_ ?_
  · intro e he
    cases he
  · intro b hb
    cases hb
  · intro f hf
    cases hf
    exact ⟨false, ['3'], by show ("3" : String).toList = _; simp, by simp, by simp, Or.inr (by simp)⟩
/-- The resolved type has 3 fraction digits, and so has the type the executable specification computes. -/
example : ∃ k ls, chainOf envF.reg (specFuel envF.reg) mF [leafF, fM] tyF [] = .ok k ls ∧
    ∀ y, resolveType envF.reg mF [leafF, fM] tyF = (some y, []) → AgreesWithFull y (inherit k ls) := by
  rcases resolve_verdict_inside_claim_full envF.reg (by decide +kernel) (by decide +kernel) mF [leafF, fM] tyF
    inPlace_tyF mF_sch rfl inside_tyF canon_tyF with ⟨_, hno, _⟩ | ⟨k, ls, hc, _, _, hag⟩
  · exact absurd (resolvable_leaf (by decide) rfl) hno
  · exact ⟨k, ls, hc, hag⟩

/-! ### Outside the canonical form the two readings differ: `enum a { value 010; }`

Go's `ParseInt` reads the argument with base 0 (`010` is octal 8: replayed on the Go code, which also
reads `0x10` as 16 and `1_0` as 10); the executable specification's `parseIntLit` reads decimal digits
(10).  So the hypothesis `CanonArgs` of `resolve_verdict_inside_claim_full` cannot be dropped. -/
def eZ : Stmt := S "z.yang" "enum" "a" 2 30 [S "z.yang" "value" "010" 2 40 []]
def tyZ : Stmt := S "z.yang" "type" "enumeration" 2 10 [eZ]
def leafZ : Stmt := S "z.yang" "leaf" "l" 2 1 [tyZ]
def z : Stmt := S "z.yang" "module" "z" 1 1 [S "z.yang" "prefix" "pz" 1 10 [], leafZ]
def mZ : Mod := ⟨0, z⟩
def regZ : Registry := { mods := [mZ], modules := [("z", 0)] }

open Goyang.Lemmas.TypesAssign Goyang.Lemmas.TypesStrBridge in
/-- The model resolves `value 010` without error to 8; the executable specification assigns 10. -/
theorem noncanonical_value_disagrees :
    ((resolveType regZ mZ [leafZ, z] tyZ).2 = [] ∧
      ((resolveType regZ mZ [leafZ, z] tyZ).1.bind (·.enum)).map (·.toInt) = some [([97], 8)]) ∧
    assignValues "value" (-2147483648) 2147483647 (tyZ.all "enum") = some [("a", 10)] ∧
    ¬ CanonInt "010" := by
  refine ⟨by decide +kernel, ?_, ?_⟩
  · have h3 : parseIntLit "010" = some 10 := by
      rw [parseIntLit_digits "010" ['0', '1', '0'] (by simp) (by simp) (by simp) (by simp)]; rfl
    have hr : readMembers "value" (tyZ.all "enum") = some [("a", some 10)] := by
      show readMembers "value" [eZ] = _
      unfold readMembers
      have h2 : eZ.argOf? "value" = some "010" := rfl
      simp [h2, h3]
      rfl
    rw [assignValues_eq, hr]
    rfl
  · rintro ⟨neg, ds, h, _, hd, hz⟩
    have h0 : ("010" : String).toList = ['0', '1', '0'] := by simp
    rw [h0] at h
    cases neg with
    | true =>
      simp only [if_true, List.cons_append, List.nil_append, List.cons.injEq] at h
      exact absurd h.1 (by decide)
    | false =>
      simp only [Bool.false_eq_true, if_false, List.nil_append] at h
      subst h
      rcases hz with hz | hz
      · cases hz
      · exact hz rfl

/-! ### `resolve_range_denotes`, `resolve_range_within_base`, `resolve_length_denotes` need only an error-free
resolution: they apply to the shadowing example (`type t` resolves to `int32`, shown by `decide` above);
chains with `range` / `length` statements at two levels are evaluated at the end of Lemmas/TypesRangeRfc.lean. -/
example (y : YType) (h : resolveTypeF env 10 mM [leaf, lst, con, m] ty [] = { ty := some y, errs := [] })
    (hk : y.kind = "int32") :
    Goyang.Spec.Range.Within (Goyang.Lemmas.Range.abs y.range) (Goyang.Lemmas.Range.abs Goyang.Model.Range.int32Range) :=
  resolve_range_within_base env 10 mM [leaf, lst, con, m] ty [] y (by decide) h false 0 _
    (by rw [hk]; exact .int .int32)
/-- canonical integer arguments: `CanonInt` -/
example : Goyang.Lemmas.TypesStrBridge.CanonInt "3" ∧ Goyang.Lemmas.TypesStrBridge.CanonInt "-12" :=
  ⟨⟨false, ['3'], by simp, by simp, by simp, Or.inr (by simp)⟩, ⟨true, ['1', '2'], by simp, by simp, by simp, Or.inr (by simp)⟩⟩

end Ex

end Goyang.Props.C09
