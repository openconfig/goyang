import Goyang.Lemmas.IncludeMain
import Goyang.Lemmas.IncludeDump
import Goyang.Lemmas.IncludeCheck
import Goyang.Model.TypesLite
import Goyang.Lemmas.IncludeAugK
import Goyang.Lemmas.IncludeAugOrder
import Goyang.Lemmas.IncludeAugView
import Goyang.Lemmas.IncludeAugCompose
import Goyang.Lemmas.IncludeAugRows
import Goyang.Lemmas.IncludeAugIO
import Goyang.Lemmas.IncludeAugDec
import Goyang.Lemmas.IncludeAugShape
import Goyang.Lemmas.IncludeAugSim3
/-
C13, third sentence — "An included submodule contributes its data nodes, typedefs, groupings and
identities to the including module exactly as if they were written there."

Setting (Spec/Include.lean).  `IsSplitOf s R R' plug plug'`: the registry `R'` is the registry `R` with one
module `s.m` replaced by an owner `s.owner` (same name, header, load number; `include` statements)
and submodules `s.subs` (belongs-to `m` under `m`'s prefix, `m`'s imports), every body statement of
`m` (data nodes, rpcs, notifications, uses, groupings) being in exactly one part as the same
statement; `Visible`: from every part every top-level grouping name of `m` binds, by goyang's
lookup rules, to the statement `m` declares (the exact visibility condition the model needs — it is
what the runner's split guarantees by construction, and what the repaired `FindGrouping` gives
whenever the owner includes every submodule); `PlugSplitOK`: the plugged layers (types C09,
identities C11, typedefs; `plug` for the unsplit, `plug'` for the split registry — the pipeline
builds its plug from the registry) answer alike — typedefs and identities are their business; `PosWF`,
`RefsWF`, `LookupFuelOK`: positions identify groupings, prefixed references are well formed (C06),
the model's lookup fuel suffices (executable checkers: Lemmas/IncludeCheck.lean; the whole of `IsSplitOf` but
for the plug as one check: `Lemmas.IncludeAugDec.SplitCheck`).  The parts may
include each other in any way (nested includes) as long as every submodule is reached from the
owner and no part includes itself or is included back by a part it includes (`RegsOK.inc_cover`,
`inc_no_back`: exactly what goyang's circularity test asks).  `R` itself has no submodules (the runner's
setting).

The full statement is `IncludeEqInline` (any split pair: a clean `Process` of the unsplit set implies a clean
`Process` of the split set and equal canonical dumps of the split module, as the runner compares them).  It is
proved for sets without augment and deviation statements; for sets with augments it is proved under the
hypotheses listed below, and not in general.

Proved for all such registries, every option set and plug:

* `include_conversion` — the conversion stage (`ToEntry` of every module, the stage the sentence is
  about): if the unsplit conversion is error free so is the split one; every other module's tree is
  the same but for the module numbers of nodes whose text lives in a submodule (`ren σ`); the
  owner's tree has the unsplit module's data and exactly its children, each equal but for those
  numbers, in another order (`SameTop`).  Augment and deviation statements may be present (they are
  converted, not yet applied, at this stage).
* `include_eq_inline_partial` — the same for the result of `processAll` (`Modules.Process`), when no
  loaded module has augment or deviation statements; `include_paths` — namespace, read-only status
  and every subtree below the root agree at every path; `include_eq_inline_noaug` — the canonical
  dumps are equal: `IncludeEqInline` for these sets.
* `visible_when_grouping_names_distinct` — the visibility condition holds by itself when the
  top-level grouping names of `m` are distinct (a submodule sees its siblings through its owner).
* the stages behind them, as statements of their own: `context_independence` (a), `grouping_found_same`
  (b), `parts_merge_each_submodule_once` (c; nested includes among the parts are covered).

Sets WITH augment statements.

* Finding D67 and its repair.  Before the repair `IncludeEqInline` was FALSE of the model and of the Go code
  (witness in /verif/corpus/C13/D67-witness.txt, replayed on both): two modules `ma`, `mb` augment the implied
  case of a shorthand choice member of `t` in a chain (`/t:ch/t:x`, then `/t:ch/t:x/ma:y`); neither is applicable
  before FixChoice, and the stage after FixChoice was ONE sweep `Augment(true)` in the order swap-remove had left
  the module array in.  Splitting an augment-free submodule `a-sub` off `t` permutes that order ([ma, mb] becomes
  [mb, ma]): the unsplit set processed without errors, the split set reported `augment-not-found`.  The repair
  (`fix:` commit in pkg/yang/modules.go, mirrored by `Model.leftoverRounds`) makes that stage a fixpoint: after the
  first FixChoice the augment loop is retried over the modules that still hold pending augments, with FixChoice
  after every productive round, until a round applies nothing; only then does the reporting sweep run.
  `include_eq_inline_witness`: on the witness pair the split set is clean and the dumps are equal (kernel-checked
  on the model: `Ex3.unsplit_clean`, `Ex3.split_clean`, `Ex3.split_dump`; `Ex3.leftover`: both augments do wait for
  that stage; all hypotheses of `IsSplitOf` discharged).  No counterexample to `IncludeEqInline` is known.
* `IncludeEqInlineAugments` — the statement for sets whose augment loop leaves nothing pending
  (`NoLeftover`, decidable) and without deviation statements.  NOT proved in general; kernel-checked on
  `Ex4` (`include_eq_inline_augments_example`: two modules augment, in a chain, a container that the split
  moves into a submodule; the loop of the split set visits the modules in another order and needs a
  second pass).  It is PROVED for split sets without rpc / action nodes under a decidable condition on the two
  converted sets (`include_eq_inline_augments_norpc`, below).  The pieces, each proved for all split pairs:
  - `include_pending_rows` — at the start of the augment stage the submodules have nothing pending and
    every other row lists the augment statements of the same module (the owner's: the unsplit module's);
  - `include_augment_loop_order` + `include_augment_loop_clean_iff` — the loop over the split set may be run in
    the module order of the UNSPLIT set (the additional trees only permute the visits): same flat view (C07:
    locations with their data, children as sets), same augments left over, and the one run is error free iff the
    other is (hypotheses on `R'`: C07's decidable input predicates `LoadedShape`, `AugPosDistinct`, `AugArgsPlain`);
  - `no_leftover_result` — with nothing left over (and no deviation statements) `processAll` returns the
    loop's forest with `fixChoice` applied to every tree, errors = those recorded in it;
  - (E) `dump_of_path_view`, `dump_of_view` — the canonical dump is a function of the *path view* (which
    data — everything but the error list — sits at which step path; `Lemmas.IncludeAugDump.PEq`) for trees
    with `KeysUnique`: the order of the children in a `Dir` and recorded errors do not matter; and from C07's
    flat view (`viewOf`) to the path view under `IOShape` (an rpc / action node has no `Dir` child, any other node
    no input / output) and `SameIO` (the same rpc inputs / outputs created).  `dump_not_function_of_flat_view`:
    `SameIO` cannot be dropped — the flat view shows an rpc's input whether or not goyang has created the entry,
    the dump only when it exists (witness `rpc0` / `rpc1`);
  - (F) `fixChoice_path_view` — `FixChoice` respects the path view of error-free trees (and keeps `KeysUnique`:
    `Lemmas.IncludeAugFix.keysUnique_fixChoice`);
  - `include_dump_in_unsplit_order`, `include_clean_in_unsplit_order` — on the DUMP of every module, and for
    error-freeness, `Process` on the split set is the augment loop run in the module order of the unsplit set
    (`Lemmas.IncludeAugCompose.loopU`) followed by `FixChoice` (hypotheses on the two trees: `IOShape`, `SameIO`);
  - `include_dump_of_related_trees` — for ANY two outcomes: owner's tree `SameTop σ` the unsplit module's tree ⇒
    equal dumps (namespace, read-only, instantiating module, path at every node);
  - `include_eq_inline_augments_reduced` — the composition: `IncludeEqInlineAugments` follows from
    `Lemmas.IncludeAugCompose.LoopsRelated` (the two loops run in the SAME module order: the split one records no
    error and leaves nothing pending, the owner's tree is the unsplit module's up to `SameTop σ`; `IOShape` of the
    owner's trees; `SameIO`), under `IsSplitOf` and `LoadedShape` / `AugPosDistinct` / `AugArgsPlain` of the split
    registry only;
  - (I) `include_io_shape_along_loop` — for every registry, every tree the conversion produces and every tree along
    the augment loop (any fuel, any module order) has `IOShape`; `include_eq_inline_augments_reduced_sameIO`:
    `IncludeEqInlineAugments` from `Lemmas.IncludeAugIO.LoopsRelatedCore` (`LoopsRelated` without `IOShape` /
    `SameIO`) + `SameIO` of the owner's trees.  For sets without rpc / action nodes: `include_no_rpc_along_loop` —
    `Lemmas.IncludeAugIO.NoIOStart` (decidable, evaluated on the converted set) is kept along the loop, and any two
    such trees have `SameIO`; `include_eq_inline_augments_norpc_reduced`: for such split sets
    `IncludeEqInlineAugments` follows from `LoopsRelatedCore` alone; `include_eq_inline_augments_norpc_checked`: the
    same with the core as a decidable hypothesis (`Lemmas.IncludeAugDec.CoreCheck`; instance: `Ex4C.core`);
  - (S) `Lemmas.IncludeAugSim.augmentLoop_rel` — for sets without rpc / action nodes the two augment loops (split set
    over `R'`, unsplit set over `R`), run with the same fuel over the same module array, keep the states related
    (`SR`: every other module's tree equal up to `ren σ`, the owner's tree `SameTop σ` the unsplit module's, the
    pending entries of every module equal up to `ren σ`, nothing pending for the submodules' trees, which stay
    error free); `loopsRelatedCore_of_start` / `loopsRelatedCore_norpc`: `LoopsRelatedCore` from the relation of the
    two starting states, which `include_conversion` gives but for the pending entries;
  - **`include_eq_inline_augments_norpc`** — `IncludeEqInlineAugments` for split sets without rpc / action nodes with
    piece (A) as the decidable hypothesis `Lemmas.IncludeAugSim.PendRel` (pending augment entries of every module
    equal up to `ren σ`, rows present alike) — besides `IsSplitOf`: `LoadedShape` / `AugPosDistinct` / `AugArgsPlain` of
    `R'`, `NoIOStart` of both converted sets and `AllConverted R` (every module has a tree after conversion), all
    decidable and kernel-evaluated on `Ex4` without running a loop (equal loop fuel is derived: `loopFuel_split`).

NOT proved: (A) `PendRel` as a theorem (at the level of the conversion it is proved for every module but the owner:
`Lemmas.IncludeAugRows.mod_conv_rows`), and with it the side conditions `AllConverted R` and `NoIOStart R`; (S) and the
`SameIO` half of (I) for sets WITH rpc / action nodes (the simulation uses that `Find` changes nothing on trees without
rpc nodes, `walkParts_noIO`); `NoIOStart` from a condition on the statements; sets with augments left for the stage
after FixChoice beyond the witness pair; other modules of `R` with submodules of their own; deviations; `PlugSplitOK`
for the full plug.  Those parts of the sentence rest on the metamorphic runner harness/cmd/corr-c13c, which checks the
full statement on both sides and keeps the D67 witness pair as a regression witness.
-/
namespace Goyang.Props.C13Include
open Goyang.Model Goyang.Spec.Include Goyang.Spec.Uses Goyang.Lemmas.Tree
open Goyang.Lemmas.IncludeRel Goyang.Lemmas.IncludeRun Goyang.Lemmas.IncludeMain
open Goyang.Lemmas (Fuel.need IncludeWorld.Wu IncludeWorld.Ws IncludeWorld.part_mem')

/-! ### the conversion stage -/

/-- **include_conversion.**  After `ToEntry` of all modules (`forest0`): error-freeness carries over
from the unsplit to the split set; every module other than the split one has the same tree up to
`ren σ` (module numbers of nodes that now live in a submodule's text); the owner's tree is the
unsplit module's: same data but for the statement object, the same children — each equal up to
`ren σ` — in another order, no rpc input/output. -/
theorem include_conversion (s : Split) (R R' : Registry) (opts : Opts) (plug plug' : Plug) (h : IsSplitOf s R R' plug plug')
    (hlink : (linkAll R).2 = []) (hclean : forestErrs (forest0 R opts plug) = []) :
    forestErrs (forest0 R' opts plug') = [] ∧
    (∀ x ∈ R.mods, x.seq ≠ s.m.seq → ∀ t, (forest0 R opts plug).tree? x.seq = some t →
      ∃ t', (forest0 R' opts plug').tree? x.seq = some t' ∧ ren s.σ t' = t) ∧
    (∃ t, (forest0 R opts plug).tree? s.m.seq = some t) ∧
    (∀ t, (forest0 R opts plug).tree? s.m.seq = some t →
      ∃ t', (forest0 R' opts plug').tree? s.m.seq = some t' ∧ SameTop s.σ t' t) :=
  conv_split opts plug plug' h hlink hclean

/-! ### `Modules.Process` -/

/-- **The full statement**: for every pair of
registries related by a split — any other modules, augments and deviations, nested includes among the
parts — a clean `Process` of the unsplit set implies a clean `Process` of the split set and equal
canonical dumps (children in name order at every level; kind, config, type, defaults, constraints,
namespace, read-only, instantiating module) of the split module.  Before the repair of finding D67 it
FAILED when augments waited for the stage after FixChoice (targets in implied cases, chained across
modules): that stage was one sweep in the order swap-remove had left the module array in, and the
additional submodule trees permute it.  With the repair the stage is a fixpoint (`Model.leftoverRounds`) and the
witness pair satisfies the statement (`include_eq_inline_witness`); no counterexample is known.
It is proved for sets without augment and deviation statements (`include_eq_inline_noaug`); what is proved for
sets with augments, and what is not, is listed at the head of the file; the statement with the hypotheses
under which those results apply is `IncludeEqInlineAugments`.  The metamorphic runner harness/cmd/corr-c13c
checks the full statement on both sides, on sets with and without augments left for the stage after FixChoice. -/
def IncludeEqInline (s : Split) (R R' : Registry) (opts : Opts) (plug plug' : Plug) : Prop :=
  (processAll R opts plug).errors = [] →
    (processAll R' opts plug').errors = [] ∧
    dumpOf (processAll R' opts plug') s.owner = dumpOf (processAll R opts plug) s.m

/-- **include_eq_inline_partial.**  No augment or deviation statement in the loaded set: a clean
`Process` of the unsplit set implies a clean `Process` of the split set; every other module keeps its
tree (up to `ren σ`); the owner's tree is the unsplit module's tree with the children of the root
in another order (`SameTop`: same data but for the statement object, the same children up to
`ren σ`). -/
theorem include_eq_inline_partial (s : Split) (R R' : Registry) (opts : Opts) (plug plug' : Plug)
    (h : IsSplitOf s R R' plug plug') (hna : NoAugDev R) (hclean : (processAll R opts plug).errors = []) :
    (processAll R' opts plug').errors = [] ∧
    (∀ x ∈ R.mods, x.seq ≠ s.m.seq → ∀ t, (processAll R opts plug).forest.tree? x.seq = some t →
      ∃ t', (processAll R' opts plug').forest.tree? x.seq = some t' ∧ ren s.σ t' = t) ∧
    (∃ t, (processAll R opts plug).forest.tree? s.m.seq = some t) ∧
    (∀ t, (processAll R opts plug).forest.tree? s.m.seq = some t →
      ∃ t', (processAll R' opts plug').forest.tree? s.m.seq = some t' ∧ SameTop s.σ t' t) :=
  process_split opts plug plug' h hna hclean

/-- **include_paths.**  In the same setting, at every path into the module's tree: the same namespace (`namespaceAt`), the same read-only status (`readOnlyAt`), and
below the root the same subtree — every node with all its data, children in the same order — up to
`ren σ`. -/
theorem include_paths (s : Split) (R R' : Registry) (opts : Opts) (plug plug' : Plug)
    (h : IsSplitOf s R R' plug plug') (hna : NoAugDev R) (hclean : (processAll R opts plug).errors = [])
    (p : Path) :
    namespaceAt R' (processAll R' opts plug').forest (s.m.seq, p) = namespaceAt R (processAll R opts plug).forest (s.m.seq, p) ∧
    ∀ t' t, (processAll R' opts plug').forest.tree? s.m.seq = some t' → (processAll R opts plug).forest.tree? s.m.seq = some t →
      t'.readOnlyAt p = t.readOnlyAt p ∧ (p ≠ [] → (t'.getAt p).map (ren s.σ) = t.getAt p) :=
  process_split_paths opts plug plug' h hna hclean p


/-- **include_eq_inline_noaug.**  The full statement for sets without augment and deviation
statements: the canonical dump of the owner's tree (every node in name order with kind, config,
mandatory, defaults, units, key, list attributes, type, read-only, namespace, instantiating module,
path) is the dump of the unsplit module's tree. -/
theorem include_eq_inline_noaug (s : Split) (R R' : Registry) (opts : Opts) (plug plug' : Plug)
    (h : IsSplitOf s R R' plug plug') (hna : NoAugDev R) : IncludeEqInline s R R' opts plug plug' :=
  fun hclean => ⟨(process_split opts plug plug' h hna hclean).1, Lemmas.IncludeDump.dumpOf_split opts plug plug' h hna hclean⟩

/-! ### sets with augment statements -/

/-- **The statement for sets with augments that the results below work towards** (not proved in general;
reduced to `Lemmas.IncludeAugCompose.LoopsRelated` by `include_eq_inline_augments_reduced`; kernel-checked on `Ex4`): no deviation statement in the set, and the augment loop of the unsplit set
leaves no augment pending (`NoLeftover`: decidable by running the loop; it excludes the augments that
wait for the stage after FixChoice — targets in the implied case of a shorthand choice member).  The
second hypothesis delimits what `no_leftover_result` covers; on the known inputs the statement holds without
it (`include_eq_inline_witness`: the D67 witness pair satisfies `IncludeEqInline` with `NoLeftover` false). -/
def IncludeEqInlineAugments (s : Split) (R R' : Registry) (opts : Opts) (plug plug' : Plug) : Prop :=
  (∀ x ∈ R.mods, x.stmt.all "deviation" = []) → Lemmas.IncludeAugOrder.NoLeftover R opts plug →
    IncludeEqInline s R R' opts plug plug'

/-- **include_pending_rows.**  What the split set hands to the augment loop: a submodule of the split has
nothing pending (augment statements stay with the owner); the row of every module `x` of the unsplit
set is empty or lists — one entry per statement, in written order — the augment statements of `x`
(for the owner: those of the unsplit module `m`). -/
theorem include_pending_rows (s : Split) (R R' : Registry) (opts : Opts) (plug plug' : Plug)
    (h : IsSplitOf s R R' plug plug') :
    (∀ sb ∈ s.subs, (pstate0 R' opts plug').pendingOf sb.seq = []) ∧
    (∀ x ∈ R.mods, (pstate0 R' opts plug').pendingOf x.seq = [] ∨
      ((pstate0 R' opts plug').pendingOf x.seq).map (·.d.node) = x.stmt.all "augment") :=
  ⟨fun _ hsb => Lemmas.IncludeAugOrder.pending_sub_nil opts plug plug' h hsb,
   fun _ hx => Lemmas.IncludeAugOrder.pending_stmts_split opts plug plug' h hx⟩

/-- **include_augment_loop_order.**  The augment loop of `Process` over the split set (`afterLoop R'`: the
module order of `R'`, which the augment-free submodule trees have changed through swap-remove) against
the same loop run in the module order of the UNSPLIT set: when the former leaves no `duplicate-node`
error, both end in the same flat view (C07: the same locations with the same data — children as sets)
and leave the same augments pending.  `LoadedShape`, `AugPosDistinct`, `AugArgsPlain` are C07's decidable
input predicates (distinct load numbers; augment statements of one module at different positions;
augment arguments absolute schema node identifiers). -/
theorem include_augment_loop_order (s : Split) (R R' : Registry) (opts : Opts) (plug plug' : Plug)
    (h : IsSplitOf s R R' plug plug') (hL : Lemmas.Fuel.LoadedShape R') (hpos : Lemmas.Bridge.AugPosDistinct R')
    (hplain : Lemmas.Bridge.AugArgsPlain R')
    (hfree : ∀ er, Lemmas.AugmentStep.FVisErr (afterLoop R' opts plug').2.forest er → er.cls ≠ "duplicate-node") :
    Spec.Augment.viewOf (augmentLoop R' (Lemmas.IncludeAugOrder.loopFuel R' opts plug') ((augOrder R).map (·.seq)).toArray
        (pstate0 R' opts plug')).2.forest = Spec.Augment.viewOf (afterLoop R' opts plug').2.forest ∧
    (∀ id a, a ∈ (augmentLoop R' (Lemmas.IncludeAugOrder.loopFuel R' opts plug') ((augOrder R).map (·.seq)).toArray
        (pstate0 R' opts plug')).2.pendingOf id ↔ a ∈ (afterLoop R' opts plug').2.pendingOf id) :=
  Lemmas.IncludeAugOrder.split_loop_in_unsplit_order opts plug plug' h hL hpos hplain hfree

/-- **include_augment_loop_clean_iff.**  … and the loop over the split set ends without recorded errors
in its own module order iff it does in the module order of the unsplit set. -/
theorem include_augment_loop_clean_iff (s : Split) (R R' : Registry) (opts : Opts) (plug plug' : Plug)
    (h : IsSplitOf s R R' plug plug') (hL : Lemmas.Fuel.LoadedShape R') (hpos : Lemmas.Bridge.AugPosDistinct R')
    (hplain : Lemmas.Bridge.AugArgsPlain R') (h0 : forestErrs (forest0 R' opts plug') = []) :
    Lemmas.AugmentReport.allErrs (afterLoop R' opts plug').2.forest = [] ↔
      Lemmas.AugmentReport.allErrs (augmentLoop R' (Lemmas.IncludeAugOrder.loopFuel R' opts plug')
        ((augOrder R).map (·.seq)).toArray (pstate0 R' opts plug')).2.forest = [] :=
  Lemmas.IncludeAugOrder.split_loop_clean_iff opts plug plug' h hL hpos hplain h0

/-- **no_leftover_result.**  Any registry without deviation statements whose loop leaves nothing pending,
first two stages clean: the retry rounds, the reporting sweep and the last FixChoice do nothing — `processAll` returns the
loop's forest with `fixChoice` applied to every tree, and the errors recorded in it. -/
theorem no_leftover_result (reg : Registry) (opts : Opts) (plug : Plug)
    (hn : Lemmas.IncludeAugOrder.NoLeftover reg opts plug) (hdev : ∀ x ∈ reg.mods, x.stmt.all "deviation" = [])
    (h1 : stage1Errs reg plug = []) (h2 : forestErrs (forest0 reg opts plug) = []) :
    (processAll reg opts plug).errors = canonErrs (forestErrs (fixAll (afterLoop reg opts plug).2).forest) ∧
    (processAll reg opts plug).forest = (fixAll (afterLoop reg opts plug).2).forest :=
  Lemmas.IncludeAugOrder.processAll_noLeftover reg opts plug hn hdev h1 h2

/-- **visible_when_grouping_names_distinct.**  The visibility condition is automatic when the
top-level grouping names of `m` are pairwise distinct (RFC 7950 requires it; goyang does not check):
from every part the search order of goyang's lookup reaches every part — the owner through its
include statements, a submodule through its owner. -/
theorem visible_when_grouping_names_distinct (s : Split) (R R' : Registry) (ht : TextOK s) (hr : RegsOK s R R')
    (hlink : (linkAll R).2 = []) (hnd : ((s.m.stmt.all "grouping").map (·.arg)).Nodup) :
    Visible s R' (linkAll R').1 :=
  Lemmas.IncludeVisibleN.visible_of_nodupN s R R' _ _ ht hr (Lemmas.IncludeLinkN.linkAll_splitN s R R' ht hr hlink).2 hnd

/-- **(d) what is needed of the plug**, discharged for the placeholder type layer (`typesLite`: the
written type name) with identity and typedef stages that report nothing.  For the full plug
(`Pipeline.plugFull R`, `plugFull R'`) the four clauses of `PlugSplitOK` are the obligations of the
type, identity and typedef layers: typedef lookup from a part must find what the lookup from `m`
finds (the analogue of `Visible` for typedefs), identities and typedefs of the parts must be
collected as if written in `m`. -/
theorem plugSplitOK_lite (s : Split) (R R' : Registry) (plug plug' : Plug)
    (h1 : plug.tres = typesLite) (h1' : plug'.tres = typesLite)
    (h2 : plug'.identityErrs R' = []) (h3 : plug'.typedefErrs R' = []) : PlugSplitOK s R R' plug plug' where
  identity := fun _ => h2
  typedefs := fun _ => h3
  types_part := fun _ _ _ _ => by rw [h1, h1']; rfl
  types_other := fun _ _ _ _ _ => by rw [h1, h1']; rfl

/-! ### the stages -/

/-- **(a) context_independence.**  The conversion of a statement depends on the (sub)module it is
written in only through type resolution, grouping lookup and the module number: when the
conversion of `n` below `inner` in the unsplit module `m` is error free — from any coherent state,
any fuel that leaves the slack, any set of statements in progress that the value of `n` does not
depend on — then the conversion of the same `n` below the same `inner` in a part `P` of the split
set, again from any coherent state etc., gives the same entry up to `ren σ`. -/
theorem context_independence (s : Split) (R R' : Registry) (opts : Opts) (plug plug' : Plug) (h : IsSplitOf s R R' plug plug')
    (hlink : (linkAll R).2 = []) (P : Mod) (hP : P ∈ s.parts) (inner : List Stmt) (n : Stmt)
    (hn : isModKw n = false) (hch : Chain s.m.stmt (n :: (inner ++ [s.m.stmt]))) (hch' : Chain P.stmt (n :: (inner ++ [P.stmt])))
    (f f' : Nat) (vis vis' : List NodeId) (st st' : TState)
    (hf : Fuel.need R s.m n vis + lookupSlack R ≤ f) (hf' : Fuel.need R' P n vis' + lookupSlack R' ≤ f')
    (hcoh : Coh (IncludeWorld.Wu R opts plug) st.gcache) (hcoh' : Coh (IncludeWorld.Ws s R R' opts plug plug') st'.gcache)
    (hv : Harmless (IncludeWorld.Wu R opts plug) vis (s.m, inner ++ [s.m.stmt], n))
    (hv' : Harmless (IncludeWorld.Ws s R R' opts plug plug') vis' (s.m, inner ++ [s.m.stmt], n))
    (hclean : Clean (toEntry (envOf R opts plug) f s.m (inner ++ [s.m.stmt]) n vis st).1) :
    ren s.σ (toEntry (envOf R' opts plug') f' P (inner ++ [P.stmt]) n vis' st').1 =
      (toEntry (envOf R opts plug) f s.m (inner ++ [s.m.stmt]) n vis st).1 := by
  have hu := (run_val (IncludeWorld.Wu R opts plug) (wu_ok opts plug plug' h) f s.m (inner ++ [s.m.stmt]) n vis st s.m
    (inner ++ [s.m.stmt]) ⟨rfl, rfl⟩ ⟨h.regs.m_mem, hch⟩ hn hf hcoh hv).1
  have hs := (run_val (IncludeWorld.Ws s R R' opts plug plug') (ws_ok opts plug plug' h hlink) f' P (inner ++ [P.stmt]) n vis' st' s.m
    (inner ++ [s.m.stmt]) (Or.inl ⟨hP, rfl, inner, rfl, rfl⟩) ⟨IncludeWorld.part_mem' h.regs hP, hch'⟩ hn hf' hcoh' hv').1
  have h1 : ren id (toEntry (envOf R opts plug) f s.m (inner ++ [s.m.stmt]) n vis st).1 =
      (IncludeWorld.Wu R opts plug).val s.m (inner ++ [s.m.stmt]) n := hu.1 hclean
  rw [ren_id] at h1
  have hc : Clean ((IncludeWorld.Ws s R R' opts plug plug').val s.m (inner ++ [s.m.stmt]) n) := by
    have : (IncludeWorld.Ws s R R' opts plug plug').val s.m (inner ++ [s.m.stmt]) n =
        (IncludeWorld.Wu R opts plug).val s.m (inner ++ [s.m.stmt]) n := rfl
    rw [this, ← h1]; exact hclean
  have h2 : ren s.σ (toEntry (envOf R' opts plug') f' P (inner ++ [P.stmt]) n vis' st').1 =
      (IncludeWorld.Ws s R R' opts plug plug').val s.m (inner ++ [s.m.stmt]) n := hs.2 hc
  rw [h2, h1]
  rfl

/-- **(b) grouping_found_same.**  From a place in a part, goyang's grouping lookup (C06: `findGrouping`
is `bindGrouping`) answers the very statement that the lookup from the same place in the unsplit
module answers, at the corresponding place (`CtxRel`): in a part again when it is one of `m`'s own
groupings — found through include statements or, from a submodule, through its owner — and in the
same other module otherwise. -/
theorem grouping_found_same (s : Split) (R R' : Registry) (h : TextOK s) (hr : RegsOK s R R')
    (hl : LinkOK s R (linkAll R).1 (linkAll R').1) (hv : Visible s R' (linkAll R').1) (P : Mod) (hP : P ∈ s.parts)
    (inner : List Stmt) (name : String) :
    Lemmas.IncludeBind.BindRel s R (bindGrouping R' (linkAll R').1 P inner name) (bindGrouping R (linkAll R).1 s.m inner name) :=
  Lemmas.IncludeVisibleN.bind_partN s R R' _ _ h hr hl hv P hP inner name

/-- **(c) parts_merge_each_submodule_once** (nested includes, the merged-submodule bookkeeping).
The conversion of a part `P` of the split (owner or submodule; not yet converted; `S` the names of
the submodules started so far, in agreement with goyang's `mergedSubmodule` keys and the module
cache: `PInv`) is — up to `ren σ`, where error free — the pure depth-first mirror `pp`
(`Lemmas.IncludeAsm.ppart`): `P`'s own field steps before the include step; then, for every include
statement in order, the target's conversion merged **iff the target has not been started yet**
(started from anywhere: the bookkeeping lets every submodule pass exactly once, a target already
started is skipped silently, and under `RegsOK.inc_no_back` — no part includes itself, no two parts
include each other — goyang's circularity error is never raised); then `P`'s remaining field steps.
Afterwards the state agrees with the started names of the mirror (`PGoal.inv`), `P` is in the module
cache (`self`), every newly started submodule is in the module cache (`newc`) with an entry that is
a value of the mirror (`cache`).  `PStmt`/`PGoal`: Lemmas/IncludeModN.lean. -/
theorem parts_merge_each_submodule_once (s : Split) (R R' : Registry) (opts : Opts) (plug plug' : Plug)
    (h : IsSplitOf s R R' plug plug') (hlink : (linkAll R).2 = []) (f : Nat) : Lemmas.IncludeModN.PStmt s R R' opts plug plug' f :=
  Lemmas.IncludeModN.part_conv opts plug plug' h.text h.regs
    (Lemmas.IncludeLinkN.linkAll_splitN s R R' h.text h.regs hlink).2 (ws_ok opts plug plug' h hlink) f

/-! ### non-vacuity: a module with two containers and a grouping, split into two submodules

```
module m { namespace "urn:m"; prefix p;                      module m { namespace "urn:m"; prefix p; include s1; include s2; }
  container c1 { uses g; }                                   submodule s1 { belongs-to m { prefix p; } container c1 { uses g; } }
  grouping g { leaf x { type string; } }          ~>         submodule s2 { belongs-to m { prefix p; }
  container c2 { leaf y { type int8; } } }                     grouping g { leaf x { type string; } } container c2 { leaf y { type int8; } } }
```
The registries are what `Registry.loadAll` makes of the statements.  Every hypothesis is discharged
(kernel-checked where it is a computation; the conversion of the split set itself does not reduce in
the kernel — `String.contains` in the lookup across files — its result is what the theorem gives). -/
namespace Ex
def st (file kw arg : String) (l c : Nat) (subs : List Stmt) : Stmt := .mk kw true arg file l c subs
def ty (n : String) : Stmt := st "m" "type" n 0 0 []
def gS : Stmt := st "m" "grouping" "g" 3 3 [st "m" "leaf" "x" 3 15 [ty "string"]]
def c1 : Stmt := st "m" "container" "c1" 4 3 [st "m" "uses" "g" 4 20 []]
def c2 : Stmt := st "m" "container" "c2" 5 3 [st "m" "leaf" "y" 5 20 [ty "int8"]]
def nsS : Stmt := st "m" "namespace" "urn:m" 1 12 []
def pfS : Stmt := st "m" "prefix" "p" 1 30 []
def mS : Stmt := st "m" "module" "m" 1 1 [nsS, pfS, c1, gS, c2]
-- the split texts (the moved statements are the same statement values)
def inc1 : Stmt := st "o" "include" "s1" 2 3 []
def inc2 : Stmt := st "o" "include" "s2" 3 3 []
def oS : Stmt := st "o" "module" "m" 1 1 [nsS, pfS, inc1, inc2]
def bt (f : String) : Stmt := st f "belongs-to" "m" 1 15 [pfS]
def s1S : Stmt := st "s1" "submodule" "s1" 1 1 [bt "s1", c1]
def s2S : Stmt := st "s2" "submodule" "s2" 1 1 [bt "s2", gS, c2]
def m : Mod := { seq := 0, stmt := mS }
def o : Mod := { seq := 0, stmt := oS }
def s1 : Mod := { seq := 1, stmt := s1S }
def s2 : Mod := { seq := 2, stmt := s2S }
def R : Registry := (Registry.loadAll [mS]).1
def R' : Registry := (Registry.loadAll [oS, s1S, s2S]).1
def plug : Plug := { tres := typesLite, identityErrs := fun _ => [], typedefErrs := fun _ => [] }
def sp : Split := { m := m, owner := o, subs := [s1, s2] }

theorem R'_mods : R'.mods = [o, s1, s2] := rfl

theorem isSplit : IsSplitOf sp R R' plug plug :=
  Lemmas.IncludeAugDec.isSplitOf_of_check (by decide +kernel) (plugSplitOK_lite _ _ _ _ _ rfl rfl rfl rfl)

/-- From every part the grouping `g` binds to `m`'s statement, found in `s2`: from the owner through
its include statements, from `s1` through its owner, in `s2` itself. -/
theorem visible : Visible sp R' (linkAll R').1 := isSplit.visible

theorem evaluated :
    (processAll R {} plug).errors = [] ∧
    ((processAll R {} plug).forest.tree? 0).map (fun t => t.dir.map fun c => (c.name, c.dir.map (·.name))) =
      some [("c1", ["x"]), ("c2", ["y"])] ∧
    namespaceAt R (processAll R {} plug).forest (0, [.child "c1", .child "x"]) = "urn:m" ∧
    Lemmas.IncludeAugIO.NoIOStart R {} plug ∧ NoAugDev R := by
  unfold NoAugDev
  decide +kernel

theorem unsplit_clean : (processAll R {} plug).errors = [] := by
  obtain ⟨hClean, _⟩ := evaluated
  exact hClean

theorem noAugDev : NoAugDev R := by
  obtain ⟨_, _, _, _, hNoAugDev⟩ := evaluated
  exact hNoAugDev

theorem noIO : Lemmas.IncludeAugIO.NoIOStart R {} plug := by
  obtain ⟨_, _, _, hNoIO, _⟩ := evaluated
  exact hNoIO

example : ((processAll R {} plug).forest.tree? 0).map (fun t => t.dir.map fun c => (c.name, c.dir.map (·.name))) =
    some [("c1", ["x"]), ("c2", ["y"])] := by
  obtain ⟨_, hTree, _⟩ := evaluated
  exact hTree

/-- **The hypotheses of `include_eq_inline_partial` are satisfiable**, and what it says here: the split
set processes without errors and the owner's tree is the unsplit module's. -/
theorem split_result :
    (processAll R' {} plug).errors = [] ∧
    ∃ t t', (processAll R {} plug).forest.tree? 0 = some t ∧ (processAll R' {} plug).forest.tree? 0 = some t' ∧
      SameTop sp.σ t' t := by
  obtain ⟨h1, _, ⟨t, ht⟩, h4⟩ := include_eq_inline_partial sp R R' {} plug plug isSplit noAugDev unsplit_clean
  obtain ⟨t', ht', hst⟩ := h4 t ht
  exact ⟨h1, t, t', ht, ht', hst⟩

/-- The canonical dumps of the two results are equal. -/
theorem split_dump : dumpOf (processAll R' {} plug) o = dumpOf (processAll R {} plug) m :=
  (include_eq_inline_noaug sp R R' {} plug plug isSplit noAugDev unsplit_clean).2

/-- … and at the path `/m/c1/x` (the leaf that came through `uses g`, written in `s2`, used in `s1`):
same namespace, same read-only status, same node. -/
example : namespaceAt R' (processAll R' {} plug).forest (0, [.child "c1", .child "x"]) = "urn:m" := by
  obtain ⟨_, _, hNs, _⟩ := evaluated
  exact (include_paths sp R R' {} plug plug isSplit noAugDev unsplit_clean [.child "c1", .child "x"]).1.trans hNs

-- the link stage of the split set, evaluated: every part is linked
example : (linkAll R').1 = [2, 1, 0] ∧ (linkAll R').2 = [] := by decide +kernel
end Ex


/-! ### non-vacuity, nested includes: `s1` also includes `s2` (the shape of the runner's splits)

```
module m { … include s1; include s2; }
submodule s1 { belongs-to m { prefix p; } include s2; container c1 { uses g; } }
submodule s2 { belongs-to m { prefix p; } grouping g { … } container c2 { … } }
```
Here goyang converts `s2` while converting `s1` (started from `s1`'s include statement), merges its
entry into `s1`'s, `s1`'s into the owner's, and skips the owner's own `include s2` (already merged). -/
namespace Ex2
open Ex
def inc2' : Stmt := st "s1" "include" "s2" 2 3 []
def s1S' : Stmt := st "s1" "submodule" "s1" 1 1 [bt "s1", inc2', c1]
def s1' : Mod := { seq := 1, stmt := s1S' }
def R2 : Registry := (Registry.loadAll [oS, s1S', s2S]).1
def sp2 : Split := { m := m, owner := o, subs := [s1', s2] }

theorem R2_mods : R2.mods = [o, s1', s2] := rfl
theorem isSplit2 : IsSplitOf sp2 R R2 plug plug :=
  Lemmas.IncludeAugDec.isSplitOf_of_check (by decide +kernel) (plugSplitOK_lite _ _ _ _ _ rfl rfl rfl rfl)

/-- The nested split processes without errors and gives the same dump. -/
theorem nested_result :
    (processAll R2 {} plug).errors = [] ∧ dumpOf (processAll R2 {} plug) o = dumpOf (processAll R {} plug) m :=
  include_eq_inline_noaug sp2 R R2 {} plug plug isSplit2 noAugDev unsplit_clean
end Ex2


/-! ### the D67 witness (replayed on the Go code and on the model): refuted the full statement before the repair

```
module ma { … import t …; augment "/t:ch/t:x" { container y { } } }
module mb { … import t …; import ma …; augment "/t:ch/t:x/ma:y" { leaf z { type string; } } }
module t  { … choice ch { leaf x { type string; } } container keep { leaf k { type string; } } }
      ~>   module t { … include a-sub; choice ch { leaf x { … } } }
           submodule a-sub { belongs-to t { prefix t; } container keep { leaf k { … } } }
```
`/t:ch/t:x` is the leaf `x` until FixChoice wraps it into the implied case `x`: neither augment is
applicable in the loop, both wait for the stage after FixChoice, which the unsplit set enters with the
modules in the order [ma, mb] and the split set in the order [mb, ma] (swap-remove of `a-sub`, then of
`t`).  With the single sweep `mb`'s target did not exist yet in the split run (`augment-not-found`); the
retry rounds apply `ma` in the first pass, `mb` in the second, in both runs. -/
namespace Ex3
open Ex (st plug)
def ty (f : String) (l c : Nat) : Stmt := st f "type" "string" l c []
def nsT : Stmt := st "t" "namespace" "urn:t" 1 12 []
def pfT : Stmt := st "t" "prefix" "t" 1 30 []
def imp (f m : String) (c : Nat) : Stmt := st f "import" m 1 c [st f "prefix" m 1 (c + 10) []]
def augA : Stmt := st "ma" "augment" "/t:ch/t:x" 1 70 [st "ma" "container" "y" 1 92 []]
def maS : Stmt := st "ma" "module" "ma" 1 1 [st "ma" "namespace" "urn:ma" 1 12 [], st "ma" "prefix" "ma" 1 30 [], imp "ma" "t" 40, augA]
def augB : Stmt := st "mb" "augment" "/t:ch/t:x/ma:y" 1 92 [st "mb" "leaf" "z" 1 120 [ty "mb" 1 130]]
def mbS : Stmt :=
  st "mb" "module" "mb" 1 1 [st "mb" "namespace" "urn:mb" 1 12 [], st "mb" "prefix" "mb" 1 30 [], imp "mb" "t" 40, imp "mb" "ma" 60, augB]
def chS : Stmt := st "t" "choice" "ch" 1 40 [st "t" "leaf" "x" 1 52 [ty "t" 1 61]]
def keepS : Stmt := st "t" "container" "keep" 1 80 [st "t" "leaf" "k" 1 97 [ty "t" 1 106]]
def tS : Stmt := st "t" "module" "t" 1 1 [nsT, pfT, chS, keepS]
def incS : Stmt := st "o" "include" "a-sub" 1 35 []
def oS : Stmt := st "o" "module" "t" 1 1 [nsT, pfT, incS, chS]
def btS : Stmt := st "a-sub" "belongs-to" "t" 1 20 [pfT]
def subS : Stmt := st "a-sub" "submodule" "a-sub" 1 1 [btS, keepS]
def ma : Mod := { seq := 0, stmt := maS }
def mb : Mod := { seq := 1, stmt := mbS }
def t : Mod := { seq := 2, stmt := tS }
def o : Mod := { seq := 2, stmt := oS }
def sub : Mod := { seq := 3, stmt := subS }
def R : Registry := (Registry.loadAll [maS, mbS, tS]).1
def R' : Registry := (Registry.loadAll [maS, mbS, oS, subS]).1
def sp : Split := { m := t, owner := o, subs := [sub] }

theorem R'_mods : R'.mods = [ma, mb, o, sub] := rfl
theorem isSplit : IsSplitOf sp R R' plug plug :=
  Lemmas.IncludeAugDec.isSplitOf_of_check (by decide +kernel) (plugSplitOK_lite _ _ _ _ _ rfl rfl rfl rfl)

theorem visible : Visible sp R' (linkAll R').1 := isSplit.visible

open Goyang.Lemmas.IncludeAugK Goyang.Lemmas.IncludeAugOrder Goyang.Lemmas.IncludeAugSim in
/-- What is evaluated on the witness pair: the unsplit set (first two stages clean, no error, augments left pending, no
deviation statement), the split set (first two stages clean, no error), the two dumps, the conditions on the converted
sets.  One statement, so that the two runs are evaluated together. -/
theorem evaluated :
    (stage1Errs R plug = [] ∧ forestErrs (forest0 R {} plug) = [] ∧ (outcomeK R {} plug).errors = [] ∧
      ¬ NoLeftover R {} plug ∧ (∀ x ∈ R.mods, x.stmt.all "deviation" = [])) ∧
    (stage1Errs R' plug = [] ∧ forestErrs (forest0 R' {} plug) = [] ∧ (outcomeK R' {} plug).errors = []) ∧
    dumpOf (outcomeK R' {} plug) o = dumpOf (outcomeK R {} plug) t ∧
    PendRel sp R R' {} plug plug ∧ AllConverted R {} plug ∧ loopFuel R' {} plug = loopFuel R {} plug := by
  simp only [NoLeftover, afterLoop_eqK]
  decide +kernel

open Goyang.Lemmas.IncludeAugK in
theorem unsplit_clean : (processAll R {} plug).errors = [] := by
  obtain ⟨⟨hStage1, hConv0, hClean, _⟩, _⟩ := evaluated
  rw [processAll_eqK R {} plug hStage1 hConv0]
  exact hClean

open Goyang.Lemmas.IncludeAugK in
theorem split_clean : (processAll R' {} plug).errors = [] := by
  obtain ⟨_, ⟨hStage1, hConv0, hClean⟩, _⟩ := evaluated
  rw [processAll_eqK R' {} plug hStage1 hConv0]
  exact hClean

open Goyang.Lemmas.IncludeAugK in
theorem split_dump : dumpOf (processAll R' {} plug) o = dumpOf (processAll R {} plug) t := by
  obtain ⟨⟨hStage1, hConv0, _⟩, ⟨hStage1', hConv0', _⟩, hDump, _⟩ := evaluated
  rw [processAll_eqK R' {} plug hStage1' hConv0', processAll_eqK R {} plug hStage1 hConv0]
  exact hDump

open Goyang.Lemmas.IncludeAugK Goyang.Lemmas.IncludeAugOrder in
/-- Both augments of the witness wait for the stage after FixChoice: the loop of the unsplit set leaves
them pending (`NoLeftover` does not hold; the pair is outside `IncludeEqInlineAugments`). -/
theorem leftover : ¬ NoLeftover R {} plug := by
  obtain ⟨⟨_, _, _, hLeftover, _⟩, _⟩ := evaluated
  exact hLeftover

theorem noDev : ∀ x ∈ R.mods, x.stmt.all "deviation" = [] := by
  obtain ⟨⟨_, _, _, _, hNoDev⟩, _⟩ := evaluated
  exact hNoDev
end Ex3

/-- **include_eq_inline_witness.**  The D67 witness pair after the repair: the set with the augment-free
submodule split off processes without errors like the unsplit set, and the dumps of `t` are equal —
`IncludeEqInline` holds of it, although both augments wait for the stage after FixChoice
(`Ex3.leftover`) and the two runs enter that stage with the modules in opposite orders.  Before the
repair (one ordered sweep `Augment(true)` instead of the retry rounds) the split set returned
`augment-not-found` here and this pair refuted the statement. -/
theorem include_eq_inline_witness :
    IsSplitOf Ex3.sp Ex3.R Ex3.R' Ex.plug Ex.plug ∧ (∀ x ∈ Ex3.R.mods, x.stmt.all "deviation" = []) ∧
    ¬ Lemmas.IncludeAugOrder.NoLeftover Ex3.R {} Ex.plug ∧ IncludeEqInline Ex3.sp Ex3.R Ex3.R' {} Ex.plug Ex.plug :=
  ⟨Ex3.isSplit, Ex3.noDev, Ex3.leftover, fun _ => ⟨Ex3.split_clean, Ex3.split_dump⟩⟩

/-! ### non-vacuity of `IncludeEqInlineAugments`: a chain of augments into a node the split moves

As `Ex3`, but the augments target `/t:keep` (module `ma`) and `/t:keep/ma:y` (module `mb`): both are
applied by the loop.  Unsplit: `ma` in the first pass, then `mb`.  Split: `a-sub` and `t` are swap-removed
first, which brings `mb` before `ma`: `mb` fails in the first pass, `ma` is applied, `mb` in the second
pass.  Everything is evaluated in the kernel (`Lemmas/IncludeAugK.lean`). -/
namespace Ex4
open Ex (st plug)
def ty (f : String) (l c : Nat) : Stmt := st f "type" "string" l c []
def nsT : Stmt := st "t" "namespace" "urn:t" 1 12 []
def pfT : Stmt := st "t" "prefix" "t" 1 30 []
def imp (f m : String) (c : Nat) : Stmt := st f "import" m 1 c [st f "prefix" m 1 (c + 10) []]
def augA : Stmt := st "ma" "augment" "/t:keep" 1 70 [st "ma" "container" "y" 1 92 []]
def maS : Stmt := st "ma" "module" "ma" 1 1 [st "ma" "namespace" "urn:ma" 1 12 [], st "ma" "prefix" "ma" 1 30 [], imp "ma" "t" 40, augA]
def augB : Stmt := st "mb" "augment" "/t:keep/ma:y" 1 92 [st "mb" "leaf" "z" 1 120 [ty "mb" 1 130]]
def mbS : Stmt :=
  st "mb" "module" "mb" 1 1 [st "mb" "namespace" "urn:mb" 1 12 [], st "mb" "prefix" "mb" 1 30 [], imp "mb" "t" 40, imp "mb" "ma" 60, augB]
def chS : Stmt := st "t" "choice" "ch" 1 40 [st "t" "leaf" "x" 1 52 [ty "t" 1 61]]
def keepS : Stmt := st "t" "container" "keep" 1 80 [st "t" "leaf" "k" 1 97 [ty "t" 1 106]]
def tS : Stmt := st "t" "module" "t" 1 1 [nsT, pfT, chS, keepS]
def incS : Stmt := st "o" "include" "a-sub" 1 35 []
def oS : Stmt := st "o" "module" "t" 1 1 [nsT, pfT, incS, chS]
def btS : Stmt := st "a-sub" "belongs-to" "t" 1 20 [pfT]
def subS : Stmt := st "a-sub" "submodule" "a-sub" 1 1 [btS, keepS]
def ma : Mod := { seq := 0, stmt := maS }
def mb : Mod := { seq := 1, stmt := mbS }
def t : Mod := { seq := 2, stmt := tS }
def o : Mod := { seq := 2, stmt := oS }
def sub : Mod := { seq := 3, stmt := subS }
def R : Registry := (Registry.loadAll [maS, mbS, tS]).1
def R' : Registry := (Registry.loadAll [maS, mbS, oS, subS]).1
def sp : Split := { m := t, owner := o, subs := [sub] }

theorem R'_mods : R'.mods = [ma, mb, o, sub] := rfl
theorem isSplit : IsSplitOf sp R R' plug plug :=
  Lemmas.IncludeAugDec.isSplitOf_of_check (by decide +kernel) (plugSplitOK_lite _ _ _ _ _ rfl rfl rfl rfl)

theorem visible : Visible sp R' (linkAll R').1 := isSplit.visible

open Goyang.Lemmas.IncludeAugK Goyang.Lemmas.IncludeAugOrder Goyang.Lemmas.IncludeAugCompose Goyang.Lemmas.IncludeAugIO
  Goyang.Lemmas.IncludeAugSim Goyang.Lemmas.IncludeAugDec in
/-- What is evaluated on the pair: the unsplit set (first two stages clean, no error, nothing left pending, no rpc /
action node, every module converted, no deviation statement); the split set (first two stages clean, no error, nothing
left pending, no rpc / action node, C07's input predicates, no deviation statement, the augment arguments); the two
dumps; the loop in the module order of the unsplit set against the unsplit set's loop (`CoreCheck`); the pending
entries of the two converted sets (`PendRel`).  One statement, so that the runs are evaluated together; the theorems
below and in `Ex4E`, `Ex4C` name its parts. -/
theorem evaluated :
    (stage1Errs R plug = [] ∧ forestErrs (forest0 R {} plug) = [] ∧ (outcomeK R {} plug).errors = [] ∧
      NoLeftover R {} plug ∧ NoIOStart R {} plug ∧ AllConverted R {} plug ∧ (∀ x ∈ R.mods, x.stmt.all "deviation" = [])) ∧
    (stage1Errs R' plug = [] ∧ forestErrs (forest0 R' {} plug) = [] ∧ (outcomeK R' {} plug).errors = [] ∧
      NoLeftover R' {} plug ∧ NoIOStart R' {} plug ∧ Lemmas.Fuel.LoadedShape R' ∧ Lemmas.Bridge.AugPosDistinct R' ∧
      (∀ x ∈ R'.mods, x.stmt.all "deviation" = []) ∧
      AugArgsPlainK R') ∧
    dumpOf (outcomeK R' {} plug) o = dumpOf (outcomeK R {} plug) t ∧
    CoreCheck sp R R' {} plug plug ∧ PendRel sp R R' {} plug plug := by
  simp only [NoLeftover, CoreCheck, loopU, afterLoop_eqK, augmentLoop_eqK]
  decide +kernel

theorem noLeftover : Lemmas.IncludeAugOrder.NoLeftover R {} plug := by
  obtain ⟨⟨_, _, _, hNoLeftover, _⟩, _⟩ := evaluated
  exact hNoLeftover

theorem noIO : Lemmas.IncludeAugIO.NoIOStart R {} plug := by
  obtain ⟨⟨_, _, _, _, hNoIO, _⟩, _⟩ := evaluated
  exact hNoIO

theorem allConverted : Lemmas.IncludeAugSim.AllConverted R {} plug := by
  obtain ⟨⟨_, _, _, _, _, hConverted, _⟩, _⟩ := evaluated
  exact hConverted

theorem noDev : ∀ x ∈ R.mods, x.stmt.all "deviation" = [] := by
  obtain ⟨⟨_, _, _, _, _, _, hNoDev⟩, _⟩ := evaluated
  exact hNoDev

theorem coreCheck : Lemmas.IncludeAugDec.CoreCheck sp R R' {} plug plug := by
  obtain ⟨_, _, _, hCore, _⟩ := evaluated
  exact hCore

theorem pendRel : Lemmas.IncludeAugSim.PendRel sp R R' {} plug plug := by
  obtain ⟨_, _, _, _, hPend⟩ := evaluated
  exact hPend

open Goyang.Lemmas.IncludeAugK in
theorem unsplit_clean : (processAll R {} plug).errors = [] := by
  obtain ⟨⟨hStage1, hConv0, hClean, _⟩, _⟩ := evaluated
  rw [processAll_eqK R {} plug hStage1 hConv0]
  exact hClean

open Goyang.Lemmas.IncludeAugK in
theorem split_clean : (processAll R' {} plug).errors = [] := by
  obtain ⟨_, ⟨hStage1, hConv0, hClean, _⟩, _⟩ := evaluated
  rw [processAll_eqK R' {} plug hStage1 hConv0]
  exact hClean

open Goyang.Lemmas.IncludeAugK in
theorem split_dump : dumpOf (processAll R' {} plug) o = dumpOf (processAll R {} plug) t := by
  obtain ⟨⟨hStage1, hConv0, _⟩, ⟨hStage1', hConv0', _⟩, hDump, _⟩ := evaluated
  rw [processAll_eqK R' {} plug hStage1' hConv0', processAll_eqK R {} plug hStage1 hConv0]
  exact hDump
end Ex4


/-- `IncludeEqInlineAugments` on `Ex4`, with its hypotheses shown to hold (`Ex4.isSplit`,
`Ex4.noLeftover`, no deviation statement) and the conclusion kernel-evaluated. -/
theorem include_eq_inline_augments_example :
    IsSplitOf Ex4.sp Ex4.R Ex4.R' Ex.plug Ex.plug ∧ (∀ x ∈ Ex4.R.mods, x.stmt.all "deviation" = []) ∧
    Lemmas.IncludeAugOrder.NoLeftover Ex4.R {} Ex.plug ∧ IncludeEqInlineAugments Ex4.sp Ex4.R Ex4.R' {} Ex.plug Ex.plug :=
  ⟨Ex4.isSplit, Ex4.noDev, Ex4.noLeftover, fun _ _ _ => ⟨Ex4.split_clean, Ex4.split_dump⟩⟩

/-- The hypotheses of `include_augment_loop_order` / `include_augment_loop_clean_iff` on `R'` hold of `Ex4`
(`AugArgsPlain`, the arguments `/t:keep`, `/t:keep/ma:y`: `Ex4E.argsPlain`, evaluated with the arguments split over
their character lists — `String.splitOn` does not reduce in the kernel). -/
example : Lemmas.Fuel.LoadedShape Ex4.R' ∧ Lemmas.Bridge.AugPosDistinct Ex4.R' := by
  obtain ⟨_, ⟨_, _, _, _, _, hLoaded, hAugPos, _⟩, _⟩ := Ex4.evaluated
  exact ⟨hLoaded, hAugPos⟩

/-! ### (E) the canonical dump as a function of the view -/

/-- **dump_of_path_view** (piece E, first half).  The canonical dump of a module's tree is a function of
its *path view* — which data (everything an entry records but its error list) sits at which step path
(`Entry.getAt`: `Dir` child by name, rpc input, rpc output): two outcomes over the same registry whose
trees of module `m` show the same data at every step path (`PEq`) and have `KeysUnique` (sibling names
pairwise different, at most one rpc input / output, at every node — what the augment stage maintains
in every error-free tree, `Lemmas.Bridge.noDupNames_loop`) give the same dump.  The order of the
children in a `Dir` and the recorded errors do not matter. -/
theorem dump_of_path_view (o o' : Outcome) (m : Mod) (hreg : o'.reg = o.reg) {t t' : Entry}
    (ht : o.forest.tree? m.seq = some t) (ht' : o'.forest.tree? m.seq = some t')
    (hp : Lemmas.IncludeAugDump.PEq t' t) (hk' : Spec.Tree.KeysUnique t') (hk : Spec.Tree.KeysUnique t) :
    dumpOf o' m = dumpOf o m := by
  unfold dumpOf
  rw [ht, ht', hreg]
  exact Lemmas.IncludeAugDump.dumpTree_root_peq o.reg ht ht' hp hk' hk _

/-- **dump_of_view** (piece E).  From C07's flat view (`Spec.Augment.viewOf`, what
`include_augment_loop_order` speaks about) to the dump: two outcomes over the same registry that show the
same flat view at the locations of module `m`, whose trees have the shape conversion produces
(`IOShape`: an rpc / action node has no `Dir` child, any other node no input / output), `KeysUnique`, and
in which the same rpc inputs / outputs have been created (`SameIO`), give the same dump of `m`.
`SameIO` cannot be dropped: `dump_not_function_of_flat_view`. -/
theorem dump_of_view (o o' : Outcome) (m : Mod) (hreg : o'.reg = o.reg) {t t' : Entry}
    (ht : o.forest.tree? m.seq = some t) (ht' : o'.forest.tree? m.seq = some t')
    (hview : ∀ P d, Spec.Augment.viewOf o'.forest (m.seq, P) d ↔ Spec.Augment.viewOf o.forest (m.seq, P) d)
    (hs' : Lemmas.IncludeAugView.IOShape t') (hs : Lemmas.IncludeAugView.IOShape t)
    (hio : Lemmas.IncludeAugView.SameIO t' t) (hk' : Spec.Tree.KeysUnique t') (hk : Spec.Tree.KeysUnique t) :
    dumpOf o' m = dumpOf o m :=
  dump_of_path_view o o' m hreg ht ht'
    (Lemmas.IncludeAugView.peq_of_veq (Lemmas.IncludeAugView.veq_of_viewOf ht' ht hview) hs' hs hio) hk' hk

/-- **dump_not_function_of_flat_view.**  Why `dump_of_view` asks for `SameIO`: the flat view shows the input
and output of an rpc whether or not the entry exists (RFC 7950 7.14; goyang creates it lazily, when `Find`
passes through it), the dump prints its record only when it exists.  `rpc0` (an rpc without input) and
`rpc1` (the same after `Find` has created the input) show the same flat view, have `KeysUnique` and
`IOShape`, and different dumps — in any forest, over any registry.  The Go code behaves alike (replayed on
`module m { … rpc r; }`: after `Process` `m.Dir["r"].RPC.Input == nil`; `m.Find("/m:r/input")`
returns an entry named `input` and leaves `RPC.Input != nil`; harness/lib/dump.go prints the input record only
when `RPC.Input != nil`). -/
theorem dump_not_function_of_flat_view :
    Lemmas.IncludeAugView.VEq Lemmas.IncludeAugView.rpc0 Lemmas.IncludeAugView.rpc1 ∧
    Spec.Tree.KeysUnique Lemmas.IncludeAugView.rpc0 ∧ Spec.Tree.KeysUnique Lemmas.IncludeAugView.rpc1 ∧
    Lemmas.IncludeAugView.IOShape Lemmas.IncludeAugView.rpc0 ∧ Lemmas.IncludeAugView.IOShape Lemmas.IncludeAugView.rpc1 ∧
    ∀ (reg : Registry) (f f' : Forest) (nm : String),
      dumpTree reg f nm Lemmas.IncludeAugView.rpc0 0 (entryDepth Lemmas.IncludeAugView.rpc0 + 1) [] Lemmas.IncludeAugView.rpc0 ≠
        dumpTree reg f' nm Lemmas.IncludeAugView.rpc1 0 (entryDepth Lemmas.IncludeAugView.rpc1 + 1) [] Lemmas.IncludeAugView.rpc1 :=
  Lemmas.IncludeAugView.view_not_enough

/-! non-vacuity of (E): a container with two leaves, against the same container with the children in the
other order and an error recorded at the root -/
namespace ExE
def lf (n : String) : Entry := .mk { name := n, kind := .leaf } [] [] []
def tA : Entry := .mk { name := "c", kind := .directory, hasDir := true } [lf "a", lf "b"] [] []
def tB : Entry := .mk { name := "c", kind := .directory, hasDir := true, errors := [Err.bare "other"] } [lf "b", lf "a"] [] []
def oA : Outcome := { reg := Ex.R, forest := { trees := [(0, tA)] }, errors := [] }
def oB : Outcome := { reg := Ex.R, forest := { trees := [(0, tB)] }, errors := [] }

theorem peq : Lemmas.IncludeAugDump.PEq tB tA :=
  Lemmas.IncludeAugDump.peq_of_dir_perm _ _ _ _ _ _ rfl (List.Perm.swap _ _ _) (by decide)

/-- The hypotheses of `dump_of_path_view` hold of the pair, and its conclusion. -/
example : dumpOf oB Ex.m = dumpOf oA Ex.m :=
  dump_of_path_view oA oB Ex.m rfl (t := tA) (t' := tB) rfl rfl peq (by decide) (by decide)

open Lemmas.AugmentTree (dataAt dataAt_cons) in
/-- The hypotheses of `dump_of_view` hold of the tree and the same tree with an error recorded at the root. -/
example : dumpOf { oA with forest := { trees := [(0, tA.addErr (Err.bare "other"))] } } Ex.m = dumpOf oA Ex.m := by
  refine dump_of_view oA _ Ex.m rfl (t := tA) (t' := tA.addErr (Err.bare "other")) rfl rfl ?_ (by decide) (by decide) ?_
    (by decide) (by decide)
  · intro P d
    rw [Lemmas.IncludeAugView.viewOf_tree (t := tA.addErr (Err.bare "other")) rfl,
      Lemmas.IncludeAugView.viewOf_tree (t := tA) rfl]
    cases P with
    | nil => exact Iff.rfl
    | cons k P => rw [dataAt_cons, dataAt_cons]; exact Iff.rfl
  · intro P x x' hx hx'
    cases P with
    | nil =>
      cases hx; cases hx'
      exact ⟨rfl, rfl⟩
    | cons k P =>
      have : Spec.Augment.walk (tA.addErr (Err.bare "other")) (k :: P) = Spec.Augment.walk tA (k :: P) := rfl
      rw [this, hx'] at hx
      cases hx
      exact ⟨rfl, rfl⟩
end ExE

/-! ### (E) + (F) applied: the split run in the module order of the unsplit set, on the dump -/

/-- **fixChoice_path_view** (piece F).  `FixChoice` respects the path view: error-free trees with the same
data at every step path (children possibly in another order) still have the same data at every step path
after `fixChoice` (the shorthand members of every choice wrapped into implied cases).  Error-freeness is
needed: `FixChoice` leaves a choice with a recorded error alone, and the path view does not see errors. -/
theorem fixChoice_path_view {t' t : Entry} (h : Lemmas.IncludeAugDump.PEq t' t) (h' : Spec.Tree.NoErrors t')
    (h0 : Spec.Tree.NoErrors t) : Lemmas.IncludeAugDump.PEq (fixChoice t') (fixChoice t) :=
  Lemmas.IncludeAugFix.fixChoice_peq h h' h0

/-- **include_dump_in_unsplit_order.**  `include_augment_loop_order` carried from the flat view to the
canonical dump, through `FixChoice` (pieces E and F): for a split set without deviation statements whose
augment loop leaves nothing pending and whose `Process` is error free, the dump of every module `m` of the
result is the dump of: the augment loop run in the module order of the UNSPLIT set (`loopU`), then
`FixChoice` on every tree.  So for the dump, too, the additional submodule trees' effect on the visiting
order is immaterial.  Not yet derived, hence hypotheses on the two trees of `m` (decidable resp. discharged
by `sameIO_of_noRpc` on sets without rpc / action nodes): `IOShape` (an rpc node has no `Dir` child, any
other node no input / output) and `SameIO` (the two runs created the same rpc inputs / outputs). -/
theorem include_dump_in_unsplit_order (s : Split) (R R' : Registry) (opts : Opts) (plug plug' : Plug)
    (h : IsSplitOf s R R' plug plug') (hL : Lemmas.Fuel.LoadedShape R') (hpos : Lemmas.Bridge.AugPosDistinct R')
    (hplain : Lemmas.Bridge.AugArgsPlain R') (h1 : stage1Errs R' plug' = []) (h2 : forestErrs (forest0 R' opts plug') = [])
    (hdev : ∀ x ∈ R'.mods, x.stmt.all "deviation" = []) (hn : Lemmas.IncludeAugOrder.NoLeftover R' opts plug')
    (hclean : (processAll R' opts plug').errors = []) (m : Mod) {ts tu : Entry}
    (hts : (afterLoop R' opts plug').2.forest.tree? m.seq = some ts)
    (htu : (Lemmas.IncludeAugCompose.loopU R R' opts plug').forest.tree? m.seq = some tu)
    (hss : Lemmas.IncludeAugView.IOShape ts) (hsu : Lemmas.IncludeAugView.IOShape tu)
    (hio : Lemmas.IncludeAugView.SameIO ts tu) :
    dumpOf (processAll R' opts plug') m =
      dumpOf { errors := [], forest := Lemmas.AugmentReport.fixAll (Lemmas.IncludeAugCompose.loopU R R' opts plug').forest,
               reg := R' } m :=
  Lemmas.IncludeAugCompose.split_dump_in_unsplit_order opts plug plug' h hL hpos hplain h1 h2 hdev hn hclean m hts htu hss hsu hio

/-! non-vacuity of `include_dump_in_unsplit_order`: `Ex4` (the loop of the split set visits `mb` before `ma`
and needs a second pass; in the order of the unsplit set one pass applies both) -/
namespace Ex4E
open Ex (plug)
open Ex4
open Goyang.Lemmas.Bridge (PlainAbsArg AugArgsPlain)

theorem argsPlain : AugArgsPlain R' := by
  obtain ⟨_, ⟨_, _, _, _, _, _, _, _, hArgs⟩, _⟩ := evaluated
  exact Lemmas.IncludeAugDec.augArgsPlain_of_K hArgs

theorem loadedShape : Lemmas.Fuel.LoadedShape R' := by
  obtain ⟨_, ⟨_, _, _, _, _, hLoaded, _⟩, _⟩ := evaluated
  exact hLoaded

theorem augPos : Lemmas.Bridge.AugPosDistinct R' := by
  obtain ⟨_, ⟨_, _, _, _, _, _, hAugPos, _⟩, _⟩ := evaluated
  exact hAugPos

theorem noIO' : Lemmas.IncludeAugIO.NoIOStart R' {} plug := by
  obtain ⟨_, ⟨_, _, _, _, hNoIO, _⟩, _⟩ := evaluated
  exact hNoIO

/-- What `include_dump_in_unsplit_order` and `include_clean_in_unsplit_order` ask of the split set besides the above:
first two stages clean, nothing left pending, no deviation statement. -/
theorem stages : stage1Errs R' plug = [] ∧ forestErrs (forest0 R' {} plug) = [] ∧
    Lemmas.IncludeAugOrder.NoLeftover R' {} plug ∧ ∀ x ∈ R'.mods, x.stmt.all "deviation" = [] := by
  obtain ⟨_, ⟨hStage1, hConv0, _, hNoLeftover, _, _, _, hNoDev, _⟩, _⟩ := evaluated
  exact ⟨hStage1, hConv0, hNoLeftover, hNoDev⟩

open Goyang.Lemmas.IncludeAugIO in
/-- All hypotheses of `include_dump_in_unsplit_order` hold of `Ex4` (module `t`, number 2), and its conclusion. -/
theorem dump_in_unsplit_order :
    dumpOf (processAll R' {} plug) o =
      dumpOf { errors := [], forest := Lemmas.AugmentReport.fixAll (Lemmas.IncludeAugCompose.loopU R R' {} plug).forest,
               reg := R' } o := by
  obtain ⟨hStage1, hConv0, hNoLeftover, hNoDev⟩ := stages
  obtain ⟨_, _, _, ts, tu, _, hts, htu, _, hss, hsu, hio⟩ :=
    loopsRelated_of_noIO {} plug plug noIO' (Lemmas.IncludeAugDec.core_of_check coreCheck)
  exact include_dump_in_unsplit_order sp R R' {} plug plug isSplit loadedShape augPos argsPlain hStage1 hConv0 hNoDev hNoLeftover
    split_clean o hts htu hss hsu hio
end Ex4E

/-! non-vacuity of `fixChoice_path_view`: a choice with two shorthand members, and the same choice with the members
in the other order: `FixChoice` wraps each member into its implied case, in either order -/
namespace ExE
def chA : Entry := .mk { name := "ch", kind := .choice, hasDir := true } [lf "a", lf "b"] [] []
def chB : Entry := .mk { name := "ch", kind := .choice, hasDir := true } [lf "b", lf "a"] [] []

example : Lemmas.IncludeAugDump.PEq (fixChoice chB) (fixChoice chA) :=
  fixChoice_path_view (Lemmas.IncludeAugDump.peq_of_dir_perm _ _ _ _ _ _ rfl (List.Perm.swap _ _ _) (by decide))
    (by decide) (by decide)

example : ((fixChoice chA).dir.map fun c => (c.name, c.d.kind, c.dir.map (·.name))) =
    [("a", Kind.case_, ["a"]), ("b", Kind.case_, ["b"])] := by decide
end ExE

/-! ### the reduction of `IncludeEqInlineAugments` to what is still open -/

/-- **include_clean_in_unsplit_order.**  `Process` on a split set (nothing left pending after the loop, no
deviation statements, first two stages clean) is error free iff the augment loop run in the module order of the
UNSPLIT set records no error. -/
theorem include_clean_in_unsplit_order (s : Split) (R R' : Registry) (opts : Opts) (plug plug' : Plug)
    (h : IsSplitOf s R R' plug plug') (hL : Lemmas.Fuel.LoadedShape R') (hpos : Lemmas.Bridge.AugPosDistinct R')
    (hplain : Lemmas.Bridge.AugArgsPlain R') (h1 : stage1Errs R' plug' = []) (h2 : forestErrs (forest0 R' opts plug') = [])
    (hdev : ∀ x ∈ R'.mods, x.stmt.all "deviation" = []) (hn : Lemmas.IncludeAugOrder.NoLeftover R' opts plug') :
    (processAll R' opts plug').errors = [] ↔
      Lemmas.AugmentReport.allErrs (Lemmas.IncludeAugCompose.loopU R R' opts plug').forest = [] :=
  Lemmas.IncludeAugCompose.split_clean_in_unsplit_order opts plug plug' h hL hpos hplain h1 h2 hdev hn

/-- **include_dump_of_related_trees** (the last step of the assembly, for ANY two outcomes over the unsplit and
the split registry).  When the owner's tree is the unsplit module's tree up to `SameTop σ` (same data but for
the statement object; the same children, each equal up to `ren σ`, in another order), the canonical dumps
are equal. -/
theorem include_dump_of_related_trees (s : Split) (R R' : Registry) (plug plug' : Plug) (h : IsSplitOf s R R' plug plug')
    (o o' : Outcome) (ho : o.reg = R) (ho' : o'.reg = R') {t t' : Entry}
    (ht : o.forest.tree? s.m.seq = some t) (ht' : o'.forest.tree? s.m.seq = some t')
    (hst : SameTop s.σ t' t) (hnd : (t.dir.map (·.name)).Nodup) : dumpOf o' s.owner = dumpOf o s.m :=
  Lemmas.IncludeAugFinal.dumpOf_sameTop h o o' ho ho' ht ht' hst hnd

/-- **include_eq_inline_augments_reduced.**  `IncludeEqInlineAugments` follows from `LoopsRelated` — the
statement that pieces (A) and (S) have to deliver about the two augment loops run in the SAME module order
(`Lemmas.IncludeAugCompose.LoopsRelated`: the loop over the split set in the unsplit set's module order
records no error, leaves nothing pending and leaves the owner's tree equal to the unsplit module's up to
`SameTop σ`; plus `IOShape` of the owner's trees and `SameIO`, the bookkeeping of lazily created rpc inputs /
outputs) — under `IsSplitOf` and C07's decidable input predicates on the split registry, nothing else
(that the split set has no deviation statement and that its own loop leaves nothing pending is derived:
`Lemmas.IncludeAugCompose.dev_split`, `noLeftover_split`).  Everything else of the composition is proved: the module order (C07, `include_augment_loop_order`),
the passage from the flat view to the dump (E), `FixChoice` (F), the stages after the loop (`no_leftover_result`),
and the dump of related trees (`include_dump_of_related_trees`). -/
theorem include_eq_inline_augments_reduced (s : Split) (R R' : Registry) (opts : Opts) (plug plug' : Plug)
    (h : IsSplitOf s R R' plug plug') (hL : Lemmas.Fuel.LoadedShape R') (hpos : Lemmas.Bridge.AugPosDistinct R')
    (hplain : Lemmas.Bridge.AugArgsPlain R')
    (hS : (processAll R opts plug).errors = [] → Lemmas.IncludeAugOrder.NoLeftover R opts plug →
      Lemmas.IncludeAugCompose.LoopsRelated s R R' opts plug plug') :
    IncludeEqInlineAugments s R R' opts plug plug' :=
  fun hdev hn hclean =>
    Lemmas.IncludeAugCompose.eq_inline_of_loopsRelated opts plug plug' h hL hpos hplain hdev hn hclean (hS hclean hn)

/-! non-vacuity of `include_eq_inline_augments_reduced`: `Ex` (no augment statement: both loops return the
converted forests, which `include_conversion` relates; the unsplit tree is evaluated in the kernel) -/
namespace ExR
open Ex
open Goyang.Lemmas.IncludeAugView Goyang.Lemmas.IncludeAugCompose

theorem loopsRelated : LoopsRelated sp R R' {} plug plug := by
  have hna' : NoAugDev R' := noAugDev_split plug plug isSplit noAugDev
  obtain ⟨a1, a2⟩ := Lemmas.IncludeNoAug.processAll_clean_stages R {} plug unsplit_clean
  obtain ⟨hlink, _⟩ := stage1_split plug plug isSplit a1
  obtain ⟨c1, _, ⟨t, ht⟩, c4⟩ := include_conversion sp R R' {} plug plug isSplit hlink a2
  obtain ⟨t', ht', hst⟩ := c4 t ht
  have hn := noIO.1 (_, t) (Lemmas.ForestAux.mem_of_tree? ht)
  have hs := Lemmas.IncludeAugIO.noIO_ioShape hn
  have hr := Lemmas.IncludeAugIO.noIO_noRpc hn
  have e1 : (afterLoop R {} plug).2 = pstate0 R {} plug := Lemmas.IncludeNoAug.afterLoop_nil R {} plug noAugDev
  have e2 : (afterLoop R' {} plug).2 = pstate0 R' {} plug := Lemmas.IncludeNoAug.afterLoop_nil R' {} plug hna'
  -- (`loopU` unfolded by its equation: left to the kernel's conversion check, the projection would run the loop)
  have e3 : loopU R R' {} plug = pstate0 R' {} plug := by
    rw [loopU]
    exact Lemmas.IncludeNoAug.augmentLoop_nil R' _ _ _ (Lemmas.IncludeNoAug.pstate0_nil R' {} plug hna')
  have hs' := ioShape_sameTop sp.σ hst hs
  have hr' := noRpc_sameTop sp.σ hst hr
  refine ⟨by rw [e3]; exact c1,
    fun id => by rw [e3]; exact Lemmas.IncludeNoAug.pendingOf_nil _ (Lemmas.IncludeNoAug.pstate0_nil R' {} plug hna') id,
    t, t', t', by rw [e1]; exact ht, by rw [e2]; exact ht', by rw [e3]; exact ht', hst, hs', hs',
    sameIO_of_noRpc hr' hs' hr' hs'⟩

/-- The hypotheses of `include_eq_inline_augments_reduced` hold of `Ex` (`AugArgsPlain`: no augment statement). -/
example : IncludeEqInlineAugments sp R R' {} plug plug := by
  have hna' : NoAugDev R' := noAugDev_split plug plug isSplit noAugDev
  refine include_eq_inline_augments_reduced sp R R' {} plug plug isSplit (by decide +kernel) (by decide +kernel) ?_
    (fun _ _ => loopsRelated)
  intro m hm a ha
  rw [(hna' m hm).1] at ha
  cases ha
end ExR

/-- The hypotheses of `include_dump_of_related_trees` hold of the two results on `Ex`. -/
example : dumpOf (processAll Ex.R' {} Ex.plug) Ex.o = dumpOf (processAll Ex.R {} Ex.plug) Ex.m := by
  obtain ⟨_, t, t', ht, ht', hst⟩ := Ex.split_result
  exact include_dump_of_related_trees Ex.sp Ex.R Ex.R' Ex.plug Ex.plug Ex.isSplit _ _
    (Lemmas.IncludeDump.processAll_reg _ _ _) (Lemmas.IncludeDump.processAll_reg _ _ _) ht ht' hst
    (names_nodup_of_clean Ex.R {} Ex.plug Ex.unsplit_clean _ _ ht)

/-- The hypotheses of `include_clean_in_unsplit_order` hold of `Ex4`. -/
example : (processAll Ex4.R' {} Ex.plug).errors = [] ↔
    Lemmas.AugmentReport.allErrs (Lemmas.IncludeAugCompose.loopU Ex4.R Ex4.R' {} Ex.plug).forest = [] :=
  have ⟨hStage1, hConv0, hNoLeftover, hNoDev⟩ := Ex4E.stages
  include_clean_in_unsplit_order Ex4.sp Ex4.R Ex4.R' {} Ex.plug Ex.plug Ex4.isSplit Ex4E.loadedShape Ex4E.augPos
    Ex4E.argsPlain hStage1 hConv0 hNoDev hNoLeftover


/-! ### (I) for sets without rpc / action nodes -/

/-- **include_no_rpc_along_loop** (piece I for sets without rpc / action nodes; any registry).  When every tree the
conversion has produced and every child of a pending augment entry is free of rpc / action nodes and of rpc
input / output entries (`Lemmas.IncludeAugIO.NoIOStart`, decidable), every tree stays so along the augment loop —
any fuel, any module order: `Find` creates an input / output only below an rpc node, error recording and `merge` at
the target keep it.  Such trees have `IOShape`, and any two of them `SameIO` (no input / output exists at all). -/
theorem include_no_rpc_along_loop (reg : Registry) (opts : Opts) (plug : Plug)
    (h0 : Lemmas.IncludeAugIO.NoIOStart reg opts plug) (fuel : Nat) (mods : Array Nat) :
    (∀ t ∈ (augmentLoop reg fuel mods (pstate0 reg opts plug)).2.forest.trees,
      Lemmas.IncludeAugIO.NoIO t.2 ∧ Lemmas.IncludeAugView.IOShape t.2 ∧ Lemmas.IncludeAugView.NoRpc t.2) ∧
    ∀ t ∈ (augmentLoop reg fuel mods (pstate0 reg opts plug)).2.forest.trees,
      ∀ (fuel' : Nat) (mods' : Array Nat), ∀ t' ∈ (augmentLoop reg fuel' mods' (pstate0 reg opts plug)).2.forest.trees,
        Lemmas.IncludeAugView.SameIO t.2 t'.2 := by
  refine ⟨fun t ht => ?_, fun t ht fuel' mods' t' ht' => ?_⟩
  · have := Lemmas.IncludeAugIO.noIO_loop reg opts plug h0 fuel mods t ht
    exact ⟨this, Lemmas.IncludeAugIO.noIO_ioShape this, Lemmas.IncludeAugIO.noIO_noRpc this⟩
  · exact Lemmas.IncludeAugIO.sameIO_of_noIO (Lemmas.IncludeAugIO.noIO_loop reg opts plug h0 fuel mods t ht)
      (Lemmas.IncludeAugIO.noIO_loop reg opts plug h0 fuel' mods' t' ht')

/-- The hypothesis of `include_no_rpc_along_loop` holds of the split set of `Ex4` (three trees, two pending augment
entries; kernel-evaluated). -/
example : Lemmas.IncludeAugIO.NoIOStart Ex4.R' {} Ex.plug := Ex4E.noIO'

/-- **include_eq_inline_augments_norpc_reduced.**  For split sets without rpc / action nodes (`NoIOStart` of the
split registry, decidable) `IncludeEqInlineAugments` follows from `Lemmas.IncludeAugIO.LoopsRelatedCore` alone —
`LoopsRelated` without its `IOShape` / `SameIO` parts: the loop over the split set, run in the module order of
the unsplit set, records no error, leaves nothing pending and leaves the owner's tree equal to the unsplit
module's up to `SameTop σ`.  That statement is what pieces (A) and (S) have to deliver; (I) is closed for these
sets. -/
theorem include_eq_inline_augments_norpc_reduced (s : Split) (R R' : Registry) (opts : Opts) (plug plug' : Plug)
    (h : IsSplitOf s R R' plug plug') (hL : Lemmas.Fuel.LoadedShape R') (hpos : Lemmas.Bridge.AugPosDistinct R')
    (hplain : Lemmas.Bridge.AugArgsPlain R') (h0 : Lemmas.IncludeAugIO.NoIOStart R' opts plug')
    (hS : (processAll R opts plug).errors = [] → Lemmas.IncludeAugOrder.NoLeftover R opts plug →
      Lemmas.IncludeAugIO.LoopsRelatedCore s R R' opts plug plug') :
    IncludeEqInlineAugments s R R' opts plug plug' :=
  include_eq_inline_augments_reduced s R R' opts plug plug' h hL hpos hplain
    (fun hc hn => Lemmas.IncludeAugIO.loopsRelated_of_noIO opts plug plug' h0 (hS hc hn))


/-! non-vacuity of `include_eq_inline_augments_norpc_reduced`: `Ex4` (two modules augment, in a chain, a container
that the split moves into a submodule).  `LoopsRelatedCore` is kernel-checked: the loop over the split set in the
module order of the unsplit set records no error and leaves nothing pending, and the owner's tree is `SameTop σ`
the unsplit module's (`SameTop` is decidable: Lemmas/IncludeAugDec.lean). -/
namespace Ex4C
open Ex (plug)
open Ex4
open Goyang.Lemmas.IncludeAugK Goyang.Lemmas.IncludeAugCompose Goyang.Lemmas.IncludeAugOrder
open Goyang.Lemmas.IncludeAugIO Goyang.Lemmas.IncludeAugDec

theorem core : LoopsRelatedCore sp R R' {} plug plug := core_of_check coreCheck
end Ex4C

/-- All hypotheses of `include_eq_inline_augments_norpc_reduced` hold of `Ex4`: its conclusion, obtained through
the proved chain (module order, view, `FixChoice`, later stages, dump of related trees) from the kernel-checked core. -/
example : IncludeEqInlineAugments Ex4.sp Ex4.R Ex4.R' {} Ex.plug Ex.plug :=
  include_eq_inline_augments_norpc_reduced Ex4.sp Ex4.R Ex4.R' {} Ex.plug Ex.plug Ex4.isSplit Ex4E.loadedShape
    Ex4E.augPos Ex4E.argsPlain Ex4E.noIO' (fun _ _ => Ex4C.core)


/-! ### (I), first half, for all sets: `IOShape` along the augment loop -/

/-- **include_io_shape_along_loop** (piece I, first half: every registry, option set and plug; rpc / action nodes
allowed).  Every tree the conversion produces and every tree along the augment loop — any fuel, any module order —
has the shape `IOShape`: an rpc / action node has no `Dir` child, any other node no rpc input / output.  (Conversion:
an rpc / action statement's entry gets its flag when its `Dir` is still empty, `Lemmas.IncludeAugShape.closedT_shapeFrame`;
loop: `Find` creates an input / output only at an rpc node, and `merge` is applied only at a target that is not
one, `cannotHaveChildren`.) -/
theorem include_io_shape_along_loop (reg : Registry) (opts : Opts) (plug : Plug) (fuel : Nat) (mods : Array Nat) :
    (∀ t ∈ (forest0 reg opts plug).trees, Lemmas.IncludeAugView.IOShape t.2) ∧
    ∀ t ∈ (augmentLoop reg fuel mods (pstate0 reg opts plug)).2.forest.trees, Lemmas.IncludeAugView.IOShape t.2 :=
  ⟨(Lemmas.IncludeAugShape.ioShapeStart reg opts plug).1, Lemmas.IncludeAugShape.ioShape_loop_all reg opts plug fuel mods⟩

/-! `include_io_shape_along_loop` has no hypothesis; a set it speaks about non-trivially: module `t` with
`rpc r { input { leaf a } }` (no output written) and module `ma` with `augment /t:r/t:output { leaf b }`:
`IOShapeStart` (kernel-evaluated here, proved in general), not `NoIOStart`; the loop creates the output of `r` on the
way to the target and grafts `b` into it. -/
namespace Ex6
open Ex (st plug)
open Goyang.Lemmas.IncludeAugShape
def ty (f : String) (l c : Nat) : Stmt := st f "type" "string" l c []
def rpcS : Stmt := st "t" "rpc" "r" 1 40 [st "t" "input" "" 1 48 [st "t" "leaf" "a" 1 56 [ty "t" 1 65]]]
def tS : Stmt := st "t" "module" "t" 1 1 [st "t" "namespace" "urn:t" 1 12 [], st "t" "prefix" "t" 1 30 [], rpcS]
def imp (f m : String) (c : Nat) : Stmt := st f "import" m 1 c [st f "prefix" m 1 (c + 10) []]
def augA : Stmt := st "ma" "augment" "/t:r/t:output" 1 70 [st "ma" "leaf" "b" 1 92 [ty "ma" 1 100]]
def maS : Stmt := st "ma" "module" "ma" 1 1 [st "ma" "namespace" "urn:ma" 1 12 [], st "ma" "prefix" "ma" 1 30 [], imp "ma" "t" 40, augA]
def R : Registry := (Registry.loadAll [maS, tS]).1

open Goyang.Lemmas.IncludeAugK in
theorem evaluated : IOShapeStart R {} plug ∧ ¬ Lemmas.IncludeAugIO.NoIOStart R {} plug ∧
    ((afterLoop R {} plug).2.forest.tree? 1).any (fun t => t.dir.any fun r => r.d.isRpc && r.inp.length == 1 &&
      r.out.any fun o => o.dir.map (·.name) == ["b"]) = true ∧
    ((pstate0 R {} plug).forest.tree? 1).any (fun t => t.dir.any fun r => r.d.isRpc && r.inp.length == 1 && r.out.isEmpty) = true := by
  rw [afterLoop_eqK]; decide +kernel

example : IOShapeStart R {} plug := by
  obtain ⟨hShapeStart, _⟩ := evaluated
  exact hShapeStart
example : ¬ Lemmas.IncludeAugIO.NoIOStart R {} plug := by
  obtain ⟨_, hNotNoIOStart, _⟩ := evaluated
  exact hNotNoIOStart
open Goyang.Lemmas.IncludeAugK in
example : ((afterLoop R {} plug).2.forest.tree? 1).any (fun t => t.dir.any fun r => r.d.isRpc && r.inp.length == 1 &&
    r.out.any fun o => o.dir.map (·.name) == ["b"]) = true ∧
    ((pstate0 R {} plug).forest.tree? 1).any (fun t => t.dir.any fun r => r.d.isRpc && r.inp.length == 1 && r.out.isEmpty) = true := by
  obtain ⟨_, _, hTrees⟩ := evaluated
  exact hTrees
end Ex6

/-- **include_eq_inline_augments_reduced_sameIO.**  For every split set (rpc / action nodes allowed)
`IncludeEqInlineAugments` follows from `LoopsRelatedCore` and `SameIO` of the owner's trees after the two runs over
the split set (its own module order against the unsplit set's): the `IOShape` parts of `LoopsRelated` are derived
(`include_io_shape_along_loop`). -/
theorem include_eq_inline_augments_reduced_sameIO (s : Split) (R R' : Registry) (opts : Opts) (plug plug' : Plug)
    (h : IsSplitOf s R R' plug plug') (hL : Lemmas.Fuel.LoadedShape R') (hpos : Lemmas.Bridge.AugPosDistinct R')
    (hplain : Lemmas.Bridge.AugArgsPlain R')
    (hS : (processAll R opts plug).errors = [] → Lemmas.IncludeAugOrder.NoLeftover R opts plug →
      Lemmas.IncludeAugIO.LoopsRelatedCore s R R' opts plug plug' ∧
      ∀ ts tu, (afterLoop R' opts plug').2.forest.tree? s.m.seq = some ts →
        (Lemmas.IncludeAugCompose.loopU R R' opts plug').forest.tree? s.m.seq = some tu → Lemmas.IncludeAugView.SameIO ts tu) :
    IncludeEqInlineAugments s R R' opts plug plug' :=
  include_eq_inline_augments_reduced s R R' opts plug plug' h hL hpos hplain
    (fun hc hn => Lemmas.IncludeAugShape.loopsRelated_of_ioShape opts plug plug'
      (Lemmas.IncludeAugShape.ioShapeStart R' opts plug') (hS hc hn).1 (hS hc hn).2)

/-- The hypotheses of `include_eq_inline_augments_reduced_sameIO` hold of `Ex4` (`SameIO` there: no rpc node). -/
example : IncludeEqInlineAugments Ex4.sp Ex4.R Ex4.R' {} Ex.plug Ex.plug :=
  include_eq_inline_augments_reduced_sameIO Ex4.sp Ex4.R Ex4.R' {} Ex.plug Ex.plug Ex4.isSplit Ex4E.loadedShape
    Ex4E.augPos Ex4E.argsPlain (fun _ _ => ⟨Ex4C.core, fun _ _ hts htu => Lemmas.IncludeAugIO.sameIO_of_noIO
      (Lemmas.IncludeAugIO.noIO_afterLoop_tree Ex4E.noIO' hts) (Lemmas.IncludeAugIO.noIO_loopU_tree Ex4E.noIO' htu)⟩)

/-- **include_eq_inline_augments_norpc_checked.**  The same with the open piece as a decidable check: for a split set
without rpc / action nodes (`NoIOStart`), `IncludeEqInlineAugments` holds whenever `Lemmas.IncludeAugDec.CoreCheck`
does — the loop over the split set in the module order of the unsplit set records no error, leaves nothing pending
and leaves the owner's tree `SameTop σ` the tree the unsplit set's loop leaves.  Every hypothesis but `IsSplitOf`
(executable conditions of its own) is decidable; what the check leaves out and the theorem supplies: the other
module order of the real run, `FixChoice`, the retry rounds and the reporting sweep, and the dump (namespaces,
read-only status, instantiating modules over the two registries). -/
theorem include_eq_inline_augments_norpc_checked (s : Split) (R R' : Registry) (opts : Opts) (plug plug' : Plug)
    (h : IsSplitOf s R R' plug plug') (hL : Lemmas.Fuel.LoadedShape R') (hpos : Lemmas.Bridge.AugPosDistinct R')
    (hplain : Lemmas.Bridge.AugArgsPlain R') (h0 : Lemmas.IncludeAugIO.NoIOStart R' opts plug')
    (hc : Lemmas.IncludeAugDec.CoreCheck s R R' opts plug plug') :
    IncludeEqInlineAugments s R R' opts plug plug' :=
  include_eq_inline_augments_norpc_reduced s R R' opts plug plug' h hL hpos hplain h0
    (fun _ _ => Lemmas.IncludeAugDec.core_of_check hc)

open Goyang.Lemmas.IncludeAugK Goyang.Lemmas.IncludeAugCompose Goyang.Lemmas.IncludeAugDec in
/-- All hypotheses of `include_eq_inline_augments_norpc_checked` hold of `Ex4` (kernel-evaluated; the check through the
kernel-evaluable copy of the loop, Lemmas/IncludeAugK.lean). -/
example : IncludeEqInlineAugments Ex4.sp Ex4.R Ex4.R' {} Ex.plug Ex.plug :=
  include_eq_inline_augments_norpc_checked Ex4.sp Ex4.R Ex4.R' {} Ex.plug Ex.plug Ex4.isSplit Ex4E.loadedShape
    Ex4E.augPos Ex4E.argsPlain Ex4E.noIO' Ex4.coreCheck

/-! ### the statement for sets without rpc / action nodes, piece (A) as a decidable condition -/

/-- **include_eq_inline_augments_norpc.**  `IncludeEqInlineAugments` — a clean `Process` of the unsplit set implies a
clean `Process` of the split set and equal canonical dumps of the split module, for sets whose augment loop leaves
nothing pending and without deviation statements — PROVED for split sets without rpc / action nodes, with piece (A) as
a decidable condition on the two converted sets: `PendRel` — for every module, the pending augment entries of the
unsplit set are those of the split set up to `ren σ` (what `context_independence` gives per statement; proved for
every module but the owner at the level of the conversion, `Lemmas.IncludeAugRows.mod_conv_rows`, not yet assembled).
The other hypotheses are decidable too (all but `IsSplitOf`, which has executable conditions of its own):
`LoadedShape` / `AugPosDistinct` / `AugArgsPlain` of the split registry (C07's input predicates), `NoIOStart` of both
converted sets (no rpc / action node, no input / output entry), `AllConverted` (every module of the unsplit set has a
tree); that the two loops get the same fuel follows from `PendRel` (`Lemmas.IncludeAugSim.loopFuel_split`).  Pieces (S) — the lockstep simulation of the two augment loops in the same module order on
forests related by `ren σ` / `SameTop` (`Lemmas.IncludeAugSim.augmentLoop_rel`, `loopsRelatedCore_of_start`) — and (I)
are proved; with (E), (F), C07's order independence and the later stages the chain is complete. -/
theorem include_eq_inline_augments_norpc (s : Split) (R R' : Registry) (opts : Opts) (plug plug' : Plug)
    (h : IsSplitOf s R R' plug plug') (hL : Lemmas.Fuel.LoadedShape R') (hpos : Lemmas.Bridge.AugPosDistinct R')
    (hplain : Lemmas.Bridge.AugArgsPlain R') (h0' : Lemmas.IncludeAugIO.NoIOStart R' opts plug')
    (h0 : Lemmas.IncludeAugIO.NoIOStart R opts plug) (hall : Lemmas.IncludeAugSim.AllConverted R opts plug)
    (hP : Lemmas.IncludeAugSim.PendRel s R R' opts plug plug') :
    IncludeEqInlineAugments s R R' opts plug plug' :=
  fun hdev hn hclean =>
    Lemmas.IncludeAugCompose.eq_inline_of_loopsRelated opts plug plug' h hL hpos hplain hdev hn hclean
      (Lemmas.IncludeAugIO.loopsRelated_of_noIO opts plug plug' h0'
        (Lemmas.IncludeAugSim.loopsRelatedCore_norpc h opts hL h0' h0 hall hP
          (Lemmas.IncludeAugSim.loopFuel_split h opts hP.1) hdev hn hclean))

/-- All hypotheses of `include_eq_inline_augments_norpc` hold of `Ex4` (two modules augment, in a chain, a container
that the split moves into a submodule; every hypothesis kernel-evaluated on the converted sets, no loop is run). -/
example : IncludeEqInlineAugments Ex4.sp Ex4.R Ex4.R' {} Ex.plug Ex.plug :=
  include_eq_inline_augments_norpc Ex4.sp Ex4.R Ex4.R' {} Ex.plug Ex.plug Ex4.isSplit Ex4E.loadedShape
    Ex4E.augPos Ex4E.argsPlain Ex4E.noIO' Ex4.noIO Ex4.allConverted Ex4.pendRel


/-- The conditions on the converted sets (`PendRel` — piece (A) —, `AllConverted`; and equal loop fuel, which follows)
also hold of the D67 witness pair `Ex3` (kernel-evaluated). -/
example : Lemmas.IncludeAugSim.PendRel Ex3.sp Ex3.R Ex3.R' {} Ex.plug Ex.plug ∧
    Lemmas.IncludeAugSim.AllConverted Ex3.R {} Ex.plug ∧
    Lemmas.IncludeAugOrder.loopFuel Ex3.R' {} Ex.plug = Lemmas.IncludeAugOrder.loopFuel Ex3.R {} Ex.plug := by
  obtain ⟨_, _, _, hConverted⟩ := Ex3.evaluated
  exact hConverted

end Goyang.Props.C13Include
