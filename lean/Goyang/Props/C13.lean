import Goyang.Model.Ctx
import Goyang.Model.File
import Goyang.Spec.Registry
import Goyang.Spec.File
import Goyang.Lemmas.Registry
import Goyang.Lemmas.File
import Goyang.Lemmas.ListAux
/-
C13 — names bind to the right module revision (a); the file chooser (b).
(Part (c), "include = inline", is stated with the resolver model, not here.)

Property theorems only; helper lemmas are in Goyang/Lemmas/{StrOrd,Date,Registry,File}.lean.

Reading aid, part (a).  A *load* is the top-level statement of one module or submodule as the AST
builder hands it to `Modules.add`; `loadAll loads` runs `add` on each in order, into a fresh
`NewModules()`, and returns the final registry together with the error of every load (if any).
Of a load only its *header* matters: kind (module / submodule), name, and `Module.Current()` —
the latest of its revision statements, `""` when there is none (`header`).
`bound loads sub key` is the header of the module that `ms.Modules[key]` (`sub = false`) or
`ms.SubModules[key]` (`sub = true`) points to afterwards.  `Spec.Registry.denotes` says what a key
should denote, given only the *collection* of headers: `name@date` the header with that name
and date; the bare `name` the header of that name no other is later than, dates compared as
dates, a header without revision ranking below every date.

Names.  `Modules.add` refuses a module or submodule whose name contains `@` (repair of defect D61:
`@` separates name and revision-date in the table keys `name@date`, so such a name — never a
YANG identifier — could be taken for a revision of another module or the other way round,
depending on the load order).  Such a load is rejected wherever it stands and leaves no trace;
`loadable` drops these headers.  No theorem below needs a hypothesis on the names of the loads;
`bare_is_latest` and `exact_revision_when_loaded` speak about one loaded module and ask that *its*
name has no `@` (otherwise it is not loaded at all).

Dates.  `DatesOk`: `Current()` of every load is `""` or a well-formed `YYYY-MM-DD` (for anything
else "latest" has no meaning; the code then falls back to byte order of the strings, and the
theorems that do not mention dates — order independence, exact revision, duplicates — hold
without this hypothesis).
-/
namespace Goyang.Props.C13
open Goyang.Model Goyang.Spec.Registry
open Goyang.Lemmas.Registry (hdrOf lk NoAt Inv loadAll_specG denotesS denotesS_perm denotesS_eq_denotes
  den_of_denotesS denotesS_exact_of_mem denotesS_mem noAt_hdrs key_inj key_ne_name sLe_eq_revLe exists_max
  denotesS_ne_none_of_den findModule_eq lk_mem good noAt_filter_good map_hdr_filter_good
  good_of_noAt noAt_of_good toOutcome isSome_eq_toOutcome rejAfterG rejAfterG_eq rejAfterG_perm
  outcomesAfterG_getElem? add_accepts_only_ok_names loadAll_names_ok)
/- `header s`: the header of a load — kind, name, `Current()` (`Lemmas.Registry.hdr`);
`hdrOf m` the same of a loaded module. -/
open Goyang.Lemmas.Registry renaming hdr → header

/-! ## (a) registry -/

/-- Every load has no revision or a well-formed date as its latest revision. -/
def DatesOk (loads : List Stmt) : Prop := ∀ s ∈ loads, WellFormedRev (header s).rev

/-- The header of what `key` is bound to in `ms.Modules` / `ms.SubModules` after the loads. -/
def bound (loads : List Stmt) (sub : Bool) (key : String) : Option Header :=
  (lk (Registry.loadAll loads).1 sub key).map hdrOf

/-- The statement `key` is bound to after the loads. -/
def boundStmt (loads : List Stmt) (sub : Bool) (key : String) : Option Stmt :=
  (lk (Registry.loadAll loads).1 sub key).map (·.stmt)

/-- Per load, in order: accepted, rejected as a duplicate, or rejected for its name. -/
def loadOutcomes (loads : List Stmt) : List Outcome := (Registry.loadAll loads).2.map toOutcome

/-- Per load, in order: was it rejected (`Parse` returned an error)? -/
def rejectedFlags (loads : List Stmt) : List Bool := (Registry.loadAll loads).2.map Option.isSome

/-- The headers of the rejected loads, in load order. -/
def rejectedHeaders (loads : List Stmt) : List Header :=
  (((loads.map header).zip (rejectedFlags loads)).filter (·.2)).map (·.1)

instance (r : String) : Decidable (WellFormedRev r) := by unfold WellFormedRev; infer_instance
instance (loads : List Stmt) : Decidable (DatesOk loads) := by unfold DatesOk; infer_instance

theorem rejectedFlags_eq (loads : List Stmt) : rejectedFlags loads = (loadOutcomes loads).map (· != .ok) := by
  unfold rejectedFlags loadOutcomes
  rw [List.map_map]
  apply List.map_congr_left
  intro o _
  exact isSome_eq_toOutcome o

/-- **`add` accepts only names without `@`** — so every registry reached from a fresh
`NewModules()` by loads holds only such modules, whatever was offered. -/
theorem add_accepts_only_ok_names {r r' : Registry} {s : Stmt} (h : r.add s = .ok r') : '@' ∉ s.arg.toList :=
  Goyang.Lemmas.Registry.add_accepts_only_ok_names h

theorem loaded_names_ok (loads : List Stmt) : ∀ m ∈ (Registry.loadAll loads).1.mods, '@' ∉ m.stmt.arg.toList :=
  loadAll_names_ok loads

/-- **The registry is the specification.**  After any sequence of loads every key of both tables is
bound as `Spec.Registry.denotes` says among the loadable headers; a load whose name contains `@`
is rejected, any other exactly when a load with the same header came before it. -/
theorem registry_eq_spec (loads : List Stmt) (hd : DatesOk loads) :
    (∀ sub key, bound loads sub key = denotes (loadable (loads.map header)) sub key) ∧
    loadOutcomes loads = outcomesG (loads.map header) := by
  obtain ⟨inv, hout⟩ := loadAll_specG loads
  refine ⟨fun sub key => ?_, hout⟩
  unfold bound
  rw [inv.look, map_hdr_filter_good, denotesS_eq_denotes]
  intro h hh
  obtain ⟨s, hs, rfl⟩ := List.mem_map.mp (List.mem_filter.mp hh).1
  exact hd s hs

/-- **Load order does not matter.**  Two load orders of the same modules — any names, any revision
strings — bind every key of both tables to modules with the same header, and reject the same
headers the same number of times. -/
theorem registry_perm_invariant {loads₁ loads₂ : List Stmt} (hp : loads₁.Perm loads₂) :
    (∀ sub key, bound loads₁ sub key = bound loads₂ sub key) ∧
    (rejectedHeaders loads₁).Perm (rejectedHeaders loads₂) := by
  obtain ⟨inv₁, out₁⟩ := loadAll_specG loads₁
  obtain ⟨inv₂, out₂⟩ := loadAll_specG loads₂
  have hph : (loads₁.map header).Perm (loads₂.map header) := hp.map header
  constructor
  · intro sub key
    unfold bound
    rw [inv₁.look, inv₂.look]
    exact denotesS_perm ((hp.filter good).map header) (noAt_hdrs (noAt_filter_good loads₁)) sub key
  · unfold rejectedHeaders
    rw [rejectedFlags_eq, rejectedFlags_eq]
    unfold loadOutcomes
    rw [out₁, out₂]
    unfold outcomesG
    rw [rejAfterG_eq, rejAfterG_eq]
    exact rejAfterG_perm hph

/-- When no two loads have the same header, the *statements* bound are the same in every load
order, not only their headers. -/
theorem registry_perm_invariant_stmt {loads₁ loads₂ : List Stmt} (hp : loads₁.Perm loads₂)
    (hnodup : (loads₁.map header).Nodup) (sub : Bool) (key : String) :
    boundStmt loads₁ sub key = boundStmt loads₂ sub key := by
  obtain ⟨inv₁, _⟩ := loadAll_specG loads₁
  obtain ⟨inv₂, _⟩ := loadAll_specG loads₂
  have hb := (registry_perm_invariant hp).1 sub key
  unfold bound at hb
  unfold boundStmt
  -- a statement of `loads₁` is determined by its header
  have inj : ∀ s ∈ loads₁, ∀ t ∈ loads₁, header s = header t → s = t := by
    intro s hs t ht he
    exact Goyang.Lemmas.ListAux.eq_of_nodup_map header _ hnodup s hs t ht he
  cases h1 : lk (Registry.loadAll loads₁).1 sub key with
  | none =>
    rw [h1] at hb
    cases h2 : lk (Registry.loadAll loads₂).1 sub key with
    | none => rfl
    | some m₂ => rw [h2] at hb; simp at hb
  | some m₁ =>
    rw [h1] at hb
    cases h2 : lk (Registry.loadAll loads₂).1 sub key with
    | none => rw [h2] at hb; simp at hb
    | some m₂ =>
      rw [h2] at hb
      simp only [Option.map_some, Option.some.injEq] at hb ⊢
      have hm₁ : m₁.stmt ∈ loads₁ := (List.mem_filter.mp (inv₁.src _ (lk_mem h1))).1
      have hm₂ : m₂.stmt ∈ loads₁ := hp.mem_iff.mpr (List.mem_filter.mp (inv₂.src _ (lk_mem h2))).1
      exact inj _ hm₁ _ hm₂ hb

/-- **The bare name denotes the latest revision.**  If a module (submodule) named `n` — no `@` in
`n` — is among the loads, then `ms.Modules[n]` (`ms.SubModules[n]`) is bound afterwards, to a
loaded module of that kind and name, and no load of that kind and name has a later revision
date — one without revision counting as earlier than every date. -/
theorem bare_is_latest (loads : List Stmt) (hd : DatesOk loads)
    {s : Stmt} (hs : s ∈ loads) (hname : '@' ∉ s.arg.toList) :
    ∃ h, bound loads (header s).isSub (header s).name = some h ∧
      h ∈ loads.map header ∧ h.isSub = (header s).isSub ∧ h.name = (header s).name ∧
      ∀ t ∈ loads, (header t).isSub = (header s).isSub → (header t).name = (header s).name →
        revLe (header t).rev h.rev = true := by
  obtain ⟨inv, _⟩ := loadAll_specG loads
  have hsn : NoAt (header s).name := hname
  have hsg : s ∈ loads.filter good := List.mem_filter.mpr ⟨hs, good_of_noAt hname⟩
  have hmem : header s ∈ (loads.filter good).map header := List.mem_map_of_mem hsg
  have sub_loads : ∀ h ∈ (loads.filter good).map header, h ∈ loads.map header := by
    intro h hh
    obtain ⟨u, hu, rfl⟩ := List.mem_map.mp hh
    exact List.mem_map_of_mem (List.mem_filter.mp hu).1
  obtain ⟨h, hb⟩ := Goyang.Lemmas.Registry.denotesS_bare_of_mem hmem hsn
  refine ⟨h, ?_, ?_⟩
  · unfold bound; rw [inv.look, hb]
  · obtain ⟨hm, hsub, h3⟩ := den_of_denotesS hb
    rcases h3 with ⟨_, hk⟩ | ⟨_, hname', hmax⟩
    · exact absurd hk (key_ne_name hsn)
    · refine ⟨sub_loads h hm, hsub, hname', ?_⟩
      intro t ht hts htn
      have htg : t ∈ loads.filter good :=
        List.mem_filter.mpr ⟨ht, good_of_noAt (by show NoAt (header t).name; rw [htn]; exact hsn)⟩
      have hwt : WellFormedRev (header t).rev := hd t ht
      have hwh : WellFormedRev h.rev := by
        obtain ⟨u, hu, rfl⟩ := List.mem_map.mp (sub_loads h hm)
        exact hd u hu
      rw [← sLe_eq_revLe hwt hwh]
      exact hmax (header t) (List.mem_map_of_mem htg) hts htn

/-- **An import or include with a revision-date denotes exactly that revision when it is
loaded.**  `findModule` (the in-memory part of `Modules.FindModule`) on an `import n
{ revision-date d; }` (`isInclude = false`) or `include n { revision-date d; }` returns a module
with name `n` and latest revision `d` whenever such a module (submodule), `n` without `@`, is
among the loads. -/
theorem exact_revision_when_loaded (loads : List Stmt)
    {s : Stmt} (hs : s ∈ loads) (hname : '@' ∉ s.arg.toList) (hr : (header s).rev ≠ "")
    (i : Stmt) (hi : i.arg = (header s).name) (hd : i.argOf? "revision-date" = some (header s).rev) :
    ∃ m, (Registry.loadAll loads).1.findModule (header s).isSub i = some m ∧ hdrOf m = header s := by
  obtain ⟨inv, _⟩ := loadAll_specG loads
  have hn := noAt_filter_good loads
  have hsg : s ∈ loads.filter good := List.mem_filter.mpr ⟨hs, good_of_noAt hname⟩
  have hmem : header s ∈ (loads.filter good).map header := List.mem_map_of_mem hsg
  obtain ⟨x, hx⟩ := denotesS_exact_of_mem hmem hr
  have hxeq : x = header s := Goyang.Lemmas.Registry.denotesS_exact_eq (noAt_hdrs hn) hname hx
  have hlook := inv.look (header s).isSub ((header s).name ++ "@" ++ (header s).rev)
  rw [hx, hxeq] at hlook
  cases hl : lk (Registry.loadAll loads).1 (header s).isSub ((header s).name ++ "@" ++ (header s).rev) with
  | none => rw [hl] at hlook; simp at hlook
  | some m =>
    rw [hl] at hlook
    refine ⟨m, ?_, by simpa using hlook⟩
    rw [findModule_eq, hd, hi]
    simp only [hl]

/-- **Loading the same name and revision twice is rejected, in any order** (and a name with `@`
always).  Load `j` is rejected for its name when that contains `@`; otherwise it is rejected, as a
duplicate, exactly when an earlier load has the same kind, name and latest revision — so of two
such loads the one that comes second is rejected, whichever it is. -/
theorem duplicate_rejected (loads : List Stmt) (j : Nat) (hj : j < loads.length) :
    (loadOutcomes loads)[j]? = some
      (if '@' ∈ loads[j].arg.toList then .badName
       else if ∃ i, ∃ hi : i < j, header (loads[i]'(by omega)) = header loads[j] then .dup else .ok) := by
  obtain ⟨_, hout⟩ := loadAll_specG loads
  unfold loadOutcomes
  rw [hout]
  unfold outcomesG
  rw [outcomesAfterG_getElem?]
  simp only [List.getElem?_map, List.getElem?_eq_getElem hj, Option.map_some, List.nil_append,
    Option.some.injEq]
  by_cases hbad : '@' ∈ loads[j].arg.toList
  · have : nameOk (header loads[j]) = false := by
      show (!loads[j].arg.toList.contains '@') = false
      simp [hbad]
    rw [this, if_pos hbad]; rfl
  · have hok : nameOk (header loads[j]) = true := by
      show (!loads[j].arg.toList.contains '@') = true
      simp [hbad]
    rw [hok, if_neg hbad]
    simp only [if_true]
    congr 1
    simp only [List.contains_iff_mem, eq_iff_iff]
    unfold loadable
    rw [List.mem_filter]
    constructor
    · rintro ⟨hm, _⟩
      rw [← List.map_take, List.mem_map] at hm
      obtain ⟨t, ht, he⟩ := hm
      obtain ⟨i, hi, rfl⟩ := List.getElem_of_mem ht
      simp only [List.length_take] at hi
      exact ⟨i, by omega, by rw [← he, List.getElem_take]⟩
    · rintro ⟨i, hi, he⟩
      refine ⟨?_, hok⟩
      rw [← List.map_take, List.mem_map]
      refine ⟨loads[i], ?_, he⟩
      rw [List.mem_take_iff_getElem]
      exact ⟨i, by omega, rfl⟩

/-- Corollary in the words of the property: two loads with the same name and revision, at
positions `i < j` — the later one is rejected. -/
theorem duplicate_rejected_second (loads : List Stmt) {i j : Nat} (hij : i < j)
    (hj : j < loads.length) (he : header (loads[i]'(by omega)) = header loads[j]) :
    (rejectedFlags loads)[j]? = some true := by
  rw [rejectedFlags_eq, List.getElem?_map, duplicate_rejected loads j hj]
  by_cases hbad : '@' ∈ loads[j].arg.toList
  · rw [if_pos hbad]; rfl
  · rw [if_neg hbad, if_pos ⟨i, hij, he⟩]; rfl

/-! ### texts with several modules

`Modules.Parse` accepts a text that holds several module / submodule statements.  It adds them one
after the other, each seeing the ones before it (`Registry.addText`), and gives the whole text up
when one is refused (`Registry.loadTexts`: the registry stays as it was before the text).
`loadAll` above is the case of one statement per text (`loads_are_texts`). -/

/-- The statements of the texts that were accepted, in load order. -/
def acceptedStmts (texts : List (List Stmt)) : List Stmt :=
  (Goyang.Lemmas.Registry.acceptedTexts {} texts).flatten

theorem loads_are_texts (loads : List Stmt) : Registry.loadTexts (loads.map fun s => [s]) = Registry.loadAll loads :=
  Goyang.Lemmas.Registry.loadTextsFrom_singletons loads {}

/-- **Texts reduce to loads.**  After any sequence of texts the registry is the one obtained by
loading the statements of the accepted texts one by one, and none of those loads is rejected — so
`registry_eq_spec`, `bare_is_latest`, `exact_revision_when_loaded`, `registry_perm_invariant` speak
about it (with `loads := acceptedStmts texts`).  Those statements have `@`-free names and pairwise
different headers. -/
theorem texts_as_loads (texts : List (List Stmt)) :
    (Registry.loadTexts texts).1 = (Registry.loadAll (acceptedStmts texts)).1 ∧
    (rejectedFlags (acceptedStmts texts)).all (· == false) = true ∧
    (∀ s ∈ acceptedStmts texts, '@' ∉ s.arg.toList) ∧ ((acceptedStmts texts).map header).Nodup := by
  obtain ⟨h1, h2⟩ := Goyang.Lemmas.Registry.loadTextsFrom_eq_loadFrom texts {}
  obtain ⟨_, h3, h4⟩ := Goyang.Lemmas.Registry.loadTextsFrom_spec texts Goyang.Lemmas.Registry.inv_empty
    (by simp) (by simp)
  refine ⟨h1, ?_, fun s hs => h3 s (by simpa [acceptedStmts] using hs), by simpa [acceptedStmts] using h4⟩
  unfold rejectedFlags Registry.loadAll acceptedStmts
  rw [List.all_map]
  rw [← h2]
  apply Goyang.Lemmas.Registry.all_congr_mem
  intro o _
  cases o <;> rfl

/-- **Which text is accepted.**  After any texts, a further text is accepted exactly when no name
in it contains `@`, no two of its statements have the same kind, name and latest revision, and
none of its statements has the kind, name and latest revision of a statement of an accepted
earlier text. -/
theorem text_accepted_iff (before : List (List Stmt)) (text : List Stmt) :
    (∃ r', (Registry.loadTexts before).1.addText text = .ok r') ↔
      (∀ s ∈ text, '@' ∉ s.arg.toList) ∧ (text.map header).Nodup ∧
      ∀ s ∈ text, header s ∉ (acceptedStmts before).map header := by
  obtain ⟨inv, h3, _⟩ := Goyang.Lemmas.Registry.loadTextsFrom_spec before Goyang.Lemmas.Registry.inv_empty
    (by simp) (by simp)
  simp only [List.nil_append] at inv h3
  have step := Goyang.Lemmas.Registry.addText_spec inv h3 text
  unfold Registry.loadTexts acceptedStmts
  cases hadd : (Registry.loadTextsFrom {} before).1.addText text with
  | ok r' => rw [hadd] at step; exact ⟨fun _ => step.1, fun _ => ⟨r', rfl⟩⟩
  | error e =>
    rw [hadd] at step
    exact ⟨fun ⟨_, h⟩ => (by cases h), fun h => absurd h step⟩

/-- **The same name and revision twice in one text is rejected** — like twice in two texts
(`duplicate_rejected`): whatever was loaded before, a text in which two statements have the same
kind, name and latest revision is refused as a whole (and `loadTexts` keeps the registry as it
was before the text). -/
theorem duplicate_in_text_rejected (before : List (List Stmt)) (text : List Stmt) {i j : Nat} (hij : i < j)
    (hj : j < text.length) (he : header (text[i]'(by omega)) = header text[j]) :
    ∃ e, (Registry.loadTexts before).1.addText text = .error e := by
  cases hadd : (Registry.loadTexts before).1.addText text with
  | error e => exact ⟨e, rfl⟩
  | ok r' =>
    exfalso
    have hnd := ((text_accepted_iff before text).mp ⟨r', hadd⟩).2.1
    have hi : i < (text.map header).length := by simp; omega
    have hj' : j < (text.map header).length := by simp; omega
    have := (List.pairwise_iff_getElem.mp hnd) i j hi hj' hij
    simp only [List.getElem_map, ne_eq] at this
    exact this he

/-- A text that repeats the kind, name and latest revision of a statement of an accepted earlier
text is refused as a whole. -/
theorem duplicate_of_loaded_rejected (before : List (List Stmt)) (text : List Stmt) {s : Stmt} (hs : s ∈ text)
    (hdup : header s ∈ (acceptedStmts before).map header) :
    ∃ e, (Registry.loadTexts before).1.addText text = .error e := by
  cases hadd : (Registry.loadTexts before).1.addText text with
  | error e => exact ⟨e, rfl⟩
  | ok r' => exact absurd hdup (((text_accepted_iff before text).mp ⟨r', hadd⟩).2.2 s hs)

/-! ### the hypotheses are satisfiable, and the statements say something -/

/-- A module or submodule header as a statement (what the driver builds from the wire format). -/
def mk (sub : Bool) (name : String) (revs : List String) : Stmt :=
  Stmt.mk (if sub then "submodule" else "module") true name "f" 1 1
    ((if sub then [Stmt.mk "belongs-to" true "owner" "f" 1 1 []] else []) ++
      revs.map fun r => Stmt.mk "revision" true r "f" 1 1 [])

def exLoads : List Stmt :=
  [mk false "m" ["2020-01-01"], mk false "m" [], mk false "m" ["2019-12-31", "2019-01-01"], mk false "m" []]

example : DatesOk exLoads := by decide +kernel
-- the former defect D16: revision first, then the module without revision — both accepted, the
-- bare name stays with the revision; a second module without revision is rejected
example : rejectedFlags exLoads = [false, false, false, true] := by decide +kernel
example : bound exLoads false "m" = some ⟨false, "m", "2020-01-01"⟩ := by decide +kernel
example : bound exLoads false "m@2019-12-31" = some ⟨false, "m", "2019-12-31"⟩ := by decide +kernel
example : bound exLoads.reverse false "m" = some ⟨false, "m", "2020-01-01"⟩ := by decide +kernel
example : rejectedHeaders exLoads.reverse = [⟨false, "m", ""⟩] := by decide +kernel
example : exLoads.reverse.Perm exLoads := List.reverse_perm _
-- the former defect D61: `module m@2020 {}` (no revision) and `module m { revision 2020; }` claim
-- the same key; now the first is refused in both orders and `m@2020` denotes the revision of `m`
def exAt : List Stmt := [mk false "m@2020" [], mk false "m" ["2020"]]
example : loadOutcomes exAt = [.badName, .ok] ∧ loadOutcomes exAt.reverse = [.ok, .badName] := by decide +kernel
example : bound exAt false "m@2020" = some ⟨false, "m", "2020"⟩ ∧
    bound exAt.reverse false "m@2020" = some ⟨false, "m", "2020"⟩ := by decide +kernel
example : rejectedHeaders exAt = [⟨false, "m@2020", ""⟩] ∧ rejectedHeaders exAt.reverse = [⟨false, "m@2020", ""⟩] := by
  decide +kernel
-- one text with the same module and revision twice (second copy with another older revision): refused,
-- nothing of it stays — also not its first statement
def exText : List Stmt := [mk false "n" [], mk false "m" ["2020-01-01"], mk false "m" ["2020-01-01", "2019-01-01"]]
example : header (exText[1]) = header (exText[2]) := by decide +kernel
example : (Registry.loadTexts [[mk false "k" []], exText]).2.map Option.isSome = [false, true] := by decide +kernel
example : (acceptedStmts [[mk false "k" []], exText]).map header = [⟨false, "k", ""⟩] := by decide +kernel
example : ((lk (Registry.loadTexts [[mk false "k" []], exText]).1 false "n").map hdrOf) = none := by decide +kernel
example : (Registry.loadTexts [exText.take 2, exText.drop 2]).2.map Option.isSome = [false, true] := by decide +kernel
-- `registry_perm_invariant_stmt`: a list without two equal headers
example : ((exLoads.take 3).map header).Nodup := by decide +kernel
-- `exact_revision_when_loaded`: `import m { revision-date 2019-12-31; }` after `exLoads`
def exImport : Stmt := Stmt.mk "import" true "m" "" 0 0 [Stmt.mk "revision-date" true "2019-12-31" "" 0 0 []]
example : mk false "m" ["2019-12-31", "2019-01-01"] ∈ exLoads := .tail _ (.tail _ (.head _))
example : '@' ∉ (mk false "m" ["2019-12-31", "2019-01-01"]).arg.toList := by decide +kernel
example : (header (mk false "m" ["2019-12-31", "2019-01-01"])).rev ≠ "" := by decide +kernel
example : exImport.arg = (header (mk false "m" ["2019-12-31", "2019-01-01"])).name ∧
    exImport.argOf? "revision-date" = some (header (mk false "m" ["2019-12-31", "2019-01-01"])).rev := by decide +kernel
example : ((Registry.loadAll exLoads).1.findModule false exImport).map hdrOf = some ⟨false, "m", "2019-12-31"⟩ := by
  decide +kernel
-- `duplicate_rejected_second`: loads 1 and 3 of `exLoads` have the same header
example : header (exLoads[1]) = header (exLoads[3]) := by decide +kernel
-- dates are compared as dates only when they are dates: byte order would rank "2020-1-01" above
-- "2020-01-02"; `DatesOk` excludes such loads
example : ¬ DatesOk [mk false "m" ["2020-1-01"]] := by decide +kernel

/-! ## (b) the file chooser

Reading aid.  `findFile root path m` is `ms.findFile(m)` with `ms.Path = path` in a current
directory whose content is the tree `root` (`Model/File.lean` says what is modelled of the
operating system).  `Found.chosen` is the file name it returns.  `Spec.File.choose root' entries m`
is the specification: the directories `searchDirs` — the current directory, then what every
path entry stands for, in path order (a `d/...` entry standing for `d` and everything below it,
in the order `Spec.File.under`) — are considered one after the other, and the best candidate
(`bestIn`: `m.yang`, else the `m@YYYY-MM-DD.yang` with the greatest date) of the first directory
that has a candidate is taken.  `root.norm` is `root` with every listing in `ReadDir` (name)
order, `parsePath` the path entries in parsed form, `render` the path string of a component list.
-/
section File
open Goyang.Model.File Goyang.Spec.File
open Goyang.Lemmas.File (IsModuleName RootOk findFileIn_module findFileIn_candidate rootOk_norm datedOf_some
  lastSorted_eq_latestDated lastSorted_spec revsOf mem_dated dated_of_mem_revs exact_of_mem_files bestIn_mem)

/-- **First search-path directory holding a candidate; `name.yang`, else the latest date.**
For a module name `m` (no `/`, not ending in `.yang`), a current directory whose entries have
distinct names, and a search path of clean relative entries, `findFile` returns exactly the file
the specification chooses — and nothing when the specification finds no candidate. -/
theorem choose_exact_else_latest (root : FsNode) (path : List Name) (entries : List Entry) (m : Name)
    (hm : IsModuleName m) (hroot : RootOk root) (hp : parsePath path = some entries) :
    (findFile root path m).chosen = (choose root.norm entries m).map render ∧
    (findFile root path m = .noSuchFile ↔ choose root.norm entries m = none) := by
  unfold findFile
  rw [findFileIn_module (rootOk_norm hroot) hp hm]
  cases choose root.norm entries m with
  | none => simp [Found.chosen]
  | some p => simp [Found.chosen]

/-- **Never a file of a differently named module.**  Whatever `findFile` returns for a module name
`m` — any tree, any search path — is a path whose last component is `m.yang` or `m@…​.yang` with
a well-formed date in between and nothing else (`IsCandidateName`, spelled out by
`candidate_name_shape`). -/
theorem choose_never_other_module (root : FsNode) (path : List Name) (m : Name) (hm : IsModuleName m)
    {n : Name} (h : (findFile root path m).chosen = some n) :
    ∃ dir fn, n = render (dir ++ [fn]) ∧ IsCandidateName m fn :=
  findFileIn_candidate hm h

/-- What a candidate name looks like: the module name, then either `.yang`, or `@`, four digits,
`-`, two digits, `-`, two digits, `.yang` — the remainder after the module name matches
`@dddd-dd-dd.yang` exactly. -/
theorem candidate_name_shape {m fn : Name} (h : IsCandidateName m fn) :
    fn = m ++ ".yang".toList ∨
    ∃ y1 y2 y3 y4 m1 m2 d1 d2 : Char, [y1, y2, y3, y4, m1, m2, d1, d2].all Spec.isDigit = true ∧
      fn = m ++ '@' :: [y1, y2, y3, y4, '-', m1, m2, '-', d1, d2] ++ ".yang".toList := by
  rcases h with h | h
  · exact .inl h
  · right
    obtain ⟨d, hd⟩ := Option.isSome_iff_exists.mp h
    obtain ⟨ds, rfl, hp⟩ := datedOf_some hd
    obtain ⟨y1, y2, y3, y4, m1, m2, d1, d2, rfl, hdig, _⟩ := Goyang.Lemmas.Date.parseDate_some hp
    exact ⟨y1, y2, y3, y4, m1, m2, d1, d2, hdig, rfl⟩

/-- The specification's "best candidate of a directory", spelled out: `m.yang` when it is among
the regular files; otherwise a dated candidate such that no dated candidate of the directory has
a later date; nothing exactly when the directory has no candidate. -/
theorem bestIn_reading (m : Name) (es : Listing) :
    (m ++ ".yang".toList ∈ files es → bestIn m es = some (m ++ ".yang".toList)) ∧
    (∀ fn, bestIn m es = some fn → fn ∈ files es ∧ IsCandidateName m fn) ∧
    (m ++ ".yang".toList ∉ files es → ∀ fn, bestIn m es = some fn →
      ∃ d, datedOf m fn = some d ∧ ∀ fn' ∈ files es, ∀ d', datedOf m fn' = some d' → d'.le d = true) ∧
    (bestIn m es = none ↔ ∀ fn ∈ files es, ¬ IsCandidateName m fn) := by
  have hY := Goyang.Lemmas.File.dotYang_eq
  refine ⟨fun h => ?_, fun fn h => bestIn_mem h, fun hno fn h => ?_, ?_⟩
  · rw [← hY] at h ⊢; exact exact_of_mem_files h
  · -- no exact match: the result is `latestDated`
    have hno' : ¬ (files es).contains (m ++ ".yang".toList) = true := by simpa using hno
    have hex : exact? m es = none := by
      unfold exact?; rw [if_neg hno']
    unfold bestIn at h; rw [hex] at h
    unfold latestDated at h
    rw [Option.map_eq_some_iff] at h
    obtain ⟨c, hc, rfl⟩ := h
    have hm := List.mem_of_find?_eq_some hc
    have hP0 : ((dated m es).all fun c' => c'.2.le c.2) = true :=
      List.find?_some (p := fun c : Name × Spec.Date => (dated m es).all fun c' => c'.2.le c.2) hc
    have hP := List.all_eq_true.mp hP0
    refine ⟨c.2, (mem_dated hm).1, ?_⟩
    intro fn' hfn' d' hd'
    exact hP (fn', d') (Goyang.Lemmas.File.mem_dated_iff.mpr ⟨hfn', hd'⟩)
  · constructor
    · intro hnone fn hfn hc
      rcases hc with rfl | hc
      · have := exact_of_mem_files (hY ▸ hfn)
        rw [hnone] at this; cases this
      · have hex : exact? m es = none := by
          cases he : exact? m es with
          | none => rfl
          | some f => unfold bestIn at hnone; rw [he] at hnone; cases hnone
        unfold bestIn at hnone; rw [hex] at hnone
        simp only at hnone
        rw [← lastSorted_eq_latestDated] at hnone
        have hmem : fn ∈ revsOf m es := Goyang.Lemmas.File.mem_revsOf.mpr ⟨hfn, hc⟩
        rcases lastSorted_spec (revs := revsOf m es) with ⟨hnil, _⟩ | ⟨x, hx, _, _⟩
        · rw [hnil] at hmem; cases hmem
        · rw [hx] at hnone; cases hnone
    · intro hall
      cases hb : bestIn m es with
      | none => rfl
      | some fn => exact absurd (bestIn_mem hb).2 (hall fn (bestIn_mem hb).1)

/-! ### the hypotheses are satisfiable, and the statements say something -/

private def nm (s : String) : Name := s.toList
private def f (s : String) : Name × FsNode := (nm s, .file)
private def d (s : String) (es : List (Name × FsNode)) : Name × FsNode := (nm s, .dir es)

/-- near misses in the current directory, two dated candidates in `p`, an exact one in `q` -/
def exTree : FsNode := .dir [
  f "foobar.yang", f "foo@2020-1-01.yang", f "foo@2020-01-01.yang.bak", d "foo.yang" [f "foo.yang"],
  d "p" [f "foo@2019-12-31.yang", f "foo@2020-01-01.yang", f "foo@2020-1-02.yang"],
  d "q" [f "foo.yang", f "foo@2021-01-01.yang"]]

example : IsModuleName (nm "foo") := by decide +kernel
example : RootOk exTree := by decide +kernel
example : parsePath [nm "p", nm "q"] = some [⟨[nm "p"], false⟩, ⟨[nm "q"], false⟩] := by decide +kernel
example : (findFile exTree [nm "p", nm "q"] (nm "foo")).chosen = some (nm "p/foo@2020-01-01.yang") := by decide +kernel
example : (findFile exTree [nm "q", nm "p"] (nm "foo")).chosen = some (nm "q/foo.yang") := by decide +kernel
example : (choose exTree.norm [⟨[nm "p"], false⟩, ⟨[nm "q"], false⟩] (nm "foo")).map render =
    some (nm "p/foo@2020-01-01.yang") := by decide +kernel
example : findFile exTree [] (nm "foo") = .noSuchFile := by decide +kernel
-- `...`: everything below the current directory; `foo.yang/foo.yang` comes first in name order
example : (findFile exTree [nm "..."] (nm "foo")).chosen = some (nm "foo.yang/foo.yang") := by decide +kernel
example : IsCandidateName (nm "foo") (nm "foo@2020-01-01.yang") := by decide +kernel
example : ¬ IsCandidateName (nm "foo") (nm "foo@2020-1-01.yang") := by decide +kernel
example : ¬ IsCandidateName (nm "foo") (nm "foobar.yang") := by decide +kernel
example : ¬ IsCandidateName (nm "foo") (nm "foo@2020-01-01.yang.bak") := by decide +kernel

end File

end Goyang.Props.C13
