/-
C14 — enum values and bit positions are assigned as RFC 7950 §9.6.4.2 / §9.7.4.2 say.

Statements are about the impl model `Goyang.Model.Enum` (a transliteration of `EnumType` and of the
enum/bit loops of `Type.resolve`, tied to the Go code by `harness/cmd/corr-c14`) against the
declarative assignment `Goyang.Spec.Enum` (`table`, `Valid`, `assign`).  A member is a name with an
optional value; `fold` calls `Set` / `SetNext` member by member, skipping a failing member and recording
an error, exactly as the resolve loop and a direct API user do.  `new k` is `NewEnumType()` /
`NewBitfield()`.  Helper lemmas: `Goyang/Lemmas/Enum.lean`.
-/
import Goyang.Lemmas.Enum

namespace Goyang.Props.C14
open Goyang.Model.Enum hiding Name
open Goyang.Spec.Enum
open Goyang.Lemmas.Enum (new toMember LitForm)
open Goyang.Spec.Number (Lit inInt64)

/-- If the Go fold reports no error, the type is valid by the RFC and Go's name→value table is exactly
    the RFC assignment: explicit values kept, implicit = 0 for the first member, else one more than the
    highest earlier value (also below zero). -/
theorem fold_eq_rfc (k : Kind) (ms : List (Name × Option Int))
    (h : (fold (new k) (ms.map toMember)).2 = []) :
    assign k ms = some (table ms) ∧
    (fold (new k) (ms.map toMember)).1.toInt = (table ms).reverse ∧
    (∀ n v, (n, v) ∈ (fold (new k) (ms.map toMember)).1.nameMap ↔ (n, v) ∈ table ms) ∧
    (∀ n v, mapGet (fold (new k) (ms.map toMember)).1.toInt n = some v ↔ (n, v) ∈ table ms) := by
  obtain ⟨hV, R⟩ := Lemmas.Enum.fold_ok k ms h
  have hnd : (((fold (new k) (ms.map toMember)).1.toInt).map (·.1)).Nodup := by
    rw [show (fold (new k) (ms.map toMember)).1.toInt = (table ms).reverse from R.toInt, List.map_reverse]
    exact Lemmas.Enum.nodup_reverse _ hV.1
  refine ⟨by simp [assign, hV], R.toInt, ?_, ?_⟩
  · intro n v
    unfold EnumType.nameMap
    rw [Lemmas.Enum.mem_sortBy, show (fold (new k) (ms.map toMember)).1.toInt = (table ms).reverse from R.toInt]
    simp
  · intro n v
    rw [Lemmas.Enum.lookup_of_nodup _ hnd, show (fold (new k) (ms.map toMember)).1.toInt = (table ms).reverse from R.toInt]
    simp

/-- Go reports an error (for some member) exactly when the RFC makes the type invalid: a duplicate
    name, for enumerations a duplicate value, a value outside int32 / a position outside uint32 —
    explicit, or automatic beyond the maximum. -/
theorem fold_error_iff (k : Kind) (ms : List (Name × Option Int)) :
    (fold (new k) (ms.map toMember)).2 ≠ [] ↔ assign k ms = none := by
  have sim := Lemmas.Enum.fold_sim k ms (new k) [] 0 (Lemmas.Enum.rel_new k)
  rw [← Lemmas.Enum.table_eq_extend] at sim
  by_cases hV : Valid k (table ms)
  · have := (sim.1 hV).1
    simp [assign, hV, fold, this]
  · have := sim.2 hV
    simp [assign, hV, fold, this]

example : (fold (new .enumeration) ([([97], some (-5)), ([98], none)].map toMember)).2 = [] := by decide
example : assign .enumeration [([97], some (-5)), ([98], none)] = some [([97], -5), ([98], -4)] := by decide
example : assign .bits [([97], some 2147483647), ([98], none)] = some [([97], 2147483647), ([98], 2147483648)] := by decide
example : assign .enumeration [([97], some 2147483647), ([98], none)] = none := by decide

/-- Whatever calls were made (failing ones included), the name→value and value→name views of an
    enumeration are mutually inverse. -/
theorem views_inverse (ms : List Member) (n : Name) (v : Int) :
    ((n, v) ∈ (fold newEnumType ms).1.nameMap ↔ (v, n) ∈ (fold newEnumType ms).1.valueMap) ∧
    (mapGet (fold newEnumType ms).1.toInt n = some v ↔ mapGet (fold newEnumType ms).1.toString v = some n) := by
  obtain ⟨tbl, R⟩ := Lemmas.Enum.fold_rel .enumeration ms newEnumType 0 ⟨[], Lemmas.Enum.rel_new .enumeration⟩
  refine ⟨?_, Lemmas.Enum.rel_inverse _ tbl R n v⟩
  unfold EnumType.nameMap EnumType.valueMap
  rw [Lemmas.Enum.mem_sortBy, Lemmas.Enum.mem_sortBy,
    show (fold newEnumType ms).1.toInt = tbl.reverse from R.toInt,
    show (fold newEnumType ms).1.toString = (tbl.map fun p => (p.2, p.1)).reverse from R.inv rfl]
  rw [List.mem_reverse, List.mem_reverse, Lemmas.Enum.mem_map_swap]

/-- Whatever calls were made, every stored enum value lies in int32 and every bit position in uint32,
    names are never bound twice, and enum values are never shared. -/
theorem values_in_range (k : Kind) (ms : List Member) :
    (∀ p ∈ (fold (new k) ms).1.toInt, k.min ≤ p.2 ∧ p.2 ≤ k.max) ∧
    (((fold (new k) ms).1.toInt).map (·.1)).Nodup ∧
    (k = .enumeration → (((fold (new k) ms).1.toInt).map (·.2)).Nodup) := by
  obtain ⟨tbl, R⟩ := Lemmas.Enum.fold_rel k ms (new k) 0 ⟨[], Lemmas.Enum.rel_new k⟩
  rw [show (fold (new k) ms).1.toInt = tbl.reverse from R.toInt]
  refine ⟨fun p hp => R.valid.2.2 p (List.mem_reverse.mp hp), ?_, ?_⟩
  · rw [List.map_reverse]; exact Lemmas.Enum.nodup_reverse _ R.valid.1
  · intro hk; rw [List.map_reverse]; exact Lemmas.Enum.nodup_reverse _ (R.valid.2.1 (by rw [hk]; rfl))

/-- An automatic assignment that would exceed the maximum (2^31-1 for enums, 2^32-1 for bit positions —
    not 2^31-1) is an error, in Go (`SetNext`) and by the RFC. -/
theorem implicit_beyond_max (k : Kind) (ms : List (Name × Option Int)) (name : Name)
    (h : (fold (new k) (ms.map toMember)).2 = [])
    (hmax : nextValue ((table ms).map (·.2)) = k.max + 1) :
    (∃ err, (fold (new k) (ms.map toMember)).1.setNext name = .error err) ∧
    assign k (ms ++ [(name, none)]) = none := by
  obtain ⟨hV, R⟩ := Lemmas.Enum.fold_ok k ms h
  have hnv : ¬ Valid k (table ms ++ [(name, nextValue ((table ms).map (·.2)))]) := by
    intro hv
    have := ((Lemmas.Enum.valid_snoc k _ name _).mp hv).2.2.2
    omega
  refine ⟨(Lemmas.Enum.setNext_spec k _ (table ms) name R).2 hnv, ?_⟩
  have ht : table (ms ++ [(name, none)]) = table ms ++ [(name, nextValue ((table ms).map (·.2)))] := by
    rw [Lemmas.Enum.table_eq_extend, Lemmas.Enum.table_eq_extend, Lemmas.Enum.extend_snoc_none]
  simp [assign, ht, hnv]

example : (fold (new .bits) ([([97], some 4294967295)].map toMember)).2 = [] := by decide
example : nextValue ((table [([97], some 4294967295)]).map (·.2)) = Kind.bits.max + 1 := by decide

/-- The argument glue of the `set` closure (`ParseInt` then `Int()`): on `[sign] digits` without
    superfluous leading zeros it yields exactly the written integer when that is an int64 and an error
    otherwise — 64-bit literals are never wrapped into range. -/
theorem glue_exact (l : Lit) (h : LitForm l) :
    (inInt64 l.num → parseMember (some l.render) = .explicit l.num) ∧
    (¬ inInt64 l.num → ∃ e, parseMember (some l.render) = .bad e) := by
  rw [Lemmas.Enum.parseMember_lit l h]
  exact ⟨fun hin => by rw [if_pos hin], fun hin => ⟨_, by rw [if_neg hin]⟩⟩

/-- End to end on written members (value / position arguments of the claimed literal form, any
    magnitude): the resolve loop reports an error exactly when the RFC — applied to the integers
    actually written — makes the type invalid, and otherwise builds exactly the RFC table. -/
theorem text_fold (k : Kind) (ms : List (Name × Option Lit))
    (hform : ∀ p ∈ ms, ∀ l, p.2 = some l → LitForm l) :
    ((foldText (new k) (ms.map fun p => (p.1, p.2.map Lit.render))).2 ≠ [] ↔
        assign k (ms.map fun p => (p.1, p.2.map Lit.num)) = none) ∧
    ((foldText (new k) (ms.map fun p => (p.1, p.2.map Lit.render))).2 = [] →
        (foldText (new k) (ms.map fun p => (p.1, p.2.map Lit.render))).1.toInt
          = (table (ms.map fun p => (p.1, p.2.map Lit.num))).reverse) := by
  by_cases hex : ∃ p ∈ ms, ∃ l, p.2 = some l ∧ ¬ inInt64 l.num
  · -- some written integer is not an int64: Go reports it, and it is out of range for the RFC too
    obtain ⟨p, hp, l, hl, hnin⟩ := hex
    obtain ⟨err, herr⟩ := (glue_exact l (hform p hp l hl)).2 hnin
    have hbad : (foldText (new k) (ms.map fun p => (p.1, p.2.map Lit.render))).2 ≠ [] := by
      unfold foldText fold
      apply Lemmas.Enum.fold_bad
      refine ⟨{ name := p.1, val := parseMember (p.2.map Lit.render) }, ?_, err, ?_⟩
      · simp only [List.map_map, List.mem_map]
        exact ⟨p, hp, rfl⟩
      · simp only [hl, Option.map_some]; exact herr
    have hspec : assign k (ms.map fun p => (p.1, p.2.map Lit.num)) = none := by
      have hin : (p.1, l.num) ∈ table (ms.map fun p => (p.1, p.2.map Lit.num)) := by
        rw [Lemmas.Enum.table_eq_extend]
        apply Lemmas.Enum.explicit_mem_extend
        simp only [List.mem_map]
        exact ⟨p, hp, by simp [hl]⟩
      have : ¬ Valid k (table (ms.map fun p => (p.1, p.2.map Lit.num))) := by
        intro hv
        have hr := hv.2.2 _ hin
        have hb := Lemmas.Enum.kind_bounds k
        apply hnin
        unfold inInt64
        simp only at hr
        omega
      simp [assign, this]
    exact ⟨⟨fun _ => hspec, fun _ => hbad⟩, fun h => absurd h hbad⟩
  · -- every argument parses to the written integer: reduce to the fold over parsed values
    have hall : ∀ p ∈ ms, ∀ l, p.2 = some l → inInt64 l.num := fun p hp l hl =>
      Classical.byContradiction fun hn => hex ⟨p, hp, l, hl, hn⟩
    have hmem : (ms.map fun p => (p.1, p.2.map Lit.render)).map (fun x : Name × Option (List UInt8) => ({ name := x.1, val := parseMember x.2 } : Member))
        = (ms.map fun p => (p.1, p.2.map Lit.num)).map toMember := by
      rw [List.map_map, List.map_map]
      apply List.map_congr_left
      intro p hp
      obtain ⟨n, ol⟩ := p
      cases ol with
      | none => rfl
      | some l =>
        have := (glue_exact l (hform _ hp l rfl)).1 (hall _ hp l rfl)
        simp only [Function.comp, Option.map_some, toMember]
        rw [this]
    have hft : foldText (new k) (ms.map fun p => (p.1, p.2.map Lit.render))
        = fold (new k) ((ms.map fun p => (p.1, p.2.map Lit.num)).map toMember) := by
      unfold foldText; rw [← hmem]
    rw [hft]
    exact ⟨fold_error_iff k _, fun h => (fold_eq_rfc k _ h).2.1⟩

example : LitForm ⟨some true, [5], none⟩ := ⟨⟨by decide, by decide⟩, by decide, rfl, by decide⟩

/-- Calls made LATER on a table — the table a type statement was resolved to, reached through a leaf, a
    typedef (chain), a union member … — continue the fold of the members that built it: the table after the
    written members `a` followed by the calls `b` is the table of the one sequence `a ++ b`, and so are the
    errors (the calls' errors numbered on from `a.length`).  With `fold_eq_rfc` / `fold_error_iff`: a member
    added after resolution without a value gets one more than the highest value of ALL earlier members,
    the written ones included.  (What `harness/cmd/corr-c14` path `post` checks of the Go tables.) -/
theorem fold_resume (e : EnumType) (a b : List Member) :
    (fold e (a ++ b)).1 = (fold (fold e a).1 b).1 ∧
    (fold e (a ++ b)).2 = (fold e a).2 ++ (fold (fold e a).1 b).2.map fun p => (p.1 + a.length, p.2) := by
  unfold fold
  rw [Lemmas.Enum.foldFrom_append b a e 0, Lemmas.Enum.foldFrom_shift b (foldFrom e 0 a).1 0 a.length]
  exact ⟨rfl, rfl⟩

/-- A resolved table (written members `ws`, no error) on which the calls `cs` succeed holds exactly the RFC
    assignment of `ws ++ cs`. -/
theorem resolved_then_calls_eq_rfc (k : Kind) (ws cs : List (Name × Option Int))
    (hw : (fold (new k) (ws.map toMember)).2 = [])
    (hc : (fold (fold (new k) (ws.map toMember)).1 (cs.map toMember)).2 = []) :
    assign k (ws ++ cs) = some (table (ws ++ cs)) ∧
    (fold (fold (new k) (ws.map toMember)).1 (cs.map toMember)).1.toInt = (table (ws ++ cs)).reverse := by
  have r := fold_resume (new k) (ws.map toMember) (cs.map toMember)
  rw [← List.map_append] at r
  have h : (fold (new k) ((ws ++ cs).map toMember)).2 = [] := by rw [r.2, hw, hc]; rfl
  have q := fold_eq_rfc k (ws ++ cs) h
  exact ⟨q.1, by rw [← r.1]; exact q.2.1⟩

example : (fold (fold (new .enumeration) ([([97], none), ([98], none), ([99], some 7)].map toMember)).1
    ([([110], none)].map toMember)).1.toInt = [([110], 8), ([99], 7), ([98], 1), ([97], 0)] := by decide

end Goyang.Props.C14
