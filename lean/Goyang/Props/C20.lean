import Goyang.Model.Indent
import Goyang.Spec.Indent
import Goyang.Lemmas.Indent
/-
C20 — indented writing is chunk-independent and accounts bytes truthfully.
Property theorems only; helper lemmas live in Goyang/Lemmas/Indent.lean.

Reading aid.  `Spec.Indent.render pre atStart s` is the byte-level rendering: `pre` in front of
every byte of `s` that starts a line (`atStart` says whether the first byte does), nothing else
added — in particular nothing after a final line feed.  `Spec.Indent.callerBytesIn pre atStart s k`
counts the caller's bytes among the first `k` bytes of that rendering.  `Spec.Indent.atStartAfter
atStart s` says whether the byte after `s` starts a line.  The writer state `p` (`iw.partial`)
is "the current output line already carries its prefix", so a Write in state `p` renders with
`atStart = !p`; a fresh writer has `p = false`.

Histories (last section): `Spec.Indent.history` is what is asked when the caller goes on writing after
short writes: the line state after a short write is the one at the cut (`Spec.Indent.cutState`).  The
history stage of corr-c20 found that the code kept the state of the END of the argument instead
(D20-M1: `Write("ab\n")` cut after `--a`, then `Write("b\n")`, gave `--a--b\n`); repaired in /repo
8883425 (`partialAfter`), mirrored in `Model.Indent.partialAfter`.  Proved in full: `resume_spec`
(the writer follows the specification of histories — bytes, counts, errors, line states — on every
history, up to its first cut inside a prefix, after which nothing is asked) and
`history_sink_is_rendering` (what that specification leaves with the underlying writer is the
one-shot rendering of the concatenated accepted bytes, plus one prefix already written for the next
line when the last cut fell exactly after it; `writer_sink_is_rendering`: so does the writer).
`stateOfCut` turns the specification's state after a call into the writer's bit: `some a ↦ !a`
(`partial` = "not at a line start"), and `none` (cut inside a prefix) `↦ false`, which is what
`partialAfter` answers there.

All statements hold for every prefix, text, chunking and stop position; hypotheses appear only
where the Go code itself branches (`len(buf) == 0` returns before the underlying writer is called).
The model's `write` describes `(*iw).Write`, which exists only for a non-empty prefix
(`NewWriter(w, "")` returns `w` itself); the theorems do not need that restriction, because with
an empty prefix the rendering is the text itself (`render_empty_prefix`).
-/
namespace Goyang.Props.C20
open Goyang.Model.Indent
open Goyang.Spec.Indent (tagged render callerBytesIn atStartAfter nestedRender cutState history observed
  uptoBrokenCut accepted finalState pending)
open Goyang.Lemmas.Indent (join_write render_append atStartAfter_append callerBytesIn_le
  callerBytesIn_min render_getLast? tagged_append countP_tagged write_none_eq write_some_eq stateOfCut)

/-! ### one-shot `indent.String` / `indent.Bytes` -/

/-- The one-shot function produces the byte-level rendering: the prefix at the start of every
line, nothing after the final line break.  (No hypothesis on `pre`: see `render_empty_prefix`.) -/
theorem oneshot_spec (pre s : Bytes) : indent pre s = render pre true s := by
  unfold indent
  by_cases hp : pre = []
  · subst hp; simp [Lemmas.Indent.render_empty_prefix]
  · by_cases hs : s = []
    · subst hs; simp [Lemmas.Indent.render_nil]
    · have := join_write pre false hs
      simp only [Bool.false_eq_true, if_false, Bool.not_false] at this
      simp [hp, hs, this]

/-- With an empty prefix the specified rendering is the text itself. -/
theorem render_empty_prefix (atStart : Bool) (s : Bytes) : render [] atStart s = s :=
  Lemmas.Indent.render_empty_prefix atStart s

/-- Degenerate cases of the one-shot function: an empty prefix or an empty text give the text. -/
theorem oneshot_degenerate (pre s : Bytes) : indent [] s = s ∧ indent pre [] = [] := by
  simp [indent]

/-- Nothing is added after the end of the text: the indented text ends with the same byte, so a
text that ends in a line break is rendered ending in that line break. -/
theorem oneshot_last (pre s : Bytes) (h : s ≠ []) : (indent pre s).getLast? = s.getLast? := by
  rw [oneshot_spec]; exact render_getLast? pre true h

example : indent [62, 62] [97, 98, 10, 10, 99, 10] = [62, 62, 97, 98, 10, 62, 62, 10, 62, 62, 99, 10] := by decide +kernel
example : render [62, 62] true [97, 98, 10, 10, 99, 10] = [62, 62, 97, 98, 10, 62, 62, 10, 62, 62, 99, 10] := by decide +kernel
example : indent [62] [10, 97] = [62, 10, 62, 97] := by decide +kernel
example : ([97, 98, 10] : Bytes) ≠ [] := by decide +kernel

/-- Sanity of the specification itself: the rendering consists of the caller's text, byte for
byte and in order, plus prefix bytes (tagged `false`) — so "the number of caller bytes among the
first `k`" is a count of bytes of `s`. -/
theorem spec_keeps_text (pre : Bytes) (atStart : Bool) (s : Bytes) :
    ((tagged pre atStart s).filter (·.2)).map (·.1) = s ∧
    (tagged pre atStart s).map (·.1) = render pre atStart s ∧
    callerBytesIn pre atStart s (render pre atStart s).length = s.length := by
  refine ⟨Lemmas.Indent.filter_tagged pre atStart s, rfl, ?_⟩
  simp [callerBytesIn, render, countP_tagged]

/-! ### one successful `Write` -/

/-- Everything a successful Write does, for every state, prefix and buffer (the empty buffer
included): the underlying writer is handed, and takes, the rendering of `buf` continuing the
current line state; the call reports `len(buf)` and no error; afterwards `partial` is true exactly
when the output so far does not end in a line feed. -/
theorem write_success (pre : Bytes) (p : Bool) (buf : Bytes) :
    (write pre p buf none).reached = render pre (!p) buf ∧
    (write pre p buf none).handed = (write pre p buf none).reached ∧
    (write pre p buf none).n = buf.length ∧
    (write pre p buf none).err = false ∧
    (write pre p buf none).partial_ = !(atStartAfter (!p) buf) := by
  simp [write_none_eq]

/-- A successful Write reports the full length of its argument. -/
theorem write_ok_len (pre : Bytes) (p : Bool) (buf : Bytes) :
    (write pre p buf none).n = buf.length ∧ (write pre p buf none).err = false := by
  simp [write_none_eq]

/-- The state bit, read on its own: after a successful Write of a non-empty buffer the writer
remembers "inside a line" iff the buffer does not end in a line feed. -/
theorem write_partial_bit (pre : Bytes) (p : Bool) (buf : Bytes) (h : buf ≠ []) :
    (write pre p buf none).partial_ = (buf.getLast? != some NL) := by
  obtain ⟨b, hb⟩ := Lemmas.Indent.getLast?_some h
  simp [write_none_eq, atStartAfter, hb, Lemmas.Indent.specNL, bne]

example : write [62, 62] false [97, 10, 98] none =
    { partial_ := true, handed := [62, 62, 97, 10, 62, 62, 98], reached := [62, 62, 97, 10, 62, 62, 98],
      n := 3, err := false } := by decide +kernel
example : write [62, 62] true [97, 10, 98, 10] none =
    { partial_ := false, handed := [97, 10, 62, 62, 98, 10], reached := [97, 10, 62, 62, 98, 10],
      n := 4, err := false } := by decide +kernel

/-! ### any division into successful Writes -/

/-- Chunk independence from any writer state: what reaches the underlying writer over a sequence
of successful Writes (empty ones allowed) is the rendering of the concatenated text, and every
call returns `(len(chunk), nil)`. -/
theorem stream_from_state (pre : Bytes) (p : Bool) (chunks : List Bytes) :
    writes pre p (chunks.map (·, none)) =
      (render pre (!p) chunks.flatten, chunks.map (fun c => ((c.length : Int), false))) := by
  induction chunks generalizing p with
  | nil => simp [writes, Lemmas.Indent.render_nil]
  | cons c cs ih =>
    simp only [List.map_cons, writes, write_none_eq, ih, Bool.not_not, List.flatten_cons,
      render_append]

/-- Text written through a fresh indenting writer in any division into Write calls comes out
exactly as the one-shot function renders the concatenated text, and every Write reports the full
length of its argument and no error. -/
theorem stream_eq_oneshot (pre : Bytes) (chunks : List Bytes) :
    (writes pre false (chunks.map (·, none))).1 = indent pre chunks.flatten ∧
    (writes pre false (chunks.map (·, none))).1 = render pre true chunks.flatten ∧
    (writes pre false (chunks.map (·, none))).2 = chunks.map (fun c => ((c.length : Int), false)) := by
  simp [stream_from_state, oneshot_spec]

example : writes [62, 62] false ([[97], [], [98, 10, 10], [99, 10, 100]].map (·, none)) =
    (indent [62, 62] [97, 98, 10, 10, 99, 10, 100], [(1, false), (0, false), (3, false), (3, false)]) := by decide +kernel
example : indent [62, 62] [97, 98, 10, 10, 99, 10, 100] =
    [62, 62, 97, 98, 10, 62, 62, 10, 62, 62, 99, 10, 62, 62, 100] := by decide +kernel

/-! ### stacked writers -/

/-- Indenting writers compose: with `outer = NewWriter(inner, p2)` over `inner = NewWriter(sink, p1)`
and successful Write calls addressed to either of them in any interleaving and from any pair of
line states, the sink receives the two-level rendering of the specification, and every call returns
the length of its own argument (not of what was handed further down). -/
theorem nested_spec (p1 p2 : Bytes) (pin pout : Bool) (ops : List (Bool × Bytes)) :
    nestedWrites p1 p2 pin pout ops =
      (nestedRender p1 p2 (!pin) (!pout) ops, ops.map (fun o => (o.2.length : Int))) := by
  induction ops generalizing pin pout with
  | nil => simp [nestedWrites, nestedRender]
  | cons o os ih =>
    obtain ⟨b, buf⟩ := o
    cases b <;> simp [nestedWrites, nestedRender, write_none_eq, ih]

/-- Text written only through the outer of two fresh stacked writers comes out as the one-shot
rendering with the inner prefix of the one-shot rendering with the outer prefix. -/
theorem nested_outer_only (p1 p2 : Bytes) (chunks : List Bytes) :
    (nestedWrites p1 p2 false false (chunks.map (true, ·))).1 =
      render p1 true (render p2 true chunks.flatten) := by
  rw [nested_spec]
  suffices h : ∀ (a b : Bool), nestedRender p1 p2 a b (chunks.map (true, ·)) =
      render p1 a (render p2 b chunks.flatten) from h true true
  induction chunks with
  | nil => intro a b; simp [nestedRender, Lemmas.Indent.render_nil]
  | cons c cs ih =>
    intro a b
    simp only [List.map_cons, nestedRender, ih, List.flatten_cons, render_append]

example : nestedWrites [62] [32, 32] false false [(true, [97]), (false, [10]), (true, [98])] =
    ([62, 32, 32, 97, 10, 62, 98], [1, 1, 1]) := by decide +kernel

/-! ### a Write that the underlying writer cuts short -/

example : ([97, 10, 98] : Bytes) ≠ [] := by decide +kernel

/-- A Write that the underlying writer cuts short (`buf` non-empty; the underlying writer takes
`k` bytes of what it is handed and reports an error).  It was handed the full rendering and took
its first `k` bytes; the count returned is exactly the number of the caller's bytes among them —
prefix bytes are not counted; it is never negative and never more than the argument; the error is
passed on.  `k` is unrestricted: beyond the length of what is handed down it behaves as that length.
(The model computes the count over `Int`, as the Go code computes over `int`, with `remain` going
below zero when the cut falls inside a prefix: non-negativity is proved here, not assumed by a type.)
Afterwards the writer's line state is the one at the cut (`cutState`; unchanged when nothing was
taken; "at a line start" after a cut inside a prefix), and `partialAfter` indexes no slice out of range. -/
theorem write_short_count (pre : Bytes) (p : Bool) (buf : Bytes) (h : buf ≠ []) (k : Nat) :
    (write pre p buf (some k)).handed = render pre (!p) buf ∧
    (write pre p buf (some k)).reached = (render pre (!p) buf).take k ∧
    (write pre p buf (some k)).n =
      callerBytesIn pre (!p) buf (min k (write pre p buf (some k)).handed.length) ∧
    (write pre p buf (some k)).n = callerBytesIn pre (!p) buf k ∧
    0 ≤ (write pre p buf (some k)).n ∧
    (write pre p buf (some k)).n ≤ buf.length ∧
    (write pre p buf (some k)).err = true ∧
    (write pre p buf (some k)).partial_ = stateOfCut (cutState pre (!p) buf k) ∧
    (write pre p buf (some k)).crash = false := by
  have hc := callerBytesIn_min pre (!p) buf k
  have hle := callerBytesIn_le pre (!p) buf k
  rw [write_some_eq pre p h k]
  refine ⟨rfl, rfl, ?_, rfl, ?_, ?_, rfl, rfl, rfl⟩
  · simp only [hc]
  · simp only; omega
  · simp only; omega

/-- An empty Write does nothing at all, whatever the underlying writer would do. -/
theorem write_empty (pre : Bytes) (p : Bool) (u : Under) :
    (write pre p [] u).handed = [] ∧ (write pre p [] u).reached = [] ∧ (write pre p [] u).n = 0 ∧
    (write pre p [] u).err = false ∧ (write pre p [] u).partial_ = p := by
  simp [write]

/-- A short write anywhere in a stream: after any successful Writes `chunks`, a Write of `buf`
that is cut after `k` bytes leaves the underlying writer with a prefix of the one-shot rendering
of the whole text; the failing call returns the number of bytes of `buf` inside that prefix, so
that all counts returned so far add up to the number of caller bytes that reached the underlying
writer. -/
theorem stream_short (pre : Bytes) (chunks : List Bytes) (buf : Bytes) (h : buf ≠ []) (k : Nat) :
    (writes pre false (chunks.map (·, none) ++ [(buf, some k)])).1 =
      (indent pre (chunks.flatten ++ buf)).take ((indent pre chunks.flatten).length + k) ∧
    (writes pre false (chunks.map (·, none) ++ [(buf, some k)])).2 =
      chunks.map (fun c => ((c.length : Int), false)) ++
        [(((callerBytesIn pre (atStartAfter true chunks.flatten) buf k : Nat) : Int), true)] ∧
    chunks.flatten.length + callerBytesIn pre (atStartAfter true chunks.flatten) buf k =
      callerBytesIn pre true (chunks.flatten ++ buf) ((indent pre chunks.flatten).length + k) := by
  have gen : ∀ (p : Bool) (cs : List Bytes),
      writes pre p (cs.map (·, none) ++ [(buf, some k)]) =
        (render pre (!p) cs.flatten ++ (render pre (atStartAfter (!p) cs.flatten) buf).take k,
         cs.map (fun c => ((c.length : Int), false)) ++
           [(((callerBytesIn pre (atStartAfter (!p) cs.flatten) buf k : Nat) : Int), true)]) := by
    intro p cs
    induction cs generalizing p with
    | nil => simp [writes, write_some_eq pre p h k, Lemmas.Indent.render_nil, atStartAfter]
    | cons c cs ih =>
      simp only [List.map_cons, List.cons_append, writes, write_none_eq, ih, Bool.not_not,
        List.flatten_cons, render_append, atStartAfter_append, List.append_assoc]
  rw [gen false chunks]
  refine ⟨?_, rfl, ?_⟩
  · simp only [oneshot_spec, Bool.not_false, render_append, List.take_length_add_append]
  · have hlen : (render pre true chunks.flatten).length = (tagged pre true chunks.flatten).length := by
      simp [render]
    simp only [oneshot_spec, callerBytesIn, tagged_append, hlen, List.take_length_add_append,
      List.countP_append, countP_tagged]

example : writes [62, 62] false [([97, 98], none), ([99, 100, 10, 101, 102], some 1)] =
    ([62, 62, 97, 98, 99], [(2, false), (1, true)]) := by decide +kernel
example : writes [62, 62] false [([97, 98], none), ([99, 100, 10, 101, 102], some 4)] =
    ([62, 62, 97, 98, 99, 100, 10, 62], [(2, false), (3, true)]) := by decide +kernel
example : writes [62, 62] false [([97, 98], none), ([99, 100, 10, 101, 102], some 6)] =
    ([62, 62, 97, 98, 99, 100, 10, 62, 62, 101], [(2, false), (4, true)]) := by decide +kernel
/-- a cut inside the prefix: the line has not got its prefix (`partialAfter` answers false) -/
example : write [62, 62] false [97, 10, 98] (some 1) =
    { partial_ := false, handed := [62, 62, 97, 10, 62, 62, 98], reached := [62], n := 0, err := true } := by decide +kernel
/-- exactly after the prefix / after `a` / after the line feed / nothing taken (state kept) -/
example : (write [62, 62] false [97, 10, 98] (some 2)).partial_ = true ∧
    (write [62, 62] false [97, 10, 98] (some 3)).partial_ = true ∧
    (write [62, 62] false [97, 10, 98] (some 4)).partial_ = false ∧
    (write [62, 62] false [97, 10, 98] (some 0)).partial_ = false ∧
    (write [62, 62] true [97, 10, 98] (some 0)).partial_ = true := by decide +kernel
example : callerBytesIn [62, 62] false [99, 100, 10, 101, 102] 4 = 3 := by decide +kernel

/-! ### histories: the caller goes on writing after a short write

`Spec.Indent.history` says what the property asks when the underlying writer cuts Writes short and
the caller goes on (resuming with the unwritten remainder, or with anything else): the caller bytes
accepted in successive calls are rendered as one text, so after a short write the line state is the
one AT THE CUT (`Spec.Indent.cutState`).  After a cut inside a prefix nothing is asked. -/

/-- The specification of histories, on histories without a short write, is the specification of
streams: the rendering of the concatenated text, every count the length of its argument. -/
theorem history_success (pre : Bytes) (a : Bool) (chunks : List Bytes) :
    observed (history pre a (chunks.map (·, none))) =
      (render pre a chunks.flatten, chunks.map (fun c => ((c.length : Int), false))) := by
  induction chunks generalizing a with
  | nil => simp [history, observed, Lemmas.Indent.render_nil]
  | cons c cs ih =>
    have := ih (atStartAfter a c)
    simp only [observed, Prod.mk.injEq] at this
    simp only [List.map_cons, history, observed, List.flatten_cons, render_append, this.1, this.2,
      List.map_cons]

/-- The writer follows the specification of histories, in full: for every prefix, writer state and
history (any Writes, any of them cut short by the underlying writer at any offset, the caller going
on with anything), on the part of the history the specification speaks about (`uptoBrokenCut`: all of
it, or up to and including the first cut inside a prefix), the bytes that reach the underlying
writer, the count and the error of every call — those after short writes included — and the writer's
line state after every call are the ones `Spec.Indent.history` gives. -/
theorem resume_spec (pre : Bytes) (p : Bool) (cs : List (Bytes × Under)) :
    writes pre p (uptoBrokenCut pre (!p) cs) = observed (history pre (!p) cs) ∧
    trace pre p (uptoBrokenCut pre (!p) cs) = (history pre (!p) cs).2.map (fun r => stateOfCut r.2.2) := by
  induction cs generalizing p with
  | nil => simp [writes, trace, history, observed, uptoBrokenCut]
  | cons c cs ih =>
    obtain ⟨buf, u⟩ := c
    cases u with
    | none =>
      have := ih (!(atStartAfter (!p) buf))
      simp only [Bool.not_not, observed] at this
      simp only [uptoBrokenCut, writes, trace, write_none_eq, history, observed, this.1, this.2,
        List.map_cons, stateOfCut, and_self]
    | some k =>
      by_cases hb : buf = []
      · subst hb
        have := ih p
        simp only [observed] at this
        simp [uptoBrokenCut, writes, trace, write, history, observed, this.1, this.2, stateOfCut]
      · cases hc : cutState pre (!p) buf k with
        | none =>
          simp [uptoBrokenCut, writes, trace, write_some_eq pre p hb k, history, observed, hb, hc,
            stateOfCut]
        | some a' =>
          have := ih (!a')
          simp only [Bool.not_not, observed] at this
          simp only [uptoBrokenCut, writes, trace, write_some_eq pre p hb k, history, List.isEmpty_iff,
            hb, if_false, hc, observed, this.1, this.2, List.map_cons, stateOfCut, and_self]

/-- The part of a history the specification speaks about has the same specification as the whole. -/
theorem history_upto (pre : Bytes) (a : Bool) (cs : List (Bytes × Under)) :
    history pre a (uptoBrokenCut pre a cs) = history pre a cs := by
  induction cs generalizing a with
  | nil => simp [uptoBrokenCut]
  | cons c cs ih =>
    obtain ⟨buf, u⟩ := c
    cases u with
    | none => simp only [uptoBrokenCut, history, ih]
    | some k =>
      by_cases hb : buf = []
      · subst hb; simp [uptoBrokenCut, history, ih]
      · cases hc : cutState pre a buf k with
        | none => simp [uptoBrokenCut, history, hb, hc]
        | some a' => simp [uptoBrokenCut, history, hb, hc, ih]

/-- Without a cut inside a prefix the whole history is specified, and followed. -/
theorem resume_spec_unbroken (pre : Bytes) (p : Bool) (cs : List (Bytes × Under))
    (h : uptoBrokenCut pre (!p) cs = cs) :
    writes pre p cs = observed (history pre (!p) cs) := by
  have := (resume_spec pre p cs).1
  rwa [h] at this

/-- What the specification of histories leaves with the underlying writer IS the property's sentence:
for every history without a cut inside a prefix (`finalState … = some st`), from any line state, the
underlying writer ends up with the rendering of the concatenation of the accepted caller bytes
(all of a successful Write, the counted bytes of a short one) as ONE text — followed by one prefix
exactly when the accepted text ends at a line start but the last cut fell after the prefix of the
next line (`pending`: that prefix is already out, the line has no byte yet).  For a fresh writer
the rendering is `indent.String(prefix, accepted)`.  With `resume_spec`, this is what the writer does. -/
theorem history_sink_is_rendering (pre : Bytes) (a : Bool) (cs : List (Bytes × Under)) (st : Bool)
    (h : finalState pre a cs = some st) :
    (history pre a cs).1 =
      render pre a (accepted pre a cs) ++ pending pre (atStartAfter a (accepted pre a cs)) st ∧
    (a = true → (history pre a cs).1 =
      indent pre (accepted pre a cs) ++ pending pre (atStartAfter a (accepted pre a cs)) st) := by
  have := Lemmas.Indent.history_sink pre a cs st h
  refine ⟨this, ?_⟩
  intro ha; subst ha
  rw [oneshot_spec]; exact this

/-- the writer itself, on a history without a cut inside a prefix: bytes accepted = one text -/
theorem writer_sink_is_rendering (pre : Bytes) (cs : List (Bytes × Under)) (st : Bool)
    (h : finalState pre true cs = some st) (hu : uptoBrokenCut pre true cs = cs) :
    (writes pre false cs).1 =
      indent pre (accepted pre true cs) ++ pending pre (atStartAfter true (accepted pre true cs)) st := by
  have h1 := resume_spec_unbroken pre false cs (by simpa using hu)
  have h2 := (history_sink_is_rendering pre true cs st h).2 rfl
  simp only [Bool.not_false, observed] at h1
  rw [h1]; exact h2

/-- non-vacuity: a cut inside the caller bytes, resumed; a cut exactly after a prefix (pending) -/
example : finalState [45, 45] true [([97, 98, 10], some 3), ([98, 10], none)] = some true ∧
    accepted [45, 45] true [([97, 98, 10], some 3), ([98, 10], none)] = [97, 98, 10] ∧
    (history [45, 45] true [([97, 98, 10], some 3), ([98, 10], none)]).1 = indent [45, 45] [97, 98, 10] := by decide +kernel
example : finalState [45, 45] true [([97, 10, 98], some 6)] = some false ∧
    accepted [45, 45] true [([97, 10, 98], some 6)] = [97, 10] ∧
    pending [45, 45] (atStartAfter true [97, 10]) false = [45, 45] ∧
    (history [45, 45] true [([97, 10, 98], some 6)]).1 = indent [45, 45] [97, 10] ++ [45, 45] := by decide +kernel
example : finalState [45, 45] true [([97, 10, 98], some 5)] = none := by decide +kernel

/-- the witness of the former defect: `Write("ab\n")` cut after `--a`, resumed with `Write("b\n")` -/
example : writes [45, 45] false [([97, 98, 10], some 3), ([98, 10], none)] =
    ([45, 45, 97, 98, 10], [(1, true), (2, false)]) := by decide +kernel
example : observed (history [45, 45] true [([97, 98, 10], some 3), ([98, 10], none)]) =
    ([45, 45, 97, 98, 10], [(1, true), (2, false)]) := by decide +kernel
example : uptoBrokenCut [45, 45] true [([97, 98, 10], some 3), ([98, 10], none)] =
    [([97, 98, 10], some 3), ([98, 10], none)] := by decide +kernel
/-- nothing got through, the caller tries again: the prefix is there -/
example : writes [45, 45] false [([97], some 0), ([97], none)] = ([45, 45, 97], [(0, true), (1, false)]) := by decide +kernel
/-- a cut at a line end inside the argument, and one exactly after a prefix -/
example : writes [45, 45] false [([97, 10, 98], some 4), ([98], none)] =
    ([45, 45, 97, 10, 45, 45, 98], [(2, true), (1, false)]) := by decide +kernel
example : writes [45, 45] false [([97, 10, 98], some 6), ([98], none)] =
    ([45, 45, 97, 10, 45, 45, 98], [(2, true), (1, false)]) := by decide +kernel
/-- a cut inside a prefix: the history is specified up to that call only -/
example : uptoBrokenCut [45, 45] true [([97, 10, 98], some 5), ([98], none)] = [([97, 10, 98], some 5)] := by decide +kernel
example : trace [45, 45] false [([97, 10, 98], some 5)] = [false] := by decide +kernel

end Goyang.Props.C20
