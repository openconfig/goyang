import Goyang.Model.Lockset
import Goyang.Lemmas.Lockset
import Goyang.Gen.Access
/-
C19 — independent module sets and concurrent readers do not interfere.

What is proved here is the lock discipline, not the scheduler (DESIGN.md 7.19):

* `lockset_race_free`: in the interleaving semantics of `Model/Lockset.lean` (any number of
  threads, every schedule, sync.Mutex / sync.RWMutex rules) a program whose conflicting accesses
  always hold a common mutex, one side exclusively, never reaches a data race;
* `facts_race_free`, `guarded_race_free`: for every fact table that satisfies the decidable
  predicates `ReaderDiscipline`, `GlobalsInitOnly` (resp. `GuardedLocations`), the abstract
  program the table describes is disciplined, hence race free;
* `reader_discipline_holds`, `globals_init_only_holds`, `guarded_locations_hold`,
  `no_global_escapes_holds`, `immutable_locations_hold`, `must_reach_holds` (the last three check assumptions of the model and of the allow-list): the predicates
  evaluate to `true`, in the kernel, on the table regenerated from the current Go source
  (`Gen/Access.lean`, rewritten by `harness/cmd/extract-access` on every run of the check); the
  three large ones in the equal forms of `Lemmas/Lockset.lean`, Part C (ids as bit masks, one pass
  over `F.fns`);
* `c19_race_free`, `c19_guarded_race_free`: the two combined.

Package-level variables include variables captured by function literals made during package
initialisation (see `globals_init_only_holds`).

Not proved (trusted, see checks/C19.json): that the extraction sees every access (aliasing is
approximated by (type, field); reflection and foreign code are invisible), the allow-list, the
Go memory model, and "same result as sequential" on the binary (sampled by corr-c19-race).
Helper lemmas: Goyang/Lemmas/Lockset.lean.
-/
namespace Goyang.Props.C19
open Goyang.Model.Lockset Goyang.Lemmas.Lockset

/-- The lockset theorem: discipline on the program text excludes a race in every reachable state,
for any number of threads and all interleavings. -/
theorem lockset_race_free {M L : Type} [DecidableEq M] (prog : List (List (Ev M L)))
    (hd : Disciplined prog) : ∀ s, Reach prog s → ¬ Race s := by
  rintro s hr ⟨l, hrace⟩
  exact lockset_on prog l (hd l) s hr hrace

/-- The semantics can express a race: without locks the theorem's conclusion fails. -/
example : ∃ s, Reach (M := Nat) [[Ev.write 7], [Ev.read 7]] s ∧ Race s :=
  ⟨_, Reach.start, 7, 0, 1, ⟨Held.empty, [Ev.write 7]⟩, ⟨Held.empty, [Ev.read 7]⟩, [], [],
    by decide, rfl, rfl, rfl, Or.inr rfl⟩

/-- Any table that passes the two predicates describes a disciplined program: readers (any
number, any sequence of reader-API calls, on the shared set) and pipelines (any functions, each on
a set of its own) together. -/
theorem facts_disciplined (F : Facts) (hR : ReaderDiscipline F = true) (hG : GlobalsInitOnly F = true)
    (prog : List (List AEv)) (hprog : C19Program F prog) : Disciplined prog :=
  c19_disciplined F (readerDiscipline_spec F hR) (globalsInitOnly_spec F hG) prog hprog

theorem facts_race_free (F : Facts) (hR : ReaderDiscipline F = true) (hG : GlobalsInitOnly F = true)
    (prog : List (List AEv)) (hprog : C19Program F prog) : ∀ s, Reach prog s → ¬ Race s :=
  lockset_race_free prog (facts_disciplined F hR hG prog hprog)

/-- Any table that passes `GuardedLocations`: goroutines using the whole API on one shared set
(cache misses, Process, everything) never race on a location with a strict declared guard. -/
theorem guarded_race_free (F : Facts) (hL : GuardedLocations F = true) (prog : List (List AEv))
    (hprog : AnyProgram F prog) (g : Nat × Nat × Bool) (hg : g ∈ F.guards) (hstrict : g.2.2 = true) :
    ∀ s, Reach prog s → ¬ RaceOn s (sharedInst, g.1) :=
  lockset_on prog _ (guarded_disciplined F g (guardedLocations_spec F hL g hg) hstrict prog hprog)

/-! A small table showing that the hypotheses are satisfiable by a non-trivial program and that the
predicates notice a dropped lock.  Function 0 is a reader root that calls function 1 under
mutex 0 (shared) and writes location 5 under mutex 0 (exclusive); function 1 reads location 5
under mutex 0 (shared); function 2 is the package initialiser and writes the package-level
variable 9. -/
def demo : Facts where
  fns := [⟨[], [⟨5, [(0, true)], 0⟩], [⟨1, [], 0⟩], [], true⟩,
          ⟨[⟨5, [(0, false)], 0⟩, ⟨9, [], 0⟩], [], [], [], false⟩,
          ⟨[], [⟨9, [], 0⟩], [], [⟨9, [], 0⟩], false⟩]
  readerRoots := [0]
  readerReach := [0, 1]
  initRoots := [2]
  initOnly := [2]
  globals := [9]
  guards := [(5, 0, true)]
  immutable := [9]
  mustReach := [(0, 1, true)]
  goStmts := 0

/-- the same with the Lock of function 0 dropped -/
def demoBad : Facts := { demo with fns := [⟨[], [⟨5, [], 0⟩], [⟨1, [], 0⟩], [], true⟩] ++ demo.fns.drop 1 }

/-- function 1 hands out the object of the package-level variable 9 (as `newListAttr` would) -/
def demoLeak : Facts :=
  { demo with fns := demo.fns.take 1 ++ [⟨[⟨5, [(0, false)], 0⟩, ⟨9, [], 0⟩], [], [], [⟨9, [], 0⟩], false⟩] ++ demo.fns.drop 2 }

example : ReaderDiscipline demo = true ∧ GlobalsInitOnly demo = true ∧ GuardedLocations demo = true ∧
    NoGlobalEscapes demo = true ∧ ImmutableLocations demo = true ∧ MustReach demo = true := by decide +kernel
example : ReaderDiscipline demoBad = false ∧ GuardedLocations demoBad = false := by decide +kernel
example : NoGlobalEscapes demoLeak = false ∧ GlobalsInitOnly demoLeak = true := by decide +kernel
/-- a write of location 5 would break immutability if 5 were declared immutable -/
example : ImmutableLocations { demo with immutable := [5] } = false := by decide +kernel

/-- one call of function 0: write under Lock, then the callee's read under RLock -/
def demoThread : List AEv :=
  [.acquire (1, 0) .excl, .write (1, 5), .release (1, 0), .acquire (1, 0) .shared, .read (1, 5), .release (1, 0)]

example : ReaderThread demo demoThread :=
  Calls.cons 0 demoThread [] rfl
    (Run.access 0 _ true ⟨5, [(0, true)], 0⟩ _ rfl (by simp) rfl
      (Run.call 0 _ ⟨1, [], 0⟩ _ [] rfl (by simp) rfl
        (Run.access 1 _ false ⟨5, [(0, false)], 0⟩ [] rfl (by simp) rfl (Run.done 1))
        (Run.done 0)))
    Calls.nil

/-- and with the Lock dropped the two-reader program of the bad table starts in a race -/
example : ∃ s, Reach (M := Nat × Nat) [[Ev.write (1, 5)], [Ev.write (1, 5)]] s ∧ Race s :=
  ⟨_, Reach.start, (1, 5), 0, 1, ⟨Held.empty, [Ev.write (1, 5)]⟩, ⟨Held.empty, [Ev.write (1, 5)]⟩, [], [],
    by decide, rfl, rfl, rfl, Or.inl rfl⟩

/-! ## The per-run obligations over the regenerated table -/

theorem reader_discipline_holds : ReaderDiscipline Gen.Access.facts = true := by
  rw [readerDiscipline_eq]
  decide +kernel

/-- Package-level state is written during package initialisation only.  The package-level
variables of the table (`Facts.globals`) are the declared ones and the CAPTURED ones: a local
variable of a function that runs during package initialisation (the package initialisers and what
they call statically, e.g. `initTypes`) that is captured by a function literal whose value is kept
(stored, returned, sent, started with `go`, handed to a function of the packages) is the location
`<function>$<variable>`; loads and stores through it - also in the body of the literal - are reads
and writes of that location (rule in full: harness/cmd/extract-access/closures.go).  A store to it
in a literal that can run after initialisation (a builder closure of ast.go that keeps a lazily
made value between calls) makes this obligation fail. -/
theorem globals_init_only_holds : GlobalsInitOnly Gen.Access.facts = true := by
  -- every `memN x l` as the bit test `(mask l).testBit x`
  simp only [GlobalsInitOnly, ← testBit_mask]
  decide +kernel

theorem guarded_locations_hold : GuardedLocations Gen.Access.facts = true := by
  rw [guardedLocations_eq]
  decide +kernel

/-- Supports an assumption rather than a theorem: the instance-private reading of non-global
locations (`locOf`) presupposes that objects of package-level variables do not become reachable
from a module set; outside package initialisation no reference to one leaves a function, except
for the variables explained one by one in allow.json (`Gen.Access.globalRefOkNames`). -/
theorem no_global_escapes_holds : NoGlobalEscapes Gen.Access.facts = true := by decide +kernel

/-- Also an assumption check: what hangs below the shared package-level range tables (`Number`,
`YRange` values) is never stored to through a pointer after package initialisation. -/
theorem immutable_locations_hold : ImmutableLocations Gen.Access.facts = true := by decide +kernel

/-- Supports the guard of the allow-list entry for the cache-miss region of `ToEntry`: every
conversion that passed `beginEntry` ends with the cache store (control-flow fact re-derived from
the source), so the nodes `Process` converted are cached and readers hit. -/
theorem must_reach_holds : MustReach Gen.Access.facts = true := by decide +kernel

/-- C19 for the abstract program extracted from the current source: N goroutines, each either a
reader of the shared processed set or a pipeline on its own set, in any interleaving, never reach
a data race. -/
theorem c19_race_free (prog : List (List AEv)) (hprog : C19Program Gen.Access.facts prog) :
    ∀ s, Reach prog s → ¬ Race s :=
  facts_race_free _ reader_discipline_holds globals_init_only_holds prog hprog

/-- The mutex-guarded tables declared in allow.json (namespace cache, entry cache and the set of
nodes under conversion, typedef dictionary: reads and writes; identity dictionary: writes only,
which this theorem therefore does not cover) are race free wherever they are touched. -/
theorem c19_guarded_race_free (prog : List (List AEv)) (hprog : AnyProgram Gen.Access.facts prog)
    (g : Nat × Nat × Bool) (hg : g ∈ Gen.Access.facts.guards) (hstrict : g.2.2 = true) :
    ∀ s, Reach prog s → ¬ RaceOn s (sharedInst, g.1) :=
  guarded_race_free _ guarded_locations_hold prog hprog g hg hstrict

end Goyang.Props.C19
