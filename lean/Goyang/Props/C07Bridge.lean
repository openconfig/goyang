import Goyang.Lemmas.Bridge
import Goyang.Lemmas.BridgeRegistry
import Goyang.Lemmas.BridgeLoad
import Goyang.Lemmas.Find
import Goyang.Lemmas.AugmentErrsBridge
import Goyang.Props.C07
import Goyang.Props.C04
import Goyang.Props.C02
import Goyang.Lemmas.AugmentKU
import Goyang.Lemmas.AugPosAny
import Goyang.Lemmas.EntryDecEq
/-
C07, bridge to `processAll` — the hypotheses `PhaseInput` and `NoDupNames` of Props/C07.lean are
discharged for the state with which `processAll` really enters the augment phase.

Reading aid.  `phaseStart reg opts plug` (Lemmas/AugmentReport.lean) is the text of `processAll` up
to the call of `augmentPhase`; it is C04's `Lemmas.Tree.pstate0` (`phaseStart_is_pstate0`).  C07
analysed the loop from there under four hypotheses about that state (`PhaseInput`) and, for
`view_eq_paths`, under `NoDupNames` of the tree.  Here they are derived from how `toEntry` builds the
state (`Lemmas/BridgeTraverse.lean`: C04's traversal of `toEntry`, with the call sites known), so
that what is left are decidable predicates on the registry and on the statements loaded into it:

* `Fuel.LoadedShape reg`  — sequence numbers are distinct and no (sub)module is bound in both
  tables (C01 states the same hypothesis): proved of every registry that `Registry.add` /
  `loadAll` produce, whatever is loaded (`loaded_registry_shape`), so it is no hypothesis on the input;
* `AugPosDistinct reg`    — the augment statements of one (sub)module stand at different positions
  of its text (true of every parsed text; two statements at one position would be one `Stmt` value);
* `AugArgsPlain reg`      — every augment argument is an absolute schema node identifier: starts
  with `/`, and no step is empty, `.` or `..`, before or behind its prefix (RFC 7950 has no such
  steps; the Go code tolerates them);
* `ModsAreModules reg`    — every loaded statement is a `module` / `submodule` statement (only needed
  for "EVERY module has its tree"; the hypotheses of C07 need the trees of the modules with augments);
  proved, together with `LoadedShape`, of every registry `Model.loadTexts` (= `Modules.Parse` per text)
  produces (`loadTexts_registry_shape`).  `AugPosDistinct` IS derived for registries loaded from
  C02-admissible texts (`augPosDistinct_of_loadTexts`, section "`AugPosDistinct` derived"); that it
  cannot simply be dropped for arbitrary registry values is `augPosDistinct_needed` below.

`NoDupNames` (C07) and `KeysUnique` (C04) are the same condition on `Dir` (pairwise different
sibling names at every node, `keysUnique_iff`); neither asks that names be non-empty, so no side
condition on the input is needed for them.  `merge` keeps `NoDupNames` unconditionally
(`noDupNames_merge`: a child whose name is taken is refused), and so does the whole augment stage
given it for the children of the pending entries (`augment_stage_keeps_noDupNames`).  For the trees
`toEntry` builds it is C04's conditional invariant: a tree (or pending augment entry) in which no
error is recorded has it (C04's traversal cannot exclude two error entries with the empty name below
one node, which only the out-of-fuel branch produces; `phaseStart_keysUnique` below excludes them with
C01's fuel bound and gives `KeysUnique` — hence `NoDupNames` — of every tree and pending entry,
errors or not).

The error list (C07 (d′)).  The well-formedness the error-list theorems need — one tree per id,
`KeysUnique` of every tree, `KeysUnique` of the pending augment entries without recorded errors — is
proved of the phase-start state (`phaseStart_wellformed`, from C04's conditional invariant of
`toEntry`), so that for `processAll`: its run of the loop ends without errors iff every other order
does (`augment_clean_iff_processAll`, no new hypothesis), and when no pending augment entry carries an
error of its own and its run leaves no `duplicate-node` error, every other order ends with the same
error set and canonical error list (`augment_error_list_order_independent_processAll`).

The two remaining input predicates cannot be dropped (section "why the two input predicates cannot be
dropped"): `augPosDistinct_needed` exhibits a registry of the loaded shape with the same augment
statement value twice, for which `NodupPending` fails at phase start; the `..` example shows that for
a non-plain argument Go's `Find` (`walkParts`) and the analysed loop / the reference semantics
(`walkN`, `walk`) disagree (replayed on the Go code: `augment "/a:c/a:d/.."` is applied to `c`).

`AugPosDistinct` for registries loaded from TEXTS: stated for texts that are UTF-8
encodings of Unicode texts without the four constructs C02 excludes (`AdmissibleTexts`) —
`offset_position_injective` (offset ↦ (line, col) is injective inside one text),
`token_offsets_increase`, `sibling_positions_distinct` (reference reader: sibling statements, at the
top level and below every statement, stand at pairwise different (line, col)),
`augPosDistinct_of_loadTexts` (an instance of the theorem for all byte strings below).  Every `_processAll` theorem is restated as `_loadTexts` for such registries, with
`AugArgsPlain` as the only input hypothesis left.  The same for texts OUTSIDE C02's claim (ill-formed
UTF-8, a comment opener inside an unquoted token, the three excluded double-quoted-string shapes) is
proved too, by a direct proof on the byte-level lexer model that does not go
through the reference reader: `lexer_tokens_increase_anyText` (for every byte string the non-error
tokens of the lexer model stand at strictly increasing (line, col)), `parsed_siblings_increase_anyText`
(the generic parser keeps that order among sibling statements), `augPosDistinct_anyTexts`
(`AugPosDistinct` of EVERY registry `loadTexts` produces), and every `_loadTexts` theorem restated
without `AdmissibleTexts` as `_anyTexts` (section "`AugPosDistinct` for ALL byte strings").
`AugPosDistinct` is therefore no hypothesis on loaded input; `AugArgsPlain` is the only one
(not droppable: the `..` example).

The error set with pending entries that carry errors of their own: `phaseStart_keysUnique`
(every tree and every pending augment entry has unique keys, errors or not: the traversal of
`Lemmas/Traverse.lean` with C01's fuel bound, `Lemmas/AugmentKU.lean`) and `augment_error_set_order_independent_processAll`
(/`_loadTexts`): `augment_error_list_order_independent_processAll` without its hypothesis `hbodies`.
-/
namespace Goyang.Props.C07Bridge
open Goyang.Model Goyang.Spec.Augment Goyang.Spec.Tree
open Goyang.Lemmas.AugmentConfl Goyang.Lemmas.AugmentTree Goyang.Lemmas.AugmentModel Goyang.Lemmas.AugmentStep
open Goyang.Lemmas.AugmentLoop Goyang.Lemmas.Augment Goyang.Lemmas.AugmentReport Goyang.Lemmas.AugmentPaths
open Goyang.Lemmas.Bridge
open Goyang.Lemmas.Fuel (LoadedShape)

/-! ### the state the augment phase starts from -/

/-- C07's `phaseStart` is C04's `pstate0` with C04's `augOrder`. -/
theorem phaseStart_is_pstate0 (reg : Registry) (opts : Opts) (plug : Plug) (s : PState) (order : List Nat)
    (h : phaseStart reg opts plug = some (s, order)) :
    s = Lemmas.Tree.pstate0 reg opts plug ∧ order = (Lemmas.Tree.augOrder reg).map (·.seq) :=
  phaseStart_eq reg opts plug s order h

/-- How `TState.augs` reaches the pending table: the pending list of a tree is empty, or it is the
row a loaded (sub)module `m` filed when it was converted — one entry per augment statement of `m`,
in written order, each remembering its statement and its module, and named by the statement's
argument (an error entry has the empty name). -/
theorem pending_rows (reg : Registry) (opts : Opts) (plug : Plug) (s : PState) (order : List Nat)
    (h : phaseStart reg opts plug = some (s, order)) (id : Nat) :
    s.pendingOf id = [] ∨
    ∃ m ∈ reg.mods, m.seq = id ∧ (s.pendingOf id).map (·.d.node) = m.stmt.all "augment" ∧
      (∀ a ∈ s.pendingOf id, a.d.nodeMod = m.seq) ∧ ∀ a ∈ s.pendingOf id, a.name = a.d.node.arg ∨ a.name = "" := by
  obtain ⟨rfl, _⟩ := phaseStart_eq reg opts plug s order h
  rcases pendingOf_pstate0 reg opts plug id with h0 | ⟨p, hp, h1, h2⟩
  · exact Or.inl h0
  · obtain ⟨m, hm, e1, e2, e3, e4⟩ := tstate_rows reg opts plug p hp
    right
    rw [h2]
    exact ⟨m, hm, by rw [← e1, h1], e2, e3, e4⟩

/-- The tree of every (sub)module that has pending augments exists (`PhaseInput.trees`): a
(sub)module files its augments and its cache entry in the same conversion. -/
theorem pending_trees_exist (reg : Registry) (opts : Opts) (plug : Plug) (s : PState) (order : List Nat)
    (h : phaseStart reg opts plug = some (s, order)) :
    ∀ id, s.pendingOf id ≠ [] → (s.forest.tree? id).isSome = true := by
  obtain ⟨rfl, _⟩ := phaseStart_eq reg opts plug s order h
  exact trees_pstate0 reg opts plug

/-- The cache holds the tree of EVERY (sub)module bound in the two tables (the rows of the pending
table are exactly these), when the loaded statements are module / submodule statements. -/
theorem all_trees_exist (reg : Registry) (opts : Opts) (plug : Plug) (hmods : ModsAreModules reg) (s : PState)
    (order : List Nat) (h : phaseStart reg opts plug = some (s, order)) :
    (∀ m ∈ reg.distinctModules ++ reg.distinctSubs, (s.forest.tree? m.seq).isSome = true) ∧
    keys s = (reg.distinctModules ++ reg.distinctSubs).map (·.seq) := by
  obtain ⟨rfl, _⟩ := phaseStart_eq reg opts plug s order h
  refine ⟨trees_all_pstate0 reg opts plug hmods, ?_⟩
  simp only [keys, Lemmas.Tree.pstate0, Lemmas.Tree.pending0, Lemmas.Tree.allMods, List.map_map]
  rfl

/-- One cache entry — one tree — per converted (sub)module: tree ids are not repeated.  (A row is
filed only on a cache miss, and a (sub)module whose conversion is in progress is not converted
again.) -/
theorem one_tree_per_module (reg : Registry) (opts : Opts) (plug : Plug) (hL : LoadedShape reg) (s : PState)
    (order : List Nat) (h : phaseStart reg opts plug = some (s, order)) : (s.forest.trees.map (·.1)).Nodup := by
  obtain ⟨rfl, _⟩ := phaseStart_eq reg opts plug s order h
  exact tstate_ckeys_nodup reg opts plug hL

/-- One row per tree in the pending table (`PhaseInput.keys`). -/
theorem pending_one_row_per_tree (reg : Registry) (opts : Opts) (plug : Plug) (hL : LoadedShape reg) (s : PState)
    (order : List Nat) (h : phaseStart reg opts plug = some (s, order)) : (keys s).Nodup := by
  obtain ⟨rfl, _⟩ := phaseStart_eq reg opts plug s order h
  exact keys_pstate0 reg opts plug hL

/-- No augment entry is listed twice for one module (`PhaseInput.nodup`): a row has one entry per
augment statement, each entry remembers its statement, and the statements differ. -/
theorem pending_no_entry_twice (reg : Registry) (opts : Opts) (plug : Plug) (hpos : AugPosDistinct reg) (s : PState)
    (order : List Nat) (h : phaseStart reg opts plug = some (s, order)) : NodupPending s := by
  obtain ⟨rfl, _⟩ := phaseStart_eq reg opts plug s order h
  exact nodupPending_pstate0 reg opts plug hpos

/-- The pending augments have plain paths (`PhaseInput.plain`). -/
theorem pending_paths_plain (reg : Registry) (opts : Opts) (plug : Plug) (hplain : AugArgsPlain reg) (s : PState)
    (order : List Nat) (h : phaseStart reg opts plug = some (s, order)) : PlainPending reg s := by
  obtain ⟨rfl, _⟩ := phaseStart_eq reg opts plug s order h
  exact plainPending_pstate0 reg opts plug hplain

/-- **`PhaseInput` holds of the state `processAll` hands to the augment loop**, for every registry
of the loaded shape whose augment statements are distinct and have absolute schema node
identifiers as arguments. -/
theorem phaseInput_holds (reg : Registry) (opts : Opts) (plug : Plug) (hL : LoadedShape reg)
    (hpos : AugPosDistinct reg) (hplain : AugArgsPlain reg) (s : PState) (order : List Nat)
    (h : phaseStart reg opts plug = some (s, order)) : PhaseInput reg s := by
  obtain ⟨rfl, _⟩ := phaseStart_eq reg opts plug s order h
  exact phaseInput_pstate0 reg opts plug hL hpos hplain

/-- `LoadedShape` is what loading produces: of every list of statements loaded into a fresh
registry (each load is one `Modules.add`; rejected loads leave the registry unchanged). -/
theorem loaded_registry_shape (ss : List Stmt) : LoadedShape (Registry.loadAll ss).1 :=
  loadedShape_loadAll ss

/-- … and `ModsAreModules` holds when every loaded statement is a module / submodule statement. -/
theorem loaded_registry_modules (ss : List Stmt) (h : ∀ s ∈ ss, isModKw s = true) :
    ModsAreModules (Registry.loadAll ss).1 := by
  intro m hm
  rcases loadFrom_src ss {} m hm with h1 | h1
  · simp at h1
  · exact h m.stmt h1

/-- `PhaseInput` for a loaded set of texts: only the two predicates on the augment statements remain. -/
theorem phaseInput_holds_loaded (ss : List Stmt) (opts : Opts) (plug : Plug)
    (hpos : AugPosDistinct (Registry.loadAll ss).1) (hplain : AugArgsPlain (Registry.loadAll ss).1)
    (s : PState) (order : List Nat) (h : phaseStart (Registry.loadAll ss).1 opts plug = some (s, order)) :
    PhaseInput (Registry.loadAll ss).1 s :=
  phaseInput_holds _ opts plug (loadedShape_loadAll ss) hpos hplain s order h

/-- Loading from raw texts (`Model.loadTexts` = `Modules.Parse` per text: generic parser, AST builder,
top-level check, `Registry.add`) produces `LoadedShape` and `ModsAreModules`, whichever texts are
accepted or rejected: for such registries only the two predicates on the augment statements remain. -/
theorem loadTexts_registry_shape (texts : List (List UInt8 × List UInt8)) :
    LoadedShape (loadTexts texts).1 ∧ ModsAreModules (loadTexts texts).1 :=
  ⟨loadedShape_loadTexts texts, modsAreModules_loadTexts texts⟩

theorem phaseInput_holds_loadTexts (texts : List (List UInt8 × List UInt8)) (opts : Opts) (plug : Plug)
    (hpos : AugPosDistinct (loadTexts texts).1) (hplain : AugArgsPlain (loadTexts texts).1)
    (s : PState) (order : List Nat) (h : phaseStart (loadTexts texts).1 opts plug = some (s, order)) :
    PhaseInput (loadTexts texts).1 s :=
  phaseInput_holds _ opts plug (loadedShape_loadTexts texts) hpos hplain s order h

/-! ### `NoDupNames` -/

/-- C04's `KeysUnique` is C07's `NoDupNames` together with "at most one rpc input and one rpc
output at every node". -/
theorem keysUnique_iff_noDupNames (e : Entry) : KeysUnique e ↔
    NoDupNames e ∧ everyNode (fun x => decide (x.inp.length ≤ 1) && decide (x.out.length ≤ 1)) e = true :=
  keysUnique_iff e

/-- `merge` keeps `NoDupNames`, collision or not. -/
theorem noDupNames_merge (e : Entry) (ns : Option String) (oe : Entry) (he : NoDupNames e)
    (ho : ∀ c ∈ oe.dir, NoDupNames c) : NoDupNames (e.merge ns oe) :=
  Lemmas.Bridge.noDupNames_merge e ns oe he ho

/-- One `Entry.Augment` call (`augmentTree`, with or without `addErrors`) keeps `NoDupNames` of
every tree, when the children of the pending augment entries have it. -/
theorem noDupNames_augmentTree (reg : Registry) (id : Nat) (addErrors : Bool) (s : PState)
    (ht : ∀ t ∈ s.forest.trees, NoDupNames t.2) (hp : ∀ p ∈ s.pending, ∀ a ∈ p.2, ∀ c ∈ a.dir, NoDupNames c) :
    ∀ t ∈ (augmentTree reg id addErrors s).1.forest.trees, NoDupNames t.2 :=
  (Lemmas.Tree.augmentTree_ainv augClosed_noDupNames reg id addErrors s ⟨ht, hp⟩).trees

/-- So does the whole loop, for every fuel and module order. -/
theorem augment_stage_keeps_noDupNames (reg : Registry) (fuel : Nat) (mods : Array Nat) (s : PState)
    (ht : ∀ t ∈ s.forest.trees, NoDupNames t.2) (hp : ∀ p ∈ s.pending, ∀ a ∈ p.2, ∀ c ∈ a.dir, NoDupNames c) :
    ∀ t ∈ (augmentLoop reg fuel mods s).2.forest.trees, NoDupNames t.2 :=
  (Lemmas.Tree.augmentLoop_ainv augClosed_noDupNames reg fuel mods s ⟨ht, hp⟩).trees

/-- Every tree has `NoDupNames` when the augment phase starts. -/
theorem phaseStart_noDupNames (reg : Registry) (opts : Opts) (plug : Plug) (s : PState) (order : List Nat)
    (h : phaseStart reg opts plug = some (s, order)) (t : Nat) (root : Entry) (ht : s.forest.tree? t = some root) :
    NoDupNames root := by
  have h0 := ((processAll_phaseStart reg opts plug).2 s order h).1
  obtain ⟨rfl, _⟩ := phaseStart_eq reg opts plug s order h
  simp only [Forest.tree?, Option.map_eq_some_iff] at ht
  obtain ⟨x, hx, rfl⟩ := ht
  exact noDupNames_pstate0 reg opts plug h0 x (List.mem_of_find?_eq_some hx)

/-- Along the loop, from there, for every fuel and module order: a tree in which no error is
recorded — in particular no collision — has `NoDupNames`. -/
theorem loop_noDupNames (reg : Registry) (opts : Opts) (plug : Plug) (s : PState) (order : List Nat)
    (h : phaseStart reg opts plug = some (s, order)) (fuel : Nat) (mods : Array Nat) (t : Nat) (root : Entry)
    (ht : (augmentLoop reg fuel mods s).2.forest.tree? t = some root) (hne : root.allErrors = []) :
    NoDupNames root := by
  obtain ⟨rfl, _⟩ := phaseStart_eq reg opts plug s order h
  simp only [Forest.tree?, Option.map_eq_some_iff] at ht
  obtain ⟨x, hx, rfl⟩ := ht
  exact noDupNames_loop reg opts plug fuel mods x (List.mem_of_find?_eq_some hx) ((Lemmas.Tree.noErrors_iff _).2 hne)

/-- `view_eq_paths` (C07 (b)) without its hypothesis, at the start of the augment phase … -/
theorem view_eq_paths_phaseStart (reg : Registry) (opts : Opts) (plug : Plug) (s : PState) (order : List Nat)
    (h : phaseStart reg opts plug = some (s, order)) (t : Nat) (root : Entry) (ht : s.forest.tree? t = some root)
    (P : NPath) (d : EData) : viewOf s.forest (t, P) d ↔ (P, d) ∈ paths root :=
  C07.view_eq_paths s.forest t root ht (phaseStart_noDupNames reg opts plug s order h t root ht) P d

/-- … after the loop, for every error-free tree … -/
theorem view_eq_paths_loop (reg : Registry) (opts : Opts) (plug : Plug) (s : PState) (order : List Nat)
    (h : phaseStart reg opts plug = some (s, order)) (fuel : Nat) (mods : Array Nat) (t : Nat) (root : Entry)
    (ht : (augmentLoop reg fuel mods s).2.forest.tree? t = some root) (hne : root.allErrors = [])
    (P : NPath) (d : EData) : viewOf (augmentLoop reg fuel mods s).2.forest (t, P) d ↔ (P, d) ∈ paths root :=
  C07.view_eq_paths _ t root ht (loop_noDupNames reg opts plug s order h fuel mods t root ht hne) P d

/-- … and for every tree `processAll` returns when it returns no errors. -/
theorem view_eq_paths_processAll (reg : Registry) (opts : Opts) (plug : Plug)
    (h : (processAll reg opts plug).errors = []) (t : Nat) (root : Entry)
    (ht : (processAll reg opts plug).forest.tree? t = some root) (P : NPath) (d : EData) :
    viewOf (processAll reg opts plug).forest (t, P) d ↔ (P, d) ∈ paths root := by
  refine C07.view_eq_paths _ t root ht ?_ P d
  simp only [Forest.tree?, Option.map_eq_some_iff] at ht
  obtain ⟨x, hx, rfl⟩ := ht
  exact noDupNames_of_keysUnique _ (C04.process_clean_wf reg opts plug h x (List.mem_of_find?_eq_some hx)).1.1

/-! ### the theorems of C07 for `processAll` itself -/

/-- **(f) "… or reported", for `processAll`**, `PhaseInput` discharged: `processAll` stops before
the augment phase with errors, or it enters it in a state without recorded errors from which every
pending augment is applied (by the loop, or by the stage after FixChoice: retry rounds, reporting sweep) or `processAll` returns errors;
and an application of the loop that collides makes `processAll` return errors. -/
theorem augment_reported_processAll (reg : Registry) (opts : Opts) (plug : Plug) (hL : LoadedShape reg)
    (hpos : AugPosDistinct reg) (hplain : AugArgsPlain reg) :
    (phaseStart reg opts plug = none → ∃ errs, errs ≠ [] ∧ (processAll reg opts plug).errors = canonErrs errs) ∧
    (∀ s order, phaseStart reg opts plug = some (s, order) → allErrs s.forest = [] ∧
      (let fuel := s.pending.foldl (fun n p => n + p.2.length) 0 + 2
       let ph := phaseR (Res.ofReg reg) order fuel s
       (∀ id, ∀ a ∈ s.pendingOf id,
         (id, a) ∈ ph.2.1.map Ev.key ∨ (id, a) ∈ ph.2.2.map Ev.key ∨ (processAll reg opts plug).errors ≠ []) ∧
       (∀ ev ∈ ph.2.1,
         (¬ (absEv (Res.ofReg reg) s.forest ev).roots.Nodup ∨
           (absEv (Res.ofReg reg) s.forest ev).Collides (viewOf ev.before)) →
         (processAll reg opts plug).errors ≠ []))) := by
  obtain ⟨h1, h2⟩ := C07.augment_reported reg opts plug
  refine ⟨h1, fun s order hs => ?_⟩
  obtain ⟨h0, h3⟩ := h2 s order hs
  exact ⟨h0, h3 (phaseInput_holds reg opts plug hL hpos hplain s order hs)⟩

/-- Consequently: when `processAll` returns no errors, every augment statement of every loaded
(sub)module (every entry of every pending list) has been applied, by the loop or — for a target
that only FixChoice creates, or that such an augment creates — by the stage after FixChoice (retry
rounds, reporting sweep); and no application of the loop collided. -/
theorem clean_process_applied_all (reg : Registry) (opts : Opts) (plug : Plug) (hL : LoadedShape reg)
    (hpos : AugPosDistinct reg) (hplain : AugArgsPlain reg) (hclean : (processAll reg opts plug).errors = []) :
    ∃ s order, phaseStart reg opts plug = some (s, order) ∧
      (let fuel := s.pending.foldl (fun n p => n + p.2.length) 0 + 2
       let ph := phaseR (Res.ofReg reg) order fuel s
       (∀ id, ∀ a ∈ s.pendingOf id, (id, a) ∈ ph.2.1.map Ev.key ∨ (id, a) ∈ ph.2.2.map Ev.key) ∧
       (∀ ev ∈ ph.2.1, (absEv (Res.ofReg reg) s.forest ev).roots.Nodup ∧
         ¬ (absEv (Res.ofReg reg) s.forest ev).Collides (viewOf ev.before))) := by
  obtain ⟨h1, h2⟩ := augment_reported_processAll reg opts plug hL hpos hplain
  cases hs : phaseStart reg opts plug with
  | none =>
    obtain ⟨errs, hne, he⟩ := h1 hs
    rw [hclean] at he
    exact absurd ((C04.canonErrs_empty_iff errs).1 he.symm) hne
  | some so =>
    obtain ⟨s, order⟩ := so
    obtain ⟨_, h3, h4⟩ := h2 s order hs
    refine ⟨s, order, rfl, ?_, ?_⟩
    · intro id a ha
      rcases h3 id a ha with h | h | h
      · exact Or.inl h
      · exact Or.inr h
      · exact absurd hclean h
    · intro ev hev
      constructor
      · exact Classical.byContradiction fun hn => h4 ev hev (Or.inl hn) hclean
      · exact fun hc => h4 ev hev (Or.inr hc) hclean

/-- **(e) exactly once, for `processAll`**: with the module order and the fuel `processAll` uses,
an augment has left the pending list of the loop exactly when its target exists in the loop's final
forest as a node that can have children. -/
theorem augment_exactly_once_processAll (reg : Registry) (opts : Opts) (plug : Plug) (hL : LoadedShape reg)
    (hpos : AugPosDistinct reg) (hplain : AugArgsPlain reg) (s : PState) (order : List Nat)
    (h : phaseStart reg opts plug = some (s, order)) :
    let fuel := s.pending.foldl (fun n p => n + p.2.length) 0 + 2
    ∀ id, ∀ a ∈ s.pendingOf id,
      (a ∉ (augmentLoop reg fuel order.toArray s).2.pendingOf id ↔
        (absAug (Res.ofReg reg) s.forest id a).Applicable (viewOf (augmentLoop reg fuel order.toArray s).2.forest)) := by
  have hin := phaseInput_holds reg opts plug hL hpos hplain s order h
  exact C07.augment_exactly_once_model reg _ order.toArray s hin.plain hin.nodup (phaseStart_cover reg opts plug s order h)
    (C07.model_fuel_sufficient s hin.keys)

/-- **(d) order independence, for `processAll`**: the run `processAll` makes (its module order, its
fuel) against any other run from the same forest over the same pending sets — any module list that
mentions the trees with pending augments (any order, repetitions), any order inside the pending
lists (`s2`), any sufficient fuel.  If `processAll`'s run leaves no `duplicate-node` error, the other
run ends in the same view and leaves the same augments unapplied. -/
theorem augment_loop_confluent_processAll (reg : Registry) (opts : Opts) (plug : Plug) (hL : LoadedShape reg)
    (hpos : AugPosDistinct reg) (hplain : AugArgsPlain reg) (s : PState) (order : List Nat)
    (h : phaseStart reg opts plug = some (s, order))
    (fuel2 : Nat) (mods2 : Array Nat) (s2 : PState)
    (hforest : s2.forest = s.forest) (hpend : ∀ id a, a ∈ s2.pendingOf id ↔ a ∈ s.pendingOf id)
    (hn2 : NodupPending s2) (hcov2 : Cover s2 mods2) (hfuel2 : mu s2 < fuel2) :
    let fuel := s.pending.foldl (fun n p => n + p.2.length) 0 + 2
    (∀ er, FVisErr (augmentLoop reg fuel order.toArray s).2.forest er → er.cls ≠ "duplicate-node") →
    viewOf (augmentLoop reg fuel2 mods2 s2).2.forest = viewOf (augmentLoop reg fuel order.toArray s).2.forest ∧
    (∀ id a, a ∈ (augmentLoop reg fuel2 mods2 s2).2.pendingOf id ↔
      a ∈ (augmentLoop reg fuel order.toArray s).2.pendingOf id) := by
  intro fuel hfree
  have hin := phaseInput_holds reg opts plug hL hpos hplain s order h
  have hp2 : PlainPending reg s2 := fun id a ha => hin.plain id a ((hpend id a).1 ha)
  exact C07.augment_loop_confluent_model reg fuel fuel2 order.toArray mods2 s s2 hin.plain hp2 hforest hpend hin.nodup hn2
    (phaseStart_cover reg opts plug s order h) hcov2 (C07.model_fuel_sufficient s hin.keys) hfuel2 hfree

/-- The special case "another module order, another fuel": same state, any module list that
mentions the trees with pending augments, any fuel above `mu s`. -/
theorem augment_order_independent_processAll (reg : Registry) (opts : Opts) (plug : Plug) (hL : LoadedShape reg)
    (hpos : AugPosDistinct reg) (hplain : AugArgsPlain reg) (s : PState) (order : List Nat)
    (h : phaseStart reg opts plug = some (s, order)) (fuel2 : Nat) (mods2 : Array Nat)
    (hcov2 : Cover s mods2) (hfuel2 : mu s < fuel2) :
    let fuel := s.pending.foldl (fun n p => n + p.2.length) 0 + 2
    (∀ er, FVisErr (augmentLoop reg fuel order.toArray s).2.forest er → er.cls ≠ "duplicate-node") →
    viewOf (augmentLoop reg fuel2 mods2 s).2.forest = viewOf (augmentLoop reg fuel order.toArray s).2.forest ∧
    (∀ id a, a ∈ (augmentLoop reg fuel2 mods2 s).2.pendingOf id ↔
      a ∈ (augmentLoop reg fuel order.toArray s).2.pendingOf id) :=
  augment_loop_confluent_processAll reg opts plug hL hpos hplain s order h fuel2 mods2 s rfl (fun _ _ => Iff.rfl)
    (phaseInput_holds reg opts plug hL hpos hplain s order h).nodup hcov2 hfuel2

/-! ### the error list (C07 (d′)) for `processAll` -/

/-- What the error-list theorems of Props/C07.lean ask of the forest holds of the state `processAll`
hands to the augment loop: one tree per id, unique keys in every tree, and unique keys in every
pending augment entry in which no error is recorded. -/
theorem phaseStart_wellformed (reg : Registry) (opts : Opts) (plug : Plug) (hL : LoadedShape reg) (s : PState)
    (order : List Nat) (h : phaseStart reg opts plug = some (s, order)) :
    (s.forest.trees.map (·.1)).Nodup ∧ (∀ t ∈ s.forest.trees, KeysUnique t.2) ∧
    (∀ id, ∀ a ∈ s.pendingOf id, a.allErrors = [] → ∀ c ∈ a.dir, KeysUnique c) := by
  have h0 := ((processAll_phaseStart reg opts plug).2 s order h).1
  have h1 := one_tree_per_module reg opts plug hL s order h
  obtain ⟨rfl, _⟩ := phaseStart_eq reg opts plug s order h
  exact ⟨h1, Lemmas.AugmentErrsBridge.keysUnique_pstate0 reg opts plug h0,
    Lemmas.AugmentErrsBridge.keysUnique_pending reg opts plug⟩

/-- **(d′) for `processAll`: one order ends without errors iff every other order does.**  The run
`processAll` makes (its module order, its fuel) against any other run from the same forest over the
same pending sets: the loop of one leaves no error in the forest exactly when the loop of the other
leaves none.  No hypothesis beyond those of `augment_loop_confluent_processAll`. -/
theorem augment_clean_iff_processAll (reg : Registry) (opts : Opts) (plug : Plug) (hL : LoadedShape reg)
    (hpos : AugPosDistinct reg) (hplain : AugArgsPlain reg) (s : PState) (order : List Nat)
    (h : phaseStart reg opts plug = some (s, order))
    (fuel2 : Nat) (mods2 : Array Nat) (s2 : PState)
    (hforest : s2.forest = s.forest) (hpend : ∀ id a, a ∈ s2.pendingOf id ↔ a ∈ s.pendingOf id)
    (hn2 : NodupPending s2) (hcov2 : Cover s2 mods2) (hfuel2 : mu s2 < fuel2) :
    let fuel := s.pending.foldl (fun n p => n + p.2.length) 0 + 2
    allErrs (augmentLoop reg fuel order.toArray s).2.forest = [] ↔
      allErrs (augmentLoop reg fuel2 mods2 s2).2.forest = [] := by
  intro fuel
  have hin := phaseInput_holds reg opts plug hL hpos hplain s order h
  have hp2 : PlainPending reg s2 := fun id a ha => hin.plain id a ((hpend id a).1 ha)
  obtain ⟨hids, hku, hbody⟩ := phaseStart_wellformed reg opts plug hL s order h
  rw [C07.model_loop_eq reg fuel order.toArray s hin.plain, C07.model_loop_eq reg fuel2 mods2 s2 hp2]
  exact C07.augment_loop_clean_iff (Res.ofReg reg) fuel fuel2 order.toArray mods2 s s2 hforest hpend hin.nodup hn2
    (phaseStart_cover reg opts plug s order h) hcov2 (C07.model_fuel_sufficient s hin.keys) hfuel2 hids hku hbody

/-- **(d′) for `processAll`: the error list does not depend on the order.**  When no pending augment
entry carries an error of its own and `processAll`'s run of the loop leaves no `duplicate-node` error,
every other run from the same forest over the same pending sets ends with the same set of recorded
errors — the same canonical error list — and in particular without `duplicate-node` error. -/
theorem augment_error_list_order_independent_processAll (reg : Registry) (opts : Opts) (plug : Plug)
    (hL : LoadedShape reg) (hpos : AugPosDistinct reg) (hplain : AugArgsPlain reg) (s : PState) (order : List Nat)
    (h : phaseStart reg opts plug = some (s, order))
    (fuel2 : Nat) (mods2 : Array Nat) (s2 : PState)
    (hforest : s2.forest = s.forest) (hpend : ∀ id a, a ∈ s2.pendingOf id ↔ a ∈ s.pendingOf id)
    (hn2 : NodupPending s2) (hcov2 : Cover s2 mods2) (hfuel2 : mu s2 < fuel2)
    (hbodies : ∀ id, ∀ a ∈ s.pendingOf id, a.allErrors = []) :
    let fuel := s.pending.foldl (fun n p => n + p.2.length) 0 + 2
    (∀ er ∈ allErrs (augmentLoop reg fuel order.toArray s).2.forest, er.cls ≠ "duplicate-node") →
    (∀ er, er ∈ allErrs (augmentLoop reg fuel2 mods2 s2).2.forest ↔
      er ∈ allErrs (augmentLoop reg fuel order.toArray s).2.forest) ∧
    canonErrs (allErrs (augmentLoop reg fuel2 mods2 s2).2.forest) =
      canonErrs (allErrs (augmentLoop reg fuel order.toArray s).2.forest) ∧
    (∀ er ∈ allErrs (augmentLoop reg fuel2 mods2 s2).2.forest, er.cls ≠ "duplicate-node") := by
  intro fuel hfree
  have hin := phaseInput_holds reg opts plug hL hpos hplain s order h
  have hp2 : PlainPending reg s2 := fun id a ha => hin.plain id a ((hpend id a).1 ha)
  obtain ⟨hids, hku, hbody⟩ := phaseStart_wellformed reg opts plug hL s order h
  have hcov := phaseStart_cover reg opts plug s order h
  have hfuel := C07.model_fuel_sufficient s hin.keys
  rw [C07.model_loop_eq reg fuel order.toArray s hin.plain] at hfree ⊢
  rw [C07.model_loop_eq reg fuel2 mods2 s2 hp2]
  have hbook := (loop_run (Res.ofReg reg) fuel order.toArray s hin.nodup hcov hfuel).2.1
  have hb : ∀ ev ∈ loopTrace (Res.ofReg reg) fuel order.toArray s, ∀ c ∈ ev.aug.dir, KeysUnique c :=
    fun ev hev => hbody ev.owner ev.aug (hbook.fromPending ev hev) (hbodies ev.owner ev.aug (hbook.fromPending ev hev))
  exact C07.augment_loop_confluent_errors_observed (Res.ofReg reg) fuel fuel2 order.toArray mods2 s s2 hforest hpend
    hin.nodup hn2 hcov hcov2 hfuel hfuel2 hids hku hb hfree

/-! ### the error list when pending augment entries carry errors of their own

C04's invariant gives `KeysUnique` of a converted entry only when no error is recorded in it: its
traversal cannot exclude two error entries with the empty name below one node, which arise in the
out-of-fuel branch of `toEntry` only.  C01's fuel bound shows that branch is never reached for the
calls `processAll` makes, so the traversal can be repeated with that branch answering an entry named
after its statement (`Lemmas/AugmentKU.lean`): every tree and every pending augment entry has unique
keys, errors or not.  Hence the hypothesis `hbodies` of
`augment_error_list_order_independent_processAll` can be dropped. -/

/-- Every tree and every pending augment entry (so each of its children) the conversion hands to the
augment phase has unique keys at every node — whether or not errors are recorded in it; no hypothesis
on the registry. -/
theorem phaseStart_keysUnique (reg : Registry) (opts : Opts) (plug : Plug) (s : PState)
    (order : List Nat) (h : phaseStart reg opts plug = some (s, order)) :
    (∀ t ∈ s.forest.trees, KeysUnique t.2) ∧
    (∀ id, ∀ a ∈ s.pendingOf id, KeysUnique a ∧ ∀ c ∈ a.dir, KeysUnique c) := by
  obtain ⟨rfl, _⟩ := phaseStart_eq reg opts plug s order h
  exact ⟨Lemmas.AugmentKU.keysUnique_pstate0_all reg opts plug,
    fun id => Lemmas.AugmentKU.keysUnique_pending_all reg opts plug id⟩

/-- **(d′) for `processAll`, pending entries with errors of their own included: the error set does
not depend on the order.**  When `processAll`'s run of the loop leaves no `duplicate-node` error,
every other run from the same forest over the same pending sets ends with the same set of recorded
errors — the same canonical error list — and without `duplicate-node` error.  (The errors recorded
inside an augment entry — an unknown type, a bad `config` value, a duplicate key in its body … — enter
the forest when the entry is applied; they are the same in every order.) -/
theorem augment_error_set_order_independent_processAll (reg : Registry) (opts : Opts) (plug : Plug)
    (hL : LoadedShape reg) (hpos : AugPosDistinct reg) (hplain : AugArgsPlain reg) (s : PState) (order : List Nat)
    (h : phaseStart reg opts plug = some (s, order))
    (fuel2 : Nat) (mods2 : Array Nat) (s2 : PState)
    (hforest : s2.forest = s.forest) (hpend : ∀ id a, a ∈ s2.pendingOf id ↔ a ∈ s.pendingOf id)
    (hn2 : NodupPending s2) (hcov2 : Cover s2 mods2) (hfuel2 : mu s2 < fuel2) :
    let fuel := s.pending.foldl (fun n p => n + p.2.length) 0 + 2
    (∀ er ∈ allErrs (augmentLoop reg fuel order.toArray s).2.forest, er.cls ≠ "duplicate-node") →
    (∀ er, er ∈ allErrs (augmentLoop reg fuel2 mods2 s2).2.forest ↔
      er ∈ allErrs (augmentLoop reg fuel order.toArray s).2.forest) ∧
    canonErrs (allErrs (augmentLoop reg fuel2 mods2 s2).2.forest) =
      canonErrs (allErrs (augmentLoop reg fuel order.toArray s).2.forest) ∧
    (∀ er ∈ allErrs (augmentLoop reg fuel2 mods2 s2).2.forest, er.cls ≠ "duplicate-node") := by
  intro fuel hfree
  have hin := phaseInput_holds reg opts plug hL hpos hplain s order h
  have hp2 : PlainPending reg s2 := fun id a ha => hin.plain id a ((hpend id a).1 ha)
  have hids := one_tree_per_module reg opts plug hL s order h
  obtain ⟨hku, hbody⟩ := phaseStart_keysUnique reg opts plug s order h
  have hcov := phaseStart_cover reg opts plug s order h
  have hfuel := C07.model_fuel_sufficient s hin.keys
  rw [C07.model_loop_eq reg fuel order.toArray s hin.plain] at hfree ⊢
  rw [C07.model_loop_eq reg fuel2 mods2 s2 hp2]
  have hbook := (loop_run (Res.ofReg reg) fuel order.toArray s hin.nodup hcov hfuel).2.1
  have hb : ∀ ev ∈ loopTrace (Res.ofReg reg) fuel order.toArray s, ∀ c ∈ ev.aug.dir, KeysUnique c :=
    fun ev hev => (hbody ev.owner ev.aug (hbook.fromPending ev hev)).2
  exact C07.augment_loop_confluent_errors_observed (Res.ofReg reg) fuel fuel2 order.toArray mods2 s s2 hforest hpend
    hin.nodup hn2 hcov hcov2 hfuel hfuel2 hids hku hb hfree

/-! ### `AugPosDistinct` derived: registries loaded from texts

`Model.loadTexts` is `Modules.Parse` per text (generic parser, AST builder, top-level check,
`Registry.add`).  For texts that are UTF-8 encodings of Unicode texts without the four constructs C02
leaves outside its claim (`AdmissibleTexts`; the refinement of the byte-level parser to the reference
reader is proved for those only) the predicate is a theorem: in the reference reader the tokens of a
text start at strictly increasing offsets, sibling statements stand at the offsets of a sublist of
them, and offset ↦ (line, col) is injective inside one text (`Lemmas/AugPosSpec.lean`).  The predicate
itself holds of what `loadTexts` makes of any byte strings (`Lemmas/AugPosAny.lean`, see the `_anyTexts`
theorems below), so admissibility is not used for it.
The `_processAll` theorems are restated below for such registries with `AugArgsPlain` as the only
hypothesis on the input. -/

/-- Two different character offsets of one text (up to its end) have different (line, col). -/
theorem offset_position_injective (text : List Char) (a b : Nat) (hab : a < b) (hb : b ≤ text.length) :
    (Spec.Parse.lineOf text a, Spec.Parse.colOf text a) ≠ (Spec.Parse.lineOf text b, Spec.Parse.colOf text b) :=
  Lemmas.AugPosSpec.pos_ne_of_lt text a b hab hb

/-- The tokens of the reference reader start at strictly increasing offsets. -/
theorem token_offsets_increase (text : List Char) (toks : List Spec.Parse.PTok)
    (h : Spec.Parse.tokenize text = some toks) : toks.Pairwise (fun a b => a.off < b.off) :=
  Lemmas.AugPosSpec.tokenize_sorted text toks h

/-- **Sibling statements of a parsed text stand at different positions** (reference reader): the
top-level statements have pairwise different (line, col), and so have the substatements of every
statement of the forest, at any depth (`SibDistinct`). -/
theorem sibling_positions_distinct (text : List Char) (forest : List Spec.Parse.Stmt)
    (h : Spec.Parse.parse text = some forest) :
    (forest.map fun s => (s.line, s.col)).Nodup ∧ ∀ s ∈ forest, Lemmas.AugPosSpec.SibDistinct s :=
  Lemmas.AugPosSpec.parse_sibDistinct text forest h

/-- The texts handed to `loadTexts` are UTF-8 encodings (core Lean's encoder, `Props.C02.utf8`) of
Unicode texts without the four constructs C02 excludes. -/
def AdmissibleTexts (texts : List (List UInt8 × List UInt8)) : Prop :=
  ∀ nt ∈ texts, ∃ t : List Char, nt.2 = Goyang.Props.C02.utf8 t ∧ Spec.Parse.Admissible t = true

/-- **`AugPosDistinct` holds of every registry loaded from C02-admissible texts**, whichever of them
are accepted or rejected. -/
theorem augPosDistinct_of_loadTexts (texts : List (List UInt8 × List UInt8)) (hadm : AdmissibleTexts texts) :
    AugPosDistinct (loadTexts texts).1 :=
  Lemmas.AugPosAny.augPosDistinct_loadTexts_any texts

/-- the registry `Modules.Parse` builds from the texts, in order -/
abbrev loaded (texts : List (List UInt8 × List UInt8)) : Registry := (loadTexts texts).1

/-- `PhaseInput` for registries loaded from admissible texts: `AugArgsPlain` is the only hypothesis left. -/
theorem phaseInput_holds_texts (texts : List (List UInt8 × List UInt8)) (hadm : AdmissibleTexts texts)
    (opts : Opts) (plug : Plug) (hplain : AugArgsPlain (loaded texts))
    (s : PState) (order : List Nat) (h : phaseStart (loaded texts) opts plug = some (s, order)) :
    PhaseInput (loaded texts) s :=
  phaseInput_holds _ opts plug (loadedShape_loadTexts texts) (augPosDistinct_of_loadTexts texts hadm) hplain s order h

/-- `augment_reported_processAll` ((f) "… or reported") for registries loaded from admissible texts. -/
theorem augment_reported_loadTexts (texts : List (List UInt8 × List UInt8)) (hadm : AdmissibleTexts texts)
    (opts : Opts) (plug : Plug) (hplain : AugArgsPlain (loaded texts)) :
    (phaseStart (loaded texts) opts plug = none →
      ∃ errs, errs ≠ [] ∧ (processAll (loaded texts) opts plug).errors = canonErrs errs) ∧
    (∀ s order, phaseStart (loaded texts) opts plug = some (s, order) → allErrs s.forest = [] ∧
      (let fuel := s.pending.foldl (fun n p => n + p.2.length) 0 + 2
       let ph := phaseR (Res.ofReg (loaded texts)) order fuel s
       (∀ id, ∀ a ∈ s.pendingOf id,
         (id, a) ∈ ph.2.1.map Ev.key ∨ (id, a) ∈ ph.2.2.map Ev.key ∨ (processAll (loaded texts) opts plug).errors ≠ []) ∧
       (∀ ev ∈ ph.2.1,
         (¬ (absEv (Res.ofReg (loaded texts)) s.forest ev).roots.Nodup ∨
           (absEv (Res.ofReg (loaded texts)) s.forest ev).Collides (viewOf ev.before)) →
         (processAll (loaded texts) opts plug).errors ≠ []))) :=
  augment_reported_processAll _ opts plug (loadedShape_loadTexts texts) (augPosDistinct_of_loadTexts texts hadm) hplain

/-- `clean_process_applied_all` for registries loaded from admissible texts. -/
theorem clean_process_applied_all_loadTexts (texts : List (List UInt8 × List UInt8)) (hadm : AdmissibleTexts texts)
    (opts : Opts) (plug : Plug) (hplain : AugArgsPlain (loaded texts))
    (hclean : (processAll (loaded texts) opts plug).errors = []) :
    ∃ s order, phaseStart (loaded texts) opts plug = some (s, order) ∧
      (let fuel := s.pending.foldl (fun n p => n + p.2.length) 0 + 2
       let ph := phaseR (Res.ofReg (loaded texts)) order fuel s
       (∀ id, ∀ a ∈ s.pendingOf id, (id, a) ∈ ph.2.1.map Ev.key ∨ (id, a) ∈ ph.2.2.map Ev.key) ∧
       (∀ ev ∈ ph.2.1, (absEv (Res.ofReg (loaded texts)) s.forest ev).roots.Nodup ∧
         ¬ (absEv (Res.ofReg (loaded texts)) s.forest ev).Collides (viewOf ev.before))) :=
  clean_process_applied_all _ opts plug (loadedShape_loadTexts texts) (augPosDistinct_of_loadTexts texts hadm) hplain hclean

/-- `augment_exactly_once_processAll` ((e)) for registries loaded from admissible texts. -/
theorem augment_exactly_once_loadTexts (texts : List (List UInt8 × List UInt8)) (hadm : AdmissibleTexts texts)
    (opts : Opts) (plug : Plug) (hplain : AugArgsPlain (loaded texts)) (s : PState) (order : List Nat)
    (h : phaseStart (loaded texts) opts plug = some (s, order)) :
    let fuel := s.pending.foldl (fun n p => n + p.2.length) 0 + 2
    ∀ id, ∀ a ∈ s.pendingOf id,
      (a ∉ (augmentLoop (loaded texts) fuel order.toArray s).2.pendingOf id ↔
        (absAug (Res.ofReg (loaded texts)) s.forest id a).Applicable
          (viewOf (augmentLoop (loaded texts) fuel order.toArray s).2.forest)) :=
  augment_exactly_once_processAll _ opts plug (loadedShape_loadTexts texts) (augPosDistinct_of_loadTexts texts hadm)
    hplain s order h

/-- `augment_loop_confluent_processAll` ((d)) for registries loaded from admissible texts. -/
theorem augment_loop_confluent_loadTexts (texts : List (List UInt8 × List UInt8)) (hadm : AdmissibleTexts texts)
    (opts : Opts) (plug : Plug) (hplain : AugArgsPlain (loaded texts)) (s : PState) (order : List Nat)
    (h : phaseStart (loaded texts) opts plug = some (s, order))
    (fuel2 : Nat) (mods2 : Array Nat) (s2 : PState)
    (hforest : s2.forest = s.forest) (hpend : ∀ id a, a ∈ s2.pendingOf id ↔ a ∈ s.pendingOf id)
    (hn2 : NodupPending s2) (hcov2 : Cover s2 mods2) (hfuel2 : mu s2 < fuel2) :
    let fuel := s.pending.foldl (fun n p => n + p.2.length) 0 + 2
    (∀ er, FVisErr (augmentLoop (loaded texts) fuel order.toArray s).2.forest er → er.cls ≠ "duplicate-node") →
    viewOf (augmentLoop (loaded texts) fuel2 mods2 s2).2.forest =
      viewOf (augmentLoop (loaded texts) fuel order.toArray s).2.forest ∧
    (∀ id a, a ∈ (augmentLoop (loaded texts) fuel2 mods2 s2).2.pendingOf id ↔
      a ∈ (augmentLoop (loaded texts) fuel order.toArray s).2.pendingOf id) :=
  augment_loop_confluent_processAll _ opts plug (loadedShape_loadTexts texts) (augPosDistinct_of_loadTexts texts hadm)
    hplain s order h fuel2 mods2 s2 hforest hpend hn2 hcov2 hfuel2

/-- `augment_order_independent_processAll` for registries loaded from admissible texts. -/
theorem augment_order_independent_loadTexts (texts : List (List UInt8 × List UInt8)) (hadm : AdmissibleTexts texts)
    (opts : Opts) (plug : Plug) (hplain : AugArgsPlain (loaded texts)) (s : PState) (order : List Nat)
    (h : phaseStart (loaded texts) opts plug = some (s, order)) (fuel2 : Nat) (mods2 : Array Nat)
    (hcov2 : Cover s mods2) (hfuel2 : mu s < fuel2) :
    let fuel := s.pending.foldl (fun n p => n + p.2.length) 0 + 2
    (∀ er, FVisErr (augmentLoop (loaded texts) fuel order.toArray s).2.forest er → er.cls ≠ "duplicate-node") →
    viewOf (augmentLoop (loaded texts) fuel2 mods2 s).2.forest =
      viewOf (augmentLoop (loaded texts) fuel order.toArray s).2.forest ∧
    (∀ id a, a ∈ (augmentLoop (loaded texts) fuel2 mods2 s).2.pendingOf id ↔
      a ∈ (augmentLoop (loaded texts) fuel order.toArray s).2.pendingOf id) :=
  augment_order_independent_processAll _ opts plug (loadedShape_loadTexts texts) (augPosDistinct_of_loadTexts texts hadm)
    hplain s order h fuel2 mods2 hcov2 hfuel2

/-- `augment_clean_iff_processAll` ((d′)) for registries loaded from admissible texts. -/
theorem augment_clean_iff_loadTexts (texts : List (List UInt8 × List UInt8)) (hadm : AdmissibleTexts texts)
    (opts : Opts) (plug : Plug) (hplain : AugArgsPlain (loaded texts)) (s : PState) (order : List Nat)
    (h : phaseStart (loaded texts) opts plug = some (s, order))
    (fuel2 : Nat) (mods2 : Array Nat) (s2 : PState)
    (hforest : s2.forest = s.forest) (hpend : ∀ id a, a ∈ s2.pendingOf id ↔ a ∈ s.pendingOf id)
    (hn2 : NodupPending s2) (hcov2 : Cover s2 mods2) (hfuel2 : mu s2 < fuel2) :
    let fuel := s.pending.foldl (fun n p => n + p.2.length) 0 + 2
    allErrs (augmentLoop (loaded texts) fuel order.toArray s).2.forest = [] ↔
      allErrs (augmentLoop (loaded texts) fuel2 mods2 s2).2.forest = [] :=
  augment_clean_iff_processAll _ opts plug (loadedShape_loadTexts texts) (augPosDistinct_of_loadTexts texts hadm)
    hplain s order h fuel2 mods2 s2 hforest hpend hn2 hcov2 hfuel2

/-- `augment_error_list_order_independent_processAll` ((d′)) for registries loaded from admissible texts. -/
theorem augment_error_list_order_independent_loadTexts (texts : List (List UInt8 × List UInt8))
    (hadm : AdmissibleTexts texts) (opts : Opts) (plug : Plug) (hplain : AugArgsPlain (loaded texts))
    (s : PState) (order : List Nat) (h : phaseStart (loaded texts) opts plug = some (s, order))
    (fuel2 : Nat) (mods2 : Array Nat) (s2 : PState)
    (hforest : s2.forest = s.forest) (hpend : ∀ id a, a ∈ s2.pendingOf id ↔ a ∈ s.pendingOf id)
    (hn2 : NodupPending s2) (hcov2 : Cover s2 mods2) (hfuel2 : mu s2 < fuel2)
    (hbodies : ∀ id, ∀ a ∈ s.pendingOf id, a.allErrors = []) :
    let fuel := s.pending.foldl (fun n p => n + p.2.length) 0 + 2
    (∀ er ∈ allErrs (augmentLoop (loaded texts) fuel order.toArray s).2.forest, er.cls ≠ "duplicate-node") →
    (∀ er, er ∈ allErrs (augmentLoop (loaded texts) fuel2 mods2 s2).2.forest ↔
      er ∈ allErrs (augmentLoop (loaded texts) fuel order.toArray s).2.forest) ∧
    canonErrs (allErrs (augmentLoop (loaded texts) fuel2 mods2 s2).2.forest) =
      canonErrs (allErrs (augmentLoop (loaded texts) fuel order.toArray s).2.forest) ∧
    (∀ er ∈ allErrs (augmentLoop (loaded texts) fuel2 mods2 s2).2.forest, er.cls ≠ "duplicate-node") :=
  augment_error_list_order_independent_processAll _ opts plug (loadedShape_loadTexts texts)
    (augPosDistinct_of_loadTexts texts hadm) hplain s order h fuel2 mods2 s2 hforest hpend hn2 hcov2 hfuel2 hbodies

/-- `augment_error_set_order_independent_processAll` ((d′), pending entries with errors of their own
included) for registries loaded from admissible texts. -/
theorem augment_error_set_order_independent_loadTexts (texts : List (List UInt8 × List UInt8))
    (hadm : AdmissibleTexts texts) (opts : Opts) (plug : Plug) (hplain : AugArgsPlain (loaded texts))
    (s : PState) (order : List Nat) (h : phaseStart (loaded texts) opts plug = some (s, order))
    (fuel2 : Nat) (mods2 : Array Nat) (s2 : PState)
    (hforest : s2.forest = s.forest) (hpend : ∀ id a, a ∈ s2.pendingOf id ↔ a ∈ s.pendingOf id)
    (hn2 : NodupPending s2) (hcov2 : Cover s2 mods2) (hfuel2 : mu s2 < fuel2) :
    let fuel := s.pending.foldl (fun n p => n + p.2.length) 0 + 2
    (∀ er ∈ allErrs (augmentLoop (loaded texts) fuel order.toArray s).2.forest, er.cls ≠ "duplicate-node") →
    (∀ er, er ∈ allErrs (augmentLoop (loaded texts) fuel2 mods2 s2).2.forest ↔
      er ∈ allErrs (augmentLoop (loaded texts) fuel order.toArray s).2.forest) ∧
    canonErrs (allErrs (augmentLoop (loaded texts) fuel2 mods2 s2).2.forest) =
      canonErrs (allErrs (augmentLoop (loaded texts) fuel order.toArray s).2.forest) ∧
    (∀ er ∈ allErrs (augmentLoop (loaded texts) fuel2 mods2 s2).2.forest, er.cls ≠ "duplicate-node") :=
  augment_error_set_order_independent_processAll _ opts plug (loadedShape_loadTexts texts)
    (augPosDistinct_of_loadTexts texts hadm) hplain s order h fuel2 mods2 s2 hforest hpend hn2 hcov2 hfuel2

/-! ### `AugPosDistinct` for ALL byte strings: the `_anyTexts` theorems

The direct proof on the byte-level lexer model (`Lemmas/AugPosLex.lean`,
`Lemmas/AugPosParse.lean`, `Lemmas/AugPosLoadAny.lean`, `Lemmas/AugPosAny.lean`).  For EVERY byte string
(ill-formed UTF-8, comment openers inside tokens, every quoted-string shape) the tokens the lexer
model hands the parser — error tokens aside, which the parser never sees — stand at strictly
increasing (line, col) in lexicographic order (`lexer_tokens_increase_anyText`); the generic parser
builds statements at the positions of their keyword tokens, pulled in that order (push-back keeps
it), so sibling statements — at the top level and below every statement, the sentinel `ignoreMe`
of a syntax error aside — stand at strictly increasing positions (`parsed_siblings_increase_anyText`);
`toStmt?` and `Registry.add` keep them, hence `AugPosDistinct` holds of EVERY registry `loadTexts` can
produce (`augPosDistinct_anyTexts`).  The `_loadTexts` theorems are restated without `AdmissibleTexts`
as `_anyTexts`; `AugArgsPlain` is the only input hypothesis left.

Two facts about the model (and the Go code it transliterates) found on the way:
* the cursor (line, col) is NOT a function of the byte offset: `peek` before a newline goes through
  `backup`, which resets `col` to 0 (and `line` back); so "offset ↦ (line, col) is monotone" is false of
  the lexer state in general and the proof does not go through offsets.  It carries the invariant
  "the cursor stands after the last token, or the next rune is a newline and the last token is on
  this or an earlier line" (`Lemmas.AugPosLex.F`): token starts are read off the cursor only after
  white space has been skipped, where it is exact again.  Ill-formed bytes are no problem: every
  decoded rune, ill-formed or not, advances `col` by one (`next`) — the suspected witness (a
  multi-byte ill-formed sequence that does not advance the column) does not exist.
* ERROR tokens do share a position with the following token (an invalid escape inside a
  double-quoted string queues an error token at the string's own position, then the string): the
  statement is about the tokens the parser sees (`skipErrors` drops error tokens), see the example. -/

/-- **The lexer model hands the parser tokens at strictly increasing (line, col), for every byte
string**: `Lemmas.AugPosLex.LInv q l` — every token the lexer state `l` still has queued or will still
read stands strictly after `q`, in strictly increasing order — holds initially with `q = (0, 0)`, and a
token pulled under `LInv q` stands after `q` and re-establishes `LInv` at its own position
(`Lemmas.AugPosOrd.SrcMono`). -/
theorem lexer_tokens_increase_anyText (text file : List UInt8) :
    Lemmas.AugPosOrd.SrcMono Parse.lexSource Lemmas.AugPosLex.LInv ∧
    Lemmas.AugPosLex.LInv (0, 0) (Lex.newLexer text file) :=
  ⟨Lemmas.AugPosLex.lexSource_mono, Lemmas.AugPosLex.newLexer_inv text file⟩

/-- **Sibling statements of ANY parsed text stand at strictly increasing positions** (byte-level
parser model, every byte string): the top-level statements and the substatements of every statement,
at any depth, are pairwise in the relation "the later one is `ignoreMe` or stands strictly after the
earlier one" (`Lemmas.AugPosOrd.ForestOK`). -/
theorem parsed_siblings_increase_anyText (name text : List UInt8) (forest : List Parse.Statement)
    (h : Parse.parseText name text = .ok forest) : Lemmas.AugPosOrd.ForestOK forest :=
  Lemmas.AugPosAny.parseText_forestOK name text forest h

/-- **`AugPosDistinct` holds of every registry loaded from raw texts, whatever the bytes are.** -/
theorem augPosDistinct_anyTexts (texts : List (List UInt8 × List UInt8)) : AugPosDistinct (loadTexts texts).1 :=
  Lemmas.AugPosAny.augPosDistinct_loadTexts_any texts

/-- `PhaseInput` for registries loaded from ANY texts (no admissibility hypothesis): `AugArgsPlain` is the only hypothesis left. -/
theorem phaseInput_holds_anyTexts (texts : List (List UInt8 × List UInt8))
    (opts : Opts) (plug : Plug) (hplain : AugArgsPlain (loaded texts))
    (s : PState) (order : List Nat) (h : phaseStart (loaded texts) opts plug = some (s, order)) :
    PhaseInput (loaded texts) s :=
  phaseInput_holds _ opts plug (loadedShape_loadTexts texts) (augPosDistinct_anyTexts texts) hplain s order h

/-- `augment_reported_processAll` ((f) "… or reported") for registries loaded from ANY texts (no admissibility hypothesis). -/
theorem augment_reported_anyTexts (texts : List (List UInt8 × List UInt8))
    (opts : Opts) (plug : Plug) (hplain : AugArgsPlain (loaded texts)) :
    (phaseStart (loaded texts) opts plug = none →
      ∃ errs, errs ≠ [] ∧ (processAll (loaded texts) opts plug).errors = canonErrs errs) ∧
    (∀ s order, phaseStart (loaded texts) opts plug = some (s, order) → allErrs s.forest = [] ∧
      (let fuel := s.pending.foldl (fun n p => n + p.2.length) 0 + 2
       let ph := phaseR (Res.ofReg (loaded texts)) order fuel s
       (∀ id, ∀ a ∈ s.pendingOf id,
         (id, a) ∈ ph.2.1.map Ev.key ∨ (id, a) ∈ ph.2.2.map Ev.key ∨ (processAll (loaded texts) opts plug).errors ≠ []) ∧
       (∀ ev ∈ ph.2.1,
         (¬ (absEv (Res.ofReg (loaded texts)) s.forest ev).roots.Nodup ∨
           (absEv (Res.ofReg (loaded texts)) s.forest ev).Collides (viewOf ev.before)) →
         (processAll (loaded texts) opts plug).errors ≠ []))) :=
  augment_reported_processAll _ opts plug (loadedShape_loadTexts texts) (augPosDistinct_anyTexts texts) hplain

/-- `clean_process_applied_all` for registries loaded from ANY texts (no admissibility hypothesis). -/
theorem clean_process_applied_all_anyTexts (texts : List (List UInt8 × List UInt8))
    (opts : Opts) (plug : Plug) (hplain : AugArgsPlain (loaded texts))
    (hclean : (processAll (loaded texts) opts plug).errors = []) :
    ∃ s order, phaseStart (loaded texts) opts plug = some (s, order) ∧
      (let fuel := s.pending.foldl (fun n p => n + p.2.length) 0 + 2
       let ph := phaseR (Res.ofReg (loaded texts)) order fuel s
       (∀ id, ∀ a ∈ s.pendingOf id, (id, a) ∈ ph.2.1.map Ev.key ∨ (id, a) ∈ ph.2.2.map Ev.key) ∧
       (∀ ev ∈ ph.2.1, (absEv (Res.ofReg (loaded texts)) s.forest ev).roots.Nodup ∧
         ¬ (absEv (Res.ofReg (loaded texts)) s.forest ev).Collides (viewOf ev.before))) :=
  clean_process_applied_all _ opts plug (loadedShape_loadTexts texts) (augPosDistinct_anyTexts texts) hplain hclean

/-- `augment_exactly_once_processAll` ((e)) for registries loaded from ANY texts (no admissibility hypothesis). -/
theorem augment_exactly_once_anyTexts (texts : List (List UInt8 × List UInt8))
    (opts : Opts) (plug : Plug) (hplain : AugArgsPlain (loaded texts)) (s : PState) (order : List Nat)
    (h : phaseStart (loaded texts) opts plug = some (s, order)) :
    let fuel := s.pending.foldl (fun n p => n + p.2.length) 0 + 2
    ∀ id, ∀ a ∈ s.pendingOf id,
      (a ∉ (augmentLoop (loaded texts) fuel order.toArray s).2.pendingOf id ↔
        (absAug (Res.ofReg (loaded texts)) s.forest id a).Applicable
          (viewOf (augmentLoop (loaded texts) fuel order.toArray s).2.forest)) :=
  augment_exactly_once_processAll _ opts plug (loadedShape_loadTexts texts) (augPosDistinct_anyTexts texts)
    hplain s order h

/-- `augment_loop_confluent_processAll` ((d)) for registries loaded from ANY texts (no admissibility hypothesis). -/
theorem augment_loop_confluent_anyTexts (texts : List (List UInt8 × List UInt8))
    (opts : Opts) (plug : Plug) (hplain : AugArgsPlain (loaded texts)) (s : PState) (order : List Nat)
    (h : phaseStart (loaded texts) opts plug = some (s, order))
    (fuel2 : Nat) (mods2 : Array Nat) (s2 : PState)
    (hforest : s2.forest = s.forest) (hpend : ∀ id a, a ∈ s2.pendingOf id ↔ a ∈ s.pendingOf id)
    (hn2 : NodupPending s2) (hcov2 : Cover s2 mods2) (hfuel2 : mu s2 < fuel2) :
    let fuel := s.pending.foldl (fun n p => n + p.2.length) 0 + 2
    (∀ er, FVisErr (augmentLoop (loaded texts) fuel order.toArray s).2.forest er → er.cls ≠ "duplicate-node") →
    viewOf (augmentLoop (loaded texts) fuel2 mods2 s2).2.forest =
      viewOf (augmentLoop (loaded texts) fuel order.toArray s).2.forest ∧
    (∀ id a, a ∈ (augmentLoop (loaded texts) fuel2 mods2 s2).2.pendingOf id ↔
      a ∈ (augmentLoop (loaded texts) fuel order.toArray s).2.pendingOf id) :=
  augment_loop_confluent_processAll _ opts plug (loadedShape_loadTexts texts) (augPosDistinct_anyTexts texts)
    hplain s order h fuel2 mods2 s2 hforest hpend hn2 hcov2 hfuel2

/-- `augment_order_independent_processAll` for registries loaded from ANY texts (no admissibility hypothesis). -/
theorem augment_order_independent_anyTexts (texts : List (List UInt8 × List UInt8))
    (opts : Opts) (plug : Plug) (hplain : AugArgsPlain (loaded texts)) (s : PState) (order : List Nat)
    (h : phaseStart (loaded texts) opts plug = some (s, order)) (fuel2 : Nat) (mods2 : Array Nat)
    (hcov2 : Cover s mods2) (hfuel2 : mu s < fuel2) :
    let fuel := s.pending.foldl (fun n p => n + p.2.length) 0 + 2
    (∀ er, FVisErr (augmentLoop (loaded texts) fuel order.toArray s).2.forest er → er.cls ≠ "duplicate-node") →
    viewOf (augmentLoop (loaded texts) fuel2 mods2 s).2.forest =
      viewOf (augmentLoop (loaded texts) fuel order.toArray s).2.forest ∧
    (∀ id a, a ∈ (augmentLoop (loaded texts) fuel2 mods2 s).2.pendingOf id ↔
      a ∈ (augmentLoop (loaded texts) fuel order.toArray s).2.pendingOf id) :=
  augment_order_independent_processAll _ opts plug (loadedShape_loadTexts texts) (augPosDistinct_anyTexts texts)
    hplain s order h fuel2 mods2 hcov2 hfuel2

/-- `augment_clean_iff_processAll` ((d′)) for registries loaded from ANY texts (no admissibility hypothesis). -/
theorem augment_clean_iff_anyTexts (texts : List (List UInt8 × List UInt8))
    (opts : Opts) (plug : Plug) (hplain : AugArgsPlain (loaded texts)) (s : PState) (order : List Nat)
    (h : phaseStart (loaded texts) opts plug = some (s, order))
    (fuel2 : Nat) (mods2 : Array Nat) (s2 : PState)
    (hforest : s2.forest = s.forest) (hpend : ∀ id a, a ∈ s2.pendingOf id ↔ a ∈ s.pendingOf id)
    (hn2 : NodupPending s2) (hcov2 : Cover s2 mods2) (hfuel2 : mu s2 < fuel2) :
    let fuel := s.pending.foldl (fun n p => n + p.2.length) 0 + 2
    allErrs (augmentLoop (loaded texts) fuel order.toArray s).2.forest = [] ↔
      allErrs (augmentLoop (loaded texts) fuel2 mods2 s2).2.forest = [] :=
  augment_clean_iff_processAll _ opts plug (loadedShape_loadTexts texts) (augPosDistinct_anyTexts texts)
    hplain s order h fuel2 mods2 s2 hforest hpend hn2 hcov2 hfuel2

/-- `augment_error_list_order_independent_processAll` ((d′)) for registries loaded from ANY texts (no admissibility hypothesis). -/
theorem augment_error_list_order_independent_anyTexts (texts : List (List UInt8 × List UInt8))
    (opts : Opts) (plug : Plug) (hplain : AugArgsPlain (loaded texts))
    (s : PState) (order : List Nat) (h : phaseStart (loaded texts) opts plug = some (s, order))
    (fuel2 : Nat) (mods2 : Array Nat) (s2 : PState)
    (hforest : s2.forest = s.forest) (hpend : ∀ id a, a ∈ s2.pendingOf id ↔ a ∈ s.pendingOf id)
    (hn2 : NodupPending s2) (hcov2 : Cover s2 mods2) (hfuel2 : mu s2 < fuel2)
    (hbodies : ∀ id, ∀ a ∈ s.pendingOf id, a.allErrors = []) :
    let fuel := s.pending.foldl (fun n p => n + p.2.length) 0 + 2
    (∀ er ∈ allErrs (augmentLoop (loaded texts) fuel order.toArray s).2.forest, er.cls ≠ "duplicate-node") →
    (∀ er, er ∈ allErrs (augmentLoop (loaded texts) fuel2 mods2 s2).2.forest ↔
      er ∈ allErrs (augmentLoop (loaded texts) fuel order.toArray s).2.forest) ∧
    canonErrs (allErrs (augmentLoop (loaded texts) fuel2 mods2 s2).2.forest) =
      canonErrs (allErrs (augmentLoop (loaded texts) fuel order.toArray s).2.forest) ∧
    (∀ er ∈ allErrs (augmentLoop (loaded texts) fuel2 mods2 s2).2.forest, er.cls ≠ "duplicate-node") :=
  augment_error_list_order_independent_processAll _ opts plug (loadedShape_loadTexts texts)
    (augPosDistinct_anyTexts texts) hplain s order h fuel2 mods2 s2 hforest hpend hn2 hcov2 hfuel2 hbodies

/-- `augment_error_set_order_independent_processAll` ((d′), pending entries with errors of their own
included) for registries loaded from ANY texts (no admissibility hypothesis). -/
theorem augment_error_set_order_independent_anyTexts (texts : List (List UInt8 × List UInt8))
    (opts : Opts) (plug : Plug) (hplain : AugArgsPlain (loaded texts))
    (s : PState) (order : List Nat) (h : phaseStart (loaded texts) opts plug = some (s, order))
    (fuel2 : Nat) (mods2 : Array Nat) (s2 : PState)
    (hforest : s2.forest = s.forest) (hpend : ∀ id a, a ∈ s2.pendingOf id ↔ a ∈ s.pendingOf id)
    (hn2 : NodupPending s2) (hcov2 : Cover s2 mods2) (hfuel2 : mu s2 < fuel2) :
    let fuel := s.pending.foldl (fun n p => n + p.2.length) 0 + 2
    (∀ er ∈ allErrs (augmentLoop (loaded texts) fuel order.toArray s).2.forest, er.cls ≠ "duplicate-node") →
    (∀ er, er ∈ allErrs (augmentLoop (loaded texts) fuel2 mods2 s2).2.forest ↔
      er ∈ allErrs (augmentLoop (loaded texts) fuel order.toArray s).2.forest) ∧
    canonErrs (allErrs (augmentLoop (loaded texts) fuel2 mods2 s2).2.forest) =
      canonErrs (allErrs (augmentLoop (loaded texts) fuel order.toArray s).2.forest) ∧
    (∀ er ∈ allErrs (augmentLoop (loaded texts) fuel2 mods2 s2).2.forest, er.cls ≠ "duplicate-node") :=
  augment_error_set_order_independent_processAll _ opts plug (loadedShape_loadTexts texts)
    (augPosDistinct_anyTexts texts) hplain s order h fuel2 mods2 s2 hforest hpend hn2 hcov2 hfuel2

/-! ### non-vacuity: the input predicates hold of a concrete two-module set with an augment -/
section Examples
open Goyang.Props.C04.Ex

/-- `"/a:c"` is an absolute schema node identifier with one plain step (the legacy `String.splitOn`
does not reduce in the kernel; `Lemmas.Find.splitOn_char` turns it into `List.splitOn`). -/
theorem plainAbsArg_example : PlainAbsArg "/a:c" := by
  have hs : "/a:c".splitOn "/" = ["", "a:c"] := by
    rw [Lemmas.Find.slash_eq, Lemmas.Find.splitOn_char]; decide
  unfold PlainAbsArg
  rw [hs]
  exact ⟨rfl, by decide⟩

/-- C04's example registry: module `a` and module `b`, which imports `a` and augments `/a:c`. -/
example : LoadedShape reg2 ∧ AugPosDistinct reg2 ∧ ModsAreModules reg2 := by decide +kernel

example : AugArgsPlain reg2 := by
  intro m hm s hs
  have hall : ∀ m ∈ reg2.mods, ∀ s ∈ m.stmt.all "augment", s.arg = "/a:c" := by decide +kernel
  rw [hall m hm s hs]
  exact plainAbsArg_example

/-- `processAll` enters the augment phase on it, with one pending augment in the row of `b`. -/
example : ((phaseStart reg2 {} plug).map fun x => (x.1.pending.map fun p => (p.1, p.2.length), x.2)) =
    some ([(0, 0), (1, 1)], [0, 1]) := by decide +kernel

/-- An argument with a `..` step, an empty step or without the leading `/` is not plain. -/
example : ¬ PlainAbsArg "/a:c/../d" ∧ ¬ PlainAbsArg "a:c" := by
  have h1 : "/a:c/../d".splitOn "/" = ["", "a:c", "..", "d"] := by
    rw [Lemmas.Find.slash_eq, Lemmas.Find.splitOn_char]; decide
  have h2 : "a:c".splitOn "/" = ["a:c"] := by
    rw [Lemmas.Find.slash_eq, Lemmas.Find.splitOn_char]; decide
  unfold PlainAbsArg
  rw [h1, h2]
  decide

/-! ### why the two input predicates cannot be dropped (kernel-checked witnesses) -/

/-- A registry value in which module `b` holds the SAME augment statement value twice (same
position — no parsed text yields this, every `Registry` value of the loaded shape may). -/
def modB2 : Stmt :=
  st 1 "module" "b" [
    st 2 "namespace" "urn:b", st 3 "prefix" "b",
    st 4 "import" "a" [st 5 "prefix" "a"],
    st 6 "augment" "/a:c" [st 7 "leaf" "w" [st 8 "type" "string"]],
    st 6 "augment" "/a:c" [st 7 "leaf" "w" [st 8 "type" "string"]]]
def reg3 : Registry := (Registry.loadAll [modA, modB2]).1
def pend3 : List Entry := match phaseStart reg3 {} plug with | some x => x.1.pendingOf 1 | none => []

theorem pend3_twice : pend3.length = 2 ∧ pend3.head?.toList ++ pend3.head?.toList = pend3 :=
  by decide +kernel

/-- **`AugPosDistinct` cannot be dropped** from `pending_no_entry_twice` (hence from `PhaseInput`):
for this registry of the loaded shape, with plain augment arguments, `processAll` enters the augment
phase with the same entry listed twice for module `b` — `NodupPending`, on which exactly-once and the
trace bookkeeping rest, is false.  (For registries loaded from C02-admissible texts the predicate is a
theorem: `augPosDistinct_of_loadTexts`.) -/
theorem augPosDistinct_needed : ∃ reg : Registry, LoadedShape reg ∧ AugArgsPlain reg ∧ ¬ AugPosDistinct reg ∧
    ∃ s order, phaseStart reg {} plug = some (s, order) ∧ ¬ NodupPending s := by
  refine ⟨reg3, by decide +kernel, ?_, by decide +kernel, ?_⟩
  · intro m hm s hs
    have hall : ∀ m ∈ reg3.mods, ∀ s ∈ m.stmt.all "augment", s.arg = "/a:c" := by decide +kernel
    rw [hall m hm s hs]
    exact plainAbsArg_example
  · obtain ⟨hlen, hdup⟩ := pend3_twice
    cases h : phaseStart reg3 {} plug with
    | none => simp [pend3, h] at hlen
    | some x =>
      refine ⟨x.1, x.2, rfl, fun hn => ?_⟩
      have h1 : pend3 = x.1.pendingOf 1 := by simp [pend3, h]
      rw [h1] at hlen hdup
      have hnd := hn 1
      cases hl : x.1.pendingOf 1 with
      | nil => rw [hl] at hlen; cases hlen
      | cons a t =>
        rw [hl] at hdup hnd
        simp only [List.head?_cons, Option.toList_some, List.cons_append, List.nil_append, List.cons.injEq, true_and] at hdup
        rw [← hdup] at hnd
        simp at hnd

/-- **`AugArgsPlain` cannot be dropped**: it is a condition on the input (RFC 7950 has no `.`, `..` or
empty steps in an absolute schema node identifier; the Go code tolerates them).  With a `..` step Go's
`Find` — the model's `walkParts` — steps back to the parent, so `augment "/a:c/a:d/.."` is applied to
`c` (replayed on the Go code: no error, `z` becomes a child of `c`); the reference semantics addresses
nodes by names from the root and has no node `..`: the analysed loop (`walkN`) and the specification
(`walk`) find no target.  `model_loop_eq` and every statement about `absAug` would be false of it. -/
example : let root := Lemmas.AugmentExamples.dir "a" [Lemmas.AugmentExamples.dir "c" [Lemmas.AugmentExamples.dir "d" []]]
    (walkParts ["a:c", "a:d", ".."] root (some [])).1 = some [.child "c"] ∧
    (walkN (["a:c", "a:d", ".."].map stripPrefix) root (some [])).1 = none ∧
    walk root ["c", "d", ".."] = none := by decide

/-- the extra hypothesis of `augment_error_list_order_independent_processAll` (no pending augment
entry carries an error of its own) holds of the two-module example -/
example : ((phaseStart reg2 {} plug).map fun x => x.1.pending.all fun p => p.2.all fun a => a.allErrors.isEmpty) =
    some true := by decide +kernel

/-! ### a pending augment entry with an error of its own -/

/-- module `b` whose augment body has a bad `config` value -/
def modB4 : Stmt :=
  st 1 "module" "b" [
    st 2 "namespace" "urn:b", st 3 "prefix" "b",
    st 4 "import" "a" [st 5 "prefix" "a"],
    st 6 "augment" "/a:c" [st 7 "leaf" "w" [st 8 "type" "string", st 9 "config" "maybe"]]]
def reg4 : Registry := (Registry.loadAll [modA, modB4]).1

/-- the hypotheses of `augment_error_set_order_independent_processAll` hold of it … -/
example : LoadedShape reg4 ∧ AugPosDistinct reg4 := by decide +kernel
example : AugArgsPlain reg4 := by
  intro m hm s hs
  have hall : ∀ m ∈ reg4.mods, ∀ s ∈ m.stmt.all "augment", s.arg = "/a:c" := by decide +kernel
  rw [hall m hm s hs]
  exact plainAbsArg_example

/-- … `processAll` enters the augment phase on it, and the pending entry of `b` carries an error (the
case `augment_error_list_order_independent_processAll` excludes); its keys are unique, as
`phaseStart_keysUnique` says (here evaluated by the kernel) -/
example : ((phaseStart reg4 {} plug).map fun x =>
      (x.1.pending.map fun p => (p.1, p.2.map fun a => (a.allErrors.length, decide (KeysUnique a))))) =
    some [(0, []), (1, [(1, true)])] := by decide +kernel

/-! ### a registry loaded from a text: the hypotheses of the `_loadTexts` theorems hold -/

/-- `module b{namespace u;prefix b;container c{}augment /b:c{leaf w{type string;}}` ⏎ ⇥
`augment /b:c{leaf v{type string;}}}`: two augment statements with the same argument, the second on
line 2 behind a tab. -/
def textB : List Char :=
  ['m', 'o', 'd', 'u', 'l', 'e', ' ', 'b', '{', 'n', 'a', 'm', 'e', 's', 'p', 'a', 'c', 'e', ' ', 'u', ';',
   'p', 'r', 'e', 'f', 'i', 'x', ' ', 'b', ';', 'c', 'o', 'n', 't', 'a', 'i', 'n', 'e', 'r', ' ', 'c', '{',
   '}', 'a', 'u', 'g', 'm', 'e', 'n', 't', ' ', '/', 'b', ':', 'c', '{', 'l', 'e', 'a', 'f', ' ', 'w', '{',
   't', 'y', 'p', 'e', ' ', 's', 't', 'r', 'i', 'n', 'g', ';', '}', '}', '\n', '\t', 'a', 'u', 'g', 'm', 'e',
   'n', 't', ' ', '/', 'b', ':', 'c', '{', 'l', 'e', 'a', 'f', ' ', 'v', '{', 't', 'y', 'p', 'e', ' ', 's',
   't', 'r', 'i', 'n', 'g', ';', '}', '}', '}']

def textsB : List (List UInt8 × List UInt8) := [([98], Goyang.Props.C02.utf8 textB)]

set_option maxRecDepth 100000 in
example : AdmissibleTexts textsB := by
  intro nt hnt
  simp only [textsB, List.mem_singleton] at hnt
  subst hnt
  exact ⟨textB, rfl, by decide⟩

set_option maxRecDepth 100000 in
/-- the reference reader accepts it (hypothesis of `sibling_positions_distinct`), with 36 tokens
(hypothesis of `token_offsets_increase`) -/
example : (Spec.Parse.parse textB).isSome = true ∧ ((Spec.Parse.tokenize textB).map List.length) = some 36 :=
  ⟨by decide, by decide⟩

set_option maxRecDepth 100000 in
/-- `Modules.Parse` accepts it; the two augment statements stand at 1:44 and 2:2 -/
example : ((loaded textsB).mods.map fun m => (m.stmt.all "augment").map fun s => (s.line, s.col, s.arg)) =
    [[(1, 44, "/b:c"), (2, 2, "/b:c")]] := by decide +kernel

theorem plainAbsArg_example_b : PlainAbsArg "/b:c" := by
  have hs : "/b:c".splitOn "/" = ["", "b:c"] := by
    rw [Lemmas.Find.slash_eq, Lemmas.Find.splitOn_char]; decide
  unfold PlainAbsArg
  rw [hs]
  exact ⟨rfl, by decide⟩

set_option maxRecDepth 100000 in
example : AugArgsPlain (loaded textsB) := by
  intro m hm s hs
  have hall : ∀ m ∈ (loaded textsB).mods, ∀ s ∈ m.stmt.all "augment", s.arg = "/b:c" := by decide +kernel
  rw [hall m hm s hs]
  exact plainAbsArg_example_b

set_option maxRecDepth 100000 in
/-- `processAll` enters the augment phase on it with two pending augments in the row of `b`, none of
them with an error of its own -/
example : ((phaseStart (loaded textsB) {} plug).map fun x =>
      (x.1.pending.map fun p => (p.1, p.2.length), x.2,
        x.1.pending.all fun p => p.2.all fun a => a.allErrors.isEmpty)) =
    some ([(0, 2)], [0], true) := by decide +kernel

/-! ### registries loaded from texts OUTSIDE C02's claim: the hypotheses of the `_anyTexts` theorems hold -/

/-- `module b{namespace u;prefix b;description "` — then the single byte 0xFF (ill-formed UTF-8) — -/
def textDpre : List Char :=
  ['m', 'o', 'd', 'u', 'l', 'e', ' ', 'b', '{', 'n', 'a', 'm', 'e', 's', 'p', 'a', 'c', 'e', ' ', 'u', ';',
   'p', 'r', 'e', 'f', 'i', 'x', ' ', 'b', ';', 'd', 'e', 's', 'c', 'r', 'i', 'p', 't', 'i', 'o', 'n', ' ',
   '"']
/-- `";container c{}augment /b:c{leaf w{type string;}}` ⏎ ⇥ `augment /b:c{leaf v{type string;}}}` -/
def textDpost : List Char :=
  ['"', ';', 'c', 'o', 'n', 't', 'a', 'i', 'n', 'e', 'r', ' ', 'c', '{', '}', 'a', 'u', 'g', 'm', 'e', 'n',
   't', ' ', '/', 'b', ':', 'c', '{', 'l', 'e', 'a', 'f', ' ', 'w', '{', 't', 'y', 'p', 'e', ' ', 's', 't',
   'r', 'i', 'n', 'g', ';', '}', '}', '\n', '\t', 'a', 'u', 'g', 'm', 'e', 'n', 't', ' ', '/', 'b', ':', 'c',
   '{', 'l', 'e', 'a', 'f', ' ', 'v', '{', 't', 'y', 'p', 'e', ' ', 's', 't', 'r', 'i', 'n', 'g', ';', '}',
   '}', '}']
/-- a text with ILL-FORMED UTF-8 inside a description and two augment statements -/
def textD : List UInt8 := Goyang.Props.C02.utf8 textDpre ++ [0xFF] ++ Goyang.Props.C02.utf8 textDpost
def textsD : List (List UInt8 × List UInt8) := [([98], textD)]

set_option maxRecDepth 100000 in
/-- `Modules.Parse` accepts it (the lexer reads the byte as U+FFFD and the description carries its
encoding, as in Go); the two augment statements stand at 1:60 and 2:2 -/
example : ((loaded textsD).mods.map fun m => (m.stmt.all "augment").map fun s => (s.line, s.col, s.arg)) =
    [[(1, 60, "/b:c"), (2, 2, "/b:c")]] ∧
    ((loaded textsD).mods.map fun m => (m.stmt.all "description").map fun s => s.arg.toList.map Char.toNat) =
    [[[65533]]] := by decide +kernel

set_option maxRecDepth 100000 in
example : AugArgsPlain (loaded textsD) := by
  intro m hm s hs
  have hall : ∀ m ∈ (loaded textsD).mods, ∀ s ∈ m.stmt.all "augment", s.arg = "/b:c" := by decide +kernel
  rw [hall m hm s hs]
  exact plainAbsArg_example_b

set_option maxRecDepth 100000 in
/-- `processAll` enters the augment phase on it with two pending augments in the row of `b` -/
example : ((phaseStart (loaded textsD) {} plug).map fun x => (x.1.pending.map fun p => (p.1, p.2.length), x.2)) =
    some ([(0, 2)], [0]) := by decide +kernel

/-- `module b{namespace u;prefix b;description a//b;container c{}augment /b:c{leaf w{type string;}}` ⏎ ⇥
`augment /b:c{leaf v{type string;}}}`: a comment opener inside an unquoted token (outside C02's claim) -/
def textC : List Char :=
  ['m', 'o', 'd', 'u', 'l', 'e', ' ', 'b', '{', 'n', 'a', 'm', 'e', 's', 'p', 'a', 'c', 'e', ' ', 'u', ';',
   'p', 'r', 'e', 'f', 'i', 'x', ' ', 'b', ';', 'd', 'e', 's', 'c', 'r', 'i', 'p', 't', 'i', 'o', 'n', ' ',
   'a', '/', '/', 'b', ';', 'c', 'o', 'n', 't', 'a', 'i', 'n', 'e', 'r', ' ', 'c', '{', '}', 'a', 'u', 'g',
   'm', 'e', 'n', 't', ' ', '/', 'b', ':', 'c', '{', 'l', 'e', 'a', 'f', ' ', 'w', '{', 't', 'y', 'p', 'e',
   ' ', 's', 't', 'r', 'i', 'n', 'g', ';', '}', '}', '\n', '\t', 'a', 'u', 'g', 'm', 'e', 'n', 't', ' ', '/',
   'b', ':', 'c', '{', 'l', 'e', 'a', 'f', ' ', 'v', '{', 't', 'y', 'p', 'e', ' ', 's', 't', 'r', 'i', 'n',
   'g', ';', '}', '}', '}']
def textsC : List (List UInt8 × List UInt8) := [([98], Goyang.Props.C02.utf8 textC)]

set_option maxRecDepth 100000 in
/-- not admissible, accepted by `Modules.Parse`, the augment statements at 1:61 and 2:2 -/
example : Spec.Parse.Admissible textC = false ∧
    ((loaded textsC).mods.map fun m => (m.stmt.all "augment").map fun s => (s.line, s.col, s.arg)) =
    [[(1, 61, "/b:c"), (2, 2, "/b:c")]] := ⟨by decide, by decide +kernel⟩

/-- the cursor is not a function of the offset: after the token `ab` of `ab⏎` the lexer stands at
offset 2 with (line, col) = (1, 0) — `peek` looked at the newline and `backup` reset the column -/
example : (let l := (Lex.nextToken (Lex.newLexer [97, 98, 10] [])).2; (l.pos, l.line, l.col)) = (2, 1, 0) := by
  decide +kernel

/-- error tokens do share positions: `"\q"` yields an error token at 1:1 (invalid escape) and then
the string token at 1:1 -/
example : (let r := Lex.nextToken (Lex.newLexer [34, 92, 113, 34] []);
      (r.1.map fun t => (t.code, t.line, t.col), r.2.items.map fun t => (t.code, t.line, t.col))) =
    (some (Lex.Code.error, 1, 1), [(Lex.Code.string, 1, 1)]) := by decide +kernel

end Examples

end Goyang.Props.C07Bridge
