import Goyang.Lemmas.BridgeBuilt
import Goyang.Lemmas.ConfigNsDev
import Goyang.Lemmas.ConfigNsBuilt
import Goyang.Lemmas.ConfigNsDevLit
import Goyang.Lemmas.ConfigNsEval
import Goyang.Props.C12
import Goyang.Props.C12Conv
import Goyang.Props.C04
/-
C12, bridge to `processAll` — the composition Props/C12.lean states as `processAll_built_statement`.

PROVED HERE, at full strength: `processAll_built : C12.processAll_built_statement` — the forest of an
error-free `processAll` run without deviations is `Spec.ConfigNs.Built` itself; corollary on `processAll`:
`processAll_namespace_placedBy`.  And, deviations included: `processAll_provenance` /
`processAll_namespace_readOnly` (class `BuiltX reg false`), `deviate_config_reflected`,
`deviate_readOnly_target`.

How.  `Built'` (Lemmas/BridgeBuilt.lean) is `Built` with the steps of the augment loop that write no
stamp, each leaving the provenance as it is:
  `rootErr`  — an error recorded on the root entry of a tree (`Find`: unresolvable prefix;
               `Entry.Augment` with `addErrors`: `augment-not-found`);
  `implicit` — `Find` creating the input / output an rpc / action did not spell out;
  `congr`    — a forest with the same `tree?` answers (`Find` stores the tree it walked back into
               the forest even when nothing changed; nothing ever reads a forest but through `tree?`).
Every `Built` forest is `Built'`; C12's provenance theorem holds for `Built'` (`namespace_placedBy_prime`);
`Built'` is threaded through `augmentTree`, `augmentPass`, `augmentLoop`, `FixChoice`, the retry rounds
(loop and `FixChoice` again), the reporting sweep and the last `FixChoice` for every input (`preDev_builtPrime`, `processAll_builtPrime`).

From `Built'` to `Built` on an error-free run (Lemmas/ConfigNsComm.lean, Lemmas/ConfigNsBuilt.lean):
  * `rootErr` is absent: an error on a root is never removed (`builtX_of_clean`; in the threading:
    the invariant is "`Built`, or some root carries an error", `preDev_built_or_rootError`);
  * `congr` is only ever used for literally equal forests or for storing a tree back, and the class is
    closed under that (`builtU_closed_store`);
  * `implicit` commutes back through every earlier `graft` (into the tree grafted into, or — when the
    rpc is inside a child the graft added — into the grafted entry) and every earlier `fix`
    (`FixChoice` commutes with the creation at the translated path; every rpc node of a fixed tree is the
    image of a node of the original), down to `init`, which absorbs it (`builtU_closed_implicit`).  The
    commutation needs the children of a node to be filed under pairwise different non-empty names and
    the paths to be proper (`U`, `PathOK` of Lemmas/Tree.lean, which the augment stage maintains):
    `BuiltU` is `Built` with these side conditions recorded; `builtU_is_built` forgets them.

The deviation stage (Lemmas/ConfigNsDev.lean): `BuiltX reg ae` = `Built'` + `retouch` (the deviated copy
of the target written back: same children, stamp, name, errors) + `remove` (`deviate not-supported`: the
removed locations lose their placer), with `rootErr` only when `ae = true`.  `final_builtX`: the forest
`processAll` ends with is `BuiltX reg true` for every input; `processAll_provenance`: `BuiltX reg false`
on an error-free run; `namespace_placedBy_dev`: the provenance theorem for it.  Read-only after a
deviation: `deviate_config_reflected` (which config the statement leaves on the target),
`deviate_readOnly_target` and `processAll_namespace_readOnly` (`ReadOnly()` is the rule on the returned
tree, so a written config is the node's explicit config from then on).

The namespace an augment of tree `id` stamps with is computed once per `Entry.Augment` call from the
root of tree `id`; it is `ownerNs reg id` because that tree exists — C04's invariant "the tree of
every (sub)module with pending augments exists" is part of the threaded invariant.  `FixChoice`
needs the path translation `liftPath` to be one-to-one on existing paths (`liftPath_injective`).
Runs WITH deviations, literally (section DevLiteral; Lemmas/ConfigNsDevLit.lean): `BuiltD reg` is `Built`
(conversion / graft / FixChoice) with the three steps the deviation stage takes on an error-free run,
each with a stated provenance — no `congr`, no `rootErr`:
  `implicit` — `Entry.Find` creates the input / output an rpc / action lacks because the path of a
               deviation names it: the created node is placed by the placer of the rpc (so it reports the
               namespace of the rpc's module), every other location keeps its placer;
  `retouch`  — the deviated copy of the target is written back (children, stamp, name, errors as before);
  `remove`   — `deviate not-supported` unlinks the target: the removed locations lose their placer.
`processAll_built_with_deviations`: the forest of every error-free `processAll` run is `BuiltD`;
`namespace_placedBy_builtD`: the provenance theorem for it; `processAll_namespace_readOnly_literal`: both
attributes of every node of such a run by the specification's rule.  How: the forest the deviations are
applied to is the literal `Built` (`preDev_built_clean`); the deviation stage keeps "`BuiltD`, or some root
carries an error" (`devStage_keeps_builtD_or_rootError`): storing a tree back unchanged yields the literal
same class (`builtD_closed_store`: the forest equality, not only the `tree?` answers), every creation is an
`implicit` step (`created_io_placedBy_rpc`), an unresolvable prefix records an error on a root, and
such an error stays to the end.  The creation is NOT commuted back to the conversion here, and cannot be:
`deviate not-supported` on a written rpc input followed by a second deviation whose path names that
input re-creates it after the removal (namespace `ExCorner`, evaluated by the kernel) — which is why the
step is a constructor with its own provenance clause.  `builtD_is_builtX`: every `BuiltD` forest is
`BuiltX reg false`.

Kernel evaluation on module sets with augments and deviations (Lemmas/ConfigNsEval.lean, on top of
Lemmas/IncludeAugK.lean): `String.splitOn` does not reduce in the kernel; `splitOn_slash_literal` turns
the split of a literal path into `List.splitOn` over its characters (`decide`), and
`processAll_errors_KD` / `processAll_forest_KD` rewrite `processAll` into a copy whose `Find` splits the
character list, which `decide +kernel` evaluates.  Namespace `ExDev`: a module set with an rpc without
written input, an augment from a second module, a deviation of the augmented leaf and a deviation whose
path names the rpc's input satisfies the hypotheses of the `processAll_*` theorems (`ExDev.clean`), and
the namespaces / read-only answers the theorems speak about are evaluated.
Not proved: nothing of C12's end-to-end statement remains open on the model side; the provenance is
existentially quantified (fixed by the derivation, not additionally characterised), and the class for
runs that END WITH ERRORS is `BuiltX reg true` (`final_builtX`), not a literal one.
-/
namespace Goyang.Props.C12Bridge
open Goyang.Model Goyang.Spec.ConfigNs
open Goyang.Lemmas.Bridge

/-- Every `Built` forest is `Built'`, with the same provenance. -/
theorem built_is_builtPrime {reg : Registry} {f : Forest} {prov : Loc → Option Nat} (h : Built reg f prov) :
    Built' reg f prov := Built.toBuilt' h

/-- **Namespace attribution** (C12's `namespace_placedBy`) **for `Built'`**: in any forest built by
conversion, grafts, `FixChoice` and the stamp-free steps of the augment loop, a node placed by the
text of (sub)module `m` reports the namespace of the module `m` belongs to. -/
theorem namespace_placedBy_prime {reg : Registry} {f : Forest} {prov : Loc → Option Nat} (hb : Built' reg f prov)
    (loc : Loc) (m : Nat) (root : Entry) (hroot : f.tree? loc.1 = some root) (hp : prov loc = some m) :
    namespaceAt reg f loc = ownerNs reg m :=
  built'_namespace hb loc m (by rw [hroot]; rfl) hp

/-- `Find` keeps a forest `Built'`, with the same provenance, whatever path it is asked — including
the paths on which it creates an absent rpc input / output, and those whose first prefix cannot be
resolved (error on the root of the start tree). -/
theorem find_keeps_builtPrime {reg : Registry} {f : Forest} {prov : Loc → Option Nat} (hb : Built' reg f prov)
    (start : Loc) (ctx : Nat) (name : String) : Built' reg (find reg f start ctx name).2 prov :=
  built'_find hb start ctx name

/-- The translation of paths by `FixChoice` is one-to-one on the paths that exist in the tree. -/
theorem liftPath_injective (e : Entry) (p p' : Path) (h : (e.getAt p).isSome = true) (h' : (e.getAt p').isSome = true)
    (heq : liftPath e p = liftPath e p') : p = p' :=
  liftPath_inj p e p' h h' heq

/-- One `Entry.Augment` call keeps the invariant of the augment stage: the forest is `Built'`, the
children of the pending augment entries are stamp-free, the tree of every (sub)module with pending
augments exists. -/
theorem augmentTree_keeps_builtPrime (reg : Registry) (id : Nat) (addErrors : Bool) (s : PState) (h : BI reg s) :
    BI reg (augmentTree reg id addErrors s).1 :=
  augmentTree_bi reg id addErrors s h

/-- So does the loop, for every fuel and module order. -/
theorem augmentLoop_keeps_builtPrime (reg : Registry) (fuel : Nat) (mods : Array Nat) (s : PState) (h : BI reg s) :
    BI reg (augmentLoop reg fuel mods s).2 :=
  augmentLoop_bi reg fuel mods s h

/-- The invariant holds where `processAll` starts the augment phase (C12's
`conversion_forest_built` + C04's "the tree of every module with augments exists"). -/
theorem phaseStart_builtPrime (reg : Registry) (opts : Opts) (plug : Plug) : BI reg (Lemmas.Tree.pstate0 reg opts plug) :=
  bi_pstate0 reg opts plug

/-- **The forest `processAll` applies its deviations to is `Built'`**: through the augment loop,
`FixChoice`, the retry rounds, the reporting sweep and the last `FixChoice` — for every registry, option set and
plugged-in type / identity / typedef stage. -/
theorem preDev_builtPrime (reg : Registry) (opts : Opts) (plug : Plug) :
    ∃ prov, Built' reg (Lemmas.Tree.preDev reg opts plug).forest prov :=
  (bi_preDev reg opts plug).built

/-- Without deviation statements the deviation stage does nothing. -/
theorem devStage_no_deviations (reg : Registry) (opts : Opts) (plug : Plug) (f0 : Forest)
    (hnd : ∀ m ∈ reg.mods, m.stmt.all "deviation" = []) :
    (Lemmas.Tree.devStage reg opts plug f0).1 = f0 := by
  unfold Lemmas.Tree.devStage
  refine Lemmas.ListAux.foldl_inv (fun acc : Forest × List Err × List String => acc.1 = f0) _ _ _ rfl ?_
  rintro ⟨f, errs, done⟩ m hm hP
  dsimp only at hP ⊢
  split
  · exact hP
  · dsimp only
    have hmem : m ∈ reg.mods := by
      unfold Lemmas.Tree.keyOrder at hm
      simp only [List.mem_append, List.mem_filterMap] at hm
      rcases hm with ⟨kv, _, h⟩ | ⟨kv, _, h⟩ <;> exact List.mem_of_find?_eq_some h
    rw [hnd m hmem]
    simp only [List.map_nil, applyDeviations, List.foldl_nil]
    exact hP

/-- **C12's end-to-end statement** (`C12.processAll_built_statement`) **with `Built'`**: the forest
of an error-free `processAll` run without deviations is `Built'`, so every node of it that some
module's text placed reports that module's namespace (`namespace_placedBy_prime`). -/
theorem processAll_builtPrime (reg : Registry) (opts : Opts) (plug : Plug)
    (hclean : (processAll reg opts plug).errors = [])
    (hnd : ∀ m ∈ reg.mods, m.stmt.all "deviation" = []) :
    ∃ prov, Built' reg (processAll reg opts plug).forest prov := by
  obtain ⟨_, _, _, _, h5⟩ := Lemmas.Tree.processAll_clean reg opts plug hclean
  rw [h5, devStage_no_deviations reg opts plug _ hnd]
  exact preDev_builtPrime reg opts plug

/-! ### the deviation stage, and the error-free run -/
section Dev
open Goyang.Lemmas.ConfigNsDev (BuiltX Removed RootsClean)

/-- Every `Built'` forest is `BuiltX` (root errors allowed), with the same provenance.  `BuiltX reg ae`
(Lemmas/ConfigNsDev.lean) is `Built'` with the two steps of the deviation stage — `retouch`: the
deviated copy of the target is written back (same children, stamp, name, errors); `remove`: `deviate
not-supported` unlinks the target, the removed locations lose their placer — and with the error
recording step `rootErr` available only when `ae = true`. -/
theorem builtPrime_is_builtX {reg : Registry} {f : Forest} {prov : Loc → Option Nat} (h : Built' reg f prov) :
    BuiltX reg true f prov := Goyang.Lemmas.ConfigNsDev.Built'.toBuiltX h

/-- **Namespace attribution** (C12's `namespace_placedBy`) **through augments, `FixChoice` and
deviations**: in any `BuiltX` forest a location placed by the text of (sub)module `m` — and not removed
by a `deviate not-supported` — reports the namespace of the module `m` belongs to.  A deviation moves
no node and writes no stamp: the deviated node keeps the placer (and namespace) it had. -/
theorem namespace_placedBy_dev {reg : Registry} {ae : Bool} {f : Forest} {prov : Loc → Option Nat}
    (hb : BuiltX reg ae f prov) (loc : Loc) (m : Nat) (root : Entry) (hroot : f.tree? loc.1 = some root)
    (hp : prov loc = some m) : namespaceAt reg f loc = ownerNs reg m :=
  Goyang.Lemmas.ConfigNsDev.builtX_namespace hb loc m (by rw [hroot]; rfl) hp

/-- **On an error-free run the error-recording steps are absent.**  Errors recorded on a root entry
are never removed (a graft on the root appends to them, every other step leaves the root's own error
list alone); so a forest built with `rootErr` steps allowed whose visible roots carry no error was
built without one: it is `BuiltX reg false`.  (`Built'`'s other two extra steps — `Find` creating an
absent rpc input / output, storing back an unchanged tree — do occur on error-free runs; they write no
stamp and keep the provenance: the created input / output inherits the rpc's namespace.) -/
theorem builtX_of_clean {reg : Registry} {f : Forest} {prov : Loc → Option Nat} (hb : BuiltX reg true f prov)
    (hc : ∀ id t, f.tree? id = some t → t.d.errors = []) : BuiltX reg false f prov :=
  Goyang.Lemmas.ConfigNsDev.builtX_clean hb hc

/-- **The deviation stage keeps a forest `BuiltX`** — every registry, option set, plug and start
forest; deviations that apply, fail, or remove nodes included. -/
theorem devStage_keeps_builtX (reg : Registry) (opts : Opts) (plug : Plug) (f0 : Forest)
    (hb : ∃ prov, BuiltX reg true f0 prov) :
    ∃ prov, BuiltX reg true (Lemmas.Tree.devStage reg opts plug f0).1 prov :=
  Goyang.Lemmas.ConfigNsDev.devStage_builtX reg opts plug f0 hb

/-- **The forest `processAll` ends with** (whenever it reaches the augment phase; clean or not,
deviations or not) **is `BuiltX`**: conversion, augment loop, `FixChoice`, retry rounds, reporting
sweep, last `FixChoice`, deviation stage. -/
theorem final_builtX (reg : Registry) (opts : Opts) (plug : Plug) :
    ∃ prov, BuiltX reg true (Lemmas.Tree.devStage reg opts plug (Lemmas.Tree.preDev reg opts plug).forest).1 prov :=
  Goyang.Lemmas.ConfigNsDev.final_builtX reg opts plug

/-- **C12's end-to-end statement, deviations included**: the forest of an error-free `processAll`
run is `BuiltX reg false` — built by conversion, grafts, `FixChoice`, implicit rpc input / output
creation, write-back of deviated nodes and removal of not-supported ones; no error recording step. -/
theorem processAll_provenance (reg : Registry) (opts : Opts) (plug : Plug)
    (hclean : (processAll reg opts plug).errors = []) :
    ∃ prov, BuiltX reg false (processAll reg opts plug).forest prov :=
  Goyang.Lemmas.ConfigNsDev.processAll_builtX_clean reg opts plug hclean

/-- **End to end, on `processAll`.**  For an error-free run — deviations included — there is a
provenance `prov` of the returned forest (derived by `BuiltX reg false`: initial nodes placed by their
tree's module, grafted nodes by the module of the augment, library-inserted cases and removed
locations by nobody) such that for every tree and every path of it:
* a location with a placer `m` reports the namespace of the module `m` belongs to;
* `ReadOnly()` is what the nearest decisive node on the path of the *returned* tree says — so a config
  written by a deviation is the explicit config of that node from then on — and, under the property's
  exclusion, the property's rule. -/
theorem processAll_namespace_readOnly (reg : Registry) (opts : Opts) (plug : Plug)
    (hclean : (processAll reg opts plug).errors = []) :
    ∃ prov, BuiltX reg false (processAll reg opts plug).forest prov ∧
      ∀ (loc : Loc) (root : Entry), (processAll reg opts plug).forest.tree? loc.1 = some root →
        (∀ m, prov loc = some m → namespaceAt reg (processAll reg opts plug).forest loc = ownerNs reg m) ∧
        root.readOnlyAt loc.2 = readOnlyExact (configsAlong root loc.2) ∧
        (NoConfigTrueBelowOutput (configsAlong root loc.2) → root.readOnlyAt loc.2 = readOnly (configsAlong root loc.2)) := by
  obtain ⟨prov, hb⟩ := processAll_provenance reg opts plug hclean
  exact ⟨prov, hb, fun loc root hroot =>
    ⟨fun m hp => namespace_placedBy_dev hb loc m root hroot hp, C12.readOnly_exact root loc.2,
      fun h => C12.readOnly_spec root loc.2 h⟩⟩

/-- **What a deviate statement does to the config of its target**: `add` / `replace` with a `config`
substatement write that value; `delete` with one erases the node's config statement; `not-supported`,
an unknown kind, and a statement without `config` leave it alone.  (The statement's other effects do not
touch the config, whether or not they are reported.) -/
theorem deviate_config_reflected (opts : Opts) (ms : Stmt) (kind : String) (spec : Entry) (hp : Bool) (node : Entry) :
    (applyOneDeviate opts ms kind spec hp node).1.d.config =
      match Goyang.Lemmas.Deviate.kindOf kind with
      | .add | .replace => if spec.d.config != .unset then spec.d.config else node.d.config
      | .delete => if spec.d.config != .unset then .unset else node.d.config
      | _ => node.d.config :=
  Goyang.Lemmas.ConfigNsDev.applyOneDeviate_config opts ms kind spec hp node

/-- **The read-only clause after a deviation.**  The deviation stage writes the deviated copy `node'`
of the target back at its path; the property demands that from then on the written config is that
node's explicit config: `ReadOnly()` of the target is `node'`'s config (if it has one and is no rpc
output — config inside operations is outside the property), and every node below without a config of
its own inherits it (`processAll_namespace_readOnly`: `ReadOnly()` is the rule evaluated on the path of
the *returned* tree). -/
theorem deviate_readOnly_target (root : Entry) (path : Path) (node node' : Entry) (hg : root.getAt path = some node)
    (hname : node'.name = node.name) (hc : node'.d.config ≠ .unset) (hk : node'.d.kind ≠ .output) :
    (root.updateAt path fun _ => node').readOnlyAt path = (node'.d.config == .false_) := by
  have hst : Goyang.Lemmas.Deviate.NameStable path (fun _ => node') :=
    Goyang.Lemmas.Deviate.NameStable.of_pathNamed
      (Goyang.Lemmas.Deviate.pathNamed_step hname (Goyang.Lemmas.Deviate.pathNamed_of_getAt path root node hg))
  refine Goyang.Lemmas.ConfigNsDev.readOnlyAt_explicit _ path node' ?_ hc hk
  rw [Goyang.Lemmas.Deviate.getAt_updateAt_self _ path hst root, hg]; rfl

end Dev

/-! ### the literal `Built`: the composition gap closed -/
section Literal
open Goyang.Lemmas.ConfigNsBuilt (BuiltU BD Dirty)
open Goyang.Lemmas.ConfigNsComm (SlotEmpty)
open Goyang.Lemmas.Tree (U PathOK)

/-- `BuiltU` (Lemmas/ConfigNsBuilt.lean) is `Built` with side conditions recorded at each step — the
tree a graft goes into and the grafted entry have their children under pairwise different non-empty
names (`U`), the graft path has no empty name (`PathOK`), the target is no rpc; the trees `FixChoice` is
applied to satisfy `U`.  Every `BuiltU` forest is `Built`, with the same provenance. -/
theorem builtU_is_built {reg : Registry} {f : Forest} {prov : Loc → Option Nat} (h : BuiltU reg f prov) :
    Built reg f prov := h.toBuilt

/-- `Find` stores the tree it walked back into the forest even when nothing changed: `BuiltU` is closed
under that (the literal forest equality, not only the `tree?` answers), provenance unchanged. -/
theorem builtU_closed_store {reg : Registry} {f : Forest} {prov : Loc → Option Nat} (hb : BuiltU reg f prov)
    (t : Nat) (root : Entry) (ht : f.tree? t = some root) : BuiltU reg (f.setTree t root) prov :=
  Goyang.Lemmas.ConfigNsBuilt.builtU_store hb t root ht

/-- **`Find` creating an absent rpc input / output keeps a forest `BuiltU`** (hence `Built`): the
creation, at a proper existing path of any tree, at an rpc / action node that lacks the input (output),
commutes back through every earlier graft — into the tree grafted into or, when it happens inside a
child the graft added, into the grafted entry — and through every earlier `FixChoice`, down to the
conversion, where it meets a stamp-free tree.  The created node carries no stamp. -/
theorem builtU_closed_implicit {reg : Registry} {f : Forest} {prov : Loc → Option Nat} (hb : BuiltU reg f prov)
    (t : Nat) (root e : Entry) (p : Path) (b : Bool) (ht : f.tree? t = some root) (hg : root.getAt p = some e)
    (hr : e.d.isRpc = true) (hp : PathOK p) (he : SlotEmpty b e) :
    ∃ prov', Built reg (f.setTree t (root.updateAt p (Goyang.Spec.Find.addImplicit b))) prov' := by
  obtain ⟨prov', h⟩ := Goyang.Lemmas.ConfigNsBuilt.builtU_implicit hb t root e p b ht hg hr hp he
  exact ⟨prov', h.toBuilt⟩

/-- **The forest `processAll` applies its deviations to is `Built`, or some root carries an error** —
every registry, option set and plug.  (Errors recorded on a root are never removed: the third extra
step of `Built'` shows in the result.) -/
theorem preDev_built_or_rootError (reg : Registry) (opts : Opts) (plug : Plug) :
    (∃ prov, Built reg (Lemmas.Tree.preDev reg opts plug).forest prov) ∨
    (∃ t root, (Lemmas.Tree.preDev reg opts plug).forest.tree? t = some root ∧ root.d.errors ≠ []) := by
  rcases (Goyang.Lemmas.ConfigNsBuilt.bj_preDev reg opts plug).main with ⟨prov, hb⟩ | hd
  · exact Or.inl ⟨prov, hb.toBuilt⟩
  · exact Or.inr hd

/-- **C12's end-to-end statement, proved** (`C12.processAll_built_statement`): the forest of an
error-free `processAll` run without deviations is `Built` — conversion (`init`: every node of tree `id`
placed by (sub)module `id`), one `graft` per applied augment (the added children and everything below
them placed by the augmenting (sub)module), `FixChoice` (`fix`: placers kept under the path
translation, inserted cases placed by nobody).  The steps of the augment loop that `Built` has no
constructor for are accounted for: no error was recorded on a root (the run is error-free and such
errors stay), trees stored back unchanged change nothing, and every rpc input / output `Find` created
on the way is moved back to the conversion (`builtU_closed_implicit`). -/
theorem processAll_built : C12.processAll_built_statement := by
  intro reg opts plug hclean hnd
  obtain ⟨_, _, h3, _, h5⟩ := Lemmas.Tree.processAll_clean reg opts plug hclean
  rw [h5, devStage_no_deviations reg opts plug _ hnd]
  exact Goyang.Lemmas.ConfigNsBuilt.preDev_built_of_clean reg opts plug h3

/-- The same for the forest before the deviation stage, deviations or not. -/
theorem preDev_built_clean (reg : Registry) (opts : Opts) (plug : Plug)
    (hclean : (processAll reg opts plug).errors = []) :
    ∃ prov, Built reg (Lemmas.Tree.preDev reg opts plug).forest prov := by
  obtain ⟨_, _, h3, _, _⟩ := Lemmas.Tree.processAll_clean reg opts plug hclean
  exact Goyang.Lemmas.ConfigNsBuilt.preDev_built_of_clean reg opts plug h3

/-- **Namespace attribution, end to end, with the literal `Built`**: in the forest of an error-free
`processAll` run without deviations, every location placed by (sub)module `m` — a node of `m`'s own
tree, grouping content at any depth included, or a node grafted by one of `m`'s augments — reports the
namespace of the module `m` belongs to. -/
theorem processAll_namespace_placedBy (reg : Registry) (opts : Opts) (plug : Plug)
    (hclean : (processAll reg opts plug).errors = [])
    (hnd : ∀ m ∈ reg.mods, m.stmt.all "deviation" = []) :
    ∃ prov, Built reg (processAll reg opts plug).forest prov ∧
      ∀ (loc : Loc) (m : Nat) (root : Entry), (processAll reg opts plug).forest.tree? loc.1 = some root →
        prov loc = some m → namespaceAt reg (processAll reg opts plug).forest loc = ownerNs reg m := by
  obtain ⟨prov, hb⟩ := processAll_built reg opts plug hclean hnd
  exact ⟨prov, hb, fun loc m root hroot hp => C12.namespace_placedBy hb loc m root hroot hp⟩

end Literal

/-! ### runs WITH deviations: the literal class `BuiltD` -/
section DevLiteral
open Goyang.Lemmas.ConfigNsDevLit (BuiltD ioStep)
open Goyang.Lemmas.ConfigNsDev (BuiltX Removed)
open Goyang.Spec.Find (addImplicit)

/-- Every `Built` forest is `BuiltD` (Lemmas/ConfigNsDevLit.lean: `Built` + `implicit` + `retouch` +
`remove`, each with its provenance clause; no `congr`, no `rootErr`), with the same provenance. -/
theorem built_is_builtD {reg : Registry} {f : Forest} {prov : Loc → Option Nat} (h : Built reg f prov) :
    BuiltD reg f prov := Goyang.Lemmas.ConfigNsDevLit.Built.toBuiltD h

/-- Every `BuiltD` forest is `BuiltX reg false` (the class of `processAll_provenance`; its provenance
does not move the placer of a created input / output, hence "for some provenance"). -/
theorem builtD_is_builtX {reg : Registry} {f : Forest} {prov : Loc → Option Nat} (h : BuiltD reg f prov) :
    ∃ prov0, BuiltX reg false f prov0 := h.toBuiltX

/-- **Namespace attribution** (C12's `namespace_placedBy`) **for `BuiltD`**: in a forest built by
conversion, grafts, `FixChoice`, creation of absent rpc inputs / outputs, write-back of deviated nodes and
removal of not-supported ones, a location placed by the text of (sub)module `m` — a created input / output
counts as placed by the placer of its rpc — and not removed reports the namespace of the module `m`
belongs to. -/
theorem namespace_placedBy_builtD {reg : Registry} {f : Forest} {prov : Loc → Option Nat} (hb : BuiltD reg f prov)
    (loc : Loc) (m : Nat) (root : Entry) (hroot : f.tree? loc.1 = some root) (hp : prov loc = some m) :
    namespaceAt reg f loc = ownerNs reg m :=
  Goyang.Lemmas.ConfigNsDevLit.builtD_namespace hb loc m (by rw [hroot]; rfl) hp

/-- `Find` stores the tree it walked back into the forest even when nothing changed: `BuiltD` is closed
under that — the literal forest, with the same provenance (this replaces the `congr` step of `BuiltX`). -/
theorem builtD_closed_store {reg : Registry} {f : Forest} {prov : Loc → Option Nat} (hb : BuiltD reg f prov)
    (t : Nat) (root : Entry) (ht : f.tree? t = some root) : BuiltD reg (f.setTree t root) prov :=
  Goyang.Lemmas.ConfigNsDevLit.builtD_store hb t root ht

/-- **The implicitly created input / output is placed by the module of its rpc.**  When `Find` creates
the absent input (`b = true`) or output of the rpc / action `e` at path `p` of tree `t`, the forest stays
`BuiltD` with the provenance that differs only at the created location `p ++ [input]`, where it is the
placer `m` of the rpc; and the created node reports the namespace of the module `m` belongs to. -/
theorem created_io_placedBy_rpc {reg : Registry} {f : Forest} {prov : Loc → Option Nat} (hb : BuiltD reg f prov)
    (t : Nat) (root e : Entry) (p : Path) (b : Bool) (ht : f.tree? t = some root) (hg : root.getAt p = some e)
    (hr : e.d.isRpc = true) (he : if b = true then e.inp = [] else e.out = []) (m : Nat) (hp : prov (t, p) = some m) :
    ∃ prov', BuiltD reg (f.setTree t (root.updateAt p (addImplicit b))) prov' ∧
      prov' (t, p ++ [ioStep b]) = some m ∧ (∀ loc, loc ≠ (t, p ++ [ioStep b]) → prov' loc = prov loc) ∧
      namespaceAt reg (f.setTree t (root.updateAt p (addImplicit b))) (t, p ++ [ioStep b]) = ownerNs reg m := by
  classical
  have h1 : (fun loc => if loc = (t, p ++ [ioStep b]) then prov (t, p) else prov loc) (t, p ++ [ioStep b]) = prov (t, p) := by
    simp only [if_true]
  have hb' : BuiltD reg (f.setTree t (root.updateAt p (addImplicit b)))
      (fun loc => if loc = (t, p ++ [ioStep b]) then prov (t, p) else prov loc) :=
    BuiltD.implicit b hb ht hg hr he h1 (fun loc h => by simp only [h, if_false])
  refine ⟨_, hb', h1.trans hp, fun loc h => by simp only [h, if_false], ?_⟩
  exact Goyang.Lemmas.ConfigNsDevLit.builtD_namespace hb' (t, p ++ [ioStep b]) m
    (by simp only; rw [Lemmas.ForestAux.tree?_setTree, if_pos rfl, ht]; rfl) (h1.trans hp)

/-- **`Find` keeps "`BuiltD`, or some root carries an error"**, whatever path it is asked: the creations
are `implicit` steps, the store is absorbed, an unresolvable prefix records an error on a root. -/
theorem find_keeps_builtD_or_rootError (reg : Registry) (f : Forest) (start : Loc) (ctx : Nat) (name : String)
    (h : (∃ prov, BuiltD reg f prov) ∨ ∃ t root, f.tree? t = some root ∧ root.d.errors ≠ []) :
    (∃ prov, BuiltD reg (find reg f start ctx name).2 prov) ∨
      ∃ t root, (find reg f start ctx name).2.tree? t = some root ∧ root.d.errors ≠ [] :=
  Goyang.Lemmas.ConfigNsDevLit.bdv_find h start ctx name

/-- **The deviation stage keeps "`BuiltD`, or some root carries an error"** — every registry, option
set, plug and start forest; deviations that apply, fail, or remove nodes included. -/
theorem devStage_keeps_builtD_or_rootError (reg : Registry) (opts : Opts) (plug : Plug) (f0 : Forest)
    (h : (∃ prov, BuiltD reg f0 prov) ∨ ∃ t root, f0.tree? t = some root ∧ root.d.errors ≠ []) :
    (∃ prov, BuiltD reg (Lemmas.Tree.devStage reg opts plug f0).1 prov) ∨
      ∃ t root, (Lemmas.Tree.devStage reg opts plug f0).1.tree? t = some root ∧ root.d.errors ≠ [] :=
  Goyang.Lemmas.ConfigNsDevLit.devStage_bdv reg opts plug f0 h

/-- **C12's end-to-end statement for runs WITH deviations, literally**: the forest of an error-free
`processAll` run is `BuiltD` — conversion (`init`), one `graft` per applied augment, `FixChoice` (`fix`),
and in the deviation stage: creation of an rpc input / output the path of a deviation names (`implicit`:
placed by the rpc's placer), write-back of each deviated node (`retouch`: placer kept), removal by
`deviate not-supported` (`remove`: no placer).  No error-recording step and no `congr` step. -/
theorem processAll_built_with_deviations (reg : Registry) (opts : Opts) (plug : Plug)
    (hclean : (processAll reg opts plug).errors = []) :
    ∃ prov, BuiltD reg (processAll reg opts plug).forest prov :=
  Goyang.Lemmas.ConfigNsDevLit.processAll_builtD_clean reg opts plug hclean

/-- **End to end, on `processAll`, with the literal class.**  For an error-free run — deviations
included — there is a provenance `prov` of the returned forest, derived by `BuiltD` (initial nodes placed
by their tree's module, grafted nodes by the module of the augment, created rpc inputs / outputs by the
placer of the rpc, library-inserted cases and removed locations by nobody), such that for every tree and
every path of it: a location with a placer `m` reports the namespace of the module `m` belongs to, and
`ReadOnly()` is the specification's rule on the path of the returned tree. -/
theorem processAll_namespace_readOnly_literal (reg : Registry) (opts : Opts) (plug : Plug)
    (hclean : (processAll reg opts plug).errors = []) :
    ∃ prov, BuiltD reg (processAll reg opts plug).forest prov ∧
      ∀ (loc : Loc) (root : Entry), (processAll reg opts plug).forest.tree? loc.1 = some root →
        (∀ m, prov loc = some m → namespaceAt reg (processAll reg opts plug).forest loc = ownerNs reg m) ∧
        root.readOnlyAt loc.2 = readOnlyExact (configsAlong root loc.2) ∧
        (NoConfigTrueBelowOutput (configsAlong root loc.2) → root.readOnlyAt loc.2 = readOnly (configsAlong root loc.2)) := by
  obtain ⟨prov, hb⟩ := processAll_built_with_deviations reg opts plug hclean
  exact ⟨prov, hb, fun loc root hroot =>
    ⟨fun m hp => namespace_placedBy_builtD hb loc m root hroot hp, C12.readOnly_exact root loc.2,
      fun h => C12.readOnly_spec root loc.2 h⟩⟩

/-- The split of a literal path at `/` is the split of its character list, which `decide` evaluates
(`String.splitOn` itself does not reduce in the kernel). -/
theorem splitOn_slash_literal (s : String) : s.splitOn "/" = (s.toList.splitOn '/').map String.ofList :=
  Goyang.Lemmas.ConfigNsEval.splitOn_slash s

end DevLiteral

/-! ### non-vacuity -/
section Examples
open Goyang.Props.C04.Ex

/-- A forest of one stamp-free tree: the premise of the `init` constructors. -/
theorem oneTree_free (root : Entry) (h : noStampBelow root = true) :
    ∀ id t, Forest.tree? { trees := [(0, root)] } id = some t → noStampBelow t = true := by
  intro id t ht
  simp only [Forest.tree?, List.find?] at ht
  split at ht
  · rw [← Option.some.inj ht]; exact h
  · cases ht

theorem reg1_clean : (processAll reg1 {} plug).errors = [] ∧ (∀ m ∈ reg1.mods, m.stmt.all "deviation" = []) := by
  decide +kernel

/-- C04's example module satisfies the hypotheses of `processAll_builtPrime`. -/
example : (processAll reg1 {} plug).errors = [] ∧ (∀ m ∈ reg1.mods, m.stmt.all "deviation" = []) := reg1_clean

/-- The two new stamp-free constructors on a concrete forest: an rpc without written input; `Find`
creates it, the forest stays `Built'` with the provenance it had, and the created node reports the
namespace of the tree's module. -/
example :
    let rpc : Entry := .mk { name := "r", isRpc := true } [] [] []
    let root : Entry := .mk { name := "m" } [rpc] [] []
    let f : Forest := { trees := [(0, root)] }
    let f' : Forest := f.setTree 0 (root.updateAt [.child "r"] (Goyang.Spec.Find.addImplicit true))
    ∀ reg : Registry, Built' reg f' (fun loc => some loc.1) ∧
      namespaceAt reg f' (0, [.child "r", .input]) = ownerNs reg 0 := by
  intro rpc root f f' reg
  have hb : Built' reg f (fun loc => some loc.1) := Built'.init (oneTree_free root (by decide))
  have hb' : Built' reg f' (fun loc => some loc.1) :=
    Built'.implicit (t := 0) (root := root) (e := rpc) (p := [.child "r"]) true hb (by rfl) (by rfl)
      (by rw [if_pos rfl]; rfl)
  exact ⟨hb', built'_namespace hb' (0, [.child "r", .input]) 0 (by rfl) rfl⟩

/-- C04's example module satisfies the hypotheses of `processAll_built`, `processAll_namespace_placedBy`,
`preDev_built_clean`, `processAll_provenance` and `processAll_namespace_readOnly`; so its forest is `Built`. -/
example : ∃ prov, Built reg1 (processAll reg1 {} plug).forest prov :=
  processAll_built reg1 {} plug reg1_clean.1 reg1_clean.2

/-- The commutation on a concrete forest: module tree with an rpc `r` that has no written input and a
container `c`; an augment grafts a leaf under `c`; then `Find` creates the input of `r`.  The hypotheses
of `builtU_closed_implicit` hold, and the resulting forest is `Built`: the creation is moved back before
the graft. -/
example :
    let rpc : Entry := .mk { name := "r", isRpc := true } [] [] []
    let cont : Entry := .mk { name := "c" } [] [] []
    let root : Entry := .mk { name := "m" } [rpc, cont] [] []
    let aug : Entry := .mk { name := "/c" } [.mk { name := "x", kind := .leaf, hasDir := false } [] [] []] [] []
    let f : Forest := { trees := [(0, root)] }
    ∀ reg : Registry,
      let root' := root.updateAt [.child "c"] fun te => te.merge (some (ownerNs reg 0)) aug
      ∃ prov', Built reg ((f.setTree 0 root').setTree 0 (root'.updateAt [.child "r"] (Goyang.Spec.Find.addImplicit true))) prov' := by
  intro rpc cont root aug f reg root'
  have h0 : Goyang.Lemmas.ConfigNsBuilt.BuiltU reg f (fun loc => some loc.1) :=
    Goyang.Lemmas.ConfigNsBuilt.BuiltU.init (oneTree_free root (by decide))
  have h1 : Goyang.Lemmas.ConfigNsBuilt.BuiltU reg (f.setTree 0 root') (fun loc => some loc.1) :=
    Goyang.Lemmas.ConfigNsBuilt.BuiltU.graft (by_ := 0) (t := 0) (path := [.child "c"]) (root := root) (te := cont)
      (a := aug) (prov := fun loc => some loc.1) h0 (by rfl) (by rfl) (by decide) (by unfold Goyang.Lemmas.Tree.U; decide)
      (fun k hk => by simp only [List.mem_singleton, Step.child.injEq] at hk; subst hk; decide) rfl
      (by unfold Goyang.Lemmas.Tree.U; decide)
      (fun loc h => by rw [h.1]) (fun loc _ => rfl)
  exact builtU_closed_implicit h1 0 root' rpc [.child "r"] true (by rfl) (by rfl) rfl
    (fun k hk => by simp only [List.mem_singleton, Step.child.injEq] at hk; subst hk; decide) rfl

/-- The two constructors of the deviation stage on a concrete forest: `deviate replace { config false; }`
on the leaf `/c/x` (`retouch`: the placer stays, the namespace stays, `ReadOnly()` follows the written
config) and `deviate not-supported` on `/c/y` (`remove`: the removed location has no placer). -/
example :
    let x : Entry := .mk { name := "x", kind := .leaf, hasDir := false } [] [] []
    let x' : Entry := .mk { name := "x", kind := .leaf, hasDir := false, config := .false_ } [] [] []
    let y : Entry := .mk { name := "y", kind := .leaf, hasDir := false } [] [] []
    let root : Entry := .mk { name := "m" } [.mk { name := "c" } [x, y] [] []] [] []
    let f : Forest := { trees := [(0, root)] }
    let root1 := root.updateAt [.child "c", .child "x"] fun _ => x'
    let f1 := f.setTree 0 root1
    let f2 := f1.setTree 0 (removeAt root1 [.child "c", .child "y"])
    ∀ reg : Registry, ∃ prov, Goyang.Lemmas.ConfigNsDev.BuiltX reg false f2 prov ∧
      prov (0, [.child "c", .child "x"]) = some 0 ∧ prov (0, [.child "c", .child "y"]) = none ∧
      namespaceAt reg f2 (0, [.child "c", .child "x"]) = ownerNs reg 0 ∧
      root.readOnlyAt [.child "c", .child "x"] = false ∧
      (removeAt root1 [.child "c", .child "y"]).readOnlyAt [.child "c", .child "x"] = true := by
  intro x x' y root f root1 f1 f2 reg
  classical
  have h0 : Goyang.Lemmas.ConfigNsDev.BuiltX reg false f (fun loc => some loc.1) :=
    Goyang.Lemmas.ConfigNsDev.BuiltX.init (oneTree_free root (by decide))
  have h1 : Goyang.Lemmas.ConfigNsDev.BuiltX reg false f1 (fun loc => some loc.1) :=
    Goyang.Lemmas.ConfigNsDev.BuiltX.retouch (t := 0) (root := root) (node := x) (node' := x')
      (path := [.child "c", .child "x"]) h0 (by rfl) (by rfl) rfl rfl rfl rfl rfl rfl
  have h2 : Goyang.Lemmas.ConfigNsDev.BuiltX reg false f2
      (fun loc => if Goyang.Lemmas.ConfigNsDev.Removed 0 [.child "c", .child "y"] loc then none else some loc.1) :=
    Goyang.Lemmas.ConfigNsDev.BuiltX.remove (t := 0) (root := root1) (path := [.child "c", .child "y"])
      h1 (by rfl) (by simp) (by decide) (fun loc h => by simp only [h, if_true]) (fun loc h => by simp only [h, if_false])
  have hx : ¬ Goyang.Lemmas.ConfigNsDev.Removed 0 [.child "c", .child "y"] (0, [.child "c", .child "x"]) := by
    rintro ⟨_, h⟩
    have := (List.cons_prefix_cons.mp h).2
    have := (List.cons_prefix_cons.mp this).1
    revert this; decide
  have hy : Goyang.Lemmas.ConfigNsDev.Removed 0 [.child "c", .child "y"] (0, [.child "c", .child "y"]) :=
    ⟨rfl, List.prefix_refl _⟩
  refine ⟨_, h2, by simp only [hx, if_false], by simp only [hy, if_true], ?_, by decide, by decide⟩
  exact namespace_placedBy_dev h2 (0, [.child "c", .child "x"]) 0 _ (by rfl) (by simp only [hx, if_false])

/-- The hypotheses of `deviate_readOnly_target` on the same tree: `/c/x` gets `config false`. -/
example :
    let x : Entry := .mk { name := "x", kind := .leaf, hasDir := false } [] [] []
    let x' : Entry := .mk { name := "x", kind := .leaf, hasDir := false, config := .false_ } [] [] []
    let root : Entry := .mk { name := "m" } [.mk { name := "c" } [x] [] []] [] []
    (root.updateAt [.child "c", .child "x"] fun _ => x').readOnlyAt [.child "c", .child "x"] = true ∧
      root.readOnlyAt [.child "c", .child "x"] = false := by
  intro x x' root
  exact ⟨deviate_readOnly_target root [.child "c", .child "x"] x x' (by rfl) rfl (by decide) (by decide), by decide⟩

/-- A literal path split by evaluation: `splitOn_slash_literal` then `decide`. -/
example : "/a:c/b:x".splitOn "/" = ["", "a:c", "b:x"] ∧ "/a:r/a:input".splitOn "/" = ["", "a:r", "a:input"] := by
  rw [splitOn_slash_literal, splitOn_slash_literal]; decide

/-- `BuiltD` on a concrete forest: an rpc without written input; the tree is stored back unchanged
(`builtD_closed_store`), then `Find` creates the input (`created_io_placedBy_rpc`): the forest is `BuiltD`,
the created input is placed by module 0 — the placer of the rpc — and reports its namespace. -/
example :
    let rpc : Entry := .mk { name := "r", isRpc := true } [] [] []
    let root : Entry := .mk { name := "m" } [rpc] [] []
    let f : Forest := { trees := [(0, root)] }
    let f' : Forest := (f.setTree 0 root).setTree 0 (root.updateAt [.child "r"] (Goyang.Spec.Find.addImplicit true))
    ∀ reg : Registry, ∃ prov', Goyang.Lemmas.ConfigNsDevLit.BuiltD reg f' prov' ∧
      prov' (0, [.child "r", .input]) = some 0 ∧ namespaceAt reg f' (0, [.child "r", .input]) = ownerNs reg 0 := by
  intro rpc root f f' reg
  have h0 : Goyang.Lemmas.ConfigNsDevLit.BuiltD reg f (fun loc => some loc.1) :=
    Goyang.Lemmas.ConfigNsDevLit.BuiltD.init (oneTree_free root (by decide))
  have h1 := builtD_closed_store h0 0 root (by rfl)
  obtain ⟨prov', hb, hp, _, hns⟩ := created_io_placedBy_rpc h1 0 root rpc [.child "r"] true (by rfl) (by rfl) rfl
    (by rw [if_pos rfl]; rfl) 0 rfl
  exact ⟨prov', hb, hp, hns⟩


end Examples

/-! ### non-vacuity on `processAll`, evaluated by the kernel: a module set with an augment and deviations -/
namespace ExDev
open Goyang.Lemmas.Tree Goyang.Lemmas.IncludeAugK Goyang.Lemmas.ConfigNsEval

def st (file kw arg : String) (l c : Nat) (subs : List Stmt) : Stmt := .mk kw true arg file l c subs
def plug : Plug := Goyang.Props.C04.Ex.plug
/-- `module a`: a container `c` with a leaf `k`, an rpc `r` with neither input nor output written. -/
def aS : Stmt := st "a" "module" "a" 1 1 [st "a" "namespace" "urn:a" 2 3 [], st "a" "prefix" "a" 3 3 [],
  st "a" "container" "c" 4 3 [st "a" "leaf" "k" 5 5 [st "a" "type" "string" 5 12 []]],
  st "a" "rpc" "r" 6 3 []]
/-- `module b`: augments `/a:c` with a leaf `x`, deviates that leaf (`config false`), and has a deviation
whose path names the unwritten input of `a`'s rpc (`Find` creates it). -/
def bS : Stmt := st "b" "module" "b" 1 1 [st "b" "namespace" "urn:b" 2 3 [], st "b" "prefix" "b" 3 3 [],
  st "b" "import" "a" 4 3 [st "b" "prefix" "a" 4 12 []],
  st "b" "augment" "/a:c" 5 3 [st "b" "leaf" "x" 6 5 [st "b" "type" "string" 6 12 []]],
  st "b" "deviation" "/a:c/b:x" 7 3 [st "b" "deviate" "add" 8 5 [st "b" "config" "false" 8 18 []]],
  st "b" "deviation" "/a:r/a:input" 9 3 [st "b" "deviate" "add" 10 5 []]]
def R : Registry := (Registry.loadAll [aS, bS]).1

theorem stages : stage1Errs R plug = [] ∧ forestErrs (forest0 R {} plug) = [] := by decide +kernel

/-- The hypothesis of `processAll_built_with_deviations`, `processAll_namespace_readOnly_literal`,
`processAll_provenance`, `processAll_namespace_readOnly` and `preDev_built_clean` holds of this set
(augment and deviations applied; evaluated by the kernel through `processAll_errors_KD`). -/
theorem clean : (processAll R {} plug).errors = [] := by
  rw [processAll_errors_KD R {} plug stages.1 stages.2]; decide +kernel

theorem forestK : (processAll R {} plug).forest = (devStageK R {} plug (preDevK R {} plug).forest).1 :=
  processAll_forest_KD R {} plug stages.1 stages.2

/-- So its forest is `BuiltD`, with the conclusions of `processAll_namespace_readOnly_literal`. -/
example : ∃ prov, Goyang.Lemmas.ConfigNsDevLit.BuiltD R (processAll R {} plug).forest prov :=
  processAll_built_with_deviations R {} plug clean

/-- What the theorems speak about, evaluated independently of the proofs: the grafted leaf `/c/x` reports
`b`'s namespace and — after the deviation — is read-only; `a`'s own leaf `/c/k` reports `a`'s and is
not; the input of `r`, created by the lookup of the second deviation, exists and reports `a`'s namespace
(the module of the rpc). -/
theorem evaluated :
    namespaceAt R (processAll R {} plug).forest (0, [.child "c", .child "x"]) = "urn:b" ∧
    namespaceAt R (processAll R {} plug).forest (0, [.child "c", .child "k"]) = "urn:a" ∧
    namespaceAt R (processAll R {} plug).forest (0, [.child "r", .input]) = "urn:a" ∧
    (((processAll R {} plug).forest.tree? 0).bind (·.getAt [.child "r", .input])).isSome = true ∧
    (((processAll R {} plug).forest.tree? 0).map (·.readOnlyAt [.child "c", .child "x"])) = some true ∧
    (((processAll R {} plug).forest.tree? 0).map (·.readOnlyAt [.child "c", .child "k"])) = some false := by
  rw [forestK]; decide +kernel
end ExDev

/-! ### the corner that makes `implicit` a constructor: removal of a written rpc input, then a lookup through it -/
namespace ExCorner
open Goyang.Lemmas.Tree Goyang.Lemmas.IncludeAugK Goyang.Lemmas.ConfigNsEval
open ExDev (st plug)

/-- `module a`: an rpc `r` with a written input holding a leaf `q`. -/
def aS : Stmt := st "a" "module" "a" 1 1 [st "a" "namespace" "urn:a" 2 3 [], st "a" "prefix" "a" 3 3 [],
  st "a" "rpc" "r" 6 3 [st "a" "input" "" 7 5 [st "a" "leaf" "q" 8 7 [st "a" "type" "string" 8 14 []]]]]
/-- `module b`: `deviate not-supported` on that input, then a second deviation with the same path. -/
def bS : Stmt := st "b" "module" "b" 1 1 [st "b" "namespace" "urn:b" 2 3 [], st "b" "prefix" "b" 3 3 [],
  st "b" "import" "a" 4 3 [st "b" "prefix" "a" 4 12 []],
  st "b" "deviation" "/a:r/a:input" 7 3 [st "b" "deviate" "not-supported" 8 5 []],
  st "b" "deviation" "/a:r/a:input" 9 3 [st "b" "deviate" "add" 10 5 []]]
def R : Registry := (Registry.loadAll [aS, bS]).1

theorem stages : stage1Errs R plug = [] ∧ forestErrs (forest0 R {} plug) = [] := by decide +kernel

theorem clean : (processAll R {} plug).errors = [] := by
  rw [processAll_errors_KD R {} plug stages.1 stages.2]; decide +kernel

theorem forestK : (processAll R {} plug).forest = (devStageK R {} plug (preDevK R {} plug).forest).1 :=
  processAll_forest_KD R {} plug stages.1 stages.2


/-- The run is error-free; the written input was removed (its leaf `q` is gone) and an empty input was
created after the removal by the lookup of the second deviation; it reports the namespace of the rpc's
module.  No forest built without a creation step AFTER the removal has this shape. -/
theorem recreated :
    (((processAll R {} plug).forest.tree? 0).bind (·.getAt [.child "r", .input])).isSome = true ∧
    (((processAll R {} plug).forest.tree? 0).bind (·.getAt [.child "r", .input, .child "q"])).isSome = false ∧
    namespaceAt R (processAll R {} plug).forest (0, [.child "r", .input]) = "urn:a" := by
  rw [forestK]; decide +kernel

example : ∃ prov, Goyang.Lemmas.ConfigNsDevLit.BuiltD R (processAll R {} plug).forest prov :=
  processAll_built_with_deviations R {} plug clean
end ExCorner

end Goyang.Props.C12Bridge
