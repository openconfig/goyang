import Goyang.Model.StateInv
import Goyang.Gen.State
/-
Property C18, the static half of the tie between the session model and the code: every piece of
state a `yang.Modules` value carries between calls is accounted for.

The session model (Goyang/Model/Session.lean) carries the registry, the options and - for reads -
the outcome of the latest `process`; `process` recomputes everything else from the registry.  The
theorems of Props/C18.lean (idempotence, incremental = batch, no trace of a failed load) are about
that machine.  They speak about the Go value only if what the Go value keeps BESIDE the registry
cannot reach a later result.  The correspondence runner corr-c18 samples that dynamically (one
value vs batch on a fresh value vs model).  This file makes the inventory itself a proof
obligation over facts regenerated from the source on every run (harness/cmd/extract-state ->
Goyang/Gen/State.lean): a new cache, a dictionary that is no longer flushed, a memo that is no
longer generation-guarded makes `carried_state_justified` false before any history is run.

Which model component each derived field corresponds to (the model recomputes, the code caches;
"reset at the start of Process" is what makes the two agree):

  Go field (derived)                       | session / resolver model
  -----------------------------------------+---------------------------------------------------------------
  Modules.entryCache (+ every Entry, owned)| Session.cache = the Outcome of the latest `process`, rebuilt from
                                           |   nothing; inside one run ToEntry.TState.cache
  Modules.mergedSubmodule                  | ToEntry.TState.merged, empty at the start of every processAll
  Modules.includes                         | Process.includeWalk `visited`, recomputed by linkAll
  Import.Module, Include.Module            | Process.linkAll `linked` / Registry.findModule, recomputed
  Modules.byNS                             | Find.instantiatingModuleAt, recomputed from the registry per query
  identityDictionary.dict, Identity.Values | Identity.run: dictionary and value lists built from empty ones
  Type.YangType/resolveErrs,               | Types.resolveTypeE / resolveAllTypedefsE: functions, no memo;
  Typedef.YangType (+ YangType, owned)     |   the Go memo is valid for one generation = one Process
  typeDictionary.gen, *.resolvedGen        | (the generation scheme itself: nothing to model)
  call-scoped: Modules.entryInProgress,    | the `visiting` arguments of toEntry / resolveTypeE
  Type.resolving                           |
  registry: Modules.Modules/SubModules/    | Session.reg : Registry (modules, subModules, unrev*, mods)
  unrevisioned, Module.Modules,            |
  typeDictionary.dict                      | typedef lookup walks the statement trees of the registry
  config: Modules.ParseOptions, Path       | Session.opts (the search path is outside the machine)

What "reset or generation-guarded" buys is a theorem: Props/C18Cached.lean
defines `ResetDiscipline` over a table of this shape (the fields of the rows marked derived above,
each with its required reset class and no stray writer), proves that a machine which really keeps
that state between calls then refines the session model (`cached_refines_session`), evaluates the
predicate on the current table (`reset_discipline_holds`) and refutes the refinement for each reset
dropped.  `carried_state_justified` remains the obligation that NO OTHER field carries derived state.

What the facts mean and what the translator cannot see (aliases of the registry maps, writes by
reflection in the AST builder, reads that do not go through a field selection) is described at the
top of harness/cmd/extract-state/main.go; it is part of the trusted base in checks/C18.json.
-/
namespace Goyang.Props.C18State
open Goyang.Model.StateInv

/-- Every field of the carried state is either registry / configuration / a mutex according to the
reviewed allow-list, or written only by its pinned constructor / call-scoped writers, or derived
state that the start of `Modules.Process` resets completely or guards by a generation counter
and that only its pinned functions (and their private helpers) store into - as computed from the
current source.  A field the allow-list does not know is unjustified (unless
nothing in the package reads it); a derived field whose computed reset class is `partly` or
`absent` is unjustified. -/
theorem carried_state_justified : CarriedStateJustified Goyang.Gen.State.table = true := by decide +kernel

/-- The types whose fields are not listed one by one (Entry, YangType and their parts) can only be
held by the derived fields that own them. -/
theorem owned_types_confined : OwnedTypesConfined Goyang.Gen.State.owned = true := by decide +kernel

/-- No package-level variable of package yang is written outside package initialisation (or the
allow-list explains it). -/
theorem globals_written_during_init_only : GlobalsExplained Goyang.Gen.State.globals = true := by decide +kernel

/-! Non-vacuity: the table is not empty, it contains derived fields of both kinds, and the
predicate does reject what it is meant to reject. -/

example : Goyang.Gen.State.table.length ≥ 25 := by decide +kernel
example : (Goyang.Gen.State.table.filter fun f => f.allow == .derived && f.reset == .full).length ≥ 8 := by decide +kernel
example : (Goyang.Gen.State.table.filter fun f => f.allow == .derived && f.reset == .generation).length ≥ 3 := by decide +kernel

/-- a new cache field on Modules that nobody classified (the shape of seeded change C06-b2), even
though ClearEntryCache resets it -/
private def newCache : Field :=
  { owner := "Modules", name := "groupingCache", type := "map[groupingKey]*Grouping", exported := false, allow := .unknown,
    reset := .full, reads := 2, writers := ["Modules.ClearEntryCache", "Modules.findGrouping"], pinned := [] }

example : CarriedStateJustified (newCache :: Goyang.Gen.State.table) = false := by decide +kernel
example : (unjustified (newCache :: Goyang.Gen.State.table)).contains "Modules.groupingCache" = true := by decide +kernel
example : unjustified [newCache] = ["Modules.groupingCache"] := by decide +kernel

/-- a derived field that lost its reset: the namespace cache pruned instead of flushed (C18-c1) -/
private def prunedCache : Field :=
  { owner := "Modules", name := "byNS", type := "map[string]*Module", exported := false, allow := .derived,
    reset := .partly, reads := 2, writers := ["Modules.FindModuleByNamespace", "Modules.Process"], pinned := [] }

example : CarriedStateJustified [prunedCache] = false := by decide +kernel
example : CarriedStateJustified (prunedCache :: Goyang.Gen.State.table) = false := by decide +kernel

/-- a memo that is no longer generation-guarded (C09-b2) -/
private def lostStamp : Field :=
  { owner := "Typedef", name := "YangType", type := "*YangType", exported := true, allow := .derived,
    reset := .absent, reads := 3, writers := ["Typedef.resolve"], pinned := [] }

example : lostStamp.justified = false := by decide +kernel
example : ({ lostStamp with reset := .generation } : Field).justified = true := by decide +kernel

/-- a derived cache that is properly flushed but gets a new storing writer outside the flush and
the lookup (C18-f2: `add` -> `supersedeNamespace` rewrites `byNS`, and `restoreNames` does not undo
it when the text is refused) -/
private def newWriter : Field :=
  { owner := "Modules", name := "byNS", type := "map[string]*Module", exported := false, allow := .derived,
    reset := .full, reads := 3, writers := ["Modules.FindModuleByNamespace", "Modules.Process", "Modules.supersedeNamespace"],
    pinned := ["Modules.FindModuleByNamespace"], stray := ["Modules.supersedeNamespace"] }

example : newWriter.justified = false := by decide +kernel
example : ({ newWriter with stray := [] } : Field).justified = true := by decide +kernel

/-- derived state reset on the load path (C18-i22: `add` calls `ClearEntryCache` when a bare name
changes hands; `Parse` withdraws the registrations of a refused text but not the dropped cache) -/
private def resetOnLoadPath : Field :=
  { owner := "Modules", name := "entryCache", type := "map[Node]*Entry", exported := false, allow := .derived,
    reset := .full, reads := 1, writers := ["Modules.ClearEntryCache", "Modules.setEntryCache"],
    pinned := ["Modules.setEntryCache"], stray := ["Modules.add -> Modules.ClearEntryCache"] }

example : resetOnLoadPath.justified = false := by decide +kernel

/-- an element-wise reset that does not range over every module container (the tree before the D66
repair: the unlink loop of Process skipped `ms.unrevisioned`) is classified `partly` -/
private def partialUnlink : Field :=
  { owner := "Include", name := "Module", type := "*Module", exported := true, allow := .derived,
    reset := .partly, reads := 16, writers := ["Modules.Process", "Modules.include"], pinned := ["Modules.include"] }

example : partialUnlink.justified = false := by decide +kernel

/-- an informational field that nothing in the package reads needs no entry -/
private def infoField : Field :=
  { owner := "Modules", name := "loads", type := "int", exported := false, allow := .unknown, reset := .absent, reads := 0,
    writers := ["Modules.Parse"], pinned := [] }

example : infoField.justified = true := by decide +kernel

/-- a call-scoped field written by a function outside its pinned writers -/
private def strayWriter : Field :=
  { owner := "Modules", name := "entryInProgress", type := "map[Node]bool", exported := false, allow := .callScoped,
    reset := .absent, reads := 2, writers := ["Modules.beginEntry", "Modules.Process"],
    pinned := ["Modules.beginEntry", "Modules.endEntry"] }

example : strayWriter.justified = false := by decide +kernel

end Goyang.Props.C18State
