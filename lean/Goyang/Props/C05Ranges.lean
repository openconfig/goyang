import Goyang.Gen.MapRanges
/-
Property C05, the tie of the order-independence argument to the Go source: every iteration of
pkg/yang, pkg/yangentry and the command whose order the Go runtime randomises (a `range` over a
map), or that inherits such an order (a slice filled in map order and not sorted since, a helper
that walks a map for its caller), is justified.  The table is regenerated from the source by
harness/cmd/extract-ranges on every run of the check; a new unsorted walk, a sort that is
removed, a tie-break that is dropped from a comparator the allow-list relies on, or one more site
than was reviewed makes this theorem fail, and the translator's notes name the site.
-/
namespace Goyang.Props.C05Ranges
open Goyang.Model.MapRanges

theorem map_ranges_justified :
    AllRangesJustified Gen.MapRanges.allow Gen.MapRanges.facts Gen.MapRanges.table = true := by
  decide +kernel

/-- Consequently no record is left over. -/
theorem none_unjustified : unjustified Gen.MapRanges.allow Gen.MapRanges.table = [] := by
  have h := map_ranges_justified
  rw [AllRangesJustified, Bool.and_eq_true, List.all_eq_true] at h
  exact List.filter_eq_nil_iff.mpr fun r hr => by rw [h.1 r hr]; decide

/-! The obligation can fail: one unjustified walk, one site too many, or a weakened fact. -/

private def sorted : Range :=
  { pkg := "yang", anchor := "(*Modules).Process", inFunc := "(*Modules).Process", kind := "map", expr := "Modules.Modules",
    text := "ms.Modules", keyUsed := true, valUsed := false, cls := "collect-then-sort", effects := ["append[]string"], calls := [] }
private def unsortedWalk : Range :=
  { sorted with cls := "other", effects := ["append[]*yang.Module", "escapes-unsorted"] }
private def fixChoiceWalk : Range :=
  { sorted with cls := "other", effects := ["call:yang.(*Entry).FixChoice", "call:yang.ToEntry"], calls := ["yang.(*Entry).FixChoice", "yang.ToEntry"] }
private def identityWalk : Range :=
  { sorted with cls := "other", expr := "identityDictionary.dict", effects := ["append[]error", "fieldwrite:Identity.Values"] }

example : AllRangesJustified Gen.MapRanges.allow Gen.MapRanges.facts [sorted, fixChoiceWalk, fixChoiceWalk, identityWalk] = true := by
  decide +kernel
/-- a walk that collects without sorting (the revert of 7ac0549 or e4590d2) -/
example : AllRangesJustified Gen.MapRanges.allow Gen.MapRanges.facts [sorted, unsortedWalk] = false := by decide +kernel
example : unjustified Gen.MapRanges.allow [sorted, unsortedWalk] = [unsortedWalk] := by decide +kernel
/-- a third FixChoice-like walk over the modules where two were reviewed -/
example : AllRangesJustified Gen.MapRanges.allow Gen.MapRanges.facts [fixChoiceWalk, fixChoiceWalk, fixChoiceWalk] = false := by
  decide +kernel
/-- the identity walks rely on a comparator with two keys (the revert of 605766b leaves one) -/
example : AllRangesJustified Gen.MapRanges.allow [{ name := "yang *yang.Identity", value := 1 }] [identityWalk] = false := by
  decide +kernel
example : AllRangesJustified Gen.MapRanges.allow [{ name := "yang *yang.Identity", value := 2 }] [identityWalk] = true := by
  decide +kernel
/-- with an empty allow-list only the classified walks pass -/
example : AllRangesJustified [] [] [sorted] = true ∧ AllRangesJustified [] [] [fixChoiceWalk] = false := by decide +kernel

end Goyang.Props.C05Ranges
