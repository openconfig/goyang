import Goyang.Lemmas.PositionsSem
import Goyang.Lemmas.PositionsAst
import Goyang.Lemmas.PositionsTypes
import Goyang.Lemmas.PositionsWho
import Goyang.Lemmas.PositionsTypesWho
import Goyang.Lemmas.Uses
import Goyang.Gen.AstSchema
import Goyang.Props.C03
/-
C16 — reported source positions are the true positions (DESIGN.md 7.16), semantic part:
"Every file:line:column that appears in an error from building or resolving a module is the start
of a statement of that file, namely the unknown substatement itself, the statement that lacks a
mandatory substatement, or the type, uses, range, length or enum statement whose name or value is
bad."

The lexer / parser part (what the position of a statement *is*) is Props/C16.lean.  Here the
positions are the `file`/`line`/`col` fields of the statements handed to the resolver model
(`Goyang.Model.processAll`) and to the AST builder model (`Goyang.Model.Ast.build`).
Specification: Goyang/Spec/Positions.lean (`Names`: entry and type layer classes) and
Goyang/Spec/PositionsWho.lean (`Who`: the classes of the resolver's own stages).

What is proved, for every registry, every option set and the assembled pipeline (`plugFull`), no
hypothesis left:
 * `pipeline_positions_are_statement_starts`: every positioned error is a statement start;
 * `pipeline_positions_name_the_statement` (`Names`): unknown-group ⇒ the `uses`; list attributes ⇒
   that substatement; tristate ⇒ the holder; type / range / length / enum errors ⇒ that statement;
 * `pipeline_positions_who` (`Names` and `Who`), with one named corollary per class:
   `duplicate_key_position` (the PARENT statement, which has a data definition substatement),
   `duplicate_node_position` (the `grouping` of a `uses`, the `augment`, the included (sub)module
   statement), `augment_not_found_position` (an `augment` statement directly below a (sub)module
   statement) and `augment_not_found_left_over` (of an augment that is still pending when the loop
   and all retry rounds are over), `deviate_unknown_kind_position`
   (the `deviation` statement holding the `deviate` of unknown kind), `deviation_error_position` (the
   top statement of the deviating module, holding a `deviation` with a `deviate` of the kind the
   class belongs to); `processFiles_positions_who` from the files.
What remains outside the theorems (checked by the fault injector corr-c16sem and by C07's
theorems only): for `duplicate-key`, WHICH two children collide (the site lemma
`duplicate_key_iff_child_exists` says: exactly when a child of that name exists); for
`augment-not-found`, that the left-over augment named failed in the sweep itself (it is proved to be
one the loop and the retry rounds left pending; that nothing left pending there can be applied later
is the fixpoint argument behind the D67 repair, not proved here); for `duplicate-node` of an augment,
that the augment named is the one whose own children collided (`Goyang.Props.C07.application_errors`,
`loop_error_set` describe the error set of the loop per attempt); for the deviation classes, WHICH of several
`deviation` statements of the module (the model, like Go, reports the module statement).
-/
namespace Goyang.Props.C16Sem
open Goyang.Model Goyang.Spec.Positions Goyang.Lemmas.PositionsSem

/-! ## Resolver: every position is a statement start -/

/-- The assumption on the plugged layers, spelled out: every positioned error they return, when
asked about `type` statements of loaded modules, is the start of a statement of a loaded module. -/
theorem plugPositionsOK_iff (reg : Registry) (plug : Plug) : PlugPositionsOK reg plug ↔
    ((∀ root scope t, root ∈ reg.mods → Within t root.stmt → t.kw = "type" → (∀ s ∈ scope, Within s root.stmt) →
        ∀ e ∈ (plug.tres.resolve reg root scope t).2, Positioned e → StmtPositions reg e.file e.line e.col) ∧
      (∀ e ∈ plug.identityErrs reg, Positioned e → StmtPositions reg e.file e.line e.col) ∧
      (∀ e ∈ plug.typedefErrs reg, Positioned e → StmtPositions reg e.file e.line e.col)) := by
  constructor
  · intro h
    exact ⟨fun root scope t h1 h2 h3 h4 e he => posOK_of_posAt (h.resolve root scope t h1 h2 h3 h4 e he),
      fun e he => posOK_of_posAt (h.identity e he), fun e he => posOK_of_posAt (h.typedefs e he)⟩
  · rintro ⟨h1, h2, h3⟩
    exact ⟨fun root scope t a b c d e he => posAt_true_of_posOK (h1 root scope t a b c d e he),
      fun e he => posAt_true_of_posOK (h2 e he), fun e he => posAt_true_of_posOK (h3 e he)⟩

/-- A plug that reports no errors (e.g. the placeholder type layer `TypesLite`) satisfies the
assumption, for every class / statement relation. -/
theorem errorfree_plug_ok (K : String → Stmt → Prop) (reg : Registry) (plug : Plug)
    (h1 : ∀ root scope t, (plug.tres.resolve reg root scope t).2 = []) (h2 : plug.identityErrs reg = [])
    (h3 : plug.typedefErrs reg = []) : PlugPositionsAt K reg plug :=
  ⟨fun root scope t _ _ _ _ e he => (by rw [h1] at he; cases he), fun e he => (by rw [h2] at he; cases he),
    fun e he => (by rw [h3] at he; cases he)⟩

/-- Every position that appears in an error returned by `Modules.Process` is the start of a
statement of a loaded module or submodule — provided the plugged layers (type, identity and
typedef resolution) keep the same discipline.  Invariant behind it: an error is only ever built
as `Err.at_ s cls` with `s` a statement of a loaded module (or the `node` of an entry, which is
one), or as `Err.bare cls`. -/
theorem semantic_positions_are_statement_starts (reg : Registry) (opts : Opts) (plug : Plug)
    (hplug : PlugPositionsOK reg plug) :
    ∀ e ∈ (processAll reg opts plug).errors, Positioned e → StmtPositions reg e.file e.line e.col :=
  fun e he => posOK_of_posAt (Goyang.Lemmas.PositionsWho.processAll_errors_okS sites_true hplug opts e he)

/-- The same in executable form: every returned error passes the Boolean check against the list
of all statement starts of the loaded set. -/
theorem semantic_positions_check (reg : Registry) (opts : Opts) (plug : Plug)
    (hplug : PlugPositionsOK reg plug) :
    (processAll reg opts plug).errors.all (posOKb reg) = true := by
  rw [List.all_eq_true]
  intro e he
  exact (posOKb_iff reg e).2 (semantic_positions_are_statement_starts reg opts plug hplug e he)

/-- `allPositions` is the set the specification speaks about. -/
theorem allPositions_spec (reg : Registry) (f : String) (l c : Nat) :
    (f, l, c) ∈ allPositions reg ↔ StmtPositions reg f l c := mem_allPositions_iff reg f l c

/-! ## Resolver: the position is that of the statement the error names -/

/-- The finer claim: a positioned error returned by `Modules.Process` stands at the start of a
statement of a loaded module that its class names (`Names`): the `uses` statement of an unknown
grouping, the `ordered-by` / `max-elements` / `min-elements` statement with the bad value, the
statement holding a bad `config` / `mandatory`, and — as far as the plugged type layer keeps the
discipline (`plugFull` does: `plugFull_keeps_positions`) — the `type`, `range`, `length`, `enum` or
`bit` statement. -/
theorem semantic_positions_name_the_statement (reg : Registry) (opts : Opts) (plug : Plug)
    (hplug : PlugPositionsAt Names reg plug) :
    ∀ e ∈ (processAll reg opts plug).errors, Positioned e → ∃ s, StmtOf reg s ∧ At e s ∧ Names e.cls s :=
  fun e he => Goyang.Lemmas.PositionsWho.processAll_errors_okS sites_names hplug opts e he

/-- Unknown grouping ⇒ the `uses` statement. -/
theorem unknown_grouping_position (reg : Registry) (opts : Opts) (plug : Plug)
    (hplug : PlugPositionsAt Names reg plug) (e : Err) (he : e ∈ (processAll reg opts plug).errors)
    (hp : Positioned e) (hc : e.cls = "unknown-group") : ∃ s, StmtOf reg s ∧ At e s ∧ s.kw = "uses" := by
  obtain ⟨s, h1, h2, hUses, hOrd, hMax, hMin, hTri, hType, hPfx, hRange, hLen, hNeg, hEnum⟩ := semantic_positions_name_the_statement reg opts plug hplug e he hp
  exact ⟨s, h1, h2, hUses hc⟩

/-- Bad `ordered-by`, `max-elements`, `min-elements` ⇒ that substatement. -/
theorem list_attribute_position (reg : Registry) (opts : Opts) (plug : Plug)
    (hplug : PlugPositionsAt Names reg plug) (e : Err) (he : e ∈ (processAll reg opts plug).errors)
    (hp : Positioned e) :
    (e.cls = "bad-ordered-by" → ∃ s, StmtOf reg s ∧ At e s ∧ s.kw = "ordered-by") ∧
    (e.cls = "bad-max-elements" → ∃ s, StmtOf reg s ∧ At e s ∧ s.kw = "max-elements") ∧
    (e.cls = "bad-min-elements" → ∃ s, StmtOf reg s ∧ At e s ∧ s.kw = "min-elements") := by
  obtain ⟨s, h1, h2, hUses, hOrd, hMax, hMin, hTri, hType, hPfx, hRange, hLen, hNeg, hEnum⟩ := semantic_positions_name_the_statement reg opts plug hplug e he hp
  exact ⟨fun hc => ⟨s, h1, h2, hOrd hc⟩, fun hc => ⟨s, h1, h2, hMax hc⟩, fun hc => ⟨s, h1, h2, hMin hc⟩⟩

/-- Bad `config` / `mandatory` value ⇒ the statement that holds it (the node being converted). -/
theorem tristate_position (reg : Registry) (opts : Opts) (plug : Plug)
    (hplug : PlugPositionsAt Names reg plug) (e : Err) (he : e ∈ (processAll reg opts plug).errors)
    (hp : Positioned e) (hc : e.cls = "bad-tristate") :
    ∃ s, StmtOf reg s ∧ At e s ∧ ∃ v ∈ s.subs, (v.kw = "config" ∨ v.kw = "mandatory") ∧ v.arg ≠ "true" ∧ v.arg ≠ "false" := by
  obtain ⟨s, h1, h2, hUses, hOrd, hMax, hMin, hTri, hType, hPfx, hRange, hLen, hNeg, hEnum⟩ := semantic_positions_name_the_statement reg opts plug hplug e he hp
  exact ⟨s, h1, h2, hTri hc⟩

/-- Unknown type name or prefix, bad range, bad length ⇒ the `type`, `range`, `length` statement
(this is what the assumption on the plugged type layer says; the theorem carries it through the
entry layer, the augment stage and the deviation stage). -/
theorem type_error_position (reg : Registry) (opts : Opts) (plug : Plug)
    (hplug : PlugPositionsAt Names reg plug) (e : Err) (he : e ∈ (processAll reg opts plug).errors)
    (hp : Positioned e) :
    ((e.cls = "unknown-type" ∨ e.cls = "unknown-prefix") → ∃ s, StmtOf reg s ∧ At e s ∧ s.kw = "type") ∧
    (e.cls = "bad-range" → ∃ s, StmtOf reg s ∧ At e s ∧ s.kw = "range") ∧
    ((e.cls = "bad-length" ∨ e.cls = "negative-length") → ∃ s, StmtOf reg s ∧ At e s ∧ s.kw = "length") := by
  obtain ⟨s, h1, h2, _, _, _, _, _, k6, k7, k8, k9, k10, _⟩ := semantic_positions_name_the_statement reg opts plug hplug e he hp
  refine ⟨?_, fun hc => ⟨s, h1, h2, k8 hc⟩, ?_⟩
  · rintro (hc | hc)
    · exact ⟨s, h1, h2, k6 hc⟩
    · exact ⟨s, h1, h2, k7 hc⟩
  · rintro (hc | hc)
    · exact ⟨s, h1, h2, k9 hc⟩
    · exact ⟨s, h1, h2, k10 hc⟩

/-- A rejected enum or bit member (duplicate name, duplicate / too small / too large value, no
value left) ⇒ that `enum` / `bit` statement. -/
theorem enum_error_position (reg : Registry) (opts : Opts) (plug : Plug)
    (hplug : PlugPositionsAt Names reg plug) (e : Err) (he : e ∈ (processAll reg opts plug).errors)
    (hp : Positioned e) (hc : e.cls ∈ enumClasses) : ∃ s, StmtOf reg s ∧ At e s ∧ (s.kw = "enum" ∨ s.kw = "bit") := by
  obtain ⟨s, h1, h2, hUses, hOrd, hMax, hMin, hTri, hType, hPfx, hRange, hLen, hNeg, hEnum⟩ := semantic_positions_name_the_statement reg opts plug hplug e he hp
  exact ⟨s, h1, h2, hEnum hc⟩

/-! ### the sites themselves (no assumption on the plugged layers) -/

/-- A `uses` statement whose grouping is not found converts to an entry holding exactly one error:
`unknown-group` at the `uses` statement. -/
theorem uses_of_unknown_grouping (env : Env) (fuel : Nat) (root : Mod) (scope : List Stmt) (n : Stmt)
    (visiting : List NodeId) (st : TState) (hkw : n.kw = "uses")
    (hnone : (findGrouping env.reg env.linked (2 * fuel + 16) root scope n.arg []).1 = none) :
    toEntry env (fuel + 1) root scope n visiting st = (errorEntry root n "unknown-group", st) ∧
    (errorEntry root n "unknown-group").allErrors = [Err.at_ n "unknown-group"] := by
  refine ⟨?_, by simp [errorEntry, Entry.allErrors, Entry.allErrorsL]⟩
  rw [Lemmas.Tree.toEntry_succ]
  unfold Lemmas.Tree.toEntryBody
  simp [hkw, hnone]

/-- Duplicate key ⇒ the parent: `Entry.add` records at most one error, positioned at the source
statement of the entry being extended (for the entry `toEntry` builds from a statement `n` that
is `n`: `Lemmas.Tree.e0_data`). -/
theorem duplicate_key_at_parent (e : Entry) (k : String) (v : Entry) :
    (e.add k v).d.errors = e.d.errors ∨ (e.add k v).d.errors = e.d.errors ++ [Err.at_ e.d.node "duplicate-key"] := by
  unfold Entry.add
  split
  · right; cases e; rfl
  · left; cases e; rfl

/-- Bad tristate ⇒ the node. -/
theorem tristate_error_at_node (n : Stmt) (v : Option Stmt) :
    ∀ x ∈ (tristate n v).2, x = Err.at_ n "bad-tristate" := fun x hx => (tristate_errs n v x hx).1

/-- `ordered-by`, `max-elements`, `min-elements` ⇒ that substatement. -/
theorem list_attribute_errors_at_substatement (s : Stmt) : ∀ x ∈ (listAttrOf s).2,
    (∃ o, s.one? "ordered-by" = some o ∧ x = Err.at_ o "bad-ordered-by") ∨
    (∃ v, s.one? "max-elements" = some v ∧ x = Err.at_ v "bad-max-elements") ∨
    (∃ v, s.one? "min-elements" = some v ∧ x = Err.at_ v "bad-min-elements") := listAttrOf_errs s

/-! ## The assembled pipeline: no assumption left

`Goyang.Model.plugFull` plugs the type layer (`Goyang.Model.Types`: `Type.resolve`,
`resolveTypedefs`) and the identity layer (`Goyang.Model.Identity`: `resolveIdentities`) into
`processAll`.  Both keep the discipline, in the finer form. -/

/-- The type, typedef and identity layers of the pipeline only report statements of loaded
modules: unknown type name or prefix ⇒ the `type` statement; bad range / length ⇒ the `range` /
`length` statement; rejected enum or bit member ⇒ that `enum` / `bit` statement; a typedef without
usable type ⇒ the `typedef`; identity errors ⇒ the module statement, the `belongs-to` statement or
the `identity` statement. -/
theorem plugFull_keeps_positions (reg : Registry) : PlugPositionsAt Names reg (plugFull reg) :=
  Goyang.Lemmas.PositionsTypes.plugFull_positions reg

/-- `Modules.Process` with all layers in place: every position is a statement start … -/
theorem pipeline_positions_are_statement_starts (reg : Registry) (opts : Opts) :
    ∀ e ∈ (processAll reg opts (plugFull reg)).errors, Positioned e → StmtPositions reg e.file e.line e.col :=
  fun e he => posOK_of_posAt (Goyang.Lemmas.PositionsWho.processAll_errors_okS sites_names (plugFull_keeps_positions reg) opts e he)

/-- … namely that of the statement the error names. -/
theorem pipeline_positions_name_the_statement (reg : Registry) (opts : Opts) :
    ∀ e ∈ (processAll reg opts (plugFull reg)).errors, Positioned e → ∃ s, StmtOf reg s ∧ At e s ∧ Names e.cls s :=
  semantic_positions_name_the_statement reg opts (plugFull reg) (plugFull_keeps_positions reg)

/-- From the files: every positioned error of the whole pipeline after generic parsing
(`processFiles`: load every file, then `Process`) stands at the start of a statement `s` that occurs
in one of the given files (below a top-level statement `top` of file `f`), and `s` is the statement
the error's class names. -/
theorem processFiles_positions (opts : Opts) (files : List SrcFile) (out : Outcome)
    (h : processFiles opts files = .ok out) :
    ∀ e ∈ out.errors, Positioned e →
      ∃ f ∈ files, ∃ top ∈ f.stmts, ∃ s, Within s top ∧ At e s ∧ Names e.cls s := by
  unfold processFiles at h
  split at h
  · cases h
  · simp only [Except.ok.injEq] at h
    subst h
    intro e he hp
    obtain ⟨s, ⟨m, hm, hw⟩, hat, hn⟩ := pipeline_positions_name_the_statement (loadFiles files) opts e he hp
    obtain ⟨f, hf, htop⟩ := Goyang.Lemmas.PositionsTypes.loadFiles_mods files m hm
    exact ⟨f, hf, m.stmt, htop, s, hw, hat, hn⟩

/-! ## Resolver: WHICH statement the errors of the resolver's own stages name

`Names` leaves the classes of the resolver's own stages unconstrained.  `Who reg`
(Goyang/Spec/PositionsWho.lean) says which statement they name, as the (frozen) model does it —
which is what the Go code does (`Source(e.Node)` / `Source(oe.Node)` / `Source(a.Node)` / the
deviating module):

 * `duplicate-key`: the PARENT statement under which a data definition substatement could not be
   added (not the second of the two colliding children: `Entry.add` reports `Source(e.Node)`);
 * `duplicate-node`: the statement whose children were being merged in — the `grouping` a `uses`
   refers to, the `augment` statement, the `module` / `submodule` statement of an included submodule;
 * `augment-not-found`: the `augment` statement that could not be applied;
 * `deviate-unknown-kind`: the `deviation` statement holding a `deviate` of unknown kind;
 * the positioned classes of the deviation stage (`devStageClasses`): the top statement of the
   deviating (sub)module, which holds a `deviation` statement with a `deviate` of the kind the
   class belongs to.

Proof: the traversal of the whole pipeline (Lemmas/PositionsWho.lean) carries what this needs (the
`node` of every entry IS a statement of a loaded module; results of `toEntry` have the converted
statement, a cached (sub)module or the grouping of a `uses` as their source; pending augments come
from `augment` statements); the plugged layers build none of these classes
(Lemmas/PositionsTypesWho.lean). -/

/-- A plug that reports no errors satisfies the assumption also for `NamesW reg`. -/
theorem errorfree_plug_ok_who (reg : Registry) (plug : Plug)
    (h1 : ∀ root scope t, (plug.tres.resolve reg root scope t).2 = []) (h2 : plug.identityErrs reg = [])
    (h3 : plug.typedefErrs reg = []) : PlugPositionsAt (NamesW reg) reg plug :=
  errorfree_plug_ok _ reg plug h1 h2 h3

/-- Every positioned error returned by `Modules.Process` stands at the start of a statement `s` of
a loaded module that its class names, for ALL classes of the resolver: `Names` (entry and type
layer) and `Who reg` (duplicate keys and nodes, augment targets, deviations) — provided the plugged
layers keep the discipline (`plugFull` does: `plugFull_keeps_positions_who`). -/
theorem semantic_positions_who (reg : Registry) (opts : Opts) (plug : Plug)
    (hplug : PlugPositionsAt (NamesW reg) reg plug) :
    ∀ e ∈ (processAll reg opts plug).errors, Positioned e →
      ∃ s, StmtOf reg s ∧ At e s ∧ Names e.cls s ∧ Who reg e.cls s := by
  intro e he hp
  obtain ⟨s, h1, h2, h3, h4⟩ := Goyang.Lemmas.PositionsWho.processAll_errors_okW opts hplug e he hp
  exact ⟨s, h1, h2, h3, h4⟩

/-- The type, typedef and identity layers of the pipeline keep the discipline for `NamesW reg` (in
particular they never report one of the classes `Who` speaks about). -/
theorem plugFull_keeps_positions_who (reg : Registry) : PlugPositionsAt (NamesW reg) reg (plugFull reg) :=
  Goyang.Lemmas.PositionsTypesWho.plugFull_positionsW reg

/-- `Modules.Process` with all layers in place, no assumption left: every positioned error stands
at the statement its class names, for all classes. -/
theorem pipeline_positions_who (reg : Registry) (opts : Opts) :
    ∀ e ∈ (processAll reg opts (plugFull reg)).errors, Positioned e →
      ∃ s, StmtOf reg s ∧ At e s ∧ Names e.cls s ∧ Who reg e.cls s :=
  semantic_positions_who reg opts (plugFull reg) (plugFull_keeps_positions_who reg)

/-- Duplicate key ⇒ the PARENT: the error stands at a statement of a loaded module that has a data
definition substatement (`keyKws`: the keywords `ToEntry` adds to the parent's `Dir`) of a kind that
`ToEntry` converts below a statement with the parent's keyword (`fieldOrder`). -/
theorem duplicate_key_position (reg : Registry) (opts : Opts) (e : Err)
    (he : e ∈ (processAll reg opts (plugFull reg)).errors) (hp : Positioned e) (hc : e.cls = "duplicate-key") :
    ∃ s, StmtOf reg s ∧ At e s ∧ ∃ c ∈ s.subs, c.kw ∈ keyKws ∧ c.kw ∈ fieldOrder s.kw := by
  obtain ⟨s, h1, h2, _, hKey, hNode, hAug, hKind, hDev⟩ := pipeline_positions_who reg opts e he hp
  exact ⟨s, h1, h2, hKey hc⟩

/-- Duplicate node ⇒ the statement whose children were merged in: a `grouping` (through `uses`), an
`augment`, or a `module` / `submodule` statement (through `include`; `TopOf`: the top statement of a
loaded (sub)module, for registries holding other statements). -/
theorem duplicate_node_position (reg : Registry) (opts : Opts) (e : Err)
    (he : e ∈ (processAll reg opts (plugFull reg)).errors) (hp : Positioned e) (hc : e.cls = "duplicate-node") :
    ∃ s, StmtOf reg s ∧ At e s ∧ (s.kw = "grouping" ∨ ModAugment reg s ∨ IsModKw s.kw ∨ TopOf reg s) := by
  obtain ⟨s, h1, h2, _, hKey, hNode, hAug, hKind, hDev⟩ := pipeline_positions_who reg opts e he hp
  exact ⟨s, h1, h2, hNode hc⟩

/-- Augment target not found ⇒ an `augment` statement standing directly below a `module` /
`submodule` statement of a loaded module. -/
theorem augment_not_found_position (reg : Registry) (opts : Opts) (e : Err)
    (he : e ∈ (processAll reg opts (plugFull reg)).errors) (hp : Positioned e) (hc : e.cls = "augment-not-found") :
    ∃ s, StmtOf reg s ∧ At e s ∧ s.kw = "augment" ∧ ∃ p, StmtOf reg p ∧ IsModKw p.kw ∧ s ∈ p.subs := by
  obtain ⟨s, h1, h2, _, hKey, hNode, hAug, hKind, hDev⟩ := pipeline_positions_who reg opts e he hp
  exact ⟨s, h1, h2, hAug hc⟩

/-- Augment target not found ⇒ the `augment` statement of an augment that was LEFT OVER: it is the
source statement of an entry that is still in a pending list when the augment loop, FixChoice and
all retry rounds are over (`Goyang.Lemmas.Tree.afterRounds`, the state `processAll` hands to the
reporting sweep) — an augment that none of them could apply.  (Only the reporting sweep builds this
class, for entries of its pending lists, which only shrink.  That an augment is left pending by
the loop exactly when its target does not exist as a node that can take children is
`Goyang.Props.C07.augment_exactly_once_model`.) -/
theorem augment_not_found_left_over (reg : Registry) (opts : Opts) (e : Err)
    (he : e ∈ (processAll reg opts (plugFull reg)).errors) (hp : Positioned e) (hc : e.cls = "augment-not-found") :
    ∃ s, StmtOf reg s ∧ At e s ∧ ModAugment reg s ∧
      ∃ p ∈ (Goyang.Lemmas.Tree.afterRounds reg opts (plugFull reg)).2.pending, ∃ a ∈ p.2, a.d.node = s := by
  obtain ⟨s, h1, h2, _, ⟨_, _, hAug, _⟩, hLeft⟩ := Goyang.Lemmas.PositionsWho.processAll_errors_okP opts
    (Goyang.Lemmas.PositionsTypesWho.plugFull_positionsWP _ reg) e he hp
  exact ⟨s, h1, h2, hAug hc, hLeft hc⟩

/-- The same for any plugged layers that keep the discipline. -/
theorem semantic_augment_not_found_left_over (reg : Registry) (opts : Opts) (plug : Plug)
    (hplug : PlugPositionsAt (NamesWP (Goyang.Lemmas.PositionsWho.LeftOver reg opts plug) reg) reg plug) (e : Err)
    (he : e ∈ (processAll reg opts plug).errors) (hp : Positioned e) (hc : e.cls = "augment-not-found") :
    ∃ s, StmtOf reg s ∧ At e s ∧ ModAugment reg s ∧
      ∃ p ∈ (Goyang.Lemmas.Tree.afterRounds reg opts plug).2.pending, ∃ a ∈ p.2, a.d.node = s := by
  obtain ⟨s, h1, h2, _, ⟨_, _, hAug, _⟩, hLeft⟩ := Goyang.Lemmas.PositionsWho.processAll_errors_okP opts hplug e he hp
  exact ⟨s, h1, h2, hAug hc, hLeft hc⟩

/-- Unknown kind of deviate ⇒ the `deviation` statement that holds the `deviate` substatement whose
argument is none of not-supported / add / replace / delete. -/
theorem deviate_unknown_kind_position (reg : Registry) (opts : Opts) (e : Err)
    (he : e ∈ (processAll reg opts (plugFull reg)).errors) (hp : Positioned e) (hc : e.cls = "deviate-unknown-kind") :
    ∃ s, StmtOf reg s ∧ At e s ∧ s.kw = "deviation" ∧
      ∃ dv ∈ s.subs, dv.kw = "deviate" ∧ deviateKinds.contains dv.arg = false := by
  obtain ⟨s, h1, h2, _, hKey, hNode, hAug, hKind, hDev⟩ := pipeline_positions_who reg opts e he hp
  exact ⟨s, h1, h2, hKind hc⟩

/-- The positioned errors of the deviation stage ⇒ the top statement of the deviating (sub)module,
which holds a `deviation` statement with a `deviate` substatement of the kind the class belongs to
(`devKindOf`: `add` for a second / an already existing default, `not-supported` for a target without
parent or already removed, `delete` for the default errors of delete). -/
theorem deviation_error_position (reg : Registry) (opts : Opts) (e : Err)
    (he : e ∈ (processAll reg opts (plugFull reg)).errors) (hp : Positioned e) (hc : e.cls ∈ devStageClasses) :
    ∃ s, StmtOf reg s ∧ At e s ∧ TopOf reg s ∧
      ∃ dv ∈ s.subs, dv.kw = "deviation" ∧ ∃ ds ∈ dv.subs, ds.kw = "deviate" ∧ ds.arg = devKindOf e.cls := by
  obtain ⟨s, h1, h2, _, hKey, hNode, hAug, hKind, hDev⟩ := pipeline_positions_who reg opts e he hp
  exact ⟨s, h1, h2, hDev hc⟩

/-- From the files, all classes: every positioned error of `processFiles` stands at a statement `s`
occurring in one of the given files, the one its class names (`Names` and `Who`). -/
theorem processFiles_positions_who (opts : Opts) (files : List SrcFile) (out : Outcome)
    (h : processFiles opts files = .ok out) :
    ∀ e ∈ out.errors, Positioned e →
      ∃ f ∈ files, ∃ top ∈ f.stmts, ∃ s, Within s top ∧ At e s ∧ Names e.cls s ∧ Who (loadFiles files) e.cls s := by
  unfold processFiles at h
  split at h
  · cases h
  · simp only [Except.ok.injEq] at h
    subst h
    intro e he hp
    obtain ⟨s, ⟨m, hm, hw⟩, hat, hn, hwho⟩ := pipeline_positions_who (loadFiles files) opts e he hp
    obtain ⟨f, hf, htop⟩ := Goyang.Lemmas.PositionsTypes.loadFiles_mods files m hm
    exact ⟨f, hf, m.stmt, htop, s, hw, hat, hn, hwho⟩

/-! ### the sites themselves -/

/-- `Entry.add` exactly: when a child of that name exists the entry gains one error, `duplicate-key`
at its own source statement, and the new child is dropped; otherwise no error and the child is
appended. -/
theorem duplicate_key_iff_child_exists (e : Entry) (k : String) (v : Entry) :
    ((e.child? k).isSome = true → (e.add k v).d.errors = e.d.errors ++ [Err.at_ e.d.node "duplicate-key"] ∧
        (e.add k v).dir = e.dir) ∧
    ((e.child? k).isSome = false → (e.add k v).d.errors = e.d.errors ∧ (e.add k v).dir = e.dir ++ [v]) := by
  unfold Entry.add
  cases hk : e.child? k with
  | none => cases e; simp [Entry.withDir, Entry.d, Entry.dir]
  | some x => cases e; simp [Entry.addErr, Entry.withD, Entry.d, Entry.dir]

/-- While `ToEntry` converts the substatements of a statement `n`, the entry under construction keeps
`n` as its source statement — so the `duplicate-key` error of `Entry.add` stands at `n`. -/
theorem entry_under_construction_keeps_node (env : Env) (rec : Goyang.Lemmas.Tree.Rec) (root : Mod) (n : Stmt)
    (sub : List Stmt) (visiting : List NodeId) (isMod : Bool) (fields : List String) (st : TState) :
    (fields.foldl (Goyang.Lemmas.Tree.stepFn env rec root n sub visiting isMod) (Goyang.Lemmas.Tree.e0 root n, st)).1.d.node = n :=
  have ⟨_, _, _, hnode, _⟩ := Goyang.Lemmas.Tree.e0_data root n
  (Goyang.Lemmas.Bridge.evolve_fold_steps env rec root n sub visiting isMod fields _).keeps.1.trans hnode

/-! ## AST builder -/

section AstBuilder
open Goyang.Model.Ast Goyang.Spec.Ast Goyang.Lemmas.PositionsAst

/-- Every position in an error of the AST builder is the start of the statement handed to it or
of one of its transitive substatements — the one the error is about (`Ast.Blames`): the statement
whose keyword has no node type, the unknown substatement itself, the statement that lacks a
mandatory substatement (or holds one that is mandatory for another keyword only). -/
theorem build_error_positions {tbl : Schema} (h : WF tbl) (s : Ast.Stmt) (p : Option Nat) (e : Ast.Err)
    (pq : Nat × Nat) (hb : build tbl s p = .error e) (hpos : e.pos = some pq) :
    ∃ c, Ast.Within c s ∧ pq = (c.line, c.col) ∧ Ast.Blames tbl s e.cls c := by
  obtain ⟨c, hc, hpq⟩ := build_blames (Goyang.Lemmas.Ast.WF.toP h) s p e pq hb hpos
  exact ⟨c, blames_within hc, hpq, hc⟩

/-- Unknown field ⇒ the unknown substatement itself: a positioned `unknown … field` error stands
at a substatement `c` of a statement `par` of the tree in whose context the keyword of `c` is
not known (and carries no prefix) — or, for the check after the loop, at the statement that holds
a substatement mandatory for another keyword only (`belongs-to` in a `module`). -/
theorem unknown_field_position {tbl : Schema} (h : WF tbl) (s : Ast.Stmt) (p : Option Nat) (e : Ast.Err)
    (pq : Nat × Nat) (hb : build tbl s p = .error e) (hpos : e.pos = some pq) (hc : e.cls = .unknownField) :
    ∃ c, pq = (c.line, c.col) ∧
      ((∃ par T, Ast.Within par s ∧ c ∈ par.subs ∧ Ast.nodeType tbl par = some T ∧
          knownIn tbl T c.kw = false ∧ prefixed c.kw = false) ∨
       (∃ T f, Ast.Within c s ∧ Ast.nodeType tbl c = some T ∧ f ∈ T.fields ∧ Ast.foreignFor tbl c f = true ∧
          subsOf tbl f c.subs ≠ [])) := by
  obtain ⟨c, _, hpq, hbl⟩ := build_error_positions h s p e pq hb hpos
  rw [hc] at hbl
  refine ⟨c, hpq, ?_⟩
  cases hbl with
  | unknownField h1 h2 h3 h4 h5 => exact Or.inl ⟨_, _, h1, h2, h3, h4, h5⟩
  | foreign h1 h2 h3 h4 h5 => exact Or.inr ⟨_, _, h1, h2, h3, h4, h5⟩

/-- Missing required ⇒ the statement that lacks it. -/
theorem missing_required_position {tbl : Schema} (h : WF tbl) (s : Ast.Stmt) (p : Option Nat) (e : Ast.Err)
    (pq : Nat × Nat) (hb : build tbl s p = .error e) (hpos : e.pos = some pq) (hc : e.cls = .missing) :
    ∃ c T f, Ast.Within c s ∧ pq = (c.line, c.col) ∧ Ast.nodeType tbl c = some T ∧ f ∈ T.fields ∧
      Ast.mandatoryFor tbl c f = true ∧ subsOf tbl f c.subs = [] := by
  obtain ⟨c, _, hpq, hbl⟩ := build_error_positions h s p e pq hb hpos
  rw [hc] at hbl
  cases hbl with
  | missing h1 h2 h3 h4 h5 => exact ⟨c, _, _, h1, hpq, h2, h3, h4, h5⟩

/-- Unknown statement ⇒ that statement. -/
theorem unknown_statement_position {tbl : Schema} (h : WF tbl) (s : Ast.Stmt) (p : Option Nat) (e : Ast.Err)
    (pq : Nat × Nat) (hb : build tbl s p = .error e) (hpos : e.pos = some pq) (hc : e.cls = .unknownStmt) :
    ∃ c, Ast.Within c s ∧ pq = (c.line, c.col) ∧ typeFor tbl c.kw = none := by
  obtain ⟨c, _, hpq, hbl⟩ := build_error_positions h s p e pq hb hpos
  rw [hc] at hbl
  cases hbl with
  | unknownStmt h1 h2 => exact ⟨c, h1, hpq, h2⟩

/-- `already set` errors (a second occurrence of a single-valued substatement) carry no position;
neither do the errors that stand for a Go panic. -/
theorem already_set_unpositioned {tbl : Schema} (s : Ast.Stmt) (p : Option Nat) (e : Ast.Err)
    (hb : build tbl s p = .error e) (hc : e.cls = .alreadySet) : e.pos = none :=
  build_alreadySet_unpositioned s p e hb hc

end AstBuilder

/-- The tag table regenerated from pkg/yang on this run is well-formed (the per-run obligation
`Goyang.Props.C03.gen_table_wf`). -/
theorem gen_table_wf : Goyang.Spec.Ast.WF Goyang.Gen.AstSchema.table := Goyang.Props.C03.gen_table_wf

/-- `build_error_positions` for the regenerated table. -/
theorem gen_build_error_positions (s : Ast.Stmt) (p : Option Nat) (e : Ast.Err) (pq : Nat × Nat)
    (hb : Ast.build Goyang.Gen.AstSchema.table s p = .error e) (hpos : e.pos = some pq) :
    ∃ c, Ast.Within c s ∧ pq = (c.line, c.col) ∧ Ast.Blames Goyang.Gen.AstSchema.table s e.cls c :=
  build_error_positions gen_table_wf s p e pq hb hpos

/-! ## Non-vacuity: concrete inputs -/

namespace Ex

def st (line col : Nat) (kw arg : String) (subs : List Stmt := []) : Stmt := .mk kw true arg "x.yang" line col subs

/-- `uses nosuch;` at 5:5, a leaf with `config maybe;`, a leaf-list with `max-elements 0;` and
`ordered-by me;`. -/
def usesS : Stmt := st 5 5 "uses" "nosuch"
def leafS : Stmt := st 6 5 "leaf" "x" [st 6 14 "type" "string", st 6 27 "config" "maybe"]
def llS : Stmt :=
  st 7 5 "leaf-list" "y" [st 7 19 "type" "string", st 7 32 "max-elements" "0", st 7 48 "ordered-by" "me"]
def contS : Stmt := st 4 3 "container" "c" [usesS, leafS, llS]
def modS : Stmt := st 1 1 "module" "a" [st 2 3 "namespace" "urn:a", st 3 3 "prefix" "a", contS]
/-- the same module without the `uses` statement -/
def modT : Stmt :=
  st 1 1 "module" "a" [st 2 3 "namespace" "urn:a", st 3 3 "prefix" "a", st 4 3 "container" "c" [leafS, llS]]

def reg : Registry := (Registry.loadAll [modS]).1
def regT : Registry := (Registry.loadAll [modT]).1
def m : Mod := { seq := 0, stmt := modS }

def plug : Plug :=
  { tres := { resolve := fun _ _ _ t => (some { dump := t.arg }, []) },
    identityErrs := fun _ => [], typedefErrs := fun _ => [] }
def env : Env := { reg := reg, tres := plug.tres, linked := [0] }

-- the hypotheses of the resolver theorems are satisfiable (registry with `uses nosuch;`)
example : PlugPositionsOK reg plug := errorfree_plug_ok _ reg plug (fun _ _ _ => rfl) rfl rfl
example : PlugPositionsAt Names reg plug := errorfree_plug_ok _ reg plug (fun _ _ _ => rfl) rfl rfl
example : reg.mods = [m] := rfl
example : (linkAll reg).1 = [0] := by decide +kernel

-- … and the conclusion is about something: converting the `uses nosuch;` statement of that registry
-- yields exactly one error, `unknown-group` at 5:5, which is a statement start of the loaded set.
-- (`String.contains`, which the grouping search uses for "has a prefix", does not reduce in the
-- kernel, so the search result comes from the binding lemma of the C06 layer and the whole
-- pipeline is evaluated below on the sibling registry without the `uses`; `#eval` of
-- `processAll reg {} plug` gives the four errors 5:5, 6:5, 7:32, 7:48.)
example : toEntry env 21 m [contS, modS] usesS [] {} = (errorEntry m usesS "unknown-group", {}) ∧
    (errorEntry m usesS "unknown-group").allErrors =
      [{ file := "x.yang", line := 5, col := 5, cls := "unknown-group" }] :=
  uses_of_unknown_grouping env 20 m [contS, modS] usesS [] {} rfl
    ((Goyang.Lemmas.Uses.findGrouping_local reg [0] m [contS] "nosuch" 56 (by decide) (by decide) (by decide)).trans rfl)
example : StmtPositions reg "x.yang" 5 5 := (allPositions_spec reg _ _ _).1 (by decide +kernel)
example : ¬ StmtPositions reg "x.yang" 5 6 := fun h => absurd ((allPositions_spec reg _ _ _).2 h) (by decide +kernel)

-- the whole pipeline, evaluated by the kernel independently of the proofs: three positioned errors,
-- each at the statement its class names, each passing the Boolean check
example : (processAll regT {} plug).errors.map (fun e => (e.file, e.line, e.col, e.cls)) =
    [("x.yang", 6, 5, "bad-tristate"), ("x.yang", 7, 32, "bad-max-elements"), ("x.yang", 7, 48, "bad-ordered-by")] := by
  decide +kernel
example : (processAll regT {} plug).errors.all (posOKb regT) = true := by decide +kernel
example : (processAll regT {} plug).errors.all (posOKb regT) = true :=
  semantic_positions_check regT {} plug (errorfree_plug_ok _ regT plug (fun _ _ _ => rfl) rfl rfl)

-- WHICH statement (`Who`): concrete module sets for each class of the resolver's own stages.
def leafX (l c : Nat) : Stmt := st l c "leaf" "x" [st l (c + 9) "type" "string"]
/-- `container c { leaf x …; leaf x …; }` at 4:3 -/
def contK : Stmt := st 4 3 "container" "c" [leafX 5 5, leafX 6 5]
def modK : Stmt := st 1 1 "module" "a" [st 2 3 "namespace" "urn:a", st 3 3 "prefix" "a", contK]
def regK : Registry := (Registry.loadAll [modK]).1
/-- `deviation /a:c/a:x { deviate frobnicate; }` at 7:3 -/
def devD : Stmt := st 7 3 "deviation" "/a:c/a:x" [st 8 5 "deviate" "frobnicate"]
def modD : Stmt :=
  st 1 1 "module" "a" [st 2 3 "namespace" "urn:a", st 3 3 "prefix" "a", st 4 3 "container" "c" [leafX 5 5], devD]
def regD : Registry := (Registry.loadAll [modD]).1

-- the hypothesis of `semantic_positions_who` is satisfiable, and the whole pipeline evaluated by the
-- kernel independently of the proofs gives: duplicate key ⇒ the PARENT container at 4:3 (not the
-- second `leaf x` at 6:5); unknown kind of deviate ⇒ the `deviation` statement at 7:3
example : PlugPositionsAt (NamesW regK) regK plug := errorfree_plug_ok_who regK plug (fun _ _ _ => rfl) rfl rfl
example : PlugPositionsAt (NamesWP (Goyang.Lemmas.PositionsWho.LeftOver regK {} plug) regK) regK plug :=
  errorfree_plug_ok _ regK plug (fun _ _ _ => rfl) rfl rfl
example : (processAll regK {} plug).errors.map (fun e => (e.file, e.line, e.col, e.cls)) =
    [("x.yang", 4, 3, "duplicate-key")] := by decide +kernel
example : (processAll regD {} plug).errors.map (fun e => (e.file, e.line, e.col, e.cls)) =
    [("x.yang", 7, 3, "deviate-unknown-kind")] := by decide +kernel
-- `Who` says something: it holds of the container and fails of the second leaf; it holds of the
-- deviation statement
example : Who regK "duplicate-key" contK ∧ ¬ Who regK "duplicate-key" (leafX 6 5) := by
  refine ⟨⟨fun _ => ⟨leafX 5 5, List.Mem.head _, by decide, by decide⟩, ?_, ?_, ?_, ?_⟩, ?_⟩
  · intro h; exact absurd h (by decide)
  · intro h; exact absurd h (by decide)
  · intro h; exact absurd h (by decide)
  · intro h; exact absurd h (by decide)
  · intro h
    obtain ⟨c, hc, hk, _⟩ := h.1 rfl
    revert hk
    have : c = st 6 14 "type" "string" := List.mem_singleton.mp hc
    subst this
    decide
example : Who regD "deviate-unknown-kind" devD := by
  refine ⟨?_, ?_, ?_, fun _ => ⟨rfl, st 8 5 "deviate" "frobnicate", List.Mem.head _, rfl, by decide⟩, ?_⟩ <;>
    intro h <;> exact absurd h (by decide)
-- the merge site, evaluated: a grouping `g` (9:3) with a leaf `x` merged into a container that has a
-- child `x` leaves `duplicate-node` at the grouping statement
def grpE : Entry :=
  .mk { name := "g", node := st 9 3 "grouping" "g" } [.mk { name := "x", kind := .leaf, hasDir := false } [] [] []] [] []
def tgtE : Entry :=
  .mk { name := "c", node := st 4 3 "container" "c" } [.mk { name := "x", kind := .leaf, hasDir := false } [] [] []] [] []
example : (tgtE.merge none grpE).d.errors = [{ file := "x.yang", line := 9, col := 3, cls := "duplicate-node" }] := by
  decide
-- The augment and deviation stages go through `Entry.Find`, whose string functions the kernel does
-- not evaluate; `#eval (processAll r {} plug).errors` gives, for
--   module a { … container c { leaf x … } augment "/a:c" { leaf x … } augment "/a:nosuch" { leaf y … } }
-- with the augments at 7:3 and 10:3: duplicate-node at 7:3 and augment-not-found at 10:3; and for
--   module a { … container c { leaf x { type string; default "0"; } }
--              deviation "/a:c/a:x" { deviate add { default "1"; } } }
-- deviate-add-default-exists at 1:1 (the module statement; `devKindOf` of the class is `add`).
-- The fault injector corr-c16sem checks these positions on the Go side.

-- the assembled pipeline (`plugFull`): its theorems have no hypotheses.  On
--   module a { … leaf x { type nosuch; } leaf y { type int8 { range "5..1"; } } leaf z { type string { length "a"; } } }
-- with the `type` statements at 4:12, 5:12, 6:12, the `range` at 5:24 and the `length` at 6:26,
-- `#eval (processAll r {} (plugFull r)).errors` gives unknown-type at 4:12, bad-range at 5:24 and
-- bad-length at 6:26 (the kernel does not evaluate the byte-string functions of the type layer, so
-- this one is not an `example`).  The hypothesis of `processFiles_positions` is satisfiable:
example : ∃ out, processFiles {} [] = .ok out := ⟨_, rfl⟩
example : PlugPositionsAt Names reg (plugFull reg) := plugFull_keeps_positions reg

-- AST builder, over the regenerated table
open Goyang.Model.Ast in
def b (s : String) : Bytes := s.toList.map (fun c => c.toNat.toUInt8)
def ast (line col : Nat) (kw arg : String) (subs : List Ast.Stmt := []) : Ast.Stmt := .mk (b kw) true (b arg) line col subs
def report : Except Ast.Err Ast.ANode → Option (Ast.ErrClass × Option (Nat × Nat))
  | .ok _ => none
  | .error e => some (e.cls, e.pos)
abbrev table : Ast.Schema := Goyang.Gen.AstSchema.table

/-- a leaf without `type` at 5:7 -/
def modBad : Ast.Stmt :=
  ast 1 1 "module" "m" [ast 2 3 "namespace" "n", ast 3 3 "prefix" "p", ast 4 3 "container" "c" [ast 5 7 "leaf" "l"]]

-- missing required ⇒ the statement that lacks it; unknown field ⇒ the unknown substatement;
-- already set ⇒ no position; a field mandatory for another keyword only ⇒ the statement itself
example : report (Ast.build table modBad none) = some (.missing, some (5, 7)) := by decide +kernel
example : report (Ast.build table (ast 1 1 "module" "m" [ast 2 3 "namespace" "n", ast 3 3 "prefix" "p",
    ast 4 3 "container" "c" [ast 5 9 "foo" "x"]]) none) = some (.unknownField, some (5, 9)) := by decide +kernel
example : report (Ast.build table (ast 1 1 "module" "m" [ast 2 3 "namespace" "n", ast 3 3 "prefix" "p",
    ast 4 3 "namespace" "q"]) none) = some (.alreadySet, none) := by decide +kernel
example : report (Ast.build table (ast 1 1 "module" "m" [ast 2 3 "namespace" "n", ast 3 3 "prefix" "p",
    ast 4 3 "belongs-to" "x" [ast 4 20 "prefix" "p"]]) none) = some (.unknownField, some (1, 1)) := by decide +kernel

-- the hypotheses of `build_error_positions` on a concrete input, and its conclusion
example : ∃ c, Ast.Within c modBad ∧ (5, 7) = (c.line, c.col) ∧ Ast.Blames table modBad .missing c := by
  have hr : report (Ast.build table modBad none) = some (.missing, some (5, 7)) := by decide +kernel
  cases hb : Ast.build table modBad none with
  | ok a => rw [hb] at hr; cases hr
  | error e =>
    rw [hb] at hr
    simp only [report, Option.some.injEq, Prod.mk.injEq] at hr
    have := gen_build_error_positions modBad none e (5, 7) hb hr.2
    rw [hr.1] at this
    exact this

end Ex

end Goyang.Props.C16Sem
