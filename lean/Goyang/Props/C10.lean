import Goyang.Lemmas.Range
/-
C10 — range and length restrictions denote the written set and only ever narrow.

Everything is stated against `Goyang.Spec.Range`: the denotation `Mem x (abs r)` ("x ∈ ⟦r⟧", `abs r`
being the list of mantissa intervals of the model value `r`), `SDC` (sorted, disjoint, coalesced),
`Within` (⊆), the reading of the restriction text `read (lit dec f) s` and the value of the written
parts `writtenIvs ⟦parent⟧ w`, in which `min` / `max` are the least / greatest element of the parent's
set (`min_is_least`, `max_is_greatest`).

Scope of the quantifiers, as in the property: `ScaleOk dec f` = integers and lengths (`dec = false`,
`f = 0`) or decimal64 at `1 ≤ f ≤ 18`; `ParentOk f y` = the parent is at that scale with 64-bit
magnitudes and is sorted, disjoint and coalesced — which holds for the eight built-in ranges, the
decimal64 base ranges, `0..2^64-1` for lengths, and is preserved by every accepted restriction
(`parse_denotes`), so it holds for every "previously restricted" parent (`chain_narrows`).  The empty
parent `[]` is "no parent" (`ParseRangesInt` / `ParseRangesDecimal`): nothing to be inside of, and
`min`/`max` have no value.  Nothing is assumed about magnitudes staying away from `2^64 - 1` or
`-2^63`: the wrap-around of `addQuantum` is part of the model and is handled in
`Goyang.Lemmas.Range.coalesceLoop_abs`.

Helper lemmas: `Goyang/Lemmas/RangeZ.lean` (interval algebra over ℤ), `Goyang/Lemmas/Range.lean`
(refinement of the `Number`-level model to it; parsing).
-/
namespace Goyang.Props.C10
open Goyang.Model.Number Goyang.Model.Range Goyang.Spec.Range
open Goyang.Lemmas.RangeZ Goyang.Lemmas.Range
open Goyang.Spec.Number (num)

/-! ### meaning of `min` and `max` -/

/-- `min` stands for the least element of the parent's set … -/
theorem min_is_least (p : List Iv) (m : Int) (h : Bound.eval p .min = some m) : IsLeast p m :=
  lowest_isLeast p m h

/-- … and `max` for the greatest. -/
theorem max_is_greatest (p : List Iv) (m : Int) (h : Bound.eval p .max = some m) : IsGreatest p m :=
  highest_isGreatest p m h

/-! ### parse_denotes -/

/-- A successful parse: the text reads as parts `w` (grammar of the specification), their values
`ivs` are defined and every part is in order; the result denotes exactly the union of the written
parts, is sorted, disjoint and coalesced, is at the scale of the type with 64-bit magnitudes and not
empty (so it is again a legitimate parent), and is a subset of the parent's set. -/
theorem parse_denotes (dec : Bool) (f : Nat) (hsc : ScaleOk dec f) (y : YangRange) (hy : ParentOk f y)
    (s : List UInt8) (r : YangRange) (h : parseChildRanges y s dec f = .ok r) :
    ∃ w ivs, Goyang.Spec.Range.read (lit dec f) s = some w ∧ writtenIvs (abs y) w = some ivs ∧ ordered ivs = true ∧
      SetEq (abs r) ivs ∧ SDC (abs r) ∧ (y ≠ [] → Within (abs r) (abs y)) ∧ ParentOk f r ∧ r ≠ [] := by
  have hs := parse_spec hsc hy s
  rw [h] at hs
  obtain ⟨w, ivs, hw, hiv, hall, hmem, hsdc, hu, hne, hin⟩ := hs
  refine ⟨w, ivs, hw, hiv, (ordered_iff ivs).mpr hall, hmem, hsdc, ?_, ⟨hu, hsdc⟩, hne⟩
  intro hy0
  rcases hin with h0 | h0
  · exact absurd h0 hy0
  · exact h0

/-- the hypotheses of `parse_denotes` are satisfiable: `range "1..10 | 11..20|-0"` under int8 gives `-0..20` -/
example : ScaleOk false 0 ∧ ParentOk 0 int8Range ∧
    parseChildRanges int8Range [49, 46, 46, 49, 48, 32, 124, 32, 49, 49, 46, 46, 50, 48, 124, 45, 48] false 0
      = .ok [{ min := { value := 0, fd := 0, neg := true }, max := { value := 20, fd := 0, neg := false } }] := by
  exact ⟨Or.inl ⟨rfl, rfl⟩, (intRange_ok 128 127 (by decide) (by decide)).1, ok_of_toOption (by decide +kernel)⟩

/-! ### parse_rejects (and its converse) -/

/-- A restriction is rejected with an error whenever it is syntactically invalid, or uses `min`/`max`
where they have no value (no parent), or has a part whose bounds are out of order, or denotes a value
its parent's set does not contain. -/
theorem parse_rejects (dec : Bool) (f : Nat) (hsc : ScaleOk dec f) (y : YangRange) (hy : ParentOk f y)
    (s : List UInt8)
    (hbad : Goyang.Spec.Range.read (lit dec f) s = none ∨
      ∃ w, Goyang.Spec.Range.read (lit dec f) s = some w ∧
        (writtenIvs (abs y) w = none ∨
         ∃ ivs, writtenIvs (abs y) w = some ivs ∧ (ordered ivs = false ∨ (y ≠ [] ∧ ¬ Within ivs (abs y))))) :
    ∃ e, parseChildRanges y s dec f = .error e := by
  cases hp : parseChildRanges y s dec f with
  | error e => exact ⟨e, rfl⟩
  | ok r =>
    exfalso
    have hs := parse_spec hsc hy s
    rw [hp] at hs
    obtain ⟨w, ivs, hw, hiv, hall, hmem, _, _, _, hin⟩ := hs
    -- the text does read (as `w`) and its values are defined (`ivs`): of `hbad` only the last two reasons remain
    rw [hw] at hbad
    obtain ⟨⟨⟩⟩ | ⟨_, ⟨⟩, hbad⟩ := hbad
    rw [hiv] at hbad
    obtain ⟨⟨⟩⟩ | ⟨_, ⟨⟩, h | ⟨hy0, hout⟩⟩ := hbad
    · rw [(ordered_iff ivs).mpr hall] at h; cases h
    · exact hout fun x hx => hin.resolve_left hy0 x ((hmem x).mpr hx)

/-- satisfiable: `range "5..1"` (out of order) and `range "1..200"` under int8 (outside) -/
example : ordered [((5 : Int), (1 : Int))] = false ∧ ¬ Within [((1 : Int), (200 : Int))] (abs int8Range) := by
  exact ⟨by decide, fun h => absurd ((subsetB_iff _ _).mpr h) (by decide)⟩

/-- Conversely nothing else is rejected: a well-formed restriction whose parts are in order and which
stays inside the parent's set (or has no parent) is accepted. -/
theorem parse_accepts (dec : Bool) (f : Nat) (hsc : ScaleOk dec f) (y : YangRange) (hy : ParentOk f y)
    (s : List UInt8) (w : List Part) (ivs : List Iv)
    (hw : Goyang.Spec.Range.read (lit dec f) s = some w) (hiv : writtenIvs (abs y) w = some ivs)
    (hord : ordered ivs = true) (hin : y = [] ∨ Within ivs (abs y)) :
    ∃ r, parseChildRanges y s dec f = .ok r := by
  cases hp : parseChildRanges y s dec f with
  | ok r => exact ⟨r, rfl⟩
  | error e =>
    exfalso
    have hs := parse_spec hsc hy s
    rw [hp] at hs
    obtain ⟨hy0, hout⟩ := hs w ivs hw hiv ((ordered_iff ivs).mp hord)
    rcases hin with h | h
    · exact hy0 h
    · exact hout h

theorem mustAccept_eq_some (y : YangRange) (w : List Part) (ivs : List Iv) :
    mustAccept (if y = [] then none else some (abs y)) w = some ivs ↔
      writtenIvs (abs y) w = some ivs ∧ ordered ivs = true ∧ (y = [] ∨ Within ivs (abs y)) := by
  unfold mustAccept
  have hgetD : (if y = [] then none else some (abs y) : Option (List Iv)).getD [] = abs y := by
    by_cases h0 : y = [] <;> simp [h0, abs]
  rw [hgetD]
  cases writtenIvs (abs y) w with
  | none => simp
  | some ivs' =>
    by_cases h0 : y = []
    · by_cases he : ivs' = ivs <;> simp [h0, he]
    · by_cases he : ivs' = ivs <;> simp [h0, he, subsetB_iff]

/-- The three theorems above in one executable judgement — the oracle `Spec.Range.conforms` that the
correspondence runner applies to every outcome of the Go code (driver op `spec.step`): the model's
outcome always conforms.  (`none` = no parent / an error; the inclusion and equality tests of the
oracle are the critical-point tests, shown equivalent to `Within` / `SetEq` in `Lemmas.RangeZ`.) -/
theorem model_conforms (dec : Bool) (f : Nat) (hsc : ScaleOk dec f) (y : YangRange) (hy : ParentOk f y)
    (s : List UInt8) :
    conforms (if y = [] then none else some (abs y)) (Goyang.Spec.Range.read (lit dec f) s)
      (match parseChildRanges y s dec f with | .ok r => some (abs r) | .error _ => none) = true := by
  have hs := parse_spec hsc hy s
  cases hp : parseChildRanges y s dec f with
  | ok r =>
    rw [hp] at hs
    obtain ⟨w, ivs, hw, hiv, hall, hmem, hsdc, _, _, hin⟩ := hs
    have hacc := (mustAccept_eq_some y w ivs).mpr
      ⟨hiv, (ordered_iff ivs).mpr hall, hin.imp_right fun h x hx => h x ((hmem x).mpr hx)⟩
    simp only [conforms, hw, hacc, Bool.and_eq_true]
    exact ⟨(sdcB_iff _).mpr hsdc, (setEqB_iff _ _).mpr hmem⟩
  | error e =>
    rw [hp] at hs
    cases hw : Goyang.Spec.Range.read (lit dec f) s with
    | none => rfl
    | some w =>
      cases hacc : mustAccept (if y = [] then none else some (abs y)) w with
      | none => simp [conforms, hacc]
      | some ivs =>
        obtain ⟨hiv, hord, hin⟩ := (mustAccept_eq_some y w ivs).mp hacc
        obtain ⟨hy0, hout⟩ := hs w ivs hw hiv ((ordered_iff ivs).mp hord)
        exact absurd (hin.resolve_left hy0) hout

/-! ### coalesce at the extremes -/

/-- `coalesce` on valid parts sorted by lower bound returns a sorted, disjoint, coalesced list with the
same denotation — for all 64-bit magnitudes, in particular when a part ends at `2^64 - 1`, where
`max + one quantum` wraps around (the repaired guard). -/
theorem coalesce_denotes (f : Nat) (hf : f ≤ 18) (r : YangRange) (hu : Uniform f r)
    (hv : AllValid (abs r)) (hs : SortedLo (abs r)) :
    SDC (abs (coalesce r)) ∧ SetEq (abs (coalesce r)) (abs r) ∧ Uniform f (coalesce r) := by
  obtain ⟨ha, hcu⟩ := coalesce_abs hf hu
  have hspec := coalZ_spec (abs r) hv hs
  rw [ha]
  exact ⟨hspec.1, hspec.2, hcu⟩

/-- satisfiable at the wrap: `0..18446744073709551615|18446744073709551615` (finding D21) is merged into one part -/
example : coalesce [{ min := ⟨0, 0, false⟩, max := ⟨18446744073709551615, 0, false⟩ },
    { min := ⟨18446744073709551615, 0, false⟩, max := ⟨18446744073709551615, 0, false⟩ }]
    = [{ min := ⟨0, 0, false⟩, max := ⟨18446744073709551615, 0, false⟩ }] := by decide

/-- `sort.Sort` is not stable, but parts that tie under `YangRange.Less` have equal mantissas: whatever
order ties end up in, the same intervals are in the same places.  (`coalesce_denotes` asks only for
"sorted by lower bound", so the denotation and shape of the result do not depend on the order of
ties at all; what can differ is the sign of a zero bound in the printed result, `-0` vs `0`.) -/
theorem sort_ties_denote_equal (f : Nat) (hf : f ≤ 18) (a b : YRange) (ha : PartOk f a) (hb : PartOk f b)
    (h1 : rangeLess a b = false) (h2 : rangeLess b a = false) : absP a = absP b :=
  rangeLess_tie hf ha hb h1 h2

/-- satisfiable: `-0..5` and `0..5` tie -/
example : rangeLess ⟨⟨0, 0, true⟩, ⟨5, 0, false⟩⟩ ⟨⟨0, 0, false⟩, ⟨5, 0, false⟩⟩ = false ∧
    rangeLess ⟨⟨0, 0, false⟩, ⟨5, 0, false⟩⟩ ⟨⟨0, 0, true⟩, ⟨5, 0, false⟩⟩ = false := ⟨by rfl, by rfl⟩

/-- `Sort` then `coalesce` of any list of in-order parts: the normal form of the written set. -/
theorem sort_coalesce_denotes (f : Nat) (hf : f ≤ 18) (r : YangRange) (hu : Uniform f r) (hv : AllValid (abs r)) :
    SDC (abs (coalesce (sort r))) ∧ SetEq (abs (coalesce (sort r))) (abs r) := by
  have hsu := sort_uniform hu
  have hsabs := sort_abs hf hu
  obtain ⟨h1, h2, _⟩ := coalesce_denotes f hf (sort r) hsu
    (by rw [hsabs]; exact sortZ_allValid _ hv) (by rw [hsabs]; exact sortZ_sortedLo _)
  refine ⟨h1, fun x => ?_⟩
  rw [h2 x, hsabs, sortZ_mem]

/-- `Validate` accepts every sorted, disjoint, coalesced list (so the final check of
`parseChildRanges` never fires after `coalesce`). -/
theorem validate_sdc (f : Nat) (hf : f ≤ 18) (r : YangRange) (hu : Uniform f r) (hs : SDC (abs r)) :
    validate r = none := by
  rw [validate_abs hf hu]
  exact validateZ_sdc _ hs

/-! ### contains_iff -/

/-- On sorted, disjoint, coalesced lists `r.Contains(s)` is `⟦s⟧ ⊆ ⟦r⟧`, except that an empty receiver
stands for "everything" (an empty argument denotes the empty set and is contained in anything). -/
theorem contains_iff (f : Nat) (hf : f ≤ 18) (r s : YangRange) (hr : Uniform f r) (hs : Uniform f s)
    (hrs : SDC (abs r)) (hss : SDC (abs s)) :
    contains r s = true ↔ (r = [] ∨ Within (abs s) (abs r)) := by
  rw [contains_abs hf hr hs, containsZ_iff _ _ hrs hss, abs_eq_nil]

/-- satisfiable and non-trivial: `10..20|30..40` contains `12..15|30` but not `20..30` -/
example :
    let n (v : Nat) : Number := ⟨v, 0, false⟩
    let r : YangRange := [⟨n 10, n 20⟩, ⟨n 30, n 40⟩]
    SDC (abs r) ∧ contains r [⟨n 12, n 15⟩, ⟨n 30, n 30⟩] = true ∧ contains r [⟨n 20, n 30⟩] = false := by
  exact ⟨(sdcB_iff _).mp (by decide), by rfl, by rfl⟩

/-- Observation (not part of the property; the Go comment says as much: "Both range lists should be in
order and non-adjacent (coalesced)"): without the shape hypothesis `Contains` is not inclusion —
`1..2|3..4` (adjacent, not coalesced) does not "contain" `2..3`.  `parseChildRanges` only ever calls
it on coalesced lists (`parse_denotes`). -/
theorem contains_iff_fails_without_sdc :
    ¬ (∀ r s : YangRange, Uniform 0 r → Uniform 0 s → (contains r s = true ↔ (r = [] ∨ Within (abs s) (abs r)))) := by
  intro h
  let n (v : Nat) : Number := ⟨v, 0, false⟩
  have hu : ∀ (l : YangRange), (∀ p ∈ l, p.min.fd = 0 ∧ p.min.value < W ∧ p.max.fd = 0 ∧ p.max.value < W) → Uniform 0 l :=
    fun l hl p hp => ⟨⟨(hl p hp).1, (hl p hp).2.1⟩, ⟨(hl p hp).2.2.1, (hl p hp).2.2.2⟩⟩
  have := (h [⟨n 1, n 2⟩, ⟨n 3, n 4⟩] [⟨n 2, n 3⟩] (hu _ (by decide)) (hu _ (by decide))).mpr
    (Or.inr ((subsetB_iff _ _).mp (by decide)))
  have hc : contains [⟨n 1, n 2⟩, ⟨n 3, n 4⟩] [⟨n 2, n 3⟩] = false := by decide
  rw [hc] at this
  cases this

/-- Observation (not part of the property): `Validate` compares every later part with the first part
only, so on its own it misses an overlap further down (`0|2..3|3` passes).  Unreachable from
`parseChildRanges`, which validates what `coalesce` returned (`validate_sdc`). -/
theorem validate_first_only_observation :
    validate [⟨⟨0, 0, false⟩, ⟨0, 0, false⟩⟩, ⟨⟨2, 0, false⟩, ⟨3, 0, false⟩⟩, ⟨⟨3, 0, false⟩, ⟨3, 0, false⟩⟩] = none := by
  rfl

/-! ### chain_narrows -/

/-- the sets a derivation chain can start from: the eight integer types, decimal64 at 1…18
fraction digits (types.go:258), and `0..2^64-1` for lengths (`Uint64Range`) -/
inductive IsBase : Bool → Nat → YangRange → Prop
  | int8 : IsBase false 0 int8Range
  | int16 : IsBase false 0 int16Range
  | int32 : IsBase false 0 int32Range
  | int64 : IsBase false 0 int64Range
  | uint8 : IsBase false 0 uint8Range
  | uint16 : IsBase false 0 uint16Range
  | uint32 : IsBase false 0 uint32Range
  | uint64 : IsBase false 0 uint64Range
  | dec (f : Nat) (h1 : 1 ≤ f) (h2 : f ≤ 18) : IsBase true f (decimalBase f)

/-- The model's built-in ranges are what `mustParseRangesInt` computes from the literals in the Go
source (`Int8Range = mustParseRangesInt("-128..127")` …); the runner also compares them with the Go
variables. -/
theorem builtin_parse :
    parseRangesInt [45, 49, 50, 56, 46, 46, 49, 50, 55] = .ok int8Range ∧
    parseRangesInt [45, 51, 50, 55, 54, 56, 46, 46, 51, 50, 55, 54, 55] = .ok int16Range ∧
    parseRangesInt [45, 50, 49, 52, 55, 52, 56, 51, 54, 52, 56, 46, 46, 50, 49, 52, 55, 52, 56, 51, 54, 52, 55] = .ok int32Range ∧
    parseRangesInt [45, 57, 50, 50, 51, 51, 55, 50, 48, 51, 54, 56, 53, 52, 55, 55, 53, 56, 48, 56, 46, 46, 57, 50, 50, 51, 51, 55, 50, 48, 51, 54, 56, 53, 52, 55, 55, 53, 56, 48, 55] = .ok int64Range ∧
    parseRangesInt [48, 46, 46, 50, 53, 53] = .ok uint8Range ∧
    parseRangesInt [48, 46, 46, 54, 53, 53, 51, 53] = .ok uint16Range ∧
    parseRangesInt [48, 46, 46, 52, 50, 57, 52, 57, 54, 55, 50, 57, 53] = .ok uint32Range ∧
    parseRangesInt [48, 46, 46, 49, 56, 52, 52, 54, 55, 52, 52, 48, 55, 51, 55, 48, 57, 53, 53, 49, 54, 49, 53] = .ok uint64Range := by
  refine ⟨?_, ?_, ?_, ?_, ?_, ?_, ?_, ?_⟩ <;> exact ok_of_toOption (by decide +kernel)

/-- every base is a legitimate, non-empty parent at its scale -/
theorem base_ok (dec : Bool) (f : Nat) (b : YangRange) (hb : IsBase dec f b) :
    ScaleOk dec f ∧ ParentOk f b ∧ b ≠ [] := by
  cases hb with
  | int8 => exact ⟨Or.inl ⟨rfl, rfl⟩, intRange_ok _ _ (by decide) (by decide)⟩
  | int16 => exact ⟨Or.inl ⟨rfl, rfl⟩, intRange_ok _ _ (by decide) (by decide)⟩
  | int32 => exact ⟨Or.inl ⟨rfl, rfl⟩, intRange_ok _ _ (by decide) (by decide)⟩
  | int64 => exact ⟨Or.inl ⟨rfl, rfl⟩, intRange_ok _ _ (by decide) (by decide)⟩
  | uint8 => exact ⟨Or.inl ⟨rfl, rfl⟩, uintRange_ok _ (by decide)⟩
  | uint16 => exact ⟨Or.inl ⟨rfl, rfl⟩, uintRange_ok _ (by decide)⟩
  | uint32 => exact ⟨Or.inl ⟨rfl, rfl⟩, uintRange_ok _ (by decide)⟩
  | uint64 => exact ⟨Or.inl ⟨rfl, rfl⟩, uintRange_ok _ (by decide)⟩
  | dec f h1 h2 =>
    refine ⟨Or.inr ⟨rfl, h1, h2⟩, ⟨?_, ?_⟩, by simp [decimalBase]⟩
    · intro p hp
      simp [decimalBase] at hp
      subst hp
      exact ⟨⟨rfl, by show H < W; unfold H W; omega⟩, ⟨rfl, by show H - 1 < W; unfold H W; omega⟩⟩
    · simp only [abs, decimalBase, List.map, absP, num, SDC]
      unfold H
      decide

/-- One accepted restriction step `prev --s--> r` is correct: `r` denotes the set written in `s`
(with `min`/`max` the bounds of `prev`), is sorted, disjoint and coalesced, and narrows `prev`. -/
def StepOk (dec : Bool) (f : Nat) (prev : YangRange) (s : List UInt8) (r : YangRange) : Prop :=
  (∃ w ivs, Goyang.Spec.Range.read (lit dec f) s = some w ∧ writtenIvs (abs prev) w = some ivs ∧ ordered ivs = true ∧
    SetEq (abs r) ivs) ∧
  SDC (abs r) ∧ Within (abs r) (abs prev)

theorem parse_step (dec : Bool) (f : Nat) (hsc : ScaleOk dec f) (y : YangRange) (hy : ParentOk f y) (hne : y ≠ [])
    (s : List UInt8) (yr : YangRange) (hp : parseChildRanges y s dec f = .ok yr) :
    StepOk dec f y s yr ∧ ParentOk f yr ∧ yr ≠ [] := by
  obtain ⟨w, ivs, hw, hiv, hord, hmem, hsdc, hin, hpo, hyr⟩ := parse_denotes dec f hsc y hy s yr hp
  exact ⟨⟨⟨w, ivs, hw, hiv, hord, hmem⟩, hsdc, hin hne⟩, hpo, hyr⟩

/-- What the range overlay of `Type.resolve` (types.go:290) does to a legitimate non-empty parent:
either an error and the parent's set is kept, or a correct step to a legitimate non-empty parent. -/
theorem applyRange_step (dec : Bool) (f : Nat) (hsc : ScaleOk dec f) (y : YangRange) (hy : ParentOk f y) (hne : y ≠ [])
    (s : List UInt8) :
    match applyRange y s dec f with
    | (y', some _) => y' = y
    | (y', none) => StepOk dec f y s y' ∧ ParentOk f y' ∧ y' ≠ [] := by
  unfold applyRange
  cases hp : parseChildRanges y s dec f with
  | error e => rfl
  | ok yr =>
    obtain ⟨hso, hpo, hyr⟩ := parse_step dec f hsc y hy hne s yr hp
    by_cases he : Goyang.Model.Range.equal yr y = true
    · -- `yr.Equal(y.Range)`: the old value is kept; it denotes the same set
      simp only [he, if_true]
      rw [StepOk, equal_abs hsc.le yr y hpo.1 hy.1 he] at hso
      exact ⟨hso, hy, hne⟩
    · simp only [he, Bool.false_eq_true, if_false]
      exact ⟨hso, hpo, hyr⟩

/-- A whole chain is correct: every accepted step is a `StepOk` from the value before it; after a
rejected step the chain ends. -/
def ChainOk (dec : Bool) (f : Nat) : YangRange → List (List UInt8) → List (YangRange × Option RangeErr) → Prop
  | _, [], out => out = []
  | prev, s :: ss, out =>
    match out with
    | [] => False
    | (r, none) :: rest => StepOk dec f prev s r ∧ ChainOk dec f r ss rest
    | (r, some _) :: rest => r = prev ∧ rest = []

theorem rangeChain_ok (dec : Bool) (f : Nat) (hsc : ScaleOk dec f) (steps : List (List UInt8)) :
    ∀ (y : YangRange), ParentOk f y → y ≠ [] → ChainOk dec f y steps (rangeChain dec f y steps) := by
  induction steps with
  | nil => intro y _ _; simp [rangeChain, ChainOk]
  | cons s ss ih =>
    intro y hy hne
    have hstep := applyRange_step dec f hsc y hy hne s
    unfold rangeChain
    cases ha : applyRange y s dec f with
    | mk y' e =>
      rw [ha] at hstep
      cases e with
      | some e' =>
        simp only at hstep
        simp [ChainOk, hstep]
      | none =>
        simp only at hstep
        obtain ⟨hso, hpo, hne'⟩ := hstep
        simp only [ChainOk]
        exact ⟨hso, ih y' hpo hne'⟩

/-- Derivation chains only narrow: starting from a built-in range (any of the eight integer types,
decimal64 at any fraction-digits 1…18), every accepted restriction of a typedef chain denotes exactly
what is written relative to the set before it, is sorted, disjoint and coalesced, and is a subset of
the set before it. -/
theorem chain_narrows (dec : Bool) (f : Nat) (base : YangRange) (hb : IsBase dec f base) (steps : List (List UInt8)) :
    ChainOk dec f base steps (rangeChain dec f base steps) := by
  obtain ⟨hsc, hpo, hne⟩ := base_ok dec f base hb
  exact rangeChain_ok dec f hsc steps base hpo hne

theorem chainOk_within {dec : Bool} {f : Nat} (B : List Iv) : ∀ (steps : List (List UInt8)) (y : YangRange)
    (out : List (YangRange × Option RangeErr)), ChainOk dec f y steps out → Within (abs y) B →
    ∀ p ∈ out, Within (abs p.1) B
  | [], _, _, h, _, p, hp => by rw [h] at hp; cases hp
  | _ :: _, _, [], h, _, _, _ => h.elim
  | _ :: ss, _, (r, none) :: rest, ⟨hso, hch⟩, hin, p, hp => by
    have hin' : Within (abs r) B := fun x hx => hin x (hso.2.2 x hx)
    rcases List.mem_cons.mp hp with rfl | hp
    · exact hin'
    · exact chainOk_within B ss r rest hch hin' p hp
  | _ :: _, _, (r, some _) :: rest, ⟨h1, h2⟩, hin, p, hp => by
    subst h1 h2
    rw [List.mem_singleton.mp hp]
    exact hin

/-- … hence every set along the chain is a subset of the built-in range it started from. -/
theorem chain_within_base (dec : Bool) (f : Nat) (base : YangRange) (hb : IsBase dec f base) (steps : List (List UInt8)) :
    ∀ p ∈ rangeChain dec f base steps, Within (abs p.1) (abs base) :=
  chainOk_within _ steps base _ (chain_narrows dec f base hb steps) (fun _ hx => hx)

/-- satisfiable: int8, `range "1..10 | 11..20|-0"` gives `-0..20`, then `range "min..5|max"` gives
`-0..5|20`, then `range "min..6"` is rejected (6 is not in the set) and the chain ends -/
example : rangeChain false 0 int8Range
    [[49, 46, 46, 49, 48, 32, 124, 32, 49, 49, 46, 46, 50, 48, 124, 45, 48],
     [109, 105, 110, 46, 46, 53, 124, 109, 97, 120], [109, 105, 110, 46, 46, 54]]
    = [([⟨⟨0, 0, true⟩, ⟨20, 0, false⟩⟩], none),
       ([⟨⟨0, 0, true⟩, ⟨5, 0, false⟩⟩, ⟨⟨20, 0, false⟩, ⟨20, 0, false⟩⟩], none),
       ([⟨⟨0, 0, true⟩, ⟨5, 0, false⟩⟩, ⟨⟨20, 0, false⟩, ⟨20, 0, false⟩⟩], some .outside)] := by
  decide +kernel

/-! ### lengths -/

/-- The length overlay (types.go:301): the parent is the inherited length, or `0..2^64-1`. An accepted
step is correct and narrows; a step reporting an error ends the chain (the "negative length" error is
reported although the new value is stored, see the model). -/
theorem applyLength_step (y : YangRange) (hy : ParentOk 0 y) (s : List UInt8) :
    match applyLength y s with
    | (_, some _) => True
    | (y', none) => StepOk false 0 (if y.isEmpty then uint64Range else y) s y' ∧ ParentOk 0 y' ∧ y' ≠ [] := by
  have hsc : ScaleOk false 0 := Or.inl ⟨rfl, rfl⟩
  unfold applyLength
  simp only
  have hpar : ParentOk 0 (if y.isEmpty then uint64Range else y) ∧ (if y.isEmpty then uint64Range else y) ≠ [] := by
    cases y with
    | nil => exact uintRange_ok 18446744073709551615 (by decide)
    | cons a l => exact ⟨hy, List.cons_ne_nil _ _⟩
  generalize (if y.isEmpty then uint64Range else y) = parent at hpar ⊢
  cases hp : parseChildRanges parent s false 0 with
  | error e => trivial
  | ok yr =>
    obtain ⟨hso, hpo, hyr⟩ := parse_step false 0 hsc parent hpar.1 hpar.2 s yr hp
    by_cases he : Goyang.Model.Range.equal yr y = true
    · simp only [he, if_true]
      have habs := equal_abs (by decide) yr y hpo.1 hy.1 he
      rw [StepOk, habs] at hso
      exact ⟨hso, hy, fun h0 => hyr (abs_eq_nil.mp (by rw [habs, h0]; rfl))⟩
    · simp only [he, Bool.false_eq_true, if_false]
      split
      · trivial
      · next heq =>
        rw [(Prod.mk.inj heq).1] at hso hpo hyr
        exact ⟨hso, hpo, hyr⟩

/-- Length chains only narrow, starting from "no length yet" (parent `0..2^64-1`). -/
theorem length_chain_narrows (steps : List (List UInt8)) :
    ∀ (y : YangRange), ParentOk 0 y →
    ∀ p ∈ lengthChain y steps, p.2 = none →
      SDC (abs p.1) ∧ Within (abs p.1) (abs (if y.isEmpty then uint64Range else y)) := by
  induction steps with
  | nil => intro y _ p hp; simp [lengthChain] at hp
  | cons s ss ih =>
    intro y hy p hp hnone
    have hstep := applyLength_step y hy s
    unfold lengthChain at hp
    cases ha : applyLength y s with
    | mk y' e =>
      rw [ha] at hstep hp
      cases e with
      | some e' =>
        simp only [List.mem_singleton] at hp
        subst hp
        simp at hnone
      | none =>
        simp only at hstep hp
        obtain ⟨hso, hpo', hne'⟩ := hstep
        rcases List.mem_cons.mp hp with rfl | hp
        · exact ⟨hso.2.1, hso.2.2⟩
        · obtain ⟨h1, h2⟩ := ih y' hpo' p hp hnone
          refine ⟨h1, fun x hx => hso.2.2 x ?_⟩
          have : (if y'.isEmpty then uint64Range else y') = y' := by
            cases y' with
            | nil => exact absurd rfl hne'
            | cons _ _ => rfl
          rw [this] at h2
          exact h2 x hx

end Goyang.Props.C10
