import Goyang.Spec.Uses
import Goyang.Lemmas.Uses
import Goyang.Lemmas.UsesVisit
import Goyang.Lemmas.UsesCache
import Goyang.Lemmas.UsesCacheInv
import Goyang.Lemmas.UsesFuel
import Goyang.Lemmas.Deviate
import Goyang.Model.TypesLite
/-
C06 — every use of a grouping is an independent, faithful, locally scoped copy.
Property theorems only; helper lemmas live in Goyang/Lemmas/Uses.lean (binding, merge, the `uses`
case of `toEntry`), Lemmas/UsesVisit.lean (completeness of the search order), Lemmas/UsesCache.lean
(the `uses` step comes first also for augment, grouping, module and submodule statements; what the
two caches do on a hit and on a miss), Lemmas/UsesCacheInv.lean (how the conversion state moves
through `toEntry`: the caches only grow at their end, nothing binds a grouping under conversion),
Lemmas/UsesFuel.lean (the fuel side condition holds at every call reached from `processAll`'s
top-level calls) and Goyang/Lemmas/Deviate.lean (frame of `updateAt` / `removeAt`).

Status of the former gaps.
* Search order: `search_order_sound` + `search_order_complete` = `search_order_iff_reach`: the
  search order from a file lists exactly the files reached through include / belongs-to
  statements, when the reached files have pairwise different names (`names_distinct_of_nodup`:
  e.g. when no two loaded (sub)modules share a name).  Without that hypothesis completeness is
  false of the specification *and* of Go's `FindGrouping` (both mark names):
  `search_order_needs_distinct_names`, witness `ExN` (a submodule named like its module), replayed
  on the Go code (`Process` answers "unknown group" together with a circular-dependency error).
* `uses` first: `container_gets_copy`, `augment_gets_copy`, `grouping_gets_copy`,
  `module_gets_copy` (module and submodule) and `Lemmas.Uses.toEntry_*_uses_first` for list, case,
  input, output, notification — every statement kind with a `uses` field.  Caches:
  `later_uses_same` / `module_cached_same` (hit), `cache_miss_stores`, `first_use_fills_cache`,
  `cached_entry_persists` (a miss converts, binds the grouping to the entry it returns, and the
  binding stays for the rest of the run).
* Fuel: `process_fuel_reaches_bindFuel`, `uses_scope_in_process`, `uses_is_copy_in_process`,
  `container_gets_copy_in_process` (and `grouping_…`, `module_…`, `augment_gets_copy_in_process`): at every call reached from a top-level call of `processAll`
  (`Lemmas.Uses.Reached`) the fuel handed to `findGrouping` is at least `bindFuel`; the explicit
  bound of `uses_scope` / `uses_is_copy` is gone there.
Still hypotheses: `WellFormedRef` (two RFC requirements on a prefixed reference), no (sub)module
statement nested below the using (sub)module statement (`hinner`), free and distinct names for the
`…_is_copy` / `…_gets_copy` forms (`uses_adds_only_copies` holds without).

Reading aid.
* `Spec.Uses.bindGrouping reg linked root inner name` is the declarative binding of the grouping
  name at a `uses` statement written in (sub)module `root` below the statements `inner` (nearest
  first): unprefixed / own prefix — the nearest enclosing statement that directly declares the
  name, else the first file of the *whole module* (`searchOrder`: the (sub)module, its includes
  depth first, for a submodule then the module it belongs to with its includes) that declares it
  at its top level; foreign prefix — the whole module of the module imported under that prefix.
  `linked` = the (sub)modules whose import/include statements `Modules.include` linked (all that a
  loaded module reaches, after an error-free `process()`).
* `Model.findGrouping` is the transliteration of Go's `FindGrouping` (fuel-driven, with the `seen`
  set threaded through the recursion); `toEntry` calls it with fuel `2 * fuel + 16` and `seen = []`,
  from a scope `inner ++ [root.stmt]` whose only (sub)module statement is the last one.
* `Spec.Uses.denoteGrouping env fuel r …` = the children of `toEntry` of the grouping statement
  `r.1` converted with *its own* root module `r.2.1` and *its own* ancestor chain `r.2.2`.
* `Spec.Uses.CopyOf a b`: same name, kind, type, default, constraints at every node, same nesting.

Pure model and pointers.  The entry trees of the model are values: the copy that Go's `dup` makes is
the value itself (`copy_is_faithful`), and "changing one instance leaves the others unchanged" is a
path-update lemma (`instances_independent`): true of every rose tree, whatever `merge` and `dup`
do.  Its force for the Go code comes from the tie: the runner harness/cmd/corr-c06 compares the
model with Go on sets in which one instance is changed by an augment and by every kind of
deviation, and its Go-side oracle checks that no `*Entry`, `*ListAttr`, `*RPCEntry` object and no
`Default` backing array is shared between instances or with the cached grouping entry — i.e. that
the Go trees *are* the unshared values the model computes with.  refine and uses-augment are outside
the claim (the driver declines such input).

`Entry.Extra` / `Entry.Exts` (what `merge` appends from a `uses` statement: if-feature, when, status,
reference, extension statements; defect D62) are not part of the resolver model.  The copy law for
them is stated and proved over the small model `Spec.Uses.XEntry` (`extras_copy_law`,
`extras_nested_law`, `extras_instances_independent`); its tie to the Go code is the runner's Go-side
oracle only (predicted values per node, prefix law against the grouping's own entry, no shared
backing array), not drv_res.
-/
namespace Goyang.Props.C06
open Goyang.Model Goyang.Spec.Uses
open Goyang.Lemmas.Uses (bindFuel importedErrors names usesStep found ReachNamesDistinct Reached)
open Goyang.Lemmas.Deviate (NameStable)

/-! ### binding -/

/-- **uses_binds_lexically.**  A reference without prefix, or with the using module's own prefix,
binds as the scoping rules say: the nearest enclosing statement that declares the name, else the
whole module.  Holds for every registry, every scope and every name of that form; the only side
condition is the fuel (`bindFuel`: one unit per enclosing statement plus, per loaded (sub)module,
its widest statement list plus three — every (sub)module is entered at most once along a call
path).  `toEntry` hands over `2 * fuel + 16`. -/
theorem uses_binds_lexically (reg : Registry) (linked : List Nat) (root : Mod) (inner : List Stmt) (name : String)
    (fuel : Nat) (hinner : ∀ n ∈ inner, isModuleStmt n = false) (hlocal : isBare (localName root name) = true)
    (hfuel : bindFuel reg root inner ≤ fuel) :
    (findGrouping reg linked fuel root (inner ++ [root.stmt]) name []).1 = bindGrouping reg linked root inner name :=
  Lemmas.Uses.findGrouping_local reg linked root inner name fuel hinner hlocal hfuel

/-- **uses_binds_import.**  A reference with a foreign prefix binds in exactly the module imported
under that prefix (its top level and its submodules), never through an included submodule's
import table or a chain of prefixes.  Side conditions, both requirements of RFC 7950 on the text
that goyang does not check: no enclosing statement declares a grouping whose name is literally
the prefixed text (identifiers contain no colon), and at most one import statement of the
(sub)module carries the prefix (prefixes are unique). -/
theorem uses_binds_import (reg : Registry) (linked : List Nat) (root : Mod) (inner : List Stmt) (name : String)
    (fuel : Nat) (hinner : ∀ n ∈ inner, isModuleStmt n = false) (hforeign : isBare (localName root name) = false)
    (hident : ∀ n ∈ inner ++ [root.stmt], declares n (localName root name) = none)
    (hunique : (importsFor root (localName root name)).length ≤ 1)
    (hfuel : bindFuel reg root inner ≤ fuel) :
    (findGrouping reg linked fuel root (inner ++ [root.stmt]) name []).1 = bindGrouping reg linked root inner name :=
  Lemmas.Uses.findGrouping_foreign reg linked root inner name fuel hinner hforeign hident hunique hfuel

/-- What the text must satisfy for a reference: nothing for a local name; for a prefixed one the
two RFC requirements of `uses_binds_import`. -/
def WellFormedRef (root : Mod) (inner : List Stmt) (name : String) : Prop :=
  isBare (localName root name) = true ∨
  ((∀ n ∈ inner ++ [root.stmt], declares n (localName root name) = none) ∧
    (importsFor root (localName root name)).length ≤ 1)

/-- **uses_binds.**  Both forms of reference in one statement. -/
theorem uses_binds (reg : Registry) (linked : List Nat) (root : Mod) (inner : List Stmt) (name : String) (fuel : Nat)
    (hinner : ∀ n ∈ inner, isModuleStmt n = false) (hwf : WellFormedRef root inner name)
    (hfuel : bindFuel reg root inner ≤ fuel) :
    (findGrouping reg linked fuel root (inner ++ [root.stmt]) name []).1 = bindGrouping reg linked root inner name := by
  cases hb : isBare (localName root name) with
  | true => exact uses_binds_lexically reg linked root inner name fuel hinner hb hfuel
  | false =>
    rcases hwf with h | ⟨h1, h2⟩
    · rw [hb] at h; cases h
    · exact uses_binds_import reg linked root inner name fuel hinner hb h1 h2 hfuel

/-- **binding_is_nearest.**  What `bindGrouping` of a local name returns, spelled out: either the
grouping is declared by an enclosing statement `n`, no statement nearer to the `uses` declares the
name, and the grouping's scope is the using statement's own chain from `n` upwards; or no
enclosing statement declares it and it is declared at the top level of a file `s` of the whole
module — reached from `root` through include and belongs-to statements — with scope `[s.stmt]`. -/
theorem binding_is_nearest (reg : Registry) (linked : List Nat) (root : Mod) (inner : List Stmt) (name : String)
    (r : GroupingRef) (hlocal : isBare (localName root name) = true)
    (h : bindGrouping reg linked root inner name = some r) :
    (∃ pre n up, inner = pre ++ n :: up ∧ declares n (localName root name) = some r.1 ∧
        (∀ x ∈ pre, declares x (localName root name) = none) ∧ r.2.1 = root ∧ r.2.2 = n :: up ++ [root.stmt]) ∨
    ((∀ x ∈ inner, declares x (localName root name) = none) ∧
      ∃ s, Reach reg linked root s ∧ declares s.stmt (localName root name) = some r.1 ∧ r.2.1 = s ∧ r.2.2 = [s.stmt]) := by
  unfold bindGrouping at h
  simp only [hlocal, if_true] at h
  cases hl : bindLexical root inner (localName root name) with
  | some r' =>
    simp only [hl, Option.some.injEq] at h
    subst h
    obtain ⟨pre, n, up, h1, h2, h3, h4, h5⟩ := Lemmas.Uses.bindLexical_some root _ inner r' hl
    exact Or.inl ⟨pre, n, up, h1, h2, h5, h3, h4⟩
  | none =>
    simp only [hl] at h
    refine Or.inr ⟨?_, ?_⟩
    · exact (Lemmas.Uses.bindLexical_eq_none root _ inner).1 hl
    · obtain ⟨s, hs, h1, h2, h3⟩ := Lemmas.Uses.found_some (ms := searchOrder reg linked root) h
      exact ⟨s, Lemmas.Uses.visit_reach reg linked _ root [] s hs, h1, h2, h3⟩

/-! ### the whole module: the search order lists exactly the files reached by include / belongs-to -/

/-- **search_order_sound.**  Every file in the search order from `m` is reached from `m` through
include statements (of linked (sub)modules) and belongs-to statements. -/
theorem search_order_sound (reg : Registry) (linked : List Nat) (m x : Mod) (h : x ∈ searchOrder reg linked m) :
    Reach reg linked m x :=
  Lemmas.Uses.visit_reach reg linked _ m [] x h

/-- **search_order_complete.**  Conversely every file reached from `m` is in the search order —
the depth-first walk with its marked set and its depth bound (number of loaded (sub)modules + 1)
leaves nothing out — when the reached files have pairwise different names.  (The walk marks
*names*, like Go's `FindGrouping` does; RFC 7950 5.1 requires module and submodule names to be
unique.  Without the hypothesis the statement is false: `search_order_needs_distinct_names`.) -/
theorem search_order_complete (reg : Registry) (linked : List Nat) (m : Mod) (hnames : ReachNamesDistinct reg linked m)
    (x : Mod) (h : Reach reg linked m x) : x ∈ searchOrder reg linked m :=
  Lemmas.Uses.visit_complete reg linked m hnames x h

/-- **search_order_iff_reach.**  The two together. -/
theorem search_order_iff_reach (reg : Registry) (linked : List Nat) (m : Mod) (hnames : ReachNamesDistinct reg linked m)
    (x : Mod) : x ∈ searchOrder reg linked m ↔ Reach reg linked m x :=
  Lemmas.Uses.visit_iff_reach reg linked m hnames x

/-- The hypothesis of `search_order_complete` for a loaded start, from a decidable condition on the
registry: no two loaded (sub)modules have the same name. -/
theorem names_distinct_of_nodup (reg : Registry) (linked : List Nat) (m : Mod) (hm : m ∈ reg.mods)
    (h : (reg.mods.map (·.name)).Nodup) : ReachNamesDistinct reg linked m :=
  Lemmas.Uses.reachNamesDistinct_of_nodup reg linked m hm h

/-- **whole_module_is_searched.**  A grouping declared at the top level of any file of the whole
module is visible from every file of it: if no enclosing statement of the `uses` declares the
(unprefixed or own-prefixed) name and some file `s` reached from `root` does, the binding is not
`none` — and by `binding_is_nearest` it is the declaration in the first such file of the search
order. -/
theorem whole_module_is_searched (reg : Registry) (linked : List Nat) (root : Mod) (inner : List Stmt) (name : String)
    (hnames : ReachNamesDistinct reg linked root) (hlocal : isBare (localName root name) = true)
    (s : Mod) (hs : Reach reg linked root s) (g : Stmt) (hd : declares s.stmt (localName root name) = some g) :
    ∃ r, bindGrouping reg linked root inner name = some r := by
  unfold bindGrouping
  simp only [hlocal, if_true]
  cases bindLexical root inner (localName root name) with
  | some r => exact ⟨r, rfl⟩
  | none => exact Lemmas.Uses.bindTop_complete reg linked root hnames s hs _ g hd

/-! ### scope -/

/-- **uses_scope.**  Converting a `uses` statement converts the grouping it denotes with the
grouping's own root module and the grouping's own ancestor chain — not the using statement's.
Types, nested groupings and identities written inside the grouping are therefore looked up where
the grouping is defined (`toEntry` hands `root` and `scope` to every lookup it makes). -/
theorem uses_scope (env : Env) (fuel : Nat) (root : Mod) (inner : List Stmt) (u : Stmt) (visiting : List NodeId)
    (st : TState) (hu : u.kw = "uses") (hinner : ∀ n ∈ inner, isModuleStmt n = false)
    (hwf : WellFormedRef root inner u.arg) (hfuel : bindFuel env.reg root inner ≤ 2 * fuel + 16) :
    toEntry env (fuel + 1) root (inner ++ [root.stmt]) u visiting st =
      match bindGrouping env.reg env.linked root inner u.arg with
      | none => (errorEntry root u "unknown-group", st)
      | some r => toEntry env fuel r.2.1 r.2.2 r.1 visiting st := by
  rw [Lemmas.Uses.toEntry_uses env fuel root _ u visiting st hu,
    uses_binds env.reg env.linked root inner u.arg _ hinner hwf hfuel]
  cases bindGrouping env.reg env.linked root inner u.arg with
  | none => rfl
  | some r => obtain ⟨g, groot, gscope⟩ := r; rfl

/-- **foreign_scope_is_definers.**  A grouping reached through a foreign prefix is converted with
the imported side's module and with nothing of the using statement's scope: its root is a file
of the imported module's whole module and its scope is that file's (sub)module statement alone. -/
theorem foreign_scope_is_definers (reg : Registry) (linked : List Nat) (root : Mod) (inner : List Stmt) (name : String)
    (r : GroupingRef) (hforeign : isBare (localName root name) = false)
    (h : bindGrouping reg linked root inner name = some r) :
    ∃ i ∈ root.imports, ∃ x, reg.findModule false i = some x ∧ Reach reg linked x r.2.1 ∧ r.2.2 = [r.2.1.stmt] ∧
      declares r.2.1.stmt (afterPrefix ((i.argOf? "prefix").getD "") (localName root name)) = some r.1 := by
  unfold bindGrouping at h
  simp only [hforeign, Bool.false_eq_true, if_false] at h
  split at h
  · obtain ⟨i, hi, hf⟩ := List.exists_of_findSome?_eq_some h
    split at hf
    · cases hx : reg.findModule false i with
      | none => simp [hx] at hf
      | some x =>
        simp only [hx, Option.bind_some] at hf
        obtain ⟨s, hs, h1, h2, h3⟩ := Lemmas.Uses.found_some (ms := searchOrder reg linked x) hf
        refine ⟨i, hi, x, hx, ?_, ?_, ?_⟩
        · rw [h2]; exact Lemmas.Uses.visit_reach reg linked _ x [] s hs
        · rw [h3, h2]
        · rw [h2]; exact h1
    · cases hf
  · cases h

/-! ### faithful copy -/

/-- **copy_is_faithful.**  In the model the copy `dup` makes is the value itself, which is a copy
in the sense of the specification. -/
theorem copy_is_faithful (e : Entry) : CopyOf e e := Lemmas.Uses.copyOf_refl e

/-- **uses_is_copy.**  One step of the `uses` arm of `toEntry` (`usesStep`: the body of its fold
over the `uses` substatements), for a `uses` statement that binds to `r` and whose grouping
contributes names that are free in the using entry and pairwise distinct: the using entry's
children are its former children followed by exactly the grouping's own data nodes, computed in
the grouping's defining scope (`denoteGrouping`), each a `CopyOf` the grouping's own; the
grouping's errors are imported; nothing else of the using entry changes. -/
theorem uses_is_copy (env : Env) (fuel : Nat) (root : Mod) (inner : List Stmt) (u : Stmt) (visiting : List NodeId)
    (acc : Entry × TState) (r : GroupingRef) (hu : u.kw = "uses") (hinner : ∀ n ∈ inner, isModuleStmt n = false)
    (hwf : WellFormedRef root inner u.arg) (hfuel : bindFuel env.reg root inner ≤ 2 * fuel + 16)
    (hbind : bindGrouping env.reg env.linked root inner u.arg = some r)
    (hfresh : ∀ v ∈ denoteGrouping env fuel r visiting acc.2, v.name ∉ names acc.1)
    (hnodup : ((denoteGrouping env fuel r visiting acc.2).map (·.name)).Nodup) :
    let ge := (toEntry env fuel r.2.1 r.2.2 r.1 visiting acc.2).1
    let e' := (usesStep env (fuel + 1) root (inner ++ [root.stmt]) visiting acc u).1
    e'.dir = acc.1.dir ++ denoteGrouping env fuel r visiting acc.2 ∧
    CopyOfL (e'.dir.drop acc.1.dir.length) ge.dir ∧
    e'.d = { acc.1.d with errors := acc.1.d.errors ++ importedErrors ge } ∧
    e'.inp = acc.1.inp ∧ e'.out = acc.1.out := by
  intro ge e'
  have hstep : e' = acc.1.merge none ge := by
    show (usesStep env (fuel + 1) root (inner ++ [root.stmt]) visiting acc u).1 = _
    unfold usesStep
    rw [uses_scope env fuel root inner u visiting acc.2 hu hinner hwf hfuel, hbind]
  have hm := Lemmas.Uses.merge_none_free acc.1 ge hfresh hnodup
  rw [hstep, hm]
  refine ⟨?_, ?_, ?_, ?_, ?_⟩
  · rw [Lemmas.Uses.dir_withDir]; rfl
  · rw [Lemmas.Uses.dir_withDir, List.drop_left]
    exact Lemmas.Uses.copyOfL_refl _
  · rw [Lemmas.Uses.d_withDir, Lemmas.Uses.d_addErrs]
  · rw [Lemmas.Uses.inp_withDir, Lemmas.Uses.inp_addErrs]
  · rw [Lemmas.Uses.out_withDir, Lemmas.Uses.out_addErrs]

/-- The step from "the `uses` fold comes first" to "the grouping's nodes come first": when the one
`uses` substatement `u` of `n` binds to `r`, an entry whose children extend those of the `uses` fold
from `dir0` starts with exactly the grouping's own data nodes.  `inner` is the scope of `u` below
the (sub)module statement (`n` included, unless `n` is that statement). -/
theorem copy_comes_first (env : Env) (fuel : Nat) (root : Mod) (inner : List Stmt) (n u : Stmt)
    (visiting : List NodeId) (st : TState) (r : GroupingRef) (e : Entry) (hu : u.kw = "uses")
    (huses : n.all "uses" = [u]) (hinner : ∀ x ∈ inner, isModuleStmt x = false)
    (hwf : WellFormedRef root inner u.arg) (hfuel : bindFuel env.reg root inner ≤ 2 * fuel + 16)
    (hbind : bindGrouping env.reg env.linked root inner u.arg = some r)
    (hnodup : ((denoteGrouping env fuel r visiting st).map (·.name)).Nodup)
    (hfirst : Lemmas.Uses.DirGrows
      ((n.all "uses").foldl (usesStep env (fuel + 1) root (inner ++ [root.stmt]) visiting) (Lemmas.Uses.dir0 root n, st)).1 e) :
    ∃ tail, e.dir = denoteGrouping env fuel r visiting st ++ tail := by
  obtain ⟨tail, ht⟩ := hfirst
  have hc := (uses_is_copy env fuel root inner u visiting (Lemmas.Uses.dir0 root n, st) r hu hinner hwf hfuel hbind
    (by intro v _; simp [names, Lemmas.Uses.dir0, Entry.dir]) hnodup).1
  rw [huses, List.foldl_cons, List.foldl_nil, hc] at ht
  exact ⟨tail, by rw [ht]; simp [Lemmas.Uses.dir0, Entry.dir]⟩

theorem inner_cons {n : Stmt} {inner : List Stmt} (hn : isModuleStmt n = false)
    (hinner : ∀ x ∈ inner, isModuleStmt x = false) : ∀ x ∈ n :: inner, isModuleStmt x = false :=
  List.forall_mem_cons.2 ⟨hn, hinner⟩

/-- **container_gets_copy.**  The same for `toEntry` itself: a `container` statement with one
`uses` substatement that binds to `r` gets, as its first children, exactly the grouping's own data
nodes computed in the grouping's defining scope; what the container's other substatements add
follows (a clash of one of those with a grouping name is a duplicate-key error and the grouping's
node stays).  `Lemmas.Uses.toEntry_list_uses_first`, `…_case_…`, `…_input_…`, `…_output_…`,
`…_notification_…` say the same about the other statements the generator puts `uses` into. -/
theorem container_gets_copy (env : Env) (fuel : Nat) (root : Mod) (inner : List Stmt) (n u : Stmt)
    (visiting : List NodeId) (st : TState) (r : GroupingRef) (hn : n.kw = "container") (hu : u.kw = "uses")
    (huses : n.all "uses" = [u]) (hinner : ∀ x ∈ inner, isModuleStmt x = false)
    (hwf : WellFormedRef root (n :: inner) u.arg) (hfuel : bindFuel env.reg root (n :: inner) ≤ 2 * fuel + 16)
    (hbind : bindGrouping env.reg env.linked root (n :: inner) u.arg = some r)
    (hnodup : ((denoteGrouping env fuel r visiting st).map (·.name)).Nodup) :
    ∃ tail, (toEntry env (fuel + 2) root (inner ++ [root.stmt]) n visiting st).1.dir =
      denoteGrouping env fuel r visiting st ++ tail :=
  copy_comes_first env fuel root (n :: inner) n u visiting st r _ hu huses (inner_cons (by simp [isModuleStmt, hn]) hinner)
    hwf hfuel hbind hnodup (Lemmas.Uses.toEntry_container_uses_first env (fuel + 1) root (inner ++ [root.stmt]) n visiting st hn)

/-- **augment_gets_copy.**  The same for an `augment` statement (converted outside every cache). -/
theorem augment_gets_copy (env : Env) (fuel : Nat) (root : Mod) (inner : List Stmt) (n u : Stmt)
    (visiting : List NodeId) (st : TState) (r : GroupingRef) (hn : n.kw = "augment") (hu : u.kw = "uses")
    (huses : n.all "uses" = [u]) (hinner : ∀ x ∈ inner, isModuleStmt x = false)
    (hwf : WellFormedRef root (n :: inner) u.arg) (hfuel : bindFuel env.reg root (n :: inner) ≤ 2 * fuel + 16)
    (hbind : bindGrouping env.reg env.linked root (n :: inner) u.arg = some r)
    (hnodup : ((denoteGrouping env fuel r visiting st).map (·.name)).Nodup) :
    ∃ tail, (toEntry env (fuel + 2) root (inner ++ [root.stmt]) n visiting st).1.dir =
      denoteGrouping env fuel r visiting st ++ tail :=
  copy_comes_first env fuel root (n :: inner) n u visiting st r _ hu huses (inner_cons (by simp [isModuleStmt, hn]) hinner)
    hwf hfuel hbind hnodup (Lemmas.Uses.toEntry_augment_uses_first env (fuel + 1) root (inner ++ [root.stmt]) n visiting st hn)

/-- **grouping_gets_copy.**  A `grouping` statement with a nested `uses` — when its own conversion
really runs, i.e. it is neither in the grouping cache (then the cached entry is the answer:
`later_uses_same`) nor under conversion (then the answer is the `cycle` error entry: C01
`cycles_are_errors`): the same fold as for a container, with the grouping itself added to the
statements under conversion; the grouping's entry starts with exactly the nested grouping's own
data nodes, computed in the nested grouping's defining scope. -/
theorem grouping_gets_copy (env : Env) (fuel : Nat) (root : Mod) (inner : List Stmt) (n u : Stmt)
    (visiting : List NodeId) (st : TState) (r : GroupingRef) (hn : n.kw = "grouping") (hu : u.kw = "uses")
    (huses : n.all "uses" = [u]) (hinner : ∀ x ∈ inner, isModuleStmt x = false)
    (hmiss : st.gcache.find? (·.1 == nodeId root n) = none) (hnv : visiting.contains (nodeId root n) = false)
    (hwf : WellFormedRef root (n :: inner) u.arg) (hfuel : bindFuel env.reg root (n :: inner) ≤ 2 * fuel + 16)
    (hbind : bindGrouping env.reg env.linked root (n :: inner) u.arg = some r)
    (hnodup : ((denoteGrouping env fuel r (nodeId root n :: visiting) st).map (·.name)).Nodup) :
    ∃ tail, (toEntry env (fuel + 2) root (inner ++ [root.stmt]) n visiting st).1.dir =
      denoteGrouping env fuel r (nodeId root n :: visiting) st ++ tail :=
  copy_comes_first env fuel root (n :: inner) n u _ st r _ hu huses (inner_cons (by simp [isModuleStmt, hn]) hinner)
    hwf hfuel hbind hnodup
    (Lemmas.Uses.toEntry_grouping_uses_first env (fuel + 1) root (inner ++ [root.stmt]) n visiting st hn hmiss hnv)

/-- **module_gets_copy.**  A `module` or `submodule` statement with a top-level `uses` — when its
own conversion really runs (not in the module cache, not under conversion): the (sub)module's
entry starts with exactly the grouping's own data nodes, computed in the grouping's defining
scope; everything the other fields add (the children of included submodules among them) follows. -/
theorem module_gets_copy (env : Env) (fuel : Nat) (root : Mod) (u : Stmt)
    (visiting : List NodeId) (st : TState) (r : GroupingRef)
    (hn : root.stmt.kw = "module" ∨ root.stmt.kw = "submodule") (hu : u.kw = "uses")
    (huses : root.stmt.all "uses" = [u])
    (hmiss : st.cache.find? (·.1 == root.seq) = none) (hnv : visiting.contains (nodeId root root.stmt) = false)
    (hwf : WellFormedRef root [] u.arg) (hfuel : bindFuel env.reg root [] ≤ 2 * fuel + 16)
    (hbind : bindGrouping env.reg env.linked root [] u.arg = some r)
    (hnodup : ((denoteGrouping env fuel r (nodeId root root.stmt :: visiting) st).map (·.name)).Nodup) :
    ∃ tail, (toEntry env (fuel + 2) root [] root.stmt visiting st).1.dir =
      denoteGrouping env fuel r (nodeId root root.stmt :: visiting) st ++ tail :=
  copy_comes_first env fuel root [] root.stmt u _ st r _ hu huses (fun _ hx => nomatch hx) hwf hfuel hbind hnodup
    (Lemmas.Uses.toEntry_module_uses_first env (fuel + 1) root [] root.stmt visiting st hn hmiss hnv)

/-! ### the calls `processAll` makes: no fuel side condition

`Reached env fuel root scope n visiting` (Lemmas/UsesFuel.lean): the calls of `toEntry` reachable
from the top-level calls of `processAll` — a loaded (sub)module statement, or one of its deviate
statements, with fuel `entryFuel reg` and nothing under conversion — through the call sites of
`toEntry`'s body: a substatement, the grouping a `uses` statement resolves to, an included
submodule (`Lemmas.Fuel.Callee`; by `Lemmas.Fuel.body_congr` the body calls itself nowhere else).
Along every such path the remaining fuel stays above C01's measure by at least
`entryFuel reg - entryNeed reg`, and `bindFuel` is at most twice that plus 18
(`Lemmas.Uses.bindFuel_le_slack`, arithmetic over the statement counts of the registry). -/

/-- **process_fuel_reaches_bindFuel.**  At every `uses` statement reached from a top-level call of
`processAll`, the fuel `toEntry` hands to `findGrouping` is at least `bindFuel`: the side condition
of `uses_scope` / `uses_is_copy` / `container_gets_copy` holds by itself. -/
theorem process_fuel_reaches_bindFuel (env : Env) (fuel : Nat) (root : Mod) (inner : List Stmt) (u : Stmt)
    (visiting : List NodeId) (hr : Reached env (fuel + 1) root (inner ++ [root.stmt]) u visiting) (hu : u.kw = "uses") :
    bindFuel env.reg root inner ≤ 2 * fuel + 16 :=
  Lemmas.Uses.reached_bindFuel env hr (by simp [Lemmas.Fuel.isTracked, hu])

/-- The `uses` substatement of a reached statement that is not being re-entered is reached, so the
fuel side condition holds for it; `inner` is its scope below the (sub)module statement. -/
theorem uses_child_bindFuel (env : Env) (fuel : Nat) (root : Mod) (scope inner : List Stmt) (n u : Stmt)
    (visiting : List NodeId) (hr : Reached env (fuel + 2) root scope n visiting)
    (hsc : n :: scope = inner ++ [root.stmt])
    (hc : ¬ (Lemmas.Fuel.isTracked n && visiting.contains (nodeId root n)) = true)
    (hu : u.kw = "uses") (huses : n.all "uses" = [u]) : bindFuel env.reg root inner ≤ 2 * fuel + 16 := by
  have hru := Lemmas.Uses.Reached.child' hr hc
    (Lemmas.Fuel.mem_all_subs (k := "uses") (by rw [huses]; exact List.mem_cons_self ..))
  rw [hsc] at hru
  exact process_fuel_reaches_bindFuel env fuel root inner u _ hru hu

/-- **uses_scope_in_process.**  `uses_scope` for the calls `processAll` makes, without the fuel
bound: a reached `uses` statement converts to the conversion of the grouping it denotes, with the
grouping's own root module and ancestor chain, with one unit of fuel less (there is one). -/
theorem uses_scope_in_process (env : Env) (fuel : Nat) (root : Mod) (inner : List Stmt) (u : Stmt) (visiting : List NodeId)
    (st : TState) (hr : Reached env fuel root (inner ++ [root.stmt]) u visiting) (hu : u.kw = "uses")
    (hinner : ∀ n ∈ inner, isModuleStmt n = false) (hwf : WellFormedRef root inner u.arg) :
    toEntry env fuel root (inner ++ [root.stmt]) u visiting st =
      match bindGrouping env.reg env.linked root inner u.arg with
      | none => (errorEntry root u "unknown-group", st)
      | some r => toEntry env (fuel - 1) r.2.1 r.2.2 r.1 visiting st := by
  obtain ⟨h1, hb⟩ := Lemmas.Uses.reached_bindFuel' env hr (by simp [Lemmas.Fuel.isTracked, hu])
  obtain ⟨k, rfl⟩ : ∃ k, fuel = k + 1 := ⟨fuel - 1, by omega⟩
  rw [Nat.add_sub_cancel] at hb ⊢
  exact uses_scope env k root inner u visiting st hu hinner hwf hb

/-- **uses_is_copy_in_process.**  `uses_is_copy` for the calls `processAll` makes, without the fuel
bound. -/
theorem uses_is_copy_in_process (env : Env) (fuel : Nat) (root : Mod) (inner : List Stmt) (u : Stmt) (visiting : List NodeId)
    (acc : Entry × TState) (r : GroupingRef) (hr : Reached env (fuel + 1) root (inner ++ [root.stmt]) u visiting)
    (hu : u.kw = "uses") (hinner : ∀ n ∈ inner, isModuleStmt n = false)
    (hwf : WellFormedRef root inner u.arg)
    (hbind : bindGrouping env.reg env.linked root inner u.arg = some r)
    (hfresh : ∀ v ∈ denoteGrouping env fuel r visiting acc.2, v.name ∉ names acc.1)
    (hnodup : ((denoteGrouping env fuel r visiting acc.2).map (·.name)).Nodup) :
    let ge := (toEntry env fuel r.2.1 r.2.2 r.1 visiting acc.2).1
    let e' := (usesStep env (fuel + 1) root (inner ++ [root.stmt]) visiting acc u).1
    e'.dir = acc.1.dir ++ denoteGrouping env fuel r visiting acc.2 ∧
    CopyOfL (e'.dir.drop acc.1.dir.length) ge.dir ∧
    e'.d = { acc.1.d with errors := acc.1.d.errors ++ importedErrors ge } ∧
    e'.inp = acc.1.inp ∧ e'.out = acc.1.out :=
  uses_is_copy env fuel root inner u visiting acc r hu hinner hwf
    (process_fuel_reaches_bindFuel env fuel root inner u visiting hr hu) hbind hfresh hnodup

/-- **container_gets_copy_in_process.**  `container_gets_copy` for a container statement reached
from a top-level call of `processAll` (its `uses` substatement is then reached as well). -/
theorem container_gets_copy_in_process (env : Env) (fuel : Nat) (root : Mod) (inner : List Stmt) (n u : Stmt)
    (visiting : List NodeId) (st : TState) (r : GroupingRef)
    (hr : Reached env (fuel + 2) root (inner ++ [root.stmt]) n visiting) (hn : n.kw = "container") (hu : u.kw = "uses")
    (huses : n.all "uses" = [u]) (hinner : ∀ x ∈ inner, isModuleStmt x = false)
    (hwf : WellFormedRef root (n :: inner) u.arg)
    (hbind : bindGrouping env.reg env.linked root (n :: inner) u.arg = some r)
    (hnodup : ((denoteGrouping env fuel r visiting st).map (·.name)).Nodup) :
    ∃ tail, (toEntry env (fuel + 2) root (inner ++ [root.stmt]) n visiting st).1.dir =
      denoteGrouping env fuel r visiting st ++ tail :=
  container_gets_copy env fuel root inner n u visiting st r hn hu huses hinner hwf
    (uses_child_bindFuel env fuel root _ (n :: inner) n u visiting hr rfl (by simp [Lemmas.Fuel.isTracked, hn]) hu huses)
    hbind hnodup

/-- **grouping_gets_copy_in_process.**  `grouping_gets_copy` for a grouping statement reached from
a top-level call of `processAll`. -/
theorem grouping_gets_copy_in_process (env : Env) (fuel : Nat) (root : Mod) (inner : List Stmt) (n u : Stmt)
    (visiting : List NodeId) (st : TState) (r : GroupingRef)
    (hr : Reached env (fuel + 2) root (inner ++ [root.stmt]) n visiting) (hn : n.kw = "grouping") (hu : u.kw = "uses")
    (huses : n.all "uses" = [u]) (hinner : ∀ x ∈ inner, isModuleStmt x = false)
    (hmiss : st.gcache.find? (·.1 == nodeId root n) = none) (hnv : visiting.contains (nodeId root n) = false)
    (hwf : WellFormedRef root (n :: inner) u.arg)
    (hbind : bindGrouping env.reg env.linked root (n :: inner) u.arg = some r)
    (hnodup : ((denoteGrouping env fuel r (nodeId root n :: visiting) st).map (·.name)).Nodup) :
    ∃ tail, (toEntry env (fuel + 2) root (inner ++ [root.stmt]) n visiting st).1.dir =
      denoteGrouping env fuel r (nodeId root n :: visiting) st ++ tail :=
  grouping_gets_copy env fuel root inner n u visiting st r hn hu huses hinner hmiss hnv hwf
    (uses_child_bindFuel env fuel root _ (n :: inner) n u visiting hr rfl (by rw [hnv]; simp) hu huses) hbind hnodup

/-- **module_gets_copy_in_process.**  `module_gets_copy` for the top-level calls of `processAll`
themselves (and for every (sub)module statement reached through an include). -/
theorem module_gets_copy_in_process (env : Env) (fuel : Nat) (root : Mod) (u : Stmt)
    (visiting : List NodeId) (st : TState) (r : GroupingRef)
    (hr : Reached env (fuel + 2) root [] root.stmt visiting)
    (hn : root.stmt.kw = "module" ∨ root.stmt.kw = "submodule") (hu : u.kw = "uses")
    (huses : root.stmt.all "uses" = [u])
    (hmiss : st.cache.find? (·.1 == root.seq) = none) (hnv : visiting.contains (nodeId root root.stmt) = false)
    (hwf : WellFormedRef root [] u.arg)
    (hbind : bindGrouping env.reg env.linked root [] u.arg = some r)
    (hnodup : ((denoteGrouping env fuel r (nodeId root root.stmt :: visiting) st).map (·.name)).Nodup) :
    ∃ tail, (toEntry env (fuel + 2) root [] root.stmt visiting st).1.dir =
      denoteGrouping env fuel r (nodeId root root.stmt :: visiting) st ++ tail :=
  module_gets_copy env fuel root u visiting st r hn hu huses hmiss hnv hwf
    (uses_child_bindFuel env fuel root [] [] root.stmt u visiting hr rfl (by rw [hnv]; simp) hu huses) hbind hnodup

/-- **augment_gets_copy_in_process.**  `augment_gets_copy` for an augment statement reached from a
top-level call of `processAll`. -/
theorem augment_gets_copy_in_process (env : Env) (fuel : Nat) (root : Mod) (inner : List Stmt) (n u : Stmt)
    (visiting : List NodeId) (st : TState) (r : GroupingRef)
    (hr : Reached env (fuel + 2) root (inner ++ [root.stmt]) n visiting) (hn : n.kw = "augment") (hu : u.kw = "uses")
    (huses : n.all "uses" = [u]) (hinner : ∀ x ∈ inner, isModuleStmt x = false)
    (hwf : WellFormedRef root (n :: inner) u.arg)
    (hbind : bindGrouping env.reg env.linked root (n :: inner) u.arg = some r)
    (hnodup : ((denoteGrouping env fuel r visiting st).map (·.name)).Nodup) :
    ∃ tail, (toEntry env (fuel + 2) root (inner ++ [root.stmt]) n visiting st).1.dir =
      denoteGrouping env fuel r visiting st ++ tail :=
  augment_gets_copy env fuel root inner n u visiting st r hn hu huses hinner hwf
    (uses_child_bindFuel env fuel root _ (n :: inner) n u visiting hr rfl (by simp [Lemmas.Fuel.isTracked, hn]) hu huses)
    hbind hnodup

/-- **uses_adds_only_copies.**  Without the freshness assumptions (a name collision is an error
recorded on the using entry and the colliding child is dropped): every child of the using entry
after the step is one of its former children or one of the grouping's own children, unchanged.
In particular a merged child keeps whatever namespace stamp it had — `merge none` writes none —
so grouping content reports the namespace of the tree it has been copied into
(`Props.C12.uses_no_stamp` draws that conclusion for `namespaceAt`). -/
theorem uses_adds_only_copies (e ge : Entry) :
    ∀ x ∈ (e.merge none ge).dir, x ∈ e.dir ∨ x ∈ ge.dir := by
  intro x hx
  rw [Lemmas.Uses.merge_none_eq] at hx
  have := Lemmas.Uses.mergeLoop_mem _ _ _ x hx
  rwa [Lemmas.Uses.dir_addErrs] at this

/-! ### independence -/

/-- **instances_independent** (frame).  Replacing the subtree at `p₁` by `f` of it (`f` keeping the
node's name, as every augment graft and every deviate statement does) leaves the data of every
node at a path `p₂` that is not at or below `p₁` unchanged, and the whole subtree at `p₂` when `p₂`
is not above `p₁` either; removing the node at `p₁` (deviate not-supported) likewise.  Two instances
of a grouping lie at paths neither of which is a prefix of the other, so whatever is done to one
leaves the other exactly as it was.  This is a property of path update on trees; that the Go trees
are such trees (no sharing between instances) is what the runner's aliasing oracle checks. -/
theorem instances_independent (root : Entry) (p₁ p₂ : Path) (f : Entry → Entry) (hname : NameStable p₁ f)
    (h : ¬ p₁ <+: p₂) :
    ((root.updateAt p₁ f).getAt p₂).map (·.d) = (root.getAt p₂).map (·.d) ∧
    (¬ p₂ <+: p₁ → (root.updateAt p₁ f).getAt p₂ = root.getAt p₂) ∧
    ((removeAt root p₁).getAt p₂).map (·.d) = (root.getAt p₂).map (·.d) :=
  ⟨Lemmas.Deviate.getAt_updateAt_frame f p₁ p₂ hname root h,
   fun h' => Lemmas.Deviate.getAt_updateAt_unrelated f p₁ p₂ hname root h h',
   Lemmas.Deviate.getAt_removeAt_frame root p₁ p₂ h⟩

/-- **augment_leaves_other_instances.**  The graft of an augment (`Process.augmentTree`: merge with
the augmenting module's namespace at the target path) leaves every subtree off the target path as
it was. -/
theorem augment_leaves_other_instances (root : Entry) (p₁ p₂ : Path) (ns : String) (a : Entry)
    (h₁ : ¬ p₁ <+: p₂) (h₂ : ¬ p₂ <+: p₁) :
    (root.updateAt p₁ fun te => te.merge (some ns) a).getAt p₂ = root.getAt p₂ :=
  Lemmas.Deviate.getAt_updateAt_unrelated _ p₁ p₂
    (NameStable.of_forall fun e => Lemmas.Uses.merge_name e (some ns) a) root h₁ h₂

/-- **deviation_leaves_other_instances.**  One deviate statement applied at `p₁`
(`Process.applyDeviations`: the node is replaced by `applyOneDeviate` of it) leaves every subtree
off that path as it was; so does every later `toEntry`, which does not read the forest at all. -/
theorem deviation_leaves_other_instances (opts : Opts) (ms : Stmt) (kind : String) (spec : Entry) (hp : Bool)
    (root node : Entry) (p₁ p₂ : Path) (hnode : root.getAt p₁ = some node) (h₁ : ¬ p₁ <+: p₂) (h₂ : ¬ p₂ <+: p₁) :
    (root.updateAt p₁ fun _ => (applyOneDeviate opts ms kind spec hp node).1).getAt p₂ = root.getAt p₂ := by
  refine Lemmas.Deviate.getAt_updateAt_unrelated _ p₁ p₂ (NameStable.of_pathNamed ?_) root h₁ h₂
  have hn := Lemmas.Deviate.pathNamed_of_getAt p₁ root node hnode
  unfold Lemmas.Deviate.PathNamed at hn ⊢
  split
  · next k hk => rw [hk] at hn; rw [Lemmas.Deviate.applyOneDeviate_name]; exact hn
  · trivial

/-- **instances_stay_copies.**  If the subtree at `p₂` is a copy of the grouping's own entry `ge`
before an update at an unrelated path `p₁`, it is one afterwards. -/
theorem instances_stay_copies (root inst ge : Entry) (p₁ p₂ : Path) (f : Entry → Entry) (hname : NameStable p₁ f)
    (h₁ : ¬ p₁ <+: p₂) (h₂ : ¬ p₂ <+: p₁) (hinst : root.getAt p₂ = some inst) (hcopy : CopyOf inst ge) :
    ∃ inst', (root.updateAt p₁ f).getAt p₂ = some inst' ∧ CopyOf inst' ge :=
  ⟨inst, by rw [(instances_independent root p₁ p₂ f hname h₁).2.1 h₂, hinst], hcopy⟩

/-- **later_uses_same.**  Every later conversion of a grouping that has been converted before —
every later `uses` of it, from whatever scope — yields the cached entry, exactly the value the
first use got, and leaves the conversion state as it is.  (Augments and deviations work on the
forest; the conversion state, with this cache, is not among their arguments, see
`Process.augmentTree` and `Process.applyDeviations`.) -/
theorem later_uses_same (env : Env) (fuel : Nat) (groot : Mod) (gscope gscope' : List Stmt) (g : Stmt)
    (visiting visiting' : List NodeId) (st : TState) (k : NodeId) (e : Entry) (hkw : g.kw = "grouping")
    (h : st.gcache.find? (·.1 == nodeId groot g) = some (k, e)) :
    toEntry env (fuel + 1) groot gscope g visiting st = (e, st) ∧
    toEntry env (fuel + 1) groot gscope' g visiting' st = (e, st) :=
  ⟨Lemmas.Uses.toEntry_grouping_cached env fuel groot gscope g visiting st k e hkw h,
   Lemmas.Uses.toEntry_grouping_cached env fuel groot gscope' g visiting' st k e hkw h⟩

/-- **cache_miss_stores.**  What the two caches hold: a grouping statement (a (sub)module
statement) that is not in its cache and not under conversion is converted by the fold of
`grouping_gets_copy` (`module_gets_copy`), and the entry this conversion returns is what it appends
to the cache — so what a later hit returns (`later_uses_same`, `module_cached_same`) is the entry
converted earlier, not something else. -/
theorem cache_miss_stores (env : Env) (fuel : Nat) (root : Mod) (scope : List Stmt) (n : Stmt)
    (visiting : List NodeId) (st : TState) (hnv : visiting.contains (nodeId root n) = false) :
    (n.kw = "grouping" → st.gcache.find? (·.1 == nodeId root n) = none →
      ∃ st' : TState, (toEntry env (fuel + 1) root scope n visiting st).2 =
        { st' with gcache := st'.gcache ++ [(nodeId root n, (toEntry env (fuel + 1) root scope n visiting st).1)] }) ∧
    (n.kw = "module" ∨ n.kw = "submodule" → st.cache.find? (·.1 == root.seq) = none →
      ∃ st' : TState, (toEntry env (fuel + 1) root scope n visiting st).2 =
        { st' with cache := st'.cache ++ [(root.seq, (toEntry env (fuel + 1) root scope n visiting st).1)] }) :=
  ⟨fun hkw hmiss => Lemmas.Uses.toEntry_grouping_stores env fuel root scope n visiting st hkw hmiss hnv,
   fun hkw hmiss => Lemmas.Uses.toEntry_module_stores env fuel root scope n visiting st hkw hmiss hnv⟩

/-- **first_use_fills_cache.**  The first conversion of a grouping (not in the cache, not under
conversion) returns an entry `e` and a state in which the grouping is bound to `e`: no nested
conversion has bound the grouping in between (nothing binds a grouping that is under conversion).
Hence every later conversion of it in that state — every later `uses`, from whatever scope, with
whatever is under conversion then — returns exactly `e` and leaves the state alone. -/
theorem first_use_fills_cache (env : Env) (fuel fuel' : Nat) (groot : Mod) (gscope gscope' : List Stmt) (g : Stmt)
    (visiting visiting' : List NodeId) (st : TState) (hkw : g.kw = "grouping")
    (hmiss : st.gcache.find? (·.1 == nodeId groot g) = none) (hnv : visiting.contains (nodeId groot g) = false) :
    let first := toEntry env (fuel + 1) groot gscope g visiting st
    first.2.gcache.find? (·.1 == nodeId groot g) = some (nodeId groot g, first.1) ∧
    toEntry env (fuel' + 1) groot gscope' g visiting' first.2 = (first.1, first.2) := by
  intro first
  have h := Lemmas.Uses.toEntry_grouping_fills env fuel groot gscope g visiting st hkw hmiss hnv
  exact ⟨h, Lemmas.Uses.toEntry_grouping_cached env fuel' groot gscope' g visiting' first.2 _ _ hkw h⟩

/-- **cached_entry_persists.**  The grouping cache only grows at its end: whatever `toEntry`
converts next (any statement, any scope), a grouping that is bound to `e` stays bound to `e` —
so `later_uses_same` applies in every later state of the run, and all uses of a grouping within one
`Process` run get the entry its first use produced. -/
theorem cached_entry_persists (env : Env) (fuel fuel' : Nat) (root groot : Mod) (scope gscope : List Stmt) (n g : Stmt)
    (visiting visiting' : List NodeId) (st : TState) (k : NodeId) (e : Entry) (hkw : g.kw = "grouping")
    (h : st.gcache.find? (·.1 == nodeId groot g) = some (k, e)) :
    let st' := (toEntry env fuel root scope n visiting st).2
    st'.gcache.find? (·.1 == nodeId groot g) = some (k, e) ∧
    toEntry env (fuel' + 1) groot gscope g visiting' st' = (e, st') := by
  intro st'
  have h' := Lemmas.Uses.gcache_binding_stays env fuel root scope n visiting st (nodeId groot g) (k, e) h
  exact ⟨h', Lemmas.Uses.toEntry_grouping_cached env fuel' groot gscope g visiting' st' k e hkw h'⟩

/-- **module_cached_same.**  A (sub)module that has been converted before is not converted again:
the module cache answers with the stored entry, from whatever scope and in-progress set, and the
conversion state stays as it is. -/
theorem module_cached_same (env : Env) (fuel : Nat) (root : Mod) (scope scope' : List Stmt) (n : Stmt)
    (visiting visiting' : List NodeId) (st : TState) (k : Nat) (e : Entry) (hkw : n.kw = "module" ∨ n.kw = "submodule")
    (h : st.cache.find? (·.1 == root.seq) = some (k, e)) :
    toEntry env (fuel + 1) root scope n visiting st = (e, st) ∧
    toEntry env (fuel + 1) root scope' n visiting' st = (e, st) :=
  ⟨Lemmas.Uses.toEntry_module_cached env fuel root scope n visiting st k e hkw h,
   Lemmas.Uses.toEntry_module_cached env fuel root scope' n visiting' st k e hkw h⟩

/-! ### extras (Entry.Extra, Entry.Exts) — over the small model of Spec/Uses.lean, not the resolver model -/

/-- `Extra[k]` of an append is the append of the `Extra[k]`. -/
theorem extras_vals_append (a b : Extras) (k : String) : (a.append b).vals k = a.vals k ++ b.vals k := by
  simp [Extras.vals, Extras.append, List.filter_append]

/-- **extras_copy_law.**  The `i`-th node a `uses` (extras `u`) of the grouping with entry `g` adds
is the grouping's `i`-th node `c` with, under every keyword, `c`'s own values followed by the
grouping statement's and then the uses statement's — and the same for the extension statements;
its name is `c`'s and everything below it is `c`'s, untouched.  Nothing else enters: in
particular no other use of the grouping. -/
theorem extras_copy_law (g : XEntry) (u : Extras) (i : Nat) (c : XEntry) (hc : g.kids[i]? = some c) :
    ∃ v, (usesInstance g u)[i]? = some v ∧ v.name = c.name ∧ v.kids = c.kids ∧
      (∀ k, v.x.vals k = c.x.vals k ++ g.x.vals k ++ u.vals k) ∧
      v.x.exts = c.x.exts ++ g.x.exts ++ u.exts := by
  refine ⟨.mk c.name (c.x.append (g.x.append u)) c.kids, ?_, rfl, rfl, ?_, ?_⟩
  · have hk : (usesEntry g u).kids = g.kids := rfl
    have hx : (usesEntry g u).x = g.x.append u := rfl
    unfold usesInstance mergeKids
    rw [List.getElem?_map, hk, hc, hx]
    rfl
  · intro k
    simp [XEntry.x, extras_vals_append, List.append_assoc]
  · simp [XEntry.x, Extras.append, List.append_assoc]

/-- **extras_nested_law.**  Through two levels — grouping `g₁` whose `j`-th node comes from
`uses g₂ { u₂ }`, itself used with extras `u₁` — the values arrive innermost first: own, `g₂`'s,
`u₂`, `g₁`'s, `u₁`. -/
theorem extras_nested_law (g₂ : XEntry) (u₂ : Extras) (n₁ : String) (x₁ : Extras) (pre post : List XEntry) (u₁ : Extras)
    (i : Nat) (c : XEntry) (hc : g₂.kids[i]? = some c) :
    ∃ v, (usesInstance (.mk n₁ x₁ (pre ++ usesInstance g₂ u₂ ++ post)) u₁)[pre.length + i]? = some v ∧
      v.name = c.name ∧ v.kids = c.kids ∧
      (∀ k, v.x.vals k = c.x.vals k ++ g₂.x.vals k ++ u₂.vals k ++ x₁.vals k ++ u₁.vals k) ∧
      v.x.exts = c.x.exts ++ g₂.x.exts ++ u₂.exts ++ x₁.exts ++ u₁.exts := by
  obtain ⟨w, hw, hn, hk, hv, he⟩ := extras_copy_law g₂ u₂ i c hc
  have hidx : (XEntry.mk n₁ x₁ (pre ++ usesInstance g₂ u₂ ++ post)).kids[pre.length + i]? = some w := by
    have hlt : i < (usesInstance g₂ u₂).length := by
      rcases List.getElem?_eq_some_iff.1 hw with ⟨h, _⟩; exact h
    simp only [XEntry.kids, List.append_assoc]
    rw [List.getElem?_append_right (Nat.le_add_right _ _), Nat.add_sub_cancel_left, List.getElem?_append_left hlt]
    exact hw
  obtain ⟨v, hv', hn', hk', hvv, hee⟩ := extras_copy_law (.mk n₁ x₁ (pre ++ usesInstance g₂ u₂ ++ post)) u₁ (pre.length + i) w hidx
  refine ⟨v, hv', hn'.trans hn, hk'.trans hk, ?_, ?_⟩
  · intro k
    rw [hvv k, hv k]
    simp [XEntry.x, List.append_assoc]
  · rw [hee, he]
    simp [XEntry.x, List.append_assoc]

/-- **extras_instances_independent.**  Two uses of one grouping: what the first adds is determined
by the grouping and its own uses statement alone — replacing the second use's extras by any
others changes nothing in the first instance, and the grouping's own entry is the same value
before and after.  (In the model a value cannot be written through another one; that the Go
slices behind `Extra` and `Exts` are not shared between the copies, so that the same holds there,
is what the runner's backing-array oracle checks — defect D62 was exactly such a shared array.) -/
theorem extras_instances_independent (g : XEntry) (u₁ u₂ u₂' : Extras) :
    (usesInstance g u₁, usesInstance g u₂).1 = (usesInstance g u₁, usesInstance g u₂').1 ∧
    ∀ (i : Nat) (c : XEntry), g.kids[i]? = some c → ∀ v : XEntry, (usesInstance g u₁)[i]? = some v →
      ∀ k, v.x.vals k = c.x.vals k ++ g.x.vals k ++ u₁.vals k := by
  refine ⟨rfl, ?_⟩
  intro i c hc v hv k
  obtain ⟨w, hw, _, _, h, _⟩ := extras_copy_law g u₁ i c hc
  rw [hw] at hv
  cases hv
  exact h k

namespace ExX
-- the D62 witness: leaf x with three if-features, used with u1 and with u2
def xLeaf : XEntry := .mk "x" { extra := [("if-feature", "f1"), ("if-feature", "f2"), ("if-feature", "f3")] } []
def gE : XEntry := .mk "g" {} [xLeaf]
example : (usesInstance gE { extra := [("if-feature", "u1")] }).map (·.x.vals "if-feature") = [["f1", "f2", "f3", "u1"]] := by
  decide
example : (usesInstance gE { extra := [("if-feature", "u2")] }).map (·.x.vals "if-feature") = [["f1", "f2", "f3", "u2"]] := by
  decide
end ExX

/-! ### non-vacuity: concrete schemas -/

namespace Ex
def st (file kw arg : String) (l c : Nat) (subs : List Stmt) : Stmt := .mk kw true arg file l c subs

/-
module m { prefix p; namespace "urn:m"; import x { prefix q; } include s;
  typedef t { type string; }
  grouping g { leaf a { type t; default d; } uses h; }           -- nested uses
  grouping h { container k { leaf-list b { type int8; min-elements 2; } action act { input { leaf i { type t; } } } } }
  container c1 { uses g; }  container c2 { uses p:g; }            -- g used twice in one module
  container c3 { grouping g { leaf inner { type t; } } container d { uses g; } }   -- shadowing
  container c4 { uses sg; } container c5 { uses q:xg; } }
submodule s { belongs-to m { prefix p; } grouping sg { leaf viaowner { type t; } uses h; } }   -- h: the owner's
module x { prefix x; namespace "urn:x"; import m { prefix pm; } typedef t { type boolean; }
  grouping xg { leaf xa { type t; } }  container cx { uses pm:g; } }   -- g used from another module
-/
def ty (f n : String) : Stmt := st f "type" n 0 0 []
def leafA : Stmt := st "m" "leaf" "a" 4 5 [ty "m" "t", st "m" "default" "d" 4 20 []]
def usesH : Stmt := st "m" "uses" "h" 4 30 []
def gS : Stmt := st "m" "grouping" "g" 4 3 [leafA, usesH]
def leafI : Stmt := st "m" "leaf" "i" 5 60 [ty "m" "t"]
def actS : Stmt := st "m" "action" "act" 5 40 [st "m" "input" "" 5 50 [leafI]]
def llB : Stmt := st "m" "leaf-list" "b" 5 20 [ty "m" "int8", st "m" "min-elements" "2" 5 30 []]
def kS : Stmt := st "m" "container" "k" 5 10 [llB, actS]
def hS : Stmt := st "m" "grouping" "h" 5 3 [kS]
def u1 : Stmt := st "m" "uses" "g" 6 10 []
def u2 : Stmt := st "m" "uses" "p:g" 6 30 []
def c1 : Stmt := st "m" "container" "c1" 6 3 [u1]
def c2 : Stmt := st "m" "container" "c2" 6 20 [u2]
def gIn : Stmt := st "m" "grouping" "g" 7 10 [st "m" "leaf" "inner" 7 20 [ty "m" "t"]]
def u3 : Stmt := st "m" "uses" "g" 7 50 []
def dS : Stmt := st "m" "container" "d" 7 40 [u3]
def c3 : Stmt := st "m" "container" "c3" 7 3 [gIn, dS]
def u4 : Stmt := st "m" "uses" "sg" 8 10 []
def c4 : Stmt := st "m" "container" "c4" 8 3 [u4]
def u5 : Stmt := st "m" "uses" "q:xg" 8 30 []
def c5 : Stmt := st "m" "container" "c5" 8 20 [u5]
def impX : Stmt := st "m" "import" "x" 1 30 [st "m" "prefix" "q" 1 40 []]
def incS : Stmt := st "m" "include" "s" 1 50 []
def mS : Stmt := st "m" "module" "m" 1 1
  [st "m" "prefix" "p" 1 12 [], st "m" "namespace" "urn:m" 1 20 [], impX, incS,
   st "m" "typedef" "t" 3 3 [ty "m" "string"], gS, hS, c1, c2, c3, c4, c5]
def usesHs : Stmt := st "s" "uses" "h" 2 40 []
def sgS : Stmt := st "s" "grouping" "sg" 2 3 [st "s" "leaf" "viaowner" 2 15 [ty "s" "t"], usesHs]
def sS : Stmt := st "s" "submodule" "s" 1 1
  [st "s" "belongs-to" "m" 1 12 [st "s" "prefix" "p" 1 20 []], sgS]
def xgS : Stmt := st "x" "grouping" "xg" 3 3 [st "x" "leaf" "xa" 3 15 [ty "x" "t"]]
def ux : Stmt := st "x" "uses" "pm:g" 4 15 []
def cx : Stmt := st "x" "container" "cx" 4 3 [ux]
def impM : Stmt := st "x" "import" "m" 1 30 [st "x" "prefix" "pm" 1 40 []]
def xS : Stmt := st "x" "module" "x" 1 1
  [st "x" "prefix" "x" 1 12 [], st "x" "namespace" "urn:x" 1 20 [], impM,
   st "x" "typedef" "t" 2 3 [ty "x" "boolean"], xgS, cx]
def m : Mod := { seq := 0, stmt := mS }
def s : Mod := { seq := 1, stmt := sS }
def x : Mod := { seq := 2, stmt := xS }
def reg : Registry := { mods := [m, s, x], modules := [("m", 0), ("x", 2)], subModules := [("s", 1)] }
def linked : List Nat := [0, 1, 2]
def env : Env := { reg := reg, tres := typesLite, linked := linked }

-- binding: module level, own prefix, shadowing by the nearest scope, the submodule's grouping,
-- from the submodule to its owner, a foreign prefix, and back from the other module
example : bindGrouping reg linked m [c1] "g" = some (gS, m, [mS]) := by rfl
example : bindGrouping reg linked m [c2] "p:g" = some (gS, m, [mS]) := by rfl
example : bindGrouping reg linked m [dS, c3] "g" = some (gIn, m, [c3, mS]) := by rfl
example : bindGrouping reg linked m [c4] "sg" = some (sgS, s, [sS]) := by rfl
example : bindGrouping reg linked s [sgS] "h" = some (hS, m, [mS]) := by rfl
example : bindGrouping reg linked m [c5] "q:xg" = some (xgS, x, [xS]) := by rfl
example : bindGrouping reg linked x [cx] "pm:g" = some (gS, m, [mS]) := by rfl
example : bindGrouping reg linked m [c1] "q:nosuch" = none := by rfl
-- the starting (sub)module is not marked, so it is listed again when the walk comes back to it
example : (searchOrder reg linked s).map (·.name) = ["s", "m", "s"] := by decide +kernel
example : (searchOrder reg linked m).map (·.name) = ["m", "s", "m"] := by decide +kernel

-- the hypotheses of the binding theorems are satisfiable, and the search agrees
example : isBare (localName m "p:g") = true := by decide
example : bindFuel reg m [dS, c3] = 3 + 5 * 15 := by decide
example : (findGrouping reg linked 200 m [dS, c3, mS] "g" []).1 = bindGrouping reg linked m [dS, c3] "g" :=
  uses_binds_lexically reg linked m [dS, c3] "g" 200 (by decide) (by decide) (by decide)
example : WellFormedRef m [c5] "q:xg" := Or.inr ⟨by decide, by decide⟩
example : (findGrouping reg linked 200 m [c5, mS] "q:xg" []).1 = some (xgS, x, [xS]) :=
  (uses_binds_import reg linked m [c5] "q:xg" 200 (by decide) (by decide) (by decide) (by decide) (by decide)).trans rfl

-- conversion.  (`String.contains`, which the model's search uses for "has a prefix", does not
-- reduce in the kernel; the examples below are chosen so that evaluation does not reach it, or go
-- through `uses_scope`.)
/-- names and, one level down, the children's names -/
def shape (e : Entry) : List (String × List String) := e.dir.map fun c => (c.name, c.dir.map (·.name))
def conv (root : Mod) (scope : List Stmt) (n : Stmt) : Entry := (toEntry env 40 root scope n [] {}).1

-- the grouping's own entry: nested uses of h expanded (container k), the action with its input
example : shape (conv m [mS] gS) = [("k", ["b", "act"]), ("a", [])] := by decide +kernel
example : ((conv m [mS] gS).getAt [.child "k", .child "act", .input, .child "i"]).map (·.d.name) = some "i" := by
  decide +kernel
-- g used twice in one module (unprefixed and with the own prefix): the same children
example : shape (conv m [mS] c1) = shape (conv m [mS] gS) ∧ shape (conv m [mS] c2) = shape (conv m [mS] gS) := by
  decide +kernel
example : ((conv m [mS] c1).getAt [.child "k", .child "b"]).map (·.d.listAttr.map (·.min)) = some (some 2) ∧
    ((conv m [mS] c2).getAt [.child "a"]).map (·.d.default) = some ["d"] ∧ (conv m [mS] c2).allErrors.length = 0 := by
  decide +kernel
-- shadowing: inside c3 the nearer g is used
example : shape (conv m [mS] c3) = [("d", ["inner"])] := by decide +kernel
-- g used from the other module: `uses_scope` reduces the conversion of `uses pm:g` in x to the
-- conversion of g in m's scope; the copy's leaf still belongs to m's text (seq 0), its type is the
-- `t` written there
example : (toEntry env 41 x ([cx] ++ [x.stmt]) ux [] {}) = toEntry env 40 m [mS] gS [] {} := by
  rw [uses_scope env 40 x [cx] ux [] {} rfl (by decide) (Or.inr ⟨by decide, by decide⟩) (by decide)]
  have hb : bindGrouping env.reg env.linked x [cx] ux.arg = some (gS, m, [mS]) := rfl
  rw [hb]
example : ((conv m [mS] gS).getAt [.child "a"]).map (fun e => (e.d.nodeMod, e.d.type.map (·.dump))) = some (0, some "t") := by
  decide +kernel
-- the hypotheses of `uses_is_copy` are satisfiable: c1's entry before its `uses` step is empty
example : ∀ v ∈ denoteGrouping env 40 (gS, m, [mS]) [] {}, v.name ∉ names (Entry.mk {} [] [] []) := by
  intro v _; simp [names, Entry.dir]
example : ((denoteGrouping env 40 (gS, m, [mS]) [] {}).map (·.name)).Nodup := by decide +kernel
-- `container_gets_copy` applies to c1
example : ∃ tail, (toEntry env 42 m ([] ++ [m.stmt]) c1 [] {}).1.dir = denoteGrouping env 40 (gS, m, [mS]) [] {} ++ tail :=
  container_gets_copy env 40 m [] c1 u1 [] {} (gS, m, [mS]) rfl rfl rfl (by simp) (Or.inl (by decide)) (by decide) rfl
    (by decide +kernel)

-- the calls `processAll` makes: container c1 is reached from the top-level call on module m (fuel
-- `entryFuel reg`, one unit spent), its `uses g` one step further; `uses_scope_in_process` and
-- `container_gets_copy_in_process` apply without any fuel hypothesis
theorem c1_reached : Reached env (entryFuel env.reg - 1) m ([] ++ [m.stmt]) c1 [nodeId m mS] :=
  Lemmas.Uses.Reached.child' (Reached.top (List.mem_cons_self ..)) (by decide) (by simp [m, mS, st, Stmt.subs])
example : ∃ k, entryFuel env.reg - 1 = k + 2 := ⟨entryFuel env.reg - 3, by decide⟩
example (st : TState) : toEntry env (entryFuel env.reg - 1 - 1) m ([c1] ++ [m.stmt]) u1 [nodeId m mS] st =
    toEntry env (entryFuel env.reg - 1 - 1 - 1) m [mS] gS [nodeId m mS] st := by
  have hr : Reached env (entryFuel env.reg - 1 - 1) m ([c1] ++ [m.stmt]) u1 [nodeId m mS] :=
    Lemmas.Uses.Reached.child' c1_reached (by decide) (by simp [c1, Ex.st, Stmt.subs])
  rw [uses_scope_in_process env _ m [c1] u1 _ st hr rfl (by decide) (Or.inl (by decide))]
  have hb : bindGrouping env.reg env.linked m [c1] u1.arg = some (gS, m, [mS]) := rfl
  rw [hb]

-- `first_use_fills_cache`: grouping g converted from module level, then used again from inside c3/d
-- (where another g shadows it for name lookup — the cache is keyed by the statement, not the name)
example : toEntry env 30 m [dS, c3, mS] gS [nodeId m mS] (toEntry env 41 m [mS] gS [] {}).2 =
    ((toEntry env 41 m [mS] gS [] {}).1, (toEntry env 41 m [mS] gS [] {}).2) :=
  (first_use_fills_cache env 40 29 m [mS] [dS, c3, mS] gS [] [nodeId m mS] {} rfl rfl rfl).2
-- `cached_entry_persists`: after converting container c3 (which converts the inner g) the binding of
-- the outer g is still there
example : ((toEntry env 41 m [mS] c3 [] (toEntry env 41 m [mS] gS [] {}).2).2.gcache.find? (·.1 == nodeId m gS)).map (·.1) =
    some (nodeId m gS) := by
  have h := (first_use_fills_cache env 40 0 m [mS] [mS] gS [] [] {} rfl rfl rfl).1
  rw [(cached_entry_persists env 41 0 m m [mS] [mS] c3 gS [] [] _ _ _ rfl h).1]
  rfl

-- the search order lists exactly the reached files: the hypothesis of `search_order_complete` holds
-- of this registry (three loaded files, three names), and the submodule is reached from the module
theorem distinct_m : ReachNamesDistinct reg linked m := names_distinct_of_nodup reg linked m (List.mem_cons_self ..) (by decide)
theorem distinct_s : ReachNamesDistinct reg linked s :=
  names_distinct_of_nodup reg linked s (List.mem_cons_of_mem _ (List.mem_cons_self ..)) (by decide)
theorem m_to_s : Reach reg linked m s :=
  Reach.tail (Reach.refl _) (Spec.Uses.Step.incl (i := incS) (by decide) (by decide) (show incS ∈ [incS] from List.mem_cons_self ..) rfl)
theorem s_to_m : Reach reg linked s m := Reach.tail (Reach.refl _) (Spec.Uses.Step.owner (by decide) (by decide) rfl)
example : ReachNamesDistinct reg linked m := distinct_m
example : Reach reg linked m s := m_to_s
example : s ∈ searchOrder reg linked m := search_order_complete reg linked m distinct_m s m_to_s
-- … and back from the submodule to its module
example : m ∈ searchOrder reg linked s := search_order_complete reg linked s distinct_s m s_to_m
-- `whole_module_is_searched`: `uses h` written in the submodule sees the module's grouping h
example : ∃ r, bindGrouping reg linked s [sgS] "h" = some r :=
  whole_module_is_searched reg linked s [sgS] "h" distinct_s (by decide) m s_to_m hS rfl

-- `grouping_gets_copy` applies to grouping g (its nested `uses h`), `augment_gets_copy` to an
-- augment statement with `uses h`
example : ∃ tail, (toEntry env 42 m ([] ++ [m.stmt]) gS [] {}).1.dir =
    denoteGrouping env 40 (hS, m, [mS]) [nodeId m gS] {} ++ tail :=
  grouping_gets_copy env 40 m [] gS usesH [] {} (hS, m, [mS]) rfl rfl rfl (by simp) rfl rfl (Or.inl (by decide)) (by decide)
    rfl (by decide +kernel)
def augS : Stmt := st "m" "augment" "/p:c1" 9 3 [st "m" "uses" "h" 9 20 []]
example : ∃ tail, (toEntry env 42 m ([] ++ [m.stmt]) augS [] {}).1.dir = denoteGrouping env 40 (hS, m, [mS]) [] {} ++ tail :=
  augment_gets_copy env 40 m [] augS (st "m" "uses" "h" 9 20 []) [] {} (hS, m, [mS]) rfl rfl rfl (by simp)
    (Or.inl (by decide)) (by decide) rfl (by decide +kernel)

/- module t { prefix t; namespace "urn:t"; grouping tg { leaf q { type string; } } uses tg; leaf z { type string; } } -/
def tgS : Stmt := st "t" "grouping" "tg" 2 3 [st "t" "leaf" "q" 2 15 [ty "t" "string"]]
def utS : Stmt := st "t" "uses" "tg" 3 3 []
def tS : Stmt := st "t" "module" "t" 1 1
  [st "t" "prefix" "t" 1 12 [], st "t" "namespace" "urn:t" 1 20 [], tgS, utS, st "t" "leaf" "z" 4 3 [ty "t" "string"]]
def t : Mod := { seq := 0, stmt := tS }
def envT : Env := { reg := { mods := [t], modules := [("t", 0)] }, tres := typesLite, linked := [0] }
-- `module_gets_copy` applies to module t: its entry starts with the grouping's leaf q, then z
example : ∃ tail, (toEntry envT 42 t [] t.stmt [] {}).1.dir = denoteGrouping envT 40 (tgS, t, [tS]) [nodeId t tS] {} ++ tail :=
  module_gets_copy envT 40 t utS [] {} (tgS, t, [tS]) (Or.inl rfl) rfl rfl rfl rfl (Or.inl (by decide)) (by decide) rfl
    (by decide +kernel)
-- the top-level call `processAll` makes on module t, with the model's fuel, no fuel hypothesis
example : ∃ k, entryFuel envT.reg = k + 2 ∧ ∃ tail, (toEntry envT (entryFuel envT.reg) t [] t.stmt [] {}).1.dir =
    denoteGrouping envT k (tgS, t, [tS]) [nodeId t tS] {} ++ tail := by
  refine ⟨entryFuel envT.reg - 2, by decide, ?_⟩
  have hf : entryFuel envT.reg = entryFuel envT.reg - 2 + 2 := by decide
  have hr : Reached envT (entryFuel envT.reg - 2 + 2) t [] t.stmt [] := hf ▸ Reached.top (List.mem_cons_self ..)
  have h := module_gets_copy_in_process envT (entryFuel envT.reg - 2) t utS [] {} (tgS, t, [tS]) hr (Or.inl rfl) rfl rfl rfl rfl
    (Or.inl (by decide)) rfl (by decide +kernel)
  rw [← hf] at h
  exact h
example : (toEntry envT 42 t [] t.stmt [] {}).1.dir.map (·.name) = ["q", "z"] := by decide +kernel
-- the module cache after that conversion holds the entry it returned (`cache_miss_stores`), and a
-- second conversion answers from it (`module_cached_same`)
example : (toEntry envT 42 t [] t.stmt [] {}).2.cache.map (·.1) = [0] := by decide +kernel
example (e : Entry) : toEntry envT 42 t [] t.stmt [] { cache := [(0, e)] } = (e, { cache := [(0, e)] }) :=
  (module_cached_same envT 41 t [] [] t.stmt [] [] { cache := [(0, e)] } 0 e (Or.inl rfl) rfl).1
end Ex

/-! A prefix is scoped per file: submodule `ms` (belongs-to main { prefix ms; }) imports `q` under
the prefix `m` that module `main` declares for itself; `uses m:params` written in the submodule
denotes `q`'s grouping, although `main` has a grouping `params` too (seeded change C06-d2). -/
namespace ExP
def st (file kw arg : String) (l c : Nat) (subs : List Stmt) : Stmt := .mk kw true arg file l c subs
def qParams : Stmt := st "q" "grouping" "params" 3 3 [st "q" "leaf" "from-q" 3 20 [st "q" "type" "string" 3 30 []]]
def qS : Stmt := st "q" "module" "q" 1 1 [st "q" "prefix" "q" 1 12 [], st "q" "namespace" "urn:q" 1 20 [], qParams]
def mainParams : Stmt := st "main" "grouping" "params" 3 3 [st "main" "leaf" "from-main" 3 20 [st "main" "type" "string" 3 30 []]]
def mainS : Stmt := st "main" "module" "main" 1 1
  [st "main" "prefix" "m" 1 12 [], st "main" "namespace" "urn:main" 1 20 [], st "main" "include" "main-sub" 2 3 [], mainParams]
def usesP : Stmt := st "sub" "uses" "m:params" 5 5 []
def subTop : Stmt := st "sub" "container" "sub-top" 4 3 [usesP]
def subS : Stmt := st "sub" "submodule" "main-sub" 1 1
  [st "sub" "belongs-to" "main" 2 3 [st "sub" "prefix" "ms" 2 20 []],
   st "sub" "import" "q" 3 3 [st "sub" "prefix" "m" 3 14 []], subTop]
def q : Mod := { seq := 0, stmt := qS }
def main : Mod := { seq := 1, stmt := mainS }
def sub : Mod := { seq := 2, stmt := subS }
def reg : Registry := { mods := [q, main, sub], modules := [("q", 0), ("main", 1)], subModules := [("main-sub", 2)] }

example : bindGrouping reg [0, 1, 2] sub [subTop] "m:params" = some (qParams, q, [qS]) := by rfl
example : bindGrouping reg [0, 1, 2] sub [subTop] "ms:params" = some (mainParams, main, [mainS]) := by rfl
example : bindGrouping reg [0, 1, 2] sub [subTop] "params" = some (mainParams, main, [mainS]) := by rfl
example : (findGrouping reg [0, 1, 2] 200 sub [subTop, subS] "m:params" []).1 = some (qParams, q, [qS]) :=
  (uses_binds_import reg [0, 1, 2] sub [subTop] "m:params" 200 (by decide) (by decide) (by decide) (by decide) (by decide)).trans rfl
end ExP

/-! The marks of the search are names.  Module `m` includes submodules `a` and `m` (a submodule
named like its module — against RFC 7950 5.1, but goyang loads it: modules and submodules are kept in
two tables).  Seen from submodule `a`, the walk goes to the owner `m` (marks "m"), from there to `a`
(marks "a") and skips the include of submodule `m`, whose name is marked: that file is reached but not
searched, and a grouping declared there is not found.  Go's `FindGrouping` does the same (it marks
`Module.Name`); `Process` reports "unknown group" for `uses g` written in `a` — together with a
circular-dependency error for `include m` in module `m`, so no tree is handed out for such a set. -/
namespace ExN
def st (file kw arg : String) (l c : Nat) (subs : List Stmt) : Stmt := .mk kw true arg file l c subs
def gS : Stmt := st "S" "grouping" "g" 2 3 [st "S" "leaf" "x" 2 15 [st "S" "type" "string" 2 20 []]]
def mS : Stmt := st "M" "module" "m" 1 1
  [st "M" "prefix" "p" 1 12 [], st "M" "namespace" "urn:m" 1 20 [], st "M" "include" "a" 2 3 [], st "M" "include" "m" 3 3 []]
def aS : Stmt := st "A" "submodule" "a" 1 1
  [st "A" "belongs-to" "m" 1 12 [st "A" "prefix" "p" 1 20 []], st "A" "container" "c" 2 3 [st "A" "uses" "g" 2 15 []]]
def smS : Stmt := st "S" "submodule" "m" 1 1 [st "S" "belongs-to" "m" 1 12 [st "S" "prefix" "p" 1 20 []], gS]
def m : Mod := { seq := 0, stmt := mS }
def a : Mod := { seq := 1, stmt := aS }
def sm : Mod := { seq := 2, stmt := smS }
def reg : Registry := { mods := [m, a, sm], modules := [("m", 0)], subModules := [("a", 1), ("m", 2)] }

theorem clash_reached : Reach reg [0, 1, 2] a sm :=
  Reach.tail (Reach.tail (Reach.refl _) (Spec.Uses.Step.owner (by decide) (by decide) rfl))
    (Spec.Uses.Step.incl (i := st "M" "include" "m" 3 3 []) (by decide) (by decide)
      (show st "M" "include" "m" 3 3 [] ∈ [st "M" "include" "a" 2 3 [], st "M" "include" "m" 3 3 []] by simp) rfl)

theorem clash_order : (searchOrder reg [0, 1, 2] a).map (·.seq) = [1, 0, 1] := by decide +kernel

example : bindGrouping reg [0, 1, 2] a [st "A" "container" "c" 2 3 [st "A" "uses" "g" 2 15 []]] "g" = none := by
  decide +kernel
example : (findGrouping reg [0, 1, 2] 200 a [st "A" "container" "c" 2 3 [st "A" "uses" "g" 2 15 []], aS] "g" []).1 = none :=
  (uses_binds_lexically reg [0, 1, 2] a [st "A" "container" "c" 2 3 [st "A" "uses" "g" 2 15 []]] "g" 200
    (by decide) (by decide) (by decide)).trans (by decide +kernel)
end ExN

/-- **search_order_needs_distinct_names.**  Without the hypothesis on the names,
`search_order_complete` is false: in `ExN.reg` the submodule named `m` is reached from submodule
`a` and is not in the search order from `a`. -/
theorem search_order_needs_distinct_names :
    ∃ (reg : Registry) (linked : List Nat) (m x : Mod), Reach reg linked m x ∧ x ∉ searchOrder reg linked m := by
  refine ⟨ExN.reg, [0, 1, 2], ExN.a, ExN.sm, ExN.clash_reached, ?_⟩
  intro h
  have h2 : ExN.sm.seq ∈ (searchOrder ExN.reg [0, 1, 2] ExN.a).map (·.seq) := List.mem_map_of_mem h
  rw [ExN.clash_order] at h2
  revert h2
  decide

end Goyang.Props.C06
