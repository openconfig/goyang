import Goyang.Lemmas.PositionsSem
import Goyang.Model.Pipeline
import Goyang.Lemmas.Types
import Goyang.Lemmas.RegistryAux
import Goyang.Lemmas.TypesFuel
/-
Semantic half of C16: the layers plugged into `processAll` by `Goyang.Model.plugFull` — type
resolution (`Goyang.Model.Types`), typedef resolution and identity resolution
(`Goyang.Model.Identity`) — keep the position discipline `PlugPositionsAt K` for every class / statement
relation `K` that admits their error sites (`TypeSites K`): every error they build is bare or
`Err.at_ s cls` with `s` a statement of a loaded module, and where the class says which one, `s` is
the `type` / `range` / `length` / `enum` / `bit` statement.  `Names` is such a relation
(`typeSites_names`).
-/
set_option linter.unusedVariables false
set_option linter.unusedSimpArgs false
set_option linter.unusedSectionVars false
open Goyang.Lemmas.ListAux (foldl_inv)
namespace Goyang.Lemmas.PositionsTypes
open Goyang.Model Goyang.Model.Types Goyang.Spec.Positions Goyang.Lemmas.PositionsSem
open Goyang.Lemmas.Tree (one?_kw mem_all_kw)

/-- The classes constrained to something else than an `enum` / `bit` statement. -/
def notEnum : List String :=
  ["unknown-group", "bad-ordered-by", "bad-max-elements", "bad-min-elements", "bad-tristate", "unknown-type",
   "unknown-prefix", "bad-range", "bad-length", "negative-length"]

theorem names_enum {cls : String} {s : Stmt} (hs : s.kw = "enum" ∨ s.kw = "bit") (h : cls ∉ notEnum) : Names cls s := by
  simp only [notEnum, List.mem_cons, List.not_mem_nil, or_false, not_or] at h
  obtain ⟨h1, h2, h3, h4, h5, h6, h7, h8, h9, h10⟩ := h
  exact ⟨fun e => absurd e h1, fun e => absurd e h2, fun e => absurd e h3, fun e => absurd e h4,
    fun e => absurd e h5, fun e => absurd e h6, fun e => absurd e h7, fun e => absurd e h8,
    fun e => absurd e h9, fun e => absurd e h10, fun _ => hs⟩

/-- What the class / statement relation `K` must admit: the error sites of the type, typedef and
identity layers, each with what is known of the statement at that place. -/
structure TypeSites (K : String → Stmt → Prop) : Prop where
  unknownType : ∀ s, s.kw = "type" → K "unknown-type" s
  unknownPrefix : ∀ s, s.kw = "type" → K "unknown-prefix" s
  range : ∀ s, s.kw = "range" → K "bad-range" s
  length : ∀ s, s.kw = "length" → K "bad-length" s
  negLength : ∀ s, s.kw = "length" → K "negative-length" s
  member : ∀ s x, s.kw = "enum" ∨ s.kw = "bit" → K (enumErrClass x) s
  fuel : ∀ s, K "out-of-fuel" s
  other : ∀ s, K "other" s
  fdNotDecimal : ∀ s, K "fraction-digits-not-decimal" s
  fdOverride : ∀ s, K "fraction-digits-override" s
  noBase : ∀ s, K "identityref-no-base" s
  pattern : ∀ s, K "bad-pattern" s
  cycle : ∀ s, K "cycle" s
  crash : ∀ s, K "crash" s
  noYangType : ∀ s, K "no-yangtype" s
  noModule : ∀ s, K "no-such-module" s
  baseLocal : ∀ s, K "identity-base-local" s
  identPrefix : ∀ s, K "identity-prefix" s
  baseRemote : ∀ s, K "identity-base-remote" s

theorem enumErrClass_notEnum (x : Enum.EnumErr) : enumErrClass x ∉ notEnum := by
  cases x <;> simp only [enumErrClass] <;> decide

theorem typeSites_names : TypeSites Names where
  unknownType s hs := names_kw hs rfl
  unknownPrefix s hs := names_kw hs rfl
  range s hs := names_kw hs rfl
  length s hs := names_kw hs rfl
  negLength s hs := names_kw hs rfl
  member s x hs := names_enum hs (enumErrClass_notEnum x)
  fuel s := names_free s (by decide)
  other s := names_free s (by decide)
  fdNotDecimal s := names_free s (by decide)
  fdOverride s := names_free s (by decide)
  noBase s := names_free s (by decide)
  pattern s := names_free s (by decide)
  cycle s := names_free s (by decide)
  crash s := names_free s (by decide)
  noYangType s := names_free s (by decide)
  noModule s := names_free s (by decide)
  baseLocal s := names_free s (by decide)
  identPrefix s := names_free s (by decide)
  baseRemote s := names_free s (by decide)

section
variable {reg : Registry} {K : String → Stmt → Prop}

/-! ### typedef lookup returns statements of loaded modules -/

theorem stmtsOf_eq_descendants : ∀ s : Stmt, stmtsOf s = descendants s := by
  intro s
  induction s using stmt_induct with
  | h kw ha a f l c subs ih =>
    have hl : stmtsOfL subs = descendantsL subs := by
      induction subs with
      | nil => rfl
      | cons x xs ihx =>
        simp only [stmtsOfL, descendantsL]
        rw [ih x List.mem_cons_self, ihx fun ss hss => ih ss (List.mem_cons_of_mem _ hss)]
    simp only [stmtsOf, descendants, hl]

theorem mem_descendants_iff (top s : Stmt) : s ∈ descendants top ↔ Within s top := by
  rw [← stmtsOf_eq_descendants, mem_stmtsOf_iff]

/-- A typedef reference into the loaded set: the typedef, with its ancestors, is inside a loaded module. -/
abbrev GoodRef (reg : Registry) (r : TdRef) : Prop := GoodCall reg r.root r.scope r.td

/-- The lookup at the head of `Type.resolve`: a typedef of a loaded module, or an error at the
`type` statement itself. -/
theorem lookup_good (hK : TypeSites K) (env : Types.Env) {root : Mod} (hroot : root ∈ env.reg.mods) {scope : List Stmt} {t : Stmt}
    (ht : Within t root.stmt) (hkw : t.kw = "type") (hscope : ∀ s ∈ scope, Within s root.stmt) :
    (∀ src r, lookup env root scope t = .typedef src r → GoodRef env.reg r) ∧
    (∀ e, lookup env root scope t = .error e → PosAt K env.reg e) := by
  have hst : StmtOf env.reg t := ⟨root, hroot, ht⟩
  constructor
  · intro src r h
    obtain ⟨h1, h2, h3⟩ := TypesFuel.lookup_inSet
      ⟨hroot, (mem_descendants_iff _ _).2 ht, fun s hs => (mem_descendants_iff _ _).2 (hscope s hs)⟩ h
    exact ⟨h1, (mem_descendants_iff _ _).1 h2, fun s hs => (mem_descendants_iff _ _).1 (h3 s hs)⟩
  · intro e
    fun_cases lookup env root scope t
    -- the name is not found (among the local typedefs / in the imported module)
    case case4 | case8 => rintro ⟨⟩; exact posOK_at hst _ (hK.unknownType t hkw)
    -- the search ran out of fuel
    case case5 | case9 => rintro ⟨⟩; exact posOK_at hst _ (hK.fuel t)
    -- the prefix names no import
    case case6 => rintro ⟨⟩; exact posOK_at hst _ (hK.unknownPrefix t hkw)
    -- a built-in or a typedef: no error
    all_goals exact nofun

/-! ### the overlays of `Type.resolve` -/

theorem findIdentityBase_good (hK : TypeSites K) (dict : Identity.Dict) {root : Mod} (hroot : root ∈ reg.mods) (baseStr : String) (e : Err)
    (h : Identity.findIdentityBase reg dict root baseStr = .error e) : PosAt K reg e := by
  have hrs : StmtOf reg root.stmt := ⟨root, hroot, .top _⟩
  revert h
  fun_cases Identity.findIdentityBase reg dict root baseStr
  case case1 | case3 => rintro ⟨⟩; exact posOK_at hrs _ (hK.baseLocal _)
  case case4 => rintro ⟨⟩; exact posOK_at hrs _ (hK.identPrefix _)
  case case5 => rintro ⟨⟩; exact posOK_bare _ _
  case case7 => rintro ⟨⟩; exact posOK_at hrs _ (hK.baseRemote _)
  all_goals exact nofun

theorem stepRequireInstance_good (t : Stmt) (s : St) (hs : ErrsOK K reg s.2) : ErrsOK K reg (stepRequireInstance t s).2 := by
  fun_cases stepRequireInstance t s
  -- a value that is neither `true` nor `false`
  case case4 => exact errsOK_snoc hs (posOK_bare _ _)
  all_goals exact hs

theorem stepPath_good (t : Stmt) (s : St) (hs : ErrsOK K reg s.2) : ErrsOK K reg (stepPath t s).2 := by
  unfold stepPath
  split <;> exact hs

theorem stepKind_good (hK : TypeSites K) (env : Types.Env) {root : Mod} (hroot : root ∈ env.reg.mods) {t : Stmt} (ht : StmtOf env.reg t)
    (hkw : t.kw = "type") (source : Source) (dec : Bool) (s : St) (hs : ErrsOK K env.reg s.2) :
    ErrsOK K env.reg (stepKind env root t source dec s).2 := by
  fun_cases stepKind env root t source dec s
  case case3 => exact errsOK_snoc hs (posOK_at ht _ (hK.other t))
  case case4 => exact errsOK_snoc hs (posOK_at ht _ (hK.fdNotDecimal t))
  case case6 => exact errsOK_snoc hs (posOK_at ht _ (hK.noBase t))
  case case7 e he => exact errsOK_snoc hs (findIdentityBase_good hK _ hroot _ e he)
  all_goals exact hs

theorem stepRange_good (hK : TypeSites K) {t : Stmt} (ht : StmtOf reg t) (dec : Bool) (s : St) (hs : ErrsOK K reg s.2) :
    ErrsOK K reg (stepRange t dec s).2 := by
  unfold stepRange
  split
  · exact hs
  · rename_i r hr
    split
    · exact hs
    · exact errsOK_snoc hs (posOK_at (stmtOf_one ht hr) _ (hK.range r (one?_kw t _ r hr)))

theorem stepLength_good (hK : TypeSites K) {t : Stmt} (ht : StmtOf reg t) (s : St) (hs : ErrsOK K reg s.2) :
    ErrsOK K reg (stepLength t s).2 := by
  unfold stepLength
  split
  · exact hs
  · rename_i l hl
    have hk := one?_kw t _ l hl
    split
    · exact hs
    · exact errsOK_snoc hs (posOK_at (stmtOf_one ht hl) _ (hK.negLength l hk))
    · exact errsOK_snoc hs (posOK_at (stmtOf_one ht hl) _ (hK.length l hk))

/-- The errors of the enum / bit loop stand at the rejected `enum` / `bit` member. -/
theorem enumFold_good (hK : TypeSites K) (start : EnumTab) (valueKw : String) (members : List Stmt)
    (hm : ∀ e ∈ members, StmtOf reg e ∧ (e.kw = "enum" ∨ e.kw = "bit")) :
    ErrsOK K reg (enumFold start valueKw members).2 := by
  intro x hx
  unfold enumFold at hx
  simp only [List.mem_filterMap, Option.map_eq_some_iff] at hx
  obtain ⟨ie, _, e, he, rfl⟩ := hx
  obtain ⟨h1, h2⟩ := hm e (List.mem_of_getElem? he)
  exact posOK_at h1 _ (hK.member e _ h2)

theorem stepEnum_good (hK : TypeSites K) {t : Stmt} (ht : StmtOf reg t) (s : St) (hs : ErrsOK K reg s.2) : ErrsOK K reg (stepEnum t s).2 := by
  unfold stepEnum
  split
  · exact hs
  · rename_i heq
    refine errsOK_append hs (enumFold_good hK _ _ _ ?_)
    intro e he
    exact ⟨stmtOf_all ht he, Or.inl (mem_all_kw t _ e he)⟩

theorem stepBit_good (hK : TypeSites K) {t : Stmt} (ht : StmtOf reg t) (s : St) (hs : ErrsOK K reg s.2) : ErrsOK K reg (stepBit t s).2 := by
  unfold stepBit
  split
  · exact hs
  · rename_i heq
    refine errsOK_append hs (enumFold_good hK _ _ _ ?_)
    intro e he
    exact ⟨stmtOf_all ht he, Or.inr (mem_all_kw t _ e he)⟩

theorem posixPatterns_sub (env : Types.Env) (root : Mod) (t : Stmt) (pps : List Stmt)
    (h : posixPatterns env root t = some pps) : ∀ e ∈ pps, e ∈ t.subs := by
  unfold posixPatterns at h
  have key : ∀ (l : List Stmt) (acc : Option (List Stmt)), (∀ x ∈ l, x ∈ t.subs) →
      (∀ a, acc = some a → ∀ e ∈ a, e ∈ t.subs) →
      ∀ a, l.foldl (fun acc ext =>
        match acc with
        | none => none
        | some l =>
          let pn := splitPrefix ext.kw
          match env.reg.findModuleByPrefix root pn.1 with
          | none => none
          | some m => if pn.2 == "posix-pattern" && m.name == "openconfig-extensions" then some (l ++ [ext]) else some l)
        acc = some a → ∀ e ∈ a, e ∈ t.subs := by
    intro l acc hl hacc
    refine foldl_inv (fun acc : Option (List Stmt) => ∀ a, acc = some a → ∀ e ∈ a, e ∈ t.subs) _ l acc hacc ?_
    intro acc ext hext ha
    split
    · intro a h; cases h
    · rename_i l'
      dsimp only
      split
      · intro a h; cases h
      · split
        · intro a h
          simp only [Option.some.injEq] at h; subst h
          intro e he
          rcases List.mem_append.mp he with he | he
          · exact ha l' rfl e he
          · simp only [List.mem_singleton] at he; subst he; exact hl e hext
        · intro a h
          simp only [Option.some.injEq] at h; subst h
          exact ha l' rfl
  refine key (extsOf t) (some []) ?_ ?_ pps h
  · intro x hx; exact (List.mem_filter.mp hx).1
  · intro a h; simp only [Option.some.injEq] at h; subst h; simp

theorem stepPosix_good (hK : TypeSites K) (env : Types.Env) {t : Stmt} (ht : StmtOf env.reg t) (pps : List Stmt) (hp : ∀ e ∈ pps, e ∈ t.subs)
    (s : St) (hs : ErrsOK K env.reg s.2) : ErrsOK K env.reg (stepPosix env pps s).2 := by
  unfold stepPosix
  refine errsOK_append hs ?_
  intro x hx
  simp only [List.mem_map, List.mem_filter] at hx
  obtain ⟨e, ⟨he, _⟩, rfl⟩ := hx
  exact posOK_at (stmtOf_sub ht (hp e he)) _ (hK.pattern e)

theorem stepMembers_good (members : List Res) (hm : ∀ r ∈ members, ErrsOK K reg r.errs) (s : St) (hs : ErrsOK K reg s.2) :
    ErrsOK K reg (stepMembers members s).2 := by
  unfold stepMembers
  intro x hx
  rcases (Goyang.Lemmas.Types.mem_appendNewErrs x _ _).mp hx with h | h
  · exact hs x h
  · simp only [List.mem_flatMap] at h
    obtain ⟨r, hr, hxr⟩ := h
    exact hm r hr x hxr

theorem overlayType_good (hK : TypeSites K) (env : Types.Env) {root : Mod} (hroot : root ∈ env.reg.mods) {t : Stmt} (ht : StmtOf env.reg t)
    (hkw : t.kw = "type") (source : Source) (tdY : YType) (members : List Res)
    (hm : ∀ r ∈ members, ErrsOK K env.reg r.errs) :
    ErrsOK K env.reg (overlayType env root t source tdY members).errs := by
  have h1 : ErrsOK K env.reg (stepPath t (stepRequireInstance t (tdY.copyOf, []))).2 :=
    stepPath_good _ _ (stepRequireInstance_good _ _ errsOK_nil)
  unfold overlayType
  dsimp only
  split
  · exact errsOK_snoc h1 (posOK_at ht _ (hK.fdOverride t))
  · have h7 : ErrsOK K env.reg (overlayLocal env root t source tdY (stepPath t (stepRequireInstance t (tdY.copyOf, [])))).2 := by
      unfold overlayLocal
      dsimp only
      unfold stepPattern
      dsimp only
      exact stepBit_good hK ht _ (stepEnum_good hK ht _ (stepLength_good hK ht _ (stepRange_good hK ht _ _
        (stepKind_good hK env hroot ht hkw _ _ _ h1))))
    split
    · exact errsOK_single (posOK_bare _ _)
    · rename_i pps hpps
      exact stepMembers_good members hm _ (stepPosix_good hK env ht pps (posixPatterns_sub env root t pps hpps) _ h7)

theorem typedefOverlay_good (env : Types.Env) (root : Mod) (td tt : Stmt) (ty : YType) :
    ErrsOK K env.reg (typedefOverlay env root td tt ty).errs := by
  unfold typedefOverlay
  split
  · exact errsOK_single (posOK_bare _ _)
  · exact errsOK_nil

/-! ### the recursion -/

/-- Go: `Type.resolve` on a `type` statement of a loaded module only reports statements of loaded
modules: the type statement itself, its `range` / `length` / `enum` / `bit` / pattern-extension
substatements, its union members, and the same for the typedefs it is based on. -/
theorem resolveTypeF_good (hK : TypeSites K) (env : Types.Env) : ∀ (fuel : Nat) (root : Mod) (scope : List Stmt) (t : Stmt)
    (stack : List TypeKey), root ∈ env.reg.mods → Within t root.stmt → t.kw = "type" →
    (∀ s ∈ scope, Within s root.stmt) → ErrsOK K env.reg (resolveTypeF env fuel root scope t stack).errs := by
  intro fuel
  induction fuel with
  | zero =>
    intro root scope t stack hroot ht hkw hscope
    exact errsOK_single (posOK_at ⟨root, hroot, ht⟩ _ (hK.fuel t))
  | succ fuel ih =>
    intro root scope t stack hroot ht hkw hscope
    have hst : StmtOf env.reg t := ⟨root, hroot, ht⟩
    have hts : ∀ s ∈ t :: scope, Within s root.stmt := List.forall_mem_cons.2 ⟨ht, hscope⟩
    obtain ⟨hl1, hl2⟩ := lookup_good hK env hroot ht hkw hscope
    have hmem : ∀ st, ∀ r ∈ (t.all "type").map (fun ut => resolveTypeF env fuel root (t :: scope) ut st),
        ErrsOK K env.reg r.errs := by
      intro st r hr
      simp only [List.mem_map] at hr
      obtain ⟨ut, hut, rfl⟩ := hr
      exact ih root (t :: scope) ut st hroot (within_all ht hut) (mem_all_kw t _ ut hut) hts
    unfold resolveTypeF
    dsimp only
    split
    · exact errsOK_single (posOK_at hst _ (hK.cycle t))
    · split
      · rename_i e he
        exact errsOK_single (hl2 e he)
      · exact overlayType_good hK env hroot hst hkw _ _ _ (hmem _)
      · rename_i src r hr
        have hgr := hl1 src r hr
        have htd : StmtOf env.reg r.td := ⟨r.root, hgr.mem, hgr.within⟩
        split
        · exact errsOK_single (posOK_at htd _ (hK.crash _))
        · rename_i tt htt
          have hbase := ih r.root (r.td :: r.scope) tt (typeKey root t :: stack) hgr.mem (within_one hgr.within htt)
            (one?_kw r.td _ tt htt) (List.forall_mem_cons.2 ⟨hgr.within, hgr.anc⟩)
          split
          · exact hbase
          · split
            · exact errsOK_single (posOK_at (stmtOf_one htd htt) _ (hK.crash _))
            · split
              · exact typedefOverlay_good env _ _ _ _
              · split
                · exact errsOK_single (posOK_at htd _ (hK.noYangType _))
                · exact overlayType_good hK env hroot hst hkw _ _ _ (hmem _)

theorem resolveTypedefF_good (hK : TypeSites K) (env : Types.Env) (fuel : Nat) {root : Mod} (hroot : root ∈ env.reg.mods)
    {scope : List Stmt} {td : Stmt} (htd : Within td root.stmt) (hscope : ∀ s ∈ scope, Within s root.stmt) :
    ErrsOK K env.reg (resolveTypedefF env fuel root scope td).errs := by
  have hs : StmtOf env.reg td := ⟨root, hroot, htd⟩
  unfold resolveTypedefF
  split
  · exact errsOK_single (posOK_at hs _ (hK.crash _))
  · rename_i tt htt
    have hbase := resolveTypeF_good hK env fuel root (td :: scope) tt [] hroot (within_one htd htt) (one?_kw td _ tt htt)
      (List.forall_mem_cons.2 ⟨htd, hscope⟩)
    dsimp only
    split
    · exact hbase
    · split
      · exact errsOK_single (posOK_at (stmtOf_one hs htt) _ (hK.crash _))
      · exact typedefOverlay_good env _ _ _ _

/-! ### walking the loaded set -/

theorem mem_collectL (kws : List String) (up : List Stmt) (l : List Stmt) (x : Stmt × List Stmt) :
    x ∈ collectL kws up l ↔ ∃ c ∈ l, x ∈ collect kws up c := by
  induction l with
  | nil => simp [collectL]
  | cons a l ih => simp [collectL, ih]

/-- Everything `collect` returns is a statement of the tree with ancestors in the tree. -/
theorem collect_within (kws : List String) (top : Stmt) : ∀ (s : Stmt) (up : List Stmt), Within s top →
    (∀ u ∈ up, Within u top) → ∀ x ∈ collect kws up s, Within x.1 top ∧ ∀ u ∈ x.2, Within u top := by
  intro s
  induction s using stmt_induct with
  | h kw ha a f l c subs ih =>
    intro up hs hup x hx
    unfold collect at hx
    dsimp only at hx
    split at hx
    · simp at hx
    · rcases List.mem_append.mp hx with hx | hx
      · split at hx
        · simp only [List.mem_singleton] at hx; subst hx; exact ⟨hs, hup⟩
        · simp at hx
      · obtain ⟨ch, hch, hxc⟩ := (mem_collectL _ _ _ _).1 hx
        exact ih ch hch _ (.sub hs hch) (List.forall_mem_cons.2 ⟨hs, hup⟩) x hxc

theorem resolveAllTypedefsE_good (hK : TypeSites K) (env : Types.Env) : ErrsOK K env.reg (resolveAllTypedefsE env) := by
  intro x hx
  unfold resolveAllTypedefsE at hx
  simp only [List.mem_flatMap] at hx
  obtain ⟨m, hm, ⟨td, scope⟩, hts, hxe⟩ := hx
  unfold dictTypedefs at hts
  simp only [List.mem_flatMap, List.mem_map, List.mem_filter] at hts
  obtain ⟨⟨n, up⟩, hcol, td', ⟨htd', _⟩, heq⟩ := hts
  simp only [Prod.mk.injEq] at heq
  obtain ⟨rfl, rfl⟩ := heq
  obtain ⟨hn, hup⟩ := collect_within typedeferKinds m.stmt m.stmt [] (.top _) (by simp) (n, up) hcol
  dsimp only at hn hup hxe
  exact resolveTypedefF_good hK env env.fuel hm (within_all hn htd') (List.forall_mem_cons.2 ⟨hn, hup⟩) x hxe

theorem normTypeErr_good {e : Err} (h : PosAt K reg e) : PosAt K reg (normTypeErr e) := by
  unfold normTypeErr
  split
  · exact posOK_bare _ _
  · exact h

/-! ### identity resolution -/

/-- Every dictionary entry was made from an `identity` statement of a loaded module. -/
def DictOK (reg : Registry) (d : Identity.Dict) : Prop := ∀ e ∈ d, StmtOf reg e.stmt

theorem dictOK_bind {d : Identity.Dict} {e : Identity.DEntry} (hd : DictOK reg d) (he : StmtOf reg e.stmt) :
    DictOK reg (d.bind e) := by
  unfold Identity.Dict.bind
  split
  · intro x hx
    simp only [List.mem_map] at hx
    obtain ⟨y, hy, rfl⟩ := hx
    split
    · exact he
    · exact hd y hy
  · intro x hx
    rcases List.mem_append.mp hx with hx | hx
    · exact hd x hx
    · simp only [List.mem_singleton] at hx; subst hx; exact he

theorem registerMod_good (hK : TypeSites K) {m : Mod} (hm : m ∈ reg.mods) (acc : Identity.Dict × List Err)
    (h : DictOK reg acc.1 ∧ ErrsOK K reg acc.2) :
    DictOK reg (Identity.registerMod reg m acc).1 ∧ ErrsOK K reg (Identity.registerMod reg m acc).2 := by
  have hms : StmtOf reg m.stmt := ⟨m, hm, .top _⟩
  unfold Identity.registerMod
  split
  · split
    · rename_i b hb
      exact ⟨h.1, errsOK_snoc h.2 (posOK_at (stmtOf_one hms hb) _ (hK.noModule b))⟩
    · exact ⟨h.1, errsOK_snoc h.2 (posOK_bare _ _)⟩
  · refine ⟨?_, h.2⟩
    dsimp only
    refine foldl_inv (DictOK reg) _ _ _ h.1 ?_
    rintro d ⟨s, i⟩ hsi hd
    dsimp only
    refine dictOK_bind hd ?_
    have : s ∈ Identity.identities m := by
      have := List.mem_zipIdx hsi
      simp only [Nat.zero_add] at this
      rw [this.2.2]; exact List.getElem_mem _
    exact stmtOf_all hms this

theorem foldlM_option_inv {α β : Type} (P : β → Prop) (f : β → α → Option β) :
    ∀ (l : List α) (b : β), P b → (∀ b a b', a ∈ l → P b → f b a = some b' → P b') →
      ∀ r, l.foldlM f b = some r → P r := by
  intro l
  induction l with
  | nil =>
    intro b hb _ r h
    simp only [List.foldlM_nil, Option.pure_def, Option.some.injEq] at h
    subst h; exact hb
  | cons a l ih =>
    intro b hb hs r h
    simp only [List.foldlM_cons, Option.bind_eq_bind] at h
    cases hf : f b a with
    | none => rw [hf] at h; simp at h
    | some b' =>
      rw [hf] at h
      simp only [Option.bind_some] at h
      exact ih b' (hs b a b' (by simp) hb hf) (fun b a b' ha => hs b a b' (List.mem_cons_of_mem _ ha)) r h

theorem buildDict_good (hK : TypeSites K) (o : Identity.Oracle) (lk : Identity.Link) (d : Identity.Dict) (errs : List Err)
    (h : Identity.buildDict o reg lk = some (d, errs)) : DictOK reg d ∧ ErrsOK K reg errs := by
  unfold Identity.buildDict at h
  refine foldlM_option_inv (fun acc : Identity.Dict × List Err => DictOK reg acc.1 ∧ ErrsOK K reg acc.2) _ _ _
    ⟨(by intro e he; cases he), errsOK_nil⟩ ?_ (d, errs) h
  intro acc mod acc' _ hacc hstep
  split at hstep
  · cases hstep
  · rename_i closure _
    simp only [Option.some.injEq] at hstep
    subst hstep
    refine foldl_inv (fun acc : Identity.Dict × List Err => DictOK reg acc.1 ∧ ErrsOK K reg acc.2) _ _ _ hacc ?_
    intro acc s _ ha
    split
    · rename_i m hm
      exact registerMod_good hK (RegistryAux.byId_mem hm) acc ha
    · exact ha

theorem directAll_good (hK : TypeSites K) (dict : Identity.Dict) (order : List Identity.DEntry) (vals0 : Identity.Vtx → List Identity.Vtx) :
    ErrsOK K reg (Identity.directAll reg dict order vals0).2 := by
  unfold Identity.directAll
  refine foldl_inv (fun acc : (Identity.Vtx → List Identity.Vtx) × List Err => ErrsOK K reg acc.2) _ _ _ errsOK_nil ?_
  intro acc e _ hacc
  unfold Identity.directOne
  refine foldl_inv (fun acc : (Identity.Vtx → List Identity.Vtx) × List Err => ErrsOK K reg acc.2) _ _ _ hacc ?_
  intro acc rb hrb ha
  split
  · rename_i err
    refine errsOK_snoc ha ?_
    unfold Identity.resolvedBases at hrb
    split at hrb
    · rename_i root hroot
      simp only [List.mem_map] at hrb
      obtain ⟨b, _, hb⟩ := hrb
      exact findIdentityBase_good hK dict (RegistryAux.byId_mem hroot) _ err hb
    · simp at hrb
  · exact ha

theorem resolveIdentities_good (hK : TypeSites K) (o : Identity.Oracle) (lk : Identity.Link) (vals0 : Identity.Vtx → List Identity.Vtx)
    (res : Identity.Result) (h : Identity.resolveIdentities o reg lk vals0 = some res) : ErrsOK K reg res.errs := by
  unfold Identity.resolveIdentities at h
  split at h
  · cases h
  · rename_i dict errs1 hbd
    obtain ⟨hd, he1⟩ := buildDict_good hK o lk dict errs1 hbd
    dsimp only at h
    split at h
    · cases h
    · rename_i vals2 cyc _
      simp only [Option.some.injEq] at h
      subst h
      dsimp only
      refine errsOK_append (errsOK_append he1 (directAll_good hK dict _ vals0)) ?_
      intro x hx
      simp only [List.mem_filterMap, Option.map_eq_some_iff] at hx
      obtain ⟨v, _, e, he, rfl⟩ := hx
      exact posOK_at (hd e (List.mem_of_find?_eq_some he)) _ (hK.cycle _)

/-! ### the plug of the pipeline -/

theorem env_of_reg (reg : Registry) : (Types.Env.of reg).reg = reg := rfl

theorem plugFull_positionsAt (hK : TypeSites K) (reg : Registry) : PlugPositionsAt K reg (plugFull reg) := by
  refine ⟨?_, ?_, ?_⟩
  · intro root scope t hroot ht hkw hscope e he
    simp only [plugFull, resolveTypeE, List.mem_map] at he
    obtain ⟨e', he', rfl⟩ := he
    have := resolveTypeF_good hK (Types.Env.of reg) (Types.Env.of reg).fuel root scope t [] hroot ht hkw hscope e' he'
    exact normTypeErr_good this
  · intro e he
    simp only [plugFull] at he
    split at he
    · rename_i res _ hrun
      unfold Identity.run at hrun
      split at hrun
      · cases hrun
      · split at hrun
        · cases hrun
        · split at hrun
          · cases hrun
          · rename_i res' hres
            simp only [Identity.Outcome.done.injEq] at hrun
            obtain ⟨rfl, _⟩ := hrun
            exact resolveIdentities_good hK _ _ _ _ hres e he
    · simp at he
  · intro e he
    simp only [plugFull, List.mem_map] at he
    obtain ⟨e', he', rfl⟩ := he
    exact normTypeErr_good (resolveAllTypedefsE_good hK (Types.Env.of reg) e' he')

theorem plugFull_positions (reg : Registry) : PlugPositionsAt Names reg (plugFull reg) :=
  plugFull_positionsAt typeSites_names reg


/-- `Modules.add` appends the statement it was given as a new (sub)module and touches no other. -/
theorem add_mods {r r' : Registry} {s : Stmt} (h : r.add s = .ok r') :
    ∀ m ∈ r'.mods, m ∈ r.mods ∨ m.stmt = s := by
  intro m hm
  rw [RegistryAux.add_mods h] at hm
  rcases List.mem_append.mp hm with hm | hm
  · exact Or.inl hm
  · exact Or.inr (List.mem_singleton.mp hm ▸ rfl)

theorem foldlM_add_mods : ∀ (ss : List Stmt) (r r' : Registry), ss.foldlM (fun r s => r.add s) r = .ok r' →
    ∀ m ∈ r'.mods, m ∈ r.mods ∨ m.stmt ∈ ss := by
  intro ss
  induction ss with
  | nil =>
    intro r r' h m hm
    simp only [List.foldlM_nil] at h
    cases h
    exact Or.inl hm
  | cons s ss ih =>
    intro r r' h m hm
    simp only [List.foldlM_cons] at h
    cases hadd : r.add s with
    | error e => rw [hadd] at h; cases h
    | ok r1 =>
      rw [hadd] at h
      rcases ih r1 r' h m hm with h1 | h1
      · rcases add_mods hadd m h1 with h2 | h2
        · exact Or.inl h2
        · exact Or.inr (by rw [h2]; simp)
      · exact Or.inr (List.mem_cons_of_mem _ h1)

/-- Every loaded (sub)module is a top-level statement of one of the given files. -/
theorem loadFiles_mods (files : List SrcFile) : ∀ m ∈ (loadFiles files).mods, ∃ f ∈ files, m.stmt ∈ f.stmts := by
  unfold loadFiles
  refine foldl_inv (fun r : Registry => ∀ m ∈ r.mods, ∃ f ∈ files, m.stmt ∈ f.stmts) _ files {} (by intro m hm; cases hm) ?_
  intro r f hf hr
  unfold loadFile
  split
  · rename_i r' hr'
    intro m hm
    rcases foldlM_add_mods _ _ _ hr' m hm with h | h
    · exact hr m h
    · exact ⟨f, hf, h⟩
  · exact hr

end

end Goyang.Lemmas.PositionsTypes
