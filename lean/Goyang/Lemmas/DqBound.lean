/-
The backslash of the first undefined pair of a double-quoted token of a text lies inside the text:
one step of the tokenizer (`specNext_dq_bound`) and the tokens in front of a lexical failure
(`scanStop_dq_bound`).
-/
import Goyang.Lemmas.FaultNL
import Goyang.Lemmas.LexErrSpec
import Goyang.Lemmas.ListFault

namespace Goyang.Lemmas.DqBound
open Goyang.Spec.Parse Goyang.Spec.Fault Goyang.Lemmas.Scan
open Goyang.Lemmas.FaultNL (scanStop_succ specNext_suffix)
open Goyang.Lemmas.LexErrSpec (escMarks_firstBad escMarks_lt)
open Goyang.Lemmas.ListFault (firstBadOff_eq any_undefined)
open Goyang.Lemmas.ListSrc (firstBadOff)
open Goyang.Lemmas.QStr (validEsc)

/-- the raw text of a double-quoted string read from `r` with an undefined pair: the pair's
backslash stands inside `r` -/
theorem scanDq_undefinedAt_lt (r : List Char) (raw : List QItem) (rest : List Char)
    (hs : scanDq r = some (raw, rest)) (hu : raw.any undefinedPair = true) : undefinedAt raw < r.length := by
  have hall : raw.all validEsc = false := by
    rw [any_undefined] at hu
    cases hv : raw.all validEsc with
    | false => rfl
    | true => rw [hv] at hu; cases hu
  obtain ⟨more, hm⟩ := escMarks_firstBad r.length r (Nat.le_refl _) 0 raw rest hs hall
  have hlt := escMarks_lt 0 r (0 + firstBadOff raw) (by rw [hm]; exact List.mem_cons_self)
  rw [firstBadOff_eq] at hlt
  omega

theorem tokAt_dq_inv (c : Char) (r : List Char) (hc : isSpace c = false) (raw : List QItem) (rest : List Char)
    (h : tokAt c r = some (.dq raw, rest)) : scanDq r = some (raw, rest) := by
  rcases delim_cases c hc with rfl | rfl | rfl | rfl | rfl | hd
  · cases h
  · cases h
  · cases h
  · rw [tokAt_sq] at h
    cases hs : scanSq r with
    | none => rw [hs] at h; cases h
    | some p => rw [hs] at h; cases h
  · rw [tokAt_dq] at h
    cases hs : scanDq r with
    | none => rw [hs] at h; cases h
    | some p => rw [hs] at h; cases h; rfl
  · rw [tokAt_unq c r hd] at h; cases h

/-- one step: the token `specNext` hands out -/
theorem specNext_dq_bound (n : Nat) (cs : List Char) (hn : cs.length ≤ n) (x : PTok) (rest : List Char)
    (h : specNext n cs = some (some (x, rest))) (raw : List QItem) (hx : x.tok = .dq raw)
    (hu : hasUndefined x = true) : x.off + 1 + undefinedAt raw < n := by
  obtain ⟨sk, c, r, -, hcs, hc, hoff, ht⟩ := specNext_some n cs x rest h
  rw [hx] at ht
  unfold hasUndefined at hu
  rw [hx] at hu
  have := scanDq_undefinedAt_lt r raw rest (tokAt_dq_inv c r hc raw rest ht) hu
  rw [hcs, List.length_append, List.length_cons] at hn
  rw [hoff]
  omega

/-- the tokens in front of a lexical failure (or all the tokens) -/
theorem scanStop_dq_bound (n : Nat) : ∀ (f : Nat) (cs : List Char), cs.length ≤ n →
    ∀ x ∈ (scanStop n f cs).1, ∀ raw, x.tok = .dq raw → hasUndefined x = true →
      x.off + 1 + undefinedAt raw < n := by
  intro f
  induction f with
  | zero => intro cs _ x hx; simp [scanStop] at hx
  | succ f ih =>
    intro cs hn x hx raw hr hu
    rw [scanStop_succ] at hx
    cases hs : specNext n cs with
    | none => rw [hs] at hx; simp at hx
    | some o =>
      cases o with
      | none => rw [hs] at hx; simp at hx
      | some p =>
        obtain ⟨t0, r⟩ := p
        rw [hs] at hx
        simp only [List.mem_cons] at hx
        rcases hx with hx | hx
        · subst hx; exact specNext_dq_bound n cs hn x r hs raw hr hu
        · have hle := (specNext_suffix n cs t0 r hs).length_le
          exact ih r (by omega) x hx raw hr hu

end Goyang.Lemmas.DqBound
