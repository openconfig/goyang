import Goyang.Lemmas.BridgeNames
import Goyang.Lemmas.Deviate
/-
Bridge lemmas, part 4 (C17): the local predicate `gq` of Lemmas/BridgeNames.lean (spellable child
names; an rpc / action has no `Dir` children, nothing else has an rpc input / output) along the rest
of `processAll`: the augment stage (where it matters that `Find` creates an absent input / output
only below an rpc / action and that `augmentTree` refuses an rpc / action node as target),
`FixChoice`, and the deviation stage, by the stage lemmas of Lemmas/Tree.lean (C04).
-/
set_option linter.unusedVariables false
set_option linter.unusedSimpArgs false
namespace Goyang.Lemmas.Bridge
open Goyang.Model Goyang.Spec.Tree Goyang.Lemmas.Tree
open Goyang.Spec.Find (goodName wfKeys wfKeysL WFForest)

/-! ### `walkParts` creates an input / output only below an rpc / action -/

theorem walkParts_inv3 (P : Entry → Prop)
    (hin : ∀ root p e, P root → PathOK p → root.getAt p = some e → e.d.isRpc = true → e.inp = [] →
      P (root.updateAt p setImplicitIn))
    (hout : ∀ root p e, P root → PathOK p → root.getAt p = some e → e.d.isRpc = true → e.out = [] →
      P (root.updateAt p setImplicitOut)) :
    ∀ (parts : List String) (root : Entry) (cur : Option Path), P root → (∀ p, cur = some p → PathOK p) →
      P (walkParts parts root cur).2 ∧ (∀ p, (walkParts parts root cur).1 = some p → PathOK p) :=
  walkParts_ind P PathOK pathOK_dropLast pathOK_append_input pathOK_append_output pathOK_append_child hin hout

/-! ### the augment stage, with the target known to accept children -/

/-- `AugClosed` of Lemmas/Tree.lean, where `mergeAt` may use that the target passed
`cannotHaveChildren`. -/
structure AugClosed' (P PA : Entry → Prop) : Prop where
  find : ∀ (reg : Registry) (f : Forest) (start : Loc) (ctx : Nat) (name : String), ForestAll P f → PathOK start.2 →
    ForestAll P (find reg f start ctx name).2 ∧ ∀ t path, (find reg f start ctx name).1 = some (t, path) → PathOK path
  addErr : ∀ (e : Entry) (x : Err), P e → P (e.addErr x)
  mergeAt : ∀ (root : Entry) (path : Path) (te a : Entry) (ns : Option String), P root → PathOK path →
    root.getAt path = some te → cannotHaveChildren te = false → PA a → P (root.updateAt path fun te => te.merge ns a)

section AugGeneric'
variable {P PA : Entry → Prop} (hA : AugClosed' P PA)
include hA

theorem augFail_inv' (id : Nat) (addErrors : Bool) (a : Entry) (s : PState) (un : List Entry) (p k : Nat)
    (hf : ForestAll P s.forest) : ForestAll P (augFail id addErrors a s un p k).1.forest := by
  unfold augFail
  dsimp only
  split
  · split
    · rename_i root hroot
      exact forestAll_setTree _ _ _ hf (hA.addErr _ _ (forestAll_tree? _ _ _ hf hroot))
    · exact hf
  · exact hf

theorem augStep_inv' (reg : Registry) (id : Nat) (addErrors : Bool) (nsOf : String)
    (acc : PState × List Entry × Nat × Nat) (a : Entry) (hf : ForestAll P acc.1.forest) (ha : PA a) :
    ForestAll P (augStep reg id addErrors nsOf acc a).1.forest := by
  obtain ⟨s, un, p, k⟩ := acc
  dsimp only at hf
  have hfind := hA.find reg s.forest (id, []) a.d.nodeMod a.d.name hf pathOK_nil
  unfold augStep
  dsimp only
  generalize find reg s.forest (id, []) a.d.nodeMod a.d.name = r at hfind
  obtain ⟨target, forest⟩ := r
  dsimp only at hfind ⊢
  have fail := augFail_inv' hA id addErrors a { s with forest := forest } un p k hfind.1
  split
  · exact fail
  · rename_i t path
    have hpath : PathOK path := hfind.2 t path rfl
    split
    · exact fail
    · rename_i te hte
      split
      · exact fail
      · rename_i hcan
        split
        · exact fail
        · rename_i root hroot
          dsimp only at hroot hte ⊢
          simp only [hroot, Option.bind_some] at hte
          exact forestAll_setTree _ _ _ hfind.1
            (hA.mergeAt root path te a (some nsOf) (forestAll_tree? _ _ _ hfind.1 hroot) hpath hte (by simpa using hcan) ha)

theorem augmentTree_ainv' (reg : Registry) (id : Nat) (addErrors : Bool) (s : PState) (h : AInv P PA s) :
    AInv P PA (augmentTree reg id addErrors s).1 :=
  augmentTree_ainv_of_step (augStep_inv' hA) reg id addErrors s h

theorem augmentPass_ainv' (reg : Registry) : ∀ (fuel : Nat) (mods : Array Nat) (i processed : Nat) (s : PState),
    AInv P PA s → AInv P PA (augmentPass reg fuel mods i processed s).2.2 :=
  augmentPass_keeps reg _ (fun id => augmentTree_ainv' hA reg id false)

theorem augmentLoop_ainv' (reg : Registry) : ∀ (fuel : Nat) (mods : Array Nat) (s : PState),
    AInv P PA s → AInv P PA (augmentLoop reg fuel mods s).2 :=
  augmentLoop_keeps reg _ (fun id => augmentTree_ainv' hA reg id false)

theorem leftover_ainv' (reg : Registry) (left : Array Nat) (s : PState) (h : AInv P PA s) :
    AInv P PA (left.foldl (fun (acc : PState × Nat) id =>
      let (s, p, _) := augmentTree reg id true acc.1
      (s, acc.2 + p)) (s, 0)).1 :=
  leftover_keeps reg _ (fun id => augmentTree_ainv' hA reg id true) left s h

end AugGeneric'

/-! ### `gq` at the three operations of the augment stage -/

theorem gq_implicitIO (parent : Entry) (b : Bool) : everyNode gq (implicitIO parent b) = true := by
  unfold implicitIO; rw [everyNode_mk]
  refine ⟨?_, by simp, by simp, by simp⟩
  rw [gq_mk]; simp

theorem condgq_setImplicitIn (root : Entry) (p : Path) (e : Entry) (hu : U root) (hp : PathOK p)
    (hg : root.getAt p = some e) (hr : e.d.isRpc = true) (hi : e.inp = []) (h : Cond gq root) :
    Cond gq (root.updateAt p setImplicitIn) := by
  refine cond_updateAt gq hdrLocal_gq setImplicitIn e ?_ ?_ (by cases e; rfl) p root hu hp hg h
  · intro hn
    cases e with | mk d c i o =>
    simp only [Entry.inp] at hi; subst hi
    simp only [setImplicitIn] at hn
    rw [noErrors_mk] at hn ⊢
    exact ⟨hn.1, hn.2.1, by simp, hn.2.2.2⟩
  · intro _ he
    cases e with | mk d c i o =>
    simp only [Entry.inp] at hi; subst hi
    simp only [Entry.d] at hr
    simp only [setImplicitIn]
    rw [everyNode_mk] at he ⊢
    have hg' := (gq_mk _ _ _ _).1 he.1
    simp only [hr, if_true] at hg'
    refine ⟨?_, he.2.1, ?_, he.2.2.2⟩
    · rw [gq_mk]; simp only [hr, if_true]; exact hg'
    · intro x hx; simp only [List.mem_singleton] at hx; subst hx; exact gq_implicitIO _ _

theorem condgq_setImplicitOut (root : Entry) (p : Path) (e : Entry) (hu : U root) (hp : PathOK p)
    (hg : root.getAt p = some e) (hr : e.d.isRpc = true) (ho : e.out = []) (h : Cond gq root) :
    Cond gq (root.updateAt p setImplicitOut) := by
  refine cond_updateAt gq hdrLocal_gq setImplicitOut e ?_ ?_ (by cases e; rfl) p root hu hp hg h
  · intro hn
    cases e with | mk d c i o =>
    simp only [Entry.out] at ho; subst ho
    simp only [setImplicitOut] at hn
    rw [noErrors_mk] at hn ⊢
    exact ⟨hn.1, hn.2.1, hn.2.2.1, by simp⟩
  · intro _ he
    cases e with | mk d c i o =>
    simp only [Entry.out] at ho; subst ho
    simp only [Entry.d] at hr
    simp only [setImplicitOut]
    rw [everyNode_mk] at he ⊢
    have hg' := (gq_mk _ _ _ _).1 he.1
    simp only [hr, if_true] at hg'
    refine ⟨?_, he.2.1, he.2.2.1, ?_⟩
    · rw [gq_mk]; simp only [hr, if_true]; exact hg'
    · intro x hx; simp only [List.mem_singleton] at hx; subst hx; exact gq_implicitIO _ _

theorem condgq_addErr (e : Entry) (x : Err) (h : Cond gq e) : Cond gq (e.addErr x) :=
  condgq_withD e _ (fun d => rfl) (fun d => ⟨[x], rfl⟩) h

theorem isRpc_of_canHave (te : Entry) (h : cannotHaveChildren te = false) : te.d.isRpc = false := by
  unfold cannotHaveChildren at h
  simp only [Bool.or_eq_false_iff] at h
  exact h.2

theorem condgq_merge_at (root : Entry) (path : Path) (te a : Entry) (ns : Option String) (hu : U root)
    (hp : PathOK path) (hg : root.getAt path = some te) (hcan : cannotHaveChildren te = false) (h : Cond gq root)
    (ha : Cond gq a) : Cond gq (root.updateAt path fun te => te.merge ns a) := by
  refine cond_updateAt gq hdrLocal_gq _ te (noErrors_merge_left te ns a) ?_ ?_ path root hu hp hg h
  · intro hn hte
    exact gq_merge te ns a hte (ha (noErrors_of_merge te ns a hn)) (isRpc_of_canHave te hcan)
  · have := rootKeep_merge te ns a
    exact Prod.ext this.1 this.2.1

/-! ### the tree invariant of the augment stage: C04's, and `gq` when error-free -/

/-- A module tree: C04's invariant and, if error-free, `gq` at every node. -/
def GT (t : Entry) : Prop := TreeInv (wfqB false) t ∧ Cond gq t
/-- A pending augment entry. -/
def GA (a : Entry) : Prop := TInv (wfqB false) a ∧ Cond gq a

theorem localOK_wf (env : Env) : LocalOK env (wfqB false) := localOK_wfqB env false (fun h => absurd h (by simp))

theorem augClosed'_G (env : Env) : AugClosed' GT GA where
  find reg f start ctx name hf hs :=
    find_inv2 GT
      (walkParts_inv3 GT
        (fun root p e h hp hg hr hi => ⟨⟨tinv_setImplicitIn (localOK_wf env) root p e h.1.1 hp hg hi,
          (updateAt_kind _ (fun x => by cases x; rfl) p root).trans h.1.2⟩,
          condgq_setImplicitIn root p e h.1.1.1 hp hg hr hi h.2⟩)
        (fun root p e h hp hg hr ho => ⟨⟨tinv_setImplicitOut (localOK_wf env) root p e h.1.1 hp hg ho,
          (updateAt_kind _ (fun x => by cases x; rfl) p root).trans h.1.2⟩,
          condgq_setImplicitOut root p e h.1.1.1 hp hg hr ho h.2⟩))
      (fun e x h => ⟨⟨tinv_addErr (localOK_wf env) e x h.1.1, by cases e; exact h.1.2⟩, condgq_addErr e x h.2⟩)
      reg f start ctx name hf hs
  addErr e x h := ⟨⟨tinv_addErr (localOK_wf env) e x h.1.1, by cases e; exact h.1.2⟩, condgq_addErr e x h.2⟩
  mergeAt root path te a ns h hp hg hcan ha :=
    ⟨⟨tinv_merge_at (localOK_wf env) root path te a ns h.1.1 hp hg ha.1,
      (updateAt_kind _ (fun x => (rootKeep_merge x ns a).2.1) path root).trans h.1.2⟩,
      condgq_merge_at root path te a ns h.1.1.1 hp hg hcan h.2 ha.2⟩

theorem ainvG_pstate0 (reg : Registry) (opts : Opts) (plug : Plug) (hnp : NamesPlain reg) :
    AInv GT GA (pstate0 reg opts plug) := by
  have h0 := ainv_pstate0 reg opts plug (localOK_wf (envOf reg opts plug))
  have hg := gq_tstate reg opts plug hnp
  refine ⟨?_, ?_⟩
  · intro t ht
    exact ⟨h0.trees t ht, hg.1 t (by simpa [pstate0, forest0] using ht)⟩
  · intro p hp a ha
    refine ⟨h0.pend p hp a ha, ?_⟩
    simp only [pstate0, pending0, List.mem_map] at hp
    obtain ⟨m, _, rfl⟩ := hp
    dsimp only at ha
    cases hf : (tstate reg opts plug).augs.find? (·.1 == m.seq) with
    | none => simp [hf] at ha
    | some r =>
      simp only [hf, Option.map_some, Option.getD_some] at ha
      exact hg.2 r (List.mem_of_find?_eq_some hf) a ha

/-! ### `FixChoice` -/

theorem gq_wrapCase (x : Entry) (hn : goodName x.name = true) (h : everyNode gq x = true) :
    everyNode gq (wrapCase x) = true := by
  unfold wrapCase; split
  · exact h
  · rw [everyNode_mk]
    refine ⟨?_, ?_, by simp, by simp⟩
    · rw [gq_mk]
      refine ⟨?_, by simp⟩
      intro k hk; simp only [List.mem_singleton] at hk; subst hk; exact hn
    · intro y hy; simp only [List.mem_singleton] at hy; subst hy; exact h

theorem gq_fixChoice (e : Entry) (h : everyNode gq e = true) : everyNode gq (fixChoice e) = true := by
  induction e using entry_ind with
  | h d c i o hc hi ho =>
    rw [fixChoice_eq]
    rw [everyNode_mk] at h ⊢
    obtain ⟨h0, h1, h2, h3⟩ := h
    have hg := (gq_mk _ _ _ _).1 h0
    have e1 : ∀ l : List Entry, (∀ k ∈ l, goodName k.name = true) ↔ ∀ s ∈ l.map (·.name), goodName s = true := by
      intro l; simp
    have hemp : ∀ g : Bool, (if g then (c.map fixChoice).map wrapCase else c.map fixChoice) = [] ↔ c = [] := by
      intro g; split <;> simp
    refine ⟨?_, ?_, ?_, ?_⟩
    · rw [gq_mk, e1, names_fix, ← e1, hemp]
      refine ⟨hg.1, ?_⟩
      have := hg.2
      split at this
      · rename_i hr; simp only [hr, if_true]; exact this
      · rename_i hr; simp only [hr, if_false]; simpa using this
    · intro x hx
      split at hx
      · simp only [List.mem_map] at hx
        obtain ⟨y, ⟨z, hz, rfl⟩, rfl⟩ := hx
        exact gq_wrapCase _ (by rw [fixChoice_name]; exact hg.1 z hz) (hc z hz (h1 z hz))
      · simp only [List.mem_map] at hx
        obtain ⟨z, hz, rfl⟩ := hx
        exact hc z hz (h1 z hz)
    · intro x hx
      simp only [List.mem_map] at hx
      obtain ⟨z, hz, rfl⟩ := hx
      exact hi z hz (h2 z hz)
    · intro x hx
      simp only [List.mem_map] at hx
      obtain ⟨z, hz, rfl⟩ := hx
      exact ho z hz (h3 z hz)

theorem ainvG_fixAll (s : PState) (h : AInv GT GA s) : AInv GT GA (fixAll s) := by
  have h0 : AInv (TreeInv (wfqB false)) (TInv (wfqB false)) (fixAll s) :=
    ainv_fixAll (wfqB_fixChoice false) s ⟨fun t ht => (h.trees t ht).1, fun p hp a ha => (h.pend p hp a ha).1⟩
  refine ⟨?_, h.pend⟩
  intro t ht
  refine ⟨h0.trees t ht, ?_⟩
  simp only [fixAll, List.mem_map] at ht
  obtain ⟨⟨i, e⟩, he, rfl⟩ := ht
  dsimp only
  intro hn
  exact gq_fixChoice e ((h.trees _ he).2 ((noErrors_fixChoice e).1 hn))

/-- The invariant holds of the state before the deviations are applied. -/
theorem ainvG_preDev (reg : Registry) (opts : Opts) (plug : Plug) (hnp : NamesPlain reg) :
    AInv GT GA (preDev reg opts plug) := by
  have hA := augClosed'_G (envOf reg opts plug)
  have h1 := afterRounds_state reg opts plug (AInv GT GA)
    (fun fuel mods s h => augmentLoop_ainv' hA reg fuel mods s h) (fun s h => ainvG_fixAll s h)
    (ainvG_pstate0 reg opts plug hnp)
  have h2 := leftover_ainv' hA reg (afterRounds reg opts plug).1 (afterRounds reg opts plug).2 h1
  unfold preDev
  split
  · exact ainvG_fixAll _ h2
  · exact h2

/-! ### the deviation stage -/

/-- C04's invariant of a module tree during the deviation stage of a clean `Process`, and `gq`. -/
def DPG (t : Entry) : Prop := DP false t ∧ everyNode gq t = true

theorem applyOneDeviate_isRpc (opts : Opts) (ms : Stmt) (kind : String) (spec : Entry) (hp : Bool) (node : Entry) :
    (applyOneDeviate opts ms kind spec hp node).1.d.isRpc = node.d.isRpc := by
  have := Deviate.applyOneDeviate_untouched opts ms kind spec hp node
  simp only [Deviate.untouched, Prod.mk.injEq] at this
  exact this.2.2.2.2.2.2.2.2.1

section DPG
variable (env : Env)
include env

theorem dpg_find (reg : Registry) (f : Forest) (start : Loc) (ctx : Nat) (name : String)
    (hf : ForestAll DPG f) (hs : PathOK start.2) :
    ((find reg f start ctx name).1 ≠ none → ForestAll DPG (find reg f start ctx name).2) ∧
      ∀ t path, (find reg f start ctx name).1 = some (t, path) → PathOK path :=
  find_inv2_some DPG
    (walkParts_inv3 DPG
      (fun root p e h hp hg hr hi => by
        have h1 := dp_setImplicitIn (localOK_wf env) root p e h.1 hp hg hi
        exact ⟨h1, condgq_setImplicitIn root p e h.1.u hp hg hr hi (fun _ => h.2) h1.ne⟩)
      (fun root p e h hp hg hr ho => by
        have h1 := dp_setImplicitOut (localOK_wf env) root p e h.1 hp hg ho
        exact ⟨h1, condgq_setImplicitOut root p e h.1.u hp hg hr ho (fun _ => h.2) h1.ne⟩))
    reg f start ctx name hf hs

omit env in
theorem gq_of_equiv (e v : Entry) (heq : DataEquiv e v) (hr : v.d.isRpc = e.d.isRpc) (h : everyNode gq e = true) :
    everyNode gq v = true := by
  cases e with | mk d c i o =>
  cases v with | mk d' c' i' o' =>
  have e1 := heq.dir; have e2 := heq.inp; have e3 := heq.out
  simp only [Entry.dir, Entry.inp, Entry.out, Entry.d] at e1 e2 e3 hr
  subst e1 e2 e3
  rw [everyNode_mk] at h ⊢
  exact ⟨by rw [gq_data d d' _ _ _ hr]; exact h.1, h.2⟩

theorem dpg_replace (root : Entry) (path : Path) (e v : Entry) (h : DPG root) (hp : PathOK path)
    (hg : root.getAt path = some e) (heq : DataEquiv e v) (hr : v.d.isRpc = e.d.isRpc) :
    DPG (root.updateAt path fun _ => v) ∧ (root.updateAt path fun _ => v).getAt path = some v := by
  obtain ⟨h1, h2⟩ := dp_replace (localOK_wf env) root path e v h.1 hp hg heq
  refine ⟨⟨h1, ?_⟩, h2⟩
  have hh : hdr v = hdr e := by
    unfold hdr; rw [heq.name, heq.kind]
  exact everyNode_updateAt gq hdrLocal_gq (fun _ => v) e (fun he => gq_of_equiv e v heq hr he) hh path root h.1.u hp hg h.2

omit env in
theorem gq_dropKids (pr : Entry → Bool) (b1 b2 : Bool) (x : Entry) (h : everyNode gq x = true) :
    everyNode gq (dropKids pr b1 b2 x) = true := by
  cases x with | mk d c i o =>
  simp only [dropKids]
  rw [everyNode_mk] at h ⊢
  have hg := (gq_mk _ _ _ _).1 h.1
  have hi : ∀ z ∈ (if b1 = true then [] else i), z ∈ i := by intro z hz; split at hz <;> simp_all
  have ho : ∀ z ∈ (if b2 = true then [] else o), z ∈ o := by intro z hz; split at hz <;> simp_all
  refine ⟨?_, fun z hz => h.2.1 z (List.mem_filter.mp hz).1, fun z hz => h.2.2.1 z (hi z hz),
    fun z hz => h.2.2.2 z (ho z hz)⟩
  rw [gq_mk]
  refine ⟨fun k hk => hg.1 k (List.mem_filter.mp hk).1, ?_⟩
  have := hg.2
  split at this
  · rename_i hr; simp only [hr, if_true]; rw [this]; rfl
  · rename_i hr
    simp only [hr, if_false]
    obtain ⟨rfl, rfl⟩ := this
    constructor <;> split <;> rfl

theorem dpg_removeAt (root : Entry) (p : Path) (h : DPG root) : DPG (removeAt root p) := by
  refine ⟨dp_removeAt (localOK_wf env) root p h.1, ?_⟩
  have gen : ∀ (pr : Entry → Bool) (b1 b2 : Bool) (path : Path),
      everyNode gq (root.updateAt path (dropKids pr b1 b2)) = true := fun pr b1 b2 path =>
    (everyNode_updateAt_all gq hdrLocal_gq (dropKids pr b1 b2) (fun x hx => gq_dropKids pr b1 b2 x hx)
      (fun x => by cases x; rfl) path root h.2).1
  unfold removeAt
  split
  · rename_i k _
    have := gen (fun x => x.name != k) false false p.dropLast
    have heq : dropKids (fun x => x.name != k) false false =
        (fun pe : Entry => pe.withDir (pe.dir.filter (·.name != k))) := by
      funext x; cases x; rfl
    rw [heq] at this; exact this
  · have := gen (fun _ => true) true false p.dropLast
    have heq : dropKids (fun _ => true) true false =
        (fun pe : Entry => match pe with | .mk d c _ o => .mk d c [] o) := by
      funext x; cases x; simp [dropKids]
    rw [heq] at this; exact this
  · have := gen (fun _ => true) false true p.dropLast
    have heq : dropKids (fun _ => true) false true =
        (fun pe : Entry => match pe with | .mk d c i _ => .mk d c i []) := by
      funext x; cases x; simp [dropKids]
    rw [heq] at this; exact this
  · exact h.2

/-- The deviations of one module keep the tree invariant, unless they return an error. -/
theorem dpg_applyDeviations (reg : Registry) (opts : Opts) (m : Mod) (devs : List (Stmt × List (String × Entry)))
    (f : Forest) (hf : ForestAll DPG f) (hclean : (applyDeviations reg opts m devs f).2 = []) :
    ForestAll DPG (applyDeviations reg opts m devs f).1 :=
  applyDeviations_inv DPG (dpg_find env)
    (fun opts ms kind spec hp root path node h hpath hg =>
      dpg_replace env root path node _ h hpath hg (applyOneDeviate_equiv opts ms kind spec hp node)
        (applyOneDeviate_isRpc opts ms kind spec hp node))
    (dpg_removeAt env) reg opts m devs f hf hclean

theorem dpg_devStage (reg : Registry) (opts : Opts) (plug : Plug)
    (f0 : Forest) (h : ForestAll DPG f0) (hclean : (devStage reg opts plug f0).2.1 = []) :
    ForestAll DPG (devStage reg opts plug f0).1 :=
  devStage_inv DPG (dpg_applyDeviations env) reg opts plug f0 h hclean

end DPG

/-- **Every tree a clean `Process` leaves behind has `gq` at every node** (spellable child names;
an rpc / action has no `Dir` children, nothing else an rpc input / output), when the names written
in the loaded statements are spellable. -/
theorem process_clean_gq (reg : Registry) (opts : Opts) (plug : Plug) (hnp : NamesPlain reg)
    (h : (processAll reg opts plug).errors = []) :
    ∀ t ∈ (processAll reg opts plug).forest.trees, everyNode gq t.2 = true := by
  obtain ⟨_, _, h3, h4, h5⟩ := processAll_clean reg opts plug h
  rw [h5]
  have hpre : ForestAll DPG (preDev reg opts plug).forest := by
    intro t ht
    obtain ⟨a, b, c, d⟩ := preDev_clean reg opts plug (localOK_wf (envOf reg opts plug)) (wfqB_fixChoice false) h t ht
    have hne := (forestErrs_eq_nil _).1 h3
    exact ⟨⟨a, b, c, d, preDev_choiceCases reg opts plug h t ht⟩,
      ((ainvG_preDev reg opts plug hnp).trees t ht).2 (hne t ht)⟩
  intro t ht
  exact (dpg_devStage (envOf reg opts plug) reg opts plug _ hpre h4 t ht).2

end Goyang.Lemmas.Bridge
