import Goyang.Lemmas.IncludeAugCompose
import Goyang.Lemmas.BridgeForest
/-
C13 (third sentence), augments — piece (I) for sets without rpc / action nodes.

`NoIO e`: no node of the tree is an rpc / action node and no node has an rpc input / output entry.  The
three operations of the augment stage keep it (`Find` creates an input / output only below an rpc node, so
on such a tree it creates nothing: `walkParts_noIO`; error recording; `merge` at the target of children that
have it), hence the augment loop — any fuel, any module order — keeps it (`noIO_loop`).  `NoIO` gives
`IOShape` and `NoRpc`, hence `SameIO` of any two such trees.  `NoIOStart reg opts plug` (decidable): every
tree the conversion leaves (`pstate0`) and every child of a pending augment entry has `NoIO`.
`loopsRelated_of_noIO`: for such split sets `LoopsRelated` is its core (`LoopsRelatedCore`: no error, nothing
pending, owner's tree `SameTop σ` the unsplit module's) — the `IOShape` / `SameIO` parts are derived.
-/
open Goyang.Lemmas.ListAux (foldl_inv)
open Goyang.Lemmas.ForestAux (mem_of_tree?)
namespace Goyang.Lemmas.IncludeAugIO
open Goyang.Model Goyang.Spec.Include Goyang.Spec.Tree Goyang.Lemmas.Tree
open Goyang.Lemmas.IncludeAugView Goyang.Lemmas.IncludeAugCompose Goyang.Lemmas.IncludeAugOrder
open Goyang.Lemmas.IncludeRel

def noIOHere (e : Entry) : Bool := !e.d.isRpc && e.inp.isEmpty && e.out.isEmpty

/-- No rpc / action node and no rpc input / output entry anywhere in the tree. -/
def NoIO (e : Entry) : Prop := everyNode noIOHere e = true

instance (e : Entry) : Decidable (NoIO e) := by unfold NoIO; infer_instance

theorem noIO_mk (d : EData) (c i o : List Entry) :
    NoIO (.mk d c i o) ↔ d.isRpc = false ∧ i = [] ∧ o = [] ∧ ∀ x ∈ c, NoIO x := by
  unfold NoIO
  rw [everyNode_mk]
  constructor
  · rintro ⟨h0, h1, _, _⟩
    simp only [noIOHere, Entry.d, Entry.inp, Entry.out, Bool.and_eq_true, Bool.not_eq_true', List.isEmpty_iff] at h0
    exact ⟨h0.1.1, h0.1.2, h0.2, h1⟩
  · rintro ⟨h0, rfl, rfl, h1⟩
    refine ⟨?_, h1, by simp, by simp⟩
    simp [noIOHere, Entry.d, Entry.inp, Entry.out, h0]

theorem noIO_noRpc {e : Entry} (h : NoIO e) : NoRpc e :=
  everyNode_imp noIOHere noRpcHere (fun x hx => by
    simp only [noIOHere, Bool.and_eq_true] at hx
    exact hx.1.1) e h

theorem noIO_ioShape {e : Entry} (h : NoIO e) : IOShape e :=
  everyNode_imp noIOHere ioShapeHere (fun x hx => by
    simp only [noIOHere, Bool.and_eq_true, Bool.not_eq_true'] at hx
    simp only [ioShapeHere, hx.1.1, Bool.false_eq_true, if_false, Bool.and_eq_true]
    exact ⟨hx.1.2, hx.2⟩) e h

theorem sameIO_of_noIO {t t' : Entry} (h : NoIO t) (h' : NoIO t') : SameIO t t' :=
  sameIO_of_noRpc (noIO_noRpc h) (noIO_ioShape h) (noIO_noRpc h') (noIO_ioShape h')


section Kept
variable (q : Entry → Bool)
  (hD : ∀ d c i o (f : EData → EData), (∀ d, (f d).isRpc = d.isRpc) → q (.mk (f d) c i o) = q (.mk d c i o))
  (hA : ∀ d c i o w, d.isRpc = false → q (.mk d c i o) = true → q (.mk d (c ++ [w]) i o) = true)

include hD in
theorem everyNode_withD (e : Entry) (f : EData → EData) (hf : ∀ d, (f d).isRpc = d.isRpc) (h : everyNode q e = true) :
    everyNode q (e.withD f) = true := by
  cases e with | mk d c i o =>
  simp only [Entry.withD]
  rw [everyNode_mk] at h ⊢
  exact ⟨(hD d c i o f hf).trans h.1, h.2⟩

include hA in
theorem everyNode_append (b w : Entry) (hr : b.d.isRpc = false) (hb : everyNode q b = true) (hw : everyNode q w = true) :
    everyNode q (b.withDir (b.dir ++ [w])) = true := by
  cases b with | mk d c i o =>
  simp only [Entry.withDir, Entry.dir]
  rw [everyNode_mk] at hb ⊢
  refine ⟨hA d c i o w hr hb.1, fun x hx => ?_, hb.2.2⟩
  rcases List.mem_append.1 hx with hx | hx
  · exact hb.2.1 x hx
  · simp only [List.mem_singleton] at hx
    subst hx
    exact hw

include hD hA in
/-- … and `merge` into such a node: every step of `merge` records an error at the node or appends one of the merged
children. -/
theorem everyNode_merge (e : Entry) (ns : Option String) (oe : Entry) (hr : e.d.isRpc = false) (he : everyNode q e = true)
    (ho : ∀ c ∈ oe.dir, everyNode q c = true) : everyNode q (e.merge ns oe) = true := by
  have step : ∀ (b w : Entry), (everyNode q b = true ∧ b.d.isRpc = false) → everyNode q w = true →
      (everyNode q (match b.child? w.name with
        | some _ => b.addErr (Err.at_ oe.d.node "duplicate-node")
        | none => b.withDir (b.dir ++ [w])) = true ∧
       (match b.child? w.name with
        | some _ => b.addErr (Err.at_ oe.d.node "duplicate-node")
        | none => b.withDir (b.dir ++ [w])).d.isRpc = false) := by
    intro b w hb hw
    split
    · exact ⟨everyNode_withD q hD b _ (fun _ => rfl) hb.1, by cases b; exact hb.2⟩
    · exact ⟨everyNode_append q hA b w hb.2 hb.1 hw, by cases b; exact hb.2⟩
  unfold Entry.merge
  refine (foldl_inv (fun x => everyNode q x = true ∧ x.d.isRpc = false) _ _ _
    (show everyNode q (e.importErrors oe) = true ∧ (e.importErrors oe).d.isRpc = false from
      ⟨everyNode_withD q hD e _ (fun _ => rfl) he, by cases e; exact hr⟩) ?_).1
  intro b v hv hb
  cases ns with
  | none => exact step b v hb (ho v hv)
  | some n => exact step b _ hb (everyNode_withD q hD v _ (fun _ => rfl) (ho v hv))

end Kept

theorem noIOHere_withD (d : EData) (c i o : List Entry) (f : EData → EData) (hf : ∀ d, (f d).isRpc = d.isRpc) :
    noIOHere (.mk (f d) c i o) = noIOHere (.mk d c i o) := by
  simp only [noIOHere, Entry.d, Entry.inp, Entry.out, hf]

theorem noIO_withD (e : Entry) (f : EData → EData) (hf : ∀ d, (f d).isRpc = d.isRpc) (h : NoIO e) : NoIO (e.withD f) :=
  everyNode_withD noIOHere noIOHere_withD e f hf h

theorem noIO_addErr (e : Entry) (x : Err) (h : NoIO e) : NoIO (e.addErr x) :=
  noIO_withD e _ (fun _ => rfl) h

theorem noIO_isRpc {e : Entry} (h : NoIO e) : e.d.isRpc = false := by
  cases e with | mk d c i o => exact ((noIO_mk d c i o).1 h).1

theorem noIO_merge (e : Entry) (ns : Option String) (oe : Entry) (he : NoIO e) (ho : ∀ c ∈ oe.dir, NoIO c) :
    NoIO (e.merge ns oe) :=
  everyNode_merge noIOHere noIOHere_withD (fun _ _ _ _ _ _ h => h) e ns oe (noIO_isRpc he) he ho

theorem noIO_updateAt (g : Entry → Entry) (hg : ∀ y, NoIO y → NoIO (g y)) :
    ∀ (p : Path) (e : Entry), NoIO e → NoIO (e.updateAt p g)
  | [], e, h => hg e h
  | s :: p, .mk d c i o, h => by
    rw [noIO_mk] at h
    obtain ⟨h0, rfl, rfl, h1⟩ := h
    cases s with
    | child k =>
      simp only [Entry.updateAt]
      rw [noIO_mk]
      refine ⟨h0, rfl, rfl, ?_⟩
      intro x hx
      obtain ⟨y, hy, rfl⟩ := List.mem_map.mp hx
      split
      · exact noIO_updateAt g hg p y (h1 y hy)
      · exact h1 y hy
    | input =>
      simp only [Entry.updateAt, List.map_nil]
      rw [noIO_mk]
      exact ⟨h0, rfl, rfl, h1⟩
    | output =>
      simp only [Entry.updateAt, List.map_nil]
      rw [noIO_mk]
      exact ⟨h0, rfl, rfl, h1⟩

theorem turn_plain_root {part : String} {root : Entry} {p : Path} {e : Entry} (hr : e.d.isRpc = false) :
    (Find.turn part root p e).2 = root := by
  unfold Find.turn
  rw [hr]
  simp only [apply_ite Prod.snd, ite_self, Bool.false_eq_true, if_false]

theorem turn_plain_fst {part : String} {root root' : Entry} {p : Path} {e e' : Entry} (hr : e.d.isRpc = false)
    (hr' : e'.d.isRpc = false) (hk : (e'.child? (stripPrefix part)).isSome = (e.child? (stripPrefix part)).isSome) :
    (Find.turn part root' p e').1 = (Find.turn part root p e).1 := by
  have hm : ((e'.child? (stripPrefix part)).map fun _ => p ++ [Step.child (stripPrefix part)]) =
      (e.child? (stripPrefix part)).map fun _ => p ++ [Step.child (stripPrefix part)] := by
    cases h' : e'.child? (stripPrefix part) <;> cases h : e.child? (stripPrefix part) <;> rw [h', h] at hk <;>
      first | rfl | cases hk
  unfold Find.turn
  rw [hr, hr', hm]
  simp only [apply_ite Prod.fst]

/-- On a tree without rpc / action nodes `Find`'s step loop creates nothing. -/
theorem walkParts_noIO : ∀ (parts : List String) (root : Entry) (cur : Option Path), NoIO root →
    (walkParts parts root cur).2 = root := by
  intro parts
  induction parts with
  | nil => intro root cur _; rfl
  | cons part rest ih =>
    intro root cur h
    cases cur with
    | none => rfl
    | some p =>
      cases he : root.getAt p with
      | none => rw [walkParts, he]
      | some e =>
        rw [Find.walkParts_cons he, turn_plain_root (noIO_isRpc (everyNode_getAt noIOHere p root e h he))]
        exact ih root _ h

/-- The augment stage keeps `NoIO` of every tree, provided the children of every pending augment entry have it. -/
theorem augClosed_noIO : AugClosed NoIO (fun a => ∀ c ∈ a.dir, NoIO c) where
  find reg f start ctx name hf hs :=
    find_inv2 NoIO
      (fun parts root cur h hc => ⟨by rw [walkParts_noIO parts root cur h]; exact h,
        (walkParts_inv2 (fun _ => True) (fun _ _ _ _ _ _ _ => trivial) (fun _ _ _ _ _ _ _ => trivial) parts root cur trivial hc).2⟩)
      (fun e x h => noIO_addErr e x h) reg f start ctx name hf hs
  addErr e x h := noIO_addErr e x h
  mergeAt root path te a ns h _ _ ha := noIO_updateAt _ (fun y hy => noIO_merge y ns a hy ha) path root h

/-- **`NoIO` at the start of the augment stage** (decidable): every tree the conversion has produced, and every
child of every pending augment entry, is free of rpc / action nodes and of rpc input / output entries. -/
def NoIOStart (reg : Registry) (opts : Opts) (plug : Plug) : Prop :=
  (∀ t ∈ (pstate0 reg opts plug).forest.trees, NoIO t.2) ∧
  ∀ p ∈ (pstate0 reg opts plug).pending, ∀ a ∈ p.2, ∀ c ∈ a.dir, NoIO c

instance (reg : Registry) (opts : Opts) (plug : Plug) : Decidable (NoIOStart reg opts plug) := by
  unfold NoIOStart; infer_instance

/-- **(I) for sets without rpc / action nodes**: along the augment loop (any fuel, any module order), started
where `processAll` starts it, every tree stays free of rpc / action nodes and of input / output entries. -/
theorem noIO_loop (reg : Registry) (opts : Opts) (plug : Plug) (h0 : NoIOStart reg opts plug) (fuel : Nat) (mods : Array Nat) :
    ∀ t ∈ (augmentLoop reg fuel mods (pstate0 reg opts plug)).2.forest.trees, NoIO t.2 :=
  (augmentLoop_ainv augClosed_noIO reg fuel mods (pstate0 reg opts plug) ⟨h0.1, h0.2⟩).trees

/-- The part of `LoopsRelated` that is left for sets without rpc / action nodes: the loop over the split set run
in the module order of the unsplit set records no error and leaves nothing pending, and the owner's tree is
the unsplit module's up to `SameTop σ`. -/
def LoopsRelatedCore (s : Split) (R R' : Registry) (opts : Opts) (plug plug' : Plug) : Prop :=
  AugmentReport.allErrs (loopU R R' opts plug').forest = [] ∧ (∀ id, (loopU R R' opts plug').pendingOf id = []) ∧
  ∃ t tu, (afterLoop R opts plug).2.forest.tree? s.m.seq = some t ∧
    (loopU R R' opts plug').forest.tree? s.m.seq = some tu ∧ SameTop s.σ tu t

/-- The two runs over the split set (its own module order, the unsplit set's) have trees under the same numbers. -/
theorem afterLoop_tree_of_loopU {R R' : Registry} {opts : Opts} {plug' : Plug} {id : Nat} {tu : Entry}
    (htu : (loopU R R' opts plug').forest.tree? id = some tu) : ∃ ts, (afterLoop R' opts plug').2.forest.tree? id = some ts := by
  have e1 : fkeys (afterLoop R' opts plug').2.forest = fkeys (pstate0 R' opts plug').forest := Bridge.fkeys_augmentLoop R' _ _ _
  have e2 : fkeys (loopU R R' opts plug').forest = fkeys (pstate0 R' opts plug').forest := Bridge.fkeys_augmentLoop R' _ _ _
  have hk : ((afterLoop R' opts plug').2.forest.tree? id).isSome = true := by
    rw [tree?_isSome, e1, ← e2, ← tree?_isSome, htu]
    rfl
  exact Option.isSome_iff_exists.1 hk

theorem noIO_afterLoop_tree {R' : Registry} {opts : Opts} {plug' : Plug} (h0 : NoIOStart R' opts plug') {id : Nat} {ts : Entry}
    (hts : (afterLoop R' opts plug').2.forest.tree? id = some ts) : NoIO ts :=
  noIO_loop R' opts plug' h0 _ _ (id, ts) (mem_of_tree? hts)

theorem noIO_loopU_tree {R R' : Registry} {opts : Opts} {plug' : Plug} (h0 : NoIOStart R' opts plug') {id : Nat} {tu : Entry}
    (htu : (loopU R R' opts plug').forest.tree? id = some tu) : NoIO tu :=
  noIO_loop R' opts plug' h0 _ _ (id, tu) (mem_of_tree? htu)

/-- **`LoopsRelated` without its `IOShape` / `SameIO` parts** for split sets with `NoIOStart`. -/
theorem loopsRelated_of_noIO {s : Split} {R R' : Registry} (opts : Opts) (plug plug' : Plug)
    (h0 : NoIOStart R' opts plug') (hC : LoopsRelatedCore s R R' opts plug plug') :
    LoopsRelated s R R' opts plug plug' := by
  obtain ⟨hcu, hpu, t, tu, ht, htu, hst⟩ := hC
  obtain ⟨ts, hts⟩ := afterLoop_tree_of_loopU htu
  have n1 := noIO_afterLoop_tree h0 hts
  have n2 := noIO_loopU_tree h0 htu
  exact ⟨hcu, hpu, t, ts, tu, ht, hts, htu, hst, noIO_ioShape n1, noIO_ioShape n2, sameIO_of_noIO n1 n2⟩

end Goyang.Lemmas.IncludeAugIO
