/-
The FIRST error line written stays the first, through every step of the lexer model and through
`skipErrors`: the lexer only appends to `errout` (`Extends`, `Lemmas/Lex.lean`).  Hence `lexSource`
is `HMono`.
-/
import Goyang.Lemmas.Lex
import Goyang.Lemmas.HeadSim
import Goyang.Model.Parse

namespace Goyang.Lemmas.LexKeepsH
open Goyang.Model.Lex Goyang.Model.Parse Goyang.Lemmas.Lex

/-- the first error written stays the first -/
def KeepsH (l l' : Lexer) : Prop := ∀ e, l.errout.head? = some e → l'.errout.head? = some e

theorem _root_.Goyang.Lemmas.Lex.Extends.keepsH {l l' : Lexer} (h : Extends l l') : KeepsH l l' := by
  obtain ⟨t, ht⟩ := h
  intro e he
  rw [← ht, List.head?_append, he]
  rfl

theorem qstringLoop_keepsH (indent line col : Int) (f : Nat) (text : List UInt8) (over : Bool) (l : Lexer) :
    KeepsH l (qstringLoop indent line col f text over l) :=
  (qstringLoop_extends indent line col f text over l).keepsH

theorem nextTokenLoop_keepsH (f : Nat) (l : Lexer) : KeepsH l (nextTokenLoop f l).2 :=
  (nextTokenLoop_extends f l).keepsH

theorem skipErrors_extends : ∀ (f : Nat) (l : Lexer), Extends l (skipErrors f l).2 := by
  intro f
  induction f with
  | zero => intro l; exact extends_of_eq (setFault_errout _ _)
  | succ f ih =>
    intro l
    unfold skipErrors
    simp only
    have h1 : Extends l (nextToken l).2 := nextTokenLoop_extends _ l
    split
    · exact h1
    · split
      · exact h1.trans (ih _)
      · exact h1

theorem skipErrors_keepsH (f : Nat) (l : Lexer) : KeepsH l (skipErrors f l).2 := (skipErrors_extends f l).keepsH

theorem lexSource_hmono : Goyang.Lemmas.HeadSim.HMono lexSource := by
  constructor
  · intro e b l h
    exact skipErrors_keepsH _ _ e (show ({ l with inPattern := b } : Lexer).errout.head? = some e from h)
  · intro e' e l h
    exact Extends.keepsH (l' := { l with errout := l.errout ++ [e'] }) (List.prefix_append _ _) e h
  · intro e l h
    show (l.errout ++ [e]).head? = some e
    have h' : l.errout = [] := h
    rw [h']
    rfl

end Goyang.Lemmas.LexKeepsH
