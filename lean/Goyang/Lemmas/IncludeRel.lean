import Goyang.Lemmas.Tree
import Goyang.Lemmas.OrderIndep
import Goyang.Spec.Include
/-
C13 (third sentence), part 1: the relational traversal of `toEntry`.

Two conversions of the same statement — in two registries, under two root modules, in two
conversion states — give related entries when every recursive call does.  The relation on entries
is a parameter (`Closed2`: what the traversal needs of it); the two instances used later are
"equal after renaming the module numbers, provided the left (the right) entry is error free".

Also here: the renaming `ren` commutes with the operations on entries, and an error-free result
of an operation has error-free arguments.
-/
namespace Goyang.Lemmas.IncludeRel
open Goyang.Model Goyang.Spec.Include Goyang.Lemmas.Tree Goyang.Spec.Tree

/-! ### `ren` and the operations on entries -/

theorem renL_eq_map (σ : Nat → Nat) (l : List Entry) : renL σ l = l.map (ren σ) := by
  induction l with
  | nil => rfl
  | cons e es ih => simp [renL, ih]

section Ren
variable (σ : Nat → Nat)

@[simp] theorem ren_mk (d : EData) (c i o : List Entry) :
    ren σ (.mk d c i o) = .mk (renD σ d) (c.map (ren σ)) (i.map (ren σ)) (o.map (ren σ)) := by
  simp [ren, renL_eq_map]

@[simp] theorem ren_d (e : Entry) : (ren σ e).d = renD σ e.d := by cases e; simp [Entry.d]
@[simp] theorem ren_dir (e : Entry) : (ren σ e).dir = e.dir.map (ren σ) := by cases e; simp [Entry.dir]
@[simp] theorem ren_inp (e : Entry) : (ren σ e).inp = e.inp.map (ren σ) := by cases e; simp [Entry.inp]
@[simp] theorem ren_out (e : Entry) : (ren σ e).out = e.out.map (ren σ) := by cases e; simp [Entry.out]
@[simp] theorem ren_name (e : Entry) : (ren σ e).name = e.name := by cases e; simp [Entry.name, Entry.d, renD]
@[simp] theorem renD_errors (d : EData) : (renD σ d).errors = d.errors := rfl
@[simp] theorem renD_node (d : EData) : (renD σ d).node = d.node := rfl
@[simp] theorem renD_kind (d : EData) : (renD σ d).kind = d.kind := rfl
@[simp] theorem renD_nodeMod (d : EData) : (renD σ d).nodeMod = σ d.nodeMod := rfl

/-- A data update that neither reads nor writes `nodeMod` and keeps the errors. -/
def GoodF (f : EData → EData) : Prop :=
  (∀ d, (f d).errors = d.errors) ∧ (∀ (σ : Nat → Nat) d, renD σ (f d) = f (renD σ d))

theorem ren_withD (e : Entry) (f : EData → EData) (hf : ∀ d, renD σ (f d) = f (renD σ d)) :
    ren σ (e.withD f) = (ren σ e).withD f := by
  cases e; simp [Entry.withD, hf]

@[simp] theorem ren_withDir (e : Entry) (c : List Entry) :
    ren σ (e.withDir c) = (ren σ e).withDir (c.map (ren σ)) := by
  cases e; simp [Entry.withDir]

theorem find?_name_ren (l : List Entry) (k : String) :
    (l.map (ren σ)).find? (·.name == k) = (l.find? (·.name == k)).map (ren σ) := by
  induction l with
  | nil => rfl
  | cons x t ih =>
    simp only [List.map_cons, List.find?_cons, ren_name]
    split <;> simp [ih]

@[simp] theorem ren_child? (e : Entry) (k : String) : (ren σ e).child? k = (e.child? k).map (ren σ) := by
  unfold Entry.child?
  rw [ren_dir, find?_name_ren]

@[simp] theorem ren_addErr (e : Entry) (x : Err) : ren σ (e.addErr x) = (ren σ e).addErr x := by
  unfold Entry.addErr; exact ren_withD σ e _ (fun _ => rfl)

@[simp] theorem ren_addErrs (e : Entry) (xs : List Err) : ren σ (e.addErrs xs) = (ren σ e).addErrs xs := by
  unfold Entry.addErrs; exact ren_withD σ e _ (fun _ => rfl)

mutual
theorem allErrors_ren : ∀ (e : Entry), (ren σ e).allErrors = e.allErrors
  | .mk d c i o => by
    simp only [ren, Entry.allErrors, renD_errors]
    rw [allErrorsL_renL c, allErrorsL_renL i, allErrorsL_renL o]
theorem allErrorsL_renL : ∀ (l : List Entry), Entry.allErrorsL (renL σ l) = Entry.allErrorsL l
  | [] => rfl
  | e :: es => by
    simp only [renL, Entry.allErrorsL]
    rw [allErrors_ren e, allErrorsL_renL es]
end

attribute [simp] allErrors_ren

@[simp] theorem allErrorsL_ren (l : List Entry) : Entry.allErrorsL (l.map (ren σ)) = Entry.allErrorsL l := by
  rw [← renL_eq_map]; exact allErrorsL_renL σ l

@[simp] theorem ren_importErrors (e c : Entry) : ren σ (e.importErrors c) = (ren σ e).importErrors (ren σ c) := by
  simp [Entry.importErrors]

@[simp] theorem ren_add (e : Entry) (k : String) (v : Entry) : ren σ (e.add k v) = (ren σ e).add k (ren σ v) := by
  unfold Entry.add
  rw [ren_child?]
  cases e.child? k <;> simp

theorem ren_stamp (ns : Option String) (v : Entry) :
    ren σ (OrderIndep.stamp ns v) = OrderIndep.stamp ns (ren σ v) := by
  cases ns with
  | none => rfl
  | some n => exact ren_withD σ v _ (fun _ => rfl)

theorem ren_step (ns : Option String) (x : Err) (e v : Entry) :
    ren σ (OrderIndep.step ns x e v) = OrderIndep.step ns x (ren σ e) (ren σ v) := by
  unfold OrderIndep.step
  rw [← ren_stamp, ren_name, ren_child?]
  cases e.child? (OrderIndep.stamp ns v).name <;> simp

@[simp] theorem ren_merge (e : Entry) (ns : Option String) (oe : Entry) :
    ren σ (e.merge ns oe) = (ren σ e).merge ns (ren σ oe) := by
  rw [OrderIndep.merge_eq, OrderIndep.merge_eq]
  simp only [ren_dir, List.foldl_map, ren_d, renD_node]
  rw [← ren_importErrors]
  generalize e.importErrors oe = acc
  induction oe.dir generalizing acc with
  | nil => rfl
  | cons v vs ih =>
    simp only [List.foldl_cons]
    rw [ih, ren_step]

end Ren

theorem ren_id (e : Entry) : ren id e = e := by
  induction e using entry_ind with
  | h d c i o hc hi ho =>
    rw [ren_mk]
    have hd : renD id d = d := rfl
    rw [hd]
    congr 1
    · conv => rhs; rw [← List.map_id c]
      exact List.map_congr_left hc
    · conv => rhs; rw [← List.map_id i]
      exact List.map_congr_left hi
    · conv => rhs; rw [← List.map_id o]
      exact List.map_congr_left ho


/-! ### error-free results have error-free arguments -/

/-- No node of the tree carries an error (`Entry.allErrors` finds nothing). -/
def Clean (e : Entry) : Prop := e.allErrors = []

theorem clean_iff_noErrors (e : Entry) : Clean e ↔ NoErrors e := (noErrors_iff e).symm

theorem clean_mk (d : EData) (c i o : List Entry) :
    Clean (.mk d c i o) ↔ (∀ x ∈ c, Clean x) ∧ (∀ x ∈ i, Clean x) ∧ (∀ x ∈ o, Clean x) ∧ d.errors = [] := by
  unfold Clean
  simp only [Entry.allErrors, List.append_eq_nil_iff, allErrorsL_eq_nil, and_assoc]

theorem clean_ren (σ : Nat → Nat) (e : Entry) : Clean (ren σ e) ↔ Clean e := by
  unfold Clean; rw [allErrors_ren]

theorem clean_own (e : Entry) (h : Clean e) : e.d.errors = [] := by
  cases e; exact ((clean_mk _ _ _ _).1 h).2.2.2

theorem clean_withD (e : Entry) (f : EData → EData) (hf : ∀ d, (f d).errors = d.errors) :
    Clean (e.withD f) ↔ Clean e := by
  cases e; simp only [Entry.withD, clean_mk, hf]

theorem clean_addErrs (e : Entry) (xs : List Err) : Clean (e.addErrs xs) ↔ Clean e ∧ xs = [] := by
  cases e
  simp only [Entry.addErrs, Entry.withD, clean_mk, List.append_eq_nil_iff]
  constructor
  · rintro ⟨a, b, c, d, e⟩; exact ⟨⟨a, b, c, d⟩, e⟩
  · rintro ⟨⟨a, b, c, d⟩, e⟩; exact ⟨a, b, c, d, e⟩

theorem not_clean_addErr (e : Entry) (x : Err) : ¬ Clean (e.addErr x) := by
  intro h
  cases e
  simp [Entry.addErr, Entry.withD, clean_mk] at h

theorem clean_withDir_append (e v : Entry) : Clean (e.withDir (e.dir ++ [v])) ↔ Clean e ∧ Clean v := by
  cases e
  simp only [Entry.withDir, Entry.dir, clean_mk, List.mem_append, List.mem_singleton]
  constructor
  · rintro ⟨a, b, c, d⟩
    exact ⟨⟨fun x hx => a x (Or.inl hx), b, c, d⟩, a v (Or.inr rfl)⟩
  · rintro ⟨⟨a, b, c, d⟩, hv⟩
    refine ⟨?_, b, c, d⟩
    rintro x (hx | rfl)
    · exact a x hx
    · exact hv

theorem clean_add (a : Entry) (k : String) (c : Entry) (h : Clean (a.add k c)) :
    Clean a ∧ Clean c ∧ a.child? k = none := by
  unfold Entry.add at h
  split at h
  · exact absurd h (not_clean_addErr _ _)
  · rename_i hk
    exact ⟨((clean_withDir_append a c).1 h).1, ((clean_withDir_append a c).1 h).2, hk⟩

theorem clean_importErrors (a c : Entry) : Clean (a.importErrors c) ↔ Clean a ∧ Clean c := by
  unfold Entry.importErrors
  rw [clean_addErrs]
  constructor
  · rintro ⟨ha, hc⟩
    refine ⟨ha, ?_⟩
    cases c
    simp only [List.append_eq_nil_iff, Entry.d, Entry.dir, Entry.inp, Entry.out, allErrorsL_eq_nil] at hc
    rw [clean_mk]
    exact ⟨hc.1.1.2, hc.1.2, hc.2, hc.1.1.1⟩
  · rintro ⟨ha, hc⟩
    refine ⟨ha, ?_⟩
    cases c
    rw [clean_mk] at hc
    simp only [List.append_eq_nil_iff, Entry.d, Entry.dir, Entry.inp, Entry.out, allErrorsL_eq_nil]
    exact ⟨⟨⟨hc.2.2.2, hc.1⟩, hc.2.1⟩, hc.2.2.1⟩

theorem clean_merge (a : Entry) (ns : Option String) (c : Entry) (h : Clean (a.merge ns c)) : Clean a ∧ Clean c := by
  rw [clean_iff_noErrors] at h
  exact ⟨(clean_iff_noErrors a).2 (noErrors_merge_left a ns c h), (clean_iff_noErrors c).2 (noErrors_of_merge a ns c h)⟩

/-- Go: `e.RPC.Input = ie` (the rpc entry gets its `RPC`). -/
def setInp (e ie : Entry) : Entry := match e with | .mk d c _ o => .mk { d with isRpc := true } c [ie] o
def setOut (e oe : Entry) : Entry := match e with | .mk d c i _ => .mk { d with isRpc := true } c i [oe]

theorem clean_setInp (a c : Entry) (h : Clean (setInp a c)) (hin : a.inp = []) : Clean a ∧ Clean c := by
  cases a
  simp only [Entry.inp] at hin
  subst hin
  simp only [setInp, clean_mk, List.mem_singleton, forall_eq] at h
  exact ⟨(clean_mk _ _ _ _).2 ⟨h.1, by simp, h.2.2.1, h.2.2.2⟩, h.2.1⟩

theorem clean_setOut (a c : Entry) (h : Clean (setOut a c)) (hout : a.out = []) : Clean a ∧ Clean c := by
  cases a
  simp only [Entry.out] at hout
  subst hout
  simp only [setOut, clean_mk, List.mem_singleton, forall_eq] at h
  exact ⟨(clean_mk _ _ _ _).2 ⟨h.1, h.2.1, by simp, h.2.2.2⟩, h.2.2.1⟩

theorem ren_setInp (σ : Nat → Nat) (a c : Entry) : ren σ (setInp a c) = setInp (ren σ a) (ren σ c) := by
  cases a; simp [setInp]; rfl

theorem ren_setOut (σ : Nat → Nat) (a c : Entry) : ren σ (setOut a c) = setOut (ren σ a) (ren σ c) := by
  cases a; simp [setOut]; rfl


theorem setInp_eq (e ie : Entry) :
    (match e with | .mk d c _ o => Entry.mk { d with isRpc := true } c [ie] o) = setInp e ie := by cases e; rfl
theorem setOut_eq (e oe : Entry) :
    (match e with | .mk d c i _ => Entry.mk { d with isRpc := true } c i [oe]) = setOut e oe := by cases e; rfl

/-! ### the relation on entries: what the traversal needs -/

/-- A relation between entries that every operation of `toEntry` preserves. -/
structure Closed2 (RE : Entry → Entry → Prop) : Prop where
  withD : ∀ (a b : Entry) (f : EData → EData), GoodF f → RE a b → RE (a.withD f) (b.withD f)
  addErrs : ∀ (a b : Entry) (xs : List Err), RE a b → RE (a.addErrs xs) (b.addErrs xs)
  add : ∀ (a b c d : Entry) (k : String), RE a b → RE c d → RE (a.add k c) (b.add k d)
  merge : ∀ (a b c d : Entry), RE a b → RE c d → RE (a.merge none c) (b.merge none d)
  importErrors : ∀ (a b c d : Entry), RE a b → RE c d → RE (a.importErrors c) (b.importErrors d)
  setInp : ∀ (a b c d : Entry), a.inp = [] → b.inp = [] → RE a b → RE c d → RE (setInp a c) (setInp b d)
  setOut : ∀ (a b c d : Entry), a.out = [] → b.out = [] → RE a b → RE c d → RE (setOut a c) (setOut b d)

theorem Closed2.addErr {RE : Entry → Entry → Prop} (h : Closed2 RE) (a b : Entry) (x : Err) (hab : RE a b) :
    RE (a.addErr x) (b.addErr x) := h.addErrs a b [x] hab

/-- Equal after renaming, provided the left entry is error free. -/
def REl (σ : Nat → Nat) (a b : Entry) : Prop := Clean a → ren σ a = b
/-- Equal after renaming, provided the right entry is error free. -/
def REr (σ : Nat → Nat) (a b : Entry) : Prop := Clean b → ren σ a = b
/-- Equal after renaming, provided one of the two is error free. -/
def REb (σ : Nat → Nat) (a b : Entry) : Prop := REl σ a b ∧ REr σ a b

theorem closed2_REl (σ : Nat → Nat) : Closed2 (REl σ) where
  withD a b f hf hab := by
    intro hc
    rw [ren_withD σ a f (hf.2 σ), hab ((clean_withD a f hf.1).1 hc)]
  addErrs a b xs hab := by
    intro hc
    rw [ren_addErrs, hab ((clean_addErrs a xs).1 hc).1]
  add a b c d k hab hcd := by
    intro hc
    obtain ⟨h1, h2, _⟩ := clean_add a k c hc
    rw [ren_add, hab h1, hcd h2]
  merge a b c d hab hcd := by
    intro hc
    obtain ⟨h1, h2⟩ := clean_merge a none c hc
    rw [ren_merge, hab h1, hcd h2]
  importErrors a b c d hab hcd := by
    intro hc
    obtain ⟨h1, h2⟩ := (clean_importErrors a c).1 hc
    rw [ren_importErrors, hab h1, hcd h2]
  setInp a b c d ha _ hab hcd := by
    intro hc
    obtain ⟨h1, h2⟩ := clean_setInp a c hc ha
    rw [ren_setInp, hab h1, hcd h2]
  setOut a b c d ha _ hab hcd := by
    intro hc
    obtain ⟨h1, h2⟩ := clean_setOut a c hc ha
    rw [ren_setOut, hab h1, hcd h2]

theorem closed2_REr (σ : Nat → Nat) : Closed2 (REr σ) where
  withD a b f hf hab := by
    intro hc
    rw [ren_withD σ a f (hf.2 σ), hab ((clean_withD b f hf.1).1 hc)]
  addErrs a b xs hab := by
    intro hc
    rw [ren_addErrs, hab ((clean_addErrs b xs).1 hc).1]
  add a b c d k hab hcd := by
    intro hc
    obtain ⟨h1, h2, _⟩ := clean_add b k d hc
    rw [ren_add, hab h1, hcd h2]
  merge a b c d hab hcd := by
    intro hc
    obtain ⟨h1, h2⟩ := clean_merge b none d hc
    rw [ren_merge, hab h1, hcd h2]
  importErrors a b c d hab hcd := by
    intro hc
    obtain ⟨h1, h2⟩ := (clean_importErrors b d).1 hc
    rw [ren_importErrors, hab h1, hcd h2]
  setInp a b c d _ hb hab hcd := by
    intro hc
    obtain ⟨h1, h2⟩ := clean_setInp b d hc hb
    rw [ren_setInp, hab h1, hcd h2]
  setOut a b c d _ hb hab hcd := by
    intro hc
    obtain ⟨h1, h2⟩ := clean_setOut b d hc hb
    rw [ren_setOut, hab h1, hcd h2]

theorem Closed2.and {R1 R2 : Entry → Entry → Prop} (h1 : Closed2 R1) (h2 : Closed2 R2) :
    Closed2 (fun a b => R1 a b ∧ R2 a b) where
  withD a b f hf hab := ⟨h1.withD a b f hf hab.1, h2.withD a b f hf hab.2⟩
  addErrs a b xs hab := ⟨h1.addErrs a b xs hab.1, h2.addErrs a b xs hab.2⟩
  add a b c d k hab hcd := ⟨h1.add a b c d k hab.1 hcd.1, h2.add a b c d k hab.2 hcd.2⟩
  merge a b c d hab hcd := ⟨h1.merge a b c d hab.1 hcd.1, h2.merge a b c d hab.2 hcd.2⟩
  importErrors a b c d hab hcd := ⟨h1.importErrors a b c d hab.1 hcd.1, h2.importErrors a b c d hab.2 hcd.2⟩
  setInp a b c d ha hb hab hcd := ⟨h1.setInp a b c d ha hb hab.1 hcd.1, h2.setInp a b c d ha hb hab.2 hcd.2⟩
  setOut a b c d ha hb hab hcd := ⟨h1.setOut a b c d ha hb hab.1 hcd.1, h2.setOut a b c d ha hb hab.2 hcd.2⟩

theorem closed2_REb (σ : Nat → Nat) : Closed2 (REb σ) := (closed2_REl σ).and (closed2_REr σ)

theorem REb_of_eq (σ : Nat → Nat) {a b : Entry} (h : ren σ a = b) : REb σ a b := ⟨fun _ => h, fun _ => h⟩

theorem REb_dirty (σ : Nat → Nat) {a b : Entry} (ha : ¬ Clean a) (hb : ¬ Clean b) : REb σ a b :=
  ⟨fun h => absurd h ha, fun h => absurd h hb⟩

/-! ### folds -/

theorem foldl_rel {α β₁ β₂ : Type} (R : β₁ → β₂ → Prop) (f₁ : β₁ → α → β₁) (f₂ : β₂ → α → β₂) (l : List α)
    (b₁ : β₁) (b₂ : β₂) (h0 : R b₁ b₂) (hstep : ∀ a₁ a₂, ∀ x ∈ l, R a₁ a₂ → R (f₁ a₁ x) (f₂ a₂ x)) :
    R (l.foldl f₁ b₁) (l.foldl f₂ b₂) := by
  induction l generalizing b₁ b₂ with
  | nil => exact h0
  | cons x xs ih =>
    simp only [List.foldl_cons]
    exact ih _ _ (hstep _ _ x (List.mem_cons_self ..) h0) (fun a₁ a₂ y hy => hstep a₁ a₂ y (List.mem_cons_of_mem _ hy))

theorem mem_all_subs {n c : Stmt} {k : String} (h : c ∈ n.all k) : c ∈ n.subs := (List.mem_filter.1 h).1

theorem mem_one_subs {n c : Stmt} {k : String} (h : n.one? k = some c) : c ∈ n.subs := List.mem_of_find?_eq_some h

/-- Pointwise related lists. -/
inductive RelL {α β : Type} (R : α → β → Prop) : List α → List β → Prop
  | nil : RelL R [] []
  | cons {a b l₁ l₂} : R a b → RelL R l₁ l₂ → RelL R (a :: l₁) (b :: l₂)

theorem RelL.append {α β : Type} {R : α → β → Prop} {l₁ l₂ : List α} {m₁ m₂ : List β}
    (h : RelL R l₁ m₁) (h' : RelL R l₂ m₂) : RelL R (l₁ ++ l₂) (m₁ ++ m₂) := by
  induction h with
  | nil => exact h'
  | cons hab _ ih => exact RelL.cons hab ih

theorem RelL.length {α β : Type} {R : α → β → Prop} {l : List α} {m : List β} (h : RelL R l m) : l.length = m.length := by
  induction h with
  | nil => rfl
  | cons _ _ ih => simp [ih]

/-- The relation between the accumulators of the two folds. -/
def AccRel (RE : Entry → Entry → Prop) (RS : TState → TState → Prop) (a₁ a₂ : Entry × TState) : Prop :=
  RE a₁.1 a₂.1 ∧ RS a₁.2 a₂.2

/-- The statement is a (sub)module statement. -/
def isModKw (n : Stmt) : Bool := n.kw == "module" || n.kw == "submodule"

theorem not_modKw_of_all {n c : Stmt} {kw : String} (hc : c ∈ n.all kw) (h1 : kw ≠ "module") (h2 : kw ≠ "submodule") :
    isModKw c = false := by
  have := mem_all_kw n kw c hc
  unfold isModKw
  rw [this]
  simp [h1, h2]

theorem not_modKw_of_one {n c : Stmt} {kw : String} (hc : n.one? kw = some c) (h1 : kw ≠ "module") (h2 : kw ≠ "submodule") :
    isModKw c = false := by
  have := one?_kw n kw c hc
  unfold isModKw
  rw [this]
  simp [h1, h2]

/-- Keywords whose substatements the field steps convert and add, merge or check. -/
def convKws : List String :=
  ["anydata", "anyxml", "case", "choice", "container", "leaf", "leaf-list", "list", "notification", "rpc", "action",
   "grouping", "uses", "deviation", "deviate"]

/-- `c` is converted by the field step `f` of statement `n`. -/
def Called (n : Stmt) (f : String) (c : Stmt) : Prop :=
  (f ∈ convKws ∧ c ∈ n.all f) ∨ ((f = "input" ∨ f = "output") ∧ n.one? f = some c) ∨
    (f = "augment" ∧ c ∈ n.all "augment")

theorem Called.kw {n c : Stmt} {f : String} (h : Called n f c) : c.kw = f := by
  rcases h with ⟨_, h⟩ | ⟨_, h⟩ | ⟨rfl, h⟩
  · exact mem_all_kw n f c h
  · exact one?_kw n f c h
  · exact mem_all_kw n _ c h

theorem Called.mem {n c : Stmt} {f : String} (h : Called n f c) : c ∈ n.subs := by
  rcases h with ⟨_, h⟩ | ⟨_, h⟩ | ⟨_, h⟩
  · exact (List.mem_filter.1 h).1
  · exact List.mem_of_find?_eq_some h
  · exact (List.mem_filter.1 h).1


/-- An update of the entry under construction that involves no other entry: data updates that
neither touch `nodeMod` nor the errors, added errors, and a choice between two such by the kind. -/
inductive DataOp : (Entry → Entry) → Prop
  | id : DataOp fun e => e
  | withD {F} (g : EData → EData) : GoodF g → DataOp F → DataOp fun e => (F e).withD g
  | addErrs {F} (xs : List Err) : DataOp F → DataOp fun e => (F e).addErrs xs
  | onKind {F G} (p : Kind → Bool) : DataOp F → DataOp G → DataOp fun e => if p e.d.kind then F e else G e

/-- Keywords whose statements are converted and added under their argument, as they are. -/
def addKws : List String :=
  ["anydata", "anyxml", "case", "choice", "container", "leaf", "leaf-list", "list", "notification"]

/-- How the step for keyword `f` of statement `n` folds the entry `ce` of a converted substatement
`c` into the entry `a` under construction. -/
inductive FoldOp (n : Stmt) : String → (Entry → Stmt → Entry → Entry) → Prop
  | add {f} : f ∈ addKws → FoldOp n f fun a c ce => a.add c.arg ce
  | rpc {f} : f = "rpc" ∨ f = "action" →
      FoldOp n f fun a c ce => a.add c.arg (ce.withD fun d => { d with isRpc := true })
  | imp {f} : f = "grouping" ∨ f = "deviation" → FoldOp n f fun a _ ce => a.importErrors ce
  | uses : FoldOp n "uses" fun a _ ce => a.merge none ce
  | deviate : FoldOp n "deviate" fun a c ce =>
      if deviateKinds.contains c.arg then a.importErrors ce
      else (a.importErrors ce).addErr (Err.at_ n "deviate-unknown-kind")

theorem FoldOp.conv {n : Stmt} {f : String} {op : Entry → Stmt → Entry → Entry} (h : FoldOp n f op) : f ∈ convKws := by
  have : convKws = addKws ++ ["rpc", "action", "grouping", "uses", "deviation", "deviate"] := rfl
  rw [this]
  cases h with
  | add hf => exact List.mem_append_left _ hf
  | rpc hf => rcases hf with rfl | rfl <;> simp only [List.mem_append, List.mem_cons, true_or, or_true]
  | imp hf => rcases hf with rfl | rfl <;> simp only [List.mem_append, List.mem_cons, true_or, or_true]
  | uses => simp only [List.mem_append, List.mem_cons, true_or, or_true]
  | deviate => simp only [List.mem_append, List.mem_cons, true_or, or_true]

/-- Keywords whose field step converts substatements. -/
def callKws : List String := convKws ++ ["input", "output", "augment"]

theorem Called.mem_callKws {n c : Stmt} {f : String} (h : Called n f c) : f ∈ callKws := by
  rcases h with ⟨h, _⟩ | ⟨h | h, _⟩ | ⟨h, _⟩
  · exact List.mem_append_left _ h
  all_goals subst h; simp only [callKws, List.mem_append, List.mem_cons, true_or, or_true]

theorem not_callKws {g : String} (h : g ∉ convKws ∧ g ≠ "input" ∧ g ≠ "output" ∧ g ≠ "augment") : g ∉ callKws := by
  intro hm
  simp only [callKws, List.mem_append, List.mem_cons, List.mem_nil_iff, or_false] at hm
  rcases hm with hm | hm | hm | hm
  · exact h.1 hm
  · exact h.2.1 hm
  · exact h.2.2.1 hm
  · exact h.2.2.2 hm

/-- The body of the include step (Go: the `Include` case of `ToEntry`, with the merged-submodule
bookkeeping). -/
def incStep (env : Env) (rec : Rec) (root : Mod) (n : Stmt) (visiting : List NodeId) (acc : Entry × TState) (a : Stmt) :
    Entry × TState :=
  let (e, st) := acc
  match env.includeTarget root a with
  | none => (e.addErr (Err.at_ a "other"), st)
  | some im =>
    let srcToIncluded := im.name ++ ":" ++ n.arg
    let includedToSrc := n.arg ++ ":" ++ im.name
    if st.merged.contains srcToIncluded then (e, st)
    else if !st.merged.contains includedToSrc && im.name != n.arg then
      let includedToParent := im.name ++ ":" ++ (im.belongsTo?.getD "")
      if st.merged.contains includedToParent then (e, st)
      else
        let st := { st with merged := st.merged ++ [srcToIncluded, includedToParent] }
        let (ie, st) := rec im [] im.stmt visiting st
        (e.merge none ie, st)
    else if env.opts.ignoreCircular then (e, st)
    else (e.addErr (Err.bare "cycle"), st)

def augFold (rec : Rec) (root : Mod) (sub : List Stmt) (vis : List NodeId) (l : List Stmt) (st : TState) :
    List Entry × TState :=
  l.foldl (fun acc a => (acc.1 ++ [(rec root sub a vis acc.2).1], (rec root sub a vis acc.2).2)) ([], st)

/-- A field step as a function of everything but the statement and the keyword. -/
abbrev StepF := Env → Rec → Mod → List Stmt → List NodeId → Entry → TState → Entry × TState

inductive StepShape (n : Stmt) (isMod : Bool) : String → StepF → Prop
  | conv {f op} : FoldOp n f op → StepShape n isMod f fun _ rec root sub vis e st =>
      (n.all f).foldl (fun acc c => (op acc.1 c (rec root sub c vis acc.2).1, (rec root sub c vis acc.2).2)) (e, st)
  | input : StepShape n isMod "input" fun _ rec root sub vis e st =>
      match n.one? "input" with
      | none => (e, st)
      | some i =>
        (setInp e ((rec root sub i vis st).1.withD fun d => { d with name := "input", kind := .input }),
          (rec root sub i vis st).2)
  | output : StepShape n isMod "output" fun _ rec root sub vis e st =>
      match n.one? "output" with
      | none => (e, st)
      | some o =>
        (setOut e ((rec root sub o vis st).1.withD fun d => { d with name := "output", kind := .output }),
          (rec root sub o vis st).2)
  | incl : StepShape n isMod "include" fun env rec root _ vis e st =>
      (n.all "include").foldl (incStep env rec root n vis) (e, st)
  | augment : StepShape n isMod "augment" fun _ rec root sub vis e st =>
      if !isMod then (e, st)
      else (e, { (augFold rec root sub vis (n.all "augment") st).2 with
        augs := (augFold rec root sub vis (n.all "augment") st).2.augs ++
          [(root.seq, (augFold rec root sub vis (n.all "augment") st).1)] })
  | type : StepShape n isMod "type" fun env _ root sub _ e st =>
      match n.one? "type" with
      | none => (e, st)
      | some t =>
        if (env.tres.resolve env.reg root sub t).2.isEmpty then
          (e.withD fun d => { d with type := (env.tres.resolve env.reg root sub t).1 }, st)
        else (e.addErr (Err.bare "deviate-bad-type"), st)
  | data {f F} : f ∉ callKws → DataOp F → StepShape n isMod f fun _ _ _ _ _ e st => (F e, st)

theorem ite_pair {α β : Type} (c : Prop) [Decidable c] (a b : α) (s : β) :
    (if c then (a, s) else (b, s)) = (if c then a else b, s) := by split <;> rfl

/-- **The field steps by kind**: two runs of the step `f` of the statement `n` are the same one of the
seven kinds of step (stated for two runs so that related runs can be compared; `stepFn_shape₁` is
the version for one run). -/
theorem stepFn_shape (n : Stmt) (isMod : Bool) (f : String)
    (env₁ : Env) (r₁ : Rec) (root₁ : Mod) (sub₁ : List Stmt) (vis₁ : List NodeId) (e₁ : Entry) (s₁ : TState)
    (env₂ : Env) (r₂ : Rec) (root₂ : Mod) (sub₂ : List Stmt) (vis₂ : List NodeId) (e₂ : Entry) (s₂ : TState) :
    ∃ S, StepShape n isMod f S ∧
      stepFn env₁ r₁ root₁ n sub₁ vis₁ isMod (e₁, s₁) f = S env₁ r₁ root₁ sub₁ vis₁ e₁ s₁ ∧
      stepFn env₂ r₂ root₂ n sub₂ vis₂ isMod (e₂, s₂) f = S env₂ r₂ root₂ sub₂ vis₂ e₂ s₂ := by
  unfold stepFn
  dsimp only
  split
  -- any other keyword: nothing happens
  case h_29 =>
    refine ⟨_, .data (not_callKws ⟨?_, ‹_›, ‹_›, ‹_›⟩) .id, rfl, rfl⟩
    intro h
    simp only [convKws, List.mem_cons, List.mem_nil_iff, or_false] at h
    rcases h with h | h | h | h | h | h | h | h | h | h | h | h | h | h | h <;> exact absurd h ‹_›
  -- anydata, anyxml, case, choice, container, leaf, leaf-list, list, notification
  case h_5 | h_6 | h_7 | h_8 | h_9 | h_10 | h_11 | h_12 | h_13 =>
    exact ⟨_, .conv (.add (by simp only [addKws, List.mem_cons, true_or, or_true])), rfl, rfl⟩
  -- rpc, action, grouping, uses, input, output, include, deviation, deviate, type, augment
  case h_14 => exact ⟨_, .conv (.rpc (.inl rfl)), rfl, rfl⟩
  case h_15 => exact ⟨_, .conv (.rpc (.inr rfl)), rfl, rfl⟩
  case h_16 => exact ⟨_, .conv (.imp (.inl rfl)), rfl, rfl⟩
  case h_17 => exact ⟨_, .conv .uses, rfl, rfl⟩
  case h_18 => exact ⟨_, .input, by cases e₁; rfl, by cases e₂; rfl⟩
  case h_19 => exact ⟨_, .output, by cases e₁; rfl, by cases e₂; rfl⟩
  case h_20 => exact ⟨_, .incl, rfl, rfl⟩
  case h_21 => exact ⟨_, .conv (.imp (.inr rfl)), rfl, rfl⟩
  case h_22 => exact ⟨_, .conv .deviate, rfl, rfl⟩
  case h_23 => exact ⟨_, .type, rfl, rfl⟩
  case h_28 => exact ⟨_, .augment, rfl, rfl⟩
  -- config, mandatory
  case h_1 | h_2 =>
    refine ⟨_, .data (not_callKws ?_) (.addErrs _ (.withD _ ?_ .id)), rfl, rfl⟩
    · simp only [convKws, List.mem_cons, List.mem_nil_iff, String.reduceEq, ne_eq, or_self, not_false_eq_true, and_self]
    · exact ⟨fun _ => rfl, fun _ _ => rfl⟩
  -- description, key, units
  case h_3 | h_4 | h_25 =>
    generalize n.argOf? _ = o
    cases o with
    | none =>
      refine ⟨_, .data (not_callKws ?_) .id, rfl, rfl⟩
      simp only [convKws, List.mem_cons, List.mem_nil_iff, String.reduceEq, ne_eq, or_self, not_false_eq_true, and_self]
    | some v =>
      refine ⟨_, .data (not_callKws ?_) (.withD _ ?_ .id), rfl, rfl⟩
      · simp only [convKws, List.mem_cons, List.mem_nil_iff, String.reduceEq, ne_eq, or_self, not_false_eq_true, and_self]
      · exact ⟨fun _ => rfl, fun _ _ => rfl⟩
  -- default
  case h_24 =>
    have hf : "default" ∉ callKws := not_callKws (by
      simp only [convKws, List.mem_cons, List.mem_nil_iff, String.reduceEq, ne_eq, or_self, not_false_eq_true, and_self])
    generalize n.one? _ = o
    cases o with
    | none => exact ⟨_, .data hf (.onKind (· == .deviate) .id .id), ite_pair _ _ _ _, ite_pair _ _ _ _⟩
    | some v =>
      refine ⟨_, .data hf (.onKind (· == .deviate) (.withD _ ?_ .id) .id), ite_pair _ _ _ _, ite_pair _ _ _ _⟩
      exact ⟨fun _ => rfl, fun _ _ => rfl⟩
  -- max-elements, min-elements
  case h_26 | h_27 =>
    generalize n.one? _ = o
    cases o with
    | none =>
      refine ⟨_, .data (not_callKws ?_) (.onKind (· != .deviate) .id (.withD _ ?_ .id)), ite_pair _ _ _ _, ite_pair _ _ _ _⟩
      · simp only [convKws, List.mem_cons, List.mem_nil_iff, String.reduceEq, ne_eq, or_self, not_false_eq_true, and_self]
      · exact ⟨fun _ => rfl, fun _ _ => rfl⟩
    | some v =>
      refine ⟨_, .data (not_callKws ?_) (.onKind (· != .deviate) .id (.addErrs _ (.withD _ ?_ (.withD _ ?_ .id)))),
        ite_pair _ _ _ _, ite_pair _ _ _ _⟩
      · simp only [convKws, List.mem_cons, List.mem_nil_iff, String.reduceEq, ne_eq, or_self, not_false_eq_true, and_self]
      all_goals exact ⟨fun _ => rfl, fun _ _ => rfl⟩

theorem stepFn_shape₁ (n : Stmt) (isMod : Bool) (f : String) (env : Env) (rec : Rec) (root : Mod) (sub : List Stmt)
    (vis : List NodeId) (e : Entry) (st : TState) :
    ∃ S, StepShape n isMod f S ∧ stepFn env rec root n sub vis isMod (e, st) f = S env rec root sub vis e st :=
  let ⟨S, hS, q, _⟩ := stepFn_shape n isMod f env rec root sub vis e st env rec root sub vis e st
  ⟨S, hS, q⟩

theorem DataOp.rel {RE : Entry → Entry → Prop} (hC : Closed2 RE) {F : Entry → Entry} (h : DataOp F) {a b : Entry}
    (hk : a.d.kind = b.d.kind) (hab : RE a b) : RE (F a) (F b) := by
  induction h with
  | id => exact hab
  | withD g hg _ ih => exact hC.withD _ _ g hg ih
  | addErrs xs _ ih => exact hC.addErrs _ _ xs ih
  | onKind p _ _ ihF ihG =>
    dsimp only
    rw [hk]
    split
    · exact ihF
    · exact ihG

theorem FoldOp.rel {RE : Entry → Entry → Prop} (hC : Closed2 RE) {n : Stmt} {f : String}
    {op : Entry → Stmt → Entry → Entry} (h : FoldOp n f op) {a b c d : Entry} (x : Stmt) (hab : RE a b) (hcd : RE c d) :
    RE (op a x c) (op b x d) := by
  cases h with
  | add => exact hC.add _ _ _ _ _ hab hcd
  | rpc => exact hC.add _ _ _ _ _ hab (hC.withD _ _ _ ⟨fun _ => rfl, fun _ _ => rfl⟩ hcd)
  | imp => exact hC.importErrors _ _ _ _ hab hcd
  | uses => exact hC.merge _ _ _ _ hab hcd
  | deviate =>
    dsimp only
    split
    · exact hC.importErrors _ _ _ _ hab hcd
    · exact hC.addErr _ _ _ (hC.importErrors _ _ _ _ hab hcd)

theorem DataOp.clean {F : Entry → Entry} (h : DataOp F) {e : Entry} (hc : Clean (F e)) : Clean e := by
  induction h with
  | id => exact hc
  | withD g hg _ ih => exact ih ((clean_withD _ g hg.1).1 hc)
  | addErrs xs _ ih => exact ih ((clean_addErrs _ xs).1 hc).1
  | onKind p _ _ ihF ihG =>
    dsimp only at hc
    split at hc
    · exact ihF hc
    · exact ihG hc

theorem FoldOp.clean {n : Stmt} {f : String} {op : Entry → Stmt → Entry → Entry} (h : FoldOp n f op)
    {a ce : Entry} {c : Stmt} (hc : Clean (op a c ce)) : Clean a ∧ Clean ce := by
  cases h with
  | add => exact ⟨(clean_add _ _ _ hc).1, (clean_add _ _ _ hc).2.1⟩
  | rpc =>
    obtain ⟨h1, h2, _⟩ := clean_add _ _ _ hc
    refine ⟨h1, (clean_withD _ _ ?_).1 h2⟩
    exact fun _ => rfl
  | imp => exact (clean_importErrors _ _).1 hc
  | uses => exact clean_merge _ _ _ hc
  | deviate =>
    dsimp only at hc
    split at hc
    · exact (clean_importErrors _ _).1 hc
    · exact absurd hc (not_clean_addErr _ _)

section Step
variable {RE : Entry → Entry → Prop} (hC : Closed2 RE) {RS : TState → TState → Prop} {U : Stmt → Prop}
  (env₁ env₂ : Env) (r1 r2 : Rec) (root₁ root₂ : Mod) (n : Stmt) (sub₁ sub₂ : List Stmt) (vis₁ vis₂ : List NodeId)
  (hch : ∀ c, U c → ∀ s₁ s₂, RS s₁ s₂ → AccRel RE RS (r1 root₁ sub₁ c vis₁ s₁) (r2 root₂ sub₂ c vis₂ s₂))
include hC hch

omit hC in
theorem augFold_rel (l : List Stmt) (hl : ∀ a ∈ l, U a) (s₁ s₂ : TState) (h : RS s₁ s₂) :
    RelL RE (augFold r1 root₁ sub₁ vis₁ l s₁).1 (augFold r2 root₂ sub₂ vis₂ l s₂).1 ∧
    RS (augFold r1 root₁ sub₁ vis₁ l s₁).2 (augFold r2 root₂ sub₂ vis₂ l s₂).2 := by
  refine foldl_rel (fun (a₁ a₂ : List Entry × TState) => RelL RE a₁.1 a₂.1 ∧ RS a₁.2 a₂.2) _ _ _ _ _
    ⟨RelL.nil, h⟩ ?_
  rintro ⟨l₁, t₁⟩ ⟨l₂, t₂⟩ a ha ⟨hl', hs⟩
  obtain ⟨q1, q2⟩ := hch a (hl a ha) t₁ t₂ hs
  exact ⟨hl'.append (RelL.cons q1 RelL.nil), q2⟩

/-- One field step of the directory case, on both sides.  The include step is not covered (the
statement has no include substatement); the augment step (module statements only) needs the state
relation to survive the recording of related augment lists. -/
theorem step_rel (isMod : Bool)
    (haug : isMod = true → ∀ s₁ s₂ as₁ as₂, RS s₁ s₂ → RelL RE as₁ as₂ →
      RS { s₁ with augs := s₁.augs ++ [(root₁.seq, as₁)] } { s₂ with augs := s₂.augs ++ [(root₂.seq, as₂)] })
    (acc₁ acc₂ : Entry × TState) (f : String) (hU : ∀ c, Called n f c → U c)
    (htype : f = "type" → ∀ t, n.one? "type" = some t →
      env₁.tres.resolve env₁.reg root₁ sub₁ t = env₂.tres.resolve env₂.reg root₂ sub₂ t)
    (hinc : f = "include" → n.all "include" = [])
    (h : AccRel RE RS acc₁ acc₂)
    (hk : acc₁.1.d.kind = acc₂.1.d.kind)
    (hin : f = "input" → acc₁.1.inp = [] ∧ acc₂.1.inp = [])
    (hout : f = "output" → acc₁.1.out = [] ∧ acc₂.1.out = []) :
    AccRel RE RS (stepFn env₁ r1 root₁ n sub₁ vis₁ isMod acc₁ f) (stepFn env₂ r2 root₂ n sub₂ vis₂ isMod acc₂ f) := by
  obtain ⟨e₁, s₁⟩ := acc₁
  obtain ⟨e₂, s₂⟩ := acc₂
  obtain ⟨he, hs⟩ := h
  dsimp only at he hs hk hin hout
  obtain ⟨S, hS, q1, q2⟩ := stepFn_shape n isMod f env₁ r1 root₁ sub₁ vis₁ e₁ s₁ env₂ r2 root₂ sub₂ vis₂ e₂ s₂
  rw [q1, q2]
  cases hS with
  | conv hop =>
    refine foldl_rel (AccRel RE RS) _ _ _ _ _ ⟨he, hs⟩ ?_
    rintro ⟨a₁, t₁⟩ ⟨a₂, t₂⟩ c hc ⟨ha, ht⟩
    obtain ⟨p1, p2⟩ := hch c (hU c (Or.inl ⟨hop.conv, hc⟩)) t₁ t₂ ht
    exact ⟨hop.rel hC c ha p1, p2⟩
  | input =>
    dsimp only
    cases hi : n.one? "input" with
    | none => exact ⟨he, hs⟩
    | some i =>
      obtain ⟨p1, p2⟩ := hch i (hU i (Or.inr (Or.inl ⟨Or.inl rfl, hi⟩))) s₁ s₂ hs
      exact ⟨hC.setInp _ _ _ _ (hin rfl).1 (hin rfl).2 he (hC.withD _ _ _ ⟨fun _ => rfl, fun _ _ => rfl⟩ p1), p2⟩
  | output =>
    dsimp only
    cases ho : n.one? "output" with
    | none => exact ⟨he, hs⟩
    | some o =>
      obtain ⟨p1, p2⟩ := hch o (hU o (Or.inr (Or.inl ⟨Or.inr rfl, ho⟩))) s₁ s₂ hs
      exact ⟨hC.setOut _ _ _ _ (hout rfl).1 (hout rfl).2 he (hC.withD _ _ _ ⟨fun _ => rfl, fun _ _ => rfl⟩ p1), p2⟩
  | incl =>
    dsimp only
    rw [hinc rfl]
    exact ⟨he, hs⟩
  | augment =>
    dsimp only
    cases isMod with
    | false => exact ⟨he, hs⟩
    | true =>
      obtain ⟨a1, a2⟩ := augFold_rel r1 r2 root₁ root₂ sub₁ sub₂ vis₁ vis₂ hch (n.all "augment")
        (fun a ha => hU a (Or.inr (Or.inr ⟨rfl, ha⟩))) s₁ s₂ hs
      exact ⟨he, haug rfl _ _ _ _ a2 a1⟩
  | type =>
    dsimp only
    cases ht : n.one? "type" with
    | none => exact ⟨he, hs⟩
    | some t =>
      dsimp only
      rw [htype rfl t ht]
      split
      · exact ⟨hC.withD _ _ _ ⟨fun _ => rfl, fun _ _ => rfl⟩ he, hs⟩
      · exact ⟨hC.addErr _ _ _ he, hs⟩
  | data _ hF => exact ⟨hF.rel hC hk he, hs⟩


theorem foldl_steps_rel (isMod : Bool)
    (haug : isMod = true → ∀ s₁ s₂ as₁ as₂, RS s₁ s₂ → RelL RE as₁ as₂ →
      RS { s₁ with augs := s₁.augs ++ [(root₁.seq, as₁)] } { s₂ with augs := s₂.augs ++ [(root₂.seq, as₂)] })
    (l : List String) (hU : ∀ f ∈ l, ∀ c, Called n f c → U c)
    (htype : "type" ∈ l → ∀ t, n.one? "type" = some t →
      env₁.tres.resolve env₁.reg root₁ sub₁ t = env₂.tres.resolve env₂.reg root₂ sub₂ t)
    (hinc : "include" ∈ l → n.all "include" = []) (hni : "input" ∉ l) (hno : "output" ∉ l)
    (a₁ a₂ : Entry × TState) (h : AccRel RE RS a₁ a₂) (hk : a₁.1.d.kind = a₂.1.d.kind) :
    AccRel RE RS (l.foldl (stepFn env₁ r1 root₁ n sub₁ vis₁ isMod) a₁) (l.foldl (stepFn env₂ r2 root₂ n sub₂ vis₂ isMod) a₂) ∧
    (l.foldl (stepFn env₁ r1 root₁ n sub₁ vis₁ isMod) a₁).1.d.kind =
      (l.foldl (stepFn env₂ r2 root₂ n sub₂ vis₂ isMod) a₂).1.d.kind := by
  refine foldl_rel (fun (x y : Entry × TState) => AccRel RE RS x y ∧ x.1.d.kind = y.1.d.kind) _ _ _ _ _ ⟨h, hk⟩ ?_
  rintro x y f hf ⟨hxy, hkk⟩
  refine ⟨step_rel hC env₁ env₂ r1 r2 root₁ root₂ n sub₁ sub₂ vis₁ vis₂ hch isMod haug x y f (hU f hf)
    (fun e => htype (e ▸ hf)) (fun e => hinc (e ▸ hf)) hxy hkk
    (fun e => absurd (e ▸ hf) hni) (fun e => absurd (e ▸ hf) hno), ?_⟩
  rw [(rootKeep_stepFn env₁ r1 root₁ n sub₁ vis₁ isMod x f).2.1, (rootKeep_stepFn env₂ r2 root₂ n sub₂ vis₂ isMod y f).2.1]
  exact hkk

/-- All field steps, from the initial entries.  Only an rpc or action statement has an input and an
output step: they come first, on entries that have no input and no output yet. -/
theorem steps_rel
    (htype : "type" ∈ fieldOrder n.kw → ∀ t, n.one? "type" = some t →
      env₁.tres.resolve env₁.reg root₁ sub₁ t = env₂.tres.resolve env₂.reg root₂ sub₂ t)
    (hU : ∀ f ∈ fieldOrder n.kw, ∀ c, Called n f c → U c)
    (hinc : "include" ∈ fieldOrder n.kw → n.all "include" = []) (isMod : Bool)
    (haug : isMod = true → ∀ s₁ s₂ as₁ as₂, RS s₁ s₂ → RelL RE as₁ as₂ →
      RS { s₁ with augs := s₁.augs ++ [(root₁.seq, as₁)] } { s₂ with augs := s₂.augs ++ [(root₂.seq, as₂)] })
    (hbase : RE (e0 root₁ n) (e0 root₂ n)) (s₁ s₂ : TState) (hs : RS s₁ s₂) :
    AccRel RE RS ((fieldOrder n.kw).foldl (stepFn env₁ r1 root₁ n sub₁ vis₁ isMod) (e0 root₁ n, s₁))
      ((fieldOrder n.kw).foldl (stepFn env₂ r2 root₂ n sub₂ vis₂ isMod) (e0 root₂ n, s₂)) := by
  have k0 : (e0 root₁ n).d.kind = (e0 root₂ n).d.kind := by rw [(e0_data root₁ n).2.1, (e0_data root₂ n).2.1]
  have F := foldl_steps_rel hC env₁ env₂ r1 r2 root₁ root₂ n sub₁ sub₂ vis₁ vis₂ hch isMod haug
  by_cases hio : "input" ∈ fieldOrder n.kw ∨ "output" ∈ fieldOrder n.kw
  · have S := step_rel hC env₁ env₂ r1 r2 root₁ root₂ n sub₁ sub₂ vis₁ vis₂ hch isMod haug
    rw [fieldOrder_io _ hio] at hU ⊢
    simp only [List.foldl_cons, List.foldl_nil]
    have no : ∀ {f g : String} {P : Prop}, f ≠ g → f = g → P := fun h e => absurd e h
    have t1 := S (e0 root₁ n, s₁) (e0 root₂ n, s₂) "output" (hU _ (by simp)) (no (by decide)) (no (by decide)) ⟨hbase, hs⟩ k0
      (no (by decide)) (fun _ => ⟨rfl, rfl⟩)
    have a1 := rootKeep_stepFn env₁ r1 root₁ n sub₁ vis₁ isMod (e0 root₁ n, s₁) "output"
    have b1 := rootKeep_stepFn env₂ r2 root₂ n sub₂ vis₂ isMod (e0 root₂ n, s₂) "output"
    have i1 := stepFn_output_inp env₁ r1 root₁ n sub₁ vis₁ isMod (e0 root₁ n, s₁)
    have j1 := stepFn_output_inp env₂ r2 root₂ n sub₂ vis₂ isMod (e0 root₂ n, s₂)
    generalize stepFn env₁ r1 root₁ n sub₁ vis₁ isMod (e0 root₁ n, s₁) "output" = x1 at t1 a1 i1 ⊢
    generalize stepFn env₂ r2 root₂ n sub₂ vis₂ isMod (e0 root₂ n, s₂) "output" = y1 at t1 b1 j1 ⊢
    have k1 : x1.1.d.kind = y1.1.d.kind := by rw [a1.2.1, b1.2.1]; exact k0
    have t2 := S x1 y1 "input" (hU _ (by simp)) (no (by decide)) (no (by decide)) t1 k1 (fun _ => ⟨i1, j1⟩) (no (by decide))
    have k2 : (stepFn env₁ r1 root₁ n sub₁ vis₁ isMod x1 "input").1.d.kind =
        (stepFn env₂ r2 root₂ n sub₂ vis₂ isMod y1 "input").1.d.kind := by
      rw [(rootKeep_stepFn env₁ r1 root₁ n sub₁ vis₁ isMod x1 "input").2.1,
        (rootKeep_stepFn env₂ r2 root₂ n sub₂ vis₂ isMod y1 "input").2.1]
      exact k1
    have T := F ["grouping", "description"] (fun f hf => hU f (List.mem_cons_of_mem _ (List.mem_cons_of_mem _ hf)))
      (fun h => absurd h (by decide)) (fun h => absurd h (by decide)) (by decide) (by decide) _ _ t2 k2
    simp only [List.foldl_cons, List.foldl_nil] at T
    exact T.1
  · exact (F _ hU htype hinc (fun h => hio (Or.inl h)) (fun h => hio (Or.inr h)) _ _ ⟨hbase, hs⟩ k0).1

end Step

/-! ### the body below the caches and the cycle check -/

/-- `toEntry` of a statement once the entry cache, the grouping cache and the cycle check have let
it pass: `vis` already contains the node when it is tracked, `lk` is the answer of the grouping
lookup for a `uses`. -/
def core (env : Env) (rec : Rec) (root : Mod) (scope : List Stmt) (n : Stmt) (vis : List NodeId) (st : TState)
    (lk : Option GroupingRef) (isMod : Bool) : Entry × TState :=
  if n.kw == "leaf" then (leafEntry env root scope n false, st)
  else if n.kw == "leaf-list" then
    ((leafEntry env root scope n true).withD fun d =>
      { d with listAttr := some (listAttrOf n).1, errors := d.errors ++ (listAttrOf n).2,
               default := (n.all "default").map (·.arg) }, st)
  else if n.kw == "uses" then
    match lk with
    | none => (errorEntry root n "unknown-group", st)
    | some (g, groot, gscope) => rec groot gscope g vis st
  else dirBody env rec root scope n vis st isMod

/-- The guards of `toEntryBody`, named. -/
def tracked (n : Stmt) : Bool := isModKw n || n.kw == "grouping"
def vis' (root : Mod) (n : Stmt) (vis : List NodeId) : List NodeId := if tracked n then nodeId root n :: vis else vis

theorem toEntryBody_core (env : Env) (fuel : Nat) (rec : Rec) (root : Mod) (scope : List Stmt) (n : Stmt)
    (vis : List NodeId) (st : TState)
    (h1 : (if isModKw n then st.cache.find? (·.1 == root.seq) else none) = none)
    (h2 : (if n.kw == "grouping" then st.gcache.find? (·.1 == nodeId root n) else none) = none)
    (h3 : (tracked n && vis.contains (nodeId root n)) = false) :
    toEntryBody env fuel rec root scope n vis st =
      core env rec root scope n (vis' root n vis) st
        (findGrouping env.reg env.linked (2 * fuel + 16) root scope n.arg []).1 (isModKw n) := by
  unfold toEntryBody
  unfold isModKw at h1
  unfold tracked isModKw at h3
  simp only [h1, h2, h3]
  unfold core vis' tracked isModKw
  simp only [Bool.false_eq_true, if_false]
  rfl

/-- The leaf-list case as two closed operations. -/
theorem leafList_eq (e : Entry) (la : ListAttr) (xs : List Err) (dl : List String) :
    (e.withD fun d => { d with listAttr := some la, errors := d.errors ++ xs, default := dl }) =
      (e.withD fun d => { d with listAttr := some la, default := dl }).addErrs xs := by
  cases e; rfl

section Core
variable {RE : Entry → Entry → Prop} (hC : Closed2 RE) {RS : TState → TState → Prop}
  (env₁ env₂ : Env) (r1 r2 : Rec) (root₁ root₂ : Mod) (n : Stmt) (scope₁ scope₂ : List Stmt) (vis₁ vis₂ : List NodeId)
include hC

/-- **Relational traversal, one level.**  Two conversions of the statement `n` (not a (sub)module
statement with include substatements) give related results when: the initial entries, the leaf
entries and the error entry are related; type resolution answers alike; the recursive calls on
the substatements that the field steps convert give related results from related states; for a
`uses`, the lookups answer alike and the recursive calls on the answers give related results.  The
relation `Q` between the results is a parameter: it has to hold of related entries and states, also
after the entry has been recorded in the grouping cache resp. the module cache. -/
theorem core_relQ (Q : Entry × TState → Entry × TState → Prop)
    (s₁ s₂ : TState) (hs : RS s₁ s₂) (lk₁ lk₂ : Option GroupingRef) (isMod : Bool)
    (hbase : RE (e0 root₁ n) (e0 root₂ n))
    (hleaf : n.kw = "leaf" ∨ n.kw = "leaf-list" →
      ∀ syn, RE (leafEntry env₁ root₁ scope₁ n syn) (leafEntry env₂ root₂ scope₂ n syn))
    (herr : n.kw = "uses" → RE (errorEntry root₁ n "unknown-group") (errorEntry root₂ n "unknown-group"))
    (htype : "type" ∈ fieldOrder n.kw → ∀ t, n.one? "type" = some t →
      env₁.tres.resolve env₁.reg root₁ (n :: scope₁) t = env₂.tres.resolve env₂.reg root₂ (n :: scope₂) t)
    (hinc : "include" ∈ fieldOrder n.kw → n.all "include" = [])
    (hch : ∀ c, (∃ f ∈ fieldOrder n.kw, Called n f c) → ∀ t₁ t₂, RS t₁ t₂ →
      AccRel RE RS (r1 root₁ (n :: scope₁) c vis₁ t₁) (r2 root₂ (n :: scope₂) c vis₂ t₂))
    (huses : n.kw = "uses" →
      match lk₁, lk₂ with
      | none, none => True
      | some (g₁, gr₁, gs₁), some (g₂, gr₂, gs₂) =>
        ∀ t₁ t₂, RS t₁ t₂ → AccRel RE RS (r1 gr₁ gs₁ g₁ vis₁ t₁) (r2 gr₂ gs₂ g₂ vis₂ t₂)
      | _, _ => False)
    (haug : isMod = true → ∀ t₁ t₂ as₁ as₂, RS t₁ t₂ → RelL RE as₁ as₂ →
      RS { t₁ with augs := t₁.augs ++ [(root₁.seq, as₁)] } { t₂ with augs := t₂.augs ++ [(root₂.seq, as₂)] })
    (hplain : ∀ a t₁ b t₂, RE a b → RS t₁ t₂ → Q (a, t₁) (b, t₂))
    (hcache : isMod = true → ∀ t₁ t₂ a b, RS t₁ t₂ → RE a b →
      Q (a, { t₁ with cache := t₁.cache ++ [(root₁.seq, a)] }) (b, { t₂ with cache := t₂.cache ++ [(root₂.seq, b)] }))
    (hgc : n.kw = "grouping" → ∀ t₁ t₂ a b, RS t₁ t₂ → RE a b →
      Q (a, { t₁ with gcache := t₁.gcache ++ [(nodeId root₁ n, a)] })
        (b, { t₂ with gcache := t₂.gcache ++ [(nodeId root₂ n, b)] })) :
    Q (core env₁ r1 root₁ scope₁ n vis₁ s₁ lk₁ isMod) (core env₂ r2 root₂ scope₂ n vis₂ s₂ lk₂ isMod) := by
  unfold core
  split
  · rename_i hl
    exact hplain _ _ _ _ (hleaf (Or.inl (by simpa using hl)) false) hs
  · split
    · rename_i hl
      refine hplain _ _ _ _ ?_ hs
      rw [leafList_eq, leafList_eq]
      exact hC.addErrs _ _ _ (hC.withD _ _ _ ⟨fun _ => rfl, fun _ _ => rfl⟩ (hleaf (Or.inr (by simpa using hl)) true))
    · split
      · rename_i hu
        have hu' : n.kw = "uses" := by simpa using hu
        have := huses hu'
        cases lk₁ with
        | none =>
          cases lk₂ with
          | none => exact hplain _ _ _ _ (herr hu') hs
          | some r => obtain ⟨g, gr, gs⟩ := r; exact absurd this id
        | some r =>
          obtain ⟨g₁, gr₁, gs₁⟩ := r
          cases lk₂ with
          | none => exact absurd this id
          | some r' =>
            obtain ⟨g₂, gr₂, gs₂⟩ := r'
            have h2 := this s₁ s₂ hs
            exact hplain _ _ _ _ h2.1 h2.2
      · have hst := steps_rel hC env₁ env₂ r1 r2 root₁ root₂ n (n :: scope₁) (n :: scope₂) vis₁ vis₂ hch htype
          (fun f hf c hc => ⟨f, hf, hc⟩) hinc
          isMod haug hbase s₁ s₂ hs
        unfold dirBody
        dsimp only
        generalize (fieldOrder n.kw).foldl (stepFn env₁ r1 root₁ n (n :: scope₁) vis₁ isMod) (e0 root₁ n, s₁) = x at hst ⊢
        generalize (fieldOrder n.kw).foldl (stepFn env₂ r2 root₂ n (n :: scope₂) vis₂ isMod) (e0 root₂ n, s₂) = y at hst ⊢
        obtain ⟨x1, x2⟩ := x
        obtain ⟨y1, y2⟩ := y
        obtain ⟨he, hs'⟩ := hst
        dsimp only at he hs' ⊢
        cases isMod with
        | true =>
          simp only [if_true]
          exact hcache rfl _ _ _ _ hs' he
        | false =>
          simp only [Bool.false_eq_true, if_false]
          split
          · rename_i hg
            have hg' : n.kw = "grouping" := by simpa using hg
            exact hgc hg' _ _ _ _ hs' he
          · exact hplain _ _ _ _ he hs'

end Core

end Goyang.Lemmas.IncludeRel
