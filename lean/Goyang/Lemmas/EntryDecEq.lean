import Goyang.Model.Entry
/-
Equality of statements and of entries decided by comparison (written out: both are nested inductive
types, which the deriving handler does not cover), so that facts about concrete trees can be checked by
the kernel.
-/
namespace Goyang.Lemmas.EntryDecEq
open Goyang.Model

mutual
def decEqStmt : (a b : Stmt) → Decidable (a = b)
  | .mk k h a f l c s, .mk k' h' a' f' l' c' s' =>
    if h1 : k = k' ∧ h = h' ∧ a = a' ∧ f = f' ∧ l = l' ∧ c = c' then
      match decEqStmtL s s' with
      | isTrue hs => isTrue (by obtain ⟨rfl, rfl, rfl, rfl, rfl, rfl⟩ := h1; subst hs; rfl)
      | isFalse hs => isFalse (by intro e; cases e; exact hs rfl)
    else isFalse (by intro e; cases e; exact h1 ⟨rfl, rfl, rfl, rfl, rfl, rfl⟩)
def decEqStmtL : (a b : List Stmt) → Decidable (a = b)
  | [], [] => isTrue rfl
  | [], _ :: _ => isFalse (by intro e; cases e)
  | _ :: _, [] => isFalse (by intro e; cases e)
  | a :: as, b :: bs =>
    match decEqStmt a b, decEqStmtL as bs with
    | isTrue h, isTrue hs => isTrue (by subst h hs; rfl)
    | isFalse h, _ => isFalse (by intro e; cases e; exact h rfl)
    | _, isFalse hs => isFalse (by intro e; cases e; exact hs rfl)
end

instance : DecidableEq Stmt := decEqStmt
deriving instance DecidableEq for TypeInfo
deriving instance DecidableEq for EData

mutual
def decEqEntry : (a b : Entry) → Decidable (a = b)
  | .mk d c i o, .mk d' c' i' o' =>
    if h : d = d' then
      match decEqEntryL c c', decEqEntryL i i', decEqEntryL o o' with
      | isTrue hc, isTrue hi, isTrue ho => isTrue (by subst h hc hi ho; rfl)
      | isFalse hc, _, _ => isFalse (by intro e; cases e; exact hc rfl)
      | _, isFalse hi, _ => isFalse (by intro e; cases e; exact hi rfl)
      | _, _, isFalse ho => isFalse (by intro e; cases e; exact ho rfl)
    else isFalse (by intro e; cases e; exact h rfl)
def decEqEntryL : (a b : List Entry) → Decidable (a = b)
  | [], [] => isTrue rfl
  | [], _ :: _ => isFalse (by intro e; cases e)
  | _ :: _, [] => isFalse (by intro e; cases e)
  | a :: as, b :: bs =>
    match decEqEntry a b, decEqEntryL as bs with
    | isTrue h, isTrue hs => isTrue (by subst h hs; rfl)
    | isFalse h, _ => isFalse (by intro e; cases e; exact h rfl)
    | _, isFalse hs => isFalse (by intro e; cases e; exact hs rfl)
end

instance : DecidableEq Entry := decEqEntry

end Goyang.Lemmas.EntryDecEq
