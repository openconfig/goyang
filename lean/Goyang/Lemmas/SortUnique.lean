import Goyang.Model.Process
import Goyang.Lemmas.SortAux
/-
`sortBy lt` (Model/Process.lean, the insertion sort every canonical order of the model is
computed with) returns the same list for every permutation of its input, provided `lt` is
irreflexive and transitive and any two *different elements of the list* are comparable.
This is the abstract form of "sort the keys of a map, then walk them": the walk does not depend
on the order in which the map handed out its keys.  Core Lean only.
-/
namespace Goyang.Lemmas.SortUnique
open Goyang.Model

variable {α : Type} (lt : α → α → Bool)

theorem insertBy_perm (x : α) (l : List α) : (insertBy lt x l).Perm (x :: l) := by
  induction l with
  | nil => exact List.Perm.refl _
  | cons y ys ih =>
    unfold insertBy
    split
    · exact List.Perm.refl _
    · exact (List.Perm.cons y ih).trans (List.Perm.swap x y ys)

theorem sortBy_perm (l : List α) : (sortBy lt l).Perm l := by
  induction l with
  | nil => exact List.Perm.refl _
  | cons x t ih => exact (insertBy_perm lt x (sortBy lt t)).trans (List.Perm.cons x ih)

/-- Weakly sorted: no later element is `lt` an earlier one. -/
abbrev WSorted (l : List α) : Prop := l.Pairwise fun a b => lt b a = false

section
variable (irr : ∀ a, lt a a = false) (tr : ∀ a b c, lt a b = true → lt b c = true → lt a c = true)
include irr tr

theorem lt_asymm {a b : α} (h : lt a b = true) : lt b a = false := by
  cases h' : lt b a with
  | false => rfl
  | true => have := tr _ _ _ h h'; rw [irr] at this; exact absurd this (by simp)

/-- Inserting into a weakly sorted list keeps it weakly sorted, when the new element is
comparable with every different element of the list. -/
theorem insertBy_sorted (x : α) {l : List α} (tot : ∀ y ∈ l, x ≠ y → lt x y = true ∨ lt y x = true)
    (h : WSorted lt l) : WSorted lt (insertBy lt x l) := by
  induction l with
  | nil => exact List.pairwise_singleton _ _
  | cons y ys ih =>
    have h' := List.pairwise_cons.mp h
    unfold insertBy
    split
    · rename_i hxy
      refine List.pairwise_cons.mpr ⟨?_, h⟩
      intro z hz
      rcases List.mem_cons.mp hz with rfl | hz
      · exact lt_asymm lt irr tr hxy
      · -- x < y ≤ z
        cases hzx : lt z x with
        | false => rfl
        | true =>
          have := tr _ _ _ hzx hxy
          rw [h'.1 z hz] at this; exact absurd this (by simp)
    · rename_i hxy
      refine List.pairwise_cons.mpr ⟨?_, ih (fun z hz => tot z (List.mem_cons_of_mem _ hz)) h'.2⟩
      intro z hz
      rcases List.mem_cons.mp ((insertBy_perm lt x ys).mem_iff.mp hz) with rfl | hz
      · simpa using hxy
      · exact h'.1 z hz

theorem sortBy_sorted (l : List α) (tot : ∀ a ∈ l, ∀ b ∈ l, a ≠ b → lt a b = true ∨ lt b a = true) :
    WSorted lt (sortBy lt l) := by
  induction l with
  | nil => exact List.Pairwise.nil
  | cons x t ih =>
    refine insertBy_sorted lt irr tr x ?_ (ih fun a ha b hb => tot a (List.mem_cons_of_mem _ ha) b (List.mem_cons_of_mem _ hb))
    intro y hy
    exact tot x (List.mem_cons_self ..) y (List.mem_cons_of_mem _ ((sortBy_perm lt t).mem_iff.mp hy))

end

/-- Two weakly sorted arrangements of one multiset are equal when different elements are
comparable. -/
theorem sorted_perm_unique {l₁ l₂ : List α} (hp : l₁.Perm l₂)
    (tot : ∀ a ∈ l₁, ∀ b ∈ l₁, a ≠ b → lt a b = true ∨ lt b a = true)
    (h₁ : WSorted lt l₁) (h₂ : WSorted lt l₂) : l₁ = l₂ := by
  induction l₁ generalizing l₂ with
  | nil => exact (List.nil_perm.mp hp).symm
  | cons a t₁ ih =>
    cases l₂ with
    | nil => exact absurd hp.length_eq (by simp)
    | cons b t₂ =>
      have h₁' := List.pairwise_cons.mp h₁
      have h₂' := List.pairwise_cons.mp h₂
      have hab : a = b := by
        by_cases e : a = b
        · exact e
        · have ha : a ∈ t₂ := by
            rcases List.mem_cons.mp (hp.mem_iff.mp (List.mem_cons_self ..)) with h | h
            · exact absurd h e
            · exact h
          have hb : b ∈ t₁ := by
            rcases List.mem_cons.mp (hp.mem_iff.mpr (List.mem_cons_self ..)) with h | h
            · exact absurd h.symm e
            · exact h
          have := tot a (List.mem_cons_self ..) b (List.mem_cons_of_mem _ hb) e
          rw [h₁'.1 b hb, h₂'.1 a ha] at this
          simp at this
      subst hab
      congr 1
      exact ih hp.cons_inv (fun x hx y hy => tot x (List.mem_cons_of_mem _ hx) y (List.mem_cons_of_mem _ hy)) h₁'.2 h₂'.2

/-- `sortBy` is a function of the multiset. -/
theorem sortBy_perm_invariant (irr : ∀ a, lt a a = false)
    (tr : ∀ a b c, lt a b = true → lt b c = true → lt a c = true) {l₁ l₂ : List α} (hp : l₁.Perm l₂)
    (tot : ∀ a ∈ l₁, ∀ b ∈ l₁, a ≠ b → lt a b = true ∨ lt b a = true) : sortBy lt l₁ = sortBy lt l₂ := by
  have tot₂ : ∀ a ∈ l₂, ∀ b ∈ l₂, a ≠ b → lt a b = true ∨ lt b a = true :=
    fun a ha b hb => tot a (hp.mem_iff.mpr ha) b (hp.mem_iff.mpr hb)
  refine sorted_perm_unique lt (((sortBy_perm lt l₁).trans hp).trans (sortBy_perm lt l₂).symm) ?_
    (sortBy_sorted lt irr tr l₁ tot) (sortBy_sorted lt irr tr l₂ tot₂)
  intro a ha b hb
  exact tot a ((sortBy_perm lt l₁).mem_iff.mp ha) b ((sortBy_perm lt l₁).mem_iff.mp hb)

/-! ### lexicographic comparisons

The comparisons the model sorts with compare a key first and go on only when the keys are equal. -/

def lexBy {α κ : Type} [BEq κ] (k : α → κ) (ltk : κ → κ → Prop) [DecidableRel ltk] (rest : α → α → Bool) (a b : α) : Bool :=
  if k a != k b then decide (ltk (k a) (k b)) else rest a b

section
variable {α κ : Type} [BEq κ] [LawfulBEq κ] {k : α → κ} {ltk : κ → κ → Prop} [DecidableRel ltk] {rest : α → α → Bool}

theorem lexBy_ne {a b : α} (h : k a ≠ k b) : lexBy k ltk rest a b = true ↔ ltk (k a) (k b) := by
  rw [lexBy, if_pos (bne_iff_ne.mpr h), decide_eq_true_iff]

theorem lexBy_eq {a b : α} (h : k a = k b) : lexBy k ltk rest a b = rest a b := by
  rw [lexBy, if_neg (by rw [h, bne_self_eq_false]; exact Bool.false_ne_true)]

theorem lexBy_irrefl (hr : ∀ a, rest a a = false) (a : α) : lexBy k ltk rest a a = false := by
  rw [lexBy_eq rfl, hr]

theorem lexBy_trans (hirr : ∀ x, ¬ ltk x x) (htr : ∀ {x y z}, ltk x y → ltk y z → ltk x z)
    (hr : ∀ a b c, rest a b = true → rest b c = true → rest a c = true) (a b c : α)
    (h1 : lexBy k ltk rest a b = true) (h2 : lexBy k ltk rest b c = true) : lexBy k ltk rest a c = true := by
  by_cases e1 : k a = k b
  · by_cases e2 : k b = k c
    · rw [lexBy_eq e1] at h1
      rw [lexBy_eq e2] at h2
      rw [lexBy_eq (e1.trans e2)]
      exact hr a b c h1 h2
    · rw [lexBy_ne e2] at h2
      rw [lexBy_ne (e1 ▸ e2), e1]
      exact h2
  · rw [lexBy_ne e1] at h1
    by_cases e2 : k b = k c
    · rw [lexBy_ne (e2 ▸ e1), ← e2]
      exact h1
    · rw [lexBy_ne e2] at h2
      have h3 := htr h1 h2
      exact (lexBy_ne fun e => hirr _ (e ▸ h3)).mpr h3

theorem lexBy_total (htot : ∀ {x y}, x ≠ y → ltk x y ∨ ltk y x) {a b : α}
    (hr : k a = k b → rest a b = true ∨ rest b a = true) :
    lexBy k ltk rest a b = true ∨ lexBy k ltk rest b a = true := by
  by_cases e : k a = k b
  · rw [lexBy_eq e, lexBy_eq e.symm]
    exact hr e
  · rw [lexBy_ne e, lexBy_ne fun e' => e e'.symm]
    exact htot e

end

end Goyang.Lemmas.SortUnique
