import Goyang.Lemmas.IncludePure
import Goyang.Lemmas.Fuel
/-
C13 (third sentence), part 3: a conversion computes the value.

`run_val`: in a coherent conversion state (every cached grouping entry is, up to the renaming of
module numbers and provided it or the value is error free, the value of its grouping), with enough
fuel, and with no grouping in progress that the statement's value depends on, `toEntry` of a
statement in one registry yields the value of the corresponding statement in the other registry —
again up to renaming and provided the entry or the value is error free — and leaves a coherent state.

The two registries, the correspondence of places and what is needed of them are bundled in `World`.
It is instantiated twice: unsplit against itself (what the unsplit conversion computes) and split
against unsplit (what the split conversion computes).
-/
namespace Goyang.Lemmas.IncludeRun
open Goyang.Model Goyang.Spec.Include Goyang.Lemmas.Tree Goyang.Spec.Tree Goyang.Lemmas.IncludeRel
open Goyang.Lemmas.IncludePure

/-! ### chains -/

theorem chain_cons {top c p : Stmt} {rest : List Stmt} (hc : c ∈ p.subs) (h : Chain top (p :: rest)) :
    Chain top (c :: p :: rest) := ⟨hc, h⟩

theorem chain_suffix {top : Stmt} : ∀ (pre l : List Stmt), l ≠ [] → Chain top (pre ++ l) → Chain top l
  | [], _, _, h => h
  | [x], l, hl, h => by
    cases l with
    | nil => exact absurd rfl hl
    | cons y ys => exact h.2
  | x :: y :: pre, l, hl, h => chain_suffix (y :: pre) l hl h.2

theorem chain_sub {top : Stmt} : ∀ (l : List Stmt), Chain top l → ∀ s ∈ l, Fuel.Sub s top
  | [], h, _, _ => absurd h id
  | [x], h, s, hs => by
    have : x = top := h
    simp only [List.mem_singleton] at hs
    rw [hs, this]; exact .refl _
  | c :: p :: rest, h, s, hs => by
    have ih := chain_sub (p :: rest) h.2
    rcases List.mem_cons.1 hs with rfl | hs
    · exact Fuel.Sub.child h.1 (ih p (List.mem_cons_self ..))
    · exact ih s hs

/-- A well-formed place of a registry: a loaded (sub)module and a statement of it with its ancestors. -/
def WF (reg : Registry) (root : Mod) (scope : List Stmt) (n : Stmt) : Prop :=
  root ∈ reg.mods ∧ Chain root.stmt (n :: scope)

theorem WF.inv {env : Env} {root : Mod} {scope : List Stmt} {n : Stmt} (h : WF env.reg root scope n) :
    Fuel.Inv env root scope n :=
  ⟨h.1, chain_sub _ h.2 n (List.mem_cons_self ..), fun s hs => chain_sub _ h.2 s (List.mem_cons_of_mem _ hs)⟩

theorem WF.child {reg : Registry} {root : Mod} {scope : List Stmt} {n c : Stmt} (h : WF reg root scope n) (hc : c ∈ n.subs) :
    WF reg root (n :: scope) c := ⟨h.1, hc, h.2⟩

/-- What the grouping lookup answers is a well-formed place again. -/
theorem WF.lookup {reg : Registry} {linked : List Nat} {fuel : Nat} {root : Mod} {scope : List Stmt} {u : Stmt}
    {g : Stmt} {gr : Mod} {gs : List Stmt} (h : WF reg root scope u)
    (hf : (findGrouping reg linked fuel root scope u.arg []).1 = some (g, gr, gs)) :
    WF reg gr gs g ∧ g.kw = "grouping" := by
  obtain ⟨hkw, ⟨n0, up, hgs, hgm⟩, hloc⟩ := Fuel.findGrouping_sound hf
  refine ⟨?_, hkw⟩
  rcases hloc with ⟨hroot, pre, hpre⟩ | ⟨hmem, hgs'⟩
  · subst hroot
    refine ⟨h.1, ?_⟩
    rw [hgs]
    refine ⟨hgm, ?_⟩
    have h2 : Chain gr.stmt (([u] ++ pre) ++ (n0 :: up)) := by
      have := h.2
      rw [hpre, hgs] at this
      simpa using this
    exact chain_suffix _ _ (by simp) h2
  · refine ⟨hmem, ?_⟩
    rw [hgs'] at hgs ⊢
    cases hgs
    exact ⟨hgm, rfl⟩

/-! ### entries that depend on the root only through its number -/

theorem ren_e0 (σ : Nat → Nat) (r₁ r₂ : Mod) (n : Stmt) (h : σ r₁.seq = r₂.seq) : ren σ (e0 r₁ n) = e0 r₂ n := by
  unfold e0 baseData
  split
  · simp [renD, h]
  · split <;> simp [renD, h]

theorem ren_errorEntry (σ : Nat → Nat) (r₁ r₂ : Mod) (n : Stmt) (cls : String) (h : σ r₁.seq = r₂.seq) :
    ren σ (errorEntry r₁ n cls) = errorEntry r₂ n cls := by
  simp [errorEntry, renD, h]

theorem ren_leafEntry (σ : Nat → Nat) (env₁ env₂ : Env) (r₁ r₂ : Mod) (s₁ s₂ : List Stmt) (n : Stmt) (syn : Bool)
    (h : σ r₁.seq = r₂.seq)
    (ht : ∀ t, env₁.tres.resolve env₁.reg r₁ (n :: s₁) t = env₂.tres.resolve env₂.reg r₂ (n :: s₂) t) :
    ren σ (leafEntry env₁ r₁ s₁ n syn) = leafEntry env₂ r₂ s₂ n syn := by
  unfold leafEntry
  cases hty : n.one? "type" with
  | none => simp [renD, h]
  | some t => simp [renD, h, ht t]


/-! ### the setting -/

/-- Two registries (with their environments), the renaming of module numbers from the first to the
second, the correspondence of places, the grouping lookup of the second, and the fuel that every
call of the first has to spare. -/
structure World where
  env₁ : Env
  env₂ : Env
  lk₂ : Lookup
  σ : Nat → Nat
  CR : Mod → List Stmt → Mod → List Stmt → Prop
  slack : Nat

structure World.OK (W : World) : Prop where
  cr_seq : ∀ {r₁ s₁ r₂ s₂}, W.CR r₁ s₁ r₂ s₂ → W.σ r₁.seq = r₂.seq
  cr_child : ∀ {r₁ s₁ r₂ s₂} (n : Stmt), W.CR r₁ s₁ r₂ s₂ → W.CR r₁ (n :: s₁) r₂ (n :: s₂)
  cr_fun : ∀ {r₁ s₁ r₂ s₂ r₂' s₂'}, W.CR r₁ s₁ r₂ s₂ → W.CR r₁ s₁ r₂' s₂' → r₂ = r₂' ∧ s₂ = s₂'
  cr_types : ∀ {r₁ s₁ r₂ s₂}, W.CR r₁ s₁ r₂ s₂ → ∀ t,
    W.env₁.tres.resolve W.env₁.reg r₁ s₁ t = W.env₂.tres.resolve W.env₂.reg r₂ s₂ t
  lookup : ∀ {r₁ s₁ r₂ s₂} (u : Stmt) (f : Nat), W.CR r₁ s₁ r₂ s₂ → WF W.env₁.reg r₁ s₁ u → u.kw = "uses" →
    W.slack ≤ f →
    match (findGrouping W.env₁.reg W.env₁.linked (2 * f + 16) r₁ s₁ u.arg []).1, W.lk₂ r₂ s₂ u.arg with
    | none, none => True
    | some (g₁, gr₁, gs₁), some (g₂, gr₂, gs₂) => g₁ = g₂ ∧ W.CR gr₁ gs₁ gr₂ gs₂
    | _, _ => False
  lk_kw : ∀ r s a g gr gs, W.lk₂ r s a = some (g, gr, gs) → isModKw g = false
  pos : PosWF W.env₁.reg

/-- How `World.OK.lookup` is shown: both answers rewritten, then none and none, or the same grouping at
corresponding places. -/
theorem World.lookup_intro {CR : Mod → List Stmt → Mod → List Stmt → Prop} {a a' b b' : Option GroupingRef}
    (ha : a = a') (hb : b = b')
    (h : (a' = none ∧ b' = none) ∨
      ∃ g gr₁ gs₁ gr₂ gs₂, a' = some (g, gr₁, gs₁) ∧ b' = some (g, gr₂, gs₂) ∧ CR gr₁ gs₁ gr₂ gs₂) :
    match (generalizing := false) a, b with
    | none, none => True
    | some (g₁, gr₁, gs₁), some (g₂, gr₂, gs₂) => g₁ = g₂ ∧ CR gr₁ gs₁ gr₂ gs₂
    | _, _ => False := by
  subst ha hb
  rcases h with ⟨rfl, rfl⟩ | ⟨g, gr₁, gs₁, gr₂, gs₂, rfl, rfl, h⟩
  · trivial
  · exact ⟨rfl, h⟩

/-- A place: root, ancestors, statement. -/
abbrev Place := Mod × List Stmt × Stmt

section Run
variable (W : World)

/-- The value of a statement of the second registry. -/
noncomputable def World.val : PVal := IncludePure.val W.env₂ W.lk₂
def World.pent : Nat → PVal := IncludePure.pent W.env₂ W.lk₂

/-- `a` gets its error-free value with less fuel than `b` does: `b`'s value depends on `a`'s. -/
def Lt (a b : Place) : Prop :=
  ∀ h, Clean (W.pent h b.1 b.2.1 b.2.2) → ∃ h', h' < h ∧ Clean (W.pent h' a.1 a.2.1 a.2.2)

theorem Lt.trans {a b c : Place} (h1 : Lt W a b) (h2 : Lt W b c) : Lt W a c := by
  intro h hc
  obtain ⟨h', hlt, hb⟩ := h2 h hc
  obtain ⟨h'', hlt', ha⟩ := h1 h' hb
  exact ⟨h'', Nat.lt_trans hlt' hlt, ha⟩

theorem Lt.irrefl {a : Place} (h1 : Lt W a a) : ∀ h, ¬ Clean (W.pent h a.1 a.2.1 a.2.2) := by
  intro h
  induction h using Nat.strongRecOn with
  | _ h ih =>
    intro hc
    obtain ⟨h', hlt, ha⟩ := h1 h hc
    exact ih h' hlt ha

variable (hW : W.OK)
include hW

omit hW in
theorem val_clean_pent {r : Mod} {s : List Stmt} {n : Stmt} (h : Clean (W.val r s n)) : ∃ f, Clean (W.pent f r s n) :=
  ⟨_, h⟩

omit hW in
theorem pent_succ (f : Nat) (r : Mod) (s : List Stmt) (n : Stmt) :
    W.pent (f + 1) r s n = (core W.env₂ (pureRec (W.pent f)) r s n [] {} (W.lk₂ r s n.arg) false).1 := rfl

omit hW in
/-- The value of a statement depends on the values of the substatements its conversion converts. -/
theorem lt_child {r : Mod} {s : List Stmt} {n c : Stmt} (hn : isModKw n = false)
    (hc : ∃ f ∈ fieldOrder n.kw, Called n f c) : Lt W (r, n :: s, c) (r, s, n) := by
  intro h hcl
  cases h with
  | zero => exact absurd hcl (not_clean_errorEntry _ _ _)
  | succ h0 =>
    refine ⟨h0, Nat.lt_succ_self _, ?_⟩
    rw [pent_succ] at hcl
    obtain ⟨f, hf, hcf⟩ := hc
    have hfa : f ≠ "augment" := fun e => not_mod_aug hn (e ▸ hf)
    have hb := core_back W.env₂ (W.pent h0) r s n [] {} (W.lk₂ r s n.arg) false (not_mod_hinc hn) hcl
    have hk := hcf.kw
    -- `f` is the keyword of a converted substatement, so `n` is none of leaf, leaf-list, uses
    have hfo : fieldOrder n.kw ≠ [] := fun e => by rw [e] at hf; cases hf
    have h1 : n.kw ≠ "leaf" := fun e => hfo (by rw [e]; rfl)
    have h2 : n.kw ≠ "leaf-list" := fun e => hfo (by rw [e]; rfl)
    have h3 : n.kw ≠ "uses" := fun e => hfo (by rw [e]; rfl)
    exact hb.2 h1 h2 h3 f hf c (Called.calledE hcf hfa)

omit hW in
/-- … and the value of a `uses` on the value of its grouping. -/
theorem lt_uses {r : Mod} {s : List Stmt} {u g : Stmt} {gr : Mod} {gs : List Stmt} (hu : u.kw = "uses")
    (hl : W.lk₂ r s u.arg = some (g, gr, gs)) : Lt W (gr, gs, g) (r, s, u) := by
  intro h hcl
  cases h with
  | zero => exact absurd hcl (not_clean_errorEntry _ _ _)
  | succ h0 =>
    refine ⟨h0, Nat.lt_succ_self _, ?_⟩
    rw [pent_succ] at hcl
    have hn : isModKw u = false := by unfold isModKw; rw [hu]; decide
    have hb := core_back W.env₂ (W.pent h0) r s u [] {} (W.lk₂ r s u.arg) false (not_mod_hinc hn) hcl
    obtain ⟨g', gr', gs', hl', hc'⟩ := hb.1 hu
    rw [hl] at hl'
    cases hl'
    exact hc'

/-- No grouping in progress is one that the value of the place depends on. -/
def Harmless (vis : List NodeId) (p : Place) : Prop :=
  ∀ r₁ s₁ g, WF W.env₁.reg r₁ s₁ g → g.kw = "grouping" → vis.contains (nodeId r₁ g) = true →
    ∀ r₂ s₂, W.CR r₁ s₁ r₂ s₂ → Lt W p (r₂, s₂, g)

/-- Every cached grouping entry is the value of its grouping (up to renaming, where error free). -/
def Coh (G : List (NodeId × Entry)) : Prop :=
  ∀ p ∈ G, ∀ r₁ s₁ g, WF W.env₁.reg r₁ s₁ g → g.kw = "grouping" → nodeId r₁ g = p.1 →
    ∀ r₂ s₂, W.CR r₁ s₁ r₂ s₂ → REb W.σ p.2 (W.val r₂ s₂ g)

/-- What a conversion of a statement other than a (sub)module statement leaves of the state. -/
def Frame (st st' : TState) : Prop := st'.cache = st.cache ∧ st'.merged = st.merged ∧ st'.augs = st.augs

omit hW in
theorem Frame.refl (st : TState) : Frame st st := ⟨rfl, rfl, rfl⟩
omit hW in
theorem Frame.trans {a b c : TState} (h1 : Frame a b) (h2 : Frame b c) : Frame a c :=
  ⟨h2.1.trans h1.1, h2.2.1.trans h1.2.1, h2.2.2.trans h1.2.2⟩


omit hW in
theorem vis'_eq (r : Mod) (n : Stmt) (v : List NodeId) : vis' r n v = Fuel.visiting' r n v := rfl

omit hW in
theorem tracked_eq (n : Stmt) : tracked n = Fuel.isTracked n := rfl

omit hW in
theorem isTrackedStmt_grouping {g : Stmt} (h : g.kw = "grouping") : isTrackedStmt g = true := by
  unfold isTrackedStmt; rw [h]; decide

omit hW in
theorem tracked_iff {n : Stmt} (hn : isModKw n = false) : tracked n = true ↔ n.kw = "grouping" := by
  unfold tracked; rw [hn]; simp

/-- From `REb a b` with `b` one level of conversion over values to `REb a (value)`. -/
theorem REb_val {a : Entry} {r : Mod} {s : List Stmt} {n : Stmt} (hn : isModKw n = false)
    (h : REb W.σ a (pcore W.env₂ W.lk₂ W.val r s n)) : REb W.σ a (W.val r s n) := by
  constructor
  · intro hc
    have h1 := h.1 hc
    have hb : Clean (pcore W.env₂ W.lk₂ W.val r s n) := by rw [← h1]; exact (clean_ren _ _).2 hc
    have := val_fix W.env₂ W.lk₂ hW.lk_kw r s n hn (Or.inr hb)
    show ren W.σ a = IncludePure.val W.env₂ W.lk₂ r s n
    rw [this]; exact h1
  · intro hc
    have := val_fix W.env₂ W.lk₂ hW.lk_kw r s n hn (Or.inl hc)
    have hb : Clean (pcore W.env₂ W.lk₂ W.val r s n) := by
      have hc' : Clean (IncludePure.val W.env₂ W.lk₂ r s n) := hc
      rw [this] at hc'; exact hc'
    show ren W.σ a = IncludePure.val W.env₂ W.lk₂ r s n
    rw [this]; exact h.2 hb

/-- **A conversion computes the value.** -/
theorem run_val : ∀ (f : Nat) (r₁ : Mod) (s₁ : List Stmt) (n : Stmt) (vis : List NodeId) (st : TState)
    (r₂ : Mod) (s₂ : List Stmt),
    W.CR r₁ s₁ r₂ s₂ → WF W.env₁.reg r₁ s₁ n → isModKw n = false →
    Fuel.need W.env₁.reg r₁ n vis + W.slack ≤ f → Coh W st.gcache → Harmless W vis (r₂, s₂, n) →
    REb W.σ (toEntry W.env₁ f r₁ s₁ n vis st).1 (W.val r₂ s₂ n) ∧
    Coh W (toEntry W.env₁ f r₁ s₁ n vis st).2.gcache ∧ Frame st (toEntry W.env₁ f r₁ s₁ n vis st).2 := by
  intro f
  induction f with
  | zero =>
    intro r₁ s₁ n vis st r₂ s₂ _ hwf _ hneed _ _
    have := Fuel.need_pos (env := W.env₁) vis hwf.inv
    omega
  | succ f ih =>
    intro r₁ s₁ n vis st r₂ s₂ hcr hwf hn hneed hcoh hharm
    have hseq := hW.cr_seq hcr
    have hpos := Fuel.need_pos (env := W.env₁) vis hwf.inv
    have hslack : W.slack ≤ f := by omega
    rw [Tree.toEntry_succ]
    have h1 : (if isModKw n then st.cache.find? (·.1 == r₁.seq) else none) = none := by rw [hn]; rfl
    -- the cycle error contradicts an error-free value
    have hcyc : n.kw = "grouping" → vis.contains (nodeId r₁ n) = true → ¬ Clean (W.val r₂ s₂ n) := by
      intro hg hv hc
      have hlt := hharm r₁ s₁ n hwf hg hv r₂ s₂ hcr
      obtain ⟨h, hh⟩ := val_clean_pent W hc
      exact Lt.irrefl W hlt h hh
    -- the body below the guards
    have hcore : (if n.kw == "grouping" then st.gcache.find? (·.1 == nodeId r₁ n) else none) = none →
        (tracked n && vis.contains (nodeId r₁ n)) = false →
        REb W.σ (toEntryBody W.env₁ f (toEntry W.env₁ f) r₁ s₁ n vis st).1 (W.val r₂ s₂ n) ∧
        Coh W (toEntryBody W.env₁ f (toEntry W.env₁ f) r₁ s₁ n vis st).2.gcache ∧
        Frame st (toEntryBody W.env₁ f (toEntry W.env₁ f) r₁ s₁ n vis st).2 := by
      intro h2 h3
      rw [toEntryBody_core W.env₁ f _ r₁ s₁ n vis st h1 h2 h3, hn]
      have hc3 : ¬ (Fuel.isTracked n && vis.contains (nodeId r₁ n)) = true := by
        rw [← tracked_eq, h3]; exact Bool.false_ne_true
      have hneed' : Fuel.need W.env₁.reg r₁ n vis ≤ (f - W.slack) + 1 := by omega
      -- the state relation and the result relation
      let RS : TState → TState → Prop := fun t₁ _ => Coh W t₁.gcache ∧ Frame st t₁
      let Q : Entry × TState → Entry × TState → Prop := fun x y =>
        REb W.σ x.1 y.1 ∧ Frame st x.2 ∧
          (Coh W x.2.gcache ∨ (n.kw = "grouping" ∧ ∃ G, x.2.gcache = G ++ [(nodeId r₁ n, x.1)] ∧ Coh W G))
      -- harmlessness for what the body calls
      have hharm' : ∀ (p : Place), Lt W p (r₂, s₂, n) → Harmless W (vis' r₁ n vis) p := by
        intro p hp r₁' s₁' g hwf' hgk hmem r₂' s₂' hcr'
        unfold vis' at hmem
        by_cases ht : tracked n = true
        · rw [if_pos ht] at hmem
          simp only [List.contains_cons, Bool.or_eq_true, beq_iff_eq] at hmem
          rcases hmem with hkey | hmem
          · have hg : n.kw = "grouping" := (tracked_iff hn).1 ht
            obtain ⟨e1, e2, e3⟩ := hW.pos r₁' hwf'.1 r₁ hwf.1 g n s₁' s₁ hwf'.2 hwf.2 (isTrackedStmt_grouping hgk)
              (isTrackedStmt_grouping hg) hkey
            subst e1 e2 e3
            obtain ⟨e4, e5⟩ := hW.cr_fun hcr' hcr
            subst e4 e5
            exact hp
          · exact (hp).trans W (hharm r₁' s₁' g hwf' hgk hmem r₂' s₂' hcr')
        · rw [if_neg ht] at hmem
          exact (hp).trans W (hharm r₁' s₁' g hwf' hgk hmem r₂' s₂' hcr')
      have key := core_relQ (RE := REb W.σ) (RS := RS) (closed2_REb W.σ) W.env₁ W.env₂ (toEntry W.env₁ f) (pureRec W.val)
        r₁ r₂ n s₁ s₂ (vis' r₁ n vis) [] Q st {} ⟨hcoh, Frame.refl st⟩
        (findGrouping W.env₁.reg W.env₁.linked (2 * f + 16) r₁ s₁ n.arg []).1 (W.lk₂ r₂ s₂ n.arg) false
        (REb_of_eq _ (ren_e0 _ _ _ _ hseq))
        (fun _ syn => REb_of_eq _ (ren_leafEntry _ _ _ _ _ _ _ _ syn hseq (fun t => hW.cr_types (hW.cr_child n hcr) t)))
        (fun _ => REb_of_eq _ (ren_errorEntry _ _ _ _ _ hseq))
        (fun _ t _ => hW.cr_types (hW.cr_child n hcr) t)
        (not_mod_hinc hn)
        ?hch ?huses (fun h => absurd h (by decide))
        (fun a t₁ b t₂ hab hs => ⟨hab, hs.2, Or.inl hs.1⟩)
        (fun h => absurd h (by decide))
        (fun hg t₁ t₂ a b hs hab => ⟨hab, ⟨hs.2.1, hs.2.2.1, hs.2.2.2⟩, Or.inr ⟨hg, t₁.gcache, rfl, hs.1⟩⟩)
      case hch =>
        intro c hc t₁ t₂ hs
        obtain ⟨fld, hfld, hcf⟩ := hc
        have hcm : c ∈ n.subs := hcf.mem
        obtain ⟨_, hn'⟩ := Fuel.callee_need hwf.inv hneed' hc3 (Fuel.Callee.child (scope := s₁) hcm)
        rw [← vis'_eq] at hn'
        have := ih r₁ (n :: s₁) c (vis' r₁ n vis) t₁ r₂ (n :: s₂) (hW.cr_child n hcr) (hwf.child hcm)
          (called_not_mod hfld hcf) (by omega) hs.1 (hharm' _ (lt_child W hn ⟨fld, hfld, hcf⟩))
        exact ⟨this.1, this.2.1, hs.2.trans this.2.2⟩
      case huses =>
        intro hu
        have hlk := hW.lookup n f hcr hwf hu hslack
        have hnt : tracked n = false := by
          cases ht : tracked n with
          | false => rfl
          | true => rw [(tracked_iff hn).1 ht] at hu; exact absurd hu (by decide)
        have hvis : vis' r₁ n vis = vis := by unfold vis'; rw [hnt]; rfl
        generalize hL1 : (findGrouping W.env₁.reg W.env₁.linked (2 * f + 16) r₁ s₁ n.arg []).1 = L1 at hlk ⊢
        generalize hL2 : W.lk₂ r₂ s₂ n.arg = L2 at hlk ⊢
        cases L1 with
        | none =>
          cases L2 with
          | none => trivial
          | some q => obtain ⟨g, gr, gs⟩ := q; exact hlk
        | some q =>
          obtain ⟨g₁, gr₁, gs₁⟩ := q
          cases L2 with
          | none => exact hlk
          | some q' =>
            obtain ⟨g₂, gr₂, gs₂⟩ := q'
            obtain ⟨hgg, hcr'⟩ : g₁ = g₂ ∧ W.CR gr₁ gs₁ gr₂ gs₂ := hlk
            subst hgg
            intro t₁ t₂ hs
            obtain ⟨hwf', hgk⟩ := hwf.lookup hL1
            obtain ⟨_, hn'⟩ := Fuel.callee_need hwf.inv hneed' hc3 (Fuel.Callee.uses (scope := s₁) (visiting := vis) hL1)
            rw [← vis'_eq] at hn'
            have hgm : isModKw g₁ = false := by unfold isModKw; rw [hgk]; decide
            have := ih gr₁ gs₁ g₁ (vis' r₁ n vis) t₁ gr₂ gs₂ hcr' hwf' hgm (by omega) hs.1
              (hharm' _ (lt_uses W hu hL2))
            exact ⟨this.1, this.2.1, hs.2.trans this.2.2⟩
      -- from `Q` to the claim
      obtain ⟨hre, hfr, hco⟩ := key
      have hre' : REb W.σ (core W.env₁ (toEntry W.env₁ f) r₁ s₁ n (vis' r₁ n vis) st
          (findGrouping W.env₁.reg W.env₁.linked (2 * f + 16) r₁ s₁ n.arg []).1 false).1 (W.val r₂ s₂ n) :=
        REb_val W hW hn hre
      refine ⟨hre', ?_, hfr⟩
      rcases hco with hco | ⟨hg, G, hG, hcoG⟩
      · exact hco
      · rw [hG]
        intro p hp
        rcases List.mem_append.1 hp with hp | hp
        · exact hcoG p hp
        · obtain rfl := List.mem_singleton.1 hp
          intro r₁' s₁' g hwf' hgk hkey r₂' s₂' hcr'
          obtain ⟨e1, e2, e3⟩ := hW.pos r₁' hwf'.1 r₁ hwf.1 g n s₁' s₁ hwf'.2 hwf.2 (isTrackedStmt_grouping hgk)
            (isTrackedStmt_grouping hg) hkey
          subst e1 e2 e3
          obtain ⟨e4, e5⟩ := hW.cr_fun hcr' hcr
          subst e4 e5
          exact hre'
    by_cases hg : n.kw = "grouping"
    · cases hfind : st.gcache.find? (·.1 == nodeId r₁ n) with
      | some p =>
        have hbody : toEntryBody W.env₁ f (toEntry W.env₁ f) r₁ s₁ n vis st = (p.2, st) := by
          unfold toEntryBody
          dsimp only
          rw [show (n.kw == "module" || n.kw == "submodule") = false from hn,
            show (n.kw == "grouping") = true by rw [hg]; rfl]
          simp only [Bool.false_eq_true, if_false, if_true, hfind]
        rw [hbody]
        refine ⟨?_, hcoh, Frame.refl st⟩
        have hmem := List.mem_of_find?_eq_some hfind
        have hkey : nodeId r₁ n = p.1 := by
          have : p.1 = nodeId r₁ n := by simpa using List.find?_some hfind
          exact this.symm
        exact hcoh p hmem r₁ s₁ n hwf hg hkey r₂ s₂ hcr
      | none =>
        have h2 : (if n.kw == "grouping" then st.gcache.find? (·.1 == nodeId r₁ n) else none) = none := by
          rw [hg]; simpa using hfind
        cases hv : vis.contains (nodeId r₁ n) with
        | true =>
          have hbody : toEntryBody W.env₁ f (toEntry W.env₁ f) r₁ s₁ n vis st = (errorEntry r₁ n "cycle", st) := by
            unfold toEntryBody
            dsimp only
            rw [show (n.kw == "module" || n.kw == "submodule") = false from hn,
              show (n.kw == "grouping") = true by rw [hg]; rfl]
            simp only [Bool.false_eq_true, if_false, if_true, hfind, hv, Bool.false_or, Bool.and_self]
          rw [hbody]
          exact ⟨REb_dirty _ (not_clean_errorEntry _ _ _) (hcyc hg hv), hcoh, Frame.refl st⟩
        | false =>
          exact hcore h2 (by rw [hv]; simp)
    · have h2 : (if n.kw == "grouping" then st.gcache.find? (·.1 == nodeId r₁ n) else none) = none := by
        simp [hg]
      have h3 : (tracked n && vis.contains (nodeId r₁ n)) = false := by
        have : tracked n = false := by
          cases ht : tracked n with
          | false => rfl
          | true => exact absurd ((tracked_iff hn).1 ht) hg
        rw [this]; rfl
      exact hcore h2 h3

end Run

end Goyang.Lemmas.IncludeRun
