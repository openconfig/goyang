import Goyang.Spec.Tree
import Goyang.Lemmas.ListAux
/-
One level of `toEntry` with its local functions named (`stepFn`, `dirBody`, `toEntryBody`), a case
analysis of the steps of the directory case (`stepFn_cases`), how the steps can change the node under
construction (`Evolve`) and what they therefore keep (`RootKeep`, `Shape`, `toEntryBody_cases`,
`toEntryBody_data`), what is tracked (`Frame`, `StOKT`), and the invariant principle of the conversion: predicates on the entries made, on
the rows of the conversion state and on the call sites that are closed under the operations `toEntry`
performs (`Traverse.Closure`) hold along every run (`Traverse.toEntryBody_inv`, `Traverse.toEntry_inv`).
The declarations keep the namespaces (`Tree`, `Bridge`) of the layers that use them.
-/
set_option linter.unusedVariables false
set_option linter.unusedSimpArgs false
open Goyang.Lemmas.ListAux (foldl_inv)
namespace Goyang.Lemmas.Tree
open Goyang.Model Goyang.Spec.Tree

theorem everyNodeL_iff (p : Entry → Bool) (l : List Entry) :
    everyNodeL p l = true ↔ ∀ x ∈ l, everyNode p x = true := by
  induction l with
  | nil => simp [everyNodeL]
  | cons a l ih => simp [everyNodeL, ih]

theorem everyNode_mk (p : Entry → Bool) (d : EData) (c i o : List Entry) :
    everyNode p (.mk d c i o) = true ↔
      p (.mk d c i o) = true ∧ (∀ x ∈ c, everyNode p x = true) ∧ (∀ x ∈ i, everyNode p x = true) ∧
        (∀ x ∈ o, everyNode p x = true) := by
  simp [everyNode, everyNodeL_iff, and_assoc]

theorem noErrors_mk (d : EData) (c i o : List Entry) : NoErrors (.mk d c i o) ↔
    d.errors = [] ∧ (∀ x ∈ c, NoErrors x) ∧ (∀ x ∈ i, NoErrors x) ∧ (∀ x ∈ o, NoErrors x) := by
  unfold NoErrors; rw [everyNode_mk]; simp [noErrorsHere, Entry.d]

theorem noErrors_own (e : Entry) (h : NoErrors e) : e.d.errors = [] := by
  cases e with | mk d c i o => exact ((noErrors_mk _ _ _ _).1 h).1

/-! ### `toEntry`, one level unfolded with its local functions named -/

abbrev Rec := Mod → List Stmt → Stmt → List NodeId → TState → Entry × TState

section Body
variable (env : Env) (fuel : Nat) (rec : Rec) (root : Mod) (n : Stmt) (sub : List Stmt) (visiting : List NodeId) (isMod : Bool)

def addAllFn (kw : String) (acc : Entry × TState) : Entry × TState :=
  (n.all kw).foldl (fun (acc : Entry × TState) c =>
    let (ce, st) := rec root sub c visiting acc.2
    (acc.1.add c.arg ce, st)) acc

/-- The local `step` of `toEntry`. -/
def stepFn (acc : Entry × TState) (f : String) : Entry × TState :=
  let (e, st) := acc
  match f with
  | "config" =>
    let (t, er) := tristate n (n.one? "config")
    ((e.withD fun d => { d with config := t }).addErrs er, st)
  | "mandatory" =>
    let (t, er) := tristate n (n.one? "mandatory")
    ((e.withD fun d => { d with mandatory := t }).addErrs er, st)
  | "description" =>
    (match n.argOf? "description" with
      | some v => e.withD fun d => { d with description := v }
      | none => e, st)
  | "key" =>
    (match n.argOf? "key" with
      | some v => e.withD fun d => { d with key := v }
      | none => e, st)
  | "anydata" | "anyxml" | "case" | "choice" | "container" | "leaf" | "leaf-list" | "list"
  | "notification" => addAllFn rec root n sub visiting f acc
  | "rpc" | "action" =>
    (n.all f).foldl (fun (acc : Entry × TState) c =>
      let (ce, st) := rec root sub c visiting acc.2
      (acc.1.add c.arg (ce.withD fun d => { d with isRpc := true }), st)) acc
  | "grouping" =>
    (n.all "grouping").foldl (fun (acc : Entry × TState) g =>
      let (ge, st) := rec root sub g visiting acc.2
      (acc.1.importErrors ge, st)) acc
  | "uses" =>
    (n.all "uses").foldl (fun (acc : Entry × TState) u =>
      let (ge, st) := rec root sub u visiting acc.2
      (acc.1.merge none ge, st)) acc
  | "input" =>
    match n.one? "input" with
    | none => acc
    | some i =>
      let (ie, st) := rec root sub i visiting st
      let ie := ie.withD fun d => { d with name := "input", kind := .input }
      (match e with | .mk d c _ o => .mk { d with isRpc := true } c [ie] o, st)
  | "output" =>
    match n.one? "output" with
    | none => acc
    | some o =>
      let (oe, st) := rec root sub o visiting st
      let oe := oe.withD fun d => { d with name := "output", kind := .output }
      (match e with | .mk d c i _ => .mk { d with isRpc := true } c i [oe], st)
  | "include" =>
    (n.all "include").foldl (fun (acc : Entry × TState) a =>
      let (e, st) := acc
      match env.includeTarget root a with
      | none => (e.addErr (Err.at_ a "other"), st)
      | some im =>
        let srcToIncluded := im.name ++ ":" ++ n.arg
        let includedToSrc := n.arg ++ ":" ++ im.name
        if st.merged.contains srcToIncluded then (e, st)
        else if !st.merged.contains includedToSrc && im.name != n.arg then
          let includedToParent := im.name ++ ":" ++ (im.belongsTo?.getD "")
          if st.merged.contains includedToParent then (e, st)
          else
            let st := { st with merged := st.merged ++ [srcToIncluded, includedToParent] }
            let (ie, st) := rec im [] im.stmt visiting st
            (e.merge none ie, st)
        else if env.opts.ignoreCircular then (e, st)
        else (e.addErr (Err.bare "cycle"), st)) acc
  | "deviation" =>
    (n.all "deviation").foldl (fun (acc : Entry × TState) dv =>
      let (de, st) := rec root sub dv visiting acc.2
      (acc.1.importErrors de, st)) acc
  | "deviate" =>
    (n.all "deviate").foldl (fun (acc : Entry × TState) dv =>
      let (de, st) := rec root sub dv visiting acc.2
      let e := acc.1.importErrors de
      (if deviateKinds.contains dv.arg then e else e.addErr (Err.at_ n "deviate-unknown-kind"), st)) acc
  | "type" =>
    match n.one? "type" with
    | none => acc
    | some t =>
      let (ty, terrs) := env.tres.resolve env.reg root sub t
      if terrs.isEmpty then (e.withD fun d => { d with type := ty }, st)
      else (e.addErr (Err.bare "deviate-bad-type"), st)
  | "default" =>
    if e.d.kind == .deviate then
      (match n.one? "default" with
        | some dflt => e.withD fun d => { d with default := [dflt.arg] }
        | none => e, st)
    else acc
  | "units" =>
    (match n.argOf? "units" with
      | some v => e.withD fun d => { d with units := v }
      | none => e, st)
  | "max-elements" =>
    if e.d.kind != .deviate then acc else
    let e := e.withD fun d => { d with listAttr := some (d.listAttr.getD {}) }
    (match n.one? "max-elements" with
      | none => e
      | some v =>
        let (mx, er) := semMax (some v)
        (e.withD fun d => { d with hasMax := true, listAttr := some { (d.listAttr.getD {}) with max := mx } }).addErrs er, st)
  | "min-elements" =>
    if e.d.kind != .deviate then acc else
    let e := e.withD fun d => { d with listAttr := some (d.listAttr.getD {}) }
    (match n.one? "min-elements" with
      | none => e
      | some v =>
        let (mn, er) := semMin (some v)
        (e.withD fun d => { d with hasMin := true, listAttr := some { (d.listAttr.getD {}) with min := mn } }).addErrs er, st)
  | "augment" =>
    if !isMod then acc else
    let (as, st) := (n.all "augment").foldl (fun (acc : List Entry × TState) a =>
      let (ae, st) := rec root sub a visiting acc.2
      (acc.1 ++ [ae], st)) ([], st)
    (e, { st with augs := st.augs ++ [(root.seq, as)] })
  | _ => acc

/-- The data of the entry a directory-like statement starts from. -/
def baseData : EData × List Err :=
  let base : EData := { name := n.arg, kind := kindOfKw n.kw, hasDir := true, node := n, nodeMod := root.seq,
                        nodeKw := n.kw }
  if n.kw == "list" then
    let (la, lerrs) := listAttrOf n
    ({ base with listAttr := some la }, lerrs)
  else if n.kw == "choice" then
    ({ base with default := match n.one? "default" with | some d => [d.arg] | none => [] }, [])
  else (base, [])

def e0 : Entry := .mk { (baseData root n).1 with errors := (baseData root n).2 } [] [] []
end Body


/-- The directory-like case of `toEntry`: all steps, then the caches. -/
def dirBody (env : Env) (rec : Rec) (root : Mod) (scope : List Stmt) (n : Stmt)
    (visiting : List NodeId) (st : TState) (isMod : Bool) : Entry × TState :=
  let (e, st) := (fieldOrder n.kw).foldl (stepFn env rec root n (n :: scope) visiting isMod) (e0 root n, st)
  if isMod then (e, { st with cache := st.cache ++ [(root.seq, e)] })
  else if n.kw == "grouping" then (e, { st with gcache := st.gcache ++ [(nodeId root n, e)] })
  else (e, st)

/-- One level of `toEntry`, with the recursive calls abstracted as `rec`. -/
def toEntryBody (env : Env) (fuel : Nat) (rec : Rec) (root : Mod) (scope : List Stmt) (n : Stmt)
    (visiting : List NodeId) (st : TState) : Entry × TState :=
  let isMod := n.kw == "module" || n.kw == "submodule"
  match (if isMod then st.cache.find? (·.1 == root.seq) else none) with
  | some (_, e) => (e, st)
  | none =>
  match (if n.kw == "grouping" then st.gcache.find? (·.1 == nodeId root n) else none) with
  | some (_, e) => (e, st)
  | none =>
  let track := isMod || n.kw == "grouping"
  if track && visiting.contains (nodeId root n) then (errorEntry root n "cycle", st) else
  let visiting := if track then nodeId root n :: visiting else visiting
  if n.kw == "leaf" then (leafEntry env root scope n false, st)
  else if n.kw == "leaf-list" then
    let e := leafEntry env root scope n true
    let (la, lerrs) := listAttrOf n
    (e.withD fun d => { d with listAttr := some la, errors := d.errors ++ lerrs,
                               default := (n.all "default").map (·.arg) }, st)
  else if n.kw == "uses" then
    match (findGrouping env.reg env.linked (2 * fuel + 16) root scope n.arg []).1 with
    | none => (errorEntry root n "unknown-group", st)
    | some (g, groot, gscope) => rec groot gscope g visiting st
  else dirBody env rec root scope n visiting st isMod

theorem toEntry_zero (env : Env) (root : Mod) (scope : List Stmt) (n : Stmt) (visiting : List NodeId) (st : TState) :
    toEntry env 0 root scope n visiting st = (errorEntry root n "out-of-fuel", st) := rfl

theorem toEntry_succ (env : Env) (fuel : Nat) (root : Mod) (scope : List Stmt) (n : Stmt) (visiting : List NodeId) (st : TState) :
    toEntry env (fuel + 1) root scope n visiting st =
      toEntryBody env fuel (toEntry env fuel) root scope n visiting st := by
  rfl


instance : LawfulBEq Kind where
  eq_of_beq {a b} h := by cases a <;> cases b <;> first | rfl | exact absurd h (by decide)
  rfl {a} := by cases a <;> decide

/-- Kind of the entry made from a statement with keyword `kw`. -/
def kindOf (kw : String) : Kind := if kw == "leaf" || kw == "leaf-list" then .leaf else kindOfKw kw

/-- Keywords whose entries are added as children. -/
def addKws : List String :=
  ["anydata", "anyxml", "case", "choice", "container", "leaf", "leaf-list", "list", "notification", "rpc", "action"]

theorem addKws_ok : ∀ kw ∈ addKws, kw ≠ "uses" ∧ kw ≠ "grouping" ∧ kw ≠ "module" ∧ kw ≠ "submodule" ∧
    kindOf kw ≠ .deviate := by decide

theorem mem_all_kw (n : Stmt) (kw : String) (c : Stmt) (h : c ∈ n.all kw) : c.kw = kw := by
  simp only [Stmt.all, List.mem_filter, beq_iff_eq] at h; exact h.2

theorem kindOfKw_ne_leaf (kw : String) : kindOfKw kw ≠ .leaf := by
  unfold kindOfKw; split <;> simp

theorem kindOfKw_list : kindOfKw "list" = .directory := by decide

theorem one?_kw (n : Stmt) (kw : String) (i : Stmt) (h : n.one? kw = some i) : i.kw = kw := by
  have := List.find?_some h
  simpa using this

theorem withD_kind (e : Entry) (f : EData → EData) (hf : ∀ d, (f d).kind = d.kind) : (e.withD f).d.kind = e.d.kind := by
  cases e with | mk d c i o => exact hf d

theorem errorEntry_errors (root : Mod) (n : Stmt) (cls : String) : (errorEntry root n cls).d.errors ≠ [] := by
  simp [errorEntry, Entry.d]

theorem fieldOrder_io (kw : String) (h : "input" ∈ fieldOrder kw ∨ "output" ∈ fieldOrder kw) :
    fieldOrder kw = ["output", "input", "grouping", "description"] := by
  revert h
  unfold fieldOrder
  split <;> simp

theorem e0_data (root : Mod) (n : Stmt) : (e0 root n).d.name = n.arg ∧ (e0 root n).d.kind = kindOfKw n.kw ∧
    (e0 root n).d.hasDir = true ∧ (e0 root n).d.node = n ∧
    ((e0 root n).d.listAttr.isSome = true → n.kw = "list") ∧ (e0 root n).d.type = none := by
  unfold e0 baseData
  dsimp only [Entry.d]
  split
  · rename_i h; simp at h; simp [h]
  · split <;> simp


theorem e0_kind (root : Mod) (n : Stmt) : (e0 root n).d.kind ≠ .leaf := by
  rw [(e0_data root n).2.1]; exact kindOfKw_ne_leaf _

theorem leafEntry_data (env : Env) (root : Mod) (scope : List Stmt) (n : Stmt) (syn : Bool) :
    (leafEntry env root scope n syn).d.name = n.arg ∧ (leafEntry env root scope n syn).d.kind = .leaf ∧
    (leafEntry env root scope n syn).d.hasDir = false ∧ (leafEntry env root scope n syn).d.node = n ∧
    (leafEntry env root scope n syn).d.listAttr = none ∧
    (leafEntry env root scope n syn).dir = [] ∧ (leafEntry env root scope n syn).inp = [] ∧
    (leafEntry env root scope n syn).out = [] := by
  unfold leafEntry
  dsimp only
  exact ⟨rfl, rfl, rfl, rfl, rfl, rfl, rfl, rfl⟩


section Cases
variable (env : Env) (rec : Rec) (root : Mod) (n : Stmt) (sub : List Stmt) (visiting : List NodeId) (isMod : Bool)

/-- The shape of most steps: convert the substatements with keyword `kw` one after the other and
combine each entry with the node under construction by `g`. -/
def kidsFold (kw : String) (g : Entry → Stmt → Entry → Entry) (acc : Entry × TState) : Entry × TState :=
  (n.all kw).foldl (fun (acc : Entry × TState) c =>
    (g acc.1 c (rec root sub c visiting acc.2).1, (rec root sub c visiting acc.2).2)) acc

theorem kidsFold_inv {kw : String} {g : Entry → Stmt → Entry → Entry} (P : Entry × TState → Prop) (acc : Entry × TState)
    (h0 : P acc)
    (hs : ∀ e st c, c ∈ n.all kw → P (e, st) → P (g e c (rec root sub c visiting st).1, (rec root sub c visiting st).2)) :
    P (kidsFold rec root n sub visiting kw g acc) :=
  foldl_inv P _ _ _ h0 (fun b c hc hb => hs b.1 b.2 c hc hb)

def includeFn (acc : Entry × TState) : Entry × TState :=
  (n.all "include").foldl (fun (acc : Entry × TState) a =>
    match env.includeTarget root a with
    | none => (acc.1.addErr (Err.at_ a "other"), acc.2)
    | some im =>
      if acc.2.merged.contains (im.name ++ ":" ++ n.arg) = true then (acc.1, acc.2)
      else if (!acc.2.merged.contains (n.arg ++ ":" ++ im.name) && im.name != n.arg) = true then
        if acc.2.merged.contains (im.name ++ ":" ++ (im.belongsTo?.getD "")) = true then (acc.1, acc.2)
        else
          (acc.1.merge none (rec im [] im.stmt visiting
              { acc.2 with merged := acc.2.merged ++ [im.name ++ ":" ++ n.arg, im.name ++ ":" ++ (im.belongsTo?.getD "")] }).1,
           (rec im [] im.stmt visiting
              { acc.2 with merged := acc.2.merged ++ [im.name ++ ":" ++ n.arg, im.name ++ ":" ++ (im.belongsTo?.getD "")] }).2)
      else if env.opts.ignoreCircular = true then (acc.1, acc.2)
      else (acc.1.addErr (Err.bare "cycle"), acc.2)) acc

/-- Induction along the `include` step: it records an error, or merges the entry of an included
submodule, converted from the state with two more `merged` marks. -/
theorem includeFn_inv (P : Entry × TState → Prop) (acc : Entry × TState) (h0 : P acc)
    (herr : ∀ e st x, P (e, st) → P (e.addErr x, st))
    (hmerge : ∀ e st a im m, env.includeTarget root a = some im → P (e, st) →
      P (e.merge none (rec im [] im.stmt visiting { st with merged := m }).1,
        (rec im [] im.stmt visiting { st with merged := m }).2)) :
    P (includeFn env rec root n visiting acc) := by
  refine foldl_inv P _ _ _ h0 ?_
  rintro ⟨e, st⟩ a _ h
  dsimp only
  cases him : env.includeTarget root a with
  | none => exact herr _ _ _ h
  | some im =>
    dsimp only
    by_cases h1 : st.merged.contains (im.name ++ ":" ++ n.arg) = true
    · rw [if_pos h1]; exact h
    rw [if_neg h1]
    by_cases h2 : (!st.merged.contains (n.arg ++ ":" ++ im.name) && im.name != n.arg) = true
    · rw [if_pos h2]
      by_cases h3 : st.merged.contains (im.name ++ ":" ++ (im.belongsTo?.getD "")) = true
      · rw [if_pos h3]; exact h
      · rw [if_neg h3]; exact hmerge e st a im _ him h
    rw [if_neg h2]
    by_cases h4 : env.opts.ignoreCircular = true
    · rw [if_pos h4]; exact h
    · rw [if_neg h4]; exact herr _ _ _ h

def augsFn (st : TState) : List Entry × TState :=
  (n.all "augment").foldl (fun (acc : List Entry × TState) a =>
    (acc.1 ++ [(rec root sub a visiting acc.2).1], (rec root sub a visiting acc.2).2)) ([], st)

def setInput (e ie : Entry) : Entry := match e with | .mk d c _ o => .mk { d with isRpc := true } c [ie] o
def setOutput (e oe : Entry) : Entry := match e with | .mk d c i _ => .mk { d with isRpc := true } c i [oe]

/-- The list-attribute steps of a deviate entry (`max-elements`, `min-elements`). -/
def laInit (e : Entry) : Entry := e.withD fun d => { d with listAttr := some (d.listAttr.getD {}) }

/-- Case analysis of one step of the directory case: `P f r` holds of every field `f` and the result
`r` of its step, if it holds in each of the cases below (`other`: the step changes nothing). -/
theorem stepFn_cases {P : String → Entry × TState → Prop} (e : Entry) (st : TState)
    (other : ∀ f, P f (e, st))
    (config : P "config" ((e.withD fun d => { d with config := (tristate n (n.one? "config")).1 }).addErrs
      (tristate n (n.one? "config")).2, st))
    (mandatory : P "mandatory" ((e.withD fun d => { d with mandatory := (tristate n (n.one? "mandatory")).1 }).addErrs
      (tristate n (n.one? "mandatory")).2, st))
    (description : ∀ v, P "description" (e.withD fun d => { d with description := v }, st))
    (key : ∀ v, P "key" (e.withD fun d => { d with key := v }, st))
    (units : ∀ v, P "units" (e.withD fun d => { d with units := v }, st))
    (kids : ∀ kw ∈ addKws, P kw (kidsFold rec root n sub visiting kw (fun e c v => e.add c.arg v) (e, st)))
    (rpc : ∀ kw ∈ addKws, kw = "rpc" ∨ kw = "action" →
      P kw (kidsFold rec root n sub visiting kw (fun e c v => e.add c.arg (v.withD fun d => { d with isRpc := true })) (e, st)))
    (imports : ∀ kw, kw = "grouping" ∨ kw = "deviation" →
      P kw (kidsFold rec root n sub visiting kw (fun e _ v => e.importErrors v) (e, st)))
    (uses : P "uses" (kidsFold rec root n sub visiting "uses" (fun e _ v => e.merge none v) (e, st)))
    (deviate : P "deviate" (kidsFold rec root n sub visiting "deviate" (fun e dv v =>
      if deviateKinds.contains dv.arg = true then e.importErrors v
      else (e.importErrors v).addErr (Err.at_ n "deviate-unknown-kind")) (e, st)))
    (input : ∀ i, n.one? "input" = some i →
      P "input" (setInput e ((rec root sub i visiting st).1.withD fun d => { d with name := "input", kind := .input }),
        (rec root sub i visiting st).2))
    (output : ∀ o, n.one? "output" = some o →
      P "output" (setOutput e ((rec root sub o visiting st).1.withD fun d => { d with name := "output", kind := .output }),
        (rec root sub o visiting st).2))
    (include_ : P "include" (includeFn env rec root n visiting (e, st)))
    (typeOk : ∀ ty, P "type" (e.withD fun d => { d with type := ty }, st))
    (typeBad : P "type" (e.addErr (Err.bare "deviate-bad-type"), st))
    (default_ : e.d.kind = .deviate → ∀ v, P "default" (e.withD fun d => { d with default := v }, st))
    (maxEl : e.d.kind = .deviate → P "max-elements" (laInit e, st) ∧ ∀ v, n.one? "max-elements" = some v →
      P "max-elements" (((laInit e).withD fun d =>
        { d with hasMax := true, listAttr := some { (d.listAttr.getD {}) with max := (semMax (some v)).1 } }).addErrs
          (semMax (some v)).2, st))
    (minEl : e.d.kind = .deviate → P "min-elements" (laInit e, st) ∧ ∀ v, n.one? "min-elements" = some v →
      P "min-elements" (((laInit e).withD fun d =>
        { d with hasMin := true, listAttr := some { (d.listAttr.getD {}) with min := (semMin (some v)).1 } }).addErrs
          (semMin (some v)).2, st))
    (augment : isMod = true → P "augment" (e, { (augsFn rec root n sub visiting st).2 with
      augs := (augsFn rec root n sub visiting st).2.augs ++ [(root.seq, (augsFn rec root n sub visiting st).1)] })) :
    ∀ f, P f (stepFn env rec root n sub visiting isMod (e, st) f) := by
  intro f
  unfold stepFn
  dsimp only
  split
  · exact config
  · exact mandatory
  · split
    · exact description _
    · exact other _
  · split
    · exact key _
    · exact other _
  · exact kids _ (by decide)
  · exact kids _ (by decide)
  · exact kids _ (by decide)
  · exact kids _ (by decide)
  · exact kids _ (by decide)
  · exact kids _ (by decide)
  · exact kids _ (by decide)
  · exact kids _ (by decide)
  · exact kids _ (by decide)
  · exact rpc _ (by decide) (Or.inl rfl)
  · exact rpc _ (by decide) (Or.inr rfl)
  · exact imports _ (Or.inl rfl)
  · exact uses
  · split
    · exact other _
    · exact input _ ‹_›
  · split
    · exact other _
    · exact output _ ‹_›
  · exact include_
  · exact imports _ (Or.inr rfl)
  · exact deviate
  · split
    · exact other _
    · split
      · exact typeOk _
      · exact typeBad
  · split
    · rename_i hk
      split
      · exact default_ (by simpa using hk) _
      · exact other _
    · exact other _
  · split
    · exact units _
    · exact other _
  · split
    · exact other _
    · rename_i hk
      have hk : e.d.kind = .deviate := by simpa using hk
      split
      · exact (maxEl hk).1
      · exact (maxEl hk).2 _ (by assumption)
  · split
    · exact other _
    · rename_i hk
      have hk : e.d.kind = .deviate := by simpa using hk
      split
      · exact (minEl hk).1
      · exact (minEl hk).2 _ (by assumption)
  · split
    · exact other _
    · rename_i hm
      exact augment (by simpa using hm)
  · exact other _

end Cases

/-! The step of a given field, by evaluation of the match on the literal. -/

theorem stepFn_type (env : Env) (rec : Rec) (root : Mod) (n : Stmt) (sub : List Stmt) (visiting : List NodeId) (isMod : Bool)
    (e : Entry) (st : TState) : stepFn env rec root n sub visiting isMod (e, st) "type" =
      match n.one? "type" with
      | none => (e, st)
      | some t =>
        if (env.tres.resolve env.reg root sub t).2.isEmpty then (e.withD fun d => { d with type := (env.tres.resolve env.reg root sub t).1 }, st)
        else (e.addErr (Err.bare "deviate-bad-type"), st) := rfl
theorem stepFn_deviation (env : Env) (rec : Rec) (root : Mod) (n : Stmt) (sub : List Stmt) (visiting : List NodeId) (isMod : Bool)
    (acc : Entry × TState) : stepFn env rec root n sub visiting isMod acc "deviation" =
      kidsFold rec root n sub visiting "deviation" (fun e _ v => e.importErrors v) acc := rfl

theorem stepFn_output_inp (env : Env) (rec : Rec) (root : Mod) (n : Stmt) (sub : List Stmt) (visiting : List NodeId)
    (isMod : Bool) (acc : Entry × TState) :
    (stepFn env rec root n sub visiting isMod acc "output").1.inp = acc.1.inp := by
  obtain ⟨e, st⟩ := acc
  unfold stepFn
  simp only []
  split
  · rfl
  · cases e; rfl

end Goyang.Lemmas.Tree

namespace Goyang.Lemmas.Bridge
open Goyang.Model Goyang.Spec.Tree Goyang.Lemmas.Tree

def isModKw (n : Stmt) : Bool := n.kw == "module" || n.kw == "submodule"

/-! ### how the steps of `toEntry` can change the node under construction -/

/-- A change of the node's own data that touches none of the listed fields. -/
def StableD (f : EData → EData) : Prop :=
  ∀ d, (f d).node = d.node ∧ (f d).nodeMod = d.nodeMod ∧ (f d).name = d.name ∧ (f d).kind = d.kind ∧
    (f d).hasDir = d.hasDir ∧ (f d).errors = d.errors ∧ (f d).ns = d.ns ∧ (f d).nodeKw = d.nodeKw ∧
    (f d).isRpc = d.isRpc

/-- `Evolve io a b`: `b` is `a` after some steps of `toEntry`'s directory case; `io` says whether
the `input` / `output` steps (which set the rpc flag) may be among them. -/
inductive Evolve : Bool → Entry → Entry → Prop
  | refl (io : Bool) (e : Entry) : Evolve io e e
  | trans {io : Bool} {a b c : Entry} : Evolve io a b → Evolve io b c → Evolve io a c
  | withD (io : Bool) (e : Entry) (f : EData → EData) : StableD f → Evolve io e (e.withD f)
  | addErrs (io : Bool) (e : Entry) (xs : List Err) : Evolve io e (e.addErrs xs)
  | withDir (io : Bool) (e : Entry) (c : List Entry) : Evolve io e (e.withDir c)
  | setIO (d : EData) (c i o i' o' : List Entry) : Evolve true (.mk d c i o) (.mk { d with isRpc := true } c i' o')

theorem Evolve.addErr {io : Bool} (e : Entry) (x : Err) : Evolve io e (e.addErr x) := Evolve.addErrs io e [x]
theorem Evolve.importErrors {io : Bool} (e c : Entry) : Evolve io e (e.importErrors c) := Evolve.addErrs io e _

theorem Evolve.add {io : Bool} (e : Entry) (k : String) (v : Entry) : Evolve io e (e.add k v) := by
  unfold Entry.add; split
  · exact Evolve.addErr _ _
  · exact Evolve.withDir _ _ _

theorem Evolve.merge {io : Bool} (e : Entry) (ns : Option String) (oe : Entry) : Evolve io e (e.merge ns oe) := by
  unfold Entry.merge
  refine foldl_inv (fun x => Evolve io e x) _ _ _ (Evolve.importErrors _ _) ?_
  intro b a _ hb
  dsimp only
  split
  · exact hb.trans (Evolve.addErr _ _)
  · exact hb.trans (Evolve.withDir _ _ _)

theorem Evolve.foldl {io : Bool} {α} (g : Entry × TState → α → Entry × TState) (l : List α) (acc : Entry × TState)
    (h : ∀ acc a, Evolve io acc.1 (g acc a).1) : Evolve io acc.1 (l.foldl g acc).1 :=
  foldl_inv (fun x => Evolve io acc.1 x.1) g l acc (Evolve.refl _ _) (fun b a _ hb => hb.trans (h b a))

theorem Evolve.withD_addErrs {io : Bool} (e : Entry) (f : EData → EData) (xs : List Err) (hf : StableD f) :
    Evolve io e ((e.withD f).addErrs xs) := (Evolve.withD io e f hf).trans (Evolve.addErrs _ _ _)

theorem Evolve.withD2_addErrs {io : Bool} (e : Entry) (f g : EData → EData) (xs : List Err) (hf : StableD f) (hg : StableD g) :
    Evolve io e (((e.withD f).withD g).addErrs xs) :=
  (Evolve.withD io e f hf).trans ((Evolve.withD io _ g hg).trans (Evolve.addErrs _ _ _))

/-- What `Evolve` keeps. -/
theorem Evolve.keeps {io : Bool} {a b : Entry} (h : Evolve io a b) :
    b.d.node = a.d.node ∧ b.d.nodeMod = a.d.nodeMod ∧ b.d.name = a.d.name ∧ b.d.kind = a.d.kind ∧
    b.d.hasDir = a.d.hasDir ∧ b.d.ns = a.d.ns ∧ b.d.nodeKw = a.d.nodeKw ∧ ∃ xs, b.d.errors = a.d.errors ++ xs := by
  induction h with
  | refl io e => exact ⟨rfl, rfl, rfl, rfl, rfl, rfl, rfl, [], by simp⟩
  | trans _ _ ih1 ih2 =>
    obtain ⟨a1, a2, a3, a4, a5, a6, a7, xs, a8⟩ := ih1
    obtain ⟨b1, b2, b3, b4, b5, b6, b7, ys, b8⟩ := ih2
    exact ⟨b1.trans a1, b2.trans a2, b3.trans a3, b4.trans a4, b5.trans a5, b6.trans a6, b7.trans a7,
      xs ++ ys, by rw [b8, a8, List.append_assoc]⟩
  | withD io e f hf =>
    cases e with | mk d c i o =>
    obtain ⟨h1, h2, h3, h4, h5, h6, h7, h8, _⟩ := hf d
    exact ⟨h1, h2, h3, h4, h5, h7, h8, [], by simp [Entry.withD, Entry.d, h6]⟩
  | addErrs io e xs =>
    cases e with | mk d c i o =>
    exact ⟨rfl, rfl, rfl, rfl, rfl, rfl, rfl, xs, rfl⟩
  | withDir io e c =>
    cases e with | mk d c' i o =>
    exact ⟨rfl, rfl, rfl, rfl, rfl, rfl, rfl, [], by simp [Entry.withDir, Entry.d]⟩
  | setIO d c i o i' o' => exact ⟨rfl, rfl, rfl, rfl, rfl, rfl, rfl, [], by simp [Entry.d]⟩

/-- Without the `input` / `output` steps the rpc flag and the rpc input and output stay. -/
theorem Evolve.keepsRpc {io : Bool} {a b : Entry} (h : Evolve io a b) (hio : io = false) :
    b.d.isRpc = a.d.isRpc ∧ b.inp = a.inp ∧ b.out = a.out := by
  induction h with
  | refl io e => exact ⟨rfl, rfl, rfl⟩
  | trans _ _ ih1 ih2 =>
    obtain ⟨a1, a2, a3⟩ := ih1 hio
    obtain ⟨b1, b2, b3⟩ := ih2 hio
    exact ⟨b1.trans a1, b2.trans a2, b3.trans a3⟩
  | withD io e f hf => cases e with | mk d c i o => exact ⟨(hf d).2.2.2.2.2.2.2.2, rfl, rfl⟩
  | addErrs io e xs => cases e with | mk d c i o => exact ⟨rfl, rfl, rfl⟩
  | withDir io e c => cases e with | mk d c' i o => exact ⟨rfl, rfl, rfl⟩
  | setIO d c i o i' o' => cases hio

theorem Evolve.kidsFold {io : Bool} (rec : Rec) (root : Mod) (n : Stmt) (sub : List Stmt) (visiting : List NodeId)
    (kw : String) {g : Entry → Stmt → Entry → Entry} (hg : ∀ e c v, Evolve io e (g e c v)) (acc : Entry × TState) :
    Evolve io acc.1 (kidsFold rec root n sub visiting kw g acc).1 :=
  kidsFold_inv rec root n sub visiting (fun r => Evolve io acc.1 r.1) acc (.refl _ _)
    (fun _ _ _ _ h => h.trans (hg _ _ _))

theorem Evolve.includeFn {io : Bool} (env : Env) (rec : Rec) (root : Mod) (n : Stmt) (visiting : List NodeId)
    (acc : Entry × TState) : Evolve io acc.1 (includeFn env rec root n visiting acc).1 :=
  includeFn_inv env rec root n visiting (fun r => Evolve io acc.1 r.1) acc (.refl _ _)
    (fun e _ x h => Evolve.trans (b := e) h (Evolve.addErr e x))
    (fun e _ _ _ _ _ h => Evolve.trans (b := e) h (Evolve.merge e none _))

theorem evolve_stepFn (io : Bool) (env : Env) (rec : Rec) (root : Mod) (n : Stmt) (sub : List Stmt) (visiting : List NodeId)
    (isMod : Bool) (acc : Entry × TState) (f : String) (hio : io = false → f ≠ "input" ∧ f ≠ "output") :
    Evolve io acc.1 (stepFn env rec root n sub visiting isMod acc f).1 := by
  obtain ⟨e, st⟩ := acc
  -- every change of the node's data below sets a field outside the nine of `StableD`: each is kept by `rfl`
  exact stepFn_cases env rec root n sub visiting isMod
    (P := fun f r => (io = false → f ≠ "input" ∧ f ≠ "output") → Evolve io e r.1) e st
    (other := fun _ _ => .refl _ _)
    (config := fun _ => Evolve.withD_addErrs _ _ _ (fun d => ⟨rfl, rfl, rfl, rfl, rfl, rfl, rfl, rfl, rfl⟩))
    (mandatory := fun _ => Evolve.withD_addErrs _ _ _ (fun d => ⟨rfl, rfl, rfl, rfl, rfl, rfl, rfl, rfl, rfl⟩))
    (description := fun _ _ => .withD _ _ _ (fun d => ⟨rfl, rfl, rfl, rfl, rfl, rfl, rfl, rfl, rfl⟩))
    (key := fun _ _ => .withD _ _ _ (fun d => ⟨rfl, rfl, rfl, rfl, rfl, rfl, rfl, rfl, rfl⟩))
    (units := fun _ _ => .withD _ _ _ (fun d => ⟨rfl, rfl, rfl, rfl, rfl, rfl, rfl, rfl, rfl⟩))
    (kids := fun kw _ _ => Evolve.kidsFold rec root n sub visiting kw (fun _ _ _ => Evolve.add _ _ _) (e, st))
    (rpc := fun kw _ _ _ => Evolve.kidsFold rec root n sub visiting kw (fun _ _ _ => Evolve.add _ _ _) (e, st))
    (imports := fun kw _ _ => Evolve.kidsFold rec root n sub visiting kw (fun _ _ _ => Evolve.importErrors _ _) (e, st))
    (uses := fun _ => Evolve.kidsFold rec root n sub visiting _ (fun _ _ _ => Evolve.merge _ _ _) (e, st))
    (deviate := fun _ => Evolve.kidsFold rec root n sub visiting _ (fun e dv v => by
      split
      · exact Evolve.importErrors _ _
      · exact (Evolve.importErrors _ _).trans (Evolve.addErr _ _)) (e, st))
    (input := fun i _ h => by
      cases io with
      | false => exact absurd rfl (h rfl).1
      | true => cases e; exact .setIO _ _ _ _ _ _)
    (output := fun o _ h => by
      cases io with
      | false => exact absurd rfl (h rfl).2
      | true => cases e; exact .setIO _ _ _ _ _ _)
    (include_ := fun _ => Evolve.includeFn env rec root n visiting (e, st))
    (typeOk := fun _ _ => .withD _ _ _ (fun d => ⟨rfl, rfl, rfl, rfl, rfl, rfl, rfl, rfl, rfl⟩))
    (typeBad := fun _ => Evolve.addErr _ _)
    (default_ := fun _ _ _ => .withD _ _ _ (fun d => ⟨rfl, rfl, rfl, rfl, rfl, rfl, rfl, rfl, rfl⟩))
    (maxEl := fun _ => ⟨fun _ => .withD _ _ _ (fun d => ⟨rfl, rfl, rfl, rfl, rfl, rfl, rfl, rfl, rfl⟩), fun _ _ _ =>
      Evolve.withD2_addErrs _ _ _ _ (fun d => ⟨rfl, rfl, rfl, rfl, rfl, rfl, rfl, rfl, rfl⟩)
        (fun d => ⟨rfl, rfl, rfl, rfl, rfl, rfl, rfl, rfl, rfl⟩)⟩)
    (minEl := fun _ => ⟨fun _ => .withD _ _ _ (fun d => ⟨rfl, rfl, rfl, rfl, rfl, rfl, rfl, rfl, rfl⟩), fun _ _ _ =>
      Evolve.withD2_addErrs _ _ _ _ (fun d => ⟨rfl, rfl, rfl, rfl, rfl, rfl, rfl, rfl, rfl⟩)
        (fun d => ⟨rfl, rfl, rfl, rfl, rfl, rfl, rfl, rfl, rfl⟩)⟩)
    (augment := fun _ _ => .refl _ _)
    f hio

theorem evolve_fold_steps (env : Env) (rec : Rec) (root : Mod) (n : Stmt) (sub : List Stmt) (visiting : List NodeId)
    (isMod : Bool) (l : List String) (acc : Entry × TState) :
    Evolve true acc.1 (l.foldl (stepFn env rec root n sub visiting isMod) acc).1 :=
  Evolve.foldl _ _ _ (fun acc f => evolve_stepFn true env rec root n sub visiting isMod acc f (fun h => by cases h))

/-- The fields of an rpc / action statement. -/
def ioList : List String := ["output", "input", "grouping", "description"]

/-- The four steps of an rpc / action leave the `Dir` children alone. -/
theorem stepFn_io_dir (env : Env) (rec : Rec) (root : Mod) (n : Stmt) (sub : List Stmt) (visiting : List NodeId)
    (isMod : Bool) (acc : Entry × TState) (f : String) (hf : f ∈ ioList) :
    (stepFn env rec root n sub visiting isMod acc f).1.dir = acc.1.dir := by
  obtain ⟨e, st⟩ := acc
  have hw : ∀ g : EData → EData, (e.withD g).dir = e.dir := fun g => by cases e; rfl
  have hnio : ∀ kw ∈ addKws, kw ∉ ioList := by decide
  exact stepFn_cases env rec root n sub visiting isMod (P := fun f r => f ∈ ioList → r.1.dir = e.dir) e st
    (other := fun _ _ => rfl)
    (config := fun h => absurd h (by decide))
    (mandatory := fun h => absurd h (by decide))
    (description := fun _ _ => hw _)
    (key := fun _ _ => hw _)
    (units := fun _ _ => hw _)
    (kids := fun kw hk h => absurd h (hnio kw hk))
    (rpc := fun kw hk _ h => absurd h (hnio kw hk))
    (imports := fun kw hk _ => kidsFold_inv rec root n sub visiting (fun r => r.1.dir = e.dir) (e, st) rfl
      (fun b _ c _ hb => hb ▸ (by cases b; rfl)))
    (uses := fun h => absurd h (by decide))
    (deviate := fun h => absurd h (by decide))
    (input := fun _ _ _ => by cases e; rfl)
    (output := fun _ _ _ => by cases e; rfl)
    (include_ := fun h => absurd h (by decide))
    (typeOk := fun _ _ => hw _)
    (typeBad := fun h => absurd h (by decide))
    (default_ := fun _ _ _ => hw _)
    (maxEl := fun _ => ⟨fun h => absurd h (by decide), fun _ _ h => absurd h (by decide)⟩)
    (minEl := fun _ => ⟨fun h => absurd h (by decide), fun _ _ h => absurd h (by decide)⟩)
    (augment := fun _ _ => rfl)
    f hf

theorem add_isRpc (e : Entry) (k : String) (v : Entry) : (e.add k v).d.isRpc = e.d.isRpc :=
  ((Evolve.add (io := false) e k v).keepsRpc rfl).1

theorem merge_isRpc (e : Entry) (ns : Option String) (oe : Entry) : (e.merge ns oe).d.isRpc = e.d.isRpc :=
  ((Evolve.merge (io := false) e ns oe).keepsRpc rfl).1

theorem e0_dir (root : Mod) (n : Stmt) : (e0 root n).dir = [] := rfl

theorem e0_isRpc (root : Mod) (n : Stmt) : (e0 root n).d.isRpc = false := by
  unfold e0 baseData
  dsimp only [Entry.d]
  split
  · rfl
  · split <;> rfl

theorem e0_nodeMod (root : Mod) (n : Stmt) : (e0 root n).d.nodeMod = root.seq := by
  unfold e0 baseData
  dsimp only [Entry.d]
  split
  · rfl
  · split <;> rfl

theorem leafEntry_nodeMod (env : Env) (root : Mod) (scope : List Stmt) (n : Stmt) (syn : Bool) :
    (leafEntry env root scope n syn).d.nodeMod = root.seq := by
  unfold leafEntry
  dsimp only
  rfl

end Goyang.Lemmas.Bridge

namespace Goyang.Lemmas.Tree
open Goyang.Model Goyang.Spec.Tree
open Goyang.Lemmas.Bridge (isModKw)

/-! ### what the steps of `toEntry` keep of the node under construction -/

/-- Name, kind and child-map presence of the node are kept. -/
def RootKeep (a b : Entry) : Prop := b.d.name = a.d.name ∧ b.d.kind = a.d.kind ∧ b.d.hasDir = a.d.hasDir

theorem RootKeep.refl (a : Entry) : RootKeep a a := ⟨rfl, rfl, rfl⟩
theorem RootKeep.trans {a b c : Entry} (h1 : RootKeep a b) (h2 : RootKeep b c) : RootKeep a c :=
  ⟨h2.1.trans h1.1, h2.2.1.trans h1.2.1, h2.2.2.trans h1.2.2⟩

theorem RootKeep.of_evolve {io : Bool} {a b : Entry} (h : Bridge.Evolve io a b) : RootKeep a b :=
  have ⟨_, _, hname, hkind, hdir, _⟩ := h.keeps
  ⟨hname, hkind, hdir⟩

theorem rootKeep_merge (e : Entry) (ns : Option String) (oe : Entry) : RootKeep e (e.merge ns oe) :=
  .of_evolve (Bridge.Evolve.merge (io := true) e ns oe)

theorem rootKeep_setRpc (e : Entry) (i o : List Entry → List Entry) :
    RootKeep e (match e with | .mk d c i' o' => .mk { d with isRpc := true } c (i i') (o o')) := by
  cases e with | mk d c i o => exact ⟨rfl, rfl, rfl⟩

theorem rootKeep_stepFn (env : Env) (rec : Rec) (root : Mod) (n : Stmt) (sub : List Stmt) (visiting : List NodeId)
    (isMod : Bool) (acc : Entry × TState) (f : String) :
    RootKeep acc.1 (stepFn env rec root n sub visiting isMod acc f).1 :=
  .of_evolve (Bridge.evolve_stepFn true env rec root n sub visiting isMod acc f (fun h => by cases h))

theorem rootKeep_fold_steps (env : Env) (rec : Rec) (root : Mod) (n : Stmt) (sub : List Stmt) (visiting : List NodeId)
    (isMod : Bool) (l : List String) (acc : Entry × TState) :
    RootKeep acc.1 (l.foldl (stepFn env rec root n sub visiting isMod) acc).1 :=
  .of_evolve (Bridge.evolve_fold_steps env rec root n sub visiting isMod l acc)

/-- What the entry made from statement `n` looks like, unless it is an error entry, the result of
a `uses` (the grouping's entry), or a cached grouping / module entry. -/
def Shape (n : Stmt) (e : Entry) : Prop :=
  e.d.errors = [] → n.kw ≠ "uses" → n.kw ≠ "grouping" → n.kw ≠ "module" → n.kw ≠ "submodule" →
    e.d.name = n.arg ∧ e.d.kind = kindOf n.kw ∧ e.d.hasDir = !(n.kw == "leaf" || n.kw == "leaf-list")

/-- Unconditionally, the entry made from a statement that is added as a child is named after the
statement's argument, or is an error entry (whose name is empty). -/
def Shape2 (n : Stmt) (e : Entry) : Prop :=
  n.kw ≠ "uses" → n.kw ≠ "grouping" → n.kw ≠ "module" → n.kw ≠ "submodule" → e.name = n.arg ∨ e.name = ""

theorem toEntryBody_cases (env : Env) (fuel : Nat) (rec : Rec) (root : Mod) (scope : List Stmt) (n : Stmt)
    (visiting : List NodeId) (st : TState) {P : Entry × TState → Prop}
    (modHit : ∀ p ∈ st.cache, isModKw n = true → p.1 = root.seq → P (p.2, st))
    (grpHit : ∀ p ∈ st.gcache, n.kw = "grouping" → P (p.2, st))
    (cycle : (isModKw n || n.kw == "grouping") = true → P (errorEntry root n "cycle", st))
    (leaf : n.kw = "leaf" → P (leafEntry env root scope n false, st))
    (leafList : n.kw = "leaf-list" → P ((leafEntry env root scope n true).withD fun d =>
      { d with listAttr := some (listAttrOf n).1, errors := d.errors ++ (listAttrOf n).2,
               default := (n.all "default").map (·.arg) }, st))
    (noGroup : n.kw = "uses" → P (errorEntry root n "unknown-group", st))
    (uses : n.kw = "uses" → ∀ g groot gscope,
      (findGrouping env.reg env.linked (2 * fuel + 16) root scope n.arg []).1 = some (g, groot, gscope) →
      P (rec groot gscope g visiting st))
    (dir : n.kw ≠ "leaf" → n.kw ≠ "leaf-list" → n.kw ≠ "uses" →
      (isModKw n = true → st.cache.find? (·.1 == root.seq) = none) →
      ((isModKw n || n.kw == "grouping") = true → visiting.contains (nodeId root n) = false) →
      P (dirBody env rec root scope n
        (if (isModKw n || n.kw == "grouping") = true then nodeId root n :: visiting else visiting) st (isModKw n))) :
    P (toEntryBody env fuel rec root scope n visiting st) := by
  unfold toEntryBody
  dsimp only
  generalize hm : (n.kw == "module" || n.kw == "submodule") = isMod at *
  have hm' : isModKw n = isMod := hm
  rw [hm'] at modHit cycle dir
  generalize h1 : (if isMod = true then List.find? (fun x => x.1 == root.seq) st.cache else none) = r1
  cases r1 with
  | some p =>
    dsimp only
    cases isMod with
    | false => simp at h1
    | true =>
      rw [if_pos rfl] at h1
      exact modHit p (List.mem_of_find?_eq_some h1) rfl (by simpa using List.find?_some h1)
  | none =>
  dsimp only
  generalize h2 : (if (n.kw == "grouping") = true then List.find? (fun x => x.1 == nodeId root n) st.gcache else none) = r2
  cases r2 with
  | some p =>
    dsimp only
    by_cases hg : (n.kw == "grouping") = true
    · rw [if_pos hg] at h2
      exact grpHit p (List.mem_of_find?_eq_some h2) (by simpa using hg)
    · rw [if_neg hg] at h2; cases h2
  | none =>
  dsimp only
  by_cases hc : ((isMod || n.kw == "grouping") && visiting.contains (nodeId root n)) = true
  · rw [if_pos hc]
    exact cycle (by simp only [Bool.and_eq_true] at hc; exact hc.1)
  rw [if_neg hc]
  by_cases hl : (n.kw == "leaf") = true
  · rw [if_pos hl]; exact leaf (by simpa using hl)
  rw [if_neg hl]
  by_cases hll : (n.kw == "leaf-list") = true
  · rw [if_pos hll]; exact leafList (by simpa using hll)
  rw [if_neg hll]
  by_cases hu : (n.kw == "uses") = true
  · rw [if_pos hu]
    have hkw : n.kw = "uses" := by simpa using hu
    have htr : (isMod || n.kw == "grouping") = false := by rw [← hm, hkw]; decide
    rw [htr, if_neg (by simp)]
    cases hf : (findGrouping env.reg env.linked (2 * fuel + 16) root scope n.arg []).1 with
    | none => exact noGroup hkw
    | some x => obtain ⟨g, groot, gscope⟩ := x; exact uses hkw g groot gscope hf
  rw [if_neg hu]
  refine dir (by simpa using hl) (by simpa using hll) (by simpa using hu) (fun h => ?_) (fun h => ?_)
  · rw [h, if_pos rfl] at h1; exact h1
  · cases hv : visiting.contains (nodeId root n)
    · rfl
    · exact absurd (by rw [h, hv]; rfl) hc

theorem dirBody_fst (env : Env) (rec : Rec) (root : Mod) (scope : List Stmt) (n : Stmt) (visiting : List NodeId)
    (st : TState) (isMod : Bool) : (dirBody env rec root scope n visiting st isMod).1 =
      ((fieldOrder n.kw).foldl (stepFn env rec root n (n :: scope) visiting isMod) (e0 root n, st)).1 := by
  unfold dirBody
  dsimp only
  split
  · rfl
  · split <;> rfl

/-- The entry made from a statement that is neither a `uses` (whose entry is the grouping's) nor
cached (grouping, module) records the statement: its argument as name, the kind of its keyword, itself as
node. -/
theorem toEntryBody_data (env : Env) (fuel : Nat) (rec : Rec) (root : Mod) (scope : List Stmt) (n : Stmt)
    (visiting : List NodeId) (st : TState)
    (h1 : n.kw ≠ "uses") (h2 : n.kw ≠ "grouping") (h3 : n.kw ≠ "module") (h4 : n.kw ≠ "submodule") :
    (toEntryBody env fuel rec root scope n visiting st).1.d.name = n.arg ∧
    (toEntryBody env fuel rec root scope n visiting st).1.d.kind = kindOf n.kw ∧
    (toEntryBody env fuel rec root scope n visiting st).1.d.hasDir = !(n.kw == "leaf" || n.kw == "leaf-list") ∧
    (toEntryBody env fuel rec root scope n visiting st).1.d.node = n ∧
    (toEntryBody env fuel rec root scope n visiting st).1.d.nodeMod = root.seq := by
  have hm : Bridge.isModKw n = false := by simp [Bridge.isModKw, h3, h4]
  have hg : (n.kw == "grouping") = false := by simp [h2]
  refine toEntryBody_cases env fuel rec root scope n visiting st
    (P := fun r => r.1.d.name = n.arg ∧ r.1.d.kind = kindOf n.kw ∧
      r.1.d.hasDir = !(n.kw == "leaf" || n.kw == "leaf-list") ∧ r.1.d.node = n ∧ r.1.d.nodeMod = root.seq)
    (modHit := fun _ _ h _ => absurd h (by simp [hm]))
    (grpHit := fun _ _ h => absurd h h2)
    (cycle := fun h => absurd h (by simp [hm, hg]))
    (leaf := fun hl => ?_)
    (leafList := fun hl => ?_)
    (noGroup := fun h => absurd h h1)
    (uses := fun h => absurd h h1)
    (dir := fun hl hll _ _ _ => ?_)
  · obtain ⟨hname, hkind, hdir, hnode, _⟩ := leafEntry_data env root scope n false
    exact ⟨hname, by simp [kindOf, hl, hkind], by simp [hl, hdir], hnode, Bridge.leafEntry_nodeMod env root scope n false⟩
  · have hd := leafEntry_data env root scope n true
    have hnm := Bridge.leafEntry_nodeMod env root scope n true
    generalize leafEntry env root scope n true = le at hd hnm ⊢
    cases le with | mk d c i o =>
    obtain ⟨hname, hkind, hdir, hnode, _⟩ := hd
    exact ⟨hname, by simp only [kindOf, hl]; exact hkind, by simp only [hl]; exact hdir, hnode, hnm⟩
  · rw [dirBody_fst]
    generalize (if (isModKw n || n.kw == "grouping") = true then nodeId root n :: visiting else visiting) = vis
    obtain ⟨knode, kmod, kname, kkind, kdir, _⟩ :=
      (Bridge.evolve_fold_steps env rec root n (n :: scope) vis (isModKw n) (fieldOrder n.kw) (e0 root n, st)).keeps
    obtain ⟨hname, hkind, hdir, hnode, _⟩ := e0_data root n
    exact ⟨kname.trans hname, by simp [kindOf, hl, hll, kkind, hkind], by simp [hl, hll, kdir, hdir],
      knode.trans hnode, kmod.trans (Bridge.e0_nodeMod root n)⟩

theorem toEntryBody_shape (env : Env) (fuel : Nat) (rec : Rec) (root : Mod) (scope : List Stmt) (n : Stmt)
    (visiting : List NodeId) (st : TState) : Shape n (toEntryBody env fuel rec root scope n visiting st).1 :=
  fun _ h1 h2 h3 h4 =>
    have h := toEntryBody_data env fuel rec root scope n visiting st h1 h2 h3 h4
    ⟨h.1, h.2.1, h.2.2.1⟩

theorem toEntry_shape (env : Env) (fuel : Nat) (root : Mod) (scope : List Stmt) (n : Stmt)
    (visiting : List NodeId) (st : TState) : Shape n (toEntry env fuel root scope n visiting st).1 := by
  cases fuel with
  | zero => intro herr; exact absurd herr (errorEntry_errors _ _ _)
  | succ fuel => rw [toEntry_succ]; exact toEntryBody_shape _ _ _ _ _ _ _ _

theorem shape_child (n : Stmt) (kw : String) (c : Stmt) (v : Entry) (hkw : kw ∈ addKws) (hc : c ∈ n.all kw)
    (hs : Shape c v) (hv : NoErrors v) : v.name = c.arg ∧ v.d.kind ≠ .deviate := by
  have hk := mem_all_kw n kw c hc
  obtain ⟨h1, h2, h3, h4, h5⟩ := addKws_ok kw hkw
  rw [← hk] at h1 h2 h3 h4 h5
  obtain ⟨a, b, _⟩ := hs (noErrors_own v hv) h1 h2 h3 h4
  exact ⟨a, by rw [b]; exact h5⟩

/-- The node data changes a step of `toEntry` makes without touching what the tree predicates read. -/
def NeutralD (d d' : EData) : Prop :=
  d'.name = d.name ∧ d'.kind = d.kind ∧ d'.hasDir = d.hasDir ∧ d'.node = d.node ∧ d'.listAttr = d.listAttr ∧
    d'.type = d.type

/-- Changes to a deviate entry's list attributes. -/
def LaOnlyD (d d' : EData) : Prop :=
  d'.name = d.name ∧ d'.kind = d.kind ∧ d'.hasDir = d.hasDir ∧ d'.node = d.node ∧ d'.type = d.type

/-! ### the conversion state -/

/-- Everything held in the conversion state satisfies the entry invariant `PE`, and every (sub)module that has
recorded its augments has its entry in the cache or is one of the (sub)modules `S` whose
conversion is in progress. -/
structure StOK (PE : Entry → Prop) (S : List Nat) (st : TState) : Prop where
  cache : ∀ p ∈ st.cache, PE p.2
  gcache : ∀ p ∈ st.gcache, PE p.2
  augs : ∀ p ∈ st.augs, ∀ a ∈ p.2, PE a
  keys : ∀ p ∈ st.augs, p.1 ∈ st.cache.map (·.1) ∨ p.1 ∈ S
  ckind : ∀ p ∈ st.cache, p.2.d.kind = .directory

theorem stOK_empty (PE : Entry → Prop) (S : List Nat) : StOK PE S {} :=
  ⟨by simp, by simp, by simp, by simp, by simp⟩

theorem stOK_merged {PE : Entry → Prop} (S : List Nat) (st : TState) (m : List String) (h : StOK PE S st) :
    StOK PE S { st with merged := m } :=
  ⟨h.cache, h.gcache, h.augs, h.keys, h.ckind⟩

theorem stOK_weaken {PE : Entry → Prop} (S : List Nat) (x : Nat) (st : TState) (h : StOK PE S st) : StOK PE (x :: S) st :=
  ⟨h.cache, h.gcache, h.augs, fun p hp => (h.keys p hp).imp id (fun h => List.mem_cons_of_mem _ h), h.ckind⟩

end Goyang.Lemmas.Tree

namespace Goyang.Lemmas.Bridge
open Goyang.Model Goyang.Spec.Tree Goyang.Lemmas.Tree

/-- The entry made from statement `n` of module `root` records `n` as its node and `root` as the
module of that node — unless it is the result of a `uses` (the grouping's entry) or a cached
grouping / module entry. -/
def Shape3 (root : Mod) (n : Stmt) (e : Entry) : Prop :=
  n.kw ≠ "uses" → n.kw ≠ "grouping" → n.kw ≠ "module" → n.kw ≠ "submodule" → e.d.node = n ∧ e.d.nodeMod = root.seq

theorem toEntryBody_shape3 (env : Env) (fuel : Nat) (rec : Rec) (root : Mod) (scope : List Stmt) (n : Stmt)
    (visiting : List NodeId) (st : TState) : Shape3 root n (toEntryBody env fuel rec root scope n visiting st).1 :=
  fun h1 h2 h3 h4 => (toEntryBody_data env fuel rec root scope n visiting st h1 h2 h3 h4).2.2.2

theorem toEntry_shape3 (env : Env) (fuel : Nat) (root : Mod) (scope : List Stmt) (n : Stmt)
    (visiting : List NodeId) (st : TState) : Shape3 root n (toEntry env fuel root scope n visiting st).1 := by
  cases fuel with
  | zero => intro _ _ _ _; exact ⟨rfl, rfl⟩
  | succ fuel => rw [toEntry_succ]; exact toEntryBody_shape3 _ _ _ _ _ _ _ _


/-! ### what is tracked -/

structure Frame where
  /-- every entry made -/
  PE : Entry → Prop
  /-- every row of `TState.augs` -/
  PR : Nat × List Entry → Prop := fun _ => True
  /-- every row of the module cache -/
  PC : Nat × Entry → Prop := fun _ => True
  /-- what the conversion of `n` (in module `root`, below `scope`) returned -/
  PX : Mod → List Stmt → Stmt → Entry → Prop := fun _ _ _ _ => True

structure StOKT (F : Frame) (S : List Nat) (st : TState) : Prop where
  base : StOK F.PE S st
  rows : ∀ p ∈ st.augs, F.PR p
  crows : ∀ p ∈ st.cache, F.PC p

end Goyang.Lemmas.Bridge


namespace Goyang.Lemmas.Traverse
open Goyang.Model Goyang.Spec.Tree Goyang.Lemmas.Tree Goyang.Lemmas.Bridge

/-- The name of an entry that is added as a child stands in relation `Nm` to the key it is added under
(the argument of its statement). -/
def ShapeNm (Nm : String → String → Prop) (n : Stmt) (e : Entry) : Prop :=
  n.kw ≠ "uses" → n.kw ≠ "grouping" → n.kw ≠ "module" → n.kw ≠ "submodule" → Nm e.name n.arg

/-- What the traversal needs of a frame `F` (what is tracked of entries, rows and calls), a predicate
`Site` on the calls of `toEntry` and a relation `Nm` between the name of an added child and its key: the
calls made from a call in `Site` are in `Site`, and `F` is kept by every operation of the conversion.
`add` / `merge` know that the node under construction is not an rpc / action, `setInp` / `setOut` that its
`Dir` is still empty. -/
structure Closure (env : Env) (F : Frame) (Site : Mod → List Stmt → Stmt → Prop) (Nm : String → String → Prop) :
    Prop where
  nmRefl : ∀ k, Nm k k
  siteAll : ∀ (root : Mod) (scope : List Stmt) (n : Stmt) (kw : String) (c : Stmt), Site root scope n →
    kw ≠ "module" ∧ kw ≠ "submodule" → c ∈ n.all kw → Site root (n :: scope) c
  siteOne : ∀ (root : Mod) (scope : List Stmt) (n : Stmt) (kw : String) (c : Stmt), Site root scope n →
    kw ≠ "module" ∧ kw ≠ "submodule" → n.one? kw = some c → Site root (n :: scope) c
  siteUses : ∀ (root : Mod) (scope : List Stmt) (n : Stmt) (fuel : Nat) (g : Stmt) (groot : Mod) (gscope : List Stmt),
    Site root scope n → (findGrouping env.reg env.linked fuel root scope n.arg []).1 = some (g, groot, gscope) →
    Site groot gscope g
  siteInclude : ∀ (root im : Mod) (a : Stmt), env.includeTarget root a = some im → Site im [] im.stmt
  /-- a change of the node's data that keeps what `NeutralD` lists and the rpc flag -/
  withD : ∀ (e : Entry) (f : EData → EData), (∀ d, NeutralD d (f d)) → (∀ d, (f d).isRpc = d.isRpc) →
    (∀ d, ∃ xs, (f d).errors = d.errors ++ xs) → F.PE e → F.PE (e.withD f)
  addErrs : ∀ (e : Entry) (xs : List Err), F.PE e → F.PE (e.addErrs xs)
  addErr : ∀ (e : Entry) (x : Err), F.PE e → F.PE (e.addErr x)
  importErrors : ∀ (e c : Entry), F.PE e → F.PE (e.importErrors c)
  add : ∀ (root : Mod) (scope : List Stmt) (n : Stmt) (kw : String) (c : Stmt) (e v : Entry),
    Site root scope n → kw ∈ addKws → c ∈ n.all kw → e.d.isRpc = false → F.PE e → F.PE v →
    (NoErrors v → v.name = c.arg ∧ v.d.kind ≠ .deviate) → Nm v.name c.arg → F.PE (e.add c.arg v)
  /-- the entry made from an rpc / action statement gets its `RPC` set -/
  rpcFlag : ∀ (root : Mod) (scope : List Stmt) (n : Stmt) (kw : String) (c : Stmt) (v : Entry),
    Site root scope n → (kw = "rpc" ∨ kw = "action") → c ∈ n.all kw → F.PE v → F.PX root (n :: scope) c v →
    F.PE (v.withD fun d => { d with isRpc := true })
  merge : ∀ (e : Entry) (oe : Entry), e.d.isRpc = false → F.PE e → F.PE oe → F.PE (e.merge none oe)
  setInp : ∀ (d : EData) (o : List Entry) (ie : Entry), F.PE (.mk d [] [] o) → F.PE ie →
    (ie.d.errors = [] → ie.d.kind = .input) →
    F.PE (.mk { d with isRpc := true } [] [ie.withD fun d => { d with name := "input", kind := .input }] o)
  setOut : ∀ (d : EData) (i : List Entry) (oe : Entry), F.PE (.mk d [] i []) → F.PE oe →
    (oe.d.errors = [] → oe.d.kind = .output) →
    F.PE (.mk { d with isRpc := true } [] i [oe.withD fun d => { d with name := "output", kind := .output }])
  typeSet : ∀ (e : Entry) (ty : Option TypeInfo), F.PE e → e.d.kind ≠ .leaf → F.PE (e.withD fun d => { d with type := ty })
  laSet : ∀ (e : Entry) (f : EData → EData), F.PE e → e.d.kind = .deviate → (∀ d, LaOnlyD d (f d)) →
    (∀ d, (f d).isRpc = d.isRpc) → (∀ d, ∃ xs, (f d).errors = d.errors ++ xs) → F.PE (e.withD f)
  base0 : ∀ (root : Mod) (scope : List Stmt) (n : Stmt), Site root scope n → F.PE (e0 root n)
  errE : ∀ (root : Mod) (scope : List Stmt) (n : Stmt) (cls : String), Site root scope n → F.PE (errorEntry root n cls)
  leafE : ∀ (root : Mod) (scope : List Stmt) (n : Stmt) (syn : Bool), Site root scope n →
    F.PE (leafEntry env root scope n syn)
  leafL : ∀ (root : Mod) (scope : List Stmt) (n : Stmt) (la : ListAttr) (xs : List Err) (dl : List String),
    Site root scope n →
    F.PE ((leafEntry env root scope n true).withD fun d =>
      { d with listAttr := some la, errors := d.errors ++ xs, default := dl })
  /-- the row a (sub)module files for its augment statements -/
  row : ∀ (root : Mod) (scope : List Stmt) (n : Stmt) (as : List Entry), Site root scope n → isModKw n = true →
    (∀ a ∈ as, F.PE a) → as.map (·.d.node) = n.all "augment" → (∀ a ∈ as, a.d.nodeMod = root.seq) →
    (∀ a ∈ as, Nm a.name a.d.node.arg) → F.PR (root.seq, as)
  /-- the cache row a (sub)module files for itself -/
  pc : ∀ (root : Mod) (scope : List Stmt) (n : Stmt) (e : Entry), Site root scope n → isModKw n = true →
    F.PE e → F.PX root scope n e → F.PC (root.seq, e)
  pxCache : ∀ (root : Mod) (scope : List Stmt) (n : Stmt) (p : Nat × Entry), Site root scope n → isModKw n = true →
    F.PC p → p.1 = root.seq → F.PX root scope n p.2
  pxTriv : ∀ (root : Mod) (scope : List Stmt) (n : Stmt) (e : Entry),
    (n.kw = "grouping" ∨ n.kw = "leaf" ∨ n.kw = "leaf-list" ∨ n.kw = "uses") → F.PX root scope n e
  pxErr : ∀ (root : Mod) (scope : List Stmt) (n : Stmt) (cls : String), Site root scope n →
    F.PX root scope n (errorEntry root n cls)

/-- What the induction hypothesis gives for the recursive calls. -/
def RecInv (F : Frame) (Site : Mod → List Stmt → Stmt → Prop) (Nm : String → String → Prop) (rec : Rec) : Prop :=
  ∀ root scope n visiting st S, Site root scope n → StOKT F S st →
    F.PE (rec root scope n visiting st).1 ∧ StOKT F S (rec root scope n visiting st).2 ∧
      Shape n (rec root scope n visiting st).1 ∧ ShapeNm Nm n (rec root scope n visiting st).1 ∧
      Shape3 root n (rec root scope n visiting st).1 ∧ F.PX root scope n (rec root scope n visiting st).1

theorem addKws_nm : ∀ kw ∈ addKws, kw ≠ "module" ∧ kw ≠ "submodule" := by decide

theorem shapeNm_child {Nm : String → String → Prop} (n : Stmt) (kw : String) (c : Stmt) (v : Entry) (hkw : kw ∈ addKws)
    (hc : c ∈ n.all kw) (hs : ShapeNm Nm c v) : Nm v.name c.arg := by
  have hk := mem_all_kw n kw c hc
  obtain ⟨h1, h2, h3, h4, _⟩ := addKws_ok kw hkw
  rw [← hk] at h1 h2 h3 h4
  exact hs h1 h2 h3 h4

theorem rpcFlag_keeps (v : Entry) :
    (v.withD fun d => { d with isRpc := true }).name = v.name ∧
    (v.withD fun d => { d with isRpc := true }).d.kind = v.d.kind ∧
    (NoErrors (v.withD fun d => { d with isRpc := true }) → NoErrors v) := by
  cases v with | mk d c i o =>
  refine ⟨rfl, rfl, fun h => ?_⟩
  simp only [Entry.withD] at h
  rw [noErrors_mk] at h ⊢; exact h

theorem stOKT_merged {F : Frame} {S : List Nat} (st : TState) (m : List String) (h : StOKT F S st) :
    StOKT F S { st with merged := m } :=
  ⟨⟨h.base.cache, h.base.gcache, h.base.augs, h.base.keys, h.base.ckind⟩, h.rows, h.crows⟩

theorem stOKT_weaken {F : Frame} {S : List Nat} (x : Nat) (st : TState) (h : StOKT F S st) : StOKT F (x :: S) st :=
  ⟨stOK_weaken S x st h.base, h.rows, h.crows⟩

theorem notRpc_of_field {kw g : String} {e : Entry} (hr : e.d.isRpc = true → fieldOrder kw = ioList)
    (hf : g ∈ fieldOrder kw) (hg : g ∉ ioList) : e.d.isRpc = false := by
  cases h : e.d.isRpc
  · rfl
  · exact absurd (hr h ▸ hf) hg

section Step
variable {env : Env} {F : Frame} {Site : Mod → List Stmt → Stmt → Prop} {Nm : String → String → Prop}
  (hC : Closure env F Site Nm) {rec : Rec} (hrec : RecInv F Site Nm rec)
  (root : Mod) (scope : List Stmt) (n : Stmt) (visiting : List NodeId) (S : List Nat) (inv : Site root scope n)
include hC hrec inv

/-- The folds over the substatements with one keyword: `g` keeps the entry invariant and `Q`, given what
the recursive call returns. -/
theorem kidsFold_acc (kw : String) (hk : kw ≠ "module" ∧ kw ≠ "submodule") {g : Entry → Stmt → Entry → Entry}
    (Q : Entry → Prop)
    (hg : ∀ e c v, c ∈ n.all kw → F.PE e → Q e → F.PE v → Shape c v → ShapeNm Nm c v → F.PX root (n :: scope) c v →
      F.PE (g e c v) ∧ Q (g e c v))
    (e : Entry) (st : TState) (he : F.PE e) (hQ : Q e) (hst : StOKT F S st) :
    F.PE (kidsFold rec root n (n :: scope) visiting kw g (e, st)).1 ∧
      StOKT F S (kidsFold rec root n (n :: scope) visiting kw g (e, st)).2 := by
  refine (kidsFold_inv rec root n (n :: scope) visiting (fun r => (F.PE r.1 ∧ StOKT F S r.2) ∧ Q r.1) (e, st)
    ⟨⟨he, hst⟩, hQ⟩ ?_).1
  rintro e st c hc ⟨⟨he, hst⟩, hQ⟩
  obtain ⟨r1, r2, r3, r4, _, r6⟩ := hrec root (n :: scope) c visiting st S (hC.siteAll root scope n kw c inv hk hc) hst
  exact ⟨⟨(hg e c _ hc he hQ r1 r3 r4 r6).1, r2⟩, (hg e c _ hc he hQ r1 r3 r4 r6).2⟩

omit inv in
theorem includeFn_acc (e : Entry) (st : TState) (he : F.PE e) (hst : StOKT F S st) (hr : e.d.isRpc = false) :
    F.PE (includeFn env rec root n visiting (e, st)).1 ∧ StOKT F S (includeFn env rec root n visiting (e, st)).2 := by
  refine (includeFn_inv env rec root n visiting (fun a => (F.PE a.1 ∧ StOKT F S a.2) ∧ a.1.d.isRpc = false) (e, st)
    ⟨⟨he, hst⟩, hr⟩ ?_ ?_).1
  · rintro e st x ⟨⟨he, hst⟩, hre⟩
    exact ⟨⟨hC.addErr _ _ he, hst⟩, (((Evolve.addErr (io := false) e x).keepsRpc rfl).1).trans hre⟩
  · rintro e st a im m him ⟨⟨he, hst⟩, hre⟩
    obtain ⟨r1, r2, _⟩ := hrec im [] im.stmt visiting _ S (hC.siteInclude root im a him) (stOKT_merged st m hst)
    exact ⟨⟨hC.merge _ _ hre he r1, r2⟩, (merge_isRpc e none _).trans hre⟩

theorem augFold_acc : ∀ (l : List Stmt), (∀ a ∈ l, a ∈ n.all "augment") → ∀ (as0 : List Entry) (st : TState), StOKT F S st →
    ∃ new, (l.foldl (fun (acc : List Entry × TState) a =>
        (acc.1 ++ [(rec root (n :: scope) a visiting acc.2).1], (rec root (n :: scope) a visiting acc.2).2)) (as0, st)).1 = as0 ++ new ∧
      (∀ a ∈ new, F.PE a) ∧ new.map (·.d.node) = l ∧ (∀ a ∈ new, a.d.nodeMod = root.seq) ∧
      (∀ a ∈ new, Nm a.name a.d.node.arg) ∧
      StOKT F S (l.foldl (fun (acc : List Entry × TState) a =>
        (acc.1 ++ [(rec root (n :: scope) a visiting acc.2).1], (rec root (n :: scope) a visiting acc.2).2)) (as0, st)).2
  | [], _, as0, st, hst => ⟨[], by simp, by simp, rfl, by simp, by simp, hst⟩
  | a :: l, hl, as0, st, hst => by
    have ha : a ∈ n.all "augment" := hl a (by simp)
    obtain ⟨r1, r2, _, r4, r5, _⟩ := hrec root (n :: scope) a visiting st S (hC.siteAll root scope n "augment" a inv (by decide) ha) hst
    have hk := mem_all_kw n "augment" a ha
    have h5 := r5 (by rw [hk]; decide) (by rw [hk]; decide) (by rw [hk]; decide) (by rw [hk]; decide)
    have h4 := r4 (by rw [hk]; decide) (by rw [hk]; decide) (by rw [hk]; decide) (by rw [hk]; decide)
    obtain ⟨new, e1, e2, e3, e4, e5, e6⟩ := augFold_acc l (fun x hx => hl x (by simp [hx]))
      (as0 ++ [(rec root (n :: scope) a visiting st).1]) (rec root (n :: scope) a visiting st).2 r2
    refine ⟨(rec root (n :: scope) a visiting st).1 :: new, ?_, ?_, ?_, ?_, ?_, ?_⟩
    · simp only [List.foldl_cons]; rw [e1]; simp
    · intro x hx
      rcases List.mem_cons.mp hx with hx | hx
      · subst hx; exact r1
      · exact e2 x hx
    · simp only [List.map_cons, e3, h5.1]
    · intro x hx
      rcases List.mem_cons.mp hx with hx | hx
      · subst hx; exact h5.2
      · exact e4 x hx
    · intro x hx
      rcases List.mem_cons.mp hx with hx | hx
      · subst hx; rw [h5.1]; exact h4
      · exact e5 x hx
    · simpa only [List.foldl_cons] using e6

theorem stepFn_inv (isMod : Bool) (hm : isMod = isModKw n) (hS : isMod = true → root.seq ∈ S) (e : Entry) (st : TState)
    (f : String) (he : F.PE e) (hst : StOKT F S st) (hkind : e.d.kind ≠ .leaf)
    (hin : f = "input" → e.inp = []) (hout : f = "output" → e.out = [])
    (hf : f ∈ fieldOrder n.kw) (hr : e.d.isRpc = true → fieldOrder n.kw = ioList)
    (hd : fieldOrder n.kw = ioList → e.dir = []) :
    F.PE (stepFn env rec root n (n :: scope) visiting isMod (e, st) f).1 ∧
      StOKT F S (stepFn env rec root n (n :: scope) visiting isMod (e, st) f).2 := by
  have set1 : ∀ g : EData → EData, (∀ d, NeutralD d (g d)) → (∀ d, (g d).isRpc = d.isRpc) → (∀ d, (g d).errors = d.errors) →
      F.PE (e.withD g) := fun g h1 h3 h2 => hC.withD e g h1 h3 (fun d => ⟨[], by simp [h2 d]⟩) he
  have notRpc : ∀ {g : String}, g ∈ fieldOrder n.kw → g ∉ ioList → e.d.isRpc = false := fun hg hn => notRpc_of_field hr hg hn
  have la : e.d.kind = .deviate → F.PE (laInit e) ∧ ∀ (g : EData → EData) er, (∀ d, LaOnlyD d (g d)) →
      (∀ d, (g d).isRpc = d.isRpc) → (∀ d, (g d).errors = d.errors) → F.PE (((laInit e).withD g).addErrs er) := by
    intro hk
    have h1 := hC.laSet e (fun d => { d with listAttr := some (d.listAttr.getD {}) }) he hk
      (fun d => ⟨rfl, rfl, rfl, rfl, rfl⟩) (fun d => rfl) (fun d => ⟨[], by simp⟩)
    exact ⟨h1, fun g er g1 g2 g3 => hC.addErrs _ _ (hC.laSet _ g h1 (by cases e; exact hk) g1 g2
      (fun d => ⟨[], by simp [g3 d]⟩))⟩
  exact stepFn_cases env rec root n (n :: scope) visiting isMod
    (P := fun f r => f ∈ fieldOrder n.kw → (f = "input" → e.inp = []) → (f = "output" → e.out = []) →
      F.PE r.1 ∧ StOKT F S r.2) e st
    (other := fun _ _ _ _ => ⟨he, hst⟩)
    (config := fun _ _ _ => ⟨hC.addErrs _ _ (set1 _ (fun d => ⟨rfl, rfl, rfl, rfl, rfl, rfl⟩) (fun d => rfl) (fun d => rfl)), hst⟩)
    (mandatory := fun _ _ _ => ⟨hC.addErrs _ _ (set1 _ (fun d => ⟨rfl, rfl, rfl, rfl, rfl, rfl⟩) (fun d => rfl) (fun d => rfl)), hst⟩)
    (description := fun _ _ _ _ => ⟨set1 _ (fun d => ⟨rfl, rfl, rfl, rfl, rfl, rfl⟩) (fun d => rfl) (fun d => rfl), hst⟩)
    (key := fun _ _ _ _ => ⟨set1 _ (fun d => ⟨rfl, rfl, rfl, rfl, rfl, rfl⟩) (fun d => rfl) (fun d => rfl), hst⟩)
    (units := fun _ _ _ _ => ⟨set1 _ (fun d => ⟨rfl, rfl, rfl, rfl, rfl, rfl⟩) (fun d => rfl) (fun d => rfl), hst⟩)
    (kids := fun kw hkw hf _ _ => kidsFold_acc hC hrec root scope n visiting S inv kw (addKws_nm kw hkw) (fun e => e.d.isRpc = false)
      (fun e c v hc he hre hv s1 s2 _ => ⟨hC.add root scope n kw c e v inv hkw hc hre he hv
        (shape_child n kw c v hkw hc s1) (shapeNm_child n kw c v hkw hc s2), (add_isRpc _ _ _).trans hre⟩)
      e st he (notRpc hf (fun h => absurd h ((by decide : ∀ kw ∈ addKws, kw ∉ ioList) kw hkw))) hst)
    (rpc := fun kw hkw hrpc hf _ _ => kidsFold_acc hC hrec root scope n visiting S inv kw (addKws_nm kw hkw) (fun e => e.d.isRpc = false)
      (fun e c v hc he hre hv s1 s2 px => ⟨hC.add root scope n kw c e _ inv hkw hc hre he
        (hC.rpcFlag root scope n kw c v inv hrpc hc hv px)
        (fun hne => (rpcFlag_keeps v).1 ▸ (rpcFlag_keeps v).2.1 ▸ shape_child n kw c v hkw hc s1 ((rpcFlag_keeps v).2.2 hne))
        ((rpcFlag_keeps v).1 ▸ shapeNm_child n kw c v hkw hc s2), (add_isRpc _ _ _).trans hre⟩)
      e st he (notRpc hf (fun h => absurd h ((by decide : ∀ kw ∈ addKws, kw ∉ ioList) kw hkw))) hst)
    (imports := fun kw hkw _ _ _ => kidsFold_acc hC hrec root scope n visiting S inv kw
      (by rcases hkw with rfl | rfl <;> decide) (fun _ => True)
      (fun e c v _ he _ _ _ _ _ => ⟨hC.importErrors _ _ he, trivial⟩) e st he trivial hst)
    (uses := fun hf _ _ => kidsFold_acc hC hrec root scope n visiting S inv "uses" (by decide) (fun e => e.d.isRpc = false)
      (fun e c v _ he hre hv _ _ _ => ⟨hC.merge _ _ hre he hv, (merge_isRpc _ _ _).trans hre⟩)
      e st he (notRpc hf (by decide)) hst)
    (deviate := fun _ _ _ => kidsFold_acc hC hrec root scope n visiting S inv "deviate" (by decide) (fun _ => True)
      (fun e c v _ he _ _ _ _ _ => ⟨by
        split
        · exact hC.importErrors _ _ he
        · exact hC.addErr _ _ (hC.importErrors _ _ he), trivial⟩) e st he trivial hst)
    (input := fun i hi hf hin _ => by
      obtain ⟨r1, r2, r3, _⟩ := hrec root (n :: scope) i visiting st S (hC.siteOne root scope n "input" i inv (by decide) hi) hst
      have hdir : e.dir = [] := hd (fieldOrder_io _ (Or.inl hf))
      cases e with | mk d c i' o' =>
      have hi0 : i' = [] := hin rfl
      simp only [Entry.dir] at hdir
      subst hi0 hdir
      refine ⟨hC.setInp d o' _ he r1 ?_, r2⟩
      intro herr
      have hkw : i.kw = "input" := one?_kw n _ i hi
      exact (r3 herr (by rw [hkw]; decide) (by rw [hkw]; decide) (by rw [hkw]; decide)
        (by rw [hkw]; decide)).2.1.trans (by rw [hkw]; rfl))
    (output := fun o ho hf _ hout => by
      obtain ⟨r1, r2, r3, _⟩ := hrec root (n :: scope) o visiting st S (hC.siteOne root scope n "output" o inv (by decide) ho) hst
      have hdir : e.dir = [] := hd (fieldOrder_io _ (Or.inr hf))
      cases e with | mk d c i' o' =>
      have ho0 : o' = [] := hout rfl
      simp only [Entry.dir] at hdir
      subst ho0 hdir
      refine ⟨hC.setOut d i' _ he r1 ?_, r2⟩
      intro herr
      have hkw : o.kw = "output" := one?_kw n _ o ho
      exact (r3 herr (by rw [hkw]; decide) (by rw [hkw]; decide) (by rw [hkw]; decide)
        (by rw [hkw]; decide)).2.1.trans (by rw [hkw]; rfl))
    (include_ := fun hf _ _ => includeFn_acc hC hrec root n visiting S e st he hst (notRpc hf (by decide)))
    (typeOk := fun ty _ _ _ => ⟨hC.typeSet e ty he hkind, hst⟩)
    (typeBad := fun _ _ _ => ⟨hC.addErr _ _ he, hst⟩)
    (default_ := fun _ _ _ _ _ => ⟨set1 _ (fun d => ⟨rfl, rfl, rfl, rfl, rfl, rfl⟩) (fun d => rfl) (fun d => rfl), hst⟩)
    (maxEl := fun hk => ⟨fun _ _ _ => ⟨(la hk).1, hst⟩, fun _ _ _ _ _ =>
      ⟨(la hk).2 _ _ (fun d => ⟨rfl, rfl, rfl, rfl, rfl⟩) (fun d => rfl) (fun d => rfl), hst⟩⟩)
    (minEl := fun hk => ⟨fun _ _ _ => ⟨(la hk).1, hst⟩, fun _ _ _ _ _ =>
      ⟨(la hk).2 _ _ (fun d => ⟨rfl, rfl, rfl, rfl, rfl⟩) (fun d => rfl) (fun d => rfl), hst⟩⟩)
    (augment := fun hmod _ _ _ => by
      obtain ⟨new, e1, e2, e3, e4, e5, e6⟩ :=
        augFold_acc hC hrec root scope n visiting S inv (n.all "augment") (fun _ h => h) [] st hst
      simp only [List.nil_append] at e1
      refine ⟨he, ⟨⟨e6.base.cache, e6.base.gcache, ?_, ?_, e6.base.ckind⟩, ?_, e6.crows⟩⟩
      · intro p hp
        rcases List.mem_append.mp hp with hp | hp
        · exact e6.base.augs p hp
        · simp only [List.mem_singleton] at hp; subst hp; rw [augsFn, e1]; exact e2
      · intro p hp
        rcases List.mem_append.mp hp with hp | hp
        · exact e6.base.keys p hp
        · simp only [List.mem_singleton] at hp; subst hp; exact Or.inr (hS hmod)
      · intro p hp
        rcases List.mem_append.mp hp with hp | hp
        · exact e6.rows p hp
        · simp only [List.mem_singleton] at hp; subst hp; rw [augsFn, e1]
          exact hC.row root scope n new inv (by rw [← hm, hmod]) e2 e3 e4 e5)
    f hf hin hout

end Step

section Body
variable {env : Env} {F : Frame} {Site : Mod → List Stmt → Stmt → Prop} {Nm : String → String → Prop}
  (hC : Closure env F Site Nm) {rec : Rec} (hrec : RecInv F Site Nm rec)
  (root : Mod) (scope : List Stmt) (n : Stmt) (visiting : List NodeId) (S : List Nat) (inv : Site root scope n)
include hC hrec inv

/-- All steps of the directory case.  An rpc / action takes its four steps one by one (its input and
output go into the still empty slots of a node whose `Dir` is still empty); no other node has an `input` or
`output` step, and none of them becomes an rpc. -/
theorem steps_inv (isMod : Bool) (hm : isMod = isModKw n) (hS : isMod = true → root.seq ∈ S) (st : TState)
    (hst : StOKT F S st) :
    F.PE ((fieldOrder n.kw).foldl (stepFn env rec root n (n :: scope) visiting isMod) (e0 root n, st)).1 ∧
      StOKT F S ((fieldOrder n.kw).foldl (stepFn env rec root n (n :: scope) visiting isMod) (e0 root n, st)).2 := by
  have step := stepFn_inv hC hrec root scope n visiting S inv isMod hm hS
  by_cases hio : "input" ∈ fieldOrder n.kw ∨ "output" ∈ fieldOrder n.kw
  · have hfo : fieldOrder n.kw = ioList := fieldOrder_io _ hio
    have hmem : ∀ g ∈ ioList, g ∈ fieldOrder n.kw := fun g hg => hfo ▸ hg
    rw [fieldOrder_io _ hio]
    simp only [List.foldl]
    have k0 : (e0 root n).d.kind ≠ .leaf := e0_kind root n
    have d0 : (e0 root n).dir = [] := rfl
    have s1 := step (e0 root n) st "output" (hC.base0 root scope n inv) hst k0
      (fun h => absurd h (by decide)) (fun _ => rfl) (hmem _ (by decide)) (fun _ => hfo) (fun _ => d0)
    have k1 := rootKeep_stepFn env rec root n (n :: scope) visiting isMod (e0 root n, st) "output"
    have i1 := stepFn_output_inp env rec root n (n :: scope) visiting isMod (e0 root n, st)
    have d1 := (stepFn_io_dir env rec root n (n :: scope) visiting isMod (e0 root n, st) "output" (by decide)).trans d0
    generalize stepFn env rec root n (n :: scope) visiting isMod (e0 root n, st) "output" = a1 at s1 k1 i1 d1 ⊢
    obtain ⟨e1, st1⟩ := a1
    have k1' : e1.d.kind ≠ .leaf := by rw [k1.2.1]; exact k0
    have s2 := step e1 st1 "input" s1.1 s1.2 k1'
      (fun _ => i1) (fun h => absurd h (by decide)) (hmem _ (by decide)) (fun _ => hfo) (fun _ => d1)
    have k2 := rootKeep_stepFn env rec root n (n :: scope) visiting isMod (e1, st1) "input"
    have d2 := (stepFn_io_dir env rec root n (n :: scope) visiting isMod (e1, st1) "input" (by decide)).trans d1
    generalize stepFn env rec root n (n :: scope) visiting isMod (e1, st1) "input" = a2 at s2 k2 d2 ⊢
    obtain ⟨e2, st2⟩ := a2
    have k2' : e2.d.kind ≠ .leaf := by rw [k2.2.1]; exact k1'
    have s3 := step e2 st2 "grouping" s2.1 s2.2 k2'
      (fun h => absurd h (by decide)) (fun h => absurd h (by decide)) (hmem _ (by decide)) (fun _ => hfo) (fun _ => d2)
    have k3 := rootKeep_stepFn env rec root n (n :: scope) visiting isMod (e2, st2) "grouping"
    have d3 := (stepFn_io_dir env rec root n (n :: scope) visiting isMod (e2, st2) "grouping" (by decide)).trans d2
    generalize stepFn env rec root n (n :: scope) visiting isMod (e2, st2) "grouping" = a3 at s3 k3 d3 ⊢
    obtain ⟨e3, st3⟩ := a3
    have k3' : e3.d.kind ≠ .leaf := by rw [k3.2.1]; exact k2'
    exact step e3 st3 "description" s3.1 s3.2 k3'
      (fun h => absurd h (by decide)) (fun h => absurd h (by decide)) (hmem _ (by decide)) (fun _ => hfo) (fun _ => d3)
  · have hni : "input" ∉ fieldOrder n.kw := fun h => hio (Or.inl h)
    have hno : "output" ∉ fieldOrder n.kw := fun h => hio (Or.inr h)
    have hnio : fieldOrder n.kw ≠ ioList := fun h => hni (h ▸ (by decide : "input" ∈ ioList))
    refine (foldl_inv (fun acc : Entry × TState => (F.PE acc.1 ∧ StOKT F S acc.2) ∧ acc.1.d.kind ≠ .leaf ∧
      acc.1.d.isRpc = false) _ _ _ ⟨⟨hC.base0 root scope n inv, hst⟩, e0_kind root n, e0_isRpc root n⟩ ?_).1
    rintro ⟨e, st'⟩ f hf ⟨ha, hk, hrf⟩
    refine ⟨step e st' f ha.1 ha.2 hk (fun h => absurd (h ▸ hf) hni) (fun h => absurd (h ▸ hf) hno) hf
      (fun h => absurd h (by rw [hrf]; simp)) (fun h => absurd h hnio), ?_, ?_⟩
    · rw [(rootKeep_stepFn env rec root n (n :: scope) visiting isMod (e, st') f).2.1]; exact hk
    · rw [((evolve_stepFn false env rec root n (n :: scope) visiting isMod (e, st') f
        (fun _ => ⟨fun h => hni (h ▸ hf), fun h => hno (h ▸ hf)⟩)).keepsRpc rfl).1]; exact hrf

theorem dirBody_inv (st : TState) (hst : StOKT F S st) (isMod : Bool) (hm : isMod = isModKw n)
    (hmk : isMod = true → kindOfKw n.kw = .directory)
    (hpx : F.PX root scope n ((fieldOrder n.kw).foldl (stepFn env rec root n (n :: scope) visiting isMod) (e0 root n, st)).1) :
    F.PE (dirBody env rec root scope n visiting st isMod).1 ∧
      StOKT F S (dirBody env rec root scope n visiting st isMod).2 ∧
      F.PX root scope n (dirBody env rec root scope n visiting st isMod).1 := by
  unfold dirBody
  dsimp only
  cases isMod with
  | true =>
    simp only [if_true]
    have := steps_inv hC hrec root scope n visiting (root.seq :: S) inv true hm (fun _ => List.mem_cons_self)
      st (stOKT_weaken _ st hst)
    have hkind := (rootKeep_fold_steps env rec root n (n :: scope) visiting true (fieldOrder n.kw) (e0 root n, st)).2.1
    refine ⟨this.1, ⟨⟨?_, this.2.base.gcache, this.2.base.augs, ?_, ?_⟩, this.2.rows, ?_⟩, hpx⟩
    · intro p hp
      rcases List.mem_append.mp hp with hp | hp
      · exact this.2.base.cache p hp
      · simp only [List.mem_singleton] at hp; subst hp; exact this.1
    · intro p hp
      simp only [List.map_append, List.map_cons, List.map_nil, List.mem_append, List.mem_singleton]
      rcases this.2.base.keys p hp with h | h
      · exact Or.inl (Or.inl h)
      · rcases List.mem_cons.mp h with h | h
        · exact Or.inl (Or.inr h)
        · exact Or.inr h
    · intro p hp
      rcases List.mem_append.mp hp with hp | hp
      · exact this.2.base.ckind p hp
      · simp only [List.mem_singleton] at hp; subst hp
        exact hkind.trans ((e0_data root n).2.1.trans (hmk rfl))
    · intro p hp
      rcases List.mem_append.mp hp with hp | hp
      · exact this.2.crows p hp
      · simp only [List.mem_singleton] at hp; subst hp
        exact hC.pc root scope n _ inv hm.symm this.1 hpx
  | false =>
    simp only [Bool.false_eq_true, if_false]
    have := steps_inv hC hrec root scope n visiting S inv false hm (fun h => absurd h (by simp)) st hst
    split
    · exact ⟨this.1, ⟨⟨this.2.base.cache, fun p hp => by
        rcases List.mem_append.mp hp with hp | hp
        · exact this.2.base.gcache p hp
        · simp only [List.mem_singleton] at hp; subst hp; exact this.1, this.2.base.augs, this.2.base.keys,
          this.2.base.ckind⟩, this.2.rows, this.2.crows⟩, hpx⟩
    · exact ⟨this.1, this.2, hpx⟩

theorem toEntryBody_inv (fuel : Nat) (st : TState) (hst : StOKT F S st)
    (hpx : ∀ (isMod : Bool) (vis : List NodeId), isMod = isModKw n →
      F.PX root scope n ((fieldOrder n.kw).foldl (stepFn env rec root n (n :: scope) vis isMod) (e0 root n, st)).1) :
    F.PE (toEntryBody env fuel rec root scope n visiting st).1 ∧
      StOKT F S (toEntryBody env fuel rec root scope n visiting st).2 ∧
      F.PX root scope n (toEntryBody env fuel rec root scope n visiting st).1 := by
  refine toEntryBody_cases env fuel rec root scope n visiting st
    (P := fun r => F.PE r.1 ∧ StOKT F S r.2 ∧ F.PX root scope n r.1)
    (modHit := fun p hp hmod hkey => ⟨hst.base.cache _ hp, hst, hC.pxCache root scope n p inv hmod (hst.crows _ hp) hkey⟩)
    (grpHit := fun p hp hg => ⟨hst.base.gcache _ hp, hst, hC.pxTriv root scope n _ (Or.inl hg)⟩)
    (cycle := fun _ => ⟨hC.errE _ scope _ _ inv, hst, hC.pxErr root scope n _ inv⟩)
    (leaf := fun hl => ⟨hC.leafE root scope n false inv, hst, hC.pxTriv root scope n _ (Or.inr (Or.inl hl))⟩)
    (leafList := fun hl => ⟨hC.leafL root scope n _ _ _ inv, hst, hC.pxTriv root scope n _ (Or.inr (Or.inr (Or.inl hl)))⟩)
    (noGroup := fun _ => ⟨hC.errE _ scope _ _ inv, hst, hC.pxErr root scope n _ inv⟩)
    (uses := fun hu g groot gscope hfg =>
      have r := hrec _ _ _ _ st S (hC.siteUses root scope n _ g groot gscope inv hfg) hst
      ⟨r.1, r.2.1, hC.pxTriv root scope n _ (Or.inr (Or.inr (Or.inr hu)))⟩)
    (dir := fun _ _ _ _ _ => dirBody_inv hC hrec root scope n _ S inv st hst _ rfl ?_ (hpx _ _ rfl))
  intro hm
  simp only [isModKw, Bool.or_eq_true, beq_iff_eq] at hm
  rcases hm with hm | hm <;> rw [hm] <;> decide

end Body

theorem toEntryBody_recInv {env : Env} {F : Frame} {Site : Mod → List Stmt → Stmt → Prop} {Nm : String → String → Prop}
    (hC : Closure env F Site Nm) {rec : Rec} (hrec : RecInv F Site Nm rec) (fuel : Nat)
    (hpx : ∀ root scope n vis st S isMod, Site root scope n → StOKT F S st → isMod = isModKw n →
      F.PX root scope n ((fieldOrder n.kw).foldl (stepFn env rec root n (n :: scope) vis isMod) (e0 root n, st)).1) :
    RecInv F Site Nm (toEntryBody env fuel rec) := by
  intro root scope n visiting st S inv hst
  obtain ⟨hpe, hst', hpx'⟩ := toEntryBody_inv hC hrec root scope n visiting S inv fuel st hst
    (fun isMod vis hm => hpx root scope n vis st S isMod inv hst hm)
  exact ⟨hpe, hst', toEntryBody_shape _ _ _ _ _ _ _ _,
    fun h1 h2 h3 h4 => (toEntryBody_data env fuel rec root scope n visiting st h1 h2 h3 h4).1 ▸ hC.nmRefl _,
    toEntryBody_shape3 _ _ _ _ _ _ _ _, hpx'⟩


/-- The invariant of `toEntry`: from a good state, at a call in `Site`, it produces a good entry and a good
state.  `h0`: the error entry of the out-of-fuel branch (whose name is empty) may be added under any key;
`hpx`: the postcondition of the directory case, for the recursion as it is. -/
theorem toEntry_inv {env : Env} {F : Frame} {Site : Mod → List Stmt → Stmt → Prop} {Nm : String → String → Prop}
    (hC : Closure env F Site Nm) (h0 : ∀ k, Nm "" k)
    (hpx : ∀ fuel root scope n vis st S isMod, Site root scope n → RecInv F Site Nm (toEntry env fuel) → StOKT F S st →
      isMod = isModKw n →
      F.PX root scope n ((fieldOrder n.kw).foldl (stepFn env (toEntry env fuel) root n (n :: scope) vis isMod) (e0 root n, st)).1)
    (fuel : Nat) : RecInv F Site Nm (toEntry env fuel) := by
  induction fuel with
  | zero =>
    intro root scope n visiting st S inv hst
    exact ⟨hC.errE _ scope _ _ inv, hst, toEntry_shape env 0 root scope n visiting st, fun _ _ _ _ => h0 _,
      toEntry_shape3 env 0 root scope n visiting st, hC.pxErr root scope n _ inv⟩
  | succ fuel ih =>
    intro root scope n visiting st S inv hst
    rw [toEntry_succ]
    exact toEntryBody_recInv hC ih fuel (fun root scope n vis st S isMod inv hst hm =>
      hpx fuel root scope n vis st S isMod inv ih hst hm) root scope n visiting st S inv hst

end Goyang.Lemmas.Traverse
