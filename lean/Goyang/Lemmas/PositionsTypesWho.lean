import Goyang.Lemmas.PositionsTypes
import Goyang.Spec.PositionsWho
/-
Semantic half of C16, second reading: the layers plugged into `processAll` by
`Goyang.Model.plugFull` keep the position discipline `PlugPositionsAt (NamesWP P reg)`, i.e. that of
`Goyang.Lemmas.PositionsTypes.plugFull_positions` together with `Who` — which constrains none of the
classes of the type / typedef / identity layers, so their sites admit it.
-/
namespace Goyang.Lemmas.PositionsTypesWho
open Goyang.Model Goyang.Model.Types Goyang.Spec.Positions Goyang.Lemmas.PositionsTypes

/-- For every extra condition `P` on the statement named by `augment-not-found` (none of the layers
treated here builds that class). -/
theorem typeSites_namesWP (P : Stmt → Prop) (reg : Registry) : TypeSites (NamesWP P reg) where
  unknownType s hs := ⟨typeSites_names.unknownType s hs, who_freeP P reg s (by decide)⟩
  unknownPrefix s hs := ⟨typeSites_names.unknownPrefix s hs, who_freeP P reg s (by decide)⟩
  range s hs := ⟨typeSites_names.range s hs, who_freeP P reg s (by decide)⟩
  length s hs := ⟨typeSites_names.length s hs, who_freeP P reg s (by decide)⟩
  negLength s hs := ⟨typeSites_names.negLength s hs, who_freeP P reg s (by decide)⟩
  member s x hs := ⟨typeSites_names.member s x hs, who_freeP P reg s (by cases x <;> simp only [enumErrClass] <;> decide)⟩
  fuel s := ⟨typeSites_names.fuel s, who_freeP P reg s (by decide)⟩
  other s := ⟨typeSites_names.other s, who_freeP P reg s (by decide)⟩
  fdNotDecimal s := ⟨typeSites_names.fdNotDecimal s, who_freeP P reg s (by decide)⟩
  fdOverride s := ⟨typeSites_names.fdOverride s, who_freeP P reg s (by decide)⟩
  noBase s := ⟨typeSites_names.noBase s, who_freeP P reg s (by decide)⟩
  pattern s := ⟨typeSites_names.pattern s, who_freeP P reg s (by decide)⟩
  cycle s := ⟨typeSites_names.cycle s, who_freeP P reg s (by decide)⟩
  crash s := ⟨typeSites_names.crash s, who_freeP P reg s (by decide)⟩
  noYangType s := ⟨typeSites_names.noYangType s, who_freeP P reg s (by decide)⟩
  noModule s := ⟨typeSites_names.noModule s, who_freeP P reg s (by decide)⟩
  baseLocal s := ⟨typeSites_names.baseLocal s, who_freeP P reg s (by decide)⟩
  identPrefix s := ⟨typeSites_names.identPrefix s, who_freeP P reg s (by decide)⟩
  baseRemote s := ⟨typeSites_names.baseRemote s, who_freeP P reg s (by decide)⟩

theorem plugFull_positionsWP (P : Stmt → Prop) (reg : Registry) :
    PlugPositionsAt (NamesWP P reg) reg (plugFull reg) :=
  plugFull_positionsAt (typeSites_namesWP P reg) reg

theorem posAt_mono {K K' : String → Stmt → Prop} {reg : Registry} {e : Err} (hm : ∀ cls s, K cls s → K' cls s)
    (h : PosAt K reg e) : PosAt K' reg e := by
  intro hp
  obtain ⟨s, h1, h2, h3⟩ := h hp
  exact ⟨s, h1, h2, hm _ _ h3⟩

/-- The form without extra condition. -/
theorem plugFull_positionsW (reg : Registry) : PlugPositionsAt (NamesW reg) reg (plugFull reg) := by
  have h := plugFull_positionsWP (fun _ => True) reg
  exact ⟨fun root scope t h1 h2 h3 h4 e he => posAt_mono (fun _ _ => NamesWP.toW) (h.resolve root scope t h1 h2 h3 h4 e he),
    fun e he => posAt_mono (fun _ _ => NamesWP.toW) (h.identity e he),
    fun e he => posAt_mono (fun _ _ => NamesWP.toW) (h.typedefs e he)⟩

end Goyang.Lemmas.PositionsTypesWho
