import Goyang.Model.Dump
import Goyang.Lemmas.FuelGrouping
import Goyang.Lemmas.SortAux
/-
Fuel adequacy of the three fuel-driven recursions of the resolver model:

* (A) `includeWalk` / `linkAll` (Model/Process.lean): the walk never returns the `out-of-fuel`
  marker when given `unvisited + 1` fuel, and is independent of the fuel above that bound;
  `linkAll` (which gives `reg.mods.length + 1`) therefore never reports `out-of-fuel`.
* (B) `augmentPass` / `augmentLoop` (Model/Process.lean): a pass is independent of its fuel from
  `mods.size - i + 1` on, the loop from `pendingTotal s + 1` on (keys of `pending` distinct).
* (C) `dumpTree` (Model/Dump.lean): independent of the fuel from `entryDepth e` on and free of the
  `"N out-of-fuel"` record.

Everything is stated for all registries / states / entries.
-/
open Goyang.Lemmas.ListAux (countP_lt)
open Goyang.Lemmas.RegistryAux (findModule_mem)
open Goyang.Lemmas.ListAux (foldl_inv)
open Goyang.Lemmas.SortAux (mem_sortBy)
namespace Goyang.Lemmas.Fuel
open Goyang.Model

/-! ### generic helpers -/


/-- Two folds that agree step by step on states satisfying an invariant agree. -/
theorem foldl_congr_inv {α β} (P : β → Prop) (f g : β → α → β) (l : List α) (a : β)
    (h0 : P a) (hstep : ∀ a x, x ∈ l → P a → P (f a x))
    (heq : ∀ a x, x ∈ l → P a → f a x = g a x) : l.foldl f a = l.foldl g a := by
  induction l generalizing a with
  | nil => rfl
  | cons y ys ih =>
    simp only [List.foldl_cons]
    rw [← heq a y (List.mem_cons_self ..) h0]
    exact ih _ (hstep a y (List.mem_cons_self ..) h0)
      (fun a x hx hP => hstep a x (List.mem_cons_of_mem _ hx) hP)
      (fun a x hx hP => heq a x (List.mem_cons_of_mem _ hx) hP)

/-! ### (A) `includeWalk`, `linkAll` -/

/-- Modules of the registry that are not yet marked (counted with multiplicity). -/
def unvisited (reg : Registry) (visited : List Nat) : Nat :=
  (reg.mods.filter fun m => !visited.contains m.seq).length

theorem unvisited_le (reg : Registry) (visited : List Nat) : unvisited reg visited ≤ reg.mods.length :=
  List.length_filter_le _ _

theorem unvisited_mono (reg : Registry) (v v' : List Nat) (h : ∀ x, x ∈ v → x ∈ v') :
    unvisited reg v' ≤ unvisited reg v := by
  unfold unvisited
  rw [← List.countP_eq_length_filter, ← List.countP_eq_length_filter]
  apply List.countP_mono_left
  intro m _ hm
  simp only [Bool.not_eq_true', List.contains_eq_mem, decide_eq_false_iff_not] at hm ⊢
  exact fun hx => hm (h _ hx)

/-- Marking a module of the registry that was not marked lowers `unvisited`. -/
theorem unvisited_cons_lt (reg : Registry) (v : List Nat) (m : Mod) (hm : m ∈ reg.mods)
    (hv : v.contains m.seq = false) : unvisited reg (m.seq :: v) < unvisited reg v := by
  unfold unvisited
  rw [← List.countP_eq_length_filter, ← List.countP_eq_length_filter]
  refine countP_lt ?_ hm (by simpa using hv) (by simp)
  intro x _ hx
  simp only [Bool.not_eq_true', List.contains_eq_mem, decide_eq_false_iff_not, List.mem_cons, not_or] at hx ⊢
  exact hx.2

/-- The `out-of-fuel` marker of `includeWalk`. -/
abbrev oof : Err := Err.bare "out-of-fuel"

/-- One step of the local `walkList` fold of `includeWalk` (the same term, named). -/
def walkStep (reg : Registry) (fuel : Nat) (isInclude : Bool) (acc : List Nat × Option Err) (i : Stmt) :
    List Nat × Option Err :=
  match acc.2 with
  | some _ => acc
  | none =>
    match reg.findModule isInclude i with
    | none => (acc.1, some (Err.bare (if isInclude then "no-such-submodule" else "no-such-module")))
    | some im => includeWalk reg fuel acc.1 im

theorem includeWalk_zero (reg : Registry) (visited : List Nat) (m : Mod) :
    includeWalk reg 0 visited m = (visited, some oof) := rfl

theorem includeWalk_succ (reg : Registry) (fuel : Nat) (visited : List Nat) (m : Mod) :
    includeWalk reg (fuel + 1) visited m =
      if visited.contains m.seq then (visited, none) else
        m.imports.foldl (walkStep reg fuel false)
          (m.includes.foldl (walkStep reg fuel true) (m.seq :: visited, none)) := rfl

/-- A.1: the walk only ever adds marks. -/
theorem includeWalk_visited_mono (reg : Registry) (fuel : Nat) (visited : List Nat) (m : Mod) (x : Nat)
    (hx : x ∈ visited) : x ∈ (includeWalk reg fuel visited m).1 := by
  induction fuel generalizing visited m with
  | zero => exact hx
  | succ n ih =>
    have hstep : ∀ b (acc : List Nat × Option Err) i, x ∈ acc.1 → x ∈ (walkStep reg n b acc i).1 := by
      intro b acc i h
      unfold walkStep
      split
      · exact h
      · split
        · exact h
        · exact ih _ _ h
    rw [includeWalk_succ]
    split
    · exact hx
    · apply foldl_inv (fun acc : List Nat × Option Err => x ∈ acc.1)
      · apply foldl_inv (fun acc : List Nat × Option Err => x ∈ acc.1)
        · exact List.mem_cons_of_mem _ hx
        · exact fun a i _ ha => hstep true a i ha
      · exact fun a i _ ha => hstep false a i ha

theorem walkStep_visited_mono (reg : Registry) (fuel : Nat) (b : Bool) (acc : List Nat × Option Err) (i : Stmt) (x : Nat)
    (h : x ∈ acc.1) : x ∈ (walkStep reg fuel b acc i).1 := by
  unfold walkStep
  split
  · exact h
  · split
    · exact h
    · exact includeWalk_visited_mono _ _ _ _ _ h

/-- A.2: with one unit of fuel per unmarked module of the registry, plus one, the walk from a loaded
module never returns the `out-of-fuel` marker. -/
theorem includeWalk_fuel (reg : Registry) (fuel : Nat) (visited : List Nat) (m : Mod)
    (hm : m ∈ reg.mods) (hf : unvisited reg visited + 1 ≤ fuel) :
    (includeWalk reg fuel visited m).2 ≠ some (Err.bare "out-of-fuel") := by
  induction fuel generalizing visited m with
  | zero => omega
  | succ n ih =>
    rw [includeWalk_succ]
    split
    · simp
    · next hc =>
      have hlt := unvisited_cons_lt reg visited m hm (by simpa using hc)
      let P : List Nat × Option Err → Prop := fun acc =>
        (∀ x, x ∈ m.seq :: visited → x ∈ acc.1) ∧ acc.2 ≠ some oof
      have hstep : ∀ b (acc : List Nat × Option Err) i, P acc → P (walkStep reg n b acc i) := by
        intro b acc i h
        obtain ⟨v, e⟩ := acc
        unfold walkStep
        cases e with
        | some e' => exact h
        | none =>
          simp only
          cases hfm : reg.findModule b i with
          | none =>
            have hcls : ∀ b : Bool,
                Err.bare (if b then "no-such-submodule" else "no-such-module") ≠ oof := by decide
            exact ⟨h.1, fun h' => hcls b (Option.some.inj h')⟩
          | some im =>
            refine ⟨fun x hx => includeWalk_visited_mono _ _ _ _ _ (h.1 x hx), ?_⟩
            apply ih v im (findModule_mem hfm)
            have := unvisited_mono reg (m.seq :: visited) v h.1
            omega
      have h1 : P (m.includes.foldl (walkStep reg n true) (m.seq :: visited, none)) :=
        foldl_inv P _ _ _ ⟨fun x hx => hx, by simp⟩ (fun a i _ ha => hstep true a i ha)
      exact (foldl_inv P _ _ _ h1 (fun a i _ ha => hstep false a i ha)).2

/-- A.3: above the bound the result does not depend on the fuel (one more unit changes nothing). -/
theorem includeWalk_fuel_stable (reg : Registry) (fuel : Nat) (visited : List Nat) (m : Mod)
    (hm : m ∈ reg.mods) (hf : unvisited reg visited + 1 ≤ fuel) :
    includeWalk reg (fuel + 1) visited m = includeWalk reg fuel visited m := by
  induction fuel generalizing visited m with
  | zero => omega
  | succ n ih =>
    rw [includeWalk_succ reg (n + 1), includeWalk_succ reg n]
    split
    · rfl
    · next hc =>
      have hlt := unvisited_cons_lt reg visited m hm (by simpa using hc)
      let P : List Nat × Option Err → Prop := fun acc => ∀ x, x ∈ m.seq :: visited → x ∈ acc.1
      have hstep : ∀ b (acc : List Nat × Option Err) i, P acc → P (walkStep reg n b acc i) :=
        fun b acc i h x hx => walkStep_visited_mono reg n b acc i x (h x hx)
      have heq : ∀ b (acc : List Nat × Option Err) i, P acc →
          walkStep reg n b acc i = walkStep reg (n + 1) b acc i := by
        intro b acc i h
        unfold walkStep
        split
        · rfl
        · split
          · rfl
          · next im hfm =>
            symm
            apply ih acc.1 im (findModule_mem hfm)
            have := unvisited_mono reg (m.seq :: visited) acc.1 h
            omega
      have h0 : P (m.seq :: visited, none) := fun x hx => hx
      have h1 : P (m.includes.foldl (walkStep reg n true) (m.seq :: visited, none)) :=
        foldl_inv P _ _ _ h0 (fun a i _ ha => hstep true a i ha)
      rw [← foldl_congr_inv P _ _ m.includes _ h0 (fun a i _ ha => hstep true a i ha)
        (fun a i _ ha => heq true a i ha)]
      exact (foldl_congr_inv P _ _ m.imports _ h1 (fun a i _ ha => hstep false a i ha)
        (fun a i _ ha => heq false a i ha)).symm

/-- A.3, closed form: every fuel from the bound on gives the result of the bound itself. -/
theorem includeWalk_fuel_indep (reg : Registry) (fuel : Nat) (visited : List Nat) (m : Mod)
    (hm : m ∈ reg.mods) (hf : unvisited reg visited + 1 ≤ fuel) :
    includeWalk reg fuel visited m = includeWalk reg (unvisited reg visited + 1) visited m := by
  induction fuel with
  | zero => omega
  | succ n ih =>
    by_cases h : unvisited reg visited + 1 ≤ n
    · rw [includeWalk_fuel_stable reg n visited m hm h]; exact ih h
    · have : n + 1 = unvisited reg visited + 1 := by omega
      rw [this]

theorem distinctModules_mem (reg : Registry) (m : Mod) (h : m ∈ reg.distinctModules) : m ∈ reg.mods :=
  (List.mem_filter.mp h).1

/-- A.4: `linkAll` (fuel `reg.mods.length + 1` per root) never reports `out-of-fuel`. -/
theorem linkAll_never_out_of_fuel (reg : Registry) : Err.bare "out-of-fuel" ∉ (linkAll reg).2 := by
  unfold linkAll
  simp only
  apply foldl_inv (fun acc : List Nat × List Err => oof ∉ acc.2)
  · simp
  · intro acc m hm hacc
    have hmem : m ∈ reg.mods := distinctModules_mem reg m ((mem_sortBy _ _ _).mp hm)
    have hne := includeWalk_fuel reg (reg.mods.length + 1) acc.1 m hmem
      (by have := unvisited_le reg acc.1; omega)
    generalize includeWalk reg (reg.mods.length + 1) acc.1 m = r at hne
    obtain ⟨v, e⟩ := r
    cases e with
    | none => exact hacc
    | some e' =>
      simp only [List.mem_append, List.mem_singleton, not_or]
      exact ⟨hacc, fun h => hne (by subst h; rfl)⟩

/-! ### (B) `augmentPass`, `augmentLoop` -/

theorem augmentPass_succ (reg : Registry) (fuel : Nat) (mods : Array Nat) (i processed : Nat) (s : PState) :
    augmentPass reg (fuel + 1) mods i processed s =
      if h : i < mods.size then
        if (augmentTree reg mods[i] false s).2.2 == 0 then
          augmentPass reg fuel (mods.set i (mods.back?.getD 0) h).pop i
            (processed + (augmentTree reg mods[i] false s).2.1) (augmentTree reg mods[i] false s).1
        else augmentPass reg fuel mods (i + 1)
            (processed + (augmentTree reg mods[i] false s).2.1) (augmentTree reg mods[i] false s).1
      else (mods, processed, s) := by
  rw [augmentPass]

/-- Two fuels at or above `mods.size - i + 1` give the same pass. -/
theorem augmentPass_fuel_eq (reg : Registry) (f1 f2 : Nat) (mods : Array Nat) (i processed : Nat) (s : PState)
    (h1 : mods.size - i + 1 ≤ f1) (h2 : mods.size - i + 1 ≤ f2) :
    augmentPass reg f1 mods i processed s = augmentPass reg f2 mods i processed s := by
  induction f1 generalizing f2 mods i processed s with
  | zero => omega
  | succ a ih =>
    obtain ⟨b, rfl⟩ : ∃ b, f2 = b + 1 := ⟨f2 - 1, by omega⟩
    rw [augmentPass_succ, augmentPass_succ]
    split
    · next hi =>
      split
      · apply ih
        · simp only [Array.size_pop, Array.size_set]; omega
        · simp only [Array.size_pop, Array.size_set]; omega
      · apply ih <;> omega
    · rfl

/-- B.1: every iteration of a pass either drops one element of `mods` or advances `i`, so
`mods.size - i + 1` units of fuel are never used up (the model gives `mods.size + 1` at `i = 0`). -/
theorem augmentPass_fuel (reg : Registry) (fuel : Nat) (mods : Array Nat) (i processed : Nat) (s : PState)
    (h : mods.size - i + 1 ≤ fuel) :
    augmentPass reg fuel mods i processed s = augmentPass reg (mods.size - i + 1) mods i processed s :=
  augmentPass_fuel_eq reg _ _ mods i processed s h (Nat.le_refl _)

/-- The `fail` continuation of the fold in `augmentTree`, state part. -/
def augFail (id : Nat) (addErrors : Bool) (a : Entry) (s : PState) : PState :=
  if addErrors then
    match s.forest.tree? id with
    | some root => { s with forest := s.forest.setTree id (root.addErr (Err.at_ a.d.node "augment-not-found")) }
    | none => s
  else s

/-- The step of the fold in `augmentTree` (the same term, named). -/
def augStep (reg : Registry) (id : Nat) (addErrors : Bool) (nsOf : String)
    (acc : PState × List Entry × Nat × Nat) (a : Entry) : PState × List Entry × Nat × Nat :=
  let (s, unapplied, p, k) := acc
  let (target, forest) := find reg s.forest (id, []) a.d.nodeMod a.d.name
  let s := { s with forest := forest }
  let fail (s : PState) : PState × List Entry × Nat × Nat := (augFail id addErrors a s, unapplied ++ [a], p, k + 1)
  match target with
  | none => fail s
  | some (t, path) =>
    match (s.forest.tree? t).bind (·.getAt path) with
    | none => fail s
    | some te =>
      if cannotHaveChildren te then fail s else
      match s.forest.tree? t with
      | none => fail s
      | some root =>
        let root := root.updateAt path fun te => te.merge (some nsOf) a
        ({ s with forest := s.forest.setTree t root }, unapplied, p + 1, k)

theorem augmentTree_eq (reg : Registry) (id : Nat) (addErrors : Bool) (s : PState) :
    augmentTree reg id addErrors s =
      (((s.pendingOf id).foldl (augStep reg id addErrors (namespaceAt reg s.forest (id, []))) (s, [], 0, 0)).1.setPending id
          ((s.pendingOf id).foldl (augStep reg id addErrors (namespaceAt reg s.forest (id, []))) (s, [], 0, 0)).2.1,
        ((s.pendingOf id).foldl (augStep reg id addErrors (namespaceAt reg s.forest (id, []))) (s, [], 0, 0)).2.2.1,
        ((s.pendingOf id).foldl (augStep reg id addErrors (namespaceAt reg s.forest (id, []))) (s, [], 0, 0)).2.2.2) := rfl

theorem augFail_pending (id : Nat) (addErrors : Bool) (a : Entry) (s : PState) :
    (augFail id addErrors a s).pending = s.pending := by
  unfold augFail
  split
  · split <;> rfl
  · rfl

/-- One augment either is applied (`p + 1`) or is kept (`unapplied ++ [a]`, `k + 1`); `pending` is
not touched. -/
theorem augStep_spec (reg : Registry) (id : Nat) (addErrors : Bool) (nsOf : String)
    (acc : PState × List Entry × Nat × Nat) (a : Entry) :
    (augStep reg id addErrors nsOf acc a).1.pending = acc.1.pending ∧
    (((augStep reg id addErrors nsOf acc a).2.1 = acc.2.1 ++ [a] ∧
        (augStep reg id addErrors nsOf acc a).2.2.1 = acc.2.2.1 ∧
        (augStep reg id addErrors nsOf acc a).2.2.2 = acc.2.2.2 + 1) ∨
     ((augStep reg id addErrors nsOf acc a).2.1 = acc.2.1 ∧
        (augStep reg id addErrors nsOf acc a).2.2.1 = acc.2.2.1 + 1 ∧
        (augStep reg id addErrors nsOf acc a).2.2.2 = acc.2.2.2)) := by
  obtain ⟨s, un, p, k⟩ := acc
  unfold augStep
  simp only
  split
  · exact ⟨augFail_pending .., Or.inl ⟨rfl, rfl, rfl⟩⟩
  · split
    · exact ⟨augFail_pending .., Or.inl ⟨rfl, rfl, rfl⟩⟩
    · split
      · exact ⟨augFail_pending .., Or.inl ⟨rfl, rfl, rfl⟩⟩
      · split
        · exact ⟨augFail_pending .., Or.inl ⟨rfl, rfl, rfl⟩⟩
        · exact ⟨rfl, Or.inr ⟨rfl, rfl, rfl⟩⟩

theorem augFold_spec (reg : Registry) (id : Nat) (addErrors : Bool) (nsOf : String)
    (l : List Entry) (acc : PState × List Entry × Nat × Nat) (hacc : acc.2.1.length = acc.2.2.2) :
    (l.foldl (augStep reg id addErrors nsOf) acc).1.pending = acc.1.pending ∧
    (l.foldl (augStep reg id addErrors nsOf) acc).2.1.length = (l.foldl (augStep reg id addErrors nsOf) acc).2.2.2 ∧
    (l.foldl (augStep reg id addErrors nsOf) acc).2.2.1 + (l.foldl (augStep reg id addErrors nsOf) acc).2.2.2 =
      acc.2.2.1 + acc.2.2.2 + l.length := by
  induction l generalizing acc with
  | nil => exact ⟨rfl, hacc, rfl⟩
  | cons a as ih =>
    simp only [List.foldl_cons, List.length_cons]
    obtain ⟨hp, hc⟩ := augStep_spec reg id addErrors nsOf acc a
    have hacc' : (augStep reg id addErrors nsOf acc a).2.1.length = (augStep reg id addErrors nsOf acc a).2.2.2 := by
      rcases hc with ⟨h1, _, h3⟩ | ⟨h1, _, h3⟩
      · rw [h1, h3, List.length_append, hacc]; rfl
      · rw [h1, h3, hacc]
    obtain ⟨i1, i2, i3⟩ := ih _ hacc'
    refine ⟨i1.trans hp, i2, ?_⟩
    rcases hc with ⟨_, h2, h3⟩ | ⟨_, h2, h3⟩ <;> omega

/-- Number of augments still pending (literally the `total` computed in `processAll`). -/
def pendingTotal (s : PState) : Nat := s.pending.foldl (fun n p => n + p.2.length) 0

/-- Keys (tree ids) of the pending table. -/
abbrev pendingKeys (s : PState) : List Nat := s.pending.map (·.1)

private def tot (L : List (Nat × List Entry)) : Nat := L.foldl (fun n p => n + p.2.length) 0

private theorem tot_foldl (L : List (Nat × List Entry)) (init : Nat) :
    L.foldl (fun n p => n + p.2.length) init = init + tot L := by
  unfold tot
  induction L generalizing init with
  | nil => rfl
  | cons x xs ih => simp only [List.foldl_cons]; rw [ih, ih (0 + _)]; omega

private theorem tot_cons (x : Nat × List Entry) (L : List (Nat × List Entry)) :
    tot (x :: L) = x.2.length + tot L := by
  show List.foldl _ _ _ = _
  simp only [List.foldl_cons]
  rw [tot_foldl]; omega

private def upd (id : Nat) (l : List Entry) : Nat × List Entry → Nat × List Entry :=
  fun (i, p) => if i == id then (i, l) else (i, p)

private def lookup (L : List (Nat × List Entry)) (id : Nat) : List Entry :=
  ((L.find? (·.1 == id)).map (·.2)).getD []

private theorem upd_keys (id : Nat) (l : List Entry) (L : List (Nat × List Entry)) :
    (L.map (upd id l)).map (·.1) = L.map (·.1) := by
  induction L with
  | nil => rfl
  | cons x xs ih =>
    obtain ⟨i, q⟩ := x
    simp only [List.map_cons, ih, upd]
    split <;> rfl

private theorem upd_absent (id : Nat) (l : List Entry) (L : List (Nat × List Entry))
    (h : id ∉ L.map (·.1)) : L.map (upd id l) = L ∧ lookup L id = [] := by
  induction L with
  | nil => exact ⟨rfl, rfl⟩
  | cons x xs ih =>
    obtain ⟨i, q⟩ := x
    simp only [List.map_cons, List.mem_cons, not_or] at h
    obtain ⟨h1, h2⟩ := h
    obtain ⟨ih1, ih2⟩ := ih h2
    have hne : (i == id) = false := by simpa using fun e => h1 e.symm
    constructor
    · simp only [List.map_cons, ih1, upd, hne]; rfl
    · unfold lookup at ih2 ⊢
      simp only [List.find?_cons, hne]
      exact ih2

private theorem upd_present (id : Nat) (l : List Entry) (L : List (Nat × List Entry))
    (hnd : (L.map (·.1)).Nodup) (h : id ∈ L.map (·.1)) :
    tot (L.map (upd id l)) + (lookup L id).length = tot L + l.length := by
  induction L with
  | nil => cases h
  | cons x xs ih =>
    obtain ⟨i, q⟩ := x
    simp only [List.map_cons, List.nodup_cons] at hnd
    obtain ⟨hni, hnd'⟩ := hnd
    by_cases hi : i = id
    · subst hi
      obtain ⟨e1, _⟩ := upd_absent i l xs hni
      have hl : lookup ((i, q) :: xs) i = q := by
        unfold lookup; simp
      rw [hl, List.map_cons, e1, tot_cons, tot_cons]
      have : upd i l (i, q) = (i, l) := by simp [upd]
      rw [this]
      simp only
      omega
    · have hne : (i == id) = false := by simpa using hi
      have hmem : id ∈ xs.map (·.1) := by
        simp only [List.map_cons, List.mem_cons] at h
        rcases h with h | h
        · exact absurd h.symm hi
        · exact h
      have := ih hnd' hmem
      have hl : lookup ((i, q) :: xs) id = lookup xs id := by
        unfold lookup; simp only [List.find?_cons, hne]
      have hu : upd id l (i, q) = (i, q) := by simp [upd, hne]
      rw [hl, List.map_cons, hu, tot_cons, tot_cons]
      simp only
      omega

theorem setPending_keys (s : PState) (id : Nat) (l : List Entry) :
    pendingKeys (s.setPending id l) = pendingKeys s :=
  upd_keys id l s.pending

/-- `p + k` is the number of augments that were pending for the tree. -/
theorem augmentTree_counts (reg : Registry) (id : Nat) (addErrors : Bool) (s : PState) :
    (augmentTree reg id addErrors s).2.1 + (augmentTree reg id addErrors s).2.2 = (s.pendingOf id).length := by
  rw [augmentTree_eq]
  have := (augFold_spec reg id addErrors (namespaceAt reg s.forest (id, [])) (s.pendingOf id) (s, [], 0, 0) rfl).2.2
  simpa using this

/-- B.2a: `augmentTree` keeps the keys of `pending`, and the augments it applies (`p`) leave it. -/
theorem augmentTree_pending (reg : Registry) (id : Nat) (addErrors : Bool) (s : PState)
    (hnd : (s.pending.map (·.1)).Nodup) :
    (augmentTree reg id addErrors s).1.pending.map (·.1) = s.pending.map (·.1) ∧
    pendingTotal (augmentTree reg id addErrors s).1 + (augmentTree reg id addErrors s).2.1 = pendingTotal s := by
  rw [augmentTree_eq]
  obtain ⟨h1, h2, h3⟩ :=
    augFold_spec reg id addErrors (namespaceAt reg s.forest (id, [])) (s.pendingOf id) (s, [], 0, 0) rfl
  generalize (s.pendingOf id).foldl (augStep reg id addErrors (namespaceAt reg s.forest (id, []))) (s, [], 0, 0) = r
    at h1 h2 h3
  obtain ⟨s', un, p, k⟩ := r
  simp only at h1 h2 h3 ⊢
  have hset : (s'.setPending id un).pending = s.pending.map (upd id un) := by
    show s'.pending.map _ = _
    rw [h1]; rfl
  refine ⟨by rw [hset]; exact upd_keys id un s.pending, ?_⟩
  show tot (s'.setPending id un).pending + p = tot s.pending
  rw [hset]
  have hlk : s.pendingOf id = lookup s.pending id := rfl
  rw [hlk] at h3
  by_cases hmem : id ∈ s.pending.map (·.1)
  · have := upd_present id un s.pending hnd hmem
    omega
  · obtain ⟨e1, e2⟩ := upd_absent id un s.pending hmem
    rw [e1]
    rw [e2] at h3
    simp only [List.length_nil] at h3
    omega

/-- B.2b: a whole pass keeps the keys of `pending`; what it counts as processed has left it. -/
theorem augmentPass_pending (reg : Registry) (fuel : Nat) (mods : Array Nat) (i processed : Nat) (s : PState)
    (hnd : (s.pending.map (·.1)).Nodup) :
    (augmentPass reg fuel mods i processed s).2.2.pending.map (·.1) = s.pending.map (·.1) ∧
    pendingTotal (augmentPass reg fuel mods i processed s).2.2 + (augmentPass reg fuel mods i processed s).2.1 =
      pendingTotal s + processed := by
  induction fuel generalizing mods i processed s with
  | zero => exact ⟨rfl, rfl⟩
  | succ n ih =>
    rw [augmentPass_succ]
    split
    · next hi =>
      obtain ⟨hk, ht⟩ := augmentTree_pending reg mods[i] false s hnd
      have hnd' : ((augmentTree reg mods[i] false s).1.pending.map (·.1)).Nodup := by rw [hk]; exact hnd
      split
      · obtain ⟨i1, i2⟩ := ih (mods.set i (mods.back?.getD 0) hi).pop i
          (processed + (augmentTree reg mods[i] false s).2.1) _ hnd'
        exact ⟨i1.trans hk, by omega⟩
      · obtain ⟨i1, i2⟩ := ih mods (i + 1) (processed + (augmentTree reg mods[i] false s).2.1) _ hnd'
        exact ⟨i1.trans hk, by omega⟩
    · exact ⟨rfl, rfl⟩

theorem augmentLoop_succ (reg : Registry) (fuel : Nat) (mods : Array Nat) (s : PState) :
    augmentLoop reg (fuel + 1) mods s =
      if mods.isEmpty then (mods, s) else
        if (augmentPass reg (mods.size + 1) mods 0 0 s).2.1 == 0 then
          ((augmentPass reg (mods.size + 1) mods 0 0 s).1, (augmentPass reg (mods.size + 1) mods 0 0 s).2.2)
        else augmentLoop reg fuel (augmentPass reg (mods.size + 1) mods 0 0 s).1
          (augmentPass reg (mods.size + 1) mods 0 0 s).2.2 := by
  rw [augmentLoop]

/-- Two fuels at or above `pendingTotal s + 1` give the same loop. -/
theorem augmentLoop_fuel_eq (reg : Registry) (f1 f2 : Nat) (mods : Array Nat) (s : PState)
    (hnd : (s.pending.map (·.1)).Nodup) (h1 : pendingTotal s + 1 ≤ f1) (h2 : pendingTotal s + 1 ≤ f2) :
    augmentLoop reg f1 mods s = augmentLoop reg f2 mods s := by
  induction f1 generalizing f2 mods s with
  | zero => omega
  | succ a ih =>
    obtain ⟨b, rfl⟩ : ∃ b, f2 = b + 1 := ⟨f2 - 1, by omega⟩
    rw [augmentLoop_succ, augmentLoop_succ]
    split
    · rfl
    · split
      · rfl
      · next hp =>
        obtain ⟨hk, ht⟩ := augmentPass_pending reg (mods.size + 1) mods 0 0 s hnd
        have hp' : (augmentPass reg (mods.size + 1) mods 0 0 s).2.1 ≠ 0 := by simpa using hp
        apply ih
        · rw [hk]; exact hnd
        · omega
        · omega

/-- B.2c: every pass but the last applies at least one pending augment, so `pendingTotal s + 1`
rounds are never used up: the loop leaves through its own exits, whatever larger fuel it gets. -/
theorem augmentLoop_terminates (reg : Registry) (fuel : Nat) (mods : Array Nat) (s : PState)
    (hnd : (s.pending.map (·.1)).Nodup) (h : pendingTotal s + 1 ≤ fuel) :
    augmentLoop reg fuel mods s = augmentLoop reg (pendingTotal s + 1) mods s :=
  augmentLoop_fuel_eq reg _ _ mods s hnd h (Nat.le_refl _)

/-- The fuel `processAll` gives (`total + 2`) is above the bound. -/
theorem augmentLoop_model_fuel (reg : Registry) (mods : Array Nat) (s : PState)
    (hnd : (s.pending.map (·.1)).Nodup) :
    augmentLoop reg (s.pending.foldl (fun n p => n + p.2.length) 0 + 2) mods s =
      augmentLoop reg (pendingTotal s + 1) mods s :=
  augmentLoop_terminates reg _ mods s hnd (by unfold pendingTotal; omega)

/-- The `Nodup` hypothesis is satisfiable on a non-trivial state (two trees, one pending augment). -/
example : ∃ s : PState, s.pending ≠ [] ∧ (s.pending.map (·.1)).Nodup ∧ pendingTotal s = 1 :=
  ⟨{ pending := [(0, [.mk { name := "a" } [] [] []]), (1, [])] }, by simp, by decide, rfl⟩

/-- Why `Nodup` is needed: with the key `0` bound twice, `setPending` writes the one unapplied
augment into both bindings, so the total grows from 1 to 2 although nothing was applied.
(`processAll` builds `pending` by mapping over `distinctModules ++ distinctSubs`, one binding per
loaded (sub)module.) -/
theorem augmentTree_pending_needs_nodup :
    ∃ s : PState, ¬ (s.pending.map (·.1)).Nodup ∧
      pendingTotal (augmentTree {} 0 false s).1 + (augmentTree {} 0 false s).2.1 ≠ pendingTotal s :=
  ⟨{ pending := [(0, [.mk {} [] [] []]), (0, [])] }, by decide, by decide⟩

/-! ### (C) `dumpTree` -/

theorem dumpTree_zero (reg : Registry) (f : Forest) (modName : String) (root : Entry) (id : Nat)
    (path : Path) (e : Entry) : dumpTree reg f modName root id 0 path e = ["N out-of-fuel"] := rfl

theorem dumpTree_succ (reg : Registry) (f : Forest) (modName : String) (root : Entry) (id : Nat)
    (fuel : Nat) (path : Path) (e : Entry) :
    dumpTree reg f modName root id (fuel + 1) path e =
      dumpNode reg f modName root (id, path) e ::
        (((sortBy (fun (a b : Entry) => a.name < b.name) e.dir).map fun c =>
            dumpTree reg f modName root id fuel (path ++ [.child c.name]) c).flatten ++
         (e.inp.map fun c => dumpTree reg f modName root id fuel (path ++ [.input]) c).flatten ++
         (e.out.map fun c => dumpTree reg f modName root id fuel (path ++ [.output]) c).flatten) := rfl

theorem entryDepth_eq (e : Entry) :
    entryDepth e = 1 + max (entryDepth.depthL e.dir) (max (entryDepth.depthL e.inp) (entryDepth.depthL e.out)) := by
  cases e with
  | mk d c i o => rw [entryDepth]; rfl

theorem entryDepth_le_depthL (c : Entry) (l : List Entry) (h : c ∈ l) : entryDepth c ≤ entryDepth.depthL l := by
  induction l with
  | nil => cases h
  | cons x xs ih =>
    rw [entryDepth.depthL]
    rcases List.mem_cons.mp h with rfl | h'
    · omega
    · have := ih h'; omega

theorem entryDepth_dir_lt (e c : Entry) (h : c ∈ e.dir) : entryDepth c < entryDepth e := by
  have := entryDepth_le_depthL c _ h; have := entryDepth_eq e; omega

theorem entryDepth_inp_lt (e c : Entry) (h : c ∈ e.inp) : entryDepth c < entryDepth e := by
  have := entryDepth_le_depthL c _ h; have := entryDepth_eq e; omega

theorem entryDepth_out_lt (e c : Entry) (h : c ∈ e.out) : entryDepth c < entryDepth e := by
  have := entryDepth_le_depthL c _ h; have := entryDepth_eq e; omega

/-- Two fuels at or above `entryDepth e` give the same dump. -/
theorem dumpTree_fuel_eq (reg : Registry) (f : Forest) (modName : String) (root : Entry) (id : Nat)
    (f1 f2 : Nat) (path : Path) (e : Entry) (h1 : entryDepth e ≤ f1) (h2 : entryDepth e ≤ f2) :
    dumpTree reg f modName root id f1 path e = dumpTree reg f modName root id f2 path e := by
  induction f1 generalizing f2 path e with
  | zero => have := entryDepth_eq e; omega
  | succ a ih =>
    obtain ⟨b, rfl⟩ : ∃ b, f2 = b + 1 := ⟨f2 - 1, by have := entryDepth_eq e; omega⟩
    rw [dumpTree_succ, dumpTree_succ]
    have e1 : ((sortBy (fun (a b : Entry) => a.name < b.name) e.dir).map fun c =>
          dumpTree reg f modName root id a (path ++ [.child c.name]) c) =
        ((sortBy (fun (a b : Entry) => a.name < b.name) e.dir).map fun c =>
          dumpTree reg f modName root id b (path ++ [.child c.name]) c) := by
      apply List.map_congr_left
      intro c hc
      have := entryDepth_dir_lt e c ((mem_sortBy _ _ _).mp hc)
      exact ih b _ c (by omega) (by omega)
    have e2 : (e.inp.map fun c => dumpTree reg f modName root id a (path ++ [.input]) c) =
        (e.inp.map fun c => dumpTree reg f modName root id b (path ++ [.input]) c) := by
      apply List.map_congr_left
      intro c hc
      have := entryDepth_inp_lt e c hc
      exact ih b _ c (by omega) (by omega)
    have e3 : (e.out.map fun c => dumpTree reg f modName root id a (path ++ [.output]) c) =
        (e.out.map fun c => dumpTree reg f modName root id b (path ++ [.output]) c) := by
      apply List.map_congr_left
      intro c hc
      have := entryDepth_out_lt e c hc
      exact ih b _ c (by omega) (by omega)
    rw [e1, e2, e3]

/-- C.1: from `entryDepth e` on the dump does not depend on the fuel (`dumpOutcome` gives
`entryDepth root + 1`). -/
theorem dumpTree_fuel_stable (reg : Registry) (f : Forest) (modName : String) (root : Entry) (id : Nat)
    (fuel : Nat) (path : Path) (e : Entry) (h : entryDepth e ≤ fuel) :
    dumpTree reg f modName root id fuel path e = dumpTree reg f modName root id (entryDepth e) path e :=
  dumpTree_fuel_eq reg f modName root id _ _ path e h (Nat.le_refl _)

/-- A node record is longer than the 13 bytes of the marker: the literal pieces `" kind="`,
`" dir="`, `"] units="` of the interpolation alone have 19. -/
theorem dumpNode_ne_marker (reg : Registry) (f : Forest) (modName : String) (root : Entry) (loc : Loc)
    (e : Entry) : dumpNode reg f modName root loc e ≠ "N out-of-fuel" := by
  intro h
  have := congrArg String.length h
  unfold dumpNode at this
  simp only [String.length_append] at this
  have h1 : (toString " kind=").length = 6 := by decide
  have h2 : (toString " dir=").length = 5 := by decide
  have h3 : (toString "] units=").length = 8 := by decide
  have h4 : "N out-of-fuel".length = 13 := by decide
  rw [h1, h2, h3, h4] at this
  omega

/-- C.2: with `entryDepth e` fuel (or more) the marker record never appears in the dump. -/
theorem dumpTree_never_out_of_fuel (reg : Registry) (f : Forest) (modName : String) (root : Entry) (id : Nat)
    (fuel : Nat) (path : Path) (e : Entry) (h : entryDepth e ≤ fuel) :
    "N out-of-fuel" ∉ dumpTree reg f modName root id fuel path e := by
  induction fuel generalizing path e with
  | zero => have := entryDepth_eq e; omega
  | succ n ih =>
    rw [dumpTree_succ]
    simp only [List.mem_cons, List.mem_append, List.mem_flatten, List.mem_map, not_or]
    refine ⟨fun h' => dumpNode_ne_marker _ _ _ _ _ _ h'.symm, ⟨?_, ?_⟩, ?_⟩
    · rintro ⟨l, ⟨c, hc, rfl⟩, hl⟩
      have := entryDepth_dir_lt e c ((mem_sortBy _ _ _).mp hc)
      exact ih _ c (by omega) hl
    · rintro ⟨l, ⟨c, hc, rfl⟩, hl⟩
      have := entryDepth_inp_lt e c hc
      exact ih _ c (by omega) hl
    · rintro ⟨l, ⟨c, hc, rfl⟩, hl⟩
      have := entryDepth_out_lt e c hc
      exact ih _ c (by omega) hl

end Goyang.Lemmas.Fuel
