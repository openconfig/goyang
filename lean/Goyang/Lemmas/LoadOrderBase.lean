import Goyang.Model.Process
import Goyang.Lemmas.SortUnique
import Goyang.Lemmas.OrderIndep
import Goyang.Lemmas.ListAux
/-
Load-order independence (C05), part 1: renaming of module identities.

In the resolver model a loaded module is identified by its load sequence number `Mod.seq`.
Loading the same sources in another order permutes those numbers.  This file defines what it
means to rename the numbers by a function `σ` in every value that carries them (`Mod`, `Entry`
— the field `nodeMod` —, `TState`, `Forest`, node identities), and proves that the elementary
operations on entries commute with the renaming.  Core Lean only.
-/
namespace Goyang.Lemmas.LoadOrder
open Goyang.Model

/-! ### generic list facts -/

theorem find?_map_inj {α β : Type} [BEq β] [LawfulBEq β] [BEq α] [LawfulBEq α] (f : β → α)
    (hf : ∀ a b, f a = f b → a = b) (g : γ → β) (g' : γ' → α) (φ : γ → γ') (hφ : ∀ x, g' (φ x) = f (g x))
    (l : List γ) (k : β) :
    (l.map φ).find? (fun x => g' x == f k) = (l.find? (fun x => g x == k)).map φ := by
  induction l with
  | nil => rfl
  | cons x t ih =>
    simp only [List.map_cons, List.find?_cons, hφ]
    by_cases h : g x = k
    · simp [h]
    · have h1 : (f (g x) == f k) = false := beq_eq_false_iff_ne.mpr fun e => h (hf _ _ e)
      have h2 : (g x == k) = false := beq_eq_false_iff_ne.mpr h
      rw [h1, h2]; exact ih

theorem contains_map_inj {α β : Type} [BEq β] [LawfulBEq β] [BEq α] [LawfulBEq α] (f : β → α)
    (hf : ∀ a b, f a = f b → a = b) (l : List β) (k : β) : (l.map f).contains (f k) = l.contains k := by
  induction l with
  | nil => rfl
  | cons x t ih =>
    simp only [List.map_cons, List.contains_cons, ih]
    by_cases h : k = x
    · simp [h]
    · have h1 : (f k == f x) = false := beq_eq_false_iff_ne.mpr fun e => h (hf _ _ e)
      have h2 : (k == x) = false := beq_eq_false_iff_ne.mpr h
      rw [h1, h2]

theorem any_map_inj {α β : Type} [BEq β] [LawfulBEq β] [BEq α] [LawfulBEq α] (f : β → α)
    (hf : ∀ a b, f a = f b → a = b) (g : γ → β) (g' : γ' → α) (φ : γ → γ') (hφ : ∀ x, g' (φ x) = f (g x))
    (l : List γ) (k : β) :
    (l.map φ).any (fun x => g' x == f k) = l.any (fun x => g x == k) := by
  induction l with
  | nil => rfl
  | cons x t ih =>
    simp only [List.map_cons, List.any_cons, hφ, ih]
    by_cases h : g x = k
    · simp [h]
    · have h1 : (f (g x) == f k) = false := beq_eq_false_iff_ne.mpr fun e => h (hf _ _ e)
      have h2 : (g x == k) = false := beq_eq_false_iff_ne.mpr h
      rw [h1, h2]

/-- Sorting a permutation of the image of a list: the image of the sorted list, when the order is
strict and total on the different elements of the list. -/
theorem sortBy_perm_map {α β : Type} (lt : α → α → Bool) (lt' : β → β → Bool) (f : α → β)
    (h : ∀ a b, lt' (f a) (f b) = lt a b)
    (irr : ∀ a, lt' a a = false) (tr : ∀ a b c, lt' a b = true → lt' b c = true → lt' a c = true)
    {l₁ : List α} {l₂ : List β} (hp : l₂.Perm (l₁.map f))
    (tot : ∀ a ∈ l₁, ∀ b ∈ l₁, f a ≠ f b → lt a b = true ∨ lt b a = true) :
    sortBy lt' l₂ = (sortBy lt l₁).map f := by
  rw [← SortAux.sortBy_map f lt' lt l₁ fun a _ b _ => h a b]
  refine SortUnique.sortBy_perm_invariant lt' irr tr hp ?_
  intro a ha b hb hab
  obtain ⟨a', ha', rfl⟩ := List.mem_map.mp (hp.mem_iff.mp ha)
  obtain ⟨b', hb', rfl⟩ := List.mem_map.mp (hp.mem_iff.mp hb)
  rw [h, h]
  exact tot a' ha' b' hb' hab

/-! ### renaming -/

/-- Renaming of module identities. -/
def Mod.ren (σ : Nat → Nat) (m : Mod) : Mod := { m with seq := σ m.seq }

@[simp] theorem Mod.ren_seq (σ : Nat → Nat) (m : Mod) : (Mod.ren σ m).seq = σ m.seq := by cases m; rfl
@[simp] theorem Mod.ren_stmt (σ : Nat → Nat) (m : Mod) : (Mod.ren σ m).stmt = m.stmt := by cases m; rfl
@[simp] theorem Mod.ren_isSub (σ : Nat → Nat) (m : Mod) : (Mod.ren σ m).isSub = m.isSub := by cases m; rfl
@[simp] theorem Mod.ren_name (σ : Nat → Nat) (m : Mod) : (Mod.ren σ m).name = m.name := by cases m; rfl
@[simp] theorem Mod.ren_current (σ : Nat → Nat) (m : Mod) : (Mod.ren σ m).current = m.current := by cases m; rfl
@[simp] theorem Mod.ren_fullName (σ : Nat → Nat) (m : Mod) : (Mod.ren σ m).fullName = m.fullName := by cases m; rfl
@[simp] theorem Mod.ren_prefixStmt? (σ : Nat → Nat) (m : Mod) : (Mod.ren σ m).prefixStmt? = m.prefixStmt? := by cases m; rfl
@[simp] theorem Mod.ren_getPrefix (σ : Nat → Nat) (m : Mod) : (Mod.ren σ m).getPrefix = m.getPrefix := by cases m; rfl
@[simp] theorem Mod.ren_belongsTo? (σ : Nat → Nat) (m : Mod) : (Mod.ren σ m).belongsTo? = m.belongsTo? := by cases m; rfl
@[simp] theorem Mod.ren_imports (σ : Nat → Nat) (m : Mod) : (Mod.ren σ m).imports = m.imports := by cases m; rfl
@[simp] theorem Mod.ren_includes (σ : Nat → Nat) (m : Mod) : (Mod.ren σ m).includes = m.includes := by cases m; rfl

def renD (σ : Nat → Nat) (d : EData) : EData := { d with nodeMod := σ d.nodeMod }

mutual
/-- The entry with every `nodeMod` renamed. -/
def Entry.ren (σ : Nat → Nat) : Entry → Entry
  | .mk d c i o => .mk (renD σ d) (renL σ c) (renL σ i) (renL σ o)
def renL (σ : Nat → Nat) : List Entry → List Entry
  | [] => []
  | e :: es => Entry.ren σ e :: renL σ es
end

theorem renL_eq_map (σ : Nat → Nat) (l : List Entry) : renL σ l = l.map (Entry.ren σ) := by
  induction l with
  | nil => rfl
  | cons e es ih => simp [renL, ih]

@[simp] theorem ren_mk (σ : Nat → Nat) (d : EData) (c i o : List Entry) :
    Entry.ren σ (.mk d c i o) = .mk (renD σ d) (c.map (Entry.ren σ)) (i.map (Entry.ren σ)) (o.map (Entry.ren σ)) := by
  simp [Entry.ren, renL_eq_map]

def renId (σ : Nat → Nat) (x : NodeId) : NodeId := (σ x.1, x.2)

theorem renId_inj {σ : Nat → Nat} (hσ : ∀ a b, σ a = σ b → a = b) (a b : NodeId) (h : renId σ a = renId σ b) : a = b := by
  obtain ⟨a1, a2⟩ := a
  obtain ⟨b1, b2⟩ := b
  simp only [renId, Prod.mk.injEq] at h
  rw [hσ _ _ h.1, h.2]

@[simp] theorem renId_nodeId (σ : Nat → Nat) (root : Mod) (s : Stmt) :
    nodeId (Mod.ren σ root) s = renId σ (nodeId root s) := by cases root; rfl

section
variable (σ : Nat → Nat)

@[simp] theorem ren_d (e : Entry) : (Entry.ren σ e).d = renD σ e.d := by cases e; simp [Entry.d]
@[simp] theorem ren_dir (e : Entry) : (Entry.ren σ e).dir = e.dir.map (Entry.ren σ) := by cases e; simp [Entry.dir]
@[simp] theorem ren_inp (e : Entry) : (Entry.ren σ e).inp = e.inp.map (Entry.ren σ) := by cases e; simp [Entry.inp]
@[simp] theorem ren_out (e : Entry) : (Entry.ren σ e).out = e.out.map (Entry.ren σ) := by cases e; simp [Entry.out]
@[simp] theorem ren_name (e : Entry) : (Entry.ren σ e).name = e.name := by cases e; simp [Entry.name, Entry.d, renD]

@[simp] theorem renD_name (d : EData) : (renD σ d).name = d.name := by cases d; rfl
@[simp] theorem renD_kind (d : EData) : (renD σ d).kind = d.kind := by cases d; rfl
@[simp] theorem renD_hasDir (d : EData) : (renD σ d).hasDir = d.hasDir := by cases d; rfl
@[simp] theorem renD_config (d : EData) : (renD σ d).config = d.config := by cases d; rfl
@[simp] theorem renD_mandatory (d : EData) : (renD σ d).mandatory = d.mandatory := by cases d; rfl
@[simp] theorem renD_default (d : EData) : (renD σ d).default = d.default := by cases d; rfl
@[simp] theorem renD_description (d : EData) : (renD σ d).description = d.description := by cases d; rfl
@[simp] theorem renD_units (d : EData) : (renD σ d).units = d.units := by cases d; rfl
@[simp] theorem renD_key (d : EData) : (renD σ d).key = d.key := by cases d; rfl
@[simp] theorem renD_listAttr (d : EData) : (renD σ d).listAttr = d.listAttr := by cases d; rfl
@[simp] theorem renD_type (d : EData) : (renD σ d).type = d.type := by cases d; rfl
@[simp] theorem renD_isRpc (d : EData) : (renD σ d).isRpc = d.isRpc := by cases d; rfl
@[simp] theorem renD_ns (d : EData) : (renD σ d).ns = d.ns := by cases d; rfl
@[simp] theorem renD_errors (d : EData) : (renD σ d).errors = d.errors := by cases d; rfl
@[simp] theorem renD_node (d : EData) : (renD σ d).node = d.node := by cases d; rfl
@[simp] theorem renD_nodeMod (d : EData) : (renD σ d).nodeMod = σ d.nodeMod := by cases d; rfl
@[simp] theorem renD_nodeKw (d : EData) : (renD σ d).nodeKw = d.nodeKw := by cases d; rfl
@[simp] theorem renD_hasMin (d : EData) : (renD σ d).hasMin = d.hasMin := by cases d; rfl
@[simp] theorem renD_hasMax (d : EData) : (renD σ d).hasMax = d.hasMax := by cases d; rfl

/-- A data update that does not look at `nodeMod` commutes with the renaming. -/
theorem ren_withD (e : Entry) (f : EData → EData) (hf : ∀ d, renD σ (f d) = f (renD σ d)) :
    Entry.ren σ (e.withD f) = (Entry.ren σ e).withD f := by
  cases e; simp [Entry.withD, hf]

@[simp] theorem ren_withDir (e : Entry) (c : List Entry) :
    Entry.ren σ (e.withDir c) = (Entry.ren σ e).withDir (c.map (Entry.ren σ)) := by
  cases e; simp [Entry.withDir]

theorem find?_name_ren (l : List Entry) (k : String) :
    (l.map (Entry.ren σ)).find? (·.name == k) = (l.find? (·.name == k)).map (Entry.ren σ) := by
  induction l with
  | nil => rfl
  | cons x t ih =>
    simp only [List.map_cons, List.find?_cons, ren_name]
    split <;> simp [ih]

@[simp] theorem ren_child? (e : Entry) (k : String) :
    (Entry.ren σ e).child? k = (e.child? k).map (Entry.ren σ) := by
  unfold Entry.child?
  rw [ren_dir, find?_name_ren]

@[simp] theorem ren_addErr (e : Entry) (x : Err) : Entry.ren σ (e.addErr x) = (Entry.ren σ e).addErr x := by
  unfold Entry.addErr; exact ren_withD σ e _ (fun _ => rfl)

@[simp] theorem ren_addErrs (e : Entry) (xs : List Err) : Entry.ren σ (e.addErrs xs) = (Entry.ren σ e).addErrs xs := by
  unfold Entry.addErrs; exact ren_withD σ e _ (fun _ => rfl)

mutual
theorem allErrors_ren : ∀ (e : Entry), (Entry.ren σ e).allErrors = e.allErrors
  | .mk d c i o => by
    simp only [Entry.ren, Entry.allErrors, renD_errors]
    rw [allErrorsL_renL c, allErrorsL_renL i, allErrorsL_renL o]
theorem allErrorsL_renL : ∀ (l : List Entry), Entry.allErrorsL (renL σ l) = Entry.allErrorsL l
  | [] => rfl
  | e :: es => by
    simp only [renL, Entry.allErrorsL]
    rw [allErrors_ren e, allErrorsL_renL es]
end

attribute [simp] allErrors_ren

@[simp] theorem allErrorsL_ren (l : List Entry) : Entry.allErrorsL (l.map (Entry.ren σ)) = Entry.allErrorsL l := by
  rw [← renL_eq_map]; exact allErrorsL_renL σ l

@[simp] theorem ren_importErrors (e c : Entry) :
    Entry.ren σ (e.importErrors c) = (Entry.ren σ e).importErrors (Entry.ren σ c) := by
  simp [Entry.importErrors]

@[simp] theorem ren_add (e : Entry) (k : String) (v : Entry) :
    Entry.ren σ (e.add k v) = (Entry.ren σ e).add k (Entry.ren σ v) := by
  unfold Entry.add
  rw [ren_child?]
  cases e.child? k <;> simp

theorem ren_stamp (ns : Option String) (v : Entry) :
    Entry.ren σ (OrderIndep.stamp ns v) = OrderIndep.stamp ns (Entry.ren σ v) := by
  cases ns with
  | none => rfl
  | some n => exact ren_withD σ v _ (fun _ => rfl)

theorem ren_step (ns : Option String) (x : Err) (e v : Entry) :
    Entry.ren σ (OrderIndep.step ns x e v) = OrderIndep.step ns x (Entry.ren σ e) (Entry.ren σ v) := by
  unfold OrderIndep.step
  rw [← ren_stamp, ren_name, ren_child?]
  cases e.child? (OrderIndep.stamp ns v).name <;> simp

@[simp] theorem ren_merge (e : Entry) (ns : Option String) (oe : Entry) :
    Entry.ren σ (e.merge ns oe) = (Entry.ren σ e).merge ns (Entry.ren σ oe) := by
  rw [OrderIndep.merge_eq, OrderIndep.merge_eq]
  simp only [ren_dir, List.foldl_map, ren_d, renD_node]
  rw [← ren_importErrors]
  exact (List.foldl_hom (Entry.ren σ) fun a v => (ren_step σ ns _ a v).symm).symm

end

/-! ### state, forests -/

def TState.ren (σ : Nat → Nat) (st : TState) : TState :=
  { merged := st.merged,
    cache := st.cache.map fun p => (σ p.1, Entry.ren σ p.2),
    gcache := st.gcache.map fun p => (renId σ p.1, Entry.ren σ p.2),
    augs := st.augs.map fun p => (σ p.1, p.2.map (Entry.ren σ)) }

def Forest.ren (σ : Nat → Nat) (f : Forest) : Forest :=
  { trees := f.trees.map fun p => (σ p.1, Entry.ren σ p.2) }

/-- Result of a conversion, renamed. -/
def pren (σ : Nat → Nat) (p : Entry × TState) : Entry × TState := (Entry.ren σ p.1, TState.ren σ p.2)

@[simp] theorem pren_fst (σ : Nat → Nat) (p : Entry × TState) : (pren σ p).1 = Entry.ren σ p.1 := rfl
@[simp] theorem pren_snd (σ : Nat → Nat) (p : Entry × TState) : (pren σ p).2 = TState.ren σ p.2 := rfl

end Goyang.Lemmas.LoadOrder
