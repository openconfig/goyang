import Goyang.Spec.Session
import Goyang.Lemmas.SessionRun
/-
Helper lemmas for property C18 (Goyang/Props/C18.lean): how `Session.step` and `Session.runFrom`
act on the three components of the state, and what histories can be cut into.
-/
namespace Goyang.Lemmas.Session
open Goyang.Model Goyang.Model.Session Goyang.Spec.Session Goyang.Lemmas.SessionRun

/-! ### the Lean front end -/

/-- `loadText` leaves the registry alone (so ignoring the registry it returns beside an answer other
than `accepted`, as `tryLoadSrc` does, loses nothing), or it answers `accepted` and has added the
statements of the text. -/
theorem loadText_cases (reg : Registry) (name text : List UInt8) :
    (loadText reg name text).1 = reg ∨
    (loadText reg name text).2 = .accepted ∧
      ∃ stmts : List Stmt, stmts.foldlM (fun r s => r.add s) reg = .ok (loadText reg name text).1 := by
  unfold loadText
  repeat' split
  -- one branch of `loadText` accepts, with the fold of `add` as its hypothesis; every other returns `reg`
  all_goals first | exact .inl rfl | exact .inr ⟨rfl, _, by assumption⟩

theorem loadText_rejected_reg (reg : Registry) (name text : List UInt8)
    (h : (loadText reg name text).2 ≠ .accepted) : (loadText reg name text).1 = reg :=
  (loadText_cases reg name text).resolve_right fun h' => h h'.1

attribute [local irreducible] Goyang.Model.loadText

theorem tryLoadSrc_text (reg : Registry) (name text : List UInt8) :
    tryLoadSrc reg (.text name text) = ofLoadText (loadText reg name text) := rfl

theorem tryLoadSrc_stmts (reg : Registry) (f : SrcFile) :
    tryLoadSrc reg (.stmts f true) = tryLoad reg f := rfl

theorem loadSrc_text (reg : Registry) (name text : List UInt8) :
    loadSrc reg (.text name text) = (loadText reg name text).1 := by
  have h := loadText_rejected_reg reg name text
  unfold loadSrc
  rw [tryLoadSrc_text]
  generalize loadText reg name text = p at h ⊢
  obtain ⟨r, res⟩ := p
  cases res
  case accepted => rfl
  all_goals exact (h (fun e => by cases e)).symm

theorem tryLoadSrc_adds (reg r : Registry) (src : Src) (h : tryLoadSrc reg src = .ok r) :
    ∃ stmts : List Stmt, stmts.foldlM (fun r s => r.add s) reg = .ok r := by
  cases src with
  | stmts f ok =>
    cases ok with
    | false => cases h
    | true => exact ⟨f.stmts, foldlM_addTop_ok f.stmts reg r h⟩
  | text name text =>
    have hc := loadText_cases reg name text
    rw [tryLoadSrc_text] at h
    generalize loadText reg name text = p at h hc
    obtain ⟨r', res⟩ := p
    cases res <;> cases h
    rcases hc with hc | ⟨_, hc⟩
    · exact ⟨[], by rw [← hc]; rfl⟩
    · exact hc

theorem loadSrc_stmts (reg : Registry) (f : SrcFile) (h : ∃ r, tryLoad reg f = .ok r) :
    loadSrc reg (.stmts f true) = loadFile reg f := by
  obtain ⟨r, hr⟩ := h
  unfold loadSrc
  rw [tryLoadSrc_stmts, hr, loadFile_of_ok reg r f hr]

/-! ### one step -/

theorem step_load_bad (plug : Registry → Plug) (s : Session) (f : SrcFile) :
    step plug s (.load (.stmts f false)) = (s, .rejected .build) := rfl

theorem step_load_ok (plug : Registry → Plug) (s : Session) (src : Src) (r : Registry) (h : tryLoadSrc s.reg src = .ok r) :
    step plug s (.load src) = ({ s with reg := r }, .accepted) := by
  simp only [step, h]

theorem step_process (plug : Registry → Plug) (s : Session) :
    step plug s .process =
      ({ s with cache := some (processAll s.reg s.opts (plug s.reg)) }, .processed (processAll s.reg s.opts (plug s.reg))) := rfl

/-- A load answers `accepted` or `rejected`, nothing else; accepted exactly when `tryLoadSrc`
gave a new registry. -/
theorem step_load_cases (plug : Registry → Plug) (s : Session) (src : Src) :
    (∃ r, tryLoadSrc s.reg src = .ok r ∧ step plug s (.load src) = ({ s with reg := r }, .accepted)) ∨
    (∃ w, step plug s (.load src) = (s, .rejected w)) := by
  cases h : tryLoadSrc s.reg src with
  | ok r => exact .inl ⟨r, rfl, step_load_ok plug s src r h⟩
  | error e => exact .inr ⟨e, by simp only [step, h]⟩

theorem loadSrc_of_ok (reg r : Registry) (src : Src) (h : tryLoadSrc reg src = .ok r) : loadSrc reg src = r := by
  simp only [loadSrc, h]

/-- A rejected load leaves the state as it was: equal, not merely equivalent. -/
theorem step_rejected_state (plug : Registry → Plug) (s : Session) (src : Src) (w : Reject)
    (h : (step plug s (.load src)).2 = .rejected w) : (step plug s (.load src)).1 = s := by
  rcases step_load_cases plug s src with ⟨r, _, e⟩ | ⟨w', e⟩
  · rw [e] at h; cases h
  · rw [e]

/-- An accepted load: the text was built and `tryLoad` gave the new registry. -/
theorem step_accepted (plug : Registry → Plug) (s : Session) (src : Src)
    (h : (step plug s (.load src)).2 = .accepted) :
    ∃ r, tryLoadSrc s.reg src = .ok r ∧ (step plug s (.load src)).1 = { s with reg := r } := by
  rcases step_load_cases plug s src with ⟨r, hr, e⟩ | ⟨w', e⟩
  · exact ⟨r, hr, by rw [e]⟩
  · rw [e] at h; cases h

theorem step_read (plug : Registry → Plug) (s : Session) (key path : String) :
    (step plug s (.read key path)).1.reg = s.reg ∧ (step plug s (.read key path)).1.opts = s.opts ∧
    (step plug s (.read key path)).2.isReadOut = true := by
  simp only [step]
  repeat' split
  all_goals exact ⟨rfl, rfl, rfl⟩

/-- No op writes the options. -/
theorem step_opts (plug : Registry → Plug) (s : Session) (op : Op) : (step plug s op).1.opts = s.opts := by
  cases op with
  | load src => rcases step_load_cases plug s src with ⟨r, _, e⟩ | ⟨w, e⟩ <;> rw [e]
  | process => rfl
  | read key path => exact (step_read plug s key path).2.1

theorem step_nonread_out (plug : Registry → Plug) (s : Session) (op : Op) (h : op.isRead = false) :
    (step plug s op).2.isReadOut = false := by
  cases op with
  | load src => rcases step_load_cases plug s src with ⟨r, _, e⟩ | ⟨w, e⟩ <;> rw [e] <;> rfl
  | process => rfl
  | read key path => cases h

/-- Two sessions with the same registry and options: `load` and `process` answer the same and
stay that way (the cache is only read by `read`). -/
theorem step_core (plug : Registry → Plug) (s t : Session) (op : Op) (hr : s.reg = t.reg) (ho : s.opts = t.opts)
    (hop : op.isRead = false) :
    (step plug s op).2 = (step plug t op).2 ∧ (step plug s op).1.reg = (step plug t op).1.reg := by
  cases op with
  | read key path => cases hop
  | process => simp only [step_process, hr, ho, and_self]
  | load src =>
    simp only [step, hr]
    cases tryLoadSrc t.reg src with
    | ok r => exact ⟨rfl, rfl⟩
    | error e => exact ⟨rfl, hr⟩

/-! ### histories -/

theorem runFrom_nil (plug : Registry → Plug) (s : Session) : runFrom plug s [] = (s, []) := rfl

theorem runFrom_cons (plug : Registry → Plug) (s : Session) (op : Op) (ops : List Op) :
    runFrom plug s (op :: ops) =
      ((runFrom plug (step plug s op).1 ops).1, (step plug s op).2 :: (runFrom plug (step plug s op).1 ops).2) := rfl

theorem isRun (plug : Registry → Plug) : IsRun (step plug) (runFrom plug) := ⟨runFrom_nil plug, runFrom_cons plug⟩

theorem runFrom_append (plug : Registry → Plug) (s : Session) (h₁ h₂ : List Op) :
    runFrom plug s (h₁ ++ h₂) =
      ((runFrom plug (runFrom plug s h₁).1 h₂).1, (runFrom plug s h₁).2 ++ (runFrom plug (runFrom plug s h₁).1 h₂).2) :=
  (isRun plug).append s h₁ h₂

theorem runFrom_opts (plug : Registry → Plug) (s : Session) (h : List Op) : (runFrom plug s h).1.opts = s.opts := by
  induction h generalizing s with
  | nil => rfl
  | cons op ops ih => rw [runFrom_cons]; simp only [ih, step_opts]

theorem acceptedTexts_read (key path : String) (ops : List Op) (o : Out) (outs : List Out) :
    acceptedTexts (.read key path :: ops) (o :: outs) = acceptedTexts ops outs := by
  cases o <;> rfl

/-- The registry a history leaves behind is the registry obtained by loading, in order, exactly
the texts whose load was answered `accepted`. -/
theorem runFrom_reg (plug : Registry → Plug) (s : Session) (h : List Op) :
    (runFrom plug s h).1.reg = (acceptedTexts h (runFrom plug s h).2).foldl loadSrc s.reg := by
  induction h generalizing s with
  | nil => rfl
  | cons op ops ih =>
    rw [runFrom_cons]
    cases op with
    | load src =>
      rcases step_load_cases plug s src with ⟨r, hr, e⟩ | ⟨w, e⟩
      · simp only [e, acceptedTexts, List.foldl_cons, loadSrc_of_ok _ _ _ hr, ih]
      · simp only [e, acceptedTexts, ih]
    | process => simp only [acceptedTexts, step_process, ih]
    | read key path => rw [acceptedTexts_read, ih, (step_read plug s key path).1]

/-- Loading the accepted texts of a history as a batch, into any session with the registry the
history started from: every one of them is accepted again and the registry reached is the same. -/
theorem batch_replays (plug : Registry → Plug) (h : List Op) (s t : Session) (hst : t.reg = s.reg) :
    (runFrom plug t (loads (acceptedTexts h (runFrom plug s h).2))).1.reg = (runFrom plug s h).1.reg ∧
    (runFrom plug t (loads (acceptedTexts h (runFrom plug s h).2))).2 =
      (acceptedTexts h (runFrom plug s h).2).map fun _ => Out.accepted := by
  induction h generalizing s t with
  | nil => exact ⟨hst, rfl⟩
  | cons op ops ih =>
    rw [runFrom_cons]
    cases op with
    | load src =>
      rcases step_load_cases plug s src with ⟨r, hr, e⟩ | ⟨w, e⟩
      · have ht : step plug t (.load src) = ({ t with reg := r }, .accepted) :=
          step_load_ok plug t src r (hst ▸ hr)
        have := ih { s with reg := r } { t with reg := r } rfl
        simp only [e, acceptedTexts, loads, List.map_cons, runFrom_cons, ht]
        exact ⟨this.1, by rw [← loads, this.2]⟩
      · simp only [e, acceptedTexts]
        exact ih s t hst
    | process =>
      simp only [acceptedTexts, step_process]
      exact ih _ t hst
    | read key path =>
      rw [acceptedTexts_read]
      exact ih _ t (hst.trans (step_read plug s key path).1.symm)

/-- Histories from two sessions with the same registry and options answer every `load` and
`process` alike, whatever reads are interleaved in one of them. -/
theorem runFrom_skip_reads (plug : Registry → Plug) (h : List Op) (s t : Session) (hr : s.reg = t.reg) (ho : s.opts = t.opts) :
    (runFrom plug s h).2.filter (fun o => !o.isReadOut) = (runFrom plug t (h.filter fun op => !op.isRead)).2 ∧
    (runFrom plug s h).1.reg = (runFrom plug t (h.filter fun op => !op.isRead)).1.reg := by
  induction h generalizing s t with
  | nil => exact ⟨rfl, hr⟩
  | cons op ops ih =>
    cases hop : op.isRead with
    | true =>
      cases op with
      | load src => cases hop
      | process => cases hop
      | read key path =>
        obtain ⟨h2, h3, h1⟩ := step_read plug s key path
        simp only [runFrom_cons, List.filter_cons, h1, Op.isRead, Bool.not_true, Bool.false_eq_true, if_false]
        exact ih (step plug s (.read key path)).1 t (h2.trans hr) (h3.trans ho)
    | false =>
      have h1 := step_nonread_out plug s op hop
      have hc := step_core plug s t op hr ho hop
      have h3 : (step plug s op).1.opts = (step plug t op).1.opts := by rw [step_opts, step_opts, ho]
      have := ih (step plug s op).1 (step plug t op).1 hc.2 h3
      simp only [runFrom_cons, List.filter_cons, h1, hop, Bool.not_false, if_true]
      exact ⟨by rw [this.1, hc.1], this.2⟩

end Goyang.Lemmas.Session
