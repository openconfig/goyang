/-
C07 bridge, input predicate `AugPosDistinct`, transport part: from the reference reader
(`Lemmas/AugPosSpec.lean`: sibling statements of a parsed text stand at different (line, col)) through
the refinement of the byte-level parser (`Lemmas/Compose.lean`, C02: `parseText` on the UTF-8 of an
admissible text returns the reference reader's forest, encoded), the conversion to resolver statements
(`Model.toStmt?`) and `Registry.add` to every registry `Model.loadTexts` produces.

The refinement of the byte-level parser is proved for C02-admissible Unicode texts only, hence the
hypothesis `TextsAdmissible`: every text handed to `loadTexts` is the UTF-8 encoding of a text
without the four constructs C02 leaves outside its claim.  (Texts that are rejected need nothing,
but asking it of all of them keeps the statement short.)
-/
import Goyang.Lemmas.BridgeLoad
import Goyang.Lemmas.Compose
import Goyang.Lemmas.AugPosSpec
import Goyang.Lemmas.ListAux

set_option linter.unusedVariables false
open Goyang.Lemmas.RegistryAux (add_mods)
namespace Goyang.Lemmas.AugPosLoad
open Goyang.Model
open Goyang.Lemmas.Bridge Goyang.Lemmas.AugPosSpec
open Goyang.Lemmas.ListSrc (encStmt encStmts)

/-- the (line, col) of a resolver statement -/
abbrev mpos (s : Stmt) : Nat × Nat := (s.line, s.col)

/-- the augment statements directly below `s` stand at pairwise different (line, col) -/
def AugDistinct (s : Stmt) : Prop := ((s.all "augment").map fun c => (c.line, c.col)).Nodup

theorem augPosDistinct_iff (reg : Registry) : AugPosDistinct reg ↔ ∀ m ∈ reg.mods, AugDistinct m.stmt := Iff.rfl

/-- substatements at different positions: so are those with one keyword -/
theorem augDistinct_of_subs (s : Stmt) (h : (s.subs.map mpos).Nodup) : AugDistinct s := by
  unfold AugDistinct Stmt.all
  exact h.sublist (List.filter_sublist.map _)

/-! ### the conversion `toStmt?` keeps positions -/

theorem toStmt?_enc (file : String) (f : List UInt8) (s : Spec.Parse.Stmt) (x : Stmt)
    (h : toStmt? file (encStmt f s) = some x) :
    mpos x = spos s ∧ toStmt?.toStmtL? file (encStmts f s.subs) = some x.subs := by
  obtain ⟨kw, arg, line, col, subs⟩ := s
  unfold encStmt toStmt? at h
  simp only [Option.bind_eq_bind] at h
  cases hk1 : bytesToString? (Utf8.encodeChars kw) with
  | none => simp [hk1] at h
  | some k =>
    cases hk2 : bytesToString? (Utf8.encodeChars (arg.getD [])) with
    | none => simp [hk1, hk2] at h
    | some a =>
      cases hk3 : toStmt?.toStmtL? file (encStmts f subs) with
      | none => simp [hk1, hk2, hk3] at h
      | some ss =>
        simp only [hk1, hk2, hk3, Option.bind_some, Option.some.injEq] at h
        subst h
        exact ⟨by simp [mpos, spos, Stmt.line, Stmt.col], rfl⟩

theorem toStmtL?_enc (file : String) (f : List UInt8) : ∀ (ss : List Spec.Parse.Stmt) (xs : List Stmt),
    toStmt?.toStmtL? file (encStmts f ss) = some xs →
    xs.map mpos = ss.map spos ∧ ∀ x ∈ xs, ∃ s ∈ ss, toStmt? file (encStmt f s) = some x
  | [], xs, h => by
    simp only [encStmts, toStmt?.toStmtL?, Option.some.injEq] at h
    subst h
    exact ⟨rfl, fun x hx => by cases hx⟩
  | s :: rest, xs, h => by
    unfold encStmts toStmt?.toStmtL? at h
    simp only [Option.bind_eq_bind] at h
    cases h1 : toStmt? file (encStmt f s) with
    | none => simp [h1] at h
    | some x =>
      cases h2 : toStmt?.toStmtL? file (encStmts f rest) with
      | none => simp [h1, h2] at h
      | some xs' =>
        simp only [h1, h2, Option.bind_some, Option.some.injEq] at h
        subst h
        obtain ⟨ih1, ih2⟩ := toStmtL?_enc file f rest xs' h2
        refine ⟨?_, ?_⟩
        · rw [List.map_cons, List.map_cons, ih1, (toStmt?_enc file f s x h1).1]
        · intro y hy
          rcases List.mem_cons.mp hy with hy | hy
          · subst hy; exact ⟨s, by simp, h1⟩
          · obtain ⟨s', hs', e⟩ := ih2 y hy
            exact ⟨s', by simp [hs'], e⟩

/-- a converted statement of the reference reader's forest has its augment statements at different positions -/
theorem augDistinct_enc (file : String) (f : List UInt8) (s : Spec.Parse.Stmt) (x : Stmt)
    (hs : SibDistinct s) (h : toStmt? file (encStmt f s) = some x) : AugDistinct x := by
  obtain ⟨_, hnd, _⟩ := hs
  refine augDistinct_of_subs x ?_
  rw [(toStmtL?_enc file f s.subs x.subs (toStmt?_enc file f s x h).2).1]
  exact hnd

/-! ### `Registry.add` and the loop of `Modules.Parse` -/

/-- Adding statements one after the other keeps a property of the loaded statements. -/
theorem foldlM_add_stmts (P : Stmt → Prop) : ∀ (stmts : List Stmt) (r r' : Registry),
    stmts.foldlM (fun r s => r.add s) r = .ok r' → (∀ m ∈ r.mods, P m.stmt) → (∀ s ∈ stmts, P s) →
    ∀ m ∈ r'.mods, P m.stmt
  | [], r, r', h, h1, _ => by
    simp only [List.foldlM_nil, pure, Except.pure, Except.ok.injEq] at h
    subst h; exact h1
  | s :: rest, r, r', h, h1, hk => by
    simp only [List.foldlM_cons, bind, Except.bind] at h
    cases ha : r.add s with
    | error e => rw [ha] at h; cases h
    | ok r1 =>
      rw [ha] at h
      refine foldlM_add_stmts P rest r1 r' h ?_ (fun x hx => hk x (by simp [hx]))
      intro m hm
      rw [add_mods ha] at hm
      rcases List.mem_append.mp hm with h2 | h2
      · exact h1 m h2
      · simp only [List.mem_singleton] at h2; subst h2; exact hk s (by simp)

/-- the texts are UTF-8 encodings of Unicode texts without the constructs C02 excludes -/
def TextsAdmissible (texts : List (List UInt8 × List UInt8)) : Prop :=
  ∀ nt ∈ texts, ∃ t : List Char, nt.2 = Utf8.encodeChars t ∧ Spec.Parse.Admissible t = true

/-- One `Modules.Parse` of an admissible text keeps `AugPosDistinct`, accepted or rejected. -/
theorem loadText_augPos (reg : Registry) (name : List UInt8) (t : List Char)
    (ha : Spec.Parse.Admissible t = true) (h1 : AugPosDistinct reg) :
    AugPosDistinct (loadText reg name (Utf8.encodeChars t)).1 := by
  unfold loadText
  split
  · exact h1
  · exact h1
  · rename_i forest hparse
    split
    · exact h1
    · split
      · exact h1
      · split
        · exact h1
        · rename_i fname _
          split
          · exact h1
          · rename_i stmts hst
            split
            · rename_i r hfold
              obtain ⟨ss, hp, hf⟩ := (Compose.parseText_ok_iff name t ha forest).1 hparse
              subst hf
              obtain ⟨_, hsib⟩ := parse_sibDistinct t ss hp
              obtain ⟨_, hsrc⟩ := toStmtL?_enc fname name ss stmts hst
              refine foldlM_add_stmts AugDistinct stmts reg r hfold h1 ?_
              intro x hx
              obtain ⟨s, hs, e⟩ := hsrc x hx
              exact augDistinct_enc fname name s x (hsib s hs) e
            · exact h1

/-- **Every registry loaded from admissible raw texts has its augment statements at different
positions.** -/
theorem augPosDistinct_loadTexts (texts : List (List UInt8 × List UInt8)) (h : TextsAdmissible texts) :
    AugPosDistinct (loadTexts texts).1 := by
  unfold loadTexts
  refine ListAux.foldl_inv (fun acc : Registry × List LoadResult => AugPosDistinct acc.1) _ _ _
    (fun m hm => by cases hm) ?_
  rintro ⟨r, res⟩ nt hnt h1
  obtain ⟨t, e, ha⟩ := h nt hnt
  simp only
  rw [e]
  exact loadText_augPos r nt.1 t ha h1

end Goyang.Lemmas.AugPosLoad
