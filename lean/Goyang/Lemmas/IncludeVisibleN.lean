import Goyang.Lemmas.IncludeVisible
/-
C13, third sentence (include), NESTED includes: the results of `IncludeBind` (binding
correspondence) and `IncludeVisible` (completeness of the search order, visibility from distinct
grouping names) from the general fields of `Spec.Include.RegsOK` only — `inc_resolve` (every include
statement of a part resolves to a submodule of the split) and `inc_cover` (every submodule is reached
from the owner through include statements).  Nothing here uses the one-level fields of `RegsOK`
(the owner includes exactly the submodules, submodules include nothing).

1. one step of the search (`Spec.Uses.Step`) from a part leads to a part (`step_partN`,
   `reach_partN`); the binding correspondence restated on top of it (`bind_partN`, `bind_otherN`);
2. generic facts about the search order of any registry: a visit marks every (sub)module it lists
   (`visitList_marks`); when the depth bound exceeds the number of loaded (sub)modules whose name is
   not marked (`Lemmas.Uses.unseen`), everything `next` to a (sub)module in the output of a visit is
   marked afterwards (`visit_closed`);
3. the split: marks are justified (`visit_justN`), hence the search order from a part is closed under
   `next` (`searchOrder_closed`); it holds the owner, hence (induction on `IncReach`) every part
   (`searchOrder_completeN`);
4. `visible_of_nodupN`.

Core Lean only.
-/
namespace Goyang.Lemmas.IncludeVisibleN
open Goyang.Model Goyang.Spec.Uses Goyang.Spec.Include Goyang.Lemmas.Uses Goyang.Lemmas.IncludeBind
open Goyang.Lemmas.IncludeLink (owner_part sub_part part_cases part_imports)
open Goyang.Lemmas.IncludeVisible

/-! ## 1. steps from a part; the binding correspondence -/

section parts
variable {s : Split} {R R' : Registry} {L L' : List Nat}

/-- One step (include, belongs-to) from a part of the split set leads to a part. -/
theorem step_partN (ht : TextOK s) (hr : RegsOK s R R') {Q t : Mod}
    (hQ : Q ∈ s.parts) (h : Spec.Uses.Step R' L' Q t) : t ∈ s.parts := by
  cases h with
  | @incl i hm hl hi hf =>
    obtain ⟨sb, hsb, e⟩ := hr.inc_resolve Q hQ i hi
    rw [hf] at e
    cases e
    exact sub_part hsb
  | owner hm hs hb =>
    rcases part_cases hQ with rfl | hsb
    · rw [owner_isSub ht] at hs; cases hs
    · rw [ht.sub_belongs Q hsb, Option.bind_some, getModule_m hr] at hb
      cases hb
      exact owner_part s

/-- Everything reached from a part is a part. -/
theorem reach_partN (ht : TextOK s) (hr : RegsOK s R R') {P x : Mod}
    (hP : P ∈ s.parts) (h : Reach R' L' P x) : x ∈ s.parts := by
  induction h with
  | refl => exact hP
  | tail _ hs ih => exact step_partN ht hr ih hs

/-- Top-level binding from a part of the split set against top-level binding in `m`. -/
theorem bindTop_partN (ht : TextOK s) (hr : RegsOK s R R') (hv : Visible s R' L') {P : Mod} (hP : P ∈ s.parts)
    (a : String) : BindRel s R (bindTop R' L' P a) (bindTop R L s.m a) := by
  rw [bindTop_R hr hr.m_mem, found_cons]
  cases hd : declares s.m.stmt a with
  | none =>
    have : bindTop R' L' P a = none := by
      rw [bindTop_eq_found]
      refine found_none fun x hx => ?_
      exact part_declares_none ht (reach_partN ht hr hP (visit_reach R' L' _ P [] x hx)) hd
    rw [this]
    exact bindRel_none s R
  | some g₀ =>
    have hmem : g₀ ∈ s.m.stmt.all "grouping" := by
      unfold declares at hd
      exact List.mem_of_find?_eq_some hd
    have harg : g₀.arg = a := (declares_spec hd).2.2
    obtain ⟨Q, hQ, hb⟩ := hv P hP g₀ hmem
    rw [harg, hd] at hb
    rw [hb]
    exact bindRel_part (inner := []) hQ g₀

/-- What an import statement of a part resp. of `m` leads to. -/
theorem import_relN (ht : TextOK s) (hr : RegsOK s R R') (hv : Visible s R' L') (i : Stmt) (a : String) :
    BindRel s R ((R'.findModule false i).bind fun x => bindTop R' L' x a)
      ((R.findModule false i).bind fun x => bindTop R L x a) := by
  rw [IncludeLink.findModule_false_split hr]
  cases hf : R.findModule false i with
  | none => exact bindRel_none s R
  | some y =>
    have hy : y ∈ R.mods := RegistryAux.findModule_mem hf
    simp only [Option.map_some, Option.bind_some]
    by_cases h : y.seq = s.m.seq
    · have : y = s.m := IncludeLink.eq_of_seq_eq hr.seqs_nodup hy hr.m_mem h
      subst this
      rw [IncludeLink.repl_m]
      exact bindTop_partN ht hr hv (owner_part s) a
    · rw [IncludeLink.repl_of_ne h]
      exact bindTop_other hr hy h a

end parts

/-- **The binding of a grouping name from a part** of the split set corresponds to the binding of
the same name at the same inner place of the unsplit module (nested includes allowed). -/
theorem bind_partN (s : Split) (R R' : Registry) (L L' : List Nat) (ht : TextOK s) (hr : RegsOK s R R')
    (hl : LinkOK s R L L') (hv : Visible s R' L') (P : Mod) (hP : P ∈ s.parts) (inner : List Stmt) (name : String) :
    BindRel s R (bindGrouping R' L' P inner name) (bindGrouping R L s.m inner name) := by
  unfold bindGrouping
  simp only []
  rw [localName_congr (part_prefix ht hP) name]
  generalize localName s.m name = nm
  cases hb : isBare nm with
  | true =>
    simp only [if_true]
    rcases bindLexical_cases nm inner with h | ⟨g, sc, h⟩
    · rw [h P, h s.m]
      exact bindTop_partN ht hr hv hP nm
    · rw [h P, h s.m]
      exact bindRel_part hP g sc
  | false =>
    simp only [Bool.false_eq_true, if_false]
    rw [part_isModuleStmt ht hP, part_linked hr hl hP, m_isModuleStmt ht, hl.m_linked, part_imports ht hP]
    simp only [Bool.and_self, if_true]
    refine findSome?_rel (fun i => ?_) _
    split
    · exact import_relN ht hr hv i _
    · exact bindRel_none s R

/-- **The binding of a grouping name from another module** is the same in the two registries, up to
the correspondence of places (nested includes allowed). -/
theorem bind_otherN (s : Split) (R R' : Registry) (L L' : List Nat) (ht : TextOK s) (hr : RegsOK s R R')
    (hl : LinkOK s R L L') (hv : Visible s R' L') (x : Mod) (hx : x ∈ R.mods) (hne : x.seq ≠ s.m.seq)
    (inner : List Stmt) (name : String) :
    BindRel s R (bindGrouping R' L' x inner name) (bindGrouping R L x inner name) := by
  unfold bindGrouping
  simp only []
  generalize localName x name = nm
  cases hb : isBare nm with
  | true =>
    simp only [if_true]
    rcases bindLexical_cases nm inner with h | ⟨g, sc, h⟩
    · rw [h x]
      exact bindTop_other hr hx hne nm
    · rw [h x]
      exact bindRel_other hx hne g _
  | false =>
    simp only [Bool.false_eq_true, if_false]
    rw [hl.same x hx]
    cases (isModuleStmt x.stmt && L.contains x.seq) with
    | false => exact bindRel_none s R
    | true =>
      simp only [if_true]
      refine findSome?_rel (fun i => ?_) _
      split
      · exact import_relN ht hr hv i _
      · exact bindRel_none s R

/-! ## 2. the search order of any registry: what a visit marks -/

/-- Where the whole module continues is a loaded (sub)module. -/
theorem next_mem_mods {reg : Registry} {linked : List Nat} {m t : Mod} (h : t ∈ next reg linked m) :
    t ∈ reg.mods := by
  cases next_step h with
  | incl _ _ _ hf => exact RegistryAux.findModule_mem hf
  | owner _ _ hb => exact RegistryAux.belongsTo_mem hb

/-- Every listed (sub)module is marked after the visits of the list. -/
theorem visitList_marks (V : Mod → List String → List Mod × List String) (hmono : ∀ t s, s ⊆ (V t s).2) :
    ∀ (ts : List Mod) (seen : List String), ∀ t ∈ ts, t.name ∈ (visitList V ts seen).2
  | [], _, t, h => by cases h
  | t0 :: ts, seen, t, htm => by
    by_cases hc : seen.contains t0.name = true
    · rw [visitList_cons, if_pos hc]
      rcases List.mem_cons.1 htm with e | h'
      · rw [e]
        exact visitList_subset V hmono ts seen (by simpa using hc)
      · exact visitList_marks V hmono ts seen t h'
    · rw [visitList_cons, if_neg hc]
      simp only
      rcases List.mem_cons.1 htm with e | h'
      · rw [e]
        exact visitList_subset V hmono ts _ (hmono t0 _ (List.mem_append_right _ (List.mem_singleton.2 rfl)))
      · exact visitList_marks V hmono ts _ t h'

/-- Closure, list form: when each single visit with fewer than `d` unmarked loaded names leaves
everything `next` to its output marked, so does `visitList` with fewer than `d + 1`. -/
theorem visitList_closed (reg : Registry) (linked : List Nat) (V : Mod → List String → List Mod × List String)
    (d : Nat) (hmono : ∀ t s, s ⊆ (V t s).2)
    (hV : ∀ t seen, unseen reg seen < d → ∀ x ∈ (V t seen).1, ∀ y ∈ next reg linked x, y.name ∈ (V t seen).2) :
    ∀ (ts : List Mod) (seen : List String), (∀ t ∈ ts, t ∈ reg.mods) → unseen reg seen < d + 1 →
      ∀ x ∈ (visitList V ts seen).1, ∀ y ∈ next reg linked x, y.name ∈ (visitList V ts seen).2
  | [], seen, _, _, x, hx, _, _ => by
    simp only [visitList] at hx
    cases hx
  | t :: ts, seen, hts, hu, x, hx, y, hy => by
    have hts' : ∀ z ∈ ts, z ∈ reg.mods := fun z hz => hts z (List.mem_cons_of_mem _ hz)
    by_cases hc : seen.contains t.name = true
    · rw [visitList_cons, if_pos hc] at hx ⊢
      exact visitList_closed reg linked V d hmono hV ts seen hts' hu x hx y hy
    · rw [visitList_cons, if_neg hc] at hx ⊢
      simp only at hx ⊢
      have hlt : unseen reg (seen ++ [t.name]) < unseen reg seen :=
        unseen_lt (hts t (List.mem_cons_self ..)) (by simpa using hc)
      rcases List.mem_append.1 hx with h1 | h1
      · exact visitList_subset V hmono ts _ (hV t _ (by omega) x h1 y hy)
      · have hsub : seen ⊆ (V t (seen ++ [t.name])).2 :=
          fun z hz => hmono t _ (List.mem_append_left _ hz)
        have hu' : unseen reg (V t (seen ++ [t.name])).2 < d + 1 :=
          Nat.lt_of_le_of_lt (unseen_mono hsub) hu
        exact visitList_closed reg linked V d hmono hV ts _ hts' hu' x h1 y hy

/-- **Closure of a visit**: when the depth bound exceeds the number of loaded (sub)modules whose
name is not marked, every (sub)module `next` to one in the output of the visit is marked
afterwards (no nested visit is cut short by the depth bound: each one marks a new name). -/
theorem visit_closed (reg : Registry) (linked : List Nat) :
    ∀ (d : Nat) (m : Mod) (seen : List String), unseen reg seen < d →
      ∀ x ∈ (visit reg linked d m seen).1, ∀ y ∈ next reg linked x, y.name ∈ (visit reg linked d m seen).2
  | 0, _, _, hu, _, _, _, _ => by omega
  | d + 1, m, seen, hu, x, hx, y, hy => by
    rw [visit_succ] at hx ⊢
    simp only at hx ⊢
    rcases List.mem_cons.1 hx with e | h1
    · rw [e] at hy
      exact visitList_marks (visit reg linked d) (visit_subset reg linked d) _ seen y hy
    · exact visitList_closed reg linked (visit reg linked d) d (visit_subset reg linked d)
        (fun t seen' hu' => visit_closed reg linked d t seen' hu') (next reg linked m) seen
        (fun t ht => next_mem_mods ht) hu x h1 y hy

/-! ## 3. the search order of a split -/

section split
variable {s : Split} {R R' : Registry} {L L' : List Nat}

theorem next_partN (ht : TextOK s) (hr : RegsOK s R R') {P : Mod} (hP : P ∈ s.parts) :
    ∀ t ∈ next R' L' P, t ∈ s.parts :=
  fun _ htn => step_partN ht hr hP (next_step htn)

/-- The target of an include statement of a part is `next` to the part. -/
theorem next_of_includes (ht : TextOK s) (hr : RegsOK s R R') (hl : LinkOK s R L L') {P T : Mod}
    (hP : P ∈ s.parts) (h : Includes R' P T) : T ∈ next R' L' P := by
  obtain ⟨a, ha, hf⟩ := h
  unfold next
  rw [part_isModuleStmt ht hP, part_linked hr hl hP]
  simp only [if_true]
  exact List.mem_append_left _ (List.mem_filterMap.2 ⟨a, ha, hf⟩)

/-- The owner is `next` to every submodule. -/
theorem next_of_sub (ht : TextOK s) (hr : RegsOK s R R') {sb : Mod} (h : sb ∈ s.subs) :
    s.owner ∈ next R' L' sb := by
  unfold next
  rw [part_isModuleStmt ht (sub_part h), sub_isSub ht h, ht.sub_belongs sb h, Option.bind_some, getModule_m hr]
  simp

/-- **Marks are justified**: a part whose name is marked after a visit from a part was marked
before or is in the output of the visit (whatever the depth bound). -/
theorem visit_justN (ht : TextOK s) (hr : RegsOK s R R') :
    ∀ (d : Nat) (P : Mod), P ∈ s.parts → ∀ (seen : List String), ∀ x ∈ s.parts,
      x.name ∈ (visit R' L' d P seen).2 → x.name ∈ seen ∨ x ∈ (visit R' L' d P seen).1
  | 0, P, _, seen, x, _, h => by
    simp only [visit] at h
    exact Or.inl h
  | d + 1, P, hP, seen, x, hx, h => by
    rw [visit_succ] at h ⊢
    simp only at h ⊢
    rcases visitList_just ht hr (visit R' L' d) (visit_head R' L' d)
        (fun t ht' seen' => visit_justN ht hr d t ht' seen') (next R' L' P) seen
        (next_partN ht hr hP) x hx h with h1 | h1
    · exact Or.inl h1
    · exact Or.inr (List.mem_cons_of_mem _ h1)

/-- Everything in the search order from a part is a part. -/
theorem searchOrder_parts (ht : TextOK s) (hr : RegsOK s R R') {P : Mod} (hP : P ∈ s.parts) :
    ∀ x ∈ searchOrder R' L' P, x ∈ s.parts :=
  fun x hx => reach_partN ht hr hP (visit_reach R' L' _ P [] x hx)

/-- The search order from a part is closed under `next`. -/
theorem searchOrder_closed (ht : TextOK s) (hr : RegsOK s R R') {P x t : Mod} (hP : P ∈ s.parts)
    (hx : x ∈ searchOrder R' L' P) (htn : t ∈ next R' L' x) : t ∈ searchOrder R' L' P := by
  have hxp : x ∈ s.parts := searchOrder_parts ht hr hP x hx
  have htp : t ∈ s.parts := next_partN ht hr hxp t htn
  unfold searchOrder at hx ⊢
  have hu : unseen R' [] < R'.mods.length + 1 := Nat.lt_succ_of_le (unseen_nil_le R')
  have hm := visit_closed R' L' _ P [] hu x hx t htn
  rcases visit_justN ht hr _ P hP [] t htp hm with h | h
  · cases h
  · exact h

/-- Everything reached through include statements from a part in the search order is in it. -/
theorem searchOrder_incReach (ht : TextOK s) (hr : RegsOK s R R') (hl : LinkOK s R L L') {P : Mod}
    (hP : P ∈ s.parts) {A Q : Mod} (h : IncReach R' A Q) (hA : A ∈ searchOrder R' L' P) :
    Q ∈ searchOrder R' L' P := by
  induction h with
  | refl => exact hA
  | step _ hi ih =>
    exact searchOrder_closed ht hr hP ih
      (next_of_includes ht hr hl (searchOrder_parts ht hr hP _ ih) hi)

/-- **Completeness of the search order** (nested includes): every part is in the search order of
every part. -/
theorem searchOrder_completeN (ht : TextOK s) (hr : RegsOK s R R') (hl : LinkOK s R L L') {P Q : Mod}
    (hP : P ∈ s.parts) (hQ : Q ∈ s.parts) : Q ∈ searchOrder R' L' P := by
  have hPin : P ∈ searchOrder R' L' P := visit_head R' L' _ P []
  have hown : s.owner ∈ searchOrder R' L' P := by
    rcases part_cases hP with e | hP'
    · rw [← e]; exact hPin
    · exact searchOrder_closed ht hr hP hPin (next_of_sub ht hr hP')
  rcases part_cases hQ with e | hQ'
  · rw [e]; exact hown
  · exact searchOrder_incReach ht hr hl hP (hr.inc_cover Q hQ') hown

end split

/-! ## 4. the visibility condition -/

/-- **Visibility follows from distinct grouping names** (nested includes).  When the top-level
grouping names of the unsplit module are pairwise distinct, every part of the split sees every
top-level grouping of `m` — as the statement `m` declares under that name, at the top level of a
part. -/
theorem visible_of_nodupN (s : Split) (R R' : Registry) (L L' : List Nat) (ht : TextOK s) (hr : RegsOK s R R')
    (hl : LinkOK s R L L') (hnd : ((s.m.stmt.all "grouping").map (·.arg)).Nodup) : Visible s R' L' := by
  intro P hP g hg
  have hdm : declares s.m.stmt g.arg = some g := by
    unfold declares
    exact IncludeLink.find?_key_of_nodup (fun y : Stmt => y.arg) hnd hg
  rw [hdm, Option.getD_some, bindTop_eq_found]
  obtain ⟨Q₀, hQ₀, hgQ⟩ : ∃ Q₀ ∈ s.parts, g ∈ Q₀.stmt.all "grouping" := by
    have h1 := (ht.body "grouping" (by decide)).mem_iff.1 hg
    obtain ⟨Q, hQ, h⟩ := List.mem_flatMap.1 h1
    exact ⟨Q, hQ, h⟩
  exact found_of_mem ht hnd hg hgQ _ (searchOrder_parts ht hr hP) (searchOrder_completeN ht hr hl hP hQ₀)

end Goyang.Lemmas.IncludeVisibleN
