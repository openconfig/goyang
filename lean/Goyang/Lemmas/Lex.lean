/-
Totality of the lexer model for arbitrary byte input: no loop runs out of the fuel the model
gives it, no slice is taken out of range (`fault` stays `none`), and every token handed out
costs the measure `rank` at least one (the fuel bound of the parser rests on this).  Last section: the
lexer only ever appends to `errout` (`Extends`).
-/
import Goyang.Model.Lex
import Goyang.Lemmas.Utf8

namespace Goyang.Lemmas.Lex
open Goyang.Model.Lex Goyang.Model.Utf8 Goyang.Lemmas.Utf8

/-! ## `next` -/

theorem next_nil (l : Lexer) (h : l.rest = []) : next l = (eofRune, { l with width := 0 }) := by
  unfold next; rw [h]

theorem next_cons (l : Lexer) (h : l.rest ≠ []) :
    (next l).1 = (decodeRune l.rest).1 ∧
    (next l).2.before = (l.rest.take (decodeRune l.rest).2).reverse ++ l.before ∧
    (next l).2.rest = l.rest.drop (decodeRune l.rest).2 ∧
    (next l).2.width = (decodeRune l.rest).2 := by
  unfold next
  split
  · rename_i h'; exact absurd h' h
  · simp only
    split
    · simp
    · split <;> simp

theorem next_fst_ne_eof (l : Lexer) (h : l.rest ≠ []) : (next l).1 ≠ eofRune := by
  rw [(next_cons l h).1]
  have := decodeRune_lt l.rest
  unfold eofRune; omega

/-- the fields cursor movement does not touch -/
structure Frame (l l' : Lexer) : Prop where
  errout : l'.errout = l.errout
  errcnt : l'.errcnt = l.errcnt
  file : l'.file = l.file
  start : l'.start = l.start
  inPattern : l'.inPattern = l.inPattern
  items : l'.items = l.items
  scol : l'.scol = l.scol
  sline : l'.sline = l.sline
  state : l'.state = l.state
  fault : l'.fault = l.fault

theorem Frame.refl (l : Lexer) : Frame l l := ⟨rfl, rfl, rfl, rfl, rfl, rfl, rfl, rfl, rfl, rfl⟩

theorem Frame.trans {a b c : Lexer} (h1 : Frame a b) (h2 : Frame b c) : Frame a c :=
  ⟨h2.errout.trans h1.errout, h2.errcnt.trans h1.errcnt, h2.file.trans h1.file, h2.start.trans h1.start,
   h2.inPattern.trans h1.inPattern, h2.items.trans h1.items, h2.scol.trans h1.scol, h2.sline.trans h1.sline,
   h2.state.trans h1.state, h2.fault.trans h1.fault⟩

theorem next_frame (l : Lexer) : Frame l (next l).2 := by
  unfold next
  split
  · exact ⟨rfl, rfl, rfl, rfl, rfl, rfl, rfl, rfl, rfl, rfl⟩
  · simp only
    split
    · exact ⟨rfl, rfl, rfl, rfl, rfl, rfl, rfl, rfl, rfl, rfl⟩
    · split <;> exact ⟨rfl, rfl, rfl, rfl, rfl, rfl, rfl, rfl, rfl, rfl⟩

/-- bytes are only moved from `rest` to `before` -/
theorem next_move (l : Lexer) :
    (next l).2.before.length = l.before.length + (next l).2.width ∧
    (next l).2.rest.length + (next l).2.width = l.rest.length ∧
    (l.rest ≠ [] → 1 ≤ (next l).2.width) := by
  by_cases h : l.rest = []
  · rw [next_nil l h]; simp [h]
  · obtain ⟨_, hb, hr, hw⟩ := next_cons l h
    have hd := decodeRune_width l.rest
    rw [hb, hr, hw]
    simp only [List.length_append, List.length_reverse, List.length_take, List.length_drop]
    refine ⟨by omega, by omega, fun _ => hd.2 h⟩

/-! ## `backup`, `peek` -/

theorem backup_spec (l : Lexer) (h : l.width ≤ l.before.length) :
    (backup l).before = l.before.drop l.width ∧
    (backup l).rest = (l.before.take l.width).reverse ++ l.rest ∧
    (backup l).width = l.width ∧
    Frame l (backup l) := by
  unfold backup Lexer.pos
  rw [if_neg (by omega)]
  simp only
  split
  · split <;> exact ⟨rfl, rfl, rfl, ⟨rfl, rfl, rfl, rfl, rfl, rfl, rfl, rfl, rfl, rfl⟩⟩
  · exact ⟨rfl, rfl, rfl, ⟨rfl, rfl, rfl, rfl, rfl, rfl, rfl, rfl, rfl, rfl⟩⟩

/-- `next` followed by `backup` puts the cursor back -/
theorem backup_next (l : Lexer) :
    (backup (next l).2).before = l.before ∧ (backup (next l).2).rest = l.rest ∧
    Frame l (backup (next l).2) := by
  have hm := next_move l
  have hb := backup_spec (next l).2 (by omega)
  refine ⟨?_, ?_, (next_frame l).trans hb.2.2.2⟩
  · rw [hb.1]
    by_cases h : l.rest = []
    · rw [next_nil l h]; simp
    · obtain ⟨_, hb', _, hw⟩ := next_cons l h
      have hd := decodeRune_width l.rest
      rw [hb', hw]
      rw [List.drop_append_of_le_length (by simp; omega)]
      rw [List.drop_of_length_le (by simp; omega)]
      simp
  · rw [hb.2.1]
    by_cases h : l.rest = []
    · rw [next_nil l h]; simp [h]
    · obtain ⟨_, hb', hr, hw⟩ := next_cons l h
      have hd := decodeRune_width l.rest
      rw [hb', hw, hr]
      rw [List.take_append_of_le_length (by simp; omega)]
      rw [List.take_of_length_le (by simp; omega)]
      simp

theorem peek_fst (l : Lexer) : (peek l).1 = (next l).1 := rfl

theorem peek_snd (l : Lexer) :
    (peek l).2.before = l.before ∧ (peek l).2.rest = l.rest ∧ Frame l (peek l).2 := backup_next l

theorem next_fst_congr (a b : Lexer) (h : a.rest = b.rest) : (next a).1 = (next b).1 := by
  unfold next
  rw [h]
  split
  · rfl
  · simp only
    split
    · rfl
    · split <;> rfl

theorem next_peek (l : Lexer) : (next (peek l).2).1 = (next l).1 := next_fst_congr _ l (peek_snd l).2.1

/-! ## `acceptRun` -/

theorem acceptRun_rule {P : Lexer → Prop} (step : ∀ l, P l → isSpaceRune (next l).1 = true → P (next l).2)
    (l : Lexer) (h : P l) : ∃ l0, (acceptRun l).2 = (peek l0).2 ∧ isSpaceRune (next l0).1 = false ∧ P l0 := by
  have loop : ∀ (f : Nat) (ret : Bool) (l : Lexer), l.rest.length + 1 ≤ f → P l →
      ∃ l0, (acceptRunLoop f ret l).2 = (next l0).2 ∧ isSpaceRune (next l0).1 = false ∧ P l0 := by
    intro f
    induction f with
    | zero => intro ret l h; omega
    | succ f ih =>
      intro ret l hf h
      unfold acceptRunLoop
      simp only
      split
      · rename_i hs
        have hm := next_move l
        have hne : l.rest ≠ [] := by
          intro he
          rw [next_nil l he] at hs
          simp [isSpaceRune, eofRune] at hs
        exact ih true (next l).2 (by have := hm.2.2 hne; omega) (step l h hs)
      · rename_i hs
        exact ⟨l, rfl, by simpa using hs, h⟩
  obtain ⟨l0, h1, h2, h3⟩ := loop (l.rest.length + 1) false l (Nat.le_refl _) h
  refine ⟨l0, ?_, h2, h3⟩
  show backup (acceptRunLoop (l.rest.length + 1) false l).2 = backup (next l0).2
  rw [h1]

/-! ## the measure -/

/-- bytes not yet consumed (`input[start:]`) -/
def unread (l : Lexer) : Nat := l.rest.length + (l.before.length - l.start)

def weight : LState → Nat
  | .done => 0
  | _ => 1

/-- queued tokens + unconsumed bytes + 1 while the lexer is running: every token handed out lowers it -/
def rank (l : Lexer) : Nat := l.items.length + unread l + weight l.state

structure Ok (l : Lexer) : Prop where
  fault : l.fault = .none
  start_le : l.start ≤ l.before.length

/-- the cursor moved forward over the input, nothing else happened -/
structure Moves (l l' : Lexer) : Prop where
  frame : Frame l l'
  total : l'.before.length + l'.rest.length = l.before.length + l.rest.length
  fwd : l.before.length ≤ l'.before.length

theorem Moves.refl (l : Lexer) : Moves l l := ⟨Frame.refl l, rfl, Nat.le_refl _⟩

theorem Moves.trans {a b c : Lexer} (h1 : Moves a b) (h2 : Moves b c) : Moves a c :=
  ⟨h1.frame.trans h2.frame, by have := h1.total; have := h2.total; omega, by have := h1.fwd; have := h2.fwd; omega⟩

theorem Moves.ok {l l' : Lexer} (h : Moves l l') (hok : Ok l) : Ok l' :=
  ⟨by rw [h.frame.fault]; exact hok.fault, by rw [h.frame.start]; have := hok.start_le; have := h.fwd; omega⟩

theorem Moves.rest_le {l l' : Lexer} (h : Moves l l') : l'.rest.length ≤ l.rest.length := by
  have := h.total; have := h.fwd; omega

theorem Moves.unread_eq {l l' : Lexer} (h : Moves l l') (hok : Ok l) : Lex.unread l' = Lex.unread l := by
  unfold Lex.unread; rw [h.frame.start]; have := h.total; have := h.fwd; have := hok.start_le; omega

theorem Moves.rank_eq {l l' : Lexer} (h : Moves l l') (hok : Ok l) : Lex.rank l' = Lex.rank l := by
  unfold Lex.rank; rw [h.unread_eq hok, h.frame.items, h.frame.state]

theorem next_moves (l : Lexer) : Moves l (next l).2 := by
  have := next_move l
  exact ⟨next_frame l, by omega, by omega⟩

theorem peek_moves (l : Lexer) : Moves l (peek l).2 := by
  have h := peek_snd l
  exact ⟨h.2.2, by rw [h.1, h.2.1], by rw [h.1]; exact Nat.le_refl _⟩

theorem acceptRun_moves (l : Lexer) : Moves l (acceptRun l).2 := by
  obtain ⟨l0, e, _, h⟩ := acceptRun_rule (P := Moves l) (fun x h _ => h.trans (next_moves x)) l (Moves.refl l)
  rw [e]
  exact h.trans (peek_moves l0)

theorem acceptRun_nsp (l : Lexer) : isSpaceRune (next (acceptRun l).2).1 = false := by
  obtain ⟨l0, e, h, _⟩ := acceptRun_rule (P := fun _ => True) (fun _ _ _ => trivial) l trivial
  rw [e, next_peek]
  exact h

/-! ## `updateCursor`, `skipTo` -/

theorem cursorStep_frame (l : Lexer) (r : Nat) :
    Frame l (cursorStep l r) ∧ (cursorStep l r).before = l.before ∧ (cursorStep l r).rest = l.rest := by
  unfold cursorStep
  split <;> exact ⟨⟨rfl, rfl, rfl, rfl, rfl, rfl, rfl, rfl, rfl, rfl⟩, rfl, rfl⟩

theorem foldl_cursor_frame (rs : List Nat) : ∀ (l : Lexer),
    Frame l (rs.foldl cursorStep l) ∧ (rs.foldl cursorStep l).before = l.before ∧
    (rs.foldl cursorStep l).rest = l.rest := by
  induction rs with
  | nil => intro l; exact ⟨Frame.refl l, rfl, rfl⟩
  | cons r rs ih =>
    intro l
    simp only [List.foldl_cons]
    obtain ⟨h1, h2, h3⟩ := ih (cursorStep l r)
    obtain ⟨g1, g2, g3⟩ := cursorStep_frame l r
    exact ⟨g1.trans h1, h2.trans g2, h3.trans g3⟩

theorem updateCursor_spec (n : Nat) (l : Lexer) :
    Frame l (updateCursor n l) ∧ (updateCursor n l).before = (l.rest.take n).reverse ++ l.before ∧
    (updateCursor n l).rest = l.rest.drop n := by
  unfold updateCursor
  simp only
  split
  · have h := foldl_cursor_frame (runes (afterLastNL (l.rest.take n)))
      { l with before := (l.rest.take n).reverse ++ l.before, rest := l.rest.drop n, width := n,
               line := l.line + ↑(List.count 10 (l.rest.take n)), col := 0, tcol := 0 }
    exact ⟨⟨h.1.errout, h.1.errcnt, h.1.file, h.1.start, h.1.inPattern, h.1.items, h.1.scol, h.1.sline,
            h.1.state, h.1.fault⟩, h.2.1, h.2.2⟩
  · have h := foldl_cursor_frame (runes (afterLastNL (l.rest.take n)))
      { l with before := (l.rest.take n).reverse ++ l.before, rest := l.rest.drop n, width := n }
    exact ⟨⟨h.1.errout, h.1.errcnt, h.1.file, h.1.start, h.1.inPattern, h.1.items, h.1.scol, h.1.sline,
            h.1.state, h.1.fault⟩, h.2.1, h.2.2⟩

theorem updateCursor_moves (n : Nat) (l : Lexer) : Moves l (updateCursor n l) := by
  obtain ⟨h1, h2, h3⟩ := updateCursor_spec n l
  refine ⟨h1, ?_, ?_⟩
  · rw [h2, h3]; simp; omega
  · rw [h2]; simp

theorem skipTo_moves (pat : List UInt8) (l : Lexer) : Moves l (skipTo pat l).2 := by
  unfold skipTo
  split
  · exact updateCursor_moves _ l
  · exact Moves.refl l

/-! ## emitting and reporting -/

theorem emitText_spec (c : Code) (text : List UInt8) (l : Lexer) :
    (emitText c text l).fault = l.fault ∧ (emitText c text l).before = l.before ∧
    (emitText c text l).rest = l.rest ∧ (emitText c text l).start = l.before.length ∧
    (emitText c text l).state = l.state ∧ (emitText c text l).items.length ≤ l.items.length + 1 ∧
    (emitText c text l).items ≠ [] ∧ (emitText c text l).errout = l.errout ∧
    (emitText c text l).errcnt = l.errcnt := by
  unfold emitText consume Lexer.pos
  simp only
  split
  · simp
  · rename_i h
    refine ⟨rfl, rfl, rfl, rfl, rfl, by omega, ?_, rfl, rfl⟩
    intro he; rw [he] at h; simp [maxErrors] at h

theorem emit_spec (c : Code) (l : Lexer) (h : l.start ≤ l.before.length) :
    (emit c l).fault = l.fault ∧ (emit c l).before = l.before ∧
    (emit c l).rest = l.rest ∧ (emit c l).start = l.before.length ∧
    (emit c l).state = l.state ∧ (emit c l).items.length ≤ l.items.length + 1 ∧
    (emit c l).items ≠ [] ∧ (emit c l).errout = l.errout ∧ (emit c l).errcnt = l.errcnt := by
  unfold emit Lexer.pos
  rw [if_neg (by omega)]
  exact emitText_spec _ _ l

theorem adderror_spec (e : ErrLine) (l : Lexer) :
    (adderror e l).fault = l.fault ∧ (adderror e l).state = l.state ∧ (adderror e l).items = l.items ∧
    (((adderror e l).before = l.before ∧ (adderror e l).rest = l.rest ∧ (adderror e l).start = l.start) ∨
     ((adderror e l).before = [] ∧ (adderror e l).rest = [] ∧ (adderror e l).start = 0)) := by
  unfold adderror
  split
  · exact ⟨rfl, rfl, rfl, Or.inr ⟨rfl, rfl, rfl⟩⟩
  · split
    · exact ⟨rfl, rfl, rfl, Or.inl ⟨rfl, rfl, rfl⟩⟩
    · exact ⟨rfl, rfl, rfl, Or.inl ⟨rfl, rfl, rfl⟩⟩

/-- what reporting an error does to the quantities of the measure -/
structure Reports (l l' : Lexer) : Prop where
  ok : Ok l'
  state : l'.state = l.state
  items_le : l'.items.length ≤ l.items.length + 1
  items_ne : l'.items ≠ []
  unread_le : unread l' ≤ l.rest.length
  rest_le : l'.rest.length ≤ l.rest.length

theorem errorf_reports (cls : ErrClass) (l : Lexer) (hok : Ok l) : Reports l (errorf cls l) := by
  unfold errorf
  simp only
  obtain ⟨e1, e2, e3, e4, e5, e6, e7, _, _⟩ := emit_spec .error l hok.start_le
  obtain ⟨a1, a2, a3, a4⟩ := adderror_spec
    { file := l.file, pos := some (l.line, l.col + 1), cls := cls } (emit .error l)
  refine ⟨⟨by rw [a1, e1]; exact hok.fault, ?_⟩, by rw [a2, e5], by rw [a3]; exact e6, by rw [a3]; exact e7, ?_, ?_⟩
  · rcases a4 with ⟨b1, _, b3⟩ | ⟨b1, _, b3⟩
    · rw [b1, b3, e2, e4]; exact Nat.le_refl _
    · rw [b1, b3]; simp
  · unfold unread
    rcases a4 with ⟨b1, b2, b3⟩ | ⟨b1, b2, b3⟩
    · rw [b1, b2, b3, e2, e3, e4]; omega
    · rw [b1, b2, b3]; simp
  · rcases a4 with ⟨_, b2, _⟩ | ⟨_, b2, _⟩
    · rw [b2, e3]; exact Nat.le_refl _
    · rw [b2]; simp

theorem errorfAt_reports (line col : Int) (cls : ErrClass) (l : Lexer) (hok : Ok l) :
    Reports l (errorfAt line col cls l) := by
  unfold errorfAt
  simp only
  have h := errorf_reports cls { l with line := line, col := col } ⟨hok.fault, hok.start_le⟩
  exact ⟨⟨h.ok.fault, h.ok.start_le⟩, h.state, h.items_le, h.items_ne, h.unread_le, h.rest_le⟩

-- From here on the primitives are used through the lemmas above only; sealed, the unifier does not start
-- running the lexer (`acceptRunLoop` on a successor, `decodeRune`, …) when it compares two states.
attribute [local irreducible] next backup peek acceptRun updateCursor skipTo emitText emit adderror errorf errorfAt

/-! ## the state functions -/

/-- a state function has run to its end: something is queued, the lexer is back in the ground
state or has stopped, and the measure has not grown -/
structure Done (l l' : Lexer) : Prop where
  ok : Ok l'
  st : l'.state = .ground ∨ l'.state = .done
  items_ne : l'.items ≠ []
  rank_le : l'.items.length + unread l' + weight l'.state ≤ l.items.length + unread l + 1
  rest_le : l'.rest.length ≤ l.rest.length

theorem Done.of_le {l l1 l' : Lexer} (h : Done l1 l')
    (hp : l1.items.length + unread l1 ≤ l.items.length + unread l) (hr : l1.rest.length ≤ l.rest.length) :
    Done l l' :=
  ⟨h.ok, h.st, h.items_ne, by have := h.rank_le; omega, by have := h.rest_le; omega⟩

theorem Moves.done {l l1 l' : Lexer} (hm : Moves l l1) (hok : Ok l) (h : Done l1 l') : Done l l' :=
  h.of_le (by rw [hm.unread_eq hok, hm.frame.items]; exact Nat.le_refl _) hm.rest_le

@[simp] theorem setState_fault (s : LState) (l : Lexer) : (setState s l).fault = l.fault := rfl
@[simp] theorem setState_before (s : LState) (l : Lexer) : (setState s l).before = l.before := rfl
@[simp] theorem setState_rest (s : LState) (l : Lexer) : (setState s l).rest = l.rest := rfl
@[simp] theorem setState_start (s : LState) (l : Lexer) : (setState s l).start = l.start := rfl
@[simp] theorem setState_items (s : LState) (l : Lexer) : (setState s l).items = l.items := rfl
@[simp] theorem setState_state (s : LState) (l : Lexer) : (setState s l).state = s := rfl
@[simp] theorem setState_errout (s : LState) (l : Lexer) : (setState s l).errout = l.errout := rfl
@[simp] theorem setState_errcnt (s : LState) (l : Lexer) : (setState s l).errcnt = l.errcnt := rfl
@[simp] theorem setState_file (s : LState) (l : Lexer) : (setState s l).file = l.file := rfl
@[simp] theorem setState_inPattern (s : LState) (l : Lexer) : (setState s l).inPattern = l.inPattern := rfl
@[simp] theorem setState_line (s : LState) (l : Lexer) : (setState s l).line = l.line := rfl
@[simp] theorem setState_col (s : LState) (l : Lexer) : (setState s l).col = l.col := rfl
@[simp] theorem setState_tcol (s : LState) (l : Lexer) : (setState s l).tcol = l.tcol := rfl
@[simp] theorem setState_unread (s : LState) (l : Lexer) : unread (setState s l) = unread l := rfl

/-- nothing was queued, the measure has not grown -/
structure Step (l l' : Lexer) : Prop where
  ok : Ok l'
  items : l'.items = l.items
  unread_le : unread l' ≤ unread l
  rest_le : l'.rest.length ≤ l.rest.length

theorem Moves.step {l l' : Lexer} (hm : Moves l l') (hok : Ok l) : Step l l' :=
  ⟨hm.ok hok, hm.frame.items, by rw [hm.unread_eq hok]; exact Nat.le_refl _, hm.rest_le⟩

theorem Step.trans {a b c : Lexer} (h1 : Step a b) (h2 : Step b c) : Step a c :=
  ⟨h2.ok, h2.items.trans h1.items, Nat.le_trans h2.unread_le h1.unread_le, Nat.le_trans h2.rest_le h1.rest_le⟩

theorem Step.done {l l1 l' : Lexer} (hs : Step l l1) (h : Done l1 l') : Done l l' :=
  h.of_le (by rw [hs.items]; have := hs.unread_le; omega) hs.rest_le

theorem consume_step (l : Lexer) (hok : Ok l) :
    Step l (consume l) ∧ (consume l).start = l.before.length ∧ (consume l).before = l.before ∧
    (consume l).rest = l.rest := by
  unfold consume Lexer.pos
  refine ⟨⟨⟨hok.fault, Nat.le_refl _⟩, rfl, ?_, Nat.le_refl _⟩, rfl, rfl, rfl⟩
  simp only [unread]; omega

theorem Step.refl (l : Lexer) (hok : Ok l) : Step l l := ⟨hok, rfl, Nat.le_refl _, Nat.le_refl _⟩

/-- emitting a token and returning to the ground state: the token is paid for by a byte consumed
since `l` -/
theorem Step.emitText_done {l l1 : Lexer} (hs : Step l l1) (c : Code) (text : List UInt8)
    (hlt : l1.rest.length < unread l) : Done l (setState .ground (emitText c text l1)) := by
  obtain ⟨e1, e2, e3, e4, -, e6, e7, -, -⟩ := emitText_spec c text l1
  refine ⟨⟨e1.trans hs.ok.fault, by show (emitText c text l1).start ≤ (emitText c text l1).before.length; rw [e4, e2]; exact Nat.le_refl _⟩,
    Or.inl rfl, e7, ?_, by show (emitText c text l1).rest.length ≤ _; rw [e3]; exact hs.rest_le⟩
  show (emitText c text l1).items.length + unread (emitText c text l1) + 1 ≤ _
  rw [hs.items] at e6
  unfold unread at hlt ⊢
  rw [e2, e3, e4]
  omega

theorem Step.emit_done {l l1 : Lexer} (hs : Step l l1) (c : Code) (hlt : l1.rest.length < unread l) :
    Done l (setState .ground (emit c l1)) := by
  unfold emit Lexer.pos
  rw [if_neg (by have := hs.ok.start_le; omega)]
  exact hs.emitText_done c _ hlt

theorem emit_done (c : Code) (l : Lexer) (hok : Ok l) (hlt : l.start < l.before.length) :
    Done l (setState .ground (emit c l)) :=
  (Step.refl l hok).emit_done c (by unfold unread; omega)

/-- reporting an error and stopping: the error token is paid for by the weight of the state -/
theorem Step.report {l l1 : Lexer} (hs : Step l l1) (line col : Int) (cls : ErrClass) :
    Done l (setState .done (errorfAt line col cls l1)) := by
  have hr := errorfAt_reports line col cls l1 hs.ok
  refine ⟨⟨hr.ok.fault, hr.ok.start_le⟩, Or.inr rfl, hr.items_ne, ?_, Nat.le_trans hr.rest_le hs.rest_le⟩
  have h1 := hr.items_le
  have h2 := hr.unread_le
  have h3 := hs.rest_le
  rw [hs.items] at h1
  show (errorfAt line col cls l1).items.length + unread (errorfAt line col cls l1) + 0 ≤ _
  unfold unread at h2 ⊢
  omega

theorem Done.moves {l l1 l2 : Lexer} {s : LState} (h : Done l (setState s l1)) (hm : Moves l1 l2) :
    Done l (setState s l2) := by
  have hok1 : Ok l1 := ⟨h.ok.fault, h.ok.start_le⟩
  have hok2 := hm.ok hok1
  refine ⟨⟨hok2.fault, hok2.start_le⟩, h.st, by show l2.items ≠ []; rw [hm.frame.items]; exact h.items_ne, ?_,
    Nat.le_trans hm.rest_le h.rest_le⟩
  show l2.items.length + unread l2 + weight s ≤ _
  rw [hm.frame.items, hm.unread_eq hok1]
  exact h.rank_le

/-- after `next` on a non-empty rest the token under construction is not empty -/
theorem next_start_lt (l : Lexer) (hok : Ok l) (hne : l.rest ≠ []) :
    (next l).2.start < (next l).2.before.length ∧ (next l).2.rest.length + 1 ≤ l.rest.length := by
  have hm := next_move l
  have := hm.2.2 hne
  rw [(next_frame l).start]
  have := hok.start_le
  omega

theorem next_eof_iff (l : Lexer) : (next l).1 = eofRune ↔ l.rest = [] := by
  constructor
  · intro h
    apply Classical.byContradiction
    intro hne
    exact next_fst_ne_eof l hne h
  · intro h; rw [next_nil l h]

theorem isUnqDelim_eof : isUnqDelim eofRune = true := by simp [isUnqDelim]

/-- `lexUnquoted`: the token is not empty (`start < pos` or the next rune is no delimiter) -/
theorem unquotedLoop_done : ∀ (f : Nat) (l : Lexer), Ok l → l.rest.length + 1 ≤ f →
    (l.start < l.before.length ∨ isUnqDelim (next l).1 = false) → Done l (unquotedLoop f l) := by
  intro f
  induction f with
  | zero => intro l _ h; omega
  | succ f ih =>
    intro l hok hf hj
    unfold unquotedLoop
    simp only
    have hp := peek_moves l
    have hps := peek_snd l
    split
    · rename_i hd
      rw [peek_fst] at hd
      have hlt : l.start < l.before.length := by
        rcases hj with h | h
        · exact h
        · rw [h] at hd; cases hd
      have hok1 := hp.ok hok
      exact hp.done hok (emit_done .unquoted _ hok1 (by rw [hps.2.2.start, hps.1]; exact hlt))
    · rename_i hd
      rw [peek_fst] at hd
      have hne : (peek l).2.rest ≠ [] := by
        rw [hps.2.1]
        intro he
        rw [next_nil l he] at hd
        exact hd isUnqDelim_eof
      have hlt := next_start_lt _ (hp.ok hok) hne
      have hm := hp.trans (next_moves _)
      exact hm.done hok (ih _ (hm.ok hok) (by rw [hps.2.1] at hlt; omega) (Or.inl hlt.1))

theorem lexUnquoted_done (l : Lexer) (hok : Ok l)
    (hj : l.start < l.before.length ∨ isUnqDelim (next l).1 = false) : Done l (lexUnquoted l) :=
  unquotedLoop_done _ l hok (Nat.le_refl _) hj


theorem rest_ne_nil {l : Lexer} (h : (next l).1 ≠ eofRune) : l.rest ≠ [] :=
  fun e => h ((next_eof_iff l).2 e)

section
variable (indent line col : Int) (f : Nat) (text : List UInt8) (over : Bool) (l : Lexer)


theorem qstringLoop_eof (h : (next l).1 = eofRune) :
    qstringLoop indent line col (f + 1) text over l =
      setState .done (errorfAt line col .missingDQuote (next l).2) := by
  rw [qstringLoop]; simp only [h, if_true]

theorem qstringLoop_quote (h : (next l).1 = 34) :
    qstringLoop indent line col (f + 1) text over l = setState .ground (emitText .string text (next l).2) := by
  rw [qstringLoop]; simp only [h]; simp [eofRune]

theorem qstringLoop_nl (h : (next l).1 = 10) :
    qstringLoop indent line col (f + 1) text over l =
      qstringLoop indent line col f (trimTrailing text ++ encodeRune 10) false (next l).2 := by
  rw [qstringLoop]; simp only [h]; simp [eofRune]

theorem qstringLoop_blank (h : (next l).1 = 32 ∨ (next l).1 = 9) :
    qstringLoop indent line col (f + 1) text over l =
      if !over && (next l).2.tcol ≤ indent then qstringLoop indent line col f text over (next l).2
      else qstringLoop indent line col f (text ++ encodeRune (next l).1) true (next l).2 := by
  rw [qstringLoop]
  rcases h with h | h <;> simp only [h] <;> simp [eofRune]

theorem qstringLoop_esc (h : (next l).1 = 92) :
    qstringLoop indent line col (f + 1) text over l =
      if (next (next l).2).1 = 110 then
        qstringLoop indent line col f (text ++ encodeRune 10) true (next (next l).2).2
      else if (next (next l).2).1 = 116 then
        qstringLoop indent line col f (text ++ encodeRune 9) true (next (next l).2).2
      else if (next (next l).2).1 = 34 || (next (next l).2).1 = 92 then
        qstringLoop indent line col f (text ++ encodeRune (next (next l).2).1) true (next (next l).2).2
      else qstringLoop indent line col f (text ++ [92] ++ encodeRune (next (next l).2).1) true
        (if !(next (next l).2).2.inPattern then
          errorfAt (next l).2.line ((next l).2.col - 1) .invalidEscape (next (next l).2).2
         else (next (next l).2).2) := by
  rw [qstringLoop]; simp only [h]; simp [eofRune]

theorem qstringLoop_plain (h1 : (next l).1 ≠ eofRune) (h2 : (next l).1 ≠ 34) (h3 : (next l).1 ≠ 10)
    (h4 : (next l).1 ≠ 32) (h5 : (next l).1 ≠ 9) (h6 : (next l).1 ≠ 92) :
    qstringLoop indent line col (f + 1) text over l =
      qstringLoop indent line col f (text ++ encodeRune (next l).1) true (next l).2 := by
  rw [qstringLoop]; simp only [h1, h2, h3, h4, h5, h6, if_false, Bool.or_self, Bool.false_eq_true, decide_false]

end

/-- Loop rule for `qstringLoop`: `I f l` is what holds of the lexer at the head of an iteration
with fuel `f`, `Q` what is claimed of the lexer the loop returns.  The text collected plays no part. -/
theorem qstringLoop_rule {I : Nat → Lexer → Prop} {Q : Lexer → Prop} (indent line col : Int)
    (fuel : ∀ l, I 0 l → Q (setFault .outOfFuel l))
    (eof : ∀ f l, I (f + 1) l → (next l).1 = eofRune →
      Q (setState .done (errorfAt line col .missingDQuote (next l).2)))
    (quote : ∀ f l text, I (f + 1) l → (next l).1 = 34 →
      Q (setState .ground (emitText .string text (next l).2)))
    (one : ∀ f l, I (f + 1) l → (next l).1 ≠ eofRune → I f (next l).2)
    (two : ∀ f l, I (f + 1) l → (next l).1 = 92 → I f (next (next l).2).2)
    (bad : ∀ f l el ec, I (f + 1) l → (next l).1 = 92 →
      I f (errorfAt el ec .invalidEscape (next (next l).2).2)) :
    ∀ (f : Nat) (text : List UInt8) (over : Bool) (l : Lexer), I f l →
      Q (qstringLoop indent line col f text over l) := by
  intro f
  induction f with
  | zero => intro _ _ l h; exact fuel l h
  | succ f ih =>
    intro text over l h
    by_cases h1 : (next l).1 = eofRune
    · rw [qstringLoop_eof _ _ _ _ _ _ _ h1]; exact eof f l h h1
    by_cases h2 : (next l).1 = 34
    · rw [qstringLoop_quote _ _ _ _ _ _ _ h2]; exact quote f l text h h2
    by_cases h6 : (next l).1 = 92
    · rw [qstringLoop_esc _ _ _ _ _ _ _ h6]
      have h' := two f l h h6
      by_cases e1 : (next (next l).2).1 = 110
      · rw [if_pos e1]; exact ih _ _ _ h'
      rw [if_neg e1]
      by_cases e2 : (next (next l).2).1 = 116
      · rw [if_pos e2]; exact ih _ _ _ h'
      rw [if_neg e2]
      by_cases e3 : ((next (next l).2).1 = 34 || (next (next l).2).1 = 92) = true
      · rw [if_pos e3]; exact ih _ _ _ h'
      rw [if_neg e3]
      by_cases e4 : (!(next (next l).2).2.inPattern) = true
      · rw [if_pos e4]; exact ih _ _ _ (bad f l _ _ h h6)
      · rw [if_neg e4]; exact ih _ _ _ h'
    have h' := one f l h h1
    by_cases h3 : (next l).1 = 10
    · rw [qstringLoop_nl _ _ _ _ _ _ _ h3]; exact ih _ _ _ h'
    by_cases h4 : (next l).1 = 32 ∨ (next l).1 = 9
    · rw [qstringLoop_blank _ _ _ _ _ _ _ h4]; split <;> exact ih _ _ _ h'
    · rw [qstringLoop_plain _ _ _ _ _ _ _ h1 h2 h3 (fun e => h4 (Or.inl e)) (fun e => h4 (Or.inr e)) h6]
      exact ih _ _ _ h'

theorem next_next_moves (l : Lexer) (hok : Ok l) (h : (next l).1 ≠ eofRune) :
    Moves l (next (next l).2).2 ∧ (next (next l).2).2.rest.length + 1 ≤ l.rest.length ∧
    (next (next l).2).2.start < (next (next l).2).2.before.length := by
  have hm1 := next_moves l
  have hm2 := next_moves (next l).2
  have h1 := next_start_lt l hok (rest_ne_nil h)
  refine ⟨hm1.trans hm2, by have := hm2.rest_le; omega, ?_⟩
  rw [hm2.frame.start]
  have := hm2.fwd
  omega

/-- The invariant: the fuel covers the rest, and whatever is `Done` from here is `Done` from the start. -/
theorem qstringLoop_done (indent line col : Int) (f : Nat) (text : List UInt8) (over : Bool) (l : Lexer)
    (hok : Ok l) (hf : l.rest.length + 1 ≤ f) : Done l (qstringLoop indent line col f text over l) := by
  refine qstringLoop_rule (I := fun f x => Ok x ∧ x.rest.length + 1 ≤ f ∧ ∀ x', Done x x' → Done l x')
    (Q := Done l) indent line col ?_ ?_ ?_ ?_ ?_ ?_ f text over l ⟨hok, hf, fun _ h => h⟩
  · intro x ⟨_, h, _⟩; omega
  · intro f x ⟨hok, _, lift⟩ _
    exact lift _ (((next_moves x).step hok).report _ _ _)
  · intro f x text ⟨hok, _, lift⟩ hq
    have := (next_start_lt x hok (rest_ne_nil (by rw [hq]; decide))).2
    exact lift _ (((next_moves x).step hok).emitText_done .string text (by unfold unread; omega))
  · intro f x ⟨hok, hf, lift⟩ hne
    have hm := next_moves x
    have := (next_start_lt x hok (rest_ne_nil hne)).2
    exact ⟨hm.ok hok, by omega, fun _ h => lift _ (hm.done hok h)⟩
  · intro f x ⟨hok, hf, lift⟩ h92
    obtain ⟨hm, hr, _⟩ := next_next_moves x hok (by rw [h92]; decide)
    exact ⟨hm.ok hok, by omega, fun _ h => lift _ (hm.done hok h)⟩
  · intro f x el ec ⟨hok, hf, lift⟩ h92
    obtain ⟨hm, hr, hlt⟩ := next_next_moves x hok (by rw [h92]; decide)
    have hrep := errorfAt_reports el ec .invalidEscape _ (hm.ok hok)
    have hle := hrep.rest_le
    refine ⟨hrep.ok, by omega, fun _ h => lift _ (h.of_le ?_ (by omega))⟩
    -- the error token queued is paid for by the two runes consumed
    have h1 := hrep.items_le
    have h2 := hrep.unread_le
    have hu := hm.unread_eq hok
    rw [hm.frame.items] at h1
    unfold unread at hu h2 ⊢
    omega

theorem lexQString_done (l : Lexer) (hok : Ok l) : Done l (lexQString l) :=
  qstringLoop_done _ _ _ _ _ _ l hok (Nat.le_succ _)


/-- what one run of `lexGround` achieves -/
def GroundPost (l l' : Lexer) : Prop :=
  Done l l' ∨ (Step l l' ∧ (l'.state = .done ∨ l'.state = .qstring ∨
     (l'.state = .unquoted ∧ (l'.start < l'.before.length ∨ isUnqDelim (next l').1 = false)) ∨
     (l'.state = .ground ∧ l'.rest.length + 1 ≤ l.rest.length)))

theorem Step.with_state {l l' : Lexer} (h : Step l l') (s : LState) : Step l (setState s l') :=
  ⟨⟨h.ok.fault, h.ok.start_le⟩, h.items, h.unread_le, h.rest_le⟩

theorem GroundPost.ground {l l1 : Lexer} (hs : Step l l1) (hr : l1.rest.length + 1 ≤ l.rest.length) :
    GroundPost l (setState .ground l1) :=
  Or.inr ⟨hs.with_state _, Or.inr (Or.inr (Or.inr ⟨rfl, hr⟩))⟩

theorem GroundPost.unquoted {l l1 : Lexer} (hs : Step l l1)
    (h : l1.start < l1.before.length ∨ isUnqDelim (next l1).1 = false) :
    GroundPost l (setState .unquoted l1) := by
  refine Or.inr ⟨hs.with_state _, Or.inr (Or.inr (Or.inl ⟨rfl, ?_⟩))⟩
  rw [next_fst_congr (setState .unquoted l1) l1 rfl]
  exact h

theorem groundStart_step (l : Lexer) (hok : Ok l) : Step l (groundStart l) := by
  have hma := acceptRun_moves l
  have hs := (hma.step hok).trans (consume_step (acceptRun l).2 (hma.ok hok)).1
  exact ⟨⟨hs.ok.fault, hs.ok.start_le⟩, hs.items, hs.unread_le, hs.rest_le⟩

theorem groundStart_nsp (l : Lexer) : isSpaceRune (next (groundStart l)).1 = false := by
  rw [next_fst_congr (groundStart l) (acceptRun l).2 rfl]
  exact acceptRun_nsp l

theorem groundSQuote_done (l : Lexer) (hok : Ok l) (hne : l.rest ≠ []) : Done l (groundSQuote l) := by
  unfold groundSQuote
  simp only
  have hlt := next_start_lt l hok hne
  have hc := consume_step (next l).2 ((next_moves l).ok hok)
  have hm3 := skipTo_moves [39] (consume (next l).2)
  have hs3 := (((next_moves l).step hok).trans hc.1).trans (hm3.step hc.1.ok)
  split
  · refine (hs3.emit_done .string ?_).moves (next_moves _)
    have := hm3.rest_le
    rw [hc.2.2.2] at this
    unfold unread; omega
  · exact hs3.report _ _ _

theorem next_peek_moves (l : Lexer) (hok : Ok l) (hne : l.rest ≠ []) :
    Moves l (peek (next l).2).2 ∧ (peek (next l).2).2.rest.length + 1 ≤ l.rest.length ∧
    (peek (next l).2).2.start < (peek (next l).2).2.before.length := by
  have hlt := next_start_lt l hok hne
  have hps := peek_snd (next l).2
  exact ⟨(next_moves l).trans (peek_moves _), by rw [hps.2.1]; exact hlt.2, by rw [hps.2.2.start, hps.1]; exact hlt.1⟩

theorem groundPlus_post (l : Lexer) (hok : Ok l) (hne : l.rest ≠ []) : GroundPost l (groundPlus l) := by
  unfold groundPlus
  simp only
  obtain ⟨hm, -, hlt⟩ := next_peek_moves l hok hne
  split
  · exact Or.inl (hm.done hok (emit_done .unquoted _ (hm.ok hok) hlt))
  · exact .unquoted (hm.step hok) (Or.inl hlt)

theorem groundSlash_post (l : Lexer) (hok : Ok l) (hne : l.rest ≠ []) : GroundPost l (groundSlash l) := by
  unfold groundSlash
  simp only
  obtain ⟨hm, hr, hlt⟩ := next_peek_moves l hok hne
  split
  · -- `//`
    have h := skipTo_moves [10] (peek (next l).2).2
    split
    · exact .ground ((hm.trans h).step hok) (by have := h.rest_le; omega)
    · exact Or.inl (((hm.trans h).step hok).report _ _ _)
  · split
    · -- `/*`
      have h := (next_moves (peek (next l).2).2).trans (skipTo_moves [42, 47] _)
      split
      · have h' := (h.trans (next_moves _)).trans (next_moves _)
        exact .ground ((hm.trans h').step hok) (by have := h'.rest_le; omega)
      · exact Or.inl (((hm.trans h).step hok).report _ _ _)
    · exact .unquoted (hm.step hok) (Or.inl hlt)

theorem lexGround_elim {Q : Lexer → Prop} {l p : Lexer} {c : Nat} (hp : peek (groundStart l) = (c, p))
    (eof : c = eofRune → Q (setState .done p))
    (punct : c ≠ eofRune → c = 59 ∨ c = 123 ∨ c = 125 →
      Q (setState .ground (emit (.punct (UInt8.ofNat c)) (next p).2)))
    (squote : c ≠ eofRune → c = 39 → Q (groundSQuote p))
    (dquote : c ≠ eofRune → c = 34 → Q (setState .qstring (next p).2))
    (slash : c ≠ eofRune → c = 47 → Q (groundSlash p))
    (plus : c ≠ eofRune → c = 43 → Q (groundPlus p))
    (other : isUnqDelim c = false → c ≠ 47 → c ≠ 43 → Q (setState .unquoted p)) : Q (lexGround l) := by
  have hsp : isSpaceRune c = false := by
    have := groundStart_nsp l
    rwa [← peek_fst, hp] at this
  unfold lexGround
  simp only [hp]
  by_cases h0 : c = eofRune
  · rw [if_pos h0]; exact eof h0
  rw [if_neg h0]
  by_cases h1 : (c = 59 || c = 123 || c = 125) = true
  · rw [if_pos h1]; exact punct h0 (by simpa [or_assoc] using h1)
  rw [if_neg h1]
  by_cases h2 : c = 39
  · rw [if_pos h2]; exact squote h0 h2
  rw [if_neg h2]
  by_cases h3 : c = 34
  · rw [if_pos h3]; exact dquote h0 h3
  rw [if_neg h3]
  by_cases h4 : c = 47
  · rw [if_pos h4]; exact slash h0 h4
  rw [if_neg h4]
  by_cases h5 : c = 43
  · rw [if_pos h5]; exact plus h0 h5
  rw [if_neg h5]
  refine other ?_ h4 h5
  unfold isSpaceRune at hsp
  unfold isUnqDelim
  simp only [Bool.or_eq_true, decide_eq_true_eq, not_or] at h1
  simp only [Bool.or_eq_false_iff, decide_eq_false_iff_not] at hsp ⊢
  exact ⟨⟨⟨⟨⟨⟨⟨⟨⟨hsp.1.1.1, hsp.1.2⟩, hsp.2⟩, hsp.1.1.2⟩, h1.1.1⟩, h3⟩, h2⟩, h1.1.2⟩, h1.2⟩, h0⟩

theorem lexGround_post (l : Lexer) (hok : Ok l) : GroundPost l (lexGround l) := by
  have hs0 := groundStart_step l hok
  have hs1 := hs0.trans ((peek_moves (groundStart l)).step hs0.ok)
  have hok1 := hs1.ok
  have hc : (next (peek (groundStart l)).2).1 = (peek (groundStart l)).1 :=
    (next_peek _).trans (peek_fst _).symm
  have hne : (peek (groundStart l)).1 ≠ eofRune → (peek (groundStart l)).2.rest ≠ [] :=
    fun h => rest_ne_nil (by rw [hc]; exact h)
  -- transfer a result about the lexer after the peek to `l`
  have lift : ∀ l', GroundPost (peek (groundStart l)).2 l' → GroundPost l l' := by
    intro l' h
    rcases h with h | ⟨h1, h2⟩
    · exact Or.inl (hs1.done h)
    · refine Or.inr ⟨hs1.trans h1, ?_⟩
      rcases h2 with h | h | h | ⟨h, hr⟩
      · exact Or.inl h
      · exact Or.inr (Or.inl h)
      · exact Or.inr (Or.inr (Or.inl h))
      · exact Or.inr (Or.inr (Or.inr ⟨h, by have := hs1.rest_le; omega⟩))
  refine lexGround_elim (Q := GroundPost l) rfl ?_ ?_ ?_ ?_ ?_ ?_ ?_
  · intro _; exact Or.inr ⟨hs1.with_state _, Or.inl rfl⟩
  · intro h0 _
    exact Or.inl (hs1.done ((next_moves _).done hok1 (emit_done _ _ ((next_moves _).ok hok1)
      (next_start_lt _ hok1 (hne h0)).1)))
  · intro h0 _; exact Or.inl (hs1.done (groundSQuote_done _ hok1 (hne h0)))
  · intro _ _
    exact Or.inr ⟨(hs1.trans ((next_moves _).step hok1)).with_state _, Or.inr (Or.inl rfl)⟩
  · intro h0 _; exact lift _ (groundSlash_post _ hok1 (hne h0))
  · intro h0 _; exact lift _ (groundPlus_post _ hok1 (hne h0))
  · intro hd _ _
    exact .unquoted hs1 (Or.inr (by rw [hc]; exact hd))

/-! ## `NextToken` -/

/-- what a call of `NextToken` guarantees -/
structure TokPost (l : Lexer) (r : Option Token × Lexer) : Prop where
  ok : Ok r.2
  st : r.2.state = .ground ∨ r.2.state = .done
  rest_le : r.2.rest.length ≤ l.rest.length
  some_rank : ∀ t, r.1 = some t → rank r.2 + 1 ≤ rank l
  none_rank : r.1 = none → rank r.2 ≤ rank l ∧ r.2.state = .done ∧ r.2.items = []

theorem nextTokenLoop_pop (f : Nat) (l : Lexer) (t : Token) (ts : List Token) (h : l.items = t :: ts) :
    nextTokenLoop (f + 1) l = (some t, { l with items := ts }) := by
  unfold nextTokenLoop
  rw [h]

/-- popping the token a finished state function has queued -/
theorem pop_after_done (f : Nat) (l l1 : Lexer) (hd : Done l l1) (hi : l.items = []) (hw : weight l.state = 1) :
    TokPost l (nextTokenLoop (f + 1) l1) := by
  cases hit : l1.items with
  | nil => exact absurd hit hd.items_ne
  | cons t ts =>
    rw [nextTokenLoop_pop f l1 t ts hit]
    refine ⟨⟨hd.ok.fault, hd.ok.start_le⟩, hd.st, hd.rest_le, ?_, ?_⟩
    · intro _ _
      have := hd.rank_le
      rw [hit, hi] at this
      simp only [List.length_cons, List.length_nil] at this
      show ts.length + unread l1 + weight l1.state + 1 ≤ rank l
      unfold rank
      rw [hi, hw]
      simp only [List.length_nil]
      omega
    · intro h; cases h

theorem nextTokenLoop_spec (f : Nat) (l : Lexer) (hf : l.rest.length + 3 ≤ f) (hok : Ok l)
    (hst : l.state = .ground ∨ l.state = .done) : TokPost l (nextTokenLoop f l) := by
  induction hn : l.rest.length using Nat.strongRecOn generalizing f l with
  | _ n ih =>
    obtain ⟨f, rfl⟩ : ∃ f', f = f' + 1 := ⟨f - 1, by omega⟩
    cases hit : l.items with
    | cons t ts =>
      rw [nextTokenLoop_pop f l t ts hit]
      refine ⟨⟨hok.fault, hok.start_le⟩, hst, Nat.le_refl _, ?_, fun h => by cases h⟩
      intro _ _
      show ts.length + unread l + weight l.state + 1 ≤ rank l
      unfold rank; rw [hit]; simp only [List.length_cons]; omega
    | nil =>
      unfold nextTokenLoop
      rw [hit]
      simp only
      rcases hst with hst | hst
      · rw [hst]
        simp only
        obtain ⟨f, rfl⟩ : ∃ f', f = f' + 1 := ⟨f - 1, by omega⟩
        have hw : weight l.state = 1 := by rw [hst]; rfl
        rcases lexGround_post l hok with hd | ⟨hs, h⟩
        · exact pop_after_done f l _ hd hit hw
        · have hrank : rank (lexGround l) + 1 ≤ rank l + weight (lexGround l).state := by
            unfold rank; rw [hs.items, hst]; have := hs.unread_le; simp only [weight]; omega
          rcases h with h | h | ⟨h, hj⟩ | ⟨h, hr⟩
          · -- stopped
            unfold nextTokenLoop
            rw [hs.items, hit, h]
            simp only
            refine ⟨hs.ok, Or.inr h, hs.rest_le, (fun _ h => by cases h), fun _ => ⟨?_, h, by rw [hs.items, hit]⟩⟩
            rw [h] at hrank
            exact Nat.le_of_succ_le hrank
          · -- double-quoted string
            unfold nextTokenLoop
            rw [hs.items, hit, h]
            simp only
            obtain ⟨f, rfl⟩ : ∃ f', f = f' + 1 := ⟨f - 1, by omega⟩
            exact pop_after_done f l _ (hs.done (lexQString_done _ hs.ok)) hit hw
          · unfold nextTokenLoop
            rw [hs.items, hit, h]
            simp only
            obtain ⟨f, rfl⟩ : ∃ f', f = f' + 1 := ⟨f - 1, by omega⟩
            exact pop_after_done f l _ (hs.done (lexUnquoted_done _ hs.ok hj)) hit hw
          · -- a comment was skipped: once more from the ground state, with less input
            have hr' := ih _ (by omega) (f + 1) (lexGround l) (by omega) hs.ok (Or.inl h) rfl
            rw [h] at hrank
            have hrank' : rank (lexGround l) ≤ rank l := Nat.le_of_succ_le_succ hrank
            refine ⟨hr'.ok, hr'.st, Nat.le_trans hr'.rest_le hs.rest_le, ?_, ?_⟩
            · intro t ht
              have := hr'.some_rank t ht
              omega
            · intro hnone
              obtain ⟨h1, h2, h3⟩ := hr'.none_rank hnone
              exact ⟨by omega, h2, h3⟩
      · rw [hst]
        simp only
        exact ⟨hok, Or.inr hst, Nat.le_refl _, (fun _ h => by cases h), fun _ => ⟨Nat.le_refl _, hst, hit⟩⟩

/-- `NextToken` never faults, and a token handed out lowers `rank` -/
theorem nextToken_spec (l : Lexer) (hok : Ok l) (hst : l.state = .ground ∨ l.state = .done) :
    TokPost l (nextToken l) :=
  nextTokenLoop_spec _ l (Nat.le_refl _) hok hst


def Extends (l l' : Lexer) : Prop := l.errout <+: l'.errout

theorem Extends.refl (l : Lexer) : Extends l l := List.prefix_refl _

theorem Extends.trans {a b c : Lexer} (h1 : Extends a b) (h2 : Extends b c) : Extends a c :=
  List.IsPrefix.trans h1 h2

theorem extends_of_eq {l l' : Lexer} (h : l'.errout = l.errout) : Extends l l' := by
  unfold Extends; rw [h]; exact List.prefix_refl _

theorem Moves.extends {l l' : Lexer} (h : Moves l l') : Extends l l' := extends_of_eq h.frame.errout

theorem setFault_errout (f : Fault) (l : Lexer) : (setFault f l).errout = l.errout := by
  unfold setFault; split <;> rfl

theorem emitText_errout (c : Code) (text : List UInt8) (l : Lexer) : (emitText c text l).errout = l.errout := by
  obtain ⟨-, -, -, -, -, -, -, h, -⟩ := emitText_spec c text l
  exact h

theorem emit_extends (c : Code) (l : Lexer) : Extends l (emit c l) := by
  unfold emit
  split
  · exact extends_of_eq (setFault_errout _ _)
  · exact extends_of_eq (emitText_errout c _ l)

theorem adderror_extends (e : ErrLine) (l : Lexer) : Extends l (adderror e l) := by
  unfold adderror
  split
  · exact List.prefix_append _ _
  · split
    · exact Extends.refl l
    · exact List.prefix_append _ _

theorem errorfAt_extends (line col : Int) (cls : ErrClass) (l : Lexer) : Extends l (errorfAt line col cls l) := by
  unfold errorfAt errorf
  exact (emit_extends .error { l with line := line, col := col }).trans (adderror_extends _ _)

theorem Extends.report {l l1 : Lexer} (h : Extends l l1) (line col : Int) (cls : ErrClass) (s : LState) :
    Extends l (setState s (errorfAt line col cls l1)) :=
  h.trans (errorfAt_extends line col cls l1)

theorem Extends.emit {l l1 : Lexer} (h : Extends l l1) (c : Code) (s : LState) :
    Extends l (setState s (Goyang.Model.Lex.emit c l1)) :=
  h.trans (emit_extends c l1)

theorem unquotedLoop_extends : ∀ (f : Nat) (l : Lexer), Extends l (unquotedLoop f l) := by
  intro f
  induction f with
  | zero => intro l; exact extends_of_eq (setFault_errout _ _)
  | succ f ih =>
    intro l
    unfold unquotedLoop
    simp only
    split
    · exact (peek_moves l).extends.emit _ _
    · exact ((peek_moves l).trans (next_moves _)).extends.trans (ih _)

theorem qstringLoop_extends (indent line col : Int) (f : Nat) (text : List UInt8) (over : Bool) (l : Lexer) :
    Extends l (qstringLoop indent line col f text over l) := by
  refine qstringLoop_rule (I := fun _ x => Extends l x) (Q := Extends l) indent line col
    ?_ ?_ ?_ ?_ ?_ ?_ f text over l (Extends.refl l)
  · intro x h; exact h.trans (extends_of_eq (setFault_errout _ _))
  · intro _ x h _; exact (h.trans (next_moves x).extends).report _ _ _ _
  · intro _ x text h _
    exact (h.trans (next_moves x).extends).trans (extends_of_eq (emitText_errout _ text _))
  · intro _ x h _; exact h.trans (next_moves x).extends
  · intro _ x h _; exact h.trans ((next_moves x).trans (next_moves _)).extends
  · intro _ x el ec h _
    exact (h.trans ((next_moves x).trans (next_moves _)).extends).trans (errorfAt_extends _ _ _ _)

theorem groundStart_extends (l : Lexer) : Extends l (groundStart l) := (acceptRun_moves l).extends

theorem groundSQuote_extends (l : Lexer) : Extends l (groundSQuote l) := by
  unfold groundSQuote
  simp only
  have h : Extends l (skipTo [39] (consume (next l).2)).2 :=
    (next_moves l).extends.trans (skipTo_moves [39] (consume (next l).2)).extends
  split
  · exact (h.trans (emit_extends _ _)).trans (next_moves _).extends
  · exact h.report _ _ _ _

theorem groundSlash_extends (l : Lexer) : Extends l (groundSlash l) := by
  unfold groundSlash
  simp only
  have h1 := (next_moves l).trans (peek_moves _)
  split
  · have h2 := (h1.trans (skipTo_moves [10] _)).extends
    split
    · exact h2
    · exact h2.report _ _ _ _
  · split
    · have h2 := (h1.trans ((next_moves _).trans (skipTo_moves [42, 47] _)))
      split
      · exact (h2.trans ((next_moves _).trans (next_moves _))).extends
      · exact h2.extends.report _ _ _ _
    · exact h1.extends

theorem groundPlus_extends (l : Lexer) : Extends l (groundPlus l) := by
  unfold groundPlus
  simp only
  have h1 := ((next_moves l).trans (peek_moves _)).extends
  split
  · exact h1.emit _ _
  · exact h1

theorem lexGround_extends (l : Lexer) : Extends l (lexGround l) := by
  have h1 : Extends l (peek (groundStart l)).2 := (groundStart_extends l).trans (peek_moves _).extends
  refine lexGround_elim (Q := Extends l) rfl ?_ ?_ ?_ ?_ ?_ ?_ ?_
  · intro _; exact h1
  · intro _ _; exact (h1.trans (next_moves _).extends).emit _ _
  · intro _ _; exact h1.trans (groundSQuote_extends _)
  · intro _ _; exact h1.trans (next_moves _).extends
  · intro _ _; exact h1.trans (groundSlash_extends _)
  · intro _ _; exact h1.trans (groundPlus_extends _)
  · intro _ _ _; exact h1

theorem nextTokenLoop_extends : ∀ (f : Nat) (l : Lexer), Extends l (nextTokenLoop f l).2 := by
  intro f
  induction f with
  | zero => intro l; exact extends_of_eq (setFault_errout _ _)
  | succ f ih =>
    intro l
    unfold nextTokenLoop
    split
    · exact Extends.refl l
    · split
      · exact Extends.refl l
      · exact (lexGround_extends l).trans (ih _)
      · exact (qstringLoop_extends _ _ _ _ _ _ l).trans (ih _)
      · exact (unquotedLoop_extends _ l).trans (ih _)

/-- an error written stays written -/
def Keeps (l l' : Lexer) : Prop := l.errout ≠ [] → l'.errout ≠ []

theorem Extends.keeps {l l' : Lexer} (h : Extends l l') : Keeps l l' := by
  obtain ⟨t, ht⟩ := h
  intro hne
  rw [← ht]
  exact List.append_ne_nil_of_left_ne_nil hne t

theorem errorfAt_keeps (line col : Int) (cls : ErrClass) (l : Lexer) : Keeps l (errorfAt line col cls l) :=
  (errorfAt_extends line col cls l).keeps

theorem qstringLoop_keeps (indent line col : Int) : ∀ (f : Nat) (text : List UInt8) (over : Bool) (l : Lexer),
    Keeps l (qstringLoop indent line col f text over l) :=
  fun f text over l => (qstringLoop_extends indent line col f text over l).keeps

theorem nextTokenLoop_keeps : ∀ (f : Nat) (l : Lexer), Keeps l (nextTokenLoop f l).2 :=
  fun f l => (nextTokenLoop_extends f l).keeps


end Goyang.Lemmas.Lex
