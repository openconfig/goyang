import Goyang.Lemmas.DevExtLink
import Goyang.Lemmas.UsesFuel
/-
C08, frame across module sets — part 10: the grouping search (`findGrouping`) does not depend on its
fuel from a bound on that does NOT count the length of the name.

`Lemmas/FuelGrouping.lean` (`stable_all`, `groupingNeed`) proves fuel independence with the potential
`name.length + unseen`: an import hop shortens the name.  The import hop of the model fires only when
what follows the prefix has no further colon (`importHit`), so "the name has a colon" (`colon`, 0 or 1)
does as the first summand: `stableC_all`, `findGrouping_fuelC` — from
`scope.length + W + 3 + (1 + loaded modules) * (W + 4)` on (W = the widest statement met) the result is
the same at every fuel.  Core Lean only.
-/
open Goyang.Lemmas.RegistryAux (findModule_mem)
namespace Goyang.Lemmas.DevExt
open Goyang.Model
open Goyang.Spec.Uses (isBare carries afterPrefix localName)
open Goyang.Lemmas.Fuel (Res orElse orElse_congr viaOwner importHit includeHit isModKw fgScope_cons fgImports_cons fgIncludes_cons unseen unseen_mono unseen_lt length_ite_all_le findGrouping_seen_prefix fgImports_seen_prefix fgIncludes_seen_prefix)

/-! ### does the name carry a prefix -/

def colon (name : String) : Nat := if name.contains ':' = true then 1 else 0

theorem colon_le_one (name : String) : colon name ≤ 1 := by unfold colon; split <;> omega

theorem contains_iff (name : String) : name.contains ':' = true ↔ ':' ∈ name.toList := by
  rw [Uses.contains_colon]
  unfold isBare
  simp

theorem colon_ofList_drop (name : String) (k : Nat) : colon (String.ofList (name.toList.drop k)) ≤ colon name := by
  unfold colon
  by_cases h : (String.ofList (name.toList.drop k)).contains ':' = true
  · have h2 : name.contains ':' = true := by
      rw [contains_iff] at h ⊢
      rw [String.toList_ofList] at h
      exact List.mem_of_mem_drop h
    rw [if_pos h, if_pos h2]; exact Nat.le_refl _
  · rw [if_neg h]; exact Nat.zero_le _

theorem colon_trim (root : Mod) (name : String) : colon (trimLocalPrefix root name) ≤ colon name := by
  rw [Uses.trimLocalPrefix_eq]
  unfold localName
  show colon (if (root.getPrefix != "" && carries root.getPrefix name) = true then afterPrefix root.getPrefix name else name) ≤ _
  split
  · exact colon_ofList_drop _ _
  · exact Nat.le_refl _

theorem colon_of_startsWith {name ip : String} (h : name.startsWith (ip ++ ":") = true) : colon name = 1 := by
  rw [Uses.carries_iff] at h
  unfold carries at h
  have hp := List.isPrefixOf_iff_prefix.mp h
  have : name.contains ':' = true := by
    rw [contains_iff]
    exact hp.subset (by simp)
  unfold colon
  rw [if_pos this]

theorem colon_of_not {name : String} (h : (!name.contains ':') = true) : colon name = 0 := by
  unfold colon
  have : ¬ name.contains ':' = true := by simpa using h
  rw [if_neg this]

/-! ### hops -/

/-- `Fuel.IsHop` with the potential `colon name + unseen`. -/
def IsHopC (reg : Registry) (linked : List Nat) (hit : Nat → Res) (name : String) (seen : List String) : Prop :=
  (∀ fuel, hit fuel = (none, seen)) ∨
  ∃ im name' seen', im ∈ reg.mods ∧ seen <+: seen' ∧
    colon name' + unseen reg seen' < colon name + unseen reg seen ∧
    ∀ fuel, hit fuel = findGrouping reg linked fuel im [im.stmt] name' seen'

theorem importHit_isHopC (reg : Registry) (linked : List Nat) (i : Stmt) (name : String) (seen : List String) :
    IsHopC reg linked (fun fuel => importHit reg linked fuel i name seen) name seen := by
  unfold importHit
  simp only
  split
  · next hc =>
    simp only [Bool.and_eq_true] at hc
    split
    · next im him =>
      refine Or.inr ⟨im, _, seen, findModule_mem him, List.prefix_refl _, ?_, fun _ => rfl⟩
      rw [colon_of_startsWith hc.1, colon_of_not hc.2]
      omega
    · exact Or.inl fun _ => rfl
  · exact Or.inl fun _ => rfl

theorem includeHit_isHopC (reg : Registry) (linked : List Nat) (i : Stmt) (name : String) (seen : List String) :
    IsHopC reg linked (fun fuel => includeHit reg linked fuel i name seen) name seen := by
  unfold includeHit
  split
  · exact Or.inl fun _ => rfl
  · next im him =>
    split
    · exact Or.inl fun _ => rfl
    · next hs =>
      exact Or.inr ⟨im, name, _, findModule_mem him, List.prefix_append _ _,
        Nat.add_lt_add_left (unseen_lt (findModule_mem him) (by simpa using hs)) _, fun _ => rfl⟩

theorem viaOwner_isHopC (reg : Registry) (linked : List Nat) (root : Mod) (cond : Bool) (name : String)
    (seen : List String) :
    IsHopC reg linked (fun fuel => viaOwner reg linked fuel root cond name seen) name seen := by
  unfold viaOwner
  split
  · split
    · next owner hown =>
      split
      · exact Or.inl fun _ => rfl
      · next hs =>
        exact Or.inr ⟨owner, name, _, RegistryAux.belongsTo_mem hown, List.prefix_append _ _,
          Nat.add_lt_add_left (unseen_lt (RegistryAux.belongsTo_mem hown) (by simpa using hs)) _, fun _ => rfl⟩
    · exact Or.inl fun _ => rfl
  · exact Or.inl fun _ => rfl

theorem IsHopC.prefix {reg : Registry} {linked : List Nat} {hit : Nat → Res} {name : String} {seen : List String}
    (h : IsHopC reg linked hit name seen) {fuel : Nat}
    (ihF : ∀ root scope name seen, seen <+: (findGrouping reg linked fuel root scope name seen).2) :
    seen <+: (hit fuel).2 := by
  rcases h with h | ⟨im, name', seen', _, hp, _, h⟩
  · rw [h]; exact List.prefix_refl _
  · rw [h]; exact hp.trans (ihF _ _ _ _)

/-! ### enough fuel -/

/-- The statement proved by induction on the fuel for `findGrouping`. -/
def StableC (reg : Registry) (linked : List Nat) (W fuel : Nat) : Prop :=
  ∀ root scope name seen P, colon name + unseen reg seen ≤ P →
    (∀ s ∈ scope, s.subs.length ≤ W) → scope.length + W + 3 + P * (W + 4) ≤ fuel →
    findGrouping reg linked (fuel + 1) root scope name seen = findGrouping reg linked fuel root scope name seen

theorem IsHopC.stable {reg : Registry} {linked : List Nat} {W : Nat} (hW : ∀ m ∈ reg.mods, m.stmt.subs.length ≤ W)
    {hit : Nat → Res} {name : String} {seen : List String} (h : IsHopC reg linked hit name seen)
    {fuel P : Nat} (ihF : StableC reg linked W fuel) (hP : colon name + unseen reg seen ≤ P)
    (hfuel : P * (W + 4) ≤ fuel) : hit (fuel + 1) = hit fuel := by
  rcases h with h | ⟨im, name', seen', him, _, hlt, h⟩
  · rw [h, h]
  · rw [h, h]
    obtain ⟨P', rfl⟩ : ∃ P', P = P' + 1 := ⟨P - 1, by omega⟩
    have hmul : (P' + 1) * (W + 4) = P' * (W + 4) + (W + 4) := Nat.succ_mul _ _
    refine ihF im [im.stmt] name' seen' P' (by omega) ?_ ?_
    · intro s hs
      rw [List.mem_singleton] at hs
      subst hs
      exact hW im him
    · simp only [List.length_singleton]
      omega

theorem stableC_all (reg : Registry) (linked : List Nat) (W : Nat) (hW : ∀ m ∈ reg.mods, m.stmt.subs.length ≤ W) :
    ∀ fuel : Nat,
    StableC reg linked W fuel ∧
    (∀ root scope name seen P, colon name + unseen reg seen ≤ P →
      (∀ s ∈ scope, s.subs.length ≤ W) → scope.length + W + 2 + P * (W + 4) ≤ fuel →
      fgScope reg linked (fuel + 1) root scope name seen = fgScope reg linked fuel root scope name seen) ∧
    (∀ imports name seen P, colon name + unseen reg seen ≤ P →
      imports.length + 1 + P * (W + 4) ≤ fuel →
      fgImports reg linked (fuel + 1) imports name seen = fgImports reg linked fuel imports name seen) ∧
    (∀ includes name seen P, colon name + unseen reg seen ≤ P →
      includes.length + 1 + P * (W + 4) ≤ fuel →
      fgIncludes reg linked (fuel + 1) includes name seen = fgIncludes reg linked fuel includes name seen) := by
  intro fuel
  induction fuel with
  | zero =>
    refine ⟨?_, ?_, ?_, ?_⟩ <;> (try unfold StableC) <;> intros <;> omega
  | succ fuel ih =>
    obtain ⟨ihF, ihS, ihI, ihN⟩ := ih
    refine ⟨?_, ?_, ?_, ?_⟩
    · intro root scope name seen P hP hsc hfuel
      rw [findGrouping.eq_2, findGrouping.eq_2]
      have := colon_trim root name
      exact ihS root scope _ seen P (by omega) hsc (by omega)
    · intro root scope name seen P hP hsc hfuel
      cases scope with
      | nil => simp [fgScope]
      | cons n up =>
        have hn : n.subs.length ≤ W := hsc n (List.mem_cons_self ..)
        have hup : ∀ s ∈ up, s.subs.length ≤ W := fun s hs => hsc s (List.mem_cons_of_mem _ hs)
        simp only [List.length_cons] at hfuel
        rw [fgScope_cons reg linked (fuel + 1), fgScope_cons reg linked fuel]
        split
        · rfl
        · have hl1 := length_ite_all_le (isModKw n && linked.contains root.seq) n "import"
          have hl2 := length_ite_all_le (isModKw n && linked.contains root.seq && !name.contains ':') n "include"
          refine orElse_congr (ihI _ name seen P hP (by omega)) ?_
          have h1 := fgImports_seen_prefix reg linked fuel
            (if isModKw n && linked.contains root.seq then n.all "import" else []) name seen
          generalize (fgImports reg linked fuel (if isModKw n && linked.contains root.seq then n.all "import" else []) name seen).2
            = s1 at h1 ⊢
          have hP1 := unseen_mono (reg := reg) h1
          refine orElse_congr (ihN _ name s1 P (by omega) (by omega)) ?_
          have h2 := fgIncludes_seen_prefix reg linked fuel
            (if isModKw n && linked.contains root.seq && !name.contains ':' then n.all "include" else []) name s1
          generalize (fgIncludes reg linked fuel
            (if isModKw n && linked.contains root.seq && !name.contains ':' then n.all "include" else []) name s1).2
            = s2 at h2 ⊢
          have hP2 := unseen_mono (reg := reg) h2
          have hop := viaOwner_isHopC reg linked root (isModKw n && !name.contains ':') name s2
          refine orElse_congr (hop.stable hW ihF (P := P) (by omega) (by omega)) ?_
          have h3 := hop.prefix (fuel := fuel) (findGrouping_seen_prefix reg linked fuel)
          generalize (viaOwner reg linked fuel root (isModKw n && !name.contains ':') name s2).2
            = s3 at h3 ⊢
          have hP3 := unseen_mono (reg := reg) h3
          exact ihS root up name s3 P (by omega) hup (by omega)
    · intro imports name seen P hP hfuel
      cases imports with
      | nil => simp [fgImports]
      | cons i rest =>
        simp only [List.length_cons] at hfuel
        rw [fgImports_cons reg linked (fuel + 1), fgImports_cons reg linked fuel]
        have hop := importHit_isHopC reg linked i name seen
        refine orElse_congr (hop.stable hW ihF (P := P) hP (by omega)) ?_
        have h1 := hop.prefix (fuel := fuel) (findGrouping_seen_prefix reg linked fuel)
        generalize (importHit reg linked fuel i name seen).2 = s1 at h1 ⊢
        have hP1 := unseen_mono (reg := reg) h1
        exact ihI rest name s1 P (by omega) (by omega)
    · intro includes name seen P hP hfuel
      cases includes with
      | nil => simp [fgIncludes]
      | cons i rest =>
        simp only [List.length_cons] at hfuel
        rw [fgIncludes_cons reg linked (fuel + 1), fgIncludes_cons reg linked fuel]
        have hop := includeHit_isHopC reg linked i name seen
        refine orElse_congr (hop.stable hW ihF (P := P) hP (by omega)) ?_
        have h1 := hop.prefix (fuel := fuel) (findGrouping_seen_prefix reg linked fuel)
        generalize (includeHit reg linked fuel i name seen).2 = s1 at h1 ⊢
        have hP1 := unseen_mono (reg := reg) h1
        exact ihN rest name s1 P (by omega) (by omega)

/-- **The grouping search from the empty `seen` list is the same at every two fuels from
`scope.length + W + 3 + (reg.mods.length + 1) * (W + 4)` on**, `W` bounding the number of substatements of
every statement of the scope and of every loaded (sub)module statement.  The name does not enter. -/
theorem findGrouping_fuelC {reg : Registry} {linked : List Nat} {W : Nat} {root : Mod} {scope : List Stmt} {name : String}
    (hWm : ∀ m ∈ reg.mods, m.stmt.subs.length ≤ W) (hWs : ∀ s ∈ scope, s.subs.length ≤ W) {f f' : Nat}
    (hf : scope.length + W + 3 + (reg.mods.length + 1) * (W + 4) ≤ f) (hff : f ≤ f') :
    findGrouping reg linked f' root scope name [] = findGrouping reg linked f root scope name [] := by
  have hP : colon name + unseen reg [] ≤ reg.mods.length + 1 := by
    have := colon_le_one name
    have := Fuel.unseen_le reg []
    omega
  induction f' with
  | zero =>
    have : f = 0 := by omega
    rw [this]
  | succ k ih =>
    rcases Nat.lt_or_ge f (k + 1) with hlt | hge
    · rw [(stableC_all reg linked W hWm k).1 root scope name [] _ hP hWs (by omega)]
      exact ih (by omega)
    · have : f = k + 1 := by omega
      rw [this]

end Goyang.Lemmas.DevExt
