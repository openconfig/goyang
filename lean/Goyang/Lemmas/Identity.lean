import Goyang.Model.Identity
import Goyang.Spec.Identity
import Goyang.Lemmas.ListAux
import Goyang.Lemmas.RegistryAux
/-
Helper lemmas for C11, part 1: the generic walk (`addChildren` / `includeClosure`), the stable
sort, the closure loop, and the breadth-first `closure` of the specification.
-/
namespace Goyang.Lemmas.Identity
open Goyang.Model.Identity
open Goyang.Spec.Identity (Reach closure)

/-! ### Reachability -/

section Reach
variable {α : Type} {succ : α → List α}

theorem Reach.trans {a b c : α} (h1 : Reach succ a b) (h2 : Reach succ b c) : Reach succ a c := by
  induction h1 with
  | refl => exact h2
  | step h _ ih => exact Reach.step h (ih h2)

theorem Reach.single {a b : α} (h : b ∈ succ a) : Reach succ a b := Reach.step h (Reach.refl b)

/-- A set closed under `succ` contains everything reachable from its members. -/
theorem Reach.mem_of_closed {S : List α} (hc : ∀ x ∈ S, ∀ y ∈ succ x, y ∈ S) {a b : α}
    (h : Reach succ a b) (ha : a ∈ S) : b ∈ S := by
  induction h with
  | refl => exact ha
  | step hs _ ih => exact ih (hc _ ha _ hs)

end Reach

/-! ### The walk -/

section Walk
variable {α : Type} [DecidableEq α]

section Potential
variable {β : Type}

/-- Total weight of the elements of the universe whose key has not been listed yet. -/
def potential (key : β → α) (w : β → Nat) : List β → List α → Nat
  | [], _ => 0
  | b :: U, seen => (if key b ∈ seen then 0 else w b) + potential key w U seen

theorem potential_mono (key : β → α) (w : β → Nat) (U : List β) {seen seen' : List α}
    (h : ∀ x ∈ seen, x ∈ seen') : potential key w U seen' ≤ potential key w U seen := by
  induction U with
  | nil => simp [potential]
  | cons u us ih =>
    simp only [potential]
    by_cases h1 : key u ∈ seen
    · have h2 : key u ∈ seen' := h _ h1
      simp only [h1, h2, if_true]; omega
    · by_cases h2 : key u ∈ seen'
      · simp only [h1, h2, if_true, if_false]; omega
      · simp only [h1, h2, if_false]; omega

theorem potential_drop (key : β → α) (w : β → Nat) (U : List β) {seen : List α} {x : α} {b : β}
    (hb : b ∈ U) (hk : key b = x) (hn : x ∉ seen) :
    potential key w U (seen ++ [x]) + w b ≤ potential key w U seen := by
  induction U with
  | nil => cases hb
  | cons u us ih =>
    simp only [potential]
    have hle := potential_mono key w us (seen := seen) (seen' := seen ++ [x])
      (fun y hy => List.mem_append_left _ hy)
    rcases List.mem_cons.mp hb with rfl | hb'
    · have h1 : key b ∉ seen := by rw [hk]; exact hn
      have h2 : key b ∈ seen ++ [x] := by rw [hk]; simp
      simp only [h1, h2, if_true, if_false]; omega
    · have := ih hb'
      by_cases h1 : key u ∈ seen
      · have h2 : key u ∈ seen ++ [x] := List.mem_append_left _ h1
        simp only [h1, h2, if_true]; omega
      · by_cases h2 : key u ∈ seen ++ [x]
        · simp only [h1, h2, if_true, if_false]; omega
        · simp only [h1, h2, if_false]; omega

theorem potential_nil (key : β → α) (w : β → Nat) (U : List β) : potential key w U [] = (U.map w).sum := by
  induction U with
  | nil => rfl
  | cons u us ih => simp [potential, ih]

end Potential

/-- Number of nodes of the universe `U` not yet in `ids`: the termination measure of the walk. -/
def unv (U ids : List α) : Nat := potential id (fun _ => 1) U ids

theorem unv_mono (U : List α) {ids ids' : List α} (h : ∀ x ∈ ids, x ∈ ids') : unv U ids' ≤ unv U ids :=
  potential_mono id _ U h

theorem unv_lt (U : List α) {ids : List α} {r : α} (hr : r ∈ U) (hn : r ∉ ids) :
    unv U (ids ++ [r]) < unv U ids :=
  potential_drop id (fun _ => 1) U hr rfl hn

theorem unv_nil (U : List α) : unv U [] = U.length := by
  rw [unv, potential_nil]
  induction U with
  | nil => rfl
  | cons u us ih => rw [List.map_cons, List.sum_cons, ih, List.length_cons, Nat.add_comm]

/-- What one call (or a run of calls over `roots`) of the walk achieves, from `ids` to `out`. -/
structure WalkPost (succ : α → List α) (roots ids out : List α) : Prop where
  sub : ∀ x ∈ ids, x ∈ out
  roots_mem : ∀ c ∈ roots, c ∈ out
  sound : ∀ y ∈ out, y ∈ ids ∨ ∃ c ∈ roots, Reach succ c y
  closed : ∀ x ∈ out, x ∈ ids ∨ ∀ y ∈ succ x, y ∈ out
  nodup : ids.Nodup → out.Nodup

theorem fold_spec (succ : α → List α) (U : List α) (fuel : Nat)
    (hw : ∀ r ids, r ∈ U → unv U ids < fuel →
      ∃ out, walk succ fuel r ids = some out ∧ WalkPost succ [r] ids out) :
    ∀ (cs acc : List α), (∀ c ∈ cs, c ∈ U) → unv U acc < fuel →
      ∃ out, cs.foldlM (fun acc ch => walk succ fuel ch acc) acc = some out ∧ WalkPost succ cs acc out := by
  intro cs
  induction cs with
  | nil =>
    intro acc _ _
    exact ⟨acc, rfl, ⟨fun _ h => h, by simp, fun _ h => Or.inl h, fun _ h => Or.inl h, fun h => h⟩⟩
  | cons c cs ih =>
    intro acc hU hf
    obtain ⟨o1, ho1, p1⟩ := hw c acc (hU c (List.mem_cons_self ..)) hf
    have hf1 : unv U o1 < fuel := Nat.lt_of_le_of_lt (unv_mono U p1.sub) hf
    obtain ⟨o2, ho2, p2⟩ := ih o1 (fun x hx => hU x (List.mem_cons_of_mem _ hx)) hf1
    refine ⟨o2, by simp [List.foldlM, ho1, ho2], ?_⟩
    constructor
    · exact fun x hx => p2.sub x (p1.sub x hx)
    · intro x hx
      rcases List.mem_cons.mp hx with rfl | hx
      · exact p2.sub _ (p1.roots_mem _ (List.mem_cons_self ..))
      · exact p2.roots_mem x hx
    · intro y hy
      rcases p2.sound y hy with h | ⟨d, hd, hr⟩
      · rcases p1.sound y h with h | ⟨d, hd, hr⟩
        · exact Or.inl h
        · simp only [List.mem_singleton] at hd
          subst hd
          exact Or.inr ⟨d, List.mem_cons_self .., hr⟩
      · exact Or.inr ⟨d, List.mem_cons_of_mem _ hd, hr⟩
    · intro x hx
      rcases p2.closed x hx with h | h
      · rcases p1.closed x h with h | h
        · exact Or.inl h
        · exact Or.inr (fun y hy => p2.sub y (h y hy))
      · exact Or.inr h
    · exact fun h => p2.nodup (p1.nodup h)

/-- The walk terminates within `fuel` > number of unvisited nodes, keeps what was there, adds the
start node, adds only reachable nodes, and every node it adds has all its successors in the result. -/
theorem walk_spec (succ : α → List α) (U : List α) (hU : ∀ x ∈ U, ∀ y ∈ succ x, y ∈ U) :
    ∀ (fuel : Nat) (r : α) (ids : List α), r ∈ U → unv U ids < fuel →
      ∃ out, walk succ fuel r ids = some out ∧ WalkPost succ [r] ids out := by
  intro fuel
  induction fuel with
  | zero => intro r ids _ h; omega
  | succ fuel ih =>
    intro r ids hr hf
    unfold walk
    by_cases hin : r ∈ ids
    · simp only [hin, if_true]
      refine ⟨ids, rfl, ⟨fun _ h => h, ?_, fun _ h => Or.inl h, fun _ h => Or.inl h, fun h => h⟩⟩
      intro c hc; simp only [List.mem_singleton] at hc; subst hc; exact hin
    · simp only [hin, if_false]
      have hlt := unv_lt U hr hin
      obtain ⟨out, ho, p⟩ := fold_spec succ U fuel ih (succ r) (ids ++ [r]) (hU r hr) (by omega)
      refine ⟨out, ho, ?_⟩
      have hrout : r ∈ out := p.sub r (by simp)
      constructor
      · exact fun x hx => p.sub x (List.mem_append_left _ hx)
      · intro c hc; simp only [List.mem_singleton] at hc; subst hc; exact hrout
      · intro y hy
        rcases p.sound y hy with h | ⟨c, hc, hr⟩
        · rcases List.mem_append.mp h with h | h
          · exact Or.inl h
          · simp only [List.mem_singleton] at h
            subst h
            exact Or.inr ⟨y, by simp, Reach.refl y⟩
        · exact Or.inr ⟨r, by simp, Reach.step hc hr⟩
      · intro x hx
        rcases p.closed x hx with h | h
        · rcases List.mem_append.mp h with h | h
          · exact Or.inl h
          · simp only [List.mem_singleton] at h
            subst h
            exact Or.inr (fun y hy => p.roots_mem y hy)
        · exact Or.inr h
      · intro hnd
        apply p.nodup
        rw [List.nodup_append]
        refine ⟨hnd, by simp, ?_⟩
        intro a ha b hb
        simp only [List.mem_singleton] at hb
        subst hb
        intro hab; subst hab; exact hin ha

theorem walkAll_spec (succ : α → List α) (U : List α) (hU : ∀ x ∈ U, ∀ y ∈ succ x, y ∈ U)
    (fuel : Nat) (roots ids : List α) (hr : ∀ c ∈ roots, c ∈ U) (hf : unv U ids < fuel) :
    ∃ out, walkAll succ fuel roots ids = some out ∧ WalkPost succ roots ids out :=
  fold_spec succ U fuel (walk_spec succ U hU fuel) roots ids hr hf

/-- Started from the empty list the walk returns exactly what is reachable from the roots, each once. -/
theorem walkAll_nil (succ : α → List α) (U : List α) (hU : ∀ x ∈ U, ∀ y ∈ succ x, y ∈ U)
    (fuel : Nat) (roots : List α) (hr : ∀ c ∈ roots, c ∈ U) (hf : U.length < fuel) :
    ∃ out, walkAll succ fuel roots [] = some out ∧ out.Nodup ∧
      ∀ y, y ∈ out ↔ ∃ c ∈ roots, Reach succ c y := by
  obtain ⟨out, ho, p⟩ := walkAll_spec succ U hU fuel roots [] hr (by rw [unv_nil]; exact hf)
  refine ⟨out, ho, p.nodup List.nodup_nil, ?_⟩
  intro y
  constructor
  · intro hy
    rcases p.sound y hy with h | h
    · cases h
    · exact h
  · rintro ⟨c, hc, hreach⟩
    have hclosed : ∀ x ∈ out, ∀ z ∈ succ x, z ∈ out := by
      intro x hx
      rcases p.closed x hx with h | h
      · cases h
      · exact h
    exact Reach.mem_of_closed hclosed hreach (p.roots_mem c hc)

theorem walk_nil (succ : α → List α) (U : List α) (hU : ∀ x ∈ U, ∀ y ∈ succ x, y ∈ U)
    (fuel : Nat) (r : α) (hr : r ∈ U) (hf : U.length < fuel) :
    ∃ out, walk succ fuel r [] = some out ∧ out.Nodup ∧ ∀ y, y ∈ out ↔ Reach succ r y := by
  obtain ⟨out, ho, hnd, hm⟩ := walkAll_nil succ U hU fuel [r] (by simpa using hr) hf
  refine ⟨out, ?_, hnd, ?_⟩
  · simp only [walkAll, List.foldlM] at ho
    cases hw : walk succ fuel r [] with
    | none => simp [hw] at ho
    | some o => simp [hw] at ho; rw [ho]
  · intro y; rw [hm]; simp

end Walk

/-! ### The sort -/

section Sorting
variable {α : Type}

/-- The comparator is a strict total order. -/
structure StrictTotal (lt : α → α → Bool) : Prop where
  irrefl : ∀ a, lt a a = false
  trans : ∀ a b c, lt a b = true → lt b c = true → lt a c = true
  total : ∀ a b, a ≠ b → lt a b = true ∨ lt b a = true

theorem insertSorted_perm (lt : α → α → Bool) (x : α) (l : List α) :
    (insertSorted lt x l).Perm (x :: l) := by
  induction l with
  | nil => exact List.Perm.refl _
  | cons y ys ih =>
    unfold insertSorted
    split
    · exact List.Perm.refl _
    · exact (List.Perm.cons y ih).trans (List.Perm.swap x y ys)

theorem insertSorted_sorted {lt : α → α → Bool} (htr : ∀ a b c, lt a b = true → lt b c = true → lt a c = true)
    (x : α) (l : List α) (hs : l.Pairwise (fun a b => lt a b = true))
    (htot : ∀ y ∈ l, lt x y = true ∨ lt y x = true) :
    (insertSorted lt x l).Pairwise (fun a b => lt a b = true) := by
  induction l with
  | nil => simp [insertSorted]
  | cons y ys ih =>
    unfold insertSorted
    have hy : ∀ z ∈ ys, lt y z = true := (List.pairwise_cons.mp hs).1
    have hys := (List.pairwise_cons.mp hs).2
    by_cases hxy : lt x y = true
    · simp only [hxy, if_true]
      refine List.pairwise_cons.mpr ⟨?_, hs⟩
      intro z hz
      rcases List.mem_cons.mp hz with rfl | hz
      · exact hxy
      · exact htr _ _ _ hxy (hy z hz)
    · simp only [hxy]
      have hyx : lt y x = true := (htot y (List.mem_cons_self ..)).resolve_left hxy
      refine List.pairwise_cons.mpr ⟨?_, ih hys (fun z hz => htot z (List.mem_cons_of_mem _ hz))⟩
      intro z hz
      rcases List.mem_cons.mp ((insertSorted_perm lt x ys).mem_iff.mp hz) with rfl | hz
      · exact hyx
      · exact hy z hz

theorem foldl_insert_perm (lt : α → α → Bool) : ∀ (l acc : List α),
    (l.foldl (fun acc x => insertSorted lt x acc) acc).Perm (acc ++ l) := by
  intro l
  induction l with
  | nil => intro acc; simp
  | cons x l ih =>
    intro acc
    simp only [List.foldl_cons]
    refine (ih _).trans ?_
    refine ((insertSorted_perm lt x acc).append_right l).trans ?_
    simpa using (List.perm_middle (a := x) (l₁ := acc) (l₂ := l)).symm

theorem foldl_insert_sorted {lt : α → α → Bool} (htr : ∀ a b c, lt a b = true → lt b c = true → lt a c = true) :
    ∀ (l acc : List α), acc.Pairwise (fun a b => lt a b = true) → (acc ++ l).Nodup →
    (∀ a ∈ acc ++ l, ∀ b ∈ acc ++ l, a ≠ b → lt a b = true ∨ lt b a = true) →
    (l.foldl (fun acc x => insertSorted lt x acc) acc).Pairwise (fun a b => lt a b = true) := by
  intro l
  induction l with
  | nil => intro acc hs _ _; simpa using hs
  | cons x l ih =>
    intro acc hs hnd htot
    simp only [List.foldl_cons]
    have hp : (insertSorted lt x acc ++ l).Perm (acc ++ x :: l) :=
      ((insertSorted_perm lt x acc).append_right l).trans
        (by simpa using (List.perm_middle (a := x) (l₁ := acc) (l₂ := l)).symm)
    have hx : ∀ y ∈ acc, x ≠ y := by
      intro y hy e
      exact (List.nodup_append.mp hnd).2.2 y hy x (List.mem_cons_self ..) e.symm
    refine ih _ (insertSorted_sorted htr x acc hs fun y hy => ?_) (hp.nodup_iff.mpr hnd)
      (fun a ha b hb => htot a (hp.mem_iff.mp ha) b (hp.mem_iff.mp hb))
    exact htot x (List.mem_append_right _ (List.mem_cons_self ..)) y (List.mem_append_left _ hy) (hx y hy)

theorem sortStable_perm (lt : α → α → Bool) (l : List α) : (sortStable lt l).Perm l := by
  simpa [sortStable] using foldl_insert_perm lt l []

theorem sortStable_sorted {lt : α → α → Bool} (htr : ∀ a b c, lt a b = true → lt b c = true → lt a c = true)
    (l : List α) (htot : ∀ a ∈ l, ∀ b ∈ l, a ≠ b → lt a b = true ∨ lt b a = true) (hnd : l.Nodup) :
    (sortStable lt l).Pairwise (fun a b => lt a b = true) :=
  foldl_insert_sorted htr l [] List.Pairwise.nil (by simpa using hnd) (by simpa using htot)

theorem StrictTotal.nodup {lt : α → α → Bool} (h : StrictTotal lt) {l : List α}
    (hl : l.Pairwise (fun a b => lt a b = true)) : l.Nodup := by
  refine List.Pairwise.imp ?_ hl
  intro a b hab e
  subst e
  rw [h.irrefl] at hab
  cases hab

/-- Two strictly ascending lists with the same members are equal. -/
theorem sorted_unique {lt : α → α → Bool} (h : StrictTotal lt) {l1 l2 : List α}
    (h1 : l1.Pairwise (fun a b => lt a b = true)) (h2 : l2.Pairwise (fun a b => lt a b = true))
    (hm : ∀ a, a ∈ l1 ↔ a ∈ l2) : l1 = l2 := by
  have hp : l1.Perm l2 := (List.perm_ext_iff_of_nodup (h.nodup h1) (h.nodup h2)).mpr hm
  refine List.Perm.eq_of_pairwise ?_ h1 h2 hp
  intro a b _ _ hab hba
  have := h.trans _ _ _ hab hba
  rw [h.irrefl] at this
  cases this

end Sorting

/-! ### The closure loop -/

section Close
variable {α : Type}

/-- `j` lies strictly below `i`: a non-empty chain of edges `E x y` ("`y` names `x` as a base",
i.e. `y` is a direct child of `x`) leads from `i` down to `j`. -/
inductive Below (E : α → α → Prop) : α → α → Prop where
  | direct {i j : α} : E i j → Below E i j
  | step {i k j : α} : E i k → Below E k j → Below E i j

theorem Below.trans {E : α → α → Prop} {a b c : α} (h1 : Below E a b) (h2 : Below E b c) : Below E a c := by
  induction h1 with
  | direct h => exact Below.step h h2
  | step h _ ih => exact Below.step h (ih h2)

/-- What holds of the `Values` lists between the two dictionary loops and all through the second:
each holds at least the direct children and at most the strict descendants. -/
structure Inv (E : α → α → Prop) (vals : α → List α) : Prop where
  lower : ∀ x j, E x j → j ∈ vals x
  upper : ∀ x j, j ∈ vals x → Below E x j

theorem below_of_reach {E : α → α → Prop} {vals : α → List α} (hinv : Inv E vals) {a b c : α}
    (h1 : Below E a b) (h2 : Reach vals b c) : Below E a c := by
  induction h2 with
  | refl => exact h1
  | step hs _ ih => exact ih (h1.trans (hinv.upper _ _ hs))

theorem reach_iff_below {E : α → α → Prop} {vals : α → List α} (hinv : Inv E vals) (i j : α) :
    (∃ c ∈ vals i, Reach vals c j) ↔ Below E i j := by
  constructor
  · rintro ⟨c, hc, hr⟩
    exact below_of_reach hinv (hinv.upper _ _ hc) hr
  · intro h
    induction h with
    | direct h => exact ⟨_, hinv.lower _ _ h, Reach.refl _⟩
    | step h _ ih =>
      obtain ⟨c, hc, hr⟩ := ih
      exact ⟨_, hinv.lower _ _ h, Reach.step hc hr⟩

theorem below_mem {E : α → α → Prop} {U : List α} (hU : ∀ x y, E x y → y ∈ U) {a b : α}
    (h : Below E a b) : b ∈ U := by
  induction h with
  | direct h => exact hU _ _ h
  | step _ _ ih => exact ih

/-- The list of `i` is final: exactly the strict descendants, strictly ascending. -/
def Closed (E : α → α → Prop) (lt : α → α → Bool) (vals : α → List α) (i : α) : Prop :=
  (∀ j, j ∈ vals i ↔ Below E i j) ∧ (vals i).Pairwise (fun a b => lt a b = true)

theorem closed_unique {E : α → α → Prop} {lt : α → α → Bool} (hlt : StrictTotal lt)
    {v1 v2 : α → List α} {i : α} (h1 : Closed E lt v1 i) (h2 : Closed E lt v2 i) : v1 i = v2 i :=
  sorted_unique hlt h1.2 h2.2 (fun a => (h1.1 a).trans (h2.1 a).symm)

theorem closeOne_spec [DecidableEq α] {E : α → α → Prop} {lt : α → α → Bool} (hlt : StrictTotal lt) (U : List α)
    (hU : ∀ x y, E x y → y ∈ U) (fuel : Nat) (hf : U.length < fuel) (vals : α → List α)
    (hinv : Inv E vals) (i : α) :
    ∃ v cyc, closeOne lt fuel vals i = some (v, cyc) ∧ Inv E v ∧ Closed E lt v i ∧
      (∀ x, x ≠ i → v x = vals x) ∧ (cyc = true ↔ Below E i i) := by
  have hvU : ∀ x, ∀ y ∈ vals x, y ∈ U := fun x y hy => below_mem hU (hinv.upper x y hy)
  obtain ⟨nv, hnv, hnd, hm⟩ := walkAll_nil vals U (fun x _ y hy => hvU x y hy) fuel (vals i) (hvU i) hf
  have hm' : ∀ j, j ∈ nv ↔ Below E i j := fun j => (hm j).trans (reach_iff_below hinv i j)
  have hs : ∀ j, j ∈ sortStable lt nv ↔ Below E i j :=
    fun j => ((sortStable_perm lt nv).mem_iff).trans (hm' j)
  refine ⟨setVals vals i (sortStable lt nv), decide (i ∈ nv), by simp [closeOne, hnv], ?_, ?_, ?_, ?_⟩
  · constructor
    · intro x j hE
      by_cases hx : x = i
      · subst hx; simp only [setVals, if_true]; exact (hs j).mpr (Below.direct hE)
      · simp only [setVals, hx, if_false]; exact hinv.lower x j hE
    · intro x j hj
      by_cases hx : x = i
      · subst hx; simp only [setVals, if_true] at hj; exact (hs j).mp hj
      · simp only [setVals, hx, if_false] at hj; exact hinv.upper x j hj
  · constructor
    · intro j; simp only [setVals, if_true]; exact hs j
    · simp only [setVals, if_true]; exact sortStable_sorted hlt.trans nv (fun a _ b _ hne => hlt.total a b hne) hnd
  · intro x hx; simp [setVals, hx]
  · simp only [decide_eq_true_eq]; exact hm' i

/-- The closure loop, for any order of visiting: every visited entry ends with its final list, the
others are untouched, and a cycle is reported exactly for the visited entries that lie below
themselves, in the order of visiting (`p` decides "below itself"). -/
theorem closeAll_spec [DecidableEq α] {E : α → α → Prop} {lt : α → α → Bool} (hlt : StrictTotal lt) (U : List α)
    (hU : ∀ x y, E x y → y ∈ U) (fuel : Nat) (hf : U.length < fuel)
    (p : α → Bool) (hp : ∀ i, p i = true ↔ Below E i i) :
    ∀ (order : List α) (vals : α → List α), Inv E vals →
      ∃ v, closeAll lt fuel order vals = some (v, order.filter p) ∧ Inv E v ∧
        (∀ i ∈ order, Closed E lt v i) ∧ (∀ x, x ∉ order → v x = vals x) ∧
        (∀ x, Closed E lt vals x → Closed E lt v x) := by
  intro order
  induction order with
  | nil =>
    intro vals hinv
    exact ⟨vals, rfl, hinv, by simp, fun _ _ => rfl, fun _ h => h⟩
  | cons i rest ih =>
    intro vals hinv
    obtain ⟨v1, c1, h1, hinv1, hcl1, hsame1, hcyc1⟩ := closeOne_spec hlt U hU fuel hf vals hinv i
    obtain ⟨v2, h2, hinv2, hcl2, hsame2, hkeep2⟩ := ih v1 hinv1
    refine ⟨v2, ?_, hinv2, ?_, ?_, ?_⟩
    · rw [List.filter_cons]
      by_cases hc : c1 = true
      · have : p i = true := (hp i).mpr (hcyc1.mp hc)
        simp [closeAll, h1, h2, hc, this]
      · have : ¬ p i = true := fun hpi => hc (hcyc1.mpr ((hp i).mp hpi))
        simp [closeAll, h1, h2, hc, this]
    · intro x hx
      rcases List.mem_cons.mp hx with rfl | hx
      · exact hkeep2 _ hcl1
      · exact hcl2 x hx
    · intro x hx
      have hxi : x ≠ i := fun e => hx (e ▸ List.mem_cons_self ..)
      have hxr : x ∉ rest := fun hm => hx (List.mem_cons_of_mem _ hm)
      rw [hsame2 x hxr, hsame1 x hxi]
    · intro x hx
      apply hkeep2
      by_cases hxi : x = i
      · subst hxi; exact hcl1
      · unfold Closed at hx ⊢; rw [hsame1 x hxi]; exact hx

end Close

/-! ### The breadth-first closure of the specification -/

section Closure
variable {α : Type} [DecidableEq α]

/-- When `closure` answers, the answer is exactly what is reachable from the start set. -/
theorem closure_spec (succ : α → List α) : ∀ (rounds : Nat) (s out : List α),
    closure succ rounds s = some out → ∀ y, y ∈ out ↔ ∃ c ∈ s, Reach succ c y := by
  intro rounds
  induction rounds with
  | zero => intro s out h; simp [closure] at h
  | succ n ih =>
    intro s out h y
    unfold closure at h
    simp only at h
    split at h
    · rename_i hempty
      simp only [Option.some.injEq] at h
      subst h
      have hclosed : ∀ x ∈ s, ∀ z ∈ succ x, z ∈ s := by
        intro x hx z hz
        apply Classical.byContradiction
        intro hns
        have hz' : z ∈ ((s.flatMap succ).filter (fun a => decide (a ∉ s))).eraseDups := by
          rw [List.mem_eraseDups]
          simp only [List.mem_filter, List.mem_flatMap, decide_eq_true_eq]
          exact ⟨⟨x, hx, hz⟩, hns⟩
        rw [List.isEmpty_iff] at hempty
        rw [hempty] at hz'
        cases hz'
      constructor
      · intro hy; exact ⟨y, hy, Reach.refl y⟩
      · rintro ⟨c, hc, hr⟩; exact Reach.mem_of_closed hclosed hr hc
    · rw [ih _ _ h y]
      constructor
      · rintro ⟨c, hc, hr⟩
        rcases List.mem_append.mp hc with hc | hc
        · exact ⟨c, hc, hr⟩
        · rw [List.mem_eraseDups] at hc
          simp only [List.mem_filter, List.mem_flatMap, decide_eq_true_eq] at hc
          obtain ⟨⟨x, hx, hcx⟩, _⟩ := hc
          exact ⟨x, hx, Reach.step hcx hr⟩
      · rintro ⟨c, hc, hr⟩
        exact ⟨c, List.mem_append_left _ hc, hr⟩

end Closure

end Goyang.Lemmas.Identity
