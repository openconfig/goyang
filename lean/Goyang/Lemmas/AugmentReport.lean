import Goyang.Lemmas.ListAux
import Goyang.Lemmas.Augment
import Goyang.Lemmas.Rounds
import Goyang.Lemmas.SortAux
/-
C07 — "…or reported": what happens after the loop in `Modules.Process` (FixChoice, the retry rounds
with FixChoice after every productive one, the reporting sweep with `addErrors`, FixChoice again, the
final error sweep).  An augment that is never applied
leaves an `augment-not-found` error, a collision leaves a `duplicate-node` error, and both reach
the errors `Process` returns.
-/
open Goyang.Lemmas.ListAux (ne_nil_of_not_isEmpty)
open Goyang.Lemmas.ForestAux (mem_of_tree?)
namespace Goyang.Lemmas.AugmentReport
open Goyang.Model Goyang.Spec.Augment Goyang.Lemmas.AugmentConfl Goyang.Lemmas.AugmentTree
  Goyang.Lemmas.AugmentModel Goyang.Lemmas.AugmentStep Goyang.Lemmas.AugmentLoop Goyang.Lemmas.Augment
open Goyang.Lemmas.SortAux (fixChoiceL_eq_map mem_sortBy)

/-! ### FixChoice keeps every visible error visible -/

/-- The implicit case `FixChoice` puts around a shorthand member of a choice. -/
def wrap1 (ce : Entry) : Entry :=
  if ce.d.kind == .case_ then ce
  else .mk { name := ce.d.name, kind := .case_, hasDir := true, config := ce.d.config, node := ce.d.node,
             nodeMod := ce.d.nodeMod, nodeKw := "case" } [ce] [] []

theorem wrapCases_eq_map (l : List Entry) : wrapCases l = l.map wrap1 := by
  induction l with
  | nil => rfl
  | cons x xs ih => simp [wrapCases, wrap1, ih]

theorem wrap1_name (ce : Entry) : (wrap1 ce).name = ce.name := by
  unfold wrap1; split <;> rfl

theorem fixChoice_d (e : Entry) : (fixChoice e).d = e.d := by cases e; simp [fixChoice]
theorem fixChoice_name (e : Entry) : (fixChoice e).name = e.name := by simp [Entry.name, fixChoice_d]
theorem fixChoice_inp (e : Entry) : (fixChoice e).inp = e.inp.map fixChoice := by
  cases e; simp [fixChoice, fixChoiceL_eq_map]
theorem fixChoice_out (e : Entry) : (fixChoice e).out = e.out.map fixChoice := by
  cases e; simp [fixChoice, fixChoiceL_eq_map]
theorem fixChoice_dir (e : Entry) :
    (fixChoice e).dir = if e.d.kind == .choice && e.d.errors.isEmpty then (e.dir.map fixChoice).map wrap1
      else e.dir.map fixChoice := by
  cases e; simp [fixChoice, fixChoiceL_eq_map, wrapCases_eq_map]

/-- `z` can be reached from `e` by names. -/
def Reach (e z : Entry) : Prop := ∃ Q, walk e Q = some z

theorem visErr_of_reach {e z : Entry} {er : Err} (h : Reach e z) (hz : VisErr z er) : VisErr e er := by
  obtain ⟨Q, hQ⟩ := h
  obtain ⟨P, d, hd, her⟩ := hz
  refine ⟨Q ++ P, d, ?_, her⟩
  rw [fullAt_append, hQ]; exact hd

theorem reach_wrap1 (z : Entry) : Reach (wrap1 z) z := by
  unfold wrap1
  split
  · exact ⟨[], rfl⟩
  · refine ⟨[z.name], ?_⟩
    simp [walk, kid, Entry.child?, Entry.name]

/-- A child found by name is found, fixed (and possibly wrapped), after FixChoice. -/
theorem fixChoice_child (e c : Entry) (k : String) (hr : e.d.isRpc = false) (hc : e.child? k = some c) :
    Reach (fixChoice e) (fixChoice c) := by
  have hname : ∀ x : Entry, (fixChoice x).name = x.name := fixChoice_name
  have hfind : (e.dir.map fixChoice).find? (·.name == k) = some (fixChoice c) := by
    rw [find?_map_name hname]; simp only [Entry.child?] at hc; rw [hc]; rfl
  have hrpc : (fixChoice e).d.isRpc = false := by rw [fixChoice_d]; exact hr
  by_cases hch : (e.d.kind == .choice && e.d.errors.isEmpty) = true
  · have hfind2 : ((e.dir.map fixChoice).map wrap1).find? (·.name == k) = some (wrap1 (fixChoice c)) := by
      rw [find?_map_name wrap1_name, hfind]; rfl
    obtain ⟨Q, hQ⟩ := reach_wrap1 (fixChoice c)
    refine ⟨k :: Q, ?_⟩
    simp only [walk, kid_nonrpc hrpc, Entry.child?, fixChoice_dir, hch, if_true, hfind2, Option.bind_some]
    exact hQ
  · refine ⟨[k], ?_⟩
    simp only [walk, kid_nonrpc hrpc, Entry.child?, fixChoice_dir, hch, Bool.false_eq_true, if_false, hfind,
      Option.bind_some]

theorem visErr_fixChoice {e : Entry} {er : Err} (h : VisErr e er) : VisErr (fixChoice e) er := by
  obtain ⟨P, d, hd, her⟩ := h
  simp only [fullAt] at hd
  cases hw : walk e P with
  | none => simp [hw] at hd
  | some x =>
    simp only [hw, Option.map_some, Option.some.injEq] at hd
    subst hd
    induction P generalizing e with
    | nil =>
      simp only [walk, Option.some.injEq] at hw; subst hw
      refine ⟨[], (Goyang.Model.fixChoice e).d, rfl, ?_⟩
      rw [fixChoice_d]; exact her
    | cons k r ih =>
      simp only [walk] at hw
      cases hk : kid e k with
      | none => simp [hk] at hw
      | some c =>
        simp only [hk, Option.bind_some] at hw
        have hvc : VisErr (Goyang.Model.fixChoice c) er := ih hw
        -- the fixed child is reachable from the fixed parent
        suffices hreach : Reach (Goyang.Model.fixChoice e) (Goyang.Model.fixChoice c) from visErr_of_reach hreach hvc
        have hrpc : (Goyang.Model.fixChoice e).d.isRpc = e.d.isRpc := by rw [fixChoice_d]
        rcases kid_cases hk with ⟨hr, hc⟩ | ⟨hr, rfl, hc | rfl⟩ | ⟨hr, rfl, hc | rfl⟩
        · exact fixChoice_child e c k hr hc
        · exact ⟨["input"], by simp [walk, kid_input (hrpc.trans hr), fixChoice_inp, List.head?_map, hc]⟩
        · exact absurd her (implicitIO_walk_errors hw)
        · exact ⟨["output"], by simp [walk, kid_output (hrpc.trans hr), fixChoice_out, List.head?_map, hc]⟩
        · exact absurd her (implicitIO_walk_errors hw)

/-- Go: `FixChoice` on every module and submodule. -/
def fixAll (f : Forest) : Forest := { trees := f.trees.map fun (i, e) => (i, fixChoice e) }

theorem tree?_fixAll (f : Forest) (id : Nat) : (fixAll f).tree? id = (f.tree? id).map fixChoice := by
  unfold fixAll Forest.tree?
  simp only
  have hfun : (fun (x : Nat × Entry) => match x with | (i, e) => (i, fixChoice e)) =
      fun (x : Nat × Entry) => (x.1, fixChoice x.2) := by
    funext x; cases x; rfl
  rw [hfun, find?_map_fst (fun (x : Nat × Entry) => (x.1, fixChoice x.2)) (fun _ => rfl)]
  cases f.trees.find? (·.1 == id) <;> rfl

theorem fVisErr_fixAll {f : Forest} {er : Err} (h : FVisErr f er) : FVisErr (fixAll f) er := by
  obtain ⟨id, root, hr, hv⟩ := h
  exact ⟨id, fixChoice root, by rw [tree?_fixAll, hr]; rfl, visErr_fixChoice hv⟩

theorem fixAll_isSome (f : Forest) (id : Nat) : ((fixAll f).tree? id).isSome = (f.tree? id).isSome := by
  rw [tree?_fixAll]; cases f.tree? id <;> rfl

/-- What `GetErrors` of all modules and submodules returns. -/
def allErrs (f : Forest) : List Err := (f.trees.map fun (_, e) => e.allErrors).flatten

theorem fVisErr_allErrs {f : Forest} {er : Err} (h : FVisErr f er) : er ∈ allErrs f := by
  obtain ⟨id, root, hr, hv⟩ := h
  exact List.mem_flatten.mpr ⟨_, List.mem_map.mpr ⟨_, mem_of_tree? hr, rfl⟩, hv.allErrors⟩

/-! ### the reporting sweep -/

/-- Go: `for _, m := range mods { ToEntry(m).Augment(true) }`, with its trace. -/
def leftoverR (R : Res) : List Nat → PState → Nat → List Ev → PState × Nat × List Ev
  | [], s, n, tr => (s, n, tr)
  | id :: rest, s, n, tr =>
    let r := augmentTreeR R id true s
    leftoverR R rest r.1 (n + r.2.1) (tr ++ r.2.2.2)

/-- The not-found error of an augment statement. -/
def notFound (a : Entry) : Err := Err.at_ a.d.node "augment-not-found"

theorem Calls.notFound {R : Res} {s s' : PState} {ids : List Nat} {tr : List Ev} (h : Calls R true s ids s' tr)
    (hpres : ∀ id, s.pendingOf id ≠ [] → (s.forest.tree? id).isSome = true) :
    ∀ id ∈ ids, ∀ a ∈ s'.pendingOf id, FVisErr s'.forest (notFound a) := by
  induction h with
  | nil _ => exact fun _ h => nomatch h
  | @cons s s' id ids tr hc ih =>
    intro id' hid' a ha
    by_cases hidd : id' = id
    · subst hidd
      have ha1 := hc.pending_sub id' a ha
      have hne : s.pendingOf id' ≠ [] := List.ne_nil_of_mem (augmentTreeR_pending_sub R id' true s id' a ha1)
      exact ((FoldRel.leftover_err (augmentTreeR_rel R id' true s).1 (hpres id' hne)).2 a ha1).mono hc.le
    · refine ih (fun i hne => ?_) id' ((List.mem_cons.mp hid').resolve_left hidd) a ha
      rw [(tree_le R id true s).isSome]
      exact hpres i (Calls.pending_ne_nil (.cons (.nil _)) hne)

theorem leftoverR_calls (R : Res) : ∀ (l : List Nat) (s : PState) (n : Nat) (tr : List Ev),
    ∃ trn, Calls R true s l (leftoverR R l s n tr).1 trn ∧ (leftoverR R l s n tr).2.2 = tr ++ trn
  | [], s, n, tr => ⟨[], .nil s, by simp [leftoverR]⟩
  | id :: rest, s, n, tr => by
    obtain ⟨trn, hc, e⟩ := leftoverR_calls R rest (augmentTreeR R id true s).1 (n + (augmentTreeR R id true s).2.1)
      (tr ++ (augmentTreeR R id true s).2.2.2)
    exact ⟨_, .cons hc, by simp only [leftoverR]; rw [e, List.append_assoc]⟩

/-! ### the retry rounds after the first FixChoice -/

/-- Go: `for augmentLoop() > 0 { fixChoice() }`, with its trace: the modules that still hold pending
augments are retried (an augment into the implied case of a choice only becomes applicable once
FixChoice has created the case, and may create the target of another one); a round that applied
something is followed by FixChoice everywhere and another round.  `n` bounds the number of rounds. -/
def roundsR (R : Res) (fuel : Nat) : Nat → Array Nat → PState → List Ev → Array Nat × PState × List Ev
  | 0, mods, s, tr => (mods, s, tr)
  | n + 1, mods, s, tr =>
    if (loopTrace R fuel mods s).isEmpty then (loopMods R fuel mods s, loopState R fuel mods s, tr)
    else roundsR R fuel n (loopMods R fuel mods s)
      { loopState R fuel mods s with forest := fixAll (loopState R fuel mods s).forest }
      (tr ++ loopTrace R fuel mods s)

/-- Everything the rounds do that the report needs: the pending sets shrink by exactly the augments
of the trace, the module list still covers the trees with pending augments, every visible error
stays visible and the same trees exist. -/
theorem roundsR_spec (R : Res) (fuel : Nat) : ∀ (n : Nat) (mods : Array Nat) (s : PState) (tr : List Ev),
    NodupPending s → Cover s mods →
    ∃ trn, (roundsR R fuel n mods s tr).2.2 = tr ++ trn ∧ Book s (roundsR R fuel n mods s tr).2.1 trn ∧
      Cover (roundsR R fuel n mods s tr).2.1 (roundsR R fuel n mods s tr).1 ∧
      (∀ er, FVisErr s.forest er → FVisErr (roundsR R fuel n mods s tr).2.1.forest er) ∧
      (∀ id, ((roundsR R fuel n mods s tr).2.1.forest.tree? id).isSome = (s.forest.tree? id).isSome)
  | 0, mods, s, tr, hn, hcov =>
    ⟨[], by simp [roundsR], Book.refl hn, hcov, fun _ h => h, fun _ => rfl⟩
  | n + 1, mods, s, tr, hn, hcov => by
    obtain ⟨trn1, e1, hchain, hbook, _, _, hcov', _⟩ := loop_spec R s.forest fuel mods s [] (FLe.refl _) hn hcov
    have e1' : loopTrace R fuel mods s = trn1 := by simpa [loopTrace] using e1
    unfold roundsR
    by_cases he : (loopTrace R fuel mods s).isEmpty = true
    · rw [if_pos he]
      have hnil : trn1 = [] := by rw [← e1']; simpa using he
      subst hnil
      exact ⟨[], by simp, hbook, hcov', fun er h => h.mono hchain.le, fun id => hchain.le.isSome id⟩
    · rw [if_neg he]
      have hbook1 : Book s ({ loopState R fuel mods s with forest := fixAll (loopState R fuel mods s).forest } : PState)
          trn1 := ⟨hbook.pending, hbook.fromPending, hbook.nodup, hbook.nodupPending⟩
      obtain ⟨trn2, e2, hbook2, hcov2, hvis2, hsome2⟩ := roundsR_spec R fuel n (loopMods R fuel mods s)
        ({ loopState R fuel mods s with forest := fixAll (loopState R fuel mods s).forest } : PState)
        (tr ++ loopTrace R fuel mods s) hbook1.nodupPending hcov'
      refine ⟨trn1 ++ trn2, ?_, hbook1.trans hbook2, hcov2, ?_, ?_⟩
      · rw [e2, e1', List.append_assoc]
      · intro er h
        exact hvis2 er (fVisErr_fixAll (h.mono hchain.le))
      · intro id
        rw [hsome2 id]
        show ((fixAll (loopState R fuel mods s).forest).tree? id).isSome = _
        rw [fixAll_isSome, hchain.le.isSome]

/-! ### the whole augment part of `Process` -/

/-- Go: from the augment loop to the last `FixChoice` of `Modules.Process`, with the trace of the
loop and the trace of the left-over stage (the retry rounds after the first FixChoice, then the
reporting sweep). -/
def phaseR (R : Res) (order : List Nat) (fuel : Nat) (s : PState) : PState × List Ev × List Ev :=
  let r := augmentLoopR R fuel order.toArray s []
  let s1 : PState := { r.2.1 with forest := fixAll r.2.1.forest }
  let q := roundsR R fuel fuel r.1 s1 []
  let l := leftoverR R q.1.toList q.2.1 0 q.2.2
  (if l.2.1 > 0 then { l.1 with forest := fixAll l.1.forest } else l.1, r.2.2, l.2.2)

theorem pendingOf_withForest (s : PState) (f : Forest) (id : Nat) :
    ({ s with forest := f } : PState).pendingOf id = s.pendingOf id := rfl

/-- "…or reported", on the parametrised model: every augment pending at the start is applied by
the loop, or applied by the left-over stage (a retry round after FixChoice, or the last sweep), or
its `augment-not-found` error is among the errors swept at the end; and a colliding application in
the loop leaves a `duplicate-node` error there. -/
theorem phase_reported (R : Res) (order : List Nat) (fuel : Nat) (s : PState) (hn : NodupPending s)
    (hcov : Cover s order.toArray) (hfuel : mu s < fuel)
    (hpres : ∀ id, s.pendingOf id ≠ [] → (s.forest.tree? id).isSome = true) :
    (∀ id, ∀ a ∈ s.pendingOf id,
      (id, a) ∈ (phaseR R order fuel s).2.1.map Ev.key ∨ (id, a) ∈ (phaseR R order fuel s).2.2.map Ev.key ∨
      notFound a ∈ allErrs (phaseR R order fuel s).1.forest) ∧
    (∀ ev ∈ (phaseR R order fuel s).2.1,
        (¬ (absEv R s.forest ev).roots.Nodup ∨ (absEv R s.forest ev).Collides (viewOf ev.before)) →
        ∃ er ∈ allErrs (phaseR R order fuel s).1.forest, er.cls = "duplicate-node") := by
  obtain ⟨hchain, hbook, hcov', _, _⟩ := loop_run R fuel order.toArray s hn hcov hfuel
  -- state after the loop and the first FixChoice
  generalize hs1 : ({ (loopState R fuel order.toArray s) with
      forest := fixAll (loopState R fuel order.toArray s).forest } : PState) = s1
  have hbook1 : Book s s1 (loopTrace R fuel order.toArray s) := by
    subst hs1; exact ⟨hbook.pending, hbook.fromPending, hbook.nodup, hbook.nodupPending⟩
  have hcov1 : Cover s1 (loopMods R fuel order.toArray s) := by subst hs1; exact hcov'
  have hsome1 : ∀ id, (s1.forest.tree? id).isSome = (s.forest.tree? id).isSome := by
    intro id; subst hs1
    show ((fixAll (loopState R fuel order.toArray s).forest).tree? id).isSome = _
    rw [fixAll_isSome, hchain.le.isSome]
  have hvis1 : ∀ er, FVisErr (loopState R fuel order.toArray s).forest er → FVisErr s1.forest er := by
    intro er h; subst hs1; exact fVisErr_fixAll h
  -- the retry rounds
  obtain ⟨trnR, eR, hbookR, hcovR, hvisR, hsomeR⟩ :=
    roundsR_spec R fuel fuel (loopMods R fuel order.toArray s) s1 [] hbook1.nodupPending hcov1
  simp only [List.nil_append] at eR
  generalize hq : roundsR R fuel fuel (loopMods R fuel order.toArray s) s1 [] = q at eR hbookR hcovR hvisR hsomeR
  have hpres2 : ∀ id, q.2.1.pendingOf id ≠ [] → (q.2.1.forest.tree? id).isSome = true := fun id hne => by
    rw [hsomeR, hsome1]
    exact hpres id (hbook1.ne_nil (hbookR.ne_nil hne))
  -- the reporting sweep
  obtain ⟨trn, hc2, e1⟩ := leftoverR_calls R q.1.toList q.2.1 0 q.2.2
  have hbook2 := hc2.book hbookR.nodupPending
  have hph : phaseR R order fuel s =
      (if (leftoverR R q.1.toList q.2.1 0 q.2.2).2.1 > 0
        then { (leftoverR R q.1.toList q.2.1 0 q.2.2).1 with
          forest := fixAll (leftoverR R q.1.toList q.2.1 0 q.2.2).1.forest }
        else (leftoverR R q.1.toList q.2.1 0 q.2.2).1,
       loopTrace R fuel order.toArray s, (leftoverR R q.1.toList q.2.1 0 q.2.2).2.2) := by
    unfold phaseR
    simp only
    rw [hs1, hq]
  -- errors visible after the sweep reach the final sweep of errors
  have hfinal : ∀ er, FVisErr (leftoverR R q.1.toList q.2.1 0 q.2.2).1.forest er →
      er ∈ allErrs (phaseR R order fuel s).1.forest := by
    intro er h
    rw [hph]
    simp only
    split
    · exact fVisErr_allErrs (fVisErr_fixAll h)
    · exact fVisErr_allErrs h
  refine ⟨?_, ?_⟩
  · intro id a ha
    by_cases h1 : (id, a) ∈ (loopTrace R fuel order.toArray s).map Ev.key
    · exact Or.inl (by rw [hph]; exact h1)
    · by_cases h2 : (id, a) ∈ (trnR ++ trn).map Ev.key
      · refine Or.inr (Or.inl ?_)
        rw [hph]
        show (id, a) ∈ (leftoverR R q.1.toList q.2.1 0 q.2.2).2.2.map Ev.key
        rw [e1, eR]; exact h2
      · rw [List.map_append, List.mem_append, not_or] at h2
        have haR := (hbookR.pending id a).mpr ⟨(hbook1.pending id a).mpr ⟨ha, h1⟩, h2.1⟩
        exact Or.inr (Or.inr (hfinal _ (Calls.notFound hc2 hpres2 id (hcovR id (List.ne_nil_of_mem haR)) a
          ((hbook2.pending id a).mpr ⟨haR, h2.2⟩))))
  · intro ev hev hbad
    rw [hph] at hev
    obtain ⟨er, her, hcls⟩ := loop_collision_reported R fuel order.toArray s hn hcov hfuel ev hev hbad
    exact ⟨er, hfinal er ((hvisR er (hvis1 er her)).mono hc2.le), hcls⟩

/-! ### the model's functions are the parametrised ones -/

theorem leftover_eq (reg : Registry) : ∀ (l : List Nat) (s : PState) (n : Nat) (tr : List Ev), PlainPending reg s →
    l.foldl (fun (acc : PState × Nat) id =>
      let (s, p, _) := augmentTree reg id true acc.1
      (s, acc.2 + p)) (s, n) =
    ((leftoverR (Res.ofReg reg) l s n tr).1, (leftoverR (Res.ofReg reg) l s n tr).2.1)
  | [], s, n, tr, _ => rfl
  | id :: rest, s, n, tr, hp => by
    simp only [List.foldl_cons, leftoverR]
    rw [augmentTree_eq reg id true s (hp id)]
    exact leftover_eq reg rest _ _ _ (hp.step (Res.ofReg reg) id true)

/-- The loop's trace grows by nothing exactly when the loop did not run (no fuel, no modules) or its
first pass applied nothing. -/
theorem augmentLoopR_trace_eq (R : Res) (fuel : Nat) (mods : Array Nat) (s : PState) (tr : List Ev) :
    (augmentLoopR R fuel mods s tr).2.2 = tr ↔
      fuel = 0 ∨ mods.isEmpty = true ∨ (augmentPassR R (mods.size + 1) mods 0 0 s tr).2.1 = 0 := by
  by_cases hs : fuel = 0 ∨ mods.isEmpty = true
  · rw [augmentLoopR_stop R fuel mods s tr hs]
    exact ⟨fun _ => hs.elim Or.inl fun h => Or.inr (Or.inl h), fun _ => rfl⟩
  · obtain ⟨fuel, rfl⟩ := Nat.exists_eq_succ_of_ne_zero fun h => hs (Or.inl h)
    have he : ¬ mods.isEmpty = true := fun h => hs (Or.inr h)
    obtain ⟨_, trn1, hp⟩ := pass_calls R (mods.size + 1) mods 0 0 s tr
    have hcount : (augmentPassR R (mods.size + 1) mods 0 0 s tr).2.1 = 0 ↔ trn1 = [] := by
      rw [hp.count, Nat.zero_add, List.length_eq_zero_iff]
    simp only [Nat.add_one_ne_zero, he, Bool.false_eq_true, false_or]
    by_cases h0 : (augmentPassR R (mods.size + 1) mods 0 0 s tr).2.1 = 0
    · rw [augmentLoopR_done R fuel mods s tr he h0, hp.trace, hcount.mp h0]
      simp [h0]
    · rw [augmentLoopR_again R fuel mods s tr he h0]
      obtain ⟨_, trn2, _, e2, _⟩ := loop_calls R fuel (augmentPassR R (mods.size + 1) mods 0 0 s tr).1
        (augmentPassR R (mods.size + 1) mods 0 0 s tr).2.2.1 (augmentPassR R (mods.size + 1) mods 0 0 s tr).2.2.2
      rw [e2, hp.trace, List.append_assoc, List.append_right_eq_self, List.append_eq_nil_iff]
      exact ⟨fun h => absurd (hcount.mpr h.1) h0, fun h => absurd h h0⟩

/-- The model's "the loop applied nothing" is the parametrised model's "the loop's trace is empty". -/
theorem loopTrace_isEmpty_iff (reg : Registry) (fuel : Nat) (mods : Array Nat) (s : PState) (hp : PlainPending reg s) :
    (loopTrace (Res.ofReg reg) fuel mods s).isEmpty = true ↔ Rounds.loopCount reg fuel mods s = 0 := by
  rw [List.isEmpty_iff, augmentLoopR_trace_eq, Rounds.loopCount_eq_zero, augmentPass_eq reg (mods.size + 1) mods 0 0 s [] hp]

theorem leftoverRounds_eq (reg : Registry) (fuel : Nat) : ∀ (n : Nat) (mods : Array Nat) (s : PState) (tr : List Ev),
    PlainPending reg s →
    leftoverRounds reg fuel n mods s =
      ((roundsR (Res.ofReg reg) fuel n mods s tr).1, (roundsR (Res.ofReg reg) fuel n mods s tr).2.1)
  | 0, mods, s, tr, _ => rfl
  | n + 1, mods, s, tr, hp => by
    rw [Rounds.leftoverRounds_succ]
    unfold roundsR
    have hloop := augmentLoop_eq reg fuel mods s [] hp
    simp only at hloop
    by_cases hc : Rounds.loopCount reg fuel mods s = 0
    · rw [if_pos hc, if_pos ((loopTrace_isEmpty_iff reg fuel mods s hp).mpr hc)]
      exact hloop
    · rw [if_neg hc, if_neg (fun h => hc ((loopTrace_isEmpty_iff reg fuel mods s hp).mp h))]
      rw [hloop]
      refine leftoverRounds_eq reg fuel n _ _ _ fun id a ha => ?_
      exact hp id a (augmentLoopR_pending_sub _ _ _ _ _ id a ha)

theorem roundsR_pending_sub (R : Res) (fuel : Nat) : ∀ (n : Nat) (mods : Array Nat) (s : PState) (tr : List Ev) (id : Nat),
    ∀ a ∈ (roundsR R fuel n mods s tr).2.1.pendingOf id, a ∈ s.pendingOf id
  | 0, mods, s, tr, id => fun a ha => ha
  | n + 1, mods, s, tr, id => by
    unfold roundsR
    split
    · exact augmentLoopR_pending_sub _ _ _ _ _ id
    · intro a ha
      have h1 := roundsR_pending_sub R fuel n _ _ _ id a ha
      exact augmentLoopR_pending_sub R fuel mods s [] id a h1

theorem augmentPhase_eq (reg : Registry) (order : List Nat) (fuel : Nat) (s : PState) (hp : PlainPending reg s) :
    augmentPhase reg order fuel s = (phaseR (Res.ofReg reg) order fuel s).1 := by
  unfold augmentPhase phaseR fixAll
  rw [augmentLoop_eq reg fuel order.toArray s [] hp]
  simp only
  rw [leftoverRounds_eq reg fuel fuel _ _ []]
  · simp only
    rw [← Array.foldl_toList, leftover_eq reg _ _ 0]
    intro id a ha
    have h1 := roundsR_pending_sub _ _ _ _ _ _ id a ha
    exact hp id a (augmentLoopR_pending_sub _ _ _ _ _ id a h1)
  · intro id a ha
    exact hp id a (augmentLoopR_pending_sub _ _ _ _ _ id a ha)

/-! ### the tie to `processAll` -/

/-- The hypotheses under which the augment part of the model is analysed; all are statements
about what `ToEntry` and the registry hand to the augment loop. -/
structure PhaseInput (reg : Registry) (s : PState) : Prop where
  /-- augment arguments are absolute schema node identifiers -/
  plain : PlainPending reg s
  /-- no augment entry is listed twice for one module -/
  nodup : NodupPending s
  /-- one row per tree in the pending table -/
  keys : (keys s).Nodup
  /-- the tree of every (sub)module with augments exists -/
  trees : ∀ id, s.pendingOf id ≠ [] → (s.forest.tree? id).isSome = true

/-! ### pinning the state the augment phase starts from -/

/-- The state and module order with which `processAll` enters the augment phase (`none`: it
stops before, with errors).  This is the text of `Model.processAll` up to the call of
`augmentPhase`; `processAll_phaseStart` checks that it is. -/
def phaseStart (reg : Registry) (opts : Opts) (plug : Plug) : Option (PState × List Nat) :=
  let (linked, lerrs) := linkAll reg
  let errs := lerrs ++ plug.identityErrs reg ++ plug.typedefErrs reg
  if !errs.isEmpty then none else
  let env : Env := { reg := reg, opts := opts, tres := plug.tres, linked := linked }
  let fuel := entryFuel reg
  let mods := reg.distinctModules
  let subs := reg.distinctSubs
  let convOrder : List Mod :=
    let keys (km : KeyMap) := (sortBy (fun (a b : String × Nat) => a.1 < b.1) km).filterMap fun kv => reg.byId kv.2
    keys reg.modules ++ keys reg.subModules
  let st : TState := convOrder.foldl (fun st m => (toEntry env fuel m [] m.stmt [] st).2) {}
  let forest : Forest := { trees := st.cache }
  let errs := (forest.trees.map fun (_, e) => e.allErrors).flatten
  if !errs.isEmpty then none else
  let pending := (mods ++ subs).map fun m => (m.seq, ((st.augs.find? (·.1 == m.seq)).map (·.2)).getD [])
  let s : PState := { forest := forest, pending := pending }
  let keyed : List Mod := (reg.modules ++ reg.subModules).filterMap fun kv => reg.byId kv.2
  let order := sortBy (fun (a b : Mod) =>
      if a.fullName != b.fullName then a.fullName < b.fullName else !a.isSub && b.isSub) keyed
  some (s, order.map (·.seq))

theorem eq_nil_of_isEmpty {α} {l : List α} (h : ¬ (!l.isEmpty) = true) : l = [] := by
  cases l with
  | nil => rfl
  | cons _ _ => exact absurd rfl h

-- (the augment phase is kept folded: nothing here looks inside it)
attribute [local irreducible] augmentPhase in
/-- `processAll` stops early with errors, or enters the augment phase exactly at `phaseStart` and
returns the errors swept after it (plus those of the deviations). -/
theorem processAll_phaseStart (reg : Registry) (opts : Opts) (plug : Plug) :
    (phaseStart reg opts plug = none → ∃ errs, errs ≠ [] ∧ (processAll reg opts plug).errors = canonErrs errs) ∧
    (∀ s order, phaseStart reg opts plug = some (s, order) → allErrs s.forest = [] ∧
      ∃ derrs, (processAll reg opts plug).errors =
        canonErrs (allErrs (augmentPhase reg order (s.pending.foldl (fun n p => n + p.2.length) 0 + 2) s).forest ++ derrs)) := by
  unfold processAll
  simp only
  cases h : phaseStart reg opts plug with
  | none =>
    refine ⟨fun _ => ?_, nofun⟩
    unfold phaseStart at h
    simp only at h
    split at h
    · rename_i h1
      simp only [h1, if_true]
      exact ⟨_, ne_nil_of_not_isEmpty h1, rfl⟩
    · rename_i h1
      split at h
      · rename_i h2
        simp only [h1, h2, Bool.false_eq_true, if_false, if_true]
        exact ⟨_, ne_nil_of_not_isEmpty h2, rfl⟩
      · cases h
  | some so =>
    refine ⟨nofun, fun s order hso => ?_⟩
    cases hso
    unfold phaseStart at h
    simp only at h
    split at h
    · cases h
    · rename_i h1
      split at h
      · cases h
      · rename_i h2
        simp only [h1, h2, Bool.false_eq_true, if_false]
        simp only [Option.some.injEq, Prod.mk.injEq] at h
        obtain ⟨hs, ho⟩ := h
        subst hs ho
        exact ⟨eq_nil_of_isEmpty h2, _, rfl⟩

/-! ### the loop visits every tree that has augments -/

/-- Every seq that is bound in one of the two module tables and belongs to a loaded module is in
the loop's module order. -/
theorem seq_in_order (reg : Registry) (m : Mod) (hm : m ∈ reg.mods)
    (hb : (reg.modules ++ reg.subModules).any (·.2 == m.seq) = true) :
    m.seq ∈ (sortBy (fun (a b : Mod) =>
      if a.fullName != b.fullName then a.fullName < b.fullName else !a.isSub && b.isSub)
      ((reg.modules ++ reg.subModules).filterMap fun kv => reg.byId kv.2)).map (·.seq) := by
  obtain ⟨kv, hkv, hk⟩ := List.any_eq_true.mp hb
  have hk' : kv.2 = m.seq := by simpa using hk
  -- `byId` finds a module with that seq
  have hfind : ∃ m', reg.byId kv.2 = some m' ∧ m'.seq = kv.2 := by
    unfold Registry.byId
    cases hf : reg.mods.find? (·.seq == kv.2) with
    | none =>
      have := List.find?_eq_none.mp hf m hm
      simp [hk'] at this
    | some m' => exact ⟨m', rfl, by simpa using List.find?_some hf⟩
  obtain ⟨m', hm', hseq⟩ := hfind
  refine List.mem_map.mpr ⟨m', ?_, by rw [hseq, hk']⟩
  rw [mem_sortBy]
  exact List.mem_filterMap.mpr ⟨kv, hkv, hm'⟩

theorem phaseStart_cover (reg : Registry) (opts : Opts) (plug : Plug) (s : PState) (order : List Nat)
    (h : phaseStart reg opts plug = some (s, order)) : Cover s order.toArray := by
  unfold phaseStart at h
  simp only at h
  split at h
  · cases h
  · split at h
    · cases h
    · simp only [Option.some.injEq, Prod.mk.injEq] at h
      obtain ⟨hs, ho⟩ := h
      subst hs ho
      intro id hne
      have hk := mem_keys_of_pendingOf_ne_nil _ id hne
      simp only [keys, List.map_map, List.mem_map, Function.comp] at hk
      obtain ⟨m, hm, hid⟩ := hk
      subst hid
      show _ ∈ (List.toArray _).toList
      rcases List.mem_append.mp hm with hm | hm
      · simp only [Registry.distinctModules, List.mem_filter] at hm
        exact seq_in_order reg m hm.1 (by rw [List.any_append, hm.2]; rfl)
      · simp only [Registry.distinctSubs, List.mem_filter] at hm
        exact seq_in_order reg m hm.1 (by rw [List.any_append, hm.2]; simp)

end Goyang.Lemmas.AugmentReport
