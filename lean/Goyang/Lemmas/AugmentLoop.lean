import Goyang.Lemmas.AugmentStep
/-
C07 — the retry loop (`augmentTreeR` / `augmentPassR` / `augmentLoopR`, i.e. the model's
`augmentTree` / `augmentPass` / `augmentLoop` with their trace): bookkeeping of the pending sets,
the chain of views along the trace, termination within the fuel, completeness at exit.
A pass and the loop are sequences of calls of `augmentTreeR` (`Calls`): what every sequence of calls
keeps is proved on `Calls`, what the scheduling adds (which trees are called, which stay listed) in
`pass_calls` / `loop_calls`.
-/
namespace Goyang.Lemmas.AugmentLoop
open Goyang.Model Goyang.Spec.Augment Goyang.Lemmas.AugmentConfl Goyang.Lemmas.AugmentTree
  Goyang.Lemmas.AugmentModel Goyang.Lemmas.AugmentStep

/-! ### chains of applied augments -/

/-- Identity of an applied augment: owner tree and augment entry. -/
def Ev.key (ev : Ev) : Nat × Entry := (ev.owner, ev.aug)

/-- `Chain R f0 f tr f'`: starting from forest `f`, the events of `tr` are successful attempts in
this order, separated by changes that are invisible on the view (failed attempts), ending in `f'`.
`f0` is the forest the run started from (it fixes the namespaces). -/
inductive Chain (R : Res) (f0 : Forest) : Forest → List Ev → Forest → Prop
  | nil {f f' : Forest} : viewOf f' = viewOf f → FLe f f' → Chain R f0 f [] f'
  | cons {f f2 f' : Forest} {ev : Ev} {tr : List Ev} :
      viewOf ev.before = viewOf f → FLe f ev.before →
      attemptR R ev.owner false (nsOfR R f0 ev.owner) ev.aug ev.before = (f2, true) →
      Chain R f0 f2 tr f' → Chain R f0 f (ev :: tr) f'

theorem Chain.le {R : Res} {f0 f f' : Forest} {tr : List Ev} (h : Chain R f0 f tr f') : FLe f f' := by
  induction h with
  | nil _ hle => exact hle
  | cons _ hle hatt _ ih => exact hle.trans ((attempt_ok_le hatt).trans ih)

/-- A chain may start from any forest that shows the same view and lies below. -/
theorem Chain.weaken {R : Res} {f0 f1 f f' : Forest} {tr : List Ev} (h : Chain R f0 f1 tr f')
    (hv : viewOf f1 = viewOf f) (hle : FLe f f1) : Chain R f0 f tr f' := by
  cases h with
  | nil hv' hle' => exact Chain.nil (hv'.trans hv) (hle.trans hle')
  | cons hv' hle' hatt hrest => exact Chain.cons (hv'.trans hv) (hle.trans hle') hatt hrest

theorem Chain.append {R : Res} {f0 f f1 f2 : Forest} {t1 t2 : List Ev} (h1 : Chain R f0 f t1 f1)
    (h2 : Chain R f0 f1 t2 f2) : Chain R f0 f (t1 ++ t2) f2 := by
  induction h1 with
  | nil hv hle => exact h2.weaken hv hle
  | cons hv hle hatt _ ih => exact Chain.cons hv hle hatt (ih h2)

/-! ### one `augmentTreeR` call -/

theorem FoldRel.le {R : Res} {id : Nat} {ae : Bool} {nsOf : String} {f f' : Forest} {l U : List Entry} {tr : List Ev}
    (h : FoldRel R id ae nsOf f l f' U tr) : FLe f f' := by
  induction h with
  | nil f => exact FLe.refl f
  | fail hatt _ ih => exact (attempt_fail hatt).2.1.trans ih
  | ok hatt _ ih => exact (attempt_ok_le hatt).trans ih

/-- The fold of one call is a chain; when nothing is applied, nothing was applicable and nothing
was dropped. -/
theorem FoldRel.chain {R : Res} {f0 : Forest} {id : Nat} {f f' : Forest} {l U : List Entry} {tr : List Ev}
    (h : FoldRel R id false (nsOfR R f0 id) f l f' U tr) : Chain R f0 f tr f' := by
  induction h with
  | nil f => exact Chain.nil rfl (FLe.refl f)
  | fail hatt _ ih =>
    obtain ⟨hv, hle, _, _⟩ := attempt_fail hatt
    exact ih.weaken hv hle
  | ok hatt _ ih => exact Chain.cons rfl (FLe.refl _) hatt ih

theorem FoldRel.nothing {R : Res} {id : Nat} {ae : Bool} {nsOf : String} {f f' : Forest} {l U : List Entry}
    (h : FoldRel R id ae nsOf f l f' U []) :
    U = l ∧ viewOf f' = viewOf f ∧ ∀ a ∈ l, ∀ f0, ¬ (absAug R f0 id a).Applicable (viewOf f) := by
  generalize htr : ([] : List Ev) = tr at h
  induction h with
  | nil f => exact ⟨rfl, rfl, by simp⟩
  | fail hatt _ ih =>
    obtain ⟨hv, _, hna, _⟩ := attempt_fail hatt
    obtain ⟨h1, h2, h3⟩ := ih htr
    refine ⟨by rw [h1], h2.trans hv, ?_⟩
    intro a ha f0
    rcases List.mem_cons.mp ha with rfl | ha
    · exact hna f0
    · rw [← hv]; exact h3 a ha f0
  | ok _ _ _ => cases htr

/-- With `addErrors`, every augment that is left over has its error on a visible node at the end. -/
theorem FoldRel.leftover_err {R : Res} {id : Nat} {nsOf : String} {f f' : Forest} {l U : List Entry} {tr : List Ev}
    (h : FoldRel R id true nsOf f l f' U tr) (hid : (f.tree? id).isSome = true) :
    FLe f f' ∧ ∀ a ∈ U, FVisErr f' (Err.at_ a.d.node "augment-not-found") := by
  induction h with
  | nil f => exact ⟨FLe.refl f, by simp⟩
  | @fail f f1 f'' a l U tr hatt _ ih =>
    obtain ⟨_, hle, _, herr⟩ := attempt_fail hatt
    obtain ⟨hle2, hU⟩ := ih (by rw [hle.isSome]; exact hid)
    refine ⟨hle.trans hle2, ?_⟩
    intro b hb
    rcases List.mem_cons.mp hb with rfl | hb
    · exact (herr rfl hid).mono hle2
    · exact hU b hb
  | @ok f f1 f'' a l U tr hatt _ ih =>
    have hle := attempt_ok_le hatt
    obtain ⟨hle2, hU⟩ := ih (by rw [hle.isSome]; exact hid)
    exact ⟨hle.trans hle2, hU⟩

/-! ### bookkeeping of the pending sets -/

/-- Every pending list is duplicate free. -/
def NodupPending (s : PState) : Prop := ∀ id, (s.pendingOf id).Nodup

/-- `s'` is `s` with exactly the augments of the trace `tr` removed from the pending lists. -/
structure Book (s s' : PState) (tr : List Ev) : Prop where
  pending : ∀ id a, a ∈ s'.pendingOf id ↔ (a ∈ s.pendingOf id ∧ (id, a) ∉ tr.map Ev.key)
  fromPending : ∀ ev ∈ tr, ev.aug ∈ s.pendingOf ev.owner
  nodup : (tr.map Ev.key).Nodup
  nodupPending : NodupPending s'

theorem Book.refl {s : PState} (h : NodupPending s) : Book s s [] :=
  ⟨fun _ _ => by simp, by simp, by simp, h⟩

theorem Book.trans {s s1 s2 : PState} {t1 t2 : List Ev} (h1 : Book s s1 t1) (h2 : Book s1 s2 t2) :
    Book s s2 (t1 ++ t2) := by
  refine ⟨?_, ?_, ?_, h2.nodupPending⟩
  · intro id a
    rw [h2.pending, h1.pending]
    simp only [List.map_append, List.mem_append, not_or, and_assoc]
  · intro ev hev
    rcases List.mem_append.mp hev with h | h
    · exact h1.fromPending ev h
    · exact ((h1.pending ev.owner ev.aug).mp (h2.fromPending ev h)).1
  · rw [List.map_append, List.nodup_append]
    refine ⟨h1.nodup, h2.nodup, ?_⟩
    intro x hx y hy hxy
    subst hxy
    obtain ⟨ev, hev, rfl⟩ := List.mem_map.mp hy
    have := (h1.pending ev.owner ev.aug).mp (h2.fromPending ev hev)
    exact this.2 hx

theorem Book.ne_nil {s s' : PState} {tr : List Ev} (h : Book s s' tr) {id : Nat} (hne : s'.pendingOf id ≠ []) :
    s.pendingOf id ≠ [] := by
  obtain ⟨a, ha⟩ := List.exists_mem_of_ne_nil _ hne
  exact List.ne_nil_of_mem ((h.pending id a).mp ha).1

/-- The bookkeeping of one call. -/
theorem FoldRel.map_key {R : Res} {id : Nat} {ae : Bool} {nsOf : String} {f f' : Forest} {l U : List Entry} {tr : List Ev}
    (h : FoldRel R id ae nsOf f l f' U tr) : tr.map Ev.key = (tr.map (·.aug)).map (Prod.mk id) := by
  induction h with
  | nil f => rfl
  | fail _ _ ih => exact ih
  | ok _ _ ih => simp only [List.map_cons, ih, Ev.key]

theorem tree_book (R : Res) (id : Nat) (ae : Bool) (s : PState) (hn : NodupPending s) :
    Book s (augmentTreeR R id ae s).1 (augmentTreeR R id ae s).2.2.2 := by
  obtain ⟨hrel, hother, _⟩ := augmentTreeR_rel R id ae s
  obtain ⟨hnU, hnT, hdis⟩ := hrel.nodup (hn id)
  have hmem := hrel.mem_iff
  have hin : ∀ id' a, (id', a) ∈ (augmentTreeR R id ae s).2.2.2.map Ev.key ↔
      id' = id ∧ a ∈ (augmentTreeR R id ae s).2.2.2.map (·.aug) := by
    intro id' a
    rw [FoldRel.map_key hrel]
    simp only [List.mem_map, Prod.mk.injEq]
    exact ⟨fun ⟨_, ⟨ev, hev, hb⟩, h1, h2⟩ => ⟨h1.symm, ev, hev, hb.trans h2⟩,
      fun ⟨h1, ev, hev, h2⟩ => ⟨_, ⟨ev, hev, rfl⟩, h1.symm, h2⟩⟩
  refine ⟨fun id' a => ?_, fun ev hev => ?_, ?_, fun id' => ?_⟩
  · rw [hin]
    by_cases hid : id' = id
    · subst hid
      rw [hmem]
      exact ⟨fun ha => ⟨Or.inl ha, fun h => hdis a ha h.2⟩, fun ⟨h1, h2⟩ => h1.resolve_right fun h => h2 ⟨rfl, h⟩⟩
    · rw [hother id' hid]
      exact ⟨fun ha => ⟨ha, fun h => hid h.1⟩, fun h => h.1⟩
  · rw [hrel.owner ev hev]
    exact (hmem ev.aug).mpr (Or.inr (List.mem_map.mpr ⟨ev, hev, rfl⟩))
  · rw [FoldRel.map_key hrel]
    exact List.Pairwise.map _ (fun a b h hab => h (Prod.mk.inj hab).2) hnT
  · by_cases hid : id' = id
    · rw [hid]; exact hnU
    · rw [hother id' hid]; exact hn id'

/-! ### swap-remove on the module list -/

/-- Go: `mods[i] = mods[len(mods)-1]; mods = mods[:len(mods)-1]`, on the list of the array. -/
def swapRemove (l : List Nat) (i : Nat) : List Nat := (l.set i (l.getLast?.getD 0)).dropLast

theorem swapRemove_getElem (l : List Nat) (i : Nat) (hi : i < l.length) (j : Nat) (hj : j < l.length) (hne : j ≠ i) :
    ∃ j', ∃ h : j' < (swapRemove l i).length, (swapRemove l i)[j'] = l[j] ∧ (i < j → i ≤ j') := by
  have hlen : (swapRemove l i).length = l.length - 1 := by simp [swapRemove]
  by_cases hjl : j = l.length - 1
  · refine ⟨i, by omega, ?_, fun _ => Nat.le_refl i⟩
    subst hjl
    simp [swapRemove, List.getLast?_eq_getElem?, List.getElem?_eq_getElem hj]
  · refine ⟨j, by omega, ?_, fun h => Nat.le_of_lt h⟩
    simp [swapRemove, Ne.symm hne]

theorem swapRemove_spec (l : List Nat) (i : Nat) (hi : i < l.length) :
    (∀ x ∈ swapRemove l i, x ∈ l) ∧ (∀ x ∈ l, x ≠ l[i] → x ∈ swapRemove l i) ∧
    (∀ x ∈ l.drop (i + 1), x ∈ (swapRemove l i).drop i) ∧ (swapRemove l i).length + 1 = l.length := by
  refine ⟨fun x hx => ?_, fun x hx hne => ?_, fun x hx => ?_, by simp [swapRemove]; omega⟩
  · rcases List.mem_or_eq_of_mem_set (List.dropLast_subset _ hx) with h | h
    · exact h
    · rw [h, List.getLast?_eq_getElem?, List.getElem?_eq_getElem (by omega)]
      exact List.getElem_mem _
  · obtain ⟨j, hj, rfl⟩ := List.mem_iff_getElem.mp hx
    obtain ⟨j', h', e, _⟩ := swapRemove_getElem l i hi j hj (fun h => hne (by subst h; rfl))
    exact e ▸ List.getElem_mem h'
  · obtain ⟨k, hk, rfl⟩ := List.mem_drop_iff_getElem.mp hx
    obtain ⟨j', h', e, hge⟩ := swapRemove_getElem l i hi (i + 1 + k) (by omega) (by omega)
    obtain ⟨m, rfl⟩ := Nat.exists_eq_add_of_le (hge (by omega))
    exact List.mem_drop_iff_getElem.mpr ⟨m, by omega, e⟩

theorem swapRemove_toList (mods : Array Nat) (i : Nat) (h : i < mods.size) :
    ((mods.set i (mods.back?.getD 0) h).pop).toList = swapRemove mods.toList i := by
  simp [swapRemove]

/-! ### the termination measure -/

def keys (s : PState) : List Nat := s.pending.map (·.1)

/-- Number of pending augments, counted per entry of the pending table. -/
def mu (s : PState) : Nat := ((keys s).map fun i => (s.pendingOf i).length).sum

theorem keys_setPending (s : PState) (id : Nat) (l : List Entry) : keys (s.setPending id l) = keys s := by
  unfold keys PState.setPending
  simp only [List.map_map]
  apply List.map_congr_left
  intro x _
  obtain ⟨i, p⟩ := x
  simp only [Function.comp]
  split <;> rfl

theorem mem_keys_of_pendingOf_ne_nil (s : PState) (id : Nat) (h : s.pendingOf id ≠ []) : id ∈ keys s := by
  unfold PState.pendingOf at h
  cases hf : s.pending.find? (·.1 == id) with
  | none => simp [hf] at h
  | some x =>
    have h1 : x.1 = id := by simpa using List.find?_some hf
    exact List.mem_map.mpr ⟨x, List.mem_of_find?_eq_some hf, h1⟩

theorem sum_update (K : List Nat) (g g' : Nat → Nat) (id p : Nat) (hne : ∀ i, i ≠ id → g' i = g i)
    (hid : g' id + p = g id) :
    (K.map g').sum ≤ (K.map g).sum ∧ (id ∈ K → (K.map g').sum + p ≤ (K.map g).sum) := by
  induction K with
  | nil => simp
  | cons k K ih =>
    simp only [List.map_cons, List.sum_cons, List.mem_cons]
    by_cases hk : k = id
    · subst hk
      refine ⟨by omega, fun _ => by omega⟩
    · rw [hne k hk]
      refine ⟨by omega, ?_⟩
      rintro (h | h)
      · exact absurd h.symm hk
      · have := ih.2 h; omega

/-- One call lowers the measure by at least the number of augments it applies. -/
theorem mu_tree (R : Res) (id : Nat) (ae : Bool) (s : PState) :
    keys (augmentTreeR R id ae s).1 = keys s ∧
    mu (augmentTreeR R id ae s).1 + (augmentTreeR R id ae s).2.2.2.length ≤ mu s := by
  obtain ⟨hrel, hother, _⟩ := augmentTreeR_rel R id ae s
  have hk : keys (augmentTreeR R id ae s).1 = keys s := by
    unfold augmentTreeR; simp only; rw [keys_setPending]; rfl
  refine ⟨hk, ?_⟩
  unfold mu
  rw [hk]
  have hlen := hrel.length_eq
  have hsum := sum_update (keys s) (fun i => (s.pendingOf i).length)
    (fun i => ((augmentTreeR R id ae s).1.pendingOf i).length) id (augmentTreeR R id ae s).2.2.2.length
    (fun i hi => by simp only [hother i hi]) (by rw [Nat.add_comm]; exact hlen)
  by_cases hin : id ∈ keys s
  · exact hsum.2 hin
  · have hnil : s.pendingOf id = [] := by
      apply Classical.byContradiction
      intro h; exact hin (mem_keys_of_pendingOf_ne_nil s id h)
    rw [hnil] at hlen
    simp only [List.length_nil] at hlen
    rw [Nat.eq_zero_of_add_eq_zero_right hlen]; exact hsum.1

theorem foldl_add_eq_sum {α : Type} (f : α → Nat) (l : List α) (n : Nat) :
    l.foldl (fun n p => n + f p) n = n + (l.map f).sum := by
  induction l generalizing n with
  | nil => simp
  | cons x xs ih => simp [List.foldl_cons, ih, Nat.add_assoc]

theorem lookup_of_nodup (l : List (Nat × List Entry)) (hn : (l.map (·.1)).Nodup) :
    ∀ p ∈ l, ((l.find? (·.1 == p.1)).map (·.2)).getD [] = p.2 := by
  induction l with
  | nil => simp
  | cons x xs ih =>
    simp only [List.map_cons, List.nodup_cons] at hn
    intro p hp
    rw [List.find?_cons]
    rcases List.mem_cons.mp hp with rfl | hp
    · simp
    · have : ¬ x.1 = p.1 := fun h => hn.1 (h ▸ List.mem_map.mpr ⟨p, hp, rfl⟩)
      have hb : (x.1 == p.1) = false := by simpa using this
      rw [hb]; exact ih hn.2 p hp

/-- With distinct keys in the pending table the measure is the count `processAll` uses. -/
theorem mu_eq_total (s : PState) (hn : (keys s).Nodup) :
    mu s = s.pending.foldl (fun n p => n + p.2.length) 0 := by
  rw [foldl_add_eq_sum (fun p : Nat × List Entry => p.2.length)]
  unfold mu keys
  simp only [List.map_map, Nat.zero_add]
  congr 1
  apply List.map_congr_left
  intro p hp
  simp only [Function.comp, PState.pendingOf]
  rw [lookup_of_nodup s.pending hn p hp]


/-- `Calls R ae s ids s' tr`: calling `augmentTreeR R · ae` on the trees `ids`, in this order, takes
`s` to `s'`; `tr` is the concatenation of the traces.  A pass, the loop and the reporting sweep are
such sequences; what holds of every sequence of calls is proved here once. -/
inductive Calls (R : Res) (ae : Bool) : PState → List Nat → PState → List Ev → Prop
  | nil (s : PState) : Calls R ae s [] s []
  | cons {s s' : PState} {id : Nat} {ids : List Nat} {tr : List Ev} :
      Calls R ae (augmentTreeR R id ae s).1 ids s' tr →
      Calls R ae s (id :: ids) s' ((augmentTreeR R id ae s).2.2.2 ++ tr)

theorem tree_le (R : Res) (id : Nat) (ae : Bool) (s : PState) : FLe s.forest (augmentTreeR R id ae s).1.forest :=
  FoldRel.le (augmentTreeR_rel R id ae s).1

namespace Calls
variable {R : Res} {ae : Bool} {s s' : PState} {ids : List Nat} {tr : List Ev}

theorem append {s1 s2 : PState} {i1 i2 : List Nat} {t1 t2 : List Ev} (h1 : Calls R ae s i1 s1 t1)
    (h2 : Calls R ae s1 i2 s2 t2) : Calls R ae s (i1 ++ i2) s2 (t1 ++ t2) := by
  induction h1 with
  | nil _ => exact h2
  | cons _ ih => rw [List.append_assoc]; exact cons (ih h2)

theorem pending_sub (h : Calls R ae s ids s' tr) (id : Nat) : ∀ a ∈ s'.pendingOf id, a ∈ s.pendingOf id := by
  induction h with
  | nil _ => exact fun _ h => h
  | cons _ ih => exact fun a ha => augmentTreeR_pending_sub R _ ae _ id a (ih a ha)

theorem pending_ne_nil (h : Calls R ae s ids s' tr) {id : Nat} (hne : s'.pendingOf id ≠ []) : s.pendingOf id ≠ [] := by
  obtain ⟨a, ha⟩ := List.exists_mem_of_ne_nil _ hne
  exact List.ne_nil_of_mem (h.pending_sub id a ha)

theorem le (h : Calls R ae s ids s' tr) : FLe s.forest s'.forest := by
  induction h with
  | nil _ => exact FLe.refl _
  | cons _ ih => exact (tree_le R _ ae _).trans ih

theorem book (h : Calls R ae s ids s' tr) (hn : NodupPending s) : Book s s' tr := by
  induction h with
  | nil _ => exact Book.refl hn
  | @cons s _ id _ _ _ ih =>
    have hb := tree_book R id ae s hn
    exact hb.trans (ih hb.nodupPending)

theorem mu_le (h : Calls R ae s ids s' tr) : keys s' = keys s ∧ mu s' + tr.length ≤ mu s := by
  induction h with
  | nil _ => exact ⟨rfl, Nat.le_refl _⟩
  | @cons s _ id _ _ _ ih =>
    obtain ⟨k1, m1⟩ := mu_tree R id ae s
    rw [List.length_append]
    exact ⟨ih.1.trans k1, by omega⟩

theorem chain {f0 : Forest} (h : Calls R false s ids s' tr) (hle : FLe f0 s.forest) :
    Chain R f0 s.forest tr s'.forest := by
  induction h with
  | nil _ => exact Chain.nil rfl (FLe.refl _)
  | @cons s s' id ids tr _ ih =>
    have hrel := (augmentTreeR_rel R id false s).1
    rw [nsOfR_le R hle] at hrel
    exact (FoldRel.chain hrel).append (ih (hle.trans (tree_le R id false s)))

theorem nothing (h : Calls R ae s ids s' []) :
    (∀ id, s'.pendingOf id = s.pendingOf id) ∧ viewOf s'.forest = viewOf s.forest ∧
    ∀ id ∈ ids, ∀ a ∈ s.pendingOf id, ∀ f0, ¬ (absAug R f0 id a).Applicable (viewOf s.forest) := by
  generalize htr : ([] : List Ev) = tr at h
  induction h with
  | nil _ => exact ⟨fun _ => rfl, rfl, fun _ h => nomatch h⟩
  | @cons s s' id ids tr _ ih =>
    obtain ⟨h1, h2⟩ := List.append_eq_nil_iff.mp htr.symm
    obtain ⟨hrel, hother, _⟩ := augmentTreeR_rel R id ae s
    rw [h1] at hrel
    obtain ⟨hU, hv, hna⟩ := FoldRel.nothing hrel
    have hpend : ∀ id', (augmentTreeR R id ae s).1.pendingOf id' = s.pendingOf id' := fun id' => by
      by_cases hid : id' = id
      · rw [hid, hU]
      · exact hother id' hid
    obtain ⟨i1, i2, i3⟩ := ih h2.symm
    refine ⟨fun id' => (i1 id').trans (hpend id'), i2.trans hv, ?_⟩
    intro id' hid' a ha f0
    rcases List.mem_cons.mp hid' with rfl | hid'
    · exact hna a ha f0
    · rw [← hv]; exact i3 id' hid' a (by rw [hpend]; exact ha) f0

end Calls

/-! ### one pass -/

theorem passNext_spec (mods : Array Nat) (i : Nat) (h : i < mods.size) (k : Nat) :
    (∀ m ∈ (passNext mods i h k).1.toList, m ∈ mods.toList) ∧
    (∀ id ∈ mods.toList, id ≠ mods[i] ∨ k ≠ 0 → id ∈ (passNext mods i h k).1.toList) ∧
    (∀ id ∈ mods.toList.drop (i + 1), id ∈ (passNext mods i h k).1.toList.drop (passNext mods i h k).2) ∧
    (passNext mods i h k).1.size - (passNext mods i h k).2 < mods.size - i := by
  unfold passNext
  by_cases hk : k = 0
  · obtain ⟨s1, s2, s3, _⟩ := swapRemove_spec mods.toList i (by simpa using h)
    simp only [hk, beq_self_eq_true, if_true, swapRemove_toList]
    refine ⟨s1, fun id hid hor => s2 id hid (by simpa using hor.resolve_right (fun h => h rfl)), s3, ?_⟩
    simp only [Array.size_pop, Array.size_set]
    omega
  · simp only [beq_iff_eq, hk, if_false]
    exact ⟨fun _ h => h, fun _ h _ => h, fun _ h => h, by omega⟩

/-- What a pass returns (`r`), as a sequence of calls on `ids` with trace `trn`. -/
structure PassRun (R : Res) (fuel : Nat) (mods : Array Nat) (i p : Nat) (s : PState) (tr : List Ev)
    (r : Array Nat × Nat × PState × List Ev) (ids : List Nat) (trn : List Ev) : Prop where
  calls : Calls R false s ids r.2.2.1 trn
  trace : r.2.2.2 = tr ++ trn
  count : r.2.1 = p + trn.length
  sub : ∀ m ∈ r.1.toList, m ∈ mods.toList
  /-- a tree leaves the list only when nothing is pending for it -/
  keep : ∀ id ∈ mods.toList, r.2.2.1.pendingOf id ≠ [] → id ∈ r.1.toList
  /-- with enough fuel every tree from position `i` on is called -/
  visits : mods.size - i ≤ fuel → ∀ id ∈ mods.toList.drop i, id ∈ ids

theorem PassRun.stop {R : Res} {fuel : Nat} {mods : Array Nat} {i p : Nat} {s : PState} {tr : List Ev}
    (h : mods.size - i ≤ fuel → mods.size ≤ i) : PassRun R fuel mods i p s tr (mods, p, s, tr) [] [] :=
  ⟨.nil s, by simp, by simp, fun _ h => h, fun _ h _ => h, fun hf id hid => by
    rw [List.drop_eq_nil_of_le (by simpa using h hf)] at hid; cases hid⟩

theorem pass_calls (R : Res) : ∀ (fuel : Nat) (mods : Array Nat) (i p : Nat) (s : PState) (tr : List Ev),
    ∃ ids trn, PassRun R fuel mods i p s tr (augmentPassR R fuel mods i p s tr) ids trn
  | 0, mods, i, p, s, tr => ⟨[], [], PassRun.stop (by omega)⟩
  | fuel + 1, mods, i, p, s, tr => by
    by_cases h : i < mods.size
    · rw [augmentPassR_succ R fuel mods i p s tr h]
      obtain ⟨_, _, hp, hk⟩ := augmentTreeR_rel R mods[i] false s
      obtain ⟨n1, n2, n3, n4⟩ := passNext_spec mods i h (augmentTreeR R mods[i] false s).2.2.1
      obtain ⟨ids, trn, hc, e1, e2, hsub, hkeep, hvis⟩ := pass_calls R fuel
        (passNext mods i h (augmentTreeR R mods[i] false s).2.2.1).1 (passNext mods i h (augmentTreeR R mods[i] false s).2.2.1).2
        (p + (augmentTreeR R mods[i] false s).2.1) (augmentTreeR R mods[i] false s).1
        (tr ++ (augmentTreeR R mods[i] false s).2.2.2)
      refine ⟨mods[i] :: ids, (augmentTreeR R mods[i] false s).2.2.2 ++ trn, .cons hc, by rw [e1, List.append_assoc],
        by rw [e2, hp, List.length_append, Nat.add_assoc], fun m hm => n1 m (hsub m hm), ?_, ?_⟩
      · intro id hid hne
        refine hkeep id (n2 id hid ?_) hne
        by_cases hidm : id = mods[i]
        · -- the call left something pending for `mods[i]`
          refine Or.inr fun hk0 => hc.pending_ne_nil hne ?_
          rw [hidm]
          exact List.eq_nil_of_length_eq_zero (hk ▸ hk0)
        · exact Or.inl hidm
      · intro hf id hid
        rw [List.drop_eq_getElem_cons (by simpa using h)] at hid
        rcases List.mem_cons.mp hid with rfl | hid
        · simp
        · exact List.mem_cons_of_mem _ (hvis (by omega) id (n3 id hid))
    · rw [augmentPassR_stop R _ mods i p s tr (Or.inr h)]
      exact ⟨[], [], PassRun.stop (by omega)⟩

/-! ### the loop -/

/-- Every tree with pending augments is in the module list. -/
def Cover (s : PState) (mods : Array Nat) : Prop := ∀ id, s.pendingOf id ≠ [] → id ∈ mods.toList

theorem PassRun.cover {R : Res} {fuel : Nat} {mods : Array Nat} {i p : Nat} {s : PState} {tr : List Ev}
    {r : Array Nat × Nat × PState × List Ev} {ids : List Nat} {trn : List Ev} (h : PassRun R fuel mods i p s tr r ids trn)
    (hcov : Cover s mods) : Cover r.2.2.1 r.1 :=
  fun id hne => h.keep id (hcov id (h.calls.pending_ne_nil hne)) hne

theorem loop_calls (R : Res) : ∀ (fuel : Nat) (mods : Array Nat) (s : PState) (tr : List Ev),
    ∃ ids trn, Calls R false s ids (augmentLoopR R fuel mods s tr).2.1 trn ∧
      (augmentLoopR R fuel mods s tr).2.2 = tr ++ trn ∧
      (∀ m ∈ (augmentLoopR R fuel mods s tr).1.toList, m ∈ mods.toList) ∧
      (Cover s mods → Cover (augmentLoopR R fuel mods s tr).2.1 (augmentLoopR R fuel mods s tr).1) ∧
      (0 < fuel → ∀ id ∈ mods.toList, id ∈ ids)
  | 0, mods, s, tr => ⟨[], [], .nil s, by simp [augmentLoopR], fun _ h => h, fun h => h, fun h => absurd h (Nat.lt_irrefl 0)⟩
  | fuel + 1, mods, s, tr => by
    by_cases he : mods.isEmpty = true
    · rw [augmentLoopR_stop R _ mods s tr (Or.inr he)]
      refine ⟨[], [], .nil s, by simp, fun _ h => h, fun h => h, fun _ id hid => ?_⟩
      rw [show mods.toList = [] by simpa using he] at hid
      cases hid
    · obtain ⟨ids1, trn1, hp⟩ := pass_calls R (mods.size + 1) mods 0 0 s tr
      have hall : ∀ id ∈ mods.toList, id ∈ ids1 := fun id hid => hp.visits (by omega) id (by simpa using hid)
      by_cases h0 : (augmentPassR R (mods.size + 1) mods 0 0 s tr).2.1 = 0
      · rw [augmentLoopR_done R fuel mods s tr he h0]
        exact ⟨ids1, trn1, hp.calls, hp.trace, hp.sub, hp.cover, fun _ => hall⟩
      · rw [augmentLoopR_again R fuel mods s tr he h0]
        obtain ⟨ids2, trn2, hc2, e2, hsub2, hcov2, _⟩ := loop_calls R fuel (augmentPassR R (mods.size + 1) mods 0 0 s tr).1
          (augmentPassR R (mods.size + 1) mods 0 0 s tr).2.2.1 (augmentPassR R (mods.size + 1) mods 0 0 s tr).2.2.2
        exact ⟨ids1 ++ ids2, trn1 ++ trn2, hp.calls.append hc2, by rw [e2, hp.trace, List.append_assoc],
          fun m hm => hp.sub m (hsub2 m hm), fun hcov => hcov2 (hp.cover hcov),
          fun _ id hid => List.mem_append_left _ (hall id hid)⟩

theorem loop_complete (R : Res) : ∀ (fuel : Nat) (mods : Array Nat) (s : PState) (tr : List Ev), Cover s mods → mu s < fuel →
    ∀ id, ∀ a ∈ (augmentLoopR R fuel mods s tr).2.1.pendingOf id, ∀ f0,
      ¬ (absAug R f0 id a).Applicable (viewOf (augmentLoopR R fuel mods s tr).2.1.forest)
  | 0, _, _, _, _, h => by omega
  | fuel + 1, mods, s, tr, hcov, hfuel => by
    by_cases he : mods.isEmpty = true
    · rw [augmentLoopR_stop R _ mods s tr (Or.inr he)]
      intro id a ha
      have := hcov id (List.ne_nil_of_mem ha)
      rw [show mods.toList = [] by simpa using he] at this
      cases this
    · obtain ⟨ids1, trn1, hp⟩ := pass_calls R (mods.size + 1) mods 0 0 s tr
      have hcount := hp.count
      by_cases h0 : (augmentPassR R (mods.size + 1) mods 0 0 s tr).2.1 = 0
      · rw [augmentLoopR_done R fuel mods s tr he h0]
        have htrn : trn1 = [] := List.eq_nil_of_length_eq_zero (by omega)
        subst htrn
        obtain ⟨hpend, hview, hna⟩ := hp.calls.nothing
        intro id a ha f0
        rw [hpend] at ha
        rw [hview]
        exact hna id (hp.visits (by omega) id (by simpa using hcov id (List.ne_nil_of_mem ha))) a ha f0
      · rw [augmentLoopR_again R fuel mods s tr he h0]
        have hmu := hp.calls.mu_le.2
        exact loop_complete R fuel _ _ _ (hp.cover hcov) (by omega)

/-- Everything the loop does: its trace is a chain of successful attempts from the initial to the
final forest, the pending sets shrink by exactly the applied augments, and — when the fuel
exceeds the number of pending augments — no pending augment is applicable in the final forest. -/
theorem loop_spec (R : Res) (f0 : Forest) : ∀ (fuel : Nat) (mods : Array Nat) (s : PState) (tr : List Ev),
    FLe f0 s.forest → NodupPending s → Cover s mods →
    ∃ trn, (augmentLoopR R fuel mods s tr).2.2 = tr ++ trn ∧
      Chain R f0 s.forest trn (augmentLoopR R fuel mods s tr).2.1.forest ∧
      Book s (augmentLoopR R fuel mods s tr).2.1 trn ∧
      keys (augmentLoopR R fuel mods s tr).2.1 = keys s ∧
      (∀ m ∈ (augmentLoopR R fuel mods s tr).1.toList, m ∈ mods.toList) ∧
      Cover (augmentLoopR R fuel mods s tr).2.1 (augmentLoopR R fuel mods s tr).1 ∧
      (mu s < fuel → ∀ id, ∀ a ∈ (augmentLoopR R fuel mods s tr).2.1.pendingOf id,
        ¬ (absAug R f0 id a).Applicable (viewOf (augmentLoopR R fuel mods s tr).2.1.forest))
  | fuel, mods, s, tr, hle, hn, hcov => by
    obtain ⟨ids, trn, hc, e, hsub, hcov', _⟩ := loop_calls R fuel mods s tr
    exact ⟨trn, e, hc.chain hle, hc.book hn, hc.mu_le.1, hsub, hcov' hcov,
      fun hfuel id a ha => loop_complete R fuel mods s tr hcov hfuel id a ha f0⟩

/-- No truncation: above the number of pending augments the fuel does not matter. -/
theorem loop_fuel_irrelevant (R : Res) : ∀ (fuel1 fuel2 : Nat) (mods : Array Nat) (s : PState) (tr : List Ev),
    NodupPending s → mu s < fuel1 → mu s < fuel2 →
    augmentLoopR R fuel1 mods s tr = augmentLoopR R fuel2 mods s tr
  | 0, _, _, _, _, _, h, _ => by omega
  | _ + 1, 0, _, _, _, _, _, h => by omega
  | fuel1 + 1, fuel2 + 1, mods, s, tr, hn, h1, h2 => by
    by_cases he : mods.isEmpty = true
    · rw [augmentLoopR_stop R _ mods s tr (Or.inr he), augmentLoopR_stop R _ mods s tr (Or.inr he)]
    · obtain ⟨ids1, trn1, hp⟩ := pass_calls R (mods.size + 1) mods 0 0 s tr
      by_cases h0 : (augmentPassR R (mods.size + 1) mods 0 0 s tr).2.1 = 0
      · rw [augmentLoopR_done R fuel1 mods s tr he h0, augmentLoopR_done R fuel2 mods s tr he h0]
      · rw [augmentLoopR_again R fuel1 mods s tr he h0, augmentLoopR_again R fuel2 mods s tr he h0]
        have hmu := hp.calls.mu_le.2
        have hcount := hp.count
        exact loop_fuel_irrelevant R fuel1 fuel2 _ _ _ (hp.calls.book hn).nodupPending (by omega) (by omega)

theorem augmentLoopR_pending_sub (R : Res) (fuel : Nat) (mods : Array Nat) (s : PState) (tr : List Ev) (id' : Nat) :
    ∀ a ∈ ((augmentLoopR R fuel mods s tr).2.1).pendingOf id', a ∈ s.pendingOf id' := by
  obtain ⟨_, _, hc, _⟩ := loop_calls R fuel mods s tr
  exact hc.pending_sub id'

theorem augmentLoop_eq (reg : Registry) (fuel : Nat) (mods : Array Nat) (s : PState) (tr : List Ev)
    (hp : PlainPending reg s) :
    augmentLoop reg fuel mods s =
      let r := augmentLoopR (Res.ofReg reg) fuel mods s tr
      (r.1, r.2.1) := by
  induction fuel generalizing mods s tr with
  | zero => rfl
  | succ fuel ih =>
    by_cases he : mods.isEmpty = true
    · rw [augmentLoopR_stop _ _ mods s tr (Or.inr he), augmentLoop, if_pos he]
    · obtain ⟨_, _, hr⟩ := pass_calls (Res.ofReg reg) (mods.size + 1) mods 0 0 s tr
      rw [augmentLoop, if_neg he, augmentPass_eq reg (mods.size + 1) mods 0 0 s tr hp]
      by_cases h0 : (augmentPassR (Res.ofReg reg) (mods.size + 1) mods 0 0 s tr).2.1 = 0
      · rw [augmentLoopR_done _ fuel mods s tr he h0]
        simp only [h0, beq_self_eq_true, if_true]
      · rw [augmentLoopR_again _ fuel mods s tr he h0]
        simp only [beq_iff_eq, h0, if_false]
        exact ih _ _ _ fun id' a ha => hp id' a (hr.calls.pending_sub id' a ha)

end Goyang.Lemmas.AugmentLoop
