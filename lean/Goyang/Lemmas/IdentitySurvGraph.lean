import Goyang.Lemmas.IdentitySurvive
/-
Helper lemmas for C11, part 8: `resolveIdentities` against an identity graph of the specification.
The argument is over a list of statements `sv` that the dictionary agrees with
(`Agrees`) and whose graph is `G` (`SurvFacts`): `resolveIdentities_agrees`.  The surviving
statements of any schema (`survivorGraph`) and all statements of a schema with one statement per
vertex (`graph`) are the two instances.
-/
open Goyang.Lemmas.RegistryAux (byId_mem)
namespace Goyang.Lemmas.Identity
open Goyang.Model Goyang.Model.Identity
open Goyang.Spec.Identity (Reach names parts graph Graph Derives survivorGraph registrations survivors
  statementsOf vertexStmts ValuesOK Acyclic AllBasesResolve refTarget)

theorem survivorGraph_facts {r : Registry} {G : Graph} (h : survivorGraph r = some G) :
    ∃ ps R, registrations r = some R ∧ SurvFacts r G ps (survivors R) := by
  unfold survivorGraph at h
  split at h
  · rename_i ps R hps hR
    cases h
    exact ⟨ps, R, hR, survFacts_of hps rfl rfl rfl rfl⟩
  · cases h

/-- The surviving statements define distinct vertices. -/
theorem survivors_nodup {β : Type} : ∀ (L : List (Spec.Identity.Vertex × β)), ((survivors L).map (·.1)).Nodup := by
  intro L
  induction L with
  | nil => simp [survivors]
  | cons a rest ih =>
    simp only [survivors]
    split
    · exact ih
    · rename_i hany
      rw [List.map_cons, List.nodup_cons]
      refine ⟨?_, ih⟩
      intro hm
      obtain ⟨y, hy, hk⟩ := List.mem_map.mp hm
      have := ((mem_survivors rest y).mp hy).mem
      exact hany (List.any_eq_true.mpr ⟨y, this, by simp [hk]⟩)

section AgreeS
variable {r : Registry} {G : Graph} {ps : List Mod} {sv : List Surv} {dict : Dict}

theorem get?_vertexS (hnc : ∀ m ∈ r.mods, ':' ∉ m.name.toList) (ag : Agrees r dict sv)
    {m : Mod} (hm : m ∈ r.mods) {arg : String} {v : Spec.Identity.Vertex} (hn : names r m arg = some v)
    {e : DEntry} (hg : dict.get? (Vtx.key v) = some e) : e ∈ dict ∧ e.vtx = v := by
  obtain ⟨he, hk⟩ := get?_some hg
  obtain ⟨_, _, _, hk', ow', how', hname'⟩ := ag.a1 e he
  obtain ⟨t, ht, hvt⟩ := names_mem hn hm
  refine ⟨he, key_inj ?_ ?_ (hk' ▸ hk)⟩
  · rw [hname']; exact hnc ow' how'
  · rw [hvt]; exact hnc t ht

/-- Resolution of one base argument written in a loaded (sub)module `m`, both ways. -/
theorem resolve_agreesS (hreg : RegOK r) (hnc : ∀ m ∈ r.mods, ':' ∉ m.name.toList) (sf : SurvFacts r G ps sv)
    (ag : Agrees r dict sv) {m : Mod} (hm : m ∈ r.mods) (arg : String) (b : Vtx) :
    (∃ eb, findIdentityBase r dict m arg = .ok eb ∧ eb.vtx = b) ↔ (names r m arg = some b ∧ b ∈ G.verts) := by
  constructor
  · rintro ⟨eb, hf, hb⟩
    obtain ⟨v, hn, hg⟩ := (findIdentityBase_ok r hreg dict m arg eb).mp hf
    obtain ⟨hmem, hv⟩ := get?_vertexS hnc ag hm hn hg
    obtain ⟨m', _, hsv, _⟩ := ag.a1 eb hmem
    rw [← hb, hv]
    exact ⟨hn, (sf.verts v).mpr ⟨_, hsv, hv⟩⟩
  · rintro ⟨hn, hb⟩
    obtain ⟨x, hx, hxv⟩ := (sf.verts b).mp hb
    obtain ⟨e, he, hev, _, _⟩ := ag.a2 x hx
    obtain ⟨_, _, _, hk, _⟩ := ag.a1 e he
    obtain ⟨eb, hg⟩ := get?_of_key (d := dict) (k := Vtx.key b) ⟨e, he, by rw [hk, hev, hxv]⟩
    exact ⟨eb, (findIdentityBase_ok r hreg dict m arg eb).mpr ⟨b, hn, hg⟩, (get?_vertexS hnc ag hm hn hg).2⟩

theorem findIdentityBase_agrees (hreg : RegOK r) (hnc : ∀ m ∈ r.mods, ':' ∉ m.name.toList) (sf : SurvFacts r G ps sv)
    (ag : Agrees r dict sv) {m : Mod} (hm : m ∈ r.mods) (arg : String) (v : Vtx) :
    (∃ e, findIdentityBase r dict m arg = .ok e ∧ e ∈ dict ∧ e.vtx = v) ↔ (names r m arg = some v ∧ v ∈ G.verts) := by
  rw [← resolve_agreesS hreg hnc sf ag hm arg v]
  constructor
  · rintro ⟨e, hf, _, hv⟩
    exact ⟨e, hf, hv⟩
  · rintro ⟨e, hf, hv⟩
    exact ⟨e, hf, findIdentityBase_mem hf, hv⟩

/-- The model's edges are the edges of the survivors' graph. -/
theorem medge_iffS (hreg : RegOK r) (hnc : ∀ m ∈ r.mods, ':' ∉ m.name.toList) (sf : SurvFacts r G ps sv)
    (ag : Agrees r dict sv) (b i : Vtx) : MEdge r dict b i ↔ (i, b) ∈ G.edges := by
  rw [sf.edges]
  constructor
  · rintro ⟨e, he, hei, eb, hrb, hebb⟩
    obtain ⟨m, hroot, hsv, _, _⟩ := ag.a1 e he
    unfold resolvedBases at hrb
    rw [hroot] at hrb
    obtain ⟨base, hbase, hf⟩ := List.mem_map.mp hrb
    obtain ⟨hn, hb⟩ := (resolve_agreesS hreg hnc sf ag (byId_mem hroot) base.arg b).mp ⟨eb, hf, hebb⟩
    exact ⟨_, hsv, hei, base, hbase, hn, hb⟩
  · rintro ⟨x, hx, hi, base, hbase, hn, hb⟩
    obtain ⟨e, he, hev, hest, hroot⟩ := ag.a2 x hx
    obtain ⟨eb, hf, hebb⟩ := (resolve_agreesS hreg hnc sf ag (byId_mem hroot) base.arg b).mpr ⟨hn, hb⟩
    refine ⟨e, he, hev.trans hi, eb, ?_, hebb⟩
    unfold resolvedBases
    rw [hroot]
    exact List.mem_map.mpr ⟨base, hest ▸ hbase, hf⟩

/-- No base statement of a dictionary entry fails iff the survivors' graph has no dangling base. -/
theorem baseErrs_iffS (hreg : RegOK r) (hnc : ∀ m ∈ r.mods, ':' ∉ m.name.toList) (sf : SurvFacts r G ps sv)
    (ag : Agrees r dict sv) : (∀ e ∈ dict, baseErrs r dict e = []) ↔ G.dangling = [] := by
  rw [sf.dangling]
  constructor
  · intro hall x hx base hbase
    obtain ⟨e, he, _, hest, hroot⟩ := ag.a2 x hx
    have hnil := hall e he
    unfold baseErrs resolvedBases at hnil
    rw [hroot, List.filterMap_eq_nil_iff] at hnil
    have := hnil (findIdentityBase r dict x.2.1 base.arg) (List.mem_map.mpr ⟨base, hest ▸ hbase, rfl⟩)
    cases hf : findIdentityBase r dict x.2.1 base.arg with
    | error err => simp [hf] at this
    | ok eb =>
      exact ⟨eb.vtx, (resolve_agreesS hreg hnc sf ag (byId_mem hroot) base.arg eb.vtx).mp ⟨eb, hf, rfl⟩⟩
  · intro hall e he
    obtain ⟨m, hroot, hsv, _, _⟩ := ag.a1 e he
    unfold baseErrs resolvedBases
    rw [hroot, List.filterMap_eq_nil_iff]
    intro rb hrb
    obtain ⟨base, hbase, rfl⟩ := List.mem_map.mp hrb
    obtain ⟨b, hn, hb⟩ := hall _ hsv base hbase
    obtain ⟨eb, hf, _⟩ := (resolve_agreesS hreg hnc sf ag (byId_mem hroot) base.arg b).mpr ⟨hn, hb⟩
    simp [hf]

end AgreeS

theorem derives_left_vertexS {r : Registry} {G : Graph} {ps : List Mod} {sv : List Surv} (sf : SurvFacts r G ps sv)
    {j i : Spec.Identity.Vertex} (h : Derives G j i) : j ∈ G.verts := by
  cases h with
  | base h =>
    obtain ⟨x, hx, hj, _⟩ := (sf.edges _ _).mp h
    exact (sf.verts _).mpr ⟨x, hx, hj⟩
  | step h _ =>
    obtain ⟨x, hx, hj, _⟩ := (sf.edges _ _).mp h
    exact (sf.verts _).mpr ⟨x, hx, hj⟩

theorem derives_right_vertexS {r : Registry} {G : Graph} {ps : List Mod} {sv : List Surv} (sf : SurvFacts r G ps sv)
    {j i : Spec.Identity.Vertex} (h : Derives G j i) : i ∈ G.verts := by
  induction h with
  | base h =>
    obtain ⟨_, _, _, _, _, _, hb⟩ := (sf.edges _ _).mp h
    exact hb
  | step _ _ ih => exact ih

/-- What `resolveIdentities` achieves against an identity graph `G`: the dictionary holds the
vertices, a base argument resolves exactly when it names one (and then to its entry), every vertex
ends up with the ascending list of what is derived from it, nothing else has a list, and the error
list is empty exactly when the graph has no defect. -/
structure Resolves (r : Registry) (G : Graph) (res : Result) : Prop where
  dict : ∀ v, (∃ e ∈ res.dict, e.vtx = v) ↔ v ∈ G.verts
  find : ∀ m ∈ r.mods, ∀ (arg : String) (v : Vtx),
    (∃ e, findIdentityBase r res.dict m arg = .ok e ∧ e ∈ res.dict ∧ e.vtx = v) ↔
      (names r m arg = some v ∧ v ∈ G.verts)
  vals : ∀ i ∈ G.verts, (∀ j, j ∈ res.vals i ↔ Derives G j i) ∧
    (res.vals i).Pairwise (fun a b => vtxLt a b = true)
  outside : ∀ x, x ∉ G.verts → res.vals x = []
  errs : res.errs = [] ↔ G.orphans = [] ∧ G.dangling = [] ∧ ∀ v, ¬ Derives G v v

namespace Resolves
variable {r : Registry} {G : Graph} {res res' : Result}

theorem valuesOK (h : Resolves r G res) {i : Vtx} (hi : i ∈ G.verts) : ValuesOK G i (res.vals i) :=
  ⟨(h.vals i hi).1, pairwise_before (h.vals i hi).2⟩

theorem upper (h : Resolves r G res) (x j : Vtx) (hj : j ∈ res.vals x) : Derives G j x := by
  by_cases hx : x ∈ G.verts
  · exact ((h.vals x hx).1 j).mp hj
  · rw [h.outside x hx] at hj
    cases hj

theorem errs_ne (h : Resolves r G res) :
    res.errs ≠ [] ↔ (G.dangling ≠ [] ∨ G.orphans ≠ [] ∨ ∃ v, Derives G v v) := by
  rw [Ne, h.errs]
  constructor
  · intro hn
    apply Classical.byContradiction
    intro hc
    simp only [not_or, not_exists, Ne, Decidable.not_not] at hc
    obtain ⟨hdangling, horphans, hacyclic⟩ := hc
    exact hn ⟨horphans, hdangling, hacyclic⟩
  · rintro (h1 | h1 | ⟨v, hv⟩) ⟨h2, h3, h4⟩
    · exact h1 h3
    · exact h1 h2
    · exact h4 v hv

theorem closed (h : Resolves r G res) (hac : Acyclic G) (hall : AllBasesResolve G) :
    res.errs = [] ∧ ∀ i ∈ G.verts, ValuesOK G i (res.vals i) ∧ (res.vals i).Nodup ∧ i ∉ res.vals i :=
  ⟨h.errs.mpr ⟨hall.2, hall.1, hac⟩, fun i hi =>
    ⟨h.valuesOK hi, vtxLt_strictTotal.nodup (h.vals i hi).2, fun hm => hac i (h.upper i i hm)⟩⟩

theorem unique (h : Resolves r G res) (h' : Resolves r G res') :
    res.vals = res'.vals ∧ (res.errs = [] ↔ res'.errs = []) := by
  refine ⟨?_, h.errs.trans h'.errs.symm⟩
  funext x
  by_cases hx : x ∈ G.verts
  · exact sorted_unique vtxLt_strictTotal (h.vals x hx).2 (h'.vals x hx).2
      (fun a => ((h.vals x hx).1 a).trans ((h'.vals x hx).1 a).symm)
  · rw [h.outside x hx, h'.outside x hx]

theorem identityref (h : Resolves r G res) : ∀ m ∈ r.mods, ∀ (ty b : Stmt), ty.one? "base" = some b → ∀ v,
    (∃ e, identityrefBase r res.dict m ty = .ok e ∧ e ∈ res.dict ∧ e.vtx = v) ↔
      refTarget r G m b.arg = some v := by
  intro m hm ty b hb v
  unfold identityrefBase refTarget
  simp only [hb]
  rw [h.find m hm b.arg v]
  cases names r m b.arg with
  | none => simp
  | some w =>
    rw [Option.filter_some]
    by_cases hw : w ∈ G.verts
    · simp only [hw, decide_true, if_true, Option.some.injEq]
      exact ⟨fun ⟨e, _⟩ => e, fun e => ⟨e, e ▸ hw⟩⟩
    · simp only [hw, decide_false, Bool.false_eq_true, if_false, Option.some.injEq, reduceCtorEq, iff_false]
      rintro ⟨rfl, hv⟩
      exact hw hv

end Resolves

/-- `resolveIdentities` against the graph of a list of statements `sv` that the dictionary agrees
with, for every admissible oracle, started from `Values` lists that hold derived identities only
(all empty on fresh `Modules`; the lists of an earlier `Process` on a later one). -/
theorem resolveIdentities_agrees (o : Oracle) (ho : o.Valid) (r : Registry) (lk : Link) (hlk : LinkOK r lk)
    (hreg : RegOK r) (hnc : ∀ m ∈ r.mods, ':' ∉ m.name.toList) {G : Graph} {ps : List Mod} {sv : List Surv}
    (sf : SurvFacts r G ps sv) (hag : ∀ dict errs, buildDict o r lk = some (dict, errs) → Agrees r dict sv)
    (vals0 : Vtx → List Vtx) (hv0 : ∀ x j, j ∈ vals0 x → Derives G j x) :
    ∃ res, resolveIdentities o r lk vals0 = some res ∧ Resolves r G res := by
  obtain ⟨dict', errs1', hbd', _, _, herr1⟩ := buildDict_spec o ho r lk hlk
  obtain ⟨res, errs1, hbd, hres, _, hclosed, hout, herrs⟩ :=
    resolveIdentities_model o ho r lk hlk vals0 (fun dict errs hb x j hj =>
      (below_iff_derives (medge_iffS hreg hnc sf (hag dict errs hb)) x j).mpr (hv0 x j hj))
  rw [hbd] at hbd'
  simp only [Option.some.injEq, Prod.mk.injEq] at hbd'
  obtain ⟨rfl, rfl⟩ := hbd'
  have ag := hag _ _ hbd
  have hE := medge_iffS hreg hnc sf ag
  have hverts : ∀ v, (∃ e ∈ res.dict, e.vtx = v) ↔ v ∈ G.verts := by
    intro v
    constructor
    · rintro ⟨e, he, rfl⟩
      obtain ⟨m, _, hsv, _⟩ := ag.a1 e he
      exact (sf.verts _).mpr ⟨_, hsv, rfl⟩
    · intro hv
      obtain ⟨x, hx, rfl⟩ := (sf.verts v).mp hv
      obtain ⟨e, he, hev, _⟩ := ag.a2 x hx
      exact ⟨e, he, hev⟩
  refine ⟨res, hres, hverts, fun m hm => findIdentityBase_agrees hreg hnc sf ag hm, ?_, ?_, ?_⟩
  · intro i hi
    obtain ⟨e, he, rfl⟩ := (hverts i).mpr hi
    obtain ⟨h1, h2⟩ := hclosed e he
    exact ⟨fun j => (h1 j).trans (below_iff_derives hE e.vtx j), h2⟩
  · intro x hx
    have hnone : ∀ e ∈ res.dict, e.vtx ≠ x := fun e he hev => hx ((hverts x).mp ⟨e, he, hev⟩)
    apply List.eq_nil_iff_forall_not_mem.mpr
    intro j hj
    exact hx (derives_right_vertexS sf (hv0 x j ((hout x hnone j).mp hj)))
  · rw [herrs, herr1, baseErrs_iffS hreg hnc sf ag, sf.orphans]
    constructor
    · rintro ⟨h1, h2, h3⟩
      refine ⟨?_, h2, ?_⟩
      · intro m hm
        obtain ⟨s, hin, hb⟩ := (parts_spec sf.parts m).mp hm
        exact h1 s hin m hb
      · intro v hd
        obtain ⟨e, he, rfl⟩ := (hverts v).mpr (derives_left_vertexS sf hd)
        exact h3 e he ((below_iff_derives hE _ _).mpr hd)
    · rintro ⟨h1, h2, h3⟩
      refine ⟨?_, h2, ?_⟩
      · intro s hin m hb
        exact h1 m ((parts_spec sf.parts m).mpr ⟨s, hin, hb⟩)
      · intro e he hb
        exact h3 e.vtx ((below_iff_derives hE _ _).mp hb)

theorem resolveIdentities_survivors (o : Oracle) (ho : o.Valid) (r : Registry) (lk : Link) (hlk : LinkOK r lk)
    (hreg : RegOK r) (hk : KeysDistinct r) (hnc : ∀ m ∈ r.mods, ':' ∉ m.name.toList)
    (G : Graph) (hG : survivorGraph r = some G) :
    ∃ res, resolveIdentities o r lk (fun _ => []) = some res ∧ Resolves r G res := by
  obtain ⟨ps, R, hR, sf⟩ := survivorGraph_facts hG
  exact resolveIdentities_agrees o ho r lk hlk hreg hnc sf
    (buildDict_survivors o ho r lk hlk hk hnc R hR) _ (fun _ _ h => nomatch h)


theorem resolveIdentities_graph (o : Oracle) (ho : o.Valid) (r : Registry) (lk : Link) (hlk : LinkOK r lk)
    (hyp : Hyp r) (G : Graph) (hG : graph r = some G)
    (vals0 : Vtx → List Vtx) (hv0 : ∀ x j, j ∈ vals0 x → Derives G j x) :
    ∃ res, resolveIdentities o r lk vals0 = some res ∧ Resolves r G res := by
  obtain ⟨ps, gf⟩ := graph_facts hG
  obtain ⟨dict, errs, hbd, hs, hc, _⟩ := buildDict_spec o ho r lk hlk
  refine resolveIdentities_agrees o ho r lk hlk hyp.reg hyp.noColon gf.toSurv ?_ vals0 hv0
  intro dict' errs' hbd'
  rw [hbd] at hbd'
  cases hbd'
  exact agrees_full hyp (hyp.one G hG) gf hs hc

end Goyang.Lemmas.Identity
