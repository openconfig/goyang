/-
Helper lemmas for C14 (core Lean only): the Go fold over enum/bit members simulates the declarative
RFC 7950 assignment of `Goyang.Spec.Enum`.
-/
import Goyang.Model.Enum
import Goyang.Spec.Enum
import Goyang.Lemmas.NumberPrint
import Goyang.Lemmas.InsertionAux

namespace Goyang.Lemmas.Enum
open Goyang.Model.Enum
open Goyang.Spec.Enum (Kind nextValue valuesFrom table Valid assign)

theorem nodup_reverse {α : Type} (l : List α) (h : l.Nodup) : l.reverse.Nodup := by
  unfold List.Nodup at h ⊢
  rw [List.pairwise_reverse]
  exact h.imp (fun hab => fun e => hab e.symm)

/-! ### association lists -/

theorem lookup_isSome {α β : Type} [DecidableEq α] (m : List (α × β)) (k : α) :
    (mapGet m k).isSome = true ↔ k ∈ m.map (·.1) := by
  induction m with
  | nil => simp [mapGet]
  | cons p rest ih =>
    unfold mapGet
    by_cases h : p.1 = k
    · simp [h]
    · simp [h, ih, Ne.symm h]

theorem filter_ne_id {α β : Type} [DecidableEq α] (m : List (α × β)) (k : α) (h : k ∉ m.map (·.1)) :
    m.filter (fun p => p.1 ≠ k) = m := by
  apply List.filter_eq_self.mpr
  intro p hp
  have : p.1 ≠ k := by
    intro e; apply h; rw [← e]; exact List.mem_map_of_mem hp
  simpa using this

theorem insert_absent {α β : Type} [DecidableEq α] (m : List (α × β)) (k : α) (v : β) (h : k ∉ m.map (·.1)) :
    mapSet m k v = (k, v) :: m := by
  unfold mapSet; rw [filter_ne_id m k h]

theorem lookup_filter {α β : Type} [DecidableEq α] (m : List (α × β)) (k k' : α) :
    mapGet (m.filter (fun p => p.1 ≠ k)) k' = if k' = k then none else mapGet m k' := by
  induction m with
  | nil => simp [mapGet]
  | cons p rest ih =>
    by_cases ha : p.1 = k
    · -- the head is filtered out; it could only have answered a lookup of `k` itself
      rw [List.filter_cons_of_neg (by simpa using ha), ih]
      by_cases hk : k' = k
      · rw [if_pos hk, if_pos hk]
      · have hpk : ¬ p.1 = k' := fun e => hk (e ▸ ha)
        rw [if_neg hk, if_neg hk, mapGet, if_neg hpk]
    · -- the head is kept and is compared with `k'` as before
      rw [List.filter_cons_of_pos (by simpa using ha), mapGet, mapGet]
      by_cases hak : p.1 = k'
      · rw [if_pos hak, if_pos hak, if_neg (hak ▸ ha)]
      · rw [if_neg hak, if_neg hak, ih]

theorem lookup_insert {α β : Type} [DecidableEq α] (m : List (α × β)) (k : α) (v : β) (k' : α) :
    mapGet (mapSet m k v) k' = if k = k' then some v else mapGet m k' := by
  simp only [mapSet, mapGet]
  by_cases h : k = k'
  · simp [h]
  · simp only [h, if_false]
    rw [lookup_filter]
    have : ¬ k' = k := fun e => h e.symm
    simp [this]

theorem lookup_of_nodup {α β : Type} [DecidableEq α] (m : List (α × β)) (h : (m.map (·.1)).Nodup) (k : α) (v : β) :
    mapGet m k = some v ↔ (k, v) ∈ m := by
  induction m with
  | nil => simp [mapGet]
  | cons p rest ih =>
    obtain ⟨a, b⟩ := p
    simp only [List.map_cons, List.nodup_cons] at h
    unfold mapGet
    by_cases hak : a = k
    · subst hak
      have : (a, v) ∉ rest := fun hm => h.1 (List.mem_map_of_mem (f := (·.1)) hm)
      simp [this, eq_comm]
    · simp [hak, ih h.2, Ne.symm hak]

/-! ### the specification's ingredients -/

def imax (a b : Int) : Int := if a ≤ b then b else a

theorem foldl_imax_bounds (lo hi : Int) : ∀ (vs : List Int) (a : Int), lo ≤ a → a ≤ hi → (∀ v ∈ vs, lo ≤ v ∧ v ≤ hi) →
    lo ≤ vs.foldl (fun a b => if a ≤ b then b else a) a ∧ vs.foldl (fun a b => if a ≤ b then b else a) a ≤ hi
  | [], a, h1, h2, _ => ⟨h1, h2⟩
  | v :: vs, a, h1, h2, hb => by
    have hv := hb v (by simp)
    simp only [List.foldl_cons]
    apply foldl_imax_bounds lo hi vs
    · split <;> omega
    · split <;> omega
    · intro x hx; exact hb x (by simp [hx])

theorem nextValue_bounds (lo hi : Int) (vs : List Int) (hne : vs ≠ []) (hb : ∀ v ∈ vs, lo ≤ v ∧ v ≤ hi) :
    lo + 1 ≤ nextValue vs ∧ nextValue vs ≤ hi + 1 := by
  cases vs with
  | nil => exact absurd rfl hne
  | cons v vs =>
    have hv := hb v (by simp)
    have := foldl_imax_bounds lo hi vs v hv.1 hv.2 (fun x hx => hb x (by simp [hx]))
    unfold nextValue; simp only; omega

theorem nextValue_snoc (vs : List Int) (v : Int) (hne : vs ≠ []) :
    nextValue (vs ++ [v]) = (if nextValue vs - 1 ≤ v then v else nextValue vs - 1) + 1 := by
  cases vs with
  | nil => exact absurd rfl hne
  | cons a vs =>
    unfold nextValue
    simp only [List.cons_append, List.foldl_append, List.foldl_cons, List.foldl_nil]
    have : (1 + List.foldl (fun a b => if a ≤ b then b else a) a vs - 1) = List.foldl (fun a b => if a ≤ b then b else a) a vs := by omega
    rw [this]; omega

theorem valid_snoc (k : Kind) (tbl : List (Name × Int)) (name : Name) (v : Int) :
    Valid k (tbl ++ [(name, v)]) ↔
      (Valid k tbl ∧ name ∉ tbl.map (·.1) ∧ (k.uniqueValues = true → v ∉ tbl.map (·.2)) ∧ k.min ≤ v ∧ v ≤ k.max) := by
  unfold Valid
  simp only [List.map_append, List.map_cons, List.map_nil, List.nodup_append, List.nodup_cons, List.not_mem_nil,
    not_false_eq_true, List.nodup_nil, and_self, List.mem_cons, or_false, true_and, ne_eq, forall_eq, List.mem_append]
  constructor
  · rintro ⟨⟨h1, h2⟩, h3, h4⟩
    refine ⟨⟨h1, fun hu => (h3 hu).1, fun p hp => h4 p (Or.inl hp)⟩, ?_, ?_, ?_⟩
    · intro hm; exact h2 name hm rfl
    · intro hu hm; exact (h3 hu).2 v hm rfl
    · exact h4 (name, v) (Or.inr rfl)
  · rintro ⟨⟨h1, h2, h3⟩, h4, h5, h6⟩
    refine ⟨⟨h1, ?_⟩, ?_, ?_⟩
    · intro a ha e; subst e; exact h4 ha
    · intro hu; exact ⟨h2 hu, fun a ha e => by subst e; exact h5 hu ha⟩
    · rintro p (hp | hp)
      · exact h3 p hp
      · subst hp; exact h6

theorem valid_prefix (k : Kind) (a b : List (Name × Int)) (h : Valid k (a ++ b)) : Valid k a := by
  unfold Valid at h ⊢
  obtain ⟨h1, h2, h3⟩ := h
  simp only [List.map_append, List.nodup_append] at h1 h2
  exact ⟨h1.1, fun hu => (h2 hu).1, fun p hp => h3 p (List.mem_append.mpr (Or.inl hp))⟩

/-! ### the simulation relation -/

/-- the Go state `e` holds exactly the table `tbl` (members in written order) of a type of kind `k` -/
structure Rel (k : Kind) (e : EnumType) (tbl : List (Name × Int)) : Prop where
  hmin : e.min = k.min
  hmax : e.max = k.max
  huniq : e.unique = k.uniqueValues
  toInt : e.toInt = tbl.reverse
  valid : Valid k tbl
  keys : ∀ v, (mapGet e.toString v).isSome = true ↔ v ∈ tbl.map (·.2)
  inv : k.uniqueValues = true → e.toString = (tbl.map fun p => (p.2, p.1)).reverse
  last : tbl ≠ [] → e.last + 1 = nextValue (tbl.map (·.2))

def new (k : Kind) : EnumType :=
  match k with
  | .enumeration => newEnumType
  | .bits => newBitfield

theorem rel_new (k : Kind) : Rel k (new k) [] := by
  cases k <;>
  exact { hmin := rfl, hmax := rfl, huniq := rfl, toInt := rfl,
          valid := ⟨List.nodup_nil, fun _ => List.nodup_nil, fun p hp => by simp at hp⟩,
          keys := fun v => by simp [new, newEnumType, newBitfield, mapGet],
          inv := fun _ => rfl, last := fun h => absurd rfl h }

theorem Rel.length_eq_zero {k : Kind} {e : EnumType} {tbl : List (Name × Int)} (R : Rel k e tbl) :
    e.toInt.length = 0 ↔ tbl = [] := by
  rw [R.toInt]; simp

theorem kind_bounds (k : Kind) : -2147483648 ≤ k.min ∧ k.max ≤ 4294967295 := by
  cases k <;> simp [Kind.min, Kind.max]

theorem rel_snoc (k : Kind) (e : EnumType) (tbl : List (Name × Int)) (name : Name) (v : Int) (R : Rel k e tbl)
    (hV : Valid k (tbl ++ [(name, v)])) :
    Rel k { e with last := if e.toInt.length = 0 || v ≥ e.last then v else e.last,
                   toString := mapSet e.toString v name, toInt := mapSet e.toInt name v } (tbl ++ [(name, v)]) := by
  obtain ⟨_, hn, hu, _, _⟩ := (valid_snoc k tbl name v).mp hV
  refine { hmin := R.hmin, hmax := R.hmax, huniq := R.huniq, toInt := ?_, valid := hV, keys := ?_, inv := ?_, last := ?_ }
  · show mapSet e.toInt name v = _
    rw [insert_absent _ _ _ (by rw [R.toInt]; simpa using hn), R.toInt]; simp
  · intro v'
    by_cases hvv : v = v'
    · simp [lookup_insert, hvv]
    · simp [lookup_insert, hvv, R.keys v', Ne.symm hvv]
  · intro hu'
    have hab : v ∉ ((tbl.map fun p => (p.2, p.1)).reverse).map (·.1) := by
      simpa using hu hu'
    show mapSet e.toString v name = _
    rw [R.inv hu', insert_absent _ _ _ hab]
    simp
  · intro _
    simp only [R.length_eq_zero, List.map_append, List.map_cons, List.map_nil]
    by_cases ht : tbl = []
    · subst ht
      simp [nextValue]; omega
    · rw [nextValue_snoc _ _ (by simpa using ht), ← R.last ht]
      simp only [ht, decide_false, Bool.false_or, decide_eq_true_eq, Int.add_sub_cancel, ge_iff_le]

/-- `Set` succeeds exactly when the extended table is valid, and then holds the extended table -/
theorem set_spec (k : Kind) (e : EnumType) (tbl : List (Name × Int)) (name : Name) (v : Int) (R : Rel k e tbl) :
    (Valid k (tbl ++ [(name, v)]) → ∃ e', e.set name v = .ok e' ∧ Rel k e' (tbl ++ [(name, v)])) ∧
    (¬ Valid k (tbl ++ [(name, v)]) → ∃ err, e.set name v = .error err) := by
  -- the four guards of `Set` are the four clauses by which the extended table can be invalid
  have g1 : (mapGet e.toInt name).isSome = true ↔ name ∈ tbl.map (·.1) := by
    rw [lookup_isSome, R.toInt]; simp
  have g2 : (e.unique && (mapGet e.toString v).isSome) = true ↔ ¬ (k.uniqueValues = true → v ∉ tbl.map (·.2)) := by
    rw [Bool.and_eq_true, R.huniq, R.keys v, Classical.not_imp, Classical.not_not]
  unfold EnumType.set
  by_cases hV : Valid k (tbl ++ [(name, v)])
  · obtain ⟨_, hn, hu, h3, h4⟩ := (valid_snoc k tbl name v).mp hV
    rw [if_neg (mt g1.mp hn), if_neg (mt g2.mp (not_not_intro hu)), if_neg (R.hmin ▸ Int.not_lt.mpr h3),
      if_neg (R.hmax ▸ Int.not_lt.mpr h4)]
    exact ⟨fun _ => ⟨_, rfl, rel_snoc k e tbl name v R hV⟩, fun h => absurd hV h⟩
  · refine ⟨fun h => absurd h hV, fun _ => ?_⟩
    by_cases h1 : (mapGet e.toInt name).isSome = true
    · exact ⟨_, if_pos h1⟩
    · rw [if_neg h1]
      by_cases h2 : (e.unique && (mapGet e.toString v).isSome) = true
      · exact ⟨_, if_pos h2⟩
      · rw [if_neg h2]
        by_cases h3 : v < e.min
        · exact ⟨_, if_pos h3⟩
        · rw [if_neg h3]
          by_cases h4 : v > e.max
          · exact ⟨_, if_pos h4⟩
          · exact absurd ((valid_snoc k tbl name v).mpr ⟨R.valid, mt g1.mpr h1, Classical.not_not.mp (mt g2.mpr h2),
              R.hmin ▸ Int.not_lt.mp h3, R.hmax ▸ Int.not_lt.mp h4⟩) hV

/-- `SetNext` is `Set` with the automatic value of the specification -/
theorem setNext_spec (k : Kind) (e : EnumType) (tbl : List (Name × Int)) (name : Name) (R : Rel k e tbl) :
    (Valid k (tbl ++ [(name, nextValue (tbl.map (·.2)))]) →
      ∃ e', e.setNext name = .ok e' ∧ Rel k e' (tbl ++ [(name, nextValue (tbl.map (·.2)))])) ∧
    (¬ Valid k (tbl ++ [(name, nextValue (tbl.map (·.2)))]) → ∃ err, e.setNext name = .error err) := by
  unfold EnumType.setNext
  by_cases ht : tbl = []
  · subst ht
    rw [if_pos (R.length_eq_zero.mpr rfl)]
    exact set_spec k e [] name 0 R
  · rw [if_neg (mt R.length_eq_zero.mp ht)]
    have hl := R.last ht
    have hne : tbl.map (·.2) ≠ [] := by simpa using ht
    have hb := nextValue_bounds k.min k.max (tbl.map (·.2)) hne (by
      intro v hv
      simp only [List.mem_map] at hv
      obtain ⟨p, hp, rfl⟩ := hv
      exact R.valid.2.2 p hp)
    have hk := kind_bounds k
    by_cases hmx : e.last = e.max
    · simp only [hmx, if_true]
      refine ⟨fun hv => ?_, fun _ => ⟨_, rfl⟩⟩
      have := ((valid_snoc k tbl name _).mp hv).2.2.2
      rw [← hl, hmx, R.hmax] at this; omega
    · simp only [hmx, if_false]
      have hH : (Goyang.Model.Number.H : Int) = 9223372036854775808 := rfl
      have hw := Goyang.Lemmas.Number.toI64_toU64 (e.last + 1) (by omega) (by omega)
      rw [hw, hl]
      exact set_spec k e tbl name _ R

/-! ### the fold -/

/-- a member given by name and optional (already parsed) value -/
def toMember (p : Name × Option Int) : Member :=
  { name := p.1, val := match p.2 with | none => .implicit | some i => .explicit i }

/-- the value the specification gives the next member -/
def valueOf (vals : List Int) (ov : Option Int) : Int :=
  match ov with
  | some i => i
  | none => nextValue vals

theorem step_spec (k : Kind) (e : EnumType) (tbl : List (Name × Int)) (p : Name × Option Int) (R : Rel k e tbl) :
    (Valid k (tbl ++ [(p.1, valueOf (tbl.map (·.2)) p.2)]) →
      ∃ e', e.step (toMember p) = .ok e' ∧ Rel k e' (tbl ++ [(p.1, valueOf (tbl.map (·.2)) p.2)])) ∧
    (¬ Valid k (tbl ++ [(p.1, valueOf (tbl.map (·.2)) p.2)]) → ∃ err, e.step (toMember p) = .error err) := by
  obtain ⟨name, ov⟩ := p
  cases ov with
  | none => exact setNext_spec k e tbl name R
  | some i => exact set_spec k e tbl name i R

theorem valuesFrom_cons (vals : List Int) (ov : Option Int) (rest : List (Option Int)) :
    valuesFrom vals (ov :: rest) = valueOf vals ov :: valuesFrom (vals ++ [valueOf vals ov]) rest := by
  cases ov <;> rfl

/-- the table the specification builds on top of `tbl` -/
def extend (tbl : List (Name × Int)) (ms : List (Name × Option Int)) : List (Name × Int) :=
  tbl ++ (ms.map (·.1)).zip (valuesFrom (tbl.map (·.2)) (ms.map (·.2)))

theorem extend_cons (tbl : List (Name × Int)) (p : Name × Option Int) (rest : List (Name × Option Int)) :
    extend tbl (p :: rest) = extend (tbl ++ [(p.1, valueOf (tbl.map (·.2)) p.2)]) rest := by
  unfold extend
  simp only [List.map_cons, valuesFrom_cons, List.zip_cons_cons, List.map_append, List.map_nil, List.append_assoc,
    List.singleton_append]

theorem extend_snoc_none (name : Name) : ∀ (l : List (Name × Option Int)) (tbl : List (Name × Int)),
    extend tbl (l ++ [(name, none)]) = extend tbl l ++ [(name, nextValue ((extend tbl l).map (·.2)))]
  | [], tbl => by simp [extend, valuesFrom]
  | p :: rest, tbl => by rw [List.cons_append, extend_cons, extend_cons, extend_snoc_none name rest]

theorem table_eq_extend (ms : List (Name × Option Int)) : table ms = extend [] ms := by
  unfold table extend; simp

/-- simulation: starting from a state holding `tbl`, the Go fold reports no error iff the extended table
    is valid, and then holds exactly the extended table -/
theorem fold_sim (k : Kind) : ∀ (ms : List (Name × Option Int)) (e : EnumType) (tbl : List (Name × Int)) (idx : Nat),
    Rel k e tbl →
    (Valid k (extend tbl ms) →
      (foldFrom e idx (ms.map toMember)).2 = [] ∧ Rel k (foldFrom e idx (ms.map toMember)).1 (extend tbl ms)) ∧
    (¬ Valid k (extend tbl ms) → (foldFrom e idx (ms.map toMember)).2 ≠ [])
  | [], e, tbl, idx, R => by
    simp only [extend, List.map_nil, valuesFrom, List.zip_nil_right, List.append_nil, foldFrom]
    exact ⟨fun _ => ⟨trivial, R⟩, fun h => absurd R.valid h⟩
  | p :: rest, e, tbl, idx, R => by
    rw [extend_cons]
    have hs := step_spec k e tbl p R
    simp only [List.map_cons, foldFrom]
    by_cases hV : Valid k (tbl ++ [(p.1, valueOf (tbl.map (·.2)) p.2)])
    · obtain ⟨e', he', R'⟩ := hs.1 hV
      rw [he']
      exact fold_sim k rest e' _ (idx + 1) R'
    · obtain ⟨err, herr⟩ := hs.2 hV
      rw [herr]
      refine ⟨fun hv => absurd (valid_prefix k _ _ (by unfold extend at hv; exact hv)) hV, fun _ => ?_⟩
      simp

theorem fold_ok (k : Kind) (ms : List (Name × Option Int)) (h : (fold (new k) (ms.map toMember)).2 = []) :
    Valid k (table ms) ∧ Rel k (fold (new k) (ms.map toMember)).1 (table ms) := by
  have sim := fold_sim k ms (new k) [] 0 (rel_new k)
  rw [← table_eq_extend] at sim
  by_cases hV : Valid k (table ms)
  · exact ⟨hV, (sim.1 hV).2⟩
  · exact absurd h (sim.2 hV)

/-- any sequence of calls (failing ones skipped) leads to a state that holds some valid table -/
theorem step_rel (k : Kind) (e e' : EnumType) (m : Member) (h : ∃ tbl, Rel k e tbl) (hs : e.step m = .ok e') :
    ∃ tbl, Rel k e' tbl := by
  obtain ⟨tbl, R⟩ := h
  have key : ∀ p, m = toMember p → ∃ tbl, Rel k e' tbl := by
    rintro p rfl
    have hp := step_spec k e tbl p R
    by_cases hV : Valid k (tbl ++ [(p.1, valueOf (tbl.map (·.2)) p.2)])
    · obtain ⟨e'', he'', R'⟩ := hp.1 hV
      rw [he''] at hs; cases hs; exact ⟨_, R'⟩
    · obtain ⟨err, herr⟩ := hp.2 hV
      rw [herr] at hs; cases hs
  obtain ⟨name, val⟩ := m
  cases val with
  | bad err => simp [EnumType.step] at hs
  | implicit => exact key (name, none) rfl
  | explicit i => exact key (name, some i) rfl

theorem fold_rel (k : Kind) : ∀ (ms : List Member) (e : EnumType) (idx : Nat), (∃ tbl, Rel k e tbl) →
    ∃ tbl, Rel k (foldFrom e idx ms).1 tbl
  | [], e, idx, h => by simpa [foldFrom] using h
  | m :: rest, e, idx, h => by
    simp only [foldFrom]
    cases hs : e.step m with
    | ok e' => exact fold_rel k rest e' (idx + 1) (step_rel k e e' m h hs)
    | error err => exact fold_rel k rest e (idx + 1) h

/-- a member whose argument did not parse always leaves an error -/
theorem fold_bad (ms : List Member) (e : EnumType) (idx : Nat) (h : ∃ m ∈ ms, ∃ err, m.val = .bad err) :
    (foldFrom e idx ms).2 ≠ [] := by
  induction ms generalizing e idx with
  | nil => obtain ⟨m, hm, _⟩ := h; simp at hm
  | cons m rest ih =>
    simp only [foldFrom]
    cases hs : e.step m with
    | error err => simp
    | ok e' =>
      obtain ⟨m', hm', err, hb⟩ := h
      rcases List.mem_cons.mp hm' with rfl | hr
      · simp [EnumType.step, hb] at hs
      · exact ih e' (idx + 1) ⟨m', hr, err, hb⟩

/-! ### views -/

theorem mem_insertSorted {α : Type} (lt : α → α → Bool) (x y : α) (l : List α) :
    y ∈ insertSorted lt x l ↔ y = x ∨ y ∈ l :=
  InsertionAux.mem_insert (p := fun a => lt a x) (ins := insertSorted lt x) rfl (fun _ _ => rfl) y l

theorem mem_sortBy {α : Type} (lt : α → α → Bool) (y : α) (l : List α) : y ∈ sortBy lt l ↔ y ∈ l := by
  induction l with
  | nil => simp [sortBy]
  | cons a l ih =>
    have : sortBy lt (a :: l) = insertSorted lt a (sortBy lt l) := rfl
    rw [this, mem_insertSorted, ih]; simp

theorem mem_map_swap {α β : Type} (l : List (α × β)) (a : α) (b : β) :
    (b, a) ∈ l.map (fun p => (p.2, p.1)) ↔ (a, b) ∈ l := by
  simp only [List.mem_map, Prod.mk.injEq]
  exact ⟨fun ⟨⟨_, _⟩, h, rfl, rfl⟩ => h, fun h => ⟨(a, b), h, rfl, rfl⟩⟩

/-- in an enumeration the two maps are mutually inverse -/
theorem rel_inverse (e : EnumType) (tbl : List (Name × Int)) (R : Rel .enumeration e tbl) (n : Name) (v : Int) :
    mapGet e.toInt n = some v ↔ mapGet e.toString v = some n := by
  have hv := R.valid
  have hts := R.inv rfl
  have h1 : (e.toInt.map (·.1)).Nodup := by
    rw [R.toInt, List.map_reverse]; exact nodup_reverse _ hv.1
  have h2 : (e.toString.map (·.1)).Nodup := by
    rw [hts, List.map_reverse, List.map_map]
    apply nodup_reverse
    have : ((fun p : Int × Name => p.1) ∘ fun p : Name × Int => (p.2, p.1)) = (fun p : Name × Int => p.2) := rfl
    rw [this]; exact hv.2.1 rfl
  rw [lookup_of_nodup _ h1, lookup_of_nodup _ h2, R.toInt, hts, List.mem_reverse, List.mem_reverse, mem_map_swap]

/-! ### the argument glue (`ParseInt` + `Int()`) and members given as text -/

open Goyang.Spec.Number (Lit inInt64)

/-- the claimed literal form of a value / position argument: `[sign] digits`, no superfluous leading zero -/
def LitForm (l : Lit) : Prop := l.digitsOK ∧ l.ip ≠ [] ∧ l.fp = none ∧ l.noLeadingZero

theorem parseMember_lit (l : Lit) (h : LitForm l) :
    parseMember (some l.render) =
      if inInt64 l.num then .explicit l.num else .bad (if l.mant < 2 ^ 64 then .overflow else .range) := by
  obtain ⟨hd, hip, hfp, hz⟩ := h
  unfold parseMember
  rcases Goyang.Lemmas.Number.parseInt_toInt_render l hd hip hfp hz with ⟨hw, n, hp, ht⟩ | ⟨hw, hp, hin⟩
  · simp only [hp, ht, hw, if_true]
    by_cases hin : inInt64 l.num <;> simp only [hin, if_true, if_false]
  · simp only [hp, hw, hin, if_false]

theorem mem_extend_left (tbl : List (Name × Int)) (ms : List (Name × Option Int)) (x : Name × Int) (h : x ∈ tbl) :
    x ∈ extend tbl ms := by
  unfold extend; exact List.mem_append.mpr (Or.inl h)

theorem explicit_mem_extend : ∀ (ms : List (Name × Option Int)) (tbl : List (Name × Int)) (n : Name) (v : Int),
    (n, some v) ∈ ms → (n, v) ∈ extend tbl ms
  | [], _, _, _, h => by simp at h
  | p :: rest, tbl, n, v, h => by
    rw [extend_cons]
    rcases List.mem_cons.mp h with e | hr
    · subst e
      apply mem_extend_left
      simp [valueOf]
    · exact explicit_mem_extend rest _ n v hr

/-! ### resuming a fold: calls made on a table that earlier members built -/

theorem foldFrom_cons_ok {e e' : EnumType} {m : Member} (idx : Nat) (rest : List Member) (hs : e.step m = .ok e') :
    foldFrom e idx (m :: rest) = foldFrom e' (idx + 1) rest := by
  rw [foldFrom]; simp only [hs]

theorem foldFrom_cons_err {e : EnumType} {m : Member} {err : EnumErr} (idx : Nat) (rest : List Member)
    (hs : e.step m = .error err) :
    foldFrom e idx (m :: rest) = ((foldFrom e (idx + 1) rest).1, (idx, err) :: (foldFrom e (idx + 1) rest).2) := by
  rw [foldFrom]; simp only [hs]

/-- the member index only labels the errors -/
theorem foldFrom_shift (b : List Member) : ∀ (e : EnumType) (i j : Nat),
    foldFrom e (i + j) b = ((foldFrom e i b).1, (foldFrom e i b).2.map fun p => (p.1 + j, p.2)) := by
  induction b with
  | nil => intro e i j; simp [foldFrom]
  | cons m rest ih =>
    intro e i j
    cases hs : e.step m with
    | ok e' =>
      rw [foldFrom_cons_ok _ _ hs, foldFrom_cons_ok _ _ hs, show i + j + 1 = i + 1 + j by omega]
      exact ih e' (i + 1) j
    | error err =>
      rw [foldFrom_cons_err _ _ hs, foldFrom_cons_err _ _ hs, show i + j + 1 = i + 1 + j by omega, ih e (i + 1) j]
      simp

theorem foldFrom_append (b : List Member) : ∀ (a : List Member) (e : EnumType) (idx : Nat),
    foldFrom e idx (a ++ b) =
      ((foldFrom (foldFrom e idx a).1 (idx + a.length) b).1,
       (foldFrom e idx a).2 ++ (foldFrom (foldFrom e idx a).1 (idx + a.length) b).2) := by
  intro a
  induction a with
  | nil => intro e idx; simp [foldFrom]
  | cons m rest ih =>
    intro e idx
    simp only [List.cons_append, List.length_cons]
    cases hs : e.step m with
    | ok e' =>
      rw [foldFrom_cons_ok _ _ hs, foldFrom_cons_ok _ _ hs, ih e' (idx + 1),
        show idx + 1 + rest.length = idx + (rest.length + 1) by omega]
    | error err =>
      rw [foldFrom_cons_err _ _ hs, foldFrom_cons_err _ _ hs, ih e (idx + 1),
        show idx + 1 + rest.length = idx + (rest.length + 1) by omega]
      simp

end Goyang.Lemmas.Enum
