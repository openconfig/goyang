import Goyang.Lemmas.TypesDefs
/-
The overlays of `Type.resolve` (everything after the binding of the name: `overlayType`,
`typedefOverlay`) raise neither a binding-level error record (`BindErr`: unknown name, unknown
prefix, cycle, the positioned "cannot happen" records) nor the record of an exhausted recursion
budget (`NoBind` of TypesDefs.lean): the records they make themselves (`Own`, TypesFuel.lean) are
neither.
-/
namespace Goyang.Lemmas.TypesNoBind
open Goyang.Model Goyang.Model.Types Goyang.Lemmas.Types Goyang.Lemmas.TypesFuel Goyang.Lemmas.TypesDefs

/-- The condition `NoBind` puts on one record. -/
def Good (e : Err) : Prop := ¬ BindErr e ∧ e.cls ≠ "out-of-fuel"

theorem good_cls {e : Err} {c : String} (h : e.cls = c) (hc : Plain c) : Good e := by
  subst h
  obtain ⟨h1, h2, h3, h4, h5, h6⟩ := hc
  refine ⟨?_, h6⟩
  intro hb
  rcases hb with hb | hb
  · simp only [List.mem_cons, List.not_mem_nil, or_false] at hb
    rcases hb with hb | hb | hb | hb
    · exact h1 hb
    · exact h2 hb
    · exact h3 hb
    · exact h4 hb
  · exact h5 hb.1

/-- The identity layer's position-less record of class `crash` is exempt. -/
theorem good_crash : Good (Err.bare "crash") := by
  refine ⟨?_, ?_⟩
  · intro hb
    rcases hb with hb | hb
    · rw [bare_cls] at hb
      simp only [List.mem_cons, List.not_mem_nil, or_false] at hb
      revert hb
      decide
    · exact hb.2 rfl
  · rw [bare_cls]; decide

theorem NoBind.append {a b : List Err} (ha : NoBind a) (hb : NoBind b) : NoBind (a ++ b) := by
  intro e he
  rcases List.mem_append.mp he with h | h
  · exact ha e h
  · exact hb e h

theorem NoBind.single {e : Err} (h : Good e) : NoBind [e] := by
  intro e' he'
  rw [List.mem_singleton] at he'
  rw [he']; exact h

theorem good_of_own {e : Err} (h : Own e) : Good e :=
  h.elim (good_cls rfl) (fun hc => hc ▸ good_crash)

theorem overlayType_noBind {env : Env} {root : Mod} {t : Stmt} {src : Source} {tdY : YType} {ms : List Res}
    (h : ∀ r ∈ ms, NoBind r.errs) : NoBind (overlayType env root t src tdY ms).errs :=
  fun e he => (overlayType_own e he).elim (fun ⟨r, hr, her⟩ => h r hr e her) good_of_own

theorem typedefOverlay_noBind {env : Env} {root : Mod} {td tt : Stmt} {ty : YType} :
    NoBind (typedefOverlay env root td tt ty).errs := fun e he => good_of_own (typedefOverlay_own e he)

end Goyang.Lemmas.TypesNoBind
