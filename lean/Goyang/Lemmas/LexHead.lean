/-
Which error line the lexer model writes first: at an unterminated quote or comment the line
names the opener, at an undefined backslash pair (outside pattern mode) the backslash — positions
as computed from the text alone (`lexErr` of `Lemmas/LexErr.lean`).  Strengthens the error cases of
`Lemmas/TokSim.lean` (`ground_sim` says "an error has been written").
-/
import Goyang.Lemmas.TokSim
import Goyang.Lemmas.LexErr
import Goyang.Lemmas.LexKeepsH
import Goyang.Lemmas.LexErrSpec

namespace Goyang.Lemmas.LexHead
open Goyang.Model.Lex Goyang.Model.Utf8 Goyang.Lemmas.Utf8 Goyang.Lemmas.Lex Goyang.Lemmas.LexSim
open Goyang.Spec.Parse Goyang.Lemmas.Scan Goyang.Lemmas.QStr Goyang.Lemmas.TokSim Goyang.Lemmas.LexErr
open Goyang.Lemmas.LexKeepsH Goyang.Lemmas.LexErrSpec

-- From here on the primitives of the lexer are used through their lemmas only; sealed, the unifier does
-- not start running the lexer when it compares two states.
attribute [local irreducible] next backup peek acceptRun updateCursor skipTo

/-! ## the first error line -/

theorem emit_err_fields (l : Lexer) :
    (emit Code.error l).errcnt = l.errcnt ∧ (emit Code.error l).errout = l.errout ∧ (emit Code.error l).file = l.file := by
  unfold emit
  split
  · unfold setFault; split <;> exact ⟨rfl, rfl, rfl⟩
  · obtain ⟨_, _, _, _, _, e6, e7, _, e9, _, _, _⟩ := emitText_frame Code.error
      (l.before.take (l.pos - l.start)).reverse l
    exact ⟨e7, e6, e9⟩

/-- the first error is written as it is -/
theorem errorfAt_first (line col : Int) (cls : ErrClass) (l : Lexer) (h0 : l.errcnt = 0) (he : l.errout = []) :
    (errorfAt line col cls l).errout = [{ file := l.file, pos := some (line, col + 1), cls := cls }] := by
  unfold errorfAt errorf adderror
  simp only
  obtain ⟨e1, e2, e3⟩ := emit_err_fields { l with line := line, col := col }
  rw [if_neg (by rw [e1]; show ¬ l.errcnt = maxErrors; rw [h0]; decide),
    if_neg (by rw [e1]; show ¬ l.errcnt = maxErrors + 1; rw [h0]; decide)]
  simp only
  rw [e2]
  show l.errout ++ _ = _
  rw [he]
  rfl

attribute [local irreducible] emitText emit adderror errorf errorfAt qstringLoop nextTokenLoop

/-- the position of the character behind `P`, from the text alone -/
theorem mkErr_at (text : List Char) (file : List UInt8) (P rest : List Char) (ht : text = P ++ rest) (cls : ErrClass) :
    mkErr text file P.length cls = { file := file, pos := some (lineAfter P, colAfter P + 1), cls := cls } := by
  have htake : text.take P.length = P := by rw [ht, List.take_left']; rfl
  unfold mkErr lineOf colOf lineAfter colAfter
  rw [htake]
  congr 2
  push_cast
  congr 1
  omega

section
variable (text : List Char) (file : List UInt8)

/-- an unterminated single-quoted string: the line names the opening quote -/
theorem sq_head (l : Lexer) (P r : List Char) (ht : text = P ++ '\'' :: r)
    (hk : Tk file l P ('\'' :: r)) (hs : scanSq r = none) :
    ∀ g, (nextTokenLoop g (groundSQuote l)).2.errout.head? = some (mkErr text file P.length .missingSQuote) := by
  obtain ⟨n1, n2, n3, _, n5⟩ := next_char l P r '\'' hk.cur (hk.pos.posN _)
  have hr1 : Ready file (next l).2 := n5.ready hk.ready
  obtain ⟨c1, c2, c3, c4, c5, c6, c7, c8⟩ := consume_tk file (next l).2 (P ++ ['\'']) r n2 n3 hr1
    (n5.state.trans hk.state) _ _ (n5.sline.trans hk.sline) (n5.scol.trans hk.scol)
  have hnm := scanSq_none_iff r hs
  have hidx : indexOf [39] (consume (next l).2).rest = none := by
    rw [c1.rest]; exact indexOf_char_none '\'' (by decide) r hnm
  intro g
  apply nextTokenLoop_keepsH
  unfold groundSQuote
  simp only
  rw [skipTo_none _ _ hidx]
  simp only [Bool.false_eq_true, if_false]
  show (errorfAt _ _ _ _).errout.head? = _
  rw [errorfAt_first _ _ _ _ c4.errcnt c4.errout, mkErr_at text file P _ ht, c1.line, c2.col, c4.file,
    lineAfter_snoc, colAfter_snoc, if_neg (by decide), if_neg (by decide)]
  simp

/-- an unterminated block comment: the line names the `/` of its opener -/
theorem block_comment_head (l : Lexer) (P r1 : List Char) (ht : text = P ++ '/' :: '*' :: r1)
    (hk : Tk file l P ('/' :: '*' :: r1)) (hf : findSS r1 = none) :
    (groundSlash l).errout.head? = some (mkErr text file P.length .missingCommentEnd) := by
  obtain ⟨n1, n2, n3, _, n5⟩ := next_char l P _ '/' hk.cur (hk.pos.posN _)
  obtain ⟨p1, p2, p3, p4⟩ := peek_char (next l).2 _ _ '*' n2 (n3.posN _)
  obtain ⟨m1, m2, m3, _, m5⟩ := next_char (peek (next l).2).2 _ _ '*' p2 p3
  obtain ⟨l3, hl3⟩ : ∃ l3, l3 = (next (peek (next l).2).2).2 := ⟨_, rfl⟩
  rw [← hl3] at m2 m3 m5
  have hfr3 : Frame l l3 := (n5.trans p4).trans m5
  have hidx := indexOf_ss r1.length r1 (Nat.le_refl _)
  rw [hf] at hidx
  have hg : groundSlash l = setState .done (errorfAt l3.line (l3.col - 2) .missingCommentEnd l3) := by
    rw [groundSlash_block l (by rw [p1]; rfl), ← hl3, skipTo_none _ _ (by rw [m2.rest]; exact hidx)]
    rfl
  rw [hg]
  show (errorfAt _ _ _ _).errout.head? = _
  rw [errorfAt_first _ _ _ _ (hfr3.errcnt.trans hk.ready.errcnt) (hfr3.errout.trans hk.ready.errout),
    mkErr_at text file P _ ht, m2.line, m3.col, hfr3.file, hk.ready.file,
    lineAfter_snoc, lineAfter_snoc, colAfter_snoc, colAfter_snoc, if_neg (by decide), if_neg (by decide),
    if_neg (by decide), if_neg (by decide)]
  simp
  omega

end

/-- what the loop of a double-quoted string reports first, from the characters `r` behind the
cursor (offset `o`): outside pattern mode the first undefined pair, else the missing quote -/
def dqErr (text : List Char) (file : List UInt8) (b : Bool) (o : Nat) (r : List Char) (opener : ErrLine) : ErrLine :=
  match (if b then [] else escMarks o r) with
  | x :: _ => mkErr text file x .invalidEscape
  | [] => opener

theorem escMarks_lit (o : Nat) (c : Char) (r : List Char) (hq : c ≠ '"') (hb : c ≠ '\\') :
    escMarks o (c :: r) = escMarks (o + 1) r := by
  rw [escMarks.eq_def]
  simp only [hq, hb, if_false]

theorem dqErr_true (text : List Char) (file : List UInt8) (o : Nat) (r : List Char) (opener : ErrLine) :
    dqErr text file true o r opener = opener := rfl

section
variable (text : List Char) (file : List UInt8)

theorem qstringLoop_head (i ln cl : Int) : ∀ (n : Nat) (r : List Char), r.length ≤ n →
    ∀ (f : Nat) (tb : List UInt8) (over : Bool) (l : Lexer) (pre : List Char),
    text = pre ++ r → Cur l pre r → Pos l pre → l.errcnt = 0 → l.errout = [] → l.file = file →
    (encodeChars r).length + 2 ≤ f → DqBad l.inPattern r →
    (qstringLoop i ln cl f tb over l).errout.head? =
      some (dqErr text file l.inPattern pre.length r
        { file := file, pos := some (ln, cl + 1), cls := .missingDQuote }) := by
  intro n
  induction n using Nat.strongRecOn with
  | _ n ih =>
    intro r hn f tb over l pre ht hc hp h0 he hfile hf hbad
    obtain ⟨f, rfl⟩ : ∃ f', f = f' + 1 := ⟨f - 1, by omega⟩
    cases r with
    | nil =>
      obtain ⟨n1, n2, n3⟩ := next_eof_cur l pre hc
      rw [qstringLoop_eof _ _ _ _ _ _ _ n1]
      show (errorfAt ln cl .missingDQuote (next l).2).errout.head? = _
      rw [errorfAt_first _ _ _ _ (n3.errcnt.trans h0) (n3.errout.trans he), n3.file, hfile]
      unfold dqErr
      cases l.inPattern <;> simp [escMarks]
    | cons c r1 =>
      obtain ⟨n1, n2, n3, _, n5⟩ := next_char l pre r1 c hc (hp.posN _)
      have hlen := encodeChars_length_cons c r1
      have h01 : (next l).2.errcnt = 0 := n5.errcnt.trans h0
      have he1 : (next l).2.errout = [] := n5.errout.trans he
      have hf1 : (next l).2.file = file := n5.file.trans hfile
      have ht1 : text = (pre ++ [c]) ++ r1 := by rw [ht]; simp
      by_cases hq : c = '"'
      · subst hq
        exact (DqBad.not_quote hbad).elim
      · by_cases hb : c = '\\'
        · subst hb
          rw [qstringLoop_esc _ _ _ _ _ _ _ (by rw [n1]; decide)]
          cases r1 with
          | nil =>
            obtain ⟨m1, m2, m3⟩ := next_eof_cur (next l).2 _ n2
            rw [m1]
            simp only [eofRune, Nat.reduceEqDiff, if_false, Bool.or_self, Bool.false_eq_true, decide_false]
            obtain ⟨f, rfl⟩ : ∃ f', f = f' + 1 := ⟨f - 1, by
              have : (encodeChars ['\\']).length = 1 := by decide
              omega⟩
            have hpat : (next (next l).2).2.inPattern = l.inPattern := by rw [m3.inPattern, n5.inPattern]
            rw [hpat]
            cases hip : l.inPattern with
            | false =>
              simp only [Bool.not_false, if_true]
              apply qstringLoop_keepsH
              rw [errorfAt_first _ _ _ _ (m3.errcnt.trans h01) (m3.errout.trans he1)]
              unfold dqErr
              simp only [Bool.false_eq_true, if_false, escMarks, show ('\\' : Char) ≠ '"' by decide, if_true]
              rw [mkErr_at text file pre _ ht, n2.line, n3.col, m3.file, hf1, lineAfter_snoc, colAfter_snoc,
                if_neg (by decide), if_neg (by decide)]
              simp
            | true =>
              simp only [Bool.not_true, Bool.false_eq_true, if_false]
              obtain ⟨k1, k2, k3⟩ := next_eof_cur (next (next l).2).2 _ m2
              rw [qstringLoop_eof _ _ _ _ _ _ _ k1]
              show (errorfAt ln cl .missingDQuote (next (next (next l).2).2).2).errout.head? = _
              rw [errorfAt_first _ _ _ _ (k3.errcnt.trans (m3.errcnt.trans h01))
                (k3.errout.trans (m3.errout.trans he1)), k3.file, m3.file, hf1, dqErr_true]
              rfl
          | cons e r2 =>
            obtain ⟨m1, m2, m3', _, m5⟩ := next_char (next l).2 _ r2 e n2 (n3.posN _)
            have hlen2 := encodeChars_length_cons e r2
            have h02 : (next (next l).2).2.errcnt = 0 := m5.errcnt.trans h01
            have he2 : (next (next l).2).2.errout = [] := m5.errout.trans he1
            have hf2 : (next (next l).2).2.file = file := m5.file.trans hf1
            have hpat : (next (next l).2).2.inPattern = l.inPattern := by rw [m5.inPattern, n5.inPattern]
            have ht2 : text = (pre ++ ['\\'] ++ [e]) ++ r2 := by rw [ht]; simp
            have hlen3 : (pre ++ ['\\'] ++ [e]).length = pre.length + 2 := by simp
            have hrest : validEsc (.esc e) = true → DqBad l.inPattern r2 := fun hv => DqBad.esc hbad (Or.inl hv)
            have hfuel : (encodeChars r2).length + 2 ≤ f := by omega
            rw [m1]
            have k110 : e.toNat = 110 ↔ e = 'n' := toNat_eq_iff e 'n'
            have k116 : e.toNat = 116 ↔ e = 't' := toNat_eq_iff e 't'
            have k34 : e.toNat = 34 ↔ e = '"' := toNat_eq_iff e '"'
            have k92 : e.toNat = 92 ↔ e = '\\' := toNat_eq_iff e '\\'
            have hmarks : validEsc (.esc e) = true →
                escMarks pre.length ('\\' :: e :: r2) = escMarks (pre.length + 2) r2 := by
              intro hv
              simp only [validEsc, Bool.or_eq_true, decide_eq_true_eq] at hv
              rw [escMarks]
              simp only [show ('\\' : Char) ≠ '"' by decide, if_false, if_true]
              rw [if_pos (by simpa using hv)]
            have hvalid : ∀ tb', validEsc (.esc e) = true →
                (qstringLoop i ln cl f tb' true (next (next l).2).2).errout.head? =
                  some (dqErr text file l.inPattern pre.length ('\\' :: e :: r2)
                    { file := file, pos := some (ln, cl + 1), cls := .missingDQuote }) := by
              intro tb' hv
              have := ih r2.length (by simp only [List.length_cons] at hn; omega) r2 (Nat.le_refl _) f tb' true _ _
                ht2 m2 m3' h02 he2 hf2 hfuel (by rw [hpat]; exact hrest hv)
              rw [this, hpat, hlen3]
              unfold dqErr
              rw [hmarks hv]
            by_cases h1 : e.toNat = 110
            · rw [if_pos h1]; exact hvalid _ (by simp [validEsc, k110.1 h1])
            · rw [if_neg h1]
              by_cases h2 : e.toNat = 116
              · rw [if_pos h2]; exact hvalid _ (by simp [validEsc, k116.1 h2])
              · rw [if_neg h2]
                by_cases h3 : (e.toNat = 34 || e.toNat = 92) = true
                · rw [if_pos h3]
                  simp only [Bool.or_eq_true, decide_eq_true_eq] at h3
                  refine hvalid _ ?_
                  rcases h3 with h | h
                  · simp [validEsc, k34.1 h]
                  · simp [validEsc, k92.1 h]
                · rw [if_neg h3]
                  simp only [Bool.or_eq_true, decide_eq_true_eq, not_or] at h3
                  have hinv : ¬ (((e = 'n' ∨ e = 't') ∨ e = '"') ∨ e = '\\') := by
                    rintro (((h | h) | h) | h)
                    · exact h1 (k110.2 h)
                    · exact h2 (k116.2 h)
                    · exact h3.1 (k34.2 h)
                    · exact h3.2 (k92.2 h)
                  rw [hpat]
                  cases hip : l.inPattern with
                  | true =>
                    -- pattern mode: no error here, the rest is bad
                    simp only [Bool.not_true, Bool.false_eq_true, if_false]
                    have := ih r2.length (by simp only [List.length_cons] at hn; omega) r2 (Nat.le_refl _) f
                      (tb ++ [92] ++ encodeRune e.toNat) true _ _ ht2 m2 m3' h02 he2 hf2 hfuel (by
                        rw [hpat]
                        exact DqBad.esc hbad (Or.inr hip))
                    rw [this, hpat, hip, dqErr_true, dqErr_true]
                  | false =>
                    simp only [Bool.not_false, if_true]
                    apply qstringLoop_keepsH
                    rw [errorfAt_first _ _ _ _ h02 he2]
                    unfold dqErr
                    simp only [Bool.false_eq_true, if_false]
                    rw [escMarks]
                    simp only [show ('\\' : Char) ≠ '"' by decide, if_false, if_true]
                    rw [if_neg (by simpa using hinv)]
                    simp only
                    rw [mkErr_at text file pre _ ht, n2.line, n3.col, hf2, lineAfter_snoc, colAfter_snoc,
                      if_neg (by decide), if_neg (by decide)]
                    simp
        · -- an ordinary character
          obtain ⟨tb', ov, hstep⟩ := qloop_lit i ln cl f tb over l c n1 hq hb
          rw [hstep]
          have := ih r1.length (by simp only [List.length_cons] at hn; omega) r1 (Nat.le_refl _) f tb' ov _ _ ht1 n2 n3
            h01 he1 hf1 (by omega) (by
              rw [n5.inPattern]
              exact DqBad.lit hbad hq hb)
          rw [this, n5.inPattern]
          unfold dqErr
          rw [show (pre ++ [c]).length = pre.length + 1 by simp, escMarks_lit pre.length c r1 hq hb]

end

/-- a closed double-quoted string whose backslash pairs are all defined has no mark -/
theorem escMarks_valid : ∀ (n : Nat) (cs : List Char), cs.length ≤ n → ∀ (o : Nat) (items : List QItem) (r : List Char),
    scanDq cs = some (items, r) → items.all validEsc = true → escMarks o cs = [] := by
  intro n
  induction n with
  | zero =>
    intro cs hn o items r h
    have : cs = [] := List.eq_nil_of_length_eq_zero (by omega)
    subst this; simp [scanDq] at h
  | succ n ih =>
    intro cs hn o items r h hall
    cases cs with
    | nil => simp [scanDq] at h
    | cons c cs =>
      by_cases hq : c = '"'
      · subst hq; rw [escMarks.eq_def]; simp
      · by_cases hb : c = '\\'
        · subst hb
          cases cs with
          | nil => simp [scanDq] at h
          | cons e r0 =>
            unfold scanDq at h
            simp only [show ('\\' : Char) ≠ '"' by decide, if_false, if_true] at h
            cases hs : scanDq r0 with
            | none => simp [hs] at h
            | some p =>
              obtain ⟨s', r'⟩ := p
              simp only [hs, Option.map_some, Option.some.injEq, Prod.mk.injEq] at h
              rw [← h.1] at hall
              simp only [List.all_cons, Bool.and_eq_true] at hall
              have hv : (e = 'n' || e = 't' || e = '"' || e = '\\') = true := hall.1
              rw [escMarks.eq_def]
              simp only [show ('\\' : Char) ≠ '"' by decide, if_false, if_true]
              rw [if_pos hv]
              exact ih r0 (by simp only [List.length_cons] at hn; omega) _ s' r' hs hall.2
        · unfold scanDq at h
          simp only [hq, hb, if_false] at h
          cases hs : scanDq cs with
          | none => simp [hs] at h
          | some p =>
            obtain ⟨s', r'⟩ := p
            simp only [hs, Option.map_some, Option.some.injEq, Prod.mk.injEq] at h
            rw [← h.1] at hall
            simp only [List.all_cons, Bool.and_eq_true] at hall
            rw [escMarks_lit o c cs hq hb]
            exact ih cs (by simp only [List.length_cons] at hn; omega) _ s' r' hs hall.2

section
variable (text : List Char) (file : List UInt8)

/-- a double-quoted string that is not closed or (outside pattern mode) has an undefined pair -/
theorem dq_head (b : Bool) (l : Lexer) (P r : List Char) (ht : text = P ++ '"' :: r)
    (hk : Tk file l P ('"' :: r)) (hb : l.inPattern = b) (hbad : DqBad b r) :
    ∀ g, (nextTokenLoop (g + 1) (setState .qstring (next l).2)).2.errout.head? =
      some (dqErr text file b (P.length + 1) r (mkErr text file P.length .missingDQuote)) := by
  obtain ⟨n1, n2, n3, _, n5⟩ := next_char l P r '"' hk.cur (hk.pos.posN _)
  have hr1 : Ready file (next l).2 := n5.ready hk.ready
  obtain ⟨l1, hl1⟩ : ∃ l1, l1 = setState .qstring (next l).2 := ⟨_, rfl⟩
  rw [← hl1]
  have hc1 : Cur l1 (P ++ ['"']) r := by rw [hl1]; exact ⟨n2.before, n2.rest, n2.line⟩
  have hp1 : Pos l1 (P ++ ['"']) := by rw [hl1]; exact ⟨n3.col, n3.tcol⟩
  have hready1 : Ready file l1 := by
    rw [hl1]; exact ⟨hr1.items, hr1.errout, hr1.errcnt, hr1.fault, hr1.file⟩
  have hpat1 : l1.inPattern = b := by rw [hl1, setState_inPattern, n5.inPattern]; exact hb
  intro g
  rw [nextTokenLoop_qstring g l1 hready1.items (by rw [hl1]; rfl)]
  apply nextTokenLoop_keepsH
  unfold lexQString
  rw [qstringLoop_head text file _ _ _ r.length r (Nat.le_refl _) _ [] true l1 (P ++ ['"']) (by rw [ht]; simp)
    hc1 hp1 hready1.errcnt hready1.errout hready1.file (by rw [hc1.rest]; exact Nat.le_refl _)
    (by rw [hpat1]; exact hbad)]
  rw [hpat1, show (P ++ ['"']).length = P.length + 1 by simp, mkErr_at text file P _ ht, hc1.line, hp1.col,
    lineAfter_snoc, colAfter_snoc, if_neg (by decide), if_neg (by decide)]
  have : colAfter P + 1 - 1 + 1 = colAfter P + 1 := by omega
  rw [this]

/-- **the first error line**: a call of `NextToken` from the ground state before the characters
`suf` writes the line `lexErr` computes from the text, if there is one -/
theorem ground_head : ∀ (n : Nat) (suf : List Char), suf.length ≤ n → ∀ (pre : List Char) (l : Lexer) (f : Nat),
    text = pre ++ suf → Gnd file l pre suf → EndsNL suf → (encodeChars suf).length + 3 ≤ f →
    ∀ e, lexErr text file l.inPattern suf = some e → (nextTokenLoop f l).2.errout.head? = some e := by
  intro n
  induction n using Nat.strongRecOn with
  | _ n ih =>
    intro suf hn pre l f ht hg hnl hf e he
    obtain ⟨f, rfl⟩ : ∃ f', f = f' + 1 := ⟨f - 1, by omega⟩
    rw [nextTokenLoop_ground f l hg.ready.items hg.state]
    -- the white space in front
    obtain ⟨bl, hbl⟩ : ∃ bl, bl = suf.takeWhile isSpace := ⟨_, rfl⟩
    obtain ⟨suf', hsuf'⟩ : ∃ suf', suf' = suf.dropWhile isSpace := ⟨_, rfl⟩
    have hsplit : suf = bl ++ suf' := by rw [hbl, hsuf']; exact List.takeWhile_append_dropWhile.symm
    have hblsp : ∀ x ∈ bl, isSpace x = true := by
      intro x hx; rw [hbl] at hx; exact mem_takeWhile_pos isSpace suf x hx
    have hhead : ∀ c r, suf' = c :: r → isSpace c = false := by
      intro c r h
      have := List.head?_dropWhile_not isSpace suf
      rw [← hsuf', h] at this
      simpa using this
    obtain ⟨g1, g2, g3, g4, g5, g6⟩ := groundStart_chars l pre bl suf' hblsp hhead (by rw [← hsplit]; exact hg.cur)
      (by rw [← hsplit]; exact hg.posn)
    rw [lexErr_congr text file _ suf suf' (by rw [hsplit]; exact skipGround_blanks bl suf' hblsp)
      (by rw [hsplit]; exact openerGround_blanks bl suf' hblsp)] at he
    have htext : text = (pre ++ bl) ++ suf' := by rw [ht, hsplit]; simp
    have hready0 : Ready file (groundStart l) := g6.ready hg.ready
    have hnl' : EndsNL suf' := by rw [hsplit] at hnl; exact hnl.suffix
    have hlen' : (encodeChars suf').length ≤ (encodeChars suf).length := by
      rw [hsplit, encodeChars_length_append]; omega
    have hslen : suf'.length ≤ suf.length := by rw [hsplit]; simp
    cases hs' : suf' with
    | nil =>
      rw [hs'] at he
      simp [lexErr, skipGround] at he
    | cons c r =>
      rw [hs'] at g1 htext hnl' hlen' hslen he
      have hcs : isSpace c = false := hhead c r hs'
      have hcn : c ≠ '\n' := by intro h; rw [h] at hcs; simp [isSpace] at hcs
      have hct : c ≠ '\t' := by intro h; rw [h] at hcs; simp [isSpace] at hcs
      obtain ⟨p1, p2, p3, p4⟩ := peek_char (groundStart l) _ r c g1 (g2.posN _)
      obtain ⟨l1, hl1⟩ : ∃ l1, l1 = (peek (groundStart l)).2 := ⟨_, rfl⟩
      rw [← hl1] at p2 p3 p4
      have hk : Tk file l1 (pre ++ bl) (c :: r) :=
        ⟨p2, pos_of_posN p3 hcn hct, p4.start.trans g3, p4.sline.trans g4, p4.scol.trans g5, p4.ready hready0,
         p4.state.trans (g6.state.trans hg.state)⟩
      have hpat1 : l1.inPattern = l.inPattern := p4.inPattern.trans g6.inPattern
      have k (d : Char) : (peek (groundStart l)).1 = d.toNat ↔ c = d := by rw [p1]; exact toNat_eq_iff c d
      have hoff : text.length - (r.length + 1) = (pre ++ bl).length := by
        rw [htext]; simp only [List.length_append, List.length_cons]; omega
      have hfuel : (encodeChars r).length + 3 ≤ f := by
        have := encodeChars_length_cons c r
        omega
      by_cases hsq : c = '\''
      · -- single-quoted string
        subst hsq
        rw [lexGround_sq l ((k '\'').2 rfl), ← hl1]
        unfold lexErr at he
        rw [skipGround_token '\'' r hcs (by decide)] at he
        simp only [if_true] at he
        cases hsc : scanSq r with
        | none =>
          rw [hsc] at he
          simp only [Option.some.injEq] at he
          rw [← he, hoff]
          exact sq_head text file l1 (pre ++ bl) r htext hk hsc f
        | some p => rw [hsc] at he; simp at he
      · by_cases hdq : c = '"'
        · -- double-quoted string
          subst hdq
          rw [lexGround_dq l ((k '"').2 rfl), ← hl1]
          obtain ⟨f, rfl⟩ : ∃ f', f = f' + 1 := ⟨f - 1, by omega⟩
          unfold lexErr at he
          rw [skipGround_token '"' r hcs (by decide)] at he
          simp only [show ('"' : Char) ≠ '\'' by decide, if_false, if_true] at he
          rw [hoff] at he
          have hbad : DqBad l.inPattern r := by
            cases hsc : scanDq r with
            | none => exact Or.inl hsc
            | some p =>
              obtain ⟨items, r'⟩ := p
              right
              refine ⟨items, r', hsc, ?_, ?_⟩
              · cases hip : l.inPattern with
                | false => rfl
                | true => rw [hip, hsc] at he; simp at he
              · cases hall : items.all validEsc with
                | false => rfl
                | true =>
                  rw [escMarks_valid r.length r (Nat.le_refl _) _ items r' hsc hall, hsc] at he
                  simp at he
          have hd := dq_head text file l.inPattern l1 (pre ++ bl) r htext hk hpat1 hbad f
          rw [hd]
          congr 1
          unfold dqErr
          cases hm : (if l.inPattern = true then [] else escMarks ((pre ++ bl).length + 1) r) with
          | cons o rest =>
            rw [hm] at he
            simp only [Option.some.injEq] at he
            exact he
          | nil =>
            rw [hm] at he
            simp only at he ⊢
            cases hsc : scanDq r with
            | none => rw [hsc] at he; simp only [Option.some.injEq] at he; exact he
            | some p => rw [hsc] at he; simp at he
        · by_cases hsl : c = '/'
          · subst hsl
            rw [lexGround_slash l ((k '/').2 rfl), ← hl1]
            cases hr : r with
            | nil =>
              rw [hr] at he
              simp [lexErr, skipGround, afterSlash, isSpace] at he
            | cons d r1 =>
              rw [hr] at htext hk hnl' hslen hlen' he hfuel
              by_cases hd1 : d = '/'
              · -- `//`
                subst hd1
                have hmem : '\n' ∈ r1 := by
                  have := hnl'.mem (by simp)
                  simpa using this
                obtain ⟨s0, r2, hr1, hs0⟩ := List.eq_append_cons_of_mem hmem
                rw [hr1] at hk htext hslen hlen' he hfuel
                obtain ⟨c1, c2⟩ := line_comment file l1 (pre ++ bl) s0 r2 hk hs0
                refine ih ('\n' :: r2).length (by
                    simp only [List.length_cons, List.length_append] at hslen ⊢; omega)
                  ('\n' :: r2) (Nat.le_refl _) _ (groundSlash l1) f (by rw [htext]; simp) c1
                  (by rw [hr1] at hnl'
                      have h1 : EndsNL (['/', '/'] ++ s0 ++ '\n' :: r2) := by simpa using hnl'
                      exact h1.suffix)
                  (by
                    have h1 : (encodeChars ('\n' :: r2)).length ≤ (encodeChars ('/' :: (s0 ++ '\n' :: r2))).length := by
                      rw [show '/' :: (s0 ++ '\n' :: r2) = ('/' :: s0) ++ '\n' :: r2 from rfl,
                        encodeChars_length_append]; omega
                    omega) e ?_
                rw [c2, hpat1, ← he]
                apply lexErr_congr
                · rw [skipGround_slash, afterSlash_line, skipLine_found s0 r2 hs0]
                  rw [skipGround]; simp [isSpace]
                · rw [openerGround_line s0 r2 hs0]
                  exact openerGround_blanks ['\n'] r2 (by simp [isSpace])
              · by_cases hd2 : d = '*'
                · -- `/*`
                  subst hd2
                  cases hfs : findSS r1 with
                  | none =>
                    apply nextTokenLoop_keepsH
                    rw [block_comment_head text file l1 (pre ++ bl) r1 htext hk hfs]
                    unfold lexErr at he
                    rw [skipGround_slash, afterSlash_block, skipBlock_none r1 hfs] at he
                    simp only at he
                    rw [openerGround_block_none r1 hfs] at he
                    simp only [Option.map_some] at he
                    rw [← he]
                    congr 2
                    rw [htext]; simp only [List.length_append, List.length_cons]; omega
                  | some p =>
                    obtain ⟨s0, r2⟩ := p
                    have hcase := block_comment file l1 (pre ++ bl) r1 hk
                    rw [hfs] at hcase
                    obtain ⟨c1, c2⟩ := hcase
                    have hsp := findSS_split r1.length r1 (Nat.le_refl _) s0 r2 hfs
                    refine ih r2.length (by
                        rw [hsp] at hslen
                        simp only [List.length_cons, List.length_append] at hslen ⊢; omega)
                      r2 (Nat.le_refl _) _ (groundSlash l1) f (by rw [htext, hsp]; simp) c1
                      (by rw [hsp] at hnl'
                          have h1 : EndsNL (['/', '*'] ++ s0 ++ ['*', '/'] ++ r2) := by simpa using hnl'
                          exact h1.suffix)
                      (by
                        rw [hsp] at hfuel
                        have h1 : (encodeChars r2).length ≤ (encodeChars ('*' :: (s0 ++ '*' :: '/' :: r2))).length := by
                          rw [show '*' :: (s0 ++ '*' :: '/' :: r2) = ('*' :: s0 ++ ['*', '/']) ++ r2 by simp,
                            encodeChars_length_append]; omega
                        omega) e ?_
                    rw [c2, hpat1, ← he]
                    apply lexErr_congr
                    · rw [skipGround_slash, afterSlash_block, skipBlock_found r1 s0 r2 hfs]
                    · rw [openerGround_block_found r1 s0 r2 hfs]
                · -- a token that starts with `/`
                  exfalso
                  unfold lexErr at he
                  rw [skipGround_slash, afterSlash_token (d :: r1) (fun c' r' h => by
                    simp only [List.cons.injEq] at h; rw [← h.1]; exact ⟨hd1, hd2⟩)] at he
                  simp at he
          · -- any other character: no error line is due
            exfalso
            unfold lexErr at he
            rw [skipGround_token c r hcs hsl] at he
            simp [hsq, hdq] at he

end

end Goyang.Lemmas.LexHead
