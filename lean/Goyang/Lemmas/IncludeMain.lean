import Goyang.Lemmas.IncludeConv
import Goyang.Lemmas.IncludeAsmN
/-
C13 (third sentence), part 6: the forests after conversion, and `processAll`.
-/
namespace Goyang.Lemmas.IncludeMain
open Goyang.Model Goyang.Spec.Include Goyang.Lemmas.Tree Goyang.Spec.Tree Goyang.Lemmas.IncludeRel
open Goyang.Lemmas.IncludePure Goyang.Lemmas.IncludeRun Goyang.Lemmas.IncludeAsm Goyang.Lemmas.IncludeWorld
open Goyang.Lemmas.IncludeMod Goyang.Lemmas.IncludeModN Goyang.Lemmas.IncludeConv

/-! ### forests -/

theorem tree?_mem {f : Forest} {k : Nat} {t : Entry} (h : f.tree? k = some t) : (k, t) ∈ f.trees := by
  unfold Forest.tree? at h
  cases hf : f.trees.find? (·.1 == k) with
  | none => rw [hf] at h; cases h
  | some p =>
    rw [hf] at h
    simp only [Option.map_some, Option.some.injEq] at h
    have hk : p.1 = k := by simpa using List.find?_some hf
    have := List.mem_of_find?_eq_some hf
    rw [← h, ← hk]; exact this

theorem tree?_of_mem {f : Forest} {k : Nat} {e : Entry} (h : (k, e) ∈ f.trees) : ∃ t, f.tree? k = some t := by
  obtain ⟨p, hp, _, _⟩ := find?_isSome_of_key h
  exact ⟨p.2, by unfold Forest.tree?; rw [hp]; rfl⟩

theorem forestErrs_nil_iff (f : Forest) : forestErrs f = [] ↔ ∀ p ∈ f.trees, Clean p.2 := by
  unfold forestErrs Clean
  simp only [List.flatten_eq_nil_iff, List.mem_map, forall_exists_index, and_imp, forall_apply_eq_imp_iff₂]


/-! ### the conversion stage -/

section Conv
variable {s : Split} {R R' : Registry} (opts : Opts) (plug plug' : Plug) (h : IsSplitOf s R R' plug plug')
  (hlink : (linkAll R).2 = [])

include h in
theorem wu_ok : (Wu R opts plug).OK :=
  Wu_ok R opts plug h.pos h.refs h.fuel (fun x hx e => by
    have := (h.regs.R_modules_only x hx).1
    rw [this] at e; exact absurd e (by decide))

include h hlink in
theorem ws_ok : (Ws s R R' opts plug plug').OK :=
  Ws_ok opts plug plug' h.text h.regs (IncludeLinkN.linkAll_splitN s R R' h.text h.regs hlink).2 h.visible h.plugOK h.pos' h.refs' h.fuel'

theorem mkeys_eq_keyOrder (hr : RegsOK s R R') : keyOrder R = mkeysOf R := by
  rw [keyOrder_eq, skeys_R hr, List.append_nil]

theorem pmodOf_m : pmodOf R opts plug s.m = pmod (envOf R opts plug) (vm s R opts plug) s.m s.m.stmt := rfl

theorem vm_shape : ∀ c, Clean (vm s R opts plug c) → c.kw ∈ nameKws → (vm s R opts plug c).name = c.arg := by
  intro c hc hk
  have hk' : c.kw ≠ "uses" ∧ c.kw ≠ "grouping" ∧ c.kw ≠ "module" ∧ c.kw ≠ "submodule" := by
    refine ⟨?_, ?_, ?_, ?_⟩ <;> (intro e; rw [e] at hk; revert hk; decide)
  exact val_name _ _ _ _ _ hc hk'.1 hk'.2.1 hk'.2.2.1 hk'.2.2.2

omit hlink in
include h in
/-- The hypotheses of the combinatorial part, from the texts and the registries. -/
theorem nestOK : NestOK (vm s R opts plug) s.m.stmt s.owner.stmt (s.subs.map (·.stmt)) (tgtOf R') where
  shape := vm_shape opts plug
  okw := h.text.owner_kw
  skw := by
    intro X hX
    obtain ⟨sb, hsb, rfl⟩ := List.mem_map.1 hX
    exact h.text.sub_kw sb hsb
  body := by
    intro kw hkw
    have := h.text.body kw hkw
    unfold Split.parts at this
    simpa [List.flatMap_map] using this
  devO := h.text.kept "deviation" (by decide)
  devS := by
    intro X hX
    obtain ⟨sb, hsb, rfl⟩ := List.mem_map.1 hX
    exact (h.text.sub_no_aug sb hsb).2.1
  descO := h.text.kept "description" (by decide)
  argO := h.text.owner_arg
  mkw := h.text.m_kw
  names := by
    rw [List.map_map]
    exact h.regs.sub_names_nodup
  tgt_sub := by
    intro X hX Y hY
    have hP : ∃ P ∈ s.parts, X = P.stmt := by
      rcases List.mem_cons.1 hX with rfl | hX
      · exact ⟨s.owner, List.mem_cons_self .., rfl⟩
      · obtain ⟨sb, hsb, rfl⟩ := List.mem_map.1 hX
        exact ⟨sb, List.mem_cons_of_mem _ hsb, rfl⟩
    obtain ⟨P, hP, rfl⟩ := hP
    unfold tgtOf at hY
    obtain ⟨a, ha, hfa⟩ := List.mem_filterMap.1 hY
    obtain ⟨sb, hsb, hf⟩ := h.regs.inc_resolve P hP a ha
    rw [hf] at hfa
    simp only [Option.map_some, Option.some.injEq] at hfa
    rw [← hfa]
    exact List.mem_map_of_mem hsb
  cover := by
    intro Y hY
    obtain ⟨sb, hsb, rfl⟩ := List.mem_map.1 hY
    have hreach := h.regs.inc_cover sb hsb
    clear hsb hY
    induction hreach with
    | refl => exact .refl _
    | step _ hinc ih =>
      obtain ⟨a, ha, hf⟩ := hinc
      refine .step ih ?_
      unfold tgtOf
      exact List.mem_filterMap.2 ⟨a, ha, by rw [hf]; rfl⟩

include h hlink in
/-- **The forests after the conversion stage.**  When the unsplit conversion is error free, so is the
split one; every other module has the same tree up to the module numbers; the owner's tree is the
unsplit module's with the children in another order. -/
theorem conv_split (hclean : forestErrs (forest0 R opts plug) = []) :
    forestErrs (forest0 R' opts plug') = [] ∧
    (∀ x ∈ R.mods, x.seq ≠ s.m.seq → ∀ t, (forest0 R opts plug).tree? x.seq = some t →
      ∃ t', (forest0 R' opts plug').tree? x.seq = some t' ∧ ren s.σ t' = t) ∧
    (∃ t, (forest0 R opts plug).tree? s.m.seq = some t) ∧
    (∀ t, (forest0 R opts plug).tree? s.m.seq = some t →
      ∃ t', (forest0 R' opts plug').tree? s.m.seq = some t' ∧ SameTop s.σ t' t) := by
  have hr := h.regs
  have hU := conv_unsplit R opts plug (wu_ok opts plug plug' h) hr.R_modules_only
  rw [mkeys_eq_keyOrder hr] at hU
  have hcleanU : ∀ p ∈ (tstate R opts plug).cache, Clean p.2 := (forestErrs_nil_iff _).1 hclean
  -- every module's unsplit entry is the pure fold, error free
  have hpm : ∀ X ∈ mkeysOf R, ∀ e, (X.seq, e) ∈ (tstate R opts plug).cache → e = pmodOf R opts plug X ∧ Clean (pmodOf R opts plug X) := by
    intro X hX e he
    obtain ⟨Y, hY, h1, h2⟩ := hU.cache _ he
    have : Y = X := IncludeLink.eq_of_seq_eq hr.seqs_nodup (mem_mkeys_mods hY) (mem_mkeys_mods hX) h1
    subst this
    have hc := hcleanU _ he
    have := h2.1 hc
    rw [ren_id] at this
    exact ⟨this, this ▸ hc⟩
  have hpmC : ∀ X ∈ mkeysOf R, Clean (pmodOf R opts plug X) := by
    intro X hX
    obtain ⟨e, he⟩ := hU.cached X hX
    exact (hpm X hX e he).2
  -- the unsplit module: the combinatorial part
  have hmk := m_mem_mkeys hr
  have hN := nestOK opts plug plug' h
  have hFl : (s.subs.map (·.stmt)).length < entryFuel R' := by
    have := unstarted_lt_entryFuel hr
    have h1 : unstarted s [] = s.subs.length := by
      unfold unstarted
      simp
    rw [List.length_map]; omega
  have hAsm := assemblyN (envOf R opts plug) (vm s R opts plug) s.m s.m.stmt s.owner.stmt (s.subs.map (·.stmt)) (tgtOf R')
    hN (hpmC s.m hmk) (entryFuel R') hFl
  obtain ⟨a1, a3, a4, a5, a6, a7, a8, a9⟩ := hAsm
  have hall : ∀ sb ∈ s.subs, (pp s R R' opts plug (entryFuel R') [] s.owner.stmt).2.contains sb.name = true := by
    intro sb hsb
    rw [List.contains_iff_mem]
    exact a9 sb.stmt (List.mem_map_of_mem hsb)
  have hS := conv_split_state opts plug plug' h.text hr (IncludeLinkN.linkAll_splitN s R R' h.text hr hlink).2 (ws_ok opts plug plug' h hlink) hall
  -- the entries of the parts are error free
  have hpure : ∀ p, PureOf s R R' opts plug p → Clean p.2 := by
    rintro p ⟨Q, hQ, _, f', S', hn, hQS, hfu, hre⟩
    have hcl := ppart_clean (envOf R opts plug) (vm s R opts plug) s.m s.m.stmt s.owner.stmt (s.subs.map (·.stmt)) (tgtOf R')
      hN (hpmC s.m hmk) f' S' Q.stmt (List.mem_cons_of_mem _ (List.mem_map_of_mem hQ))
      (fun n hn' => by
        obtain ⟨sb, hsb, hsn⟩ := hn n hn'
        exact ⟨sb.stmt, List.mem_map_of_mem hsb, hsn⟩)
      (fun _ => List.contains_iff_mem.1 hQS)
      (by
        have : ((s.subs.map (·.stmt)).filter fun Y => !S'.contains Y.arg).length = unstarted s S' := by
          unfold unstarted
          rw [List.filter_map, List.length_map]
          rfl
        rw [this]; exact hfu)
    have := hre.2 hcl
    exact (clean_ren s.σ _).1 (this ▸ hcl)
  -- the split cache is error free and what it should be
  have hSC : ∀ p ∈ (tstate R' opts plug').cache, Clean p.2 ∧
      ((∃ x ∈ mkeysOf R, x.seq ≠ s.m.seq ∧ x.seq = p.1 ∧ ren s.σ p.2 = pmodOf R opts plug x) ∨
       (p.1 = s.owner.seq ∧ ren s.σ p.2 = (pp s R R' opts plug (entryFuel R') [] s.owner.stmt).1) ∨
       (∃ sb ∈ s.subs, p.1 = sb.seq)) := by
    intro p hp
    rcases hS.cache p hp with ⟨x, hx, h1, h2, h3⟩ | ⟨h1, h2⟩ | hpo
    · have := h3.2 (hpmC x hx)
      exact ⟨(clean_ren s.σ _).1 (this ▸ hpmC x hx), Or.inl ⟨x, hx, h1, h2, this⟩⟩
    · have := h2.2 a1
      exact ⟨(clean_ren s.σ _).1 (this ▸ a1), Or.inr (Or.inl ⟨h1, this⟩)⟩
    · have hcl := hpure p hpo
      obtain ⟨Q, hQ, hpQ, _⟩ := hpo
      exact ⟨hcl, Or.inr (Or.inr ⟨Q, hQ, hpQ⟩)⟩
  refine ⟨(forestErrs_nil_iff _).2 (fun p hp => (hSC p hp).1), ?_, ?_, ?_⟩
  · intro x hx hne t ht
    have hmem : (x.seq, t) ∈ (tstate R opts plug).cache := tree?_mem ht
    obtain ⟨Y, hY, h1, _⟩ := hU.cache _ hmem
    have hYx : Y = x := IncludeLink.eq_of_seq_eq hr.seqs_nodup (mem_mkeys_mods hY) hx h1
    subst hYx
    have ht' := (hpm Y hY t hmem).1
    have hdone : Y ∈ (mkeysOf R).map (IncludeLink.repl s) :=
      List.mem_map.2 ⟨Y, hY, IncludeLink.repl_of_ne hne⟩
    obtain ⟨e, he⟩ := hS.cached Y hdone
    obtain ⟨t', ht2⟩ := tree?_of_mem (f := forest0 R' opts plug') he
    refine ⟨t', ht2, ?_⟩
    have hmem' : (Y.seq, t') ∈ (tstate R' opts plug').cache := tree?_mem ht2
    rcases (hSC _ hmem').2 with ⟨x', hx', _, h2, h3⟩ | ⟨h1', _⟩ | ⟨sb, hsb, h1'⟩
    · have : x' = Y := IncludeLink.eq_of_seq_eq hr.seqs_nodup (mem_mkeys_mods hx') hx h2
      subst this
      rw [ht']; exact h3
    · exact absurd (h1'.trans hr.owner_seq) hne
    · exact absurd h1'.symm (hr.sub_seqs_fresh sb hsb Y hx)
  · obtain ⟨e, he⟩ := hU.cached s.m hmk
    exact tree?_of_mem (f := forest0 R opts plug) he
  · intro t ht
    have hmem : (s.m.seq, t) ∈ (tstate R opts plug).cache := tree?_mem ht
    have ht' := (hpm s.m hmk t hmem).1
    have hdone : s.owner ∈ (mkeysOf R).map (IncludeLink.repl s) :=
      List.mem_map.2 ⟨s.m, hmk, IncludeLink.repl_m s⟩
    obtain ⟨e, he⟩ := hS.cached s.owner hdone
    rw [hr.owner_seq] at he
    obtain ⟨t', ht2⟩ := tree?_of_mem (f := forest0 R' opts plug') he
    refine ⟨t', ht2, ?_⟩
    have hmem' : (s.m.seq, t') ∈ (tstate R' opts plug').cache := tree?_mem ht2
    rcases (hSC _ hmem').2 with ⟨x', hx', h1', h2, _⟩ | ⟨_, h3⟩ | ⟨sb, hsb, h1'⟩
    · exact absurd h2 h1'
    · rw [ht', pmodOf_m]
      unfold pp at h3
      have hd := congrArg Entry.d h3
      have hdir := congrArg Entry.dir h3
      rw [ren_d] at hd
      rw [ren_dir, ← renL_eq_map] at hdir
      have hinp : t'.inp = [] := List.map_eq_nil_iff.1 (by rw [← ren_inp, h3]; exact a5)
      have hout : t'.out = [] := List.map_eq_nil_iff.1 (by rw [← ren_out, h3]; exact a7)
      refine ⟨?_, ?_, ⟨hinp, a6⟩, ⟨hout, a8⟩⟩
      · unfold SameData at a4 ⊢
        rw [a4] at hd
        generalize (pmod (envOf R opts plug) (vm s R opts plug) s.m s.m.stmt).d = dm at hd ⊢
        generalize (ppart (envOf R opts plug) (vm s R opts plug) s.m (tgtOf R') (entryFuel R') [] s.owner.stmt).1.d = dp at hd
        cases hx : t'.d
        cases dm
        simp only [hx, renD, EData.mk.injEq] at hd ⊢
        obtain ⟨h1, h2, h3, h4, h5, h6, h7, h8, h9, h10, h11, h12, h13, h14, h15, h16, h17, h18, h19⟩ := hd
        exact ⟨h1, h2, h3, h4, h5, h6, h7, h8, h9, h10, h11, h12, h13, h14, trivial, trivial, h17, h18, h19⟩
      · rw [hdir]; exact a3
    · exact absurd h1'.symm (hr.sub_seqs_fresh sb hsb s.m hr.m_mem)

end Conv


/-! ### `fixChoice` -/

theorem ren_wrapOne (σ : Nat → Nat) (x : Entry) : ren σ (OrderIndep.wrapOne x) = OrderIndep.wrapOne (ren σ x) := by
  unfold OrderIndep.wrapOne
  rw [ren_d, renD_kind]
  split
  · rfl
  · simp [renD]

theorem fixChoice_mk (d : EData) (c i o : List Entry) : fixChoice (.mk d c i o) =
    .mk d (if d.kind == .choice && d.errors.isEmpty then (c.map fixChoice).map OrderIndep.wrapOne else c.map fixChoice)
      (i.map fixChoice) (o.map fixChoice) := by
  simp only [fixChoice, SortAux.fixChoiceL_eq_map, OrderIndep.wrapCases_eq_map]

theorem ren_fixChoice (σ : Nat → Nat) (e : Entry) : ren σ (fixChoice e) = fixChoice (ren σ e) := by
  induction e using entry_ind with
  | h d c i o hc hi ho =>
    rw [ren_mk, fixChoice_mk, fixChoice_mk, ren_mk]
    have hcm : (c.map fixChoice).map (ren σ) = (c.map (ren σ)).map fixChoice := by
      rw [List.map_map, List.map_map]; exact List.map_congr_left hc
    have him : (i.map fixChoice).map (ren σ) = (i.map (ren σ)).map fixChoice := by
      rw [List.map_map, List.map_map]; exact List.map_congr_left hi
    have hom : (o.map fixChoice).map (ren σ) = (o.map (ren σ)).map fixChoice := by
      rw [List.map_map, List.map_map]; exact List.map_congr_left ho
    rw [him, hom]
    congr 1
    show _ = if (d.kind == .choice && d.errors.isEmpty) then _ else _
    split
    · rw [← hcm, List.map_map, List.map_map, List.map_map, List.map_map]
      apply List.map_congr_left
      intro x _
      simp only [Function.comp]
      rw [ren_wrapOne]
    · exact hcm

theorem sameTop_fixChoice (σ : Nat → Nat) (t' t : Entry) (h : SameTop σ t' t) : SameTop σ (fixChoice t') (fixChoice t) := by
  cases t' with | mk d' c' i' o' =>
  cases t with | mk d c i o =>
  obtain ⟨h1, h2, ⟨h3, h3'⟩, ⟨h4, h4'⟩⟩ := h
  simp only [Entry.d, Entry.dir, Entry.inp, Entry.out] at h1 h2 h3 h3' h4 h4'
  subst h3 h3' h4 h4'
  rw [fixChoice_mk, fixChoice_mk]
  have hk : d'.kind = d.kind := by unfold SameData at h1; rw [h1]
  have he : d'.errors = d.errors := by unfold SameData at h1; rw [h1]
  refine ⟨h1, ?_, ⟨rfl, rfl⟩, ⟨rfl, rfl⟩⟩
  simp only [Entry.dir, hk, he]
  rw [renL_eq_map] at h2 ⊢
  split
  · have : ((c'.map fixChoice).map OrderIndep.wrapOne).map (ren σ) =
        ((c'.map (ren σ)).map fixChoice).map OrderIndep.wrapOne := by
      rw [List.map_map, List.map_map, List.map_map, List.map_map]
      apply List.map_congr_left
      intro x _
      simp only [Function.comp]
      rw [ren_wrapOne, ren_fixChoice]
    rw [this]
    exact (h2.map _).map _
  · rw [List.map_map]
    have : (c'.map ((ren σ) ∘ fixChoice)) = (c'.map (ren σ)).map fixChoice := by
      rw [List.map_map]
      apply List.map_congr_left
      intro x _
      simp only [Function.comp]
      rw [ren_fixChoice]
    rw [this]
    exact h2.map _


/-! ### paths into the two trees -/

theorem find?_name_unique (l : List Entry) (hnd : (l.map (·.name)).Nodup) (k : String) (x : Entry)
    (hx : x ∈ l) (hxk : x.name = k) : l.find? (·.name == k) = some x := by
  induction l with
  | nil => cases hx
  | cons y ys ih =>
    rw [List.find?_cons]
    rw [List.map_cons, List.nodup_cons] at hnd
    by_cases hy : y.name = k
    · have hyb : (y.name == k) = true := by simpa using hy
      rw [hyb]
      rcases List.mem_cons.1 hx with rfl | hx
      · rfl
      · exact absurd (List.mem_map.2 ⟨x, hx, hxk.trans hy.symm⟩) hnd.1
    · have hyb : (y.name == k) = false := by simpa using hy
      rw [hyb]
      rcases List.mem_cons.1 hx with rfl | hx
      · exact absurd hxk hy
      · exact ih hnd.2 hx

/-- Looking a child up by name gives the same in two child lists that are permutations of each
other, when the names are distinct. -/
theorem find?_perm (l₁ l₂ : List Entry) (hp : l₁.Perm l₂) (hnd : (l₂.map (·.name)).Nodup) (k : String) :
    l₁.find? (·.name == k) = l₂.find? (·.name == k) := by
  have hnd₁ : (l₁.map (·.name)).Nodup := ((hp.map _).nodup_iff).2 hnd
  cases h1 : l₁.find? (·.name == k) with
  | some x =>
    have hx := List.mem_of_find?_eq_some h1
    have hxk : x.name = k := by simpa using List.find?_some h1
    exact (find?_name_unique l₂ hnd k x (hp.mem_iff.1 hx) hxk).symm
  | none =>
    cases h2 : l₂.find? (·.name == k) with
    | none => rfl
    | some y =>
      have hy := List.mem_of_find?_eq_some h2
      have hyk : y.name = k := by simpa using List.find?_some h2
      rw [find?_name_unique l₁ hnd₁ k y (hp.mem_iff.2 hy) hyk] at h1
      cases h1

theorem child?_sameTop (σ : Nat → Nat) (t' t : Entry) (h : SameTop σ t' t) (hnd : (t.dir.map (·.name)).Nodup) (k : String) :
    (t'.child? k).map (ren σ) = t.child? k := by
  unfold Entry.child?
  rw [← find?_name_ren, ← renL_eq_map]
  exact find?_perm _ _ h.2.1 hnd k

theorem getAt_ren (σ : Nat → Nat) : ∀ (p : Path) (e : Entry), (ren σ e).getAt p = (e.getAt p).map (ren σ)
  | [], e => rfl
  | .child k :: p, e => by
    simp only [Entry.getAt, ren_child?]
    cases e.child? k with
    | none => rfl
    | some c => simp [getAt_ren σ p c]
  | .input :: p, e => by
    simp only [Entry.getAt, ren_inp]
    cases e.inp with
    | nil => rfl
    | cons c cs => simp [getAt_ren σ p c]
  | .output :: p, e => by
    simp only [Entry.getAt, ren_out]
    cases e.out with
    | nil => rfl
    | cons c cs => simp [getAt_ren σ p c]

/-- Below the root, the owner's tree is the unsplit module's tree (up to the module numbers). -/
theorem getAt_sameTop (σ : Nat → Nat) (t' t : Entry) (h : SameTop σ t' t) (hnd : (t.dir.map (·.name)).Nodup)
    (s : Step) (p : Path) : (t'.getAt (s :: p)).map (ren σ) = t.getAt (s :: p) := by
  cases s with
  | child k =>
    simp only [Entry.getAt]
    rw [← child?_sameTop σ t' t h hnd k]
    cases t'.child? k with
    | none => rfl
    | some c => simp [getAt_ren]
  | input => simp only [Entry.getAt, h.2.2.1.1, h.2.2.1.2]; rfl
  | output => simp only [Entry.getAt, h.2.2.2.1, h.2.2.2.2]; rfl

theorem ro_go_ren (σ : Nat → Nat) : ∀ (p : Path) (e : Entry) (inh : Bool),
    Entry.readOnlyAt.go (ren σ e) p inh = Entry.readOnlyAt.go e p inh
  | [], e, inh => by unfold Entry.readOnlyAt.go; simp [renD]
  | s :: rest, e, inh => by
    unfold Entry.readOnlyAt.go
    simp only [ren_d, renD_kind, ren_child?, ren_inp, ren_out]
    have hc : (renD σ e.d).config = e.d.config := rfl
    rw [hc]
    cases s with
    | child k =>
      dsimp only
      cases e.child? k with
      | none => rfl
      | some c => simp only [Option.map_some]; exact ro_go_ren σ rest c _
    | input =>
      dsimp only
      cases e.inp with
      | nil => rfl
      | cons c cs => simp only [List.map_cons, List.head?_cons]; exact ro_go_ren σ rest c _
    | output =>
      dsimp only
      cases e.out with
      | nil => rfl
      | cons c cs => simp only [List.map_cons, List.head?_cons]; exact ro_go_ren σ rest c _

theorem stamp_go_ren (σ : Nat → Nat) : ∀ (p : Path) (e : Entry) (acc : Option String),
    Entry.stampAt.go (ren σ e) p acc = Entry.stampAt.go e p acc
  | [], e, acc => by unfold Entry.stampAt.go; rfl
  | s :: rest, e, acc => by
    unfold Entry.stampAt.go
    simp only [ren_child?, ren_inp, ren_out]
    cases s with
    | child k =>
      dsimp only
      cases e.child? k with
      | none => rfl
      | some c => simp only [Option.map_some, ren_d]; exact stamp_go_ren σ rest c _
    | input =>
      dsimp only
      cases e.inp with
      | nil => rfl
      | cons c cs => simp only [List.map_cons, List.head?_cons, ren_d]; exact stamp_go_ren σ rest c _
    | output =>
      dsimp only
      cases e.out with
      | nil => rfl
      | cons c cs => simp only [List.map_cons, List.head?_cons, ren_d]; exact stamp_go_ren σ rest c _

/-- **Read-only status** of the node at a path is the same in the owner's and the unsplit tree. -/
theorem readOnlyAt_sameTop (σ : Nat → Nat) (t' t : Entry) (h : SameTop σ t' t) (hnd : (t.dir.map (·.name)).Nodup)
    (p : Path) : t'.readOnlyAt p = t.readOnlyAt p := by
  unfold Entry.readOnlyAt
  have hk : t'.d.kind = t.d.kind := by have := h.1; unfold SameData at this; rw [this]
  have hc : t'.d.config = t.d.config := by have := h.1; unfold SameData at this; rw [this]
  cases p with
  | nil => unfold Entry.readOnlyAt.go; rw [hk, hc]
  | cons s rest =>
    unfold Entry.readOnlyAt.go
    rw [hk, hc]
    cases s with
    | child k =>
      dsimp only
      rw [← child?_sameTop σ t' t h hnd k]
      cases t'.child? k with
      | none => rfl
      | some c => simp only [Option.map_some]; exact (ro_go_ren σ rest c _).symm
    | input => dsimp only; rw [h.2.2.1.1, h.2.2.1.2]
    | output => dsimp only; rw [h.2.2.2.1, h.2.2.2.2]

/-- The **namespace stamp** found along a path is the same. -/
theorem stampAt_sameTop (σ : Nat → Nat) (t' t : Entry) (h : SameTop σ t' t) (hnd : (t.dir.map (·.name)).Nodup)
    (p : Path) : t'.stampAt p = t.stampAt p := by
  unfold Entry.stampAt
  cases p with
  | nil => unfold Entry.stampAt.go; rfl
  | cons s rest =>
    unfold Entry.stampAt.go
    cases s with
    | child k =>
      dsimp only
      rw [← child?_sameTop σ t' t h hnd k]
      cases t'.child? k with
      | none => rfl
      | some c => simp only [Option.map_some, ren_d]; exact (stamp_go_ren σ rest c _).symm
    | input => dsimp only; rw [h.2.2.1.1, h.2.2.1.2]
    | output => dsimp only; rw [h.2.2.2.1, h.2.2.2.2]

/-! ### `processAll` -/

section Process
variable {s : Split} {R R' : Registry} (opts : Opts) (plug plug' : Plug) (h : IsSplitOf s R R' plug plug')

include h in
theorem noAugDev_split (hna : NoAugDev R) : NoAugDev R' := by
  intro x hx
  rw [IncludeLink.mods_split h.regs] at hx
  rcases List.mem_append.1 hx with hx | hx
  · obtain ⟨y, hy, rfl⟩ := List.mem_map.1 hx
    by_cases hym : y.seq = s.m.seq
    · have : y = s.m := IncludeLink.eq_m_of_seq h.regs hy hym
      subst this
      rw [IncludeLink.repl_m, h.text.kept "augment" (by decide), h.text.kept "deviation" (by decide)]
      exact hna s.m hy
    · rw [IncludeLink.repl_of_ne hym]; exact hna y hy
  · exact ⟨(h.text.sub_no_aug x hx).1, (h.text.sub_no_aug x hx).2.1⟩

include h in
theorem stage1_split (h1 : stage1Errs R plug = []) : (linkAll R).2 = [] ∧ stage1Errs R' plug' = [] := by
  unfold stage1Errs at h1 ⊢
  simp only [List.append_eq_nil_iff] at h1 ⊢
  obtain ⟨⟨l1, l2⟩, l3⟩ := h1
  exact ⟨l1, ⟨(IncludeLinkN.linkAll_splitN s R R' h.text h.regs l1).1, h.plugOK.identity l2⟩, h.plugOK.typedefs l3⟩

include h in
/-- **`processAll` on the split set**, when no loaded module has augment or deviation statements. -/
theorem process_split (hna : NoAugDev R) (hclean : (processAll R opts plug).errors = []) :
    (processAll R' opts plug').errors = [] ∧
    (∀ x ∈ R.mods, x.seq ≠ s.m.seq → ∀ t, (processAll R opts plug).forest.tree? x.seq = some t →
      ∃ t', (processAll R' opts plug').forest.tree? x.seq = some t' ∧ ren s.σ t' = t) ∧
    (∃ t, (processAll R opts plug).forest.tree? s.m.seq = some t) ∧
    (∀ t, (processAll R opts plug).forest.tree? s.m.seq = some t →
      ∃ t', (processAll R' opts plug').forest.tree? s.m.seq = some t' ∧ SameTop s.σ t' t) := by
  obtain ⟨c1, c2⟩ := IncludeNoAug.processAll_clean_stages R opts plug hclean
  obtain ⟨hlink, c1'⟩ := stage1_split plug plug' h c1
  obtain ⟨k1, k2, k3, k4⟩ := conv_split opts plug plug' h hlink c2
  obtain ⟨_, fR⟩ := IncludeNoAug.processAll_noAugDev R opts plug hna c1 c2
  obtain ⟨eR', fR'⟩ := IncludeNoAug.processAll_noAugDev R' opts plug' (noAugDev_split plug plug' h hna) c1' k1
  rw [fR, fR']
  refine ⟨eR', ?_, ?_, ?_⟩
  · intro x hx hne t ht
    rw [tree?_mapTrees] at ht ⊢
    cases ht0 : (forest0 R opts plug).tree? x.seq with
    | none => rw [ht0] at ht; cases ht
    | some t0 =>
      rw [ht0] at ht
      simp only [Option.map_some, Option.some.injEq] at ht
      obtain ⟨t0', h1, h2⟩ := k2 x hx hne t0 ht0
      refine ⟨fixChoice t0', by rw [h1]; rfl, ?_⟩
      rw [ren_fixChoice, h2, ht]
  · obtain ⟨t, ht⟩ := k3
    exact ⟨fixChoice t, by rw [tree?_mapTrees, ht]; rfl⟩
  · intro t ht
    rw [tree?_mapTrees] at ht ⊢
    cases ht0 : (forest0 R opts plug).tree? s.m.seq with
    | none => rw [ht0] at ht; cases ht
    | some t0 =>
      rw [ht0] at ht
      simp only [Option.map_some, Option.some.injEq] at ht
      obtain ⟨t0', h1, h2⟩ := k4 t0 ht0
      refine ⟨fixChoice t0', by rw [h1]; rfl, ?_⟩
      rw [← ht]
      exact sameTop_fixChoice _ _ _ h2


theorem names_nodup_of_clean (reg : Registry) (opts : Opts) (plug : Plug) (hclean : (processAll reg opts plug).errors = [])
    (k : Nat) (t : Entry) (ht : (processAll reg opts plug).forest.tree? k = some t) : (t.dir.map (·.name)).Nodup := by
  have hdp := process_clean_dp reg opts plug false (fun e => by cases e) hclean
  have := (hdp (k, t) (tree?_mem ht)).wf
  cases t with | mk d c i o =>
  rw [everyNode_mk] at this
  have h2 := wfqB_keysUnique false _ this.1
  simp only [keysUniqueHere, Entry.dir, Bool.and_eq_true] at h2
  exact of_decide_eq_true h2.1.1

include h in
/-- **Namespace, read-only status and every node below the root** of the owner's tree and of the
unsplit module's tree agree, at every path. -/
theorem process_split_paths (hna : NoAugDev R) (hclean : (processAll R opts plug).errors = []) (p : Path) :
    namespaceAt R' (processAll R' opts plug').forest (s.m.seq, p) = namespaceAt R (processAll R opts plug).forest (s.m.seq, p) ∧
    ∀ t' t, (processAll R' opts plug').forest.tree? s.m.seq = some t' → (processAll R opts plug).forest.tree? s.m.seq = some t →
      t'.readOnlyAt p = t.readOnlyAt p ∧ (p ≠ [] → (t'.getAt p).map (ren s.σ) = t.getAt p) := by
  obtain ⟨_, _, ⟨t, ht⟩, k4⟩ := process_split opts plug plug' h hna hclean
  obtain ⟨t', ht', hst⟩ := k4 t ht
  have hnd := names_nodup_of_clean R opts plug hclean _ t ht
  constructor
  · unfold namespaceAt
    simp only [ht, ht']
    rw [stampAt_sameTop s.σ t' t hst hnd p]
    cases t.stampAt p with
    | some n => rfl
    | none =>
      dsimp only
      have hr := h.regs
      have b1 : R'.byId s.m.seq = some s.owner := by
        rw [IncludeLink.byId_split_of_mem hr hr.m_mem, IncludeLink.repl_m]
      have b2 : R.byId s.m.seq = some s.m := IncludeLink.byId_of_mem hr hr.m_mem
      have o1 : R'.owner s.owner = some s.owner := by
        unfold Registry.owner Mod.belongsTo? Stmt.argOf?
        rw [IncludeBind.one?_none (by rw [h.text.kept "belongs-to" (by decide)]; exact h.text.m_no_belongs)]
        rfl
      have o2 : R.owner s.m = some s.m := by
        unfold Registry.owner Mod.belongsTo? Stmt.argOf?
        rw [IncludeBind.one?_none h.text.m_no_belongs]
        rfl
      rw [b1, b2]
      dsimp only
      rw [o1, o2]
      dsimp only
      unfold Stmt.argOf?
      rw [IncludeBind.one?_congr (h.text.kept "namespace" (by decide))]
  · intro t2' t2 h2' h2
    rw [ht'] at h2'; rw [ht] at h2
    cases h2'; cases h2
    refine ⟨readOnlyAt_sameTop s.σ t' t hst hnd p, ?_⟩
    intro hne
    cases p with
    | nil => exact absurd rfl hne
    | cons st rest =>
      exact getAt_sameTop s.σ t' t hst hnd st rest

end Process

end Goyang.Lemmas.IncludeMain
