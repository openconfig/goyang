import Goyang.Lemmas.TypesDefs
import Goyang.Lemmas.IdentityLink
/-
`Env.of reg` satisfies the standing hypothesis `Linked` of the completeness half of property C09
whenever `Modules.Process` linked every include and import (`linkOk reg`): the link state
`Env.of` uses is the one `ms.include` leaves behind, which the identity layer (C11,
`linkAll_spec`) shows to have every include statement of every part of a schema linked.
-/
namespace Goyang.Lemmas.TypesLinked
open Goyang.Model Goyang.Model.Types Goyang.Spec.Types Goyang.Lemmas.TypesDefs
open Goyang.Model.Identity (includeSucc linkAll moduleEntries)
open Goyang.Spec.Identity (includedBy Reach)
open Goyang.Lemmas.Identity (LinkOK linkAll_spec byId_self byId_seq moduleEntries_byId findModule_byId)

theorem ofNat0_valid : (Identity.Oracle.ofNat 0).Valid := by
  intro α site l
  simp [Identity.Oracle.ofNat]

theorem filterMap_length_le {α β : Type} (f g : α → Option β) (hg : ∀ x, g x = f x ∨ g x = none) :
    ∀ l : List α, (l.filterMap g).length ≤ (l.filterMap f).length := by
  intro l
  induction l with
  | nil => simp
  | cons x rest ih =>
    rcases hg x with h | h
    · simp only [List.filterMap_cons, h]
      cases f x <;> simp [ih]
    · simp only [List.filterMap_cons, h]
      cases f x with
      | none => exact ih
      | some v => simp only [List.length_cons]; omega

/-- A sub-selection that yields the same list under a map selects everything. -/
theorem filterMap_eq_of_map_eq {α β γ : Type} (f g : α → Option β) (k : β → γ) (hg : ∀ x, g x = f x ∨ g x = none) :
    ∀ l : List α, (l.filterMap g).map k = (l.filterMap f).map k → l.filterMap g = l.filterMap f := by
  intro l
  induction l with
  | nil => intro _; rfl
  | cons x rest ih =>
    intro h
    rcases hg x with hx | hx
    · simp only [List.filterMap_cons, hx] at h ⊢
      cases hf : f x with
      | none => rw [hf] at h; exact ih h
      | some v =>
        rw [hf] at h
        simp only [List.map_cons, List.cons.injEq, true_and] at h
        rw [ih h]
    · simp only [List.filterMap_cons, hx] at h ⊢
      cases hf : f x with
      | none => rw [hf] at h; exact ih h
      | some v =>
        rw [hf] at h
        exfalso
        have hl := congrArg List.length h
        simp only [List.map_cons, List.length_cons, List.length_map] at hl
        have := filterMap_length_le f g hg rest
        omega

theorem filterMap_zipIdx_fst {α β : Type} (h : α → Option β) : ∀ (l : List α) (n : Nat),
    (l.zipIdx n).filterMap (fun p => h p.1) = l.filterMap h := by
  intro l
  induction l with
  | nil => intro n; rfl
  | cons x rest ih =>
    intro n
    simp only [List.zipIdx_cons, List.filterMap_cons]
    cases h x <;> simp [ih]

/-- Reachability through include statements, on sequence numbers (the identity layer's form). -/
theorem reach_of_includesStar {reg : Registry} {a b : Mod} (h : IncludesStar reg a b) :
    reg.byId a.seq = some a → Reach (includedBy reg) a.seq b.seq ∧ reg.byId b.seq = some b := by
  induction h with
  | refl a => intro ha; exact ⟨Reach.refl _, ha⟩
  | @head a b c hab _ ih =>
    intro ha
    unfold Includes includesOf at hab
    obtain ⟨i, hi, hf⟩ := List.mem_filterMap.mp hab
    obtain ⟨id, hid⟩ := findModule_byId hf
    have hb : reg.byId b.seq = some b := byId_self hid
    obtain ⟨hr, hc⟩ := ih hb
    refine ⟨Reach.step ?_ hr, hc⟩
    unfold includedBy
    rw [ha]
    exact List.mem_filterMap.mpr ⟨i, hi, by rw [hf]; rfl⟩

/-- **`Env.of reg` is linked** whenever `process` linked every include and import without error. -/
theorem linked_envOf (reg : Registry) (hok : linkOk reg = true) : Linked (Env.of reg) := by
  obtain ⟨lk, errs, hla, hspec⟩ := linkAll_spec (Identity.Oracle.ofNat 0) ofNat0_valid reg
  have herrs : errs = [] := by
    unfold linkOk at hok
    rw [hla] at hok
    cases errs with
    | nil => rfl
    | cons e rest => simp at hok
  have hlk : LinkOK reg lk := hspec herrs
  have henv : ∀ m, (Env.of reg).includeTargets m = Identity.includeTargets reg lk m := by
    intro m
    unfold Env.includeTargets Env.of
    simp only [hla]
  intro m hm hsch
  rw [henv]
  have hsch' : PartOfSchema reg m := hsch
  show Identity.includeTargets reg lk m = includesOf reg m
  obtain ⟨top, htop, hstar⟩ := hsch'
  obtain ⟨id, hid⟩ := moduleEntries_byId htop
  obtain ⟨hreach, hbm⟩ := reach_of_includesStar hstar (byId_self hid)
  have hsucc := hlk m.seq ⟨top, htop, hreach⟩
  unfold includeSucc includedBy at hsucc
  rw [hbm] at hsucc
  simp only at hsucc
  unfold includesOf Identity.includeTargets
  rw [← filterMap_zipIdx_fst (reg.findModule true) m.includes 0]
  apply filterMap_eq_of_map_eq (fun p : Stmt × Nat => reg.findModule true p.1)
    (fun p : Stmt × Nat => if (m.seq, p.2) ∈ lk.linked then reg.findModule true p.1 else none) (·.seq)
  · intro p
    by_cases hp : (m.seq, p.2) ∈ lk.linked
    · exact Or.inl (by simp [hp])
    · exact Or.inr (by simp [hp])
  · have h1 : (List.filterMap (fun p : Stmt × Nat => reg.findModule true p.1) (m.includes.zipIdx 0)).map (·.seq)
        = m.includes.filterMap fun i => (reg.findModule true i).map (·.seq) := by
      rw [filterMap_zipIdx_fst (reg.findModule true) m.includes 0, List.map_filterMap]
    rw [h1, ← hsucc]
    rfl

end Goyang.Lemmas.TypesLinked
