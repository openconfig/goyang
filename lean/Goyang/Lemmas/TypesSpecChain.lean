import Batteries.Data.List.Basic
import Goyang.Lemmas.TypesDefs
/-
Agreement of the executable specification of property C09 (`chainOf`, `inherit`; Goyang/Spec/Types.lean)
with the relational one (`DerivesFrom`, `Resolvable`, `chainUnits` … `chainPatterns`): the derivation
chain and inheritance.  The binding step (`bindType` against `Binds`) is a hypothesis here (`BindSound`).
Core Lean only.
-/
namespace Goyang.Lemmas.TypesSpecChain
open Goyang.Model Goyang.Spec.Types
open Goyang.Lemmas.Types (binds_not_builtin)

/-- The executable binding is sound for the relation (discharged elsewhere; taken as a hypothesis here). -/
def BindSound (reg : Registry) : Prop :=
  ∀ root scope name m td sc, bindType reg root scope name = .typedef m td sc → Binds reg root scope name m td sc

theorem pick_ne_builtin (c : List (Mod × Stmt × List Stmt)) (k : String) : pick c ≠ .builtin k := by
  unfold pick
  split <;> simp

theorem bindType_builtin {reg : Registry} {root : Mod} {scope : List Stmt} {name k : String}
    (h : bindType reg root scope name = .builtin k) : builtinNames.contains name = true ∧ k = name := by
  unfold bindType at h
  split at h
  · rename_i hb
    simp only [Binding.builtin.injEq] at h
    exact ⟨hb, h.symm⟩
  · exfalso
    simp only at h
    split at h
    · split at h <;> exact pick_ne_builtin _ _ h
    · split at h
      · cases h
      · split at h
        · cases h
        · exact pick_ne_builtin _ _ h
      · cases h

/-- What the executable specification reads off one link of a derivation chain. -/
def LayerOf (reg : Registry) : Link → Layer → Prop
  | .td d, l => l = typedefLayer d
  | .ty root scope t, l =>
      l.units = none ∧ l.default = none ∧ l.path = t.argOf? "path" ∧
      l.patterns = (t.all "pattern").map Stmt.arg ∧
      l.fd = (t.argOf? "fraction-digits").bind String.toNat? ∧
      l.enum = (if (t.all "enum").isEmpty then none else assignValues "value" (-2147483648) 2147483647 (t.all "enum")) ∧
      l.bit = (if (t.all "bit").isEmpty then none else assignValues "position" 0 4294967295 (t.all "bit")) ∧
      (l.members = none ↔ t.all "type" = []) ∧
      (∀ ms, l.members = some ms → ∃ fuel vis, List.Forall₂
          (fun ut st => finish (chainOf reg fuel root (t :: scope) ut vis) = .ok st) (t.all "type") ms) ∧
      -- what is stated is well-formed (else `chainOf` answers `noClaim`)
      (l.fd = none ↔ t.argOf? "fraction-digits" = none) ∧ (∀ n, l.fd = some n → 1 ≤ n ∧ n ≤ 18) ∧
      (l.enum = none ↔ t.all "enum" = []) ∧ (l.bit = none ↔ t.all "bit" = [])

theorem collectMembers_ok : ∀ (l : List SRes) (ms : List SType), collectMembers l = some (.ok ms) →
    List.Forall₂ (fun r st => r = .ok st) l ms
  | [], ms, h => by
    simp only [collectMembers, Option.some.injEq, Except.ok.injEq] at h
    subst h; exact .nil
  | .error :: _, ms, h => by simp [collectMembers] at h
  | .noClaim w :: rest, ms, h => by
    simp only [collectMembers, Option.map_eq_some_iff] at h
    obtain ⟨_, _, h⟩ := h; cases h
  | .ok t :: rest, ms, h => by
    simp only [collectMembers, Option.map_eq_some_iff] at h
    obtain ⟨r, hr, h⟩ := h
    cases r with
    | error e => cases h
    | ok ms' =>
      simp only [Except.map, Except.ok.injEq] at h
      subst h
      exact .cons rfl (collectMembers_ok rest ms' hr)

theorem forall₂_map_left {α β γ : Type} {R : β → γ → Prop} (f : α → β) :
    ∀ {l : List α} {ms : List γ}, List.Forall₂ R (l.map f) ms → List.Forall₂ (fun a c => R (f a) c) l ms
  | [], _, h => by cases h; exact .nil
  | _ :: _, _, h => by
    cases h with
    | cons h1 h2 => exact .cons h1 (forall₂_map_left f h2)

/-- The layer a type statement itself contributes (the `own?` of `chainOf`). -/
def ownLayer (t : Stmt) (members? : Except String (List SType)) : Except String Layer :=
  let memberStmts := t.all "type"
  let enumStmts := t.all "enum"
  let bitStmts := t.all "bit"
  let enum? := if enumStmts.isEmpty then some none else (assignValues "value" (-2147483648) 2147483647 enumStmts).map some
  let bit? := if bitStmts.isEmpty then some none else (assignValues "position" 0 4294967295 bitStmts).map some
  let fd? : Option (Option Nat) :=
    match t.argOf? "fraction-digits" with
    | none => some none
    | some a => match a.toNat? with
      | some n => if 1 ≤ n && n ≤ 18 then some (some n) else none
      | none => none
  match members?, enum?, bit?, fd? with
  | .ok ms, some e, some b, some fd =>
    .ok { fd := fd, path := t.argOf? "path", enum := e, bit := b,
          patterns := (t.all "pattern").map Stmt.arg,
          members := if memberStmts.isEmpty then none else some ms }
  | .error w, _, _, _ => .error w
  | _, none, _, _ => .error "enum-values"
  | _, _, none, _ => .error "bit-positions"
  | _, _, _, none => .error "fraction-digits"

theorem ownLayer_ok {t : Stmt} {members? : Except String (List SType)} {own : Layer}
    (h : ownLayer t members? = .ok own) :
    ∃ ms, members? = .ok ms ∧
      own.units = none ∧ own.default = none ∧ own.path = t.argOf? "path" ∧
      own.patterns = (t.all "pattern").map Stmt.arg ∧
      own.fd = (t.argOf? "fraction-digits").bind String.toNat? ∧
      own.enum = (if (t.all "enum").isEmpty then none else assignValues "value" (-2147483648) 2147483647 (t.all "enum")) ∧
      own.bit = (if (t.all "bit").isEmpty then none else assignValues "position" 0 4294967295 (t.all "bit")) ∧
      own.members = (if (t.all "type").isEmpty then none else some ms) ∧
      (own.fd = none ↔ t.argOf? "fraction-digits" = none) ∧ (∀ n, own.fd = some n → 1 ≤ n ∧ n ≤ 18) ∧
      (own.enum = none ↔ t.all "enum" = []) ∧ (own.bit = none ↔ t.all "bit" = []) := by
  unfold ownLayer at h
  simp only at h
  split at h
  · rename_i ms e b fd he hb hfd
    simp only [Except.ok.injEq] at h
    subst h
    have he' : e = (if (t.all "enum").isEmpty then none else assignValues "value" (-2147483648) 2147483647 (t.all "enum")) ∧
        (e = none ↔ t.all "enum" = []) := by
      cases hemp : (t.all "enum").isEmpty
      · have hne : t.all "enum" ≠ [] := by intro h0; rw [h0] at hemp; cases hemp
        simp only [hemp, Bool.false_eq_true, if_false, Option.map_eq_some_iff] at he ⊢
        obtain ⟨a, ha, rfl⟩ := he
        exact ⟨ha.symm, by simp [hne]⟩
      · have hnil : t.all "enum" = [] := List.isEmpty_iff.mp hemp
        simp only [hemp, if_true, Option.some.injEq] at he ⊢
        subst he
        exact ⟨rfl, by simp [hnil]⟩
    have hb' : b = (if (t.all "bit").isEmpty then none else assignValues "position" 0 4294967295 (t.all "bit")) ∧
        (b = none ↔ t.all "bit" = []) := by
      cases hemp : (t.all "bit").isEmpty
      · have hne : t.all "bit" ≠ [] := by intro h0; rw [h0] at hemp; cases hemp
        simp only [hemp, Bool.false_eq_true, if_false, Option.map_eq_some_iff] at hb ⊢
        obtain ⟨a, ha, rfl⟩ := hb
        exact ⟨ha.symm, by simp [hne]⟩
      · have hnil : t.all "bit" = [] := List.isEmpty_iff.mp hemp
        simp only [hemp, if_true, Option.some.injEq] at hb ⊢
        subst hb
        exact ⟨rfl, by simp [hnil]⟩
    have hfd' : fd = (t.argOf? "fraction-digits").bind String.toNat? ∧
        (fd = none ↔ t.argOf? "fraction-digits" = none) ∧ (∀ n, fd = some n → 1 ≤ n ∧ n ≤ 18) := by
      cases ha : t.argOf? "fraction-digits" with
      | none =>
        rw [ha] at hfd
        simp only [Option.some.injEq] at hfd
        subst hfd
        exact ⟨rfl, by simp, by intro n hn; cases hn⟩
      | some a =>
        rw [ha] at hfd
        simp only at hfd
        split at hfd
        · rename_i n hn
          split at hfd
          · rename_i hr
            simp only [Option.some.injEq] at hfd
            subst hfd
            simp only [Bool.and_eq_true, decide_eq_true_eq] at hr
            refine ⟨by simp [hn], by simp, ?_⟩
            intro n' hn'
            simp only [Option.some.injEq] at hn'
            subst hn'
            exact hr
          · cases hfd
        · cases hfd
    exact ⟨ms, rfl, rfl, rfl, rfl, rfl, hfd'.1, he'.1, hb'.1, rfl, hfd'.2.1, hfd'.2.2, he'.2, hb'.2⟩
  all_goals cases h

/-- One step of `chainOf`, with `ownLayer` named. -/
theorem chainOf_succ (reg : Registry) (fuel : Nat) (root : Mod) (scope : List Stmt) (t : Stmt) (vis : List Key) :
    chainOf reg (fuel + 1) root scope t vis =
      (if vis.contains (root.seq, t.line, t.col) then .error else
       match collectMembers ((t.all "type").map fun ut =>
          finish (chainOf reg fuel root (t :: scope) ut ((root.seq, t.line, t.col) :: vis))) with
       | none => .error
       | some members? =>
         match bindType reg root scope t.arg with
         | .unbound => .error
         | .ambiguous => .noClaim "ambiguous"
         | .builtin k =>
           match ownLayer t members? with
           | .ok own => .ok k [own]
           | .error w => .noClaim w
         | .typedef m td sc =>
           match td.one? "type" with
           | none => .noClaim "typedef-without-type"
           | some tt =>
             match chainOf reg fuel m (td :: sc) tt ((root.seq, t.line, t.col) :: vis) with
             | .ok k ls =>
               match ownLayer t members? with
               | .ok own => .ok k (own :: typedefLayer td :: ls)
               | .error w => .noClaim w
             | .error => .error
             | .noClaim w => .noClaim w) := by
  rw [chainOf]
  rfl

theorem forall₂_left_mem {α β : Type} {R : α → β → Prop} :
    ∀ {l : List α} {ms : List β}, List.Forall₂ R l ms → ∀ {a}, a ∈ l → ∃ b, R a b
  | _, _, .nil, _, h => by cases h
  | _, _, .cons h1 h2, a, h => by
    rcases List.mem_cons.mp h with rfl | h
    · exact ⟨_, h1⟩
    · exact forall₂_left_mem h2 h

theorem chainOf_succ_ok' {reg : Registry} {fuel : Nat} {root : Mod} {scope : List Stmt} {t : Stmt} {vis : List Key}
    {k : String} {ls : List Layer} (h : chainOf reg (fuel + 1) root scope t vis = .ok k ls) :
    ∃ ms own,
      collectMembers ((t.all "type").map fun ut =>
        finish (chainOf reg fuel root (t :: scope) ut ((root.seq, t.line, t.col) :: vis))) = some (.ok ms) ∧
      ownLayer t (.ok ms) = .ok own ∧
      ((bindType reg root scope t.arg = .builtin k ∧ ls = [own]) ∨
       (∃ m td sc tt ls', bindType reg root scope t.arg = .typedef m td sc ∧ td.one? "type" = some tt ∧
          chainOf reg fuel m (td :: sc) tt ((root.seq, t.line, t.col) :: vis) = .ok k ls' ∧
          ls = own :: typedefLayer td :: ls')) := by
  rw [chainOf_succ] at h
  split at h
  · cases h
  split at h
  · cases h
  rename_i members? hcm
  have key : ∀ own, ownLayer t members? = .ok own → ∃ ms, members? = .ok ms := by
    intro own hown
    obtain ⟨ms, hms, _⟩ := ownLayer_ok hown
    exact ⟨ms, hms⟩
  split at h
  · cases h
  · cases h
  · split at h
    · rename_i k0 own hown
      simp only [Chain.ok.injEq] at h
      obtain ⟨rfl, rfl⟩ := h
      rename_i hbt
      obtain ⟨ms, rfl⟩ := key own hown
      exact ⟨ms, own, hcm, hown, .inl ⟨hbt, rfl⟩⟩
    · cases h
  · rename_i m td sc hbt
    split at h
    · cases h
    · rename_i tt htt
      split at h
      · rename_i k0 ls0 hch
        split at h
        · rename_i own hown
          simp only [Chain.ok.injEq] at h
          obtain ⟨rfl, rfl⟩ := h
          obtain ⟨ms, rfl⟩ := key own hown
          exact ⟨ms, own, hcm, hown, .inr ⟨m, td, sc, tt, ls0, hbt, htt, hch, rfl⟩⟩
        · cases h
      · cases h
      · cases h

theorem chainOf_succ_ok {reg : Registry} {fuel : Nat} {root : Mod} {scope : List Stmt} {t : Stmt} {vis : List Key}
    {k : String} {ls : List Layer} (h : chainOf reg (fuel + 1) root scope t vis = .ok k ls) :
    ∃ own, LayerOf reg (.ty root scope t) own ∧
      (∀ ut ∈ t.all "type", ∃ st, finish (chainOf reg fuel root (t :: scope) ut ((root.seq, t.line, t.col) :: vis)) = .ok st) ∧
      ((bindType reg root scope t.arg = .builtin k ∧ ls = [own]) ∨
       (∃ m td sc tt ls', bindType reg root scope t.arg = .typedef m td sc ∧ td.one? "type" = some tt ∧
          chainOf reg fuel m (td :: sc) tt ((root.seq, t.line, t.col) :: vis) = .ok k ls' ∧
          ls = own :: typedefLayer td :: ls')) := by
  obtain ⟨ms, own, hcm, hown, hcase⟩ := chainOf_succ_ok' h
  obtain ⟨ms', hms, h1, h2, h3, h4, h5, h6, h7, h8, h9, h10, h11, h12⟩ := ownLayer_ok hown
  cases hms
  have hf := forall₂_map_left _ (collectMembers_ok _ _ hcm)
  refine ⟨own, ⟨h1, h2, h3, h4, h5, h6, h7, ?_, ?_, h9, h10, h11, h12⟩, fun ut hut => forall₂_left_mem hf hut, hcase⟩
  · rw [h8]
    cases hemp : (t.all "type").isEmpty
    · have hne : t.all "type" ≠ [] := by intro h0; rw [h0] at hemp; cases hemp
      simp [hne]
    · simp [List.isEmpty_iff.mp hemp]
  · intro ms' hms'
    rw [h8] at hms'
    split at hms'
    · cases hms'
    · simp only [Option.some.injEq] at hms'
      subst hms'
      exact ⟨fuel, _, hf⟩

theorem finish_ok {c : Chain} {st : SType} (h : finish c = .ok st) : ∃ k ls, c = .ok k ls ∧ st = inherit k ls := by
  cases c with
  | ok k ls =>
    simp only [finish] at h
    split at h
    · simp only [SRes.ok.injEq] at h
      exact ⟨k, ls, rfl, h.symm⟩
    · cases h
  | error => cases h
  | noClaim w => cases h

/-- `chainOf` answers `.ok` only along a derivation chain of the relational specification, and its
layers are what the statements of that chain say. -/
theorem chainOf_sound (reg : Registry) (hb : BindSound reg) :
    ∀ (fuel : Nat) (root : Mod) (scope : List Stmt) (t : Stmt) (vis : List Key) (k : String) (ls : List Layer),
      chainOf reg fuel root scope t vis = .ok k ls →
      ∃ chain, DerivesFrom reg root scope t k chain ∧ List.Forall₂ (LayerOf reg) chain ls := by
  intro fuel
  induction fuel with
  | zero => intro root scope t vis k ls h; unfold chainOf at h; cases h
  | succ fuel ih =>
    intro root scope t vis k ls h
    obtain ⟨own, hown, _, hcase⟩ := chainOf_succ_ok h
    rcases hcase with ⟨hbt, rfl⟩ | ⟨m, td, sc, tt, ls', hbt, htt, hch, rfl⟩
    · obtain ⟨hbi, rfl⟩ := bindType_builtin hbt
      exact ⟨[.ty root scope t], .builtin hbi, .cons hown .nil⟩
    · obtain ⟨chain, hd, hf⟩ := ih _ _ _ _ _ _ hch
      exact ⟨.ty root scope t :: .td td :: chain, .derived m td sc tt k chain (hb _ _ _ _ _ _ hbt) htt hd,
        .cons hown (.cons rfl hf)⟩

/-- … and then the type statement is `Resolvable` (its member types included). -/
theorem chainOf_resolvable (reg : Registry) (hb : BindSound reg) :
    ∀ (fuel : Nat) (root : Mod) (scope : List Stmt) (t : Stmt) (vis : List Key) (k : String) (ls : List Layer),
      chainOf reg fuel root scope t vis = .ok k ls → Resolvable reg root scope t := by
  intro fuel
  induction fuel with
  | zero => intro root scope t vis k ls h; unfold chainOf at h; cases h
  | succ fuel ih =>
    intro root scope t vis k ls h
    obtain ⟨own, _, hmem, hcase⟩ := chainOf_succ_ok h
    have hmem' : ∀ ut ∈ t.all "type", Resolvable reg root (t :: scope) ut := by
      intro ut hut
      obtain ⟨st, hst⟩ := hmem ut hut
      obtain ⟨k', ls', hc, _⟩ := finish_ok hst
      exact ih _ _ _ _ _ _ hc
    rcases hcase with ⟨hbt, rfl⟩ | ⟨m, td, sc, tt, ls', hbt, htt, hch, rfl⟩
    · exact .builtin (bindType_builtin hbt).1 hmem'
    · exact .derived m td sc tt (hb _ _ _ _ _ _ hbt) htt (ih _ _ _ _ _ _ hch) hmem'

/-- In an unambiguous schema a type statement has at most one derivation chain. (Vacuous as it stands: `Unambiguous` holds of no registry, `Goyang.Props.C09.unambiguous_false`;
the usable form is `Goyang.Props.C09.spec_exec_chain_unique` over `UnambiguousBelow`.) -/
theorem derivesFrom_unique {reg : Registry} (hU : Unambiguous reg) {root : Mod} {scope : List Stmt} {t : Stmt}
    {k k' : String} {c c' : List Link} (h : DerivesFrom reg root scope t k c) (h' : DerivesFrom reg root scope t k' c') :
    k = k' ∧ c = c' := by
  induction h generalizing k' c' with
  | builtin hbi =>
    cases h' with
    | builtin _ => exact ⟨rfl, rfl⟩
    | derived m td sc tt kind chain hbd _ _ => rw [binds_not_builtin hbd] at hbi; cases hbi
  | derived m td sc tt kind chain hbd htt _ ih =>
    cases h' with
    | builtin hbi => rw [binds_not_builtin hbd] at hbi; cases hbi
    | derived m' td' sc' tt' kind' chain' hbd' htt' hd' =>
      obtain ⟨rfl, rfl, rfl⟩ := hU _ _ _ _ _ _ _ _ _ hbd hbd'
      rw [htt] at htt'
      simp only [Option.some.injEq] at htt'
      subst htt'
      obtain ⟨rfl, rfl⟩ := ih hd'
      exact ⟨rfl, rfl⟩

/-! ### Inheritance -/

theorem findSome?_forall₂ {α β γ δ : Type} {R : α → β → Prop} {f : α → Option γ} {g : β → Option δ} {w : γ → Option δ}
    (hfg : ∀ x y, R x y → g y = (f x).bind w) (hw : ∀ x y c, R x y → f x = some c → w c ≠ none) :
    ∀ {xs : List α} {ys : List β}, List.Forall₂ R xs ys → ys.findSome? g = (xs.findSome? f).bind w
  | _, _, .nil => rfl
  | x :: xs, y :: ys, .cons h1 h2 => by
    rw [List.findSome?_cons, List.findSome?_cons, hfg x y h1]
    cases hfx : f x with
    | none => simpa using findSome?_forall₂ hfg hw h2
    | some c =>
      have := hw x y c h1 hfx
      cases hwc : w c with
      | none => exact absurd hwc this
      | some d => simp [hwc]

theorem findSome?_forall₂' {α β γ : Type} {R : α → β → Prop} {f : α → Option γ} {g : β → Option γ}
    (hfg : ∀ x y, R x y → g y = f x) {xs : List α} {ys : List β} (h : List.Forall₂ R xs ys) :
    ys.findSome? g = xs.findSome? f := by
  have := findSome?_forall₂ (R := R) (f := f) (g := g) (w := some) (by intro x y hxy; simp [hfg x y hxy])
    (by intro _ _ _ _ _ h; cases h) h
  simpa using this

theorem flatMap_forall₂ {α β γ : Type} {R : α → β → Prop} {f : α → List γ} {g : β → List γ}
    (hfg : ∀ x y, R x y → g y = f x) :
    ∀ {xs : List α} {ys : List β}, List.Forall₂ R xs ys → ys.flatMap g = xs.flatMap f
  | _, _, .nil => rfl
  | x :: xs, y :: ys, .cons h1 h2 => by
    rw [List.flatMap_cons, List.flatMap_cons, hfg x y h1, flatMap_forall₂ hfg h2]

/-- How `LayerOf` ties the `enum` / `bit` table of a type-statement layer to the members `ms` the statement
lists: the values `assignValues` gives them, and no table exactly when none is listed. -/
def TableOf (tab? : Option (List (String × Int))) (vkw : String) (lo hi : Int) (ms : List Stmt) : Prop :=
  tab? = (if ms.isEmpty then none else assignValues vkw lo hi ms) ∧ (tab? = none ↔ ms = [])

theorem TableOf.some {tab? : Option (List (String × Int))} {vkw : String} {lo hi : Int} {ms : List Stmt}
    (h : TableOf tab? vkw lo hi ms) (hne : ¬ ms.isEmpty = true) : ∃ tab, assignValues vkw lo hi ms = some tab := by
  cases hq : assignValues vkw lo hi ms with
  | some tab => exact ⟨tab, rfl⟩
  | none =>
    have h1 := h.1
    rw [if_neg hne, hq] at h1
    rw [h.2.mp h1] at hne
    exact absurd rfl hne

theorem layerOf_enum {reg : Registry} {r : Mod} {s : List Stmt} {t : Stmt} {l : Layer} (h : LayerOf reg (.ty r s t) l) :
    TableOf l.enum "value" (-2147483648) 2147483647 (t.all "enum") := by
  obtain ⟨_, _, _, _, _, henum, _, _, _, _, _, hnone, _⟩ := h
  exact ⟨henum, hnone⟩

theorem layerOf_bit {reg : Registry} {r : Mod} {s : List Stmt} {t : Stmt} {l : Layer} (h : LayerOf reg (.ty r s t) l) :
    TableOf l.bit "position" 0 4294967295 (t.all "bit") := by
  obtain ⟨_, _, _, _, _, _, hbit, _, _, _, _, _, hnone⟩ := h
  exact ⟨hbit, hnone⟩

/-- The table of the nearest layer that has one is `assignValues` of the members of the nearest type
statement that lists any (`chainEnums` / `chainBits` for `kw` = `enum` / `bit`). -/
theorem findSome?_table {reg : Registry} {sel : Layer → Option (List (String × Int))} {kw vkw : String} {lo hi : Int}
    (hty : ∀ {r s t l}, LayerOf reg (.ty r s t) l → TableOf (sel l) vkw lo hi (t.all kw))
    (htd : ∀ d, sel (typedefLayer d) = none) {chain : List Link} {ls : List Layer}
    (h : List.Forall₂ (LayerOf reg) chain ls) :
    ls.findSome? sel =
      (chain.findSome? fun | .ty _ _ t => (if (t.all kw).isEmpty then none else some (t.all kw)) | .td _ => none).bind
        (assignValues vkw lo hi) := by
  refine findSome?_forall₂ (R := LayerOf reg) ?_ ?_ h
  · intro x y hxy
    cases x with
    | td d => simp only [LayerOf] at hxy; subst hxy; exact htd d
    | ty r s t =>
      simp only [(hty hxy).1]
      split <;> rfl
  · intro x y c hxy hc
    cases x with
    | td d => cases hc
    | ty r s t =>
      simp only at hc
      split at hc
      · cases hc
      · rename_i hne
        cases hc
        obtain ⟨tab, htab⟩ := (hty hxy).some hne
        rw [htab]
        exact nofun

theorem chain_table_some {reg : Registry} {sel : Layer → Option (List (String × Int))} {kw vkw : String} {lo hi : Int}
    (hty : ∀ {r s t l}, LayerOf reg (.ty r s t) l → TableOf (sel l) vkw lo hi (t.all kw))
    {chain : List Link} {ls : List Layer} (h : List.Forall₂ (LayerOf reg) chain ls) :
    ∀ ms, (chain.findSome? fun | .ty _ _ t => (if (t.all kw).isEmpty then none else some (t.all kw)) | .td _ => none)
      = some ms → ∃ tab, assignValues vkw lo hi ms = some tab := by
  induction h with
  | nil => intro ms hms; cases hms
  | @cons link l chain' ls' hl _ ih =>
    intro ms hms
    cases link with
    | td d => exact ih ms hms
    | ty r s t =>
      rw [List.findSome?_cons] at hms
      by_cases hne : (t.all kw).isEmpty = true
      · simp only [hne, if_true] at hms
        exact ih ms hms
      · simp only [hne, Bool.false_eq_true, if_false, Option.some.injEq] at hms
        subst hms
        exact (hty hl).some hne

theorem layer_field {reg : Registry} {α : Type} {sel : Layer → α} {f : Link → α}
    (hty : ∀ {r s t l}, LayerOf reg (.ty r s t) l → sel l = f (.ty r s t)) (htd : ∀ d, sel (typedefLayer d) = f (.td d)) :
    ∀ x y, LayerOf reg x y → sel y = f x := by
  intro x y hxy
  cases x with
  | td d => simp only [LayerOf] at hxy; subst hxy; exact htd d
  | ty r s t => exact hty hxy

/-- `inherit` over the layers computes the relational chain functions ("nearest definition wins,
patterns accumulate"). -/
theorem inherit_eq {reg : Registry} {chain : List Link} {ls : List Layer} (h : List.Forall₂ (LayerOf reg) chain ls) (k : String) :
    (inherit k ls).kind = k ∧
    (inherit k ls).units = (chainUnits chain).getD "" ∧
    (inherit k ls).default = chainDefault chain ∧
    (inherit k ls).path = (chainPath chain).getD "" ∧
    (inherit k ls).patterns = chainPatterns chain ∧
    (inherit k ls).enum = (chainEnums chain).bind (assignValues "value" (-2147483648) 2147483647) ∧
    (inherit k ls).bit = (chainBits chain).bind (assignValues "position" 0 4294967295) ∧
    (inherit k ls).fd = ((chainFractionDigits chain).bind (fun f => f.arg.toNat?)).getD 0 := by
  have hu : ls.findSome? (·.units) = chainUnits chain :=
    findSome?_forall₂' (layer_field (fun hl => hl.1) (fun _ => rfl)) h
  have hd : ls.findSome? (·.default) = chainDefault chain :=
    findSome?_forall₂' (layer_field (fun hl => hl.2.1) (fun _ => rfl)) h
  have hp : ls.findSome? (·.path) = chainPath chain :=
    findSome?_forall₂' (layer_field (fun hl => hl.2.2.1) (fun _ => rfl)) h
  have hpt : ls.flatMap (·.patterns) = chainPatterns chain :=
    flatMap_forall₂ (layer_field (fun hl => hl.2.2.2.1) (fun _ => rfl)) h
  have he : ls.findSome? (·.enum) = (chainEnums chain).bind (assignValues "value" (-2147483648) 2147483647) :=
    findSome?_table layerOf_enum (fun _ => rfl) h
  have hbt : ls.findSome? (·.bit) = (chainBits chain).bind (assignValues "position" 0 4294967295) :=
    findSome?_table layerOf_bit (fun _ => rfl) h
  have hfd : ls.findSome? (·.fd) = (chainFractionDigits chain).bind (fun f => f.arg.toNat?) := by
    refine findSome?_forall₂ (R := LayerOf reg) ?_ ?_ h
    · intro x y hxy
      cases x with
      | td d => simp only [LayerOf] at hxy; subst hxy; rfl
      | ty r s t =>
        obtain ⟨_, _, _, _, hfd, _⟩ := hxy
        simp only [hfd, Stmt.argOf?]
        cases t.one? "fraction-digits" <;> rfl
    · intro x y c hxy hc
      cases x with
      | td d => cases hc
      | ty r s t =>
        simp only at hc
        obtain ⟨_, _, _, _, h1, _, _, _, _, h2, _⟩ := hxy
        have ha : t.argOf? "fraction-digits" = some c.arg := by simp only [Stmt.argOf?, hc, Option.map_some]
        intro h0
        rw [ha] at h1 h2
        simp only [Option.bind_some] at h1
        rw [h0] at h1
        have := h2.mp h1
        cases this
  refine ⟨rfl, ?_, ?_, ?_, ?_, ?_, ?_, ?_⟩
  · show (ls.findSome? (·.units)).getD "" = _; rw [hu]
  · exact hd
  · show (ls.findSome? (·.path)).getD "" = _; rw [hp]
  · exact hpt
  · exact he
  · exact hbt
  · show (ls.findSome? (·.fd)).getD 0 = _; rw [hfd]

/-- The union members `inherit` reports are the resolved member types of the nearest type statement
of the chain that has member types. -/
theorem inherit_members {reg : Registry} {chain : List Link} {ls : List Layer} (h : List.Forall₂ (LayerOf reg) chain ls) (k : String) :
    ((∀ r s t, Link.ty r s t ∈ chain → t.all "type" = []) ∧ (inherit k ls).members = []) ∨
    (∃ pre r s t post, chain = pre ++ Link.ty r s t :: post ∧ (∀ r' s' t', Link.ty r' s' t' ∈ pre → t'.all "type" = []) ∧
        t.all "type" ≠ [] ∧ ∃ fuel vis, List.Forall₂
          (fun ut st => finish (chainOf reg fuel r (t :: s) ut vis) = .ok st) (t.all "type") (inherit k ls).members) := by
  show (_ ∧ (ls.findSome? (·.members)).getD [] = []) ∨ (∃ pre r s t post, _ ∧ _ ∧ _ ∧ ∃ fuel vis, List.Forall₂ _ _ ((ls.findSome? (·.members)).getD []))
  induction h with
  | nil => exact .inl ⟨(by intro r s t hm; cases hm), rfl⟩
  | @cons x y xs ys hxy hrest ih =>
    have hskip : y.members = none → (∀ r s t, x = Link.ty r s t → t.all "type" = []) →
        ((∀ r s t, Link.ty r s t ∈ x :: xs → t.all "type" = []) ∧ ((y :: ys).findSome? (·.members)).getD [] = []) ∨
        (∃ pre r s t post, x :: xs = pre ++ Link.ty r s t :: post ∧ (∀ r' s' t', Link.ty r' s' t' ∈ pre → t'.all "type" = []) ∧
          t.all "type" ≠ [] ∧ ∃ fuel vis, List.Forall₂
            (fun ut st => finish (chainOf reg fuel r (t :: s) ut vis) = .ok st) (t.all "type")
            (((y :: ys).findSome? (·.members)).getD [])) := by
      intro hy hx
      rw [List.findSome?_cons, hy]
      rcases ih with ⟨h1, h2⟩ | ⟨pre, r, s, t, post, h1, h2, h3, h4⟩
      · refine .inl ⟨?_, h2⟩
        intro r s t hm
        rcases List.mem_cons.mp hm with heq | hm
        · exact hx r s t heq.symm
        · exact h1 r s t hm
      · refine .inr ⟨x :: pre, r, s, t, post, by rw [h1]; rfl, ?_, h3, h4⟩
        intro r' s' t' hm
        rcases List.mem_cons.mp hm with heq | hm
        · exact hx r' s' t' heq.symm
        · exact h2 r' s' t' hm
    cases x with
    | td d =>
      simp only [LayerOf] at hxy
      subst hxy
      exact hskip rfl (by intro r s t h0; cases h0)
    | ty r s t =>
      obtain ⟨_, _, _, _, _, _, _, hnone, hsome, _⟩ := hxy
      cases hm : y.members with
      | none =>
        refine hskip hm ?_
        intro r' s' t' h0
        cases h0
        exact hnone.mp hm
      | some ms =>
        refine .inr ⟨[], r, s, t, xs, rfl, (by intro _ _ _ h0; cases h0), ?_, ?_⟩
        · intro h0
          have := hnone.mpr h0
          rw [hm] at this
          cases this
        · rw [List.findSome?_cons, hm]
          exact hsome ms hm

/-- End to end: when the executable specification answers a type, the type statement has a
derivation chain in the relational specification, it is `Resolvable`, and every attribute of the
answer is the relational chain function of that chain. -/
theorem finish_chainOf_sound (reg : Registry) (hb : BindSound reg) (fuel : Nat) (root : Mod) (scope : List Stmt)
    (t : Stmt) (vis : List Key) (st : SType) (h : finish (chainOf reg fuel root scope t vis) = .ok st) :
    Resolvable reg root scope t ∧
    ∃ chain, DerivesFrom reg root scope t st.kind chain ∧
      st.units = (chainUnits chain).getD "" ∧
      st.default = chainDefault chain ∧
      st.path = (chainPath chain).getD "" ∧
      st.patterns = chainPatterns chain ∧
      st.enum = (chainEnums chain).bind (assignValues "value" (-2147483648) 2147483647) ∧
      st.bit = (chainBits chain).bind (assignValues "position" 0 4294967295) ∧
      st.fd = ((chainFractionDigits chain).bind (fun f => f.arg.toNat?)).getD 0 := by
  obtain ⟨k, ls, hc, rfl⟩ := finish_ok h
  obtain ⟨chain, hd, hf⟩ := chainOf_sound reg hb _ _ _ _ _ _ _ hc
  obtain ⟨_, h2, h3, h4, h5, h6, h7, h8⟩ := inherit_eq hf k
  exact ⟨chainOf_resolvable reg hb _ _ _ _ _ _ _ hc, chain, hd, h2, h3, h4, h5, h6, h7, h8⟩

end Goyang.Lemmas.TypesSpecChain
