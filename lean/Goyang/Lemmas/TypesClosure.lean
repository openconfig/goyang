import Goyang.Lemmas.TypesDefs
/-
The executable closure under include statements (`withSubmodules`, `unitOf` of
Goyang/Spec/Types.lean) lists exactly what the relations `IncludesStar` / `InUnit` relate
(property C09).

Soundness needs nothing.  Completeness: one round `L ↦ addNew L (L.flatMap (includesOf reg))`
extends `L` at the end, keeps the sequence numbers of the list pairwise different and keeps the
list inside `reg.mods`; so the list never gets longer than `reg.mods`, a round that adds nothing
leaves a list closed under `includesOf`, and a non-empty start list cannot grow
`reg.mods.length` times.
-/
namespace Goyang.Lemmas.TypesClosure
open Goyang.Model Goyang.Spec.Types Goyang.Lemmas.TypesDefs Goyang.Lemmas.TypesFuel
open Goyang.Lemmas.RegistryAux

/-! ## `addNew` -/

theorem any_seq_iff (acc : List Mod) (m : Mod) :
    acc.any (·.seq == m.seq) = true ↔ m.seq ∈ acc.map (·.seq) := by
  simp only [List.any_eq_true, List.mem_map, beq_iff_eq]

theorem addNew_cons (acc : List Mod) (m : Mod) (ms : List Mod) :
    addNew acc (m :: ms) = addNew (if acc.any (·.seq == m.seq) then acc else acc ++ [m]) ms := rfl

/-- `addNew` extends the list at the end, by some of the candidates. -/
theorem addNew_prefix : ∀ (ms acc : List Mod), ∃ t, addNew acc ms = acc ++ t ∧ ∀ x ∈ t, x ∈ ms
  | [], acc => ⟨[], by simp [addNew], by simp⟩
  | m :: ms, acc => by
    rw [addNew_cons]
    split
    · obtain ⟨t, h1, h2⟩ := addNew_prefix ms acc
      exact ⟨t, h1, fun x hx => List.mem_cons_of_mem _ (h2 x hx)⟩
    · obtain ⟨t, h1, h2⟩ := addNew_prefix ms (acc ++ [m])
      refine ⟨m :: t, by rw [h1]; simp, ?_⟩
      intro x hx
      cases hx with
      | head => exact List.mem_cons_self
      | tail _ hx => exact List.mem_cons_of_mem _ (h2 x hx)

theorem mem_addNew_of_mem {acc ms : List Mod} {x : Mod} (h : x ∈ acc) : x ∈ addNew acc ms := by
  obtain ⟨t, h1, _⟩ := addNew_prefix ms acc
  rw [h1]; exact List.mem_append_left _ h

theorem mem_addNew {acc ms : List Mod} {x : Mod} (h : x ∈ addNew acc ms) : x ∈ acc ∨ x ∈ ms := by
  obtain ⟨t, h1, h2⟩ := addNew_prefix ms acc
  rw [h1] at h
  rcases List.mem_append.mp h with h | h
  · exact Or.inl h
  · exact Or.inr (h2 x h)

theorem length_le_addNew (acc ms : List Mod) : acc.length ≤ (addNew acc ms).length := by
  obtain ⟨t, h1, _⟩ := addNew_prefix ms acc
  rw [h1, List.length_append]; omega

/-- A round that does not make the list longer does not change it. -/
theorem addNew_eq_of_length {acc ms : List Mod} (h : (addNew acc ms).length = acc.length) : addNew acc ms = acc := by
  obtain ⟨t, h1, _⟩ := addNew_prefix ms acc
  rw [h1, List.length_append] at h
  have : t = [] := List.eq_nil_of_length_eq_zero (by omega)
  rw [h1, this, List.append_nil]

/-- Sequence numbers stay pairwise different. -/
theorem addNew_nodup : ∀ (ms acc : List Mod), (acc.map (·.seq)).Nodup → ((addNew acc ms).map (·.seq)).Nodup
  | [], _, h => h
  | m :: ms, acc, h => by
    rw [addNew_cons]
    split
    · exact addNew_nodup ms acc h
    · rename_i hc
      apply addNew_nodup ms
      rw [any_seq_iff] at hc
      simp only [List.map_append, List.map_cons, List.map_nil]
      rw [List.nodup_append]
      refine ⟨h, by simp, ?_⟩
      intro a ha b hb
      rw [List.mem_singleton] at hb
      intro e
      exact hc (hb ▸ e ▸ ha)

/-- Every candidate is in the result, up to its sequence number. -/
theorem addNew_covers : ∀ (ms acc : List Mod) (m : Mod), m ∈ ms → m.seq ∈ (addNew acc ms).map (·.seq)
  | [], _, _, h => by cases h
  | m' :: ms, acc, m, h => by
    rw [addNew_cons]
    rcases List.mem_cons.mp h with rfl | h
    · have hin : m.seq ∈ (if acc.any (·.seq == m.seq) then acc else acc ++ [m]).map (·.seq) := by
        split
        · rename_i hc; exact (any_seq_iff acc m).mp hc
        · simp
      obtain ⟨x, hx, hxs⟩ := List.mem_map.mp hin
      exact List.mem_map.mpr ⟨x, mem_addNew_of_mem hx, hxs⟩
    · exact addNew_covers ms _ m h

/-! ## Soundness -/

theorem includesStar_tail {reg : Registry} {a b c : Mod} (h : IncludesStar reg a b) (hbc : Includes reg b c) :
    IncludesStar reg a c := by
  induction h with
  | refl a => exact IncludesStar.head hbc (IncludesStar.refl _)
  | head hab _ ih => exact IncludesStar.head hab (ih hbc)

theorem includeClosure_succ (reg : Registry) (n : Nat) (L : List Mod) :
    includeClosure reg (n + 1) L = includeClosure reg n (addNew L (L.flatMap (includesOf reg))) := rfl

/-- A property of modules that include statements preserve holds of the whole closure. -/
theorem includeClosure_sound (reg : Registry) (P : Mod → Prop) (hP : ∀ a b, P a → Includes reg a b → P b) :
    ∀ (n : Nat) (L : List Mod), (∀ x ∈ L, P x) → ∀ x ∈ includeClosure reg n L, P x
  | 0, _, h => h
  | n + 1, L, h => by
    rw [includeClosure_succ]
    apply includeClosure_sound reg P hP n
    intro x hx
    rcases mem_addNew hx with hx | hx
    · exact h x hx
    · obtain ⟨a, ha, hb⟩ := List.mem_flatMap.mp hx
      exact hP a x (h a ha) hb

/-- everything the executable closure lists is reachable through include statements -/
theorem withSubmodules_sound (reg : Registry) (ms : List Mod) (m : Mod) (h : m ∈ withSubmodules reg ms) :
    ∃ s ∈ ms, IncludesStar reg s m := by
  unfold withSubmodules at h
  refine includeClosure_sound reg (fun m => ∃ s ∈ ms, IncludesStar reg s m) ?_ _ _ ?_ m h
  · rintro a b ⟨s, hs, hsa⟩ hab
    exact ⟨s, hs, includesStar_tail hsa hab⟩
  · intro x hx
    rcases mem_addNew hx with hx | hx
    · cases hx
    · exact ⟨x, hx, IncludesStar.refl x⟩

/-! ## Completeness -/

/-- The list is closed under include statements. -/
def Closed (reg : Registry) (L : List Mod) : Prop := ∀ a ∈ L, ∀ b ∈ includesOf reg a, b ∈ L

theorem includesOf_mem {reg : Registry} {a b : Mod} (h : b ∈ includesOf reg a) : b ∈ reg.mods := by
  unfold includesOf at h
  obtain ⟨s, _, hs⟩ := List.mem_filterMap.mp h
  exact findModule_mem hs

theorem closed_star {reg : Registry} {L : List Mod} (hL : Closed reg L) {s m : Mod} (h : IncludesStar reg s m)
    (hs : s ∈ L) : m ∈ L := by
  induction h with
  | refl a => exact hs
  | head hab _ ih => exact ih (hL _ hs _ hab)

theorem mem_includeClosure_of_mem (reg : Registry) :
    ∀ (n : Nat) (L : List Mod) (x : Mod), x ∈ L → x ∈ includeClosure reg n L
  | 0, _, _, h => h
  | n + 1, L, x, h => by
    rw [includeClosure_succ]
    exact mem_includeClosure_of_mem reg n _ x (mem_addNew_of_mem h)

theorem includeClosure_fix (reg : Registry) (L : List Mod) (h : addNew L (L.flatMap (includesOf reg)) = L) :
    ∀ (n : Nat), includeClosure reg n L = L
  | 0 => rfl
  | n + 1 => by rw [includeClosure_succ, h]; exact includeClosure_fix reg L h n

/-- Pairwise different sequence numbers, all members loaded. -/
def Inv (reg : Registry) (L : List Mod) : Prop := (L.map (·.seq)).Nodup ∧ ∀ x ∈ L, x ∈ reg.mods

theorem Inv.length_le {reg : Registry} {L : List Mod} (h : Inv reg L) : L.length ≤ reg.mods.length := by
  have := nodup_subset_length (L.map (·.seq)) (reg.mods.map (·.seq)) h.1 (by
    intro x hx
    obtain ⟨a, ha, rfl⟩ := List.mem_map.mp hx
    exact List.mem_map_of_mem (h.2 a ha))
  simpa only [List.length_map] using this

theorem Inv.addNew {reg : Registry} {L ms : List Mod} (h : Inv reg L) (hms : ∀ x ∈ ms, x ∈ reg.mods) :
    Inv reg (addNew L ms) := by
  refine ⟨addNew_nodup ms L h.1, ?_⟩
  intro x hx
  rcases mem_addNew hx with hx | hx
  · exact h.2 x hx
  · exact hms x hx

/-- A loaded candidate is in the result. -/
theorem addNew_mem_of_seqId {reg : Registry} (hid : SeqId reg) {L ms : List Mod} (hL : ∀ x ∈ L, x ∈ reg.mods)
    (hms : ∀ x ∈ ms, x ∈ reg.mods) {m : Mod} (hm : m ∈ ms) : m ∈ addNew L ms := by
  obtain ⟨x, hx, hxs⟩ := List.mem_map.mp (addNew_covers ms L m hm)
  have hxr : x ∈ reg.mods := by
    rcases mem_addNew hx with h | h
    · exact hL x h
    · exact hms x h
  have : x = m := hid x hxr m (hms m hm) hxs
  exact this ▸ hx

theorem flatMap_includesOf_mem {reg : Registry} {L : List Mod} : ∀ x ∈ L.flatMap (includesOf reg), x ∈ reg.mods := by
  intro x hx
  obtain ⟨a, _, hb⟩ := List.mem_flatMap.mp hx
  exact includesOf_mem hb

theorem includeClosure_closed (reg : Registry) (hid : SeqId reg) :
    ∀ (n : Nat) (L : List Mod), Inv reg L → reg.mods.length + 1 ≤ n + L.length → Closed reg (includeClosure reg n L)
  | 0, L, hinv, hlen => by
    have := hinv.length_le
    omega
  | n + 1, L, hinv, hlen => by
    rw [includeClosure_succ]
    have hinv' : Inv reg (addNew L (L.flatMap (includesOf reg))) := hinv.addNew flatMap_includesOf_mem
    by_cases hl : (addNew L (L.flatMap (includesOf reg))).length = L.length
    · have heq := addNew_eq_of_length hl
      rw [heq, includeClosure_fix reg L heq n]
      intro a ha b hb
      have : b ∈ addNew L (L.flatMap (includesOf reg)) :=
        addNew_mem_of_seqId hid hinv.2 flatMap_includesOf_mem (List.mem_flatMap.mpr ⟨a, ha, hb⟩)
      rw [heq] at this
      exact this
    · have := length_le_addNew L (L.flatMap (includesOf reg))
      exact includeClosure_closed reg hid n _ hinv' (by omega)

/-- and it lists everything reachable (reg.mods.length rounds suffice: pigeonhole on sequence numbers) -/
theorem withSubmodules_complete (reg : Registry) (hid : SeqId reg) (ms : List Mod) (hms : ∀ s ∈ ms, s ∈ reg.mods)
    (s : Mod) (hs : s ∈ ms) (m : Mod) (h : IncludesStar reg s m) : m ∈ withSubmodules reg ms := by
  unfold withSubmodules
  have hinv : Inv reg (addNew [] ms) := Inv.addNew ⟨List.nodup_nil, fun x hx => by cases hx⟩ hms
  have hs0 : s ∈ addNew [] ms := addNew_mem_of_seqId hid (fun x hx => by cases hx) hms hs
  have hpos : 0 < (addNew [] ms).length := List.length_pos_of_mem hs0
  have hcl := includeClosure_closed reg hid reg.mods.length (addNew [] ms) hinv (by omega)
  exact closed_star hcl h (mem_includeClosure_of_mem reg _ _ s hs0)

/-! ## The unit of a reference -/

theorem mem_unitOf_iff (reg : Registry) (hid : SeqId reg) (root : Mod) (hroot : root ∈ reg.mods) (m : Mod) :
    m ∈ unitOf reg root ↔ InUnit reg root m := by
  unfold unitOf InUnit
  constructor
  · intro h
    obtain ⟨s, hs, hsm⟩ := withSubmodules_sound reg _ m h
    cases hs with
    | head => exact Or.inl hsm
    | tail _ hs =>
      split at hs
      · rename_i b hb
        have hs : s ∈ (reg.getModule b).toList := hs
        rw [Option.mem_toList] at hs
        exact Or.inr ⟨b, s, hb, hs, hsm⟩
      · cases hs
  · intro h
    have hmods : ∀ s ∈ root :: (match root.belongsTo? with
        | some b => (reg.getModule b).toList
        | none => []), s ∈ reg.mods := by
      intro s hs
      cases hs with
      | head => exact hroot
      | tail _ hs =>
        split at hs
        · rename_i b _
          have hs : s ∈ (reg.getModule b).toList := hs
          rw [Option.mem_toList] at hs
          exact getModule_mem hs
        · cases hs
    rcases h with h | ⟨b, o, hb, ho, hom⟩
    · exact withSubmodules_complete reg hid _ hmods root List.mem_cons_self m h
    · refine withSubmodules_complete reg hid _ hmods o ?_ m hom
      rw [hb]
      exact List.mem_cons_of_mem _ (Option.mem_toList.mpr ho)

end Goyang.Lemmas.TypesClosure
