import Goyang.Lemmas.Bridge
import Goyang.Lemmas.Deviate
/-
Bridge lemmas, part 6 (C08): the errors `toEntry` records while it converts the deviation
statements of a (sub)module — an unknown deviate argument, a replacement type that does not
resolve — end up in the own error list of that (sub)module's entry in the cache, hence in the
forest the first error sweep of `processAll` inspects.  An instance of the traversal of
Lemmas/BridgeTraverse.lean with a per-call postcondition:

  deviate entry   — has an error when its `type` does not resolve (the `"type"` step records
                    `deviate-bad-type`; the later field steps only add errors);
  deviation entry — has an error when one of its deviate statements has an unknown argument (the
                    `"deviate"` step records it) or a deviate entry with an error (imported);
  module entry    — has an error when one of its deviation entries has one (the `"deviation"` step
                    imports it; the later field steps only add errors); a cache hit returns an
                    entry that was built the same way (cache-row invariant).
-/
set_option linter.unusedVariables false
set_option linter.unusedSimpArgs false
namespace Goyang.Lemmas.Bridge
open Goyang.Model Goyang.Spec.Tree Goyang.Lemmas.Tree

/-! ### what makes the conversion record an error -/

/-- The replacement type of a deviate statement does not resolve. -/
def BadDs (env : Env) (root : Mod) (scope : List Stmt) (ds : Stmt) : Prop :=
  ∃ ty, ds.one? "type" = some ty ∧ (env.tres.resolve env.reg root (ds :: scope) ty).2 ≠ []

/-- A deviation statement with a deviate statement of unknown kind or with a bad replacement type. -/
def BadDv (env : Env) (root : Mod) (scope : List Stmt) (dv : Stmt) : Prop :=
  ∃ ds ∈ dv.all "deviate", deviateKinds.contains ds.arg = false ∨ BadDs env root (dv :: scope) ds

/-- A (sub)module statement with such a deviation. -/
def BadMod (env : Env) (root : Mod) (scope : List Stmt) (n : Stmt) : Prop :=
  ∃ dv ∈ n.all "deviation", BadDv env root (n :: scope) dv

def devFrame (env : Env) : Frame where
  PE _ := True
  PC p := ∀ m ∈ env.reg.mods, m.seq = p.1 → BadMod env m [] m.stmt → p.2.d.errors ≠ []
  PX root scope n e := isModKw n = true → BadMod env root scope n → e.d.errors ≠ []

/-! ### one field step records the error, the others keep it -/

/-- If one of the fields makes the step record an error on the node, the node has one at the end. -/
theorem steps_errs (env : Env) (rec : Rec) (root : Mod) (n : Stmt) (sub : List Stmt) (visiting : List NodeId) (isMod : Bool)
    (g : String) (hg : ∀ acc, (stepFn env rec root n sub visiting isMod acc g).1.d.errors ≠ []) :
    ∀ (l : List String) (acc : Entry × TState), (acc.1.d.errors ≠ [] ∨ g ∈ l) →
      (l.foldl (stepFn env rec root n sub visiting isMod) acc).1.d.errors ≠ [] := by
  intro l
  induction l with
  | nil => intro acc h; rcases h with h | h; exact h; cases h
  | cons f l ih =>
    intro acc h
    simp only [List.foldl_cons]
    apply ih
    rcases h with h | h
    · exact Or.inl ((evolve_stepFn true env rec root n sub visiting isMod acc f (fun h => by cases h)).ownMono h)
    · rcases List.mem_cons.mp h with rfl | h
      · exact Or.inl (hg acc)
      · exact Or.inr h

/-- The `"type"` step of a deviate statement whose type does not resolve. -/
theorem step_type_errs (env : Env) (rec : Rec) (root : Mod) (n : Stmt) (sub : List Stmt) (visiting : List NodeId) (isMod : Bool)
    (ty : Stmt) (h1 : n.one? "type" = some ty) (h2 : (env.tres.resolve env.reg root sub ty).2 ≠ [])
    (acc : Entry × TState) : (stepFn env rec root n sub visiting isMod acc "type").1.d.errors ≠ [] := by
  obtain ⟨e, st⟩ := acc
  have : (env.tres.resolve env.reg root sub ty).2.isEmpty = false := by
    cases h : (env.tres.resolve env.reg root sub ty).2
    · exact absurd h h2
    · rfl
  rw [stepFn_type, h1]
  dsimp only
  rw [if_neg (by rw [this]; exact Bool.false_ne_true)]
  exact Deviate.errors_addErr _ _

/-- The directory case of `toEntry` for a statement that is neither cached nor a leaf nor a `uses`:
the entry is the fold of the field steps. -/
theorem toEntryBody_dir_fst (env : Env) (fuel : Nat) (rec : Rec) (root : Mod) (scope : List Stmt) (n : Stmt)
    (visiting : List NodeId) (st : TState) (h1 : n.kw ≠ "uses") (h2 : n.kw ≠ "grouping") (h3 : n.kw ≠ "module")
    (h4 : n.kw ≠ "submodule") (h5 : n.kw ≠ "leaf") (h6 : n.kw ≠ "leaf-list") :
    (toEntryBody env fuel rec root scope n visiting st).1 =
      ((fieldOrder n.kw).foldl (stepFn env rec root n (n :: scope) visiting false) (e0 root n, st)).1 := by
  have hm : (n.kw == "module" || n.kw == "submodule") = false := by simp [h3, h4]
  have hg : (n.kw == "grouping") = false := by simp [h2]
  have hu : (n.kw == "uses") = false := by simp [h1]
  have hl : (n.kw == "leaf") = false := by simp [h5]
  have hll : (n.kw == "leaf-list") = false := by simp [h6]
  unfold toEntryBody
  simp only [hm, hg, hu, hl, hll, Bool.false_eq_true, if_false, Bool.or_self, Bool.false_and, dirBody]

/-- **A deviate statement whose replacement type does not resolve**: its entry carries an error,
for every fuel, scope and conversion state. -/
theorem toEntry_deviate_errs (env : Env) (fuel : Nat) (root : Mod) (scope : List Stmt) (ds : Stmt) (visiting : List NodeId)
    (st : TState) (hkw : ds.kw = "deviate") (h : BadDs env root scope ds) :
    (toEntry env fuel root scope ds visiting st).1.d.errors ≠ [] := by
  cases fuel with
  | zero => exact errorEntry_errors _ _ _
  | succ fuel =>
    obtain ⟨ty, h1, h2⟩ := h
    rw [toEntry_succ, toEntryBody_dir_fst env fuel _ root scope ds visiting st (by rw [hkw]; decide) (by rw [hkw]; decide)
      (by rw [hkw]; decide) (by rw [hkw]; decide) (by rw [hkw]; decide) (by rw [hkw]; decide)]
    refine steps_errs env _ root ds (ds :: scope) visiting false "type"
      (step_type_errs env _ root ds (ds :: scope) visiting false ty h1 h2) _ _ (Or.inr ?_)
    rw [hkw]; decide

/-- **A deviation statement with a deviate statement of unknown kind or with a bad replacement
type**: its entry carries an error. -/
theorem toEntry_deviation_errs' (env : Env) (fuel : Nat) (root : Mod) (scope : List Stmt) (dv : Stmt) (visiting : List NodeId)
    (st : TState) (hkw : dv.kw = "deviation") (h : BadDv env root scope dv) :
    (toEntry env fuel root scope dv visiting st).1.d.errors ≠ [] := by
  obtain ⟨ds, hds, hbad⟩ := h
  refine Deviate.toEntry_deviation_errs env fuel root scope dv visiting st hkw ⟨ds, hds, ?_⟩
  rcases hbad with hb | hb
  · exact Or.inl hb
  · exact Or.inr (fun st' => toEntry_deviate_errs env _ root (dv :: scope) ds visiting st' (mem_all_kw dv "deviate" ds hds) hb)

/-- The `"deviation"` step of a (sub)module with a bad deviation. -/
theorem step_deviation_errs (env : Env) (fuel : Nat) (root : Mod) (n : Stmt) (scope : List Stmt) (visiting : List NodeId)
    (isMod : Bool) (h : BadMod env root scope n) (acc : Entry × TState) :
    (stepFn env (toEntry env fuel) root n (n :: scope) visiting isMod acc "deviation").1.d.errors ≠ [] := by
  obtain ⟨dv, hdv, hb⟩ := h
  rw [stepFn_deviation]
  refine Deviate.foldl_errs_ne_nil _ (fun x => x ∈ n.all "deviation" ∧ BadDv env root (n :: scope) x) ?_ ?_ _ _
    (Or.inr ⟨dv, hdv, hdv, hb⟩)
  · intro acc' x hacc
    exact Deviate.errors_importErrors _ _ (Or.inl hacc)
  · intro acc' x hx
    exact Deviate.errors_importErrors _ _
      (Or.inr (toEntry_deviation_errs' env fuel root (n :: scope) x visiting acc'.2 (mem_all_kw n "deviation" x hx.1) hx.2))

theorem fieldOrder_mod_deviation (n : Stmt) (h : isModKw n = true) : "deviation" ∈ fieldOrder n.kw := by
  simp only [isModKw, Bool.or_eq_true, beq_iff_eq] at h
  rcases h with h | h <;> rw [h] <;> decide

theorem closedT_devFrame (env : Env) (hseq : (env.reg.mods.map (·.seq)).Nodup) : ClosedT env (devFrame env) where
  withD _ _ _ _ _ _ := trivial
  addErrs _ _ _ := trivial
  addErr _ _ _ := trivial
  importErrors _ _ _ := trivial
  add _ _ _ _ _ _ _ _ _ _ _ _ _ _ _ := trivial
  rpcFlag _ _ _ _ _ _ _ _ _ _ _ := trivial
  merge _ _ _ _ _ := trivial
  setInp _ _ _ _ _ _ := trivial
  setOut _ _ _ _ _ _ := trivial
  typeSet _ _ _ _ := trivial
  laSet _ _ _ _ _ _ _ := trivial
  base0 _ _ _ _ := trivial
  errE _ _ _ _ _ := trivial
  leafE _ _ _ _ _ := trivial
  leafL _ _ _ _ _ _ _ := trivial
  row _ _ _ _ _ _ _ _ _ _ := trivial
  pc root scope n e inv hm _ hpx := by
    intro m hmem hms hbad
    have : m = root := ListAux.eq_of_nodup_map (·.seq) env.reg.mods hseq m hmem root inv.root_mem hms
    subst this
    apply hpx hm
    rw [inv.top hm, inv.topScope hm]; exact hbad
  pxCache root scope n p inv hm hpc hk := by
    intro _ hbad
    apply hpc root inv.root_mem hk.symm
    rw [← inv.top hm, ← inv.topScope hm]; exact hbad
  pxTriv root scope n e hk := by
    intro hm
    simp only [isModKw, Bool.or_eq_true, beq_iff_eq] at hm
    rcases hk with hk | hk | hk | hk <;> rcases hm with hm | hm <;> rw [hk] at hm <;> exact absurd hm (by decide)
  pxErr root scope n cls _ := fun _ _ => errorEntry_errors _ _ _
  pxDir fuel root scope n visiting st S isMod _ _ _ _ := by
    intro hm hbad
    exact steps_errs env _ root n (n :: scope) visiting isMod "deviation"
      (step_deviation_errs env fuel root n scope visiting isMod hbad) _ _ (Or.inr (fieldOrder_mod_deviation n hm))

/-- Every cache row of a (sub)module with a bad deviation carries an error on its root. -/
theorem tstate_dev_rows (reg : Registry) (opts : Opts) (plug : Plug) (hL : Fuel.LoadedShape reg) :
    ∀ p ∈ (tstate reg opts plug).cache, ∀ m ∈ reg.mods, m.seq = p.1 → BadMod (envOf reg opts plug) m [] m.stmt →
      p.2.d.errors ≠ [] :=
  (tstate_okT reg opts plug (closedT_devFrame (envOf reg opts plug) hL.seqs)).crows

/-- **A (sub)module with a deviate statement of unknown kind, or with a replacement type that does
not resolve, makes `processAll` return errors** — the conversion records the error on the deviation
entry, imports it into the module entry, the module entry is in the cache, and the cache is the
forest the first error sweep inspects. -/
theorem processAll_conversion_errors (reg : Registry) (opts : Opts) (plug : Plug) (hL : Fuel.LoadedShape reg)
    (hmods : ModsAreModules reg) (m : Mod) (hm : m ∈ reg.distinctModules ++ reg.distinctSubs)
    (hbad : BadMod (envOf reg opts plug) m [] m.stmt) : (processAll reg opts plug).errors ≠ [] := by
  obtain ⟨m', hm', hs⟩ := allMods_keyOrder reg m hm
  have hmem : m ∈ reg.mods := by
    simp only [Registry.distinctModules, Registry.distinctSubs, List.mem_append, List.mem_filter] at hm
    rcases hm with h | h <;> exact h.1
  have hkey := tstate_cache_all reg opts plug hmods m' hm'
  simp only [ckeys, List.mem_map] at hkey
  obtain ⟨p, hp, hpk⟩ := hkey
  have herr := tstate_dev_rows reg opts plug hL p hp m hmem (by rw [hpk, hs]) hbad
  have hf0 : forestErrs (forest0 reg opts plug) ≠ [] := by
    intro h0
    have := (forestErrs_eq_nil _).1 h0 p hp
    exact herr (noErrors_own _ this)
  rw [processAll_eq]
  split
  · rename_i h1
    exact fun h => (by simpa using h1 : stage1Errs reg plug ≠ []) (canonErrs_eq_nil _ h)
  · split
    · exact fun h => hf0 (canonErrs_eq_nil _ h)
    · rename_i h2
      exact absurd (by simpa using h2) hf0

end Goyang.Lemmas.Bridge
