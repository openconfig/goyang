import Goyang.Model.Process
/-
`insertBy` / `sortBy` (Model/Process.lean) keep the elements and commute with a map that carries
the order over; `fixChoiceL` is a map.  Core Lean only.
-/
namespace Goyang.Lemmas.SortAux
open Goyang.Model

theorem mem_insertBy {α} (lt : α → α → Bool) (x y : α) (l : List α) : y ∈ insertBy lt x l ↔ y = x ∨ y ∈ l := by
  induction l with
  | nil => simp [insertBy]
  | cons z zs ih =>
    simp only [insertBy]; split
    · simp
    · simp only [List.mem_cons, ih]
      constructor
      · rintro (h | h | h) <;> simp [h]
      · rintro (h | h | h) <;> simp [h]

theorem mem_sortBy {α} (lt : α → α → Bool) (y : α) (l : List α) : y ∈ sortBy lt l ↔ y ∈ l := by
  induction l with
  | nil => simp [sortBy]
  | cons z zs ih =>
    have : sortBy lt (z :: zs) = insertBy lt z (sortBy lt zs) := rfl
    rw [this, mem_insertBy, ih]; simp

theorem insertBy_map {α β} (f : α → β) (lt : β → β → Bool) (lt' : α → α → Bool) (x : α) (l : List α)
    (h : ∀ y ∈ l, lt (f x) (f y) = lt' x y) : insertBy lt (f x) (l.map f) = (insertBy lt' x l).map f := by
  induction l with
  | nil => rfl
  | cons y ys ih =>
    simp only [List.map_cons, insertBy]
    rw [h y (List.mem_cons_self ..)]
    split
    · rfl
    · rw [List.map_cons, ih fun z hz => h z (List.mem_cons_of_mem _ hz)]

theorem sortBy_map {α β} (f : α → β) (lt : β → β → Bool) (lt' : α → α → Bool) (l : List α)
    (h : ∀ x ∈ l, ∀ y ∈ l, lt (f x) (f y) = lt' x y) : sortBy lt (l.map f) = (sortBy lt' l).map f := by
  induction l with
  | nil => rfl
  | cons z zs ih =>
    have e1 : sortBy lt ((z :: zs).map f) = insertBy lt (f z) (sortBy lt (zs.map f)) := rfl
    have e2 : sortBy lt' (z :: zs) = insertBy lt' z (sortBy lt' zs) := rfl
    rw [e1, e2, ih fun x hx y hy => h x (List.mem_cons_of_mem _ hx) y (List.mem_cons_of_mem _ hy)]
    apply insertBy_map
    intro y hy
    exact h z (List.mem_cons_self ..) y (List.mem_cons_of_mem _ ((mem_sortBy _ _ _).mp hy))

theorem insertBy_ne_nil {α} (lt : α → α → Bool) (x : α) (l : List α) : insertBy lt x l ≠ [] := by
  cases l with
  | nil => simp [insertBy]
  | cons y ys => unfold insertBy; split <;> simp

theorem canonErrs_ne_nil {es : List Err} (h : es ≠ []) : canonErrs es ≠ [] := by
  cases es with
  | nil => exact absurd rfl h
  | cons a t =>
    unfold canonErrs
    simp only [sortBy, List.foldr_cons]
    generalize hs : insertBy _ a (List.foldr _ [] t) = s
    cases s with
    | nil => exact absurd hs (insertBy_ne_nil _ _ _)
    | cons b u => simp [List.eraseDups_cons]

theorem fixChoiceL_eq_map (l : List Entry) : fixChoiceL l = l.map fixChoice := by
  induction l with
  | nil => rfl
  | cons a l ih => simp [fixChoiceL, ih]

end Goyang.Lemmas.SortAux
