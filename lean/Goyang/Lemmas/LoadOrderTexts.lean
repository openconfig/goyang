import Goyang.Lemmas.LoadOrderKept
/-
Load-order independence (C05), part 11: lists of TEXTS in which texts that are acceptable on their
own share headers.  `Modules.Parse` is atomic per text: a text one of whose statements is refused
is refused as a whole and leaves the registry as it was — its other headers stay free.  Which texts
are accepted therefore depends on the order, and not through the first load of every header of the
flattened statement list (`kept`): a header's first carrier may sit in a refused text.

`acceptedFrom r` is the fold `loadFiles` performs (a text is accepted when `Registry.addText`
succeeds on the registry built so far); `acceptedAfter` is the same list read off the headers
alone (`acceptedFrom_eq`): a text is accepted when it is acceptable on its own (`okAlone`) and none
of its headers is held by a text accepted before.  The registry after a list of texts is the
registry after the accepted texts (`foldl_loadFile_accepted`), whose statements have `@`-free
names and pairwise different headers (`acceptedAfter_spec`), so that it is `Registry.loadAll` of
their statements (`loadFiles_accepted`) and everything proved for module sets applies: two lists
of texts with the same accepted texts (as a multiset) give registries related by a renaming of the
sequence numbers (`regRel_of_accepted_perm`).  Core Lean only.
-/
namespace Goyang.Lemmas.LoadOrder
open Goyang.Model Goyang.Spec.Registry
open Goyang.Lemmas.Registry (hdr NoAt Inv good noAt_of_good good_of_noAt inv_empty)

/-- The texts `Modules.Parse` accepts when the texts are parsed one after the other into `r`: the
fold of `loadFiles`, keeping the texts instead of the registry. -/
def acceptedFrom (r : Registry) : List SrcFile → List SrcFile
  | [] => []
  | f :: rest =>
    match r.addText f.stmts with
    | .ok r' => f :: acceptedFrom r' rest
    | .error _ => acceptedFrom r rest

/-- The texts a fresh `Modules` accepts, in load order. -/
def acceptedIn (files : List SrcFile) : List SrcFile := acceptedFrom {} files

/-- **Refused texts leave no trace**: the registry after the texts is the registry after the
accepted texts. -/
theorem foldl_loadFile_accepted : ∀ (fs : List SrcFile) (r : Registry),
    fs.foldl loadFile r = (acceptedFrom r fs).foldl loadFile r
  | [], _ => rfl
  | f :: rest, r => by
    rw [List.foldl_cons, loadFile_eq_addText]
    cases hadd : r.addText f.stmts with
    | ok r' =>
      simp only [acceptedFrom, hadd, List.foldl_cons, loadFile_eq_addText]
      exact foldl_loadFile_accepted rest r'
    | error e =>
      simp only [acceptedFrom, hadd]
      exact foldl_loadFile_accepted rest r

theorem loadFiles_acceptedIn (files : List SrcFile) : loadFiles files = loadFiles (acceptedIn files) :=
  foldl_loadFile_accepted files {}

/-! ### the accepted texts, read off the headers -/

/-- None of the text's headers is among `before`. -/
def freshFor (before : List Header) (f : SrcFile) : Bool := f.stmts.all fun s => !before.contains (hdr s)

/-- The accepted texts as a function of the headers alone; `before` = the headers of the texts
accepted so far. -/
def acceptedAfter (before : List Header) : List SrcFile → List SrcFile
  | [] => []
  | f :: rest =>
    if okAlone f && freshFor before f then f :: acceptedAfter (before ++ f.stmts.map hdr) rest
    else acceptedAfter before rest

theorem okAlone_iff (f : SrcFile) : okAlone f = true ↔ (∀ s ∈ f.stmts, NoAt s.arg) ∧ (f.stmts.map hdr).Nodup := by
  unfold okAlone
  rw [Bool.and_eq_true, List.all_eq_true, decide_eq_true_iff]
  constructor
  · rintro ⟨h1, h2⟩; exact ⟨fun s hs => noAt_of_good (h1 s hs), h2⟩
  · rintro ⟨h1, h2⟩; exact ⟨fun s hs => good_of_noAt (h1 s hs), h2⟩

theorem freshFor_iff (before : List Header) (f : SrcFile) :
    freshFor before f = true ↔ ∀ s ∈ f.stmts, hdr s ∉ before := by
  unfold freshFor
  rw [List.all_eq_true]
  constructor
  · intro h s hs; simpa using h s hs
  · intro h s hs; simpa using h s hs

/-- The fold over the registry and the reading off the headers agree. -/
theorem acceptedFrom_eq : ∀ (fs : List SrcFile) {r : Registry} {L : List Stmt}, Inv r L → (∀ t ∈ L, NoAt t.arg) →
    acceptedFrom r fs = acceptedAfter (L.map hdr) fs
  | [], _, _, _, _ => rfl
  | f :: rest, r, L, inv, hL => by
    have spec := Registry.addText_spec inv hL f.stmts
    cases hadd : r.addText f.stmts with
    | ok r' =>
      rw [hadd] at spec
      obtain ⟨⟨h1, h2, h3⟩, inv'⟩ := spec
      have hc : (okAlone f && freshFor (L.map hdr) f) = true := by
        rw [Bool.and_eq_true]
        exact ⟨(okAlone_iff f).mpr ⟨h1, h2⟩, (freshFor_iff _ f).mpr h3⟩
      have hL' : ∀ t ∈ L ++ f.stmts, NoAt t.arg := fun t ht => (List.mem_append.mp ht).elim (hL t) (h1 t)
      have ih := acceptedFrom_eq rest inv' hL'
      rw [List.map_append] at ih
      simp only [acceptedFrom, hadd, acceptedAfter, hc, if_true, ih]
    | error e =>
      rw [hadd] at spec
      have hc : (okAlone f && freshFor (L.map hdr) f) = false := by
        rw [Bool.eq_false_iff]
        intro h
        rw [Bool.and_eq_true] at h
        exact spec ⟨((okAlone_iff f).mp h.1).1, ((okAlone_iff f).mp h.1).2, (freshFor_iff _ f).mp h.2⟩
      have ih := acceptedFrom_eq rest inv hL
      simp only [acceptedFrom, hadd, acceptedAfter, hc, Bool.false_eq_true, if_false, ih]

theorem acceptedIn_eq (files : List SrcFile) : acceptedIn files = acceptedAfter [] files :=
  acceptedFrom_eq files inv_empty (by simp)

theorem acceptedAfter_filter : ∀ (fs : List SrcFile) (before : List Header),
    acceptedAfter before (fs.filter okAlone) = acceptedAfter before fs
  | [], _ => rfl
  | f :: rest, before => by
    cases ho : okAlone f with
    | false =>
      rw [List.filter_cons_of_neg (by rw [ho]; exact Bool.false_ne_true)]
      simp only [acceptedAfter, ho, Bool.false_and, Bool.false_eq_true, if_false]
      exact acceptedAfter_filter rest before
    | true =>
      rw [List.filter_cons_of_pos ho]
      simp only [acceptedAfter, ho, Bool.true_and]
      split
      · rw [acceptedAfter_filter rest _]
      · exact acceptedAfter_filter rest before

/-- **Texts that are refused on their own leave no trace, wherever they stand.** -/
theorem loadFiles_filter_okAlone (files : List SrcFile) : loadFiles files = loadFiles (files.filter okAlone) := by
  rw [loadFiles_acceptedIn files, loadFiles_acceptedIn (files.filter okAlone), acceptedIn_eq, acceptedIn_eq,
    acceptedAfter_filter]

/-- The statements of the accepted texts have `@`-free names and pairwise different headers, none
of them among `before`. -/
theorem acceptedAfter_spec : ∀ (fs : List SrcFile) (before : List Header), before.Nodup →
    (before ++ ((acceptedAfter before fs).flatMap (·.stmts)).map hdr).Nodup ∧
    ∀ t ∈ (acceptedAfter before fs).flatMap (·.stmts), NoAt t.arg
  | [], before, hb => by simpa [acceptedAfter] using hb
  | f :: rest, before, hb => by
    by_cases hc : (okAlone f && freshFor before f) = true
    · have hc' := hc
      rw [Bool.and_eq_true] at hc'
      obtain ⟨ha, hnd⟩ := (okAlone_iff f).mp hc'.1
      have hfr := (freshFor_iff before f).mp hc'.2
      have hb' : (before ++ f.stmts.map hdr).Nodup := by
        rw [List.nodup_append]
        refine ⟨hb, hnd, ?_⟩
        intro x hx y hy e
        obtain ⟨s, hs, rfl⟩ := List.mem_map.mp hy
        exact hfr s hs (e ▸ hx)
      obtain ⟨ih1, ih2⟩ := acceptedAfter_spec rest _ hb'
      simp only [acceptedAfter, hc, if_true, List.flatMap_cons, List.map_append]
      refine ⟨by rw [← List.append_assoc]; exact ih1, ?_⟩
      intro t ht
      rcases List.mem_append.mp ht with ht | ht
      · exact ha t ht
      · exact ih2 t ht
    · simp only [acceptedAfter, hc]
      exact acceptedAfter_spec rest before hb

theorem acceptedIn_nodup (files : List SrcFile) : (((acceptedIn files).flatMap (·.stmts)).map hdr).Nodup := by
  rw [acceptedIn_eq]
  simpa using (acceptedAfter_spec files [] List.nodup_nil).1

theorem acceptedIn_noAt (files : List SrcFile) : ∀ t ∈ (acceptedIn files).flatMap (·.stmts), NoAt t.arg := by
  rw [acceptedIn_eq]
  exact (acceptedAfter_spec files [] List.nodup_nil).2

/-- **The registry after any list of texts is `Registry.loadAll` of the statements of the accepted
texts** — a module set (`acceptedIn_noAt`, `acceptedIn_nodup`). -/
theorem loadFiles_accepted (files : List SrcFile) :
    loadFiles files = (Registry.loadAll ((acceptedIn files).flatMap (·.stmts))).1 := by
  rw [loadFiles_acceptedIn files]
  exact loadFiles_eq_loadAll _ (acceptedIn_noAt files) (acceptedIn_nodup files)

/-- **The accepted texts decide the registry**: two lists of texts — not even permutations of each
other — with the same accepted texts (as a multiset) give registries that hold the same modules
under renamed sequence numbers. -/
theorem regRel_of_accepted_perm {files₁ files₂ : List SrcFile} (h : (acceptedIn files₁).Perm (acceptedIn files₂)) :
    ∃ σ, RegRel σ (loadFiles files₁) (loadFiles files₂) := by
  rw [loadFiles_accepted files₁, loadFiles_accepted files₂]
  exact regRel_of_perm (List.Perm.flatMap_right _ h) (acceptedIn_noAt files₁) (acceptedIn_nodup files₁)

/-! ### structure of the accepted list -/

theorem acceptedAfter_sublist_filter : ∀ (fs : List SrcFile) (before : List Header),
    (acceptedAfter before fs).Sublist (fs.filter okAlone)
  | [], _ => List.Sublist.refl _
  | f :: rest, before => by
    by_cases hc : (okAlone f && freshFor before f) = true
    · simp only [acceptedAfter, hc, if_true]
      rw [List.filter_cons_of_pos (Bool.and_eq_true _ _ ▸ hc).1]
      exact (acceptedAfter_sublist_filter rest _).cons_cons f
    · simp only [acceptedAfter, hc]
      exact (acceptedAfter_sublist_filter rest before).trans ((List.sublist_cons_self f rest).filter _)

theorem acceptedAfter_sublist (fs : List SrcFile) (before : List Header) : (acceptedAfter before fs).Sublist fs :=
  (acceptedAfter_sublist_filter fs before).trans List.filter_sublist

theorem acceptedIn_sublist (files : List SrcFile) : (acceptedIn files).Sublist files := by
  rw [acceptedIn_eq]; exact acceptedAfter_sublist files []

/-- Every accepted text is acceptable on its own. -/
theorem acceptedAfter_okAlone : ∀ (fs : List SrcFile) (before : List Header), ∀ f ∈ acceptedAfter before fs, okAlone f = true :=
  fun fs before _ hf => (List.mem_filter.mp ((acceptedAfter_sublist_filter fs before).subset hf)).2

/-- Accepting is idempotent: of the accepted texts every one is accepted. -/
theorem acceptedAfter_idem : ∀ (fs : List SrcFile) (before : List Header),
    acceptedAfter before (acceptedAfter before fs) = acceptedAfter before fs
  | [], _ => rfl
  | f :: rest, before => by
    by_cases hc : (okAlone f && freshFor before f) = true
    · simp only [acceptedAfter, hc, if_true]
      rw [acceptedAfter_idem rest _]
    · simp only [acceptedAfter, hc]
      exact acceptedAfter_idem rest before

theorem acceptedIn_idem (files : List SrcFile) : acceptedIn (acceptedIn files) = acceptedIn files := by
  rw [acceptedIn_eq (acceptedIn files), acceptedIn_eq files]; exact acceptedAfter_idem files []

/-- **When the texts acceptable on their own define pairwise different headers, every one of them
is accepted, in every order**: the accepted texts are the texts acceptable alone. -/
theorem acceptedAfter_eq_filter : ∀ (fs : List SrcFile) (before : List Header),
    (before ++ ((fs.filter okAlone).flatMap (·.stmts)).map hdr).Nodup →
    acceptedAfter before fs = fs.filter okAlone
  | [], _, _ => rfl
  | f :: rest, before, hnd => by
    cases ho : okAlone f with
    | false =>
      rw [List.filter_cons_of_neg (by rw [ho]; exact Bool.false_ne_true)] at hnd ⊢
      simp only [acceptedAfter, ho, Bool.false_and, Bool.false_eq_true, if_false]
      exact acceptedAfter_eq_filter rest before hnd
    | true =>
      rw [List.filter_cons_of_pos ho] at hnd ⊢
      rw [List.flatMap_cons, List.map_append, ← List.append_assoc] at hnd
      have hfr : freshFor before f = true := by
        rw [freshFor_iff]
        intro s hs hm
        have h1 := (List.nodup_append.mp (List.nodup_append.mp hnd).1).2.2
        exact h1 _ hm _ (List.mem_map_of_mem hs) rfl
      simp only [acceptedAfter, ho, hfr, Bool.and_self, if_true]
      rw [acceptedAfter_eq_filter rest _ hnd]

theorem acceptedIn_eq_filter {files : List SrcFile}
    (hnd : (((files.filter okAlone).flatMap (·.stmts)).map hdr).Nodup) : acceptedIn files = files.filter okAlone := by
  rw [acceptedIn_eq]
  exact acceptedAfter_eq_filter files [] (by simpa using hnd)

/-- A list of texts none of which is outside the model: the same holds for every sublist. -/
theorem findSome?_none_sublist {α β : Type} {f : α → Option β} {l₁ l₂ : List α} (hs : l₁.Sublist l₂)
    (h : l₂.findSome? f = none) : l₁.findSome? f = none := by
  rw [List.findSome?_eq_none_iff] at h ⊢
  exact fun x hx => h x (hs.subset hx)

end Goyang.Lemmas.LoadOrder
