/-
Helper lemmas for C10, part 2: the model over `Number`s (`Goyang.Model.Range`) is mapped by "take the
signed mantissa" onto the integer-interval algorithms of `Goyang.Lemmas.RangeZ`, for numbers with a
common number of fraction digits `f ≤ 18` and 64-bit magnitudes — including the top of the `uint64`
range, where `addQuantum` wraps and the guard in `coalesce` takes over.  Then: what
`parseChildRanges` accepts and returns, in terms of the reading of the text in `Goyang.Spec.Range`.
Core Lean only.
-/
import Goyang.Lemmas.RangeZ
import Goyang.Lemmas.Number
import Goyang.Lemmas.NumberParse

namespace Goyang.Lemmas.Range
open Goyang.Model.Number Goyang.Model.Range Goyang.Spec.Range Goyang.Lemmas.RangeZ
open Goyang.Spec.Number (num WF)
open Goyang.Lemmas.Number (less_iff equal_iff W_eq H_eq)

/-! ### numbers at a common scale -/

/-- a number with `f` fraction digits and a 64-bit magnitude -/
def NumOk (f : Nat) (n : Number) : Prop := n.fd = f ∧ n.value < W

def PartOk (f : Nat) (r : YRange) : Prop := NumOk f r.min ∧ NumOk f r.max

/-- every bound of the list has `f` fraction digits and a 64-bit magnitude -/
def Uniform (f : Nat) (r : YangRange) : Prop := ∀ p ∈ r, PartOk f p

/-- the interval of mantissas of a part -/
def absP (r : YRange) : Iv := (num r.min, num r.max)

/-- the list of mantissa intervals: the argument of the denotation `⟦·⟧` -/
def abs (r : YangRange) : List Iv := r.map absP

theorem uniform_nil (f : Nat) : Uniform f [] := fun _ h => by cases h

theorem uniform_cons {f : Nat} {p : YRange} {r : YangRange} :
    Uniform f (p :: r) ↔ (PartOk f p ∧ Uniform f r) := List.forall_mem_cons

theorem numOk_wf {f : Nat} (hf : f ≤ 18) {n : Number} (h : NumOk f n) : WF n := by
  unfold WF
  have := h.2
  rw [W_eq] at this
  exact ⟨this, by rw [h.1]; exact hf⟩

theorem num_bounds {f : Nat} {n : Number} (h : NumOk f n) : -(W : Int) < num n ∧ num n < (W : Int) := by
  have := h.2
  unfold num
  split <;> omega

theorem pow_pos_int (f : Nat) : (0 : Int) < (10 : Int) ^ f := Int.pow_pos (by decide)

/-- at a common scale `Less` compares mantissas -/
theorem less_num {f : Nat} (hf : f ≤ 18) {a b : Number} (ha : NumOk f a) (hb : NumOk f b) :
    less a b = decide (num a < num b) := by
  have h := less_iff a b (numOk_wf hf ha) (numOk_wf hf hb)
  unfold Goyang.Spec.Number.lt at h
  rw [ha.1, hb.1] at h
  have hp := pow_pos_int f
  have h2 : num a * (10 : Int) ^ f < num b * (10 : Int) ^ f ↔ num a < num b :=
    ⟨fun hh => Int.lt_of_mul_lt_mul_right hh (Int.le_of_lt hp), fun hh => Int.mul_lt_mul_of_pos_right hh hp⟩
  rw [h2] at h
  cases hl : less a b
  · have : ¬ num a < num b := fun hh => by rw [h.mpr hh] at hl; cases hl
    simp [this]
  · simp [h.mp hl]

/-- at a common scale `Equal` is equality of mantissas -/
theorem equal_num {f : Nat} (hf : f ≤ 18) {a b : Number} (ha : NumOk f a) (hb : NumOk f b) :
    Goyang.Model.Number.equal a b = decide (num a = num b) := by
  unfold Goyang.Model.Number.equal
  rw [less_num hf ha hb, less_num hf hb ha]
  by_cases h : num a = num b
  · simp [h]
  · simp [h]
    omega

/-! ### addQuantum, also where it wraps -/

theorem addQuantum_ok {f : Nat} {n : Number} (h : NumOk f n) :
    NumOk f (addQuantum n 1) ∧
    num (addQuantum n 1) = if n.neg = false ∧ n.value = W - 1 then 0 else num n + 1 := by
  obtain ⟨v, fd, ng⟩ := n
  obtain ⟨hfd, hv⟩ : fd = f ∧ v < W := h
  have hW : 1 < W := by decide
  unfold addQuantum NumOk num
  cases ng
  · -- non-negative: `Value += 1` wraps at 2^64 - 1
    by_cases hw : v = W - 1
    · simp [hfd, hw, show (W - 1 + 1) % W = 0 from by decide]
      omega
    · simp [hfd, hw, Nat.mod_eq_of_lt (show v + 1 < W by omega)]
      omega
  · by_cases h1 : v ≤ 1 <;> simp [hfd, h1] <;> omega

/-! ### Less on parts, sort -/

theorem rangeLess_abs {f : Nat} (hf : f ≤ 18) {a b : YRange} (ha : PartOk f a) (hb : PartOk f b) :
    rangeLess a b = lexLt (absP a) (absP b) := by
  unfold rangeLess lexLt absP
  rw [less_num hf ha.1 hb.1, less_num hf hb.1 ha.1, less_num hf ha.2 hb.2]
  simp only [decide_eq_true_eq]

theorem mem_bubble (x : YRange) (l : List YRange) (r : YRange) : r ∈ bubble x l ↔ (r = x ∨ r ∈ l) :=
  InsertionAux.mem_insert (p := fun y => rangeLess x y) (ins := bubble x) rfl (fun _ _ => rfl) r l

theorem mem_sortLoop (pre l : List YRange) (r : YRange) : r ∈ sortLoop pre l ↔ (r ∈ pre ∨ r ∈ l) :=
  InsertionAux.mem_loop mem_bubble (loop := sortLoop) (fun _ => rfl) (fun _ _ _ => rfl) pre l r

theorem mem_sort (l : List YRange) (r : YRange) : r ∈ sort l ↔ r ∈ l := by
  unfold sort; rw [mem_sortLoop]; simp

theorem sort_uniform {f : Nat} {l : YangRange} (h : Uniform f l) : Uniform f (sort l) :=
  fun p hp => h p ((mem_sort l p).mp hp)

theorem bubble_abs {f : Nat} (hf : f ≤ 18) {x : YRange} {l : List YRange} (hx : PartOk f x) (hl : Uniform f l) :
    abs (bubble x l) = bubbleZ (absP x) (abs l) := by
  induction l with
  | nil => rfl
  | cons y ys ih =>
    have hy := uniform_cons.mp hl
    show abs (bubble x (y :: ys)) = bubbleZ (absP x) (absP y :: abs ys)
    unfold bubble bubbleZ
    rw [rangeLess_abs hf hx hy.1]
    split
    · exact congrArg _ (ih hy.2)
    · rfl

theorem bubble_uniform {f : Nat} {x : YRange} {l : List YRange} (hx : PartOk f x) (hl : Uniform f l) :
    Uniform f (bubble x l) := by
  intro p hp
  rcases (mem_bubble x l p).mp hp with rfl | hp
  · exact hx
  · exact hl p hp

theorem sortLoop_abs {f : Nat} (hf : f ≤ 18) (l pre : List YRange) (hp : Uniform f pre) (hl : Uniform f l) :
    abs (sortLoop pre l) = sortLoopZ (abs pre) (abs l) := by
  induction l generalizing pre with
  | nil => simp [sortLoop, sortLoopZ, abs]
  | cons x xs ih =>
    have hx := uniform_cons.mp hl
    unfold sortLoop
    rw [ih _ (bubble_uniform hx.1 hp) hx.2, bubble_abs hf hx.1 hp]
    simp [abs, sortLoopZ]

theorem sort_abs {f : Nat} (hf : f ≤ 18) {l : YangRange} (hl : Uniform f l) : abs (sort l) = sortZ (abs l) := by
  unfold sort sortZ
  exact sortLoop_abs hf l [] (uniform_nil f) hl

/-! ### coalesce -/

theorem coalesceLoop_abs {f : Nat} (hf : f ≤ 18) (rs : List YRange) : ∀ (cur : YRange), PartOk f cur → Uniform f rs →
    abs (coalesceLoop cur rs) = coalLoopZ (absP cur) (abs rs) ∧ Uniform f (coalesceLoop cur rs) := by
  induction rs with
  | nil => exact fun cur hc _ => ⟨rfl, uniform_cons.mpr ⟨hc, uniform_nil f⟩⟩
  | cons r1 rest ih =>
    intro cur hc hrs
    have hr := uniform_cons.mp hrs
    obtain ⟨hnext, hnum⟩ := addQuantum_ok hc.2
    -- the guard is `max + 1 < r1.min` on mantissas, whether or not the addition wrapped
    have hguard : (less cur.max (addQuantum cur.max 1) && less (addQuantum cur.max 1) r1.min)
        = decide (num cur.max + 1 < num r1.min) := by
      rw [less_num hf hc.2 hnext, less_num hf hnext hr.1.1, hnum]
      have hb1 := num_bounds hr.1.1
      split
      · next hw =>
        have hm : num cur.max = (W : Int) - 1 := by
          unfold num; rw [hw.1, hw.2]; decide
        have hW : (0 : Int) < W := by decide
        simp only [Bool.and_eq_decide, decide_eq_decide, decide_eq_true_eq]
        omega
      · simp only [Bool.and_eq_decide, decide_eq_decide, decide_eq_true_eq]
        omega
    unfold coalesceLoop
    simp only [abs, List.map_cons]
    unfold coalLoopZ
    simp only [hguard, less_num hf hc.2 hr.1.2, decide_eq_true_eq, absP]
    by_cases hg : num cur.max + 1 < num r1.min
    · simp only [hg, if_true, List.map_cons]
      obtain ⟨ha, hu⟩ := ih r1 hr.1 hr.2
      exact ⟨congrArg _ ha, uniform_cons.mpr ⟨hc, hu⟩⟩
    · by_cases hm : num cur.max < num r1.max
      · simp only [hg, hm, if_true, if_false]
        exact ih _ ⟨hc.1, hr.1.2⟩ hr.2
      · simp only [hg, hm, if_false]
        exact ih cur hc hr.2

theorem coalesce_abs {f : Nat} (hf : f ≤ 18) {r : YangRange} (hr : Uniform f r) :
    abs (coalesce r) = coalZ (abs r) ∧ Uniform f (coalesce r) := by
  cases r with
  | nil => exact ⟨rfl, uniform_nil f⟩
  | cons r0 rest =>
    have h := uniform_cons.mp hr
    exact coalesceLoop_abs hf rest r0 h.1 h.2

/-! ### Validate, Equal, Contains -/

theorem isSorted_abs {f : Nat} (hf : f ≤ 18) {r : YangRange} (hr : Uniform f r) : isSorted r = isSortedZ (abs r) := by
  induction r with
  | nil => rfl
  | cons a r ih =>
    cases r with
    | nil => rfl
    | cons b rest =>
      have ha := uniform_cons.mp hr
      show isSorted (a :: b :: rest) = isSortedZ (absP a :: absP b :: abs rest)
      unfold isSorted isSortedZ
      rw [rangeLess_abs hf (uniform_cons.mp ha.2).1 ha.1, ih ha.2]
      rfl

theorem validate_abs {f : Nat} (hf : f ≤ 18) {r : YangRange} (hr : Uniform f r) : validate r = validateZ (abs r) := by
  unfold validate validateZ
  rw [isSorted_abs hf hr]
  cases r with
  | nil => rfl
  | cons p rest =>
    have hp := uniform_cons.mp hr
    simp only [abs, List.map_cons]
    unfold YRange.valid
    rw [less_num hf hp.1.2 hp.1.1]
    have hany : ∀ (l : List YRange), Uniform f l →
        l.any (fun n => less n.min p.max) = (l.map absP).any (fun n => decide (n.1 < (absP p).2)) := by
      intro l
      induction l with
      | nil => intro _; rfl
      | cons n l ihl =>
        intro hl
        have hn := uniform_cons.mp hl
        simp only [List.any_cons, List.map_cons]
        rw [ihl hn.2, less_num hf hn.1.1 hp.1.2]
        rfl
    rw [hany rest hp.2]
    rfl

theorem equal_abs {f : Nat} (hf : f ≤ 18) : ∀ (a b : YangRange), Uniform f a → Uniform f b →
    Goyang.Model.Range.equal a b = true → abs a = abs b := by
  intro a
  induction a with
  | nil =>
    intro b _ _ h
    cases b with
    | nil => rfl
    | cons _ _ => simp [Goyang.Model.Range.equal] at h
  | cons x a ih =>
    intro b ha hb h
    cases b with
    | nil => simp [Goyang.Model.Range.equal] at h
    | cons y b =>
      have hx := uniform_cons.mp ha
      have hy := uniform_cons.mp hb
      simp only [Goyang.Model.Range.equal, YRange.equal, equal_num hf hx.1.1 hy.1.1, equal_num hf hx.1.2 hy.1.2,
        Bool.and_eq_true, decide_eq_true_eq] at h
      show absP x :: abs a = absP y :: abs b
      rw [ih b hx.2 hy.2 h.2, absP, absP, h.1.1, h.1.2]

theorem advance_abs {f : Nat} (hf : f ≤ 18) {x : Number} (hx : NumOk f x) (rest : List YRange) :
    ∀ (cur : YRange), PartOk f cur → Uniform f rest →
    match advance x cur rest with
    | none => advanceZ (num x) (absP cur) (abs rest) = none
    | some (c', r') => advanceZ (num x) (absP cur) (abs rest) = some (absP c', abs r') ∧ PartOk f c' ∧ Uniform f r' := by
  induction rest with
  | nil =>
    intro cur hc _
    unfold advance
    simp only [abs, List.map_nil]
    unfold advanceZ
    rw [less_num hf hc.2 hx]
    by_cases h : num cur.max < num x
    · simp [h, absP]
    · simp [h, absP]
      exact ⟨hc, uniform_nil f⟩
  | cons n rest' ih =>
    intro cur hc hr
    have hn := uniform_cons.mp hr
    unfold advance
    simp only [abs, List.map_cons]
    unfold advanceZ
    rw [less_num hf hc.2 hx]
    by_cases h : num cur.max < num x
    · simp only [h, decide_true, if_true, absP]
      exact ih n hn.1 hn.2
    · simp only [h, decide_false, Bool.false_eq_true, if_false, absP]
      exact ⟨rfl, hc, hr⟩

theorem containsLoop_abs {f : Nat} (hf : f ≤ 18) (s : List YRange) : ∀ (cur : YRange) (rest : List YRange),
    PartOk f cur → Uniform f rest → Uniform f s →
    containsLoop cur rest s = containsLoopZ (absP cur) (abs rest) (abs s) := by
  induction s with
  | nil => intro _ _ _ _ _; rfl
  | cons ss more ih =>
    intro cur rest hc hr hs
    have hss := uniform_cons.mp hs
    have hadv := advance_abs hf hss.1.1 rest cur hc hr
    unfold containsLoop
    simp only [abs, List.map_cons]
    unfold containsLoopZ
    have hss1 : (absP ss).1 = num ss.min := rfl
    rw [hss1]
    cases ha : advance ss.min cur rest with
    | none =>
      rw [ha] at hadv
      simp only at hadv
      unfold abs at hadv
      rw [hadv]
    | some p =>
      obtain ⟨c', r'⟩ := p
      rw [ha] at hadv
      simp only at hadv
      obtain ⟨hz, hc', hr'⟩ := hadv
      unfold abs at hz
      rw [hz]
      simp only
      rw [less_num hf hss.1.1 hc'.1, less_num hf hc'.2 hss.1.2]
      have := ih c' r' hc' hr' hss.2
      unfold abs at this
      rw [this]
      rfl

theorem contains_abs {f : Nat} (hf : f ≤ 18) {r s : YangRange} (hr : Uniform f r) (hs : Uniform f s) :
    contains r s = containsZ (abs r) (abs s) := by
  cases r with
  | nil => simp [contains, containsZ, abs]
  | cons cur rest =>
    cases s with
    | nil => simp [contains, containsZ, abs]
    | cons ss more =>
      have h := uniform_cons.mp hr
      unfold contains containsZ
      simp only [abs, List.map_cons]
      exact containsLoop_abs hf (ss :: more) cur rest h.1 h.2 hs

/-! ### strings.Split for "|" and ".." against the generic `splitOn` of the specification -/

theorem splitBar_eq : ∀ (s acc : List UInt8) (fuel : Nat), s.length < fuel →
    splitOnAux [124] fuel s acc = (splitBar s acc).1 :: (splitBar s acc).2 := by
  intro s
  induction s with
  | nil => intro acc fuel h; cases fuel <;> simp [splitOnAux, splitBar] at h ⊢
  | cons c rest ih =>
    intro acc fuel h
    cases fuel with
    | zero => cases h
    | succ k =>
      have hk : rest.length < k := by simp at h; omega
      unfold splitOnAux splitBar
      by_cases hc : c = 124
      · subst hc
        simp [List.isPrefixOf, ih [] k hk]
      · simp only [List.isPrefixOf, beq_eq_false_iff_ne.mpr (Ne.symm hc), Bool.false_and, Bool.false_eq_true, if_false, hc]
        exact ih (c :: acc) k hk

theorem splitOn_bar (s : List UInt8) : splitOn sepBar s = (splitBar s []).1 :: (splitBar s []).2 :=
  splitBar_eq s [] (s.length + 1) (Nat.lt_succ_self _)

theorem splitDots_eq : ∀ (fuel : Nat) (s acc : List UInt8), s.length < fuel →
    splitOnAux [46, 46] fuel s acc = (splitDots s acc).1 :: (splitDots s acc).2 := by
  intro fuel
  induction fuel with
  | zero => intro s acc h; cases h
  | succ k ih =>
    intro s acc h
    match s with
    | [] => simp [splitOnAux, splitDots]
    | [c] => cases k <;> simp [splitOnAux, splitDots, List.isPrefixOf]
    | c :: d :: rest =>
      have hk : rest.length < k := by simp at h; omega
      have hk2 : (d :: rest).length < k := by simp at h ⊢; omega
      unfold splitOnAux splitDots
      by_cases hc : c = 46 ∧ d = 46
      · obtain ⟨rfl, rfl⟩ := hc
        simp [List.isPrefixOf, ih rest [] hk]
      · have hne : List.isPrefixOf [46, 46] (c :: d :: rest) = false := by
          simp only [List.isPrefixOf, Bool.and_true, Bool.and_eq_false_iff, beq_eq_false_iff_ne]
          by_cases h1 : c = 46
          · exact Or.inr fun h2 => hc ⟨h1, h2.symm⟩
          · exact Or.inl fun h => h1 h.symm
        simp only [hne, Bool.false_eq_true, if_false, hc]
        exact ih (d :: rest) (c :: acc) hk2

theorem splitOn_dots (s : List UInt8) : splitOn sepDots s = (splitDots s []).1 :: (splitDots s []).2 :=
  splitDots_eq (s.length + 1) s [] (Nat.lt_succ_self _)

/-! ### what `parseChildRanges` accepts and returns -/

/-- the scales of the property: integers (also lengths) and decimal64 at 1 to 18 fraction digits -/
def ScaleOk (dec : Bool) (f : Nat) : Prop := (dec = false ∧ f = 0) ∨ (dec = true ∧ 1 ≤ f ∧ f ≤ 18)

theorem ScaleOk.le {dec : Bool} {f : Nat} (h : ScaleOk dec f) : f ≤ 18 := by
  rcases h with ⟨_, h⟩ | ⟨_, _, h⟩ <;> omega

/-- a parent set: at the scale of the type, sorted, disjoint and coalesced -/
def ParentOk (f : Nat) (y : YangRange) : Prop := Uniform f y ∧ SDC (abs y)

theorem kw_ne : Goyang.Model.Range.kwMin ≠ Goyang.Model.Range.kwMax := by decide

theorem highest_abs {f : Nat} {y : YangRange} (hy : ParentOk f y) (l : YRange) (hl : y.getLast? = some l) :
    highest (abs y) = some (num l.max) ∧ NumOk f l.max := by
  cases y with
  | nil => simp at hl
  | cons r rs =>
    have hne : (r :: rs) ≠ [] := List.cons_ne_nil _ _
    have hlast : (r :: rs).getLast hne = l := by
      rw [List.getLast?_eq_some_getLast hne] at hl
      exact Option.some.inj hl
    have hmem : l ∈ r :: rs := by rw [← hlast]; exact List.getLast_mem hne
    refine ⟨?_, (hy.1 l hmem).2⟩
    have hs := hy.2
    simp only [abs, List.map_cons] at hs ⊢
    rw [highest_sdc hs]
    have : (absP r :: List.map absP rs) = List.map absP (r :: rs) := rfl
    simp only [this, List.getLast_map, hlast]
    rfl

theorem lowest_abs {f : Nat} {y : YangRange} (hy : ParentOk f y) (h : YRange) (hh : y.head? = some h) :
    lowest (abs y) = some (num h.min) ∧ NumOk f h.min := by
  cases y with
  | nil => simp at hh
  | cons r rs =>
    simp at hh
    subst hh
    refine ⟨?_, (hy.1 r (List.mem_cons_self ..)).1⟩
    have hs := hy.2
    simp only [abs, List.map_cons] at hs ⊢
    rw [lowest_sdc hs]
    rfl

theorem parseLit_ok {dec : Bool} {f : Nat} (hsc : ScaleOk dec f) {s : List UInt8} {m : Number}
    (h : (if dec then parseDecimal s f else parseInt s) = .ok m) : NumOk f m := by
  rcases hsc with ⟨rfl, rfl⟩ | ⟨rfl, _⟩
  · have hwf := Goyang.Lemmas.Number.parseInt_wf _ _ h
    exact ⟨hwf.1, W_eq ▸ hwf.2⟩
  · have hwf := Goyang.Lemmas.Number.parseDecimal_wf _ _ _ h
    exact ⟨hwf.1, by have := hwf.2.2.2; unfold W; omega⟩

theorem parseNumber_spec {dec : Bool} {f : Nat} (hsc : ScaleOk dec f) {y : YangRange} (hy : ParentOk f y)
    (t : List UInt8) :
    match parseNumber y dec f (trimSpace t) with
    | .ok n => NumOk f n ∧ ∃ b, readBound (lit dec f) t = some b ∧ b.eval (abs y) = some (num n)
    | .error _ => ∀ b, readBound (lit dec f) t = some b → b.eval (abs y) = none := by
  unfold parseNumber readBound trim lit
  rw [show Goyang.Model.Range.kwMax = Goyang.Spec.Range.kwMax from rfl,
    show Goyang.Model.Range.kwMin = Goyang.Spec.Range.kwMin from rfl]
  generalize trimSpace t = s
  by_cases hmax : s = Goyang.Spec.Range.kwMax
  · subst hmax
    rw [if_pos rfl, if_neg (by decide), if_pos rfl]
    cases hl : y.getLast? with
    | none =>
      rintro b ⟨⟩
      rw [List.getLast?_eq_none_iff.mp hl]; rfl
    | some l =>
      obtain ⟨hhi, hok⟩ := highest_abs hy l hl
      exact ⟨⟨rfl, hok.2⟩, .max, rfl, hhi⟩
  · by_cases hmin : s = Goyang.Spec.Range.kwMin
    · subst hmin
      rw [if_neg hmax, if_pos rfl, if_pos rfl]
      cases hl : y.head? with
      | none =>
        rintro b ⟨⟩
        rw [List.head?_eq_none_iff.mp hl]; rfl
      | some hd =>
        obtain ⟨hlo, hok⟩ := lowest_abs hy hd hl
        exact ⟨⟨rfl, hok.2⟩, .min, rfl, hlo⟩
    · rw [if_neg hmax, if_neg hmin, if_neg hmin, if_neg hmax]
      have hwf := @parseLit_ok dec f hsc s
      cases dec
      · cases hp : parseInt s with
        | error e => rintro b ⟨⟩
        | ok m => exact ⟨hwf hp, .lit (num m), rfl, rfl⟩
      · cases hp : parseDecimal s f with
        | error e => rintro b ⟨⟩
        | ok m => exact ⟨hwf hp, .lit (num m), rfl, rfl⟩

theorem partEval_eq_some {p : List Iv} {w : Part} {iv : Iv} :
    Part.eval p w = some iv ↔ w.1.eval p = some iv.1 ∧ w.2.eval p = some iv.2 := by
  unfold Part.eval
  cases w.1.eval p <;> cases w.2.eval p <;> simp [Prod.ext_iff]

theorem readPart_eq_some {lt : List UInt8 → Option Int} {p : List UInt8} {w : Part} :
    readPart lt p = some w ↔
      readBound lt (splitDots p []).1 = some w.1 ∧
        (((splitDots p []).2 = [] ∧ w.2 = w.1) ∨ ∃ p1, (splitDots p []).2 = [p1] ∧ readBound lt p1 = some w.2) := by
  unfold readPart
  rw [splitOn_dots]
  generalize (splitDots p []).1 = p0, (splitDots p []).2 = more
  match more with
  | [] =>
    obtain ⟨w1, w2⟩ := w
    cases h : readBound lt p0 with
    | none => simp [h]
    | some b =>
      simp [h, eq_comm]
      rintro rfl
      exact eq_comm
  | [p1] =>
    obtain ⟨w1, w2⟩ := w
    cases h0 : readBound lt p0 <;> cases h1 : readBound lt p1 <;> simp [h0, h1]
  | _ :: _ :: _ => simp

theorem parsePart_spec {dec : Bool} {f : Nat} (hsc : ScaleOk dec f) {y : YangRange} (hy : ParentOk f y)
    (p : List UInt8) :
    match parsePart y dec f p with
    | .ok r => PartOk f r ∧ (absP r).1 ≤ (absP r).2 ∧
        ∃ w, readPart (lit dec f) p = some w ∧ Part.eval (abs y) w = some (absP r)
    | .error _ => ∀ w iv, readPart (lit dec f) p = some w → Part.eval (abs y) w = some iv → ¬ iv.1 ≤ iv.2 := by
  unfold parsePart
  simp only [readPart_eq_some, partEval_eq_some]
  generalize (splitDots p []).1 = p0, (splitDots p []).2 = more
  have h0 := parseNumber_spec hsc hy p0
  have hf := hsc.le
  cases hmin : parseNumber y dec f (trimSpace p0) with
  | error e =>
    rw [hmin] at h0
    rintro w iv ⟨hb, _⟩ ⟨hev, _⟩
    rw [h0 _ hb] at hev
    cases hev
  | ok mn =>
    rw [hmin] at h0
    obtain ⟨hmnok, bmin, hbmin, hemin⟩ := h0
    match more with
    | [] =>
      simp only [less_num hf hmnok hmnok, Int.lt_irrefl, decide_false, Bool.false_eq_true, if_false]
      exact ⟨⟨hmnok, hmnok⟩, Int.le_refl _, (bmin, bmin), ⟨hbmin, Or.inl ⟨trivial, rfl⟩⟩, hemin, hemin⟩
    | [p1] =>
      have h1 := parseNumber_spec hsc hy p1
      simp only
      cases hmax : parseNumber y dec f (trimSpace p1) with
      | error e =>
        rw [hmax] at h1
        -- of the two shapes of a part (`readPart_eq_some`) only `[p1] = [p1]` is possible here
        rintro w iv ⟨_, ⟨⟨⟩, _⟩ | ⟨_, ⟨⟩, hb⟩⟩ ⟨_, hev⟩
        rw [h1 _ hb] at hev
        cases hev
      | ok mx =>
        rw [hmax] at h1
        obtain ⟨hmxok, bmax, hbmax, hemax⟩ := h1
        simp only [less_num hf hmxok hmnok]
        by_cases hlt : num mx < num mn
        · simp only [hlt, decide_true, if_true]
          -- again the shape with two boundaries; they are `bmin` and `bmax`, whose values are out of order
          rintro w iv ⟨hb0, ⟨⟨⟩, _⟩ | ⟨_, ⟨⟩, hb1⟩⟩ ⟨h1, h2⟩
          rw [hbmin] at hb0; rw [hbmax] at hb1
          cases hb0; cases hb1
          rw [hemin, Option.some.injEq] at h1; rw [hemax, Option.some.injEq] at h2
          rw [← h1, ← h2]
          exact Int.not_le.mpr hlt
        · simp only [hlt, decide_false, Bool.false_eq_true, if_false]
          exact ⟨⟨hmnok, hmxok⟩, Int.not_lt.mp hlt, (bmin, bmax), ⟨hbmin, Or.inr ⟨p1, rfl, hbmax⟩⟩, hemin, hemax⟩
    | _ :: _ :: _ =>
      -- more than one `..`: neither shape of a part fits
      rintro w iv ⟨_, ⟨⟨⟩, _⟩ | ⟨_, ⟨⟩, _⟩⟩

theorem ordered_iff (ivs : List Iv) : ordered ivs = true ↔ AllValid ivs := by
  unfold ordered AllValid
  simp [List.all_eq_true]

theorem allValid_cons {r : Iv} {rs : List Iv} : AllValid (r :: rs) ↔ (r.1 ≤ r.2 ∧ AllValid rs) :=
  List.forall_mem_cons

theorem writtenIvs_cons_eq_some {p : List Iv} {w : Part} {ws : List Part} {ivs : List Iv} :
    writtenIvs p (w :: ws) = some ivs ↔ ∃ iv is, Part.eval p w = some iv ∧ writtenIvs p ws = some is ∧ ivs = iv :: is := by
  cases h1 : Part.eval p w <;> cases h2 : writtenIvs p ws <;> simp [writtenIvs, h1, h2, eq_comm]

theorem readParts_cons_eq_some {lt : List UInt8 → Option Int} {p : List UInt8} {ps : List (List UInt8)} {ws : List Part} :
    readParts lt (p :: ps) = some ws ↔ ∃ w ws', readPart lt p = some w ∧ readParts lt ps = some ws' ∧ ws = w :: ws' := by
  cases h1 : readPart lt p <;> cases h2 : readParts lt ps <;> simp [readParts, h1, h2, eq_comm]

theorem parseParts_spec {dec : Bool} {f : Nat} (hsc : ScaleOk dec f) {y : YangRange} (hy : ParentOk f y)
    (ps : List (List UInt8)) :
    match parseParts y dec f ps with
    | .ok rs => Uniform f rs ∧ AllValid (abs rs) ∧ rs.length = ps.length ∧
        ∃ w, readParts (lit dec f) ps = some w ∧ writtenIvs (abs y) w = some (abs rs)
    | .error _ => ∀ w ivs, readParts (lit dec f) ps = some w → writtenIvs (abs y) w = some ivs → ¬ AllValid ivs := by
  induction ps with
  | nil => exact ⟨uniform_nil f, (fun _ h => by cases h), rfl, [], rfl, rfl⟩
  | cons p ps ih =>
    have hp := parsePart_spec hsc hy p
    unfold parseParts
    cases hpp : parsePart y dec f p with
    | error e =>
      rw [hpp] at hp
      intro w ivs hw hivs hall
      obtain ⟨w0, ws, hw0, _, rfl⟩ := readParts_cons_eq_some.mp hw
      obtain ⟨iv, is, hiv, _, rfl⟩ := writtenIvs_cons_eq_some.mp hivs
      exact hp w0 iv hw0 hiv (allValid_cons.mp hall).1
    | ok r =>
      rw [hpp] at hp
      obtain ⟨hpok, hord, w, hw, hiv⟩ := hp
      cases hps : parseParts y dec f ps with
      | error e =>
        rw [hps] at ih
        intro w ivs hw hivs hall
        obtain ⟨w0, ws, _, hws, rfl⟩ := readParts_cons_eq_some.mp hw
        obtain ⟨iv, is, _, his, rfl⟩ := writtenIvs_cons_eq_some.mp hivs
        exact ih ws is hws his (allValid_cons.mp hall).2
      | ok rs =>
        rw [hps] at ih
        obtain ⟨hu, hv, hlen, w', hw', hiv'⟩ := ih
        exact ⟨uniform_cons.mpr ⟨hpok, hu⟩, allValid_cons.mpr ⟨hord, hv⟩, congrArg (· + 1) hlen, w :: w',
          readParts_cons_eq_some.mpr ⟨w, w', hw, hw', rfl⟩, writtenIvs_cons_eq_some.mpr ⟨_, _, hiv, hiv', rfl⟩⟩

theorem abs_eq_nil {r : YangRange} : abs r = [] ↔ r = [] := List.map_eq_nil_iff

theorem parse_spec {dec : Bool} {f : Nat} (hsc : ScaleOk dec f) {y : YangRange} (hy : ParentOk f y)
    (s : List UInt8) :
    match parseChildRanges y s dec f with
    | .ok r => ∃ w ivs, read (lit dec f) s = some w ∧ writtenIvs (abs y) w = some ivs ∧ AllValid ivs ∧
        (∀ x, Mem x (abs r) ↔ Mem x ivs) ∧ SDC (abs r) ∧ Uniform f r ∧ r ≠ [] ∧
        (y = [] ∨ Within (abs r) (abs y))
    | .error _ => ∀ w ivs, read (lit dec f) s = some w → writtenIvs (abs y) w = some ivs → AllValid ivs →
        (y ≠ [] ∧ ¬ Within ivs (abs y)) := by
  have hf := hsc.le
  have hps := parseParts_spec hsc hy ((splitBar s []).1 :: (splitBar s []).2)
  unfold parseChildRanges Goyang.Spec.Range.read
  simp only
  rw [splitOn_bar]
  cases hpp : parseParts y dec f ((splitBar s []).1 :: (splitBar s []).2) with
  | error e =>
    rw [hpp] at hps
    exact fun w ivs hw hivs hall => absurd hall (hps w ivs hw hivs)
  | ok rs =>
    rw [hpp] at hps
    obtain ⟨hu, hv, hlen, w, hw, hiv⟩ := hps
    obtain ⟨hcabs, hcu⟩ := coalesce_abs hf (sort_uniform hu)
    have hsabs := sort_abs hf hu
    have hspec := coalZ_spec (sortZ (abs rs)) (sortZ_allValid _ hv) (sortZ_sortedLo _)
    rw [← hsabs, ← hcabs] at hspec
    have hmem : ∀ x, Mem x (abs (coalesce (sort rs))) ↔ Mem x (abs rs) := fun x => by
      rw [hspec.2 x, hsabs, sortZ_mem]
    have hc := containsZ_iff _ _ hy.2 hspec.1
    rw [← contains_abs hf hy.1 hcu, abs_eq_nil] at hc
    simp only [validate_abs hf hcu, validateZ_sdc _ hspec.1]
    by_cases hin : y = [] ∨ Within (abs (coalesce (sort rs))) (abs y)
    · simp only [hc.mpr hin, Bool.not_true, Bool.false_eq_true, if_false]
      refine ⟨w, abs rs, hw, hiv, hv, hmem, hspec.1, hcu, fun he => ?_, hin⟩
      have h2 := coalZ_ne_nil _ (sortZ_ne_nil (abs rs) (fun h0 => by rw [abs_eq_nil.mp h0] at hlen; cases hlen))
      rw [← hsabs, ← hcabs, he] at h2
      exact h2 rfl
    · simp only [mt hc.mp hin, Bool.not_false, if_true]
      intro w' ivs hw' hivs _
      rw [hw] at hw'; cases hw'
      rw [hiv] at hivs; cases hivs
      exact ⟨fun h0 => hin (Or.inl h0), fun hwi => hin (Or.inr fun x hx => hwi x ((hmem x).mp hx))⟩

/-- parts that tie under `YangRange.Less` have the same mantissas: they denote the same interval and
differ at most in the sign of a zero bound -/
theorem rangeLess_tie {f : Nat} (hf : f ≤ 18) {a b : YRange} (ha : PartOk f a) (hb : PartOk f b)
    (h1 : rangeLess a b = false) (h2 : rangeLess b a = false) : absP a = absP b := by
  rw [rangeLess_abs hf ha hb, lexLt_false_iff] at h1
  rw [rangeLess_abs hf hb ha, lexLt_false_iff] at h2
  unfold LexLe at h1 h2
  apply Prod.ext <;> omega

/-- an `Except` whose `toOption` is a value is that value (`Option` has decidable equality where
`Except` has none, so a concrete result is checked through this) -/
theorem ok_of_toOption {ε α : Type} {x : Except ε α} {a : α} (h : x.toOption = some a) : x = .ok a := by
  cases x with
  | error _ => cases h
  | ok _ => cases h; rfl

/-! ### the built-in ranges are legitimate parents -/

theorem intRange_ok (lo hi : Nat) (hlo : lo < W) (hhi : hi < W) : ParentOk 0 (intRange lo hi) ∧ intRange lo hi ≠ [] := by
  refine ⟨⟨?_, ?_⟩, by simp [intRange]⟩
  · intro p hp
    simp [intRange] at hp
    subst hp
    exact ⟨⟨rfl, hlo⟩, ⟨rfl, hhi⟩⟩
  · simp only [abs, intRange, List.map, absP, num, SDC]
    simp

theorem uintRange_ok (hi : Nat) (hhi : hi < W) : ParentOk 0 (uintRange hi) ∧ uintRange hi ≠ [] := by
  refine ⟨⟨?_, ?_⟩, by simp [uintRange]⟩
  · intro p hp
    simp [uintRange] at hp
    subst hp
    exact ⟨⟨rfl, by show (0 : Nat) < W; unfold W; omega⟩, ⟨rfl, hhi⟩⟩
  · simp only [abs, uintRange, List.map, absP, num, SDC]
    simp

end Goyang.Lemmas.Range
