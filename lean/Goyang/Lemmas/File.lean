import Goyang.Model.File
import Goyang.Spec.File
import Goyang.Lemmas.StrOrd
import Goyang.Lemmas.Date
/-
Lemmas for C13 (b): `findInDir` / `findFile` choose what `Spec.File.choose` names.
-/
namespace Goyang.Lemmas.File
open Goyang.Model Goyang.Model.File Goyang.Spec Goyang.Spec.File Goyang.Lemmas.StrOrd

/-! ### prefixes and suffixes -/

theorem stripPrefix?_eq_some : ∀ {p s r : List Char}, stripPrefix? p s = some r ↔ s = p ++ r
  | [], s, r => by simp [stripPrefix?, eq_comm]
  | _ :: _, [], r => by simp [stripPrefix?]
  | a :: p, b :: s, r => by
    simp only [stripPrefix?]
    by_cases h : a = b
    · subst h; simp [stripPrefix?_eq_some (p := p)]
    · simp [h]; intro e; exact absurd e.symm h

theorem stripPrefix?_append (p r : List Char) : stripPrefix? p (p ++ r) = some r :=
  stripPrefix?_eq_some.mpr rfl

theorem trimSuffix_append (m suf : Name) : trimSuffix (m ++ suf) suf = m := by
  unfold trimSuffix
  rw [List.reverse_append, stripPrefix?_append]
  simp

theorem dotYang_eq : dotYang = ".yang".toList := by decide

/-! ### dated candidate names -/

theorem isDigit_eq (c : Char) : File.isDigit c = Spec.isDigit c := rfl

/-- The regular expression, on the remainder after the module name, against the specification's
reading: `@`, a date, `.yang`. -/
theorem matchesRevSuffix_iff (rest : Name) :
    matchesRevSuffix rest = true ↔
      (rest.head? = some '@' ∧ rest.drop 11 = ".yang".toList) ∧
        (parseDate ((rest.drop 1).take 10)).isSome = true := by
  rcases rest with _ | ⟨c0, _ | ⟨y1, _ | ⟨y2, _ | ⟨y3, _ | ⟨y4, _ | ⟨c5, _ | ⟨m1, _ | ⟨m2, _ | ⟨c8, _ | ⟨d1, _ | ⟨d2, tail⟩⟩⟩⟩⟩⟩⟩⟩⟩⟩⟩
  all_goals try (simp [matchesRevSuffix, parseDate]; done)
  simp only [matchesRevSuffix, List.head?_cons, List.drop_succ_cons, List.drop_zero,
    Option.some.injEq, List.take_succ_cons, List.take_zero, parseDate, dotYang_eq, Bool.and_eq_true, beq_iff_eq,
    isDigit_eq, List.all_cons, List.all_nil, Bool.and_true]
  constructor
  · rintro ⟨⟨⟨⟨⟨⟨⟨⟨⟨⟨⟨h0, h1⟩, h2⟩, h3⟩, h4⟩, h5⟩, h6⟩, h7⟩, h8⟩, h9⟩, h10⟩, h11⟩
    refine ⟨⟨h0, h11⟩, ?_⟩
    rw [if_pos ⟨h5, h8, h1, h2, h3, h4, h6, h7, h9, h10⟩]
    rfl
  · rintro ⟨⟨h0, h11⟩, hp⟩
    split at hp
    · rename_i hc
      obtain ⟨h5, h8, h1, h2, h3, h4, h6, h7, h9, h10⟩ := hc
      exact ⟨⟨⟨⟨⟨⟨⟨⟨⟨⟨⟨h0, h1⟩, h2⟩, h3⟩, h4⟩, h5⟩, h6⟩, h7⟩, h8⟩, h9⟩, h10⟩, h11⟩
    · cases hp

/-- The model's test for a dated candidate is the specification's. -/
theorem isRevisionOf_iff (m fn : Name) : isRevisionOf m fn = true ↔ (datedOf m fn).isSome = true := by
  unfold isRevisionOf datedOf
  cases hs : stripPrefix? m fn with
  | none =>
    have hne : ¬ fn.take m.length = m := by
      intro h
      have : fn = m ++ fn.drop m.length := by
        conv => lhs; rw [← List.take_append_drop m.length fn, h]
      rw [stripPrefix?_eq_some.mpr this] at hs; cases hs
    simp [hne]
  | some rest =>
    have hfn := stripPrefix?_eq_some.mp hs
    subst hfn
    have e1 : (m ++ rest).take m.length = m := List.take_left'  rfl
    have e2 : (m ++ rest).drop m.length = rest := List.drop_left' rfl
    simp only [e1, e2, if_true, matchesRevSuffix_iff]
    constructor
    · rintro ⟨h1, h2⟩
      rw [if_pos h1]; exact h2
    · intro h
      split at h
      · rename_i hc; exact ⟨hc, h⟩
      · cases h

/-! ### the latest dated candidate -/

theorem charsLt_append_right : ∀ {a b : Name} (s : Name), a.length = b.length →
    charsLt (a ++ s) (b ++ s) = charsLt a b
  | [], [], s, _ => by simp [charsLt_irrefl, charsLt]
  | [], _ :: _, _, h => by simp at h
  | _ :: _, [], _, h => by simp at h
  | x :: a, y :: b, s, h => by
    simp only [List.cons_append, charsLt]
    rw [charsLt_append_right s (by simpa using h)]

/-- Shape of a dated candidate name. -/
theorem datedOf_some {m fn : Name} {d : Date} (h : datedOf m fn = some d) :
    ∃ ds, fn = m ++ '@' :: ds ++ ".yang".toList ∧ parseDate ds = some d := by
  unfold datedOf at h
  split at h
  · rename_i htake
    simp only at h
    split at h
    · rename_i hc
      obtain ⟨hhead, hdrop⟩ := hc
      have hfn : fn = m ++ fn.drop m.length := by
        conv => lhs; rw [← List.take_append_drop m.length fn, htake]
      generalize fn.drop m.length = rest at *
      cases rest with
      | nil => simp at hhead
      | cons c r1 =>
        simp only [List.head?_cons, Option.some.injEq] at hhead
        subst hhead
        simp only [List.drop_succ_cons, List.drop_zero] at h hdrop
        refine ⟨r1.take 10, ?_, h⟩
        rw [hfn]
        have : r1 = r1.take 10 ++ r1.drop 10 := (List.take_append_drop 10 r1).symm
        rw [hdrop] at this
        simp only [List.append_assoc, List.cons_append]
        rw [← this]
    · cases h
  · cases h

/-- Byte order of dated candidate names of one module is the order of their dates. -/
theorem charsLt_dated {m fn fn' : Name} {d d' : Date} (h : datedOf m fn = some d) (h' : datedOf m fn' = some d') :
    charsLt fn fn' = d.lt d' := by
  obtain ⟨ds, rfl, hp⟩ := datedOf_some h
  obtain ⟨ds', rfl, hp'⟩ := datedOf_some h'
  have hl : ds.length = ds'.length := by
    obtain ⟨_, _, _, _, _, _, _, _, rfl, _, _⟩ := Goyang.Lemmas.Date.parseDate_some hp
    obtain ⟨_, _, _, _, _, _, _, _, rfl, _, _⟩ := Goyang.Lemmas.Date.parseDate_some hp'
    rfl
  have e : ∀ x : Name, m ++ '@' :: x ++ ".yang".toList = (m ++ ['@']) ++ (x ++ ".yang".toList) := by
    intro x; simp
  rw [e, e, charsLt_append_left, charsLt_append_right _ hl]
  exact Goyang.Lemmas.Date.charsLt_date hp hp'

theorem date_lt_irrefl (d : Date) : d.lt d = false := by simp [Date.lt]

theorem dated_name_eq {m fn fn' : Name} {d : Date} (h : datedOf m fn = some d) (h' : datedOf m fn' = some d) :
    fn = fn' := by
  rcases charsLt_total fn fn' with h1 | h1 | h1
  · rw [charsLt_dated h h', date_lt_irrefl] at h1; cases h1
  · exact h1
  · rw [charsLt_dated h' h, date_lt_irrefl] at h1; cases h1

/-- The last element of a list sorted by `charsLe` is not smaller than any element. -/
theorem getLast?_max {l : List Name} (hs : l.Pairwise fun a b => charsLe a b = true) {x : Name}
    (hx : l.getLast? = some x) : ∀ y ∈ l, charsLe y x = true := by
  obtain ⟨ys, rfl⟩ := List.getLast?_eq_some_iff.mp hx
  rw [List.pairwise_append] at hs
  intro y hy
  rcases List.mem_append.mp hy with hy | hy
  · exact hs.2.2 y hy x (by simp)
  · simp only [List.mem_singleton] at hy; subst hy; exact charsLe_refl _

theorem insertName_perm (a : Name) : ∀ l : List Name, (insertName a l).Perm (a :: l)
  | [] => List.Perm.refl _
  | b :: rest => by
    unfold insertName
    split
    · exact List.Perm.refl _
    · exact ((insertName_perm a rest).cons b).trans (List.Perm.swap a b rest)

theorem sortNames_perm : ∀ l : List Name, (sortNames l).Perm l
  | [] => List.Perm.refl _
  | a :: rest => (insertName_perm a (sortNames rest)).trans ((sortNames_perm rest).cons a)

theorem insertName_sorted (a : Name) : ∀ {l : List Name}, l.Pairwise (fun x y => charsLe x y = true) →
    (insertName a l).Pairwise (fun x y => charsLe x y = true)
  | [], _ => by simp [insertName]
  | b :: rest, h => by
    unfold insertName
    rw [List.pairwise_cons] at h
    split
    · rename_i hab
      rw [List.pairwise_cons]
      refine ⟨?_, List.pairwise_cons.mpr h⟩
      intro y hy
      rcases List.mem_cons.mp hy with rfl | hy
      · exact hab
      · exact charsLe_trans hab (h.1 y hy)
    · rename_i hab
      have hba : charsLe b a = true := by
        have := charsLe_total a b
        simp only [Bool.or_eq_true] at this
        rcases this with h1 | h1
        · exact absurd h1 hab
        · exact h1
      rw [List.pairwise_cons]
      refine ⟨?_, insertName_sorted a h.2⟩
      intro y hy
      rcases List.mem_cons.mp ((insertName_perm a rest).mem_iff.mp hy) with rfl | hy
      · exact hba
      · exact h.1 y hy

theorem sortNames_sorted : ∀ l : List Name, (sortNames l).Pairwise (fun x y => charsLe x y = true)
  | [] => List.Pairwise.nil
  | a :: rest => insertName_sorted a (sortNames_sorted rest)

theorem lastSorted_spec {revs : List Name} :
    (revs = [] ∧ lastSorted revs = none) ∨
    (∃ x, lastSorted revs = some x ∧ x ∈ revs ∧ ∀ y ∈ revs, charsLe y x = true) := by
  unfold lastSorted
  have hperm := sortNames_perm revs
  have hsorted := sortNames_sorted revs
  cases hl : (sortNames revs).getLast? with
  | none =>
    left
    rw [List.getLast?_eq_none_iff] at hl
    rw [hl] at hperm
    exact ⟨List.Perm.eq_nil hperm.symm, rfl⟩
  | some x =>
    right
    refine ⟨x, rfl, ?_, ?_⟩
    · exact hperm.mem_iff.mp (List.mem_of_getLast? hl)
    · intro y hy
      exact getLast?_max hsorted hl y (hperm.mem_iff.mpr hy)

/-- The dated candidates as the model collects them. -/
def revsOf (m : Name) (es : Listing) : List Name := (files es).filter (isRevisionOf m)

theorem mem_dated_iff {m : Name} {es : Listing} {c : Name × Date} :
    c ∈ dated m es ↔ c.1 ∈ files es ∧ datedOf m c.1 = some c.2 := by
  unfold dated
  rw [List.mem_filterMap]
  constructor
  · rintro ⟨fn, hfn, h⟩
    obtain ⟨d, hd, rfl⟩ := Option.map_eq_some_iff.mp h
    exact ⟨hfn, hd⟩
  · rintro ⟨hfn, hd⟩
    exact ⟨c.1, hfn, by rw [hd]; rfl⟩

theorem mem_revsOf {m : Name} {es : Listing} {fn : Name} :
    fn ∈ revsOf m es ↔ fn ∈ files es ∧ (datedOf m fn).isSome = true := by
  unfold revsOf; rw [List.mem_filter, isRevisionOf_iff]

theorem mem_dated {m : Name} {es : Listing} {c : Name × Date} (h : c ∈ dated m es) :
    datedOf m c.1 = some c.2 ∧ c.1 ∈ revsOf m es :=
  let ⟨hf, hd⟩ := mem_dated_iff.mp h
  ⟨hd, mem_revsOf.mpr ⟨hf, by rw [hd]; rfl⟩⟩

theorem dated_of_mem_revs {m : Name} {es : Listing} {fn : Name} (h : fn ∈ revsOf m es) :
    ∃ d, (fn, d) ∈ dated m es :=
  let ⟨hf, hs⟩ := mem_revsOf.mp h
  let ⟨d, hd⟩ := Option.isSome_iff_exists.mp hs
  ⟨d, mem_dated_iff.mpr ⟨hf, hd⟩⟩

/-- Sorting the names and taking the last one finds the candidate with the greatest date. -/
theorem lastSorted_eq_latestDated (m : Name) (es : Listing) : lastSorted (revsOf m es) = latestDated m es := by
  unfold latestDated
  rcases lastSorted_spec (revs := revsOf m es) with ⟨hnil, hnone⟩ | ⟨x, hx, hmem, hmax⟩
  · rw [hnone]
    have : dated m es = [] := List.eq_nil_iff_forall_not_mem.mpr fun c hc => by
      have := (mem_dated hc).2
      rw [hnil] at this; cases this
    rw [this]; rfl
  · rw [hx]
    obtain ⟨dx, hdx⟩ := dated_of_mem_revs hmem
    have hxd := (mem_dated hdx).1
    -- the pair of `x` passes the test, so something is found
    have hPx : ((dated m es).all fun c' => c'.2.le dx) = true := by
      rw [List.all_eq_true]
      intro c' hc'
      obtain ⟨hc'd, hc'm⟩ := mem_dated hc'
      have := hmax c'.1 hc'm
      simp only [charsLe, Bool.not_eq_true'] at this
      rw [charsLt_dated hxd hc'd] at this
      simp [Date.le, this]
    cases hf : (dated m es).find? fun c => (dated m es).all fun c' => c'.2.le c.2 with
    | none =>
      rw [List.find?_eq_none] at hf
      exact absurd hPx (hf (x, dx) hdx)
    | some c₀ =>
      have hc₀m := List.mem_of_find?_eq_some hf
      have hPc := List.find?_some hf
      rw [List.all_eq_true] at hPc
      obtain ⟨hc₀d, hc₀r⟩ := mem_dated hc₀m
      -- neither date is before the other
      have h1 : dx.lt c₀.2 = false := by
        have := List.all_eq_true.mp hPx c₀ hc₀m
        simpa [Date.le] using this
      have h2 : c₀.2.lt dx = false := by
        have := hPc (x, dx) hdx
        simpa [Date.le] using this
      have : c₀.1 = x := by
        rcases charsLt_total c₀.1 x with h | h | h
        · rw [charsLt_dated hc₀d hxd, h2] at h; cases h
        · exact h
        · rw [charsLt_dated hxd hc₀d, h1] at h; cases h
      simp [this]

/-! ### the loop of `findInDir` -/

/-- The best candidate of a directory, as a path. -/
def best (m : Name) (pe : Path × Listing) : Option Path := (bestIn m pe.2).map fun fn => pe.1 ++ [fn]

/-- What the loop returns when no subdirectory yields anything: the exact match if it is still
ahead, else the last of the sorted dated names (those collected so far and those still ahead). -/
def tailOf (m : Name) (dir : Path) (es : Listing) (revs : List Name) : Option Path :=
  if (files es).contains (m ++ dotYang) then some (dir ++ [m ++ dotYang])
  else (lastSorted (revs ++ revsOf m es)).map fun fn => dir ++ [fn]

theorem best_eq_tailOf (m : Name) (dir : Path) (es : Listing) : best m (dir, es) = tailOf m dir es [] := by
  unfold best tailOf bestIn exact?
  rw [← dotYang_eq]
  by_cases h : (files es).contains (m ++ dotYang) = true
  · simp only [h, if_true]; rfl
  · simp only [h, if_false, Bool.false_eq_true, List.nil_append, lastSorted_eq_latestDated]

theorem files_cons_file {fn : Name} {x : FsNode} (h : x.isDir = false) (rest : Listing) :
    files ((fn, x) :: rest) = fn :: files rest := by simp [files, h]

theorem files_cons_dir {fn : Name} {x : FsNode} (h : x.isDir = true) (rest : Listing) :
    files ((fn, x) :: rest) = files rest := by simp [files, h]

theorem tailOf_cons_dir (m : Name) (dir : Path) {fn : Name} {x : FsNode} (h : x.isDir = true) (rest : Listing)
    (revs : List Name) : tailOf m dir ((fn, x) :: rest) revs = tailOf m dir rest revs := by
  unfold tailOf revsOf; rw [files_cons_dir h]

theorem tailOf_cons_exact (m : Name) (dir : Path) {x : FsNode} (h : x.isDir = false) (rest : Listing)
    (revs : List Name) : tailOf m dir ((m ++ dotYang, x) :: rest) revs = some (dir ++ [m ++ dotYang]) := by
  unfold tailOf; rw [files_cons_file h]; simp

theorem tailOf_cons_rev (m : Name) (dir : Path) {fn : Name} {x : FsNode} (h : x.isDir = false)
    (hne : fn ≠ m ++ dotYang) (hrev : isRevisionOf m fn = true) (rest : Listing) (revs : List Name) :
    tailOf m dir ((fn, x) :: rest) revs = tailOf m dir rest (revs ++ [fn]) := by
  unfold tailOf revsOf
  rw [files_cons_file h]
  have : ¬ m ++ dotYang = fn := fun e => hne e.symm
  simp [this, hrev]

theorem tailOf_cons_other (m : Name) (dir : Path) {fn : Name} {x : FsNode} (h : x.isDir = false)
    (hne : fn ≠ m ++ dotYang) (hrev : isRevisionOf m fn = false) (rest : Listing) (revs : List Name) :
    tailOf m dir ((fn, x) :: rest) revs = tailOf m dir rest revs := by
  unfold tailOf revsOf
  rw [files_cons_file h]
  have : ¬ m ++ dotYang = fn := fun e => hne e.symm
  simp [this, hrev]

mutual
/-- With recursion: the best candidate of the first directory, in the order `under`, that has one. -/
theorem findInDir_rec (m : Name) : ∀ (x : FsNode) (dir : Path),
    findInDir (m ++ dotYang) true dir x = (under m dir x).findSome? (best m)
  | .file, dir => by simp [findInDir, under]
  | .dir es, dir => by
    rw [findInDir, under, List.findSome?_append, scan_eq m true es dir []]
    simp [best_eq_tailOf]
theorem scan_eq (m : Name) (recurse : Bool) : ∀ (es : Listing) (dir : Path) (revs : List Name),
    scan (m ++ dotYang) recurse dir es revs =
      ((if recurse then underList m dir es else []).findSome? (best m)).or (tailOf m dir es revs)
  | [], dir, revs => by
    simp only [scan, underList, ite_self, List.findSome?_nil, Option.none_or, tailOf, revsOf, files,
      List.filter_nil, List.map_nil, List.append_nil]
    cases lastSorted revs <;> simp
  | (fn, x) :: rest, dir, revs => by
    unfold scan
    rw [trimSuffix_append]
    cases hx : x.isDir with
    | true =>
      simp only [Bool.not_true, Bool.false_eq_true, if_false]
      rw [tailOf_cons_dir m dir hx]
      cases recurse with
      | false => exact scan_eq m false rest dir revs
      | true =>
        have hu : underList m dir ((fn, x) :: rest) = under m (dir ++ [fn]) x ++ underList m dir rest := by
          rw [underList]; simp [hx]
        simp only [if_true]
        rw [hu, List.findSome?_append, findInDir_rec m x (dir ++ [fn])]
        cases (under m (dir ++ [fn]) x).findSome? (best m) with
        | some p => simp
        | none => simp only [Option.none_or]; exact scan_eq m true rest dir revs
    | false =>
      simp only [Bool.not_false, if_true]
      have hxf : x = .file := by cases x <;> simp_all [FsNode.isDir]
      by_cases hn : fn = m ++ dotYang
      · subst hn
        have hu : underList m dir ((m ++ dotYang, x) :: rest) = [] := by
          rw [underList]; simp [hx, dotYang_eq]
        simp [hu, tailOf_cons_exact m dir hx]
      · have hb : (fn == m ++ dotYang) = false := by simpa using hn
        have hu : underList m dir ((fn, x) :: rest) = underList m dir rest := by
          rw [underList]
          have : (fn == m ++ ".yang".toList) = false := by rw [← dotYang_eq]; exact hb
          rw [this, hxf]
          simp [under, FsNode.isDir]
        simp only [hb, Bool.false_eq_true, if_false, hu]
        cases hr : isRevisionOf m fn with
        | true => simp only [if_true]; rw [scan_eq m recurse rest dir _, tailOf_cons_rev m dir hx hn hr]
        | false => simp only [Bool.false_eq_true, if_false]; rw [scan_eq m recurse rest dir _, tailOf_cons_other m dir hx hn hr]
end

theorem scan_rec (m : Name) : ∀ (es : Listing) (dir : Path) (revs : List Name),
    scan (m ++ dotYang) true dir es revs =
      ((underList m dir es).findSome? (best m)).or (tailOf m dir es revs) :=
  scan_eq m true

theorem scan_flat (m : Name) (dir : Path) (es : Listing) (revs : List Name) :
    scan (m ++ dotYang) false dir es revs = tailOf m dir es revs :=
  scan_eq m false es dir revs

/-! ### one search path entry, the whole search -/

theorem choose_eq (root : FsNode) (path : List Entry) (m : Name) :
    choose root path m = (searchDirs root path m).findSome? (best m) := by
  unfold choose best
  congr 1

/-- `scanDir` on what an entry denotes: the best candidate of the first of the entry's
directories that has one. -/
theorem scanDir_eq (root : FsNode) (m : Name) (e : Entry) :
    scanDir root e.dir (m ++ dotYang) e.recurse = (entryDirs root m e).findSome? (best m) := by
  unfold scanDir entryDirs
  cases hl : lookup root e.dir with
  | none => rfl
  | some node =>
    cases node with
    | file => simp [findInDir]
    | dir es =>
      cases hr : e.recurse with
      | true => simp only [if_true]; exact findInDir_rec m (.dir es) e.dir
      | false =>
        simp only [Bool.false_eq_true, if_false, findInDir, scan_flat, List.findSome?_cons, List.findSome?_nil,
          best_eq_tailOf]
        cases tailOf m e.dir es [] <;> rfl

theorem searchPath_eq (root : FsNode) (m : Name) (p0 : List Name) : ∀ (path : List Name) (entries : List Entry),
    parsePath path = some entries →
    searchPath root (m ++ dotYang) p0 path =
      match (entries.flatMap (entryDirs root m)).findSome? (best m) with
      | some p => .file (render p) p0
      | none => .noSuchFile
  | [], entries, h => by
    simp only [parsePath, Option.some.injEq] at h; subst h; rfl
  | d :: rest, entries, h => by
    unfold parsePath at h
    cases hd : parseEntry d with
    | none => rw [hd] at h; cases h
    | some e =>
      cases hrest : parsePath rest with
      | none => rw [hd, hrest] at h; cases h
      | some es =>
        rw [hd, hrest] at h
        simp only [Option.some.injEq] at h; subst h
        unfold searchPath
        simp only [hd, List.flatMap_cons, List.findSome?_append]
        rw [scanDir_eq]
        cases (entryDirs root m e).findSome? (best m) with
        | some p => rfl
        | none => simp only [Option.none_or]; exact searchPath_eq root m p0 rest es hrest

/-- Names of a module, as opposed to file names: no `/`, not ending in `.yang`. -/
def IsModuleName (m : Name) : Prop := m.contains '/' = false ∧ hasSuffix m dotYang = false

/-- The entries of the current directory have distinct names. -/
def RootOk : FsNode → Prop
  | .file => True
  | .dir es => (es.map (·.1)).Nodup

instance (m : Name) : Decidable (IsModuleName m) := by unfold IsModuleName; infer_instance
instance : (root : FsNode) → Decidable (RootOk root)
  | .file => isTrue trivial
  | .dir es => inferInstanceAs (Decidable (es.map (·.1)).Nodup)

theorem insertEntry_perm (e : Name × FsNode) : ∀ l : Listing, (insertEntry e l).Perm (e :: l)
  | [] => List.Perm.refl _
  | f :: rest => by
    unfold insertEntry
    split
    · exact List.Perm.refl _
    · exact ((insertEntry_perm e rest).cons f).trans (List.Perm.swap e f rest)

theorem normEntries_names : ∀ es : Listing, ((normEntries es).map (·.1)).Perm (es.map (·.1))
  | [] => by simp [normEntries]
  | (n, x) :: rest => by
    rw [normEntries]
    have h1 := (insertEntry_perm (n, x.norm) (normEntries rest)).map (fun e : Name × FsNode => e.1)
    simp only [List.map_cons] at h1 ⊢
    exact h1.trans ((normEntries_names rest).cons n)

theorem rootOk_norm {root : FsNode} (h : RootOk root) : RootOk root.norm := by
  cases root with
  | file => simp [FsNode.norm, RootOk]
  | dir es =>
    simp only [FsNode.norm, RootOk] at h ⊢
    exact (normEntries_names es).nodup_iff.mpr h

theorem find?_of_nodup : ∀ {es : Listing} {fn : Name} {x : FsNode}, (es.map (·.1)).Nodup → (fn, x) ∈ es →
    es.find? (fun e => e.1 == fn) = some (fn, x)
  | [], _, _, _, h => by simp at h
  | e :: rest, fn, x, hnd, h => by
    rw [List.map_cons, List.nodup_cons] at hnd
    rcases List.mem_cons.mp h with h | h
    · subst h; simp
    · have hne : e.1 ≠ fn := by
        intro he
        exact hnd.1 (he ▸ List.mem_map_of_mem (f := (·.1)) h)
      have : (e.1 == fn) = false := by simpa using hne
      rw [List.find?_cons, this]
      exact find?_of_nodup hnd.2 h

theorem mem_files {es : Listing} {fn : Name} (h : fn ∈ files es) : (fn, FsNode.file) ∈ es := by
  unfold files at h
  rw [List.mem_map] at h
  obtain ⟨⟨n, x⟩, hm, rfl⟩ := h
  rw [List.mem_filter] at hm
  cases x with
  | file => exact hm.1
  | dir _ => simp [FsNode.isDir] at hm

theorem bestIn_mem {m : Name} {es : Listing} {fn : Name} (h : bestIn m es = some fn) :
    fn ∈ files es ∧ IsCandidateName m fn := by
  unfold bestIn at h
  cases he : exact? m es with
  | some f =>
    rw [he] at h; simp only [Option.some.injEq] at h; subst h
    unfold exact? at he
    split at he
    · rename_i hc
      simp only [Option.some.injEq] at he; subst he
      exact ⟨by simpa using hc, .inl rfl⟩
    · cases he
  | none =>
    rw [he] at h
    unfold latestDated at h
    rw [Option.map_eq_some_iff] at h
    obtain ⟨c, hc, rfl⟩ := h
    have hm := List.mem_of_find?_eq_some hc
    obtain ⟨hd, hr⟩ := mem_dated hm
    exact ⟨(mem_revsOf.mp hr).1, .inr (by rw [hd]; rfl)⟩

theorem lookup_file_of_mem {es : Listing} {fn : Name} (hnd : (es.map (·.1)).Nodup) (h : fn ∈ files es) :
    lookup (.dir es) [fn] = some .file := by
  simp [lookup, find?_of_nodup hnd (mem_files h)]

theorem files_of_lookup_file {es : Listing} {fn : Name} (h : lookup (.dir es) [fn] = some .file) :
    fn ∈ files es := by
  have h' : (match es.find? (fun e => e.1 == fn) with
      | some e => lookup e.2 []
      | none => none) = some FsNode.file := h
  cases hf : es.find? (fun e => e.1 == fn) with
  | none => rw [hf] at h'; cases h'
  | some e =>
    rw [hf] at h'
    have he2 : e.2 = .file := by
      cases hx : e.2 <;> simp [hx, lookup] at h' ⊢
    have hm := List.mem_of_find?_eq_some hf
    have hn := List.find?_some hf
    simp only [beq_iff_eq] at hn
    unfold files
    rw [List.mem_map]
    exact ⟨e, List.mem_filter.mpr ⟨hm, by simp [he2, FsNode.isDir]⟩, hn⟩

theorem render_singleton (fn : Name) : render [fn] = fn := rfl

theorem exact_of_mem_files {m : Name} {es : Listing} (h : m ++ dotYang ∈ files es) :
    bestIn m es = some (m ++ dotYang) := by
  unfold bestIn exact?
  rw [← dotYang_eq]
  simp [h]

/-- `findFile` for a module name is the specification's choice. -/
theorem findFileIn_module {root : FsNode} (hroot : RootOk root) {path : List Name} {entries : List Entry}
    (hp : parsePath path = some entries) {m : Name} (hm : IsModuleName m) :
    findFileIn root path m =
      match choose root entries m with
      | some p => .file (render p)
          (if (entryDirs root m ⟨[], false⟩).findSome? (best m) = none then path else addPath path dot)
      | none => .noSuchFile := by
  unfold findFileIn
  simp only [hm.1, hm.2, Bool.false_eq_true, if_false]
  rw [choose_eq, searchDirs, List.findSome?_append]
  have hscan := scanDir_eq root m ⟨[], false⟩
  simp only at hscan
  rw [hscan]
  cases hb : (entryDirs root m ⟨[], false⟩).findSome? (best m) with
  | some p =>
    -- found in the current directory
    simp only [Option.some_or, reduceCtorEq, if_false]
    unfold entryDirs at hb
    simp only [lookup] at hb
    cases root with
    | file => simp at hb
    | dir es =>
      simp only [Bool.false_eq_true, if_false, List.findSome?_cons, List.findSome?_nil] at hb
      cases hbest : best m ([], es) with
      | none => rw [hbest] at hb; cases hb
      | some q =>
        rw [hbest] at hb; simp only [Option.some.injEq] at hb; subst hb
        unfold best at hbest
        rw [Option.map_eq_some_iff] at hbest
        obtain ⟨fn, hfn, rfl⟩ := hbest
        simp only [List.nil_append, render_singleton]
        rw [lookup_file_of_mem hroot (bestIn_mem hfn).1]
  | none =>
    simp only [Option.none_or, if_true]
    have hnot : lookup root [m ++ dotYang] ≠ some .file := by
      intro hl
      cases root with
      | file => simp [lookup] at hl
      | dir es =>
        have := exact_of_mem_files (files_of_lookup_file hl)
        unfold entryDirs at hb
        simp only [lookup, Bool.false_eq_true, if_false, List.findSome?_cons, List.findSome?_nil, best, this,
          Option.map_some] at hb
        cases hb
    rw [searchPath_eq root m path path entries hp]
    cases hl : lookup root [m ++ dotYang] with
    | none => rfl
    | some node =>
      cases node with
      | file => exact absurd hl hnot
      | dir _ => rfl

/-! ### whatever is chosen is a candidate (no hypothesis on the tree or the path) -/

theorem scanDir_candidate {root : FsNode} {m : Name} {dir : Path} {r : Bool} {p : Path}
    (h : scanDir root dir (m ++ dotYang) r = some p) :
    ∃ p' fn, p = p' ++ [fn] ∧ IsCandidateName m fn := by
  have := scanDir_eq root m ⟨dir, r⟩
  simp only at this
  rw [this] at h
  obtain ⟨⟨p', es⟩, _, hb⟩ := List.exists_of_findSome?_eq_some h
  unfold best at hb
  rw [Option.map_eq_some_iff] at hb
  obtain ⟨fn, hfn, rfl⟩ := hb
  exact ⟨p', fn, rfl, (bestIn_mem hfn).2⟩

theorem searchPath_candidate {root : FsNode} {m : Name} {p0 : List Name} : ∀ {path : List Name} {n : Name},
    (searchPath root (m ++ dotYang) p0 path).chosen = some n →
    ∃ p fn, n = render (p ++ [fn]) ∧ IsCandidateName m fn
  | [], n, h => by simp [searchPath, Found.chosen] at h
  | d :: rest, n, h => by
    unfold searchPath at h
    cases hd : parseEntry d with
    | none => rw [hd] at h; simp [Found.chosen] at h
    | some e =>
      rw [hd] at h
      simp only at h
      cases hs : scanDir root e.dir (m ++ dotYang) e.recurse with
      | some p =>
        rw [hs] at h
        simp only [Found.chosen, Option.some.injEq] at h
        obtain ⟨p', fn, rfl, hc⟩ := scanDir_candidate hs
        exact ⟨p', fn, h.symm, hc⟩
      | none =>
        rw [hs] at h
        exact searchPath_candidate h

theorem findFileIn_candidate {root : FsNode} {path : List Name} {m : Name} (hm : IsModuleName m) {n : Name}
    (h : (findFileIn root path m).chosen = some n) :
    ∃ p fn, n = render (p ++ [fn]) ∧ IsCandidateName m fn := by
  unfold findFileIn at h
  simp only [hm.1, hm.2, Bool.false_eq_true, if_false] at h
  cases hs : scanDir root [] (m ++ dotYang) false with
  | some p =>
    rw [hs] at h
    simp only at h
    obtain ⟨p', fn, rfl, hc⟩ := scanDir_candidate hs
    cases hl : lookup root [render (p' ++ [fn])] with
    | none => rw [hl] at h; exact searchPath_candidate h
    | some node =>
      rw [hl] at h
      cases node with
      | file =>
        simp only [Found.chosen, Option.some.injEq] at h
        exact ⟨p', fn, h.symm, hc⟩
      | dir _ => exact searchPath_candidate h
  | none =>
    rw [hs] at h
    simp only at h
    cases hl : lookup root [m ++ dotYang] with
    | none => rw [hl] at h; exact searchPath_candidate h
    | some node =>
      rw [hl] at h
      cases node with
      | file =>
        simp only [Found.chosen, Option.some.injEq] at h
        exact ⟨[], m ++ dotYang, by rw [← h]; rfl, .inl (by rw [dotYang_eq])⟩
      | dir _ => exact searchPath_candidate h

end Goyang.Lemmas.File
