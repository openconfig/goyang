import Goyang.Lemmas.LoadOrderProcess
import Goyang.Model.Dump
/-
Load-order independence (C05), part 8: the canonical dump mentions no sequence number — the
dumps of corresponding outcomes are equal.  Core Lean only.
-/
namespace Goyang.Lemmas.LoadOrder
open Goyang.Model

section
variable (σ : Nat → Nat)

mutual
theorem entryDepth_ren : ∀ (e : Entry), entryDepth (Entry.ren σ e) = entryDepth e
  | .mk d c i o => by
    simp only [Entry.ren, entryDepth]
    rw [depthL_renL c, depthL_renL i, depthL_renL o]
theorem depthL_renL : ∀ (l : List Entry), entryDepth.depthL (renL σ l) = entryDepth.depthL l
  | [] => rfl
  | e :: es => by
    simp only [renL, entryDepth.depthL]
    rw [entryDepth_ren e, depthL_renL es]
end

def nameLt (a b : Entry) : Bool := a.name < b.name

theorem sortedKids_ren (l : List Entry) :
    sortBy (fun (a b : Entry) => a.name < b.name) (l.map (Entry.ren σ)) =
      (sortBy (fun (a b : Entry) => a.name < b.name) l).map (Entry.ren σ) :=
  SortAux.sortBy_map (Entry.ren σ) nameLt nameLt l (fun a _ b _ => by simp [nameLt])

end

section
variable {σ : Nat → Nat} {r₁ r₂ : Registry} (h : RegRel σ r₁ r₂)
include h

theorem dumpNode_ren (f : Forest) (modName : String) (root : Entry) (loc : Loc) (e : Entry) :
    dumpNode r₂ (Forest.ren σ f) modName (Entry.ren σ root) (lren σ loc) (Entry.ren σ e) =
      dumpNode r₁ f modName root loc e := by
  unfold dumpNode
  have h1 := instantiatingModuleAt_ren h f loc
  have h2 := namespaceAt_ren h f loc
  simp only [lren] at h1 h2
  simp only [ren_d, renD_listAttr, renD_type, h1, h2, lren, pathString_ren,
    readOnlyAt_ren, renD_kind, renD_hasDir, renD_isRpc, renD_config, renD_mandatory, renD_default, renD_units, renD_key]

theorem dumpTree_ren (f : Forest) (modName : String) (root : Entry) (id : Nat) :
    ∀ (fuel : Nat) (path : Path) (e : Entry),
      dumpTree r₂ (Forest.ren σ f) modName (Entry.ren σ root) (σ id) fuel path (Entry.ren σ e) =
        dumpTree r₁ f modName root id fuel path e
  | 0, _, _ => rfl
  | fuel + 1, path, e => by
    simp only [dumpTree, ren_dir, ren_inp, ren_out, sortedKids_ren, List.map_map]
    have hn := dumpNode_ren h f modName root (id, path) e
    simp only [lren] at hn
    rw [hn]
    congr 2
    · congr 1
      · congr 1
        apply List.map_congr_left
        intro c _
        simp only [Function.comp, ren_name]
        exact dumpTree_ren f modName root id fuel _ c
      · congr 1
        apply List.map_congr_left
        intro c _
        exact dumpTree_ren f modName root id fuel _ c
    · congr 1
      apply List.map_congr_left
      intro c _
      exact dumpTree_ren f modName root id fuel _ c

/-- **Corresponding outcomes have the same canonical dump.** -/
theorem dumpOutcome_ren (errs : List Err) (f : Forest) :
    dumpOutcome { errors := errs, forest := Forest.ren σ f, reg := r₂ } =
      dumpOutcome { errors := errs, forest := f, reg := r₁ } := by
  unfold dumpOutcome
  simp only
  congr 2
  split
  · rfl
  · rw [h.modulesByFullName, List.map_map]
    congr 1
    apply List.map_congr_left
    intro m _
    simp only [Function.comp, Mod.ren_seq, Mod.ren_fullName, tree?_ren h.inj]
    cases f.tree? m.seq with
    | none => rfl
    | some root =>
      simp only [Option.map_some, entryDepth_ren]
      exact dumpTree_ren h f m.fullName root m.seq _ [] root

end

end Goyang.Lemmas.LoadOrder
