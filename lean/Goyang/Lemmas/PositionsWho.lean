import Goyang.Spec.PositionsWho
import Goyang.Lemmas.Tree
import Goyang.Lemmas.PositionsSem
/-
The traversal for the semantic half of C16 (Props/C16Sem.lean): every error of the resolver is bare
or positioned at a statement of a loaded module that its class names (relation `K`), in particular
WHICH statement the errors of the resolver's own stages name (duplicate-key, duplicate-node,
augment-not-found, the deviation classes).  The invariant is threaded through `toEntry` (by the
case lemmas `toEntryBody_cases` / `stepFn_cases` of Lemmas/Traverse.lean, with the bookkeeping that
`toEntry` is only ever called on statements of loaded modules), the augment stage, `fixChoice` and
the deviation stage:

 * the `node` field of every entry IS a statement of a loaded module, so that the class / statement
   relation `K` can be asked of it;
 * `Sites reg K` gives each error site what is known there (the parent statement and the
   substatement that could not be added; the kind of statement whose children are merged; …);
 * the results of `toEntry` carry a shape (`ResShape`): the entry made from statement `n` has `n`
   itself as its source statement (and no children when `n` is a `uses` whose grouping was not
   found), or is a cached (sub)module entry, or the entry of the grouping a `uses` refers to;
 * the conversion state keeps: cached module entries come from `module` / `submodule` statements,
   cached grouping entries from `grouping` statements, pending augments from `augment` statements.

The generic invariant of the traversal (`Traverse.Closure`, `Tree.Closed`) cannot be instantiated
with this one: it asks for closure under `addErr x` for *every* error `x`, while this invariant
speaks about which errors are added, needs the source statement of the node under construction at
`Entry.add` and the shape of the recursive result at `Entry.merge`.
-/
set_option linter.unusedVariables false
set_option linter.unusedSimpArgs false
set_option linter.unusedSectionVars false
open Goyang.Lemmas.ListAux (foldl_inv)
open Goyang.Lemmas.ListAux (forall_mem_snoc)
namespace Goyang.Lemmas.PositionsWho
open Goyang.Model Goyang.Spec.Positions Goyang.Spec.Tree Goyang.Lemmas.Tree Goyang.Lemmas.PositionsSem

variable {K : String → Stmt → Prop}

/-- What the class / statement relation `K` must allow: the error sites of the resolver itself,
each with what is known of the statement at that place. -/
structure Sites (reg : Registry) (K : String → Stmt → Prop) : Prop where
  dupKey : ∀ n c kw, c ∈ n.all kw → kw ∈ keyKws → kw ∈ fieldOrder n.kw → K "duplicate-key" n
  dupNode : ∀ s, (s.kw = "grouping" ∨ ModAugment reg s ∨ IsModKw s.kw ∨ TopOf reg s) → K "duplicate-node" s
  tristate : ∀ n v, v ∈ n.subs → (v.kw = "config" ∨ v.kw = "mandatory") → v.arg ≠ "true" → v.arg ≠ "false" →
    K "bad-tristate" n
  orderedBy : ∀ s, s.kw = "ordered-by" → K "bad-ordered-by" s
  maxEl : ∀ s, s.kw = "max-elements" → K "bad-max-elements" s
  minEl : ∀ s, s.kw = "min-elements" → K "bad-min-elements" s
  unknownGroup : ∀ s, s.kw = "uses" → K "unknown-group" s
  cycle : ∀ s, K "cycle" s
  fuel : ∀ s, K "out-of-fuel" s
  include_ : ∀ s, s.kw = "include" → K "other" s
  devKind : ∀ s dv, s.kw = "deviation" → dv ∈ s.all "deviate" → deviateKinds.contains dv.arg = false →
    K "deviate-unknown-kind" s
  deviation : ∀ cls m dv ds, cls ∈ devStageClasses → m ∈ reg.mods → dv ∈ m.stmt.all "deviation" →
    ds ∈ dv.all "deviate" → ds.arg = devKindOf cls → K cls m.stmt

/-! ### statements of loaded modules -/

theorem within_trans {a b c : Stmt} (h1 : Within a b) (h2 : Within b c) : Within a c :=
  PositionsSem.within_trans h1 h2

theorem stmtOf_within {reg : Registry} {m : Mod} {s : Stmt} (hm : m ∈ reg.mods) (h : Within s m.stmt) : StmtOf reg s :=
  PositionsSem.stmtOf_within hm h

theorem stmtOf_all {reg : Registry} {p c : Stmt} {kw : String} (h : StmtOf reg p) (hc : c ∈ p.all kw) :
    StmtOf reg c := PositionsSem.stmtOf_all h hc

theorem posOK_of_posAt {reg : Registry} {e : Err} (h : PosAt K reg e) : PosOK reg e :=
  PositionsSem.posOK_of_posAt h

theorem posAt_true_of_posOK {reg : Registry} {e : Err} (h : PosOK reg e) : PosAt (fun _ _ => True) reg e :=
  PositionsSem.posAt_true_of_posOK h

/-- What stands in the `node` field of an entry: a statement of a loaded module. -/
def NodeOK (reg : Registry) (s : Stmt) : Prop := StmtOf reg s

theorem nodeOK_of_stmtOf {reg : Registry} {s : Stmt} (h : StmtOf reg s) : NodeOK reg s := h

/-! ### the entry invariant -/

mutual
/-- `P` holds of the data of every node: the node itself, the `Dir` subtrees, rpc input and output. -/
def AllD (P : EData → Prop) : Entry → Prop
  | .mk d c i o => P d ∧ AllDL P c ∧ AllDL P i ∧ AllDL P o
def AllDL (P : EData → Prop) : List Entry → Prop
  | [] => True
  | e :: es => AllD P e ∧ AllDL P es
end

theorem allDL_iff (P : EData → Prop) (l : List Entry) : AllDL P l ↔ ∀ x ∈ l, AllD P x := by
  induction l with
  | nil => simp [AllDL]
  | cons a l ih => simp [AllDL, ih]

theorem allD_mk (P : EData → Prop) (d : EData) (c i o : List Entry) :
    AllD P (.mk d c i o) ↔ P d ∧ (∀ x ∈ c, AllD P x) ∧ (∀ x ∈ i, AllD P x) ∧ (∀ x ∈ o, AllD P x) := by
  simp [AllD, allDL_iff]

/-- The data of one node: its source statement is a statement of a loaded module and each of its
errors is bare or positioned at a statement of a loaded module that its class names. -/
def DOK (K : String → Stmt → Prop) (reg : Registry) (d : EData) : Prop :=
  NodeOK reg d.node ∧ ∀ x ∈ d.errors, PosAt K reg x

/-- That holds of every node of the tree. -/
def EntryOK (K : String → Stmt → Prop) (reg : Registry) (e : Entry) : Prop := AllD (DOK K reg) e

section Closure
variable {reg : Registry}

theorem entryOK_own {e : Entry} (h : EntryOK K reg e) : DOK K reg e.d := by
  cases e with | mk d c i o => exact ((allD_mk _ _ _ _ _).1 h).1

theorem entryOK_withD {e : Entry} (f : EData → EData) (hf : ∀ d, DOK K reg d → DOK K reg (f d)) (h : EntryOK K reg e) :
    EntryOK K reg (e.withD f) := by
  cases e with | mk d c i o =>
  unfold EntryOK at *
  simp only [Entry.withD]
  rw [allD_mk] at h ⊢
  exact ⟨hf d h.1, h.2⟩

/-- A change of the node's data that touches neither the source statement nor the errors. -/
theorem entryOK_withD_same {e : Entry} (f : EData → EData) (hn : ∀ d, (f d).node = d.node)
    (he : ∀ d, (f d).errors = d.errors) (h : EntryOK K reg e) : EntryOK K reg (e.withD f) :=
  entryOK_withD f (fun d hd => ⟨by rw [hn]; exact hd.1, by rw [he]; exact hd.2⟩) h

theorem entryOK_addErrs {e : Entry} {xs : List Err} (hx : ∀ x ∈ xs, PosAt K reg x) (h : EntryOK K reg e) :
    EntryOK K reg (e.addErrs xs) :=
  entryOK_withD _ (fun d hd => ⟨hd.1, List.forall_mem_append.2 ⟨hd.2, hx⟩⟩) h

theorem entryOK_addErr {e : Entry} {x : Err} (hx : PosAt K reg x) (h : EntryOK K reg e) : EntryOK K reg (e.addErr x) :=
  entryOK_withD _ (fun d hd => ⟨hd.1, forall_mem_snoc hd.2 hx⟩) h

theorem mem_allErrorsL (l : List Entry) (x : Err) : x ∈ Entry.allErrorsL l ↔ ∃ e ∈ l, x ∈ e.allErrors := by
  induction l with
  | nil => simp [Entry.allErrorsL]
  | cons a l ih => simp [Entry.allErrorsL, ih]

/-- Everything the error sweep collects from a good tree is good. -/
theorem allErrors_ok (e : Entry) : EntryOK K reg e → ∀ x ∈ e.allErrors, PosAt K reg x := by
  induction e using entry_ind with
  | h d c i o hc hi ho =>
    intro h x hx
    unfold EntryOK at h
    rw [allD_mk] at h
    simp only [Entry.allErrors, List.mem_append, mem_allErrorsL] at hx
    rcases hx with ((⟨y, hy, hxy⟩ | ⟨y, hy, hxy⟩) | ⟨y, hy, hxy⟩) | hx
    · exact hc y hy (h.2.1 y hy) x hxy
    · exact hi y hy (h.2.2.1 y hy) x hxy
    · exact ho y hy (h.2.2.2 y hy) x hxy
    · exact h.1.2 x hx

theorem allErrorsL_ok (l : List Entry) (h : ∀ y ∈ l, EntryOK K reg y) : ∀ x ∈ Entry.allErrorsL l, PosAt K reg x := by
  intro x hx
  obtain ⟨y, hy, hxy⟩ := (mem_allErrorsL _ _).1 hx
  exact allErrors_ok y (h y hy) x hxy

theorem entryOK_importErrors {e c : Entry} (h : EntryOK K reg e) (hc : EntryOK K reg c) :
    EntryOK K reg (e.importErrors c) := by
  unfold Entry.importErrors
  refine entryOK_addErrs ?_ h
  cases c with | mk d cc ci co =>
  have hc' := hc
  unfold EntryOK at hc'
  rw [allD_mk] at hc'
  intro x hx
  simp only [Entry.d, Entry.dir, Entry.inp, Entry.out, List.mem_append] at hx
  rcases hx with ((hx | hx) | hx) | hx
  · exact hc'.1.2 x hx
  · exact allErrorsL_ok _ hc'.2.1 x hx
  · exact allErrorsL_ok _ hc'.2.2.1 x hx
  · exact allErrorsL_ok _ hc'.2.2.2 x hx

theorem entryOK_append {e v : Entry} (h : EntryOK K reg e) (hv : EntryOK K reg v) :
    EntryOK K reg (e.withDir (e.dir ++ [v])) := by
  cases e with | mk d c i o =>
  unfold EntryOK at *
  simp only [Entry.withDir, Entry.dir]
  rw [allD_mk] at h ⊢
  exact ⟨h.1, forall_mem_snoc h.2.1 hv, h.2.2⟩

theorem entryOK_add {e v : Entry} (k : String) (hk : K "duplicate-key" e.d.node) (h : EntryOK K reg e)
    (hv : EntryOK K reg v) : EntryOK K reg (e.add k v) := by
  unfold Entry.add
  split
  · exact entryOK_addErr (posOK_at (entryOK_own h).1 _ hk) h
  · exact entryOK_append h hv

theorem entryOK_dir {e x : Entry} (h : EntryOK K reg e) (hx : x ∈ e.dir) : EntryOK K reg x := by
  cases e with | mk d c i o =>
  unfold EntryOK at h
  rw [allD_mk] at h
  exact h.2.1 x hx

theorem entryOK_merge {e oe : Entry} (ns : Option String) (hk : oe.dir = [] ∨ K "duplicate-node" oe.d.node)
    (h : EntryOK K reg e) (ho : EntryOK K reg oe) : EntryOK K reg (e.merge ns oe) := by
  unfold Entry.merge
  refine foldl_inv (EntryOK K reg) _ _ _ (entryOK_importErrors h ho) ?_
  intro b v hv hb
  dsimp only
  have hv0 : EntryOK K reg v := entryOK_dir ho hv
  have hk' : K "duplicate-node" oe.d.node := by
    rcases hk with hk | hk
    · rw [hk] at hv; cases hv
    · exact hk
  split
  · exact entryOK_addErr (posOK_at (entryOK_own ho).1 _ hk') hb
  · refine entryOK_append hb ?_
    split
    · exact entryOK_withD_same _ (fun d => rfl) (fun d => rfl) hv0
    · exact hv0

end Closure

/-! ### the error sites of the entry layer -/

section Sites
variable {reg : Registry}

theorem tristate_ok (hK : Sites reg K) {n : Stmt} (hn : StmtOf reg n) (kw : String) (hkw : kw = "config" ∨ kw = "mandatory") :
    ∀ x ∈ (tristate n (n.one? kw)).2, PosAt K reg x := by
  intro x hx
  obtain ⟨rfl, v', hv', h1, h2⟩ := tristate_errs n _ x hx
  refine posOK_at hn _ (hK.tristate n v' (List.mem_of_find?_eq_some hv') ?_ h1 h2)
  rw [one?_kw n kw v' hv']; exact hkw

theorem semMax_ok (hK : Sites reg K) {v : Stmt} (hv : StmtOf reg v) (hkw : v.kw = "max-elements") :
    ∀ x ∈ (semMax (some v)).2, PosAt K reg x := by
  intro x hx; rw [semMax_errs v x hx]; exact posOK_at hv _ (hK.maxEl v hkw)

theorem semMin_ok (hK : Sites reg K) {v : Stmt} (hv : StmtOf reg v) (hkw : v.kw = "min-elements") :
    ∀ x ∈ (semMin (some v)).2, PosAt K reg x := by
  intro x hx; rw [semMin_errs v x hx]; exact posOK_at hv _ (hK.minEl v hkw)

theorem listAttrOf_ok (hK : Sites reg K) {s : Stmt} (hs : StmtOf reg s) : ∀ x ∈ (listAttrOf s).2, PosAt K reg x := by
  intro x hx
  rcases listAttrOf_errs s x hx with ⟨o, ho, rfl⟩ | ⟨o, ho, rfl⟩ | ⟨o, ho, rfl⟩
  · exact posOK_at (stmtOf_one hs ho) _ (hK.orderedBy o (one?_kw s _ o ho))
  · exact posOK_at (stmtOf_one hs ho) _ (hK.maxEl o (one?_kw s _ o ho))
  · exact posOK_at (stmtOf_one hs ho) _ (hK.minEl o (one?_kw s _ o ho))

theorem entryOK_errorEntry {root : Mod} {n : Stmt} (hn : StmtOf reg n) (cls : String) (hk : K cls n) :
    EntryOK K reg (errorEntry root n cls) := by
  unfold EntryOK errorEntry
  rw [allD_mk]
  refine ⟨⟨nodeOK_of_stmtOf hn, ?_⟩, by simp, by simp, by simp⟩
  intro x hx
  simp only [List.mem_singleton] at hx
  subst hx
  exact posOK_at hn _ hk

theorem entryOK_e0 (hK : Sites reg K) {root : Mod} {n : Stmt} (hn : StmtOf reg n) : EntryOK K reg (e0 root n) := by
  unfold EntryOK e0
  rw [allD_mk]
  refine ⟨⟨?_, ?_⟩, by simp, by simp, by simp⟩
  · have : (baseData root n).1.node = n := by
      unfold baseData; dsimp only; split
      · rfl
      · split <;> rfl
    dsimp only
    rw [this]
    exact nodeOK_of_stmtOf hn
  · dsimp only
    unfold baseData
    dsimp only
    split
    · exact listAttrOf_ok hK hn
    · split <;> simp

end Sites

/-! ### the traversal of `toEntry` -/

/-- The type resolver of the environment keeps the position discipline. -/
def TresOK (K : String → Stmt → Prop) (env : Env) : Prop :=
  ∀ root scope t, root ∈ env.reg.mods → Within t root.stmt → t.kw = "type" → (∀ s ∈ scope, Within s root.stmt) →
    ∀ e ∈ (env.tres.resolve env.reg root scope t).2, PosAt K env.reg e

/-- `toEntry` is called on a statement `n` (with ancestors `scope`) of the loaded module `root`. -/
structure GoodCall (reg : Registry) (root : Mod) (scope : List Stmt) (n : Stmt) : Prop where
  mem : root ∈ reg.mods
  within : Within n root.stmt
  anc : ∀ s ∈ scope, Within s root.stmt

theorem GoodCall.stmtOf {reg : Registry} {root : Mod} {scope : List Stmt} {n : Stmt} (h : GoodCall reg root scope n) :
    StmtOf reg n := ⟨root, h.mem, h.within⟩

/-- The ancestors handed to the children of `n`. -/
theorem GoodCall.sub {reg : Registry} {root : Mod} {scope : List Stmt} {n : Stmt} (h : GoodCall reg root scope n) :
    ∀ s ∈ n :: scope, Within s root.stmt :=
  List.forall_mem_cons.2 ⟨h.within, h.anc⟩

/-- The grouping found for a `uses` below a good call is a good call. -/
theorem GoodCall.grouping {reg : Registry} {root : Mod} {scope : List Stmt} {n : Stmt} (hg : GoodCall reg root scope n)
    {linked : List Nat} {fuel : Nat} {name : String} {seen : List String} {g : Stmt} {groot : Mod} {gscope : List Stmt}
    (h : (findGrouping reg linked fuel root scope name seen).1 = some (g, groot, gscope)) :
    GoodCall reg groot gscope g := by
  obtain ⟨_, ⟨m, up, hgs, hgm⟩, hcase⟩ := Fuel.findGrouping_sound h
  subst hgs
  rcases hcase with ⟨rfl, pre, hpre⟩ | ⟨hr, hsc⟩
  · have hsc : ∀ s ∈ m :: up, Within s groot.stmt := fun s hs => hg.anc s (hpre ▸ List.mem_append_right _ hs)
    exact ⟨hg.mem, .sub (hsc m List.mem_cons_self) hgm, hsc⟩
  · obtain ⟨rfl, rfl⟩ := List.cons.inj hsc
    exact ⟨hr, .sub (.top _) hgm, fun s hs => List.mem_singleton.mp hs ▸ .top _⟩

/-- Everything held in the conversion state is good; cached module entries come from `module` /
`submodule` statements, cached grouping entries from `grouping` statements, pending augments from
`augment` statements. -/
structure StOK (K : String → Stmt → Prop) (reg : Registry) (st : TState) : Prop where
  cache : ∀ p ∈ st.cache, EntryOK K reg p.2 ∧ IsModKw p.2.d.node.kw
  gcache : ∀ p ∈ st.gcache, EntryOK K reg p.2 ∧ p.2.d.node.kw = "grouping"
  augs : ∀ p ∈ st.augs, ∀ a ∈ p.2, EntryOK K reg a ∧ ModAugment reg a.d.node

theorem stOK_empty (reg : Registry) : StOK K reg {} := ⟨nofun, nofun, nofun⟩

/-- What the entry made from statement `n` looks like at its root: its source statement is `n`
(and it has no children when `n` is a `uses`: the grouping was not found), or it is a cached
(sub)module entry, or it is the entry of the grouping a `uses` refers to (or a cached grouping entry). -/
def ResShape (n : Stmt) (e : Entry) : Prop :=
  (e.d.node = n ∧ (n.kw = "uses" → e.dir = [])) ∨
  (IsModKw n.kw ∧ IsModKw e.d.node.kw) ∨
  ((n.kw = "uses" ∨ n.kw = "grouping") ∧ e.d.node.kw = "grouping")

/-- What the induction hypothesis gives for the recursive calls. -/
def RecOK (K : String → Stmt → Prop) (reg : Registry) (rec : Rec) : Prop :=
  ∀ root scope n visiting st, GoodCall reg root scope n → StOK K reg st →
    EntryOK K reg (rec root scope n visiting st).1 ∧ StOK K reg (rec root scope n visiting st).2 ∧
      ResShape n (rec root scope n visiting st).1

def AccOK (K : String → Stmt → Prop) (reg : Registry) (acc : Entry × TState) : Prop :=
  EntryOK K reg acc.1 ∧ StOK K reg acc.2

theorem entryOK_leafEntry {env : Env} (hK : Sites env.reg K) (ht : TresOK K env) {root : Mod} {scope : List Stmt} {n : Stmt}
    (hg : GoodCall env.reg root scope n) (syn : Bool) : EntryOK K env.reg (leafEntry env root scope n syn) := by
  unfold EntryOK leafEntry
  dsimp only
  rw [allD_mk]
  refine ⟨⟨nodeOK_of_stmtOf hg.stmtOf, ?_⟩, by simp, by simp, by simp⟩
  intro x hx
  dsimp only at hx
  simp only [List.mem_append] at hx
  rcases hx with (hx | hx) | hx
  · split at hx
    · rename_i t htt
      exact ht root (n :: scope) t hg.mem (within_one hg.within htt) (one?_kw n _ t htt) hg.sub x hx
    · simp at hx
  · exact tristate_ok hK hg.stmtOf _ (Or.inl rfl) x hx
  · split at hx
    · simp at hx
    · exact tristate_ok hK hg.stmtOf _ (Or.inr rfl) x hx

section Step
variable {env : Env} (hK : Sites env.reg K) (ht : TresOK K env) {rec : Rec} (hrec : RecOK K env.reg rec)
  (root : Mod) (n : Stmt) (sub : List Stmt) (visiting : List NodeId)
  (hroot : root ∈ env.reg.mods) (hn : Within n root.stmt) (hsub : ∀ s ∈ sub, Within s root.stmt)
include hK hrec hroot hn hsub

omit hrec hroot hn hsub in
/-- The grouping a `uses` resolved to may be reported as the source of a duplicate node. -/
theorem dupNode_of_uses {c : Stmt} {r : Entry} (hu : c.kw = "uses") (h : ResShape c r) :
    r.dir = [] ∨ K "duplicate-node" r.d.node := by
  rcases h with ⟨_, h2⟩ | ⟨h1, _⟩ | ⟨_, h2⟩
  · exact Or.inl (h2 hu)
  · rcases h1 with h1 | h1 <;> (rw [hu] at h1; exact absurd h1 (by decide))
  · exact Or.inr (hK.dupNode _ (Or.inl h2))

omit hK in
/-- A fold that converts each substatement `c ∈ n.all kw` and combines the result into the entry under
construction keeps the invariant, if the combination `g` does (`g` is a step in the sense of `Evolve`,
so the source statement stays `n`). -/
theorem recFold_ok (kw : String) (g : Entry → Stmt → Entry → Entry) (hev : ∀ e c r, Bridge.Evolve true e (g e c r))
    (hg : ∀ e c r, c ∈ n.all kw → EntryOK K env.reg e → e.d.node = n → EntryOK K env.reg r → ResShape c r →
      EntryOK K env.reg (g e c r))
    (acc : Entry × TState) (hnode : acc.1.d.node = n) (h : AccOK K env.reg acc) :
    AccOK K env.reg (kidsFold rec root n sub visiting kw g acc) := by
  refine (kidsFold_inv rec root n sub visiting (fun acc => AccOK K env.reg acc ∧ acc.1.d.node = n) acc ⟨h, hnode⟩ ?_).1
  rintro e st c hc ⟨⟨he, hst⟩, hnd⟩
  obtain ⟨r1, r2, r3⟩ := hrec root sub c visiting st ⟨hroot, within_all hn hc, hsub⟩ hst
  exact ⟨⟨hg e c _ hc he hnd r1 r3, r2⟩, (hev e c _).keeps.1.trans hnd⟩

omit hK hrec hroot hn hsub in
theorem stOK_merged (st : TState) (m : List String) (h : StOK K env.reg st) : StOK K env.reg { st with merged := m } :=
  ⟨h.cache, h.gcache, h.augs⟩

theorem includeFold_ok (acc : Entry × TState) (h : AccOK K env.reg acc) :
    AccOK K env.reg (includeFn env rec root n visiting acc) := by
  refine foldl_inv (AccOK K env.reg) _ _ _ h ?_
  rintro ⟨e, st⟩ a ha ⟨he, hst⟩
  dsimp only
  split
  · exact ⟨entryOK_addErr (posOK_at ⟨root, hroot, within_all hn ha⟩ _ (hK.include_ a (mem_all_kw n _ a ha))) he, hst⟩
  · rename_i im him
    have himm : im ∈ env.reg.mods := Fuel.includeTarget_mem him
    split
    · exact ⟨he, hst⟩
    · split
      · split
        · exact ⟨he, hst⟩
        · -- the included submodule is converted and its children are merged in
          obtain ⟨r1, r2, r3⟩ := hrec im [] im.stmt visiting _ ⟨himm, .top _, by simp⟩ (stOK_merged st _ hst)
          refine ⟨entryOK_merge none (Or.inr (hK.dupNode _ ?_)) he r1, r2⟩
          rcases r3 with ⟨h1, _⟩ | ⟨_, h2⟩ | ⟨_, h2⟩
          · exact Or.inr (Or.inr (Or.inr ⟨im, himm, h1⟩))
          · exact Or.inr (Or.inr (Or.inl h2))
          · exact Or.inl h2
      · split
        · exact ⟨he, hst⟩
        · exact ⟨entryOK_addErr (posOK_bare _ _) he, hst⟩

theorem augFold_ok (hmodn : IsModKw n.kw) (st : TState) (h : StOK K env.reg st) :
    (∀ a ∈ (augsFn rec root n sub visiting st).1, EntryOK K env.reg a ∧ ModAugment env.reg a.d.node) ∧
    StOK K env.reg (augsFn rec root n sub visiting st).2 := by
  refine foldl_inv (fun acc : List Entry × TState =>
    (∀ a ∈ acc.1, EntryOK K env.reg a ∧ ModAugment env.reg a.d.node) ∧ StOK K env.reg acc.2) _ _ _
    ⟨by simp, h⟩ ?_
  rintro ⟨as, st⟩ a ha ⟨has, hst⟩
  obtain ⟨r1, r2, r3⟩ := hrec root sub a visiting st ⟨hroot, within_all hn ha, hsub⟩ hst
  have hkw : a.kw = "augment" := mem_all_kw n _ a ha
  refine ⟨forall_mem_snoc has ⟨r1, ?_⟩, r2⟩
  rcases r3 with ⟨h1, _⟩ | ⟨h1, _⟩ | ⟨h1, _⟩
  · rw [h1]; exact ⟨hkw, n, ⟨root, hroot, hn⟩, hmodn, (List.mem_filter.mp ha).1⟩
  · rcases h1 with h1 | h1 <;> (rw [hkw] at h1; exact absurd h1 (by decide))
  · rcases h1 with h1 | h1 <;> (rw [hkw] at h1; exact absurd h1 (by decide))

omit hK hrec hroot hn hsub in
theorem fieldOrder_deviate {kw : String} (h : "deviate" ∈ fieldOrder kw) : kw = "deviation" := by
  unfold fieldOrder at h
  split at h <;> first | rfl | simp at h

theorem stepFn_ok (isMod : Bool) (hmod : isMod = true → IsModKw n.kw) (acc : Entry × TState) (f : String)
    (hf : f ∈ fieldOrder n.kw) (hnode : acc.1.d.node = n) (h : AccOK K env.reg acc) :
    AccOK K env.reg (stepFn env rec root n sub visiting isMod acc f) := by
  obtain ⟨e, st⟩ := acc
  obtain ⟨he, hst⟩ := h
  dsimp only at he hst hnode
  have hsn : StmtOf env.reg n := ⟨root, hroot, hn⟩
  have fold := fun kw g hev hg => recFold_ok hrec root n sub visiting hroot hn hsub kw g hev hg (e, st) hnode ⟨he, hst⟩
  have data : ∀ g : EData → EData, (∀ d, (g d).node = d.node) → (∀ d, (g d).errors = d.errors) →
      EntryOK K env.reg (e.withD g) := fun g h1 h2 => entryOK_withD_same g h1 h2 he
  have addKey : ∀ kw ∈ addKws, kw ∈ fieldOrder n.kw → ∀ e c r, c ∈ n.all kw → EntryOK K env.reg e → e.d.node = n →
      EntryOK K env.reg r → EntryOK K env.reg (e.add c.arg r) :=
    fun kw hkw hfo e c r hc he hnd hr => entryOK_add _ (hnd ▸ hK.dupKey n c kw hc hkw hfo) he hr
  refine stepFn_cases env rec root n sub visiting isMod (P := fun f r => f ∈ fieldOrder n.kw → AccOK K env.reg r) e st
    ?_ ?_ ?_ ?_ ?_ ?_ ?_ ?_ ?_ ?_ ?_ ?_ ?_ ?_ ?_ ?_ ?_ ?_ ?_ ?_ f hf
  · exact fun _ _ => ⟨he, hst⟩
  · exact fun _ => ⟨entryOK_addErrs (tristate_ok hK hsn _ (Or.inl rfl)) (data _ (fun d => rfl) (fun d => rfl)), hst⟩
  · exact fun _ => ⟨entryOK_addErrs (tristate_ok hK hsn _ (Or.inr rfl)) (data _ (fun d => rfl) (fun d => rfl)), hst⟩
  · exact fun _ _ => ⟨data _ (fun d => rfl) (fun d => rfl), hst⟩
  · exact fun _ _ => ⟨data _ (fun d => rfl) (fun d => rfl), hst⟩
  · exact fun _ _ => ⟨data _ (fun d => rfl) (fun d => rfl), hst⟩
  · exact fun kw hkw hfo => fold kw _ (fun _ _ _ => .add _ _ _) fun e c r hc he hnd hr _ => addKey kw hkw hfo e c r hc he hnd hr
  · exact fun kw hkw _ hfo => fold kw _ (fun _ _ _ => .add _ _ _) fun e c r hc he hnd hr _ =>
      addKey kw hkw hfo e c _ hc he hnd (entryOK_withD_same _ (fun d => rfl) (fun d => rfl) hr)
  · exact fun kw _ _ => fold kw _ (fun _ _ _ => .importErrors _ _) fun e c r _ he _ hr _ => entryOK_importErrors he hr
  · exact fun _ => fold _ _ (fun _ _ _ => .merge _ _ _) fun e c r hc he _ hr hs =>
      entryOK_merge none (dupNode_of_uses hK (mem_all_kw n _ c hc) hs) he hr
  · intro hfo
    refine fold _ _ (fun e c r => ?_) fun e c r hc he _ hr _ => ?_
    · split
      · exact .importErrors _ _
      · exact (Bridge.Evolve.importErrors _ _).trans (.addErr _ _)
    · have hi := entryOK_importErrors he hr
      split
      · exact hi
      · rename_i hkind
        exact entryOK_addErr (posOK_at hsn _ (hK.devKind n c (fieldOrder_deviate hfo) hc (by simpa using hkind))) hi
  · intro i hi _
    obtain ⟨r1, r2, _⟩ := hrec root sub i visiting st ⟨hroot, within_one hn hi, hsub⟩ hst
    refine ⟨?_, r2⟩
    cases e with | mk d c i' o' =>
    rw [EntryOK, allD_mk] at he
    exact (allD_mk ..).2 ⟨he.1, he.2.1, List.forall_mem_singleton.2 (entryOK_withD_same _ (fun d => rfl) (fun d => rfl) r1), he.2.2.2⟩
  · intro o ho _
    obtain ⟨r1, r2, _⟩ := hrec root sub o visiting st ⟨hroot, within_one hn ho, hsub⟩ hst
    refine ⟨?_, r2⟩
    cases e with | mk d c i' o' =>
    rw [EntryOK, allD_mk] at he
    exact (allD_mk ..).2 ⟨he.1, he.2.1, he.2.2.1, List.forall_mem_singleton.2 (entryOK_withD_same _ (fun d => rfl) (fun d => rfl) r1)⟩
  · exact fun _ => includeFold_ok hK hrec root n sub visiting hroot hn hsub (e, st) ⟨he, hst⟩
  · exact fun _ _ => ⟨data _ (fun d => rfl) (fun d => rfl), hst⟩
  · exact fun _ => ⟨entryOK_addErr (posOK_bare _ _) he, hst⟩
  · exact fun _ _ _ => ⟨data _ (fun d => rfl) (fun d => rfl), hst⟩
  · intro _
    have h1 : EntryOK K env.reg (laInit e) := data _ (fun d => rfl) (fun d => rfl)
    exact ⟨fun _ => ⟨h1, hst⟩, fun v hv _ => ⟨entryOK_addErrs (semMax_ok hK (stmtOf_one hsn hv) (one?_kw n _ v hv))
      (entryOK_withD_same _ (fun d => rfl) (fun d => rfl) h1), hst⟩⟩
  · intro _
    have h1 : EntryOK K env.reg (laInit e) := data _ (fun d => rfl) (fun d => rfl)
    exact ⟨fun _ => ⟨h1, hst⟩, fun v hv _ => ⟨entryOK_addErrs (semMin_ok hK (stmtOf_one hsn hv) (one?_kw n _ v hv))
      (entryOK_withD_same _ (fun d => rfl) (fun d => rfl) h1), hst⟩⟩
  · intro hm _
    obtain ⟨a1, a2⟩ := augFold_ok hK hrec root n sub visiting hroot hn hsub (hmod hm) st hst
    exact ⟨he, ⟨a2.cache, a2.gcache, forall_mem_snoc a2.augs a1⟩⟩

end Step

section Body
variable {env : Env} (hK : Sites env.reg K) (ht : TresOK K env) {rec : Rec} (hrec : RecOK K env.reg rec)
  (root : Mod) (n : Stmt) (scope : List Stmt) (visiting : List NodeId)
  (hg : GoodCall env.reg root scope n)
include hK ht hrec hg

theorem dirBody_ok (st : TState) (hst : StOK K env.reg st) (isMod : Bool) (hmod : isMod = true → IsModKw n.kw) :
    EntryOK K env.reg (dirBody env rec root scope n visiting st isMod).1 ∧
      StOK K env.reg (dirBody env rec root scope n visiting st isMod).2 ∧
      (dirBody env rec root scope n visiting st isMod).1.d.node = n := by
  obtain ⟨_, _, _, hnode0, _⟩ := e0_data root n
  have steps : AccOK K env.reg ((fieldOrder n.kw).foldl (stepFn env rec root n (n :: scope) visiting isMod) (e0 root n, st)) ∧
      ((fieldOrder n.kw).foldl (stepFn env rec root n (n :: scope) visiting isMod) (e0 root n, st)).1.d.node = n := by
    refine foldl_inv (fun acc : Entry × TState => AccOK K env.reg acc ∧ acc.1.d.node = n) _ _ _
      ⟨⟨entryOK_e0 hK hg.stmtOf, hst⟩, hnode0⟩ ?_
    intro acc f hf ha
    exact ⟨stepFn_ok hK hrec root n (n :: scope) visiting hg.mem hg.within hg.sub isMod hmod acc f hf ha.2 ha.1,
      (Bridge.evolve_stepFn true env rec root n (n :: scope) visiting isMod acc f nofun).keeps.1.trans ha.2⟩
  obtain ⟨steps, hnode⟩ := steps
  unfold dirBody
  dsimp only
  split
  · rename_i hm
    exact ⟨steps.1, ⟨forall_mem_snoc steps.2.cache ⟨steps.1, by dsimp only; rw [hnode]; exact hmod hm⟩, steps.2.gcache, steps.2.augs⟩, hnode⟩
  · split
    · rename_i hgk
      exact ⟨steps.1, ⟨steps.2.cache, forall_mem_snoc steps.2.gcache ⟨steps.1, by dsimp only; rw [hnode]; exact eq_of_beq hgk⟩, steps.2.augs⟩, hnode⟩
    · exact ⟨steps.1, steps.2, hnode⟩

omit hK ht hrec hg in
theorem withD_node (e : Entry) (f : EData → EData) (hf : ∀ d, (f d).node = d.node) : (e.withD f).d.node = e.d.node := by
  cases e; exact hf _

omit hK ht hrec hg in
theorem withD_dir (e : Entry) (f : EData → EData) : (e.withD f).dir = e.dir := by
  cases e; rfl

/-- One level of `toEntry` keeps the invariant, given that the recursive calls do. -/
theorem toEntryBody_ok (fuel : Nat) (st : TState) (hst : StOK K env.reg st) :
    EntryOK K env.reg (toEntryBody env fuel rec root scope n visiting st).1 ∧
      StOK K env.reg (toEntryBody env fuel rec root scope n visiting st).2 ∧
      ResShape n (toEntryBody env fuel rec root scope n visiting st).1 := by
  have hmodkw : Bridge.isModKw n = true → IsModKw n.kw := fun hm => by simpa [Bridge.isModKw, IsModKw] using hm
  refine toEntryBody_cases env fuel rec root scope n visiting st
    (P := fun r => EntryOK K env.reg r.1 ∧ StOK K env.reg r.2 ∧ ResShape n r.1) ?_ ?_ ?_ ?_ ?_ ?_ ?_ ?_
  · intro p hp hm _
    exact ⟨(hst.cache p hp).1, hst, Or.inr (Or.inl ⟨hmodkw hm, (hst.cache p hp).2⟩)⟩
  · intro p hp hgk
    exact ⟨(hst.gcache p hp).1, hst, Or.inr (Or.inr ⟨Or.inr hgk, (hst.gcache p hp).2⟩)⟩
  · exact fun _ => ⟨entryOK_errorEntry hg.stmtOf _ (hK.cycle n), hst, Or.inl ⟨rfl, fun _ => rfl⟩⟩
  · intro _
    obtain ⟨_, _, _, hnd, _, hdir, _⟩ := leafEntry_data env root scope n false
    exact ⟨entryOK_leafEntry hK ht hg false, hst, Or.inl ⟨hnd, fun _ => hdir⟩⟩
  · intro _
    obtain ⟨_, _, _, hnd, _, hdir, _⟩ := leafEntry_data env root scope n true
    refine ⟨?_, hst, Or.inl ⟨(withD_node _ _ (fun d => rfl)).trans hnd, fun _ => by rw [withD_dir]; exact hdir⟩⟩
    dsimp only
    refine entryOK_withD _ ?_ (entryOK_leafEntry hK ht hg true)
    exact fun d hd => ⟨hd.1, List.forall_mem_append.2 ⟨hd.2, listAttrOf_ok hK hg.stmtOf⟩⟩
  · exact fun hu => ⟨entryOK_errorEntry hg.stmtOf _ (hK.unknownGroup n hu), hst, Or.inl ⟨rfl, fun _ => rfl⟩⟩
  · intro hu g groot gscope hfg
    have hgkw := (Fuel.findGrouping_sound hfg).1
    obtain ⟨r1, r2, r3⟩ := hrec groot gscope g _ st (hg.grouping hfg) hst
    refine ⟨r1, r2, Or.inr (Or.inr ⟨Or.inl hu, ?_⟩)⟩
    rcases r3 with ⟨h1, _⟩ | ⟨h1, _⟩ | ⟨_, h2⟩
    · rw [h1]; exact hgkw
    · rcases h1 with h1 | h1 <;> (rw [hgkw] at h1; exact absurd h1 (by decide))
    · exact h2
  · intro _ _ hu _ _
    obtain ⟨d1, d2, d3⟩ := dirBody_ok hK ht hrec root n scope _ hg st hst (Bridge.isModKw n) hmodkw
    exact ⟨d1, d2, Or.inl ⟨d3, fun h => absurd h hu⟩⟩

end Body

/-- The invariant of `toEntry`: called on a statement of a loaded module in a good state, it
produces a good entry and a good state. -/
theorem toEntry_ok {env : Env} (hK : Sites env.reg K) (ht : TresOK K env) (fuel : Nat) : RecOK K env.reg (toEntry env fuel) := by
  induction fuel with
  | zero =>
    intro root scope n visiting st hg hst
    exact ⟨entryOK_errorEntry hg.stmtOf _ (hK.fuel n), hst, Or.inl ⟨rfl, fun _ => rfl⟩⟩
  | succ fuel ih =>
    intro root scope n visiting st hg hst
    rw [toEntry_succ]
    exact toEntryBody_ok hK ht ih root n scope visiting hg fuel st hst

/-! ### the conversion of all modules -/

theorem tresOK_envOf {reg : Registry} {plug : Plug} (hp : PlugPositionsAt K reg plug) (opts : Opts) :
    TresOK K (envOf reg opts plug) := fun root scope t h1 h2 h3 h4 => hp.resolve root scope t h1 h2 h3 h4

theorem tstate_ok {reg : Registry} (hK : Sites reg K) {plug : Plug} (hp : PlugPositionsAt K reg plug) (opts : Opts) :
    StOK K reg (tstate reg opts plug) := by
  unfold tstate
  refine foldl_inv (StOK K reg) _ _ _ (stOK_empty reg) ?_
  intro st m hm hst
  exact (toEntry_ok hK (tresOK_envOf hp opts) (entryFuel reg) m [] m.stmt [] st
    ⟨keyOrder_mem hm, .top _, by simp⟩ hst).2.1

theorem forestErrs_ok {reg : Registry} {f : Forest} (h : ForestAll (EntryOK K reg) f) :
    ∀ x ∈ forestErrs f, PosAt K reg x := by
  intro x hx
  unfold forestErrs at hx
  simp only [List.mem_flatten, List.mem_map] at hx
  obtain ⟨l, ⟨t, ht, rfl⟩, hxl⟩ := hx
  exact allErrors_ok _ (h t ht) x hxl

/-! ### updates inside a tree -/

theorem entryOK_updateAt {reg : Registry} (f : Entry → Entry) (hf : ∀ x, EntryOK K reg x → EntryOK K reg (f x)) :
    ∀ (path : Path) (e : Entry), EntryOK K reg e → EntryOK K reg (e.updateAt path f) := by
  intro path
  induction path with
  | nil => intro e h; exact hf e h
  | cons s path ih =>
    intro e h
    cases e with | mk d c i o =>
    unfold EntryOK at h ⊢
    rw [allD_mk] at h
    obtain ⟨h1, h2, h3, h4⟩ := h
    cases s with
    | child k =>
      simp only [Entry.updateAt]
      rw [allD_mk]
      refine ⟨h1, List.forall_mem_map.2 fun y hy => ?_, h3, h4⟩
      split
      · exact ih y (h2 y hy)
      · exact h2 y hy
    | input =>
      simp only [Entry.updateAt]
      rw [allD_mk]
      exact ⟨h1, h2, List.forall_mem_map.2 fun y hy => ih y (h3 y hy), h4⟩
    | output =>
      simp only [Entry.updateAt]
      rw [allD_mk]
      exact ⟨h1, h2, h3, List.forall_mem_map.2 fun y hy => ih y (h4 y hy)⟩

theorem entryOK_implicitIO {reg : Registry} {parent : Entry} (h : EntryOK K reg parent) (b : Bool) :
    EntryOK K reg (implicitIO parent b) := by
  unfold EntryOK implicitIO
  rw [allD_mk]
  exact ⟨⟨(entryOK_own h).1, by simp⟩, by simp, by simp, by simp⟩

theorem entryOK_setImplicitIn {reg : Registry} (x : Entry) (hx : EntryOK K reg x) : EntryOK K reg (setImplicitIn x) := by
  have hio := entryOK_implicitIO hx true
  cases x with | mk d c i o =>
  unfold EntryOK setImplicitIn at *
  rw [allD_mk] at hx ⊢
  exact ⟨hx.1, hx.2.1, List.forall_mem_singleton.2 hio, hx.2.2.2⟩

theorem entryOK_setImplicitOut {reg : Registry} (x : Entry) (hx : EntryOK K reg x) : EntryOK K reg (setImplicitOut x) := by
  have hio := entryOK_implicitIO hx false
  cases x with | mk d c i o =>
  unfold EntryOK setImplicitOut at *
  rw [allD_mk] at hx ⊢
  exact ⟨hx.1, hx.2.1, hx.2.2.1, List.forall_mem_singleton.2 hio⟩

theorem entryOK_walkParts {reg : Registry} (parts : List String) (root : Entry) (cur : Option Path)
    (h : EntryOK K reg root) : EntryOK K reg (walkParts parts root cur).2 :=
  walkParts_inv (EntryOK K reg)
    (fun root p h => entryOK_updateAt _ entryOK_setImplicitIn p root h)
    (fun root p h => entryOK_updateAt _ entryOK_setImplicitOut p root h)
    parts root cur h

/-- `find` changes a tree through `walkParts`, or records a bare error on a root. -/
theorem entryOK_find {reg : Registry} (f : Forest) (start : Loc) (ctx : Nat) (name : String)
    (hf : ForestAll (EntryOK K reg) f) : ForestAll (EntryOK K reg) (find reg f start ctx name).2 :=
  find_cases reg f start ctx name (P := fun r => ForestAll (EntryOK K reg) r.2) hf
    (fun _ h => forestAll_setTree _ _ _ hf (entryOK_addErr (posOK_bare _ _) (forestAll_tree? _ _ _ hf h)))
    (fun _ _ _ _ h _ => forestAll_setTree _ _ _ hf (entryOK_walkParts _ _ _ (forestAll_tree? _ _ _ hf h)))

/-! ### the augment stage -/

/-- The state invariant of the augment stage: every tree and every pending augment is good. -/
structure PInv (K : String → Stmt → Prop) (reg : Registry) (s : PState) : Prop where
  trees : ForestAll (EntryOK K reg) s.forest
  pend : ∀ p ∈ s.pending, ∀ a ∈ p.2, EntryOK K reg a
  pendKw : ∀ p ∈ s.pending, ∀ a ∈ p.2, ModAugment reg a.d.node

section Aug
variable {reg : Registry}

theorem augFail_inv (hK : Sites reg K) (id : Nat) (addErrors : Bool) (a : Entry) (s : PState) (un : List Entry) (p k : Nat)
    (ha : EntryOK K reg a) (hanf : addErrors = true → K "augment-not-found" a.d.node)
    (hf : ForestAll (EntryOK K reg) s.forest) :
    ForestAll (EntryOK K reg) (augFail id addErrors a s un p k).1.forest := by
  unfold augFail
  dsimp only
  split
  · rename_i hadd
    split
    · rename_i root hroot
      exact forestAll_setTree _ _ _ hf
        (entryOK_addErr (posOK_at (entryOK_own ha).1 _ (hanf hadd)) (forestAll_tree? _ _ _ hf hroot))
    · exact hf
  · exact hf

theorem augStep_inv (hK : Sites reg K) (id : Nat) (addErrors : Bool) (nsOf : String)
    (acc : PState × List Entry × Nat × Nat) (a : Entry) (hf : ForestAll (EntryOK K reg) acc.1.forest)
    (ha : EntryOK K reg a) (hkw : ModAugment reg a.d.node) (hanf : addErrors = true → K "augment-not-found" a.d.node) :
    ForestAll (EntryOK K reg) (augStep reg id addErrors nsOf acc a).1.forest := by
  obtain ⟨s, un, p, k⟩ := acc
  dsimp only at hf
  have hfind := entryOK_find (K := K) (reg := reg) s.forest (id, []) a.d.nodeMod a.d.name hf
  unfold augStep
  dsimp only
  generalize find reg s.forest (id, []) a.d.nodeMod a.d.name = r at hfind
  obtain ⟨target, forest⟩ := r
  dsimp only at hfind ⊢
  have fail := augFail_inv hK id addErrors a { s with forest := forest } un p k ha hanf hfind
  split
  · exact fail
  · rename_i t path
    split
    · exact fail
    · rename_i te hte
      split
      · exact fail
      · split
        · exact fail
        · rename_i root hroot
          dsimp only at hroot hte ⊢
          exact forestAll_setTree _ _ _ hfind
            (entryOK_updateAt _ (fun x hx => entryOK_merge _ (Or.inr (hK.dupNode _ (Or.inr (Or.inl hkw)))) hx ha) path root (forestAll_tree? _ _ _ hfind hroot))

/-- Every augment still pending may be reported as not found (needed of the reporting sweep only). -/
def PendANF (K : String → Stmt → Prop) (s : PState) : Prop :=
  ∀ p ∈ s.pending, ∀ a ∈ p.2, K "augment-not-found" a.d.node

theorem augmentTree_pendANF (id : Nat) (addErrors : Bool) (s : PState) (h : PendANF K s) :
    PendANF K (augmentTree reg id addErrors s).1 :=
  augmentTree_pending (fun a => K "augment-not-found" a.d.node) reg id addErrors s h

theorem augmentTree_pinv (hK : Sites reg K) (id : Nat) (addErrors : Bool) (s : PState) (h : PInv K reg s)
    (hanf : addErrors = true → PendANF K s) :
    PInv K reg (augmentTree reg id addErrors s).1 := by
  refine ⟨?_, augmentTree_pending _ reg id addErrors s h.pend,
    augmentTree_pending (fun a => ModAugment reg a.d.node) reg id addErrors s h.pendKw⟩
  rw [augmentTree_eq]
  dsimp only
  refine foldl_inv (fun acc : PState × List Entry × Nat × Nat => ForestAll (EntryOK K reg) acc.1.forest) _ _ _ h.trees ?_
  intro acc a ha hacc
  obtain ⟨p, hp, hap⟩ := pendingOf_mem s id a ha
  exact augStep_inv hK id addErrors _ acc a hacc (h.pend p hp a hap) (h.pendKw p hp a hap)
    (fun hadd => hanf hadd p hp a hap)

theorem augmentLoop_pinv (hK : Sites reg K) (fuel : Nat) (mods : Array Nat) (s : PState) (h : PInv K reg s) :
    PInv K reg (augmentLoop reg fuel mods s).2 :=
  augmentLoop_keeps reg (PInv K reg) (fun id s hs => augmentTree_pinv hK id false s hs nofun) fuel mods s h

theorem leftover_pinv (hK : Sites reg K) (left : Array Nat) (s : PState) (h : PInv K reg s) (hanf : PendANF K s) :
    PInv K reg (left.foldl (fun (acc : PState × Nat) id =>
      let (s, p, _) := augmentTree reg id true acc.1
      (s, acc.2 + p)) (s, 0)).1 :=
  (leftover_keeps reg (fun s => PInv K reg s ∧ PendANF K s)
    (fun id s hs => ⟨augmentTree_pinv hK id true s hs.1 (fun _ => hs.2), augmentTree_pendANF id true s hs.2⟩) left s ⟨h, hanf⟩).1

/-! ### `fixChoice` -/

theorem entryOK_wrapCase (x : Entry) (h : EntryOK K reg x) : EntryOK K reg (wrapCase x) := by
  unfold wrapCase
  split
  · exact h
  · unfold EntryOK
    rw [allD_mk]
    exact ⟨⟨(entryOK_own h).1, by simp⟩, List.forall_mem_singleton.2 h, by simp, by simp⟩

theorem entryOK_fixChoice (e : Entry) : EntryOK K reg e → EntryOK K reg (fixChoice e) := by
  induction e using entry_ind with
  | h d c i o hc hi ho =>
    intro h
    rw [fixChoice_eq]
    unfold EntryOK at h ⊢
    rw [allD_mk] at h ⊢
    refine ⟨h.1, ?_, List.forall_mem_map.2 fun z hz => hi z hz (h.2.2.1 z hz),
      List.forall_mem_map.2 fun z hz => ho z hz (h.2.2.2 z hz)⟩
    have hc' := List.forall_mem_map.2 fun z hz => hc z hz (h.2.1 z hz)
    split
    · exact List.forall_mem_map.2 fun y hy => entryOK_wrapCase _ (hc' y hy)
    · exact hc'

theorem pinv_fixAll (s : PState) (h : PInv K reg s) : PInv K reg (fixAll s) := by
  refine ⟨?_, h.pend, h.pendKw⟩
  intro t ht
  simp only [fixAll, List.mem_map] at ht
  obtain ⟨⟨i, e⟩, hie, rfl⟩ := ht
  exact entryOK_fixChoice _ (h.trees _ hie)

end Aug

/-- The pending augments at the start of the augment stage are those the conversion collected. -/
theorem pending0_mem {reg : Registry} {opts : Opts} {plug : Plug} {p : Nat × List Entry} {a : Entry}
    (hp : p ∈ (pstate0 reg opts plug).pending) (ha : a ∈ p.2) : ∃ q ∈ (tstate reg opts plug).augs, a ∈ q.2 := by
  simp only [pstate0, pending0, List.mem_map] at hp
  obtain ⟨m, _, rfl⟩ := hp
  dsimp only at ha
  cases hf : (tstate reg opts plug).augs.find? (fun x => x.1 == m.seq) with
  | none => simp [hf] at ha
  | some q =>
    simp only [hf, Option.map_some, Option.getD_some] at ha
    exact ⟨q, List.mem_of_find?_eq_some hf, ha⟩

theorem pinv_pstate0 {reg : Registry} (hK : Sites reg K) {plug : Plug} (hp : PlugPositionsAt K reg plug) (opts : Opts) :
    PInv K reg (pstate0 reg opts plug) := by
  have hst := tstate_ok hK hp opts
  refine ⟨fun t ht => (hst.cache t ht).1, ?_, ?_⟩
  · intro p hp' a ha
    obtain ⟨q, hq, haq⟩ := pending0_mem hp' ha
    exact (hst.augs q hq a haq).1
  · intro p hp' a ha
    obtain ⟨q, hq, haq⟩ := pending0_mem hp' ha
    exact (hst.augs q hq a haq).2

theorem pinv_afterRounds {reg : Registry} (hK : Sites reg K) {plug : Plug} (hp : PlugPositionsAt K reg plug) (opts : Opts) :
    PInv K reg (afterRounds reg opts plug).2 :=
  afterRounds_state reg opts plug (PInv K reg) (fun fuel mods s h => augmentLoop_pinv hK fuel mods s h)
    (fun s h => pinv_fixAll s h) (pinv_pstate0 hK hp opts)

theorem pinv_preDev {reg : Registry} (hK : Sites reg K) {plug : Plug} (hp : PlugPositionsAt K reg plug) (opts : Opts)
    (hanf : PInv K reg (afterRounds reg opts plug).2 → PendANF K (afterRounds reg opts plug).2) :
    PInv K reg (preDev reg opts plug) := by
  have h1 := pinv_afterRounds hK hp opts
  have h2 : PInv K reg (leftoverPass reg opts plug).1 := leftover_pinv hK _ _ h1 (hanf h1)
  unfold preDev
  split
  · exact pinv_fixAll _ h2
  · exact h2

/-! ### the deviation stage: its errors are returned, positioned at the deviating module's statement -/

section Dev
variable (ms : Stmt) (kind : String) (sd : EData)

/-- What the deviation stage records for a `deviate` statement of kind `kind` of the module with
statement `ms`: bare errors, and errors at `ms` of a class that belongs to that kind. -/
def DevErrs (l : List Err) : Prop :=
  ∀ x ∈ l, (∃ cls, x = Err.bare cls) ∨ ∃ cls ∈ devStageClasses, devKindOf cls = kind ∧ x = Err.at_ ms cls

variable {ms kind}

theorem devErrs_nil : DevErrs ms kind [] := fun _ hx => nomatch hx

theorem DevErrs.snoc_bare {l : List Err} (h : DevErrs ms kind l) (cls : String) : DevErrs ms kind (l ++ [Err.bare cls]) := by
  intro x hx
  rcases List.mem_append.mp hx with hx | hx
  · exact h x hx
  · exact Or.inl ⟨cls, List.mem_singleton.mp hx⟩

theorem devErrs_at {cls : String} (h : cls ∈ devStageClasses ∧ devKindOf cls = kind) :
    DevErrs ms kind [Err.at_ ms cls] :=
  fun x hx => Or.inr ⟨cls, h.1, h.2, List.mem_singleton.mp hx⟩

/-- The positioned classes of the deviation stage, by the kind of `deviate` they belong to. -/
theorem devStage_table :
    (∀ cls ∈ ["deviate-add-many-defaults", "deviate-add-default-exists"],
      cls ∈ devStageClasses ∧ devKindOf cls = "add") ∧
    (∀ cls ∈ ["deviate-no-parent", "deviate-already-removed"],
      cls ∈ devStageClasses ∧ devKindOf cls = "not-supported") ∧
    (∀ cls ∈ ["deviate-delete-default-leaflist", "deviate-delete-default-missing", "deviate-delete-default-mismatch"],
      cls ∈ devStageClasses ∧ devKindOf cls = "delete") := by decide +kernel

variable (ms kind)

theorem dDefault_errs (node : Entry) : DevErrs ms kind (dDefault ms kind sd node).2 := by
  fun_cases dDefault ms kind sd node
  -- `add` of more than one default to a node that is no leaf-list
  case case3 hk _ _ => exact devErrs_at (eq_of_beq hk ▸ devStage_table.1 _ (.head _))
  -- `add` of a default to a node that has one
  case case4 hk _ _ _ => exact devErrs_at (eq_of_beq hk ▸ devStage_table.1 _ (.tail _ (.head _)))
  all_goals exact devErrs_nil

theorem dDefaultDel_errs (node : Entry) : DevErrs ms "delete" (dDefaultDel ms sd node).2 := by
  fun_cases dDefaultDel ms sd node
  -- the target is a leaf-list / has no default / has another default
  case case2 => exact devErrs_at (devStage_table.2.2 _ (.head _))
  case case3 => exact devErrs_at (devStage_table.2.2 _ (.tail _ (.head _)))
  case case4 => exact devErrs_at (devStage_table.2.2 _ (.tail _ (.tail _ (.head _))))
  all_goals exact devErrs_nil

theorem dMinDel_errs (node : Entry) (errs : List Err) (h : DevErrs ms kind errs) : DevErrs ms kind (dMinDel sd node errs).2 := by
  unfold dMinDel
  split
  · dsimp only
    split
    · exact h.snoc_bare _
    · exact h
  · exact h

theorem dMaxDel_errs (node : Entry) (errs : List Err) (h : DevErrs ms kind errs) : DevErrs ms kind (dMaxDel sd node errs).2 := by
  unfold dMaxDel
  split
  · dsimp only
    split
    · exact h.snoc_bare _
    · exact h
  · exact h

/-- The errors of one deviate statement, and: only `not-supported` asks for the removal of the target. -/
theorem applyOneDeviate_errs (opts : Opts) (spec : Entry) (hp : Bool) (node : Entry) :
    DevErrs ms kind (applyOneDeviate opts ms kind spec hp node).2.2 ∧
      ((applyOneDeviate opts ms kind spec hp node).2.1 = true → kind = "not-supported") := by
  rw [applyOneDeviate_eq]
  have hd := fun n => dDefault_errs ms kind spec.d n
  have hdel := fun n => dDefaultDel_errs ms spec.d n
  fun_cases applyOneDeviate' ms kind spec.d opts hp node
  -- add / replace: min-elements or max-elements on a node that is no list; the full overlay
  case case1 | case2 => exact ⟨(hd _).snoc_bare _, nofun⟩
  case case3 => exact ⟨hd _, nofun⟩
  -- not-supported: a target without parent; otherwise the removal is asked for
  case case4 =>
    exact ⟨devErrs_at (eq_of_beq ‹(kind == "not-supported") = true› ▸ devStage_table.2.1 _ (.head _)), nofun⟩
  case case5 => exact ⟨devErrs_nil, fun _ => eq_of_beq ‹(kind == "not-supported") = true›⟩
  -- delete: as for add / replace, with the delete forms of the steps
  case case6 => exact ⟨eq_of_beq ‹(kind == "delete") = true› ▸ (hdel _).snoc_bare _, nofun⟩
  case case7 =>
    exact ⟨eq_of_beq ‹(kind == "delete") = true› ▸ (dMinDel_errs ms "delete" spec.d _ _ (hdel _)).snoc_bare _, nofun⟩
  case case8 =>
    exact ⟨eq_of_beq ‹(kind == "delete") = true› ▸
      dMaxDel_errs ms "delete" spec.d _ _ (dMinDel_errs ms "delete" spec.d _ _ (hdel _)), nofun⟩
  -- any other kind
  case case9 => exact ⟨devErrs_nil.snoc_bare _, nofun⟩

/-- Such errors are good for every relation that admits the classes of that kind at `ms`. -/
theorem DevErrs.errsOK {reg : Registry} {ms : Stmt} {kind : String} {l : List Err} (h : DevErrs ms kind l) (hms : StmtOf reg ms)
    (hK : ∀ cls ∈ devStageClasses, devKindOf cls = kind → K cls ms) : ErrsOK K reg l := by
  intro x hx
  rcases h x hx with ⟨cls, rfl⟩ | ⟨cls, hc, hk, rfl⟩
  · exact posOK_bare _ _
  · exact posOK_at hms _ (hK cls hc hk)

end Dev

theorem applyDeviations_errs {reg : Registry} (hK : Sites reg K) (opts : Opts) {m : Mod} (hm : m ∈ reg.mods)
    (devs : List (Stmt × List (String × Entry)))
    (hdevs : ∀ d ∈ devs, d.1 ∈ m.stmt.all "deviation" ∧ ∀ ds ∈ d.2, ∃ s ∈ d.1.all "deviate", s.arg = ds.1) (f : Forest) :
    ErrsOK K reg (applyDeviations reg opts m devs f).2 := by
  have hms : StmtOf reg m.stmt := ⟨m, hm, .top _⟩
  unfold applyDeviations
  refine foldl_inv (fun acc : Forest × List Err => ErrsOK K reg acc.2) _ devs (f, []) errsOK_nil ?_
  rintro ⟨f, errs⟩ ⟨dstmt, deviates⟩ hmem hP
  obtain ⟨hdv, hds⟩ := hdevs _ hmem
  dsimp only at hP hdv hds ⊢
  generalize find reg f (m.seq, []) m.seq dstmt.arg = r
  obtain ⟨target, f'⟩ := r
  dsimp only
  split
  · exact errsOK_snoc hP (posOK_bare _ _)
  · rename_i t path
    split
    · exact errsOK_snoc hP (posOK_bare _ _)
    · rename_i node0 hn0
      dsimp only
      refine foldl_inv (fun acc : Forest × Entry × Bool × List Err => ErrsOK K reg acc.2.2.2) _ deviates _ hP ?_
      rintro ⟨f2, node, detached, errs2⟩ ds hdsm hacc
      obtain ⟨sd, hsd, hsarg⟩ := hds ds hdsm
      have hKd : ∀ cls ∈ devStageClasses, devKindOf cls = ds.1 → K cls m.stmt :=
        fun cls hc hk => hK.deviation cls m dstmt sd hc hm hdv hsd (hsarg.trans hk.symm)
      dsimp only at hacc ⊢
      refine errsOK_append hacc ?_
      obtain ⟨h1, hrm⟩ := applyOneDeviate_errs m.stmt ds.1 opts ds.2 (!path.isEmpty) node
      have h1 := h1.errsOK hms hKd
      split
      · rename_i hrem
        have hkind : ds.1 = "not-supported" := hrm (by simp only [Bool.and_eq_true] at hrem; exact hrem.1)
        have hrmv := devStage_table.2.1 "deviate-already-removed" (.tail _ (.head _))
        exact errsOK_snoc h1 (posOK_at hms _ (hKd _ hrmv.1 (hrmv.2.trans hkind.symm)))
      · exact h1

theorem devStage_errs {reg : Registry} (hK : Sites reg K) (opts : Opts) (plug : Plug) (f0 : Forest) :
    ErrsOK K reg (devStage reg opts plug f0).2.1 := by
  unfold devStage
  refine foldl_inv (fun acc : Forest × List Err × List String => ErrsOK K reg acc.2.1) _ _ _ errsOK_nil ?_
  rintro ⟨f, errs, done⟩ m hm hP
  dsimp only at hP ⊢
  split
  · exact hP
  · dsimp only
    refine errsOK_append hP (applyDeviations_errs hK opts (keyOrder_mem hm) _ ?_ _)
    intro d hd
    simp only [List.mem_map] at hd
    obtain ⟨dv, hdv, rfl⟩ := hd
    refine ⟨hdv, ?_⟩
    intro ds hds
    simp only [List.mem_filterMap] at hds
    obtain ⟨s, hs, hsome⟩ := hds
    refine ⟨s, hs, ?_⟩
    split at hsome
    · simp only [Option.some.injEq] at hsome
      rw [← hsome]
    · cases hsome

/-! ### the whole of `processAll` -/

attribute [local irreducible] leftoverRounds in
theorem processAll_errors_ok {reg : Registry} (hK : Sites reg K) {plug : Plug} (hp : PlugPositionsAt K reg plug) (opts : Opts)
    (hanf : PInv K reg (afterRounds reg opts plug).2 → PendANF K (afterRounds reg opts plug).2) :
    ErrsOK K reg (processAll reg opts plug).errors := by
  rw [processAll_eq]
  split
  · intro x hx
    have hx := mem_canonErrs hx
    unfold stage1Errs at hx
    simp only [List.mem_append] at hx
    rcases hx with (hx | hx) | hx
    · exact linkAll_errs reg x hx
    · exact hp.identity x hx
    · exact hp.typedefs x hx
  · split
    · intro x hx
      exact forestErrs_ok (fun t ht => ((tstate_ok hK hp opts).cache t ht).1) x (mem_canonErrs hx)
    · intro x hx
      have hx := mem_canonErrs hx
      rcases List.mem_append.mp hx with hx | hx
      · exact forestErrs_ok (pinv_preDev hK hp opts hanf).trees x hx
      · exact devStage_errs hK opts plug _ x hx

/-! ### the relation of the specification is allowed by the sites -/

theorem mem_all_sub {n c : Stmt} {kw : String} (h : c ∈ n.all kw) : c ∈ n.subs ∧ c.kw = kw :=
  ⟨(List.mem_filter.mp h).1, mem_all_kw n kw c h⟩

/-- `Who` for an augment that could not be applied.  (The conjuncts of `Who`, in order: duplicate-key,
duplicate-node, augment-not-found, deviate-unknown-kind, the classes of the deviation stage.) -/
theorem who_augNF {reg : Registry} {s : Stmt} (h : ModAugment reg s) : Who reg "augment-not-found" s :=
  ⟨fun e => absurd e (by decide), fun e => absurd e (by decide), fun _ => h, fun e => absurd e (by decide),
    fun e => absurd e (by decide)⟩

/-- `Who` for a class of the deviation stage. -/
theorem who_deviation {reg : Registry} {cls : String} {s : Stmt} (hc : cls ∈ devStageClasses)
    (h : TopOf reg s ∧ ∃ dv ∈ s.subs, dv.kw = "deviation" ∧ ∃ ds ∈ dv.subs, ds.kw = "deviate" ∧ ds.arg = devKindOf cls) :
    Who reg cls s :=
  ⟨fun e => absurd (e ▸ hc) (by decide), fun e => absurd (e ▸ hc) (by decide), fun e => absurd (e ▸ hc) (by decide),
    fun e => absurd (e ▸ hc) (by decide), fun _ => h⟩

/-- The sites of the resolver allow `NamesW reg`: what `Names` says (entry layer classes) and what
`Who reg` says (duplicate keys and nodes, augment targets, deviations). -/
theorem sites_namesW (reg : Registry) : Sites reg (NamesW reg) where
  dupKey n c kw hc hkw hfo :=
    have ⟨h1, h2⟩ := mem_all_sub hc
    ⟨sites_names.dupKey n, fun _ => ⟨c, h1, h2 ▸ hkw, h2 ▸ hfo⟩, fun e => absurd e (by decide),
      fun e => absurd e (by decide), fun e => absurd e (by decide), fun e => absurd e (by decide)⟩
  dupNode s hs :=
    ⟨sites_names.dupNode s, fun e => absurd e (by decide), fun _ => hs, fun e => absurd e (by decide),
      fun e => absurd e (by decide), fun e => absurd e (by decide)⟩
  tristate n v hv hk h1 h2 := ⟨sites_names.tristate n v hv hk h1 h2, who_free reg _ (by decide)⟩
  orderedBy s hs := ⟨sites_names.orderedBy s hs, who_free reg _ (by decide)⟩
  maxEl s hs := ⟨sites_names.maxEl s hs, who_free reg _ (by decide)⟩
  minEl s hs := ⟨sites_names.minEl s hs, who_free reg _ (by decide)⟩
  unknownGroup s hs := ⟨sites_names.unknownGroup s hs, who_free reg _ (by decide)⟩
  cycle s := ⟨sites_names.cycle s, who_free reg _ (by decide)⟩
  fuel s := ⟨sites_names.fuel s, who_free reg _ (by decide)⟩
  include_ s hs := ⟨sites_names.include_ s hs, who_free reg _ (by decide)⟩
  devKind s dv hs hdv hk :=
    have ⟨h1, h2⟩ := mem_all_sub hdv
    ⟨sites_names.devKind s, fun e => absurd e (by decide), fun e => absurd e (by decide), fun e => absurd e (by decide),
      fun _ => ⟨hs, dv, h1, h2, hk⟩, fun e => absurd e (by decide)⟩
  deviation cls m dv ds hc hm hdv hds hkind :=
    have ⟨h1, h2⟩ := mem_all_sub hdv
    have ⟨h3, h4⟩ := mem_all_sub hds
    ⟨sites_names.deviation cls m.stmt hc, who_deviation hc ⟨⟨m, hm, rfl⟩, dv, h1, h2, ds, h3, h4, hkind⟩⟩

theorem namesWP_of_namesW {P : Stmt → Prop} {reg : Registry} {cls : String} {s : Stmt} (h : NamesW reg cls s)
    (hc : cls ≠ "augment-not-found") : NamesWP P reg cls s :=
  ⟨h.1, h.2, fun e => absurd e hc⟩

/-- The same with one more condition on the statement named by `augment-not-found` (no site of the
entry layer, of the loop or of the deviation stage builds that class). -/
theorem sites_namesWP (P : Stmt → Prop) (reg : Registry) : Sites reg (NamesWP P reg) where
  dupKey n c kw h1 h2 h3 := namesWP_of_namesW ((sites_namesW reg).dupKey n c kw h1 h2 h3) (by decide)
  dupNode s hs := namesWP_of_namesW ((sites_namesW reg).dupNode s hs) (by decide)
  tristate n v hv hk h1 h2 := namesWP_of_namesW ((sites_namesW reg).tristate n v hv hk h1 h2) (by decide)
  orderedBy s hs := namesWP_of_namesW ((sites_namesW reg).orderedBy s hs) (by decide)
  maxEl s hs := namesWP_of_namesW ((sites_namesW reg).maxEl s hs) (by decide)
  minEl s hs := namesWP_of_namesW ((sites_namesW reg).minEl s hs) (by decide)
  unknownGroup s hs := namesWP_of_namesW ((sites_namesW reg).unknownGroup s hs) (by decide)
  cycle s := namesWP_of_namesW ((sites_namesW reg).cycle s) (by decide)
  fuel s := namesWP_of_namesW ((sites_namesW reg).fuel s) (by decide)
  include_ s hs := namesWP_of_namesW ((sites_namesW reg).include_ s hs) (by decide)
  devKind s dv h1 h2 h3 := namesWP_of_namesW ((sites_namesW reg).devKind s dv h1 h2 h3) (by decide)
  deviation cls m dv ds hc hm h1 h2 h3 :=
    namesWP_of_namesW ((sites_namesW reg).deviation cls m dv ds hc hm h1 h2 h3) fun e => absurd (e ▸ hc) (by decide)

/-- `s` is the source statement of an augment that is still pending when the augment loop, FixChoice
and all retry rounds are over (`afterRounds`): one that none of them could apply. -/
def LeftOver (reg : Registry) (opts : Opts) (plug : Plug) (s : Stmt) : Prop :=
  ∃ p ∈ (afterRounds reg opts plug).2.pending, ∃ a ∈ p.2, a.d.node = s

/-- The whole of `processAll`, with `augment-not-found` tied to the augments the loop and the retry
rounds left pending: only the reporting sweep builds that class, for entries of its pending lists,
and those lists only shrink. -/
theorem processAll_errors_okP {reg : Registry} {plug : Plug} (opts : Opts)
    (hp : PlugPositionsAt (NamesWP (LeftOver reg opts plug) reg) reg plug) :
    ErrsOK (NamesWP (LeftOver reg opts plug) reg) reg (processAll reg opts plug).errors := by
  refine processAll_errors_ok (sites_namesWP _ reg) hp opts ?_
  intro hpinv p hp' a ha
  exact ⟨sites_names.augNF _, who_augNF (hpinv.pendKw p hp' a ha), fun _ => ⟨p, hp', a, ha, rfl⟩⟩

/-- … and the form without the extra condition (`NamesW`). -/
theorem processAll_errors_okW {reg : Registry} {plug : Plug} (opts : Opts)
    (hp : PlugPositionsAt (NamesW reg) reg plug) : ErrsOK (NamesW reg) reg (processAll reg opts plug).errors :=
  processAll_errors_ok (sites_namesW reg) hp opts
    fun hpinv p hp' a ha => ⟨sites_names.augNF _, who_augNF (hpinv.pendKw p hp' a ha)⟩

/-- A relation that admits every site of the resolver unconditionally admits the informative ones. -/
theorem sites_of_plain (reg : Registry) (h : PositionsSem.Sites K) : Sites reg K :=
  ⟨fun n _ _ _ _ _ => h.dupKey n, fun s _ => h.dupNode s, h.tristate, h.orderedBy, h.maxEl, h.minEl, h.unknownGroup,
   h.cycle, h.fuel, h.include_, fun s _ _ _ _ => h.devKind s, fun cls m _ _ hc _ _ _ _ => h.deviation cls m.stmt hc⟩

/-- The whole of `processAll` for such a relation. -/
theorem processAll_errors_okS {reg : Registry} (hK : PositionsSem.Sites K) {plug : Plug} (hp : PlugPositionsAt K reg plug)
    (opts : Opts) : ErrsOK K reg (processAll reg opts plug).errors :=
  processAll_errors_ok (sites_of_plain reg hK) hp opts (fun _ _ _ a _ => hK.augNF a.d.node)

end Goyang.Lemmas.PositionsWho
