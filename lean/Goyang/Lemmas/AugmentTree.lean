import Goyang.Lemmas.AugmentConfl
/-
C07 — tree level: how `Entry.merge`, `Entry.updateAt` and the step loop of `Find` act on the flat
view (`Spec.Augment.walk`).  No uniqueness of child names is assumed anywhere: `walk` only ever
sees the first child of a name, exactly as `Entry.child?` / Go's map lookup does.
-/
namespace Goyang.Lemmas.AugmentTree
open Goyang.Model Goyang.Spec.Augment Goyang.Lemmas.AugmentConfl

/-! ### accessors -/

@[simp] theorem withD_d (e : Entry) (f : EData → EData) : (e.withD f).d = f e.d := by cases e; rfl
@[simp] theorem withD_dir (e : Entry) (f : EData → EData) : (e.withD f).dir = e.dir := by cases e; rfl
@[simp] theorem withD_inp (e : Entry) (f : EData → EData) : (e.withD f).inp = e.inp := by cases e; rfl
@[simp] theorem withD_out (e : Entry) (f : EData → EData) : (e.withD f).out = e.out := by cases e; rfl
@[simp] theorem withDir_d (e : Entry) (c : List Entry) : (e.withDir c).d = e.d := by cases e; rfl
@[simp] theorem withDir_dir (e : Entry) (c : List Entry) : (e.withDir c).dir = c := by cases e; rfl
@[simp] theorem withDir_inp (e : Entry) (c : List Entry) : (e.withDir c).inp = e.inp := by cases e; rfl
@[simp] theorem withDir_out (e : Entry) (c : List Entry) : (e.withDir c).out = e.out := by cases e; rfl
@[simp] theorem mk_d (d : EData) (c i o : List Entry) : (Entry.mk d c i o).d = d := rfl
@[simp] theorem mk_dir (d : EData) (c i o : List Entry) : (Entry.mk d c i o).dir = c := rfl
@[simp] theorem mk_inp (d : EData) (c i o : List Entry) : (Entry.mk d c i o).inp = i := rfl
@[simp] theorem mk_out (d : EData) (c i o : List Entry) : (Entry.mk d c i o).out = o := rfl

theorem entry_ext {x y : Entry} (hd : x.d = y.d) (hc : x.dir = y.dir) (hi : x.inp = y.inp) (ho : x.out = y.out) :
    x = y := by
  cases x; cases y; simp only [mk_d, mk_dir, mk_inp, mk_out] at hd hc hi ho; subst hd hc hi ho; rfl

/-- Same observable data (everything but the error list). -/
def SameData (x y : Entry) : Prop := nodeData x.d = nodeData y.d

theorem SameData.refl (x : Entry) : SameData x x := rfl
theorem SameData.symm {x y : Entry} (h : SameData x y) : SameData y x := Eq.symm h
theorem SameData.trans {x y z : Entry} (h : SameData x y) (h' : SameData y z) : SameData x z := Eq.trans h h'

theorem SameData.field {α} (f : EData → α) {x y : Entry} (h : SameData x y) :
    f (nodeData x.d) = f (nodeData y.d) := by
  have h' : nodeData x.d = nodeData y.d := h
  rw [h']
theorem SameData.isRpc {x y : Entry} (h : SameData x y) : x.d.isRpc = y.d.isRpc := h.field EData.isRpc
theorem SameData.name {x y : Entry} (h : SameData x y) : x.name = y.name := h.field EData.name
theorem SameData.implicitIO {x y : Entry} (h : SameData x y) (b : Bool) : implicitIO x b = implicitIO y b := by
  have h1 : x.d.node = y.d.node := h.field EData.node
  have h2 : x.d.nodeMod = y.d.nodeMod := h.field EData.nodeMod
  have h3 : x.d.nodeKw = y.d.nodeKw := h.field EData.nodeKw
  simp [Goyang.Model.implicitIO, h1, h2, h3]

theorem sameData_of_d {x y : Entry} (h : x.d = y.d) : SameData x y := by simp [SameData, h]

/-- The data found at a name path. -/
def dataAt (e : Entry) (P : NPath) : Option EData := (walk e P).map fun x => nodeData x.d

theorem find?_map_name {g : Entry → Entry} (hg : ∀ x, (g x).name = x.name) (c : List Entry) (k : String) :
    (c.map g).find? (·.name == k) = (c.find? (·.name == k)).map g := by
  induction c with
  | nil => rfl
  | cons x xs ih =>
    simp only [List.map_cons, List.find?_cons, hg]
    cases h : (x.name == k) <;> simp [ih]

/-! ### `Entry.merge` -/

/-- The copy `merge` files: stamped when a namespace is given. -/
def stampO (ns : Option String) (v : Entry) : Entry :=
  match ns with
  | some n => v.withD fun d => { d with ns := some n }
  | none => v

@[simp] theorem stampO_name (ns : Option String) (v : Entry) : (stampO ns v).name = v.name := by
  cases ns <;> simp [stampO, Entry.name]

theorem stampO_some (n : String) (v : Entry) : stampO (some n) v = stamp n v := rfl

/-- One iteration of the loop in `merge`. -/
def mstep (ns : Option String) (oe : Entry) (e v : Entry) : Entry :=
  match e.child? (stampO ns v).name with
  | some _ => e.addErr (Err.at_ oe.d.node "duplicate-node")
  | none => e.withDir (e.dir ++ [stampO ns v])

theorem merge_eq (e : Entry) (ns : Option String) (oe : Entry) :
    e.merge ns oe = oe.dir.foldl (mstep ns oe) (e.importErrors oe) := by
  unfold Entry.merge mstep stampO
  cases ns <;> rfl

theorem mstep_sameData (ns : Option String) (oe e v : Entry) : SameData (mstep ns oe e v) e := by
  unfold mstep
  split <;> simp [SameData, Entry.addErr, nodeData]

theorem mstep_inp (ns : Option String) (oe e v : Entry) : (mstep ns oe e v).inp = e.inp := by
  unfold mstep; split <;> simp [Entry.addErr]
theorem mstep_out (ns : Option String) (oe e v : Entry) : (mstep ns oe e v).out = e.out := by
  unfold mstep; split <;> simp [Entry.addErr]

theorem mstep_errors_mono (ns : Option String) (oe e v : Entry) {x : Err} (h : x ∈ e.d.errors) :
    x ∈ (mstep ns oe e v).d.errors := by
  unfold mstep; split <;> simp [Entry.addErr, h]

theorem fold_mstep_induct {P : Entry → Prop} (ns : Option String) (oe : Entry) : ∀ (L : List Entry) (e : Entry),
    (∀ z, ∀ v ∈ L, P z → P (mstep ns oe z v)) → P e → P (L.foldl (mstep ns oe) e)
  | [], _, _, h => h
  | v :: L, e, hs, h =>
    fold_mstep_induct ns oe L _ (fun z w hw => hs z w (List.mem_cons_of_mem _ hw)) (hs e v List.mem_cons_self h)

theorem fold_mstep_errors_mono (ns : Option String) (oe : Entry) (L : List Entry) (e : Entry) {x : Err}
    (h : x ∈ e.d.errors) : x ∈ (L.foldl (mstep ns oe) e).d.errors :=
  fold_mstep_induct ns oe L e (fun z v _ hz => mstep_errors_mono ns oe z v hz) h

/-- Children present before stay the first of their name. -/
theorem mstep_child_mono (ns : Option String) (oe e v : Entry) {k : String} {c : Entry}
    (h : e.child? k = some c) : (mstep ns oe e v).child? k = some c := by
  unfold mstep
  split
  · simpa [Entry.child?, Entry.addErr] using h
  · simp only [Entry.child?, withDir_dir, List.find?_append]
    simp only [Entry.child?] at h
    simp [h]

/-- No name of `L` is taken in `e`, and the names of `L` are distinct. -/
def FreeIn (e : Entry) (L : List Entry) : Prop :=
  (∀ c ∈ L, e.child? c.name = none) ∧ (L.map (·.name)).Nodup

theorem mstep_free (ns : Option String) (oe : Entry) {e v : Entry} (hv : e.child? v.name = none) :
    mstep ns oe e v = e.withDir (e.dir ++ [stampO ns v]) := by
  unfold mstep; simp [hv]

theorem freeIn_cons (ns : Option String) (e v : Entry) (L : List Entry) :
    FreeIn e (v :: L) ↔ e.child? v.name = none ∧ FreeIn (e.withDir (e.dir ++ [stampO ns v])) L := by
  have hchild : ∀ c : Entry, (e.withDir (e.dir ++ [stampO ns v])).child? c.name = none ↔
      e.child? c.name = none ∧ v.name ≠ c.name := by
    intro c
    simp only [Entry.child?, withDir_dir, List.find?_append, Option.or_eq_none_iff, List.find?_cons, stampO_name]
    cases h : v.name == c.name
    · simp [ne_of_beq_false h]
    · simp [eq_of_beq h]
  simp only [FreeIn, List.forall_mem_cons, List.map_cons, List.nodup_cons, List.mem_map, hchild]
  constructor
  · rintro ⟨⟨hv, hL⟩, hn, hnd⟩
    exact ⟨hv, fun c hc => ⟨hL c hc, fun h => hn ⟨c, hc, h.symm⟩⟩, hnd⟩
  · rintro ⟨hv, hL, hnd⟩
    exact ⟨⟨hv, fun c hc => (hL c hc).1⟩, fun ⟨c, hc, h⟩ => (hL c hc).2 h.symm, hnd⟩

/-- Collision-free merge loop: every node is filed, in order, behind the old children; no error. -/
theorem fold_mstep_free (ns : Option String) (oe : Entry) (L : List Entry) (e : Entry) (hf : FreeIn e L) :
    (L.foldl (mstep ns oe) e).dir = e.dir ++ L.map (stampO ns) ∧
    (L.foldl (mstep ns oe) e).d = e.d := by
  induction L generalizing e with
  | nil => simp
  | cons v L ih =>
    obtain ⟨hv, hf'⟩ := (freeIn_cons ns e v L).mp hf
    obtain ⟨h1, h2⟩ := ih _ hf'
    rw [List.foldl_cons, mstep_free ns oe hv]
    exact ⟨by rw [h1]; simp, by rw [h2]; simp⟩

/-- A collision is recorded: when some name is taken or repeated, the loop leaves a
`duplicate-node` error on the receiver. -/
theorem fold_mstep_collision (ns : Option String) (oe : Entry) (L : List Entry) (e : Entry) (hf : ¬ FreeIn e L) :
    Err.at_ oe.d.node "duplicate-node" ∈ (L.foldl (mstep ns oe) e).d.errors := by
  induction L generalizing e with
  | nil => exact absurd ⟨by simp, by simp⟩ hf
  | cons v L ih =>
    rw [List.foldl_cons]
    cases hv : e.child? v.name with
    | some c =>
      apply fold_mstep_errors_mono
      unfold mstep; simp [hv, Entry.addErr]
    | none =>
      rw [mstep_free ns oe hv]
      exact ih _ fun hf' => hf ((freeIn_cons ns e v L).mpr ⟨hv, hf'⟩)

/-! ### walking: one step -/

theorem kid_nonrpc {e : Entry} (h : e.d.isRpc = false) (k : String) : kid e k = e.child? k := by
  simp [kid, h]

theorem kid_rpc {e : Entry} (h : e.d.isRpc = true) (k : String) :
    kid e k = if k == "input" then some (e.inp.head?.getD (implicitIO e true))
      else if k == "output" then some (e.out.head?.getD (implicitIO e false)) else none := by
  simp [kid, h]

theorem kid_input {e : Entry} (h : e.d.isRpc = true) :
    kid e "input" = some (e.inp.head?.getD (implicitIO e true)) := by
  simp [kid, h]

theorem kid_output {e : Entry} (h : e.d.isRpc = true) :
    kid e "output" = some (e.out.head?.getD (implicitIO e false)) := by
  simp [kid, h]

theorem kid_cases {e c : Entry} {k : String} (h : kid e k = some c) :
    (e.d.isRpc = false ∧ e.child? k = some c) ∨
    (e.d.isRpc = true ∧ k = "input" ∧ (e.inp.head? = some c ∨ c = implicitIO e true)) ∨
    (e.d.isRpc = true ∧ k = "output" ∧ (e.out.head? = some c ∨ c = implicitIO e false)) := by
  unfold kid at h
  cases hr : e.d.isRpc with
  | false => exact Or.inl ⟨rfl, by simpa [hr] using h⟩
  | true =>
    simp only [hr, if_true] at h
    split at h
    · rename_i hi
      refine Or.inr (Or.inl ⟨rfl, by simpa using hi, ?_⟩)
      rw [Option.some.injEq] at h
      cases hh : e.inp.head? with
      | none => rw [hh] at h; exact Or.inr h.symm
      | some y => rw [hh] at h; exact Or.inl (congrArg some h)
    · split at h
      · rename_i ho
        refine Or.inr (Or.inr ⟨rfl, by simpa using ho, ?_⟩)
        rw [Option.some.injEq] at h
        cases hh : e.out.head? with
        | none => rw [hh] at h; exact Or.inr h.symm
        | some y => rw [hh] at h; exact Or.inl (congrArg some h)
      · cases h

theorem dataAt_nil (e : Entry) : dataAt e [] = some (nodeData e.d) := rfl

theorem dataAt_cons (e : Entry) (k : String) (P : NPath) :
    dataAt e (k :: P) = (kid e k).bind fun c => dataAt c P := by
  simp only [dataAt, walk]
  cases kid e k <;> simp

theorem dataAt_append (e : Entry) (P Q : NPath) :
    dataAt e (P ++ Q) = (walk e P).bind fun x => dataAt x Q := by
  simp only [dataAt, walk_append]
  cases walk e P <;> simp

/-- The complete recorded data (errors included) at a name path. -/
def fullAt (e : Entry) (P : NPath) : Option EData := (walk e P).map fun x => x.d

theorem fullAt_nil (e : Entry) : fullAt e [] = some e.d := rfl

theorem fullAt_cons (e : Entry) (k : String) (P : NPath) :
    fullAt e (k :: P) = (kid e k).bind fun c => fullAt c P := by
  simp only [fullAt, walk]
  cases kid e k <;> simp

theorem dataAt_eq_fullAt (e : Entry) (P : NPath) : dataAt e P = (fullAt e P).map nodeData := by
  simp only [dataAt, fullAt]
  cases walk e P <;> rfl

/-! ### `updateAt` along a tracked path -/

/-- `g` keeps names. -/
def NamePres (g : Entry → Entry) : Prop := ∀ y, (g y).name = y.name

theorem updateAt_nil (e : Entry) (g : Entry → Entry) : e.updateAt [] g = g e := by
  simp [Entry.updateAt]

theorem updateAt_child (d : EData) (c i o : List Entry) (k : String) (q : Path) (g : Entry → Entry) :
    (Entry.mk d c i o).updateAt (.child k :: q) g =
      .mk d (c.map fun x => if x.name == k then x.updateAt q g else x) i o := by
  simp [Entry.updateAt]

theorem updateAt_input (d : EData) (c i o : List Entry) (q : Path) (g : Entry → Entry) :
    (Entry.mk d c i o).updateAt (.input :: q) g = .mk d c (i.map (·.updateAt q g)) o := by
  simp [Entry.updateAt]

theorem updateAt_output (d : EData) (c i o : List Entry) (q : Path) (g : Entry → Entry) :
    (Entry.mk d c i o).updateAt (.output :: q) g = .mk d c i (o.map (·.updateAt q g)) := by
  simp [Entry.updateAt]

theorem updateAt_cons_d (e : Entry) (s : Step) (q : Path) (g : Entry → Entry) : (e.updateAt (s :: q) g).d = e.d := by
  cases e; cases s <;> simp [Entry.updateAt]

theorem updateAt_name (e : Entry) (q : Path) (g : Entry → Entry) (hg : NamePres g) :
    (e.updateAt q g).name = e.name := by
  cases q with
  | nil => rw [updateAt_nil]; exact hg e
  | cons s q => simp [Entry.name, updateAt_cons_d]

def kidsAt (e : Entry) : Step → List Entry
  | .child k => e.dir.filter (·.name == k)
  | .input => e.inp
  | .output => e.out

def mapStep (e : Entry) (s : Step) (h : Entry → Entry) : Entry :=
  match s, e with
  | .child k, .mk d c i o => .mk d (c.map fun x => if x.name == k then h x else x) i o
  | .input, .mk d c i o => .mk d c (i.map h) o
  | .output, .mk d c i o => .mk d c i (o.map h)

theorem updateAt_cons (e : Entry) (s : Step) (q : Path) (g : Entry → Entry) :
    e.updateAt (s :: q) g = mapStep e s (·.updateAt q g) := by
  cases e; cases s <;> simp [Entry.updateAt, mapStep]

/-- Following the names `ns` from `e` goes, through nodes that are really there, along the step
path `q` to the node `x`. -/
inductive Tracks : Entry → NPath → Path → Entry → Prop
  | nil (e : Entry) : Tracks e [] [] e
  | child {e c x : Entry} {k : String} {ns : NPath} {q : Path} :
      e.d.isRpc = false → e.child? k = some c → Tracks c ns q x → Tracks e (k :: ns) (.child k :: q) x
  | input {e c x : Entry} {ns : NPath} {q : Path} :
      e.d.isRpc = true → e.inp.head? = some c → Tracks c ns q x → Tracks e ("input" :: ns) (.input :: q) x
  | output {e c x : Entry} {ns : NPath} {q : Path} :
      e.d.isRpc = true → e.out.head? = some c → Tracks c ns q x → Tracks e ("output" :: ns) (.output :: q) x

theorem Tracks.getAt {e x : Entry} {ns : NPath} {q : Path} (h : Tracks e ns q x) : e.getAt q = some x := by
  induction h with
  | nil e => rfl
  | child _ hc _ ih => simp [Entry.getAt, hc, ih]
  | input _ hc _ ih => simp [Entry.getAt, hc, ih]
  | output _ hc _ ih => simp [Entry.getAt, hc, ih]

theorem Tracks.walk {e x : Entry} {ns : NPath} {q : Path} (h : Tracks e ns q x) : walk e ns = some x := by
  induction h with
  | nil e => rfl
  | child hr hc _ ih => simp [Spec.Augment.walk, kid_nonrpc hr, hc, ih]
  | input hr hc _ ih => simp [Spec.Augment.walk, kid_input hr, hc, ih]
  | output hr hc _ ih => simp [Spec.Augment.walk, kid_output hr, hc, ih]

theorem Tracks.length {e x : Entry} {ns : NPath} {q : Path} (h : Tracks e ns q x) : ns.length = q.length := by
  induction h <;> simp [*]

theorem Tracks.append {e x y : Entry} {ns ms : NPath} {q r : Path} (h : Tracks e ns q x) (h1 : Tracks x ms r y) :
    Tracks e (ns ++ ms) (q ++ r) y := by
  induction h with
  | nil e => simpa using h1
  | child hr hc _ ih => exact Tracks.child hr hc (ih h1)
  | input hr hc _ ih => exact Tracks.input hr hc (ih h1)
  | output hr hc _ ih => exact Tracks.output hr hc (ih h1)

theorem Tracks.kid_eq {e c : Entry} {k : String} {s : Step} (h : Tracks e [k] [s] c) : kid e k = some c := by
  have := h.walk
  simp only [Spec.Augment.walk] at this
  cases hk : Spec.Augment.kid e k with
  | none => simp [hk] at this
  | some y => simpa [hk] using this

theorem Tracks.mapped {e c : Entry} {k : String} {s : Step} (h : Tracks e [k] [s] c) {g : Entry → Entry}
    (hg : NamePres g) : Tracks (mapStep e s g) [k] [s] (g c) := by
  cases e with
  | mk d c' i o =>
    cases h with
    | child hr hc ht =>
      cases ht
      refine Tracks.child hr ?_ (Tracks.nil _)
      have hG : ∀ y : Entry, ((fun y : Entry => if y.name == k then g y else y) y).name = y.name := by
        intro y; by_cases hy : (y.name == k) = true <;> simp [hy, hg y]
      simp only [mapStep, Entry.child?, mk_dir] at hc ⊢
      rw [find?_map_name hG c' k, hc]
      have hn : c.name = k := by simpa using List.find?_some hc
      simp [hn]
    | input hr hc ht =>
      cases ht
      exact Tracks.input hr (by simp only [mapStep, mk_inp] at hc ⊢; simp [List.head?_map, hc]) (Tracks.nil _)
    | output hr hc ht =>
      cases ht
      exact Tracks.output hr (by simp only [mapStep, mk_out] at hc ⊢; simp [List.head?_map, hc]) (Tracks.nil _)

theorem kid_mapStep_ne {e c : Entry} {k : String} {s : Step} (h : Tracks e [k] [s] c) {g : Entry → Entry}
    (hg : NamePres g) {k' : String} (hk : k' ≠ k) : kid (mapStep e s g) k' = kid e k' := by
  cases e with
  | mk d c' i o =>
    cases h with
    | child hr hc _ =>
      rw [kid_nonrpc (by simpa [mapStep] using hr), kid_nonrpc hr]
      have hG : ∀ y : Entry, ((fun y : Entry => if y.name == k then g y else y) y).name = y.name := by
        intro y; by_cases hy : (y.name == k) = true <;> simp [hy, hg y]
      simp only [mapStep, Entry.child?, mk_dir]
      rw [find?_map_name hG c' k']
      cases hf : c'.find? (·.name == k') with
      | none => rfl
      | some y =>
        have hyn : y.name = k' := by simpa using List.find?_some hf
        have : ¬ y.name = k := by rw [hyn]; exact hk
        simp [this]
    | input hr _ _ =>
      simp only [mk_d] at hr
      have hI : implicitIO (Entry.mk d c' (i.map g) o) false = implicitIO (Entry.mk d c' i o) false := by
        simp [implicitIO]
      simp [Spec.Augment.kid, mapStep, hr, hk, hI]
    | output hr _ _ =>
      simp only [mk_d] at hr
      have hI : implicitIO (Entry.mk d c' i (o.map g)) true = implicitIO (Entry.mk d c' i o) true := by
        simp [implicitIO]
      simp [Spec.Augment.kid, mapStep, hr, hk, hI]

/-- Updating at the end of a track keeps the track. -/
theorem Tracks.update {e x : Entry} {ns : NPath} {q : Path} (h : Tracks e ns q x) {g : Entry → Entry}
    (hg : NamePres g) : Tracks (e.updateAt q g) ns q (g x) := by
  induction h with
  | nil e => rw [updateAt_nil]; exact Tracks.nil _
  | child hr hc _ ih =>
    rw [updateAt_cons]
    exact (Tracks.mapped (.child hr hc (.nil _)) fun y => updateAt_name y _ g hg).append ih
  | input hr hc _ ih =>
    rw [updateAt_cons]
    exact (Tracks.mapped (.input hr hc (.nil _)) fun y => updateAt_name y _ g hg).append ih
  | output hr hc _ ih =>
    rw [updateAt_cons]
    exact (Tracks.mapped (.output hr hc (.nil _)) fun y => updateAt_name y _ g hg).append ih

/-- W1: below the updated node one sees the new node. -/
theorem walk_update_below {e x : Entry} {np : NPath} {q : Path} (h : Tracks e np q x) {g : Entry → Entry}
    (hg : NamePres g) (r : NPath) : walk (e.updateAt q g) (np ++ r) = walk (g x) r := by
  rw [walk_append, (h.update hg).walk]; rfl

theorem fullAt_mapStep_off {e c : Entry} {k : String} {s : Step} (h : Tracks e [k] [s] c) {g : Entry → Entry}
    (hg : NamePres g) {ns : NPath} (hc : ∀ P, ¬ ns <+: P → fullAt (g c) P = fullAt c P) :
    ∀ P, ¬ (k :: ns) <+: P → fullAt (mapStep e s g) P = fullAt e P := by
  intro P hP
  cases P with
  | nil => cases e; cases s <;> rfl
  | cons k' P' =>
    rw [fullAt_cons, fullAt_cons]
    by_cases hk : k' = k
    · subst hk
      rw [(h.mapped hg).kid_eq, h.kid_eq]
      exact hc P' fun hpre => hP (List.cons_prefix_cons.mpr ⟨rfl, hpre⟩)
    · rw [kid_mapStep_ne h hg hk]

/-- W2: off the updated node's subtree every location keeps its data, errors included. -/
theorem fullAt_update_off {e x : Entry} {np : NPath} {q : Path} (h : Tracks e np q x) {g : Entry → Entry}
    (hg : NamePres g) : ∀ P : NPath, ¬ np <+: P → fullAt (e.updateAt q g) P = fullAt e P := by
  induction h with
  | nil e => intro P hP; exact absurd (List.nil_prefix) hP
  | child hr hc _ ih =>
    rw [updateAt_cons]
    exact fullAt_mapStep_off (.child hr hc (.nil _)) (fun y => updateAt_name y _ g hg) ih
  | input hr hc _ ih =>
    rw [updateAt_cons]
    exact fullAt_mapStep_off (.input hr hc (.nil _)) (fun y => updateAt_name y _ g hg) ih
  | output hr hc _ ih =>
    rw [updateAt_cons]
    exact fullAt_mapStep_off (.output hr hc (.nil _)) (fun y => updateAt_name y _ g hg) ih

theorem dataAt_update_off {e x : Entry} {np : NPath} {q : Path} (h : Tracks e np q x) {g : Entry → Entry}
    (hg : NamePres g) (P : NPath) (hP : ¬ np <+: P) : dataAt (e.updateAt q g) P = dataAt e P := by
  rw [dataAt_eq_fullAt, dataAt_eq_fullAt, fullAt_update_off h hg P hP]

/-- An update that cannot be seen below the node cannot be seen at all. -/
theorem dataAt_update_invisible {e x : Entry} {np : NPath} {q : Path} (h : Tracks e np q x) {g : Entry → Entry}
    (hg : NamePres g) (hinv : ∀ r, dataAt (g x) r = dataAt x r) : ∀ P : NPath, dataAt (e.updateAt q g) P = dataAt e P := by
  intro P
  by_cases hP : np <+: P
  · obtain ⟨r, rfl⟩ := hP
    simp only [dataAt]
    rw [walk_update_below h hg, walk_append, h.walk]
    exact hinv r
  · exact dataAt_update_off h hg P hP

/-! ### errors recorded in a tree -/

theorem mem_allErrorsL {er : Err} (l : List Entry) : er ∈ Entry.allErrorsL l ↔ ∃ e ∈ l, er ∈ e.allErrors := by
  induction l with
  | nil => simp [Entry.allErrorsL]
  | cons x xs ih => simp [Entry.allErrorsL, ih]

theorem mem_allErrors {er : Err} (e : Entry) :
    er ∈ e.allErrors ↔ (∃ c ∈ e.dir, er ∈ c.allErrors) ∨ (∃ c ∈ e.inp, er ∈ c.allErrors) ∨
      (∃ c ∈ e.out, er ∈ c.allErrors) ∨ er ∈ e.d.errors := by
  cases e with
  | mk d c i o => simp [Entry.allErrors, mem_allErrorsL]

theorem own_errors_sub {er : Err} (e : Entry) (h : er ∈ e.d.errors) : er ∈ e.allErrors :=
  (mem_allErrors e).mpr (Or.inr (Or.inr (Or.inr h)))

/-! ### one step of a path

`getAt` goes to the first child a step addresses, `updateAt` rewrites all of them. -/

theorem getAt_cons_kid {e x : Entry} {s : Step} {q : Path} (h : e.getAt (s :: q) = some x) :
    ∃ c0 ∈ kidsAt e s, c0.getAt q = some x := by
  cases s with
  | child k =>
    simp only [Entry.getAt] at h
    cases hc : e.child? k with
    | none => simp [hc] at h
    | some c0 =>
      rw [hc] at h
      exact ⟨c0, List.mem_filter.mpr ⟨List.mem_of_find?_eq_some hc, by simpa using List.find?_some hc⟩, h⟩
  | input =>
    simp only [Entry.getAt] at h
    cases hc : e.inp.head? with
    | none => simp [hc] at h
    | some c0 => rw [hc] at h; exact ⟨c0, List.mem_of_mem_head? hc, h⟩
  | output =>
    simp only [Entry.getAt] at h
    cases hc : e.out.head? with
    | none => simp [hc] at h
    | some c0 => rw [hc] at h; exact ⟨c0, List.mem_of_mem_head? hc, h⟩

theorem exists_mem_map {l : List Entry} {h : Entry → Entry} {P : Entry → Prop} :
    (∃ y' ∈ l.map h, P y') ↔ ∃ y ∈ l, P (h y) :=
  ⟨fun ⟨_, hy', hp⟩ => by obtain ⟨y, hy, rfl⟩ := List.mem_map.mp hy'; exact ⟨y, hy, hp⟩,
   fun ⟨y, hy, hp⟩ => ⟨h y, List.mem_map.mpr ⟨y, hy, rfl⟩, hp⟩⟩

/-- The errors of a tree are those of the children a step addresses and the rest; mapping the
addressed children leaves the rest alone. -/
theorem step_errs (e : Entry) (s : Step) (er : Err) : ∃ rest : Prop,
    (er ∈ e.allErrors ↔ (∃ y ∈ kidsAt e s, er ∈ y.allErrors) ∨ rest) ∧
    ∀ h : Entry → Entry, (er ∈ (mapStep e s h).allErrors ↔ (∃ y ∈ kidsAt e s, er ∈ (h y).allErrors) ∨ rest) := by
  cases e with
  | mk d c i o =>
    cases s with
    | child k =>
      refine ⟨(∃ y ∈ c, (y.name == k) = false ∧ er ∈ y.allErrors) ∨ (∃ y ∈ i, er ∈ y.allErrors) ∨
        (∃ y ∈ o, er ∈ y.allErrors) ∨ er ∈ d.errors, ?_, fun h => ?_⟩
      · rw [mem_allErrors]
        refine (or_congr_left ⟨?_, ?_⟩).trans or_assoc
        · rintro ⟨y, hy, he⟩
          cases hk : y.name == k
          · exact Or.inr ⟨y, hy, hk, he⟩
          · exact Or.inl ⟨y, List.mem_filter.mpr ⟨hy, hk⟩, he⟩
        · rintro (⟨y, hy, he⟩ | ⟨y, hy, _, he⟩)
          · exact ⟨y, (List.mem_filter.mp hy).1, he⟩
          · exact ⟨y, hy, he⟩
      · rw [mem_allErrors]
        refine (or_congr_left ⟨?_, ?_⟩).trans or_assoc
        · rintro ⟨y', hy', he⟩
          obtain ⟨y, hy, rfl⟩ := List.mem_map.mp hy'
          cases hk : y.name == k
          · exact Or.inr ⟨y, hy, hk, by simpa [hk] using he⟩
          · exact Or.inl ⟨y, List.mem_filter.mpr ⟨hy, hk⟩, by simpa [hk] using he⟩
        · rintro (⟨y, hy, he⟩ | ⟨y, hy, hk, he⟩)
          · obtain ⟨hy1, hy2⟩ := List.mem_filter.mp hy
            exact ⟨_, List.mem_map.mpr ⟨y, hy1, rfl⟩, by simpa [hy2] using he⟩
          · exact ⟨_, List.mem_map.mpr ⟨y, hy, rfl⟩, by simpa [hk] using he⟩
    | input =>
      refine ⟨(∃ y ∈ c, er ∈ y.allErrors) ∨ (∃ y ∈ o, er ∈ y.allErrors) ∨ er ∈ d.errors, ?_, fun h => ?_⟩
      · rw [mem_allErrors]; exact or_left_comm
      · rw [mem_allErrors]
        simp only [mapStep, kidsAt, mk_dir, mk_inp, mk_out, mk_d, exists_mem_map]
        exact or_left_comm
    | output =>
      refine ⟨(∃ y ∈ c, er ∈ y.allErrors) ∨ (∃ y ∈ i, er ∈ y.allErrors) ∨ er ∈ d.errors, ?_, fun h => ?_⟩
      · rw [mem_allErrors]; exact (or_congr_right or_left_comm).trans or_left_comm
      · rw [mem_allErrors]
        simp only [mapStep, kidsAt, mk_dir, mk_inp, mk_out, mk_d, exists_mem_map]
        exact (or_congr_right or_left_comm).trans or_left_comm

theorem getAt_errors_sub {er : Err} : ∀ (q : Path) (e x : Entry), e.getAt q = some x → er ∈ x.allErrors → er ∈ e.allErrors
  | [], e, x, h, hx => by simp [Entry.getAt] at h; subst h; exact hx
  | s :: q, e, x, h, hx => by
    obtain ⟨c0, hc0, hget⟩ := getAt_cons_kid h
    obtain ⟨_, h1, _⟩ := step_errs e s er
    exact h1.mpr (Or.inl ⟨c0, hc0, getAt_errors_sub q c0 x hget hx⟩)

/-- `g` never loses an error. -/
def ErrMono (g : Entry → Entry) : Prop := ∀ (y : Entry) (er : Err), er ∈ y.allErrors → er ∈ (g y).allErrors

/-- Errors persist under an update by an error-monotone function. -/
theorem updateAt_errors_mono {g : Entry → Entry} (hg : ErrMono g) {er : Err} :
    ∀ (q : Path) (e : Entry), er ∈ e.allErrors → er ∈ (e.updateAt q g).allErrors
  | [], e, h => by rw [updateAt_nil]; exact hg e er h
  | s :: q, e, h => by
    rw [updateAt_cons]
    obtain ⟨_, h1, h2⟩ := step_errs e s er
    rcases h1.mp h with ⟨y, hy, he⟩ | hr
    · exact (h2 _).mpr (Or.inl ⟨y, hy, updateAt_errors_mono hg q y he⟩)
    · exact (h2 _).mpr (Or.inr hr)

theorem addErr_errs (e : Entry) (x er : Err) : er ∈ (e.addErr x).allErrors ↔ er ∈ e.allErrors ∨ er = x := by
  rw [mem_allErrors, mem_allErrors]
  simp only [Entry.addErr, withD_dir, withD_inp, withD_out, withD_d, List.mem_append, List.mem_singleton, or_assoc]

theorem addErr_errMono (x : Err) : ErrMono (fun e => e.addErr x) :=
  fun y er h => (addErr_errs y x er).mpr (Or.inl h)

theorem importErrors_errs (e oe : Entry) (er : Err) :
    er ∈ (e.importErrors oe).allErrors ↔ er ∈ e.allErrors ∨ er ∈ oe.allErrors := by
  have hd : (e.importErrors oe).d.errors = e.d.errors ++
      (oe.d.errors ++ Entry.allErrorsL oe.dir ++ Entry.allErrorsL oe.inp ++ Entry.allErrorsL oe.out) := by
    simp [Entry.importErrors, Entry.addErrs]
  -- the imported list is `oe.allErrors` in another order
  have hoe : er ∈ oe.d.errors ++ Entry.allErrorsL oe.dir ++ Entry.allErrorsL oe.inp ++ Entry.allErrorsL oe.out ↔
      er ∈ oe.allErrors := by
    cases oe
    simp only [Entry.allErrors, mk_d, mk_dir, mk_inp, mk_out, List.mem_append]
    constructor
    · rintro (((h | h) | h) | h)
      · exact Or.inr h
      · exact Or.inl (Or.inl (Or.inl h))
      · exact Or.inl (Or.inl (Or.inr h))
      · exact Or.inl (Or.inr h)
    · rintro (((h | h) | h) | h)
      · exact Or.inl (Or.inl (Or.inr h))
      · exact Or.inl (Or.inr h)
      · exact Or.inr h
      · exact Or.inl (Or.inl (Or.inl h))
  rw [mem_allErrors, mem_allErrors e, hd, List.mem_append, hoe]
  simp only [Entry.importErrors, Entry.addErrs, withD_dir, withD_inp, withD_out, or_assoc]

/-! ### `merge` as seen by `walk` -/

theorem importErrors_sameData (e c : Entry) : SameData (e.importErrors c) e := by
  simp [SameData, Entry.importErrors, Entry.addErrs, nodeData]
@[simp] theorem importErrors_dir (e c : Entry) : (e.importErrors c).dir = e.dir := by
  simp [Entry.importErrors, Entry.addErrs]
@[simp] theorem importErrors_inp (e c : Entry) : (e.importErrors c).inp = e.inp := by
  simp [Entry.importErrors, Entry.addErrs]
@[simp] theorem importErrors_out (e c : Entry) : (e.importErrors c).out = e.out := by
  simp [Entry.importErrors, Entry.addErrs]
theorem importErrors_child? (e c : Entry) (k : String) : (e.importErrors c).child? k = e.child? k := by
  simp [Entry.child?]

theorem merge_sameData (e : Entry) (ns : Option String) (oe : Entry) : SameData (e.merge ns oe) e := by
  rw [merge_eq]
  exact fold_mstep_induct (P := fun z => SameData z e) ns oe _ _ (fun z v _ hz => (mstep_sameData ns oe z v).trans hz)
    (importErrors_sameData e oe)

theorem merge_inp (e : Entry) (ns : Option String) (oe : Entry) : (e.merge ns oe).inp = e.inp := by
  rw [merge_eq]
  exact fold_mstep_induct (P := fun z => z.inp = e.inp) ns oe _ _ (fun z v _ hz => (mstep_inp ns oe z v).trans hz)
    (importErrors_inp e oe)

theorem merge_out (e : Entry) (ns : Option String) (oe : Entry) : (e.merge ns oe).out = e.out := by
  rw [merge_eq]
  exact fold_mstep_induct (P := fun z => z.out = e.out) ns oe _ _ (fun z v _ hz => (mstep_out ns oe z v).trans hz)
    (importErrors_out e oe)

theorem merge_namePres (ns : Option String) (oe : Entry) : NamePres fun te => te.merge ns oe :=
  fun y => (merge_sameData y ns oe).name

theorem merge_child_mono (e : Entry) (ns : Option String) (oe : Entry) {k : String} {c : Entry}
    (h : e.child? k = some c) : (e.merge ns oe).child? k = some c := by
  rw [merge_eq]
  exact fold_mstep_induct (P := fun z => z.child? k = some c) ns oe _ _ (fun z v _ hz => mstep_child_mono ns oe z v hz)
    (by rw [importErrors_child?]; exact h)

theorem freeIn_importErrors (e oe : Entry) (L : List Entry) : FreeIn (e.importErrors oe) L ↔ FreeIn e L := by
  simp [FreeIn, importErrors_child?]

theorem merge_free_dir (e : Entry) (ns : Option String) (oe : Entry) (hf : FreeIn e oe.dir) :
    (e.merge ns oe).dir = e.dir ++ oe.dir.map (stampO ns) := by
  rw [merge_eq, (fold_mstep_free ns oe oe.dir _ ((freeIn_importErrors e oe _).mpr hf)).1, importErrors_dir]

theorem merge_collision_err (e : Entry) (ns : Option String) (oe : Entry) (hf : ¬ FreeIn e oe.dir) :
    Err.at_ oe.d.node "duplicate-node" ∈ (e.merge ns oe).d.errors := by
  rw [merge_eq]; exact fold_mstep_collision ns oe oe.dir _ (fun h => hf ((freeIn_importErrors e oe _).mp h))

theorem mstep_errMono (ns : Option String) (oe v : Entry) : ErrMono fun e => mstep ns oe e v := by
  intro y er h
  simp only [mstep]
  split
  · exact addErr_errMono _ y er h
  · rw [mem_allErrors] at h ⊢
    simp only [withDir_dir, withDir_inp, withDir_out, withDir_d]
    rcases h with ⟨c, hc, hce⟩ | h
    · exact Or.inl ⟨c, List.mem_append_left _ hc, hce⟩
    · exact Or.inr h

theorem fold_mstep_errMono (ns : Option String) (oe : Entry) (L : List Entry) : ErrMono fun e => L.foldl (mstep ns oe) e :=
  fun y er h => fold_mstep_induct (P := fun z => er ∈ z.allErrors) ns oe L y (fun z v _ hz => mstep_errMono ns oe v z er hz) h

theorem merge_errMono (ns : Option String) (oe : Entry) : ErrMono fun te => te.merge ns oe := by
  intro y er h
  simp only [merge_eq]
  exact fold_mstep_errMono ns oe oe.dir _ er ((importErrors_errs y oe er).mpr (Or.inl h))

/-- One step down from a merged node: whatever was there is still there. -/
theorem kid_merge_mono (e : Entry) (ns : Option String) (oe : Entry) {k : String} {c : Entry}
    (h : kid e k = some c) : kid (e.merge ns oe) k = some c := by
  have hd := merge_sameData e ns oe
  unfold kid at h ⊢
  rw [hd.isRpc, merge_inp, merge_out, hd.implicitIO true, hd.implicitIO false]
  by_cases hr : e.d.isRpc = true
  · simpa [hr] using h
  · simp only [hr, Bool.false_eq_true, if_false] at h ⊢
    exact merge_child_mono e ns oe h

theorem walk_merge_mono (e : Entry) (ns : Option String) (oe : Entry) (k : String) (r : NPath) {x : Entry}
    (h : walk e (k :: r) = some x) : walk (e.merge ns oe) (k :: r) = some x := by
  simp only [walk] at h ⊢
  cases hk : kid e k with
  | none => simp [hk] at h
  | some c => rw [kid_merge_mono e ns oe hk]; simpa [hk] using h

theorem find?_stamp (ns : String) (L : List Entry) (k : String) :
    (L.map (stampO (some ns))).find? (·.name == k) = (L.find? (·.name == k)).map (stamp ns) := by
  have := find?_map_name (g := stampO (some ns)) (fun x => stampO_name _ x) L k
  rw [this]; rfl

/-- One step down from a node that received a collision-free merge: the old child of that name
if there is one, else the stamped copy of the body node of that name. -/
theorem kid_merge_free (e : Entry) (ns : String) (oe : Entry) (hr : e.d.isRpc = false) (hf : FreeIn e oe.dir)
    (k : String) :
    kid (e.merge (some ns) oe) k = (e.child? k).or ((oe.dir.find? (·.name == k)).map (stamp ns)) := by
  have hd := merge_sameData e (some ns) oe
  rw [kid_nonrpc (by rw [hd.isRpc]; exact hr)]
  simp only [Entry.child?, merge_free_dir e (some ns) oe hf, List.find?_append, find?_stamp]

/-- In a list with distinct names, looking a member up by its name finds it. -/
theorem find?_of_nodup (L : List Entry) (hn : (L.map (·.name)).Nodup) {c : Entry} (hc : c ∈ L) :
    L.find? (·.name == c.name) = some c := by
  induction L with
  | nil => cases hc
  | cons x xs ih =>
    simp only [List.map_cons, List.nodup_cons] at hn
    rw [List.find?_cons]
    rcases List.mem_cons.mp hc with rfl | hc
    · simp
    · have : ¬ x.name = c.name := fun h => hn.1 (h ▸ List.mem_map.mpr ⟨c, hc, rfl⟩)
      have hb : (x.name == c.name) = false := by simpa using this
      rw [hb]; exact ih hn.2 hc

/-! ### monotonicity: nothing visible is lost -/

theorem fullAt_append (e : Entry) (P Q : NPath) :
    fullAt e (P ++ Q) = (walk e P).bind fun x => fullAt x Q := by
  simp only [fullAt, walk_append]
  cases walk e P <;> simp

/-- An update that cannot be seen below the node (not even in the error lists) cannot be seen at all. -/
theorem fullAt_update_invisible {e x : Entry} {np : NPath} {q : Path} (h : Tracks e np q x) {g : Entry → Entry}
    (hg : NamePres g) (hinv : ∀ r, fullAt (g x) r = fullAt x r) : ∀ P : NPath, fullAt (e.updateAt q g) P = fullAt e P := by
  intro P
  by_cases hP : np <+: P
  · obtain ⟨r, rfl⟩ := hP
    simp only [fullAt]
    rw [walk_update_below h hg, walk_append, h.walk]
    exact hinv r
  · exact fullAt_update_off h hg P hP

/-- `e'` extends `e`: every location of `e` exists in `e'` with the same data and at least the
same errors. -/
def Le (e e' : Entry) : Prop :=
  ∀ P d, fullAt e P = some d → ∃ d', fullAt e' P = some d' ∧ nodeData d' = nodeData d ∧ ∀ er ∈ d.errors, er ∈ d'.errors

theorem Le.refl (e : Entry) : Le e e := fun _ d h => ⟨d, h, rfl, fun _ h => h⟩

theorem Le.trans {a b c : Entry} (h1 : Le a b) (h2 : Le b c) : Le a c := by
  intro P d h
  obtain ⟨d1, hd1, e1, m1⟩ := h1 P d h
  obtain ⟨d2, hd2, e2, m2⟩ := h2 P d1 hd1
  exact ⟨d2, hd2, e2.trans e1, fun er her => m2 er (m1 er her)⟩

theorem Le.of_fullAt_eq {a b : Entry} (h : ∀ P, fullAt b P = fullAt a P) : Le a b :=
  fun P d hd => ⟨d, by rw [h P]; exact hd, rfl, fun _ h => h⟩

/-- Updating a tracked node by an extension extends the tree. -/
theorem Le.update {e x : Entry} {np : NPath} {q : Path} (h : Tracks e np q x) {g : Entry → Entry}
    (hg : NamePres g) (hx : Le x (g x)) : Le e (e.updateAt q g) := by
  intro P d hd
  by_cases hP : np <+: P
  · obtain ⟨r, rfl⟩ := hP
    have h1 : fullAt e (np ++ r) = fullAt x r := by rw [fullAt_append, h.walk]; rfl
    have h2 : fullAt (e.updateAt q g) (np ++ r) = fullAt (g x) r := by
      simp only [fullAt]; rw [walk_update_below h hg]
    rw [h1] at hd
    rw [h2]
    exact hx r d hd
  · exact ⟨d, by rw [fullAt_update_off h hg P hP]; exact hd, rfl, fun _ h => h⟩

theorem Le.merge (e : Entry) (ns : Option String) (oe : Entry) : Le e (e.merge ns oe) := by
  intro P d hd
  cases P with
  | nil =>
    simp only [fullAt_nil, Option.some.injEq] at hd
    subst hd
    refine ⟨(e.merge ns oe).d, rfl, merge_sameData e ns oe, ?_⟩
    intro er her
    rw [merge_eq]
    apply fold_mstep_errors_mono
    simp [Entry.importErrors, Entry.addErrs, her]
  | cons k r =>
    simp only [fullAt] at hd ⊢
    cases hw : walk e (k :: r) with
    | none => simp [hw] at hd
    | some x =>
      rw [walk_merge_mono e ns oe k r hw]
      rw [hw] at hd
      exact ⟨d, hd, rfl, fun _ h => h⟩

/-- `er` is recorded on a node that can be reached by names. -/
def VisErr (e : Entry) (er : Err) : Prop := ∃ P d, fullAt e P = some d ∧ er ∈ d.errors

theorem VisErr.mono {e e' : Entry} {er : Err} (h : VisErr e er) (hle : Le e e') : VisErr e' er := by
  obtain ⟨P, d, hd, her⟩ := h
  obtain ⟨d', hd', _, hm⟩ := hle P d hd
  exact ⟨P, d', hd', hm er her⟩

theorem implicitIO_walk_errors {e : Entry} {b : Bool} {P : NPath} {x : Entry} {er : Err}
    (h : walk (implicitIO e b) P = some x) : er ∉ x.d.errors := by
  cases P with
  | nil => simp only [walk, Option.some.injEq] at h; subst h; simp [implicitIO]
  | cons k r =>
    simp only [walk] at h
    have : kid (implicitIO e b) k = none := by simp [kid, implicitIO, Entry.child?]
    simp [this] at h

/-- A visible error is one of the tree's errors (what `GetErrors` sweeps). -/
theorem VisErr.allErrors {e : Entry} {er : Err} (h : VisErr e er) : er ∈ e.allErrors := by
  obtain ⟨P, d, hd, her⟩ := h
  simp only [fullAt] at hd
  cases hw : walk e P with
  | none => simp [hw] at hd
  | some x =>
    simp only [hw, Option.map_some, Option.some.injEq] at hd
    subst hd
    induction P generalizing e with
    | nil => simp only [walk, Option.some.injEq] at hw; subst hw; exact own_errors_sub _ her
    | cons k r ih =>
      simp only [walk] at hw
      cases hk : kid e k with
      | none => simp [hk] at hw
      | some c =>
        simp only [hk, Option.bind_some] at hw
        rcases kid_cases hk with ⟨_, hc⟩ | ⟨_, _, hc | rfl⟩ | ⟨_, _, hc | rfl⟩
        · exact (mem_allErrors e).mpr (Or.inl ⟨c, List.mem_of_find?_eq_some hc, ih hw⟩)
        · exact (mem_allErrors e).mpr (Or.inr (Or.inl ⟨c, List.mem_of_mem_head? hc, ih hw⟩))
        · exact absurd her (implicitIO_walk_errors hw)
        · exact (mem_allErrors e).mpr (Or.inr (Or.inr (Or.inl ⟨c, List.mem_of_mem_head? hc, ih hw⟩)))
        · exact absurd her (implicitIO_walk_errors hw)

end Goyang.Lemmas.AugmentTree
