import Goyang.Model.Process
import Goyang.Spec.Deviate
import Goyang.Spec.ConfigNs
import Goyang.Lemmas.Fuel
import Goyang.Lemmas.ForestAux
import Goyang.Lemmas.ListAux
import Goyang.Lemmas.FindTurn
/-
Lemmas for C08 (deviations).  Sections:
  1. trees: one step down a tree (`Spec.ConfigNs.next`), and through it what `updateAt` / `removeAt` leave alone
     (`getAt_updateAt_frame`, `getAt_removeAt_frame`, …);
  2. `applyOneDeviate` rewritten as a pipeline of stages (`staged`, equal by `rfl`), the abstraction
     `propsOf` / `stmtOf`, and every stage against RFC 7950 §7.20.3.2 (`staged_errs`, `staged_effect`,
     `staged_untouched`);
  3. `applyDeviations` with its two folds named (`innerStep`, `outerStep`), the target node as a left
     fold (`nodeFold`), frame and target invariants of one deviation, `nodeFold_seq` (= `Spec.deviateSeq`);
  4. the path lookup's frame (`walkParts_frame`, over the one-turn view of Lemmas/FindTurn.lean; `find_frame`),
     all deviations of one module
     (`applyDeviations_frame'`, `applyDeviations_reports`), the stage of `processAll`
     (`processAll_cases`, `processAll_clean`, `stage_frame`, `stage_reports`);
  5. errors recorded at conversion time (`toEntry_deviation_errs`), over the body of `toEntry` as
     `Lemmas/Fuel.lean` splits it (`toEntry_plain`: a deviation or deviate statement is the fold of its field steps).
-/
set_option linter.unusedSimpArgs false
set_option linter.unusedVariables false

open Goyang.Lemmas.ListAux (ne_nil_of_not_isEmpty)
open Goyang.Lemmas.SortAux (insertBy_ne_nil)
open Goyang.Lemmas.SortAux (canonErrs_ne_nil)
namespace Goyang.Lemmas.Deviate
open Goyang.Model Goyang.Spec.Deviate
open Goyang.Spec.ConfigNs (next)

/-! ### trees: what `updateAt` and `removeAt` leave alone -/

theorem find_map_name (c : List Entry) (h : Entry → Entry) (k : String)
    (hn : ∀ x ∈ c, (h x).name = x.name) :
    (c.map h).find? (·.name == k) = (c.find? (·.name == k)).map h := by
  induction c with
  | nil => rfl
  | cons x xs ih =>
    simp only [List.map_cons, List.find?_cons]
    rw [hn x (by simp)]
    split
    · rfl
    · exact ih (fun y hy => hn y (by simp [hy]))

/-- `f` does not rename the nodes `updateAt · p f` applies it to: the only nodes whose name is
looked at afterwards are children reached by a `.child k` step, and those are named `k`. -/
def NameStable (p : Path) (f : Entry → Entry) : Prop :=
  match p.getLast? with
  | some (.child k) => ∀ e : Entry, e.name = k → (f e).name = k
  | _ => True

theorem NameStable.of_forall {p : Path} {f : Entry → Entry} (h : ∀ e, (f e).name = e.name) : NameStable p f := by
  unfold NameStable
  split
  · intro e he; rw [h e, he]
  · trivial

theorem NameStable.tail {s : Step} {p : Path} {f : Entry → Entry} (h : NameStable (s :: p) f) : NameStable p f := by
  cases p with
  | nil => simp [NameStable]
  | cons a p => simpa [NameStable, List.getLast?_cons_cons] using h

theorem updateAt_d_of_ne_nil (e : Entry) (p : Path) (f : Entry → Entry) (h : p ≠ []) : (e.updateAt p f).d = e.d := by
  cases p with
  | nil => exact absurd rfl h
  | cons s p => cases s <;> cases e <;> rfl

theorem updateAt_name {f : Entry → Entry} {k : String} {p : Path} (hs : NameStable (.child k :: p) f)
    (x : Entry) (hx : x.name = k) : (x.updateAt p f).name = x.name := by
  cases p with
  | nil =>
    have : (f x).name = k := by
      have h := hs; simp only [NameStable, List.getLast?_singleton] at h; exact h x hx
    simp [Entry.updateAt, this, hx]
  | cons a p => simp [Entry.name, updateAt_d_of_ne_nil]

/-- The mapping `updateAt` applies to the children on a `.child k` step keeps their names. -/
theorem childMap_name {f : Entry → Entry} {k : String} {p : Path} (hs : NameStable (.child k :: p) f) (x : Entry) :
    (if x.name == k then x.updateAt p f else x).name = x.name := by
  split
  · next h => exact updateAt_name hs x (by simpa using h)
  · rfl

theorem getAt_cons (e : Entry) (s : Step) (p : Path) : e.getAt (s :: p) = (next e s).bind (·.getAt p) := by
  cases s <;> rfl

theorem next_updateAt_same {f : Entry → Entry} {s : Step} {p : Path} (hs : NameStable (s :: p) f) (e : Entry) :
    next (e.updateAt (s :: p) f) s = (next e s).map (·.updateAt p f) := by
  cases e with
  | mk d c i o =>
    cases s with
    | child k =>
      show (c.map _).find? _ = (c.find? _).map _
      rw [find_map_name c _ k (fun x _ => childMap_name hs x)]
      cases hfind : c.find? (·.name == k) with
      | none => rfl
      | some x =>
        have hx : (x.name == k) = true := by simpa using List.find?_some hfind
        simp only [Option.map_some, hx, if_true]
    | input => exact List.head?_map ..
    | output => exact List.head?_map ..

theorem next_updateAt_other {f : Entry → Entry} {s s' : Step} (hne : s ≠ s') {p : Path} (hs : NameStable (s :: p) f)
    (e : Entry) : next (e.updateAt (s :: p) f) s' = next e s' := by
  cases e with
  | mk d c i o =>
    cases s with
    | child k =>
      cases s' with
      | child k' =>
        show (c.map _).find? _ = c.find? _
        rw [find_map_name c _ k' (fun x _ => childMap_name hs x)]
        cases hfind : c.find? (·.name == k') with
        | none => rfl
        | some x =>
          have hx : x.name = k' := by simpa using List.find?_some hfind
          have : ¬ x.name = k := fun h => hne (by rw [← h, hx])
          simp [this]
      | input => rfl
      | output => rfl
    | input => cases s' <;> first | rfl | exact absurd rfl hne
    | output => cases s' <;> first | rfl | exact absurd rfl hne

/-- At and below the updated location. -/
theorem getAt_updateAt_append (f : Entry → Entry) : ∀ (p : Path), NameStable p f → ∀ (e : Entry) (r : Path),
    (e.updateAt p f).getAt (p ++ r) = ((e.getAt p).map f).bind (·.getAt r)
  | [], _, e, r => by simp [Entry.updateAt, Entry.getAt]
  | s :: p, hs, e, r => by
    rw [List.cons_append, getAt_cons, next_updateAt_same hs, getAt_cons]
    cases next e s with
    | none => rfl
    | some x => simpa using getAt_updateAt_append f p hs.tail x r

/-- At an ancestor of the updated location (or the location itself): the subtree there is the old
one with the update applied further down. -/
theorem getAt_updateAt_prefix (f : Entry → Entry) : ∀ (q r : Path), NameStable (q ++ r) f → ∀ (e : Entry),
    (e.updateAt (q ++ r) f).getAt q = (e.getAt q).map (·.updateAt r f)
  | [], r, _, e => by simp [Entry.getAt]
  | s :: q, r, hs, e => by
    have hs : NameStable (s :: (q ++ r)) f := hs
    rw [List.cons_append, getAt_cons, next_updateAt_same hs, getAt_cons]
    cases next e s with
    | none => rfl
    | some x => simpa using getAt_updateAt_prefix f q r hs.tail x

/-- Where the two paths part ways the update is not seen at all. -/
theorem getAt_updateAt_diverge (f : Entry → Entry) {s s' : Step} (hne : s ≠ s') (p' q' : Path) :
    ∀ (c : Path), NameStable (c ++ s :: p') f → ∀ (e : Entry),
    (e.updateAt (c ++ s :: p') f).getAt (c ++ s' :: q') = e.getAt (c ++ s' :: q')
  | [], hs, e => by
    rw [List.nil_append, List.nil_append, getAt_cons, next_updateAt_other hne hs, getAt_cons]
  | a :: c, hs, e => by
    have hs : NameStable (a :: (c ++ s :: p')) f := hs
    rw [List.cons_append, List.cons_append, getAt_cons, next_updateAt_same hs, getAt_cons]
    cases next e a with
    | none => rfl
    | some x => simpa using getAt_updateAt_diverge f hne p' q' c hs.tail x

/-- Two paths: one is a prefix of the other, or they share a prefix and then differ. -/
theorem path_trichotomy : ∀ (p q : Path), p <+: q ∨ (∃ r, r ≠ [] ∧ p = q ++ r) ∨
    ∃ c s s' p' q', s ≠ s' ∧ p = c ++ s :: p' ∧ q = c ++ s' :: q'
  | [], q => Or.inl (List.nil_prefix)
  | s :: p, [] => Or.inr (Or.inl ⟨s :: p, by simp, by simp⟩)
  | s :: p, s' :: q => by
    by_cases h : s = s'
    · subst h
      rcases path_trichotomy p q with h | ⟨r, hr, h⟩ | ⟨c, a, b, p', q', hab, hp, hq⟩
      · exact Or.inl (by simpa using h)
      · exact Or.inr (Or.inl ⟨r, hr, by simp [h]⟩)
      · exact Or.inr (Or.inr ⟨s :: c, a, b, p', q', hab, by simp [hp], by simp [hq]⟩)
    · exact Or.inr (Or.inr ⟨[], s, s', p, q, h, rfl, rfl⟩)

/-- **Frame of `updateAt`.** A location that is neither the updated one nor below it holds the same
data afterwards (and exists afterwards iff it existed before). -/
theorem getAt_updateAt_frame (f : Entry → Entry) (p q : Path) (hs : NameStable p f) (e : Entry) (h : ¬ p <+: q) :
    ((e.updateAt p f).getAt q).map (·.d) = (e.getAt q).map (·.d) := by
  rcases path_trichotomy p q with hpq | ⟨r, hr, hp⟩ | ⟨c, a, b, p', q', hab, hp, hq⟩
  · exact absurd hpq h
  · subst hp
    rw [getAt_updateAt_prefix f q r hs e]
    cases e.getAt q with
    | none => rfl
    | some x => simp [updateAt_d_of_ne_nil x r f hr]
  · subst hp; subst hq
    rw [getAt_updateAt_diverge f hab p' q' c hs e]

/-- A location off the path to the updated one holds the same subtree afterwards. -/
theorem getAt_updateAt_unrelated (f : Entry → Entry) (p q : Path) (hs : NameStable p f) (e : Entry)
    (h : ¬ p <+: q) (h' : ¬ q <+: p) : (e.updateAt p f).getAt q = e.getAt q := by
  rcases path_trichotomy p q with hpq | ⟨r, _, hp⟩ | ⟨c, a, b, p', q', hab, hp, hq⟩
  · exact absurd hpq h
  · exact absurd ⟨r, hp.symm⟩ h'
  · subst hp; subst hq
    exact getAt_updateAt_diverge f hab p' q' c hs e

/-- The updated location itself. -/
theorem getAt_updateAt_self (f : Entry → Entry) (p : Path) (hs : NameStable p f) (e : Entry) :
    (e.updateAt p f).getAt p = (e.getAt p).map f := by
  have := getAt_updateAt_append f p hs e []
  simp only [List.append_nil] at this
  rw [this]; cases e.getAt p <;> simp [Entry.getAt]

/-- Below the updated location nothing changes when `f` keeps the children. -/
theorem getAt_updateAt_below (f : Entry → Entry) (p : Path) (hs : NameStable p f) (e : Entry)
    (hkids : ∀ x, (f x).dir = x.dir ∧ (f x).inp = x.inp ∧ (f x).out = x.out) (s : Step) (r : Path) :
    (e.updateAt p f).getAt (p ++ s :: r) = e.getAt (p ++ s :: r) := by
  rw [getAt_updateAt_append f p hs e (s :: r)]
  rw [ForestAux.getAt_append e p (s :: r)]
  cases e.getAt p with
  | none => rfl
  | some x =>
    obtain ⟨h1, h2, h3⟩ := hkids x
    cases s <;> simp [Entry.getAt, Entry.child?, h1, h2, h3]


/-! #### `removeAt` -/

theorem find_filter_ne (l : List Entry) {k k' : String} (h : k' ≠ k) :
    (l.filter (·.name != k)).find? (·.name == k') = l.find? (·.name == k') := by
  induction l with
  | nil => rfl
  | cons x xs ih =>
    by_cases hx : x.name = k
    · rw [List.filter_cons_of_neg (by simp [hx]), List.find?_cons_of_neg (by simp [hx, Ne.symm h]), ih]
    · rw [List.filter_cons_of_pos (by simp [hx])]
      by_cases hx' : x.name = k'
      · rw [List.find?_cons_of_pos (by simp [hx']), List.find?_cons_of_pos (by simp [hx'])]
      · rw [List.find?_cons_of_neg (by simp [hx']), List.find?_cons_of_neg (by simp [hx']), ih]

theorem find_filter_self (l : List Entry) (k : String) :
    (l.filter (·.name != k)).find? (·.name == k) = none := by
  induction l with
  | nil => rfl
  | cons x xs ih =>
    by_cases hx : x.name = k
    · rw [List.filter_cons_of_neg (by simp [hx]), ih]
    · rw [List.filter_cons_of_pos (by simp [hx]), List.find?_cons_of_neg (by simp [hx]), ih]

/-- What `removeAt` does to the parent of the removed node. -/
def dropStep (s : Step) (pe : Entry) : Entry :=
  match s with
  | .child k => pe.withDir (pe.dir.filter (·.name != k))
  | .input => match pe with | .mk d c _ o => .mk d c [] o
  | .output => match pe with | .mk d c i _ => .mk d c i []

theorem removeAt_eq (root : Entry) (pd : Path) (s : Step) :
    removeAt root (pd ++ [s]) = root.updateAt pd (dropStep s) := by
  unfold removeAt
  simp only [List.getLast?_append, List.getLast?_singleton, Option.some_or, List.dropLast_concat]
  cases s <;> rfl

theorem dropStep_d (s : Step) (pe : Entry) : (dropStep s pe).d = pe.d := by
  cases s <;> cases pe <;> rfl

theorem dropStep_stable (s : Step) (p : Path) : NameStable p (dropStep s) :=
  NameStable.of_forall fun e => by simp [Entry.name, dropStep_d]

theorem next_dropStep_self (s : Step) (pe : Entry) : next (dropStep s pe) s = none := by
  cases pe with
  | mk d c i o =>
    cases s with
    | child k => exact find_filter_self c k
    | input => rfl
    | output => rfl

theorem next_dropStep_other {s s' : Step} (h : s' ≠ s) (pe : Entry) : next (dropStep s pe) s' = next pe s' := by
  cases pe with
  | mk d c i o =>
    cases s with
    | child k =>
      cases s' with
      | child k' => exact find_filter_ne c fun e => h (by rw [e])
      | input => rfl
      | output => rfl
    | input => cases s' <;> first | rfl | exact absurd rfl h
    | output => cases s' <;> first | rfl | exact absurd rfl h

theorem dropStep_gone (s : Step) (pe : Entry) (r : Path) : (dropStep s pe).getAt (s :: r) = none := by
  rw [getAt_cons, next_dropStep_self]; rfl

theorem dropStep_other {s s' : Step} (h : s' ≠ s) (pe : Entry) (r : Path) :
    (dropStep s pe).getAt (s' :: r) = pe.getAt (s' :: r) := by
  rw [getAt_cons, next_dropStep_other h, getAt_cons]

/-- **`removeAt` removes the subtree**: neither the removed location nor anything below it exists
afterwards. -/
theorem getAt_removeAt_gone (root : Entry) (p : Path) (hp : p ≠ []) (r : Path) :
    (removeAt root p).getAt (p ++ r) = none := by
  obtain ⟨pd, s, rfl⟩ : ∃ pd s, p = pd ++ [s] :=
    ⟨p.dropLast, p.getLast hp, (List.dropLast_concat_getLast hp).symm⟩
  rw [removeAt_eq, List.append_assoc, List.singleton_append,
    getAt_updateAt_append _ pd (dropStep_stable s pd) root (s :: r)]
  cases root.getAt pd with
  | none => rfl
  | some x => simpa using dropStep_gone s x r

/-- **Frame of `removeAt`**: a location that is neither the removed one nor below it holds the same
data afterwards (and exists iff it existed). -/
theorem getAt_removeAt_frame (root : Entry) (p q : Path) (h : ¬ p <+: q) :
    ((removeAt root p).getAt q).map (·.d) = (root.getAt q).map (·.d) := by
  by_cases hp : p = []
  · subst hp; exact absurd List.nil_prefix h
  obtain ⟨pd, s, rfl⟩ : ∃ pd s, p = pd ++ [s] :=
    ⟨p.dropLast, p.getLast hp, (List.dropLast_concat_getLast hp).symm⟩
  rw [removeAt_eq]
  by_cases hpd : pd <+: q
  · obtain ⟨r, rfl⟩ := hpd
    rw [getAt_updateAt_append _ pd (dropStep_stable s pd) root r, ForestAux.getAt_append root pd r]
    cases root.getAt pd with
    | none => rfl
    | some x =>
      cases r with
      | nil => simp [Entry.getAt, dropStep_d]
      | cons s' r =>
        have hs : s' ≠ s := by
          intro e; subst e
          exact h ⟨r, by simp⟩
        simp [dropStep_other hs]
  · exact getAt_updateAt_frame _ pd q (dropStep_stable s pd) root hpd


/-! ### one deviate statement: the model in stages

`applyOneDeviate` is one long expression; the same function written as a pipeline of stages, one per
property, in the order the Go code visits them (`rfl` shows it is the same function). -/

def listLike (n : Entry) : Bool := n.isList || n.isLeafList
def setMin (n : Entry) (v : Nat) : Entry :=
  n.withD fun d => { d with listAttr := d.listAttr.map fun la => { la with min := v } }
def setMax (n : Entry) (v : Nat) : Entry :=
  n.withD fun d => { d with listAttr := d.listAttr.map fun la => { la with max := v } }
def specMin (sd : EData) : Nat := (sd.listAttr.getD {}).min
def specMax (sd : EData) : Nat := (sd.listAttr.getD {}).max
def nodeMin (n : Entry) : Nat := (n.d.listAttr.getD {}).min
def nodeMax (n : Entry) : Nat := (n.d.listAttr.getD {}).max

def stCfg (sd : EData) (n : Entry) : Entry :=
  if sd.config != .unset then n.withD fun d => { d with config := sd.config } else n
def stMand (sd : EData) (n : Entry) : Entry :=
  if sd.mandatory != .unset then n.withD fun d => { d with mandatory := sd.mandatory } else n
def stDefAR (ms : Stmt) (isAdd : Bool) (sd : EData) (n : Entry) : Entry × List Err :=
  if sd.default.isEmpty then (n, [])
  else if isAdd then
    if n.isLeafList then (n.withD fun d => { d with default := d.default ++ sd.default }, [])
    else if sd.default.length > 1 then (n, [Err.at_ ms "deviate-add-many-defaults"])
    else if !n.d.default.isEmpty then (n, [Err.at_ ms "deviate-add-default-exists"])
    else (n.withD fun d => { d with default := sd.default.take 1 }, [])
  else (n.withD fun d => { d with default := sd.default }, [])
def stUnits (sd : EData) (n : Entry) : Entry :=
  if sd.units != "" then n.withD fun d => { d with units := sd.units } else n
def stType (sd : EData) (n : Entry) : Entry :=
  if sd.type.isSome then n.withD fun d => { d with type := sd.type } else n

/-- `add` (`isAdd`) and `replace`. -/
def addReplace (ms : Stmt) (isAdd : Bool) (spec node : Entry) : Entry × Bool × List Err :=
  let sd := spec.d
  let n1 := stCfg sd node
  let r2 := stDefAR ms isAdd sd n1
  let n3 := stMand sd r2.1
  if sd.hasMin && !listLike n3 then (n3, false, r2.2 ++ [Err.bare "deviate-min-nonlist"]) else
  let n4 := if sd.hasMin then setMin n3 (specMin sd) else n3
  if sd.hasMax && !listLike n4 then (n4, false, r2.2 ++ [Err.bare "deviate-max-nonlist"]) else
  let n5 := if sd.hasMax then setMax n4 (specMax sd) else n4
  (stType sd (stUnits sd n5), false, r2.2)

def stCfgDel (sd : EData) (n : Entry) : Entry :=
  if sd.config != .unset then n.withD fun d => { d with config := .unset } else n
def stMandDel (sd : EData) (n : Entry) : Entry :=
  if sd.mandatory != .unset then n.withD fun d => { d with mandatory := .unset } else n
def stDefDel (ms : Stmt) (sd : EData) (n : Entry) : Entry × List Err :=
  if sd.default.isEmpty then (n, [])
  else if n.isLeafList then (n, [Err.at_ ms "deviate-delete-default-leaflist"])
  else if n.d.default.isEmpty then (n, [Err.at_ ms "deviate-delete-default-missing"])
  else if sd.default.head? != n.d.default.head? then (n, [Err.at_ ms "deviate-delete-default-mismatch"])
  else (n.withD fun d => { d with default := [] }, [])

/-- `delete`. -/
def delete_ (ms : Stmt) (spec node : Entry) : Entry × Bool × List Err :=
  let sd := spec.d
  let n1 := stCfgDel sd node
  let r2 := stDefDel ms sd n1
  let n3 := stMandDel sd r2.1
  if sd.hasMin && !listLike n3 then (n3, false, r2.2 ++ [Err.bare "deviate-min-nonlist"]) else
  let r4 : Entry × List Err :=
    if sd.hasMin then
      (setMin n3 0, if nodeMin n3 != specMin sd then r2.2 ++ [Err.bare "deviate-delete-min-mismatch"] else r2.2)
    else (n3, r2.2)
  if sd.hasMax && !listLike r4.1 then (r4.1, false, r4.2 ++ [Err.bare "deviate-max-nonlist"]) else
  let r5 : Entry × List Err :=
    if sd.hasMax then
      (setMax r4.1 maxU64, if nodeMax r4.1 != specMax sd then r4.2 ++ [Err.bare "deviate-delete-max-mismatch"] else r4.2)
    else r4
  (r5.1, false, r5.2)

def notSupported (opts : Opts) (ms : Stmt) (hasParent : Bool) (node : Entry) : Entry × Bool × List Err :=
  if !hasParent then (node, false, [Err.at_ ms "deviate-no-parent"])
  else (node, !opts.ignoreNotSupported, [])

/-- The argument of a deviate statement. -/
def kindOf (k : String) : DevKind :=
  if k = "add" then .add else if k = "replace" then .replace else if k = "not-supported" then .notSupported
  else if k = "delete" then .delete else .other

/-- `applyOneDeviate`, by kind. -/
def staged (opts : Opts) (ms : Stmt) (kind : String) (spec : Entry) (hasParent : Bool) (node : Entry) :
    Entry × Bool × List Err :=
  match kindOf kind with
  | .add => addReplace ms true spec node
  | .replace => addReplace ms false spec node
  | .notSupported => notSupported opts ms hasParent node
  | .delete => delete_ ms spec node
  | .other => (node, false, [Err.bare "deviate-unknown-kind"])

theorem applyOneDeviate_eq_staged (opts : Opts) (ms : Stmt) (kind : String) (spec : Entry) (hp : Bool) (node : Entry) :
    applyOneDeviate opts ms kind spec hp node = staged opts ms kind spec hp node := by
  by_cases h1 : kind = "add"
  · subst h1; rfl
  by_cases h2 : kind = "replace"
  · subst h2; rfl
  by_cases h3 : kind = "not-supported"
  · subst h3; rfl
  by_cases h4 : kind = "delete"
  · subst h4; rfl
  have e1 : (kind == "add") = false := by simp [h1]
  have e2 : (kind == "replace") = false := by simp [h2]
  have e3 : (kind == "not-supported") = false := by simp [h3]
  have e4 : (kind == "delete") = false := by simp [h4]
  unfold applyOneDeviate staged kindOf
  simp only [e1, e2, e3, e4, h1, h2, h3, h4, Bool.false_or, Bool.false_eq_true, if_false]


/-! ### the abstraction: an entry's §7.20.3 properties, a deviate entry's statement -/

def triOpt : Tri → Option Bool
  | .unset => none | .true_ => some true | .false_ => some false

/-- `MaxUint64` is how the schema tree writes "unbounded". -/
def maxOpt (v : Nat) : Option Nat := if v = maxU64 then none else some v

/-- The empty string is how the schema tree writes "no units". -/
def strOpt (s : String) : Option String := if s = "" then none else some s

/-- The properties of a schema tree node, as RFC 7950 §7.20.3 sees them. -/
def propsOf (e : Entry) : NodeProps :=
  { listLike := listLike e, leafList := e.isLeafList,
    config := triOpt e.d.config, mandatory := triOpt e.d.mandatory, default := e.d.default,
    min := nodeMin e, max := maxOpt (nodeMax e),
    units := strOpt e.d.units,
    type := e.d.type.map (·.dump) }

/-- The deviate statement a deviate entry (`toEntry` of the statement) stands for. -/
def stmtOf (kind : String) (spec : Entry) : DeviateStmt :=
  { kind := kindOf kind, config := triOpt spec.d.config, mandatory := triOpt spec.d.mandatory,
    default := spec.d.default,
    min := if spec.d.hasMin then some (specMin spec.d) else none,
    max := if spec.d.hasMax then some (maxOpt (specMax spec.d)) else none,
    units := strOpt spec.d.units,
    type := spec.d.type.map (·.dump) }

theorem listLike_isSome {n : Entry} (h : listLike n = true) : n.d.listAttr.isSome = true := by
  cases n with
  | mk d c i o =>
    simp only [listLike, Entry.isList, Entry.isLeafList, Entry.d, Bool.or_eq_true, Bool.and_eq_true] at h ⊢
    rcases h with h | h <;> exact h.2

/-- A data update that keeps `hasDir`, `kind` and the presence of list attributes keeps what kind of
node it is. -/
theorem flags_withD (n : Entry) (g : EData → EData) (h1 : (g n.d).hasDir = n.d.hasDir) (h2 : (g n.d).kind = n.d.kind)
    (h3 : (g n.d).listAttr.isSome = n.d.listAttr.isSome) :
    listLike (n.withD g) = listLike n ∧ (n.withD g).isLeafList = n.isLeafList := by
  cases n with
  | mk d c i o =>
    simp only [Entry.d] at h1 h2 h3
    simp [listLike, Entry.isList, Entry.isLeafList, Entry.withD, Entry.d, h1, h2, h3]

theorem tri_bne1 : (Tri.unset != Tri.unset) = false := rfl
theorem tri_bne2 : (Tri.true_ != Tri.unset) = true := rfl
theorem tri_bne3 : (Tri.false_ != Tri.unset) = true := rfl

theorem propsOf_stCfg (sd : EData) (n : Entry) :
    propsOf (stCfg sd n) = { propsOf n with config := (triOpt sd.config).or (propsOf n).config } := by
  cases n with
  | mk d c i o =>
    cases hc : sd.config <;>
      simp [stCfg, hc, propsOf, triOpt, Entry.withD, Entry.d, listLike, Entry.isList, Entry.isLeafList, nodeMin, nodeMax,
        tri_bne1, tri_bne2, tri_bne3]


theorem propsOf_stMand (sd : EData) (n : Entry) :
    propsOf (stMand sd n) = { propsOf n with mandatory := (triOpt sd.mandatory).or (propsOf n).mandatory } := by
  cases n with
  | mk d c i o =>
    cases hc : sd.mandatory <;>
      simp [stMand, hc, propsOf, triOpt, Entry.withD, Entry.d, listLike, Entry.isList, Entry.isLeafList, nodeMin, nodeMax,
        tri_bne1, tri_bne2, tri_bne3]

theorem propsOf_stCfgDel (sd : EData) (n : Entry) :
    propsOf (stCfgDel sd n) = { propsOf n with config := if (triOpt sd.config).isSome then none else (propsOf n).config } := by
  cases n with
  | mk d c i o =>
    cases hc : sd.config <;>
      simp [stCfgDel, hc, propsOf, triOpt, Entry.withD, Entry.d, listLike, Entry.isList, Entry.isLeafList, nodeMin, nodeMax,
        tri_bne1, tri_bne2, tri_bne3]

theorem propsOf_stMandDel (sd : EData) (n : Entry) :
    propsOf (stMandDel sd n) =
      { propsOf n with mandatory := if (triOpt sd.mandatory).isSome then none else (propsOf n).mandatory } := by
  cases n with
  | mk d c i o =>
    cases hc : sd.mandatory <;>
      simp [stMandDel, hc, propsOf, triOpt, Entry.withD, Entry.d, listLike, Entry.isList, Entry.isLeafList, nodeMin, nodeMax,
        tri_bne1, tri_bne2, tri_bne3]

theorem strOpt_empty : strOpt "" = none := rfl
theorem strOpt_ne {s : String} (h : s ≠ "") : strOpt s = some s := by simp [strOpt, h]

theorem propsOf_stUnits (sd : EData) (n : Entry) :
    propsOf (stUnits sd n) = { propsOf n with units := (strOpt sd.units).or (propsOf n).units } := by
  cases n with
  | mk d c i o =>
    by_cases hu : sd.units = ""
    · simp [stUnits, hu, propsOf, strOpt_empty]
    · simp [stUnits, hu, propsOf, strOpt_ne hu, Entry.withD, Entry.d, listLike, Entry.isList, Entry.isLeafList, nodeMin, nodeMax]

theorem propsOf_stType (sd : EData) (n : Entry) :
    propsOf (stType sd n) = { propsOf n with type := (sd.type.map (·.dump)).or (propsOf n).type } := by
  cases n with
  | mk d c i o =>
    cases ht : sd.type <;>
      simp [stType, ht, propsOf, Entry.withD, Entry.d, listLike, Entry.isList, Entry.isLeafList, nodeMin, nodeMax]

theorem propsOf_setMin (n : Entry) (v : Nat) (h : listLike n = true) :
    propsOf (setMin n v) = { propsOf n with min := v } := by
  have hs := listLike_isSome h
  cases n with
  | mk d c i o =>
    simp only [Entry.d] at hs
    obtain ⟨la, hla⟩ := Option.isSome_iff_exists.mp hs
    simp [setMin, propsOf, Entry.withD, Entry.d, listLike, Entry.isList, Entry.isLeafList, nodeMin, nodeMax, hla]

theorem propsOf_setMax (n : Entry) (v : Nat) (h : listLike n = true) :
    propsOf (setMax n v) = { propsOf n with max := maxOpt v } := by
  have hs := listLike_isSome h
  cases n with
  | mk d c i o =>
    simp only [Entry.d] at hs
    obtain ⟨la, hla⟩ := Option.isSome_iff_exists.mp hs
    simp [setMax, propsOf, Entry.withD, Entry.d, listLike, Entry.isList, Entry.isLeafList, nodeMin, nodeMax, hla]

theorem propsOf_setDefault (n : Entry) (l : List String) :
    propsOf (n.withD fun d => { d with default := l }) = { propsOf n with default := l } := by
  cases n with
  | mk d c i o => simp [propsOf, Entry.withD, Entry.d, listLike, Entry.isList, Entry.isLeafList, nodeMin, nodeMax]

theorem propsOf_appendDefault (n : Entry) (l : List String) :
    propsOf (n.withD fun d => { d with default := d.default ++ l }) = { propsOf n with default := (propsOf n).default ++ l } := by
  cases n with
  | mk d c i o => simp [propsOf, Entry.withD, Entry.d, listLike, Entry.isList, Entry.isLeafList, nodeMin, nodeMax]

/-- §7.20.3.2 for `default` under add / replace. -/
def defAR (isAdd : Bool) (ds : List String) (p : NodeProps) : List String :=
  if ds.isEmpty then p.default else if isAdd && p.leafList then p.default ++ ds else ds

/-- The default stage of `add` / `replace`: when it reports nothing it did what §7.20.3.2 says. -/
theorem propsOf_stDefAR (ms : Stmt) (isAdd : Bool) (sd : EData) (n : Entry) (h : (stDefAR ms isAdd sd n).2 = []) :
    propsOf (stDefAR ms isAdd sd n).1 = { propsOf n with default := defAR isAdd sd.default (propsOf n) } := by
  have hl : (propsOf n).leafList = n.isLeafList := rfl
  unfold stDefAR at h ⊢
  by_cases h1 : sd.default.isEmpty = true
  · simp [h1, defAR]
  · cases isAdd with
    | false =>
      have hd : defAR false sd.default (propsOf n) = sd.default := by simp [defAR, h1]
      rw [hd]; simp only [h1, if_false, Bool.false_eq_true]; exact propsOf_setDefault n _
    | true =>
      by_cases h2 : n.isLeafList = true
      · have hd : defAR true sd.default (propsOf n) = (propsOf n).default ++ sd.default := by simp [defAR, h1, hl, h2]
        rw [hd]; simp only [h1, h2, if_true, if_false, Bool.false_eq_true]
        exact propsOf_appendDefault n _
      · by_cases h3 : sd.default.length > 1
        · simp [h1, h2, h3] at h
        · by_cases h4 : (!n.d.default.isEmpty) = true
          · simp [h1, h2, h3, h4] at h
          · have h5 : sd.default.take 1 = sd.default := List.take_of_length_le (by omega)
            have hd : defAR true sd.default (propsOf n) = sd.default := by simp [defAR, h1, hl, h2]
            rw [hd]; simp only [h1, h2, h3, h4, if_true, if_false, Bool.false_eq_true, h5]
            exact propsOf_setDefault n _

/-- When does the default stage of add / replace report something. -/
theorem stDefAR_errs (ms : Stmt) (isAdd : Bool) (sd : EData) (n : Entry) :
    (stDefAR ms isAdd sd n).2 = [] ↔
      (sd.default.isEmpty = true ∨ isAdd = false ∨ n.isLeafList = true ∨
        (sd.default.length ≤ 1 ∧ n.d.default.isEmpty = true)) := by
  unfold stDefAR
  by_cases h1 : sd.default.isEmpty = true
  · simp [h1]
  · cases isAdd with
    | false => simp [h1]
    | true =>
      by_cases h2 : n.isLeafList = true
      · simp [h1, h2]
      · by_cases h3 : sd.default.length > 1
        · simp [h1, h2, h3]; omega
        · by_cases h4 : (!n.d.default.isEmpty) = true
          · simp [h1, h2, h3, h4]; intro _; simpa using h4
          · simp [h1, h2, h3, h4]; simp at h4; exact ⟨by omega, h4⟩

theorem stDefAR_keeps {α} (P : Entry → α)
    (hP : ∀ (n : Entry) (g : EData → List String), P (n.withD fun d => { d with default := g d }) = P n)
    (ms : Stmt) (isAdd : Bool) (sd : EData) (n : Entry) : P (stDefAR ms isAdd sd n).1 = P n := by
  unfold stDefAR
  simp only [apply_ite Prod.fst, apply_ite P, hP, ite_self]

theorem flags_setDefault (n : Entry) (g : EData → List String) :
    listLike (n.withD fun d => { d with default := g d }) = listLike n ∧
      (n.withD fun d => { d with default := g d }).isLeafList = n.isLeafList :=
  flags_withD n _ rfl rfl rfl

theorem flags_stDefAR (ms : Stmt) (isAdd : Bool) (sd : EData) (n : Entry) :
    listLike (stDefAR ms isAdd sd n).1 = listLike n ∧ (stDefAR ms isAdd sd n).1.isLeafList = n.isLeafList :=
  ⟨stDefAR_keeps listLike (fun n g => (flags_setDefault n g).1) ms isAdd sd n,
   stDefAR_keeps Entry.isLeafList (fun n g => (flags_setDefault n g).2) ms isAdd sd n⟩


theorem flags_stCfg (sd : EData) (n : Entry) : listLike (stCfg sd n) = listLike n ∧ (stCfg sd n).isLeafList = n.isLeafList :=
  ⟨congrArg NodeProps.listLike (propsOf_stCfg sd n), congrArg NodeProps.leafList (propsOf_stCfg sd n)⟩
theorem flags_stMand (sd : EData) (n : Entry) : listLike (stMand sd n) = listLike n ∧ (stMand sd n).isLeafList = n.isLeafList :=
  ⟨congrArg NodeProps.listLike (propsOf_stMand sd n), congrArg NodeProps.leafList (propsOf_stMand sd n)⟩
theorem flags_stCfgDel (sd : EData) (n : Entry) :
    listLike (stCfgDel sd n) = listLike n ∧ (stCfgDel sd n).isLeafList = n.isLeafList :=
  ⟨congrArg NodeProps.listLike (propsOf_stCfgDel sd n), congrArg NodeProps.leafList (propsOf_stCfgDel sd n)⟩
theorem flags_stMandDel (sd : EData) (n : Entry) :
    listLike (stMandDel sd n) = listLike n ∧ (stMandDel sd n).isLeafList = n.isLeafList :=
  ⟨congrArg NodeProps.listLike (propsOf_stMandDel sd n), congrArg NodeProps.leafList (propsOf_stMandDel sd n)⟩
theorem listLike_setMin (n : Entry) (v : Nat) : listLike (setMin n v) = listLike n :=
  (flags_withD n _ rfl rfl (by simp)).1
theorem listLike_setMax (n : Entry) (v : Nat) : listLike (setMax n v) = listLike n :=
  (flags_withD n _ rfl rfl (by simp)).1

/-- The node before the element-bound stages of add / replace. -/
def arN3 (ms : Stmt) (isAdd : Bool) (spec node : Entry) : Entry :=
  stMand spec.d (stDefAR ms isAdd spec.d (stCfg spec.d node)).1

theorem listLike_arN3 (ms : Stmt) (isAdd : Bool) (spec node : Entry) : listLike (arN3 ms isAdd spec node) = listLike node := by
  unfold arN3
  rw [(flags_stMand _ _).1, (flags_stDefAR _ _ _ _).1, (flags_stCfg _ _).1]

theorem listLike_condMin (c : Bool) (n : Entry) (v : Nat) : listLike (if c then setMin n v else n) = listLike n := by
  cases c
  · rfl
  · exact listLike_setMin n v

theorem propsOf_condMin (c : Bool) (n : Entry) (v : Nat) (h : c = true → listLike n = true) :
    propsOf (if c then setMin n v else n) = { propsOf n with min := if c then v else (propsOf n).min } := by
  cases c
  · rfl
  · exact propsOf_setMin n v (h rfl)

theorem propsOf_condMax (c : Bool) (n : Entry) (v : Nat) (h : c = true → listLike n = true) :
    propsOf (if c then setMax n v else n) = { propsOf n with max := if c then maxOpt v else (propsOf n).max } := by
  cases c
  · rfl
  · exact propsOf_setMax n v (h rfl)

theorem addReplace_eq (ms : Stmt) (isAdd : Bool) (spec node : Entry) :
    addReplace ms isAdd spec node =
      (let n3 := arN3 ms isAdd spec node
       let e2 := (stDefAR ms isAdd spec.d (stCfg spec.d node)).2
       let n4 := if spec.d.hasMin then setMin n3 (specMin spec.d) else n3
       if spec.d.hasMin && !listLike node then (n3, false, e2 ++ [Err.bare "deviate-min-nonlist"])
       else if spec.d.hasMax && !listLike node then (n4, false, e2 ++ [Err.bare "deviate-max-nonlist"])
       else (stType spec.d (stUnits spec.d (if spec.d.hasMax then setMax n4 (specMax spec.d) else n4)), false, e2)) := by
  unfold addReplace
  simp only []
  rw [show stMand spec.d (stDefAR ms isAdd spec.d (stCfg spec.d node)).1 = arN3 ms isAdd spec node from rfl]
  simp only [listLike_condMin, listLike_arN3]

/-- What add / replace report. -/
theorem addReplace_errs (ms : Stmt) (isAdd : Bool) (spec node : Entry) :
    (addReplace ms isAdd spec node).2.2 = [] ↔
      ((stDefAR ms isAdd spec.d (stCfg spec.d node)).2 = [] ∧
       ¬ (spec.d.hasMin = true ∧ listLike node = false) ∧ ¬ (spec.d.hasMax = true ∧ listLike node = false)) := by
  rw [addReplace_eq]
  cases spec.d.hasMin <;> cases spec.d.hasMax <;> cases listLike node <;> simp


/-- The properties add / replace leave behind when they report nothing (§7.20.3.2). -/
def effectAR (isAdd : Bool) (spec : Entry) (p : NodeProps) : NodeProps :=
  { p with
    config := (triOpt spec.d.config).or p.config
    default := defAR isAdd spec.d.default p
    mandatory := (triOpt spec.d.mandatory).or p.mandatory
    min := if spec.d.hasMin then specMin spec.d else p.min
    max := if spec.d.hasMax then maxOpt (specMax spec.d) else p.max
    units := (strOpt spec.d.units).or p.units
    type := (spec.d.type.map (·.dump)).or p.type }

theorem addReplace_effect (ms : Stmt) (isAdd : Bool) (spec node : Entry) (h : (addReplace ms isAdd spec node).2.2 = []) :
    (addReplace ms isAdd spec node).2.1 = false ∧
    propsOf (addReplace ms isAdd spec node).1 = effectAR isAdd spec (propsOf node) := by
  obtain ⟨hdef, hmin, hmax⟩ := (addReplace_errs ms isAdd spec node).mp h
  have hl : ∀ c : Bool, ¬ (c = true ∧ listLike node = false) → c = true → listLike node = true := by
    intro c h1 h2
    cases hx : listLike node
    · exact absurd ⟨h2, hx⟩ h1
    · rfl
  rw [addReplace_eq]
  simp only []
  rw [if_neg (by simpa using hmin), if_neg (by simpa using hmax)]
  refine ⟨rfl, ?_⟩
  rw [propsOf_stType, propsOf_stUnits,
    propsOf_condMax _ _ _ (fun hc => by rw [listLike_condMin, listLike_arN3]; exact hl _ hmax hc),
    propsOf_condMin _ _ _ (fun hc => by rw [listLike_arN3]; exact hl _ hmin hc)]
  unfold arN3
  rw [propsOf_stMand, propsOf_stDefAR _ _ _ _ hdef, propsOf_stCfg]
  rfl


/-! #### delete -/

/-- §7.20.3.2 for `default` under delete. -/
def defDel (ds : List String) (p : NodeProps) : List String :=
  if ds.isEmpty then p.default else if p.leafList then p.default.filter (!ds.contains ·) else []

theorem stDefDel_errs (ms : Stmt) (sd : EData) (n : Entry) :
    (stDefDel ms sd n).2 = [] ↔
      (sd.default.isEmpty = true ∨
        (n.isLeafList = false ∧ n.d.default.isEmpty = false ∧ sd.default.head? = n.d.default.head?)) := by
  unfold stDefDel
  by_cases h1 : sd.default.isEmpty = true
  · simp [h1]
  · by_cases h2 : n.isLeafList = true
    · simp [h1, h2]
    · by_cases h3 : n.d.default.isEmpty = true
      · simp [h1, h2, h3]
      · by_cases h4 : sd.default.head? = n.d.default.head?
        · simp [h1, h2, h3, h4]
        · simp [h1, h2, h3, h4]

theorem propsOf_stDefDel (ms : Stmt) (sd : EData) (n : Entry) (h : (stDefDel ms sd n).2 = []) :
    propsOf (stDefDel ms sd n).1 = { propsOf n with default := defDel sd.default (propsOf n) } := by
  have hl : (propsOf n).leafList = n.isLeafList := rfl
  rcases (stDefDel_errs ms sd n).mp h with h1 | ⟨h2, h3, h4⟩
  · simp [stDefDel, h1, defDel]
  · by_cases h1 : sd.default.isEmpty = true
    · simp [stDefDel, h1, defDel]
    · have hd : defDel sd.default (propsOf n) = [] := by simp [defDel, h1, hl, h2]
      rw [hd]
      unfold stDefDel
      simp only [h1, h2, h3, h4, if_false, Bool.false_eq_true, bne_self_eq_false]
      exact propsOf_setDefault n _

theorem listAttr_stCfgDel (sd : EData) (n : Entry) : (stCfgDel sd n).d.listAttr = n.d.listAttr := by
  cases n; unfold stCfgDel; split <;> rfl
theorem listAttr_stMandDel (sd : EData) (n : Entry) : (stMandDel sd n).d.listAttr = n.d.listAttr := by
  cases n; unfold stMandDel; split <;> rfl
theorem stDefDel_keeps {α} (P : Entry → α)
    (hP : ∀ (n : Entry) (g : EData → List String), P (n.withD fun d => { d with default := g d }) = P n)
    (ms : Stmt) (sd : EData) (n : Entry) : P (stDefDel ms sd n).1 = P n := by
  unfold stDefDel
  simp only [apply_ite Prod.fst, apply_ite P, hP, ite_self]

theorem listAttr_stDefDel (ms : Stmt) (sd : EData) (n : Entry) : (stDefDel ms sd n).1.d.listAttr = n.d.listAttr :=
  stDefDel_keeps (·.d.listAttr) (fun n _ => by cases n; rfl) ms sd n
theorem flags_stDefDel (ms : Stmt) (sd : EData) (n : Entry) :
    listLike (stDefDel ms sd n).1 = listLike n ∧ (stDefDel ms sd n).1.isLeafList = n.isLeafList :=
  ⟨stDefDel_keeps listLike (fun n g => (flags_setDefault n g).1) ms sd n,
   stDefDel_keeps Entry.isLeafList (fun n g => (flags_setDefault n g).2) ms sd n⟩

/-- The node before the element-bound stages of delete. -/
def delN3 (ms : Stmt) (spec node : Entry) : Entry :=
  stMandDel spec.d (stDefDel ms spec.d (stCfgDel spec.d node)).1

theorem listLike_delN3 (ms : Stmt) (spec node : Entry) : listLike (delN3 ms spec node) = listLike node := by
  unfold delN3
  rw [(flags_stMandDel _ _).1, (flags_stDefDel _ _ _).1, (flags_stCfgDel _ _).1]

theorem listAttr_delN3 (ms : Stmt) (spec node : Entry) : (delN3 ms spec node).d.listAttr = node.d.listAttr := by
  unfold delN3
  rw [listAttr_stMandDel, listAttr_stDefDel, listAttr_stCfgDel]

theorem nodeMax_setMin (n : Entry) (v : Nat) : nodeMax (setMin n v) = nodeMax n := by
  cases n with
  | mk d c i o => cases h : d.listAttr <;> simp [nodeMax, setMin, Entry.withD, Entry.d, h]

/-- `delete` written with the node before the bound stages named. -/
theorem delete_eq (ms : Stmt) (spec node : Entry) :
    delete_ ms spec node =
      (let n3 := delN3 ms spec node
       let e2 := (stDefDel ms spec.d (stCfgDel spec.d node)).2
       if spec.d.hasMin && !listLike n3 then (n3, false, e2 ++ [Err.bare "deviate-min-nonlist"]) else
       let r4 : Entry × List Err :=
         if spec.d.hasMin then
           (setMin n3 0, if nodeMin n3 != specMin spec.d then e2 ++ [Err.bare "deviate-delete-min-mismatch"] else e2)
         else (n3, e2)
       if spec.d.hasMax && !listLike r4.1 then (r4.1, false, r4.2 ++ [Err.bare "deviate-max-nonlist"]) else
       let r5 : Entry × List Err :=
         if spec.d.hasMax then
           (setMax r4.1 maxU64, if nodeMax r4.1 != specMax spec.d then r4.2 ++ [Err.bare "deviate-delete-max-mismatch"] else r4.2)
         else r4
       (r5.1, false, r5.2)) := rfl

/-- What delete reports. -/
theorem delete_errs (ms : Stmt) (spec node : Entry) :
    (delete_ ms spec node).2.2 = [] ↔
      ((stDefDel ms spec.d (stCfgDel spec.d node)).2 = [] ∧
       (spec.d.hasMin = true → listLike node = true ∧ nodeMin node = specMin spec.d) ∧
       (spec.d.hasMax = true → listLike node = true ∧ nodeMax node = specMax spec.d)) := by
  have hl := listLike_delN3 ms spec node
  have hmin : nodeMin (delN3 ms spec node) = nodeMin node := by simp [nodeMin, listAttr_delN3]
  have hmax : nodeMax (delN3 ms spec node) = nodeMax node := by simp [nodeMax, listAttr_delN3]
  rw [delete_eq]
  simp only []
  generalize (stDefDel ms spec.d (stCfgDel spec.d node)).2 = e2 at *
  generalize delN3 ms spec node = n3 at *
  cases hm : spec.d.hasMin <;> cases hM : spec.d.hasMax <;> cases hll : listLike node <;>
    simp [hl, hll, hmin, hmax, listLike_setMin, nodeMax_setMin] <;>
    (try (by_cases a : nodeMin node = specMin spec.d <;> by_cases b : nodeMax node = specMax spec.d <;> simp [a, b]))


/-- The properties delete leaves behind when it reports nothing. -/
def effectDel (spec : Entry) (p : NodeProps) : NodeProps :=
  { p with
    config := if (triOpt spec.d.config).isSome then none else p.config
    default := defDel spec.d.default p
    mandatory := if (triOpt spec.d.mandatory).isSome then none else p.mandatory
    min := if spec.d.hasMin then 0 else p.min
    max := if spec.d.hasMax then none else p.max }

theorem maxOpt_maxU64 : maxOpt maxU64 = none := by simp [maxOpt]

theorem delete_effect (ms : Stmt) (spec node : Entry) (h : (delete_ ms spec node).2.2 = []) :
    (delete_ ms spec node).2.1 = false ∧ propsOf (delete_ ms spec node).1 = effectDel spec (propsOf node) := by
  obtain ⟨hdef, hmin, hmax⟩ := (delete_errs ms spec node).mp h
  have hl := listLike_delN3 ms spec node
  have hp3 : propsOf (delN3 ms spec node) =
      { propsOf node with
        config := if (triOpt spec.d.config).isSome then none else (propsOf node).config
        default := defDel spec.d.default (propsOf node)
        mandatory := if (triOpt spec.d.mandatory).isSome then none else (propsOf node).mandatory } := by
    unfold delN3
    rw [propsOf_stMandDel, propsOf_stDefDel _ _ _ hdef, propsOf_stCfgDel]
    simp [defDel]
  rw [delete_eq]
  simp only []
  generalize (stDefDel ms spec.d (stCfgDel spec.d node)).2 = e2 at *
  generalize delN3 ms spec node = n3 at *
  cases hm : spec.d.hasMin <;> cases hM : spec.d.hasMax
  · simp [hp3, effectDel, hm, hM]
  · have hll := (hmax hM).1
    simp [hl, hll, effectDel, hm, hM, propsOf_setMax n3 _ (by rw [hl, hll]), hp3, maxOpt_maxU64]
  · have hll := (hmin hm).1
    simp [hl, hll, effectDel, hm, hM, propsOf_setMin n3 _ (by rw [hl, hll]), hp3]
  · have hll := (hmin hm).1
    simp [hl, hll, effectDel, hm, hM, listLike_setMin, propsOf_setMax (setMin n3 0) _ (by rw [listLike_setMin, hl, hll]),
      propsOf_setMin n3 _ (by rw [hl, hll]), hp3, maxOpt_maxU64]


/-! ### one deviate statement against RFC 7950 §7.20.3.2 -/

/-- The conditions the code checks: those the property lists, and "several defaults for a node that
takes one" (which the parser never lets through: a deviate statement holds one default). -/
def reportedByCode (e : DevErr) : Bool := e.claimed || e == .manyDefaults

/-- No broken condition in the list is one the code checks. -/
def unrep (l : List DevErr) : Bool := l.all fun e => !reportedByCode e

theorem unrep_iff (l : List DevErr) : unrep l = true ↔ ∀ e ∈ l, reportedByCode e = false := by
  simp [unrep]

theorem effect_add (ins : Bool) (spec node : Entry) (kind : String) (hk : kindOf kind = .add) :
    effect ins (propsOf node) (stmtOf kind spec) = some (effectAR true spec (propsOf node)) := by
  unfold effect
  simp only [stmtOf, hk, effectAR, defAR]
  cases spec.d.hasMin <;> cases spec.d.hasMax <;> simp

theorem effect_replace (ins : Bool) (spec node : Entry) (kind : String) (hk : kindOf kind = .replace) :
    effect ins (propsOf node) (stmtOf kind spec) = some (effectAR false spec (propsOf node)) := by
  unfold effect
  simp only [stmtOf, hk, effectAR, defAR]
  cases spec.d.hasMin <;> cases spec.d.hasMax <;> simp

theorem effect_delete (ins : Bool) (spec node : Entry) (kind : String) (hk : kindOf kind = .delete) :
    effect ins (propsOf node) (stmtOf kind spec) = some (effectDel spec (propsOf node)) := by
  unfold effect
  simp only [stmtOf, hk, effectDel, defDel]
  cases spec.d.hasMin <;> cases spec.d.hasMax <;> simp


theorem unrep_append (a b : List DevErr) : unrep (a ++ b) = (unrep a && unrep b) := by simp [unrep]
theorem unrep_nil : unrep [] = true := rfl
theorem unrep_vAdd {α} (p : PropName) (hp : p ≠ .default) (present : Bool) (arg : Option α) : unrep (vAdd p present arg) = true := by
  unfold vAdd; split
  · cases p <;> first | exact absurd rfl hp | rfl
  · rfl
theorem unrep_vReplace {α} (p : PropName) (present : Bool) (arg : Option α) : unrep (vReplace p present arg) = true := by
  unfold vReplace; split <;> rfl
theorem unrep_vBound {α} (p : PropName) (ll : Bool) (arg : Option α) : unrep (vBound p ll arg) = !(arg.isSome && !ll) := by
  unfold vBound; split
  · next h => rw [h]; rfl
  · next h => simp at h; cases ha : arg.isSome <;> cases hl : ll <;> simp_all [unrep]

theorem unrep_ite (c : Prop) [Decidable c] (a b : List DevErr) : unrep (if c then a else b) = if c then unrep a else unrep b := by
  split <;> rfl

theorem violations_add (p : NodeProps) (s : DeviateStmt) (hk : s.kind = .add) :
    unrep (violations p s) =
      ((s.default.isEmpty || p.leafList || (decide (s.default.length ≤ 1) && p.default.isEmpty)) &&
        !(s.min.isSome && !p.listLike) && !(s.max.isSome && !p.listLike)) := by
  unfold violations
  simp only [hk, unrep_append, unrep_ite, unrep_nil, unrep_vBound]
  simp only [unrep_vAdd, ne_eq, reduceCtorEq, not_false_eq_true, ite_self, Bool.true_and, Bool.and_true]
  by_cases a : (s.default.isEmpty || p.leafList) = true
  · simp only [a, if_true]
    simp at a
    rcases a with a | a <;> simp [a]
  · simp only [a, if_false, Bool.false_eq_true]
    simp at a
    by_cases b : s.default.length > 1 <;> by_cases c : p.default.isEmpty = true <;>
      simp [a, b, c, unrep, reportedByCode, DevErr.claimed]
    · intro h; omega
    · have : s.default.length ≤ 1 := by omega
      simp [this]


theorem violations_replace (p : NodeProps) (s : DeviateStmt) (hk : s.kind = .replace) :
    unrep (violations p s) = (!(s.min.isSome && !p.listLike) && !(s.max.isSome && !p.listLike)) := by
  unfold violations
  simp only [hk, unrep_append, unrep_ite, unrep_nil, unrep_vBound, unrep_vReplace, ite_self, Bool.true_and, Bool.and_true]
  split <;> rfl

theorem unrep_vDelete_unclaimed {α} [DecidableEq α] (p : PropName) (hp : p = .config ∨ p = .mandatory) (cur arg : Option α) :
    unrep (vDelete p cur arg) = true := by
  unfold vDelete
  rcases hp with rfl | rfl <;> (split <;> first | rfl | (split <;> rfl))

theorem unrep_vDelete_claimed {α} [DecidableEq α] (p : PropName) (hp : p = .default ∨ p = .min ∨ p = .max)
    (cur arg : Option α) : unrep (vDelete p cur arg) = (arg.isNone || decide (arg = cur)) := by
  unfold vDelete
  rcases hp with rfl | rfl | rfl <;> cases arg <;> cases cur <;> simp [unrep, reportedByCode, DevErr.claimed] <;>
    (split <;> simp_all [reportedByCode, DevErr.claimed])

theorem violations_delete (p : NodeProps) (s : DeviateStmt) (hk : s.kind = .delete) :
    unrep (violations p s) =
      ((if p.leafList then s.default.all (p.default.contains ·)
        else (s.default.head?.isNone || decide (s.default.head? = p.default.head?))) &&
       !(s.min.isSome && !p.listLike) && (!p.listLike || s.min.isNone || decide (s.min = some p.min)) &&
       !(s.max.isSome && !p.listLike) && (!p.listLike || s.max.isNone || decide (s.max = some p.max))) := by
  unfold violations
  simp only [hk, unrep_append, unrep_ite, unrep_nil, unrep_vBound,
    unrep_vDelete_unclaimed _ (Or.inl rfl), unrep_vDelete_unclaimed _ (Or.inr rfl),
    unrep_vDelete_claimed _ (Or.inl rfl), unrep_vDelete_claimed _ (Or.inr (Or.inl rfl)),
    unrep_vDelete_claimed _ (Or.inr (Or.inr rfl)), Bool.true_and, Bool.and_true]
  have hu : unrep [if p.default.isEmpty = true then DevErr.deleteAbsent PropName.default
      else DevErr.deleteMismatch PropName.default] = false := by split <;> rfl
  have hall : (s.default.all fun x => decide (x ∈ p.default)) = decide (∀ x, x ∈ s.default → x ∈ p.default) := by
    rw [Bool.eq_iff_iff]; simp [List.all_eq_true]
  simp only [hu]
  cases hl : p.leafList <;> cases hll : p.listLike <;> simp [hall]


theorem maxOpt_inj (a b : Nat) : maxOpt a = maxOpt b ↔ a = b := by
  unfold maxOpt
  by_cases ha : a = maxU64 <;> by_cases hb : b = maxU64 <;> simp [ha, hb]
  all_goals first | exact fun h => hb h.symm | exact ha

theorem default_stCfg (sd : EData) (n : Entry) : (stCfg sd n).d.default = n.d.default :=
  congrArg NodeProps.default (propsOf_stCfg sd n)
theorem default_stCfgDel (sd : EData) (n : Entry) : (stCfgDel sd n).d.default = n.d.default :=
  congrArg NodeProps.default (propsOf_stCfgDel sd n)

theorem kind_stmtOf (kind : String) (spec : Entry) : (stmtOf kind spec).kind = kindOf kind := rfl

/-- **What the code reports, exactly**: a deviate statement is applied without an error iff none of
the RFC conditions it breaks is one of the conditions the code checks, and it is not a deletion of a
leaf-list default (always refused).  (`hasParent`: only the root of a module tree has none; a
not-supported naming it is refused.) -/
theorem staged_errs (opts : Opts) (ms : Stmt) (kind : String) (spec : Entry) (hp : Bool) (node : Entry)
    (hhp : kindOf kind = .notSupported → hp = true) :
    (staged opts ms kind spec hp node).2.2 = [] ↔
      (unrep (violations (propsOf node) (stmtOf kind spec)) = true ∧
       leafListDeleteUnsupported (propsOf node) (stmtOf kind spec) = false) := by
  unfold staged
  cases hk : kindOf kind with
  | add =>
    simp only []
    rw [addReplace_errs, stDefAR_errs, violations_add _ _ (by rw [kind_stmtOf, hk]), (flags_stCfg _ _).2, default_stCfg]
    simp only [leafListDeleteUnsupported, kind_stmtOf, hk]
    simp only [stmtOf, propsOf]
    cases listLike node <;> simp [or_assoc]
    all_goals grind
  | replace =>
    simp only []
    rw [addReplace_errs, stDefAR_errs, violations_replace _ _ (by rw [kind_stmtOf, hk])]
    simp only [leafListDeleteUnsupported, kind_stmtOf, hk]
    simp only [stmtOf, propsOf]
    cases listLike node <;> simp
  | notSupported =>
    simp only [notSupported, hhp hk]
    simp [violations, kind_stmtOf, hk, leafListDeleteUnsupported, unrep_nil]
  | delete =>
    simp only []
    rw [delete_errs, stDefDel_errs, violations_delete _ _ (by rw [kind_stmtOf, hk]), (flags_stCfgDel _ _).2, default_stCfgDel]
    simp only [leafListDeleteUnsupported, kind_stmtOf, hk]
    simp only [stmtOf, propsOf]
    have hD2 : (spec.d.default = [] ∨ ¬ node.d.default = [] ∧ spec.d.default.head? = node.d.default.head?) ↔
        (spec.d.default = [] ∨ spec.d.default.head? = node.d.default.head?) := by
      cases spec.d.default <;> cases node.d.default <;> simp
    have e1 : specMin spec.d = nodeMin node ↔ nodeMin node = specMin spec.d := eq_comm
    have e2 : specMax spec.d = nodeMax node ↔ nodeMax node = specMax spec.d := eq_comm
    by_cases hll : listLike node = true <;> by_cases hlf : node.isLeafList = true <;>
      simp [hll, hlf, maxOpt_inj, hD2, e1, e2]
    all_goals grind
  | other =>
    simp [violations, kind_stmtOf, hk, unrep, reportedByCode, DevErr.claimed]


/-- **What the code does when it reports nothing**: exactly the effect §7.20.3.2 prescribes for the
statement (removal of the node for not-supported, unless the option says to keep it). -/
theorem staged_effect (opts : Opts) (ms : Stmt) (kind : String) (spec : Entry) (hp : Bool) (node : Entry)
    (h : (staged opts ms kind spec hp node).2.2 = []) :
    effect opts.ignoreNotSupported (propsOf node) (stmtOf kind spec) =
      if (staged opts ms kind spec hp node).2.1 then none
      else some (propsOf (staged opts ms kind spec hp node).1) := by
  unfold staged at h ⊢
  cases hk : kindOf kind with
  | add =>
    simp only [hk] at h ⊢
    obtain ⟨h1, h2⟩ := addReplace_effect ms true spec node h
    rw [effect_add _ _ _ _ hk, h1, h2]; rfl
  | replace =>
    simp only [hk] at h ⊢
    obtain ⟨h1, h2⟩ := addReplace_effect ms false spec node h
    rw [effect_replace _ _ _ _ hk, h1, h2]; rfl
  | delete =>
    simp only [hk] at h ⊢
    obtain ⟨h1, h2⟩ := delete_effect ms spec node h
    rw [effect_delete _ _ _ _ hk, h1, h2]; rfl
  | notSupported =>
    simp only [hk, notSupported] at h ⊢
    cases hp with
    | false => simp at h
    | true =>
      unfold effect
      simp only [kind_stmtOf, hk, Bool.not_true, Bool.false_eq_true, if_false]
      by_cases hi : opts.ignoreNotSupported = true <;> simp [hi]
  | other => simp [hk] at h

/-! #### what no deviate statement touches -/

/-- Children and the data fields outside §7.20.3: name, kind, `Dir` presence, description, key, rpc
flag, namespace stamp, recorded errors, source node, presence and ordered-by of the list attributes. -/
def untouched (n : Entry) :=
  (n.dir, n.inp, n.out, n.d.name, n.d.kind, n.d.hasDir, n.d.description, n.d.key, n.d.isRpc, n.d.ns, n.d.errors,
   n.d.node, n.d.nodeMod, n.d.nodeKw, n.d.hasMin, n.d.hasMax, n.d.listAttr.map (·.orderedByUser))

theorem untouched_stCfg (sd : EData) (n : Entry) : untouched (stCfg sd n) = untouched n := by
  cases n; unfold stCfg; split <;> rfl
theorem untouched_stMand (sd : EData) (n : Entry) : untouched (stMand sd n) = untouched n := by
  cases n; unfold stMand; split <;> rfl
theorem untouched_stUnits (sd : EData) (n : Entry) : untouched (stUnits sd n) = untouched n := by
  cases n; unfold stUnits; split <;> rfl
theorem untouched_stType (sd : EData) (n : Entry) : untouched (stType sd n) = untouched n := by
  cases n; unfold stType; split <;> rfl
theorem untouched_stCfgDel (sd : EData) (n : Entry) : untouched (stCfgDel sd n) = untouched n := by
  cases n; unfold stCfgDel; split <;> rfl
theorem untouched_stMandDel (sd : EData) (n : Entry) : untouched (stMandDel sd n) = untouched n := by
  cases n; unfold stMandDel; split <;> rfl
theorem untouched_setDefault (n : Entry) (g : EData → List String) :
    untouched (n.withD fun d => { d with default := g d }) = untouched n := by
  cases n; rfl
theorem untouched_stDefAR (ms : Stmt) (a : Bool) (sd : EData) (n : Entry) : untouched (stDefAR ms a sd n).1 = untouched n :=
  stDefAR_keeps untouched untouched_setDefault ms a sd n
theorem untouched_stDefDel (ms : Stmt) (sd : EData) (n : Entry) : untouched (stDefDel ms sd n).1 = untouched n :=
  stDefDel_keeps untouched untouched_setDefault ms sd n
theorem untouched_setMin (n : Entry) (v : Nat) : untouched (setMin n v) = untouched n := by
  cases n with
  | mk d c i o => cases h : d.listAttr <;> simp [untouched, setMin, Entry.withD, Entry.d, Entry.dir, Entry.inp, Entry.out, h]
theorem untouched_setMax (n : Entry) (v : Nat) : untouched (setMax n v) = untouched n := by
  cases n with
  | mk d c i o => cases h : d.listAttr <;> simp [untouched, setMax, Entry.withD, Entry.d, Entry.dir, Entry.inp, Entry.out, h]

/-- Every stage keeps `untouched`; the pipelines only choose between stages. -/
theorem addReplace_untouched (ms : Stmt) (isAdd : Bool) (spec node : Entry) :
    untouched (addReplace ms isAdd spec node).1 = untouched node := by
  unfold addReplace
  simp only [apply_ite Prod.fst, apply_ite untouched, untouched_stCfg, untouched_stMand, untouched_stUnits, untouched_stType,
    untouched_stDefAR, untouched_setMin, untouched_setMax, ite_self]

theorem delete_untouched (ms : Stmt) (spec node : Entry) : untouched (delete_ ms spec node).1 = untouched node := by
  unfold delete_
  simp only [apply_ite Prod.fst, apply_ite untouched, untouched_stCfgDel, untouched_stMandDel, untouched_stDefDel,
    untouched_setMin, untouched_setMax, ite_self]

/-- **Nothing else changes**: whatever the statement and whether or not it is reported, the node that
comes back has the same children and the same data outside the §7.20.3 properties. -/
theorem staged_untouched (opts : Opts) (ms : Stmt) (kind : String) (spec : Entry) (hp : Bool) (node : Entry) :
    untouched (staged opts ms kind spec hp node).1 = untouched node := by
  unfold staged
  split
  · exact addReplace_untouched ms true spec node
  · exact addReplace_untouched ms false spec node
  · unfold notSupported; split <;> rfl
  · exact delete_untouched ms spec node
  · rfl


/-! ### `applyDeviations`: the folds named -/

/-- One deviate statement inside `applyDeviations` (the body of the inner fold). -/
def innerStep (opts : Opts) (m : Mod) (t : Nat) (path : Path) (acc : Forest × Entry × Bool × List Err)
    (ds : String × Entry) : Forest × Entry × Bool × List Err :=
  let (f, node, detached, errs) := acc
  let (node', remove, es) := applyOneDeviate opts m.stmt ds.1 ds.2 (!path.isEmpty) node
  let es := if remove && detached then es ++ [Err.at_ m.stmt "deviate-already-removed"] else es
  let f := if detached then f else
    match f.tree? t with
    | none => f
    | some root =>
      let root := root.updateAt path fun _ => node'
      f.setTree t (if remove then removeAt root path else root)
  (f, node', detached || remove, errs ++ es)

/-- One deviation statement inside `applyDeviations` (the body of the outer fold). -/
def outerStep (reg : Registry) (opts : Opts) (m : Mod) (acc : Forest × List Err) (dv : Stmt × List (String × Entry)) :
    Forest × List Err :=
  let (f, errs) := acc
  let (dstmt, deviates) := dv
  let (target, f) := find reg f (m.seq, []) m.seq dstmt.arg
  match target with
  | none => (f, errs ++ [Err.bare "deviate-no-target"])
  | some (t, path) =>
    match (f.tree? t).bind (·.getAt path) with
    | none => (f, errs ++ [Err.bare "deviate-no-target"])
    | some node0 =>
      let (f, _, _, errs) := deviates.foldl (innerStep opts m t path) (f, node0, false, errs)
      (f, errs)

theorem applyDeviations_eq (reg : Registry) (opts : Opts) (m : Mod) (devs : List (Stmt × List (String × Entry))) (f : Forest) :
    applyDeviations reg opts m devs f = devs.foldl (outerStep reg opts m) (f, []) := rfl

/-! #### the target node alone: a left fold in list order -/

/-- The deviate statements of one deviation as they act on the target node: the node, whether it has
been unlinked by a not-supported, and the errors so far. -/
def nodeStep (opts : Opts) (ms : Stmt) (hp : Bool) (acc : Entry × Bool × List Err) (ds : String × Entry) :
    Entry × Bool × List Err :=
  let r := applyOneDeviate opts ms ds.1 ds.2 hp acc.1
  (r.1, acc.2.1 || r.2.1,
    acc.2.2 ++ (if r.2.1 && acc.2.1 then r.2.2 ++ [Err.at_ ms "deviate-already-removed"] else r.2.2))

def nodeFold (opts : Opts) (ms : Stmt) (hp : Bool) (acc : Entry × Bool × List Err) (ds : List (String × Entry)) :
    Entry × Bool × List Err :=
  ds.foldl (nodeStep opts ms hp) acc

theorem innerStep_node (opts : Opts) (m : Mod) (t : Nat) (path : Path) (acc : Forest × Entry × Bool × List Err)
    (ds : String × Entry) :
    (innerStep opts m t path acc ds).2 = nodeStep opts m.stmt (!path.isEmpty) acc.2 ds := by
  obtain ⟨f, node, detached, errs⟩ := acc
  rfl

/-- The node, the unlinked flag and the errors do not depend on the forest. -/
theorem innerFold_node (opts : Opts) (m : Mod) (t : Nat) (path : Path) (ds : List (String × Entry)) :
    ∀ (acc : Forest × Entry × Bool × List Err),
      (ds.foldl (innerStep opts m t path) acc).2 = nodeFold opts m.stmt (!path.isEmpty) acc.2 ds := by
  induction ds with
  | nil => intro acc; rfl
  | cons d ds ih =>
    intro acc
    simp only [List.foldl_cons, nodeFold]
    rw [ih, innerStep_node]; rfl


/-! #### forests -/

theorem tree?_setTree_other (f : Forest) (t t' : Nat) (e : Entry) (h : t' ≠ t) :
    (f.setTree t e).tree? t' = f.tree? t' := by
  rw [ForestAux.tree?_setTree, if_neg h]

/-- What is seen at a location of the forest: the node data there, if the location exists. -/
def obs (f : Forest) (t : Nat) (q : Path) : Option EData := ((f.tree? t).bind (·.getAt q)).map (·.d)

/-- The node handed to `updateAt path (fun _ => ·)` carries the name the path looks up last. -/
def PathNamed (path : Path) (n : Entry) : Prop :=
  match path.getLast? with
  | some (.child k) => n.name = k
  | _ => True

theorem NameStable.of_pathNamed {path : Path} {n : Entry} (h : PathNamed path n) : NameStable path (fun _ => n) := by
  unfold NameStable; unfold PathNamed at h
  split
  · next k hk => rw [hk] at h; intro _ _; exact h
  · trivial

/-- A node found at a path that ends in `.child k` is named `k`. -/
theorem pathNamed_of_getAt : ∀ (path : Path) (root n : Entry), root.getAt path = some n → PathNamed path n
  | [], _, _, _ => by simp [PathNamed]
  | [s], root, n, h => by
    rw [getAt_cons] at h
    cases hc : next root s with
    | none => simp [hc] at h
    | some x =>
      simp [hc, Entry.getAt] at h
      subst h
      cases s with
      | child k => simpa [PathNamed] using ForestAux.child?_name hc
      | input => simp [PathNamed]
      | output => simp [PathNamed]
  | s :: s' :: p, root, n, h => by
    have hl : PathNamed (s :: s' :: p) n = PathNamed (s' :: p) n := by
      simp [PathNamed, List.getLast?_cons_cons]
    rw [hl]
    rw [getAt_cons] at h
    cases hc : next root s with
    | none => simp [hc] at h
    | some x => simp [hc] at h; exact pathNamed_of_getAt (s' :: p) x n h

theorem applyOneDeviate_untouched (opts : Opts) (ms : Stmt) (kind : String) (spec : Entry) (hp : Bool) (node : Entry) :
    untouched (applyOneDeviate opts ms kind spec hp node).1 = untouched node := by
  rw [applyOneDeviate_eq_staged]; exact staged_untouched opts ms kind spec hp node

theorem applyOneDeviate_name (opts : Opts) (ms : Stmt) (kind : String) (spec : Entry) (hp : Bool) (node : Entry) :
    (applyOneDeviate opts ms kind spec hp node).1.name = node.name := by
  have := applyOneDeviate_untouched opts ms kind spec hp node
  simp only [untouched, Prod.mk.injEq] at this
  exact this.2.2.2.1

theorem nodeStep_name (opts : Opts) (ms : Stmt) (hp : Bool) (acc : Entry × Bool × List Err) (ds : String × Entry) :
    (nodeStep opts ms hp acc ds).1.name = acc.1.name := applyOneDeviate_name _ _ _ _ _ _

theorem pathNamed_step {path : Path} {n n' : Entry} (h : n'.name = n.name) (hn : PathNamed path n) : PathNamed path n' := by
  unfold PathNamed at hn ⊢
  split
  · next k hk => rw [hk] at hn; rw [h]; exact hn
  · trivial

/-- Add, replace and delete never ask for the node's removal. -/
theorem addReplace_keeps (ms : Stmt) (isAdd : Bool) (spec node : Entry) : (addReplace ms isAdd spec node).2.1 = false := by
  unfold addReplace
  simp only [apply_ite Prod.snd, apply_ite Prod.fst, ite_self]

theorem delete_keeps (ms : Stmt) (spec node : Entry) : (delete_ ms spec node).2.1 = false := by
  unfold delete_
  simp only [apply_ite Prod.snd, apply_ite Prod.fst, ite_self]

/-- Only a node that has a parent is ever removed. -/
theorem applyOneDeviate_remove (opts : Opts) (ms : Stmt) (kind : String) (spec : Entry) (hp : Bool) (node : Entry)
    (h : (applyOneDeviate opts ms kind spec hp node).2.1 = true) : hp = true ∧ opts.ignoreNotSupported = false := by
  rw [applyOneDeviate_eq_staged] at h
  unfold staged at h
  split at h
  · rw [addReplace_keeps] at h; cases h
  · rw [addReplace_keeps] at h; cases h
  · unfold notSupported at h
    cases hp <;> simp_all
  · rw [delete_keeps] at h; cases h
  · cases h


/-! #### one deviation: frame and target -/

/-- The forest after one deviate statement. -/
theorem innerStep_forest (opts : Opts) (m : Mod) (t : Nat) (path : Path) (f : Forest) (node : Entry) (detached : Bool)
    (errs : List Err) (ds : String × Entry) :
    (innerStep opts m t path (f, node, detached, errs) ds).1 =
      (if detached then f else
        match f.tree? t with
        | none => f
        | some root =>
          let r := applyOneDeviate opts m.stmt ds.1 ds.2 (!path.isEmpty) node
          f.setTree t (if r.2.1 then removeAt (root.updateAt path fun _ => r.1) path else root.updateAt path fun _ => r.1)) := rfl

/-- **Frame of one deviate statement**: any location in another tree, or in the target's tree but
neither the target nor below it, shows the same data afterwards. -/
theorem innerStep_frame (opts : Opts) (m : Mod) (t : Nat) (path : Path) (acc : Forest × Entry × Bool × List Err)
    (ds : String × Entry) (hn : PathNamed path acc.2.1) (t' : Nat) (q : Path) (hq : t' ≠ t ∨ ¬ path <+: q) :
    obs (innerStep opts m t path acc ds).1 t' q = obs acc.1 t' q := by
  obtain ⟨f, node, detached, errs⟩ := acc
  rw [innerStep_forest]
  cases detached with
  | true => rfl
  | false =>
    simp only [Bool.false_eq_true, if_false]
    cases hroot : f.tree? t with
    | none => rfl
    | some root =>
      simp only []
      by_cases ht : t' = t
      · subst ht
        have hq' : ¬ path <+: q := by
          rcases hq with h | h
          · exact absurd rfl h
          · exact h
        have hst : NameStable path (fun _ => (applyOneDeviate opts m.stmt ds.1 ds.2 (!path.isEmpty) node).1) :=
          .of_pathNamed (pathNamed_step (applyOneDeviate_name ..) hn)
        unfold obs
        rw [ForestAux.tree?_setTree_same hroot _, hroot]
        simp only [Option.bind_some]
        split
        · rw [getAt_removeAt_frame _ path q hq', getAt_updateAt_frame _ path q hst root hq']
        · rw [getAt_updateAt_frame _ path q hst root hq']
      · unfold obs
        rw [tree?_setTree_other f t t' _ ht]

theorem innerFold_frame (opts : Opts) (m : Mod) (t : Nat) (path : Path) (ds : List (String × Entry)) :
    ∀ (acc : Forest × Entry × Bool × List Err), PathNamed path acc.2.1 →
      ∀ (t' : Nat) (q : Path), (t' ≠ t ∨ ¬ path <+: q) →
      obs (ds.foldl (innerStep opts m t path) acc).1 t' q = obs acc.1 t' q := by
  induction ds with
  | nil => intros; rfl
  | cons d ds ih =>
    intro acc hn t' q hq
    simp only [List.foldl_cons]
    rw [ih _ _ t' q hq, innerStep_frame opts m t path acc d hn t' q hq]
    rw [innerStep_node]
    exact pathNamed_step (nodeStep_name ..) hn

/-- The state of the target while the deviate statements of a deviation are applied: as long as no
not-supported has unlinked it, the tree holds the current node at the target location; afterwards
neither the target nor anything below it exists. -/
def TargetInv (t : Nat) (path : Path) (acc : Forest × Entry × Bool × List Err) : Prop :=
  (acc.2.2.1 = false → (acc.1.tree? t).bind (·.getAt path) = some acc.2.1) ∧
  (acc.2.2.1 = true → ∀ r, (acc.1.tree? t).bind (·.getAt (path ++ r)) = none)

theorem innerStep_target (opts : Opts) (m : Mod) (t : Nat) (path : Path) (acc : Forest × Entry × Bool × List Err)
    (ds : String × Entry) (hn : PathNamed path acc.2.1) (h : TargetInv t path acc) :
    TargetInv t path (innerStep opts m t path acc ds) := by
  obtain ⟨f, node, detached, errs⟩ := acc
  obtain ⟨h1, h2⟩ := h
  simp only at h1 h2
  have hnode := innerStep_node opts m t path (f, node, detached, errs) ds
  have hf := innerStep_forest opts m t path f node detached errs ds
  cases detached with
  | true =>
    refine ⟨fun hd => ?_, fun _ => ?_⟩
    · rw [hnode] at hd; simp [nodeStep] at hd
    · rw [hf]; exact h2 rfl
  | false =>
    have h1' := h1 rfl
    cases hroot : f.tree? t with
    | none => simp [hroot] at h1'
    | some root =>
      rw [hroot] at h1'
      simp only [Option.bind_some] at h1'
      have hst : NameStable path (fun _ => (applyOneDeviate opts m.stmt ds.1 ds.2 (!path.isEmpty) node).1) :=
        .of_pathNamed (pathNamed_step (applyOneDeviate_name ..) hn)
      simp only [Bool.false_eq_true, if_false, hroot] at hf
      refine ⟨fun hd => ?_, fun hd => ?_⟩
      · rw [hnode] at hd ⊢
        simp only [nodeStep, Bool.false_or] at hd ⊢
        rw [hf, hd, ForestAux.tree?_setTree_same hroot _]
        simp only [Bool.false_eq_true, if_false, Option.bind_some]
        rw [getAt_updateAt_self _ path hst root, h1']; rfl
      · rw [hnode] at hd
        simp only [nodeStep, Bool.false_or] at hd
        intro r
        rw [hf, hd, ForestAux.tree?_setTree_same hroot _]
        simp only [if_true, Option.bind_some]
        have hp := (applyOneDeviate_remove _ _ _ _ _ _ hd).1
        exact getAt_removeAt_gone _ path (by intro he; simp [he] at hp) r


theorem innerFold_target (opts : Opts) (m : Mod) (t : Nat) (path : Path) (ds : List (String × Entry)) :
    ∀ (acc : Forest × Entry × Bool × List Err), PathNamed path acc.2.1 → TargetInv t path acc →
      TargetInv t path (ds.foldl (innerStep opts m t path) acc) := by
  intro acc hn h
  refine (ListAux.foldl_inv (fun x => PathNamed path x.2.1 ∧ TargetInv t path x) _ ds acc ⟨hn, h⟩ fun x d _ hx => ⟨?_, ?_⟩).2
  · rw [innerStep_node]
    exact pathNamed_step (nodeStep_name ..) hx.1
  · exact innerStep_target opts m t path x d hx.1 hx.2

/-- **One deviation, its deviate statements in list order.**  Start: the forest holds `node0` at the
target.  After the inner fold of `applyDeviations` the target holds the result of the left fold of
`applyOneDeviate` over the statements (`nodeFold`) — or, once a not-supported has been applied, neither
the target nor anything below it exists; the errors are those of the statements, in order. -/
theorem innerFold_spec (opts : Opts) (m : Mod) (t : Nat) (path : Path) (ds : List (String × Entry))
    (f : Forest) (node0 : Entry) (errs : List Err) (h0 : (f.tree? t).bind (·.getAt path) = some node0) :
    let r := ds.foldl (innerStep opts m t path) (f, node0, false, errs)
    let n := nodeFold opts m.stmt (!path.isEmpty) (node0, false, errs) ds
    r.2 = n ∧
    (n.2.1 = false → (r.1.tree? t).bind (·.getAt path) = some n.1) ∧
    (n.2.1 = true → ∀ q, (r.1.tree? t).bind (·.getAt (path ++ q)) = none) := by
  intro r n
  have hnode : r.2 = n := innerFold_node opts m t path ds (f, node0, false, errs)
  have hnamed : PathNamed path node0 := by
    cases hroot : f.tree? t with
    | none => simp [hroot] at h0
    | some root => rw [hroot] at h0; exact pathNamed_of_getAt path root node0 h0
  have hinv := innerFold_target opts m t path ds (f, node0, false, errs) hnamed ⟨fun _ => h0, fun h => by simp at h⟩
  refine ⟨hnode, ?_, ?_⟩
  · intro hd
    have := hinv.1 (by rw [show r.2.2.1 = n.2.1 from by rw [hnode]]; exact hd)
    rw [this, show r.2.1 = n.1 from by rw [hnode]]
  · intro hd
    exact hinv.2 (by rw [show r.2.2.1 = n.2.1 from by rw [hnode]]; exact hd)

/-- Written order: a longer list of deviate statements is the shorter one continued. -/
theorem nodeFold_append (opts : Opts) (ms : Stmt) (hp : Bool) (acc : Entry × Bool × List Err) (a b : List (String × Entry)) :
    nodeFold opts ms hp acc (a ++ b) = nodeFold opts ms hp (nodeFold opts ms hp acc a) b := by
  simp [nodeFold, List.foldl_append]

/-- Errors are only ever appended. -/
theorem nodeFold_errs_prefix (opts : Opts) (ms : Stmt) (hp : Bool) (ds : List (String × Entry)) :
    ∀ acc : Entry × Bool × List Err, acc.2.2 <+: (nodeFold opts ms hp acc ds).2.2 := by
  intro acc
  exact ListAux.foldl_inv (fun x => acc.2.2 <+: x.2.2) (nodeStep opts ms hp) ds acc (List.prefix_refl _)
    fun x d _ hx => hx.trans (List.prefix_append _ _)

/-- A statement that reports makes the deviation report. -/
theorem nodeFold_reports (opts : Opts) (ms : Stmt) (hp : Bool) (acc : Entry × Bool × List Err)
    (pre post : List (String × Entry)) (d : String × Entry)
    (h : (applyOneDeviate opts ms d.1 d.2 hp (nodeFold opts ms hp acc pre).1).2.2 ≠ []) :
    (nodeFold opts ms hp acc (pre ++ d :: post)).2.2 ≠ [] := by
  rw [nodeFold_append]
  simp only [nodeFold, List.foldl_cons]
  have hp' := nodeFold_errs_prefix opts ms hp post (nodeStep opts ms hp (List.foldl (nodeStep opts ms hp) acc pre) d)
  intro hnil
  simp only [nodeFold] at hp'
  rw [hnil] at hp'
  have := List.prefix_nil.mp hp'
  simp only [nodeStep] at this
  simp only [nodeFold] at h
  split at this
  · simp at this
  · simp at this; exact h this.2


/-! #### several statements against `Spec.deviateSeq` -/

/-- The model's state of a target (node, unlinked, errors) and the specification's state agree. -/
def SeqRel (acc : Entry × Bool × List Err) (st : SeqState) : Prop :=
  acc.2.2 = [] ∧ st.node = (if acc.2.1 then none else some (propsOf acc.1)) ∧ unrep st.errs = true ∧ st.unsupported = false

theorem staged_other_errs (opts : Opts) (ms : Stmt) (kind : String) (spec : Entry) (hp : Bool) (node : Entry)
    (hk : kindOf kind = .other) : (staged opts ms kind spec hp node).2.2 ≠ [] := by
  unfold staged; simp [hk]

theorem seqRel_step (opts : Opts) (ms : Stmt) (acc : Entry × Bool × List Err) (st : SeqState) (d : String × Entry)
    (hr : SeqRel acc st) (he : (nodeStep opts ms true acc d).2.2 = []) :
    SeqRel (nodeStep opts ms true acc d) (seqStep opts.ignoreNotSupported st (stmtOf d.1 d.2)) := by
  obtain ⟨node, detached, errs⟩ := acc
  obtain ⟨h1, h2, h3, h4⟩ := hr
  simp only at h1 h2 h3 h4
  subst h1
  simp only [nodeStep, List.nil_append] at he ⊢
  have hstg := applyOneDeviate_eq_staged opts ms d.1 d.2 true node
  cases detached with
  | false =>
    simp only [Bool.and_false, Bool.false_eq_true, if_false, Bool.false_or] at he ⊢
    simp only [Bool.false_eq_true, if_false] at h2
    rw [hstg] at he ⊢
    obtain ⟨hv, hu⟩ := (staged_errs opts ms d.1 d.2 true node (fun _ => rfl)).mp he
    have heff := staged_effect opts ms d.1 d.2 true node he
    refine ⟨he, ?_, ?_, ?_⟩
    · simp only [seqStep, h2]; exact heff
    · simp only [seqStep, h2, unrep_append, h3, hv, Bool.and_self]
    · simp only [seqStep, h2, h4, hu, Bool.or_self]
  | true =>
    simp only [Bool.and_true, Bool.true_or] at he ⊢
    simp only [if_true] at h2
    have hrm : (applyOneDeviate opts ms d.1 d.2 true node).2.1 = false := by
      cases hx : (applyOneDeviate opts ms d.1 d.2 true node).2.1
      · rfl
      · rw [hx] at he; simp at he
    rw [hrm] at he
    simp only [Bool.false_eq_true, if_false] at he
    refine ⟨by rw [hrm]; simpa using he, ?_, ?_, ?_⟩
    · simp [seqStep, h2]
    · simp only [seqStep, h2, unrep_append, h3, Bool.true_and]
      have hk : kindOf d.1 ≠ .other := by
        intro hk; rw [hstg] at he; exact staged_other_errs opts ms d.1 d.2 true node hk he
      simp [unrep, kind_stmtOf, hk, reportedByCode, DevErr.claimed]
    · simp [seqStep, h2, h4]

/-- **Several deviate statements = the specification's left fold.**  When the statements of a
deviation on a target with a parent are applied without an error, the target ends up with exactly
the properties `Spec.deviateSeq` computes from the statements in list order (or removed where it
says removed), and the specification found no broken condition that the code checks. -/
theorem nodeFold_seq (opts : Opts) (ms : Stmt) (ds : List (String × Entry)) :
    ∀ (acc : Entry × Bool × List Err) (st : SeqState), SeqRel acc st →
      (nodeFold opts ms true acc ds).2.2 = [] →
      SeqRel (nodeFold opts ms true acc ds)
        ((ds.map fun d => stmtOf d.1 d.2).foldl (seqStep opts.ignoreNotSupported) st) := by
  induction ds with
  | nil => intro acc st hr _; exact hr
  | cons d ds ih =>
    intro acc st hr he
    simp only [nodeFold, List.foldl_cons, List.map_cons] at he ⊢
    have hpre := nodeFold_errs_prefix opts ms true ds (nodeStep opts ms true acc d)
    simp only [nodeFold] at hpre
    rw [he] at hpre
    exact ih _ _ (seqRel_step opts ms acc st d hr (List.prefix_nil.mp hpre)) he


/-! #### the path lookup only ever adds empty rpc input / output nodes -/

/-- `g` gives the node at `p` an input (output) it did not have and changes nothing else. -/
theorem getAt_updateAt_addIO (root : Entry) (p : Path) (g : Entry → Entry)
    (hd : ∀ e, (g e).d = e.d) (hdir : ∀ e, (g e).dir = e.dir) (e : Entry) (he : root.getAt p = some e)
    (hio : ((g e).out = e.out ∧ e.inp = []) ∨ ((g e).inp = e.inp ∧ e.out = []))
    (q : Path) (dd : EData) (h : (root.getAt q).map (·.d) = some dd) :
    ((root.updateAt p g).getAt q).map (·.d) = some dd := by
  have hst : NameStable p g := NameStable.of_forall fun e => by simp [Entry.name, hd e]
  by_cases hpq : p <+: q
  · obtain ⟨r, rfl⟩ := hpq
    rw [getAt_updateAt_append g p hst root r]
    rw [ForestAux.getAt_append root p r] at h
    rw [he] at h ⊢
    simp only [Option.bind_some, Option.map_some] at h ⊢
    cases r with
    | nil => simpa [Entry.getAt, hd e] using h
    | cons s r =>
      cases s with
      | child k => simpa [Entry.getAt, Entry.child?, hdir e] using h
      | input =>
        rcases hio with ⟨_, hi⟩ | ⟨hi, _⟩
        · simp [Entry.getAt, hi] at h
        · simpa [Entry.getAt, hi] using h
      | output =>
        rcases hio with ⟨ho, _⟩ | ⟨_, ho⟩
        · simpa [Entry.getAt, ho] using h
        · simp [Entry.getAt, ho] at h
  · rw [getAt_updateAt_frame g p q hst root hpq]; exact h

theorem grown_frame {a b : Entry} (h : Spec.Find.Grown a b) (q : Path) (dd : EData) (hq : (a.getAt q).map (·.d) = some dd) :
    (b.getAt q).map (·.d) = some dd := by
  have hd : ∀ (i : Bool) (e : Entry), (Spec.Find.addImplicit i e).d = e.d := fun i e => by cases e; cases i <;> rfl
  have hdir : ∀ (i : Bool) (e : Entry), (Spec.Find.addImplicit i e).dir = e.dir := fun i e => by cases e; cases i <;> rfl
  induction h with
  | refl => exact hq
  | @step a _ _ s _ ih =>
    apply ih
    cases s with
    | input p e he _ hi =>
      exact getAt_updateAt_addIO a p _ (hd true) (hdir true) e he (Or.inl ⟨by cases e; rfl, hi⟩) q dd hq
    | output p e he _ ho =>
      exact getAt_updateAt_addIO a p _ (hd false) (hdir false) e he (Or.inr ⟨by cases e; rfl, ho⟩) q dd hq

/-- **Frame of the step loop of `Find`**: every location that exists keeps its data. -/
theorem walkParts_frame : ∀ (parts : List String) (root : Entry) (cur : Option Path) (q : Path) (dd : EData),
    (root.getAt q).map (·.d) = some dd → ((walkParts parts root cur).2.getAt q).map (·.d) = some dd
  | [], _, _, _, _, h => h
  | part :: rest, root, none, _, _, h => by rw [Find.walkParts_none]; exact h
  | part :: rest, root, some p, q, dd, h => by
    cases he : root.getAt p with
    | none => rw [walkParts, he]; exact h
    | some e =>
      rw [Find.walkParts_cons he]
      exact walkParts_frame rest _ _ q dd (grown_frame (Find.turn_grown he part) q dd h)


theorem obs_setTree_walk (f : Forest) (t : Nat) (root : Entry) (hroot : f.tree? t = some root) (parts : List String)
    (cur : Option Path) (t' : Nat) (q : Path) (dd : EData) (h : obs f t' q = some dd) :
    obs (f.setTree t (walkParts parts root cur).2) t' q = some dd := by
  unfold obs at h ⊢
  by_cases ht : t' = t
  · subst ht
    rw [ForestAux.tree?_setTree_same hroot _]
    rw [hroot] at h
    exact walkParts_frame parts root cur q dd h
  · rw [tree?_setTree_other f t t' _ ht]; exact h

/-- Node data with the list of recorded errors blanked: a failed path lookup records an error on the
root entry of the tree it started in (the deviating module's own tree), which nothing reads later. -/
def eraseErr (d : EData) : EData := { d with errors := [] }

/-- What is seen at a location, recorded errors aside. -/
def obsE (f : Forest) (t : Nat) (q : Path) : Option EData := (obs f t q).map eraseErr

theorem obsE_of_obs {f f' : Forest} {t : Nat} {q : Path}
    (h : ∀ dd, obs f t q = some dd → obs f' t q = some dd) (dd : EData) (he : obsE f t q = some dd) :
    obsE f' t q = some dd := by
  unfold obsE at he ⊢
  cases ho : obs f t q with
  | none => simp [ho] at he
  | some d' => rw [h d' ho]; rw [ho] at he; exact he

theorem getAt_withD (e : Entry) (g : EData → EData) (s : Step) (r : Path) : (e.withD g).getAt (s :: r) = e.getAt (s :: r) := by
  cases e; cases s <;> rfl

/-- **Frame of `Find`**: every location of the forest that exists keeps its data (the lookup may
create empty rpc input / output nodes on its way, and a lookup that fails on the prefix records an
error on the root it started from; nothing else). -/
theorem find_frame (reg : Registry) (f : Forest) (start : Loc) (ctx : Nat) (name : String) (t' : Nat) (q : Path) (dd : EData)
    (h : obsE f t' q = some dd) : obsE (find reg f start ctx name).2 t' q = some dd := by
  have hwalk : ∀ (t : Nat) (root : Entry), f.tree? t = some root → ∀ parts cur,
      obsE (f.setTree t (walkParts parts root cur).2) t' q = some dd := fun t root hroot parts cur =>
    obsE_of_obs (fun d' hd => obs_setTree_walk f t root hroot parts cur t' q d' hd) dd h
  unfold find
  split
  · exact h
  · simp only
    split
    · split
      · split
        · next root hroot =>
          simp only
          unfold obsE obs at h ⊢
          by_cases ht : t' = start.1
          · subst ht
            rw [ForestAux.tree?_setTree_same hroot _]
            rw [hroot] at h
            cases q with
            | nil =>
              have he : eraseErr (root.addErr (Err.bare "other")).d = eraseErr root.d := by cases root; rfl
              simpa [Entry.getAt, he] using h
            | cons s r => simpa [Entry.addErr, getAt_withD] using h
          · rw [tree?_setTree_other f _ t' _ ht]; exact h
        · exact h
      · split
        · exact h
        · next root hroot => exact hwalk _ root hroot _ _
    · split
      · exact h
      · next root hroot => exact hwalk _ root hroot _ _


/-! #### all deviations of one module -/

/-- The locations the deviation statements of a module resolve to, in the order `applyDeviations`
resolves them (each in the forest the earlier ones left behind). -/
def targetsFrom (reg : Registry) (opts : Opts) (m : Mod) :
    List (Stmt × List (String × Entry)) → Forest × List Err → List Loc
  | [], _ => []
  | dv :: rest, acc =>
    (match (find reg acc.1 (m.seq, []) m.seq dv.1.arg).1 with
      | some loc => [loc]
      | none => []) ++ targetsFrom reg opts m rest (outerStep reg opts m acc dv)

/-- `outerStep` with the lookup result named. -/
theorem outerStep_eq (reg : Registry) (opts : Opts) (m : Mod) (f : Forest) (errs : List Err) (dstmt : Stmt)
    (deviates : List (String × Entry)) :
    outerStep reg opts m (f, errs) (dstmt, deviates) =
      (let r := find reg f (m.seq, []) m.seq dstmt.arg
       match r.1 with
       | none => (r.2, errs ++ [Err.bare "deviate-no-target"])
       | some (t, path) =>
         match (r.2.tree? t).bind (·.getAt path) with
         | none => (r.2, errs ++ [Err.bare "deviate-no-target"])
         | some node0 =>
           let x := deviates.foldl (innerStep opts m t path) (r.2, node0, false, errs)
           (x.1, x.2.2.2)) := by
  unfold outerStep
  generalize hr : find reg f (m.seq, []) m.seq dstmt.arg = r
  obtain ⟨target, f'⟩ := r
  cases target with
  | none => simp only [hr]
  | some loc => obtain ⟨t, path⟩ := loc; simp only [hr]

theorem outerStep_cases (reg : Registry) (opts : Opts) (m : Mod) (acc : Forest × List Err) (dv : Stmt × List (String × Entry)) :
    (outerStep reg opts m acc dv =
        ((find reg acc.1 (m.seq, []) m.seq dv.1.arg).2, acc.2 ++ [Err.bare "deviate-no-target"]) ∧
      ∀ loc, (find reg acc.1 (m.seq, []) m.seq dv.1.arg).1 = some loc →
        ((find reg acc.1 (m.seq, []) m.seq dv.1.arg).2.tree? loc.1).bind (·.getAt loc.2) = none) ∨
    ∃ t path node0, (find reg acc.1 (m.seq, []) m.seq dv.1.arg).1 = some (t, path) ∧
      ((find reg acc.1 (m.seq, []) m.seq dv.1.arg).2.tree? t).bind (·.getAt path) = some node0 ∧
      outerStep reg opts m acc dv =
        ((dv.2.foldl (innerStep opts m t path) ((find reg acc.1 (m.seq, []) m.seq dv.1.arg).2, node0, false, acc.2)).1,
         (nodeFold opts m.stmt (!path.isEmpty) (node0, false, acc.2) dv.2).2.2) := by
  obtain ⟨f, errs⟩ := acc
  obtain ⟨dstmt, deviates⟩ := dv
  rw [outerStep_eq]
  simp only
  generalize find reg f (m.seq, []) m.seq dstmt.arg = r
  obtain ⟨target, f'⟩ := r
  cases target with
  | none => exact Or.inl ⟨rfl, fun _ h => nomatch h⟩
  | some loc =>
    obtain ⟨t, path⟩ := loc
    simp only
    cases hn : (f'.tree? t).bind (·.getAt path) with
    | none => exact Or.inl ⟨rfl, fun loc h => by cases h; exact hn⟩
    | some node0 =>
      refine Or.inr ⟨t, path, node0, rfl, hn, ?_⟩
      simp only
      rw [← innerFold_node opts m t path deviates (f', node0, false, errs)]

theorem outerStep_frame (reg : Registry) (opts : Opts) (m : Mod) (acc : Forest × List Err) (dv : Stmt × List (String × Entry))
    (t' : Nat) (q : Path) (dd : EData) (h : obsE acc.1 t' q = some dd)
    (hq : ∀ loc, (find reg acc.1 (m.seq, []) m.seq dv.1.arg).1 = some loc → ¬ (loc.1 = t' ∧ loc.2 <+: q)) :
    obsE (outerStep reg opts m acc dv).1 t' q = some dd := by
  have hf := find_frame reg acc.1 (m.seq, []) m.seq dv.1.arg t' q dd h
  rcases outerStep_cases reg opts m acc dv with ⟨he, _⟩ | ⟨t, path, node0, hfind, hn, he⟩
  · rw [he]; exact hf
  · rw [he]
    have hnamed : PathNamed path node0 := by
      cases hroot : (find reg acc.1 (m.seq, []) m.seq dv.1.arg).2.tree? t with
      | none => simp [hroot] at hn
      | some root => rw [hroot] at hn; exact pathNamed_of_getAt path root node0 hn
    have hcond : t' ≠ t ∨ ¬ path <+: q := by
      by_cases ht : t' = t
      · exact Or.inr fun hp => hq (t, path) hfind ⟨ht.symm, hp⟩
      · exact Or.inl ht
    unfold obsE at hf ⊢
    rw [innerFold_frame opts m t path dv.2 (_, node0, false, acc.2) hnamed t' q hcond]
    exact hf

/-- **Frame of all deviations of one module**: a location that exists before and that is neither a
target nor below a target shows the same data afterwards (recorded errors aside). -/
theorem applyDeviations_frame' (reg : Registry) (opts : Opts) (m : Mod) (t' : Nat) (q : Path) (dd : EData) :
    ∀ (devs : List (Stmt × List (String × Entry))) (acc : Forest × List Err),
      obsE acc.1 t' q = some dd →
      (∀ loc ∈ targetsFrom reg opts m devs acc, ¬ (loc.1 = t' ∧ loc.2 <+: q)) →
      obsE (devs.foldl (outerStep reg opts m) acc).1 t' q = some dd := by
  intro devs
  induction devs with
  | nil => intro acc h _; exact h
  | cons dv rest ih =>
    intro acc h hq
    simp only [List.foldl_cons]
    apply ih
    · apply outerStep_frame reg opts m acc dv t' q dd h
      intro loc hloc
      apply hq
      simp only [targetsFrom, hloc, List.mem_append, List.mem_singleton, true_or]
    · intro loc hloc
      apply hq
      simp only [targetsFrom, List.mem_append]
      exact Or.inr hloc

/-! #### what a module's deviations report -/

theorem outerStep_errs_prefix (reg : Registry) (opts : Opts) (m : Mod) (acc : Forest × List Err)
    (dv : Stmt × List (String × Entry)) : acc.2 <+: (outerStep reg opts m acc dv).2 := by
  rcases outerStep_cases reg opts m acc dv with ⟨he, _⟩ | ⟨t, path, node0, _, _, he⟩
  · rw [he]; exact List.prefix_append _ _
  · rw [he]; exact nodeFold_errs_prefix opts m.stmt _ dv.2 (node0, false, acc.2)

theorem outerFold_errs_prefix (reg : Registry) (opts : Opts) (m : Mod) (devs : List (Stmt × List (String × Entry))) :
    ∀ acc : Forest × List Err, acc.2 <+: (devs.foldl (outerStep reg opts m) acc).2 := by
  intro acc
  exact ListAux.foldl_inv (fun x => acc.2 <+: x.2) _ devs acc (List.prefix_refl _)
    fun x dv _ hx => hx.trans (outerStep_errs_prefix reg opts m x dv)

theorem ne_nil_of_prefix {α} {a b : List α} (h : a <+: b) (ha : a ≠ []) : b ≠ [] := by
  intro hb; rw [hb] at h; exact ha (List.prefix_nil.mp h)

/-- A deviation statement that reports makes the module's deviations report. -/
theorem applyDeviations_reports (reg : Registry) (opts : Opts) (m : Mod) (f : Forest)
    (pre post : List (Stmt × List (String × Entry))) (dv : Stmt × List (String × Entry))
    (h : (outerStep reg opts m (pre.foldl (outerStep reg opts m) (f, [])) dv).2 ≠ []) :
    (applyDeviations reg opts m (pre ++ dv :: post) f).2 ≠ [] := by
  rw [applyDeviations_eq, List.foldl_append, List.foldl_cons]
  exact ne_nil_of_prefix (outerFold_errs_prefix reg opts m post _) h

/-- Missing target: the lookup finds nothing (or finds a location that does not exist). -/
theorem outerStep_reports_missing (reg : Registry) (opts : Opts) (m : Mod) (acc : Forest × List Err)
    (dv : Stmt × List (String × Entry))
    (h : ∀ loc, (find reg acc.1 (m.seq, []) m.seq dv.1.arg).1 = some loc →
      ((find reg acc.1 (m.seq, []) m.seq dv.1.arg).2.tree? loc.1).bind (·.getAt loc.2) = none) :
    (outerStep reg opts m acc dv).2 ≠ [] := by
  rcases outerStep_cases reg opts m acc dv with ⟨he, _⟩ | ⟨t, path, node0, hfind, hn, _⟩
  · rw [he]; simp
  · rw [h (t, path) hfind] at hn; cases hn

/-- A deviate statement that reports, at its turn, makes its deviation report. -/
theorem outerStep_reports_stmt (reg : Registry) (opts : Opts) (m : Mod) (acc : Forest × List Err) (dstmt : Stmt)
    (pre post : List (String × Entry)) (d : String × Entry) (t : Nat) (path : Path) (node0 : Entry)
    (hfind : (find reg acc.1 (m.seq, []) m.seq dstmt.arg).1 = some (t, path))
    (hnode : ((find reg acc.1 (m.seq, []) m.seq dstmt.arg).2.tree? t).bind (·.getAt path) = some node0)
    (h : (applyOneDeviate opts m.stmt d.1 d.2 (!path.isEmpty)
      (nodeFold opts m.stmt (!path.isEmpty) (node0, false, acc.2) pre).1).2.2 ≠ []) :
    (outerStep reg opts m acc (dstmt, pre ++ d :: post)).2 ≠ [] := by
  rcases outerStep_cases reg opts m acc (dstmt, pre ++ d :: post) with ⟨_, hno⟩ | ⟨t', path', node0', hfind', hn', he⟩
  · rw [hno (t, path) hfind] at hnode; cases hnode
  · obtain ⟨rfl, rfl⟩ : t' = t ∧ path' = path := by
      have := hfind.symm.trans hfind'
      simpa using this.symm
    obtain rfl : node0' = node0 := Option.some.inj (hn'.symm.trans hnode)
    rw [he]
    exact nodeFold_reports opts m.stmt _ (node0', false, acc.2) pre post d h


/-! ### the deviation stage of `processAll` -/

/-- The order in which `processAll` visits the modules for their deviations: keys of the module map
in sorted order, then keys of the submodule map. -/
def devOrderOf (reg : Registry) : List Mod :=
  let keys (km : KeyMap) := (sortBy (fun (a b : String × Nat) => a.1 < b.1) km).filterMap fun kv => reg.byId kv.2
  keys reg.modules ++ keys reg.subModules

/-- The deviation statements of a module with the entries of their deviate statements, in written
order (statements with an unknown argument are reported when the module is converted and dropped here). -/
def devsOf (env : Env) (fuel : Nat) (m : Mod) : List (Stmt × List (String × Entry)) :=
  (m.stmt.all "deviation").map fun dv =>
    (dv, (dv.all "deviate").filterMap fun ds =>
      if deviateKinds.contains ds.arg then some (ds.arg, (toEntry env fuel m [dv, m.stmt] ds [] {}).1) else none)

/-- One module's turn (once per module name). -/
def stageStep (reg : Registry) (opts : Opts) (env : Env) (fuel : Nat) (acc : Forest × List Err × List String) (m : Mod) :
    Forest × List Err × List String :=
  if acc.2.2.contains m.name then acc else
  let r := applyDeviations reg opts m (devsOf env fuel m) acc.1
  (r.1, acc.2.1 ++ r.2, acc.2.2 ++ [m.name])

def deviationStage (reg : Registry) (opts : Opts) (env : Env) (fuel : Nat) (f0 : Forest) : Forest × List Err × List String :=
  (devOrderOf reg).foldl (stageStep reg opts env fuel) (f0, [], [])

theorem early_or {c1 c2 : Prop} [Decidable c1] [Decidable c2] {A B C : Outcome} {e1 e2 : List Err}
    (hA : A.errors = canonErrs e1) (h1 : c1 → e1 ≠ []) (hB : B.errors = canonErrs e2) (h2 : c2 → e2 ≠ [])
    {Q : Outcome → Prop} (hC : Q C) :
    (∃ errs, errs ≠ [] ∧ (if c1 then A else if c2 then B else C).errors = canonErrs errs) ∨
      Q (if c1 then A else if c2 then B else C) := by
  by_cases k1 : c1
  · rw [if_pos k1]; exact Or.inl ⟨e1, h1 k1, hA⟩
  · rw [if_neg k1]
    by_cases k2 : c2
    · rw [if_pos k2]; exact Or.inl ⟨e2, h2 k2, hB⟩
    · rw [if_neg k2]; exact Or.inr hC

-- (the augment stage is kept folded: nothing here looks inside it)
attribute [local irreducible] augmentPhase in
/-- `processAll` ends early with the errors of the earlier stages, or runs the deviation stage on
the forest the earlier stages built and returns its forest and, canonically ordered, the errors so
far plus those of the deviations. -/
theorem processAll_cases (reg : Registry) (opts : Opts) (plug : Plug) :
    (∃ errs, errs ≠ [] ∧ (processAll reg opts plug).errors = canonErrs errs) ∨
    (∃ (env : Env) (f0 : Forest) (errs0 : List Err), env.reg = reg ∧ env.opts = opts ∧ env.tres = plug.tres ∧
      (processAll reg opts plug).errors = canonErrs (errs0 ++ (deviationStage reg opts env (entryFuel reg) f0).2.1) ∧
      (processAll reg opts plug).forest = (deviationStage reg opts env (entryFuel reg) f0).1) := by
  unfold processAll
  generalize linkAll reg = l
  obtain ⟨linked, lerrs⟩ := l
  exact early_or rfl ne_nil_of_not_isEmpty rfl ne_nil_of_not_isEmpty
    (Q := fun o => ∃ (env : Env) (f0 : Forest) (errs0 : List Err), env.reg = reg ∧ env.opts = opts ∧ env.tres = plug.tres ∧
      o.errors = canonErrs (errs0 ++ (deviationStage reg opts env (entryFuel reg) f0).2.1) ∧
      o.forest = (deviationStage reg opts env (entryFuel reg) f0).1)
    ⟨{ reg := reg, opts := opts, tres := plug.tres, linked := linked }, _, _, rfl, rfl, rfl, rfl, rfl⟩


theorem stageStep_errs_prefix (reg : Registry) (opts : Opts) (env : Env) (fuel : Nat) (acc : Forest × List Err × List String)
    (m : Mod) : acc.2.1 <+: (stageStep reg opts env fuel acc m).2.1 := by
  unfold stageStep
  split
  · exact List.prefix_refl _
  · exact List.prefix_append _ _

theorem stageFold_errs_prefix (reg : Registry) (opts : Opts) (env : Env) (fuel : Nat) (mods : List Mod) :
    ∀ acc : Forest × List Err × List String, acc.2.1 <+: (mods.foldl (stageStep reg opts env fuel) acc).2.1 := by
  intro acc
  exact ListAux.foldl_inv (fun x => acc.2.1 <+: x.2.1) _ mods acc (List.prefix_refl _)
    fun x m _ hx => hx.trans (stageStep_errs_prefix reg opts env fuel x m)

theorem stageStep_new (reg : Registry) (opts : Opts) (env : Env) (fuel : Nat) (acc : Forest × List Err × List String) (m : Mod)
    (h : acc.2.2.contains m.name = false) :
    stageStep reg opts env fuel acc m =
      ((applyDeviations reg opts m (devsOf env fuel m) acc.1).1,
       acc.2.1 ++ (applyDeviations reg opts m (devsOf env fuel m) acc.1).2, acc.2.2 ++ [m.name]) := by
  unfold stageStep; rw [if_neg (by rw [h]; simp)]

/-- A module whose deviations report, at its turn, makes the stage report. -/
theorem stage_reports (reg : Registry) (opts : Opts) (env : Env) (fuel : Nat) (f0 : Forest) (pre post : List Mod) (m : Mod)
    (hsplit : devOrderOf reg = pre ++ m :: post)
    (hnew : (pre.foldl (stageStep reg opts env fuel) (f0, [], [])).2.2.contains m.name = false)
    (h : (applyDeviations reg opts m (devsOf env fuel m) (pre.foldl (stageStep reg opts env fuel) (f0, [], [])).1).2 ≠ []) :
    (deviationStage reg opts env fuel f0).2.1 ≠ [] := by
  unfold deviationStage
  rw [hsplit, List.foldl_append, List.foldl_cons]
  apply ne_nil_of_prefix (stageFold_errs_prefix reg opts env fuel post _)
  rw [stageStep_new reg opts env fuel _ m hnew]
  intro he
  exact h (List.append_eq_nil_iff.mp he).2

/-- The targets of the whole stage, module by module, each resolved at its turn. -/
def stageTargets (reg : Registry) (opts : Opts) (env : Env) (fuel : Nat) : List Mod → Forest × List Err × List String → List Loc
  | [], _ => []
  | m :: rest, acc =>
    (if acc.2.2.contains m.name then [] else targetsFrom reg opts m (devsOf env fuel m) (acc.1, [])) ++
      stageTargets reg opts env fuel rest (stageStep reg opts env fuel acc m)

/-- **Frame of the deviation stage.** -/
theorem stage_frame (reg : Registry) (opts : Opts) (env : Env) (fuel : Nat) (t' : Nat) (q : Path) (dd : EData) :
    ∀ (mods : List Mod) (acc : Forest × List Err × List String),
      obsE acc.1 t' q = some dd →
      (∀ loc ∈ stageTargets reg opts env fuel mods acc, ¬ (loc.1 = t' ∧ loc.2 <+: q)) →
      obsE (mods.foldl (stageStep reg opts env fuel) acc).1 t' q = some dd := by
  intro mods
  induction mods with
  | nil => intro acc h _; exact h
  | cons m rest ih =>
    intro acc h hq
    simp only [List.foldl_cons]
    apply ih
    · cases hc : acc.2.2.contains m.name with
      | true => unfold stageStep; simp only [hc, if_true]; exact h
      | false =>
        rw [stageStep_new reg opts env fuel acc m hc, applyDeviations_eq]
        apply applyDeviations_frame' reg opts m t' q dd _ (acc.1, []) h
        intro loc hloc
        apply hq
        simp only [stageTargets, hc, List.mem_append]
        exact Or.inl (by simpa using hloc)
    · intro loc hloc
      apply hq
      simp only [stageTargets, List.mem_append]
      exact Or.inr hloc

/-- A clean `processAll` ran the deviation stage, the stage reported nothing, and the forest
returned is the stage's. -/
theorem processAll_clean (reg : Registry) (opts : Opts) (plug : Plug) (h : (processAll reg opts plug).errors = []) :
    ∃ (env : Env) (f0 : Forest), env.reg = reg ∧ env.opts = opts ∧ env.tres = plug.tres ∧
      (deviationStage reg opts env (entryFuel reg) f0).2.1 = [] ∧
      (processAll reg opts plug).forest = (deviationStage reg opts env (entryFuel reg) f0).1 := by
  rcases processAll_cases reg opts plug with ⟨errs, hne, he⟩ | ⟨env, f0, errs0, h1, h2, h3, he, hf⟩
  · rw [he] at h; exact absurd h (canonErrs_ne_nil hne)
  · refine ⟨env, f0, h1, h2, h3, ?_, hf⟩
    rw [he] at h
    cases hs : (deviationStage reg opts env (entryFuel reg) f0).2.1 with
    | nil => rfl
    | cons a t =>
      rw [hs] at h
      exact absurd h (canonErrs_ne_nil (by simp))


/-! ### errors detected when the deviating module is converted -/

theorem errors_importErrors (e c : Entry) (h : e.d.errors ≠ [] ∨ c.d.errors ≠ []) : (e.importErrors c).d.errors ≠ [] := by
  cases e; cases c
  simp only [Entry.importErrors, Entry.addErrs, Entry.withD, Entry.d] at h ⊢
  intro hn
  simp only [List.append_eq_nil_iff] at hn
  rcases h with h | h
  · exact h hn.1
  · exact h hn.2.1.1.1

theorem errors_addErr (e : Entry) (x : Err) : (e.addErr x).d.errors ≠ [] := by
  cases e; simp [Entry.addErr, Entry.withD, Entry.d]

/-- A fold whose step never loses recorded errors and records one at a bad element ends with errors. -/
theorem foldl_errs_ne_nil {σ} (G : Entry × σ → Stmt → Entry × σ) (bad : Stmt → Prop)
    (hmono : ∀ acc dv, acc.1.d.errors ≠ [] → (G acc dv).1.d.errors ≠ [])
    (hbad : ∀ acc dv, bad dv → (G acc dv).1.d.errors ≠ []) :
    ∀ (l : List Stmt) (acc : Entry × σ), (acc.1.d.errors ≠ [] ∨ ∃ dv ∈ l, bad dv) → (l.foldl G acc).1.d.errors ≠ [] := by
  intro l
  induction l with
  | nil => intro acc h; rcases h with h | ⟨_, h, _⟩; exact h; cases h
  | cons a l ih =>
    intro acc h
    simp only [List.foldl_cons]
    apply ih
    rcases h with h | ⟨dv, hm, hb⟩
    · exact Or.inl (hmono acc a h)
    · rcases List.mem_cons.mp hm with rfl | hm
      · exact Or.inl (hbad acc dv hb)
      · exact Or.inr ⟨dv, hm, hb⟩

open Goyang.Lemmas.Fuel (stepB toEntry_dir DirCase dirStart store visiting' isTracked) in
theorem toEntry_plain (env : Env) (fuel : Nat) (root : Mod) (scope : List Stmt) (n : Stmt) (vis : List NodeId) (st : TState)
    (hk : n.kw = "deviation" ∨ n.kw = "deviate") :
    toEntry env (fuel + 1) root scope n vis st =
      (fieldOrder n.kw).foldl (stepB env (toEntry env fuel) root n (n :: scope) vis false) (dirStart root n, st) := by
  have ht : isTracked n = false := by rcases hk with hk | hk <;> simp [isTracked, hk]
  have hm : (n.kw == "module" || n.kw == "submodule") = false := by rcases hk with hk | hk <;> simp [hk]
  have hg : (n.kw == "grouping") = false := by rcases hk with hk | hk <;> simp [hk]
  rw [toEntry_dir env fuel scope (DirCase.of_untracked root vis st ht (by rcases hk with hk | hk <;> simp [hk]))]
  unfold store visiting'
  rw [hm, hg, ht]
  rfl

section
open Goyang.Lemmas.Fuel (Rec stepB)
variable (env : Env) (rec : Rec) (root : Mod) (n : Stmt) (sub : List Stmt) (vis : List NodeId) (isMod : Bool)
  (acc : Entry × TState)

theorem stepB_deviate :
    stepB env rec root n sub vis isMod acc "deviate" =
      (n.all "deviate").foldl (fun (acc : Entry × TState) dv =>
        let (de, st) := rec root sub dv vis acc.2
        let e := acc.1.importErrors de
        (if deviateKinds.contains dv.arg then e else e.addErr (Err.at_ n "deviate-unknown-kind"), st)) acc := rfl

theorem stepB_description :
    stepB env rec root n sub vis isMod acc "description" =
      (match n.argOf? "description" with
        | some v => acc.1.withD fun d => { d with description := v }
        | none => acc.1, acc.2) := rfl

theorem stepB_description_errors : (stepB env rec root n sub vis isMod acc "description").1.d.errors = acc.1.d.errors := by
  rw [stepB_description]
  simp only []
  split
  · cases acc.1; rfl
  · rfl

theorem stepB_deviate_errors
    (h : ∃ ds ∈ n.all "deviate", deviateKinds.contains ds.arg = false ∨ ∀ st', (rec root sub ds vis st').1.d.errors ≠ []) :
    (stepB env rec root n sub vis isMod acc "deviate").1.d.errors ≠ [] := by
  rw [stepB_deviate]
  refine foldl_errs_ne_nil _
    (fun ds => deviateKinds.contains ds.arg = false ∨ ∀ st', (rec root sub ds vis st').1.d.errors ≠ [])
    (fun acc dv hacc => ?_) (fun acc dv hb => ?_) _ _ (Or.inr h)
  · simp only
    split
    · exact errors_importErrors _ _ (Or.inl hacc)
    · exact errors_addErr _ _
  · simp only
    split
    · next hc =>
      rcases hb with hb | hb
      · rw [hb] at hc; cases hc
      · exact errors_importErrors _ _ (Or.inr (hb acc.2))
    · exact errors_addErr _ _

end

/-- **Unknown deviate kind (and any error of a deviate entry) is recorded on the deviation entry.**
Converting a `deviation` statement that has a `deviate` substatement whose argument is not one of
the four kinds, or whose entry carries an error (e.g. a replacement type that does not resolve),
yields an entry with a recorded error — for every fuel, scope and conversion state. -/
theorem toEntry_deviation_errs (env : Env) (fuel : Nat) (root : Mod) (scope : List Stmt) (n : Stmt) (visiting : List NodeId)
    (st : TState) (hkw : n.kw = "deviation")
    (h : ∃ ds ∈ n.all "deviate", deviateKinds.contains ds.arg = false ∨
      ∀ st', (toEntry env (fuel - 1) root (n :: scope) ds visiting st').1.d.errors ≠ []) :
    (toEntry env fuel root scope n visiting st).1.d.errors ≠ [] := by
  cases fuel with
  | zero => simp [toEntry, errorEntry, Entry.d]
  | succ fuel =>
    simp only [Nat.add_sub_cancel] at h
    rw [toEntry_plain env fuel root scope n visiting st (.inl hkw), hkw]
    simp only [fieldOrder, List.foldl_cons, List.foldl_nil]
    rw [stepB_description_errors]
    exact stepB_deviate_errors _ _ _ _ _ _ _ _ h

end Goyang.Lemmas.Deviate
