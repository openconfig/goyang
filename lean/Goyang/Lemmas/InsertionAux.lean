/-
Insertion sort keeps the elements: once for every insertion step of the shape "walk past the
elements that satisfy a test, then put the new element down" (`Model.Range.bubble`, its integer
counterpart `bubbleZ`, `Model.Enum.insertSorted`), and once for the outer loop over a reversed sorted
prefix (`Model.Range.sortLoop`, `sortLoopZ`).  Core Lean only.
-/
namespace Goyang.Lemmas.InsertionAux

theorem mem_insert {α : Type} {x : α} {p : α → Bool} {ins : List α → List α} (h0 : ins [] = [x])
    (h1 : ∀ y ys, ins (y :: ys) = if p y then y :: ins ys else x :: y :: ys) (r : α) (l : List α) :
    r ∈ ins l ↔ r = x ∨ r ∈ l := by
  induction l with
  | nil => simp [h0]
  | cons y ys ih =>
    rw [h1]
    split <;> simp [ih, or_left_comm]

theorem mem_loop {α : Type} {bub : α → List α → List α} (hb : ∀ x l r, r ∈ bub x l ↔ r = x ∨ r ∈ l)
    {loop : List α → List α → List α} (h0 : ∀ pre, loop pre [] = pre.reverse)
    (h1 : ∀ pre x xs, loop pre (x :: xs) = loop (bub x pre) xs) (pre l : List α) (r : α) :
    r ∈ loop pre l ↔ r ∈ pre ∨ r ∈ l := by
  induction l generalizing pre with
  | nil => simp [h0]
  | cons x xs ih =>
    rw [h1, ih, hb]
    simp [or_assoc, or_left_comm]

end Goyang.Lemmas.InsertionAux
