import Goyang.Lemmas.ConfigNsDev
import Goyang.Lemmas.ConfigNsBuilt
/-
C12: the literal class for runs WITH deviations.

`BuiltD reg` is `Spec.ConfigNs.Built` (conversion / graft / FixChoice) with the three steps the deviation
stage takes on an error-free run, each with a stated provenance — no `congr`, no `rootErr`:
  `implicit` — `Entry.Find` creates the input / output an rpc / action does not have (the path of a
               deviation names it): the created node is placed by whoever placed the rpc; every other
               location keeps its placer;
  `retouch`  — the deviated copy of the target is written back (children, stamp, name, errors as before);
  `remove`   — `deviate not-supported` unlinks the target: the removed locations lose their placer.

Proved here: `builtD_namespace` (the provenance theorem, the created input / output included);
`builtD_store` (the class is closed under storing a tree back unchanged — the literal forest, so the
`congr` escape is not needed); `devStage_bdv` (the deviation stage keeps "`BuiltD`, or some root carries
an error", every input); `processAll_builtD_clean` (the forest of an error-free run — deviations or not —
is `BuiltD`).
-/
set_option linter.unusedVariables false
set_option linter.unusedSimpArgs false
namespace Goyang.Lemmas.ConfigNsDevLit
open Goyang.Model Goyang.Spec.ConfigNs Goyang.Lemmas.ConfigNs Goyang.Lemmas.Bridge
open Goyang.Lemmas.ConfigNsDev (Removed setTree_setTree DevClosed)
open Goyang.Lemmas.ConfigNsBuilt (Dirty store_step fixAll_setTree dirty_setTree)
open Goyang.Spec.Find (addImplicit Grown GrowStep)

/-- The step from an rpc / action to its input (`true`) or output (`false`). -/
def ioStep (isInput : Bool) : Step := if isInput then .input else .output

/-- `Spec.ConfigNs.Built` with the steps of the deviation stage of an error-free run. -/
inductive BuiltD (reg : Registry) : Forest → (Loc → Option Nat) → Prop
  | init {f : Forest} :
      (∀ id t, f.tree? id = some t → noStampBelow t = true) →
      BuiltD reg f (fun loc => some loc.1)
  | graft {f : Forest} {prov prov' : Loc → Option Nat} {by_ t : Nat} {path : Path} {root te a : Entry} :
      BuiltD reg f prov →
      f.tree? t = some root → root.getAt path = some te →
      noStampL a.dir = true →
      (∀ loc, NewBelow t path te a loc → prov' loc = some by_) →
      (∀ loc, ¬ NewBelow t path te a loc → prov' loc = prov loc) →
      BuiltD reg (f.setTree t (root.updateAt path fun te => te.merge (some (ownerNs reg by_)) a)) prov'
  | fix {f : Forest} {prov prov' : Loc → Option Nat} :
      BuiltD reg f prov →
      (∀ id root p, f.tree? id = some root → (root.getAt p).isSome →
          prov' (id, liftPath root p) = prov (id, p)) →
      (∀ loc', (¬ ∃ root p, f.tree? loc'.1 = some root ∧ (root.getAt p).isSome ∧ loc'.2 = liftPath root p) →
          prov' loc' = none) →
      BuiltD reg (fixAll f) prov'
  /-- `Find` creates the absent input / output of the rpc / action at `p`: placed by the rpc's placer -/
  | implicit {f : Forest} {prov prov' : Loc → Option Nat} {t : Nat} {root e : Entry} {p : Path} (isInput : Bool) :
      BuiltD reg f prov → f.tree? t = some root → root.getAt p = some e → e.d.isRpc = true →
      (if isInput = true then e.inp = [] else e.out = []) →
      prov' (t, p ++ [ioStep isInput]) = prov (t, p) →
      (∀ loc, loc ≠ (t, p ++ [ioStep isInput]) → prov' loc = prov loc) →
      BuiltD reg (f.setTree t (root.updateAt p (addImplicit isInput))) prov'
  /-- the deviated copy of the target is written back: children, stamp, name, errors as before -/
  | retouch {f : Forest} {prov : Loc → Option Nat} {t : Nat} {root node node' : Entry} {path : Path} :
      BuiltD reg f prov → f.tree? t = some root → root.getAt path = some node →
      node'.dir = node.dir → node'.inp = node.inp → node'.out = node.out →
      node'.d.ns = node.d.ns → node'.name = node.name → node'.d.errors = node.d.errors →
      BuiltD reg (f.setTree t (root.updateAt path fun _ => node')) prov
  /-- `deviate not-supported`: the target is unlinked from its parent -/
  | remove {f : Forest} {prov prov' : Loc → Option Nat} {t : Nat} {root : Entry} {path : Path} :
      BuiltD reg f prov → f.tree? t = some root → path ≠ [] → (root.getAt path).isSome = true →
      (∀ loc, Removed t path loc → prov' loc = none) →
      (∀ loc, ¬ Removed t path loc → prov' loc = prov loc) →
      BuiltD reg (f.setTree t (removeAt root path)) prov'

theorem Built.toBuiltD {reg : Registry} {f : Forest} {prov : Loc → Option Nat} (h : Built reg f prov) :
    BuiltD reg f prov := by
  induction h with
  | init h => exact BuiltD.init h
  | graft _ h1 h2 h3 h4 h5 ih => exact BuiltD.graft ih h1 h2 h3 h4 h5
  | fix _ h1 h2 ih => exact BuiltD.fix ih h1 h2

/-- Every `BuiltD` forest is `BuiltX` without root errors (for some provenance: `BuiltX` does not move
the placer of a created input / output). -/
theorem BuiltD.toBuiltX {reg : Registry} {f : Forest} {prov : Loc → Option Nat} (h : BuiltD reg f prov) :
    ∃ prov0, ConfigNsDev.BuiltX reg false f prov0 := by
  classical
  induction h with
  | init h => exact ⟨_, .init h⟩
  | @graft f prov prov' by_ t path root te a _ h1 h2 h3 h4 h5 ih =>
    obtain ⟨p0, ih⟩ := ih
    exact ⟨fun loc => if NewBelow t path te a loc then some by_ else p0 loc,
      .graft ih h1 h2 h3 (fun loc h => by simp only [h, if_true]) (fun loc h => by simp only [h, if_false])⟩
  | @fix f prov prov' _ h1 h2 ih =>
    obtain ⟨p0, ih⟩ := ih
    obtain ⟨prov0, hk, hn⟩ := Bridge.fix_prov f p0
    exact ⟨prov0, .fix ih hk hn⟩
  | implicit b _ h1 h2 _ h3 _ _ ih => obtain ⟨p0, ih⟩ := ih; exact ⟨p0, .implicit b ih h1 h2 h3⟩
  | retouch _ h1 h2 h3 h4 h5 h6 h7 h8 ih => obtain ⟨p0, ih⟩ := ih; exact ⟨p0, .retouch ih h1 h2 h3 h4 h5 h6 h7 h8⟩
  | @remove f prov prov' t root path _ h1 h2 h3 h4 h5 ih =>
    obtain ⟨p0, ih⟩ := ih
    exact ⟨fun loc => if Removed t path loc then none else p0 loc,
      .remove ih h1 h2 h3 (fun loc h => by simp only [h, if_true]) (fun loc h => by simp only [h, if_false])⟩

/-! ### storing a tree back unchanged: the literal forest -/

theorem builtD_store {reg : Registry} {f : Forest} {prov : Loc → Option Nat} (hb : BuiltD reg f prov) :
    ∀ (t : Nat) (root : Entry), f.tree? t = some root → BuiltD reg (f.setTree t root) prov := by
  induction hb with
  | @init f h =>
    intro t root ht
    refine BuiltD.init ?_
    intro id tr htr
    rw [tree?_setTree_self f t root ht] at htr
    exact h id tr htr
  | @graft f prov prov' by_ t0 path root0 te a hb0 h1 h2 h3 h4 h5 ih =>
    exact store_step (B' := (BuiltD reg · prov')) h1 hb0 ih fun g hg hg1 => BuiltD.graft hg hg1 h2 h3 h4 h5
  | @fix f prov prov' hb0 h1 h2 ih =>
    refine ConfigNsBuilt.store_fix (B' := (BuiltD reg · prov')) ih fun g hg hsame => BuiltD.fix hg ?_ ?_
    · intro id root p hr; rw [hsame] at hr; exact h1 id root p hr
    · intro loc' hno
      apply h2 loc'
      rintro ⟨root, p, hr, hs, hl⟩
      exact hno ⟨root, p, by rw [hsame]; exact hr, hs, hl⟩
  | @implicit f prov prov' t0 root0 e p b hb0 h1 h2 hr h3 h4 h5 ih =>
    exact store_step (B' := (BuiltD reg · prov')) h1 hb0 ih fun g hg hg1 => BuiltD.implicit b hg hg1 h2 hr h3 h4 h5
  | @retouch f prov t0 root0 node node' path hb0 h1 h2 h3 h4 h5 h6 h7 h8 ih =>
    exact store_step (B' := (BuiltD reg · prov)) h1 hb0 ih fun g hg hg1 => BuiltD.retouch hg hg1 h2 h3 h4 h5 h6 h7 h8
  | @remove f prov prov' t0 root0 path hb0 h1 h2 h3 h4 h5 ih =>
    exact store_step (B' := (BuiltD reg · prov')) h1 hb0 ih fun g hg hg1 => BuiltD.remove hg hg1 h2 h3 h4 h5

/-! ### provenance: the namespace is that of the placing module -/

theorem next_ioStep_none (b : Bool) (e : Entry) (hb : if b = true then e.inp = [] else e.out = []) :
    next e (ioStep b) = none := by
  cases b with
  | true => simp only [if_true] at hb; simp [ioStep, next, hb]
  | false => simp only [Bool.false_eq_true, if_false] at hb; simp [ioStep, next, hb]

/-- Before the creation the walk to the (absent) input / output of the node at `p` ends at `p`. -/
theorem stampAt_absent_io (root : Entry) (p : Path) (e : Entry) (b : Bool) (hg : root.getAt p = some e)
    (hb : if b = true then e.inp = [] else e.out = []) : root.stampAt (p ++ [ioStep b]) = root.stampAt p := by
  unfold Entry.stampAt
  rw [stampGo_append root p [ioStep b] none e hg, stampGo_cons, next_ioStep_none b e hb]

/-- **C12's provenance theorem for `BuiltD`**: every location that some module's text placed — a
created rpc input / output counts as placed by the placer of its rpc — and that no deviation removed
reports the namespace of the module the placer belongs to. -/
theorem builtD_namespace {reg : Registry} {f : Forest} {prov : Loc → Option Nat} (hb : BuiltD reg f prov) :
    ∀ (loc : Loc) (m : Nat), (f.tree? loc.1).isSome = true → prov loc = some m →
      namespaceAt reg f loc = ownerNs reg m := by
  show Placed reg f prov
  induction hb with
  | init h => exact placed_init h
  | graft _ h1 h2 h3 h4 h5 ih => exact placed_graft ih h1 h2 h3 h4 h5
  | fix _ h1 h2 ih => exact placed_fix ih h1 h2
  | @implicit f prov prov' t root e p b _ hroot hg hrpc hb hnew hold ih =>
    intro loc m hsome hp
    rw [namespaceAt_setTree_same reg f t root _ hroot (stampAt_addImplicit root p e b hg hb)]
    by_cases hl : loc = (t, p ++ [ioStep b])
    · subst hl
      rw [hnew] at hp
      rw [← ih (t, p) m (by simp only; rw [hroot]; rfl) hp, namespaceAt_tree reg f (t, p) root hroot,
        namespaceAt_tree reg f (t, p ++ [ioStep b]) root hroot]
      unfold nsOfTree
      simp only
      rw [stampAt_absent_io root p e b hg hb]
    · rw [hold loc hl] at hp
      rw [isSome_tree?_setTree] at hsome
      exact ih loc m hsome hp
  | retouch _ hroot hg hd hi ho hns hname _ ih =>
    exact ConfigNsDev.placed_setTree_same ih hroot (ConfigNsDev.stampAt_retouch _ _ _ _ hg hd hi ho hns hname)
  | remove _ hroot hne hex hgone hkeep ih => exact ConfigNsDev.placed_remove ih hroot hne hex hgone hkeep

/-! ### the deviation stage -/

/-- The threaded alternative: `BuiltD`, or some root carries an error (and such an error stays). -/
def BDv (reg : Registry) (f : Forest) : Prop := (∃ prov, BuiltD reg f prov) ∨ Dirty f

/-- `Find` keeps the alternative, whatever it is asked. -/
theorem bdv_find {reg : Registry} {f : Forest} (h : BDv reg f) (start : Loc) (ctx : Nat) (name : String) :
    BDv reg (find reg f start ctx name).2 := by
  classical
  refine ConfigNsDev.find_keeps (I := BDv reg) (fun f t root h ht => ?_) (fun f t root e p b h ht hg hr he => ?_)
    (fun f t root x _ ht => Or.inr (ConfigNsBuilt.dirty_addErr f t root x ht)) f start ctx name h
  · rcases h with ⟨prov, hb⟩ | hd
    · exact Or.inl ⟨prov, builtD_store hb t root ht⟩
    · exact Or.inr (dirty_setTree f t root root ht id hd)
  · rcases h with ⟨prov, hb⟩ | hd
    · exact Or.inl ⟨fun loc => if loc = (t, p ++ [ioStep b]) then prov (t, p) else prov loc,
        BuiltD.implicit b hb ht hg hr he (by simp only [if_true]) (fun loc h => by simp only [h, if_false])⟩
    · exact Or.inr (dirty_setTree f t root _ ht
        (ConfigNsBuilt.updateAt_errors_mono root p _ (by rw [ConfigNsDev.addImplicit_d]; exact id)) hd)

theorem dirty_retouch (f : Forest) (t : Nat) (root node node' : Entry) (path : Path) (hroot : f.tree? t = some root)
    (hg : root.getAt path = some node) (herr : node'.d.errors = node.d.errors) (h : Dirty f) :
    Dirty (f.setTree t (root.updateAt path fun _ => node')) := by
  refine dirty_setTree f t root _ hroot ?_ h
  intro he
  rwa [ConfigNsDev.retouch_root_errors root node node' path hg herr]

theorem dirty_remove (f : Forest) (t : Nat) (root : Entry) (path : Path) (hroot : f.tree? t = some root)
    (hne : path ≠ []) (h : Dirty f) : Dirty (f.setTree t (removeAt root path)) := by
  refine dirty_setTree f t root _ hroot ?_ h
  intro he
  rwa [ConfigNsDev.removeAt_root_errors root path hne]

theorem devClosed_bdv (reg : Registry) : DevClosed reg (BDv reg) where
  find f start ctx name h := bdv_find h start ctx name
  retouch f t root node node' path h hroot h1 u1 u2 u3 u4 u5 u6 := by
    rcases h with ⟨prov, hb⟩ | hd
    · exact Or.inl ⟨prov, BuiltD.retouch hb hroot h1 u1 u2 u3 u4 u5 u6⟩
    · exact Or.inr (dirty_retouch f t root node node' path hroot h1 u6 hd)
  remove f t root path h hroot hne hex := by
    classical
    rcases h with ⟨prov, hb⟩ | hd
    · exact Or.inl ⟨fun loc => if Removed t path loc then none else prov loc,
        BuiltD.remove hb hroot hne hex (fun loc h => by simp only [h, if_true]) (fun loc h => by simp only [h, if_false])⟩
    · exact Or.inr (dirty_remove f t root path hroot hne hd)

/-- **The deviation stage of `processAll` keeps "`BuiltD`, or some root carries an error"** (every
registry, option set, plugged-in stage and start forest). -/
theorem devStage_bdv (reg : Registry) (opts : Opts) (plug : Plug) (f0 : Forest) (hb : BDv reg f0) :
    BDv reg (Tree.devStage reg opts plug f0).1 :=
  ConfigNsDev.devStage_inv (devClosed_bdv reg) opts plug f0 hb

/-- **The forest of an error-free `processAll` run — deviations included — is `BuiltD`.** -/
theorem processAll_builtD_clean (reg : Registry) (opts : Opts) (plug : Plug)
    (hclean : (processAll reg opts plug).errors = []) :
    ∃ prov, BuiltD reg (processAll reg opts plug).forest prov := by
  obtain ⟨_, _, h3, _, h5⟩ := Tree.processAll_clean reg opts plug hclean
  obtain ⟨prov, hb⟩ := ConfigNsBuilt.preDev_built_of_clean reg opts plug h3
  have hne := Tree.process_clean_no_errors reg opts plug hclean
  rw [h5] at hne ⊢
  rcases devStage_bdv reg opts plug _ (Or.inl ⟨prov, Built.toBuiltD hb⟩) with h | ⟨t, root, hroot, herr⟩
  · exact h
  · exact absurd (Tree.noErrors_own root (Tree.forestAll_tree? _ t root hne hroot)) herr

end Goyang.Lemmas.ConfigNsDevLit
