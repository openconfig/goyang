import Goyang.Lemmas.IncludeAugDump
import Goyang.Lemmas.AugmentTree
/-
C13 (third sentence), piece (E), second half: from C07's *flat view* (`Spec.Augment.viewOf`: data by
node names, rpc input / output always there) to the path view `PEq` of Lemmas/IncludeAugDump.lean.

The flat view alone does NOT determine the dump: it shows the input / output of an rpc whether or not
the entry exists (goyang creates it lazily, `Find` on the way to a target), the dump prints the record
only when it exists (`view_not_enough`).  With the same inputs / outputs created (`SameIO`) and the
shape every converted tree has (`IOShape`: an rpc / action node has no `Dir` child, any other node no
input / output) equal flat views give equal path views, hence (with `KeysUnique`) equal dumps.
-/
namespace Goyang.Lemmas.IncludeAugView
open Goyang.Model Goyang.Spec.Tree Goyang.Lemmas.Tree Goyang.Spec.Augment Goyang.Lemmas.IncludeAugDump
open Goyang.Lemmas.AugmentTree (dataAt dataAt_nil dataAt_cons kid_nonrpc kid_input kid_output)

/-- An rpc / action node has no `Dir` child; any other node has no rpc input / output. -/
def ioShapeHere (e : Entry) : Bool :=
  if e.d.isRpc then e.dir.isEmpty else e.inp.isEmpty && e.out.isEmpty

def IOShape (e : Entry) : Prop := everyNode ioShapeHere e = true

instance (e : Entry) : Decidable (IOShape e) := by unfold IOShape; infer_instance

/-- At every location of the flat view the two trees have created the same rpc input / output entries. -/
def SameIO (t t' : Entry) : Prop :=
  ∀ P x x', walk t P = some x → walk t' P = some x' → x.inp.isEmpty = x'.inp.isEmpty ∧ x.out.isEmpty = x'.out.isEmpty

/-- Same flat view below two nodes. -/
def VEq (t t' : Entry) : Prop := ∀ P, dataAt t P = dataAt t' P

theorem ioShape_mk {d : EData} {c i o : List Entry} (h : IOShape (.mk d c i o)) :
    (d.isRpc = true → c = []) ∧ (d.isRpc = false → i = [] ∧ o = []) ∧ (∀ x ∈ c, IOShape x) ∧ (∀ x ∈ i, IOShape x) ∧
      (∀ x ∈ o, IOShape x) := by
  unfold IOShape at h
  rw [everyNode_mk] at h
  obtain ⟨h0, h1, h2, h3⟩ := h
  refine ⟨fun hr => ?_, fun hr => ?_, h1, h2, h3⟩
  · simp only [ioShapeHere, Entry.d, hr, if_true, Entry.dir] at h0
    simpa using h0
  · simp only [ioShapeHere, Entry.d, hr, Entry.inp, Entry.out] at h0
    simpa using h0

theorem walk_cons (e : Entry) (k : String) (P : NPath) : walk e (k :: P) = (kid e k).bind fun c => walk c P := rfl

/-- **Equal flat views, the same inputs / outputs created, the shape of converted trees: equal path views.** -/
theorem peq_of_view : ∀ (p : Path) (t t' : Entry), VEq t t' → IOShape t → IOShape t' → SameIO t t' →
    dataP t p = dataP t' p
  | [], t, t', hv, _, _, _ => by
    have := hv []
    rw [dataAt_nil, dataAt_nil] at this
    rw [dataP_nil, dataP_nil, this]
  | s :: q, t, t', hv, hs, hs', hio => by
    have hd : nodeData t.d = nodeData t'.d := by
      have := hv []
      rw [dataAt_nil, dataAt_nil] at this
      exact Option.some.inj this
    have hrpc : t.d.isRpc = t'.d.isRpc := by
      have h0 : (nodeData t.d).isRpc = (nodeData t'.d).isRpc := by rw [hd]
      exact h0
    rw [dataP_cons, dataP_cons]
    -- the step to a related pair
    have step : ∀ (k : String) (x x' : Entry), kid t k = some x → kid t' k = some x' → IOShape x → IOShape x' →
        dataP x q = dataP x' q := by
      intro k x x' hk hk' hx hx'
      refine peq_of_view q x x' (fun P => ?_) hx hx' (fun P y y' hy hy' => ?_)
      · have := hv (k :: P)
        rw [dataAt_cons, dataAt_cons, hk, hk'] at this
        exact this
      · exact hio (k :: P) y y' (by rw [walk_cons, hk]; exact hy) (by rw [walk_cons, hk']; exact hy')
    cases t with | mk d c i o =>
    cases t' with | mk d' c' i' o' =>
    have S := ioShape_mk hs
    have S' := ioShape_mk hs'
    simp only [Entry.d] at hrpc
    cases hr : d.isRpc with
    | true =>
      have hr' : d'.isRpc = true := by rw [← hrpc]; exact hr
      have hc : c = [] := S.1 hr
      have hc' : c' = [] := S'.1 hr'
      subst hc hc'
      have hio0 := hio [] _ _ rfl rfl
      simp only [Entry.inp, Entry.out] at hio0
      have io : ∀ (nm : String) (l l' : List Entry), l.isEmpty = l'.isEmpty →
          (∀ x x', l.head? = some x → l'.head? = some x' → kid (.mk d [] i o) nm = some x ∧ kid (.mk d' [] i' o') nm = some x') →
          (∀ x ∈ l, IOShape x) → (∀ x ∈ l', IOShape x) →
          (l.head?.bind fun c => dataP c q) = l'.head?.bind fun c => dataP c q := by
        intro nm l l' he hk hl hl'
        cases l with
        | nil => cases l' with
          | nil => rfl
          | cons x' _ => cases he
        | cons x xs => cases l' with
          | nil => cases he
          | cons x' xs' =>
            obtain ⟨k1, k2⟩ := hk x x' rfl rfl
            exact step nm x x' k1 k2 (hl x (List.mem_cons_self ..)) (hl' x' (List.mem_cons_self ..))
      cases s with
      | child k => rfl
      | input =>
        exact io "input" i i' hio0.1 (fun x x' hx hx' => by
          rw [kid_input (by exact hr), kid_input (by exact hr')]
          simp only [Entry.inp, hx, hx', Option.getD_some, and_self]) S.2.2.2.1 S'.2.2.2.1
      | output =>
        exact io "output" o o' hio0.2 (fun x x' hx hx' => by
          rw [kid_output (by exact hr), kid_output (by exact hr')]
          simp only [Entry.out, hx, hx', Option.getD_some, and_self]) S.2.2.2.2 S'.2.2.2.2
    | false =>
      have hr' : d'.isRpc = false := by rw [← hrpc]; exact hr
      obtain ⟨hi, ho⟩ := S.2.1 hr
      obtain ⟨hi', ho'⟩ := S'.2.1 hr'
      subst hi ho hi' ho'
      cases s with
      | input => rfl
      | output => rfl
      | child k =>
        show ((Entry.mk d c [] []).child? k).bind _ = ((Entry.mk d' c' [] []).child? k).bind _
        have h1 := hv [k]
        rw [dataAt_cons, dataAt_cons, kid_nonrpc (by exact hr), kid_nonrpc (by exact hr')] at h1
        cases hk : (Entry.mk d c [] []).child? k with
        | none =>
          cases hk' : (Entry.mk d' c' [] []).child? k with
          | none => rfl
          | some x' => rw [hk, hk'] at h1; simp [dataAt_nil] at h1
        | some x =>
          cases hk' : (Entry.mk d' c' [] []).child? k with
          | none => rw [hk, hk'] at h1; simp [dataAt_nil] at h1
          | some x' =>
            simp only [Option.bind_some]
            exact step k x x' (by rw [kid_nonrpc (by exact hr)]; exact hk) (by rw [kid_nonrpc (by exact hr')]; exact hk')
              (S.2.2.1 x (IncludeAugDump.child?_mem hk)) (S'.2.2.1 x' (IncludeAugDump.child?_mem hk'))

theorem peq_of_veq {t t' : Entry} (hv : VEq t t') (hs : IOShape t) (hs' : IOShape t') (hio : SameIO t t') : PEq t t' :=
  fun p => peq_of_view p t t' hv hs hs' hio

/-- The flat view of a forest at the locations of one tree. -/
theorem viewOf_tree {f : Forest} {id : Nat} {t : Entry} (ht : f.tree? id = some t) (P : NPath) (d : EData) :
    viewOf f (id, P) d ↔ dataAt t P = some d := by
  unfold viewOf nodeAt dataAt
  simp only [ht, Option.bind_some]
  constructor
  · rintro ⟨e, he, rfl⟩; rw [he]; rfl
  · intro h
    cases hw : walk t P with
    | none => rw [hw] at h; cases h
    | some e => rw [hw] at h; exact ⟨e, rfl, Option.some.inj h⟩

theorem veq_of_viewOf {f f' : Forest} {id : Nat} {t t' : Entry} (ht : f.tree? id = some t) (ht' : f'.tree? id = some t')
    (h : ∀ P d, viewOf f (id, P) d ↔ viewOf f' (id, P) d) : VEq t t' := by
  intro P
  apply Option.ext
  intro d
  rw [← viewOf_tree ht, ← viewOf_tree ht']
  exact h P d

/-- **The canonical dump of a tree as a function of the flat view**: two forests over one registry that
show the same flat view at the locations of tree `id`, with the same rpc inputs / outputs created, both
trees of the shape conversion produces and with `KeysUnique`: the same dump. -/
theorem dumpTree_of_view (reg : Registry) {f f' : Forest} {id : Nat} {t t' : Entry} (ht : f.tree? id = some t)
    (ht' : f'.tree? id = some t') (h : ∀ P d, viewOf f' (id, P) d ↔ viewOf f (id, P) d)
    (hs' : IOShape t') (hs : IOShape t) (hio : SameIO t' t) (hk' : KeysUnique t') (hk : KeysUnique t) (nm : String) :
    dumpTree reg f' nm t' id (entryDepth t' + 1) [] t' = dumpTree reg f nm t id (entryDepth t + 1) [] t :=
  dumpTree_root_peq reg ht ht' (peq_of_veq (veq_of_viewOf ht' ht h) hs' hs hio) hk' hk nm

/-- An rpc entry without input, and the same entry after `Find` has created the input. -/
def rpc0 : Entry := .mk { name := "r", hasDir := true, isRpc := true } [] [] []
def rpc1 : Entry := .mk { name := "r", hasDir := true, isRpc := true } [] [implicitIO rpc0 true] []

theorem kid_rpc01 (k : String) : kid rpc0 k = kid rpc1 k := by
  unfold kid
  by_cases h : (k == "input") = true
  · simp [rpc0, rpc1, h]
  · simp [rpc0, rpc1, h]; rfl

/-- **The flat view is not enough**: the two entries show the same flat view (and have `KeysUnique`,
`IOShape`), their dumps differ (one record against two). -/
theorem view_not_enough :
    VEq rpc0 rpc1 ∧ KeysUnique rpc0 ∧ KeysUnique rpc1 ∧ IOShape rpc0 ∧ IOShape rpc1 ∧
    ∀ (reg : Registry) (f f' : Forest) (nm : String),
      dumpTree reg f nm rpc0 0 (entryDepth rpc0 + 1) [] rpc0 ≠ dumpTree reg f' nm rpc1 0 (entryDepth rpc1 + 1) [] rpc1 := by
  refine ⟨?_, by decide, by decide, by decide, by decide, ?_⟩
  · intro P
    cases P with
    | nil => rfl
    | cons k P => rw [dataAt_cons, dataAt_cons, kid_rpc01]
  · intro reg f f' nm h
    have := congrArg List.length h
    revert this
    simp [dumpTree, entryDepth, entryDepth.depthL, rpc0, rpc1, sortBy, implicitIO]

/-! ### `SameIO` for trees without rpc / action nodes -/

def noRpcHere (e : Entry) : Bool := !e.d.isRpc

/-- No rpc / action node anywhere in the tree. -/
def NoRpc (e : Entry) : Prop := everyNode noRpcHere e = true

instance (e : Entry) : Decidable (NoRpc e) := by unfold NoRpc; infer_instance

theorem noRpc_mk {d : EData} {c i o : List Entry} (h : NoRpc (.mk d c i o)) : d.isRpc = false ∧ ∀ x ∈ c, NoRpc x := by
  unfold NoRpc at h
  rw [everyNode_mk] at h
  refine ⟨?_, h.2.1⟩
  have := h.1
  simpa [noRpcHere, Entry.d] using this

theorem walk_noRpc : ∀ (P : NPath) (t x : Entry), NoRpc t → IOShape t → walk t P = some x → NoRpc x ∧ IOShape x
  | [], t, x, h1, h2, hw => by
    have : t = x := Option.some.inj hw
    subst this
    exact ⟨h1, h2⟩
  | k :: P, t, x, h1, h2, hw => by
    cases t with | mk d c i o =>
    have hr := (noRpc_mk h1).1
    rw [walk_cons, kid_nonrpc (by exact hr)] at hw
    cases hc : (Entry.mk d c i o).child? k with
    | none => rw [hc] at hw; cases hw
    | some y =>
      rw [hc] at hw
      have hm : y ∈ c := IncludeAugDump.child?_mem hc
      exact walk_noRpc P y x ((noRpc_mk h1).2 y hm) ((ioShape_mk h2).2.2.1 y hm) hw

/-- Trees without rpc / action nodes (of the shape conversion produces) have no input / output entry at all. -/
theorem sameIO_of_noRpc {t t' : Entry} (h1 : NoRpc t) (h2 : IOShape t) (h1' : NoRpc t') (h2' : IOShape t') : SameIO t t' := by
  intro P x x' hx hx'
  obtain ⟨a, b⟩ := walk_noRpc P t x h1 h2 hx
  obtain ⟨a', b'⟩ := walk_noRpc P t' x' h1' h2' hx'
  cases x with | mk d c i o =>
  cases x' with | mk d' c' i' o' =>
  obtain ⟨e1, e2⟩ := (ioShape_mk b).2.1 (noRpc_mk a).1
  obtain ⟨e1', e2'⟩ := (ioShape_mk b').2.1 (noRpc_mk a').1
  subst e1 e2 e1' e2'
  exact ⟨rfl, rfl⟩

end Goyang.Lemmas.IncludeAugView
