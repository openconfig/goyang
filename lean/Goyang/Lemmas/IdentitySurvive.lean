import Goyang.Lemmas.IdentityOracle
/-
Helper lemmas for C11, part 7: schemas with several identity statements for one vertex.  The
dictionary `buildDict` ends with holds, for every key, the entry that was bound last; read as
(vertex, declaring (sub)module, statement) these are the `survivors` of the specification's
`registrations`.
-/
open Goyang.Lemmas.RegistryAux (byId_mem)
namespace Goyang.Lemmas.Identity
open Goyang.Lemmas.RegistryAux (owner_mem)
open Goyang.Model Goyang.Model.Identity
open Goyang.Spec.Identity (Reach includedBy preorder insertKey ascendingKeys preorderSteps statementsOf
  registrationsFor registrations survivors vertexStmts)

/-! ### the last element with a given key -/

section Last
variable {β γ κ κ' : Type}

theorem lastIn_map (k : β → κ) (k' : γ → κ') (f : β → γ) : ∀ (E : List β),
    (∀ e ∈ E, ∀ e' ∈ E, (k' (f e) = k' (f e') ↔ k e = k e')) →
    ∀ x, LastIn k' (E.map f) x ↔ ∃ e, LastIn k E e ∧ f e = x := by
  intro E
  induction E with
  | nil => intro _ x; simp [LastIn]
  | cons e0 E ih =>
    intro hk x
    have ih' := ih (fun a ha b hb => hk a (List.mem_cons_of_mem _ ha) b (List.mem_cons_of_mem _ hb)) x
    simp only [List.map_cons, LastIn]
    rw [ih']
    constructor
    · rintro (⟨rfl, hall⟩ | ⟨e, he, hfe⟩)
      · refine ⟨e0, Or.inl ⟨rfl, ?_⟩, rfl⟩
        intro y hy hky
        exact hall (f y) (List.mem_map.mpr ⟨y, hy, rfl⟩)
          ((hk y (List.mem_cons_of_mem _ hy) e0 (List.mem_cons_self ..)).mpr hky)
      · exact ⟨e, Or.inr he, hfe⟩
    · rintro ⟨e, (⟨rfl, hall⟩ | he), hfe⟩
      · left
        refine ⟨hfe.symm, ?_⟩
        intro y hy
        obtain ⟨y0, hy0, rfl⟩ := List.mem_map.mp hy
        intro hky
        rw [← hfe] at hky
        exact hall y0 hy0 ((hk y0 (List.mem_cons_of_mem _ hy0) e (List.mem_cons_self ..)).mp hky)
      · exact Or.inr ⟨e, he, hfe⟩

end Last

theorem mem_survivors {β : Type} : ∀ (L : List (Spec.Identity.Vertex × β)) (x : Spec.Identity.Vertex × β),
    x ∈ survivors L ↔ LastIn (·.1) L x := by
  intro L
  induction L with
  | nil => intro x; simp [survivors, LastIn]
  | cons a rest ih =>
    intro x
    simp only [survivors, LastIn]
    by_cases hany : rest.any (fun y => y.1 == a.1) = true
    · rw [if_pos hany, ih x]
      constructor
      · exact Or.inr
      · rintro (⟨rfl, hall⟩ | h)
        · obtain ⟨y, hy, hk⟩ := List.any_eq_true.mp hany
          exact absurd (beq_iff_eq.mp hk) (hall y hy)
        · exact h
    · rw [if_neg hany, List.mem_cons, ih x]
      constructor
      · rintro (rfl | h)
        · left
          refine ⟨rfl, ?_⟩
          intro y hy hk
          exact hany (List.any_eq_true.mpr ⟨y, hy, by simp [hk]⟩)
        · exact Or.inr h
      · rintro (⟨rfl, _⟩ | h)
        · exact Or.inl rfl
        · exact Or.inr h

/-! ### the entries in the order in which they are bound -/

/-- An entry read as the specification's (vertex, declaring (sub)module, statement). -/
def specOf (r : Registry) (e : DEntry) : Spec.Identity.Vertex × Mod × Stmt :=
  (e.vtx, (r.byId e.root).getD default, e.stmt)

theorem seqEntries_spec (r : Registry) : ∀ (cl : List Nat),
    (cl.flatMap (seqEntries r)).map (specOf r) = statementsOf r cl := by
  intro cl
  unfold statementsOf
  induction cl with
  | nil => rfl
  | cons s cl ih =>
    simp only [List.flatMap_cons, List.map_append, List.filterMap_cons]
    rw [ih]
    unfold seqEntries
    cases hm : r.byId s with
    | none => simp
    | some m =>
      simp only [List.flatMap_cons]
      congr 1
      unfold entriesOf vertexStmts
      cases how : r.owner m with
      | none => simp
      | some ow =>
        simp only [List.map_map]
        have hself := byId_self hm
        have : ∀ (k : Nat) (l : List Stmt),
            (l.zipIdx k).map (specOf r ∘ mkEntry ow m) =
              l.map ((fun (vs : Spec.Identity.Vertex × Stmt) => (vs.1, m, vs.2)) ∘ fun s => ((ow.name, s.arg), s)) := by
          intro k l
          induction l generalizing k with
          | nil => rfl
          | cons a l ih2 =>
            simp only [List.zipIdx_cons, List.map_cons, ih2]
            congr 1
            simp [specOf, mkEntry, hself]
        exact this 0 _

/-! ### the recursive walk and the explicit stack list the same -/

theorem preorder_mono {α : Type} [DecidableEq α] (succ : α → List α) : ∀ (n : Nat) (todo seen out : List α),
    preorder succ n todo seen = some out → ∀ k, preorder succ (n + k) todo seen = some out := by
  intro n
  induction n with
  | zero => intro todo seen out h; simp [preorder] at h
  | succ n ih =>
    intro todo seen out h k
    rw [Nat.add_right_comm]
    cases todo with
    | nil => simpa [preorder] using h
    | cons x todo =>
      simp only [preorder] at h ⊢
      split
      · rename_i hx; rw [if_pos hx] at h; exact ih _ _ _ h k
      · rename_i hx; rw [if_neg hx] at h; exact ih _ _ _ h k

theorem walk_preorder {α : Type} [DecidableEq α] (succ : α → List α) : ∀ (fuel : Nat) (r : α) (ids out : List α),
    walk succ fuel r ids = some out →
      ∃ c, ∀ n todo, preorder succ (n + c) (r :: todo) ids = preorder succ n todo out := by
  intro fuel
  induction fuel with
  | zero => intro r ids out h; simp [walk] at h
  | succ fuel ih =>
    intro r ids out h
    unfold walk at h
    by_cases hin : r ∈ ids
    · rw [if_pos hin] at h
      cases h
      exact ⟨1, fun n todo => by simp [preorder, hin]⟩
    · rw [if_neg hin] at h
      have fold : ∀ (cs acc out : List α), cs.foldlM (fun acc ch => walk succ fuel ch acc) acc = some out →
          ∃ c, ∀ n todo, preorder succ (n + c) (cs ++ todo) acc = preorder succ n todo out := by
        intro cs
        induction cs with
        | nil =>
          intro acc out h
          simp only [List.foldlM, pure, Option.some.injEq] at h
          subst h
          exact ⟨0, fun n todo => rfl⟩
        | cons c cs ihc =>
          intro acc out h
          simp only [List.foldlM_cons] at h
          cases hw : walk succ fuel c acc with
          | none => simp [hw] at h
          | some o1 =>
            simp only [hw, Option.bind_eq_bind, Option.bind_some] at h
            obtain ⟨c1, h1⟩ := ih c acc o1 hw
            obtain ⟨c2, h2⟩ := ihc o1 out h
            refine ⟨c2 + c1, fun n todo => ?_⟩
            rw [← Nat.add_assoc, List.cons_append, h1, h2]
      obtain ⟨c, hc⟩ := fold (succ r) (ids ++ [r]) out h
      refine ⟨c + 1, fun n todo => ?_⟩
      rw [← Nat.add_assoc]
      simp only [preorder, hin, if_false]
      exact hc n todo

/-- When both answer, the recursive walk from `r` and the explicit-stack traversal list the same
nodes in the same order. -/
theorem walk_eq_preorder {α : Type} [DecidableEq α] (succ : α → List α) (fuel steps : Nat) (r : α)
    (out ss : List α) (h1 : walk succ fuel r [] = some out) (h2 : preorder succ steps [r] [] = some ss) :
    ss = out := by
  obtain ⟨c, hc⟩ := walk_preorder succ fuel r [] out h1
  have h3 : preorder succ (1 + c) [r] [] = some out := by rw [hc 1 []]; rfl
  have a := preorder_mono succ _ _ _ _ h2 (1 + c)
  have b := preorder_mono succ _ _ _ _ h3 steps
  rw [Nat.add_comm] at b
  rw [a] at b
  exact Option.some.inj b

theorem foldlM_congr_opt {α β : Type} {f g : β → α → Option β} : ∀ (cs : List α) (a : β),
    (∀ acc, ∀ c ∈ cs, f acc c = g acc c) → cs.foldlM f a = cs.foldlM g a := by
  intro cs
  induction cs with
  | nil => intro a _; rfl
  | cons c cs ih =>
    intro a h
    simp only [List.foldlM_cons]
    rw [h a c (List.mem_cons_self ..)]
    cases g a c with
    | none => rfl
    | some b => exact ih b (fun acc x hx => h acc x (List.mem_cons_of_mem _ hx))

/-- The walk looks at the successors of what it reaches only. -/
theorem walk_congr {α : Type} [DecidableEq α] {s1 s2 : α → List α} : ∀ (fuel : Nat) (r : α) (ids : List α),
    (∀ x, Reach s2 r x → s1 x = s2 x) → walk s1 fuel r ids = walk s2 fuel r ids := by
  intro fuel
  induction fuel with
  | zero => intro r ids _; rfl
  | succ fuel ih =>
    intro r ids h
    unfold walk
    split
    · rfl
    · rw [h r (Reach.refl r)]
      apply foldlM_congr_opt
      intro acc c hc
      exact ih c acc (fun x hx => h x (Reach.step hc hx))

/-! ### ascending keys -/

theorem insertKey_eq (kv : String × Nat) (l : List (String × Nat)) :
    insertKey kv l = insertSorted (fun a b => decide (a.1 < b.1)) kv l := by
  induction l with
  | nil => rfl
  | cons x xs ih =>
    simp only [insertKey, insertSorted, decide_eq_true_eq]
    split
    · rfl
    · rw [ih]

theorem ascendingKeys_eq (l : List (String × Nat)) :
    ascendingKeys l = sortStable (fun a b => decide (a.1 < b.1)) l.reverse := by
  unfold ascendingKeys sortStable
  rw [List.foldl_reverse]
  congr 1
  funext kv acc
  exact insertKey_eq kv acc

/-- The dictionary loop visits the modules by ascending key, as the specification says. -/
theorem modulesByKey_ascending (o : Oracle) (ho : o.Valid) (r : Registry) (hk : KeysDistinct r) :
    modulesByKey o r = (ascendingKeys r.modules).filterMap fun kv => r.byId kv.2 := by
  unfold modulesByKey
  rw [ascendingKeys_eq]
  have hp : (o.order siteModules r.modules).Perm r.modules.reverse :=
    (ho _ siteModules r.modules).trans (List.reverse_perm _).symm
  have hnd : ((o.order siteModules r.modules).map (·.1)).Nodup :=
    ((ho _ siteModules r.modules).map _).nodup_iff.mpr hk
  rw [sortByKey_unique _ _ hp hnd]

/-! ### the dictionary holds the survivors -/

theorem agrees_of_entries (r : Registry) (hnc : ∀ m ∈ r.mods, ':' ∉ m.name.toList) (E : List DEntry)
    (hE : ∀ e ∈ E, Sound r e) : Agrees r (E.foldl Dict.bind []) (survivors (E.map (specOf r))) := by
  have hkey : ∀ e ∈ E, ∀ e' ∈ E, ((specOf r e).1 = (specOf r e').1 ↔ e.key = e'.key) := by
    intro e he e' he'
    obtain ⟨m, ow, _, hm, how, _, hv, hk⟩ := hE e he
    obtain ⟨m', ow', _, hm', how', _, hv', hk'⟩ := hE e' he'
    show e.vtx = e'.vtx ↔ _
    constructor
    · intro h; rw [hk, hk', h]
    · intro h
      rw [hk, hk'] at h
      apply key_inj _ _ h
      · rw [hv]; exact hnc ow (owner_mem how (byId_mem hm))
      · rw [hv']; exact hnc ow' (owner_mem how' (byId_mem hm'))
  have hlast := lastIn_map (fun (e : DEntry) => e.key) (fun (x : Spec.Identity.Vertex × Mod × Stmt) => x.1)
    (specOf r) E hkey
  constructor
  · intro e he
    have hl : LastIn (·.key) E e := by
      rcases (mem_foldl_bind_iff E [] e).mp he with h | ⟨h, _⟩
      · exact h
      · cases h
    obtain ⟨m, ow, _, hm, how, _, hv, hk⟩ := hE e hl.mem
    refine ⟨m, hm, ?_, hk, ow, owner_mem how (byId_mem hm), by rw [hv]⟩
    have : specOf r e = (e.vtx, m, e.stmt) := by simp [specOf, hm]
    rw [← this, mem_survivors]
    exact (hlast _).mpr ⟨e, hl, rfl⟩
  · intro x hx
    obtain ⟨e, hl, rfl⟩ := (hlast x).mp ((mem_survivors _ _).mp hx)
    obtain ⟨m, ow, _, hm, how, _, hv, hk⟩ := hE e hl.mem
    refine ⟨e, (mem_foldl_bind_iff E [] e).mpr (Or.inl hl), rfl, rfl, ?_⟩
    simp [specOf, hm]

theorem registrationsFor_eq (r : Registry) (lk : Link) (hlk : LinkOK r lk) : ∀ (L : List Mod),
    (∀ md ∈ L, md ∈ moduleEntries r) → ∀ R, registrationsFor r L = some R →
      R = statementsOf r (L.flatMap (closureOf r lk)) := by
  intro L
  induction L with
  | nil =>
    intro _ R hR
    simp only [registrationsFor, Option.some.injEq] at hR
    exact hR.symm
  | cons md L ih =>
    intro hL R hR
    have hmd := hL md (List.mem_cons_self ..)
    unfold registrationsFor at hR
    cases hp : preorder (includedBy r) (preorderSteps r) [md.seq] [] with
    | none => simp [hp] at hR
    | some ss =>
      simp only [hp] at hR
      obtain ⟨R', hR', rfl⟩ := Option.map_eq_some_iff.mp hR
      have hw : walk (includedBy r) (r.mods.length + 1) md.seq [] = some (closureOf r lk md) := by
        rw [← (closureOf_spec r lk hmd).1]
        exact (walk_congr _ _ _ (fun x hx => hlk x ⟨md, hmd, hx⟩)).symm
      rw [walk_eq_preorder _ _ _ _ _ _ hw hp, ih (fun x hx => hL x (List.mem_cons_of_mem _ hx)) R' hR',
        List.flatMap_cons]
      unfold statementsOf
      rw [List.filterMap_append, List.flatMap_append]

/-- For every admissible oracle: the dictionary the first loop of `resolveIdentities` builds holds
exactly the surviving statements of the specification. -/
theorem buildDict_survivors (o : Oracle) (ho : o.Valid) (r : Registry) (lk : Link) (hlk : LinkOK r lk)
    (hk : KeysDistinct r) (hnc : ∀ m ∈ r.mods, ':' ∉ m.name.toList)
    (R : List (Spec.Identity.Vertex × Mod × Stmt)) (hR : registrations r = some R)
    (dict : Dict) (errs : List Err) (hbd : buildDict o r lk = some (dict, errs)) :
    Agrees r dict (survivors R) := by
  have hd : Prod.fst _ = dict :=
    congrArg Prod.fst (Option.some.inj ((buildDict_closures o ho r lk).symm.trans hbd))
  subst hd
  unfold registrations at hR
  rw [← modulesByKey_ascending o ho r hk] at hR
  rw [regFold_fst, registrationsFor_eq r lk hlk _ (fun md hmd => (mem_modulesByKey o ho r md).mp hmd) R hR,
    ← seqEntries_spec]
  refine agrees_of_entries r hnc _ (fun e he => ?_)
  obtain ⟨s, hs, hes⟩ := List.mem_flatMap.mp he
  exact seqEntries_sound ((mem_closures o ho r lk hlk s).mp hs) e hes

end Goyang.Lemmas.Identity
