import Goyang.Lemmas.IncludeLink
/-
C13 (third sentence), the linking stage for NESTED includes: `linkAll` / `includeWalk` of a registry
and of the registry in which one module is split into an owner and submodules that may include
each other (`Spec.Include.RegsOK`, general fields `inc_resolve`, `inc_cover` only; nothing here uses
the one-level fields of `RegsOK`).

Part 1: the parts of the split and their include statements.
Part 2: the walk of one part inside the walk of the owner (`partBody`): a depth-first traversal of
the include graph; the first part that finishes its include statements walks `m`'s import
statements as the unsplit registry does, every later one changes nothing.
Part 3: the simulation of a walk of `R` by a walk of `R'` (`simN`) and the theorem `linkAll_splitN`.
-/
namespace Goyang.Lemmas.IncludeLinkN
open Goyang.Model Goyang.Spec.Include Goyang.Lemmas.Fuel Goyang.Lemmas.IncludeLink

/-! ### Part 1: the parts of the split -/

section Parts
variable {s : Split} {R R' : Registry}

/-- Every part of the split is loaded in the split registry. -/
theorem part_mem (hr : RegsOK s R R') {P : Mod} (h : P ∈ s.parts) : P ∈ R'.mods := by
  rcases part_cases h with rfl | h
  · exact owner_mem hr
  · exact sub_mem hr h

/-- An include statement of a part resolves to a submodule of the split. -/
theorem part_include_resolves (hr : RegsOK s R R') {P : Mod} (hP : P ∈ s.parts) {i : Stmt}
    (hi : i ∈ P.includes) : ∃ sb ∈ s.subs, R'.findModule true i = some sb :=
  hr.inc_resolve P hP i hi

/-- What a part includes is a submodule of the split. -/
theorem includes_sub (hr : RegsOK s R R') {P T : Mod} (hP : P ∈ s.parts) (h : Includes R' P T) :
    T ∈ s.subs := by
  obtain ⟨a, ha, hf⟩ := h
  obtain ⟨sb, hsb, hf'⟩ := hr.inc_resolve P hP a ha
  rw [hf] at hf'
  cases hf'
  exact hsb

theorem sub_seq_ne_m (hr : RegsOK s R R') {sb : Mod} (h : sb ∈ s.subs) : sb.seq ≠ s.m.seq :=
  hr.sub_seqs_fresh sb h s.m hr.m_mem

/-- A part of the split is identified by its load number. -/
theorem part_seq_inj (hr : RegsOK s R R') {P Q : Mod} (hP : P ∈ s.parts) (hQ : Q ∈ s.parts)
    (h : P.seq = Q.seq) : P = Q := by
  rcases part_cases hP with rfl | hP <;> rcases part_cases hQ with rfl | hQ
  · rfl
  · exact absurd (h.symm.trans hr.owner_seq) (sub_seq_ne_m hr hQ)
  · exact absurd (h.trans hr.owner_seq) (sub_seq_ne_m hr hP)
  · exact eq_of_seq_eq hr.sub_seqs_nodup hP hQ h

/-- What is reached from a marked part through include statements is a marked part, when the
include targets of every marked part are marked. -/
theorem incReach_marked (hr : RegsOK s R R') {w' : List Nat}
    (hcl : ∀ Q ∈ s.parts, Q.seq ∈ w' → ∀ T, Includes R' Q T → T.seq ∈ w') {P Q : Mod}
    (h : IncReach R' P Q) : P ∈ s.parts → P.seq ∈ w' → Q ∈ s.parts ∧ Q.seq ∈ w' := by
  induction h with
  | refl => exact fun h1 h2 => ⟨h1, h2⟩
  | step _ hinc ih =>
    intro h1 h2
    obtain ⟨i1, i2⟩ := ih h1 h2
    exact ⟨sub_part (includes_sub hr i1 hinc), hcl _ i1 i2 _ hinc⟩

/-- When the owner is marked and the include targets of every marked part are marked, every
submodule is marked (`RegsOK.inc_cover`). -/
theorem cover_of_closed (hr : RegsOK s R R') {w' : List Nat} (ho : s.owner.seq ∈ w')
    (hcl : ∀ Q ∈ s.parts, Q.seq ∈ w' → ∀ T, Includes R' Q T → T.seq ∈ w') :
    ∀ sb ∈ s.subs, sb.seq ∈ w' :=
  fun sb hsb => (incReach_marked hr hcl (hr.inc_cover sb hsb) (owner_part s) ho).2

end Parts

/-! ### Part 2: the walk of a part -/

/-- No submodule is marked before `m` is. -/
def Ib (s : Split) (v v' : List Nat) : Prop := s.m.seq ∉ v → ∀ sb ∈ s.subs, sb.seq ∉ v'

/-- Every part marked between `a` and `b` has all its include targets marked in `b`. -/
def Closed (s : Split) (R' : Registry) (a b : List Nat) : Prop :=
  ∀ Q ∈ s.parts, Q.seq ∈ b → Q.seq ∉ a → ∀ T, Includes R' Q T → T.seq ∈ b

section Part
variable {s : Split} {R R' : Registry}

/-- **The walk of a part that has just been marked**, inside the walk of the owner.  `A` and `B` are
the marks of `R` before and after the walk of `m`'s import statements; `stepL` says that a walk of
these statements in `R'` from marks that correspond to `A` or to `B` ends in marks that correspond
to `B` and marks no submodule.  Then the walk of the part's include statements and of its import
statements is error free, ends in marks that correspond to `B`, marks every include target of the
part, and every part marked on the way has all its include targets marked. -/
theorem partBody (ht : TextOK s) (hr : RegsOK s R R') {A B : List Nat} (hA : s.m.seq ∈ A) (hB : s.m.seq ∈ B)
    (stepL : ∀ cur g1, (Ia R A cur ∨ Ia R B cur) → unvisited R' cur + 1 ≤ g1 →
      ∃ cur', s.m.imports.foldl (walkStep R' g1 false) (cur, none) = (cur', none) ∧ Ia R B cur' ∧
        (∀ sb ∈ s.subs, sb.seq ∈ cur' → sb.seq ∈ cur)) :
    ∀ (g : Nat) (P : Mod) (cur : List Nat), P ∈ s.parts →
      (Ia R A cur ∨ Ia R B cur) → unvisited R' cur + 1 ≤ g →
      ∃ cur', P.imports.foldl (walkStep R' g false)
          (P.includes.foldl (walkStep R' g true) (cur, none)) = (cur', none) ∧
        Ia R B cur' ∧ (∀ y, y ∈ cur → y ∈ cur') ∧ (∀ T, Includes R' P T → T.seq ∈ cur') ∧
        Closed s R' cur cur' := by
  intro g
  induction g with
  | zero => intro P cur _ _ hg; omega
  | succ g1 IHg =>
    intro P cur hP hSt hg
    have hmcur : ∀ c, (Ia R A c ∨ Ia R B c) → s.m.seq ∈ c := by
      intro c h
      rcases h with h | h
      · exact (h s.m hr.m_mem).mpr hA
      · exact (h s.m hr.m_mem).mpr hB
    -- the walk of a list of include statements each of which resolves to a submodule
    have incl : ∀ (incs : List Stmt) (cur : List Nat),
        (∀ a ∈ incs, ∃ sb ∈ s.subs, R'.findModule true a = some sb) →
        (Ia R A cur ∨ Ia R B cur) → unvisited R' cur + 1 ≤ g1 + 1 →
        ∃ cur', incs.foldl (walkStep R' (g1 + 1) true) (cur, none) = (cur', none) ∧
          (Ia R A cur' ∨ Ia R B cur') ∧ (∀ y, y ∈ cur → y ∈ cur') ∧
          (∀ a ∈ incs, ∀ T, R'.findModule true a = some T → T.seq ∈ cur') ∧ Closed s R' cur cur' := by
      intro incs
      induction incs with
      | nil =>
        intro cur _ hSt _
        exact ⟨cur, rfl, hSt, fun y hy => hy, fun a ha => (by cases ha), fun Q _ h1 h2 => absurd h1 h2⟩
      | cons i incs ih =>
        intro cur hres hSt hg
        obtain ⟨sb, hsb, hfi⟩ := hres i (List.mem_cons_self ..)
        have hwalk : ∃ cur1, includeWalk R' (g1 + 1) cur sb = (cur1, none) ∧
            (Ia R A cur1 ∨ Ia R B cur1) ∧ (∀ y, y ∈ cur → y ∈ cur1) ∧ sb.seq ∈ cur1 ∧
            Closed s R' cur cur1 := by
          by_cases hin : sb.seq ∈ cur
          · exact ⟨cur, includeWalk_of_mem R' g1 hin, hSt, fun y hy => hy, hin,
              fun Q _ h1 h2 => absurd h1 h2⟩
          · have hlt := unvisited_cons_lt R' cur sb (sub_mem hr hsb) (by simpa using hin)
            have hSt2 : Ia R A (sb.seq :: cur) ∨ Ia R B (sb.seq :: cur) :=
              hSt.imp (Ia_cons_sub hr · hsb) (Ia_cons_sub hr · hsb)
            obtain ⟨cur1, h1, h2, h3, h4, h5⟩ := IHg sb (sb.seq :: cur) (sub_part hsb) hSt2 (by omega)
            refine ⟨cur1, ?_, Or.inr h2, fun y hy => h3 y (List.mem_cons_of_mem _ hy),
              h3 _ (List.mem_cons_self ..), ?_⟩
            · rw [includeWalk_succ, if_neg (by simpa using hin)]
              exact h1
            · intro Q hQ hQ1 hQc T hT
              by_cases hQs : Q.seq = sb.seq
              · have hQeq := part_seq_inj hr hQ (sub_part hsb) hQs
                subst hQeq
                exact h4 T hT
              · exact h5 Q hQ hQ1 (by simp only [List.mem_cons, not_or]; exact ⟨hQs, hQc⟩) T hT
        obtain ⟨cur1, hw1, hSt1, hm1, hsb1, hcl1⟩ := hwalk
        have hg1 : unvisited R' cur1 + 1 ≤ g1 + 1 := by
          have := unvisited_mono R' _ _ hm1
          omega
        obtain ⟨cur', hf', hSt', hm', hall', hcl'⟩ :=
          ih cur1 (fun a ha => hres a (List.mem_cons_of_mem _ ha)) hSt1 hg1
        refine ⟨cur', ?_, hSt', fun y hy => hm' y (hm1 y hy), ?_, ?_⟩
        · rw [foldl_walkStep_cons_of incs hfi hw1]
          exact hf'
        · intro a ha T hT
          rcases List.mem_cons.mp ha with rfl | ha'
          · rw [hfi] at hT
            cases hT
            exact hm' _ hsb1
          · exact hall' a ha' T hT
        · intro Q hQ hQ1 hQc T hT
          by_cases hQ2 : Q.seq ∈ cur1
          · exact hm' _ (hcl1 Q hQ hQ2 hQc T hT)
          · exact hcl' Q hQ hQ1 hQ2 T hT
    obtain ⟨cur1, hf1, hSt1, hm1, hall1, hcl1⟩ :=
      incl P.includes cur (fun a ha => part_include_resolves hr hP ha) hSt hg
    have hg1 : unvisited R' cur1 + 1 ≤ g1 + 1 := by
      have := unvisited_mono R' _ _ hm1
      omega
    obtain ⟨cur', hf', hI', hnew⟩ := stepL cur1 (g1 + 1) hSt1 hg1
    have hm' : ∀ y, y ∈ cur1 → y ∈ cur' := by
      intro y hy
      have := foldl_walkStep_mono R' (g1 + 1) false s.m.imports (cur1, none) y hy
      rw [hf'] at this
      exact this
    refine ⟨cur', ?_, hI', fun y hy => hm' y (hm1 y hy), ?_, ?_⟩
    · rw [hf1, part_imports ht hP]
      exact hf'
    · intro T hT
      obtain ⟨a, ha, hfa⟩ := hT
      exact hm' _ (hall1 a ha T hfa)
    · intro Q hQ hQ1 hQc T hT
      have hQ2 : Q.seq ∈ cur1 := by
        rcases part_cases hQ with rfl | hQs
        · rw [hr.owner_seq]
          exact hmcur cur1 hSt1
        · exact hnew Q hQs hQ1
      exact hm' _ (hcl1 Q hQ hQ2 hQc T hT)

end Part

/-! ### Part 3: a walk of `R` simulated by a walk of `R'` -/

/-- The simulation statement for walks of `R` with fuel `n`: an error-free walk of `R` from `x` is
matched by an error-free walk of `R'` from `repl x` with any sufficient fuel, provided no submodule
is marked before `m` is; the marks agree afterwards, still no submodule is marked unless `m` is,
when `m` was newly marked then so were all submodules, and when `m` was marked before then no
submodule is newly marked. -/
def SimN (s : Split) (R R' : Registry) (n : Nat) : Prop :=
  ∀ (v v' : List Nat) (x : Mod) (w : List Nat) (g : Nat),
    x ∈ R.mods → includeWalk R n v x = (w, none) → Ia R v v' → Ib s v v' → unvisited R' v' + 1 ≤ g →
    ∃ w', includeWalk R' g v' (repl s x) = (w', none) ∧ Ia R w w' ∧ Ib s w w' ∧
      (s.m.seq ∈ w → s.m.seq ∉ v → ∀ sb ∈ s.subs, sb.seq ∈ w') ∧
      (s.m.seq ∈ v → ∀ sb ∈ s.subs, sb.seq ∈ w' → sb.seq ∈ v')

section Sim
variable {s : Split} {R R' : Registry}

/-- The walk of a list of import statements, given the simulation of single walks. -/
theorem simLN (hr : RegsOK s R R') {n : Nat} (IH : SimN s R R' n) :
    ∀ (L : List Stmt) (v v' w : List Nat) (g : Nat),
      L.foldl (walkStep R n false) (v, none) = (w, none) → Ia R v v' → Ib s v v' →
      unvisited R' v' + 1 ≤ g →
      ∃ w', L.foldl (walkStep R' g false) (v', none) = (w', none) ∧ Ia R w w' ∧ Ib s w w' ∧
        (s.m.seq ∈ w → s.m.seq ∉ v → ∀ sb ∈ s.subs, sb.seq ∈ w') ∧
        (s.m.seq ∈ v → ∀ sb ∈ s.subs, sb.seq ∈ w' → sb.seq ∈ v') := by
  intro L
  induction L with
  | nil =>
    intro v v' w g h hI hJ _
    simp only [List.foldl_nil, Prod.mk.injEq, and_true] at h
    subst h
    exact ⟨v', rfl, hI, hJ, fun h1 h2 => absurd h1 h2, fun _ _ _ h => h⟩
  | cons i L ih =>
    intro v v' w g h hI hJ hg
    obtain ⟨im, v1, hf, hw, hrest⟩ := foldl_walkStep_cons_ok h
    have him := findModule_false_mem hf
    obtain ⟨w1', hw1, hI1, hJ1, hc1, hd1⟩ := IH v v' im v1 g him hw hI hJ hg
    have hmono : ∀ y, y ∈ v' → y ∈ w1' := by
      intro y hy
      have := includeWalk_visited_mono R' g v' (repl s im) y hy
      rw [hw1] at this
      exact this
    have hg1 : unvisited R' w1' + 1 ≤ g := by
      have := unvisited_mono R' v' w1' hmono
      omega
    obtain ⟨w', hw', hI', hJ', hc', hd'⟩ := ih v1 w1' w g hrest hI1 hJ1 hg1
    refine ⟨w', ?_, hI', hJ', ?_, ?_⟩
    · rw [foldl_walkStep_cons_of L (by rw [findModule_false_split hr, hf]; rfl) hw1]
      exact hw'
    · intro hmw hmv sb hsb
      by_cases hm1 : s.m.seq ∈ v1
      · have := foldl_walkStep_mono R' g false L (w1', none) sb.seq (hc1 hm1 hmv sb hsb)
        rw [hw'] at this
        exact this
      · exact hc' hmw hm1 sb hsb
    · intro hmv sb hsb hin
      have hm1 : s.m.seq ∈ v1 := by
        have := includeWalk_visited_mono R n v im s.m.seq hmv
        rw [hw] at this
        exact this
      exact hd1 hmv sb hsb (hd' hm1 sb hsb hin)

/-- **The simulation.** -/
theorem simN (ht : TextOK s) (hr : RegsOK s R R') : ∀ n, SimN s R R' n := by
  intro n
  induction n with
  | zero =>
    intro v v' x w g _ hw
    rw [includeWalk_zero] at hw
    cases hw
  | succ n IH =>
    intro v v' x w g hx hw hI hJ hg
    obtain ⟨g0, rfl⟩ : ∃ g0, g = g0 + 1 := ⟨g - 1, by omega⟩
    rw [includeWalk_succ] at hw
    rw [includeWalk_succ, repl_seq hr]
    by_cases hc : x.seq ∈ v
    · rw [if_pos (by simpa using hc)] at hw
      cases hw
      rw [if_pos (by simpa using (hI x hx).mpr hc)]
      exact ⟨v', rfl, hI, hJ, fun h1 h2 => absurd h1 h2, fun _ _ _ h => h⟩
    · have hc' : x.seq ∉ v' := fun h => hc ((hI x hx).mp h)
      rw [if_neg (by simpa using hc), includes_nil hr hx, List.foldl_nil] at hw
      rw [if_neg (by simpa using hc')]
      have hlt := unvisited_cons_lt R' v' (repl s x) (repl_mem hr hx) (by rw [repl_seq hr]; simpa using hc')
      rw [repl_seq hr] at hlt
      by_cases hxm : x.seq = s.m.seq
      · have hxeq := eq_m_of_seq hr hx hxm
        subst hxeq
        rw [repl_m]
        have hmw : s.m.seq ∈ w := by
          have := foldl_walkStep_mono R n false s.m.imports (s.m.seq :: v, none) s.m.seq
            (List.mem_cons_self ..)
          rw [hw] at this
          exact this
        have hidem := foldl_walkStep_idem hw
        -- one walk of `m`'s import statements in `R'`: the first does what `R` does, a later one nothing
        have stepL : ∀ cur g1, (Ia R (s.m.seq :: v) cur ∨ Ia R w cur) → unvisited R' cur + 1 ≤ g1 →
            ∃ cur', s.m.imports.foldl (walkStep R' g1 false) (cur, none) = (cur', none) ∧ Ia R w cur' ∧
              (∀ sb ∈ s.subs, sb.seq ∈ cur' → sb.seq ∈ cur) := by
          intro cur g1 hP hg1
          rcases hP with hP | hP
          · obtain ⟨c, h1, h2, _, _, h5⟩ := simLN hr IH _ _ _ _ g1 hw hP
              (fun h => absurd (List.mem_cons_self ..) h) hg1
            exact ⟨c, h1, h2, h5 (List.mem_cons_self ..)⟩
          · obtain ⟨c, h1, h2, _, _, h5⟩ := simLN hr IH _ _ _ _ g1 hidem hP (fun h => absurd hmw h) hg1
            exact ⟨c, h1, h2, h5 hmw⟩
        obtain ⟨w', hf', hI', hm', hown, hcl⟩ := partBody ht hr (List.mem_cons_self ..) hmw stepL g0
          s.owner (s.m.seq :: v') (owner_part s) (Or.inl (Ia_cons_both hI _)) (by omega)
        refine ⟨w', hf', hI', fun h => absurd hmw h, ?_, fun h => absurd h hc⟩
        intro _ _
        have ho : s.owner.seq ∈ w' := by
          rw [hr.owner_seq]
          exact hm' _ (List.mem_cons_self ..)
        apply cover_of_closed hr ho
        intro Q hQ hQw T hT
        rcases part_cases hQ with rfl | hQs
        · exact hown T hT
        · refine hcl Q hQ hQw ?_ T hT
          simp only [List.mem_cons, not_or]
          exact ⟨sub_seq_ne_m hr hQs, hJ hc Q hQs⟩
      · rw [repl_of_ne hxm, includes_nil hr hx, List.foldl_nil]
        have hJ2 : Ib s (x.seq :: v) (x.seq :: v') := by
          intro hm sb hsb hin
          simp only [List.mem_cons, not_or] at hm
          rcases List.mem_cons.mp hin with e | h
          · exact hr.sub_seqs_fresh sb hsb x hx e
          · exact hJ hm.2 sb hsb h
        obtain ⟨w', hw', hI', hJ', hcc, hdd⟩ := simLN hr IH x.imports (x.seq :: v) (x.seq :: v') w g0 hw
          (Ia_cons_both hI _) hJ2 (by omega)
        refine ⟨w', hw', hI', hJ', ?_, ?_⟩
        · intro hmw hmv
          apply hcc hmw
          simp only [List.mem_cons, not_or]
          exact ⟨fun e => hxm e.symm, hmv⟩
        · intro hmv sb hsb hin
          rcases List.mem_cons.mp (hdd (List.mem_cons_of_mem _ hmv) sb hsb hin) with e | h
          · exact absurd e (hr.sub_seqs_fresh sb hsb x hx)
          · exact h

end Sim

/-! ### Part 4: `linkAll` -/

section Top
variable {s : Split} {R R' : Registry}

/-- The fold of `linkAll` over the same starts (up to `repl`) in the two registries. -/
theorem top_simN (ht : TextOK s) (hr : RegsOK s R R') :
    ∀ (l : List Mod) (acc acc' : List Nat × List Err), (∀ x ∈ l, x ∈ R.mods) → acc'.2 = [] →
      Ia R acc.1 acc'.1 → Ib s acc.1 acc'.1 → (s.m.seq ∈ acc.1 → ∀ sb ∈ s.subs, sb.seq ∈ acc'.1) →
      (l.foldl (linkStep R) acc).2 = [] →
      ((l.map (repl s)).foldl (linkStep R') acc').2 = [] ∧
      Ia R (l.foldl (linkStep R) acc).1 ((l.map (repl s)).foldl (linkStep R') acc').1 ∧
      (s.m.seq ∈ (l.foldl (linkStep R) acc).1 →
        ∀ sb ∈ s.subs, sb.seq ∈ ((l.map (repl s)).foldl (linkStep R') acc').1) := by
  intro l
  induction l with
  | nil => intro acc acc' _ he hI _ hb _; exact ⟨he, hI, hb⟩
  | cons x l ih =>
    intro acc acc' hl he hI hJ hb h
    rw [List.foldl_cons] at h
    rw [List.foldl_cons, List.map_cons, List.foldl_cons]
    obtain ⟨_, hw⟩ := linkStep_errs_nil (foldl_linkStep_errs_nil h)
    have hx := hl x (List.mem_cons_self ..)
    obtain ⟨w', hw', hI', hJ', hc, _⟩ := simN ht hr _ acc.1 acc'.1 x _ (R'.mods.length + 1) hx hw hI hJ
      (by have := unvisited_le R' acc'.1; omega)
    have hstep : linkStep R' acc' (repl s x) = (w', []) := by
      simp only [linkStep, hw', he]
    rw [hstep]
    apply ih _ _ (fun y hy => hl y (List.mem_cons_of_mem _ hy)) rfl hI' hJ' _ h
    intro hm sb hsb
    by_cases hm0 : s.m.seq ∈ acc.1
    · have := includeWalk_visited_mono R' (R'.mods.length + 1) acc'.1 (repl s x) sb.seq (hb hm0 sb hsb)
      rw [hw'] at this
      exact this
    · exact hc hm hm0 sb hsb

/-- **The linking stage of a split registry, nested includes.**  When the unsplit registry links
without error, so does the split one; the linked sets agree on the modules of `R`, and `m` and all
submodules are linked. -/
theorem linkAll_splitN (s : Split) (R R' : Registry) (ht : TextOK s) (hr : RegsOK s R R')
    (h : (linkAll R).2 = []) :
    (linkAll R').2 = [] ∧ LinkOK s R (linkAll R).1 (linkAll R').1 := by
  have e1 := linkAll_eq R
  have e2 : linkAll R' =
      ((sortBy (fun (a b : Mod) => a.fullName < b.fullName) R.distinctModules).map (repl s)).foldl
        (linkStep R') ([], []) := by
    rw [linkAll_eq R', distinctModules_split hr]
    congr 1
    apply SortAux.sortBy_map
    intro x hx y hy
    rw [repl_fullName ht hr (distinctModules_mem R x hx), repl_fullName ht hr (distinctModules_mem R y hy)]
  rw [e1] at h
  rw [e1, e2]
  have hroots : ∀ x ∈ sortBy (fun (a b : Mod) => a.fullName < b.fullName) R.distinctModules, x ∈ R.mods :=
    fun x hx => distinctModules_mem R x ((SortAux.mem_sortBy _ _ _).mp hx)
  obtain ⟨h1, h2, h3⟩ := top_simN ht hr _ ([], []) ([], []) hroots rfl
    (fun _ _ => Iff.rfl) (fun _ _ _ h => by cases h) (fun h => by cases h) h
  have hm : s.m.seq ∈ ((sortBy (fun (a b : Mod) => a.fullName < b.fullName) R.distinctModules).foldl
      (linkStep R) ([], [])).1 :=
    foldl_linkStep_roots R _ _ s.m ((SortAux.mem_sortBy _ _ _).mpr (m_distinct hr))
  refine ⟨h1, ⟨?_, ?_, ?_⟩⟩
  · intro x hx
    rw [Bool.eq_iff_iff]
    simpa using h2 x hx
  · simpa using hm
  · intro sb hsb
    simpa using h3 hm sb hsb

end Top

end Goyang.Lemmas.IncludeLinkN
