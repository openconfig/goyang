import Goyang.Lemmas.AugmentLoop
/-
C07 — from the loop to the reference semantics: the trace of `augmentLoopR` is a complete run in
the sense of `Spec.Augment`; order independence; a collision is reported.
-/
open Goyang.Lemmas.ForestAux (mem_of_tree?)
namespace Goyang.Lemmas.Augment
open Goyang.Model Goyang.Spec.Augment Goyang.Lemmas.AugmentConfl Goyang.Lemmas.AugmentTree
  Goyang.Lemmas.AugmentModel Goyang.Lemmas.AugmentStep Goyang.Lemmas.AugmentLoop

/-- The resolved augment of an event. -/
def absEv (R : Res) (f0 : Forest) (ev : Ev) : Aug := absAug R f0 ev.owner ev.aug

theorem absAug_inj {R : Res} {f0 : Forest} {id id' : Nat} {a a' : Entry}
    (h : absAug R f0 id a = absAug R f0 id' a') : id = id' ∧ a = a' :=
  ⟨congrArg Aug.owner h, congrArg Aug.body h⟩

/-- The pending augments of a state, resolved. -/
def PSet (R : Res) (f0 : Forest) (s : PState) : Aug → Prop :=
  fun A => ∃ id a, a ∈ s.pendingOf id ∧ A = absAug R f0 id a

theorem mem_map_absEv {R : Res} {f0 : Forest} {tr : List Ev} {id : Nat} {a : Entry} :
    absAug R f0 id a ∈ tr.map (absEv R f0) ↔ (id, a) ∈ tr.map Ev.key := by
  simp only [List.mem_map]
  constructor
  · rintro ⟨ev, hev, h⟩
    obtain ⟨h1, h2⟩ := absAug_inj h
    exact ⟨ev, hev, by simp [Ev.key, h1, h2]⟩
  · rintro ⟨ev, hev, h⟩
    simp only [Ev.key, Prod.mk.injEq] at h
    exact ⟨ev, hev, by simp [absEv, h.1, h.2]⟩

theorem nodup_map_absEv {R : Res} {f0 : Forest} {tr : List Ev} (h : (tr.map Ev.key).Nodup) :
    (tr.map (absEv R f0)).Nodup := by
  have : tr.map (absEv R f0) = (tr.map Ev.key).map (fun x => absAug R f0 x.1 x.2) := by
    rw [List.map_map]; rfl
  rw [this]
  refine List.Pairwise.map _ ?_ h
  intro x y hxy hab
  obtain ⟨h1, h2⟩ := absAug_inj hab
  exact hxy (Prod.ext h1 h2)

/-- The facts that make one event a step of a collision-free run. -/
def EvFree (R : Res) (f0 : Forest) (ev : Ev) : Prop :=
  (absEv R f0 ev).roots.Nodup ∧ ¬ (absEv R f0 ev).Collides (viewOf ev.before)

/-- A chain that leaves no `duplicate-node` error on a visible node was collision-free. -/
theorem chain_free_of_no_dup_err {R : Res} {f0 f f' : Forest} {tr : List Ev} (h : Chain R f0 f tr f')
    (hfree : ∀ er, FVisErr f' er → er.cls ≠ "duplicate-node") : ∀ ev ∈ tr, EvFree R f0 ev := by
  induction h with
  | nil _ _ => intro ev hev; cases hev
  | @cons f f2 f' ev tr hv hle hatt hrest ih =>
    intro ev' hev'
    rcases List.mem_cons.mp hev' with rfl | hev'
    · obtain ⟨_, _, _, herr⟩ := attempt_ok hatt f0 rfl
      refine Classical.byContradiction fun hbad => ?_
      have hbad' : ¬ (absEv R f0 ev').roots.Nodup ∨ (absEv R f0 ev').Collides (viewOf ev'.before) :=
        (Classical.not_and_iff_not_or_not.mp hbad).imp_right Classical.not_not.mp
      exact hfree _ ((herr hbad').mono hrest.le) rfl
    · exact ih hfree ev' hev'

/-- A collision-free chain is a run of the reference semantics. -/
theorem chain_valid {R : Res} {f0 f f' : Forest} {tr : List Ev} (P : Aug → Prop) (h : Chain R f0 f tr f')
    (hP : ∀ ev ∈ tr, P (absEv R f0 ev)) (hnd : (tr.map (absEv R f0)).Nodup) (hfree : ∀ ev ∈ tr, EvFree R f0 ev) :
    Valid P (viewOf f) (tr.map (absEv R f0)) ∧ viewOf f' = after (viewOf f) (tr.map (absEv R f0)) := by
  induction h with
  | nil hv _ => exact ⟨trivial, hv⟩
  | @cons f f2 f' ev tr hv hle hatt hrest ih =>
    simp only [List.map_cons, List.nodup_cons] at hnd
    obtain ⟨hfr1, hfr3⟩ := hfree ev List.mem_cons_self
    obtain ⟨_, happ, hgraft, _⟩ := attempt_ok hatt f0 rfl
    have hview2 : viewOf f2 = graft (viewOf f) (absEv R f0 ev) := by
      rw [← hv]; exact hgraft hfr1 hfr3
    obtain ⟨ih1, ih2⟩ := ih (fun e he => hP e (List.mem_cons_of_mem _ he)) hnd.2
      (fun e he => hfree e (List.mem_cons_of_mem _ he))
    rw [hview2] at ih1 ih2
    refine ⟨⟨hP ev List.mem_cons_self, ?_, ?_, hnd.1, ih1⟩, ih2⟩
    · rw [← hv]; exact happ
    · rw [← hv]; exact hfr3

/-- A chain of a second run stays inside a complete collision-free first run: it never collides,
and it is itself a run of the reference semantics. -/
theorem chain_inside {R : Res} {f0 : Forest} (P : Aug → Prop) (v0 : View) (hp0 : PrefixClosed v0)
    (seq1 : List Aug) (hv1 : Valid P v0 seq1) (hc1 : Complete P v0 seq1)
    (hnd1 : ∀ A ∈ seq1, A.roots.Nodup) :
    ∀ {f f' : Forest} {tr : List Ev}, Chain R f0 f tr f' → ∀ pre, Valid P v0 pre → viewOf f = after v0 pre →
      (∀ ev ∈ tr, P (absEv R f0 ev)) → (pre ++ tr.map (absEv R f0)).Nodup →
      Valid P v0 (pre ++ tr.map (absEv R f0)) ∧ viewOf f' = after v0 (pre ++ tr.map (absEv R f0)) ∧
      ∀ ev ∈ tr, EvFree R f0 ev := by
  intro f f' tr h
  induction h with
  | nil hv _ =>
    intro pre hvp hview _ _
    exact ⟨by simpa using hvp, by simpa using hv.trans hview, by simp⟩
  | @cons f f2 f' ev tr hv hle hatt hrest ih =>
    intro pre hvp hview hP hnd
    have hPA := hP ev List.mem_cons_self
    have hnotin : absEv R f0 ev ∉ pre := by
      intro hm
      rw [List.map_cons] at hnd
      exact (List.nodup_append.mp hnd).2.2 _ hm _ List.mem_cons_self rfl
    obtain ⟨_, happ, hgraft, _⟩ := attempt_ok hatt f0 rfl
    have hbefore : viewOf ev.before = after v0 pre := hv.trans hview
    rw [hbefore] at happ hgraft
    have hncol : ¬ (absEv R f0 ev).Collides (after v0 pre) :=
      never_collides P v0 hp0 seq1 hv1 hc1 pre hvp (absEv R f0 ev) hPA hnotin happ
    have hvalid' : Valid P v0 (pre ++ [absEv R f0 ev]) := valid_snoc P v0 pre _ hvp hPA hnotin happ hncol
    obtain ⟨hsub, hst⟩ := subsumed P v0 seq1 hc1 (pre ++ [absEv R f0 ev]) v0 (fun l d h => after_mono v0 seq1 h)
      (valid_mem P v0 _ hvalid') (valid_applicable P v0 _ hvalid')
    have hin1 : absEv R f0 ev ∈ seq1 := hsub _ (by simp)
    have hview2 : viewOf f2 = after v0 (pre ++ [absEv R f0 ev]) := by
      rw [after_append]; exact hgraft (hnd1 _ hin1) hncol
    obtain ⟨ih1, ih2, ih3⟩ := ih (pre ++ [absEv R f0 ev]) hvalid' hview2
      (fun e he => hP e (List.mem_cons_of_mem _ he)) (by simpa [List.append_assoc] using hnd)
    refine ⟨by simpa [List.append_assoc] using ih1, by simpa [List.append_assoc] using ih2, ?_⟩
    intro e he
    rcases List.mem_cons.mp he with rfl | he
    · exact ⟨hnd1 _ hin1, by rw [hbefore]; exact hncol⟩
    · exact ih3 e he

/-! ### the loop performs a complete run -/

theorem chain_before_le {R : Res} {f0 f f' : Forest} {tr : List Ev} (h : Chain R f0 f tr f') :
    ∀ ev ∈ tr, FLe ev.before f' ∧ (absEv R f0 ev).Applicable (viewOf ev.before) := by
  induction h with
  | nil _ _ => intro ev hev; cases hev
  | cons _ _ hatt hrest ih =>
    intro e he
    rcases List.mem_cons.mp he with rfl | he
    · exact ⟨(attempt_ok_le hatt).trans hrest.le, (attempt_ok hatt f0 rfl).2.1⟩
    · exact ih e he

/-- Final state and trace of the loop started with an empty trace. -/
abbrev loopState (R : Res) (fuel : Nat) (mods : Array Nat) (s : PState) : PState := (augmentLoopR R fuel mods s []).2.1
abbrev loopTrace (R : Res) (fuel : Nat) (mods : Array Nat) (s : PState) : List Ev := (augmentLoopR R fuel mods s []).2.2
abbrev loopMods (R : Res) (fuel : Nat) (mods : Array Nat) (s : PState) : Array Nat := (augmentLoopR R fuel mods s []).1

/-- The loop, whatever the order and multiplicity of the module list (as long as it covers the
trees with pending augments) and whatever the order inside the pending lists, ends — within fuel
`mu s + 1` — in a state where no pending augment is applicable; its trace is a chain of successful
attempts, each augment at most once, and the pending sets shrink by exactly the trace. -/
theorem loop_run (R : Res) (fuel : Nat) (mods : Array Nat) (s : PState) (hn : NodupPending s)
    (hcov : Cover s mods) (hfuel : mu s < fuel) :
    Chain R s.forest s.forest (loopTrace R fuel mods s) (loopState R fuel mods s).forest ∧
    Book s (loopState R fuel mods s) (loopTrace R fuel mods s) ∧
    Cover (loopState R fuel mods s) (loopMods R fuel mods s) ∧
    (∀ m ∈ (loopMods R fuel mods s).toList, m ∈ mods.toList) ∧
    (∀ id, ∀ a ∈ (loopState R fuel mods s).pendingOf id,
      ¬ (absAug R s.forest id a).Applicable (viewOf (loopState R fuel mods s).forest)) := by
  obtain ⟨trn, e1, hchain, hbook, _, hsub, hcov', hcomp⟩ := loop_spec R s.forest fuel mods s [] (FLe.refl _) hn hcov
  have e1' : loopTrace R fuel mods s = trn := by simpa [loopTrace] using e1
  rw [e1']
  exact ⟨hchain, hbook, hcov', hsub, hcomp hfuel⟩

/-- In the reference semantics: when no application of the loop collides , its final view and its leftover set are THE result
(`Spec.IsResult`) of the pending set. -/
theorem loop_isResult_free (R : Res) (fuel : Nat) (mods : Array Nat) (s : PState) (hn : NodupPending s)
    (hcov : Cover s mods) (hfuel : mu s < fuel)
    (hfr : ∀ ev ∈ loopTrace R fuel mods s, EvFree R s.forest ev) :
    Valid (PSet R s.forest s) (viewOf s.forest) ((loopTrace R fuel mods s).map (absEv R s.forest)) ∧
    Complete (PSet R s.forest s) (viewOf s.forest) ((loopTrace R fuel mods s).map (absEv R s.forest)) ∧
    viewOf (loopState R fuel mods s).forest =
      after (viewOf s.forest) ((loopTrace R fuel mods s).map (absEv R s.forest)) ∧
    (∀ A, PSet R s.forest (loopState R fuel mods s) A ↔
      (PSet R s.forest s A ∧ A ∉ (loopTrace R fuel mods s).map (absEv R s.forest))) := by
  obtain ⟨hchain, hbook, _, _, hcomp⟩ := loop_run R fuel mods s hn hcov hfuel
  have hP : ∀ ev ∈ loopTrace R fuel mods s, PSet R s.forest s (absEv R s.forest ev) :=
    fun ev hev => ⟨ev.owner, ev.aug, hbook.fromPending ev hev, rfl⟩
  have hnd := nodup_map_absEv (R := R) (f0 := s.forest) hbook.nodup
  obtain ⟨hvalid, hview⟩ := chain_valid (PSet R s.forest s) hchain hP hnd hfr
  have hleft : ∀ A, PSet R s.forest (loopState R fuel mods s) A ↔
      (PSet R s.forest s A ∧ A ∉ (loopTrace R fuel mods s).map (absEv R s.forest)) := by
    intro A
    constructor
    · rintro ⟨id, a, ha, rfl⟩
      obtain ⟨h1, h2⟩ := (hbook.pending id a).mp ha
      exact ⟨⟨id, a, h1, rfl⟩, fun hm => h2 (mem_map_absEv.mp hm)⟩
    · rintro ⟨⟨id, a, ha, rfl⟩, hnot⟩
      exact ⟨id, a, (hbook.pending id a).mpr ⟨ha, fun hm => hnot (mem_map_absEv.mpr hm)⟩, rfl⟩
  refine ⟨hvalid, ?_, hview, hleft⟩
  intro A hPA hnot
  obtain ⟨id, a, ha, rfl⟩ := (hleft A).mpr ⟨hPA, hnot⟩
  rw [← hview]
  exact hcomp id a ha

theorem loop_free (R : Res) (fuel : Nat) (mods : Array Nat) (s : PState) (hn : NodupPending s)
    (hcov : Cover s mods) (hfuel : mu s < fuel)
    (hfree : ∀ er, FVisErr (loopState R fuel mods s).forest er → er.cls ≠ "duplicate-node") :
    ∀ ev ∈ loopTrace R fuel mods s, EvFree R s.forest ev :=
  chain_free_of_no_dup_err (loop_run R fuel mods s hn hcov hfuel).1 hfree

/-! ### order independence -/

/-- Two runs of the loop from the same forest over the same pending sets: any two module lists
(orders, repetitions) that mention the trees with pending augments, any order inside each pending
list, fuel above the number of pending augments. -/
structure TwoRuns (fuel1 fuel2 : Nat) (mods1 mods2 : Array Nat) (s1 s2 : PState) : Prop where
  forest : s2.forest = s1.forest
  pending : ∀ id a, a ∈ s2.pendingOf id ↔ a ∈ s1.pendingOf id
  nodup1 : NodupPending s1
  nodup2 : NodupPending s2
  cover1 : Cover s1 mods1
  cover2 : Cover s2 mods2
  lt1 : mu s1 < fuel1
  lt2 : mu s2 < fuel2

theorem TwoRuns.symm {fuel1 fuel2 : Nat} {mods1 mods2 : Array Nat} {s1 s2 : PState}
    (h : TwoRuns fuel1 fuel2 mods1 mods2 s1 s2) : TwoRuns fuel2 fuel1 mods2 mods1 s2 s1 :=
  ⟨h.forest.symm, fun id a => (h.pending id a).symm, h.nodup2, h.nodup1, h.cover2, h.cover1, h.lt2, h.lt1⟩

/-- Two runs of the loop from the same forest over the same pending sets — any two module
lists (orders, repetitions) covering the pending trees, any order inside each pending list.
If no application of the first collides, then none of the second does, both end in
the same view, and both leave the same augments unapplied. -/
theorem loop_confluent_free (R : Res) {fuel1 fuel2 : Nat} {mods1 mods2 : Array Nat} {s1 s2 : PState}
    (h2 : TwoRuns fuel1 fuel2 mods1 mods2 s1 s2)
    (hfr1 : ∀ ev ∈ loopTrace R fuel1 mods1 s1, EvFree R s1.forest ev) :
    viewOf (loopState R fuel2 mods2 s2).forest = viewOf (loopState R fuel1 mods1 s1).forest ∧
    (∀ id a, a ∈ (loopState R fuel2 mods2 s2).pendingOf id ↔ a ∈ (loopState R fuel1 mods1 s1).pendingOf id) ∧
    (∀ ev ∈ loopTrace R fuel2 mods2 s2, EvFree R s1.forest ev) ∧
    (∀ x, x ∈ (loopTrace R fuel2 mods2 s2).map Ev.key ↔ x ∈ (loopTrace R fuel1 mods1 s1).map Ev.key) := by
  obtain ⟨hforest, hpend, hn1, hn2, hcov1, hcov2, hfuel1, hfuel2⟩ := h2
  obtain ⟨hv1, hc1, hview1, _⟩ := loop_isResult_free R fuel1 mods1 s1 hn1 hcov1 hfuel1 hfr1
  obtain ⟨_, hbook1, _, _, _⟩ := loop_run R fuel1 mods1 s1 hn1 hcov1 hfuel1
  obtain ⟨hchain2, hbook2, _, _, hcomp2⟩ := loop_run R fuel2 mods2 s2 hn2 hcov2 hfuel2
  rw [hforest] at hchain2 hcomp2
  have hP2 : ∀ ev ∈ loopTrace R fuel2 mods2 s2, PSet R s1.forest s1 (absEv R s1.forest ev) :=
    fun ev hev => ⟨ev.owner, ev.aug, (hpend _ _).mp (hbook2.fromPending ev hev), rfl⟩
  have hnd2 := nodup_map_absEv (R := R) (f0 := s1.forest) hbook2.nodup
  have hnd1 : ∀ A ∈ (loopTrace R fuel1 mods1 s1).map (absEv R s1.forest), A.roots.Nodup := by
    intro A hA
    obtain ⟨ev, hev, rfl⟩ := List.mem_map.mp hA
    exact (hfr1 ev hev).1
  obtain ⟨hv2, hview2, hfr2⟩ := chain_inside (PSet R s1.forest s1) (viewOf s1.forest) (viewOf_prefixClosed _)
    _ hv1 hc1 hnd1 hchain2 [] trivial rfl hP2 (by simpa using hnd2)
  simp only [List.nil_append] at hv2 hview2
  have hc2 : Complete (PSet R s1.forest s1) (viewOf s1.forest) ((loopTrace R fuel2 mods2 s2).map (absEv R s1.forest)) := by
    rintro A ⟨id, a, ha, rfl⟩ hnot
    rw [← hview2]
    apply hcomp2 id a
    exact (hbook2.pending id a).mpr ⟨(hpend id a).mpr ha, fun hm => hnot (mem_map_absEv.mpr hm)⟩
  obtain ⟨hA, hB⟩ := confluent (PSet R s1.forest s1) (viewOf s1.forest) _ _ hv1 hc1 hv2 hc2
  have hkeys : ∀ x, x ∈ (loopTrace R fuel2 mods2 s2).map Ev.key ↔ x ∈ (loopTrace R fuel1 mods1 s1).map Ev.key := by
    intro x
    obtain ⟨id, a⟩ := x
    rw [← mem_map_absEv (R := R) (f0 := s1.forest), ← mem_map_absEv (R := R) (f0 := s1.forest)]
    exact (hB _).symm
  refine ⟨?_, ?_, hfr2, hkeys⟩
  · rw [hview1, hview2]
    funext l d
    exact propext (hA l d).symm
  · intro id a
    rw [hbook2.pending, hbook1.pending, hpend, hkeys]

/-! ### a collision is reported -/

/-- A colliding application (a child name already present, or repeated inside the body) leaves a
`duplicate-node` error on a visible node of the final forest. -/
theorem loop_collision_reported (R : Res) (fuel : Nat) (mods : Array Nat) (s : PState) (hn : NodupPending s)
    (hcov : Cover s mods) (hfuel : mu s < fuel)
    (ev : Ev) (hev : ev ∈ loopTrace R fuel mods s)
    (hbad : ¬ (absEv R s.forest ev).roots.Nodup ∨ (absEv R s.forest ev).Collides (viewOf ev.before)) :
    ∃ er, FVisErr (loopState R fuel mods s).forest er ∧ er.cls = "duplicate-node" := by
  obtain ⟨hchain, hbook, _, _, _⟩ := loop_run R fuel mods s hn hcov hfuel
  apply Classical.byContradiction
  intro hno
  have hfree : ∀ er, FVisErr (loopState R fuel mods s).forest er → er.cls ≠ "duplicate-node" :=
    fun er h1 h2 => hno ⟨er, h1, h2⟩
  have := chain_free_of_no_dup_err hchain hfree ev hev
  rcases hbad with h | h
  · exact h this.1
  · exact this.2 h

/-! ### sufficient, decidable conditions for the hypotheses (used by the non-vacuity examples) -/

theorem nodup_of_names (l : List Entry) (h : (l.map (·.d.name)).Nodup) : l.Nodup := by
  induction l with
  | nil => exact List.nodup_nil
  | cons x xs ih =>
    simp only [List.map_cons, List.nodup_cons] at h ⊢
    exact ⟨fun hm => h.1 (List.mem_map.mpr ⟨x, hm, rfl⟩), ih h.2⟩

theorem pendingOf_cases (s : PState) (id : Nat) : s.pendingOf id = [] ∨ ∃ p ∈ s.pending, p.1 = id ∧ s.pendingOf id = p.2 := by
  unfold PState.pendingOf
  cases hf : s.pending.find? (·.1 == id) with
  | none => exact Or.inl rfl
  | some p =>
    right
    exact ⟨p, List.mem_of_find?_eq_some hf, by simpa using List.find?_some hf, rfl⟩

theorem nodupPending_of (s : PState) (h : ∀ p ∈ s.pending, (p.2.map (·.d.name)).Nodup) : NodupPending s := by
  intro id
  rcases pendingOf_cases s id with h0 | ⟨p, hp, _, h1⟩
  · rw [h0]; exact List.nodup_nil
  · rw [h1]; exact nodup_of_names _ (h p hp)

theorem cover_of (s : PState) (mods : Array Nat) (h : ∀ p ∈ s.pending, p.1 ∈ mods.toList) : Cover s mods := by
  intro id hne
  rcases pendingOf_cases s id with h0 | ⟨p, hp, hid, _⟩
  · exact absurd h0 hne
  · rw [← hid]; exact h p hp

theorem noDupErr_of (f : Forest) (h : ∀ t ∈ f.trees, t.2.allErrors = []) :
    ∀ er, FVisErr f er → er.cls ≠ "duplicate-node" := by
  rintro er ⟨id, root, hr, hv⟩
  have := hv.allErrors
  rw [h _ (mem_of_tree? hr)] at this
  cases this

/-- The model's fuel: with distinct keys in the pending table `processAll`'s `total + 2` exceeds
the measure. -/
theorem fuel_sufficient (s : PState) (hk : (keys s).Nodup) :
    mu s < s.pending.foldl (fun n p => n + p.2.length) 0 + 2 := by
  rw [mu_eq_total s hk]; omega

end Goyang.Lemmas.Augment
