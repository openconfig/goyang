import Goyang.Lemmas.LoadOrderReg
import Goyang.Lemmas.FuelGrouping
import Goyang.Lemmas.Tree
/-
Load-order independence (C05), part 3: `findGrouping` and `toEntry` commute with the renaming
of module identities.  Core Lean only.
-/
namespace Goyang.Lemmas.LoadOrder
open Goyang.Model
open Goyang.Lemmas.Fuel (Res orElse viaOwner importHit includeHit isModKw fgScope_cons fgImports_cons fgIncludes_cons)

/-! ### `findGrouping` -/

def gren (σ : Nat → Nat) (p : Res) : Res := (p.1.map fun r => (r.1, Mod.ren σ r.2.1, r.2.2), p.2)

theorem gren_none (σ : Nat → Nat) (s : List String) : gren σ (none, s) = (none, s) := rfl

theorem gren_orElse (σ : Nat → Nat) (a : Res) (k k' : List String → Res) (hk : ∀ s, k' s = gren σ (k s)) :
    orElse (gren σ a) k' = gren σ (orElse a k) := by
  rcases a with ⟨_ | r, s⟩
  · exact hk s
  · rfl

section
variable {σ : Nat → Nat} {r₁ r₂ : Registry} (h : RegRel σ r₁ r₂) (linked : List Nat)
include h

theorem fg_ren : ∀ fuel : Nat,
    (∀ root scope name seen, findGrouping r₂ (linked.map σ) fuel (Mod.ren σ root) scope name seen =
      gren σ (findGrouping r₁ linked fuel root scope name seen)) ∧
    (∀ root scope name seen, fgScope r₂ (linked.map σ) fuel (Mod.ren σ root) scope name seen =
      gren σ (fgScope r₁ linked fuel root scope name seen)) ∧
    (∀ imports name seen, fgImports r₂ (linked.map σ) fuel imports name seen =
      gren σ (fgImports r₁ linked fuel imports name seen)) ∧
    (∀ includes name seen, fgIncludes r₂ (linked.map σ) fuel includes name seen =
      gren σ (fgIncludes r₁ linked fuel includes name seen)) := by
  intro fuel
  induction fuel with
  | zero =>
    refine ⟨?_, ?_, ?_, ?_⟩ <;> intros <;> simp [findGrouping, fgScope, fgImports, fgIncludes, gren]
  | succ fuel ih =>
    obtain ⟨ihF, ihS, ihI, ihC⟩ := ih
    refine ⟨?_, ?_, ?_, ?_⟩
    · intro root scope name seen
      simp only [findGrouping]
      exact ihS root scope _ seen
    · intro root scope name seen
      cases scope with
      | nil => simp [fgScope, gren]
      | cons n up =>
        rw [fgScope_cons, fgScope_cons]
        cases (n.all "grouping").find? (·.arg == name) with
        | some g => rfl
        | none =>
          simp only [Mod.ren_seq, contains_map_inj σ h.inj]
          rw [ihI]
          refine gren_orElse σ _ _ _ fun s => ?_
          rw [ihC]
          refine gren_orElse σ _ _ _ fun s => ?_
          have hv : viaOwner r₂ (linked.map σ) fuel (Mod.ren σ root) (isModKw n && !name.contains ':') name s =
              gren σ (viaOwner r₁ linked fuel root (isModKw n && !name.contains ':') name s) := by
            unfold viaOwner
            rw [Mod.ren_isSub, Mod.ren_belongsTo?]
            by_cases hc : ((isModKw n && !name.contains ':') && root.isSub) = true
            · rw [if_pos hc, if_pos hc]
              cases hb : root.belongsTo? with
              | none => rfl
              | some b =>
                simp only [Option.bind_some, h.getModule]
                cases r₁.getModule b with
                | none => rfl
                | some ow =>
                  simp only [Option.map_some, Mod.ren_name, Mod.ren_stmt]
                  split
                  · rfl
                  · exact ihF ow _ _ _
            · rw [if_neg hc, if_neg hc]; rfl
          rw [hv]
          refine gren_orElse σ _ _ _ fun s => ?_
          exact ihS root up name s
    · intro imports name seen
      cases imports with
      | nil => simp [fgImports, gren]
      | cons i rest =>
        rw [fgImports_cons, fgImports_cons]
        have hv : importHit r₂ (linked.map σ) fuel i name seen = gren σ (importHit r₁ linked fuel i name seen) := by
          unfold importHit
          simp only [h.findModule]
          split
          · cases r₁.findModule false i with
            | none => rfl
            | some im => exact ihF im _ _ _
          · rfl
        rw [hv]
        exact gren_orElse σ _ _ _ fun s => ihI rest name s
    · intro includes name seen
      cases includes with
      | nil => simp [fgIncludes, gren]
      | cons i rest =>
        rw [fgIncludes_cons, fgIncludes_cons]
        have hv : includeHit r₂ (linked.map σ) fuel i name seen = gren σ (includeHit r₁ linked fuel i name seen) := by
          unfold includeHit
          simp only [h.findModule]
          cases r₁.findModule true i with
          | none => rfl
          | some im =>
            simp only [Option.map_some, Mod.ren_name, Mod.ren_stmt]
            split
            · rfl
            · exact ihF im _ _ _
        rw [hv]
        exact gren_orElse σ _ _ _ fun s => ihC rest name s

theorem findGrouping_ren (fuel : Nat) (root : Mod) (scope : List Stmt) (name : String) (seen : List String) :
    findGrouping r₂ (linked.map σ) fuel (Mod.ren σ root) scope name seen =
      gren σ (findGrouping r₁ linked fuel root scope name seen) :=
  (fg_ren h linked fuel).1 root scope name seen

end

/-! ### `toEntry` -/

/-- `simp` with the commutation lemmas; the side condition of `ren_withD` (the update does not
look at `nodeMod`) holds by `rfl`. -/
macro "rsimp" : tactic => `(tactic| simp (disch := (intro d; unfold renD; rfl)) [ren_withD, pren, renD])

/-- Two conversion environments over related registries. -/
structure EnvRel (σ : Nat → Nat) (env₁ env₂ : Env) : Prop where
  reg : RegRel σ env₁.reg env₂.reg
  opts : env₂.opts = env₁.opts
  linked : env₂.linked = env₁.linked.map σ
  tres : ∀ root scope t, env₂.tres.resolve env₂.reg (Mod.ren σ root) scope t = env₁.tres.resolve env₁.reg root scope t

/-- The recursive calls commute with the renaming. -/
def RecRen (σ : Nat → Nat) (rec₁ rec₂ : Tree.Rec) : Prop :=
  ∀ root scope n visiting st,
    rec₂ (Mod.ren σ root) scope n (visiting.map (renId σ)) (TState.ren σ st) = pren σ (rec₁ root scope n visiting st)

theorem ren_errorEntry (σ : Nat → Nat) (root : Mod) (n : Stmt) (cls : String) :
    errorEntry (Mod.ren σ root) n cls = Entry.ren σ (errorEntry root n cls) := by
  simp [errorEntry, renD]

section
variable {σ : Nat → Nat} {env₁ env₂ : Env} (he : EnvRel σ env₁ env₂)
include he

theorem leafEntry_ren (root : Mod) (scope : List Stmt) (n : Stmt) (syn : Bool) :
    leafEntry env₂ (Mod.ren σ root) scope n syn = Entry.ren σ (leafEntry env₁ root scope n syn) := by
  unfold leafEntry
  simp only [he.tres]
  simp [renD]

theorem includeTarget_ren (root : Mod) (i : Stmt) :
    env₂.includeTarget (Mod.ren σ root) i = (env₁.includeTarget root i).map (Mod.ren σ) := by
  unfold Env.includeTarget
  rw [he.linked, Mod.ren_seq, contains_map_inj σ he.reg.inj]
  split
  · exact he.reg.findModule true i
  · rfl

end

section
variable {σ : Nat → Nat} {env₁ env₂ : Env} (he : EnvRel σ env₁ env₂) {rec₁ rec₂ : Tree.Rec} (hrec : RecRen σ rec₁ rec₂)
  (root : Mod) (n : Stmt) (sub : List Stmt) (visiting : List NodeId) (isMod : Bool)
include he hrec

omit he in
theorem addAllFn_ren (kw : String) (acc : Entry × TState) :
    Tree.addAllFn rec₂ (Mod.ren σ root) n sub (visiting.map (renId σ)) kw (pren σ acc) =
      pren σ (Tree.addAllFn rec₁ root n sub visiting kw acc) := by
  unfold Tree.addAllFn
  refine List.foldl_hom (pren σ) ?_
  intro x c
  simp only [pren_snd, hrec root sub c visiting x.2]
  simp [pren]

theorem stepFn_ren (acc : Entry × TState) (f : String) :
    Tree.stepFn env₂ rec₂ (Mod.ren σ root) n sub (visiting.map (renId σ)) isMod (pren σ acc) f =
      pren σ (Tree.stepFn env₁ rec₁ root n sub visiting isMod acc f) := by
  obtain ⟨e, st⟩ := acc
  show Tree.stepFn env₂ rec₂ (Mod.ren σ root) n sub (visiting.map (renId σ)) isMod (Entry.ren σ e, TState.ren σ st) f = _
  unfold Tree.stepFn
  dsimp only
  split
  all_goals try dsimp only
  -- config
  case h_1 => rsimp
  -- mandatory
  case h_2 => rsimp
  case h_3 => cases n.argOf? "description" <;> rsimp
  case h_4 => cases n.argOf? "key" <;> rsimp
  -- anydata, anyxml, case, choice, container, leaf, leaf-list, list, notification: the children are added
  case h_5 | h_6 | h_7 | h_8 | h_9 | h_10 | h_11 | h_12 | h_13 =>
    exact addAllFn_ren hrec root n sub visiting _ (e, st)
  -- rpc, action, grouping, uses, deviation: every child is converted and combined with the entry so far
  case h_14 | h_15 | h_16 | h_17 | h_21 =>
    refine List.foldl_hom (pren σ) (init := (e, st)) ?_
    intro x c
    simp only [pren_snd, hrec root sub c visiting x.2]
    rsimp
  -- input
  case h_18 =>
    cases n.one? "input" with
    | none => rfl
    | some i =>
      simp only [hrec root sub i visiting st]
      cases e with | mk d c i' o' =>
      rsimp
  -- output
  case h_19 =>
    cases n.one? "output" with
    | none => rfl
    | some o =>
      simp only [hrec root sub o visiting st]
      cases e with | mk d c i' o' =>
      rsimp
  -- include
  case h_20 =>
    refine List.foldl_hom (pren σ) (init := (e, st)) ?_
    rintro ⟨e', st'⟩ a
    simp only [pren, includeTarget_ren he, he.opts]
    cases env₁.includeTarget root a with
    | none => simp
    | some im =>
      simp only [Option.map_some, Mod.ren_name, Mod.ren_belongsTo?, Mod.ren_stmt]
      have hm : (TState.ren σ st').merged = st'.merged := rfl
      have hst : ∀ m, ({ TState.ren σ st' with merged := m } : TState) = TState.ren σ { st' with merged := m } := fun _ => rfl
      simp only [hm, hst, hrec im [] im.stmt visiting]
      repeat' split
      all_goals simp [pren]
  -- deviate
  case h_22 =>
    refine List.foldl_hom (pren σ) (init := (e, st)) ?_
    intro x c
    simp only [pren_snd, hrec root sub c visiting x.2]
    split <;> simp [pren]
  -- type
  case h_23 =>
    cases n.one? "type" with
    | none => rfl
    | some t =>
      simp only [he.tres]
      split <;> rsimp
  -- default
  case h_24 =>
    simp only [ren_d, renD_kind]
    split
    · cases n.one? "default" <;> rsimp
    · rfl
  case h_25 => cases n.argOf? "units" <;> rsimp
  -- max-elements
  case h_26 =>
    simp only [ren_d, renD_kind]
    split
    · rfl
    · cases n.one? "max-elements" <;> rsimp
  -- min-elements
  case h_27 =>
    simp only [ren_d, renD_kind]
    split
    · rfl
    · cases n.one? "min-elements" <;> rsimp
  -- augment
  case h_28 =>
    split
    · rfl
    · have := List.foldl_hom (fun p : List Entry × TState => (p.1.map (Entry.ren σ), TState.ren σ p.2))
        (g₁ := fun acc a => (acc.1 ++ [(rec₁ root sub a visiting acc.2).1], (rec₁ root sub a visiting acc.2).2))
        (g₂ := fun acc a => (acc.1 ++ [(rec₂ (Mod.ren σ root) sub a (visiting.map (renId σ)) acc.2).1],
          (rec₂ (Mod.ren σ root) sub a (visiting.map (renId σ)) acc.2).2))
        (l := n.all "augment") (init := ([], st)) fun x a => by simp [hrec root sub a visiting x.2]
      simp only [List.map_nil] at this
      simp only [this, Mod.ren_seq]
      simp [TState.ren, pren]
  -- any other field
  case h_29 => rfl

omit he hrec in
theorem e0_ren : Tree.e0 (Mod.ren σ root) n = Entry.ren σ (Tree.e0 root n) := by
  unfold Tree.e0 Tree.baseData
  simp only [Mod.ren_seq]
  split
  · simp [renD]
  · split <;> simp [renD]

theorem dirBody_ren (scope : List Stmt) (st : TState) :
    Tree.dirBody env₂ rec₂ (Mod.ren σ root) scope n (visiting.map (renId σ)) (TState.ren σ st) isMod =
      pren σ (Tree.dirBody env₁ rec₁ root scope n visiting st isMod) := by
  unfold Tree.dirBody
  have hfold : (fieldOrder n.kw).foldl (Tree.stepFn env₂ rec₂ (Mod.ren σ root) n (n :: scope) (visiting.map (renId σ)) isMod)
      (Tree.e0 (Mod.ren σ root) n, TState.ren σ st) =
      pren σ ((fieldOrder n.kw).foldl (Tree.stepFn env₁ rec₁ root n (n :: scope) visiting isMod) (Tree.e0 root n, st)) := by
    rw [e0_ren]
    exact List.foldl_hom (pren σ) (init := (Tree.e0 root n, st))
      (fun x f => stepFn_ren he hrec root n (n :: scope) visiting isMod x f)
  rw [hfold]
  generalize (fieldOrder n.kw).foldl (Tree.stepFn env₁ rec₁ root n (n :: scope) visiting isMod) (Tree.e0 root n, st) = r
  obtain ⟨e, st'⟩ := r
  simp only [pren]
  split
  · simp [TState.ren]
  · split
    · simp [TState.ren]
    · rfl

theorem toEntryBody_ren (fuel : Nat) (scope : List Stmt) (st : TState) :
    Tree.toEntryBody env₂ fuel rec₂ (Mod.ren σ root) scope n (visiting.map (renId σ)) (TState.ren σ st) =
      pren σ (Tree.toEntryBody env₁ fuel rec₁ root scope n visiting st) := by
  unfold Tree.toEntryBody
  simp only
  -- module cache
  have hc : (TState.ren σ st).cache.find? (fun p => p.1 == (Mod.ren σ root).seq) =
      (st.cache.find? (fun p => p.1 == root.seq)).map fun p => (σ p.1, Entry.ren σ p.2) := by
    rw [Mod.ren_seq]
    exact find?_map_inj σ he.reg.inj (fun p : Nat × Entry => p.1) (fun p : Nat × Entry => p.1) _ (fun _ => rfl) st.cache root.seq
  have hg : (TState.ren σ st).gcache.find? (fun p => p.1 == nodeId (Mod.ren σ root) n) =
      (st.gcache.find? (fun p => p.1 == nodeId root n)).map fun p => (renId σ p.1, Entry.ren σ p.2) := by
    rw [renId_nodeId]
    exact find?_map_inj (renId σ) (renId_inj he.reg.inj) (fun p : NodeId × Entry => p.1) (fun p : NodeId × Entry => p.1) _
      (fun _ => rfl) st.gcache (nodeId root n)
  have hv : (visiting.map (renId σ)).contains (nodeId (Mod.ren σ root) n) = visiting.contains (nodeId root n) := by
    rw [renId_nodeId]
    exact contains_map_inj (renId σ) (renId_inj he.reg.inj) visiting _
  rw [hc, hg, hv]
  have hvis : (if (n.kw == "module" || n.kw == "submodule" || n.kw == "grouping") = true then
        nodeId (Mod.ren σ root) n :: List.map (renId σ) visiting else List.map (renId σ) visiting) =
      (if (n.kw == "module" || n.kw == "submodule" || n.kw == "grouping") = true then
        nodeId root n :: visiting else visiting).map (renId σ) := by
    split <;> simp
  rw [hvis]
  generalize (if (n.kw == "module" || n.kw == "submodule" || n.kw == "grouping") = true then
        nodeId root n :: visiting else visiting) = vis'
  -- module cache
  have h1 : ∀ (o : Option (Nat × Entry)) (k₂ k₁ : Entry × TState), k₂ = pren σ k₁ →
      (match o.map (fun p => (σ p.fst, Entry.ren σ p.snd)) with
        | some (_, e) => (e, TState.ren σ st)
        | none => k₂) = pren σ (match o with | some (_, e) => (e, st) | none => k₁) := by
    intro o k₂ k₁ hk
    cases o with
    | none => exact hk
    | some p => rfl
  have h2 : ∀ (o : Option (NodeId × Entry)) (k₂ k₁ : Entry × TState), k₂ = pren σ k₁ →
      (match o.map (fun p => (renId σ p.fst, Entry.ren σ p.snd)) with
        | some (_, e) => (e, TState.ren σ st)
        | none => k₂) = pren σ (match o with | some (_, e) => (e, st) | none => k₁) := by
    intro o k₂ k₁ hk
    cases o with
    | none => exact hk
    | some p => rfl
  have hif1 : (if (n.kw == "module" || n.kw == "submodule") = true then
        Option.map (fun p => (σ p.fst, Entry.ren σ p.snd)) (List.find? (fun p => p.fst == root.seq) st.cache) else none) =
      (if (n.kw == "module" || n.kw == "submodule") = true then List.find? (fun p => p.fst == root.seq) st.cache else none).map
        (fun p => (σ p.fst, Entry.ren σ p.snd)) := by split <;> rfl
  have hif2 : (if (n.kw == "grouping") = true then
        Option.map (fun p => (renId σ p.fst, Entry.ren σ p.snd)) (List.find? (fun p => p.fst == nodeId root n) st.gcache) else none) =
      (if (n.kw == "grouping") = true then List.find? (fun p => p.fst == nodeId root n) st.gcache else none).map
        (fun p => (renId σ p.fst, Entry.ren σ p.snd)) := by split <;> rfl
  rw [hif1, hif2]
  refine h1 _ _ _ ?_
  refine h2 _ _ _ ?_
  simp only [apply_ite (pren σ)]
  refine ite_congr rfl (fun _ => ?_) fun _ => ite_congr rfl (fun _ => ?_) fun _ =>
    ite_congr rfl (fun _ => ?_) fun _ => ite_congr rfl (fun _ => ?_) fun _ => ?_
  · simp [pren, ren_errorEntry]
  · simp [pren, leafEntry_ren he]
  · rw [leafEntry_ren he]
    rsimp
  · rw [he.linked, findGrouping_ren he.reg]
    generalize findGrouping env₁.reg env₁.linked (2 * fuel + 16) root scope n.arg [] = fg
    obtain ⟨o, seen'⟩ := fg
    cases o with
    | none => simp [gren, pren, ren_errorEntry]
    | some r =>
      obtain ⟨g, groot, gscope⟩ := r
      simp only [gren, Option.map_some]
      exact hrec groot gscope g vis' st
  · exact dirBody_ren he hrec root n vis' (n.kw == "module" || n.kw == "submodule") scope st

end

/-- **`toEntry` commutes with the renaming of module identities.** -/
theorem toEntry_ren {σ : Nat → Nat} {env₁ env₂ : Env} (he : EnvRel σ env₁ env₂) :
    ∀ fuel : Nat, RecRen σ (toEntry env₁ fuel) (toEntry env₂ fuel) := by
  intro fuel
  induction fuel with
  | zero =>
    intro root scope n visiting st
    rw [Tree.toEntry_zero, Tree.toEntry_zero]
    simp [pren, ren_errorEntry]
  | succ fuel ih =>
    intro root scope n visiting st
    rw [Tree.toEntry_succ, Tree.toEntry_succ]
    exact toEntryBody_ren he ih root n visiting fuel scope st

end Goyang.Lemmas.LoadOrder
