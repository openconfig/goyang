import Goyang.Lemmas.Registry
import Goyang.Lemmas.FuelProcess
import Goyang.Lemmas.RegistryAux
import Goyang.Lemmas.ListAux
/-
Bridge lemmas: `Fuel.LoadedShape` (sequence numbers distinct, no (sub)module bound in both tables)
really is the shape loading produces — of every registry obtained from the empty one by
`Registry.add` (`loadFrom`, `loadAll`), whatever is loaded and whether or not a load is rejected.
-/
set_option linter.unusedVariables false
namespace Goyang.Lemmas.Bridge
open Goyang.Model
open Goyang.Lemmas.Registry (SeqOk seqOk_snoc kmOf_withKm kmOf_withUm)
open Goyang.Lemmas.RegistryAux (mods_withKm mods_withUm)

/-- Sequence numbers are positions, and every id bound in the table of a kind is the sequence
number of a loaded module of that kind. -/
structure TablesOK (r : Registry) : Prop where
  seq : SeqOk r.mods
  kinds : ∀ sub, ∀ kv ∈ r.kmOf sub, ∃ m ∈ r.mods, m.seq = kv.2 ∧ m.isSub = sub

theorem tablesOK_empty : TablesOK {} :=
  ⟨fun i h => by simp at h, fun sub kv h => by cases sub <;> simp [Registry.kmOf] at h⟩

/-- What `add` does to the tables: the list of modules grows by the new one, the table of its kind
gets bindings of its sequence number only, the other table is unchanged. -/
theorem tablesOK_step (r r' : Registry) (s : Stmt) (h : TablesOK r)
    (hmods : r'.mods = r.mods ++ [⟨r.mods.length, s⟩])
    (hkm : ∀ sub, ∀ kv ∈ r'.kmOf sub, kv ∈ r.kmOf sub ∨ (kv.2 = r.mods.length ∧ sub = (⟨r.mods.length, s⟩ : Mod).isSub)) :
    TablesOK r' := by
  refine ⟨by rw [hmods]; exact seqOk_snoc h.seq s, ?_⟩
  intro sub kv hkv
  rcases hkm sub kv hkv with h1 | ⟨h1, h2⟩
  · obtain ⟨m, hm, e1, e2⟩ := h.kinds sub kv h1
    exact ⟨m, by rw [hmods]; exact List.mem_append_left _ hm, e1, e2⟩
  · exact ⟨⟨r.mods.length, s⟩, by rw [hmods]; simp, h1.symm, h2.symm⟩

theorem tablesOK_add {r r' : Registry} {s : Stmt} (h : TablesOK r) (ha : r.add s = .ok r') : TablesOK r' := by
  have ha := (Registry.add_ok ha).2
  unfold Registry.addChecked at ha
  simp only at ha
  -- facts about tables built from `r.kmOf sub` by binding the new sequence number
  have hb1 : ∀ (km : KeyMap) (k : String) sub', (∀ kv ∈ km, kv ∈ r.kmOf sub' ∨ kv.2 = r.mods.length) →
      ∀ kv ∈ km.bind k r.mods.length, kv ∈ r.kmOf sub' ∨ kv.2 = r.mods.length := by
    intro km k sub' hkm kv hkv
    rcases RegistryAux.keymap_bind_mem hkv with h1 | h1
    · exact hkm kv h1
    · exact Or.inr (by rw [h1])
  have h0 : ∀ sub', ∀ kv ∈ r.kmOf sub', kv ∈ r.kmOf sub' ∨ kv.2 = r.mods.length := fun _ _ h => Or.inl h
  -- the final step: a registry whose module list grew by the new module and whose table of the
  -- new module's kind is `km`
  have fin : ∀ (r1 : Registry) (km : KeyMap), r1.mods = r.mods ++ [⟨r.mods.length, s⟩] →
      (∀ b, r1.kmOf b = r.kmOf b) →
      (∀ kv ∈ km, kv ∈ r.kmOf (⟨r.mods.length, s⟩ : Mod).isSub ∨ kv.2 = r.mods.length) →
      TablesOK (r1.withKm (⟨r.mods.length, s⟩ : Mod).isSub km) := by
    intro r1 km hm hk hkm
    refine tablesOK_step r _ s h (by rw [mods_withKm, hm]) ?_
    intro sub kv hkv
    rw [kmOf_withKm] at hkv
    split at hkv
    · rename_i hs
      rcases hkm kv hkv with h1 | h1
      · exact Or.inl (by rw [hs]; exact h1)
      · exact Or.inr ⟨h1, hs⟩
    · rw [hk] at hkv; exact Or.inl hkv
  split at ha
  · split at ha
    · cases ha
    · split at ha
      · cases ha
        refine fin _ _ (by rw [mods_withUm]) (fun b => by rw [kmOf_withUm]; cases b <;> rfl) (h0 _)
      · cases ha
        refine fin _ _ (by rw [mods_withUm]) (fun b => by rw [kmOf_withUm]; cases b <;> rfl) (hb1 _ _ _ (h0 _))
  · split at ha
    · cases ha
    · cases ha
      refine fin _ _ rfl (fun b => by cases b <;> rfl) ?_
      split
      · exact hb1 _ _ _ (hb1 _ _ _ (h0 _))
      · split
        · exact hb1 _ _ _ (h0 _)
        · split
          · exact hb1 _ _ _ (hb1 _ _ _ (h0 _))
          · exact hb1 _ _ _ (h0 _)

theorem tablesOK_loadFrom : ∀ (ss : List Stmt) (r : Registry), TablesOK r → TablesOK (r.loadFrom ss).1
  | [], r, h => h
  | s :: rest, r, h => by
    unfold Registry.loadFrom
    cases ha : r.add s with
    | ok r' => exact tablesOK_loadFrom rest r' (tablesOK_add h ha)
    | error e => exact tablesOK_loadFrom rest r h

theorem seqs_nodup_of_seqOk (mods : List Mod) (h : SeqOk mods) : (mods.map (·.seq)).Nodup := by
  rw [List.nodup_iff_pairwise_ne, List.pairwise_iff_getElem]
  intro i j hi hj hij
  simp only [List.length_map] at hi hj
  simp only [List.getElem_map]
  rw [h i hi, h j hj]
  omega

theorem loadedShape_of_tablesOK {r : Registry} (h : TablesOK r) : Fuel.LoadedShape r := by
  have hn := seqs_nodup_of_seqOk r.mods h.seq
  refine ⟨hn, ?_⟩
  rintro m hm ⟨h1, h2⟩
  obtain ⟨kv1, hk1, e1⟩ := List.any_eq_true.mp h1
  obtain ⟨kv2, hk2, e2⟩ := List.any_eq_true.mp h2
  obtain ⟨m1, hm1, s1, b1⟩ := h.kinds false kv1 hk1
  obtain ⟨m2, hm2, s2, b2⟩ := h.kinds true kv2 hk2
  have e1' : kv1.2 = m.seq := by simpa using e1
  have e2' : kv2.2 = m.seq := by simpa using e2
  have x1 : m1 = m := ListAux.eq_of_nodup_map (·.seq) r.mods hn m1 hm1 m hm (by rw [s1, e1'])
  have x2 : m2 = m := ListAux.eq_of_nodup_map (·.seq) r.mods hn m2 hm2 m hm (by rw [s2, e2'])
  rw [x1] at b1; rw [x2] at b2
  rw [b1] at b2; cases b2

/-- **Loading produces `LoadedShape`**: whatever statements are loaded into a fresh registry, in
whatever order, with or without rejected loads. -/
theorem loadedShape_loadAll (ss : List Stmt) : Fuel.LoadedShape (Registry.loadAll ss).1 :=
  loadedShape_of_tablesOK (tablesOK_loadFrom ss {} tablesOK_empty)

/-- … and loading more into a registry of that kind keeps it. -/
theorem loadedShape_loadFrom (ss : List Stmt) (r : Registry) (h : TablesOK r) : Fuel.LoadedShape (r.loadFrom ss).1 :=
  loadedShape_of_tablesOK (tablesOK_loadFrom ss r h)

/-- What is loaded is what was given: every loaded module's statement is one of the loaded texts'. -/
theorem loadFrom_src : ∀ (ss : List Stmt) (r : Registry) (m : Mod), m ∈ (r.loadFrom ss).1.mods →
    m ∈ r.mods ∨ m.stmt ∈ ss
  | [], r, m, h => Or.inl h
  | s :: rest, r, m, h => by
    unfold Registry.loadFrom at h
    cases ha : r.add s with
    | ok r' =>
      rw [ha] at h
      rcases loadFrom_src rest r' m h with h1 | h1
      · have hmods : r'.mods = r.mods ++ [⟨r.mods.length, s⟩] := by
          have ha := (Registry.add_ok ha).2
          unfold Registry.addChecked at ha
          simp only at ha
          split at ha
          · split at ha
            · cases ha
            · cases ha; rw [mods_withKm, mods_withUm]
          · split at ha
            · cases ha
            · cases ha; rw [mods_withKm]
        rw [hmods] at h1
        rcases List.mem_append.mp h1 with h2 | h2
        · exact Or.inl h2
        · simp only [List.mem_singleton] at h2; subst h2; exact Or.inr (by simp)
      · exact Or.inr (by simp [h1])
    | error e =>
      rw [ha] at h
      rcases loadFrom_src rest r m h with h1 | h1
      · exact Or.inl h1
      · exact Or.inr (by simp [h1])

end Goyang.Lemmas.Bridge
