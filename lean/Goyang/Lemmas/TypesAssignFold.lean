import Goyang.Lemmas.TypesAssign
import Goyang.Lemmas.TypesEnumRfc
/-
C09 ∘ C14, against the model's resolve loop: an error-free `enumFold` over members whose `value` /
`position` arguments are canonically written integers (`Written`) builds exactly the table the
executable specification's own reading of the members (`readMembers`, `tableS`) denotes, and
RFC 7950 (`Spec.Enum.assign`) accepts it.

* `written_members`: the written members, once as literals (what `enumFold_rfc` wants) and once as
  the integers `readMembers` reads; the two agree.
* `toB_tableS` (TypesAssign.lean): `tableS` is `Spec.Enum.table` up to the names being bytes.
* `enumFold_agrees`: the composition.
-/
namespace Goyang.Lemmas.TypesAssignFold
open Goyang.Model Goyang.Model.Types Goyang.Spec.Types Goyang.Lemmas.TypesAssign

open Goyang.Spec.Number (Lit) in
/-- every `kw` argument of the members is a canonically written integer, on which the executable
specification's reading (`parseIntLit`) is the literal's value -/
def Written (kw : String) (es : List Stmt) : Prop :=
  ∀ e ∈ es, ∀ a, e.argOf? kw = some a →
    ∃ l : Lit, Goyang.Lemmas.Enum.LitForm l ∧ bytesOf a = l.render ∧ parseIntLit a = some l.num

open Goyang.Spec.Number (Lit) in
open Goyang.Lemmas.Enum (LitForm) in
theorem written_members (kw : String) (es : List Stmt) (h : Written kw es) :
    ∃ (msL : List (Goyang.Spec.Enum.Name × Option Lit)) (msS : List (String × Option Int)),
      (∀ p ∈ msL, ∀ l, p.2 = some l → LitForm l) ∧
      es.map (fun e => (bytesOf e.arg, (e.argOf? kw).map bytesOf))
        = msL.map (fun p => (p.1, p.2.map Lit.render)) ∧
      readMembers kw es = some msS ∧
      msS.map (fun p => (bytesOf p.1, p.2)) = msL.map (fun p => (p.1, p.2.map Lit.num)) := by
  induction es with
  | nil => exact ⟨[], [], by simp, by simp, readMembers_nil kw, by simp⟩
  | cons e rest ih =>
    obtain ⟨msL, msS, hf, hw, hr, hm⟩ := ih (fun e' he' => h e' (List.mem_cons_of_mem _ he'))
    cases ha : e.argOf? kw with
    | none =>
      refine ⟨(bytesOf e.arg, none) :: msL, (e.arg, none) :: msS, ?_, ?_, ?_, ?_⟩
      · intro p hp l hl
        rcases List.mem_cons.mp hp with rfl | hp
        · cases hl
        · exact hf p hp l hl
      · simp only [List.map_cons, ha, Option.map_none, hw]
      · rw [readMembers_cons, rd, ha, hr]; rfl
      · simp only [List.map_cons, Option.map_none, hm]
    | some a =>
      obtain ⟨l, hl, hb, hp⟩ := h e List.mem_cons_self a ha
      refine ⟨(bytesOf e.arg, some l) :: msL, (e.arg, some l.num) :: msS, ?_, ?_, ?_, ?_⟩
      · intro p hp' l' hl'
        rcases List.mem_cons.mp hp' with rfl | hp'
        · simp only [Option.some.injEq] at hl'; subst hl'; exact hl
        · exact hf p hp' l' hl'
      · simp only [List.map_cons, ha, Option.map_some, hw, hb]
      · rw [readMembers_cons, rd, ha, hr]; simp only [hp]; rfl
      · simp only [List.map_cons, Option.map_some, hm]

theorem enumFold_agrees (k : Goyang.Spec.Enum.Kind) (kw : String) (es : List Stmt) (hw : Written kw es)
    (herr : (enumFold (Goyang.Lemmas.Enum.new k) kw es).2 = []) :
    ∃ msS, readMembers kw es = some msS ∧
      (enumFold (Goyang.Lemmas.Enum.new k) kw es).1.toInt = (toB (tableS msS)).reverse ∧
      Goyang.Spec.Enum.assign k (msS.map fun p => (bytesOf p.1, p.2)) = some (toB (tableS msS)) := by
  obtain ⟨msL, msS, hf, hwr, hr, hm⟩ := written_members kw es hw
  obtain ⟨h1, h2⟩ := Goyang.Lemmas.TypesEnumRfc.enumFold_rfc k kw es msL hf hwr herr
  rw [← hm, ← toB_tableS] at h1 h2
  exact ⟨msS, hr, h2, h1⟩

end Goyang.Lemmas.TypesAssignFold
