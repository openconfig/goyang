import Goyang.Spec.Augment
/-
C07 — confluence of "apply pending augments until none is applicable" on the flat view
(`Goyang.Spec.Augment`).  Model independent: nothing here mentions `augmentLoop`.

Main results
* `subsumed`       a complete collision-free run contains every run (applied set and view)
* `no_overlap`     in a collision-free run no grafted root was present before or is added twice
* `never_collides` if ONE complete collision-free run exists, no run can reach a collision
* `confluent`      two complete collision-free runs: same view, same applied set
* `result_unique`  `Spec.IsResult` is a function of the pending set
-/
namespace Goyang.Lemmas.AugmentConfl
open Goyang.Model Goyang.Spec.Augment

/-! ### walking -/

theorem walk_append (e : Entry) (p q : NPath) : walk e (p ++ q) = (walk e p).bind fun x => walk x q := by
  induction p generalizing e with
  | nil => simp [walk]
  | cons k p ih =>
    simp only [List.cons_append, walk]
    cases kid e k with
    | none => simp
    | some c => simp [ih]

theorem walk_prefix {e : Entry} {p q : NPath} {x : Entry} (h : walk e (p ++ q) = some x) :
    ∃ y, walk e p = some y ∧ walk y q = some x := by
  rw [walk_append] at h
  cases hp : walk e p with
  | none => simp [hp] at h
  | some y => exact ⟨y, rfl, by simpa [hp] using h⟩

/-! ### the shape of what an augment adds -/

theorem adds_below {a : Aug} {l : NLoc} {d : EData} (h : a.adds l d) :
    ∃ t, a.target = some t ∧ l.1 = t.1 ∧ ∃ k ∈ a.roots, ∃ r, l.2 = t.2 ++ k :: r := by
  obtain ⟨t, ht, h1, c, hc, r, hr, _⟩ := h
  exact ⟨t, ht, h1, c.name, List.mem_map.mpr ⟨c, hc, rfl⟩, r, hr⟩

theorem adds_root {a : Aug} {t : NLoc} (ht : a.target = some t) {k : String} (hk : k ∈ a.roots) :
    View.has a.adds (Aug.rootLoc t k) := by
  obtain ⟨c, hc, rfl⟩ := List.mem_map.mp hk
  exact ⟨_, t, ht, rfl, c, hc, [], rfl, _, rfl, rfl⟩

theorem adds_closed {a : Aug} {t : NLoc} (ht : a.target = some t) {p r : NPath}
    (h : View.has a.adds (t.1, p ++ r)) (hlen : t.2.length < p.length) : View.has a.adds (t.1, p) := by
  obtain ⟨d, t', ht', _, c, hc, r0, hr, e, hw, _⟩ := h
  rw [ht] at ht'; cases ht'
  -- p ++ r = t.2 ++ c.name :: r0 and |p| > |t.2|, so p = t.2 ++ c.name :: r1
  rcases List.append_eq_append_iff.mp hr with ⟨a', h1, _⟩ | ⟨c', h1, h2⟩
  · rw [h1, List.length_append] at hlen; omega
  · cases c' with
    | nil => rw [h1, List.append_nil] at hlen; omega
    | cons k r1 =>
      obtain ⟨rfl, rfl⟩ := List.cons.inj h2
      obtain ⟨y, hy, _⟩ := walk_prefix hw
      exact ⟨_, t, ht, rfl, c, hc, r1, h1, y, hy, rfl⟩

/-! ### runs -/

/-- Every prefix of a present location is present. -/
def PrefixClosed (v : View) : Prop := ∀ t p r, v.has (t, p ++ r) → v.has (t, p)

theorem mem_after (v : View) (seq : List Aug) (l : NLoc) (d : EData) :
    after v seq l d ↔ v l d ∨ ∃ a ∈ seq, a.adds l d := by
  induction seq generalizing v with
  | nil => simp [after]
  | cons a seq ih =>
    simp only [after, ih, graft, List.mem_cons]
    constructor
    · rintro ((h | h) | ⟨b, hb, h⟩)
      · exact Or.inr ⟨a, Or.inl rfl, h⟩
      · exact Or.inl h
      · exact Or.inr ⟨b, Or.inr hb, h⟩
    · rintro (h | ⟨b, (rfl | hb), h⟩)
      · exact Or.inl (Or.inr h)
      · exact Or.inl (Or.inl h)
      · exact Or.inr ⟨b, hb, h⟩

theorem after_mono (v : View) (seq : List Aug) {l : NLoc} {d : EData} (h : v l d) : after v seq l d :=
  (mem_after v seq l d).mpr (Or.inl h)

theorem after_append (v : View) (xs ys : List Aug) : after v (xs ++ ys) = after (after v xs) ys := by
  induction xs generalizing v with
  | nil => rfl
  | cons a xs ih => simp [after, ih]

theorem applicable_mono {a : Aug} {v w : View} (h : ∀ l d, v l d → w l d) (ha : a.Applicable v) : a.Applicable w := by
  obtain ⟨t, ht, d, hd, hc⟩ := ha
  exact ⟨t, ht, d, h _ _ hd, hc⟩

theorem valid_mem (P : Aug → Prop) (v : View) (seq : List Aug) (hv : Valid P v seq) : ∀ a ∈ seq, P a := by
  induction seq generalizing v with
  | nil => intro a ha; cases ha
  | cons c seq ih =>
    obtain ⟨hcP, _, _, _, hrest⟩ := hv
    intro a ha
    rcases List.mem_cons.mp ha with rfl | ha
    · exact hcP
    · exact ih _ hrest a ha

theorem valid_nodup (P : Aug → Prop) (v : View) (seq : List Aug) (hv : Valid P v seq) : seq.Nodup := by
  induction seq generalizing v with
  | nil => exact List.nodup_nil
  | cons c seq ih =>
    obtain ⟨_, _, _, hn, hrest⟩ := hv
    exact List.nodup_cons.mpr ⟨hn, ih _ hrest⟩

/-- Splitting a run at one of its members. -/
theorem valid_split (P : Aug → Prop) (v : View) (seq : List Aug) (hv : Valid P v seq) (a : Aug) (ha : a ∈ seq) :
    ∃ xs ys, seq = xs ++ a :: ys ∧ a.Applicable (after v xs) ∧ ¬ a.Collides (after v xs) ∧
      a ∉ xs ∧ a ∉ ys ∧ Valid P v xs := by
  induction seq generalizing v with
  | nil => cases ha
  | cons c seq ih =>
    obtain ⟨hcP, hca, hcc, hcid, hrest⟩ := hv
    by_cases hac : a = c
    · subst hac
      exact ⟨[], seq, rfl, hca, hcc, by simp, hcid, trivial⟩
    · have ha' : a ∈ seq := by
        rcases List.mem_cons.mp ha with h | h
        · exact absurd h hac
        · exact h
      obtain ⟨xs, ys, rfl, h1, h2, h3, h4, h5⟩ := ih (graft v c) hrest ha'
      refine ⟨c :: xs, ys, rfl, h1, h2, ?_, h4, ?_⟩
      · intro hm
        rcases List.mem_cons.mp hm with h | h
        · exact hac h
        · exact h3 h
      · refine ⟨hcP, hca, hcc, ?_, h5⟩
        intro hm; exact hcid (List.mem_append_left _ hm)

theorem prefixClosed_graft (a : Aug) (v : View) (hp : PrefixClosed v) (happ : a.Applicable v) :
    PrefixClosed (graft v a) := by
  intro t p r hmem
  obtain ⟨d, hd⟩ := hmem
  obtain ⟨tt, htt, dt, hdt, _⟩ := happ
  rcases hd with h | h
  · -- p ++ r added by a
    obtain ⟨t', ht', h1, k, hk, r0, hr⟩ := adds_below h
    rw [htt] at ht'; cases ht'
    simp only at h1 hr
    subst h1
    by_cases hlen : tt.2.length < p.length
    · obtain ⟨d', hd'⟩ := adds_closed htt ⟨d, h⟩ hlen
      exact ⟨d', Or.inl hd'⟩
    · -- p is a prefix of the target
      have hle : p.length ≤ tt.2.length := by omega
      have hpre : ∃ q, p ++ q = tt.2 := by
        refine ⟨tt.2.drop p.length, ?_⟩
        have h2 : p = (tt.2 ++ k :: r0).take p.length := by rw [← hr]; simp
        rw [List.take_append_of_le_length hle] at h2
        conv => lhs; lhs; rw [h2]
        exact List.take_append_drop _ _
      obtain ⟨q, hq⟩ := hpre
      obtain ⟨d', hd'⟩ := hp tt.1 p q ⟨dt, by rw [hq]; exact hdt⟩
      exact ⟨d', Or.inr hd'⟩
  · obtain ⟨d', hd'⟩ := hp t p r ⟨d, h⟩
    exact ⟨d', Or.inr hd'⟩

theorem prefixClosed_after (P : Aug → Prop) (v : View) (seq : List Aug) (hp : PrefixClosed v)
    (hv : Valid P v seq) : PrefixClosed (after v seq) := by
  induction seq generalizing v with
  | nil => exact hp
  | cons a seq ih =>
    obtain ⟨_, haa, _, _, hrest⟩ := hv
    exact ih (graft v a) (prefixClosed_graft a v hp haa) hrest

/-- The key step.  `seq1` is a complete collision-free run from `v0`.  Any run `seq2` that starts
inside the final view of `seq1` applies only augments that `seq1` applies and stays inside. -/
theorem subsumed (P : Aug → Prop) (v0 : View) (seq1 : List Aug) (hc1 : Complete P v0 seq1) :
    ∀ (seq2 : List Aug) (v : View), (∀ l d, v l d → after v0 seq1 l d) →
      (∀ a ∈ seq2, P a) → (∀ xs a ys, seq2 = xs ++ a :: ys → a.Applicable (after v xs)) →
      (∀ a ∈ seq2, a ∈ seq1) ∧ (∀ l d, after v seq2 l d → after v0 seq1 l d) := by
  intro seq2
  induction seq2 with
  | nil => intro v hs _ _; exact ⟨by simp, by simpa [after] using hs⟩
  | cons a seq2 ih =>
    intro v hs hP happ
    have haa : a.Applicable v := happ [] a seq2 rfl
    have ha1 : a ∈ seq1 := by
      apply Classical.byContradiction
      intro hnot
      exact hc1 a (hP a (by simp)) hnot (applicable_mono hs haa)
    have hs' : ∀ l d, graft v a l d → after v0 seq1 l d := by
      intro l d h
      rcases h with h | h
      · exact (mem_after v0 seq1 l d).mpr (Or.inr ⟨a, ha1, h⟩)
      · exact hs l d h
    obtain ⟨h1, h2⟩ := ih (graft v a) hs' (fun b hb => hP b (by simp [hb]))
      (fun xs b ys h => by
        have := happ (a :: xs) b ys (by simp [h])
        simpa [after] using this)
    refine ⟨?_, by simpa [after] using h2⟩
    intro b hb
    rcases List.mem_cons.mp hb with rfl | hb
    · exact ha1
    · exact h1 b hb

theorem valid_applicable (P : Aug → Prop) (v : View) (seq : List Aug) (hv : Valid P v seq) :
    ∀ xs a ys, seq = xs ++ a :: ys → a.Applicable (after v xs) := by
  induction seq generalizing v with
  | nil => intro xs a ys h; simp at h
  | cons c seq ih =>
    obtain ⟨_, hca, _, _, hrest⟩ := hv
    intro xs a ys h
    cases xs with
    | nil => simp at h; obtain ⟨rfl, _⟩ := h; exact hca
    | cons x xs =>
      simp at h
      obtain ⟨rfl, h⟩ := h
      simpa [after] using ih _ hrest xs a ys h

/-- In a collision-free run no grafted root was present at the start, and none is added by
another member. -/
theorem no_overlap (P : Aug → Prop) (v : View) (seq : List Aug) (hp : PrefixClosed v) (hv : Valid P v seq) :
    ∀ y ∈ seq, ∀ t, y.target = some t → ∀ k ∈ y.roots,
      ¬ v.has (Aug.rootLoc t k) ∧ ∀ x ∈ seq, x ≠ y → ¬ View.has x.adds (Aug.rootLoc t k) := by
  induction seq generalizing v with
  | nil => intro y hy; cases hy
  | cons c seq ih =>
    obtain ⟨hcP, hca, hcc, hcid, hrest⟩ := hv
    have hp' : PrefixClosed (graft v c) := prefixClosed_graft c v hp hca
    have ih' := ih (graft v c) hp' hrest
    intro y hy t ht k hk
    by_cases hyc : y = c
    · subst hyc
      refine ⟨fun h => hcc ⟨t, ht, k, hk, h⟩, ?_⟩
      intro x hx hxy
      have hx' : x ∈ seq := by
        rcases List.mem_cons.mp hx with h | h
        · exact absurd h hxy
        · exact h
      rintro ⟨d, hmem⟩
      -- x is applied later; its roots are not present after y
      obtain ⟨tx, htx, h1, kx, hkx, r, hr⟩ := adds_below hmem
      have hnot := (ih' x hx' tx htx kx hkx).1
      apply hnot
      simp only [Aug.rootLoc] at h1 hr
      by_cases hre : r = []
      · subst hre
        have hEq : Aug.rootLoc tx kx = Aug.rootLoc t k := by
          simp only [Aug.rootLoc]; rw [← h1, hr]
        rw [hEq]
        obtain ⟨d', hd'⟩ := adds_root ht hk
        exact ⟨d', Or.inl hd'⟩
      · -- rootLoc tx kx is a proper prefix of t.2 ++ [k], hence a prefix of t.2
        have hlast : ∃ r', (tx.2 ++ [kx]) ++ r' = t.2 := by
          have h2 : t.2 ++ [k] = (tx.2 ++ [kx]) ++ r := by rw [hr]; simp
          refine ⟨r.dropLast, ?_⟩
          have := congrArg List.dropLast h2
          rw [List.dropLast_append_of_ne_nil hre] at this
          simpa using this.symm
        obtain ⟨r', hr'⟩ := hlast
        obtain ⟨tt, htt, dt, hdt, _⟩ := hca
        rw [ht] at htt; cases htt
        obtain ⟨d', hd'⟩ := hp t.1 (tx.2 ++ [kx]) r' ⟨dt, by rw [hr']; exact hdt⟩
        exact ⟨d', Or.inr (by simpa [Aug.rootLoc, ← h1] using hd')⟩
    · have hy' : y ∈ seq := by
        rcases List.mem_cons.mp hy with h | h
        · exact absurd h hyc
        · exact h
      have hy_ih := ih' y hy' t ht k hk
      refine ⟨fun h => hy_ih.1 (by obtain ⟨d, hd⟩ := h; exact ⟨d, Or.inr hd⟩), ?_⟩
      intro x hx hxy
      rcases List.mem_cons.mp hx with rfl | hx'
      · exact fun h => hy_ih.1 (by obtain ⟨d, hd⟩ := h; exact ⟨d, Or.inl hd⟩)
      · exact hy_ih.2 x hx' hxy

/-- If one complete collision-free run exists, a collision-free run can never get into a state in
which a still pending, applicable augment collides. -/
theorem never_collides (P : Aug → Prop) (v0 : View) (hp0 : PrefixClosed v0)
    (seq1 : List Aug) (hv1 : Valid P v0 seq1) (hc1 : Complete P v0 seq1)
    (seq2 : List Aug) (hv2 : Valid P v0 seq2)
    (a : Aug) (haP : P a) (hpend : a ∉ seq2) (happ : a.Applicable (after v0 seq2)) :
    ¬ a.Collides (after v0 seq2) := by
  obtain ⟨hsub, hst⟩ := subsumed P v0 seq1 hc1 seq2 v0 (fun l d h => after_mono v0 seq1 h)
    (valid_mem P v0 seq2 hv2) (valid_applicable P v0 seq2 hv2)
  have ha1 : a ∈ seq1 := by
    apply Classical.byContradiction
    intro hnot
    exact hc1 a haP hnot (applicable_mono hst happ)
  rintro ⟨t, ht, k, hk, d, hroot⟩
  have hno := no_overlap P v0 seq1 hp0 hv1 a ha1 t ht k hk
  rcases (mem_after v0 seq2 _ _).mp hroot with h | ⟨b, hb, h⟩
  · exact hno.1 ⟨d, h⟩
  · exact hno.2 b (hsub b hb) (fun hba => hpend (hba ▸ hb)) ⟨d, h⟩

/-- Two complete collision-free runs end in the same view and apply the same augments. -/
theorem confluent (P : Aug → Prop) (v0 : View) (seq1 seq2 : List Aug)
    (hv1 : Valid P v0 seq1) (hc1 : Complete P v0 seq1)
    (hv2 : Valid P v0 seq2) (hc2 : Complete P v0 seq2) :
    (∀ l d, after v0 seq1 l d ↔ after v0 seq2 l d) ∧ (∀ a, a ∈ seq1 ↔ a ∈ seq2) := by
  obtain ⟨h21, s21⟩ := subsumed P v0 seq1 hc1 seq2 v0 (fun l d h => after_mono v0 seq1 h)
    (valid_mem P v0 seq2 hv2) (valid_applicable P v0 seq2 hv2)
  obtain ⟨h12, s12⟩ := subsumed P v0 seq2 hc2 seq1 v0 (fun l d h => after_mono v0 seq2 h)
    (valid_mem P v0 seq1 hv1) (valid_applicable P v0 seq1 hv1)
  exact ⟨fun l d => ⟨s12 l d, s21 l d⟩, fun a => ⟨h12 a, h21 a⟩⟩

/-- `Spec.IsResult` is single valued: the final view and the unapplied set do not depend on the run. -/
theorem result_unique (P : Aug → Prop) (v0 : View) (f1 f2 : View) (u1 u2 : Aug → Prop)
    (h1 : IsResult P v0 f1 u1) (h2 : IsResult P v0 f2 u2) :
    (∀ l d, f1 l d ↔ f2 l d) ∧ (∀ a, u1 a ↔ u2 a) := by
  obtain ⟨s1, hv1, hc1, hf1, hu1⟩ := h1
  obtain ⟨s2, hv2, hc2, hf2, hu2⟩ := h2
  obtain ⟨hA, hB⟩ := confluent P v0 s1 s2 hv1 hc1 hv2 hc2
  refine ⟨fun l d => by rw [hf1, hf2]; exact hA l d, fun a => ?_⟩
  rw [hu1, hu2, hB a]

/-- A run can be extended at its end. -/
theorem valid_snoc (P : Aug → Prop) (v : View) (pre : List Aug) (a : Aug) (hv : Valid P v pre) (hP : P a)
    (hn : a ∉ pre) (happ : a.Applicable (after v pre)) (hcol : ¬ a.Collides (after v pre)) :
    Valid P v (pre ++ [a]) := by
  induction pre generalizing v with
  | nil => exact ⟨hP, happ, hcol, by simp, trivial⟩
  | cons c pre ih =>
    obtain ⟨hcP, hca, hcc, hcn, hrest⟩ := hv
    refine ⟨hcP, hca, hcc, ?_, ?_⟩
    · intro hm
      rcases List.mem_append.mp hm with h | h
      · exact hcn h
      · simp only [List.mem_singleton] at h
        exact hn (h ▸ List.mem_cons_self)
    · exact ih (graft v c) hrest (fun h => hn (List.mem_cons_of_mem _ h)) happ hcol

theorem viewOf_prefixClosed (f : Forest) : PrefixClosed (viewOf f) := by
  intro t p r ⟨d, e, he, _⟩
  unfold nodeAt at he
  cases hroot : f.tree? t with
  | none => simp [hroot] at he
  | some root =>
    simp only [hroot, Option.bind_some] at he
    obtain ⟨y, hy, _⟩ := walk_prefix he
    exact ⟨nodeData y.d, y, by simp [nodeAt, hroot, hy], rfl⟩

end Goyang.Lemmas.AugmentConfl
