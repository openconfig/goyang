/-
C07 bridge, input predicate `AugPosDistinct`, reference-reader part: two different statement
occurrences among the SIBLINGS of one parsed forest (the top level, or the substatements of one
statement) stand at different (line, col).

* `pos_ne_of_lt`      — offset ↦ (line, col) is injective for offsets up to the length of one text;
* `tokenize_sorted`   — the tokens of the reference reader start at strictly increasing offsets;
* `stmts_positions`   — the positions of the statements `stmts` returns are the positions of a
                        sublist of the tokens it was given (their keyword tokens, in order);
* `parse_sibDistinct` — every statement of the forest `parse` returns, at any depth, has
                        substatements at pairwise different (line, col) (`SibDistinct`), and so has the
                        top level.
-/
import Goyang.Lemmas.Scan
import Goyang.Lemmas.ListSrc

namespace Goyang.Lemmas.AugPosSpec
open Goyang.Spec.Parse Goyang.Lemmas.Scan
open Goyang.Lemmas.ListSrc (argument_suffix stmt_stmts_suffix)

/-! ### offset ↦ (line, col) is injective inside one text -/

theorem lastLine_append (pre mid : List Char) (h : '\n' ∉ mid) : lastLine (pre ++ mid) = lastLine pre ++ mid := by
  unfold lastLine
  rw [List.reverse_append, List.takeWhile_append_of_pos, List.reverse_append, List.reverse_reverse]
  intro c hc
  have : c ≠ '\n' := fun e => h (by rw [← e]; exact List.mem_reverse.mp hc)
  simp [this]

/-- Two different offsets of one text (up to its end) have different (line, col). -/
theorem pos_ne_of_lt (text : List Char) (a b : Nat) (hab : a < b) (hb : b ≤ text.length) :
    (lineOf text a, colOf text a) ≠ (lineOf text b, colOf text b) := by
  intro h
  simp only [Prod.mk.injEq, lineOf, colOf] at h
  obtain ⟨h1, h2⟩ := h
  obtain ⟨mid, hmid⟩ : ∃ mid, mid = (text.drop a).take (b - a) := ⟨_, rfl⟩
  have hsplit : text.take b = text.take a ++ mid := by
    have hba : b = a + (b - a) := by omega
    rw [hmid]
    conv => lhs; rw [hba]
    exact List.take_add
  have hlen : mid.length = b - a := by
    rw [hmid, List.length_take, List.length_drop]; omega
  rw [hsplit, List.count_append] at h1
  have hc : mid.count '\n' = 0 := by omega
  have hnl : '\n' ∉ mid := List.count_eq_zero.mp hc
  rw [hsplit, lastLine_append _ _ hnl, List.length_append] at h2
  omega

/-! ### token offsets increase -/

/-- a token of the tail `cs` of a text of `n` characters starts inside `cs` and ends before what is left -/
theorem specNext_bounds (n : Nat) (cs : List Char) (hn : cs.length ≤ n) (t : PTok) (rest : List Char)
    (h : specNext n cs = some (some (t, rest))) :
    n - cs.length ≤ t.off ∧ t.off + rest.length < n ∧ rest.length < cs.length := by
  obtain ⟨sk, c, r, -, hcs, hc, hoff, ht⟩ := specNext_some n cs t rest h
  have hlen := (tokAt_suffix c r hc _ rest ht).1.length_le
  rw [hcs, List.length_append, List.length_cons] at hn ⊢
  rw [hoff]
  exact ⟨by omega, by omega, by omega⟩

theorem tokensAux_sorted (n : Nat) : ∀ (f : Nat) (cs : List Char) (toks : List PTok), cs.length ≤ n →
    tokensAux n f cs = some toks →
    toks.Pairwise (fun a b => a.off < b.off) ∧ ∀ t ∈ toks, n - cs.length ≤ t.off := by
  intro f
  induction f with
  | zero => intro cs toks _ h; simp [tokensAux] at h
  | succ f ih =>
    intro cs toks hn h
    rw [tokensAux_succ] at h
    cases hs : specNext n cs with
    | none => rw [hs] at h; cases h
    | some o =>
      cases o with
      | none =>
        rw [hs] at h; injection h with h; rw [← h]
        exact ⟨List.Pairwise.nil, fun t ht => by cases ht⟩
      | some p =>
        obtain ⟨t0, r⟩ := p
        rw [hs] at h
        simp only at h
        obtain ⟨hb1, hb2, hb3⟩ := specNext_bounds n cs hn t0 r hs
        cases hr : tokensAux n f r with
        | none => rw [hr] at h; cases h
        | some ts =>
          rw [hr] at h
          simp only [Option.map_some, Option.some.injEq] at h
          rw [← h]
          obtain ⟨ih1, ih2⟩ := ih r ts (by omega) hr
          refine ⟨List.pairwise_cons.mpr ⟨fun t ht => ?_, ih1⟩, fun t ht => ?_⟩
          · have := ih2 t ht; omega
          · simp only [List.mem_cons] at ht
            rcases ht with ht | ht
            · rw [ht]; exact hb1
            · have := ih2 t ht; omega

/-- the tokens of a text start at strictly increasing offsets -/
theorem tokenize_sorted (text : List Char) (toks : List PTok) (h : tokenize text = some toks) :
    toks.Pairwise (fun a b => a.off < b.off) :=
  (tokensAux_sorted text.length _ text toks (Nat.le_refl _) h).1

/-! ### statements stand at their keyword tokens, siblings in token order -/

/-- token lists the parser functions are called with: increasing offsets inside the text -/
def Good (text : List Char) (ts : List PTok) : Prop :=
  ts.Pairwise (fun a b => a.off < b.off) ∧ ∀ t ∈ ts, t.off ≤ text.length

theorem Good.suffix {text : List Char} {ts r : List PTok} (h : Good text ts) (hr : r <:+ ts) : Good text r :=
  ⟨h.1.sublist hr.sublist, fun t ht => h.2 t (hr.mem ht)⟩

theorem good_tokenize (text : List Char) (toks : List PTok) (h : tokenize text = some toks) : Good text toks :=
  ⟨tokenize_sorted text toks h, tokensAux_off text.length _ text toks h⟩

/-- (C16's `spec_statement_position`, restated with `lineOf` / `colOf`) -/
theorem stmt_pos (text : List Char) (f : Nat) (k : PTok) (ts r : List PTok) (s : Stmt)
    (h : stmt text f (k :: ts) = some (s, r)) : (s.line, s.col) = (lineOf text k.off, colOf text k.off) := by
  cases f with
  | zero => simp [stmt] at h
  | succ f =>
    unfold stmt at h
    split at h
    · split at h
      · cases h
      · rename_i arg ts' _
        split at h
        · rename_i e r'
          split at h
          · injection h with h; injection h with h1 _; subst h1; rfl
          · split at h
            · split at h
              · split at h
                · injection h with h; injection h with h1 _; subst h1; rfl
                · cases h
              · cases h
            · cases h
        · cases h
    · cases h

/-- the (line, col) of a statement -/
abbrev spos (s : Stmt) : Nat × Nat := (s.line, s.col)

/-- The positions of the statements `stmts` returns are those of a sublist of the tokens it read. -/
theorem stmts_positions (text : List Char) : ∀ (g : Nat) (ts : List PTok) (ss : List Stmt) (rest : List PTok),
    stmts text g ts = some (ss, rest) →
    ∃ l : List PTok, l.Sublist ts ∧ ss.map spos = l.map (fun t => (lineOf text t.off, colOf text t.off)) := by
  intro g
  induction g with
  | zero => intro ts ss rest h; simp [stmts] at h
  | succ g ih =>
    intro ts ss rest h
    cases ts with
    | nil =>
      simp [stmts] at h
      exact ⟨[], List.Sublist.refl _, by rw [h.1]; rfl⟩
    | cons t ts' =>
      unfold stmts at h
      split at h
      · simp only [Option.some.injEq, Prod.mk.injEq] at h
        exact ⟨[], List.nil_sublist _, by rw [← h.1]; rfl⟩
      · cases hs : stmt text g (t :: ts') with
        | none => rw [hs] at h; cases h
        | some p =>
          obtain ⟨s0, r⟩ := p
          rw [hs] at h
          simp only at h
          cases hss : stmts text g r with
          | none => rw [hss] at h; cases h
          | some q =>
            obtain ⟨ss', r'⟩ := q
            rw [hss] at h
            simp only [Option.some.injEq, Prod.mk.injEq] at h
            obtain ⟨l', hl1, hl2⟩ := ih r ss' r' hss
            obtain ⟨hsx, hlen⟩ := (stmt_stmts_suffix text g).1 _ _ _ hs
            have hr : r <:+ ts' := by
              rcases List.suffix_cons_iff.mp hsx with e | e
              · rw [e] at hlen; simp at hlen; omega
              · exact e
            refine ⟨t :: l', (hl1.trans hr.sublist).cons_cons t, ?_⟩
            rw [← h.1, List.map_cons, List.map_cons, hl2]
            congr 1
            exact stmt_pos text g t ts' r s0 hs

/-- Statements `stmts` returns from a good token list stand at pairwise different (line, col). -/
theorem stmts_nodup (text : List Char) (g : Nat) (ts : List PTok) (ss : List Stmt) (rest : List PTok)
    (hg : Good text ts) (h : stmts text g ts = some (ss, rest)) : (ss.map spos).Nodup := by
  obtain ⟨l, hl1, hl2⟩ := stmts_positions text g ts ss rest h
  rw [hl2]
  have hp : l.Pairwise (fun a b => a.off < b.off) := hg.1.sublist hl1
  rw [List.Nodup, List.pairwise_map]
  refine hp.imp_of_mem ?_
  intro a b _ hb hab
  exact pos_ne_of_lt text a.off b.off hab (hg.2 b (hl1.subset hb))

/-- `s` and every statement below it has substatements at pairwise different (line, col) -/
inductive SibDistinct : Stmt → Prop
  | mk (s : Stmt) (hnd : (s.subs.map spos).Nodup) (hsubs : ∀ c, c ∈ s.subs → SibDistinct c) : SibDistinct s

theorem stmt_stmts_sib (text : List Char) : ∀ (g : Nat),
    (∀ ts s rest, Good text ts → stmt text g ts = some (s, rest) → SibDistinct s) ∧
    (∀ ts ss rest, Good text ts → stmts text g ts = some (ss, rest) → ∀ s ∈ ss, SibDistinct s) := by
  intro g
  induction g with
  | zero =>
    exact ⟨fun ts s rest _ h => by simp [stmt] at h, fun ts ss rest _ h => by simp [stmts] at h⟩
  | succ g ih =>
    obtain ⟨ih1, ih2⟩ := ih
    constructor
    · intro ts s rest hks h
      cases ts with
      | nil => simp [stmt] at h
      | cons k ts' =>
        unfold stmt at h
        split at h
        · rename_i kw hkw
          split at h
          · cases h
          · rename_i arg r1 harg
            have hsx := argument_suffix text _ ts' arg r1 harg
            split at h
            · rename_i e r2
              split at h
              · simp only [Option.some.injEq, Prod.mk.injEq] at h
                rw [← h.1]
                exact SibDistinct.mk _ List.nodup_nil (fun c hc => by cases hc)
              · split at h
                · split at h
                  · rename_i subs c r3 hs
                    split at h
                    · simp only [Option.some.injEq, Prod.mk.injEq] at h
                      rw [← h.1]
                      have hg2 : Good text r2 :=
                        hks.suffix (((List.suffix_cons e r2).trans hsx).trans (List.suffix_cons k ts'))
                      exact SibDistinct.mk _ (stmts_nodup text g r2 subs _ hg2 hs)
                        (fun c' hc' => ih2 r2 subs _ hg2 hs c' hc')
                    · cases h
                  · cases h
                · cases h
            · cases h
        · cases h
    · intro ts ss rest hks h
      cases ts with
      | nil => simp [stmts] at h; rw [h.1]; intro s hs; cases hs
      | cons t ts' =>
        unfold stmts at h
        split at h
        · simp only [Option.some.injEq, Prod.mk.injEq] at h
          rw [← h.1]; intro s hs; cases hs
        · cases hs : stmt text g (t :: ts') with
          | none => rw [hs] at h; cases h
          | some p =>
            obtain ⟨s0, r⟩ := p
            rw [hs] at h
            simp only at h
            cases hss : stmts text g r with
            | none => rw [hss] at h; cases h
            | some q =>
              obtain ⟨ss', r'⟩ := q
              rw [hss] at h
              simp only [Option.some.injEq, Prod.mk.injEq] at h
              rw [← h.1]
              intro s hsm
              simp only [List.mem_cons] at hsm
              rcases hsm with hsm | hsm
              · rw [hsm]; exact ih1 _ _ _ hks hs
              · have hsx := ((stmt_stmts_suffix text g).1 _ _ _ hs).1
                exact ih2 r ss' r' (hks.suffix hsx) hss s hsm

/-- **Sibling statements of a parsed text stand at different positions**: the top-level statements of
the reference reader's forest have pairwise different (line, col), and so have the substatements of
every statement of it, at any depth. -/
theorem parse_sibDistinct (text : List Char) (forest : List Stmt) (h : parse text = some forest) :
    (forest.map spos).Nodup ∧ ∀ s ∈ forest, SibDistinct s := by
  unfold parse at h
  cases ht : tokenize text with
  | none => rw [ht] at h; cases h
  | some toks =>
    rw [ht] at h
    simp only at h
    unfold parseTokens at h
    split at h
    · rename_i forest' heq
      injection h with h
      rw [← h]
      have hg := good_tokenize text toks ht
      exact ⟨stmts_nodup text _ toks forest' [] hg heq, (stmt_stmts_sib text _).2 toks forest' [] hg heq⟩
    · cases h

/-! ### non-vacuity -/

/-- `a { b; b; }`: the two `b` statements are equal but for their columns -/
example : parse ['a', ' ', '{', ' ', 'b', ';', ' ', 'b', ';', ' ', '}'] =
    some [⟨['a'], none, 1, 1, [⟨['b'], none, 1, 5, []⟩, ⟨['b'], none, 1, 8, []⟩]⟩] := by rfl

end Goyang.Lemmas.AugPosSpec
