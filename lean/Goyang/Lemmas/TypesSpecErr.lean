import Goyang.Lemmas.TypesComplete
import Goyang.Lemmas.TypesSpecBind
import Goyang.Lemmas.TypesSpecChain
/-
The executable specification answers `error` only for a type statement that has no finite
derivation (`¬ Resolvable`): property C09, `spec_exec_error`.
-/
namespace Goyang.Lemmas.TypesSpecErr
open Goyang.Model Goyang.Model.Types Goyang.Spec.Types Goyang.Lemmas.Types Goyang.Lemmas.TypesFuel
  Goyang.Lemmas.TypesDefs Goyang.Lemmas.TypesComplete Goyang.Lemmas.TypesSpecBind Goyang.Lemmas.TypesSpecChain
  Goyang.Lemmas.RegistryAux

theorem finish_error {c : Chain} (h : finish c = .error) : c = .error := by
  unfold finish at h
  split at h
  · split at h <;> cases h
  · rfl
  · cases h

theorem collectMembers_none : ∀ {l : List SRes}, collectMembers l = none → ∃ r ∈ l, r = .error
  | [], h => by simp [collectMembers] at h
  | .error :: _, _ => ⟨.error, List.mem_cons_self, rfl⟩
  | .noClaim w :: rest, h => by
    simp only [collectMembers, Option.map_eq_none_iff] at h
    obtain ⟨r, hr, he⟩ := collectMembers_none h
    exact ⟨r, List.mem_cons_of_mem _ hr, he⟩
  | .ok t :: rest, h => by
    simp only [collectMembers, Option.map_eq_none_iff] at h
    obtain ⟨r, hr, he⟩ := collectMembers_none h
    exact ⟨r, List.mem_cons_of_mem _ hr, he⟩

/-- The typedef a name binds to stands in a loaded (sub)module. -/
theorem binds_root_mem {reg : Registry} {root : Mod} {scope : List Stmt} {name : String} {m : Mod} {td : Stmt}
    {sc : List Stmt} (hroot : root ∈ reg.mods) (h : Binds reg root scope name m td sc) : m ∈ reg.mods := by
  cases h with
  | lexical => exact hroot
  | moduleLevel m td _ _ _ hunit _ =>
    rcases hunit with hstar | ⟨b, o, _, ho, hstar⟩
    · exact includesStar_mem hstar hroot
    · exact includesStar_mem hstar (getModule_mem ho)
  | foreign i ext m td _ _ _ _ hf hstar _ => exact includesStar_mem hstar (findModule_mem hf)

/-- **The executable specification rejects only what the relational one rejects**: for a
`Resolvable` type statement `chainOf` never answers `error` (it answers `ok`, or `noClaim` where
the claim excludes the schema or its own budget ran out). -/
theorem chainOf_not_error (reg : Registry) (hid : SeqId reg) (s0 : Site)
    (hU : UnambiguousBelow reg s0) (hK : KeysIdentify reg s0) :
    ∀ (fuel : Nat) (root : Mod) (scope : List Stmt) (t : Stmt) (vis : List Key),
      root ∈ reg.mods → Resolvable reg root scope t → UsesStar reg s0 (root, scope, t) →
      StackOk reg s0 (root, scope, t) vis → chainOf reg fuel root scope t vis ≠ .error := by
  intro fuel
  induction fuel with
  | zero => intro root scope t vis _ _ _ _ h; simp [chainOf] at h
  | succ fuel ih =>
    intro root scope t vis hroot hres hs0 hst h
    rw [chainOf_succ] at h
    split at h
    · rename_i hc
      exact hst.fresh hU hK hres hs0 (by simpa [typeKey] using hc)
    · have hmem : ∀ ut ∈ t.all "type",
          finish (chainOf reg fuel root (t :: scope) ut ((root.seq, t.line, t.col) :: vis)) ≠ .error := by
        intro ut hut hfe
        have huse : Uses reg (root, scope, t) (root, t :: scope, ut) := Uses.member ut hut
        exact ih root (t :: scope) ut _ hroot (resolvable_member hres hut) (UsesStar.tail hs0 huse) (hst.push hs0 huse) (finish_error hfe)
      split at h
      · rename_i hcm
        obtain ⟨r, hr, hre⟩ := collectMembers_none hcm
        obtain ⟨ut, hut, rfl⟩ := List.mem_map.mp hr
        exact hmem ut hut hre
      · cases hres with
        | builtin hb hm =>
          have hbt : bindType reg root scope t.arg = .builtin t.arg := by unfold bindType; rw [if_pos hb]
          rw [hbt] at h
          simp only at h
          split at h <;> cases h
        | derived m td sc tt hbind htt hbase hm =>
          have huse : Uses reg (root, scope, t) (m, td :: sc, tt) := Uses.base m td sc tt hbind htt
          rcases bindType_complete reg hid root hroot scope t.arg m td sc hbind with hbt | hbt
          · rw [hbt] at h
            simp only at h
            rw [htt] at h
            simp only at h
            split at h
            · split at h <;> cases h
            · rename_i hbe
              exact ih m (td :: sc) tt _ (binds_root_mem hroot hbind) hbase (UsesStar.tail hs0 huse) (hst.push hs0 huse) hbe
            · cases h
          · rw [hbt] at h
            cases h

end Goyang.Lemmas.TypesSpecErr
