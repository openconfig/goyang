import Goyang.Lemmas.IncludeDump
import Goyang.Lemmas.ForestAux
import Goyang.Spec.Augment
/-
C13 (third sentence), piece (E) of `IncludeEqInlineAugments`: the canonical dump of a tree
(`Model/Dump.lean`) is a function of its *path view* — which data (all recorded data but the error
list) sits at which step path (`Entry.getAt`) — as soon as both trees have `KeysUnique` (sibling
names pairwise different, at most one rpc input / output, at every node).  In particular the order
of the children in any `Dir` does not matter (the dump sorts them by name), nor do recorded errors.

`PEq e e'`      : same data at every step path (so also: the same step paths exist);
`dumpTree_peq`  : equal fuel, related nodes, related roots ⇒ equal dumps;
`dumpTree_fuel` : the dump does not depend on the fuel once it exceeds the depth;
`dumpTree_root_peq` : the statement for two whole trees in two forests over one registry.
-/
open Goyang.Lemmas.SortAux (mem_sortBy)
namespace Goyang.Lemmas.IncludeAugDump
open Goyang.Model Goyang.Spec.Tree Goyang.Lemmas.Tree Goyang.Lemmas.IncludeDump Goyang.Spec.Augment

/-! ### the path view -/

/-- One step from a node (what `getAt`, `pathString`, `readOnlyAt`, `stampAt` follow). -/
def next (e : Entry) : Step → Option Entry
  | .child k => e.child? k
  | .input => e.inp.head?
  | .output => e.out.head?

theorem getAt_cons (e : Entry) (s : Step) (p : Path) : e.getAt (s :: p) = (next e s).bind (·.getAt p) := by
  cases s <;> rfl

/-- The data observed at a step path. -/
def dataP (e : Entry) (p : Path) : Option EData := (e.getAt p).map fun x => nodeData x.d

theorem dataP_nil (e : Entry) : dataP e [] = some (nodeData e.d) := rfl

theorem dataP_cons (e : Entry) (s : Step) (p : Path) : dataP e (s :: p) = (next e s).bind fun c => dataP c p := by
  unfold dataP
  rw [getAt_cons]
  cases next e s <;> rfl

/-- Same path view: the same data at every step path. -/
def PEq (e e' : Entry) : Prop := ∀ p, dataP e p = dataP e' p

theorem PEq.refl (e : Entry) : PEq e e := fun _ => rfl
theorem PEq.symm {e e' : Entry} (h : PEq e e') : PEq e' e := fun p => (h p).symm
theorem PEq.trans {a b c : Entry} (h : PEq a b) (h' : PEq b c) : PEq a c := fun p => (h p).trans (h' p)

theorem PEq.data {e e' : Entry} (h : PEq e e') : nodeData e.d = nodeData e'.d := by
  have := h []
  rw [dataP_nil, dataP_nil] at this
  exact Option.some.inj this

theorem PEq.next {e e' : Entry} (h : PEq e e') (s : Step) :
    (next e s = none ∧ next e' s = none) ∨ ∃ c c', next e s = some c ∧ next e' s = some c' ∧ PEq c c' := by
  have h0 := h [s]
  rw [dataP_cons, dataP_cons] at h0
  cases hc : IncludeAugDump.next e s with
  | none =>
    cases hc' : IncludeAugDump.next e' s with
    | none => exact Or.inl ⟨rfl, rfl⟩
    | some c' => rw [hc, hc'] at h0; simp [dataP_nil] at h0
  | some c =>
    cases hc' : IncludeAugDump.next e' s with
    | none => rw [hc, hc'] at h0; simp [dataP_nil] at h0
    | some c' =>
      refine Or.inr ⟨c, c', rfl, rfl, fun p => ?_⟩
      have := h (s :: p)
      rw [dataP_cons, dataP_cons, hc, hc'] at this
      exact this

theorem PEq.field {α} (f : EData → α) (hf : ∀ d, f (nodeData d) = f d) {e e' : Entry} (h : PEq e e') : f e.d = f e'.d := by
  rw [← hf e.d, ← hf e'.d, h.data]

theorem PEq.name {e e' : Entry} (h : PEq e e') : e.name = e'.name := h.field EData.name fun _ => rfl

theorem PEq.DF {e e' : Entry} (h : PEq e e') : IncludeDump.DF e.d e'.d :=
  ⟨h.field EData.kind fun _ => rfl, h.field EData.hasDir fun _ => rfl, h.field EData.isRpc fun _ => rfl,
   h.field EData.config fun _ => rfl, h.field EData.mandatory fun _ => rfl, h.field EData.default fun _ => rfl,
   h.field EData.units fun _ => rfl, h.field EData.key fun _ => rfl, h.field EData.listAttr fun _ => rfl,
   h.field EData.type fun _ => rfl⟩

/-! ### what the dump reads along the path from the root -/

/-- A walk down a path that reads the nodes only through their path view gives the same answer on two trees with the
same path view: `upd` is the accumulator on the way down, `fin` the result where the walk ends. -/
theorem pathWalk_peq {A : Type} (go : Entry → Path → A → A) (upd : Entry → Entry → A → A) (fin : Entry → A → A)
    (hnil : ∀ e a, go e [] a = fin e a)
    (hcons : ∀ e s rest a, go e (s :: rest) a =
      match IncludeAugDump.next e s with
      | some c => go c rest (upd e c a)
      | none => fin e a)
    (hupd : ∀ e e' c c' a, PEq e e' → PEq c c' → upd e c a = upd e' c' a)
    (hfin : ∀ e e' a, PEq e e' → fin e a = fin e' a) :
    ∀ (p : Path) (e e' : Entry) (a : A), PEq e e' → go e p a = go e' p a
  | [], e, e', a, h => by rw [hnil, hnil, hfin e e' a h]
  | s :: rest, e, e', a, h => by
    rw [hcons, hcons]
    rcases h.next s with ⟨h1, h2⟩ | ⟨c, c', h1, h2, hc⟩
    · rw [h1, h2]; exact hfin e e' a h
    · rw [h1, h2]
      simp only [hupd e e' c c' a h hc]
      exact pathWalk_peq go upd fin hnil hcons hupd hfin rest c c' _ hc

theorem pathString_peq {t t' : Entry} (h : PEq t t') (p : Path) : t.pathString p = t'.pathString p := by
  unfold Entry.pathString
  rw [h.name]
  exact pathWalk_peq Entry.pathString.go (fun _ c a => a ++ "/" ++ c.name) (fun _ a => a) (fun _ _ => rfl)
    (fun _ s _ _ => by cases s <;> rfl) (fun _ _ _ _ _ _ hc => by simp only [hc.name]) (fun _ _ _ _ => rfl) p t t' _ h

/-- `ReadOnly()` at one node, given the parent's answer. -/
def roHere (d : EData) (inh : Bool) : Bool :=
  if d.kind == .output then true
  else match d.config with
    | .unset => inh
    | .true_ => false
    | .false_ => true

theorem roHere_peq {e e' : Entry} (h : PEq e e') (inh : Bool) : roHere e.d inh = roHere e'.d inh := by
  unfold roHere
  rw [h.field EData.kind fun _ => rfl, h.field EData.config fun _ => rfl]

theorem readOnlyAt_peq {t t' : Entry} (h : PEq t t') (p : Path) : t.readOnlyAt p = t'.readOnlyAt p :=
  pathWalk_peq Entry.readOnlyAt.go (fun e _ a => roHere e.d a) (fun e a => roHere e.d a) (fun _ _ => rfl)
    (fun _ s _ _ => by cases s <;> rfl) (fun _ _ _ _ a he _ => roHere_peq he a) (fun _ _ a he => roHere_peq he a) p t t' false h

theorem stampAt_peq {t t' : Entry} (h : PEq t t') (p : Path) : t.stampAt p = t'.stampAt p :=
  pathWalk_peq Entry.stampAt.go (fun _ c a => match c.d.ns with | some n => some n | none => a) (fun _ a => a)
    (fun _ _ => rfl) (fun _ s _ _ => by cases s <;> rfl)
    (fun _ _ _ _ _ _ hc => by simp only [hc.field EData.ns fun _ => rfl]) (fun _ _ _ _ => rfl) p t t' none h

theorem namespaceAt_peq (reg : Registry) {f f' : Forest} {id : Nat} {t t' : Entry} (ht : f.tree? id = some t)
    (ht' : f'.tree? id = some t') (h : PEq t t') (p : Path) : namespaceAt reg f (id, p) = namespaceAt reg f' (id, p) := by
  unfold namespaceAt
  simp only [ht, ht', stampAt_peq h p]

theorem instAt_of_ns (reg : Registry) (f f' : Forest) (loc : Loc) (h : namespaceAt reg f loc = namespaceAt reg f' loc) :
    instantiatingModuleAt reg f loc = instantiatingModuleAt reg f' loc := by
  unfold instantiatingModuleAt
  simp only [h]

/-- Related roots: everything the dump reads besides the node agrees (`IncludeDump.DW`, one registry). -/
theorem dw_of_peq (reg : Registry) {f f' : Forest} {id : Nat} {t t' : Entry} (ht : f.tree? id = some t)
    (ht' : f'.tree? id = some t') (h : PEq t' t) : IncludeDump.DW reg reg f f' t' t id where
  ro p := readOnlyAt_peq h p
  ns p := namespaceAt_peq reg ht' ht h p
  im p := instAt_of_ns reg f' f _ (namespaceAt_peq reg ht' ht h p)
  ps p := pathString_peq h p

/-! ### the sorted children -/

def strLt : String → String → Bool := fun a b => a < b

theorem find?_key_of_nodup {α κ : Type} [BEq κ] [LawfulBEq κ] (key : α → κ) :
    ∀ (l : List α), (l.map key).Nodup → ∀ c ∈ l, l.find? (key · == key c) = some c
  | [], _, c, hc => by cases hc
  | x :: xs, h, c, hc => by
    rw [List.map_cons, List.nodup_cons] at h
    rcases List.mem_cons.1 hc with rfl | hc
    · simp
    · have hne : (key x == key c) = false := by
        rw [beq_eq_false_iff_ne]
        intro e
        exact h.1 (e ▸ List.mem_map_of_mem (f := key) hc)
      rw [List.find?_cons, hne]
      exact find?_key_of_nodup key xs h.2 c hc

theorem find?_self_of_nodup (l : List Entry) (h : (l.map (·.name)).Nodup) (c : Entry) (hc : c ∈ l) :
    l.find? (·.name == c.name) = some c :=
  find?_key_of_nodup (·.name) l h c hc

/-- With distinct names, the children in name order are the children looked up by the sorted names. -/
theorem sorted_dir_eq (l : List Entry) (hnd : (l.map (·.name)).Nodup) :
    sortBy nameLt l = (sortBy strLt (l.map (·.name))).filterMap fun k => l.find? (·.name == k) := by
  have hs : sortBy strLt (l.map (·.name)) = (sortBy nameLt l).map (·.name) :=
    SortAux.sortBy_map (·.name) strLt nameLt l (fun _ _ _ _ => rfl)
  rw [hs, List.filterMap_map]
  have key : ∀ s : List Entry, (∀ c ∈ s, c ∈ l) →
      s.filterMap ((fun k => l.find? (·.name == k)) ∘ fun c : Entry => c.name) = s := by
    intro s
    induction s with
    | nil => intro _; rfl
    | cons a s ih =>
      intro hs
      rw [List.filterMap_cons]
      simp only [Function.comp, find?_self_of_nodup l hnd a (hs a (List.mem_cons_self ..))]
      rw [ih fun c hc => hs c (List.mem_cons_of_mem _ hc)]
  exact (key _ fun c hc => (mem_sortBy _ c l).1 hc).symm

theorem strLt_sort_perm {l₁ l₂ : List String} (hp : l₁.Perm l₂) : sortBy strLt l₁ = sortBy strLt l₂ := by
  refine SortUnique.sortBy_perm_invariant strLt (fun a => by unfold strLt; simp) ?_ hp ?_
  · intro a b c h1 h2
    unfold strLt at *
    simp only [decide_eq_true_eq] at *
    exact String.lt_trans h1 h2
  · intro a _ b _ hab
    unfold strLt
    simp only [decide_eq_true_eq]
    exact OrderIndep.str_total hab

theorem mem_names_iff (e : Entry) (k : String) : k ∈ e.dir.map (·.name) ↔ (e.child? k).isSome = true := by
  unfold Entry.child?
  rw [List.find?_isSome]
  constructor
  · intro h
    obtain ⟨c, hc, rfl⟩ := List.mem_map.1 h
    exact ⟨c, hc, by simp⟩
  · rintro ⟨c, hc, h⟩
    have : c.name = k := by simpa using h
    exact this ▸ List.mem_map_of_mem (f := fun y : Entry => y.name) hc

theorem PEq.child {e e' : Entry} (h : PEq e e') (k : String) :
    (e.child? k = none ∧ e'.child? k = none) ∨ ∃ c c', e.child? k = some c ∧ e'.child? k = some c' ∧ PEq c c' :=
  h.next (.child k)

theorem PEq.names_perm {e e' : Entry} (h : PEq e e') (hnd : (e.dir.map (·.name)).Nodup) (hnd' : (e'.dir.map (·.name)).Nodup) :
    (e.dir.map (·.name)).Perm (e'.dir.map (·.name)) := by
  rw [List.perm_ext_iff_of_nodup hnd hnd']
  intro k
  rw [mem_names_iff, mem_names_iff]
  rcases h.child k with ⟨h1, h2⟩ | ⟨c, c', h1, h2, _⟩ <;> rw [h1, h2] <;> simp

theorem filterMap_map_congr {α β γ γ' : Type} (g : α → Option γ) (g' : α → Option γ') (F : γ → β) (F' : γ' → β)
    (h : ∀ k, (g k).map F = (g' k).map F') : ∀ N : List α, (N.filterMap g).map F = (N.filterMap g').map F'
  | [] => rfl
  | k :: N => by
    have ih := filterMap_map_congr g g' F F' h N
    have hk := h k
    rw [List.filterMap_cons, List.filterMap_cons]
    cases hg : g k with
    | none =>
      cases hg' : g' k with
      | none => simpa using ih
      | some y => rw [hg, hg'] at hk; simp at hk
    | some x =>
      cases hg' : g' k with
      | none => rw [hg, hg'] at hk; simp at hk
      | some y =>
        rw [hg, hg'] at hk
        simp only [Option.map_some, Option.some.injEq] at hk
        simp only [List.map_cons, hk, ih]

/-! ### `KeysUnique` one level down -/

theorem keysUnique_sub {e : Entry} (h : KeysUnique e) :
    (e.dir.map (·.name)).Nodup ∧ e.inp.length ≤ 1 ∧ e.out.length ≤ 1 ∧ (∀ x ∈ e.dir, KeysUnique x) ∧ (∀ x ∈ e.inp, KeysUnique x) ∧
      (∀ x ∈ e.out, KeysUnique x) := by
  cases e with | mk d c i o =>
  unfold KeysUnique at h
  rw [everyNode_mk, keysUniqueHere_iff] at h
  exact ⟨h.1.1, h.1.2.1, h.1.2.2, h.2.1, h.2.2.1, h.2.2.2⟩

theorem child?_mem {e c : Entry} {k : String} (h : e.child? k = some c) : c ∈ e.dir := List.mem_of_find?_eq_some h

/-- At most one element: the list is its head. -/
theorem eq_head_of_le_one {α} : ∀ (l : List α), l.length ≤ 1 → l = l.head?.toList
  | [], _ => rfl
  | [_], _ => rfl
  | _ :: _ :: _, h => by simp at h

/-! ### the walk -/

/-- **Equal fuel, related nodes below related roots: equal dumps.** -/
theorem dumpTree_peq {reg : Registry} {f f' : Forest} {t' t : Entry} {id : Nat} (hW : IncludeDump.DW reg reg f f' t' t id)
    (nm : String) : ∀ (fuel : Nat) (p : Path) (e' e : Entry), PEq e' e → KeysUnique e' → KeysUnique e →
    dumpTree reg f' nm t' id fuel p e' = dumpTree reg f nm t id fuel p e := by
  intro fuel
  induction fuel with
  | zero => intros; rfl
  | succ fuel ih =>
    intro p e' e h hk' hk
    rw [dumpTree_succ, dumpTree_succ, dumpNode_eq hW nm p e' e h.DF]
    obtain ⟨nd', li', lo', kd', ki', ko'⟩ := keysUnique_sub hk'
    obtain ⟨nd, li, lo, kd, ki, ko⟩ := keysUnique_sub hk
    -- the children in `Dir`
    have h1 : ((sortBy nameLt e'.dir).map fun c => dumpTree reg f' nm t' id fuel (p ++ [.child c.name]) c) =
        ((sortBy nameLt e.dir).map fun c => dumpTree reg f nm t id fuel (p ++ [.child c.name]) c) := by
      rw [sorted_dir_eq _ nd', sorted_dir_eq _ nd, strLt_sort_perm (h.names_perm nd' nd)]
      apply filterMap_map_congr
      intro k
      show (e'.child? k).map _ = (e.child? k).map _
      rcases h.child k with ⟨k1, k2⟩ | ⟨c', c, k1, k2, hc⟩
      -- (closed by rewriting: `rfl` would have the kernel compare the two closures first, unfolding `dumpTree`)
      · rw [k1, k2, Option.map_none, Option.map_none]
      · rw [k1, k2]
        simp only [Option.map_some, ForestAux.child?_name k1, ForestAux.child?_name k2]
        rw [ih _ c' c hc (kd' c' (child?_mem k1)) (kd c (child?_mem k2))]
    -- rpc input and output
    have hio : ∀ (s : Step) (l' l : List Entry), l'.length ≤ 1 → l.length ≤ 1 → (∀ x ∈ l', KeysUnique x) →
        (∀ x ∈ l, KeysUnique x) →
        ((l'.head? = none ∧ l.head? = none) ∨ ∃ c' c, l'.head? = some c' ∧ l.head? = some c ∧ PEq c' c) →
        (l'.map fun c => dumpTree reg f' nm t' id fuel (p ++ [s]) c) = l.map fun c => dumpTree reg f nm t id fuel (p ++ [s]) c := by
      intro s l' l hl' hl hu' hu hrel
      rw [eq_head_of_le_one l' hl', eq_head_of_le_one l hl]
      rcases hrel with ⟨k1, k2⟩ | ⟨c', c, k1, k2, hc⟩
      · rw [k1, k2, Option.toList_none, List.map_nil, List.map_nil]
      · rw [k1, k2]
        simp only [Option.toList_some, List.map_cons, List.map_nil]
        rw [ih _ c' c hc (hu' c' (List.mem_of_mem_head? k1)) (hu c (List.mem_of_mem_head? k2))]
    rw [h1, hio .input e'.inp e.inp li' li ki' ki (h.next .input), hio .output e'.out e.out lo' lo ko' ko (h.next .output)]

/-! ### the fuel -/

theorem depth_le_depthL : ∀ (l : List Entry) (c : Entry), c ∈ l → entryDepth c ≤ entryDepth.depthL l
  | [], _, h => by cases h
  | x :: xs, c, h => by
    simp only [entryDepth.depthL]
    rcases List.mem_cons.1 h with rfl | h
    · omega
    · have := depth_le_depthL xs c h
      omega

theorem entryDepth_lt {e c : Entry} (h : c ∈ e.dir ∨ c ∈ e.inp ∨ c ∈ e.out) : entryDepth c < entryDepth e := by
  cases e with | mk d cs i o =>
  simp only [entryDepth, Entry.dir, Entry.inp, Entry.out] at h ⊢
  rcases h with h | h | h <;> have := depth_le_depthL _ c h <;> omega

/-- The dump does not depend on the fuel once it is at least the depth. -/
theorem dumpTree_fuel (reg : Registry) (f : Forest) (nm : String) (root : Entry) (id : Nat) :
    ∀ (fuel fuel' : Nat) (p : Path) (e : Entry), entryDepth e ≤ fuel → entryDepth e ≤ fuel' →
      dumpTree reg f nm root id fuel p e = dumpTree reg f nm root id fuel' p e := by
  intro fuel
  induction fuel with
  | zero => intro _ _ e h; cases e; simp only [entryDepth] at h; omega
  | succ fuel ih =>
    intro fuel' p e h h'
    cases fuel' with
    | zero => cases e; simp only [entryDepth] at h'; omega
    | succ fuel' =>
      have step : ∀ (l : List Entry) (g : Entry → Path), (∀ x ∈ l, entryDepth x < entryDepth e) →
          (l.map fun x => dumpTree reg f nm root id fuel (g x) x) = l.map fun x => dumpTree reg f nm root id fuel' (g x) x :=
        fun l g hl => List.map_congr_left fun x hx => ih fuel' _ x (by have := hl x hx; omega) (by have := hl x hx; omega)
      rw [dumpTree_succ, dumpTree_succ,
        step (sortBy nameLt e.dir) _ fun x hx => entryDepth_lt (.inl ((mem_sortBy _ x _).1 hx)),
        step e.inp _ fun x hx => entryDepth_lt (.inr (.inl hx)), step e.out _ fun x hx => entryDepth_lt (.inr (.inr hx))]

/-- **The canonical dump of a whole tree is a function of its path view**: two trees of two forests
over one registry, filed under the same module number, with the same data at every step path and
`KeysUnique`, have the same dump. -/
theorem dumpTree_root_peq (reg : Registry) {f f' : Forest} {id : Nat} {t t' : Entry} (ht : f.tree? id = some t)
    (ht' : f'.tree? id = some t') (h : PEq t' t) (hk' : KeysUnique t') (hk : KeysUnique t) (nm : String) :
    dumpTree reg f' nm t' id (entryDepth t' + 1) [] t' = dumpTree reg f nm t id (entryDepth t + 1) [] t := by
  have hW := dw_of_peq reg ht ht' h
  rw [dumpTree_fuel reg f' nm t' id (entryDepth t' + 1) (max (entryDepth t') (entryDepth t) + 1) [] t' (by omega) (by omega),
    dumpTree_fuel reg f nm t id (entryDepth t + 1) (max (entryDepth t') (entryDepth t) + 1) [] t (by omega) (by omega)]
  exact dumpTree_peq hW nm _ [] t' t h hk' hk

/-! ### the order of the children does not matter -/

theorem find?_perm_nodup {l' l : List Entry} (hp : l'.Perm l) (hnd : (l.map (·.name)).Nodup) (k : String) :
    l'.find? (·.name == k) = l.find? (·.name == k) := by
  have hnd' : (l'.map (·.name)).Nodup := ((hp.map _).nodup_iff).2 hnd
  cases hf : l.find? (·.name == k) with
  | some c =>
    have hc : c ∈ l := List.mem_of_find?_eq_some hf
    have hn : c.name = k := by simpa using List.find?_some hf
    rw [← hn]
    exact find?_self_of_nodup l' hnd' c (hp.mem_iff.2 hc)
  | none =>
    rw [List.find?_eq_none] at hf ⊢
    intro x hx
    exact hf x (hp.mem_iff.1 hx)

/-- Permuting the children of the root (distinct names) and changing its recorded errors keeps the path view. -/
theorem peq_of_dir_perm (d' d : EData) (c' c i o : List Entry) (hd : nodeData d' = nodeData d) (hp : c'.Perm c)
    (hnd : (c.map (·.name)).Nodup) : PEq (.mk d' c' i o) (.mk d c i o) := by
  intro p
  cases p with
  | nil => rw [dataP_nil, dataP_nil]; exact congrArg some hd
  | cons s q =>
    rw [dataP_cons, dataP_cons]
    have : IncludeAugDump.next (.mk d' c' i o) s = IncludeAugDump.next (.mk d c i o) s := by
      cases s with
      | child k => exact find?_perm_nodup hp hnd k
      | input => rfl
      | output => rfl
    rw [this]

end Goyang.Lemmas.IncludeAugDump
