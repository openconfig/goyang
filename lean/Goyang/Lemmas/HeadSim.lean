/-
`ParseSim` with the first error tracked: two token sources in step make the (generic) parser model
return the same forest — or both runs end with an error written, and the first error line is the
same on both sides (for the error lines in `G`).
-/
import Goyang.Lemmas.ParseSim

namespace Goyang.Lemmas.HeadSim
open Goyang.Model.Lex (Token Code ErrLine ErrClass Fault)
open Goyang.Model.Parse
open Goyang.Lemmas.ParseSim

/-- the first error written is `e` -/
def HasHead {σ : Type} (S : Source σ) (e : ErrLine) (p : Parser σ) : Prop := (S.errs p.src).head? = some e

/-- the first error line written stays the first, and an error added to none is the first -/
structure HMono {σ : Type} (S : Source σ) : Prop where
  pull : ∀ e b s, (S.errs s).head? = some e → (S.errs (S.pull b s).2).head? = some e
  add : ∀ e' e s, (S.errs s).head? = some e → (S.errs (S.addErr e' s)).head? = some e
  addNil : ∀ e s, S.errs s = [] → (S.errs (S.addErr e s)).head? = some e

/-! ## points inside the parser's functions where two runs may part

`ParseSim` has, for a property `Q` that no step of the parser loses (`Kept`), the lemmas from the start of each
function and from behind its first call; the simulation below also stands behind the second fetch of
`concatLoop`, behind `fetchArg` in `nextStatement`, and behind `nextStatement` in the two loops. -/

section kept
variable {σ : Type} {S : Source σ} {Q : Parser σ → Prop}

theorem concatLoop_tail_kept (hK : Kept S Q) (b : Bool) (f : Nat) (T nt : Token) (r2 : Option Token × Parser σ)
    (h : Q r2.2) :
    Q (match r2.1 with
       | none => (T, push [nt] r2.2)
       | some nnt =>
         if nnt.code = Code.string then concatLoop S b f { T with text := T.text ++ nnt.text } r2.2
         else (T, push [nnt, nt] r2.2)).2 := by
  split
  · exact hK.push _ _ h
  · split
    · exact concatLoop_kept hK b f _ _ h
    · exact hK.push _ _ h

theorem nextStatement_tail_kept (hK : Kept S Q) (f : Nat) (t : Token)
    (a : (Bool × List UInt8) × Option Token × Parser σ) (h : Q a.2.2) :
    Q (match a.2.1 with
       | none => (NS.eof, addErr S { file := t.file, pos := none, cls := .unexpectedEOF } a.2.2)
       | some e =>
         if e.code = Code.punct 59 then (NS.stmt (mkStmt t a.1 []), a.2.2)
         else if e.code = Code.punct 123 then
           match (blockLoop S f [] (setDepth (a.2.2.depth + 1) a.2.2)).1 with
           | none => (NS.eof, (blockLoop S f [] (setDepth (a.2.2.depth + 1) a.2.2)).2)
           | some subs => (NS.stmt (mkStmt t a.1 subs), (blockLoop S f [] (setDepth (a.2.2.depth + 1) a.2.2)).2)
         else (NS.stmt ignoreMe, addErr S (tokenErr e .expectedSemiOrBrace) a.2.2)).2 := by
  split
  · exact hK.addErr _ _ h
  · split
    · exact h
    · split
      · have h3 := (stmt_block_kept hK f).2 [] _ (hK.depth (a.2.2.depth + 1) _ h)
        split <;> exact h3
      · exact hK.addErr _ _ h

theorem blockLoop_kept_of_stmt (hK : Kept S Q) (f : Nat) (acc : List Statement) (p : Parser σ)
    (h : Q (nextStatement S f p).2) : Q (blockLoop S (f + 1) acc p).2 := by
  unfold blockLoop
  simp only
  split
  · exact h
  · exact h
  · exact (stmt_block_kept hK f).2 _ _ h

theorem topLoop_kept_of_stmt (hK : Kept S Q) (f : Nat) (acc : List Statement) (p : Parser σ)
    (h : Q (nextStatement S f p).2) : Q (topLoop S (f + 1) acc p).2 := by
  unfold topLoop
  simp only
  split
  · exact h
  · exact topLoop_kept hK f _ _ (hK.addErr _ _ h)
  · exact topLoop_kept hK f _ _ h

end kept


section mono
variable {σ : Type} {S : Source σ}

theorem kept_head (hH : HMono S) (e : ErrLine) : Kept S (HasHead S e) :=
  ⟨fun b p h => hH.pull e b p.src h, fun e' p h => hH.add e' e p.src h, fun _ _ h => h, fun _ _ h => h,
    fun _ _ h => h, fun _ h => h⟩

theorem addErr_head (hH : HMono S) (e : ErrLine) (e' : ErrLine) (p : Parser σ) (h : HasHead S e p) :
    HasHead S e (addErr S e' p) := hH.add e' e p.src h

theorem concatLoop_head (hH : HMono S) (e : ErrLine) (b : Bool) : ∀ (f : Nat) (T : Token) (p : Parser σ),
    HasHead S e p → HasHead S e (concatLoop S b f T p).2 :=
  concatLoop_kept (kept_head hH e) b

theorem stmt_block_head (hH : HMono S) (e : ErrLine) : ∀ (f : Nat),
    (∀ (p : Parser σ), HasHead S e p → HasHead S e (nextStatement S f p).2) ∧
    (∀ (acc : List Statement) (p : Parser σ), HasHead S e p → HasHead S e (blockLoop S f acc p).2) :=
  stmt_block_kept (kept_head hH e)

theorem topLoop_head (hH : HMono S) (e : ErrLine) : ∀ (f : Nat) (acc : List Statement) (p : Parser σ),
    HasHead S e p → HasHead S e (topLoop S f acc p).2 :=
  topLoop_kept (kept_head hH e)

/-- a first error written by the first fetch of a statement stays -/
theorem nextStatement_head_of_next (hH : HMono S) (e : ErrLine) (f : Nat) (p : Parser σ)
    (h1 : HasHead S e (next S false f p).2) : HasHead S e (nextStatement S (f + 1) p).2 :=
  nextStatement_kept_of_next (kept_head hH e) (stmt_block_kept (kept_head hH e) f).2 p h1

theorem fetchArg_head_of_next (hH : HMono S) (e : ErrLine) (kw : Token) (f : Nat) (p : Parser σ)
    (h1 : HasHead S e (next S (kw.text = patternKw) f p).2) : HasHead S e (fetchArg S kw f p).2.2 :=
  fetchArg_kept_of_next (kept_head hH e) kw f p h1

theorem next_head_of_pull (hH : HMono S) (e : ErrLine) (b : Bool) (f : Nat) (p : Parser σ) (ht : p.tokens = [])
    (h1 : HasHead S e (pullTok S b p).2) : HasHead S e (next S b f p).2 :=
  next_kept_of_pull (kept_head hH e) b f p ht h1

end mono

/-! ## two sources in step -/

/-- `R` relates states of two sources that have not written an error and will hand out the same
tokens until one of them does; when the second one writes its first error `e`, the first one writes
an error too, and that is `e` if `G e` -/
structure HSim {σ₁ σ₂ : Type} (S₁ : Source σ₁) (S₂ : Source σ₂) (R : σ₁ → σ₂ → Prop) (G : ErrLine → Prop) : Prop where
  clean : ∀ s₁ s₂, R s₁ s₂ → S₁.errs s₁ = [] ∧ S₂.errs s₂ = []
  fault : ∀ s₁ s₂, R s₁ s₂ → S₁.fault s₁ = .none ∧ S₂.fault s₂ = .none
  pull : ∀ b s₁ s₂, R s₁ s₂ →
    ((S₁.pull b s₁).1 = (S₂.pull b s₂).1 ∧ R (S₁.pull b s₁).2 (S₂.pull b s₂).2) ∨
    (∃ e, (S₂.errs (S₂.pull b s₂).2).head? = some e ∧ S₁.errs (S₁.pull b s₁).2 ≠ [] ∧
      (G e → (S₁.errs (S₁.pull b s₁).2).head? = some e))

/-- both have written an error; the second one's first error is `e`, and so is the first one's if `G e` -/
def Same {σ₁ σ₂ : Type} (S₁ : Source σ₁) (S₂ : Source σ₂) (G : ErrLine → Prop) (p₁ : Parser σ₁) (p₂ : Parser σ₂) : Prop :=
  ∃ e, HasHead S₂ e p₂ ∧ Bad S₁ p₁ ∧ (G e → HasHead S₁ e p₁)

section sim
variable {σ₁ σ₂ : Type} {S₁ : Source σ₁} {S₂ : Source σ₂} {R : σ₁ → σ₂ → Prop} {G : ErrLine → Prop}

theorem pullTok_hsim (hS : HSim S₁ S₂ R G) (b : Bool) (p₁ : Parser σ₁) (p₂ : Parser σ₂) (h : PR R p₁ p₂) :
    ((pullTok S₁ b p₁).1 = (pullTok S₂ b p₂).1 ∧ PR R (pullTok S₁ b p₁).2 (pullTok S₂ b p₂).2) ∨
    Same S₁ S₂ G (pullTok S₁ b p₁).2 (pullTok S₂ b p₂).2 := by
  unfold pullTok
  simp only
  rcases hS.pull b _ _ h.src with ⟨h1, h2⟩ | ⟨e, k2, kb, kg⟩
  · exact Or.inl ⟨h1, ⟨h2, h.tokens, h.depth, h.fault⟩⟩
  · exact Or.inr ⟨e, k2, kb, kg⟩

theorem setDepth_sim (d : Int) {p₁ : Parser σ₁} {p₂ : Parser σ₂} (r : PR R p₁ p₂) :
    PR R (setDepth (p₁.depth + d) p₁) (setDepth (p₂.depth + d) p₂) :=
  ⟨r.src, r.tokens, by unfold setDepth; simp only; rw [r.depth], r.fault⟩

theorem Same.kept (hM₁ : Mono S₁) (hH₁ : HMono S₁) (hH₂ : HMono S₂) {p₁ p₁' : Parser σ₁} {p₂ p₂' : Parser σ₂}
    (h : Same S₁ S₂ G p₁ p₂) (k₁ : ∀ Q, Kept S₁ Q → Q p₁ → Q p₁')
    (k₂ : ∀ Q, Kept S₂ Q → Q p₂ → Q p₂') : Same S₁ S₂ G p₁' p₂' := by
  obtain ⟨e, h2, hb, hg⟩ := h
  exact ⟨e, k₂ _ (kept_head hH₂ e) h2, k₁ _ (kept_bad hM₁) hb, fun g => k₁ _ (kept_head hH₁ e) (hg g)⟩

/-- the parser adds the same error on both sides while the sources are still in step -/
theorem addErr_same (hS : HSim S₁ S₂ R G) (hM₁ : Mono S₁) (hH₁ : HMono S₁) (hH₂ : HMono S₂) (e : ErrLine)
    (p₁ : Parser σ₁) (p₂ : Parser σ₂) (r : PR R p₁ p₂) :
    Same S₁ S₂ G (addErr S₁ e p₁) (addErr S₂ e p₂) :=
  ⟨e, hH₂.addNil e p₂.src (hS.clean _ _ r.src).2, hM₁.add e p₁.src,
    fun _ => hH₁.addNil e p₁.src (hS.clean _ _ r.src).1⟩

theorem concatLoop_hsim (hS : HSim S₁ S₂ R G) (hM₁ : Mono S₁) (hH₁ : HMono S₁) (hH₂ : HMono S₂) (b : Bool) :
    ∀ (f : Nat) (T : Token) (p₁ : Parser σ₁) (p₂ : Parser σ₂), PR R p₁ p₂ →
    ((concatLoop S₁ b f T p₁).1 = (concatLoop S₂ b f T p₂).1 ∧
        PR R (concatLoop S₁ b f T p₁).2 (concatLoop S₂ b f T p₂).2) ∨
    Same S₁ S₂ G (concatLoop S₁ b f T p₁).2 (concatLoop S₂ b f T p₂).2 := by
  intro f
  induction f with
  | zero =>
    intro T p₁ p₂ h
    unfold concatLoop
    exact Or.inl ⟨rfl, ⟨h.src, h.tokens, h.depth, by simp⟩⟩
  | succ f ih =>
    intro T p₁ p₂ h
    rcases pullTok_hsim hS b p₁ p₂ h with ⟨e1, r1⟩ | hs
    · unfold concatLoop
      simp only
      rw [e1]
      split
      · exact Or.inl ⟨rfl, r1⟩
      · rename_i nt _
        split
        · split
          · exact Or.inl ⟨rfl, push_sim _ _ _ r1⟩
          · rcases pullTok_hsim hS b _ _ r1 with ⟨e2, r2⟩ | hs
            · rw [e2]
              split
              · exact Or.inl ⟨rfl, push_sim _ _ _ r2⟩
              · split
                · exact ih _ _ _ r2
                · exact Or.inl ⟨rfl, push_sim _ _ _ r2⟩
            · exact Or.inr (hs.kept hM₁ hH₁ hH₂
                (fun _ hK => concatLoop_tail_kept hK b f T nt _)
                (fun _ hK => concatLoop_tail_kept hK b f T nt _))
        · exact Or.inl ⟨rfl, push_sim _ _ _ r1⟩
    · exact Or.inr (hs.kept hM₁ hH₁ hH₂
        (fun _ hK => concatLoop_kept_of_pull hK b f (concatLoop_kept hK b f) T p₁)
        (fun _ hK => concatLoop_kept_of_pull hK b f (concatLoop_kept hK b f) T p₂))

theorem next_hsim (hS : HSim S₁ S₂ R G) (hM₁ : Mono S₁) (hH₁ : HMono S₁) (hH₂ : HMono S₂) (b : Bool) (f : Nat)
    (p₁ : Parser σ₁) (p₂ : Parser σ₂) (h : PR R p₁ p₂) :
    ((next S₁ b f p₁).1 = (next S₂ b f p₂).1 ∧ PR R (next S₁ b f p₁).2 (next S₂ b f p₂).2) ∨
    Same S₁ S₂ G (next S₁ b f p₁).2 (next S₂ b f p₂).2 := by
  cases ht : p₂.tokens with
  | cons t ts =>
    have ht1 : p₁.tokens = t :: ts := h.tokens.trans ht
    unfold next
    rw [ht, ht1]
    exact Or.inl ⟨rfl, ⟨h.src, rfl, h.depth, h.fault⟩⟩
  | nil =>
    have ht1 : p₁.tokens = [] := h.tokens.trans ht
    rcases pullTok_hsim hS b p₁ p₂ h with ⟨e1, r1⟩ | hs
    · unfold next
      rw [ht, ht1]
      simp only
      rw [e1]
      split
      · exact Or.inl ⟨rfl, r1⟩
      · split
        · rcases concatLoop_hsim hS hM₁ hH₁ hH₂ b f _ _ _ r1 with ⟨e2, r2⟩ | hb
          · exact Or.inl ⟨by rw [e2], r2⟩
          · exact Or.inr hb
        · exact Or.inl ⟨rfl, r1⟩
    · exact Or.inr (hs.kept hM₁ hH₁ hH₂ (fun _ hK => next_kept_of_pull hK b f p₁ ht1)
        (fun _ hK => next_kept_of_pull hK b f p₂ ht))

theorem fetchArg_hsim (hS : HSim S₁ S₂ R G) (hM₁ : Mono S₁) (hH₁ : HMono S₁) (hH₂ : HMono S₂) (kw : Token) (f : Nat)
    (p₁ : Parser σ₁) (p₂ : Parser σ₂) (h : PR R p₁ p₂) :
    ((fetchArg S₁ kw f p₁).1 = (fetchArg S₂ kw f p₂).1 ∧ (fetchArg S₁ kw f p₁).2.1 = (fetchArg S₂ kw f p₂).2.1 ∧
        PR R (fetchArg S₁ kw f p₁).2.2 (fetchArg S₂ kw f p₂).2.2) ∨
    Same S₁ S₂ G (fetchArg S₁ kw f p₁).2.2 (fetchArg S₂ kw f p₂).2.2 := by
  rcases next_hsim hS hM₁ hH₁ hH₂ (kw.text = patternKw) f p₁ p₂ h with ⟨e1, r1⟩ | hs
  · unfold fetchArg
    simp only
    rw [e1]
    split
    · split
      · rcases next_hsim hS hM₁ hH₁ hH₂ false f _ _ r1 with ⟨e2, r2⟩ | hb
        · exact Or.inl ⟨rfl, e2, r2⟩
        · exact Or.inr hb
      · exact Or.inl ⟨rfl, rfl, r1⟩
    · exact Or.inl ⟨rfl, rfl, r1⟩
  · exact Or.inr (hs.kept hM₁ hH₁ hH₂ (fun _ hK => fetchArg_kept_of_next hK kw f p₁)
      (fun _ hK => fetchArg_kept_of_next hK kw f p₂))

theorem stmt_block_hsim (hS : HSim S₁ S₂ R G) (hM₁ : Mono S₁) (hH₁ : HMono S₁) (hH₂ : HMono S₂) : ∀ (f : Nat),
    (∀ (p₁ : Parser σ₁) (p₂ : Parser σ₂), PR R p₁ p₂ →
      ((nextStatement S₁ f p₁).1 = (nextStatement S₂ f p₂).1 ∧
          PR R (nextStatement S₁ f p₁).2 (nextStatement S₂ f p₂).2) ∨
      Same S₁ S₂ G (nextStatement S₁ f p₁).2 (nextStatement S₂ f p₂).2) ∧
    (∀ (acc : List Statement) (p₁ : Parser σ₁) (p₂ : Parser σ₂), PR R p₁ p₂ →
      ((blockLoop S₁ f acc p₁).1 = (blockLoop S₂ f acc p₂).1 ∧
          PR R (blockLoop S₁ f acc p₁).2 (blockLoop S₂ f acc p₂).2) ∨
      Same S₁ S₂ G (blockLoop S₁ f acc p₁).2 (blockLoop S₂ f acc p₂).2) := by
  intro f
  induction f with
  | zero =>
    constructor
    · intro p₁ p₂ h
      unfold nextStatement
      exact Or.inl ⟨rfl, ⟨h.src, h.tokens, h.depth, rfl⟩⟩
    · intro acc p₁ p₂ h
      unfold blockLoop
      exact Or.inl ⟨rfl, ⟨h.src, h.tokens, h.depth, rfl⟩⟩
  | succ f ih =>
    obtain ⟨ihs, ihb⟩ := ih
    constructor
    · intro p₁ p₂ h
      rcases next_hsim hS hM₁ hH₁ hH₂ false f p₁ p₂ h with ⟨e1, r1⟩ | hs
      · unfold nextStatement
        simp only
        rw [e1]
        split
        · exact Or.inl ⟨rfl, r1⟩
        · rename_i t _
          split
          · exact Or.inl ⟨rfl, setDepth_sim (-1) r1⟩
          · split
            · exact Or.inr (addErr_same hS hM₁ hH₁ hH₂ _ _ _ r1)
            · rcases fetchArg_hsim hS hM₁ hH₁ hH₂ t f _ _ r1 with ⟨a1, a2, a3⟩ | hs
              · rw [a1, a2]
                split
                · exact Or.inr (addErr_same hS hM₁ hH₁ hH₂ _ _ _ a3)
                · split
                  · exact Or.inl ⟨rfl, a3⟩
                  · split
                    · rcases ihb [] _ _ (setDepth_sim 1 a3) with ⟨b1, b2⟩ | hs
                      · rw [b1]
                        split
                        · exact Or.inl ⟨rfl, b2⟩
                        · exact Or.inl ⟨rfl, b2⟩
                      · refine Or.inr (hs.kept hM₁ hH₁ hH₂ (fun _ _ h => ?_) (fun _ _ h => ?_))
                        · split <;> exact h
                        · split <;> exact h
                    · exact Or.inr (addErr_same hS hM₁ hH₁ hH₂ _ _ _ a3)
              · exact Or.inr (hs.kept hM₁ hH₁ hH₂
                  (fun _ hK => nextStatement_tail_kept hK f t _)
                  (fun _ hK => nextStatement_tail_kept hK f t _))
      · exact Or.inr (hs.kept hM₁ hH₁ hH₂
          (fun _ hK => nextStatement_kept_of_next hK (stmt_block_kept hK f).2 p₁)
          (fun _ hK => nextStatement_kept_of_next hK (stmt_block_kept hK f).2 p₂))
    · intro acc p₁ p₂ h
      rcases ihs p₁ p₂ h with ⟨e1, r1⟩ | hs
      · unfold blockLoop
        simp only
        rw [e1]
        split
        · exact Or.inl ⟨rfl, r1⟩
        · exact Or.inl ⟨rfl, r1⟩
        · exact ihb _ _ _ r1
      · exact Or.inr (hs.kept hM₁ hH₁ hH₂
          (fun _ hK => blockLoop_kept_of_stmt hK f acc p₁)
          (fun _ hK => blockLoop_kept_of_stmt hK f acc p₂))

theorem topLoop_hsim (hS : HSim S₁ S₂ R G) (hM₁ : Mono S₁) (hH₁ : HMono S₁) (hH₂ : HMono S₂) :
    ∀ (f : Nat) (acc : List Statement) (p₁ : Parser σ₁) (p₂ : Parser σ₂), PR R p₁ p₂ →
    ((topLoop S₁ f acc p₁).1 = (topLoop S₂ f acc p₂).1 ∧ PR R (topLoop S₁ f acc p₁).2 (topLoop S₂ f acc p₂).2) ∨
    Same S₁ S₂ G (topLoop S₁ f acc p₁).2 (topLoop S₂ f acc p₂).2 := by
  intro f
  induction f with
  | zero =>
    intro acc p₁ p₂ h
    unfold topLoop
    exact Or.inl ⟨rfl, ⟨h.src, h.tokens, h.depth, rfl⟩⟩
  | succ f ih =>
    intro acc p₁ p₂ h
    rcases (stmt_block_hsim hS hM₁ hH₁ hH₂ f).1 p₁ p₂ h with ⟨e1, r1⟩ | hs
    · unfold topLoop
      simp only
      rw [e1]
      split
      · exact Or.inl ⟨rfl, r1⟩
      · exact Or.inr ((addErr_same hS hM₁ hH₁ hH₂ _ _ _ r1).kept hM₁ hH₁ hH₂
          (fun _ hK => topLoop_kept hK f _ _) (fun _ hK => topLoop_kept hK f _ _))
      · exact ih _ _ _ r1
    · exact Or.inr (hs.kept hM₁ hH₁ hH₂
        (fun _ hK => topLoop_kept_of_stmt hK f acc p₁)
        (fun _ hK => topLoop_kept_of_stmt hK f acc p₂))

/-- if the second run ends with first error `e`, the first run ends with an error too, and with first error `e` if `G e` -/
theorem topLoop_head_transfer (hS : HSim S₁ S₂ R G) (hM₁ : Mono S₁) (hH₁ : HMono S₁) (hH₂ : HMono S₂)
    (f : Nat) (acc : List Statement) (p₁ : Parser σ₁) (p₂ : Parser σ₂) (h : PR R p₁ p₂) (e : ErrLine)
    (he : HasHead S₂ e (topLoop S₂ f acc p₂).2) :
    Bad S₁ (topLoop S₁ f acc p₁).2 ∧ (G e → HasHead S₁ e (topLoop S₁ f acc p₁).2) := by
  rcases topLoop_hsim hS hM₁ hH₁ hH₂ f acc p₁ p₂ h with ⟨_, r1⟩ | ⟨e', k2, kb, kg⟩
  · have c := (hS.clean _ _ r1.src).2
    unfold HasHead at he
    rw [c] at he
    cases he
  · have hee : e' = e := by
      unfold HasHead at he k2
      rw [k2] at he
      exact Option.some.inj he
    subst hee
    exact ⟨kb, kg⟩

end sim

end Goyang.Lemmas.HeadSim
