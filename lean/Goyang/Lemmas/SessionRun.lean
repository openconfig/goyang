/-
Histories, whatever the machine.  `Session.runFrom` and `SessionCached.crunFrom` answer a history op
by op with their step function (`Lemmas.Session.isRun`, `Lemmas.SessionCached.isRun`); what follows
from that alone is proved here once.  Core Lean only.
-/
namespace Goyang.Lemmas.SessionRun

/-- `run` answers a history op by op with `step`, handing the state on. -/
structure IsRun {σ ι ω : Type} (step : σ → ι → σ × ω) (run : σ → List ι → σ × List ω) : Prop where
  nil : ∀ s, run s [] = (s, [])
  cons : ∀ s op ops,
    run s (op :: ops) = ((run (step s op).1 ops).1, (step s op).2 :: (run (step s op).1 ops).2)

variable {σ ι ω : Type} {step : σ → ι → σ × ω} {run : σ → List ι → σ × List ω}

theorem IsRun.append (hr : IsRun step run) (s : σ) (h₁ h₂ : List ι) :
    run s (h₁ ++ h₂) = ((run (run s h₁).1 h₂).1, (run s h₁).2 ++ (run (run s h₁).1 h₂).2) := by
  induction h₁ generalizing s with
  | nil => rw [List.nil_append, hr.nil, List.nil_append]
  | cons op ops ih => rw [List.cons_append, hr.cons, ih, hr.cons, List.cons_append]

theorem IsRun.length (hr : IsRun step run) (s : σ) (h : List ι) : (run s h).2.length = h.length := by
  induction h generalizing s with
  | nil => rw [hr.nil, List.length_nil, List.length_nil]
  | cons op ops ih => rw [hr.cons, List.length_cons, List.length_cons, ih]

theorem IsRun.getElem?_mid (hr : IsRun step run) (s : σ) (pre post : List ι) (op : ι) :
    (run s (pre ++ op :: post)).2[pre.length]? = some (step (run s pre).1 op).2 := by
  rw [hr.append, hr.cons, List.getElem?_append_right (Nat.le_of_eq (hr.length s pre)), hr.length, Nat.sub_self,
    List.getElem?_cons_zero]

theorem IsRun.cut (hr : IsRun step run) (s : σ) (pre post : List ι) (op : ι)
    (h : (step (run s pre).1 op).1 = (run s pre).1) :
    (run s (pre ++ op :: post)).1 = (run s (pre ++ post)).1 ∧
    (run s (pre ++ op :: post)).2.eraseIdx pre.length = (run s (pre ++ post)).2 := by
  rw [hr.append, hr.cons, hr.append, h]
  refine ⟨rfl, ?_⟩
  rw [List.eraseIdx_append_of_length_le (Nat.le_of_eq (hr.length s pre)), hr.length, Nat.sub_self, List.eraseIdx_cons_zero]

end Goyang.Lemmas.SessionRun
