import Goyang.Lemmas.Augment
import Goyang.Lemmas.AugmentReport
import Goyang.Spec.Tree
import Goyang.Lemmas.OrderIndep
/-
C07 — the ERROR LIST of the augment loop.

`Lemmas/AugmentStep.lean` says what one attempt does to the flat view, and that a collision leaves a
`duplicate-node` error.  This file bounds the errors from above: one attempt of one augment adds to
the errors recorded in the forest

* nothing, when it fails — except `Err.bare "other"` on the root of the owner's tree when the first
  prefix of the path denotes no module (`Tgt.badPrefix`; Go: the `e.addError` in `Find`);
* when it succeeds: the errors recorded inside the augment entry (`merge` imports them), and the
  `duplicate-node` error positioned at the augment statement exactly when a body name is taken at
  the target or repeated inside the body (`attempt_errs`).

`updateAt` rewrites EVERY child of the name on its path and `Forest.setTree` every tree of the id, so
an upper bound needs what Go has for free from maps and pointers: sibling names pairwise different
and at most one rpc input / output at every node (`Spec.Tree.KeysUnique`, C04's condition), and one
tree per id.  `KeysUnique` is kept by every operation of the augment stage (`ku_merge`,
`ku_updateAt`, `walkN_keep`); with it an update touches one node (`updateAt_errs`).

From the single attempt to the loop: the loop is a sequence of calls of `augmentTreeR`
(`AugmentLoop.loop_calls`), so an invariant of forest + trace that every single attempt keeps holds
at the end (`loop_induct`); `loop_errs` is the resulting characterisation of the final error set,
`loop_errs_confluent` the order independence of the error list.
-/
open Goyang.Lemmas.ForestAux (mem_of_tree?)
namespace Goyang.Lemmas.AugmentErrs
open Goyang.Model Goyang.Spec.Augment Goyang.Lemmas.AugmentConfl Goyang.Lemmas.AugmentTree
  Goyang.Lemmas.AugmentModel Goyang.Lemmas.AugmentStep Goyang.Lemmas.AugmentLoop Goyang.Lemmas.Augment
  Goyang.Lemmas.AugmentReport
open Goyang.Spec.Tree (KeysUnique keysUniqueHere everyNode everyNodeL)
open Goyang.Lemmas.ForestAux (tree?_setTree_same)
open Goyang.Lemmas.OrderIndep (errLt errLt_irrefl errLt_trans errLt_total canonErrs_eq)
open Goyang.Lemmas.SortUnique (WSorted sortBy_sorted sortBy_perm sorted_perm_unique lt_asymm)

/-! ### `KeysUnique` -/

theorem everyNodeL_iff' (p : Entry → Bool) (l : List Entry) :
    everyNodeL p l = true ↔ ∀ x ∈ l, everyNode p x = true := by
  induction l with
  | nil => simp [everyNodeL]
  | cons a l ih => simp [everyNodeL, ih]

theorem ku_mk (d : EData) (c i o : List Entry) : KeysUnique (.mk d c i o) ↔
    (c.map (·.name)).Nodup ∧ i.length ≤ 1 ∧ o.length ≤ 1 ∧
      (∀ x ∈ c, KeysUnique x) ∧ (∀ x ∈ i, KeysUnique x) ∧ (∀ x ∈ o, KeysUnique x) := by
  unfold KeysUnique
  simp only [everyNode, everyNodeL_iff', keysUniqueHere, Bool.and_eq_true, mk_dir, mk_inp, mk_out]
  constructor
  · rintro ⟨⟨⟨⟨⟨h1, h2⟩, h3⟩, h4⟩, h5⟩, h6⟩
    exact ⟨of_decide_eq_true h1, of_decide_eq_true h2, of_decide_eq_true h3, h4, h5, h6⟩
  · rintro ⟨h1, h2, h3, h4, h5, h6⟩
    exact ⟨⟨⟨⟨⟨decide_eq_true h1, decide_eq_true h2⟩, decide_eq_true h3⟩, h4⟩, h5⟩, h6⟩

theorem ku_withD (e : Entry) (f : EData → EData) : KeysUnique (e.withD f) ↔ KeysUnique e := by
  cases e with | mk d c i o => simp only [Entry.withD]; rw [ku_mk, ku_mk]

theorem ku_addErr (e : Entry) (x : Err) (h : KeysUnique e) : KeysUnique (e.addErr x) :=
  (ku_withD e _).mpr h

theorem ku_implicitIO (parent : Entry) (b : Bool) : KeysUnique (implicitIO parent b) := by
  unfold implicitIO; rw [ku_mk]; simp

theorem ku_stampO (ns : Option String) (v : Entry) (h : KeysUnique v) : KeysUnique (stampO ns v) := by
  cases ns with
  | none => exact h
  | some n => exact (ku_withD v _).mpr h

theorem ku_mstep (ns : Option String) (oe e v : Entry) (he : KeysUnique e) (hv : KeysUnique v) :
    KeysUnique (mstep ns oe e v) := by
  unfold mstep
  split
  · exact ku_addErr _ _ he
  · rename_i hk
    cases e with
    | mk d c i o =>
      simp only [Entry.withDir, mk_dir]
      rw [ku_mk] at he ⊢
      obtain ⟨h1, h2, h3, h4, h5, h6⟩ := he
      refine ⟨?_, h2, h3, ?_, h5, h6⟩
      · rw [List.map_append, List.nodup_append]
        refine ⟨h1, by simp, ?_⟩
        intro a ha b hb hab
        simp only [List.map_cons, List.map_nil, List.mem_singleton] at hb
        obtain ⟨y, hy, rfl⟩ := List.mem_map.mp ha
        simp only [Entry.child?, mk_dir] at hk
        have := List.find?_eq_none.mp hk y hy
        simp [hab, hb] at this
      · intro x hx
        rcases List.mem_append.mp hx with hx | hx
        · exact h4 x hx
        · simp only [List.mem_singleton] at hx; subst hx; exact ku_stampO ns v hv

theorem ku_importErrors (e c : Entry) (h : KeysUnique e) : KeysUnique (e.importErrors c) :=
  (ku_withD e _).mpr h

/-- `merge` keeps `KeysUnique`, collision or not: a child whose name is taken is refused. -/
theorem ku_merge (e : Entry) (ns : Option String) (oe : Entry) (he : KeysUnique e)
    (ho : ∀ c ∈ oe.dir, KeysUnique c) : KeysUnique (e.merge ns oe) := by
  rw [merge_eq]
  exact fold_mstep_induct ns oe _ _ (fun z v hv hz => ku_mstep ns oe z v hz (ho v hv)) (ku_importErrors e oe he)

theorem ku_updateAt (g : Entry → Entry) (hg : ∀ y, KeysUnique y → KeysUnique (g y)) (hn : NamePres g) :
    ∀ (p : Path) (e : Entry), KeysUnique e → KeysUnique (e.updateAt p g)
  | [], e, h => by rw [updateAt_nil]; exact hg e h
  | .child k :: p, .mk d c i o, h => by
    rw [updateAt_child]
    rw [ku_mk] at h ⊢
    obtain ⟨h1, h2, h3, h4, h5, h6⟩ := h
    refine ⟨?_, h2, h3, ?_, h5, h6⟩
    · have : (c.map fun x => if (x.name == k) = true then x.updateAt p g else x).map (·.name) = c.map (·.name) := by
        rw [List.map_map]
        apply List.map_congr_left
        intro x _
        simp only [Function.comp]
        split
        · exact updateAt_name x p g hn
        · rfl
      rw [this]; exact h1
    · intro x hx
      obtain ⟨y, hy, rfl⟩ := List.mem_map.mp hx
      split
      · exact ku_updateAt g hg hn p y (h4 y hy)
      · exact h4 y hy
  | .input :: p, .mk d c i o, h => by
    rw [updateAt_input]
    rw [ku_mk] at h ⊢
    obtain ⟨h1, h2, h3, h4, h5, h6⟩ := h
    refine ⟨h1, by simpa using h2, h3, h4, ?_, h6⟩
    intro x hx
    obtain ⟨y, hy, rfl⟩ := List.mem_map.mp hx
    exact ku_updateAt g hg hn p y (h5 y hy)
  | .output :: p, .mk d c i o, h => by
    rw [updateAt_output]
    rw [ku_mk] at h ⊢
    obtain ⟨h1, h2, h3, h4, h5, h6⟩ := h
    refine ⟨h1, h2, by simpa using h3, h4, h5, ?_⟩
    intro x hx
    obtain ⟨y, hy, rfl⟩ := List.mem_map.mp hx
    exact ku_updateAt g hg hn p y (h6 y hy)

theorem ku_matIn (y : Entry) (h : KeysUnique y) : KeysUnique (matIn y) := by
  cases y with
  | mk d c i o =>
    simp only [matIn]
    rw [ku_mk] at h ⊢
    obtain ⟨h1, _, h3, h4, _, h6⟩ := h
    exact ⟨h1, by simp, h3, h4, by intro x hx; simp only [List.mem_singleton] at hx; subst hx; exact ku_implicitIO _ _, h6⟩

theorem ku_matOut (y : Entry) (h : KeysUnique y) : KeysUnique (matOut y) := by
  cases y with
  | mk d c i o =>
    simp only [matOut]
    rw [ku_mk] at h ⊢
    obtain ⟨h1, h2, _, h4, h5, _⟩ := h
    exact ⟨h1, h2, by simp, h4, h5, by intro x hx; simp only [List.mem_singleton] at hx; subst hx; exact ku_implicitIO _ _⟩

/-! ### errors under `updateAt` -/

/-- `g` neither loses nor adds an error, at any node. -/
def ErrSame (g : Entry → Entry) : Prop := ∀ (y : Entry) (er : Err), er ∈ (g y).allErrors ↔ er ∈ y.allErrors

theorem updateAt_errs_same {g : Entry → Entry} (hg : ErrSame g) {er : Err} :
    ∀ (q : Path) (e : Entry), er ∈ (e.updateAt q g).allErrors ↔ er ∈ e.allErrors
  | [], e => by rw [updateAt_nil]; exact hg e er
  | s :: q, e => by
    obtain ⟨_, h1, h2⟩ := step_errs e s er
    rw [updateAt_cons, h1, h2]
    exact or_congr_left (exists_congr fun y => and_congr_right fun _ => updateAt_errs_same hg q y)

theorem filter_name_of_nodup {c : List Entry} (hn : (c.map (·.name)).Nodup) {c0 : Entry} (hm : c0 ∈ c) :
    c.filter (·.name == c0.name) = [c0] := by
  induction c with
  | nil => cases hm
  | cons a c ih =>
    simp only [List.map_cons, List.nodup_cons] at hn
    rcases List.mem_cons.mp hm with rfl | hm
    · rw [List.filter_cons_of_pos (by simp), List.filter_eq_nil_iff.mpr]
      intro y hy hk
      exact hn.1 (List.mem_map.mpr ⟨y, hy, by simpa using hk⟩)
    · rw [List.filter_cons_of_neg, ih hn.2 hm]
      intro hk
      exact hn.1 (List.mem_map.mpr ⟨c0, hm, (by simpa using hk : a.name = c0.name).symm⟩)

theorem kidsAt_unique {e c0 : Entry} {s : Step} (hku : KeysUnique e) (hc : c0 ∈ kidsAt e s) :
    kidsAt e s = [c0] ∧ KeysUnique c0 := by
  have one : ∀ {l : List Entry}, l.length ≤ 1 → c0 ∈ l → l = [c0] := by
    intro l hl hm
    match l, hl, hm with
    | [b], _, hm => rw [List.mem_singleton.mp hm]
  cases e with
  | mk d c i o =>
    rw [ku_mk] at hku
    obtain ⟨h1, h2, h3, h4, h5, h6⟩ := hku
    cases s with
    | child k =>
      obtain ⟨hm, hk⟩ := List.mem_filter.mp hc
      have hk' : c0.name = k := by simpa using hk
      exact ⟨by rw [← hk']; exact filter_name_of_nodup h1 hm, h4 c0 hm⟩
    | input => exact ⟨one h2 hc, h5 c0 hc⟩
    | output => exact ⟨one h3 hc, h6 c0 hc⟩

/-- In a tree with unique keys an update changes one node: the errors of the tree are those of the
node at `q` and the rest, and an update replaces the former only. -/
theorem updateAt_errs {er : Err} : ∀ (q : Path) (e x : Entry), KeysUnique e → e.getAt q = some x → ∃ rest : Prop,
    (er ∈ e.allErrors ↔ er ∈ x.allErrors ∨ rest) ∧
    ∀ g : Entry → Entry, (er ∈ (e.updateAt q g).allErrors ↔ er ∈ (g x).allErrors ∨ rest)
  | [], e, x, _, hx => by
    simp only [Entry.getAt, Option.some.injEq] at hx; subst hx
    exact ⟨False, by simp, fun g => by simp [updateAt_nil]⟩
  | s :: q, e, x, hku, hx => by
    obtain ⟨c0, hc0, hget⟩ := getAt_cons_kid hx
    obtain ⟨hk, hkc⟩ := kidsAt_unique hku hc0
    obtain ⟨rest1, a1, a2⟩ := step_errs e s er
    obtain ⟨rest2, b1, b2⟩ := updateAt_errs (er := er) q c0 x hkc hget
    refine ⟨rest2 ∨ rest1, ?_, fun g => ?_⟩
    · rw [a1, hk]; simp only [List.mem_singleton, exists_eq_left, b1, or_assoc]
    · rw [updateAt_cons, a2, hk]; simp only [List.mem_singleton, exists_eq_left, b2 g, or_assoc]

/-! ### errors under `merge` -/

theorem stampO_errs (ns : Option String) (v : Entry) : (stampO ns v).allErrors = v.allErrors := by
  cases ns with
  | none => rfl
  | some n => cases v; simp [stampO, Entry.withD, Entry.allErrors]

/-- The error a refused child leaves. -/
def dupErr (oe : Entry) : Err := Err.at_ oe.d.node "duplicate-node"

theorem mstep_errs_upper (ns : Option String) (oe z v : Entry) {er : Err} (h : er ∈ (mstep ns oe z v).allErrors) :
    er ∈ z.allErrors ∨ er ∈ v.allErrors ∨ (er = dupErr oe ∧ z.child? v.name ≠ none) := by
  unfold mstep at h
  split at h
  · rename_i y hy
    rcases (addErr_errs _ _ _).mp h with h | h
    · exact Or.inl h
    · refine Or.inr (Or.inr ⟨h, ?_⟩)
      simp only [stampO_name] at hy
      rw [hy]; simp
  · rw [mem_allErrors] at h
    simp only [withDir_dir, withDir_inp, withDir_out, withDir_d, List.mem_append, List.mem_singleton] at h
    rcases h with ⟨c, hc | hc, hce⟩ | h
    · exact Or.inl ((mem_allErrors z).mpr (Or.inl ⟨c, hc, hce⟩))
    · subst hc; rw [stampO_errs] at hce; exact Or.inr (Or.inl hce)
    · exact Or.inl ((mem_allErrors z).mpr (Or.inr h))

theorem fold_mstep_errs_upper (ns : Option String) (oe : Entry) {er : Err} :
    ∀ (L : List Entry) (z : Entry), er ∈ (L.foldl (mstep ns oe) z).allErrors →
      er ∈ z.allErrors ∨ (∃ v ∈ L, er ∈ v.allErrors) ∨ (er = dupErr oe ∧ ¬ FreeIn z L)
  | [], z, h => Or.inl h
  | v :: L, z, h => by
    simp only [List.foldl_cons] at h
    rcases fold_mstep_errs_upper ns oe L _ h with h1 | ⟨w, hw, h1⟩ | ⟨h1, h2⟩
    · rcases mstep_errs_upper ns oe z v h1 with h3 | h3 | ⟨h3, h4⟩
      · exact Or.inl h3
      · exact Or.inr (Or.inl ⟨v, List.mem_cons_self, h3⟩)
      · exact Or.inr (Or.inr ⟨h3, fun hf => h4 (hf.1 v List.mem_cons_self)⟩)
    · exact Or.inr (Or.inl ⟨w, List.mem_cons_of_mem _ hw, h1⟩)
    · refine Or.inr (Or.inr ⟨h1, fun hf => h2 ?_⟩)
      obtain ⟨hv, hf'⟩ := (freeIn_cons ns z v L).mp hf
      rwa [mstep_free ns oe hv]

/-- **What `merge` does to the error set**: it keeps the receiver's errors, imports those recorded
anywhere in the merged entry, and adds the `duplicate-node` error exactly when a name is taken or
repeated. -/
theorem merge_errs (e : Entry) (ns : Option String) (oe : Entry) (er : Err) :
    er ∈ (e.merge ns oe).allErrors ↔
      er ∈ e.allErrors ∨ er ∈ oe.allErrors ∨ (er = dupErr oe ∧ ¬ FreeIn e oe.dir) := by
  constructor
  · intro h
    rw [merge_eq] at h
    rcases fold_mstep_errs_upper ns oe oe.dir _ h with h1 | ⟨v, hv, h1⟩ | ⟨h1, h2⟩
    · rcases (importErrors_errs e oe er).mp h1 with h3 | h3
      · exact Or.inl h3
      · exact Or.inr (Or.inl h3)
    · exact Or.inr (Or.inl ((mem_allErrors oe).mpr (Or.inl ⟨v, hv, h1⟩)))
    · exact Or.inr (Or.inr ⟨h1, fun hf => h2 ((freeIn_importErrors e oe _).mpr hf)⟩)
  · rintro (h | h | ⟨h1, h2⟩)
    · exact merge_errMono ns oe e er h
    · rw [merge_eq]
      exact fold_mstep_errMono ns oe oe.dir _ er ((importErrors_errs e oe er).mpr (Or.inr h))
    · rw [h1]; exact own_errors_sub _ (merge_collision_err e ns oe h2)

/-! ### the step loop of `Find` keeps errors and `KeysUnique` -/

theorem matIn_errs (e : Entry) (he : e.inp.isEmpty = true) (er : Err) : er ∈ (matIn e).allErrors ↔ er ∈ e.allErrors := by
  cases e with
  | mk d c i o =>
    have hi : i = [] := by simpa using he
    subst hi
    simp [matIn, Entry.allErrors, Entry.allErrorsL, implicitIO]

theorem matOut_errs (e : Entry) (he : e.out.isEmpty = true) (er : Err) : er ∈ (matOut e).allErrors ↔ er ∈ e.allErrors := by
  cases e with
  | mk d c i o =>
    have hi : o = [] := by simpa using he
    subst hi
    simp [matOut, Entry.allErrors, Entry.allErrorsL, implicitIO]

def Keeps (root r : Entry) : Prop := KeysUnique r ∧ ∀ er, er ∈ r.allErrors ↔ er ∈ root.allErrors

/-- Materialising an absent rpc input / output at a node that is really there. -/
theorem mat_keep (root e : Entry) (p : Path) (g : Entry → Entry) (hku : KeysUnique root) (hget : root.getAt p = some e)
    (hg : ∀ y, KeysUnique y → KeysUnique (g y)) (hn : NamePres g) (he : ∀ er, er ∈ (g e).allErrors ↔ er ∈ e.allErrors) :
    Keeps root (root.updateAt p g) := by
  refine ⟨ku_updateAt g hg hn p root hku, fun er => ?_⟩
  obtain ⟨_, k1, k2⟩ := updateAt_errs (er := er) p root e hku hget
  rw [k2, he, ← k1]

theorem walkN_keep : ∀ (names : List String) (root : Entry) (cur : Option Path), KeysUnique root →
    Keeps root (walkN names root cur).2
  | [], root, cur, h => ⟨h, fun _ => Iff.rfl⟩
  | nm :: rest, root, cur, h => by
    have cont : ∀ (root1 : Entry) (cur1 : Option Path), Keeps root root1 → Keeps root (walkN rest root1 cur1).2 :=
      fun root1 cur1 h1 => ⟨(walkN_keep rest root1 cur1 h1.1).1, fun er => ((walkN_keep rest root1 cur1 h1.1).2 er).trans (h1.2 er)⟩
    have same : Keeps root root := ⟨h, fun _ => Iff.rfl⟩
    simp only [walkN]
    cases cur with
    | none => exact same
    | some p =>
      simp only
      cases hget : root.getAt p with
      | none => exact same
      | some e =>
        simp only
        by_cases hr : e.d.isRpc = true
        · simp only [hr, if_true]
          by_cases hi : (nm == "input") = true
          · simp only [hi, if_true]
            by_cases he : e.inp.isEmpty = true
            · rw [if_pos he]
              exact cont _ _ (mat_keep root e p matIn h hget ku_matIn matIn_namePres (matIn_errs e he))
            · rw [if_neg he]; exact cont root _ same
          · simp only [hi, Bool.false_eq_true, if_false]
            by_cases ho : (nm == "output") = true
            · simp only [ho, if_true]
              by_cases he : e.out.isEmpty = true
              · rw [if_pos he]
                exact cont _ _ (mat_keep root e p matOut h hget ku_matOut matOut_namePres (matOut_errs e he))
              · rw [if_neg he]; exact cont root _ same
            · simp only [ho, Bool.false_eq_true, if_false]
              exact same
        · simp only [hr, Bool.false_eq_true, if_false]
          cases e.child? nm with
          | none => exact cont root none same
          | some c => exact cont root _ same

/-! ### forests -/

/-- An error recorded in a tree of the forest (one that `tree?` finds). -/
def FErr (f : Forest) (er : Err) : Prop := ∃ id root, f.tree? id = some root ∧ er ∈ root.allErrors

/-- Every tree of the forest has unique keys. -/
def FKU (f : Forest) : Prop := ∀ id root, f.tree? id = some root → KeysUnique root

/-- The tree ids, in order. -/
def ids (f : Forest) : List Nat := f.trees.map (·.1)

theorem ids_setTree (f : Forest) (t : Nat) (e : Entry) : ids (f.setTree t e) = ids f := by
  unfold ids Forest.setTree
  simp only [List.map_map]
  apply List.map_congr_left
  intro x _
  obtain ⟨i, tr⟩ := x
  simp only [Function.comp]
  split <;> rfl

theorem fku_setTree {f : Forest} {t : Nat} {root : Entry} (h : f.tree? t = some root) (e : Entry) (hf : FKU f)
    (he : KeysUnique e) : FKU (f.setTree t e) := by
  intro id r hr
  by_cases hid : id = t
  · subst hid
    rw [tree?_setTree_same h] at hr
    cases hr; exact he
  · rw [tree?_setTree_ne f hid] at hr
    exact hf id r hr

theorem fErr_setTree {f : Forest} {t : Nat} {root : Entry} (h : f.tree? t = some root) (e : Entry) (er : Err) :
    FErr (f.setTree t e) er ↔ er ∈ e.allErrors ∨ ∃ id r, id ≠ t ∧ f.tree? id = some r ∧ er ∈ r.allErrors := by
  constructor
  · rintro ⟨id, r, hr, he⟩
    by_cases hid : id = t
    · subst hid
      rw [tree?_setTree_same h] at hr
      cases hr; exact Or.inl he
    · rw [tree?_setTree_ne f hid] at hr
      exact Or.inr ⟨id, r, hid, hr, he⟩
  · rintro (he | ⟨id, r, hid, hr, he⟩)
    · exact ⟨t, e, tree?_setTree_same h e, he⟩
    · exact ⟨id, r, by rw [tree?_setTree_ne f hid]; exact hr, he⟩

theorem fErr_split {f : Forest} {t : Nat} {root : Entry} (h : f.tree? t = some root) (er : Err) :
    FErr f er ↔ er ∈ root.allErrors ∨ ∃ id r, id ≠ t ∧ f.tree? id = some r ∧ er ∈ r.allErrors := by
  constructor
  · rintro ⟨id, r, hr, he⟩
    by_cases hid : id = t
    · subst hid
      rw [h] at hr
      cases hr; exact Or.inl he
    · exact Or.inr ⟨id, r, hid, hr, he⟩
  · rintro (he | ⟨id, r, _, hr, he⟩)
    · exact ⟨t, root, h, he⟩
    · exact ⟨id, r, hr, he⟩

/-- Replacing a tree by one with the same error set. -/
theorem fErr_setTree_same {f : Forest} {t : Nat} {root : Entry} (h : f.tree? t = some root) (e : Entry)
    (hs : ∀ er, er ∈ e.allErrors ↔ er ∈ root.allErrors) (er : Err) : FErr (f.setTree t e) er ↔ FErr f er := by
  rw [fErr_setTree h, fErr_split h, hs]

/-- With one tree per id, `FErr` is membership in the error sweep `allErrs`. -/
theorem fErr_iff_allErrs {f : Forest} (hn : (ids f).Nodup) (er : Err) : FErr f er ↔ er ∈ allErrs f := by
  unfold allErrs
  simp only [List.mem_flatten, List.mem_map]
  constructor
  · rintro ⟨id, root, hr, he⟩
    exact ⟨_, ⟨_, mem_of_tree? hr, rfl⟩, he⟩
  · rintro ⟨_, ⟨⟨id, root⟩, hm, rfl⟩, he⟩
    exact ⟨id, root, tree?_of_mem hn hm, he⟩

theorem fku_of_all {f : Forest} (h : ∀ t ∈ f.trees, KeysUnique t.2) : FKU f :=
  fun _ _ hr => h _ (mem_of_tree? hr)

/-! ### one attempt -/

/-- The application collides: a body name is repeated or already a child of the target. -/
def Bad (R : Res) (id : Nat) (a : Entry) (f : Forest) : Prop :=
  ¬ (absAug R f id a).roots.Nodup ∨ (absAug R f id a).Collides (viewOf f)

theorem bad_f0 (R : Res) (id : Nat) (a : Entry) (f f0 : Forest) :
    Bad R id a f ↔ (¬ (absAug R f0 id a).roots.Nodup ∨ (absAug R f0 id a).Collides (viewOf f)) := Iff.rfl

/-- Result of analysing the errors of one attempt (without `addErrors`, as in the loop). -/
inductive OutcomeE (R : Res) (id : Nat) (a : Entry) (f : Forest) : Forest × Bool → Prop
  | fail (f' : Forest) :
      ids f' = ids f → (FKU f → FKU f') →
      (FKU f → ∀ er, FErr f' er ↔
        FErr f er ∨ (er = Err.bare "other" ∧ R.tgt id a = .badPrefix ∧ (f.tree? id).isSome = true)) →
      OutcomeE R id a f (f', false)
  | ok (f' : Forest) :
      ids f' = ids f → (FKU f → (∀ c ∈ a.dir, KeysUnique c) → FKU f') →
      (FKU f → ∀ er, FErr f' er ↔ FErr f er ∨ er ∈ a.allErrors ∨ (er = dupErr a ∧ Bad R id a f)) →
      OutcomeE R id a f (f', true)

theorem Searched.errs {R : Res} {id : Nat} {a : Entry} {f f1 : Forest} (h : Searched R id a f f1) :
    ids f1 = ids f ∧ (FKU f → FKU f1 ∧ ∀ er, FErr f1 er ↔
      FErr f er ∨ (er = Err.bare "other" ∧ R.tgt id a = .badPrefix ∧ (f.tree? id).isSome = true)) := by
  cases h with
  | same hne => exact ⟨rfl, fun hk => ⟨hk, fun er => ⟨Or.inl, fun h => h.elim (fun h => h) fun h => absurd h.2.1 hne⟩⟩⟩
  | other htg =>
    unfold addOther
    cases hroot : f.tree? id with
    | none => exact ⟨rfl, fun hk => ⟨hk, fun er => ⟨Or.inl, fun h => h.elim (fun h => h) fun h => nomatch h.2.2⟩⟩⟩
    | some root =>
      refine ⟨ids_setTree _ _ _, fun hk => ⟨fku_setTree hroot _ hk (ku_addErr _ _ (hk id root hroot)), fun er => ?_⟩⟩
      rw [fErr_setTree hroot, fErr_split hroot er, addErr_errs]
      simp only [htg, Option.isSome_some, and_true, or_right_comm]
  | @walked t names root htg hroot =>
    refine ⟨ids_setTree _ _ _, fun hk => ?_⟩
    obtain ⟨k1, k2⟩ := walkN_keep names root (some []) (hk t root hroot)
    refine ⟨fku_setTree hroot _ hk k1, fun er => ?_⟩
    rw [fErr_setTree_same hroot _ k2 er]
    exact ⟨Or.inl, fun h => h.elim (fun h => h) fun h => absurd h.2.1 (by simp [htg])⟩

theorem attempt_errs (R : Res) (id : Nat) (nsOf : String) (a : Entry) (f : Forest) :
    OutcomeE R id a f (attemptR R id false nsOf a f) := by
  have hout := attemptR_outcome R id false nsOf a f
  generalize attemptR R id false nsOf a f = r at hout
  cases hout with
  | fail f1 hs _ =>
    obtain ⟨h1, h2⟩ := Searched.errs hs
    exact OutcomeE.fail f1 h1 (fun hk => (h2 hk).1) (fun hk => (h2 hk).2)
  | ok t names f1 root' q x htg hs ht1 hx hcan =>
    obtain ⟨hids1, herr1⟩ := Searched.errs hs
    have hnp := merge_namePres (some nsOf) a
    refine OutcomeE.ok _ ((ids_setTree _ _ _).trans hids1) ?_ ?_
    · intro hf ha
      exact fku_setTree ht1 _ (herr1 hf).1
        (ku_updateAt _ (fun y hy => ku_merge y (some nsOf) a hy ha) hnp q _ ((herr1 hf).1 t _ ht1))
    · intro hf er
      obtain ⟨hku1, he1⟩ := herr1 hf
      have he1' : FErr f1 er ↔ FErr f er :=
        (he1 er).trans ⟨fun h => h.elim (fun h => h) fun h => absurd h.2.1 (by simp [htg]), Or.inl⟩
      have hxr : x.d.isRpc = false := by
        simp only [cannotHaveChildren, Bool.or_eq_false_iff] at hcan
        exact hcan.2
      have hview_t : ∀ P d, viewOf f (t, P) d ↔ dataAt root' P = some d := by
        intro P d; rw [← hs.view.1]; exact viewOf_at ht1 P d
      have hbadiff : ¬ FreeIn x a.dir ↔ Bad R id a f := by
        rw [freeIn_iff htg hview_t hx hxr f, Classical.not_and_iff_not_or_not, Classical.not_not]; rfl
      obtain ⟨_, k1, k2⟩ := updateAt_errs (er := er) q root' x (hku1 t _ ht1) hx.getAt
      rw [fErr_setTree ht1, ← he1', fErr_split ht1 er, k2, merge_errs, k1, hbadiff]
      -- both sides: the errors of `x`, of the rest of its tree, of the other trees, and what the merge adds
      simp only [or_assoc, or_left_comm, or_comm]

/-! ### an induction principle for the loop -/

section Induct
variable (R : Res) (I : Forest → List Ev → Prop) (P : Nat → Entry → Prop)
  (hstep : ∀ id nsOf a f tr, P id a → I f tr →
    I (attemptR R id false nsOf a f).1 (if (attemptR R id false nsOf a f).2 then tr ++ [⟨id, a, f⟩] else tr))
include hstep

theorem foldRel_induct {id : Nat} {nsOf : String} {f f' : Forest} {l U : List Entry} {tr : List Ev}
    (h : FoldRel R id false nsOf f l f' U tr) (hP : ∀ a ∈ l, P id a) (tr0 : List Ev) (h0 : I f tr0) :
    I f' (tr0 ++ tr) := by
  induction h generalizing tr0 with
  | nil f => simpa using h0
  | @fail f f1 f'' a l U tr hatt _ ih =>
    have := hstep id nsOf a f tr0 (hP a List.mem_cons_self) h0
    simp only [hatt, Bool.false_eq_true, if_false] at this
    exact ih (fun b hb => hP b (List.mem_cons_of_mem _ hb)) tr0 this
  | @ok f f1 f'' a l U tr hatt _ ih =>
    have := hstep id nsOf a f tr0 (hP a List.mem_cons_self) h0
    simp only [hatt, if_true] at this
    simpa using ih (fun b hb => hP b (List.mem_cons_of_mem _ hb)) _ this

theorem calls_induct {s s' : PState} {ids : List Nat} {tr : List Ev} (h : Calls R false s ids s' tr)
    (hP : ∀ id a, a ∈ s.pendingOf id → P id a) (tr0 : List Ev) (h0 : I s.forest tr0) : I s'.forest (tr0 ++ tr) := by
  induction h generalizing tr0 with
  | nil _ => simpa using h0
  | @cons s s' id ids tr _ ih =>
    rw [← List.append_assoc]
    exact ih (fun i a ha => hP i a (augmentTreeR_pending_sub R id false s i a ha)) _
      (foldRel_induct R I P hstep (augmentTreeR_rel R id false s).1 (hP id) tr0 h0)

theorem loop_induct (fuel : Nat) (mods : Array Nat) (s : PState) (tr : List Ev)
    (hP : ∀ id a, a ∈ s.pendingOf id → P id a) (h : I s.forest tr) :
    I (augmentLoopR R fuel mods s tr).2.1.forest (augmentLoopR R fuel mods s tr).2.2 := by
  obtain ⟨ids, trn, hc, e, _⟩ := loop_calls R fuel mods s tr
  rw [e]
  exact calls_induct R I P hstep hc hP tr h

end Induct

/-! ### the error set of the loop -/

/-- What one applied augment contributes to the errors: the errors recorded inside the augment
entry, and the `duplicate-node` error at its statement exactly when the application collided. -/
def Contrib (R : Res) (ev : Ev) (er : Err) : Prop :=
  er ∈ ev.aug.allErrors ∨ (er = dupErr ev.aug ∧ Bad R ev.owner ev.aug ev.before)

/-- The `other` error of `Find`: some pending augment of an existing tree has a first prefix that
denotes no module. -/
def OtherErr (R : Res) (s : PState) (er : Err) : Prop :=
  er = Err.bare "other" ∧ ∃ id a, a ∈ s.pendingOf id ∧ R.tgt id a = .badPrefix ∧ (s.forest.tree? id).isSome = true

theorem isSome_tree?_iff (f : Forest) (id : Nat) : (f.tree? id).isSome = true ↔ id ∈ ids f := by
  unfold Forest.tree? ids
  simp only [Option.isSome_map, List.find?_isSome, List.mem_map, beq_iff_eq]

/-- The invariant of the loop, relative to the state `s0` it started from. -/
def Inv (R : Res) (s0 : PState) (f : Forest) (tr : List Ev) : Prop :=
  ids f = ids s0.forest ∧
  ((∀ ev ∈ tr, ∀ c ∈ ev.aug.dir, KeysUnique c) →
    FKU f ∧ (∀ er, FErr s0.forest er → FErr f er) ∧ (∀ ev ∈ tr, ∀ er, Contrib R ev er → FErr f er) ∧
    (∀ er, FErr f er → FErr s0.forest er ∨ OtherErr R s0 er ∨ ∃ ev ∈ tr, Contrib R ev er))

theorem inv_step (R : Res) (s0 : PState) (id : Nat) (nsOf : String) (a : Entry) (f : Forest) (tr : List Ev)
    (hP : a ∈ s0.pendingOf id) (h : Inv R s0 f tr) :
    Inv R s0 (attemptR R id false nsOf a f).1 (if (attemptR R id false nsOf a f).2 then tr ++ [⟨id, a, f⟩] else tr) := by
  have hout := attempt_errs R id nsOf a f
  generalize attemptR R id false nsOf a f = r at hout ⊢
  obtain ⟨hids, hinv⟩ := h
  cases hout with
  | fail f' h1 h2 h3 =>
    simp only [Bool.false_eq_true, if_false]
    refine ⟨h1.trans hids, fun hb => ?_⟩
    obtain ⟨k1, k2, k3, k4⟩ := hinv hb
    refine ⟨h2 k1, fun er he => (h3 k1 er).mpr (Or.inl (k2 er he)),
      fun ev hev er hc => (h3 k1 er).mpr (Or.inl (k3 ev hev er hc)), ?_⟩
    intro er he
    rcases (h3 k1 er).mp he with h4 | ⟨h4, h5, h6⟩
    · exact k4 er h4
    · refine Or.inr (Or.inl ⟨h4, id, a, hP, h5, ?_⟩)
      rw [isSome_tree?_iff] at h6 ⊢
      rw [← hids]; exact h6
  | ok f' h1 h2 h3 =>
    simp only [if_true]
    refine ⟨h1.trans hids, fun hb => ?_⟩
    have hb0 : ∀ ev ∈ tr, ∀ c ∈ ev.aug.dir, KeysUnique c := fun ev hev => hb ev (List.mem_append_left _ hev)
    have hba : ∀ c ∈ a.dir, KeysUnique c := hb ⟨id, a, f⟩ (by simp)
    obtain ⟨k1, k2, k3, k4⟩ := hinv hb0
    refine ⟨h2 k1 hba, fun er he => (h3 k1 er).mpr (Or.inl (k2 er he)), ?_, ?_⟩
    · intro ev hev er hc
      rcases List.mem_append.mp hev with hev | hev
      · exact (h3 k1 er).mpr (Or.inl (k3 ev hev er hc))
      · simp only [List.mem_singleton] at hev
        subst hev
        exact (h3 k1 er).mpr (Or.inr hc)
    · intro er he
      rcases (h3 k1 er).mp he with h4 | h4
      · rcases k4 er h4 with h5 | h5 | ⟨ev, hev, h5⟩
        · exact Or.inl h5
        · exact Or.inr (Or.inl h5)
        · exact Or.inr (Or.inr ⟨ev, List.mem_append_left _ hev, h5⟩)
      · exact Or.inr (Or.inr ⟨⟨id, a, f⟩, by simp, h4⟩)

/-- The loop keeps the invariant: ids, `KeysUnique`, and the two-sided bound on the error set. -/
theorem loop_inv (R : Res) (fuel : Nat) (mods : Array Nat) (s : PState) (hku : FKU s.forest) :
    Inv R s (loopState R fuel mods s).forest (loopTrace R fuel mods s) := by
  refine loop_induct R (Inv R s) (fun id a => a ∈ s.pendingOf id) ?_ fuel mods s [] (fun _ _ h => h) ?_
  · intro id nsOf a f tr hP h
    exact inv_step R s id nsOf a f tr hP h
  · exact ⟨rfl, fun _ => ⟨hku, fun _ h => h, by simp, fun er h => Or.inl h⟩⟩

/-! ### a bad first prefix is reported in the first pass -/

theorem attempt_badPrefix (R : Res) (id : Nat) (nsOf : String) (a : Entry) (f : Forest) (htg : R.tgt id a = .badPrefix) :
    attemptR R id false nsOf a f = (addOther f id, false) := by
  unfold attemptR findR
  simp [htg, failForest]

theorem addOther_other (f : Forest) (id : Nat) (h : (f.tree? id).isSome = true) :
    FVisErr (addOther f id) (Err.bare "other") := by
  unfold addOther
  cases hr : f.tree? id with
  | none => simp [hr] at h
  | some root =>
    refine ⟨id, _, tree?_setTree_same hr _, [], _, rfl, ?_⟩
    simp [Entry.addErr]

theorem foldRel_other {R : Res} {id : Nat} {nsOf : String} {f f' : Forest} {l U : List Entry} {tr : List Ev}
    (h : FoldRel R id false nsOf f l f' U tr) (a : Entry) (ha : a ∈ l) (htg : R.tgt id a = .badPrefix)
    (hid : (f.tree? id).isSome = true) : FVisErr f' (Err.bare "other") := by
  induction h with
  | nil f => cases ha
  | @fail f f1 f'' b l U tr hatt hrest ih =>
    rcases List.mem_cons.mp ha with rfl | ha
    · rw [attempt_badPrefix R id nsOf a f htg] at hatt
      simp only [Prod.mk.injEq, and_true] at hatt
      subst hatt
      exact (addOther_other f id hid).mono (FoldRel.le hrest)
    · exact ih ha (by rw [(attempt_fail hatt).2.1.isSome]; exact hid)
  | @ok f f1 f'' b l U tr hatt hrest ih =>
    rcases List.mem_cons.mp ha with rfl | ha
    · rw [attempt_badPrefix R id nsOf a f htg] at hatt
      simp at hatt
    · exact ih ha (by rw [(attempt_ok_le hatt).isSome]; exact hid)

theorem calls_other {R : Res} {s s' : PState} {ids : List Nat} {tr : List Ev} (h : Calls R false s ids s' tr) {id : Nat}
    (hid : id ∈ ids) {a : Entry} (ha : a ∈ s.pendingOf id) (htg : R.tgt id a = .badPrefix)
    (ht : (s.forest.tree? id).isSome = true) : FVisErr s'.forest (Err.bare "other") := by
  induction h with
  | nil _ => cases hid
  | @cons s s' id' ids tr hc ih =>
    obtain ⟨hrel, hother, _⟩ := augmentTreeR_rel R id' false s
    by_cases hidd : id = id'
    · subst hidd
      exact (foldRel_other hrel a ha htg ht).mono hc.le
    · exact ih ((List.mem_cons.mp hid).resolve_left hidd) (by rw [hother id hidd]; exact ha)
        (by rw [(tree_le R id' false s).isSome]; exact ht)

theorem loop_other (R : Res) (fuel : Nat) (mods : Array Nat) (s : PState) (hcov : Cover s mods) (hfuel : 0 < fuel)
    (id : Nat) (a : Entry) (ha : a ∈ s.pendingOf id) (htg : R.tgt id a = .badPrefix)
    (hid : (s.forest.tree? id).isSome = true) : FVisErr (loopState R fuel mods s).forest (Err.bare "other") := by
  obtain ⟨ids, _, hc, _, _, _, hall⟩ := loop_calls R fuel mods s []
  exact calls_other hc (hall hfuel id (hcov id (List.ne_nil_of_mem ha))) ha htg hid

theorem fVisErr_fErr {f : Forest} {er : Err} (h : FVisErr f er) : FErr f er := by
  obtain ⟨id, root, hr, hv⟩ := h
  exact ⟨id, root, hr, hv.allErrors⟩

/-- **The error set of the loop**, for a forest with one tree per id and unique keys and applied augment
bodies with unique keys: `GetErrors` sweeps an error from the final forest exactly when it did before the loop,
or it is the `other` error of an unresolvable first prefix, or it is the contribution of an applied
augment: an error recorded inside the augment entry, or the `duplicate-node` error at its statement
when — and only when — the application collided. -/
theorem loop_errs (R : Res) (fuel : Nat) (mods : Array Nat) (s : PState) (hcov : Cover s mods) (hfuel : 0 < fuel)
    (hids : (ids s.forest).Nodup) (hku : ∀ t ∈ s.forest.trees, KeysUnique t.2)
    (hbody : ∀ ev ∈ loopTrace R fuel mods s, ∀ c ∈ ev.aug.dir, KeysUnique c) (er : Err) :
    er ∈ allErrs (loopState R fuel mods s).forest ↔
      er ∈ allErrs s.forest ∨ OtherErr R s er ∨ ∃ ev ∈ loopTrace R fuel mods s, Contrib R ev er := by
  obtain ⟨hidsEq, hinv⟩ := loop_inv R fuel mods s (fku_of_all hku)
  obtain ⟨_, k2, k3, k4⟩ := hinv hbody
  rw [← fErr_iff_allErrs (hidsEq ▸ hids), ← fErr_iff_allErrs hids]
  constructor
  · exact k4 er
  · rintro (h | ⟨h, id, a, ha, htg, hid⟩ | ⟨ev, hev, h⟩)
    · exact k2 er h
    · rw [h]; exact fVisErr_fErr (loop_other R fuel mods s hcov hfuel id a ha htg hid)
    · exact k3 ev hev er h

/-! ### errors of applied augments are visible (no uniqueness needed) -/

theorem importErrors_own (x a : Entry) {er : Err} (h : er ∈ a.allErrors) : er ∈ (x.importErrors a).d.errors := by
  cases a
  simp only [Entry.allErrors, List.mem_append] at h
  simp only [Entry.importErrors, Entry.addErrs, withD_d, mk_d, mk_dir, mk_inp, mk_out, List.mem_append]
  rcases h with ((h | h) | h) | h <;> simp [h]

/-- A successful attempt leaves every error recorded inside the augment entry on a visible node
(the target). -/
theorem attempt_ok_imports {R : Res} {id : Nat} {ae : Bool} {nsOf : String} {a : Entry} {f f' : Forest}
    (h : attemptR R id ae nsOf a f = (f', true)) {er : Err} (her : er ∈ a.allErrors) : FVisErr f' er := by
  have hout := attemptR_outcome R id ae nsOf a f
  rw [h] at hout
  generalize hfe : (f', true) = res at hout
  cases hout with
  | fail _ _ _ => simp at hfe
  | ok t names f1 root' q x htg _ ht1 hx hcan =>
    simp only [Prod.mk.injEq, and_true] at hfe
    subst hfe
    have hnp := merge_namePres (some nsOf) a
    have ht2 : (f1.setTree t (root'.updateAt q fun te => te.merge (some nsOf) a)).tree? t =
        some (root'.updateAt q fun te => te.merge (some nsOf) a) := tree?_setTree_same ht1 _
    refine ⟨t, _, ht2, names, (x.merge (some nsOf) a).d, ?_, ?_⟩
    · simp [fullAt, (hx.update hnp).walk]
    · rw [merge_eq]; exact fold_mstep_errors_mono _ _ _ _ (importErrors_own x a her)

theorem chain_imports {R : Res} {f0 f f' : Forest} {tr : List Ev} (h : Chain R f0 f tr f') :
    ∀ ev ∈ tr, ∀ er ∈ ev.aug.allErrors, FVisErr f' er := by
  induction h with
  | nil _ _ => intro ev hev; cases hev
  | @cons f f2 f' ev tr hv hle hatt hrest ih =>
    intro ev' hev' er her
    rcases List.mem_cons.mp hev' with rfl | hev'
    · exact (attempt_ok_imports hatt her).mono hrest.le
    · exact ih ev' hev' er her

/-! ### order independence of the error list -/

theorem contrib_free {R : Res} {f0 : Forest} {ev : Ev} (h : EvFree R f0 ev) (er : Err) :
    Contrib R ev er ↔ er ∈ ev.aug.allErrors :=
  ⟨fun hc => hc.elim (fun h1 => h1) fun h2 => h2.2.elim (fun hn => absurd h.1 hn) fun hcol => absurd hcol h.2, Or.inl⟩

theorem otherErr_congr (R : Res) {s1 s2 : PState} (hforest : s2.forest = s1.forest)
    (hpend : ∀ id a, a ∈ s2.pendingOf id ↔ a ∈ s1.pendingOf id) (er : Err) : OtherErr R s2 er ↔ OtherErr R s1 er := by
  unfold OtherErr
  rw [hforest]
  constructor
  · rintro ⟨h, id, a, ha, h1, h2⟩; exact ⟨h, id, a, (hpend id a).mp ha, h1, h2⟩
  · rintro ⟨h, id, a, ha, h1, h2⟩; exact ⟨h, id, a, (hpend id a).mpr ha, h1, h2⟩

theorem mem_trace_of_key {tr1 tr2 : List Ev} (hkeys : ∀ x, x ∈ tr2.map Ev.key ↔ x ∈ tr1.map Ev.key) {ev : Ev}
    (hev : ev ∈ tr2) : ∃ ev1 ∈ tr1, ev1.owner = ev.owner ∧ ev1.aug = ev.aug := by
  have := (hkeys (Ev.key ev)).mp (List.mem_map.mpr ⟨ev, hev, rfl⟩)
  obtain ⟨ev1, hev1, hk⟩ := List.mem_map.mp this
  simp only [Ev.key, Prod.mk.injEq] at hk
  exact ⟨ev1, hev1, hk.1, hk.2⟩

/-- **Order independence on the error list.**  Two runs of the loop from the same forest over the
same pending sets (any module lists, any order inside the pending lists).  If no application of the
first collides, both runs end with the same set of recorded errors. -/
theorem loop_errs_confluent (R : Res) {fuel1 fuel2 : Nat} {mods1 mods2 : Array Nat} {s1 s2 : PState}
    (h2 : TwoRuns fuel1 fuel2 mods1 mods2 s1 s2)
    (hids : (ids s1.forest).Nodup) (hku : ∀ t ∈ s1.forest.trees, KeysUnique t.2)
    (hbody : ∀ ev ∈ loopTrace R fuel1 mods1 s1, ∀ c ∈ ev.aug.dir, KeysUnique c)
    (hfr1 : ∀ ev ∈ loopTrace R fuel1 mods1 s1, EvFree R s1.forest ev) (er : Err) :
    er ∈ allErrs (loopState R fuel2 mods2 s2).forest ↔ er ∈ allErrs (loopState R fuel1 mods1 s1).forest := by
  obtain ⟨hforest, hpend, hn1, hn2, hcov1, hcov2, hfuel1, hfuel2⟩ := h2
  obtain ⟨_, _, hfr2, hkeys⟩ := loop_confluent_free R ⟨hforest, hpend, hn1, hn2, hcov1, hcov2, hfuel1, hfuel2⟩ hfr1
  have hkeys' : ∀ x, x ∈ (loopTrace R fuel1 mods1 s1).map Ev.key ↔ x ∈ (loopTrace R fuel2 mods2 s2).map Ev.key :=
    fun x => (hkeys x).symm
  have hbody2 : ∀ ev ∈ loopTrace R fuel2 mods2 s2, ∀ c ∈ ev.aug.dir, KeysUnique c := by
    intro ev hev
    obtain ⟨ev1, hev1, _, h2⟩ := mem_trace_of_key hkeys hev
    rw [← h2]; exact hbody ev1 hev1
  rw [loop_errs R fuel1 mods1 s1 hcov1 (by omega) hids hku hbody er,
    loop_errs R fuel2 mods2 s2 hcov2 (by omega) (by rw [hforest]; exact hids) (by rw [hforest]; exact hku) hbody2 er,
    hforest, otherErr_congr R hforest hpend er]
  -- an event of one trace has a namesake in the other; both are collision-free, so both contribute the entry's errors
  have move : ∀ {tr tr' : List Ev}, (∀ x, x ∈ tr.map Ev.key ↔ x ∈ tr'.map Ev.key) → (∀ ev ∈ tr, EvFree R s1.forest ev) →
      (∀ ev ∈ tr', EvFree R s1.forest ev) → (∃ ev ∈ tr, Contrib R ev er) → ∃ ev ∈ tr', Contrib R ev er := by
    rintro tr tr' hk h h' ⟨ev, hev, hc⟩
    obtain ⟨ev', hev', _, h2⟩ := mem_trace_of_key hk hev
    exact ⟨ev', hev', (contrib_free (h' ev' hev') er).mpr (h2 ▸ (contrib_free (h ev hev) er).mp hc)⟩
  rw [show (∃ ev ∈ loopTrace R fuel2 mods2 s2, Contrib R ev er) ↔ ∃ ev ∈ loopTrace R fuel1 mods1 s1, Contrib R ev er from
    ⟨move hkeys hfr2 hfr1, move hkeys' hfr1 hfr2⟩]

/-- One direction of "one order ends without errors iff the other does".  Only augment entries
WITHOUT recorded errors are asked to have unique keys (those with errors are never applied in a
clean run). -/
theorem loop_clean_imp (R : Res) {fuel1 fuel2 : Nat} {mods1 mods2 : Array Nat} {s1 s2 : PState}
    (h2 : TwoRuns fuel1 fuel2 mods1 mods2 s1 s2)
    (hids : (ids s1.forest).Nodup) (hku : ∀ t ∈ s1.forest.trees, KeysUnique t.2)
    (hbody : ∀ id, ∀ a ∈ s1.pendingOf id, a.allErrors = [] → ∀ c ∈ a.dir, KeysUnique c)
    (hclean : allErrs (loopState R fuel1 mods1 s1).forest = []) :
    allErrs (loopState R fuel2 mods2 s2).forest = [] := by
  obtain ⟨hforest, hpend, hn1, hn2, hcov1, hcov2, hfuel1, hfuel2⟩ := h2
  have hfree : ∀ er, FVisErr (loopState R fuel1 mods1 s1).forest er → er.cls ≠ "duplicate-node" := by
    intro er h
    have := fVisErr_allErrs h
    rw [hclean] at this; cases this
  have hfr1 := loop_free R fuel1 mods1 s1 hn1 hcov1 hfuel1 hfree
  have hbook1 := (loop_run R fuel1 mods1 s1 hn1 hcov1 hfuel1).2.1
  -- a clean run applied no entry that carries an error
  have hbody1 : ∀ ev ∈ loopTrace R fuel1 mods1 s1, ∀ c ∈ ev.aug.dir, KeysUnique c := fun ev hev =>
    hbody ev.owner ev.aug (hbook1.fromPending ev hev) (List.eq_nil_iff_forall_not_mem.mpr fun er her => by
      have := fVisErr_allErrs (chain_imports (loop_run R fuel1 mods1 s1 hn1 hcov1 hfuel1).1 ev hev er her)
      rw [hclean] at this
      cases this)
  apply List.eq_nil_iff_forall_not_mem.mpr
  intro er her
  have := (loop_errs_confluent R ⟨hforest, hpend, hn1, hn2, hcov1, hcov2, hfuel1, hfuel2⟩ hids hku
    hbody1 hfr1 er).mp her
  rw [hclean] at this
  cases this

/-! ### the canonical error list is a function of the error SET -/

deriving instance ReflBEq, LawfulBEq for Err

/-- Strictly ascending in the order `canonErrs` sorts with. -/
abbrev SSorted (l : List Err) : Prop := l.Pairwise fun a b => errLt a b = true

theorem eraseDups_ssorted : ∀ (n : Nat) (l : List Err), l.length ≤ n → WSorted errLt l → SSorted l.eraseDups := by
  intro n
  induction n with
  | zero =>
    intro l h _
    have : l = [] := List.length_eq_zero_iff.mp (Nat.le_zero.mp h)
    subst this
    simp
  | succ n ih =>
    intro l h hs
    cases l with
    | nil => simp
    | cons a as =>
      rw [List.eraseDups_cons]
      have hs' := List.pairwise_cons.mp hs
      refine List.pairwise_cons.mpr ⟨?_, ?_⟩
      · intro b hb
        have hb' : b ∈ as.filter (fun b => !b == a) := List.mem_eraseDups.mp hb
        obtain ⟨hb1, hb2⟩ := List.mem_filter.mp hb'
        have hne : a ≠ b := by
          intro hab; subst hab; simp at hb2
        rcases errLt_total hne with h1 | h1
        · exact h1
        · rw [hs'.1 b hb1] at h1; cases h1
      · apply ih
        · exact Nat.le_trans (List.length_filter_le _ _) (by simpa using h)
        · exact hs'.2.sublist List.filter_sublist

theorem ssorted_ext {l1 l2 : List Err} (h1 : SSorted l1) (h2 : SSorted l2) (hm : ∀ x, x ∈ l1 ↔ x ∈ l2) : l1 = l2 := by
  have nd : ∀ {l : List Err}, SSorted l → l.Nodup := by
    intro l h
    exact h.imp (fun {a b} hab heq => by subst heq; rw [errLt_irrefl] at hab; cases hab)
  have ws : ∀ {l : List Err}, SSorted l → WSorted errLt l := by
    intro l h
    exact h.imp (fun {a b} hab => lt_asymm errLt errLt_irrefl errLt_trans hab)
  have hp : l1.Perm l2 := (List.perm_ext_iff_of_nodup (nd h1) (nd h2)).mpr hm
  exact sorted_perm_unique errLt hp (fun a _ b _ hne => errLt_total hne) (ws h1) (ws h2)

theorem canonErrs_ssorted (l : List Err) : SSorted (canonErrs l) := by
  rw [canonErrs_eq]
  exact eraseDups_ssorted _ _ (Nat.le_refl _)
    (sortBy_sorted errLt errLt_irrefl errLt_trans l (fun a _ b _ hne => errLt_total hne))

theorem mem_canonErrs_iff (l : List Err) (x : Err) : x ∈ canonErrs l ↔ x ∈ l := by
  rw [canonErrs_eq, List.mem_eraseDups]
  exact (sortBy_perm errLt l).mem_iff

/-- `canonErrs` is a function of the SET of errors. -/
theorem canonErrs_set_invariant {l1 l2 : List Err} (h : ∀ x, x ∈ l1 ↔ x ∈ l2) : canonErrs l1 = canonErrs l2 :=
  ssorted_ext (canonErrs_ssorted l1) (canonErrs_ssorted l2)
    (fun x => by rw [mem_canonErrs_iff, mem_canonErrs_iff]; exact h x)

end Goyang.Lemmas.AugmentErrs
