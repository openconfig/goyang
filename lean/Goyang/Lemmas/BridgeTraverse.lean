import Goyang.Lemmas.Tree
import Goyang.Lemmas.Fuel
/-
Bridge lemmas, part 1: the traversal of `toEntry` (Lemmas/Traverse.lean) with the knowledge of WHERE
`toEntry` is called (`InvT`: the root is a loaded module, the node and its scope are statements of that
module, a node with a module keyword is the module statement itself).  C04's `Closed` asks the base cases
(`e0`, `errorEntry`, `leafEntry`) for every statement whatsoever; an invariant that relates entries to the
*statements of the registry* (node names are arguments of loaded statements, a pending-augment row lists
the augment statements of its module, a module entry records the errors of its deviations) only holds for
the calls `processAll` really makes.

A `Frame` (declared in Lemmas/Traverse.lean) bundles what is tracked: an entry invariant `PE`, an invariant `PR` of the rows of
`TState.augs`, an invariant `PC` of the rows of the module cache and a per-call postcondition
`PX root scope n e` ("`e` is what the conversion of `n` returned").  `ClosedT` is what the traversal
needs of a frame at the call sites `InvT` (`closure_of_closedT`); `toEntry_okT` is the traversal.
Compared with C04's `Closed`: the base cases, `add` and the rpc-flag step know the call site; `add` /
`merge` know that the node under construction is not an rpc / action, `setInp` / `setOut` that its `Dir`
is still empty.

A second, smaller traversal (`RelFrame`, `toEntry_rel`) is for relations between the conversion
state before and after a call that may depend on the `visiting` list (the module cache only grows;
its keys stay distinct).
-/
set_option linter.unusedVariables false
set_option linter.unusedSimpArgs false
open Goyang.Lemmas.ListAux (foldl_inv)
namespace Goyang.Lemmas.Bridge
open Goyang.Model Goyang.Spec.Tree Goyang.Lemmas.Tree

/-! ### where `toEntry` is called -/


/-- The calls of `toEntry` that `processAll` makes, directly or by recursion. -/
structure InvT (env : Env) (root : Mod) (sc : List Stmt) (n : Stmt) : Prop where
  root_mem : root ∈ env.reg.mods
  node : Fuel.Sub n root.stmt
  scope : ∀ s ∈ sc, Fuel.Sub s root.stmt
  top : isModKw n = true → n = root.stmt
  topScope : isModKw n = true → sc = []

theorem InvT.ofMod {env : Env} {m : Mod} (hm : m ∈ env.reg.mods) : InvT env m [] m.stmt :=
  ⟨hm, .refl _, fun _ h => (by cases h), fun _ => rfl, fun _ => rfl⟩

theorem InvT.child {env : Env} {root : Mod} {scope : List Stmt} {n c : Stmt} (inv : InvT env root scope n)
    (hc : c ∈ n.subs) (hk : isModKw c = false) : InvT env root (n :: scope) c := by
  refine ⟨inv.root_mem, Fuel.Sub.child hc inv.node, ?_, fun h => (by rw [hk] at h; cases h),
    fun h => (by rw [hk] at h; cases h)⟩
  intro s hs
  cases hs with
  | head => exact inv.node
  | tail _ h => exact inv.scope s h

theorem InvT.all {env : Env} {root : Mod} {scope : List Stmt} {n c : Stmt} (inv : InvT env root scope n)
    (kw : String) (hkw : kw ≠ "module" ∧ kw ≠ "submodule") (hc : c ∈ n.all kw) : InvT env root (n :: scope) c := by
  have hk := mem_all_kw n kw c hc
  exact inv.child (Fuel.mem_all_subs hc) (by simp [isModKw, hk, hkw.1, hkw.2])

theorem InvT.one {env : Env} {root : Mod} {scope : List Stmt} {n c : Stmt} (inv : InvT env root scope n)
    (kw : String) (hkw : kw ≠ "module" ∧ kw ≠ "submodule") (hc : n.one? kw = some c) : InvT env root (n :: scope) c := by
  have hk := one?_kw n kw c hc
  exact inv.child (Fuel.mem_one_subs hc) (by simp [isModKw, hk, hkw.1, hkw.2])

theorem InvT.uses {env : Env} {root : Mod} {scope : List Stmt} {n : Stmt} (inv : InvT env root scope n)
    {fuel : Nat} {name : String} {seen : List String} {g : Stmt} {groot : Mod} {gscope : List Stmt}
    (h : (findGrouping env.reg env.linked fuel root scope name seen).1 = some (g, groot, gscope)) :
    InvT env groot gscope g := by
  obtain ⟨hkw, ⟨n0, up, hgs, hgm⟩, hloc⟩ := Fuel.findGrouping_sound h
  have hnm : isModKw g = true → g = groot.stmt := by
    intro hm; simp [isModKw, hkw] at hm
  have hnm2 : isModKw g = true → gscope = [] := by
    intro hm; simp [isModKw, hkw] at hm
  rcases hloc with ⟨hroot, pre, hpre⟩ | ⟨hmem, hgs'⟩
  · subst hroot
    have hsc : ∀ s ∈ gscope, Fuel.Sub s groot.stmt := fun s hs =>
      inv.scope s (by rw [hpre]; exact List.mem_append_right _ hs)
    have hn0 : Fuel.Sub n0 groot.stmt := hsc n0 (by rw [hgs]; exact List.mem_cons_self ..)
    exact ⟨inv.root_mem, Fuel.Sub.child hgm hn0, hsc, hnm, hnm2⟩
  · have hn0 : n0 = groot.stmt := by
      rw [hgs'] at hgs
      cases hgs; rfl
    subst hn0
    refine ⟨hmem, Fuel.Sub.child hgm (.refl _), ?_, hnm, hnm2⟩
    intro s hs
    rw [hgs'] at hs
    cases hs with
    | head => exact .refl _
    | tail _ h => cases h

theorem InvT.include_ {env : Env} {root im : Mod} {a : Stmt} (h : env.includeTarget root a = some im) :
    InvT env im [] im.stmt := InvT.ofMod (Fuel.includeTarget_mem h)


theorem Evolve.ownMono {io : Bool} {a b : Entry} (h : Evolve io a b) : OwnMono a b := by
  obtain ⟨_, _, _, _, _, _, _, xs, hx⟩ := h.keeps
  intro ha hb
  rw [hx] at hb
  exact ha (List.append_eq_nil_iff.mp hb).1


def RecOKT (env : Env) (F : Frame) (rec : Rec) : Prop :=
  ∀ root scope n visiting st S, InvT env root scope n → StOKT F S st →
    F.PE (rec root scope n visiting st).1 ∧ StOKT F S (rec root scope n visiting st).2 ∧
      Shape n (rec root scope n visiting st).1 ∧ Shape2 n (rec root scope n visiting st).1 ∧
      Shape3 root n (rec root scope n visiting st).1 ∧ F.PX root scope n (rec root scope n visiting st).1

/-- `Closed` of Lemmas/Tree.lean with the call site known where it matters. -/
structure ClosedT (env : Env) (F : Frame) : Prop where
  /-- a change of the node's data that keeps what `NeutralD` lists and the rpc flag -/
  withD : ∀ (e : Entry) (f : EData → EData), (∀ d, NeutralD d (f d)) → (∀ d, (f d).isRpc = d.isRpc) →
    (∀ d, ∃ xs, (f d).errors = d.errors ++ xs) → F.PE e → F.PE (e.withD f)
  addErrs : ∀ (e : Entry) (xs : List Err), F.PE e → F.PE (e.addErrs xs)
  addErr : ∀ (e : Entry) (x : Err), F.PE e → F.PE (e.addErr x)
  importErrors : ∀ (e c : Entry), F.PE e → F.PE (e.importErrors c)
  /-- `c` is a substatement of `n` with one of the keywords whose entries become children; the
  node under construction is not an rpc / action -/
  add : ∀ (root : Mod) (scope : List Stmt) (n : Stmt) (kw : String) (c : Stmt) (e v : Entry),
    InvT env root scope n → kw ∈ addKws → c ∈ n.all kw → e.d.isRpc = false → F.PE e → F.PE v →
    (NoErrors v → v.name = c.arg ∧ v.d.kind ≠ .deviate) → (v.name = c.arg ∨ v.name = "") → F.PE (e.add c.arg v)
  /-- the entry made from an rpc / action statement gets its `RPC` set -/
  rpcFlag : ∀ (root : Mod) (scope : List Stmt) (n : Stmt) (kw : String) (c : Stmt) (v : Entry),
    InvT env root scope n → (kw = "rpc" ∨ kw = "action") → c ∈ n.all kw → F.PE v → F.PX root (n :: scope) c v →
    F.PE (v.withD fun d => { d with isRpc := true })
  /-- `uses` and `include`: the node under construction is not an rpc / action -/
  merge : ∀ (e : Entry) (oe : Entry), e.d.isRpc = false → F.PE e → F.PE oe → F.PE (e.merge none oe)
  /-- the input of an rpc / action is set before anything could have been added to its `Dir` -/
  setInp : ∀ (d : EData) (o : List Entry) (ie : Entry), F.PE (.mk d [] [] o) → F.PE ie →
    (ie.d.errors = [] → ie.d.kind = .input) →
    F.PE (.mk { d with isRpc := true } [] [ie.withD fun d => { d with name := "input", kind := .input }] o)
  setOut : ∀ (d : EData) (i : List Entry) (oe : Entry), F.PE (.mk d [] i []) → F.PE oe →
    (oe.d.errors = [] → oe.d.kind = .output) →
    F.PE (.mk { d with isRpc := true } [] i [oe.withD fun d => { d with name := "output", kind := .output }])
  typeSet : ∀ (e : Entry) (ty : Option TypeInfo), F.PE e → e.d.kind ≠ .leaf → F.PE (e.withD fun d => { d with type := ty })
  laSet : ∀ (e : Entry) (f : EData → EData), F.PE e → e.d.kind = .deviate → (∀ d, LaOnlyD d (f d)) →
    (∀ d, (f d).isRpc = d.isRpc) → (∀ d, ∃ xs, (f d).errors = d.errors ++ xs) → F.PE (e.withD f)
  base0 : ∀ (root : Mod) (scope : List Stmt) (n : Stmt), InvT env root scope n → F.PE (e0 root n)
  errE : ∀ (root : Mod) (scope : List Stmt) (n : Stmt) (cls : String), InvT env root scope n → F.PE (errorEntry root n cls)
  leafE : ∀ (root : Mod) (scope : List Stmt) (n : Stmt) (syn : Bool), InvT env root scope n →
    F.PE (leafEntry env root scope n syn)
  leafL : ∀ (root : Mod) (scope : List Stmt) (n : Stmt) (la : ListAttr) (xs : List Err) (dl : List String),
    InvT env root scope n →
    F.PE ((leafEntry env root scope n true).withD fun d =>
      { d with listAttr := some la, errors := d.errors ++ xs, default := dl })
  /-- the row a (sub)module files for its augment statements -/
  row : ∀ (root : Mod) (scope : List Stmt) (n : Stmt) (as : List Entry), InvT env root scope n → isModKw n = true →
    (∀ a ∈ as, F.PE a) → as.map (·.d.node) = n.all "augment" → (∀ a ∈ as, a.d.nodeMod = root.seq) →
    (∀ a ∈ as, a.name = a.d.node.arg ∨ a.name = "") → F.PR (root.seq, as)
  /-- the cache row a (sub)module files for itself -/
  pc : ∀ (root : Mod) (scope : List Stmt) (n : Stmt) (e : Entry), InvT env root scope n → isModKw n = true →
    F.PE e → F.PX root scope n e → F.PC (root.seq, e)
  pxCache : ∀ (root : Mod) (scope : List Stmt) (n : Stmt) (p : Nat × Entry), InvT env root scope n → isModKw n = true →
    F.PC p → p.1 = root.seq → F.PX root scope n p.2
  pxTriv : ∀ (root : Mod) (scope : List Stmt) (n : Stmt) (e : Entry),
    (n.kw = "grouping" ∨ n.kw = "leaf" ∨ n.kw = "leaf-list" ∨ n.kw = "uses") → F.PX root scope n e
  pxErr : ∀ (root : Mod) (scope : List Stmt) (n : Stmt) (cls : String), InvT env root scope n →
    F.PX root scope n (errorEntry root n cls)
  /-- the directory case, for the recursion as it is (`rec = toEntry env fuel`) -/
  pxDir : ∀ (fuel : Nat) (root : Mod) (scope : List Stmt) (n : Stmt) (visiting : List NodeId) (st : TState) (S : List Nat)
    (isMod : Bool), InvT env root scope n → RecOKT env F (toEntry env fuel) → StOKT F S st → isMod = isModKw n →
    F.PX root scope n ((fieldOrder n.kw).foldl (stepFn env (toEntry env fuel) root n (n :: scope) visiting isMod) (e0 root n, st)).1

/-- A `Closed` entry invariant is a `ClosedT` frame with nothing else tracked. -/
theorem closedT_of_closed {env : Env} {PE : Entry → Prop} (h : Closed env PE) : ClosedT env { PE := PE } where
  withD e f h1 _ h2 he := h.withD e f h1 h2 he
  addErrs := h.addErrs
  addErr := h.addErr
  importErrors := h.importErrors
  add root scope n kw c e v _ _ _ _ he hv hs hs2 := h.add e c.arg v he hv hs hs2
  rpcFlag root scope n kw c v _ _ _ hv _ := h.withD v _ (fun d => ⟨rfl, rfl, rfl, rfl, rfl, rfl⟩) (fun d => ⟨[], by simp⟩) hv
  merge e oe _ he ho := h.merge e none oe he ho
  setInp d o ie := h.setInp d [] o ie
  setOut d i oe := h.setOut d [] i oe
  typeSet := h.typeSet
  laSet e f he hk h1 _ h2 := h.laSet e f he hk h1 h2
  base0 root scope n _ := h.base0 root n
  errE root scope n cls _ := h.errE root n cls
  leafE root scope n syn _ := h.leafE root n scope syn
  leafL root scope n la xs dl _ := h.leafL root n scope la xs dl
  row _ _ _ _ _ _ _ _ _ _ := trivial
  pc _ _ _ _ _ _ _ _ := trivial
  pxCache _ _ _ _ _ _ _ _ := trivial
  pxTriv _ _ _ _ _ := trivial
  pxErr _ _ _ _ _ := trivial
  pxDir _ _ _ _ _ _ _ _ _ _ _ _ := trivial

theorem closure_of_closedT {env : Env} {F : Frame} (h : ClosedT env F) :
    Traverse.Closure env F (InvT env) (fun a k => a = k ∨ a = "") where
  nmRefl _ := Or.inl rfl
  siteAll _ _ _ kw _ inv hk hc := inv.all kw hk hc
  siteOne _ _ _ kw _ inv hk hc := inv.one kw hk hc
  siteUses _ _ _ _ _ _ _ inv hfg := inv.uses hfg
  siteInclude _ _ _ him := InvT.include_ him
  withD := h.withD
  addErrs := h.addErrs
  addErr := h.addErr
  importErrors := h.importErrors
  add := h.add
  rpcFlag := h.rpcFlag
  merge := h.merge
  setInp := h.setInp
  setOut := h.setOut
  typeSet := h.typeSet
  laSet := h.laSet
  base0 := h.base0
  errE := h.errE
  leafE := h.leafE
  leafL := h.leafL
  row := h.row
  pc := h.pc
  pxCache := h.pxCache
  pxTriv := h.pxTriv
  pxErr := h.pxErr

/-- The invariant of `toEntry`: from a good state, at a call site `processAll` can reach, it
produces a good entry and a good state. -/
theorem toEntry_okT {env : Env} {F : Frame} (hC : ClosedT env F) (fuel : Nat) : RecOKT env F (toEntry env fuel) :=
  Traverse.toEntry_inv (closure_of_closedT hC) (fun _ => Or.inr rfl)
    (fun fuel root scope n vis st S isMod inv ih hst hm => hC.pxDir fuel root scope n vis st S isMod inv ih hst hm) fuel


/-! ### relations between the conversion state before and after a call -/

/-- A relation between the state a call of `toEntry` starts from and the state it returns, which
may depend on the `visiting` list of the call. -/
structure RelFrame (env : Env) where
  R : List NodeId → TState → TState → Prop
  refl : ∀ v st, R v st st
  trans : ∀ v a b c, R v a b → R v b c → R v a c
  /-- a nested call is made with a longer `visiting` list -/
  weaken : ∀ v x a b, R (x :: v) a b → R v a b
  merged : ∀ v (st : TState) m, R v st { st with merged := m }
  gcache : ∀ v (st : TState) x, R v st { st with gcache := st.gcache ++ [x] }
  augs : ∀ v (st : TState) x, R v st { st with augs := st.augs ++ [x] }
  /-- a (sub)module that was not in the cache and is not being converted files its entry -/
  cache : ∀ root scope n v (st st1 : TState) e, InvT env root scope n → isModKw n = true →
    st.cache.find? (·.1 == root.seq) = none → v.contains (nodeId root n) = false →
    R (nodeId root n :: v) st st1 → R v st { st1 with cache := st1.cache ++ [(root.seq, e)] }

def RecRel {env : Env} (F : RelFrame env) (rec : Rec) : Prop :=
  ∀ root scope n visiting st, InvT env root scope n → F.R visiting st (rec root scope n visiting st).2

section Rel
variable {env : Env} (F : RelFrame env) {rec : Rec} (hrec : RecRel F rec)
  (root : Mod) (scope : List Stmt) (n : Stmt) (visiting : List NodeId) (inv : InvT env root scope n)
include hrec inv

theorem stepFn_rel (isMod : Bool) (acc : Entry × TState) (f : String) :
    F.R visiting acc.2 (stepFn env rec root n (n :: scope) visiting isMod acc f).2 := by
  obtain ⟨e, st⟩ := acc
  have kids : ∀ (kw : String) (hk : kw ≠ "module" ∧ kw ≠ "submodule") (g : Entry → Stmt → Entry → Entry),
      F.R visiting st (kidsFold rec root n (n :: scope) visiting kw g (e, st)).2 := fun kw hk g =>
    kidsFold_inv rec root n (n :: scope) visiting (fun r => F.R visiting st r.2) (e, st) (F.refl _ _)
      (fun _ st' c hc h => F.trans _ _ _ _ h (hrec root (n :: scope) c visiting st' (inv.all kw hk hc)))
  exact stepFn_cases env rec root n (n :: scope) visiting isMod (P := fun _ r => F.R visiting st r.2) e st
    (other := fun _ => F.refl _ _)
    (config := F.refl _ _)
    (mandatory := F.refl _ _)
    (description := fun _ => F.refl _ _)
    (key := fun _ => F.refl _ _)
    (units := fun _ => F.refl _ _)
    (kids := fun kw hkw => kids kw (Traverse.addKws_nm kw hkw) _)
    (rpc := fun kw hkw _ => kids kw (Traverse.addKws_nm kw hkw) _)
    (imports := fun kw hkw => kids kw (by rcases hkw with rfl | rfl <;> decide) _)
    (uses := kids _ (by decide) _)
    (deviate := kids _ (by decide) _)
    (input := fun i hi => hrec root (n :: scope) i visiting st (inv.one "input" (by decide) hi))
    (output := fun o ho => hrec root (n :: scope) o visiting st (inv.one "output" (by decide) ho))
    (include_ := includeFn_inv env rec root n visiting (fun r => F.R visiting st r.2) (e, st) (F.refl _ _) (fun _ _ _ h => h)
      (fun _ _ _ im _ him h =>
        F.trans _ _ _ _ h (F.trans _ _ _ _ (F.merged _ _ _) (hrec im [] im.stmt visiting _ (InvT.include_ him)))))
    (typeOk := fun _ => F.refl _ _)
    (typeBad := F.refl _ _)
    (default_ := fun _ _ => F.refl _ _)
    (maxEl := fun _ => ⟨F.refl _ _, fun _ _ => F.refl _ _⟩)
    (minEl := fun _ => ⟨F.refl _ _, fun _ _ => F.refl _ _⟩)
    (augment := fun _ => F.trans _ _ _ _
      (foldl_inv (fun acc : List Entry × TState => F.R visiting st acc.2) _ _ _ (F.refl _ _)
        (fun acc c hc h => F.trans _ _ _ _ h (hrec root (n :: scope) c visiting acc.2 (inv.all "augment" (by decide) hc))))
      (F.augs _ _ _))
    f

theorem steps_rel (isMod : Bool) (l : List String) (acc : Entry × TState) :
    F.R visiting acc.2 (l.foldl (stepFn env rec root n (n :: scope) visiting isMod) acc).2 := by
  refine foldl_inv (fun a : Entry × TState => F.R visiting acc.2 a.2) _ _ _ (F.refl _ _) ?_
  intro b f _ hb
  exact F.trans _ _ _ _ hb (stepFn_rel F hrec root scope n visiting inv isMod b f)

end Rel

theorem toEntryBody_rel {env : Env} (F : RelFrame env) {rec : Rec} (hrec : RecRel F rec)
    (root : Mod) (scope : List Stmt) (n : Stmt) (visiting : List NodeId) (inv : InvT env root scope n)
    (fuel : Nat) (st : TState) : F.R visiting st (toEntryBody env fuel rec root scope n visiting st).2 := by
  refine toEntryBody_cases env fuel rec root scope n visiting st (P := fun r => F.R visiting st r.2)
    (modHit := fun _ _ _ _ => F.refl _ _)
    (grpHit := fun _ _ _ => F.refl _ _)
    (cycle := fun _ => F.refl _ _)
    (leaf := fun _ => F.refl _ _)
    (leafList := fun _ => F.refl _ _)
    (noGroup := fun _ => F.refl _ _)
    (uses := fun _ g groot gscope hfg => hrec groot gscope g _ st (inv.uses hfg))
    (dir := fun _ _ _ hmiss hvis => ?_)
  unfold dirBody
  dsimp only
  cases hm : isModKw n with
  | true =>
    rw [if_pos rfl, Bool.true_or, if_pos rfl]
    exact F.cache root scope n visiting st _ _ inv hm (hmiss hm) (hvis (by rw [hm]; rfl))
      (steps_rel F hrec root scope n (nodeId root n :: visiting) inv true (fieldOrder n.kw) (e0 root n, st))
  | false =>
    rw [if_neg (by simp), Bool.false_or]
    by_cases hg : (n.kw == "grouping") = true
    · rw [if_pos hg, if_pos hg]
      exact F.trans _ _ _ _ (F.weaken _ _ _ _
        (steps_rel F hrec root scope n (nodeId root n :: visiting) inv false (fieldOrder n.kw) (e0 root n, st))) (F.gcache _ _ _)
    · rw [if_neg hg, if_neg hg]
      exact steps_rel F hrec root scope n visiting inv false (fieldOrder n.kw) (e0 root n, st)

theorem toEntry_rel {env : Env} (F : RelFrame env) (fuel : Nat) : RecRel F (toEntry env fuel) := by
  induction fuel with
  | zero => intro root scope n visiting st _; exact F.refl _ _
  | succ fuel ih =>
    intro root scope n visiting st inv
    rw [toEntry_succ]
    exact toEntryBody_rel F ih root scope n visiting inv fuel st

end Goyang.Lemmas.Bridge
