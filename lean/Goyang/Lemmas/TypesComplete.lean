import Goyang.Lemmas.TypesDefs
import Goyang.Lemmas.TypesDfs
import Goyang.Lemmas.TypesNoBind
/-
The typedef lookup and the recursion of `Type.resolve` against the binding relation (property C09).

* the lookup: a name that `Binds` is found (`lookup_not_error`, `lookup_complete`), and what is found
  binds (`lookup_binds`, the proof of `Goyang.Props.C09.resolve_binds`);
* one step of `resolveTypeF` as equations (`memberRes`, `resolve_builtin`, `resolve_typedef`);
  `resolve_ok_cases`: how an error-free resolution came about (a built-in with its overlay, or a typedef
  whose own type, typedef overlay and type overlay are all error-free); `resolve_chain_ind`: the one
  induction along the typedef chain — a property of (base kind, chain, resolved type) that holds
  after a built-in level and is carried through "typedef overlay, then type overlay" holds of the
  `DerivesFrom` chain of every error-free resolution (instances: `Goyang.Props.C09.resolve_chain` and
  the chain theorems of TypesRangeRfc.lean, TypesFdRfc.lean, TypesEnumRfc.lean);
* a finite derivation excludes cycles below the reference (`resolvable_acc'`, `StackOk.fresh`);
* `resolve_noBind`: a `Resolvable` type statement raises no binding-level error, under the standing
  hypotheses `Standing`.
-/
namespace Goyang.Lemmas.TypesComplete
open Goyang.Model Goyang.Model.Types Goyang.Spec.Types Goyang.Lemmas.Types Goyang.Lemmas.TypesFuel
  Goyang.Lemmas.TypesDefs Goyang.Lemmas.TypesDfs Goyang.Lemmas.TypesNoBind Goyang.Lemmas.RegistryAux

/-! ## The lookup finds what binds -/

theorem lookup_builtin {env : Env} {root : Mod} {scope : List Stmt} {t : Stmt} {y : YType}
    (hl : lookup env root scope t = .builtin y) : builtin? t.arg = some y := by
  revert hl
  fun_cases lookup env root scope t
  all_goals
    intro hl
    cases hl
  assumption

theorem lookup_of_builtin {env : Env} {root : Mod} {scope : List Stmt} {t : Stmt}
    (hb : builtinNames.contains t.arg = true) : ∃ y, lookup env root scope t = .builtin y := by
  have h := builtin_agree t.arg
  rw [hb] at h
  obtain ⟨y, hy⟩ := Option.isSome_iff_exists.mp h
  exact ⟨y, by unfold lookup; rw [hy]⟩

theorem isLocalRef_of_cond {root : Mod} {name : String}
    (h : ((splitPrefix name).1 == "" || root.getPrefix == (splitPrefix name).1) = true) : isLocalRef root name = true := by
  unfold isLocalRef
  rw [Bool.or_eq_true] at h ⊢
  cases h with
  | inl h1 => exact Or.inl h1
  | inr h2 => exact Or.inr (by rw [beq_iff_eq] at h2 ⊢; exact h2.symm)

theorem isLocalRef_of_not_cond {root : Mod} {name : String}
    (h : ¬ ((splitPrefix name).1 == "" || root.getPrefix == (splitPrefix name).1) = true) :
    ((splitPrefix name).1 == "") = false ∧ ((splitPrefix name).1 == root.getPrefix) = false ∧ isLocalRef root name = false := by
  have hl1 : ((splitPrefix name).1 == "") = false := by
    cases hq : ((splitPrefix name).1 == "") with
    | false => rfl
    | true => rw [hq] at h; simp at h
  have hl2 : ((splitPrefix name).1 == root.getPrefix) = false := by
    cases hq : ((splitPrefix name).1 == root.getPrefix) with
    | false => rfl
    | true =>
      rw [beq_iff_eq] at hq
      rw [hq] at h
      simp at h
  refine ⟨hl1, hl2, ?_⟩
  unfold isLocalRef; rw [hl1, hl2]; rfl

/-- With distinct import prefixes, the module `FindModuleByPrefix` hands back is the one the
import statement of that prefix names. -/
theorem findModuleByPrefix_foreign {reg : Registry} {root : Mod} {pfx : String} {i : Stmt} {ext : Mod}
    (himp : ImportsDistinct reg) (hroot : root ∈ reg.mods)
    (h1 : (pfx == "") = false) (h2 : (pfx == root.getPrefix) = false)
    (hi : i ∈ root.imports) (hp : i.argOf? "prefix" = some pfx) (hf : reg.findModule false i = some ext) :
    reg.findModuleByPrefix root pfx = some ext := by
  unfold Registry.findModuleByPrefix
  rw [h1, h2]
  simp only [Bool.or_self, Bool.false_eq_true, if_false]
  split
  · rename_i i' hi'
    have hm : i' ∈ root.imports := List.mem_of_find?_eq_some hi'
    have hp' := List.find?_some hi'
    simp only [beq_iff_eq] at hp'
    rw [himp root hroot i' hm i hi pfx hp' hp]
    exact hf
  · rename_i hnone
    rw [List.find?_eq_none] at hnone
    have := hnone i hi
    rw [hp] at this
    simp at this

/-- **Completeness of the lookup**: a name that binds (in the sense of the specification) is found. -/
theorem lookup_not_error (env : Env) (hid : SeqId env.reg) (hlink : Linked env) (himp : ImportsDistinct env.reg)
    (root : Mod) (hroot : root ∈ env.reg.mods) (hsch : PartOfSchema env.reg root) (scope : List Stmt) (t : Stmt)
    {m : Mod} {td : Stmt} {sc : List Stmt} (hb : Binds env.reg root scope t.arg m td sc) (e : Err) :
    lookup env root scope t ≠ .error e := by
  intro h
  rcases lookup_error_cases h with ⟨hloc, hfs, hfl⟩ | ⟨hloc, hext⟩
  · have hlocal := isLocalRef_of_cond hloc
    cases hb with
    | lexical pre n up td' _ _ hsc _ htd =>
      have := findInScope_none hfs n (List.mem_cons_of_mem _ (by rw [hsc]; exact List.mem_append_right _ List.mem_cons_self))
      unfold baseName at htd
      rw [this] at htd
      cases htd
    | moduleLevel m' td' _ _ _ hunit htd =>
      obtain ⟨r, hr⟩ := findLocalModules_complete env hid hlink (splitPrefix t.arg).2 root hroot hsch m hunit
        (by unfold baseName at htd; exact List.ne_nil_of_mem htd)
      rw [hr] at hfl
      rcases hfl with ⟨hnf, _⟩ | ⟨hoof, _⟩
      · cases hnf
      · cases hoof
    | foreign i ext m' td' _ hfor _ _ _ _ _ => rw [hlocal] at hfor; cases hfor
  · obtain ⟨hl1, hl2, hforeign⟩ := isLocalRef_of_not_cond hloc
    cases hb with
    | lexical pre n up td' _ hl _ _ _ => rw [hforeign] at hl; cases hl
    | moduleLevel m' td' _ hl _ _ _ => rw [hforeign] at hl; cases hl
    | foreign i ext m' td' _ _ hi hp hf hstar htd =>
      rw [findModuleByPrefix_foreign himp hroot hl1 hl2 hi hp hf] at hext
      obtain ⟨r, hr⟩ := findInModule_complete env hid hlink (splitPrefix t.arg).2 ext (findModule_mem hf)
        (partOfSchema_findModule_false hf) m hstar (by unfold baseName at htd; exact List.ne_nil_of_mem htd)
      rcases hext with ⟨hnone, _⟩ | ⟨ext', hsome, hfm⟩
      · cases hnone
      · cases hsome
        rw [hr] at hfm
        rcases hfm with ⟨hnf, _⟩ | ⟨hoof, _⟩
        · cases hnf
        · cases hoof

theorem lookup_complete (env : Env) (hid : SeqId env.reg) (hlink : Linked env) (himp : ImportsDistinct env.reg)
    (root : Mod) (hroot : root ∈ env.reg.mods) (hsch : PartOfSchema env.reg root) (scope : List Stmt) (t : Stmt)
    {m : Mod} {td : Stmt} {sc : List Stmt} (hb : Binds env.reg root scope t.arg m td sc) :
    ∃ src r, lookup env root scope t = .typedef src r := by
  cases hl : lookup env root scope t with
  | builtin y =>
    have := builtin_some (lookup_builtin hl)
    rw [binds_not_builtin hb] at this
    cases this
  | typedef src r => exact ⟨src, r, rfl⟩
  | error e => exact absurd hl (lookup_not_error env hid hlink himp root hroot hsch scope t hb e)

/-! ## What the lookup finds binds (the proof of `Goyang.Props.C09.resolve_binds`, available to lemma files) -/

theorem lookup_binds (env : Env) (root : Mod) (scope : List Stmt) (t : Stmt)
    (ht : scopeKinds.contains t.kw = false) (src : Source) (r : TdRef)
    (h : lookup env root scope t = .typedef src r) :
    Binds env.reg root scope t.arg r.root r.td r.scope := by
  obtain ⟨hb, hcase⟩ := lookup_typedef_cases h
  have hnb := builtin_none hb
  rcases hcase with ⟨hloc, _, hfs | ⟨hfs, hfl⟩⟩ | ⟨hloc, _, ext, hext, hfm⟩
  · -- an enclosing statement declares it
    obtain ⟨pre, n, up, hsc, hpre, htd, hroot, hscope⟩ := findInScope_some hfs
    cases pre with
    | nil =>
      simp only [List.nil_append, List.cons.injEq] at hsc
      obtain ⟨htn, _⟩ := hsc
      subst htn
      rw [declared_of_not_scope ht] at htd
      cases htd
    | cons t' pre' =>
      simp only [List.cons_append, List.cons.injEq] at hsc
      obtain ⟨_, hsc⟩ := hsc
      rw [hroot, hscope]
      exact Binds.lexical pre' n up _ hnb (isLocalRef_of_cond hloc) hsc
        (fun x hx => hpre x (List.mem_cons_of_mem _ hx)) htd
  · -- the top level of the unit
    obtain ⟨hunit, htd, hscope⟩ := findLocalModules_sound env root _ _ hfl
    rw [hscope]
    exact Binds.moduleLevel _ _ hnb (isLocalRef_of_cond hloc)
      (fun x hx => findInScope_none hfs x (List.mem_cons_of_mem _ hx)) hunit htd
  · -- foreign prefix
    obtain ⟨hl1, hl2, hforeign⟩ := isLocalRef_of_not_cond hloc
    obtain ⟨hstar, htd, hscope⟩ := findInModule_sound' env _ _ _ _ _ hfm
    rw [hscope]
    unfold Registry.findModuleByPrefix at hext
    rw [hl1, hl2] at hext
    simp only [Bool.or_self, Bool.false_eq_true, if_false] at hext
    split at hext
    · rename_i i hi
      have himp : i ∈ root.imports := List.mem_of_find?_eq_some hi
      have hpfx := List.find?_some hi
      simp only [beq_iff_eq] at hpfx
      exact Binds.foreign i ext _ _ hnb hforeign himp hpfx hext hstar htd
    · cases hext

/-! ## One step of the recursion, as equations -/

/-- The results of resolving the member types of `t`. -/
def memberRes (env : Env) (fuel : Nat) (root : Mod) (scope : List Stmt) (t : Stmt) (stack : List TypeKey) : List Res :=
  (t.all "type").map fun ut => resolveTypeF env fuel root (t :: scope) ut (typeKey root t :: stack)

theorem resolve_builtin {env : Env} {fuel : Nat} {root : Mod} {scope : List Stmt} {t : Stmt} {stack : List TypeKey} {y : YType}
    (hc : stack.contains (typeKey root t) = false) (hl : lookup env root scope t = .builtin y) :
    resolveTypeF env (fuel + 1) root scope t stack = overlayType env root t .builtin y (memberRes env fuel root scope t stack) := by
  unfold resolveTypeF memberRes
  simp only [hc, hl, Bool.false_eq_true, if_false]

theorem resolve_typedef {env : Env} {fuel : Nat} {root : Mod} {scope : List Stmt} {t : Stmt} {stack : List TypeKey}
    {src : Source} {r : TdRef} {tt : Stmt}
    (hc : stack.contains (typeKey root t) = false) (hl : lookup env root scope t = .typedef src r)
    (htt : r.td.one? "type" = some tt) :
    resolveTypeF env (fuel + 1) root scope t stack =
      (let base := resolveTypeF env fuel r.root (r.td :: r.scope) tt (typeKey root t :: stack)
       if !base.errs.isEmpty then { ty := none, errs := base.errs } else
       match base.ty with
       | none => { ty := none, errs := [Err.at_ tt "crash"] }
       | some bty =>
         let tdr := typedefOverlay env r.root r.td tt bty
         if !tdr.errs.isEmpty then { ty := none, errs := tdr.errs } else
         match tdr.ty with
         | none => { ty := none, errs := [Err.at_ r.td "no-yangtype"] }
         | some tdY => overlayType env root t src tdY (memberRes env fuel root scope t stack)) := by
  conv => lhs; unfold resolveTypeF
  unfold memberRes
  simp only [hc, hl, htt, Bool.false_eq_true, if_false]
  rfl

theorem typedefOverlay_ty_some {env : Env} {root : Mod} {td tt : Stmt} {ty : YType}
    (h : (typedefOverlay env root td tt ty).errs = []) : ∃ y, (typedefOverlay env root td tt ty).ty = some y := by
  unfold typedefOverlay at h ⊢
  split
  · rename_i hn; rw [hn] at h; simp at h
  · exact ⟨_, rfl⟩

theorem res_eq {r : Res} {y : YType} (h1 : r.ty = some y) (h2 : r.errs = []) : r = { ty := some y, errs := [] } := by
  cases r; simp only at h1 h2; rw [h1, h2]

/-- How an error-free `Type.resolve` came about: the name is a built-in and the overlay on it is
error-free; or the name is bound to a typedef, the typedef's own type resolved without error, and so
did the typedef's overlay on that and the type's overlay on the result. -/
theorem resolve_ok_cases {env : Env} {fuel : Nat} {root : Mod} {scope : List Stmt} {t : Stmt} {stack : List TypeKey}
    {y : YType} (h : resolveTypeF env (fuel + 1) root scope t stack = { ty := some y, errs := [] }) :
    (∃ y0, lookup env root scope t = .builtin y0 ∧
      overlayType env root t .builtin y0 (memberRes env fuel root scope t stack) = { ty := some y, errs := [] }) ∨
    (∃ src r tt bty tdY, lookup env root scope t = .typedef src r ∧ r.td.one? "type" = some tt ∧
      resolveTypeF env fuel r.root (r.td :: r.scope) tt (typeKey root t :: stack) = { ty := some bty, errs := [] } ∧
      typedefOverlay env r.root r.td tt bty = { ty := some tdY, errs := [] } ∧
      overlayType env root t src tdY (memberRes env fuel root scope t stack) = { ty := some y, errs := [] }) := by
  have hc : stack.contains (typeKey root t) = false := by
    cases hc : stack.contains (typeKey root t) with
    | false => rfl
    | true => unfold resolveTypeF at h; rw [if_pos hc] at h; cases h
  have hnotin : typeKey root t ∉ stack := by simpa using hc
  cases hl : lookup env root scope t with
  | error e => unfold resolveTypeF at h; simp [hnotin, hl] at h
  | builtin y0 => exact Or.inl ⟨y0, rfl, by rw [← resolve_builtin hc hl]; exact h⟩
  | typedef src r =>
    cases htt : r.td.one? "type" with
    | none => unfold resolveTypeF at h; simp [hnotin, hl, htt] at h
    | some tt =>
      rw [resolve_typedef hc hl htt] at h
      simp only at h
      -- an arm that hands errors on returns them unchanged, so they are not `[]`
      split at h
      · rename_i hbase
        rw [(Res.mk.inj h).2] at hbase
        cases hbase
      · rename_i hbase
        split at h
        · cases h
        · rename_i bty hbty
          split at h
          · rename_i htd
            rw [(Res.mk.inj h).2] at htd
            cases htd
          · rename_i htd
            split at h
            · cases h
            · rename_i tdY htdY
              exact Or.inr ⟨src, r, tt, bty, tdY, rfl, htt, res_eq hbty (by simpa using hbase),
                res_eq htdY (by simpa using htd), h⟩

/-- Induction along the typedef chain of an error-free resolution: a property of (base kind, chain,
resolved type) that holds after the overlay of a type statement naming a built-in, and is carried from
the type a typedef is based on through the typedef's overlay and the overlay of a type statement
naming it, holds of the chain the resolution went along. -/
theorem resolve_chain_ind (env : Env) {Q : String → List Link → YType → Prop}
    (base : ∀ {fuel : Nat} {root : Mod} {scope : List Stmt} {t : Stmt} {stack : List TypeKey} {y0 y : YType},
      builtin? t.arg = some y0 →
      overlayType env root t .builtin y0 (memberRes env fuel root scope t stack) = { ty := some y, errs := [] } →
      Q t.arg [.ty root scope t] y)
    (step : ∀ {fuel : Nat} {root : Mod} {scope : List Stmt} {t : Stmt} {stack : List TypeKey} {src : Source}
      {r : TdRef} {tt : Stmt} {bty tdY y : YType} {kind : String} {chain : List Link}, Q kind chain bty →
      typedefOverlay env r.root r.td tt bty = { ty := some tdY, errs := [] } →
      overlayType env root t src tdY (memberRes env fuel root scope t stack) = { ty := some y, errs := [] } →
      Q kind (.ty root scope t :: .td r.td :: chain) y) :
    ∀ (fuel : Nat) (root : Mod) (scope : List Stmt) (t : Stmt) (stack : List TypeKey) (y : YType),
      scopeKinds.contains t.kw = false →
      resolveTypeF env fuel root scope t stack = { ty := some y, errs := [] } →
      ∃ kind chain, DerivesFrom env.reg root scope t kind chain ∧ Q kind chain y := by
  intro fuel
  induction fuel with
  | zero => intro root scope t stack y _ h; simp [resolveTypeF] at h
  | succ fuel ih =>
    intro root scope t stack y ht h
    rcases resolve_ok_cases h with ⟨y0, hl, ho⟩ | ⟨src, r, tt, bty, tdY, hl, htt, hb, htd, ho⟩
    · have hb0 := lookup_builtin hl
      exact ⟨t.arg, [.ty root scope t], DerivesFrom.builtin (builtin_some hb0), base hb0 ho⟩
    · obtain ⟨kind, chain, hder, hq⟩ := ih r.root (r.td :: r.scope) tt _ bty (type_not_scope (kw_of_one htt)) hb
      exact ⟨kind, .ty root scope t :: .td r.td :: chain,
        DerivesFrom.derived r.root r.td r.scope tt kind chain (lookup_binds env root scope t ht src r hl) htt hder,
        step hq htd ho⟩

/-! ## A finite derivation excludes cycles (relative to the sites below the reference) -/

theorem resolvable_acc' {reg : Registry} :
    ∀ {root : Mod} {scope : List Stmt} {t : Stmt}, Resolvable reg root scope t → UnambiguousBelow reg (root, scope, t) →
      Acc (fun b a => Uses reg a b) (root, scope, t)
  | root, scope, t, .builtin hb hm, hU => by
    constructor
    intro y hy
    have hUy : UnambiguousBelow reg y := hU.step (UsesStar.tail (UsesStar.refl _) hy)
    cases hy with
    | base m td sc tt hbind _ => rw [binds_not_builtin hbind] at hb; cases hb
    | member ut hut => exact resolvable_acc' (hm ut hut) hUy
  | root, scope, t, .derived m td sc tt hbind htt hbase hm, hU => by
    constructor
    intro y hy
    have hUy : UnambiguousBelow reg y := hU.step (UsesStar.tail (UsesStar.refl _) hy)
    cases hy with
    | base m' td' sc' tt' hbind' htt' =>
      obtain ⟨h1, h2, h3⟩ := hU _ (UsesStar.refl _) _ _ _ _ _ _ hbind hbind'
      subst h1 h2 h3
      rw [htt] at htt'
      cases htt'
      exact resolvable_acc' hbase hUy
    | member ut hut => exact resolvable_acc' (hm ut hut) hUy

theorem resolvable_not_cyclic' {reg : Registry} {root : Mod} {scope : List Stmt} {t : Stmt}
    (hU : UnambiguousBelow reg (root, scope, t)) (h : Resolvable reg root scope t) : ¬ Cyclic reg (root, scope, t) := by
  rintro ⟨b, hb, hcyc⟩
  have hacc := resolvable_acc' h hU
  rcases hb with rfl | hb
  · exact acc_no_cycle hacc hcyc
  · exact acc_no_cycle (acc_usesPlus hacc hb) hcyc

/-! ## The binding part of `Type.resolve` is complete -/

/-- The keys on the stack are those of sites above the current one. -/
def StackOk (reg : Registry) (s0 c : Site) (stack : List TypeKey) : Prop :=
  ∀ k ∈ stack, ∃ a, siteKey a = k ∧ UsesStar reg s0 a ∧ UsesPlus reg a c

theorem StackOk.push {reg : Registry} {s0 c d : Site} {stack : List TypeKey} (h : StackOk reg s0 c stack)
    (hc : UsesStar reg s0 c) (hcd : Uses reg c d) : StackOk reg s0 d (siteKey c :: stack) := by
  intro k hk
  cases hk with
  | head => exact ⟨c, rfl, hc, UsesPlus.one hcd⟩
  | tail _ hk =>
    obtain ⟨a, ha, hsa, hp⟩ := h k hk
    exact ⟨a, ha, hsa, usesPlus_snoc hp hcd⟩

theorem resolvable_member {reg : Registry} {root : Mod} {scope : List Stmt} {t ut : Stmt}
    (h : Resolvable reg root scope t) (hut : ut ∈ t.all "type") : Resolvable reg root (t :: scope) ut := by
  cases h with
  | builtin _ hm => exact hm ut hut
  | derived _ _ _ _ _ _ _ hm => exact hm ut hut

/-- A type statement that names a built-in type and has no member types has a finite derivation. -/
theorem resolvable_leaf {reg : Registry} {root : Mod} {scope : List Stmt} {t : Stmt}
    (hb : builtinNames.contains t.arg = true) (hm : t.all "type" = []) : Resolvable reg root scope t :=
  .builtin hb fun ut hut => absurd hut (hm ▸ List.not_mem_nil)

/-- A `Resolvable` site below the reference is not among the sites in progress: a key on the stack
identifies a site above it, which would close a cycle. -/
theorem StackOk.fresh {reg : Registry} {s0 : Site} {root : Mod} {scope : List Stmt} {t : Stmt} {stack : List TypeKey}
    (hst : StackOk reg s0 (root, scope, t) stack) (hU : UnambiguousBelow reg s0) (hK : KeysIdentify reg s0)
    (hres : Resolvable reg root scope t) (hs0 : UsesStar reg s0 (root, scope, t)) : typeKey root t ∉ stack := by
  intro hmem
  obtain ⟨a, hka, hsa, hplus⟩ := hst _ hmem
  rw [hK a _ hsa hplus hka] at hplus
  exact acc_no_cycle (resolvable_acc' hres (hU.step hs0)) hplus

/-- The standing hypotheses on the loaded set and the reference `s0` being resolved. -/
structure Standing (env : Env) (s0 : Site) : Prop where
  seqId : SeqId env.reg
  linked : Linked env
  imports : ImportsDistinct env.reg
  unamb : UnambiguousBelow env.reg s0
  keys : KeysIdentify env.reg s0

/-- A `Resolvable` type statement raises no binding-level error (unknown name or prefix, cycle,
exhausted budget): whatever errors `Type.resolve` returns for it are restriction errors. -/
theorem resolve_noBind (env : Env) (s0 : Site) (hS : Standing env s0) :
    ∀ (fuel : Nat) (root : Mod) (scope : List Stmt) (t : Stmt) (stack : List TypeKey),
      InSet env root scope t → PartOfSchema env.reg root → t.kw = "type" → Resolvable env.reg root scope t →
      UsesStar env.reg s0 (root, scope, t) → StackOk env.reg s0 (root, scope, t) stack →
      Budget env.reg fuel stack →
      NoBind (resolveTypeF env fuel root scope t stack).errs := by
  intro fuel
  induction fuel with
  | zero => intro root scope t stack _ _ _ _ _ _ hb; exact hb.not_zero.elim
  | succ fuel ih =>
    intro root scope t stack hin hsch hkw hres hs0 hst hb
    have hnotin := hst.fresh hS.unamb hS.keys hres hs0
    have hc' : stack.contains (typeKey root t) = false := by simpa using hnotin
    have hb' := hb.push hin.1 hin.2.1 hkw hnotin
    have hmembers : ∀ r ∈ memberRes env fuel root scope t stack, NoBind r.errs := by
      intro r hr
      unfold memberRes at hr
      obtain ⟨ut, hut, rfl⟩ := List.mem_map.mp hr
      have huse : Uses env.reg (root, scope, t) (root, t :: scope, ut) := Uses.member ut hut
      exact ih root (t :: scope) ut _ (hin.member hut) hsch (kw_of_all hut) (resolvable_member hres hut)
        (UsesStar.tail hs0 huse) (hst.push hs0 huse) hb'
    cases hres with
    | builtin hb hm =>
      obtain ⟨y, hl⟩ := lookup_of_builtin (env := env) (root := root) (scope := scope) hb
      rw [resolve_builtin hc' hl]
      exact overlayType_noBind hmembers
    | derived m td sc tt hbind htt hbase hm =>
      obtain ⟨src, r, hl⟩ := lookup_complete env hS.seqId hS.linked hS.imports root hin.1 hsch scope t hbind
      have hbd := lookup_binds env root scope t (type_not_scope hkw) src r hl
      obtain ⟨e1, e2, e3⟩ := hS.unamb _ hs0 _ _ _ _ _ _ hbind hbd
      subst e1 e2 e3
      have huse : Uses env.reg (root, scope, t) (r.root, r.td :: r.scope, tt) := Uses.base r.root r.td r.scope tt hbind htt
      have hbaseNB : NoBind (resolveTypeF env fuel r.root (r.td :: r.scope) tt (typeKey root t :: stack)).errs :=
        ih r.root (r.td :: r.scope) tt _ (hin.base hl htt) (binds_partOfSchema hsch hbind) (kw_of_one htt) hbase
          (UsesStar.tail hs0 huse) (hst.push hs0 huse) hb'
      rw [resolve_typedef hc' hl htt]
      simp only
      split
      · exact hbaseNB
      · rename_i hbe
        split
        · rename_i hty
          exfalso
          have he : (resolveTypeF env fuel r.root (r.td :: r.scope) tt (typeKey root t :: stack)).errs = [] := by
            simpa using hbe
          obtain ⟨y, hy⟩ := resolve_ty_some env fuel _ _ _ _ he
          rw [hy] at hty
          cases hty
        · split
          · exact typedefOverlay_noBind
          · rename_i htde
            split
            · rename_i htn
              exfalso
              obtain ⟨y, hy⟩ := typedefOverlay_ty_some (by simpa using htde)
              rw [hy] at htn
              cases htn
            · exact overlayType_noBind hmembers

end Goyang.Lemmas.TypesComplete
