import Goyang.Lemmas.ListAux
import Goyang.Lemmas.SortAux
import Goyang.Lemmas.RegistryAux
import Goyang.Spec.Include
import Goyang.Lemmas.FuelLoops
/-
C13 (third sentence), the linking stage: `linkAll` / `includeWalk` of a registry and of the registry
in which one module is split into an owner and submodules (`Spec.Include.RegsOK`).

Part 1: what `RegsOK` / `TextOK` say about the lookups of the two registries (`byId`, `getModule`,
`findModule`, `distinctModules`), in terms of `repl` (the module `m` replaced by the owner).
Part 2: generic facts about `includeWalk` (sticky error, the start is marked, a second error-free
walk of the same statements changes nothing).
Part 3: the simulation of a walk of `R` by a walk of `R'` (`simL`); `linkStep`, the step of `linkAll`.
-/
namespace Goyang.Lemmas.IncludeLink
open Goyang.Model Goyang.Spec.Include Goyang.Lemmas.Fuel

/-! ### Part 1: the two registries -/

/-- `m` replaced by the owner; every other module as it is. -/
def repl (s : Split) (x : Mod) : Mod := if x.seq == s.m.seq then s.owner else x

/-- In a list with distinct keys a member is found by its key. -/
theorem find?_key_of_nodup {α β} [BEq β] [LawfulBEq β] (f : α → β) {l : List α} (hnd : (l.map f).Nodup)
    {x : α} (hx : x ∈ l) : l.find? (fun y => f y == f x) = some x := by
  induction l with
  | nil => cases hx
  | cons y ys ih =>
    simp only [List.map_cons, List.nodup_cons] at hnd
    rcases List.mem_cons.mp hx with rfl | hys
    · simp
    · have hne : (f y == f x) = false := by
        rw [beq_eq_false_iff_ne]
        intro e
        exact hnd.1 (e ▸ List.mem_map_of_mem hys)
      rw [List.find?_cons, hne]
      exact ih hnd.2 hys

theorem eq_of_seq_eq {l : List Mod} (hnd : (l.map (·.seq)).Nodup) {x y : Mod} (hx : x ∈ l) (hy : y ∈ l)
    (h : x.seq = y.seq) : x = y :=
  ListAux.eq_of_nodup_map _ _ hnd _ hx _ hy h

theorem byId_seq {reg : Registry} {id : Nat} {m : Mod} (h : reg.byId id = some m) : m.seq = id := by
  have := List.find?_some h
  simpa using this

/-- Whatever `FindModule` returns for an import statement has been loaded. -/
theorem findModule_false_mem {reg : Registry} {i : Stmt} {m : Mod}
    (h : reg.findModule false i = some m) : m ∈ reg.mods := by
  unfold Registry.findModule at h
  simp only [Bool.false_eq_true, if_false] at h
  split at h
  · next m' hm' => cases h; exact RegistryAux.getModule_mem hm'
  · exact RegistryAux.getModule_mem h

theorem keyMap_get?_mem {km : KeyMap} {k : String} {id : Nat} (h : km.get? k = some id) :
    ∃ kv ∈ km, kv.2 = id := by
  unfold KeyMap.get? at h
  cases hf : km.find? (·.1 == k) with
  | none => simp [hf] at h
  | some kv =>
    rw [hf] at h
    exact ⟨kv, List.mem_of_find?_eq_some hf, by simpa using h⟩

section Regs
variable {s : Split} {R R' : Registry}

theorem repl_seq (hr : RegsOK s R R') (x : Mod) : (repl s x).seq = x.seq := by
  unfold repl
  split
  · next h => rw [hr.owner_seq]; exact (beq_iff_eq.mp h).symm
  · rfl

theorem repl_m (s : Split) : repl s s.m = s.owner := by simp [repl]

theorem repl_of_ne {x : Mod} (h : x.seq ≠ s.m.seq) : repl s x = x := by
  simp [repl, h]

theorem mods_split (hr : RegsOK s R R') : R'.mods = R.mods.map (repl s) ++ s.subs := hr.mods'

theorem repl_mem (hr : RegsOK s R R') {x : Mod} (hx : x ∈ R.mods) : repl s x ∈ R'.mods := by
  rw [mods_split hr]
  exact List.mem_append_left _ (List.mem_map_of_mem hx)

theorem owner_mem (hr : RegsOK s R R') : s.owner ∈ R'.mods := by
  rw [← repl_m s]; exact repl_mem hr hr.m_mem

theorem sub_mem (hr : RegsOK s R R') {sb : Mod} (h : sb ∈ s.subs) : sb ∈ R'.mods := by
  rw [hr.mods']
  exact List.mem_append_right _ h

theorem byId_of_mem (hr : RegsOK s R R') {x : Mod} (hx : x ∈ R.mods) : R.byId x.seq = some x :=
  find?_key_of_nodup Mod.seq hr.seqs_nodup hx

/-- `byId` of the split registry: the replaced module of `R` with that number, else the submodule. -/
theorem byId_split (hr : RegsOK s R R') (k : Nat) :
    R'.byId k = ((R.byId k).map (repl s)).or (s.subs.find? (·.seq == k)) := by
  unfold Registry.byId
  rw [mods_split hr, List.find?_append, List.find?_map]
  have : ((fun x : Mod => x.seq == k) ∘ repl s) = (fun x : Mod => x.seq == k) := by
    funext x
    simp only [Function.comp, repl_seq hr]
  rw [this]

theorem byId_split_of_mem (hr : RegsOK s R R') {x : Mod} (hx : x ∈ R.mods) :
    R'.byId x.seq = some (repl s x) := by
  rw [byId_split hr, byId_of_mem hr hx]; rfl

theorem byId_none_of_sub (hr : RegsOK s R R') {sb : Mod} (h : sb ∈ s.subs) : R.byId sb.seq = none := by
  unfold Registry.byId
  rw [List.find?_eq_none]
  intro x hx
  simp only [beq_iff_eq]
  exact fun e => hr.sub_seqs_fresh sb h x hx e.symm

theorem byId_split_of_sub (hr : RegsOK s R R') {sb : Mod} (h : sb ∈ s.subs) :
    R'.byId sb.seq = some sb := by
  rw [byId_split hr, byId_none_of_sub hr h]
  exact find?_key_of_nodup Mod.seq hr.sub_seqs_nodup h

/-- `ms.Modules[k]` of the split registry is that of the unsplit one, `m` replaced by the owner. -/
theorem getModule_split (hr : RegsOK s R R') (k : String) :
    R'.getModule k = (R.getModule k).map (repl s) := by
  unfold Registry.getModule
  rw [hr.modules']
  cases hk : R.modules.get? k with
  | none => rfl
  | some id =>
    obtain ⟨kv, hkv, rfl⟩ := keyMap_get?_mem hk
    obtain ⟨x, hx, hxs⟩ := hr.keys_valid kv hkv
    simp only [Option.bind_some]
    rw [← hxs, byId_split_of_mem hr hx, byId_of_mem hr hx]
    rfl

/-- `FindModule` of an import statement: the same in both registries, `m` replaced by the owner. -/
theorem findModule_false_split (hr : RegsOK s R R') (i : Stmt) :
    R'.findModule false i = (R.findModule false i).map (repl s) := by
  unfold Registry.findModule
  simp only [Bool.false_eq_true, if_false, getModule_split hr]
  cases R.getModule (match i.argOf? "revision-date" with
    | some d => i.arg ++ "@" ++ d
    | none => i.arg) <;> rfl

/-- `ms.SubModules[name]` of the split registry, for the name of a submodule of the split. -/
theorem getSub_split (hr : RegsOK s R R') {sb : Mod} (h : sb ∈ s.subs) : R'.getSub sb.name = some sb := by
  unfold Registry.getSub KeyMap.get?
  rw [hr.subModules', List.find?_map]
  have : ((fun kv : String × Nat => kv.1 == sb.name) ∘ fun b : Mod => (b.name, b.seq)) =
      fun b : Mod => b.name == sb.name := rfl
  rw [this, find?_key_of_nodup Mod.name hr.sub_names_nodup h]
  exact byId_split_of_sub hr h

theorem owner_imports (ht : TextOK s) : s.owner.imports = s.m.imports :=
  ht.kept "import" (by simp [keptKws])

theorem owner_fullName (ht : TextOK s) : s.owner.fullName = s.m.fullName := by
  unfold Mod.fullName Mod.current Mod.name
  rw [ht.kept "revision" (by simp [keptKws]), ht.owner_arg]

theorem sub_imports (ht : TextOK s) {sb : Mod} (h : sb ∈ s.subs) : sb.imports = s.m.imports :=
  ht.sub_imports sb h

theorem owner_part (s : Split) : s.owner ∈ s.parts := List.mem_cons_self ..

theorem sub_part {sb : Mod} (h : sb ∈ s.subs) : sb ∈ s.parts := List.mem_cons_of_mem _ h

theorem part_cases {P : Mod} (h : P ∈ s.parts) : P = s.owner ∨ P ∈ s.subs := List.mem_cons.mp h

theorem part_imports (ht : TextOK s) {P : Mod} (h : P ∈ s.parts) : P.imports = s.m.imports := by
  rcases part_cases h with rfl | h
  · exact owner_imports ht
  · exact sub_imports ht h

theorem includes_nil (hr : RegsOK s R R') {x : Mod} (hx : x ∈ R.mods) : x.includes = [] :=
  (hr.R_modules_only x hx).2.2

/-- A member of `R` with `m`'s number is `m`. -/
theorem eq_m_of_seq (hr : RegsOK s R R') {x : Mod} (hx : x ∈ R.mods) (h : x.seq = s.m.seq) : x = s.m :=
  eq_of_seq_eq hr.seqs_nodup hx hr.m_mem h

theorem repl_imports (ht : TextOK s) (hr : RegsOK s R R') {x : Mod} (hx : x ∈ R.mods) :
    (repl s x).imports = x.imports := by
  by_cases h : x.seq = s.m.seq
  · rw [eq_m_of_seq hr hx h, repl_m, owner_imports ht]
  · rw [repl_of_ne h]

theorem repl_fullName (ht : TextOK s) (hr : RegsOK s R R') {x : Mod} (hx : x ∈ R.mods) :
    (repl s x).fullName = x.fullName := by
  by_cases h : x.seq = s.m.seq
  · rw [eq_m_of_seq hr hx h, repl_m, owner_fullName ht]
  · rw [repl_of_ne h]

/-- `m` is one of the modules the linking stage starts from. -/
theorem m_distinct (hr : RegsOK s R R') : s.m ∈ R.distinctModules := by
  unfold Registry.distinctModules
  rw [List.mem_filter]
  refine ⟨hr.m_mem, ?_⟩
  have h := hr.m_bound
  unfold Registry.getModule at h
  cases hk : R.modules.get? s.m.name with
  | none => simp [hk] at h
  | some id =>
    rw [hk] at h
    obtain ⟨kv, hkv, hid⟩ := keyMap_get?_mem hk
    rw [List.any_eq_true]
    exact ⟨kv, hkv, by rw [hid, byId_seq h]; simp⟩

/-- The modules the linking stage starts from: those of `R`, `m` replaced by the owner (no
submodule: their numbers are bound in `ms.SubModules` only). -/
theorem distinctModules_split (hr : RegsOK s R R') :
    R'.distinctModules = R.distinctModules.map (repl s) := by
  unfold Registry.distinctModules
  rw [mods_split hr, hr.modules', List.filter_append, List.filter_map]
  have h1 : ((fun m : Mod => R.modules.any (·.2 == m.seq)) ∘ repl s) = (fun m : Mod => R.modules.any (·.2 == m.seq)) := by
    funext x
    simp only [Function.comp, repl_seq hr]
  have h2 : s.subs.filter (fun m : Mod => R.modules.any (·.2 == m.seq)) = [] := by
    rw [List.filter_eq_nil_iff]
    intro sb hsb
    simp only [List.any_eq_true, beq_iff_eq, not_exists, not_and]
    intro kv hkv e
    obtain ⟨x, hx, hxs⟩ := hr.keys_valid kv hkv
    exact hr.sub_seqs_fresh sb hsb x hx (by rw [hxs, e])
  rw [h1, h2, List.append_nil]

end Regs

/-! ### Part 2: generic facts about the walk -/

/-- An error stops the walk of a statement list. -/
theorem foldl_walkStep_err (reg : Registry) (n : Nat) (b : Bool) (v : List Nat) (e : Err) (L : List Stmt) :
    L.foldl (walkStep reg n b) (v, some e) = (v, some e) := by
  induction L with
  | nil => rfl
  | cons i L ih => rw [List.foldl_cons]; exact ih

theorem walkStep_none (reg : Registry) (n : Nat) (b : Bool) (v : List Nat) (i : Stmt) :
    walkStep reg n b (v, none) i =
      match reg.findModule b i with
      | none => (v, some (Err.bare (if b then "no-such-submodule" else "no-such-module")))
      | some im => includeWalk reg n v im := rfl

/-- An error-free walk of `i :: L`: `i` resolves, the walk from its target is error free, and so
is the walk of `L` from there. -/
theorem foldl_walkStep_cons_ok {reg : Registry} {n : Nat} {b : Bool} {v w : List Nat} {i : Stmt} {L : List Stmt}
    (h : (i :: L).foldl (walkStep reg n b) (v, none) = (w, none)) :
    ∃ im v1, reg.findModule b i = some im ∧ includeWalk reg n v im = (v1, none) ∧
      L.foldl (walkStep reg n b) (v1, none) = (w, none) := by
  rw [List.foldl_cons, walkStep_none] at h
  cases hf : reg.findModule b i with
  | none =>
    rw [hf] at h
    simp only at h
    rw [foldl_walkStep_err] at h
    cases h
  | some im =>
    rw [hf] at h
    simp only at h
    cases hw : includeWalk reg n v im with
    | mk v1 e1 =>
      rw [hw] at h
      cases e1 with
      | some e => rw [foldl_walkStep_err] at h; cases h
      | none => exact ⟨im, v1, rfl, hw, h⟩

theorem foldl_walkStep_cons_of {reg : Registry} {n : Nat} {b : Bool} {v v1 : List Nat} {i : Stmt} {im : Mod}
    (L : List Stmt) (hf : reg.findModule b i = some im) (hw : includeWalk reg n v im = (v1, none)) :
    (i :: L).foldl (walkStep reg n b) (v, none) = L.foldl (walkStep reg n b) (v1, none) := by
  rw [List.foldl_cons]
  congr 1
  unfold walkStep
  simp only [hf, hw]

/-- The walk of a statement list only ever adds marks. -/
theorem foldl_walkStep_mono (reg : Registry) (n : Nat) (b : Bool) (L : List Stmt) (acc : List Nat × Option Err)
    (x : Nat) (hx : x ∈ acc.1) : x ∈ (L.foldl (walkStep reg n b) acc).1 := by
  apply ListAux.foldl_inv (fun acc : List Nat × Option Err => x ∈ acc.1) _ _ _ hx
  intro a i _ ha
  unfold walkStep
  split
  · exact ha
  · split
    · exact ha
    · exact includeWalk_visited_mono _ _ _ _ _ ha

/-- The start of a walk that has fuel is marked afterwards. -/
theorem includeWalk_start_mem (reg : Registry) (n : Nat) (v : List Nat) (m : Mod) :
    m.seq ∈ (includeWalk reg (n + 1) v m).1 := by
  rw [includeWalk_succ]
  split
  · next h => simpa using h
  · apply foldl_walkStep_mono
    apply foldl_walkStep_mono
    exact List.mem_cons_self ..

/-- The start of an error-free walk is marked afterwards. -/
theorem includeWalk_ok_start_mem {reg : Registry} {n : Nat} {v w : List Nat} {m : Mod}
    (h : includeWalk reg n v m = (w, none)) : m.seq ∈ w := by
  cases n with
  | zero => rw [includeWalk_zero] at h; cases h
  | succ n =>
    have := includeWalk_start_mem reg n v m
    rw [h] at this
    exact this

/-- A walk from a marked module changes nothing. -/
theorem includeWalk_of_mem (reg : Registry) (n : Nat) {v : List Nat} {m : Mod} (h : m.seq ∈ v) :
    includeWalk reg (n + 1) v m = (v, none) := by
  rw [includeWalk_succ, if_pos (by simpa using h)]

/-- After an error-free walk of a statement list every target is marked, so a second walk of the
same list changes nothing. -/
theorem foldl_walkStep_idem {reg : Registry} {n : Nat} {b : Bool} {L : List Stmt} {v w : List Nat}
    (h : L.foldl (walkStep reg n b) (v, none) = (w, none)) :
    L.foldl (walkStep reg n b) (w, none) = (w, none) := by
  have key : ∀ (L : List Stmt) (v : List Nat), L.foldl (walkStep reg n b) (v, none) = (w, none) →
      ∀ i ∈ L, walkStep reg n b (w, none) i = (w, none) := by
    intro L
    induction L with
    | nil => intro v _ i hi; cases hi
    | cons j L ih =>
      intro v h i hi
      obtain ⟨im, v1, hf, hw, hrest⟩ := foldl_walkStep_cons_ok h
      rcases List.mem_cons.mp hi with rfl | hi'
      · have hmem : im.seq ∈ w := by
          have := foldl_walkStep_mono reg n b L (v1, none) im.seq (includeWalk_ok_start_mem hw)
          rw [hrest] at this
          exact this
        cases n with
        | zero => rw [includeWalk_zero] at hw; cases hw
        | succ n =>
          unfold walkStep
          simp only [hf]
          exact includeWalk_of_mem reg n hmem
      · exact ih v1 hrest i hi'
  have hk := key L v h
  clear h key
  induction L with
  | nil => rfl
  | cons j L ih =>
    rw [List.foldl_cons, hk j (List.mem_cons_self ..)]
    exact ih fun i hi => hk i (List.mem_cons_of_mem _ hi)

/-! ### Part 3: a walk of `R` simulated by a walk of `R'` -/

/-- The marks agree on the modules of `R` (the order of the marks differs, and `v'` may hold
submodule numbers in addition). -/
def Ia (R : Registry) (v v' : List Nat) : Prop := ∀ x ∈ R.mods, (x.seq ∈ v' ↔ x.seq ∈ v)

/-- The simulation statement for walks of `R` with fuel `n`: an error-free walk of `R` from `x` is
matched by an error-free walk of `R'` from `repl x` with any sufficient fuel; the marks agree
afterwards, and when `m` was newly marked then so were all submodules. -/
def Sim (s : Split) (R R' : Registry) (n : Nat) : Prop :=
  ∀ (v v' : List Nat) (x : Mod) (w : List Nat) (g : Nat),
    x ∈ R.mods → includeWalk R n v x = (w, none) → Ia R v v' → unvisited R' v' + 1 ≤ g →
    ∃ w', includeWalk R' g v' (repl s x) = (w', none) ∧ Ia R w w' ∧
      (s.m.seq ∈ w → s.m.seq ∉ v → ∀ sb ∈ s.subs, sb.seq ∈ w')

section Sim
variable {s : Split} {R R' : Registry}

theorem Ia_cons_both {v v' : List Nat} (h : Ia R v v') (k : Nat) : Ia R (k :: v) (k :: v') := by
  intro x hx
  simp only [List.mem_cons]
  rw [h x hx]

theorem Ia_cons_sub (hr : RegsOK s R R') {v v' : List Nat} (h : Ia R v v') {sb : Mod} (hsb : sb ∈ s.subs) :
    Ia R v (sb.seq :: v') := by
  intro x hx
  simp only [List.mem_cons]
  rw [h x hx]
  constructor
  · rintro (e | h)
    · exact absurd e.symm (hr.sub_seqs_fresh sb hsb x hx)
    · exact h
  · exact Or.inr

/-- The walk of a list of import statements, given the simulation of single walks. -/
theorem simL (hr : RegsOK s R R') {n : Nat} (IH : Sim s R R' n) :
    ∀ (L : List Stmt) (v v' w : List Nat) (g : Nat),
      L.foldl (walkStep R n false) (v, none) = (w, none) → Ia R v v' → unvisited R' v' + 1 ≤ g →
      ∃ w', L.foldl (walkStep R' g false) (v', none) = (w', none) ∧ Ia R w w' ∧
        (s.m.seq ∈ w → s.m.seq ∉ v → ∀ sb ∈ s.subs, sb.seq ∈ w') := by
  intro L
  induction L with
  | nil =>
    intro v v' w g h hI _
    simp only [List.foldl_nil, Prod.mk.injEq, and_true] at h
    subst h
    exact ⟨v', rfl, hI, fun h1 h2 => absurd h1 h2⟩
  | cons i L ih =>
    intro v v' w g h hI hg
    obtain ⟨im, v1, hf, hw, hrest⟩ := foldl_walkStep_cons_ok h
    have him := findModule_false_mem hf
    obtain ⟨w1', hw1, hI1, hc1⟩ := IH v v' im v1 g him hw hI hg
    have hmono : ∀ y, y ∈ v' → y ∈ w1' := by
      intro y hy
      have := includeWalk_visited_mono R' g v' (repl s im) y hy
      rw [hw1] at this
      exact this
    have hg1 : unvisited R' w1' + 1 ≤ g := by
      have := unvisited_mono R' v' w1' hmono
      omega
    obtain ⟨w', hw', hI', hc'⟩ := ih v1 w1' w g hrest hI1 hg1
    refine ⟨w', ?_, hI', ?_⟩
    · rw [foldl_walkStep_cons_of L (by rw [findModule_false_split hr, hf]; rfl) hw1]
      exact hw'
    · intro hmw hmv sb hsb
      by_cases hm1 : s.m.seq ∈ v1
      · have := foldl_walkStep_mono R' g false L (w1', none) sb.seq (hc1 hm1 hmv sb hsb)
        rw [hw'] at this
        exact this
      · exact hc' hmw hm1 sb hsb

end Sim

/-! ### Part 4: `linkAll` -/

/-- The step of the fold in `linkAll` (the same term, named). -/
def linkStep (reg : Registry) (acc : List Nat × List Err) (m : Mod) : List Nat × List Err :=
  ((includeWalk reg (reg.mods.length + 1) acc.1 m).1,
    match (includeWalk reg (reg.mods.length + 1) acc.1 m).2 with
    | some e => acc.2 ++ [e]
    | none => acc.2)

theorem linkAll_eq (reg : Registry) :
    linkAll reg =
      (sortBy (fun (a b : Mod) => a.fullName < b.fullName) reg.distinctModules).foldl (linkStep reg) ([], []) := rfl

theorem linkStep_errs_nil {reg : Registry} {acc : List Nat × List Err} {x : Mod}
    (h : (linkStep reg acc x).2 = []) :
    acc.2 = [] ∧ includeWalk reg (reg.mods.length + 1) acc.1 x = ((linkStep reg acc x).1, none) := by
  unfold linkStep at h ⊢
  cases hw : includeWalk reg (reg.mods.length + 1) acc.1 x with
  | mk v e =>
    rw [hw] at h
    cases e with
    | none => exact ⟨h, rfl⟩
    | some e => simp at h

theorem foldl_linkStep_errs_nil {reg : Registry} {l : List Mod} {acc : List Nat × List Err}
    (h : (l.foldl (linkStep reg) acc).2 = []) : acc.2 = [] := by
  induction l generalizing acc with
  | nil => exact h
  | cons x l ih => exact (linkStep_errs_nil (ih h)).1

theorem foldl_linkStep_mono (reg : Registry) (l : List Mod) (acc : List Nat × List Err) (y : Nat)
    (hy : y ∈ acc.1) : y ∈ (l.foldl (linkStep reg) acc).1 := by
  apply ListAux.foldl_inv (fun acc : List Nat × List Err => y ∈ acc.1) _ _ _ hy
  intro a x _ ha
  exact includeWalk_visited_mono _ _ _ _ _ ha

/-- Every start of `linkAll` is marked in the end. -/
theorem foldl_linkStep_roots (reg : Registry) (l : List Mod) (acc : List Nat × List Err) (x : Mod)
    (hx : x ∈ l) : x.seq ∈ (l.foldl (linkStep reg) acc).1 := by
  induction l generalizing acc with
  | nil => cases hx
  | cons z l ih =>
    rw [List.foldl_cons]
    rcases List.mem_cons.mp hx with rfl | hx'
    · exact foldl_linkStep_mono reg l _ _ (includeWalk_start_mem reg _ _ _)
    · exact ih _ hx'

section Top
variable {s : Split} {R R' : Registry}

end Top

end Goyang.Lemmas.IncludeLink
