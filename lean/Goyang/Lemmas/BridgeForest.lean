import Goyang.Lemmas.BridgeNamesStages
/-
Bridge lemmas, part 5 (C17): `Spec.Find.WFForest` of the forest a clean `processAll` returns.

* tree ids are not repeated: `toEntry` files a (sub)module's entry in the cache only when the cache
  has none, and a (sub)module whose conversion is in progress is not converted again (the `visiting`
  check) — so the cache keys are distinct (`tstate_ckeys_nodup` in Lemmas/Bridge.lean, for registries
  with distinct sequence numbers); every later stage rewrites trees in place (`Forest.setTree`, `map`),
  keeping the key list;
* every tree satisfies `wfKeys`: C04's `KeysUnique` and the predicate `gq` of Lemmas/BridgeNames.lean.
-/
set_option linter.unusedVariables false
set_option linter.unusedSimpArgs false
open Goyang.Lemmas.ListAux (foldl_inv)
namespace Goyang.Lemmas.Bridge
open Goyang.Model Goyang.Spec.Tree Goyang.Lemmas.Tree
open Goyang.Spec.Find (goodName wfKeys wfKeysL WFForest distinct)

/-! ### every later stage keeps the list of tree ids -/

theorem fkeys_augmentTree (reg : Registry) (id : Nat) (addErrors : Bool) (s : PState) :
    fkeys (augmentTree reg id addErrors s).1.forest = fkeys s.forest := by
  obtain ⟨_, fle, _⟩ := augmentTree_ok reg id addErrors s
  exact fle.1

theorem fkeys_augmentPass (reg : Registry) (fuel : Nat) (mods : Array Nat) (i processed : Nat) (s : PState) :
    fkeys (augmentPass reg fuel mods i processed s).2.2.forest = fkeys s.forest :=
  augmentPass_keeps reg (fun s' => fkeys s'.forest = fkeys s.forest)
    (fun id s' h => (fkeys_augmentTree reg id false s').trans h) fuel mods i processed s rfl

theorem fkeys_augmentLoop (reg : Registry) (fuel : Nat) (mods : Array Nat) (s : PState) :
    fkeys (augmentLoop reg fuel mods s).2.forest = fkeys s.forest :=
  augmentLoop_keeps reg (fun s' => fkeys s'.forest = fkeys s.forest)
    (fun id s' h => (fkeys_augmentTree reg id false s').trans h) fuel mods s rfl

theorem fkeys_leftover (reg : Registry) (left : Array Nat) (s : PState) :
    fkeys (left.foldl (fun (acc : PState × Nat) id =>
      let (s, p, _) := augmentTree reg id true acc.1
      (s, acc.2 + p)) (s, 0)).1.forest = fkeys s.forest :=
  leftover_keeps reg (fun s' => fkeys s'.forest = fkeys s.forest)
    (fun id s' h => (fkeys_augmentTree reg id true s').trans h) left s rfl

theorem fkeys_fixAll (s : PState) : fkeys (fixAll s).forest = fkeys s.forest := (FLe_fixAll s).1

theorem fkeys_preDev (reg : Registry) (opts : Opts) (plug : Plug) :
    fkeys (preDev reg opts plug).forest = fkeys (forest0 reg opts plug) := by
  have h1 : fkeys (afterRounds reg opts plug).2.forest = fkeys (forest0 reg opts plug) :=
    afterRounds_state reg opts plug (fun s => fkeys s.forest = fkeys (forest0 reg opts plug))
      (fun fuel mods s h => (fkeys_augmentLoop reg fuel mods s).trans h)
      (fun s h => (fkeys_fixAll s).trans h) rfl
  have h2 : fkeys (leftoverPass reg opts plug).1.forest = fkeys (forest0 reg opts plug) := by
    unfold leftoverPass
    rw [fkeys_leftover, h1]
  unfold preDev
  split
  · rw [fkeys_fixAll, h2]
  · exact h2

theorem fkeys_applyDeviations (reg : Registry) (opts : Opts) (m : Mod) (devs : List (Stmt × List (String × Entry)))
    (f : Forest) : fkeys (applyDeviations reg opts m devs f).1 = fkeys f := by
  unfold applyDeviations
  refine foldl_inv (fun acc : Forest × List Err => fkeys acc.1 = fkeys f) _ devs (f, []) rfl ?_
  rintro ⟨f1, errs⟩ ⟨dstmt, deviates⟩ _ hP
  dsimp only at hP ⊢
  have hfind := (FLe_find reg f1 (m.seq, []) m.seq dstmt.arg).1
  generalize find reg f1 (m.seq, []) m.seq dstmt.arg = r at hfind
  obtain ⟨target, f'⟩ := r
  dsimp only at hfind ⊢
  split
  · exact hfind.trans hP
  · rename_i t path
    split
    · exact hfind.trans hP
    · rename_i node0 _
      dsimp only
      refine foldl_inv (fun acc : Forest × Entry × Bool × List Err => fkeys acc.1 = fkeys f) _ deviates _ (hfind.trans hP) ?_
      rintro ⟨f2, node, detached, errs2⟩ ds _ h2
      dsimp only at h2 ⊢
      split
      · exact h2
      · split
        · exact h2
        · rw [fkeys_setTree]; exact h2

theorem fkeys_devStage (reg : Registry) (opts : Opts) (plug : Plug) (f0 : Forest) :
    fkeys (devStage reg opts plug f0).1 = fkeys f0 := by
  unfold devStage
  refine foldl_inv (fun acc : Forest × List Err × List String => fkeys acc.1 = fkeys f0) _ _ _ rfl ?_
  rintro ⟨f, errs, done⟩ m _ hP
  dsimp only at hP ⊢
  split
  · exact hP
  · dsimp only
    rw [fkeys_applyDeviations]; exact hP

/-- The tree ids of the forest a clean `Process` returns are those of the conversion cache. -/
theorem fkeys_processAll (reg : Registry) (opts : Opts) (plug : Plug) (h : (processAll reg opts plug).errors = []) :
    fkeys (processAll reg opts plug).forest = ckeys (tstate reg opts plug) := by
  obtain ⟨_, _, _, _, h5⟩ := processAll_clean reg opts plug h
  rw [h5, fkeys_devStage, fkeys_preDev]
  rfl

/-! ### `wfKeys` -/

theorem distinct_iff (l : List String) : distinct l = true ↔ l.Nodup := by
  induction l with
  | nil => simp [distinct]
  | cons x xs ih =>
    simp only [distinct, Bool.and_eq_true, Bool.not_eq_true', List.nodup_cons, ih]
    constructor
    · rintro ⟨h1, h2⟩; exact ⟨by simpa using h1, h2⟩
    · rintro ⟨h1, h2⟩; exact ⟨by simpa using h1, h2⟩

/-- `wfKeys` is C04's `KeysUnique` (its sibling-name half) together with `gq`. -/
theorem wfKeys_of (e : Entry) (hk : KeysUnique e) (hg : everyNode gq e = true) : wfKeys e = true := by
  unfold KeysUnique at hk
  induction e using entry_ind with
  | h d c i o hc hi ho =>
    rw [everyNode_mk] at hk hg
    have k0 := (keysUniqueHere_iff _ _ _ _).1 hk.1
    have g0 := (gq_mk _ _ _ _).1 hg.1
    unfold wfKeys
    simp only [Bool.and_eq_true]
    have wl : ∀ l : List Entry, (∀ x ∈ l, wfKeys x = true) → wfKeysL l = true := by
      intro l hl
      induction l with
      | nil => rfl
      | cons a l ih =>
        simp only [wfKeysL, Bool.and_eq_true]
        exact ⟨hl a (by simp), ih (fun x hx => hl x (by simp [hx]))⟩
    refine ⟨⟨⟨⟨⟨(distinct_iff _).2 k0.1, ?_⟩, ?_⟩, ?_⟩, ?_⟩, ?_⟩
    · simp only [List.all_eq_true]; exact g0.1
    · have := g0.2
      split at this
      · rename_i hr; simp only [hr, if_true]; rw [this]; rfl
      · rename_i hr
        have hr' : d.isRpc = false := by simpa using hr
        simp only [hr', Bool.false_eq_true, if_false]
        obtain ⟨rfl, rfl⟩ := this; rfl
    · exact wl c (fun x hx => hc x hx (hk.2.1 x hx) (hg.2.1 x hx))
    · exact wl i (fun x hx => hi x hx (hk.2.2.1 x hx) (hg.2.2.1 x hx))
    · exact wl o (fun x hx => ho x hx (hk.2.2.2 x hx) (hg.2.2.2 x hx))

/-- **`WFForest` of the forest of an error-free `processAll`**, for a registry of the loaded shape
whose data-node statements have spellable names. -/
theorem process_clean_wfForest (reg : Registry) (opts : Opts) (plug : Plug) (hL : Fuel.LoadedShape reg)
    (hnp : NamesPlain reg) (h : (processAll reg opts plug).errors = []) :
    WFForest (processAll reg opts plug).forest := by
  refine ⟨?_, ?_⟩
  · have := fkeys_processAll reg opts plug h
    unfold fkeys at this
    rw [this]; exact tstate_ckeys_nodup reg opts plug hL
  · intro it hit
    exact wfKeys_of it.2 (process_clean_wf reg opts plug h it hit).1.1 (process_clean_gq reg opts plug hnp h it hit)

end Goyang.Lemmas.Bridge
