import Goyang.Lemmas.LoadOrderFind
import Goyang.Lemmas.AugmentModel
import Goyang.Lemmas.Rounds
/-
Load-order independence (C05), part 5: linking and the augment stage commute with the renaming
of module identities.  Core Lean only.
-/
namespace Goyang.Lemmas.LoadOrder
open Goyang.Model
open Goyang.Lemmas.AugmentModel (stepM augmentTree_unfold)

/-! ### linking -/

def wren (σ : Nat → Nat) (p : List Nat × Option Err) : List Nat × Option Err := (p.1.map σ, p.2)

/-- One import / include statement in `includeWalk`. -/
def walkStep (reg : Registry) (rec : List Nat → Mod → List Nat × Option Err) (inc : Bool)
    (acc : List Nat × Option Err) (i : Stmt) : List Nat × Option Err :=
  match acc.2 with
  | some _ => acc
  | none =>
    match reg.findModule inc i with
    | none => (acc.1, some (Err.bare (if inc then "no-such-submodule" else "no-such-module")))
    | some im => rec acc.1 im

theorem includeWalk_succ (reg : Registry) (fuel : Nat) (visited : List Nat) (m : Mod) :
    includeWalk reg (fuel + 1) visited m =
      if visited.contains m.seq then (visited, none) else
      m.imports.foldl (walkStep reg (includeWalk reg fuel) false)
        (m.includes.foldl (walkStep reg (includeWalk reg fuel) true) (m.seq :: visited, none)) := rfl

section
variable {σ : Nat → Nat} {r₁ r₂ : Registry} (h : RegRel σ r₁ r₂)
include h

theorem includeWalk_ren : ∀ (fuel : Nat) (visited : List Nat) (m : Mod),
    includeWalk r₂ fuel (visited.map σ) (Mod.ren σ m) = wren σ (includeWalk r₁ fuel visited m)
  | 0, visited, m => rfl
  | fuel + 1, visited, m => by
    rw [includeWalk_succ, includeWalk_succ, Mod.ren_seq, contains_map_inj σ h.inj, Mod.ren_includes, Mod.ren_imports]
    split
    · rfl
    · have hstep : ∀ (inc : Bool) (l : List Stmt) (acc : List Nat × Option Err),
          l.foldl (walkStep r₂ (includeWalk r₂ fuel) inc) (wren σ acc) =
            wren σ (l.foldl (walkStep r₁ (includeWalk r₁ fuel) inc) acc) := by
        intro inc l acc
        refine List.foldl_hom (wren σ) ?_
        rintro ⟨v, e⟩ i
        unfold walkStep
        cases e with
        | some e => rfl
        | none =>
          simp only [wren, h.findModule]
          cases r₁.findModule inc i with
          | none => rfl
          | some im => exact includeWalk_ren fuel v im
      have h0 : (σ m.seq :: visited.map σ, (none : Option Err)) = wren σ (m.seq :: visited, none) := rfl
      rw [h0, hstep true, hstep false]

theorem linkAll_ren : linkAll r₂ = ((linkAll r₁).1.map σ, (linkAll r₁).2) := by
  unfold linkAll
  simp only [h.modulesByFullName, List.foldl_map, h.length]
  have : (([] : List Nat), ([] : List Err)) = ((fun p : List Nat × List Err => (p.1.map σ, p.2)) ([], [])) := rfl
  rw [this]
  refine List.foldl_hom (fun p : List Nat × List Err => (p.1.map σ, p.2)) ?_
  rintro ⟨v, es⟩ m
  simp only [includeWalk_ren h, wren]

end

/-! ### the augment state -/

/-- Two states of the augment stage: the forests correspond; the pending lists hold the same
augments per tree (they may list the trees in different orders). -/
structure PRel (σ : Nat → Nat) (s₁ s₂ : PState) : Prop where
  forest : s₂.forest = Forest.ren σ s₁.forest
  pend : ∀ id, s₂.pendingOf (σ id) = (s₁.pendingOf id).map (Entry.ren σ)
  has : ∀ id, s₂.pending.any (·.1 == σ id) = s₁.pending.any (·.1 == id)

theorem pendingOf_setPending (s : PState) (id : Nat) (l : List Entry) (id' : Nat) :
    (s.setPending id l).pendingOf id' =
      if id' = id then (if s.pending.any (·.1 == id) then l else []) else s.pendingOf id' := by
  unfold PState.setPending PState.pendingOf
  simp only
  induction s.pending with
  | nil => simp
  | cons x t ih =>
    obtain ⟨i, p⟩ := x
    simp only [List.map_cons, List.find?_cons, List.any_cons]
    by_cases hi : i = id'
    · subst hi
      by_cases h2 : i = id
      · subst h2; simp
      · simp [h2]
    · have hb : (i == id') = false := beq_eq_false_iff_ne.mpr hi
      by_cases h2 : i = id
      · subst h2
        simp only [beq_self_eq_true, if_true, hb, Bool.true_or]
        rw [ih]
        by_cases h3 : id' = i
        · exact absurd h3.symm hi
        · simp [h3]
      · have hb2 : (i == id) = false := beq_eq_false_iff_ne.mpr h2
        simp only [hb2, Bool.false_eq_true, if_false, hb, Bool.false_or]
        exact ih

theorem any_setPending (s : PState) (id : Nat) (l : List Entry) (id' : Nat) :
    (s.setPending id l).pending.any (·.1 == id') = s.pending.any (·.1 == id') := by
  unfold PState.setPending
  simp only [List.any_map]
  congr 1
  funext x
  obtain ⟨i, p⟩ := x
  simp only [Function.comp]
  split <;> rfl

theorem PRel.setPending {σ : Nat → Nat} (hσ : ∀ a b, σ a = σ b → a = b) {s₁ s₂ : PState} (h : PRel σ s₁ s₂)
    (id : Nat) (l : List Entry) : PRel σ (s₁.setPending id l) (s₂.setPending (σ id) (l.map (Entry.ren σ))) where
  forest := h.forest
  pend := by
    intro id'
    rw [pendingOf_setPending, pendingOf_setPending, h.has, h.pend]
    by_cases e : id' = id
    · subst e
      simp only [if_true]
      split <;> rfl
    · have : σ id' ≠ σ id := fun x => e (hσ _ _ x)
      rw [if_neg e, if_neg this]
  has := by
    intro id'
    rw [any_setPending, any_setPending, h.has]

/-! ### `augmentTree` -/

def accRen (σ : Nat → Nat) (P₂ : List (Nat × List Entry)) (acc : PState × List Entry × Nat × Nat) :
    PState × List Entry × Nat × Nat :=
  ({ forest := Forest.ren σ acc.1.forest, pending := P₂ }, acc.2.1.map (Entry.ren σ), acc.2.2.1, acc.2.2.2)

theorem cannotHaveChildren_ren (σ : Nat → Nat) (e : Entry) : cannotHaveChildren (Entry.ren σ e) = cannotHaveChildren e := by
  simp [cannotHaveChildren]

theorem stepM_pending (reg : Registry) (id : Nat) (ae : Bool) (ns : String) (acc : PState × List Entry × Nat × Nat)
    (a : Entry) : (stepM reg id ae ns acc a).1.pending = acc.1.pending := by
  obtain ⟨s, u, p, k⟩ := acc
  unfold stepM
  simp only
  repeat' split
  all_goals rfl

section
variable {σ : Nat → Nat} {r₁ r₂ : Registry} (h : RegRel σ r₁ r₂)
include h

theorem stepM_ren (id : Nat) (ae : Bool) (ns : String) (P₂ : List (Nat × List Entry))
    (acc : PState × List Entry × Nat × Nat) (a : Entry) :
    stepM r₂ (σ id) ae ns (accRen σ P₂ acc) (Entry.ren σ a) = accRen σ P₂ (stepM r₁ id ae ns acc a) := by
  obtain ⟨s, u, p, k⟩ := acc
  unfold stepM accRen
  simp only [ren_d, renD_nodeMod, renD_name, renD_node]
  have hf := find_ren h s.forest (id, []) a.d.nodeMod a.d.name
  simp only [lren] at hf
  rw [hf]
  generalize find r₁ s.forest (id, []) a.d.nodeMod a.d.name = r
  obtain ⟨tgt, f⟩ := r
  simp only [tree?_ren h.inj]
  cases tgt with
  | none =>
    cases ae <;> cases f.tree? id <;>
      simp only [Option.map_none, Option.map_some, List.map_append, List.map_cons, List.map_nil, ← ren_addErr,
        setTree_ren h.inj, Bool.false_eq_true, if_false, if_true]
  | some tp =>
    obtain ⟨t, path⟩ := tp
    simp only [Option.map_some, lren, tree?_ren h.inj]
    cases ht : f.tree? t with
    | none =>
      cases ae <;> cases f.tree? id <;>
        simp only [Option.map_none, Option.map_some, Option.bind_none, List.map_append, List.map_cons, List.map_nil,
          ← ren_addErr, setTree_ren h.inj, Bool.false_eq_true, if_false, if_true]
    | some root =>
      simp only [Option.map_some, Option.bind_some, getAt_ren]
      cases hte : root.getAt path with
      | none =>
        cases ae <;> cases f.tree? id <;>
          simp only [Option.map_none, Option.map_some, List.map_append, List.map_cons, List.map_nil,
            ← ren_addErr, setTree_ren h.inj, Bool.false_eq_true, if_false, if_true]
      | some te =>
        simp only [Option.map_some, cannotHaveChildren_ren]
        by_cases hc : cannotHaveChildren te = true
        · simp only [hc, if_true]
          cases ae <;> cases f.tree? id <;>
            simp only [Option.map_none, Option.map_some, List.map_append, List.map_cons, List.map_nil,
              ← ren_addErr, setTree_ren h.inj, Bool.false_eq_true, if_false, if_true]
        · simp only [hc, Bool.false_eq_true, if_false]
          rw [← updateAt_ren σ (fun te => te.merge (some ns) a) (fun te => te.merge (some ns) (Entry.ren σ a))
            (fun x => ren_merge σ x (some ns) a) path root, setTree_ren h.inj]

omit h in
theorem foldl_stepM_pending (reg : Registry) (id : Nat) (ae : Bool) (ns : String) (l : List Entry)
    (acc : PState × List Entry × Nat × Nat) : (l.foldl (stepM reg id ae ns) acc).1.pending = acc.1.pending := by
  induction l generalizing acc with
  | nil => rfl
  | cons a t ih => rw [List.foldl_cons, ih, stepM_pending]

/-- **`augmentTree` on corresponding states.** -/
theorem augmentTree_rel {s₁ s₂ : PState} (hs : PRel σ s₁ s₂) (id : Nat) (ae : Bool) :
    PRel σ (augmentTree r₁ id ae s₁).1 (augmentTree r₂ (σ id) ae s₂).1 ∧
    (augmentTree r₂ (σ id) ae s₂).2 = (augmentTree r₁ id ae s₁).2 := by
  rw [augmentTree_unfold, augmentTree_unfold]
  have hns : namespaceAt r₂ s₂.forest (σ id, []) = namespaceAt r₁ s₁.forest (id, []) := by
    rw [hs.forest]; exact namespaceAt_ren h s₁.forest (id, [])
  have h0 : (s₂, ([] : List Entry), 0, 0) = accRen σ s₂.pending (s₁, [], 0, 0) := by
    cases s₂ with | mk f₂ p₂ =>
    have := hs.forest
    simp only at this
    subst this
    rfl
  simp only [hns, hs.pend id, List.foldl_map]
  rw [h0]
  have hfold : (s₁.pendingOf id).foldl (fun x y => stepM r₂ (σ id) ae (namespaceAt r₁ s₁.forest (id, [])) x (Entry.ren σ y))
      (accRen σ s₂.pending (s₁, [], 0, 0)) =
      accRen σ s₂.pending ((s₁.pendingOf id).foldl (stepM r₁ id ae (namespaceAt r₁ s₁.forest (id, []))) (s₁, [], 0, 0)) :=
    List.foldl_hom (accRen σ s₂.pending) (fun x y => stepM_ren h id ae _ s₂.pending x y)
  rw [hfold]
  have hp := foldl_stepM_pending r₁ id ae (namespaceAt r₁ s₁.forest (id, [])) (s₁.pendingOf id) (s₁, [], 0, 0)
  generalize (s₁.pendingOf id).foldl (stepM r₁ id ae (namespaceAt r₁ s₁.forest (id, []))) (s₁, [], 0, 0) = r at hp
  obtain ⟨s', u, p, k⟩ := r
  simp only at hp
  refine ⟨?_, rfl⟩
  simp only [accRen]
  refine PRel.setPending h.inj ?_ id u
  refine ⟨rfl, ?_, ?_⟩
  · intro id'
    have := hs.pend id'
    unfold PState.pendingOf at this ⊢
    simp only [hp]
    exact this
  · intro id'
    simp only [hp]
    exact hs.has id'

omit h in
theorem swapRemove_map (mods : Array Nat) (i : Nat) (hi : i < mods.size) (hi' : i < (mods.map σ).size) :
    ((mods.map σ).set i ((mods.map σ).back?.getD 0) hi').pop = ((mods.set i (mods.back?.getD 0) hi).pop).map σ := by
  have hb : (mods.map σ).back?.getD 0 = σ (mods.back?.getD 0) := by
    rw [Array.back?_map]
    cases hbk : mods.back? with
    | some x => rfl
    | none =>
      exfalso
      have : mods.size ≤ mods.size - 1 := by
        simpa [Array.back?] using hbk
      omega
  rw [Array.map_pop, Array.map_set]
  simp only [hb]

theorem augmentPass_rel : ∀ (fuel : Nat) (mods : Array Nat) (i processed : Nat) (s₁ s₂ : PState), PRel σ s₁ s₂ →
    (augmentPass r₂ fuel (mods.map σ) i processed s₂).1 = (augmentPass r₁ fuel mods i processed s₁).1.map σ ∧
    (augmentPass r₂ fuel (mods.map σ) i processed s₂).2.1 = (augmentPass r₁ fuel mods i processed s₁).2.1 ∧
    PRel σ (augmentPass r₁ fuel mods i processed s₁).2.2 (augmentPass r₂ fuel (mods.map σ) i processed s₂).2.2
  | 0, mods, i, processed, s₁, s₂, hs => ⟨rfl, rfl, hs⟩
  | fuel + 1, mods, i, processed, s₁, s₂, hs => by
    unfold augmentPass
    by_cases hi : i < mods.size
    · have hi' : i < (mods.map σ).size := by simpa using hi
      rw [dif_pos hi, dif_pos hi']
      have hget : (mods.map σ)[i] = σ mods[i] := by simp
      obtain ⟨hrel, heq⟩ := augmentTree_rel h hs mods[i] false
      simp only [hget]
      rw [show augmentTree r₂ (σ mods[i]) false s₂ =
        ((augmentTree r₂ (σ mods[i]) false s₂).1, (augmentTree r₁ mods[i] false s₁).2) from by rw [← heq]]
      generalize augmentTree r₁ mods[i] false s₁ = o₁ at hrel ⊢
      generalize (augmentTree r₂ (σ mods[i]) false s₂).1 = s₂' at hrel ⊢
      obtain ⟨s₁', p, k⟩ := o₁
      simp only at hrel ⊢
      by_cases hk : (k == 0) = true
      · simp only [hk, if_true]
        rw [swapRemove_map mods i hi hi']
        exact augmentPass_rel fuel _ i (processed + p) s₁' s₂' hrel
      · simp only [hk, Bool.false_eq_true, if_false]
        exact augmentPass_rel fuel mods (i + 1) (processed + p) s₁' s₂' hrel
    · have hi' : ¬ i < (mods.map σ).size := by simpa using hi
      rw [dif_neg hi, dif_neg hi']
      exact ⟨rfl, rfl, hs⟩

theorem augmentLoop_rel : ∀ (fuel : Nat) (mods : Array Nat) (s₁ s₂ : PState), PRel σ s₁ s₂ →
    (augmentLoop r₂ fuel (mods.map σ) s₂).1 = (augmentLoop r₁ fuel mods s₁).1.map σ ∧
    PRel σ (augmentLoop r₁ fuel mods s₁).2 (augmentLoop r₂ fuel (mods.map σ) s₂).2
  | 0, mods, s₁, s₂, hs => ⟨rfl, hs⟩
  | fuel + 1, mods, s₁, s₂, hs => by
    unfold augmentLoop
    have he : (mods.map σ).isEmpty = mods.isEmpty := by
      simp only [Array.isEmpty, Array.size_map]
    rw [he]
    by_cases hm : mods.isEmpty = true
    · rw [if_pos hm, if_pos hm]
      exact ⟨rfl, hs⟩
    · rw [if_neg hm, if_neg hm]
      have hsz : (mods.map σ).size = mods.size := by simp
      obtain ⟨h1, h2, h3⟩ := augmentPass_rel h (mods.size + 1) mods 0 0 s₁ s₂ hs
      rw [hsz]
      generalize augmentPass r₁ (mods.size + 1) mods 0 0 s₁ = o₁ at h1 h2 h3 ⊢
      generalize augmentPass r₂ (mods.size + 1) (mods.map σ) 0 0 s₂ = o₂ at h1 h2 h3 ⊢
      obtain ⟨m₁, p₁, s₁'⟩ := o₁
      obtain ⟨m₂, p₂, s₂'⟩ := o₂
      simp only at h1 h2 h3 ⊢
      subst h1 h2
      by_cases hp : (p₂ == 0) = true
      · rw [if_pos hp, if_pos hp]
        exact ⟨rfl, h3⟩
      · rw [if_neg hp, if_neg hp]
        exact augmentLoop_rel fuel m₁ s₁' s₂' h3

/-! ### `FixChoice`, the rest of the augment phase -/

omit h in
theorem wrapOne_ren (ce : Entry) : OrderIndep.wrapOne (Entry.ren σ ce) = Entry.ren σ (OrderIndep.wrapOne ce) := by
  unfold OrderIndep.wrapOne
  rw [ren_d, renD_kind]
  by_cases hk : (ce.d.kind == Kind.case_) = true
  · rw [if_pos hk, if_pos hk]
  · rw [if_neg hk, if_neg hk]
    simp [renD]

omit h in
theorem wrapCases_renL (l : List Entry) : wrapCases (renL σ l) = renL σ (wrapCases l) := by
  rw [OrderIndep.wrapCases_eq_map, OrderIndep.wrapCases_eq_map, renL_eq_map, renL_eq_map, List.map_map, List.map_map]
  apply List.map_congr_left
  intro ce _
  exact wrapOne_ren ce

omit h in
mutual
theorem fixChoice_ren : ∀ (e : Entry), fixChoice (Entry.ren σ e) = Entry.ren σ (fixChoice e)
  | .mk d c i o => by
    simp only [Entry.ren, fixChoice, renD_kind, renD_errors]
    rw [fixChoiceL_renL c, fixChoiceL_renL i, fixChoiceL_renL o]
    split
    · rw [wrapCases_renL]
    · rfl
theorem fixChoiceL_renL : ∀ (l : List Entry), fixChoiceL (renL σ l) = renL σ (fixChoiceL l)
  | [] => rfl
  | e :: es => by
    simp only [renL, fixChoiceL]
    rw [fixChoice_ren e, fixChoiceL_renL es]
end

def fixAll (s : PState) : PState :=
  { s with forest := { trees := s.forest.trees.map fun (i, e) => (i, fixChoice e) } }

omit h in
/-- The reporting sweep (`Augment(true)`) over the modules the rounds left, with the number of
augments applied. -/
def sweep (reg : Registry) (left : List Nat) (acc : PState × Nat) : PState × Nat :=
  left.foldl (fun acc id => ((augmentTree reg id true acc.1).1, acc.2 + (augmentTree reg id true acc.1).2.1)) acc

omit h in
theorem fixAll_rel {s₁ s₂ : PState} (hs : PRel σ s₁ s₂) : PRel σ (fixAll s₁) (fixAll s₂) where
  forest := by
    unfold fixAll
    simp only [hs.forest, Forest.ren, List.map_map]
    congr 1
    apply List.map_congr_left
    rintro ⟨i, e⟩ _
    simp only [Function.comp, fixChoice_ren]
  pend := hs.pend
  has := hs.has

omit h in
theorem sweep_cons (reg : Registry) (id : Nat) (t : List Nat) (acc : PState × Nat) :
    sweep reg (id :: t) acc =
      sweep reg t ((augmentTree reg id true acc.1).1, acc.2 + (augmentTree reg id true acc.1).2.1) := rfl

theorem leftover_rel (left : List Nat) : ∀ (s₁ s₂ : PState) (n : Nat), PRel σ s₁ s₂ →
    PRel σ (sweep r₁ left (s₁, n)).1 (sweep r₂ (left.map σ) (s₂, n)).1 ∧
    (sweep r₂ (left.map σ) (s₂, n)).2 = (sweep r₁ left (s₁, n)).2 := by
  induction left with
  -- (`Eq.refl n`: a bare `rfl` compares the step functions of the two folds before it looks at the lists)
  | nil => intro s₁ s₂ n hs; exact ⟨hs, Eq.refl n⟩
  | cons id t ih =>
    intro s₁ s₂ n hs
    obtain ⟨h1, h2⟩ := augmentTree_rel h hs id true
    rw [List.map_cons, sweep_cons, sweep_cons]
    dsimp only
    rw [h2]
    exact ih _ _ _ h1

/-- The two runs agree on whether a loop applied anything. -/
theorem loopCount_rel (fuel : Nat) (mods : Array Nat) (s₁ s₂ : PState) (hs : PRel σ s₁ s₂) :
    Rounds.loopCount r₁ fuel mods s₁ = 0 ↔ Rounds.loopCount r₂ fuel (mods.map σ) s₂ = 0 := by
  rw [Rounds.loopCount_eq_zero, Rounds.loopCount_eq_zero]
  have he : (mods.map σ).isEmpty = mods.isEmpty := by
    simp only [Array.isEmpty, Array.size_map]
  have hsz : (mods.map σ).size = mods.size := by simp
  rw [he, hsz, (augmentPass_rel h (mods.size + 1) mods 0 0 s₁ s₂ hs).2.1]

/-- **The retry rounds on corresponding states.** -/
theorem leftoverRounds_rel (fuel n : Nat) (mods : Array Nat) (s₁ s₂ : PState) (hs : PRel σ s₁ s₂) :
    (leftoverRounds r₂ fuel n (mods.map σ) s₂).1 = (leftoverRounds r₁ fuel n mods s₁).1.map σ ∧
    PRel σ (leftoverRounds r₁ fuel n mods s₁).2 (leftoverRounds r₂ fuel n (mods.map σ) s₂).2 :=
  Rounds.rounds_rel r₁ r₂ (fun m₁ s₁ m₂ s₂ => m₂ = m₁.map σ ∧ PRel σ s₁ s₂)
    (fun fuel m₁ s₁ m₂ s₂ hR => by
      obtain ⟨rfl, hs⟩ := hR
      exact augmentLoop_rel h fuel m₁ s₁ s₂ hs)
    (fun fuel m₁ s₁ m₂ s₂ hR => by
      obtain ⟨rfl, hs⟩ := hR
      exact loopCount_rel h fuel m₁ s₁ s₂ hs)
    (fun m₁ s₁ m₂ s₂ hR => ⟨hR.1, fixAll_rel hR.2⟩) fuel n mods s₁ (mods.map σ) s₂ ⟨rfl, hs⟩

omit h in
attribute [local irreducible] leftoverRounds in
theorem augmentPhase_eq (reg : Registry) (order : List Nat) (fuel : Nat) (s : PState) :
    augmentPhase reg order fuel s =
      let r := augmentLoop reg fuel order.toArray s
      let q := leftoverRounds reg fuel fuel r.1 (fixAll r.2)
      let l := sweep reg q.1.toList (q.2, 0)
      if l.2 > 0 then fixAll l.1 else l.1 := by
  unfold augmentPhase sweep
  simp only [Array.foldl_toList]
  rfl

/-- **The augment phase on corresponding states.** -/
theorem augmentPhase_rel (order : List Nat) (fuel : Nat) {s₁ s₂ : PState} (hs : PRel σ s₁ s₂) :
    PRel σ (augmentPhase r₁ order fuel s₁) (augmentPhase r₂ (order.map σ) fuel s₂) := by
  rw [augmentPhase_eq, augmentPhase_eq]
  simp only
  rw [← List.map_toArray]
  obtain ⟨h1, h2⟩ := augmentLoop_rel h fuel order.toArray s₁ s₂ hs
  rw [h1]
  obtain ⟨h5, h6⟩ := leftoverRounds_rel h fuel fuel (augmentLoop r₁ fuel order.toArray s₁).1 _ _ (fixAll_rel h2)
  rw [h5, Array.toList_map]
  obtain ⟨h3, h4⟩ := leftover_rel h (leftoverRounds r₁ fuel fuel (augmentLoop r₁ fuel order.toArray s₁).1
    (fixAll (augmentLoop r₁ fuel order.toArray s₁).2)).1.toList _ _ 0 h6
  rw [h4]
  split
  · exact fixAll_rel h3
  · exact h3

end

end Goyang.Lemmas.LoadOrder
