import Goyang.Lemmas.Uses
import Goyang.Lemmas.Fuel
/-
C06: the `uses` case of `toEntry`, and the `uses` step as the first field step of every statement
that has one.

* `toEntry_uses`: a `uses` statement is converted by converting the grouping it denotes, in the
  grouping's own root and scope.
* `stepB_rel`: the one walk through the field step `Fuel.stepB`; `stepB_grows` (every field step
  only appends children) is an instance, `stepB_state` in Lemmas/UsesCacheInv.lean another.
* `toEntry_uses_first`: whenever `fieldOrder` puts `uses` first and the call reaches the directory
  case, the children of the result are those the fold of `usesStep` over the `uses` substatements
  produces, followed by more.  The theorems per statement kind instantiate it: container, list,
  case, input, output, notification, augment (no cache), grouping (the miss branch of the grouping
  cache), module / submodule (the miss branch of the module cache).
* the two caches: a hit returns the stored entry and leaves the state alone
  (`toEntry_grouping_cached` in Lemmas/Uses.lean, `toEntry_module_cached` here); a miss stores the
  resulting entry at the end of the cache (`toEntry_grouping_stores`, `toEntry_module_stores`); a
  miss on a statement that is under conversion answers the `cycle` error entry
  (`Lemmas.Fuel.toEntry_reentry`, C01).
-/
namespace Goyang.Lemmas.Uses
open Goyang.Model Goyang.Spec.Uses
open Goyang.Lemmas.Fuel (stepB Rec toEntryBody skeleton toEntry_succ toEntry_dir DirCase dirStart store store_fst
  store_grouping store_module visiting' isTracked)

theorem toEntry_uses (env : Env) (fuel : Nat) (root : Mod) (scope : List Stmt) (n : Stmt)
    (visiting : List NodeId) (st : TState) (h : n.kw = "uses") :
    toEntry env (fuel + 1) root scope n visiting st =
      match (findGrouping env.reg env.linked (2 * fuel + 16) root scope n.arg []).1 with
      | none => (errorEntry root n "unknown-group", st)
      | some (g, groot, gscope) => toEntry env fuel groot gscope g visiting st := by
  rw [toEntry_succ]
  unfold toEntryBody
  rw [Goyang.Lemmas.Fuel.skeleton_uses _ _ _ _ _ _ _ h, Goyang.Lemmas.Fuel.visiting'_uses root visiting h]
  rfl

/-! ### the `uses` step is the first field step of `toEntry` -/

/-- The children of `b` are those of `a` followed by more. -/
def DirGrows (a b : Entry) : Prop := ∃ tail, b.dir = a.dir ++ tail

theorem DirGrows.refl (a : Entry) : DirGrows a a := ⟨[], by simp⟩
theorem DirGrows.trans {a b c : Entry} (h1 : DirGrows a b) (h2 : DirGrows b c) : DirGrows a c := by
  obtain ⟨t1, h1⟩ := h1
  obtain ⟨t2, h2⟩ := h2
  exact ⟨t1 ++ t2, by rw [h2, h1, List.append_assoc]⟩
theorem DirGrows.of_eq {a b : Entry} (h : b.dir = a.dir) : DirGrows a b := ⟨[], by simp [h]⟩

theorem dir_withD (e : Entry) (f : EData → EData) : (e.withD f).dir = e.dir := by cases e; rfl
theorem dir_addErr (e : Entry) (x : Err) : (e.addErr x).dir = e.dir := by cases e; rfl

theorem add_grows (e : Entry) (k : String) (v : Entry) : DirGrows e (e.add k v) := by
  unfold Entry.add
  split
  · exact DirGrows.of_eq (dir_addErr _ _)
  · exact ⟨[v], by rw [dir_withDir]⟩

theorem importErrors_grows (e c : Entry) : DirGrows e (e.importErrors c) :=
  DirGrows.of_eq (by unfold Entry.importErrors; exact dir_addErrs _ _)

theorem foldl_rel {α γ : Type} {T : γ → γ → Prop} (hrefl : ∀ a, T a a) (htrans : ∀ a b c, T a b → T b c → T a c)
    (g : γ → α → γ) (hg : ∀ acc a, T acc (g acc a)) (l : List α) (acc : γ) : T acc (l.foldl g acc) := by
  induction l generalizing acc with
  | nil => exact hrefl _
  | cons a l ih => exact htrans _ _ _ (hg acc a) (ih (g acc a))

theorem merge_grows (e : Entry) (ns : Option String) (oe : Entry) : DirGrows e (e.merge ns oe) := by
  unfold Entry.merge
  simp only
  refine (importErrors_grows e oe).trans (foldl_rel DirGrows.refl (fun _ _ _ => DirGrows.trans) _ ?_ _ _)
  intro e v
  split
  · exact DirGrows.of_eq (dir_addErr _ _)
  · exact ⟨[_], by rw [dir_withDir]⟩

/-- One walk through the field step: a reflexive and transitive relation between accumulator and
result holds across `stepB` when it holds across its elementary moves — an update of the entry
that only appends children, a call of `rec` on the state, a change of the include marks or of the
pending augments. -/
theorem stepB_rel {T : Entry × TState → Entry × TState → Prop} (hrefl : ∀ a, T a a)
    (htrans : ∀ a b c, T a b → T b c → T a c)
    (env : Env) (rec : Rec) (root : Mod) (n : Stmt) (sub : List Stmt) (vis : List NodeId) (isMod : Bool)
    (hent : ∀ e e' st, DirGrows e e' → T (e, st) (e', st))
    (hcall : ∀ e root' scope' n' st, T (e, st) (e, (rec root' scope' n' vis st).2))
    (hmerged : ∀ e (st : TState) m, T (e, st) (e, { st with merged := m }))
    (haugs : ∀ e (st : TState) a, T (e, st) (e, { st with augs := a }))
    (acc : Entry × TState) (f : String) : T acc (stepB env rec root n sub vis isMod acc f) := by
  have same : ∀ {e e' : Entry} {st : TState}, e'.dir = e.dir → T (e, st) (e', st) := fun h => hent _ _ _ (.of_eq h)
  have call : ∀ (acc : Entry × TState) root' scope' n' e', DirGrows acc.1 e' →
      T acc (e', (rec root' scope' n' vis acc.2).2) :=
    fun acc _ _ _ _ h => htrans _ _ _ (hcall acc.1 _ _ _ acc.2) (hent _ _ _ h)
  obtain ⟨⟨d, c, i, o⟩, st⟩ := acc
  unfold stepB
  dsimp only
  split
  · exact same rfl
  · exact same rfl
  · cases n.argOf? "description" <;> exact same rfl
  · cases n.argOf? "key" <;> exact same rfl
  iterate 11 exact foldl_rel hrefl htrans _ (fun acc c => call acc _ _ _ _ (add_grows _ _ _)) _ _
  · exact foldl_rel hrefl htrans _ (fun acc c => call acc _ _ _ _ (importErrors_grows _ _)) _ _
  · exact foldl_rel hrefl htrans _ (fun acc c => call acc _ _ _ _ (merge_grows _ _ _)) _ _
  -- input, output
  · cases n.one? "input" with
    | none => exact hrefl _
    | some i => exact call _ _ _ _ _ (.of_eq rfl)
  · cases n.one? "output" with
    | none => exact hrefl _
    | some i => exact call _ _ _ _ _ (.of_eq rfl)
  -- include
  · refine foldl_rel hrefl htrans _ (fun acc a => ?_) _ _
    repeat' split
    · exact same (dir_addErr _ _)
    · exact hrefl _
    · exact hrefl _
    · exact htrans _ _ _ (hmerged _ _ _) (call _ _ _ _ _ (merge_grows _ _ _))
    · exact hrefl _
    · exact same (dir_addErr _ _)
  · exact foldl_rel hrefl htrans _ (fun acc c => call acc _ _ _ _ (importErrors_grows _ _)) _ _
  · refine foldl_rel hrefl htrans _ (fun acc c => call acc _ _ _ _ ?_) _ _
    split
    · exact importErrors_grows _ _
    · exact (importErrors_grows _ _).trans (.of_eq (dir_addErr _ _))
  · split
    · exact hrefl _
    · split
      · exact same rfl
      · exact same rfl
  · split
    · cases n.one? "default" <;> exact same rfl
    · exact hrefl _
  · cases n.argOf? "units" <;> exact same rfl
  · split
    · exact hrefl _
    · cases n.one? "max-elements" <;> exact same rfl
  · split
    · exact hrefl _
    · cases n.one? "min-elements" <;> exact same rfl
  -- augment: the fold over the augment statements moves the state only, then the pending list
  · split
    · exact hrefl _
    · refine htrans _ _ _ ?_ (haugs _ _ _)
      refine foldl_rel (T := fun (a b : List Entry × TState) => T (_, a.2) (_, b.2)) (fun _ => hrefl _)
        (fun _ _ _ => htrans _ _ _) _ (fun acc a => ?_) _ ([], st)
      exact hcall _ _ _ _ _
  · exact hrefl _

/-- Every field step of the directory case only appends children (the `uses` step included). -/
theorem stepB_grows (env : Env) (rec : Rec) (root : Mod) (n : Stmt) (sub : List Stmt)
    (vis : List NodeId) (isMod : Bool) (acc : Entry × TState) (f : String) :
    DirGrows acc.1 (stepB env rec root n sub vis isMod acc f).1 :=
  stepB_rel (T := fun a b => DirGrows a.1 b.1) (fun _ => .refl _) (fun _ _ _ => .trans) env rec root n sub vis isMod
    (fun _ _ _ h => h) (fun _ _ _ _ _ => .refl _) (fun _ _ _ => .refl _) (fun _ _ _ => .refl _) acc f

/-- The first field step, `uses`, is the fold of `usesStep`. -/
theorem stepB_uses (env : Env) (fuel : Nat) (root : Mod) (n : Stmt) (sub : List Stmt) (vis : List NodeId) (isMod : Bool)
    (acc : Entry × TState) :
    stepB env (toEntry env fuel) root n sub vis isMod acc "uses" = (n.all "uses").foldl (usesStep env fuel root sub vis) acc := by
  obtain ⟨e, st⟩ := acc
  rfl

theorem toEntry_uses_first (env : Env) (fuel : Nat) {root : Mod} (scope : List Stmt) {n : Stmt}
    {visiting : List NodeId} {st : TState} {rest : List String} (hfo : fieldOrder n.kw = "uses" :: rest)
    (h : DirCase root n visiting st) :
    DirGrows ((n.all "uses").foldl (usesStep env fuel root (n :: scope) (visiting' root n visiting)) (dirStart root n, st)).1
      (toEntry env (fuel + 1) root scope n visiting st).1 := by
  rw [toEntry_dir env fuel scope h, store_fst, hfo, List.foldl_cons, stepB_uses]
  exact foldl_rel (T := fun a b => DirGrows a.1 b.1) (fun _ => .refl _) (fun _ _ _ => .trans) _
    (fun acc f => stepB_grows env _ root n _ _ _ acc f) _ _

/-- The entry a directory-like statement other than `list` and `choice` starts from. -/
def dir0 (root : Mod) (n : Stmt) : Entry :=
  .mk { name := n.arg, kind := kindOfKw n.kw, hasDir := true, node := n, nodeMod := root.seq, nodeKw := n.kw } [] [] []

theorem dirStart_eq_dir0 (root : Mod) {n : Stmt} (hl : (n.kw == "list") = false) (hc : (n.kw == "choice") = false) :
    dirStart root n = dir0 root n := by
  simp only [dirStart, hl, hc, Bool.false_eq_true, if_false]
  rfl

/-- The statement kinds that are neither cached nor tracked and start from `dir0`. -/
theorem toEntry_plain_uses_first (env : Env) (fuel : Nat) (root : Mod) (scope : List Stmt) (n : Stmt)
    (visiting : List NodeId) (st : TState) {kw : String} {rest : List String} (hkw : n.kw = kw)
    (hfo : fieldOrder kw = "uses" :: rest)
    (hk : kw ∉ ["module", "submodule", "grouping", "leaf", "leaf-list", "uses", "list", "choice"]) :
    DirGrows ((n.all "uses").foldl (usesStep env fuel root (n :: scope) visiting) (dir0 root n, st)).1
      (toEntry env (fuel + 1) root scope n visiting st).1 := by
  subst hkw
  simp only [List.mem_cons, List.not_mem_nil, or_false, not_or, ← beq_eq_false_iff_ne] at hk
  obtain ⟨hm, hs, hg, hleaf, hll, hu, hl, hc⟩ := hk
  have ht : isTracked n = false := by rw [isTracked, hm, hs, hg]; rfl
  have h := toEntry_uses_first env fuel scope hfo (DirCase.of_untracked root visiting st ht ⟨hleaf, hll, hu⟩)
  rw [dirStart_eq_dir0 root hl hc] at h
  simpa only [visiting', ht, Bool.false_eq_true, if_false] using h

theorem toEntry_container_uses_first (env : Env) (fuel : Nat) (root : Mod) (scope : List Stmt) (n : Stmt)
    (visiting : List NodeId) (st : TState) (hkw : n.kw = "container") :
    DirGrows ((n.all "uses").foldl (usesStep env fuel root (n :: scope) visiting) (dir0 root n, st)).1
      (toEntry env (fuel + 1) root scope n visiting st).1 :=
  toEntry_plain_uses_first env fuel root scope n visiting st hkw rfl (by decide)

theorem toEntry_case_uses_first (env : Env) (fuel : Nat) (root : Mod) (scope : List Stmt) (n : Stmt)
    (visiting : List NodeId) (st : TState) (hkw : n.kw = "case") :
    DirGrows ((n.all "uses").foldl (usesStep env fuel root (n :: scope) visiting) (dir0 root n, st)).1
      (toEntry env (fuel + 1) root scope n visiting st).1 :=
  toEntry_plain_uses_first env fuel root scope n visiting st hkw rfl (by decide)

theorem toEntry_input_uses_first (env : Env) (fuel : Nat) (root : Mod) (scope : List Stmt) (n : Stmt)
    (visiting : List NodeId) (st : TState) (hkw : n.kw = "input") :
    DirGrows ((n.all "uses").foldl (usesStep env fuel root (n :: scope) visiting) (dir0 root n, st)).1
      (toEntry env (fuel + 1) root scope n visiting st).1 :=
  toEntry_plain_uses_first env fuel root scope n visiting st hkw rfl (by decide)

theorem toEntry_output_uses_first (env : Env) (fuel : Nat) (root : Mod) (scope : List Stmt) (n : Stmt)
    (visiting : List NodeId) (st : TState) (hkw : n.kw = "output") :
    DirGrows ((n.all "uses").foldl (usesStep env fuel root (n :: scope) visiting) (dir0 root n, st)).1
      (toEntry env (fuel + 1) root scope n visiting st).1 :=
  toEntry_plain_uses_first env fuel root scope n visiting st hkw rfl (by decide)

theorem toEntry_notification_uses_first (env : Env) (fuel : Nat) (root : Mod) (scope : List Stmt) (n : Stmt)
    (visiting : List NodeId) (st : TState) (hkw : n.kw = "notification") :
    DirGrows ((n.all "uses").foldl (usesStep env fuel root (n :: scope) visiting) (dir0 root n, st)).1
      (toEntry env (fuel + 1) root scope n visiting st).1 :=
  toEntry_plain_uses_first env fuel root scope n visiting st hkw rfl (by decide)

/-- `augment` statements (converted from a module's `augment` field, outside every cache). -/
theorem toEntry_augment_uses_first (env : Env) (fuel : Nat) (root : Mod) (scope : List Stmt) (n : Stmt)
    (visiting : List NodeId) (st : TState) (hkw : n.kw = "augment") :
    DirGrows ((n.all "uses").foldl (usesStep env fuel root (n :: scope) visiting) (dir0 root n, st)).1
      (toEntry env (fuel + 1) root scope n visiting st).1 :=
  toEntry_plain_uses_first env fuel root scope n visiting st hkw rfl (by decide)

/-- The entry a `list` statement starts from. -/
def list0 (root : Mod) (n : Stmt) : Entry :=
  .mk { name := n.arg, kind := kindOfKw n.kw, hasDir := true, node := n, nodeMod := root.seq, nodeKw := n.kw,
        listAttr := some (listAttrOf n).1, errors := (listAttrOf n).2 } [] [] []

theorem toEntry_list_uses_first (env : Env) (fuel : Nat) (root : Mod) (scope : List Stmt) (n : Stmt)
    (visiting : List NodeId) (st : TState) (hkw : n.kw = "list") :
    DirGrows ((n.all "uses").foldl (usesStep env fuel root (n :: scope) visiting) (list0 root n, st)).1
      (toEntry env (fuel + 1) root scope n visiting st).1 := by
  have ht : isTracked n = false := by simp [isTracked, hkw]
  have h := toEntry_uses_first env fuel scope (by rw [hkw]; rfl) (DirCase.of_untracked root visiting st ht (by simp [hkw]))
  have hl : (n.kw == "list") = true := by simp [hkw]
  have h0 : dirStart root n = list0 root n := by
    simp only [dirStart, hl, if_true]
    rfl
  rw [h0] at h
  simpa only [visiting', ht, Bool.false_eq_true, if_false] using h

/-! ### grouping statements: the grouping cache -/

/-- **A miss runs the same fold.**  A `grouping` statement that is not in the cache and not under
conversion is converted like a container: first its `uses` substatements, then fields that only
append children; the grouping itself is in `visiting` while this happens. -/
theorem toEntry_grouping_uses_first (env : Env) (fuel : Nat) (root : Mod) (scope : List Stmt) (n : Stmt)
    (visiting : List NodeId) (st : TState) (hkw : n.kw = "grouping")
    (hmiss : st.gcache.find? (·.1 == nodeId root n) = none) (hnv : visiting.contains (nodeId root n) = false) :
    DirGrows ((n.all "uses").foldl (usesStep env fuel root (n :: scope) (nodeId root n :: visiting)) (dir0 root n, st)).1
      (toEntry env (fuel + 1) root scope n visiting st).1 := by
  have h := toEntry_uses_first env fuel scope (by rw [hkw]; rfl) (DirCase.of_grouping hkw hmiss hnv)
  rw [dirStart_eq_dir0 root (by simp [hkw]) (by simp [hkw])] at h
  simpa [visiting', isTracked, hkw] using h

/-- … and stores the entry it produced at the end of the grouping cache. -/
theorem toEntry_grouping_stores (env : Env) (fuel : Nat) (root : Mod) (scope : List Stmt) (n : Stmt)
    (visiting : List NodeId) (st : TState) (hkw : n.kw = "grouping")
    (hmiss : st.gcache.find? (·.1 == nodeId root n) = none) (hnv : visiting.contains (nodeId root n) = false) :
    ∃ st' : TState, (toEntry env (fuel + 1) root scope n visiting st).2 =
      { st' with gcache := st'.gcache ++ [(nodeId root n, (toEntry env (fuel + 1) root scope n visiting st).1)] } := by
  rw [toEntry_dir env fuel scope (DirCase.of_grouping hkw hmiss hnv), store_grouping hkw]
  exact ⟨_, rfl⟩

/-! ### module and submodule statements: the module cache -/

/-- **A hit returns the stored entry**: a (sub)module statement whose module is in the cache is not
converted again; the state stays as it is. -/
theorem toEntry_module_cached (env : Env) (fuel : Nat) (root : Mod) (scope : List Stmt) (n : Stmt)
    (visiting : List NodeId) (st : TState) (k : Nat) (e : Entry) (hkw : n.kw = "module" ∨ n.kw = "submodule")
    (h : st.cache.find? (·.1 == root.seq) = some (k, e)) :
    toEntry env (fuel + 1) root scope n visiting st = (e, st) := by
  have hm : (n.kw == "module" || n.kw == "submodule") = true := by rcases hkw with hkw | hkw <;> simp [hkw]
  rw [toEntry]
  simp only [hm, if_true, h]

/-- **A miss runs the same fold.**  A (sub)module statement whose module is not in the cache and
not under conversion is converted like a container: first its `uses` substatements (`usesStep`),
then fields that only append children (the children of included submodules among them); the
statement is in `visiting` while this happens. -/
theorem toEntry_module_uses_first (env : Env) (fuel : Nat) (root : Mod) (scope : List Stmt) (n : Stmt)
    (visiting : List NodeId) (st : TState) (hkw : n.kw = "module" ∨ n.kw = "submodule")
    (hmiss : st.cache.find? (·.1 == root.seq) = none) (hnv : visiting.contains (nodeId root n) = false) :
    DirGrows ((n.all "uses").foldl (usesStep env fuel root (n :: scope) (nodeId root n :: visiting)) (dir0 root n, st)).1
      (toEntry env (fuel + 1) root scope n visiting st).1 := by
  have h := toEntry_uses_first env fuel scope (rest := (fieldOrder "module").tail)
    (by rcases hkw with hkw | hkw <;> rw [hkw] <;> rfl) (DirCase.of_module hkw hmiss hnv)
  rw [dirStart_eq_dir0 root (by rcases hkw with hkw | hkw <;> simp [hkw])
    (by rcases hkw with hkw | hkw <;> simp [hkw])] at h
  have ht : isTracked n = true := by rcases hkw with hkw | hkw <;> simp [isTracked, hkw]
  simpa only [visiting', ht, if_true] using h

/-- … and stores the entry it produced at the end of the module cache. -/
theorem toEntry_module_stores (env : Env) (fuel : Nat) (root : Mod) (scope : List Stmt) (n : Stmt)
    (visiting : List NodeId) (st : TState) (hkw : n.kw = "module" ∨ n.kw = "submodule")
    (hmiss : st.cache.find? (·.1 == root.seq) = none) (hnv : visiting.contains (nodeId root n) = false) :
    ∃ st' : TState, (toEntry env (fuel + 1) root scope n visiting st).2 =
      { st' with cache := st'.cache ++ [(root.seq, (toEntry env (fuel + 1) root scope n visiting st).1)] } := by
  rw [toEntry_dir env fuel scope (DirCase.of_module hkw hmiss hnv), store_module hkw]
  exact ⟨_, rfl⟩

end Goyang.Lemmas.Uses
