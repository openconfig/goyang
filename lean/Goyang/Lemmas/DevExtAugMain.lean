import Goyang.Lemmas.DevExtAugLoop
/-
C08, frame across module sets — part 7: the augment stage of `processAll` for a base registry WITH
top-level augments (`preDev_ext_aug`): the forest with which the run with the deviation-only modules
enters the deviation stage is that of the run without them plus trees of new modules.  Core Lean only.
-/
namespace Goyang.Lemmas.DevExt
open Goyang.Model
open Goyang.Lemmas.Tree (envOf keyOrder tstate forest0 pending0 pstate0 preDev fixAll afterLoop afterRounds leftoverPass allMods augOrder)

section
variable {B X : Registry} {ds : List Mod} {dk : KeyMap} (h : DevExtCore B X ds dk)
include h

/-! ### the state before the loop -/

theorem distinctModules_ext :
    X.distinctModules = B.distinctModules ++ ds.filter fun m => X.modules.any (·.2 == m.seq) := by
  unfold Registry.distinctModules
  rw [h.mods, List.filter_append]
  congr 1
  apply List.filter_congr
  intro m hm
  rw [h.modules, List.any_append]
  have : dk.any (·.2 == m.seq) = false := by
    apply List.any_eq_false.mpr
    intro kv hkv
    obtain ⟨d, hd, hds⟩ := h.tblD kv hkv
    have := h.seqFresh m hm d hd
    simpa [← hds] using fun e => this e.symm
  rw [this, Bool.or_false]

omit h in
theorem distinctSubs_nil (r : Registry) (hr : r.subModules = []) : r.distinctSubs = [] := by
  unfold Registry.distinctSubs
  rw [hr]
  simp

theorem allMods_ext : allMods X = allMods B ++ ds.filter fun m => X.modules.any (·.2 == m.seq) := by
  unfold allMods
  rw [distinctSubs_nil X h.subsX, distinctSubs_nil B h.subsB, distinctModules_ext h]
  simp

omit h in
theorem allMods_mem (r : Registry) (m : Mod) (hm : m ∈ allMods r) : m ∈ r.mods := by
  unfold allMods Registry.distinctModules Registry.distinctSubs at hm
  rcases List.mem_append.mp hm with hm | hm <;> exact (List.mem_filter.mp hm).1

/-- The row of pending augments filed under `id`. -/
def rowOf (augs : List (Nat × List Entry)) (id : Nat) : List Entry := ((augs.find? (·.1 == id)).map (·.2)).getD []

omit h in
theorem rowOf_append (a g : List (Nat × List Entry)) (hg : ∀ p ∈ g, p.2 = []) (id : Nat) :
    rowOf (a ++ g) id = rowOf a id := by
  unfold rowOf
  rw [List.find?_append]
  cases a.find? (·.1 == id) with
  | some x => rfl
  | none =>
    simp only [Option.none_or]
    cases hf : g.find? (·.1 == id) with
    | none => rfl
    | some r => simp [hg r (List.mem_of_find?_eq_some hf)]

omit h in
theorem rowOf_new (opts : Opts) (plug : Plug) (id : Nat) (hid : ∀ m ∈ B.mods, m.seq ≠ id) :
    rowOf (tstate B opts plug).augs id = [] := by
  unfold rowOf
  rw [List.find?_eq_none.mpr]
  · rfl
  · intro p hp
    obtain ⟨m, hm, e, _⟩ := Bridge.tstate_rows B opts plug p hp
    have := hid m hm
    simpa [e] using this

omit h in
theorem pinv_pstate0 (opts : Opts) (plug : Plug) : PInv B (pstate0 B opts plug) := by
  have hrow : ∀ m ∈ allMods B, ∀ a ∈ rowOf (tstate B opts plug).augs m.seq, ∃ m' ∈ B.mods, m'.seq = a.d.nodeMod := by
    intro m _ a ha
    unfold rowOf at ha
    cases hf : (tstate B opts plug).augs.find? (·.1 == m.seq) with
    | none => rw [hf] at ha; cases ha
    | some r =>
      rw [hf] at ha
      obtain ⟨m', hm', _, _, h3, _⟩ := Bridge.tstate_rows B opts plug r (List.mem_of_find?_eq_some hf)
      exact ⟨m', hm', (h3 a ha).symm⟩
  constructor
  · intro p hp
    simp only [pstate0, pending0, List.mem_map] at hp
    obtain ⟨m, hm, rfl⟩ := hp
    exact ⟨m, allMods_mem B m hm, rfl⟩
  · intro p hp a ha
    simp only [pstate0, pending0, List.mem_map] at hp
    obtain ⟨m, hm, rfl⟩ := hp
    exact hrow m hm a ha

/-- **The state with which the run with the new modules enters the augment loop.** -/
theorem pstate0_ext {plug : Plug} {opts : Opts} (hconv : ConvAgreeTop B X opts plug) :
    ∃ G P, NewTrees ds G ∧ PNew ds P ∧ pstate0 X opts plug = lift G P (pstate0 B opts plug) := by
  obtain ⟨G, hG, hc⟩ := (tstate_ext h hconv).cache
  obtain ⟨GA, hGA, ha⟩ := (tstate_ext h hconv).augs
  have hrow : ∀ id, rowOf (tstate X opts plug).augs id = rowOf (tstate B opts plug).augs id := by
    intro id; rw [ha]; exact rowOf_append _ _ hGA id
  refine ⟨G, (ds.filter fun m => X.modules.any (·.2 == m.seq)).map fun m => (m.seq, ([] : List Entry)), hG, ?_, ?_⟩
  · intro p hp
    obtain ⟨d, hd, rfl⟩ := List.mem_map.mp hp
    exact ⟨rfl, d, (List.mem_filter.mp hd).1, rfl⟩
  · unfold pstate0 lift forest0 pending0
    simp only [PState.mk.injEq]
    constructor
    · rw [hc]; rfl
    · rw [allMods_ext h, List.map_append]
      have p1 : (allMods B).map (fun m => (m.seq, rowOf (tstate X opts plug).augs m.seq)) =
          (allMods B).map (fun m => (m.seq, rowOf (tstate B opts plug).augs m.seq)) := by
        apply List.map_congr_left
        intro m _
        exact congrArg (Prod.mk m.seq) (hrow m.seq)
      have p2 : (ds.filter fun m => X.modules.any (·.2 == m.seq)).map (fun m => (m.seq, rowOf (tstate X opts plug).augs m.seq)) =
          (ds.filter fun m => X.modules.any (·.2 == m.seq)).map (fun m => (m.seq, ([] : List Entry))) := by
        apply List.map_congr_left
        intro d hd
        have hdd : d ∈ ds := (List.mem_filter.mp hd).1
        refine congrArg (Prod.mk d.seq) ?_
        rw [hrow]
        exact rowOf_new opts plug d.seq (fun m hm => h.seqFresh m hm d hdd)
      exact (congrArg (· ++ _) p1).trans (congrArg (_ ++ ·) p2)

/-! ### the order of the loop -/

/-- The new modules in the order of the augment loop. -/
def newAugOrder (X : Registry) (dk : KeyMap) : List Mod :=
  sortBy (fun (a b : Mod) => if a.fullName != b.fullName then a.fullName < b.fullName else !a.isSub && b.isSub)
    (dk.filterMap fun kv => X.byId kv.2)

theorem keyedNew_mem {d : Mod} (hd : d ∈ dk.filterMap fun kv => X.byId kv.2) : d ∈ ds := by
  obtain ⟨kv, hkv, hb⟩ := List.mem_filterMap.mp hd
  obtain ⟨d', hd', hds⟩ := h.tblD kv hkv
  unfold Registry.byId at hb
  rw [h.mods, List.find?_append] at hb
  cases hf : B.mods.find? (·.seq == kv.2) with
  | some m =>
    have hm := List.mem_of_find?_eq_some hf
    have hs : m.seq = kv.2 := by simpa using List.find?_some hf
    exact absurd (hs.trans hds.symm) (h.seqFresh m hm d' hd')
  | none =>
    rw [hf] at hb
    simp only [Option.none_or] at hb
    exact List.mem_of_find?_eq_some hb

theorem augOrder_ext : augOrder X = augOrder B ++ newAugOrder X dk := by
  unfold augOrder newAugOrder
  rw [h.subsX, h.subsB, List.append_nil, List.append_nil, h.modules, List.filterMap_append]
  have e1 : B.modules.filterMap (fun kv => X.byId kv.2) = B.modules.filterMap (fun kv => B.byId kv.2) := by
    apply ListAux.filterMap_congr'
    intro kv hkv
    obtain ⟨m, hm, hms⟩ := h.tblB kv hkv
    rw [← hms]
    exact byId_ext h (Old.of_mem h hm)
  rw [e1]
  apply sortBy_append
  intro a ha b hb
  have haB : a ∈ B.mods := by
    obtain ⟨kv, _, hb'⟩ := List.mem_filterMap.mp ha
    exact RegistryAux.byId_mem hb'
  have hlt := h.nameLast a haB b (keyedNew_mem h hb)
  have hne : a.fullName ≠ b.fullName := fun e => String.lt_irrefl _ (e ▸ hlt)
  simp [hne, hlt]

omit h in
theorem augOrder_mem (r : Registry) (m : Mod) (hm : m ∈ augOrder r) : m ∈ r.mods := by
  unfold augOrder at hm
  obtain ⟨kv, _, hb⟩ := List.mem_filterMap.mp ((SortAux.mem_sortBy _ m _).mp hm)
  exact RegistryAux.byId_mem hb

theorem newAugOrder_mem (d : Mod) (hd : d ∈ newAugOrder X dk) : d ∈ ds :=
  keyedNew_mem h ((SortAux.mem_sortBy _ d _).mp hd)

/-! ### the stages -/

omit h in
theorem total_lift (G : List (Nat × Entry)) {P : List (Nat × List Entry)} (hP : PNew ds P) (s : PState) :
    (lift G P s).pending.foldl (fun n p => n + p.2.length) 0 = s.pending.foldl (fun n p => n + p.2.length) 0 := by
  show (s.pending ++ P).foldl _ 0 = _
  rw [List.foldl_append]
  generalize s.pending.foldl (fun n p => n + p.2.length) 0 = t
  induction P generalizing t with
  | nil => rfl
  | cons p P ih =>
    simp only [List.foldl_cons]
    rw [(hP p (List.mem_cons_self ..)).1]
    exact ih (fun q hq => hP q (List.mem_cons_of_mem _ hq)) t

omit h in
theorem fixAll_lift (G : List (Nat × Entry)) (P : List (Nat × List Entry)) (s : PState) :
    fixAll (lift G P s) = lift (G.map fun (x : Nat × Entry) => (x.1, fixChoice x.2)) P (fixAll s) := by
  unfold fixAll lift ext
  simp only [List.map_append]

omit h in
theorem newTrees_fix {G : List (Nat × Entry)} (hG : NewTrees ds G) :
    NewTrees ds (G.map fun (x : Nat × Entry) => (x.1, fixChoice x.2)) := by
  intro g hg
  obtain ⟨g0, hg0, rfl⟩ := List.mem_map.mp hg
  exact hG g0 hg0

theorem leftover_lift {G : List (Nat × Entry)} (hG : NewTrees ds G) {P : List (Nat × List Entry)} (hP : PNew ds P)
    (left : List Nat) (hleft : ∀ a ∈ left, ∃ m ∈ B.mods, m.seq = a) :
    ∀ (s : PState) (n : Nat), PInv B s →
    left.foldl (fun (acc : PState × Nat) id =>
        let (s, p, _) := augmentTree X id true acc.1
        (s, acc.2 + p)) (lift G P s, n) =
      (lift G P (left.foldl (fun (acc : PState × Nat) id =>
        let (s, p, _) := augmentTree B id true acc.1
        (s, acc.2 + p)) (s, n)).1,
       (left.foldl (fun (acc : PState × Nat) id =>
        let (s, p, _) := augmentTree B id true acc.1
        (s, acc.2 + p)) (s, n)).2) := by
  intro s n hs
  refine foldl_lift (lift G P) (fun x => PInv B x.1) _ _ left (fun id hid x hx => ?_) (s, n) hs
  rw [augmentTree_lift h hG hP id (hleft id hid) true x.1 hx]
  exact ⟨rfl, augmentTree_pinv B B id true x.1 hx⟩

/-- **The retry rounds of the two runs**: the same module list is left over and the states are related
as before (the new trees, like all the others, go through `FixChoice` after every productive round). -/
theorem rounds_lift {P : List (Nat × List Entry)} (hP : PNew ds P) (fuel n : Nat) (A : Array Nat)
    (hA : ∀ a ∈ A.toList, ∃ m ∈ B.mods, m.seq = a) (sB : PState) (hs : PInv B sB)
    {G : List (Nat × Entry)} (hG : NewTrees ds G) :
    (leftoverRounds X fuel n A (lift G P sB)).1 = (leftoverRounds B fuel n A sB).1 ∧
    (∀ a ∈ (leftoverRounds B fuel n A sB).1.toList, ∃ m ∈ B.mods, m.seq = a) ∧
    PInv B (leftoverRounds B fuel n A sB).2 ∧
    ∃ G', NewTrees ds G' ∧ (leftoverRounds X fuel n A (lift G P sB)).2 = lift G' P (leftoverRounds B fuel n A sB).2 := by
  have key := Rounds.rounds_rel B X
    (fun m₁ s₁ m₂ s₂ => m₂ = m₁ ∧ (∀ a ∈ m₁.toList, ∃ m ∈ B.mods, m.seq = a) ∧ PInv B s₁ ∧
      ∃ G', NewTrees ds G' ∧ s₂ = lift G' P s₁)
    (fun fuel m₁ s₁ m₂ s₂ hR => by
      obtain ⟨rfl, hA1, hs1, G1, hG1, rfl⟩ := hR
      obtain ⟨k1, k2⟩ := augmentLoop_keeps B B fuel m₂ s₁ hs1
      rw [loop_ext h hG1 hP fuel m₂ m₂ [] s₁ (List.append_nil _).symm (fun _ hn => nomatch hn) hA1 hs1 (.inl rfl)]
      exact ⟨rfl, fun a ha => hA1 a (k2 a ha), k1, G1, hG1, rfl⟩)
    (fun fuel m₁ s₁ m₂ s₂ hR => by
      obtain ⟨rfl, hA1, hs1, G1, hG1, rfl⟩ := hR
      rw [Rounds.loopCount_eq_zero, Rounds.loopCount_eq_zero]
      have hp := pass_ext h hG1 hP (m₂.size + 1) m₂ m₂ [] 0 0 s₁ (m₂.size + 1) (by simp)
        (fun _ hn => by cases hn) hA1 hs1 (by omega) (by omega) (by simp)
      rw [hp])
    (fun m₁ s₁ m₂ s₂ hR => by
      obtain ⟨rfl, hA1, hs1, G1, hG1, rfl⟩ := hR
      exact ⟨rfl, hA1, hs1, _, newTrees_fix hG1, fixAll_lift G1 P s₁⟩)
    fuel n A sB A (lift G P sB) ⟨rfl, hA, hs, G, hG, rfl⟩
  exact ⟨key.1, key.2.1, key.2.2.1, key.2.2.2⟩

-- (the loops stay folded: the stages are related by the lemmas above, never by unfolding)
attribute [local irreducible] leftoverRounds augmentLoop in
/-- **The two runs agree before the deviation stage, whatever augments `B` has.** -/
theorem preDev_ext_aug {plug : Plug} {opts : Opts} (hconv : ConvAgreeTop B X opts plug) :
    ∃ G, NewTrees ds G ∧ (preDev X opts plug).forest = ext G (preDev B opts plug).forest := by
  obtain ⟨G, P, hG, hP, h0⟩ := pstate0_ext h hconv
  have hinv0 := pinv_pstate0 (B := B) opts plug
  have hA : ∀ a ∈ (((augOrder B).map (·.seq)).toArray).toList, ∃ m ∈ B.mods, m.seq = a := by
    intro a ha
    simp only [List.mem_map] at ha
    obtain ⟨m, hm, rfl⟩ := ha
    exact ⟨m, augOrder_mem B m hm, rfl⟩
  have hN : ∀ n ∈ (newAugOrder X dk).map (·.seq), ∃ d ∈ ds, d.seq = n := by
    intro n hn
    obtain ⟨d, hd, rfl⟩ := List.mem_map.mp hn
    exact ⟨d, newAugOrder_mem h d hd, rfl⟩
  -- the loop
  have hloop : afterLoop X opts plug = ((afterLoop B opts plug).1, lift G P (afterLoop B opts plug).2) := by
    unfold afterLoop
    have e1 : pending0 X opts plug = (pstate0 X opts plug).pending := rfl
    have e2 : pending0 B opts plug = (pstate0 B opts plug).pending := rfl
    rw [e1, e2, h0, total_lift G hP]
    exact loop_ext h hG hP _ _ _ ((newAugOrder X dk).map (·.seq)) _ (by rw [augOrder_ext h]; simp) hN hA hinv0
      (.inr (Nat.succ_pos _))
  obtain ⟨k1, k2⟩ := augmentLoop_keeps B B ((pending0 B opts plug).foldl (fun n p => n + p.2.length) 0 + 2)
    ((augOrder B).map (·.seq)).toArray (pstate0 B opts plug) hinv0
  have hleft : ∀ a ∈ (afterLoop B opts plug).1.toList, ∃ m ∈ B.mods, m.seq = a := fun a ha => hA a (k2 a ha)
  have hinvL : PInv B (fixAll (afterLoop B opts plug).2) := k1
  -- the retry rounds
  have hfuel : (pending0 X opts plug).foldl (fun n p => n + p.2.length) 0 =
      (pending0 B opts plug).foldl (fun n p => n + p.2.length) 0 := by
    have e1 : pending0 X opts plug = (pstate0 X opts plug).pending := rfl
    have e2 : pending0 B opts plug = (pstate0 B opts plug).pending := rfl
    rw [e1, e2, h0, total_lift G hP]
  obtain ⟨r1, r2, r3, G', hG', r4⟩ := rounds_lift h hP
    ((pending0 B opts plug).foldl (fun n p => n + p.2.length) 0 + 2)
    ((pending0 B opts plug).foldl (fun n p => n + p.2.length) 0 + 2)
    (afterLoop B opts plug).1 hleft (fixAll (afterLoop B opts plug).2) hinvL (newTrees_fix hG)
  have hrounds : afterRounds X opts plug = ((afterRounds B opts plug).1, lift G' P (afterRounds B opts plug).2) := by
    unfold afterRounds
    rw [hloop, hfuel]
    simp only
    rw [fixAll_lift]
    exact Prod.ext r1 r4
  -- the reporting sweep
  have hlo : leftoverPass X opts plug = (lift G' P (leftoverPass B opts plug).1, (leftoverPass B opts plug).2) := by
    unfold leftoverPass
    rw [hrounds]
    simp only
    rw [← Array.foldl_toList, ← Array.foldl_toList]
    exact leftover_lift h hG' hP _ r2 _ 0 r3
  unfold preDev
  rw [hlo]
  simp only
  split
  · rw [fixAll_lift]
    exact ⟨_, newTrees_fix hG', rfl⟩
  · exact ⟨_, hG', rfl⟩

end

end Goyang.Lemmas.DevExt
