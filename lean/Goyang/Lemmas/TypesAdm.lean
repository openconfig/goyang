import Goyang.Lemmas.TypesComplete
import Goyang.Lemmas.TypesRestr
/-
"The specification accepts the type statement" (`Admissible`: a finite derivation along which every
restriction is admissible) and its equivalence with an error-free `Type.resolve` (property C09,
`resolve_complete`, `resolve_errors_iff`).
-/
namespace Goyang.Lemmas.TypesAdm
open Goyang.Model Goyang.Model.Types Goyang.Spec.Types Goyang.Lemmas.Types Goyang.Lemmas.TypesFuel
  Goyang.Lemmas.TypesDefs Goyang.Lemmas.TypesComplete Goyang.Lemmas.TypesRestr

/-- `Admissible env root scope t a`: the specification accepts the type statement `t` (written in
module `root` inside `scope`): it has a finite derivation — it names a built-in type, or a typedef,
as `Binds` says, whose own type statement is accepted —, its member types are accepted, and the
restrictions stated along the derivation are admissible (`typeOk` for every type statement over the
attributes of what it is based on, `typedefOk` for every typedef: the decidable side conditions of
Goyang/Lemmas/TypesRestr.lean).  `a` = kind, fraction-digits, range and length of the denoted type
(`memAttrs` names those of the member types). -/
inductive Admissible (env : Env) : Mod → List Stmt → Stmt → Attrs → Prop
  | builtin {root : Mod} {scope : List Stmt} {t : Stmt} (y : YType) (memAttrs : Stmt → Attrs) :
      builtin? t.arg = some y →
      typeOk env root t true (attrsOf y) = true →
      (∀ ut ∈ t.all "type", Admissible env root (t :: scope) ut (memAttrs ut)) →
      Admissible env root scope t (typeNext t (attrsOf y))
  | derived {root : Mod} {scope : List Stmt} {t : Stmt} (m : Mod) (td : Stmt) (sc : List Stmt) (tt : Stmt)
      (a : Attrs) (memAttrs : Stmt → Attrs) :
      Binds env.reg root scope t.arg m td sc → td.one? "type" = some tt →
      Admissible env m (td :: sc) tt a → typedefOk env m tt = true →
      typeOk env root t false a = true →
      (∀ ut ∈ t.all "type", Admissible env root (t :: scope) ut (memAttrs ut)) →
      Admissible env root scope t (typeNext t a)

/-- What the specification accepts has a finite derivation. -/
theorem admissible_resolvable {env : Env} :
    ∀ {root : Mod} {scope : List Stmt} {t : Stmt} {a : Attrs}, Admissible env root scope t a → Resolvable env.reg root scope t
  | _, _, _, _, .builtin _ _ hy _ hm =>
    Resolvable.builtin (builtin_some hy) (fun ut hut => admissible_resolvable (hm ut hut))
  | _, _, _, _, .derived m td sc tt _ _ hb htt hbase _ _ hm =>
    Resolvable.derived m td sc tt hb htt (admissible_resolvable hbase) (fun ut hut => admissible_resolvable (hm ut hut))

theorem lookup_typedef_src {env : Env} {root : Mod} {scope : List Stmt} {t : Stmt} {src : Source} {r : TdRef}
    (hl : lookup env root scope t = .typedef src r) : (src == Source.builtin) = false := by
  rcases (lookup_typedef_cases hl).2 with ⟨_, rfl, _⟩ | ⟨_, rfl, _⟩ <;> rfl

/-- One accepted level on top of error-free members is error-free. -/
theorem overlay_of_ok {env : Env} {root : Mod} {t : Stmt} {src : Source} {tdY : YType} {ms : List Res}
    (hok : typeOk env root t (src == .builtin) (attrsOf tdY) = true) (hms : ∀ r ∈ ms, r.errs = []) :
    ∃ y, overlayType env root t src tdY ms = { ty := some y, errs := [] } ∧ attrsOf y = typeNext t (attrsOf tdY) := by
  obtain ⟨y, hy, ha⟩ := overlayType_attrs_of_ok (ms := ms) hok
  refine ⟨y, res_eq hy ?_, ha⟩
  apply List.eq_nil_iff_forall_not_mem.mpr
  intro e he
  obtain ⟨r, hr, her⟩ := overlayType_errs_of_ok hok e he
  rw [hms r hr] at her
  cases her

/-- **Completeness**: what the specification accepts is resolved without error, to a type with the
attributes the specification computes. -/
theorem resolve_admissible (env : Env) (s0 : Site) (hS : Standing env s0) :
    ∀ (fuel : Nat) (root : Mod) (scope : List Stmt) (t : Stmt) (stack : List TypeKey) (a : Attrs),
      InSet env root scope t → PartOfSchema env.reg root → t.kw = "type" → Admissible env root scope t a →
      UsesStar env.reg s0 (root, scope, t) → StackOk env.reg s0 (root, scope, t) stack →
      Budget env.reg fuel stack →
      ∃ y, resolveTypeF env fuel root scope t stack = { ty := some y, errs := [] } ∧ attrsOf y = a := by
  intro fuel
  induction fuel with
  | zero => intro root scope t stack _ _ _ _ _ _ _ hb; exact hb.not_zero.elim
  | succ fuel ih =>
    intro root scope t stack a hin hsch hkw hadm hs0 hst hb
    have hres := admissible_resolvable hadm
    have hnotin := hst.fresh hS.unamb hS.keys hres hs0
    have hc' : stack.contains (typeKey root t) = false := by simpa using hnotin
    have hb' := hb.push hin.1 hin.2.1 hkw hnotin
    have hmembers : ∀ (memAttrs : Stmt → Attrs),
        (∀ ut ∈ t.all "type", Admissible env root (t :: scope) ut (memAttrs ut)) →
        ∀ r ∈ memberRes env fuel root scope t stack, r.errs = [] := by
      intro memAttrs hm r hr
      unfold memberRes at hr
      obtain ⟨ut, hut, rfl⟩ := List.mem_map.mp hr
      have huse : Uses env.reg (root, scope, t) (root, t :: scope, ut) := Uses.member ut hut
      obtain ⟨y, hy, _⟩ := ih root (t :: scope) ut (typeKey root t :: stack) (memAttrs ut) (hin.member hut)
        hsch (kw_of_all hut) (hm ut hut) (UsesStar.tail hs0 huse) (hst.push hs0 huse) hb'
      rw [hy]
    cases hadm with
    | builtin y memAttrs hy hok hm =>
      have hl : lookup env root scope t = .builtin y := by unfold lookup; rw [hy]
      rw [resolve_builtin hc' hl]
      exact overlay_of_ok (src := .builtin) hok (hmembers memAttrs hm)
    | derived m td sc tt a0 memAttrs hbind htt hbase htdok hok hm =>
      obtain ⟨src, r, hl⟩ := lookup_complete env hS.seqId hS.linked hS.imports root hin.1 hsch scope t hbind
      have hbd := lookup_binds env root scope t (type_not_scope hkw) src r hl
      obtain ⟨e1, e2, e3⟩ := hS.unamb _ hs0 _ _ _ _ _ _ hbind hbd
      subst e1 e2 e3
      have huse : Uses env.reg (root, scope, t) (r.root, r.td :: r.scope, tt) := Uses.base r.root r.td r.scope tt hbind htt
      obtain ⟨bty, hbty, hba⟩ := ih r.root (r.td :: r.scope) tt (typeKey root t :: stack) a0 (hin.base hl htt)
        (binds_partOfSchema hsch hbind) (kw_of_one htt) hbase (UsesStar.tail hs0 huse) (hst.push hs0 huse) hb'
      obtain ⟨tdY, htdY, hta⟩ := typedefOverlay_of_ok (td := r.td) (ty := bty) htdok
      rw [resolve_typedef hc' hl htt]
      simp only [hbty, htdY, List.isEmpty_nil, Bool.not_true, Bool.false_eq_true, if_false]
      have hsrc := lookup_typedef_src hl
      have hok' : typeOk env root t (src == .builtin) (attrsOf tdY) = true := by rw [hsrc, hta, hba]; exact hok
      obtain ⟨y, hy, hya⟩ := overlay_of_ok hok' (hmembers memAttrs hm)
      exact ⟨y, hy, by rw [hya, hta, hba]⟩

/-- **Soundness of acceptance**: an error-free resolution is of a type statement the
specification accepts, and the resolved type has the attributes the specification computes. -/
theorem resolve_ok_admissible (env : Env) :
    ∀ (fuel : Nat) (root : Mod) (scope : List Stmt) (t : Stmt) (stack : List TypeKey) (y : YType),
      scopeKinds.contains t.kw = false →
      resolveTypeF env fuel root scope t stack = { ty := some y, errs := [] } →
      Admissible env root scope t (attrsOf y) := by
  intro fuel
  induction fuel with
  | zero => intro root scope t stack y _ h; simp [resolveTypeF] at h
  | succ fuel ih =>
    intro root scope t stack y ht h
    -- attributes of the member types
    let memAttrs : Stmt → Attrs := fun ut =>
      match (resolveTypeF env fuel root (t :: scope) ut (typeKey root t :: stack)).ty with
      | some ym => attrsOf ym
      | none => ⟨"", 0, [], []⟩
    have hmem : ∀ {src : Source} {tdY : YType},
        overlayType env root t src tdY (memberRes env fuel root scope t stack) = { ty := some y, errs := [] } →
        ∀ ut ∈ t.all "type", Admissible env root (t :: scope) ut (memAttrs ut) := by
      intro src tdY ho ut hut
      have he := overlayType_errs_nil (congrArg Res.errs ho) _ (List.mem_map_of_mem (f := fun ut =>
        resolveTypeF env fuel root (t :: scope) ut (typeKey root t :: stack)) hut)
      obtain ⟨ym, hym⟩ := resolve_ty_some env fuel _ _ _ _ he
      have hma : memAttrs ut = attrsOf ym := by simp only [memAttrs, hym]
      rw [hma]
      exact ih root (t :: scope) ut _ ym (type_not_scope (kw_of_all hut)) hym
    rcases resolve_ok_cases h with ⟨y0, hl, ho⟩ | ⟨src, r, tt, bty, tdY, hl, htt, hb, htd, ho⟩
    · obtain ⟨hok, ha⟩ := level_attrs ho
      rw [ha]
      exact Admissible.builtin y0 memAttrs (lookup_builtin hl) hok (hmem ho)
    · obtain ⟨hok, ha⟩ := level_attrs ho
      have hta := typedef_attrs htd
      rw [lookup_typedef_src hl, hta] at hok
      rw [ha, hta]
      exact Admissible.derived r.root r.td r.scope tt (attrsOf bty) memAttrs
        (lookup_binds env root scope t ht src r hl) htt
        (ih r.root (r.td :: r.scope) tt _ bty (type_not_scope (kw_of_one htt)) hb)
        (typedefOk_of_errs_nil (congrArg Res.errs htd)) hok (hmem ho)

end Goyang.Lemmas.TypesAdm
