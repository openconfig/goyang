import Goyang.Lemmas.TypesLinked
/-
`linkOk reg` (model: `Modules.Process` linked every include and import without error) against
`wellLinked reg` (specification: every include and import statement of the loaded set names a loaded
(sub)module).

`ms.include` walks the include and the import statements of every (sub)module it reaches from the
entries of `ms.Modules`, and returns an error at the first statement `FindModule` cannot resolve.
The post-condition `Done` of Lemmas/IdentityLink.lean records the include links only; here the
error-free run is shown to have resolved every item (`Resolved`) of every node it visited, and every
part of a schema is visited.  A submodule nobody includes is never visited, so `linkOk` says nothing
about its statements: the unrestricted implication fails (`Ex.regW`).
-/
namespace Goyang.Lemmas.TypesWellLinked
open Goyang.Model Goyang.Model.Types Goyang.Spec.Types Goyang.Lemmas.TypesDefs
open Goyang.Model.Identity (linkItems includeGo linkAll moduleEntries modulesByFullName)
open Goyang.Spec.Identity (includedBy Reach)
open Goyang.Lemmas.Identity (byId_self byId_seq moduleEntries_byId findModule_byId linkStep includeGo_succ linkFold_err linkTop linkAll_eq linkTop_fold mem_modulesByFullName visited_closed AllDone Done mem_linkItems_include)
open Goyang.Lemmas.TypesLinked (ofNat0_valid reach_of_includesStar)

/-- Every include and import statement of node `x` names a loaded (sub)module. -/
def Resolved (r : Registry) (x : Nat) : Prop :=
  ∀ m, r.byId x = some m → ∀ item ∈ linkItems m, (r.findModule item.1 item.2.2).isSome = true

/-- Node `x` is finished in the stronger sense: `Done`, and all its items were resolved. -/
def Done2 (r : Registry) (st : Identity.Link) (x : Nat) : Prop := Done r st x ∧ Resolved r x

/-- The loop of `includeGo` over a suffix of the items, error-free: every item was resolved and
every newly visited node is `Resolved` (given that of the recursive calls). -/
theorem linkFold_resolved (r : Registry) (fuel : Nat) (m : Mod)
    (ih : ∀ (im : Mod) (st st' : Identity.Link), r.byId im.seq = some im → includeGo r fuel im st = some (st', none) →
      ∀ x ∈ st'.visited, x ∈ st.visited ∨ Resolved r x) :
    ∀ (its : List (Bool × Nat × Stmt)) (stA stB : Identity.Link),
      its.foldlM (linkStep r fuel m) (stA, none) = some (stB, none) →
      (∀ item ∈ its, (r.findModule item.1 item.2.2).isSome = true) ∧
        ∀ x ∈ stB.visited, x ∈ stA.visited ∨ Resolved r x := by
  intro its
  induction its with
  | nil =>
    intro stA stB h
    have : stA = stB := by
      simp only [List.foldlM] at h
      cases h
      rfl
    subst this
    exact ⟨by simp, fun x hx => Or.inl hx⟩
  | cons it its ihits =>
    intro stA stB h
    simp only [List.foldlM] at h
    cases hfm : r.findModule it.1 it.2.2 with
    | none =>
      simp only [linkStep, hfm] at h
      rw [show ∀ e, (some (stA, some e) >>= fun s' => List.foldlM (linkStep r fuel m) s' its) =
        List.foldlM (linkStep r fuel m) (stA, some e) its from fun _ => rfl, linkFold_err] at h
      cases h
    | some im =>
      obtain ⟨id, hid⟩ := findModule_byId hfm
      have him : r.byId im.seq = some im := byId_self hid
      cases hcall : includeGo r fuel im stA with
      | none =>
        simp only [linkStep, hfm, hcall] at h
        cases h
      | some res =>
        obtain ⟨st1, e1⟩ := res
        cases e1 with
        | some e =>
          simp only [linkStep, hfm, hcall] at h
          rw [show (some (st1, some e) >>= fun s' => List.foldlM (linkStep r fuel m) s' its) =
            List.foldlM (linkStep r fuel m) (st1, some e) its from rfl, linkFold_err] at h
          cases h
        | none =>
          simp only [linkStep, hfm, hcall] at h
          generalize hst2 : (if it.1 = true then { st1 with linked := st1.linked ++ [(m.seq, it.2.1)] } else st1) = st2 at h
          have hvis2 : st2.visited = st1.visited := by
            rw [← hst2]; split <;> rfl
          obtain ⟨hitems, hvis⟩ := ihits st2 stB h
          refine ⟨?_, ?_⟩
          · intro item hitem
            rcases List.mem_cons.mp hitem with rfl | hitem
            · rw [hfm]; rfl
            · exact hitems item hitem
          · intro x hx
            rcases hvis x hx with h' | h'
            · rw [hvis2] at h'
              exact ih im stA st1 him hcall x h'
            · exact Or.inr h'

/-- One error-free call of `includeGo`: every newly visited node is `Resolved`. -/
theorem includeGo_resolved (r : Registry) : ∀ (fuel : Nat) (m : Mod) (st st' : Identity.Link), r.byId m.seq = some m →
    includeGo r fuel m st = some (st', none) → ∀ x ∈ st'.visited, x ∈ st.visited ∨ Resolved r x := by
  intro fuel
  induction fuel with
  | zero =>
    intro m st st' _ h
    simp [includeGo] at h
  | succ fuel ih =>
    intro m st st' hm h
    rw [includeGo_succ] at h
    by_cases hv : m.seq ∈ st.visited
    · simp only [hv, if_true] at h
      cases h
      exact fun x hx => Or.inl hx
    · simp only [hv, if_false] at h
      obtain ⟨hitems, hvis⟩ := linkFold_resolved r fuel m ih (linkItems m) _ st' h
      intro x hx
      rcases hvis x hx with h' | h'
      · simp only [List.mem_append, List.mem_singleton] at h'
        rcases h' with h' | rfl
        · exact Or.inl h'
        · right
          intro m' hm'
          rw [hm] at hm'
          cases hm'
          exact hitems
      · exact Or.inr h'

/-- The loop of `linkAll`, error-free: every visited node is `Resolved`. -/
theorem linkTop_fold_resolved (r : Registry) : ∀ (L : List Mod), (∀ md ∈ L, r.byId md.seq = some md) →
    ∀ (acc res : Identity.Link × List Err), L.foldlM (linkTop r) acc = some res → res.2 = [] →
      (∀ x ∈ acc.1.visited, Resolved r x) → ∀ x ∈ res.1.visited, Resolved r x := by
  intro L
  induction L with
  | nil =>
    intro _ acc res h _ hacc
    simp only [List.foldlM] at h
    cases h
    exact hacc
  | cons md L ih =>
    intro hL acc res h hnil hacc
    have hL' : ∀ x ∈ L, r.byId x.seq = some x := fun x hx => hL x (List.mem_cons_of_mem _ hx)
    simp only [List.foldlM] at h
    cases hcall : includeGo r (r.mods.length + 1) md acc.1 with
    | none =>
      simp only [linkTop, hcall] at h
      cases h
    | some res1 =>
      obtain ⟨st1, e1⟩ := res1
      cases e1 with
      | some e =>
        simp only [linkTop, hcall] at h
        exfalso
        obtain ⟨res', hres', _, hpost⟩ := linkTop_fold r L hL' (st1, acc.2 ++ [e])
        have h' : List.foldlM (linkTop r) (st1, acc.2 ++ [e]) L = some res := h
        rw [hres'] at h'
        cases h'
        have := (hpost hnil).1
        simp at this
      | none =>
        simp only [linkTop, hcall] at h
        have h' : List.foldlM (linkTop r) (st1, acc.2) L = some res := h
        apply ih hL' (st1, acc.2) res h' hnil
        intro x hx
        rcases includeGo_resolved r _ md acc.1 st1 (hL md (List.mem_cons_self ..)) hcall x hx with h1 | h1
        · exact hacc x h1
        · exact h1

/-- An error-free `linkAll`: every visited node is `Done2`, and every entry of `ms.Modules` is visited. -/
theorem linkAll_done2 (o : Identity.Oracle) (ho : o.Valid) (r : Registry) (lk : Identity.Link)
    (h : linkAll o r = some (lk, [])) :
    (∀ x ∈ lk.visited, Done2 r lk x) ∧ ∀ md ∈ moduleEntries r, md.seq ∈ lk.visited := by
  have hL : ∀ md ∈ modulesByFullName o r, r.byId md.seq = some md := by
    intro md hmd
    obtain ⟨id, hid⟩ := moduleEntries_byId ((mem_modulesByFullName o ho r md).mp hmd)
    exact byId_self hid
  obtain ⟨res, hres, _, hpost⟩ := linkTop_fold r (modulesByFullName o r) hL ({}, [])
  rw [linkAll_eq] at h
  have hfold := h
  rw [hres] at h
  cases h
  obtain ⟨_, hall, hvis⟩ := hpost rfl
  have hdone : AllDone r lk := hall (by intro x hx; cases hx)
  have hres2 := linkTop_fold_resolved r (modulesByFullName o r) hL ({}, []) (lk, []) hfold rfl
    (by intro x hx; cases hx)
  exact ⟨fun x hx => ⟨hdone x hx, hres2 x hx⟩,
    fun md hmd => hvis md ((mem_modulesByFullName o ho r md).mpr hmd)⟩

theorem linkAll_of_linkOk (reg : Registry) (hok : linkOk reg = true) :
    ∃ lk, linkAll (Identity.Oracle.ofNat 0) reg = some (lk, []) := by
  unfold linkOk at hok
  split at hok
  · rename_i lk h
    exact ⟨lk, h⟩
  · cases hok

/-- **Every include and import statement of every part of a schema was resolved** when `process`
linked without error. -/
theorem linkOk_resolved (reg : Registry) (hok : linkOk reg = true) :
    ∀ m ∈ reg.mods, PartOfSchema reg m →
      (m.includes.all fun i => (reg.findModule true i).isSome) = true ∧
      (m.imports.all fun i => (reg.findModule false i).isSome) = true := by
  obtain ⟨lk, hla⟩ := linkAll_of_linkOk reg hok
  obtain ⟨hd2, hvis⟩ := linkAll_done2 _ ofNat0_valid reg lk hla
  intro m _ hsch
  obtain ⟨top, htop, hstar⟩ := hsch
  obtain ⟨id, hid⟩ := moduleEntries_byId htop
  obtain ⟨hreach, hbm⟩ := reach_of_includesStar hstar (byId_self hid)
  have hmv : m.seq ∈ lk.visited := visited_closed (fun x hx => (hd2 x hx).1) hreach (hvis top htop)
  have hres : Resolved reg m.seq := (hd2 _ hmv).2
  have hitems := hres m hbm
  constructor
  · rw [List.all_eq_true]
    intro i hi
    obtain ⟨idx, hidx, rfl⟩ := List.getElem_of_mem hi
    exact hitems _ (mem_linkItems_include hidx)
  · rw [List.all_eq_true]
    intro i hi
    apply hitems (false, 0, i)
    unfold linkItems
    exact List.mem_append_right _ (List.mem_map.mpr ⟨i, hi, rfl⟩)

/-- When every loaded (sub)module is part of a schema, an error-free `process` means the loaded set
is well linked. -/
theorem wellLinked_of_linkOk (reg : Registry) (hok : linkOk reg = true)
    (hall : ∀ m ∈ reg.mods, PartOfSchema reg m) : wellLinked reg = true := by
  unfold wellLinked
  rw [List.all_eq_true]
  intro m hm
  obtain ⟨h1, h2⟩ := linkOk_resolved reg hok m hm (hall m hm)
  rw [h1, h2]
  rfl

/-- After an error-free `process`, the loaded set is well linked exactly when the statements of the
(sub)modules that are part of no schema are resolved too. -/
theorem wellLinked_iff_of_linkOk (reg : Registry) (hok : linkOk reg = true) :
    wellLinked reg = true ↔
      ∀ m ∈ reg.mods, ¬ PartOfSchema reg m →
        (m.includes.all fun i => (reg.findModule true i).isSome) = true ∧
        (m.imports.all fun i => (reg.findModule false i).isSome) = true := by
  constructor
  · intro hw m hm _
    unfold wellLinked at hw
    rw [List.all_eq_true] at hw
    have := hw m hm
    rw [Bool.and_eq_true] at this
    exact this
  · intro hrest
    unfold wellLinked
    rw [List.all_eq_true]
    intro m hm
    have : (m.includes.all fun i => (reg.findModule true i).isSome) = true ∧
        (m.imports.all fun i => (reg.findModule false i).isSome) = true := by
      by_cases hp : PartOfSchema reg m
      · exact linkOk_resolved reg hok m hm hp
      · exact hrest m hm hp
    rw [this.1, this.2]
    rfl

/-! ## The unrestricted implication fails

A submodule that no module includes is never reached by `ms.include`, so its unresolvable import is
not reported: `process` links without error, the loaded set is not well linked. -/
namespace Ex
/-- statement in file `f` -/
def S (f kw arg : String) (l c : Nat) (subs : List Stmt) : Stmt := Stmt.mk kw true arg f l c subs

/-- `module m { prefix p; }` -/
def m : Stmt := S "m.yang" "module" "m" 1 1 [S "m.yang" "prefix" "p" 1 12 []]
/-- `submodule s { belongs-to m { prefix p; } import nosuch { prefix q; } }`: `m` does not include it. -/
def s : Stmt := S "s.yang" "submodule" "s" 1 1
  [S "s.yang" "belongs-to" "m" 2 3 [S "s.yang" "prefix" "p" 2 18 []],
   S "s.yang" "import" "nosuch" 3 3 [S "s.yang" "prefix" "q" 3 19 []]]

def regW : Registry := { mods := [⟨0, m⟩, ⟨1, s⟩], modules := [("m", 0)], subModules := [("s", 1)] }

theorem linkOk_regW : linkOk regW = true := by decide +kernel
theorem wellLinked_regW : wellLinked regW = false := by decide +kernel

/-- the submodule is part of no schema … -/
example : partOfSchema regW ⟨1, s⟩ = false := by decide +kernel
/-- … and it is its import that is unresolved -/
example : (regW.findModule false (S "s.yang" "import" "nosuch" 3 3 [S "s.yang" "prefix" "q" 3 19 []])).isSome = false := by
  decide +kernel

end Ex

/-- `linkOk reg → wellLinked reg` does not hold for every loaded set. -/
theorem wellLinked_of_linkOk_fails : ¬ (linkOk Ex.regW = true → wellLinked Ex.regW = true) := by
  intro h
  have := h Ex.linkOk_regW
  rw [Ex.wellLinked_regW] at this
  cases this

end Goyang.Lemmas.TypesWellLinked
