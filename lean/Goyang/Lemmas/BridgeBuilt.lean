import Goyang.Lemmas.Tree
import Goyang.Lemmas.ConfigNs
import Goyang.Lemmas.ConfigNsToEntry
import Goyang.Lemmas.Find
/-
Bridge lemmas, part 7 (C12): provenance along the augment part of `processAll`.

`Spec.ConfigNs.Built` has the three stamp-relevant steps (conversion, graft by augment,
FixChoice).  The augment loop also performs steps that write no stamp: `Find` records an error on
the root of the start tree (unresolvable prefix), `Entry.Augment` records `augment-not-found` on
it, and `Find` creates an absent rpc input / output on its way.  `Built'` adds these as
constructors that leave the provenance as it is (`rootErr`, `implicit`), and `congr` (a forest is
only ever observed through `tree?`).  `built'_namespace` is C12's provenance theorem for `Built'`;
the rest threads `Built'` through `augmentTree`, `augmentPass`, `augmentLoop`, the retry rounds, the
reporting sweep and `FixChoice`.
-/
set_option linter.unusedVariables false
set_option linter.unusedSimpArgs false
open Goyang.Lemmas.ForestAux (tree?_setTree)
namespace Goyang.Lemmas.Bridge
open Goyang.Model Goyang.Spec.ConfigNs Goyang.Lemmas.ConfigNs
open Goyang.Spec.Find (addImplicit GrowStep Grown)

/-! ### `Built'` -/

/-- `Spec.ConfigNs.Built` with the steps of the augment loop that write no stamp. -/
inductive Built' (reg : Registry) : Forest → (Loc → Option Nat) → Prop
  | init {f : Forest} :
      (∀ id t, f.tree? id = some t → noStampBelow t = true) →
      Built' reg f (fun loc => some loc.1)
  | graft {f : Forest} {prov prov' : Loc → Option Nat} {by_ t : Nat} {path : Path} {root te a : Entry} :
      Built' reg f prov →
      f.tree? t = some root → root.getAt path = some te →
      noStampL a.dir = true →
      (∀ loc, NewBelow t path te a loc → prov' loc = some by_) →
      (∀ loc, ¬ NewBelow t path te a loc → prov' loc = prov loc) →
      Built' reg (f.setTree t (root.updateAt path fun te => te.merge (some (ownerNs reg by_)) a)) prov'
  | fix {f : Forest} {prov prov' : Loc → Option Nat} :
      Built' reg f prov →
      (∀ id root p, f.tree? id = some root → (root.getAt p).isSome →
          prov' (id, liftPath root p) = prov (id, p)) →
      (∀ loc', (¬ ∃ root p, f.tree? loc'.1 = some root ∧ (root.getAt p).isSome ∧ loc'.2 = liftPath root p) →
          prov' loc' = none) →
      Built' reg (fixAll f) prov'
  /-- an error is recorded on the root entry of a tree (`Find`: unresolvable prefix; `Augment`:
  `augment-not-found`) -/
  | rootErr {f : Forest} {prov : Loc → Option Nat} {t : Nat} {root : Entry} (x : Err) :
      Built' reg f prov → f.tree? t = some root →
      Built' reg (f.setTree t (root.addErr x)) prov
  /-- `Find` creates the input (output) an rpc / action did not spell out -/
  | implicit {f : Forest} {prov : Loc → Option Nat} {t : Nat} {root e : Entry} {p : Path} (isInput : Bool) :
      Built' reg f prov → f.tree? t = some root → root.getAt p = some e →
      (if isInput = true then e.inp = [] else e.out = []) →
      Built' reg (f.setTree t (root.updateAt p (addImplicit isInput))) prov
  /-- a forest is observed through `tree?` only -/
  | congr {f f' : Forest} {prov : Loc → Option Nat} :
      Built' reg f prov → (∀ id, f'.tree? id = f.tree? id) → Built' reg f' prov

theorem Built.toBuilt' {reg : Registry} {f : Forest} {prov : Loc → Option Nat} (h : Built reg f prov) :
    Built' reg f prov := by
  induction h with
  | init h => exact Built'.init h
  | graft _ h1 h2 h3 h4 h5 ih => exact Built'.graft ih h1 h2 h3 h4 h5
  | fix _ h1 h2 ih => exact Built'.fix ih h1 h2

/-! ### the stamp-free steps change no stamp anywhere -/

theorem stampGo_congr_next (e e' : Entry) (h : ∀ s, next e' s = next e s) (p : Path) (acc : Option String) :
    Entry.stampAt.go e' p acc = Entry.stampAt.go e p acc := by
  cases p with
  | nil => rw [stampGo_nil, stampGo_nil]
  | cons s r => rw [stampGo_cons, stampGo_cons, h s]

theorem stampAt_addErr (root : Entry) (x : Err) (q : Path) : (root.addErr x).stampAt q = root.stampAt q := by
  unfold Entry.stampAt
  apply stampGo_congr_next
  intro s; cases root; cases s <;> rfl

theorem addImplicit_sameCN (b : Bool) : ∀ x, sameCN (addImplicit b x) x := by
  intro x; cases x with | mk d c i o => cases b <;> exact ⟨rfl, rfl, rfl, rfl⟩

theorem stampGo_implicitIO (parent : Entry) (b : Bool) (r : Path) (acc : Option String) :
    Entry.stampAt.go (implicitIO parent b) r acc = acc := by
  cases r with
  | nil => rw [stampGo_nil]
  | cons s r =>
    rw [stampGo_cons]
    have : next (implicitIO parent b) s = none := by cases s <;> rfl
    rw [this]

/-- Below the node that gets its implicit input / output, the walk sees what it saw. -/
theorem stampGo_addImplicit (b : Bool) (te : Entry) (hb : if b = true then te.inp = [] else te.out = [])
    (r : Path) (acc : Option String) :
    Entry.stampAt.go (addImplicit b te) r acc = Entry.stampAt.go te r acc := by
  cases r with
  | nil => rw [stampGo_nil, stampGo_nil]
  | cons s r =>
    rw [stampGo_cons, stampGo_cons]
    cases te with | mk d c i o =>
    cases b with
    | true =>
      simp only [if_true, Entry.inp] at hb; subst hb
      cases s with
      | child k => rfl
      | output => rfl
      | input =>
        simp only [addImplicit, if_true, next, Entry.inp, List.head?_cons, List.head?_nil]
        rw [stampGo_implicitIO]
        rfl
    | false =>
      simp only [Bool.false_eq_true, if_false, Entry.out] at hb; subst hb
      cases s with
      | child k => rfl
      | input => rfl
      | output =>
        simp only [addImplicit, Bool.false_eq_true, if_false, next, Entry.out, List.head?_cons, List.head?_nil]
        rw [stampGo_implicitIO]
        rfl

theorem stampAt_addImplicit (root : Entry) (p : Path) (e : Entry) (b : Bool) (hg : root.getAt p = some e)
    (hb : if b = true then e.inp = [] else e.out = []) (q : Path) :
    (root.updateAt p (addImplicit b)).stampAt q = root.stampAt q := by
  unfold Entry.stampAt
  by_cases hpre : p <+: q
  · obtain ⟨r, rfl⟩ := hpre
    rw [stampGo_updateAt_through root p r _ (addImplicit_sameCN b) e hg, stampGo_append root p r none e hg,
      stampGo_addImplicit b e hb]
  · exact stampGo_updateAt_off root p q _ (addImplicit_sameCN b) hpre none

/-- `namespaceAt` reads the forest through `tree?`. -/
theorem namespaceAt_congr (reg : Registry) (f f' : Forest) (h : ∀ id, f'.tree? id = f.tree? id) (loc : Loc) :
    namespaceAt reg f' loc = namespaceAt reg f loc := by
  unfold namespaceAt; rw [h]

/-- Replacing a tree by one with the same stamps changes no namespace. -/
theorem namespaceAt_setTree_same (reg : Registry) (f : Forest) (t : Nat) (root root' : Entry)
    (hroot : f.tree? t = some root) (hs : ∀ q, root'.stampAt q = root.stampAt q) (loc : Loc) :
    namespaceAt reg (f.setTree t root') loc = namespaceAt reg f loc := by
  by_cases hl : loc.1 = t
  · have h1 : (f.setTree t root').tree? loc.1 = some root' := by
      rw [tree?_setTree, if_pos hl, hroot]; rfl
    have h0 : f.tree? loc.1 = some root := by rw [hl]; exact hroot
    rw [namespaceAt_tree reg _ loc root' h1, namespaceAt_tree reg _ loc root h0]
    unfold nsOfTree; rw [hs]
  · unfold namespaceAt
    rw [tree?_setTree, if_neg hl]

/-! ### provenance: the namespace is that of the placing module -/

/-- **C12's provenance theorem for `Built'`**: every node that some module's text placed reports the
namespace of that module (of the module it belongs to, for a submodule). -/
theorem built'_namespace {reg : Registry} {f : Forest} {prov : Loc → Option Nat} (hb : Built' reg f prov) :
    ∀ (loc : Loc) (m : Nat), (f.tree? loc.1).isSome = true → prov loc = some m →
      namespaceAt reg f loc = ownerNs reg m := by
  induction hb with
  | init hfree => exact placed_init hfree
  | graft _ hroot hte hfree hnew hold ih => exact placed_graft ih hroot hte hfree hnew hold
  | fix _ hkeep hnone ih => exact placed_fix ih hkeep hnone
  | @rootErr f prov t root x _ hroot ih =>
    intro loc m hsome hp
    rw [namespaceAt_setTree_same reg f t root _ hroot (stampAt_addErr root x)]
    apply ih loc m _ hp
    rw [tree?_setTree] at hsome
    split at hsome
    · rename_i hl; rw [hl, hroot]; rfl
    · exact hsome
  | @implicit f prov t root e p b _ hroot hg hb ih =>
    intro loc m hsome hp
    rw [namespaceAt_setTree_same reg f t root _ hroot (stampAt_addImplicit root p e b hg hb)]
    apply ih loc m _ hp
    rw [tree?_setTree] at hsome
    split at hsome
    · rename_i hl; rw [hl, hroot]; rfl
    · exact hsome
  | @congr f f' prov _ heq ih =>
    intro loc m hsome hp
    rw [namespaceAt_congr reg f f' heq]
    exact ih loc m (by rw [← heq]; exact hsome) hp

/-! ### `Find` -/

theorem tree?_setTree_self (f : Forest) (t : Nat) (root : Entry) (h : f.tree? t = some root) (id : Nat) :
    (f.setTree t root).tree? id = f.tree? id := by
  rw [tree?_setTree]
  split
  · rename_i hl; rw [hl, h]; rfl
  · rfl

theorem tree?_setTree_twice (f : Forest) (t : Nat) (a b : Entry) (id : Nat) :
    ((f.setTree t a).setTree t b).tree? id = (f.setTree t b).tree? id := by
  by_cases hl : id = t
  · subst hl
    rw [tree?_setTree, if_pos rfl, tree?_setTree, if_pos rfl, tree?_setTree, if_pos rfl]
    cases f.tree? id <;> rfl
  · rw [tree?_setTree, if_neg hl, tree?_setTree, if_neg hl, tree?_setTree, if_neg hl]

/-- Creating absent rpc inputs / outputs in one tree keeps the forest `Built'`, provenance unchanged. -/
theorem built'_grown {reg : Registry} {prov : Loc → Option Nat} {t : Nat} {root root' : Entry} (hg : Grown root root') :
    ∀ (f : Forest), Built' reg f prov → f.tree? t = some root → Built' reg (f.setTree t root') prov := by
  induction hg with
  | refl e =>
    intro f hb ht
    exact Built'.congr hb (tree?_setTree_self f t e ht)
  | @step a b c hs _ ih =>
    intro f hb ht
    have h1 : Built' reg (f.setTree t b) prov := by
      cases hs with
      | input p e hge _ hi => exact Built'.implicit (p := p) (e := e) true hb ht hge (by simpa using hi)
      | output p e hge _ ho => exact Built'.implicit (p := p) (e := e) false hb ht hge (by simpa using ho)
    have h2 : (f.setTree t b).tree? t = some b := by rw [tree?_setTree, if_pos rfl, ht]; rfl
    exact Built'.congr (ih _ h1 h2) (fun id => (tree?_setTree_twice f t b c id).symm)

/-- `Find` keeps the forest `Built'` with the same provenance, whatever it is asked. -/
theorem built'_find {reg : Registry} {f : Forest} {prov : Loc → Option Nat} (hb : Built' reg f prov)
    (start : Loc) (ctx : Nat) (name : String) : Built' reg (find reg f start ctx name).2 prov := by
  rcases Find.frame reg f start ctx name with h | ⟨t, root, root', hr, hg, h⟩ | ⟨_, h⟩
  · rw [h]; exact hb
  · rw [h]; exact built'_grown hg f hb hr
  · rw [h]
    unfold Goyang.Spec.Find.withPrefixError
    split
    · rename_i root hroot; exact Built'.rootErr _ hb hroot
    · exact hb

/-! ### the augment stage -/

/-- The invariant of the augment stage: the forest is `Built'`, the children of every pending
augment entry are stamp-free (the premise of `graft`), and the tree of every (sub)module with
pending augments exists (so that the namespace it stamps with is its owner's). -/
structure BI (reg : Registry) (s : PState) : Prop where
  built : ∃ prov, Built' reg s.forest prov
  pend : ∀ p ∈ s.pending, ∀ a ∈ p.2, noStampL a.dir = true
  trees : Tree.InvB s

theorem augFail_built' {reg : Registry} (id : Nat) (addErrors : Bool) (a : Entry) (s : PState) (un : List Entry) (p k : Nat)
    (hb : ∃ prov, Built' reg s.forest prov) : ∃ prov, Built' reg (Tree.augFail id addErrors a s un p k).1.forest prov := by
  obtain ⟨prov, hb⟩ := hb
  unfold Tree.augFail
  dsimp only
  split
  · split
    · rename_i root hroot
      exact ⟨prov, Built'.rootErr _ hb hroot⟩
    · exact ⟨prov, hb⟩
  · exact ⟨prov, hb⟩

theorem augStep_built' (reg : Registry) (id : Nat) (addErrors : Bool) (nsOf : String) (hns : nsOf = ownerNs reg id)
    (acc : PState × List Entry × Nat × Nat) (a : Entry) (hb : ∃ prov, Built' reg acc.1.forest prov)
    (ha : noStampL a.dir = true) : ∃ prov, Built' reg (Tree.augStep reg id addErrors nsOf acc a).1.forest prov := by
  classical
  obtain ⟨s, un, p, k⟩ := acc
  obtain ⟨prov, hb⟩ := hb
  dsimp only at hb
  have hfind := built'_find hb (id, []) a.d.nodeMod a.d.name
  unfold Tree.augStep
  dsimp only
  generalize find reg s.forest (id, []) a.d.nodeMod a.d.name = r at hfind
  obtain ⟨target, forest⟩ := r
  dsimp only at hfind ⊢
  have fail := augFail_built' id addErrors a { s with forest := forest } un p k ⟨prov, hfind⟩
  split
  · exact fail
  · rename_i t path
    split
    · exact fail
    · rename_i te hte
      split
      · exact fail
      · split
        · exact fail
        · rename_i root hroot
          dsimp only at hroot hte ⊢
          simp only [hroot, Option.bind_some] at hte
          subst hns
          exact ⟨fun loc => if NewBelow t path te a loc then some id else prov loc,
            Built'.graft hfind hroot hte ha (fun loc h => by simp only [h, if_true])
              (fun loc h => by simp only [h, if_false])⟩

theorem augmentTree_bi (reg : Registry) (id : Nat) (addErrors : Bool) (s : PState) (h : BI reg s) :
    BI reg (augmentTree reg id addErrors s).1 := by
  refine ⟨?_, ?_, Tree.invB_augmentTree reg id addErrors s h.trees⟩
  · rw [Tree.augmentTree_eq]
    dsimp only
    refine ListAux.foldl_inv (fun acc : PState × List Entry × Nat × Nat => ∃ prov, Built' reg acc.1.forest prov) _ _ _
      h.built ?_
    intro acc a ha hacc
    obtain ⟨p, hp', hap⟩ := Tree.pendingOf_mem s id a ha
    -- the tree of `id` exists: it has pending augments
    obtain ⟨p0, hp0, h1, h2⟩ := Tree.pendingOf_ne_nil s id (List.ne_nil_of_mem ha)
    have hkey : id ∈ Tree.fkeys s.forest := by rw [← h1]; exact h.trees p0 hp0 h2
    obtain ⟨r0, hr0⟩ := Option.isSome_iff_exists.mp ((Tree.tree?_isSome _ _).2 hkey)
    exact augStep_built' reg id addErrors _ (namespaceAt_root reg s.forest id r0 hr0) acc a hacc (h.pend p hp' a hap)
  · exact Tree.augmentTree_pending (fun a => noStampL a.dir = true) reg id addErrors s h.pend

theorem augmentPass_bi (reg : Registry) : ∀ (fuel : Nat) (mods : Array Nat) (i processed : Nat) (s : PState),
    BI reg s → BI reg (augmentPass reg fuel mods i processed s).2.2 :=
  Tree.augmentPass_keeps reg _ (fun id => augmentTree_bi reg id false)

theorem augmentLoop_bi (reg : Registry) : ∀ (fuel : Nat) (mods : Array Nat) (s : PState),
    BI reg s → BI reg (augmentLoop reg fuel mods s).2 :=
  Tree.augmentLoop_keeps reg _ (fun id => augmentTree_bi reg id false)

theorem leftover_bi (reg : Registry) (left : Array Nat) (s : PState) (h : BI reg s) :
    BI reg (left.foldl (fun (acc : PState × Nat) id =>
      let (s, p, _) := augmentTree reg id true acc.1
      (s, acc.2 + p)) (s, 0)).1 :=
  Tree.leftover_keeps reg _ (fun id => augmentTree_bi reg id true) left s h

/-! ### `FixChoice` -/

theorem liftPath_ne_nil (e : Entry) (s : Step) (r : Path) : liftPath e (s :: r) ≠ [] := by
  cases s with
  | child k =>
    rw [liftPath_child]
    cases e.child? k with
    | none => simp
    | some x => dsimp only; split <;> simp
  | input => rw [liftPath_input]; simp
  | output => rw [liftPath_output]; simp

theorem liftPath_head (e : Entry) (s : Step) (r : Path) (x : Entry) (hn : next e s = some x) :
    (liftPath e (s :: r)).head? = some s := by
  cases s with
  | child k =>
    rw [liftPath_child]
    rw [next_child] at hn
    simp only [hn]
    split <;> rfl
  | input => rw [liftPath_input]; rfl
  | output => rw [liftPath_output]; rfl

/-- The path translation of `FixChoice` is one-to-one on the paths that exist. -/
theorem liftPath_inj : ∀ (p : Path) (e : Entry) (p' : Path), (e.getAt p).isSome = true → (e.getAt p').isSome = true →
    liftPath e p = liftPath e p' → p = p' := by
  intro p
  induction p with
  | nil =>
    intro e p' _ _ h
    cases p' with
    | nil => rfl
    | cons s r => rw [liftPath_nil] at h; exact absurd h.symm (liftPath_ne_nil e s r)
  | cons s rest ih =>
    intro e p' h1 h2 h
    cases p' with
    | nil => rw [liftPath_nil] at h; exact absurd h (liftPath_ne_nil e s rest)
    | cons s' rest' =>
      rw [getAt_cons] at h1 h2
      cases hn : next e s with
      | none => simp [hn] at h1
      | some x =>
        cases hn' : next e s' with
        | none => simp [hn'] at h2
        | some x' =>
          simp only [hn, hn', Option.bind_some] at h1 h2
          -- the first steps agree
          have hhead : s = s' := by
            have := congrArg List.head? h
            rw [liftPath_head e s rest x hn, liftPath_head e s' rest' x' hn'] at this
            exact Option.some.inj this
          subst hhead
          rw [hn] at hn'
          simp only [Option.some.injEq] at hn'
          subst hn'
          have htail : liftPath x rest = liftPath x rest' := by
            cases s with
            | child k =>
              rw [liftPath_child, liftPath_child] at h
              rw [next_child] at hn
              simp only [hn] at h
              exact List.append_cancel_left h
            | input =>
              rw [liftPath_input, liftPath_input] at h
              simp only [hn, List.cons.injEq, true_and] at h
              exact h
            | output =>
              rw [liftPath_output, liftPath_output] at h
              simp only [hn, List.cons.injEq, true_and] at h
              exact h
          rw [ih x rest' h1 h2 htail]

/-- A provenance for the fixed forest: a translated location has the placer of the original one, the
inserted cases have none (the translation of existing paths is injective, `liftPath_inj`). -/
theorem fix_prov (f : Forest) (prov : Loc → Option Nat) : ∃ prov' : Loc → Option Nat,
    (∀ id root p, f.tree? id = some root → (root.getAt p).isSome → prov' (id, liftPath root p) = prov (id, p)) ∧
    (∀ loc', (¬ ∃ root p, f.tree? loc'.1 = some root ∧ (root.getAt p).isSome ∧ loc'.2 = liftPath root p) →
      prov' loc' = none) := by
  classical
  let P : Loc → Path → Prop := fun loc' p =>
    ∃ root, f.tree? loc'.1 = some root ∧ (root.getAt p).isSome = true ∧ loc'.2 = liftPath root p
  refine ⟨fun loc' => if hex : ∃ p, P loc' p then prov (loc'.1, Classical.choose hex) else none, ?_, ?_⟩
  · intro id root p hroot hsome
    have hex : ∃ p', P (id, liftPath root p) p' := ⟨p, root, hroot, hsome, rfl⟩
    dsimp only
    rw [dif_pos hex]
    obtain ⟨root2, hr2, hs2, hl2⟩ := Classical.choose_spec hex
    simp only at hr2 hl2
    rw [hroot] at hr2
    simp only [Option.some.injEq] at hr2
    subst hr2
    have e := liftPath_inj p root _ hsome hs2 hl2
    exact congrArg (fun q => prov (id, q)) e.symm
  · intro loc' hno
    have : ¬ ∃ p, P loc' p := by
      rintro ⟨p, root, h1, h2, h3⟩
      exact hno ⟨root, p, h1, h2, h3⟩
    dsimp only
    rw [dif_neg this]

theorem fixAll_bi (reg : Registry) (s : PState) (h : BI reg s) : BI reg (Tree.fixAll s) := by
  obtain ⟨prov, hb⟩ := h.built
  obtain ⟨prov', hkeep, hnone⟩ := fix_prov s.forest prov
  exact ⟨⟨prov', Built'.fix hb hkeep hnone⟩, h.pend, Tree.invB_fixAll s h.trees⟩

/-! ### the state before the deviations -/

/-- The converted forest with the pending augments of `processAll` satisfies the invariant. -/
theorem bi_pstate0 (reg : Registry) (opts : Opts) (plug : Plug) : BI reg (Tree.pstate0 reg opts plug) := by
  have hst := ConfigNsToEntry.conversion_stOK (Tree.envOf reg opts plug) (entryFuel reg) (Tree.keyOrder reg)
  refine ⟨⟨fun loc => some loc.1, Built'.init ?_⟩, ?_, Tree.invB_pstate0 reg opts plug⟩
  · exact ConfigNsToEntry.conversion_free (Tree.envOf reg opts plug) (entryFuel reg) (Tree.keyOrder reg)
  · intro p hp a ha
    simp only [Tree.pstate0, Tree.pending0, List.mem_map] at hp
    obtain ⟨m, _, rfl⟩ := hp
    dsimp only at ha
    cases hf : (Tree.tstate reg opts plug).augs.find? (·.1 == m.seq) with
    | none => simp [hf] at ha
    | some r =>
      simp only [hf, Option.map_some, Option.getD_some] at ha
      exact noStamp_dir a ((noStampL_iff _).mp (hst.2.2 r (List.mem_of_find?_eq_some hf)) a ha)

/-- **The forest `processAll` applies its deviations to is `Built'`** — through the augment loop,
`FixChoice`, the retry rounds, the reporting sweep and the last `FixChoice`; for every registry, option set and
plugged-in stage. -/
theorem bi_preDev (reg : Registry) (opts : Opts) (plug : Plug) : BI reg (Tree.preDev reg opts plug) := by
  have h1 := Tree.afterRounds_state reg opts plug (BI reg) (augmentLoop_bi reg) (fixAll_bi reg)
    (bi_pstate0 reg opts plug)
  have h2 := leftover_bi reg (Tree.afterRounds reg opts plug).1 (Tree.afterRounds reg opts plug).2 h1
  unfold Tree.preDev
  split
  · exact fixAll_bi reg _ h2
  · exact h2

end Goyang.Lemmas.Bridge
