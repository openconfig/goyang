import Goyang.Lemmas.UsesCache
/-
C06: how the conversion state moves through `toEntry` — what is needed to say that a later hit of
the grouping cache returns *the entry converted earlier*.

* `toEntry_state`: a reflexive, transitive relation on conversion states that holds across every
  elementary state change of `toEntry` (a mark of the include bookkeeping, the pending augments, an
  entry appended to the module cache, an entry appended to the grouping cache under a key that is
  not under conversion) holds between the state a call starts from and the state it returns.
* `gcache_extends`: the grouping cache only grows at its end; a binding once made stays the first
  binding of its key (`gcache_binding_stays`).
* `gcache_no_key_in_progress`: no call adds a binding for a grouping that is under conversion.
* `toEntry_grouping_fills`: the first conversion of a grouping (a miss) returns the entry `e` and a
  state in which the grouping is bound to `e`.
Core Lean only.
-/
namespace Goyang.Lemmas.Uses
open Goyang.Model Goyang.Spec.Uses
open Goyang.Lemmas.Fuel (stepB toEntryBody skeleton_elim toEntry_succ toEntry_dir DirCase dirStart store store_grouping Rec
  visiting' isTracked)

/-- Every field step of the directory case moves the state along `R`. -/
theorem stepB_state (R : TState → TState → Prop) (hrefl : ∀ s, R s s) (htrans : ∀ a b c, R a b → R b c → R a c)
    (hmerged : ∀ (s : TState) (m : List String), R s { s with merged := m })
    (haugs : ∀ (s : TState) (a : List (Nat × List Entry)), R s { s with augs := a })
    (env : Env) (rec : Rec) (root : Mod) (n : Stmt) (sub : List Stmt) (vis : List NodeId) (isMod : Bool)
    (hrec : ∀ root' scope' n' st', R st' (rec root' scope' n' vis st').2)
    (acc : Entry × TState) (f : String) : R acc.2 (stepB env rec root n sub vis isMod acc f).2 :=
  stepB_rel (T := fun a b => R a.2 b.2) (fun _ => hrefl _) (fun _ _ _ => htrans _ _ _) env rec root n sub vis isMod
    (fun _ _ _ _ => hrefl _) (fun _ _ _ _ _ => hrec _ _ _ _) (fun _ _ _ => hmerged _ _) (fun _ _ _ => haugs _ _) acc f

/-- **The state moves along `R` through every call of `toEntry`**, for a relation `R` kept by the
elementary state changes; `G visiting` is what is assumed of the statements under conversion (kept
when one more is added), and an entry may be appended to the grouping cache under a key that is
not under conversion. -/
theorem toEntry_state (R : TState → TState → Prop) (hrefl : ∀ s, R s s) (htrans : ∀ a b c, R a b → R b c → R a c)
    (hmerged : ∀ (s : TState) (m : List String), R s { s with merged := m })
    (haugs : ∀ (s : TState) (a : List (Nat × List Entry)), R s { s with augs := a })
    (hcache : ∀ (s : TState) (x : Nat × Entry), R s { s with cache := s.cache ++ [x] })
    (G : List NodeId → Prop) (hG : ∀ vis x, G vis → G (x :: vis))
    (hgc : ∀ (vis : List NodeId) (s : TState) (k : NodeId) (e : Entry), G vis → vis.contains k = false →
      R s { s with gcache := s.gcache ++ [(k, e)] })
    (env : Env) : ∀ (fuel : Nat) (root : Mod) (scope : List Stmt) (n : Stmt) (vis : List NodeId) (st : TState),
      G vis → R st (toEntry env fuel root scope n vis st).2
  | 0, _, _, _, _, _, _ => hrefl _
  | fuel + 1, root, scope, n, vis, st, hvis => by
    have ih := toEntry_state R hrefl htrans hmerged haugs hcache G hG hgc env fuel
    have hvis' : G (visiting' root n vis) := by
      unfold visiting'
      split
      · exact hG _ _ hvis
      · exact hvis
    rw [toEntry_succ]
    unfold toEntryBody
    refine skeleton_elim (P := fun r => R st r.2) (fun _ => hrefl _) ?_ (fun hcyc => ?_)
    · -- uses
      split
      · exact hrefl _
      · exact ih _ _ _ _ _ hvis'
    have hfold : R st ((fieldOrder n.kw).foldl (stepB env (toEntry env fuel) root n (n :: scope) (visiting' root n vis)
        (n.kw == "module" || n.kw == "submodule")) (dirStart root n, st)).2 :=
      foldl_rel (T := fun a b => R a.2 b.2) (fun _ => hrefl _) (fun _ _ _ => htrans _ _ _) _
        (fun acc f => stepB_state R hrefl htrans hmerged haugs env _ root n _ _ _
          (fun root' scope' n' st' => ih root' scope' n' _ st' hvis') acc f) _ (_, st)
    unfold store
    split
    · exact htrans _ _ _ hfold (hcache _ _)
    split
    · rename_i hg
      rw [isTracked, hg, Bool.or_true, Bool.true_and] at hcyc
      exact htrans _ _ _ hfold (hgc vis _ _ _ hvis hcyc)
    · exact hfold

/-! ### the grouping cache -/

/-- **The grouping cache only grows at its end**, through every call of `toEntry`. -/
theorem gcache_extends (env : Env) (fuel : Nat) (root : Mod) (scope : List Stmt) (n : Stmt) (vis : List NodeId) (st : TState) :
    ∃ ext, (toEntry env fuel root scope n vis st).2.gcache = st.gcache ++ ext :=
  toEntry_state (fun s s' => ∃ ext, s'.gcache = s.gcache ++ ext) (fun _ => ⟨[], by simp⟩)
    (fun a b c ⟨e1, h1⟩ ⟨e2, h2⟩ => ⟨e1 ++ e2, by rw [h2, h1, List.append_assoc]⟩)
    (fun _ _ => ⟨[], by simp⟩) (fun _ _ => ⟨[], by simp⟩) (fun _ _ => ⟨[], by simp⟩)
    (fun _ => True) (fun _ _ _ => trivial) (fun _ _ k e _ _ => ⟨[(k, e)], rfl⟩) env fuel root scope n vis st trivial

/-- **A binding of the grouping cache stays**: whatever is converted later, the key keeps the entry
it was first bound to. -/
theorem gcache_binding_stays (env : Env) (fuel : Nat) (root : Mod) (scope : List Stmt) (n : Stmt) (vis : List NodeId)
    (st : TState) (k : NodeId) (x : NodeId × Entry) (h : st.gcache.find? (·.1 == k) = some x) :
    (toEntry env fuel root scope n vis st).2.gcache.find? (·.1 == k) = some x := by
  obtain ⟨ext, he⟩ := gcache_extends env fuel root scope n vis st
  rw [he, List.find?_append, h]
  rfl

/-- The key `k` stays unbound from `s` to `s'`. -/
def KeepsFree (k : NodeId) (s s' : TState) : Prop :=
  s.gcache.find? (·.1 == k) = none → s'.gcache.find? (·.1 == k) = none

theorem KeepsFree.refl (k : NodeId) (s : TState) : KeepsFree k s s := fun h => h
theorem KeepsFree.trans (k : NodeId) (a b c : TState) (h1 : KeepsFree k a b) (h2 : KeepsFree k b c) : KeepsFree k a c :=
  fun h => h2 (h1 h)

/-- **No call binds a grouping that is under conversion.** -/
theorem gcache_no_key_in_progress (env : Env) (k : NodeId) (fuel : Nat) (root : Mod) (scope : List Stmt) (n : Stmt)
    (vis : List NodeId) (st : TState) (hk : k ∈ vis) : KeepsFree k st (toEntry env fuel root scope n vis st).2 :=
  toEntry_state (KeepsFree k) (KeepsFree.refl k) (KeepsFree.trans k) (fun _ _ h => h) (fun _ _ h => h) (fun _ _ h => h)
    (fun vis => k ∈ vis) (fun _ _ h => List.mem_cons_of_mem _ h)
    (fun vis s k' e hkv hc h => by
      have hne : (k' == k) = false := by
        cases hb : k' == k with
        | false => rfl
        | true =>
          have : k' = k := by simpa using hb
          subst this
          have : vis.contains k' = true := by simpa using hkv
          rw [this] at hc; cases hc
      show (s.gcache ++ [(k', e)]).find? (·.1 == k) = none
      rw [List.find?_append, h]
      simp [hne])
    env fuel root scope n vis st hk

/-- **The first conversion fills the cache with what it returns.**  A `grouping` statement that is
not in the cache and not under conversion: after its conversion the cache binds it to exactly the
entry the conversion returned. -/
theorem toEntry_grouping_fills (env : Env) (fuel : Nat) (root : Mod) (scope : List Stmt) (n : Stmt)
    (visiting : List NodeId) (st : TState) (hkw : n.kw = "grouping")
    (hmiss : st.gcache.find? (·.1 == nodeId root n) = none) (hnv : visiting.contains (nodeId root n) = false) :
    (toEntry env (fuel + 1) root scope n visiting st).2.gcache.find? (·.1 == nodeId root n) =
      some (nodeId root n, (toEntry env (fuel + 1) root scope n visiting st).1) := by
  rw [toEntry_dir env fuel scope (DirCase.of_grouping hkw hmiss hnv), store_grouping hkw, List.find?_append]
  -- the field steps leave the key unbound: the grouping is under conversion while they run
  rw [foldl_rel (T := fun a b => KeepsFree (nodeId root n) a.2 b.2) (fun _ => KeepsFree.refl _ _)
    (fun _ _ _ => KeepsFree.trans _ _ _ _) _
    (fun acc f => stepB_state (KeepsFree (nodeId root n)) (KeepsFree.refl _) (KeepsFree.trans _)
      (fun _ _ h => h) (fun _ _ h => h) env _ root n _ _ _
      (fun root' scope' n' st' => gcache_no_key_in_progress env (nodeId root n) fuel root' scope' n' _ st'
        (by simp [visiting', isTracked, hkw])) acc f) _ (_, st) hmiss]
  simp

/-- The module cache, likewise: a (sub)module statement that is not in the cache and not under
conversion is bound afterwards, and a binding of the module cache stays (`cache_extends`). -/
theorem cache_extends (env : Env) (fuel : Nat) (root : Mod) (scope : List Stmt) (n : Stmt) (vis : List NodeId) (st : TState) :
    ∃ ext, (toEntry env fuel root scope n vis st).2.cache = st.cache ++ ext :=
  toEntry_state (fun s s' => ∃ ext, s'.cache = s.cache ++ ext) (fun _ => ⟨[], by simp⟩)
    (fun a b c ⟨e1, h1⟩ ⟨e2, h2⟩ => ⟨e1 ++ e2, by rw [h2, h1, List.append_assoc]⟩)
    (fun _ _ => ⟨[], by simp⟩) (fun _ _ => ⟨[], by simp⟩) (fun s x => ⟨[x], rfl⟩)
    (fun _ => True) (fun _ _ _ => trivial) (fun _ _ k e _ _ => ⟨[], by simp⟩) env fuel root scope n vis st trivial

end Goyang.Lemmas.Uses
