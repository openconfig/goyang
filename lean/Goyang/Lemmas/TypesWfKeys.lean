import Goyang.Lemmas.TypesWf
import Goyang.Lemmas.ListAux
/-
Positions identify sites: in a loaded set whose statements stand at pairwise different positions
(`PosDistinct`), two sites that stand in the loaded set (`InPlace`) and carry the same key (module
sequence number, line, column) are the same site; `Uses` steps keep sites in place.
-/
namespace Goyang.Lemmas.TypesWfKeys
open Goyang.Model Goyang.Model.Types Goyang.Spec.Types Goyang.Lemmas.TypesDefs Goyang.Lemmas.TypesWf
  Goyang.Lemmas.TypesFuel Goyang.Lemmas.TypesSpecErr

/-! ## Paths -/

theorem isPath_single (top : Stmt) : IsPath top [top] := rfl

theorem isPath_cons {top c p : Stmt} {rest : List Stmt} (hc : c ∈ p.subs) (h : IsPath top (p :: rest)) :
    IsPath top (c :: p :: rest) := ⟨hc, h⟩

theorem isPath_suffix {top : Stmt} {l : List Stmt} (hl : l ≠ []) : ∀ {pre : List Stmt}, IsPath top (pre ++ l) → IsPath top l := by
  intro pre
  induction pre with
  | nil => intro h; exact h
  | cons x pre' ih =>
    intro h
    cases hq : pre' ++ l with
    | nil =>
      have : l = [] := (List.append_eq_nil_iff.mp hq).2
      exact absurd this hl
    | cons y r =>
      rw [List.cons_append, hq] at h
      have h2 : IsPath top (y :: r) := h.2
      rw [← hq] at h2
      exact ih h2

mutual
/-- All paths of the tree of `s` (a statement followed by its ancestors up to `s`), in document order. -/
def paths : Stmt → List (List Stmt)
  | .mk kw ha a f l c subs =>
    [Stmt.mk kw ha a f l c subs] :: (pathsL subs).map (· ++ [Stmt.mk kw ha a f l c subs])
def pathsL : List Stmt → List (List Stmt)
  | [] => []
  | s :: rest => paths s ++ pathsL rest
end

theorem self_path (s : Stmt) : [s] ∈ paths s := by
  cases s with
  | mk kw ha a f l c subs => simp [paths]

theorem paths_sub_pathsL {x : Stmt} : ∀ {l : List Stmt}, x ∈ l → ∀ p ∈ paths x, p ∈ pathsL l := by
  intro l
  induction l with
  | nil => intro h; cases h
  | cons s rest ih =>
    intro h p hp
    simp only [pathsL, List.mem_append]
    cases h with
    | head => exact Or.inl hp
    | tail _ h => exact Or.inr (ih h p hp)

theorem map_head_append {L : List (List Stmt)} (s : Stmt) (hne : ∀ p ∈ L, p ≠ []) :
    (L.map (· ++ [s])).map (fun p => p.head?) = L.map (fun p => p.head?) := by
  rw [List.map_map]
  apply List.map_congr_left
  intro p hp
  simp only [Function.comp]
  cases p with
  | nil => exact absurd rfl (hne [] hp)
  | cons x xs => rfl

theorem ne_nil_of_heads {L : List (List Stmt)} {D : List Stmt} (h : L.map (fun p => p.head?) = D.map some) :
    ∀ p ∈ L, p ≠ [] := by
  intro p hp hnil
  have : p.head? ∈ L.map (fun p => p.head?) := List.mem_map_of_mem hp
  rw [h, hnil] at this
  obtain ⟨d, _, hd⟩ := List.mem_map.mp this
  cases hd

mutual
/-- The first statements of the paths of a tree are its statements, in the same order. -/
theorem heads_paths : ∀ (s : Stmt), (paths s).map (fun p => p.head?) = (descendants s).map some
  | .mk kw ha a f l c subs => by
    have ih := heads_pathsL subs
    simp only [paths, descendants, List.map_cons, List.head?_cons]
    rw [map_head_append _ (ne_nil_of_heads ih), ih]
theorem heads_pathsL : ∀ (l : List Stmt), (pathsL l).map (fun p => p.head?) = (descendantsL l).map some
  | [] => by simp [pathsL, descendantsL]
  | s :: rest => by
    simp only [pathsL, descendantsL, List.map_append]
    rw [heads_paths s, heads_pathsL rest]
end

mutual
theorem ext_stmt (c p : Stmt) (rest : List Stmt) (hc : c ∈ p.subs) :
    ∀ (top : Stmt), (p :: rest) ∈ paths top → (c :: p :: rest) ∈ paths top
  | .mk kw ha a f l col subs, h => by
    simp only [paths, List.mem_cons, List.mem_map] at h ⊢
    rcases h with h | ⟨q, hq, hqe⟩
    · simp only [List.cons.injEq] at h
      obtain ⟨hp, hr⟩ := h
      subst hp hr
      refine Or.inr ⟨[c], paths_sub_pathsL (show c ∈ subs from hc) _ (self_path c), rfl⟩
    · cases q with
      | nil => exact absurd rfl (ne_nil_of_heads (heads_pathsL subs) [] hq)
      | cons q0 qs =>
        simp only [List.cons_append, List.cons.injEq] at hqe
        obtain ⟨hq0, hqs⟩ := hqe
        subst hq0
        refine Or.inr ⟨c :: q0 :: qs, ext_list c q0 qs hc subs hq, ?_⟩
        simp only [List.cons_append, hqs]
theorem ext_list (c p : Stmt) (rest : List Stmt) (hc : c ∈ p.subs) :
    ∀ (l : List Stmt), (p :: rest) ∈ pathsL l → (c :: p :: rest) ∈ pathsL l
  | [], h => by simp [pathsL] at h
  | s :: tl, h => by
    simp only [pathsL, List.mem_append] at h ⊢
    rcases h with h | h
    · exact Or.inl (ext_stmt c p rest hc s h)
    · exact Or.inr (ext_list c p rest hc tl h)
end

theorem isPath_mem_paths {top : Stmt} : ∀ {l : List Stmt}, IsPath top l → l ∈ paths top := by
  intro l
  induction l with
  | nil => intro h; exact h.elim
  | cons c tl ih =>
    intro h
    cases tl with
    | nil =>
      have : c = top := h
      rw [this]
      exact self_path top
    | cons p rest => exact ext_stmt c p rest h.1 top (ih h.2)

theorem nodup_map_some {α : Type} : ∀ {l : List α}, l.Nodup → (l.map some).Nodup := by
  intro l
  induction l with
  | nil => intro _; exact List.nodup_nil
  | cons a rest ih =>
    intro h
    rw [List.nodup_cons] at h
    rw [List.map_cons, List.nodup_cons]
    refine ⟨?_, ih h.2⟩
    intro hm
    obtain ⟨b, hb, hbe⟩ := List.mem_map.mp hm
    cases hbe
    exact h.1 hb

/-- In a tree whose statements stand at pairwise different positions, two paths whose first
statements stand at the same position are the same path. -/
theorem isPath_unique {top : Stmt} (hnd : ((descendants top).map pos).Nodup) {c c' : Stmt} {r r' : List Stmt}
    (h : IsPath top (c :: r)) (h' : IsPath top (c' :: r')) (hp : pos c = pos c') : c :: r = c' :: r' := by
  have hkey : ((paths top).map (fun p => p.head?.map pos)).Nodup := by
    have : (paths top).map (fun p => p.head?.map pos) = ((descendants top).map pos).map some := by
      have h1 := congrArg (List.map (Option.map pos)) (heads_paths top)
      simp only [List.map_map] at h1
      rw [List.map_map]
      exact h1
    rw [this]
    exact nodup_map_some hnd
  exact Goyang.Lemmas.ListAux.eq_of_nodup_map _ _ hkey _ (isPath_mem_paths h) _ (isPath_mem_paths h')
    (by simp only [List.head?_cons, Option.map_some, hp])

/-! ## Sites -/

/-- Sites that stand in the loaded set and carry the same key are the same site. -/
theorem inPlace_eq_of_key (reg : Registry) (hid : SeqId reg) (hpos : PosDistinct reg) (a b : Site)
    (ha : InPlace reg a) (hb : InPlace reg b) (hk : siteKey a = siteKey b) : a = b := by
  obtain ⟨ra, sa, ta⟩ := a
  obtain ⟨rb, sb, tb⟩ := b
  simp only [siteKey, typeKey, Prod.mk.injEq] at hk
  obtain ⟨hseq, hline, hcol⟩ := hk
  have hr : ra = rb := hid ra ha.1 rb hb.1 hseq
  subst hr
  have := isPath_unique (hpos ra ha.1) ha.2 hb.2 (by simp only [pos, hline, hcol])
  simp only [List.cons.injEq] at this
  rw [this.1, this.2]

/-- A `Uses` step leads from a site that stands in the loaded set to one that does. -/
theorem inPlace_uses (reg : Registry) (a b : Site) (ha : InPlace reg a) (h : Uses reg a b) : InPlace reg b := by
  cases h with
  | member ut hut => exact ⟨ha.1, isPath_cons (all_mem_subs hut) ha.2⟩
  | base m td sc tt hbind htt =>
    refine ⟨binds_root_mem ha.1 hbind, ?_⟩
    apply isPath_cons (one_mem_subs htt)
    cases hbind with
    | lexical pre n up td' _ _ hsc _ htd =>
      apply isPath_cons (declared_mem_subs htd)
      have hp := ha.2
      simp only at hp hsc
      rw [hsc] at hp
      exact isPath_suffix (by simp) (pre := _ :: pre) hp
    | moduleLevel m' td' _ _ _ _ htd => exact isPath_cons (declared_mem_subs htd) (isPath_single _)
    | foreign i ext m' td' _ _ _ _ _ _ htd => exact isPath_cons (declared_mem_subs htd) (isPath_single _)

end Goyang.Lemmas.TypesWfKeys
