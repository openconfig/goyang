import Goyang.Lemmas.IncludeAugIO
import Goyang.Lemmas.BridgeNamesStages
/-
C13 (third sentence), augments — piece (I), first half, for ALL sets: `IOShape` (an rpc / action node has no `Dir`
child, any other node no rpc input / output) is kept by the augment loop.  `Find` creates an input / output only
at an rpc node (`walkParts_inv3`), `merge` is applied only at a target that passed `cannotHaveChildren` (not an rpc
node: `AugClosed'`).  The unique-names invariant `TreeInv wfq` is carried along (an update at a path changes one
node only when sibling names are unique).  `IOShapeStart` (decidable): the trees the conversion leaves and the
children of the pending augment entries have `IOShape` — that the conversion itself produces such trees is not
proved here.
-/
open Goyang.Lemmas.ForestAux (mem_of_tree?)
namespace Goyang.Lemmas.IncludeAugShape
open Goyang.Model Goyang.Spec.Tree Goyang.Lemmas.Tree Goyang.Lemmas.Bridge
open Goyang.Lemmas.IncludeAugView Goyang.Lemmas.IncludeAugCompose Goyang.Lemmas.IncludeAugOrder Goyang.Lemmas.IncludeAugIO
open Goyang.Spec.Include

theorem ioShapeHere_hdr : ∀ d c i o c' i' o', c.map hdr = c'.map hdr → i.map hdr = i'.map hdr → o.map hdr = o'.map hdr →
    ioShapeHere (.mk d c i o) = ioShapeHere (.mk d c' i' o') := by
  intro d c i o c' i' o' hc hi ho
  have e1 := length_hdr c c' hc
  have e2 := length_hdr i i' hi
  have e3 := length_hdr o o' ho
  have f : ∀ (l l' : List Entry), l.length = l'.length → l.isEmpty = l'.isEmpty := by
    intro l l' h; cases l <;> cases l' <;> simp_all
  show (if d.isRpc = true then c.isEmpty else i.isEmpty && o.isEmpty) =
    (if d.isRpc = true then c'.isEmpty else i'.isEmpty && o'.isEmpty)
  rw [f c c' e1, f i i' e2, f o o' e3]

theorem ioShape_iff (d : EData) (c i o : List Entry) : IOShape (.mk d c i o) ↔
    (d.isRpc = true → c = []) ∧ (d.isRpc = false → i = [] ∧ o = []) ∧ (∀ x ∈ c, IOShape x) ∧ (∀ x ∈ i, IOShape x) ∧
      (∀ x ∈ o, IOShape x) := by
  constructor
  · exact ioShape_mk
  · rintro ⟨h1, h2, h3, h4, h5⟩
    unfold IOShape
    rw [everyNode_mk]
    refine ⟨?_, h3, h4, h5⟩
    cases hr : d.isRpc with
    | true => simp [ioShapeHere, Entry.d, Entry.dir, hr, h1 hr]
    | false => obtain ⟨a, b⟩ := h2 hr; simp [ioShapeHere, Entry.d, Entry.inp, Entry.out, hr, a, b]

theorem ioShape_implicitIO (parent : Entry) (b : Bool) : IOShape (implicitIO parent b) := by
  unfold implicitIO
  rw [ioShape_iff]
  simp

theorem ioShape_rpc {d : EData} (hr : d.isRpc = true) {i o : List Entry} (hi : ∀ x ∈ i, IOShape x) (ho : ∀ x ∈ o, IOShape x) :
    IOShape (.mk d [] i o) :=
  (ioShape_iff d [] i o).2 ⟨fun _ => rfl, fun hf => absurd (hr.symm.trans hf) (by decide), fun _ hx => (nomatch hx), hi, ho⟩

theorem ioShape_single {x : Entry} (h : IOShape x) : ∀ y ∈ [x], IOShape y :=
  fun _ hy => List.mem_singleton.1 hy ▸ h

theorem ioShape_setImplicitIn (e : Entry) (hr : e.d.isRpc = true) (h : IOShape e) : IOShape (setImplicitIn e) := by
  cases e with | mk d c i o =>
  have hm := ioShape_mk h
  obtain rfl := hm.1 hr
  exact ioShape_rpc hr (ioShape_single (ioShape_implicitIO _ _)) hm.2.2.2.2

theorem ioShape_setImplicitOut (e : Entry) (hr : e.d.isRpc = true) (h : IOShape e) : IOShape (setImplicitOut e) := by
  cases e with | mk d c i o =>
  have hm := ioShape_mk h
  obtain rfl := hm.1 hr
  exact ioShape_rpc hr hm.2.2.2.1 (ioShape_single (ioShape_implicitIO _ _))

theorem ioShapeHere_withD (d : EData) (c i o : List Entry) (f : EData → EData) (hf : ∀ d, (f d).isRpc = d.isRpc) :
    ioShapeHere (.mk (f d) c i o) = ioShapeHere (.mk d c i o) := by
  show (if (f d).isRpc = true then _ else _) = if d.isRpc = true then _ else _
  rw [hf]
  rfl

theorem ioShapeHere_append (d : EData) (c i o : List Entry) (w : Entry) (hd : d.isRpc = false)
    (h : ioShapeHere (.mk d c i o) = true) : ioShapeHere (.mk d (c ++ [w]) i o) = true := by
  simp only [ioShapeHere, Entry.d, Entry.inp, Entry.out, hd, Bool.false_eq_true, if_false] at h ⊢
  exact h

theorem ioShape_withD (e : Entry) (f : EData → EData) (hf : ∀ d, (f d).isRpc = d.isRpc) (h : IOShape e) : IOShape (e.withD f) :=
  everyNode_withD ioShapeHere ioShapeHere_withD e f hf h

theorem withD_isRpc (e : Entry) (f : EData → EData) (hf : ∀ d, (f d).isRpc = d.isRpc) : (e.withD f).d.isRpc = e.d.isRpc := by
  cases e; exact hf _

/-- `merge` into a node that is not an rpc / action node keeps `IOShape`. -/
theorem ioShape_merge (e : Entry) (ns : Option String) (oe : Entry) (hr : e.d.isRpc = false) (he : IOShape e)
    (ho : ∀ c ∈ oe.dir, IOShape c) : IOShape (e.merge ns oe) :=
  everyNode_merge ioShapeHere ioShapeHere_withD ioShapeHere_append e ns oe hr he ho

theorem isRpc_of_can (te : Entry) (h : cannotHaveChildren te = false) : te.d.isRpc = false := by
  unfold cannotHaveChildren at h
  simp only [Bool.or_eq_false_iff] at h
  exact h.2

/-- The tree invariant carried along the loop: unique sibling names (and C04's local well-formedness) and `IOShape`. -/
def PT (t : Entry) : Prop := TreeInv wfq t ∧ IOShape t
/-- … of a pending augment entry. -/
def PAug (a : Entry) : Prop := TInv wfq a ∧ ∀ c ∈ a.dir, IOShape c

theorem augClosed'_shape (env : Env) : AugClosed' PT PAug where
  find reg f start ctx name hf hs :=
    find_inv2 PT
      (walkParts_inv3 PT
        (fun root p e h hp hg hr hi => ⟨⟨tinv_setImplicitIn (localOK_wfq env) root p e h.1.1 hp hg hi,
          (updateAt_kind _ (fun x => by cases x; rfl) p root).trans h.1.2⟩,
          everyNode_updateAt ioShapeHere ioShapeHere_hdr setImplicitIn e (ioShape_setImplicitIn e hr)
            (by cases e; rfl) p root h.1.1.1 hp hg h.2⟩)
        (fun root p e h hp hg hr ho => ⟨⟨tinv_setImplicitOut (localOK_wfq env) root p e h.1.1 hp hg ho,
          (updateAt_kind _ (fun x => by cases x; rfl) p root).trans h.1.2⟩,
          everyNode_updateAt ioShapeHere ioShapeHere_hdr setImplicitOut e (ioShape_setImplicitOut e hr)
            (by cases e; rfl) p root h.1.1.1 hp hg h.2⟩))
      (fun e x h => ⟨⟨tinv_addErr (localOK_wfq env) e x h.1.1, by cases e; exact h.1.2⟩, ioShape_withD e _ (fun _ => rfl) h.2⟩)
      reg f start ctx name hf hs
  addErr e x h := ⟨⟨tinv_addErr (localOK_wfq env) e x h.1.1, by cases e; exact h.1.2⟩, ioShape_withD e _ (fun _ => rfl) h.2⟩
  mergeAt root path te a ns h hp hg hcan ha :=
    ⟨⟨tinv_merge_at (localOK_wfq env) root path te a ns h.1.1 hp hg ha.1,
      (updateAt_kind _ (fun x => (rootKeep_merge x ns a).2.1) path root).trans h.1.2⟩,
      everyNode_updateAt ioShapeHere ioShapeHere_hdr (fun te => te.merge ns a) te
        (fun hte => ioShape_merge te ns a (isRpc_of_can te hcan) hte ha.2)
        (by have := rootKeep_merge te ns a; exact Prod.ext this.1 this.2.1) path root h.1.1.1 hp hg h.2⟩

/-- **`IOShape` at the start of the augment stage** (decidable). -/
def IOShapeStart (reg : Registry) (opts : Opts) (plug : Plug) : Prop :=
  (∀ t ∈ (pstate0 reg opts plug).forest.trees, IOShape t.2) ∧
  ∀ p ∈ (pstate0 reg opts plug).pending, ∀ a ∈ p.2, ∀ c ∈ a.dir, IOShape c

instance (reg : Registry) (opts : Opts) (plug : Plug) : Decidable (IOShapeStart reg opts plug) := by
  unfold IOShapeStart; infer_instance

/-- **(I), first half, all sets**: the augment loop (any fuel, any module order), started where `processAll` starts it
with trees and pending entries of the shape `IOShape`, keeps every tree of that shape. -/
theorem ioShape_loop (reg : Registry) (opts : Opts) (plug : Plug) (h0 : IOShapeStart reg opts plug) (fuel : Nat) (mods : Array Nat) :
    ∀ t ∈ (augmentLoop reg fuel mods (pstate0 reg opts plug)).2.forest.trees, IOShape t.2 := by
  have hq := localOK_wfq (envOf reg opts plug)
  have hb := ainv_pstate0 reg opts plug hq
  have hs : AInv PT PAug (pstate0 reg opts plug) :=
    ⟨fun t ht => ⟨hb.trees t ht, h0.1 t ht⟩, fun p hp a ha => ⟨hb.pend p hp a ha, h0.2 p hp a ha⟩⟩
  intro t ht
  exact ((augmentLoop_ainv' (augClosed'_shape (envOf reg opts plug)) reg fuel mods _ hs).trees t ht).2

theorem noIOStart_ioShapeStart {reg : Registry} {opts : Opts} {plug : Plug} (h : IncludeAugIO.NoIOStart reg opts plug) :
    IOShapeStart reg opts plug :=
  ⟨fun t ht => IncludeAugIO.noIO_ioShape (h.1 t ht), fun p hp a ha c hc => IncludeAugIO.noIO_ioShape (h.2 p hp a ha c hc)⟩


/-- **`LoopsRelated` without its `IOShape` parts**, for any split set with `IOShapeStart`: what is left is the core
and `SameIO` of the owner's trees after the two runs over the split set. -/
theorem loopsRelated_of_ioShape {s : Split} {R R' : Registry} (opts : Opts) (plug plug' : Plug)
    (h0 : IOShapeStart R' opts plug') (hC : LoopsRelatedCore s R R' opts plug plug')
    (hio : ∀ ts tu, (afterLoop R' opts plug').2.forest.tree? s.m.seq = some ts →
      (loopU R R' opts plug').forest.tree? s.m.seq = some tu → SameIO ts tu) :
    LoopsRelated s R R' opts plug plug' := by
  obtain ⟨hcu, hpu, t, tu, ht, htu, hst⟩ := hC
  obtain ⟨ts, hts⟩ := IncludeAugIO.afterLoop_tree_of_loopU htu
  exact ⟨hcu, hpu, t, ts, tu, ht, hts, htu, hst, ioShape_loop R' opts plug' h0 _ _ (s.m.seq, ts) (mem_of_tree? hts),
    ioShape_loop R' opts plug' h0 _ _ (s.m.seq, tu) (mem_of_tree? htu), hio ts tu hts htu⟩


/-! ### `IOShape` of everything the conversion makes (all registries) -/

/-- The frame: every entry made has `IOShape`; the entry made from an rpc / action statement has no `Dir` children
(so that setting its `RPC` flag keeps the shape). -/
def shapeFrame : Frame where
  PE e := IOShape e
  PX _ _ n e := (n.kw = "rpc" ∨ n.kw = "action") → e.dir = []

theorem ioShape_leaf (e : Entry) (hr : e.d.isRpc = false) (h1 : e.dir = []) (h2 : e.inp = []) (h3 : e.out = []) : IOShape e := by
  cases e with | mk d c i o =>
  simp only [Entry.dir, Entry.inp, Entry.out, Entry.d] at hr h1 h2 h3
  subst h1 h2 h3
  rw [ioShape_iff]
  simp [hr]

theorem ioShape_leafEntry (env : Env) (root : Mod) (scope : List Stmt) (n : Stmt) (syn : Bool) :
    IOShape (leafEntry env root scope n syn) := by
  have hr : (leafEntry env root scope n syn).d.isRpc = false := by unfold leafEntry; dsimp only; rfl
  have hd := leafEntry_data env root scope n syn
  exact ioShape_leaf _ hr hd.2.2.2.2.2.1 hd.2.2.2.2.2.2.1 hd.2.2.2.2.2.2.2

theorem closedT_shapeFrame (env : Env) : ClosedT env shapeFrame where
  withD e f _ hr _ h := ioShape_withD e f hr h
  addErrs e xs h := ioShape_withD e _ (fun _ => rfl) h
  addErr e x h := ioShape_withD e _ (fun _ => rfl) h
  importErrors e c h := ioShape_withD e _ (fun _ => rfl) h
  add root scope n kw c e v _ _ _ hr he hv _ _ := by
    show IOShape (e.add c.arg v)
    unfold Entry.add
    split
    · exact ioShape_withD e _ (fun _ => rfl) he
    · exact everyNode_append ioShapeHere ioShapeHere_append e v hr he hv
  rpcFlag root scope n kw c v _ hrpc hc hv hpx := by
    have hk := mem_all_kw n kw c hc
    have hdir : v.dir = [] := hpx (by rw [hk]; exact hrpc)
    cases v with | mk d cc i o =>
    obtain rfl : cc = [] := hdir
    exact ioShape_rpc rfl (ioShape_mk hv).2.2.2.1 (ioShape_mk hv).2.2.2.2
  merge e oe hr he ho := by
    show IOShape (e.merge none oe)
    have ho' : IOShape oe := ho
    cases oe with | mk d2 c2 i2 o2 =>
    exact ioShape_merge e none _ hr he (ioShape_mk ho').2.2.1
  setInp d o ie he hi _ := ioShape_rpc rfl (ioShape_single (ioShape_withD ie _ (fun _ => rfl) hi)) (ioShape_mk he).2.2.2.2
  setOut d i oe he ho _ := ioShape_rpc rfl (ioShape_mk he).2.2.2.1 (ioShape_single (ioShape_withD oe _ (fun _ => rfl) ho))
  typeSet e ty h _ := ioShape_withD e _ (fun _ => rfl) h
  laSet e f h _ _ hr _ := ioShape_withD e f hr h
  base0 root scope n _ := by
    show IOShape (e0 root n)
    have h := e0_isRpc root n
    exact ioShape_leaf _ h (by unfold e0; rfl) (by unfold e0; rfl) (by unfold e0; rfl)
  errE root scope n cls _ := by
    show IOShape (errorEntry root n cls)
    exact ioShape_leaf _ (by unfold errorEntry; rfl) (by unfold errorEntry; rfl) (by unfold errorEntry; rfl) (by unfold errorEntry; rfl)
  leafE root scope n syn _ := ioShape_leafEntry env root scope n syn
  leafL root scope n la xs dl _ := ioShape_withD _ _ (fun _ => rfl) (ioShape_leafEntry env root scope n true)
  row _ _ _ _ _ _ _ _ _ _ := trivial
  pc _ _ _ _ _ _ _ _ := trivial
  pxCache root scope n p inv hm _ _ := by
    intro h
    simp only [isModKw, Bool.or_eq_true, beq_iff_eq] at hm
    rcases hm with hm | hm <;> rcases h with h | h <;> rw [hm] at h <;> exact absurd h (by decide)
  pxTriv root scope n e hk := by
    intro h
    rcases hk with hk | hk | hk | hk <;> rcases h with h | h <;> rw [hk] at h <;> exact absurd h (by decide)
  pxErr root scope n cls _ := fun _ => rfl
  pxDir fuel root scope n visiting st S isMod _ _ _ _ := by
    intro h
    rw [fieldOrder_rpc n.kw h, fold_io_dir]
    rfl

/-- **`IOShape` of the conversion** (every registry, every option set and plug): every tree the conversion leaves in
the cache and every pending augment entry has `IOShape`. -/
theorem ioShape_tstate (reg : Registry) (opts : Opts) (plug : Plug) :
    (∀ t ∈ (tstate reg opts plug).cache, IOShape t.2) ∧ (∀ p ∈ (tstate reg opts plug).augs, ∀ a ∈ p.2, IOShape a) := by
  have h := (tstate_okT reg opts plug (closedT_shapeFrame (envOf reg opts plug))).base
  exact ⟨fun t ht => h.cache t ht, fun p hp a ha => h.augs p hp a ha⟩

/-- `IOShapeStart` holds of every registry. -/
theorem ioShapeStart (reg : Registry) (opts : Opts) (plug : Plug) : IOShapeStart reg opts plug := by
  obtain ⟨h1, h2⟩ := ioShape_tstate reg opts plug
  refine ⟨fun t ht => h1 t (by simpa [pstate0, forest0] using ht), ?_⟩
  intro p hp a ha c hc
  simp only [pstate0, pending0, List.mem_map] at hp
  obtain ⟨m, _, rfl⟩ := hp
  dsimp only at ha
  cases hf : (tstate reg opts plug).augs.find? (·.1 == m.seq) with
  | none => simp [hf] at ha
  | some r =>
    simp only [hf, Option.map_some, Option.getD_some] at ha
    have := h2 r (List.mem_of_find?_eq_some hf) a ha
    cases a with | mk d cc i o =>
    exact (ioShape_mk this).2.2.1 c hc

/-- **(I), first half, closed**: along the augment loop of `processAll` (any fuel, any module order) every tree
has `IOShape`, for every registry. -/
theorem ioShape_loop_all (reg : Registry) (opts : Opts) (plug : Plug) (fuel : Nat) (mods : Array Nat) :
    ∀ t ∈ (augmentLoop reg fuel mods (pstate0 reg opts plug)).2.forest.trees, IOShape t.2 :=
  ioShape_loop reg opts plug (ioShapeStart reg opts plug) fuel mods

end Goyang.Lemmas.IncludeAugShape
