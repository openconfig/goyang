import Goyang.Spec.Date
import Goyang.Lemmas.StrOrd
/-
For well-formed dates `YYYY-MM-DD`, Go's string order is the order of the dates.
-/
namespace Goyang.Lemmas.Date
open Goyang.Model Goyang.Spec Goyang.Lemmas.StrOrd

theorem char_eq_iff (a b : Char) : a = b ↔ a.toNat = b.toNat :=
  ⟨fun h => h ▸ rfl, char_eq_of_toNat_eq⟩

/-- Shape of a well-formed date string. -/
theorem parseDate_some {s : List Char} {x : Date} (h : parseDate s = some x) :
    ∃ y1 y2 y3 y4 m1 m2 d1 d2 : Char,
      s = [y1, y2, y3, y4, '-', m1, m2, '-', d1, d2] ∧
      [y1, y2, y3, y4, m1, m2, d1, d2].all isDigit = true ∧
      x = ⟨digitsVal [y1, y2, y3, y4], digitsVal [m1, m2], digitsVal [d1, d2]⟩ := by
  unfold parseDate at h
  split at h
  · rename_i y1 y2 y3 y4 s1 m1 m2 s2 d1 d2
    split at h
    · rename_i hc
      obtain ⟨rfl, rfl, hd⟩ := hc
      exact ⟨y1, y2, y3, y4, m1, m2, d1, d2, rfl, hd, (Option.some.inj h).symm⟩
    · cases h
  · cases h

/-- Comparing strings that start with equally long, digit-wise compared blocks. -/
theorem charsLt_cons (a b : Char) (as bs : List Char) :
    charsLt (a :: as) (b :: bs) = (decide (a.toNat < b.toNat) || (a == b && charsLt as bs)) := rfl

theorem digit_step (R : Prop) {na nb a b : Nat} (ha : 48 ≤ a ∧ a ≤ 57) (hb : 48 ≤ b ∧ b ≤ 57) :
    (na < nb ∨ na = nb ∧ (a < b ∨ a = b ∧ R)) ↔
      (10 * na + (a - 48) < 10 * nb + (b - 48) ∨ 10 * na + (a - 48) = 10 * nb + (b - 48) ∧ R) := by
  by_cases hR : R <;> simp only [hR, and_true, and_false, or_false] <;> omega

theorem charsLt_digits (s t : List Char) : ∀ (as bs : List Char) (na nb : Nat), as.length = bs.length →
    as.all isDigit = true → bs.all isDigit = true →
    ((na < nb ∨ na = nb ∧ charsLt (as ++ s) (bs ++ t) = true) ↔
      (as.foldl (fun n c => 10 * n + (c.toNat - 48)) na < bs.foldl (fun n c => 10 * n + (c.toNat - 48)) nb ∨
        as.foldl (fun n c => 10 * n + (c.toNat - 48)) na = bs.foldl (fun n c => 10 * n + (c.toNat - 48)) nb ∧
          charsLt s t = true))
  | [], [], _, _, _, _, _ => Iff.rfl
  | [], _ :: _, _, _, hl, _, _ => by cases hl
  | _ :: _, [], _, _, hl, _, _ => by cases hl
  | a :: as, b :: bs, na, nb, hl, ha, hb => by
    simp only [List.all_cons, Bool.and_eq_true, isDigit, decide_eq_true_eq] at ha hb
    rw [List.foldl_cons, List.foldl_cons, ← charsLt_digits s t as bs _ _ (Nat.succ.inj hl) ha.2 hb.2]
    simp only [List.cons_append, charsLt_cons, Bool.or_eq_true, Bool.and_eq_true, decide_eq_true_eq,
      beq_iff_eq, char_eq_iff]
    exact digit_step _ ha.1 hb.1

theorem charsLt_block {as bs : List Char} (s t : List Char) (hl : as.length = bs.length)
    (ha : as.all isDigit = true) (hb : bs.all isDigit = true) :
    charsLt (as ++ s) (bs ++ t) =
      (decide (digitsVal as < digitsVal bs) || (digitsVal as == digitsVal bs && charsLt s t)) := by
  rw [Bool.eq_iff_iff]
  simp only [Bool.or_eq_true, Bool.and_eq_true, decide_eq_true_eq, beq_iff_eq]
  have := charsLt_digits s t as bs 0 0 hl ha hb
  simp only [Nat.lt_irrefl, false_or, true_and] at this
  exact this

theorem charsLt_date {s t : List Char} {x y : Date} (hs : parseDate s = some x) (ht : parseDate t = some y) :
    charsLt s t = x.lt y := by
  obtain ⟨a1, a2, a3, a4, a5, a6, a7, a8, rfl, ha, rfl⟩ := parseDate_some hs
  obtain ⟨b1, b2, b3, b4, b5, b6, b7, b8, rfl, hb, rfl⟩ := parseDate_some ht
  simp only [List.all_cons, List.all_nil, Bool.and_true, Bool.and_eq_true] at ha hb
  obtain ⟨p1, p2, p3, p4, p5, p6, p7, p8⟩ := ha
  obtain ⟨q1, q2, q3, q4, q5, q6, q7, q8⟩ := hb
  have hy := charsLt_block (as := [a1, a2, a3, a4]) (bs := [b1, b2, b3, b4]) ('-' :: a5 :: a6 :: '-' :: [a7, a8])
    ('-' :: b5 :: b6 :: '-' :: [b7, b8]) rfl (by simp [*]) (by simp [*])
  have hm := charsLt_block (as := [a5, a6]) (bs := [b5, b6]) ('-' :: [a7, a8]) ('-' :: [b7, b8]) rfl
    (by simp [*]) (by simp [*])
  have hd := charsLt_block (as := [a7, a8]) (bs := [b7, b8]) [] [] rfl (by simp [*]) (by simp [*])
  simp only [List.cons_append, List.nil_append] at hy hm hd
  rw [hy, charsLt_cons, hm, charsLt_cons, hd]
  simp [Date.lt, charsLt]

theorem date_eq_of_parse_eq {s t : List Char} {x : Date} (hs : parseDate s = some x) (ht : parseDate t = some x) :
    s = t := by
  rcases charsLt_total s t with h | h | h
  · rw [charsLt_date hs ht] at h; simp [Date.lt] at h
  · exact h
  · rw [charsLt_date ht hs] at h; simp [Date.lt] at h

end Goyang.Lemmas.Date
