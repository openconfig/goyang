import Goyang.Lemmas.LoadOrderAug
import Goyang.Lemmas.LoadOrderDev
/-
Load-order independence (C05), part 7: the stages of `processAll` on two registries that hold
the same modules under renamed sequence numbers.  Core Lean only.
-/
namespace Goyang.Lemmas.LoadOrder
open Goyang.Model
open Goyang.Lemmas.Tree (stage1Errs envOf allMods keyOrder tstate forest0 forestErrs pending0 pstate0 augOrder devStage)

/-- What is asked of the plugged layers (type, typedef and identity resolution): on registries
that hold the same modules under renamed sequence numbers they resolve every type statement to
the same result, and report the same errors (as multisets). -/
structure PlugRel (σ : Nat → Nat) (r₁ r₂ : Registry) (p₁ p₂ : Plug) : Prop where
  tres : ∀ root scope t, p₂.tres.resolve r₂ (Mod.ren σ root) scope t = p₁.tres.resolve r₁ root scope t
  identityErrs : (p₂.identityErrs r₂).Perm (p₁.identityErrs r₁)
  typedefErrs : (p₂.typedefErrs r₂).Perm (p₁.typedefErrs r₁)

/-- `processAll` with the augment phase as one step (the other stages as named in `Lemmas/Tree`). -/
def total0 (reg : Registry) (opts : Opts) (plug : Plug) : Nat :=
  (pending0 reg opts plug).foldl (fun n p => n + p.2.length) 0

def preDevState (reg : Registry) (opts : Opts) (plug : Plug) : PState :=
  augmentPhase reg ((augOrder reg).map (·.seq)) (total0 reg opts plug + 2) (pstate0 reg opts plug)

-- (`augmentPhase` is kept folded: both sides hold it applied to the same arguments, and `whnf` would
-- otherwise run the loop on the stuck module list)
attribute [local irreducible] augmentPhase in
theorem processAll_eq' (reg : Registry) (opts : Opts) (plug : Plug) : processAll reg opts plug =
    if !(stage1Errs reg plug).isEmpty then { errors := canonErrs (stage1Errs reg plug), forest := {}, reg := reg } else
    if !(forestErrs (forest0 reg opts plug)).isEmpty then
      { errors := canonErrs (forestErrs (forest0 reg opts plug)), forest := forest0 reg opts plug, reg := reg } else
    { errors := canonErrs (forestErrs (preDevState reg opts plug).forest ++
        (devStage reg opts plug (preDevState reg opts plug).forest).2.1),
      forest := (devStage reg opts plug (preDevState reg opts plug).forest).1, reg := reg } := by
  rfl

section
variable {σ : Nat → Nat} {r₁ r₂ : Registry} (h : RegRel σ r₁ r₂) (opts : Opts) {p₁ p₂ : Plug}
  (hp : PlugRel σ r₁ r₂ p₁ p₂)
include h hp

theorem stage1Errs_perm : (stage1Errs r₂ p₂).Perm (stage1Errs r₁ p₁) := by
  unfold stage1Errs
  rw [linkAll_ren h]
  exact (List.Perm.append_left _ hp.identityErrs).append hp.typedefErrs

theorem envOf_rel : EnvRel σ (envOf r₁ opts p₁) (envOf r₂ opts p₂) where
  reg := h
  opts := rfl
  linked := by
    show (linkAll r₂).1 = (linkAll r₁).1.map σ
    rw [linkAll_ren h]
  tres := hp.tres

omit hp in
theorem keyOrder_ren : keyOrder r₂ = (keyOrder r₁).map (Mod.ren σ) := by
  unfold keyOrder
  simp only [h.keysOf h.modules h.modKeys, h.keysOf h.subModules h.subKeys, List.map_append]

omit hp in
theorem entryFuel_eq : entryFuel r₂ = entryFuel r₁ := by
  unfold entryFuel
  have : r₂.mods.foldl (fun a m => a + stmtCount m.stmt) 0 = r₁.mods.foldl (fun a m => a + stmtCount m.stmt) 0 := by
    rw [List.Perm.foldl_eq' h.mods (fun x _ y _ z => by omega) 0, List.foldl_map]
    rfl
  simp only [this]

theorem tstate_ren : tstate r₂ opts p₂ = TState.ren σ (tstate r₁ opts p₁) := by
  unfold tstate
  rw [keyOrder_ren h, List.foldl_map, entryFuel_eq h]
  have h0 : ({} : TState) = TState.ren σ {} := rfl
  rw [h0]
  refine List.foldl_hom (TState.ren σ) ?_
  intro st m
  have := toEntry_ren (envOf_rel h opts hp) (entryFuel r₁) m [] m.stmt [] st
  simp only [List.map_nil] at this
  rw [Mod.ren_stmt, this]
  rfl

theorem forest0_ren : forest0 r₂ opts p₂ = Forest.ren σ (forest0 r₁ opts p₁) := by
  unfold forest0
  rw [tstate_ren h opts hp]
  rfl

omit h hp in
theorem forestErrs_ren (σ : Nat → Nat) (f : Forest) : forestErrs (Forest.ren σ f) = forestErrs f := by
  unfold forestErrs Forest.ren
  simp only [List.map_map]
  congr 1
  apply List.map_congr_left
  rintro ⟨i, e⟩ _
  simp

omit hp in
theorem allMods_perm : (allMods r₂).Perm ((allMods r₁).map (Mod.ren σ)) := by
  unfold allMods
  rw [List.map_append]
  exact h.distinctModules.append h.distinctSubs

end

/-! ### the initial augment state -/

def augsOf (st : TState) (x : Nat) : List Entry := ((st.augs.find? (·.1 == x)).map (·.2)).getD []

theorem pendingOf_map (l : List Mod) (g : Nat → List Entry) (x : Nat) :
    (((l.map fun m => (m.seq, g m.seq)).find? (·.1 == x)).map (·.2)).getD [] = if l.any (·.seq == x) then g x else [] := by
  induction l with
  | nil => rfl
  | cons m t ih =>
    simp only [List.map_cons, List.find?_cons, List.any_cons]
    by_cases hm : m.seq = x
    · simp [hm]
    · have hb : (m.seq == x) = false := beq_eq_false_iff_ne.mpr hm
      simp only [hb, Bool.false_or]
      exact ih

theorem pending0_eq (reg : Registry) (opts : Opts) (plug : Plug) :
    pending0 reg opts plug = (allMods reg).map fun m => (m.seq, augsOf (tstate reg opts plug) m.seq) := by
  unfold pending0 augsOf
  rfl

theorem pendingOf_pstate0 (reg : Registry) (opts : Opts) (plug : Plug) (x : Nat) :
    (pstate0 reg opts plug).pendingOf x =
      if (allMods reg).any (·.seq == x) then augsOf (tstate reg opts plug) x else [] := by
  unfold PState.pendingOf pstate0
  simp only [pending0_eq]
  exact pendingOf_map _ _ x

theorem any_key_map (l : List Mod) (g : Nat → List Entry) (x : Nat) :
    (l.map fun m => (m.seq, g m.seq)).any (·.1 == x) = l.any (·.seq == x) := by
  simp only [List.any_map]
  rfl

section
variable {σ : Nat → Nat} {r₁ r₂ : Registry} (h : RegRel σ r₁ r₂) (opts : Opts) {p₁ p₂ : Plug}
  (hp : PlugRel σ r₁ r₂ p₁ p₂)
include h hp

omit hp in
theorem allMods_any (id : Nat) : (allMods r₂).any (·.seq == σ id) = (allMods r₁).any (·.seq == id) := by
  rw [(allMods_perm h).any_eq]
  exact any_map_inj σ h.inj (fun m : Mod => m.seq) (fun m : Mod => m.seq) (Mod.ren σ) (fun _ => rfl) _ _

omit hp in
theorem augsOf_ren (st : TState) (x : Nat) : augsOf (TState.ren σ st) (σ x) = (augsOf st x).map (Entry.ren σ) := by
  unfold augsOf
  have : (TState.ren σ st).augs.find? (fun p => p.1 == σ x) =
      (st.augs.find? (fun p => p.1 == x)).map fun p => (σ p.1, p.2.map (Entry.ren σ)) :=
    find?_map_inj σ h.inj (fun p : Nat × List Entry => p.1) (fun p : Nat × List Entry => p.1) _ (fun _ => rfl) st.augs x
  rw [this]
  cases st.augs.find? (fun p => p.1 == x) <;> rfl

theorem pstate0_rel : PRel σ (pstate0 r₁ opts p₁) (pstate0 r₂ opts p₂) where
  forest := forest0_ren h opts hp
  pend := by
    intro id
    rw [pendingOf_pstate0, pendingOf_pstate0, allMods_any h, tstate_ren h opts hp, augsOf_ren h]
    split <;> rfl
  has := by
    intro id
    unfold pstate0
    simp only [pending0_eq]
    rw [any_key_map, any_key_map, allMods_any h]

theorem total0_eq : total0 r₂ opts p₂ = total0 r₁ opts p₁ := by
  unfold total0
  rw [pending0_eq, pending0_eq, List.foldl_map, List.foldl_map]
  rw [List.Perm.foldl_eq' (allMods_perm h) (fun x _ y _ z => by omega) 0, List.foldl_map]
  refine congrArg (fun g => List.foldl g 0 (allMods r₁)) ?_
  funext n m
  rw [Mod.ren_seq, tstate_ren h opts hp, augsOf_ren h, List.length_map]

omit hp in
theorem augOrder_ren : (augOrder r₂).map (·.seq) = ((augOrder r₁).map (·.seq)).map σ := by
  unfold augOrder
  rw [h.augOrder, List.map_map, List.map_map]
  rfl

theorem preDevState_rel : PRel σ (preDevState r₁ opts p₁) (preDevState r₂ opts p₂) := by
  unfold preDevState
  rw [augOrder_ren h, total0_eq h opts hp]
  exact augmentPhase_rel h _ _ (pstate0_rel h opts hp)

theorem devStage_ren (f0 : Forest) :
    devStage r₂ opts p₂ (Forest.ren σ f0) =
      (Forest.ren σ (devStage r₁ opts p₁ f0).1, (devStage r₁ opts p₁ f0).2) := by
  unfold devStage
  rw [keyOrder_ren h, List.foldl_map, entryFuel_eq h]
  have h0 : (Forest.ren σ f0, ([] : List Err), ([] : List String)) =
      (fun p : Forest × List Err × List String => (Forest.ren σ p.1, p.2)) (f0, [], []) := rfl
  rw [h0]
  refine List.foldl_hom (fun p : Forest × List Err × List String => (Forest.ren σ p.1, p.2)) ?_
  rintro ⟨f, errs, done⟩ m
  simp only [Mod.ren_name, Mod.ren_stmt]
  split
  · rfl
  · have hdevs : ((m.stmt.all "deviation").map fun dv =>
          (dv, (dv.all "deviate").filterMap fun ds =>
            if deviateKinds.contains ds.arg then
              some (ds.arg, (toEntry (envOf r₂ opts p₂) (entryFuel r₁) (Mod.ren σ m) [dv, m.stmt] ds [] {}).1)
            else none)) =
        ((m.stmt.all "deviation").map fun dv =>
          (dv, (dv.all "deviate").filterMap fun ds =>
            if deviateKinds.contains ds.arg then
              some (ds.arg, (toEntry (envOf r₁ opts p₁) (entryFuel r₁) m [dv, m.stmt] ds [] {}).1)
            else none)).map (devRen σ) := by
      rw [List.map_map]
      apply List.map_congr_left
      intro dv _
      simp only [Function.comp, devRen, List.map_filterMap]
      congr 1
      apply ListAux.filterMap_congr'
      intro ds _
      have := toEntry_ren (envOf_rel h opts hp) (entryFuel r₁) m [dv, m.stmt] ds [] {}
      have h1 : TState.ren σ ({} : TState) = {} := rfl
      simp only [List.map_nil, h1] at this
      rw [this]
      split <;> rfl
    rw [hdevs, applyDeviations_ren h]

/-- **`processAll` on two registries holding the same modules under renamed sequence numbers:**
the same errors, corresponding forests. -/
theorem processAll_rel :
    (processAll r₂ opts p₂).errors = (processAll r₁ opts p₁).errors ∧
    (processAll r₂ opts p₂).forest = Forest.ren σ (processAll r₁ opts p₁).forest ∧
    (processAll r₂ opts p₂).reg = r₂ ∧ (processAll r₁ opts p₁).reg = r₁ := by
  rw [processAll_eq', processAll_eq']
  have hs1 := stage1Errs_perm h hp
  rw [hs1.isEmpty_eq, OrderIndep.canonErrs_perm_invariant hs1]
  by_cases e1 : (!(stage1Errs r₁ p₁).isEmpty) = true
  · rw [if_pos e1, if_pos e1]
    exact ⟨rfl, rfl, rfl, rfl⟩
  · rw [if_neg e1, if_neg e1, forest0_ren h opts hp, forestErrs_ren]
    by_cases e2 : (!(forestErrs (forest0 r₁ opts p₁)).isEmpty) = true
    · rw [if_pos e2, if_pos e2]
      exact ⟨rfl, rfl, rfl, rfl⟩
    · rw [if_neg e2, if_neg e2]
      have hpd := preDevState_rel h opts hp
      rw [hpd.forest, forestErrs_ren, devStage_ren h opts hp]
      exact ⟨rfl, rfl, rfl, rfl⟩

end

end Goyang.Lemmas.LoadOrder
