/-
`Stuck` (`Goyang/Spec/Fault.lean`) is sound for the parser model over the list source: the FIRST
error line the run writes is the one `Stuck` names (`stuck_sound`).
-/
import Goyang.Lemmas.ListSrc
import Goyang.Lemmas.HeadSim
import Goyang.Spec.Fault

namespace Goyang.Lemmas.ListFault
open Goyang.Model.Lex (Token Code ErrLine ErrClass Fault)
open Goyang.Model.Parse
open Goyang.Spec.Parse Goyang.Spec.Fault
open Goyang.Lemmas.ListSrc Goyang.Lemmas.HeadSim
open Goyang.Lemmas.QStr (validEsc)

/-- the class of error line the model writes for a fault of kind `k` -/
def faultClass : FaultKind → ErrClass
  | .unexpectedRBrace => .unexpectedRBrace
  | .missingSemi => .expectedSemiOrBrace
  | .quotedKeyword => .keywordNotUnquoted
  | .badEscape => .invalidEscape
  | .unterminatedSQuote => .missingSQuote
  | .unterminatedDQuote => .missingDQuote
  | .unterminatedComment => .missingCommentEnd

/-- the error line for a fault of kind `k` at offset `off`: position computed from the text alone -/
def faultErr (text : List Char) (file : List UInt8) (k : FaultKind) (off : Nat) : ErrLine :=
  { file := file, pos := some (((lineOf text off : Nat) : Int), ((colOf text off : Nat) : Int)), cls := faultClass k }

/-- errs are only appended by `lpull` and `addErr` -/
theorem listSource_hmono : HMono listSource where
  pull := by
    intro e b s h
    have h' : s.errs.head? = some e := h
    show (lpull b s).2.errs.head? = some e
    unfold lpull
    cases hs : s.errs with
    | nil => rw [hs] at h'; cases h'
    | cons a r =>
      rw [hs] at h'
      simp only [List.head?_cons, Option.some.injEq] at h'
      subst h'
      split
      · split <;> simp [hs]
      · split <;> simp
  add := by
    intro e' e s h
    have h' : s.errs.head? = some e := h
    show (s.errs ++ [e']).head? = some e
    cases hs : s.errs with
    | nil => rw [hs] at h'; cases h'
    | cons a r => rw [hs] at h'; simpa using h'
  addNil := by
    intro e s h
    have h' : s.errs = [] := h
    show (s.errs ++ [e]).head? = some e
    rw [h']; rfl

/-- what is claimed of the state `p'` the run ends in, started in `p` -/
def Concl (text : List Char) (file : List UInt8) (w : Where) (p p' : P) : Prop :=
  match w with
  | .fault k off => p.src.tail = none → p'.src.errs.head? = some (faultErr text file k off)
  | .endOfTokens => ∀ e, p.src.tail = some e → p'.src.errs.head? = some e

theorem concl_of_head (text : List Char) (file : List UInt8) (w : Where) (p p1 p2 : P)
    (h : Concl text file w p p1) (hp : ∀ e, HasHead LS e p1 → HasHead LS e p2) : Concl text file w p p2 := by
  cases w with
  | fault k off => exact fun ht => hp _ (h ht)
  | endOfTokens => exact fun e ht => hp _ (h e ht)

theorem concl_tail (text : List Char) (file : List UInt8) (w : Where) (p q p' : P) (ht : q.src.tail = p.src.tail)
    (h : Concl text file w q p') : Concl text file w p p' := by
  cases w with
  | fault k off => exact fun h0 => h (ht.trans h0)
  | endOfTokens => exact fun e h0 => h e (ht.trans h0)

/-! ## positions and error lines -/

theorem lineOf_ne_zero (text : List Char) (off : Nat) : ((lineOf text off : Nat) : Int) ≠ 0 := by
  unfold lineOf; omega

theorem tokenErr_eq (text : List Char) (file : List UInt8) (T : Token) (off : Nat) (k : FaultKind)
    (hfile : T.file = file) (hl : T.line = lineOf text off) (hc : T.col = colOf text off) :
    tokenErr T (faultClass k) = faultErr text file k off := by
  unfold tokenErr faultErr
  rw [hfile, hl, hc, if_pos (lineOf_ne_zero text off)]

theorem addErr_clean_head (e : ErrLine) (p : P) (h : p.src.errs = []) : HasHead LS e (addErr LS e p) := by
  show (addErr LS e p).src.errs.head? = some e
  rw [(addErr_fields e p).1, h]; rfl

theorem undefinedPair_eq (q : QItem) : undefinedPair q = !validEsc q := by
  cases q <;> simp [undefinedPair, validEsc]

theorem any_undefined (raw : List QItem) : raw.any undefinedPair = !raw.all validEsc := by
  induction raw with
  | nil => rfl
  | cons q r ih => simp [List.any_cons, List.all_cons, ih, undefinedPair_eq]

theorem badEsc_of_not_undefined (b : Bool) (t : PTok) (h : hasUndefined t = false) : badEsc b t = false := by
  obtain ⟨tok, off⟩ := t
  cases tok <;> simp [badEsc, hasUndefined] at h ⊢
  rename_i raw
  intro _ x hx
  cases hv : validEsc x with
  | true => rfl
  | false =>
    have := h x hx
    rw [undefinedPair_eq, hv] at this
    cases this

theorem badEsc_of_undefined (t : PTok) (h : hasUndefined t = true) : badEsc false t = true := by
  obtain ⟨tok, off⟩ := t
  cases tok <;> simp [badEsc, hasUndefined] at h ⊢
  obtain ⟨x, hx, hu⟩ := h
  exact ⟨x, hx, by rw [undefinedPair_eq] at hu; simpa using hu⟩

theorem badEsc_true_pattern (t : PTok) : badEsc true t = false := by
  obtain ⟨tok, off⟩ := t
  cases tok <;> simp [badEsc]

theorem firstBadOff_eq : ∀ raw : List QItem, firstBadOff raw = undefinedAt raw
  | [] => rfl
  | .lit c :: r => by simp [firstBadOff, undefinedAt, firstBadOff_eq r]
  | .esc c :: r => by
    simp only [firstBadOff, undefinedAt, undefinedPair_eq]
    cases h : validEsc (.esc c) <;> simp [firstBadOff_eq r]

theorem escErr_eq (text : List Char) (file : List UInt8) (x : PTok) (raw : List QItem) (hx : x.tok = .dq raw) :
    escErr text file x = faultErr text file .badEscape (x.off + 1 + undefinedAt raw) := by
  unfold escErr faultErr
  rw [hx]
  simp only [firstBadOff_eq, faultClass]

/-! ## fetching from the list, with the first error tracked -/

/-- pulling a token with an undefined pair outside pattern mode writes the first error -/
theorem pullTok_bad_head (text : List Char) (file : List UInt8) (b : Bool) (p : P) (t : PTok) (ts : List PTok)
    (hat : At text file p (t :: ts)) (hb : badEsc b t = true) :
    HasHead LS (escErr text file t) (pullTok LS b p).2 := by
  show (pullTok LS b p).2.src.errs.head? = _
  rw [pullTok_eq]
  unfold lpull
  rw [hat.toks]
  simp [hb, hat.clean, hat.text, hat.file]

/-- pulling at the end of the tokens writes the lexer's report as the first error -/
theorem pullTok_nil_head (text : List Char) (file : List UInt8) (b : Bool) (p : P) (hat : At text file p [])
    (e : ErrLine) (ht : p.src.tail = some e) : HasHead LS e (pullTok LS b p).2 := by
  show (pullTok LS b p).2.src.errs.head? = _
  rw [pullTok_eq]
  unfold lpull
  rw [hat.toks]
  simp [ht, hat.clean]

theorem pullTok_nil_clean (text : List Char) (file : List UInt8) (b : Bool) (p : P) (hat : At text file p [])
    (ht : p.src.tail = none) : (pullTok LS b p).1 = none ∧ (pullTok LS b p).2.src.errs = [] := by
  obtain ⟨h1, _, h3, _⟩ := pullTok_at_nil text file b p hat
  exact ⟨h1, (h3 ht).1.clean⟩

theorem next_nil_head (text : List Char) (file : List UInt8) (b : Bool) (f : Nat) (p : P) (hat : At text file p [])
    (e : ErrLine) (ht : p.src.tail = some e) : HasHead LS e (next LS b f p).2 :=
  next_head_of_pull listSource_hmono e b f p hat.stack (pullTok_nil_head text file b p hat e ht)

/-- `next` when a string token is pulled -/
theorem next_pull_string (b : Bool) (f : Nat) (p : P) (T : Token) (ht : p.tokens = [])
    (h1 : (pullTok LS b p).1 = some T) (hs : T.code = Code.string) :
    next LS b f p = (some (concatLoop LS b f T (pullTok LS b p).2).1, (concatLoop LS b f T (pullTok LS b p).2).2) := by
  unfold next
  rw [ht]
  simp only
  rw [h1]
  simp only
  rw [if_pos hs]

theorem conv_string (text : List Char) (file : List UInt8) (t : PTok) (hq : t.tok.isQuoted = true) :
    (conv text file t).code = Code.string := by
  rw [conv_code]; exact (tokCode_string t.tok).2 hq

theorem plus_not_quoted (t : PTok) (h : t.tok = .unq ['+']) : t.tok.isQuoted = false := by rw [h]; rfl

theorem conv_plus_code (text : List Char) (file : List UInt8) (t : PTok) (h : t.tok = .unq ['+']) :
    (conv text file t).code = Code.unquoted ∧ (conv text file t).text = [43] := by
  have hc : (conv text file t).code = Code.unquoted := by rw [conv_code, h]; rfl
  exact ⟨hc, (conv_plus text file t hc).2 h⟩

/-- one turn of the concatenation loop: `+` and a quoted piece -/
theorem concatLoop_plus_quoted (text : List Char) (file : List UInt8) (b : Bool) (f : Nat) (T : Token) (p : P)
    (pl q : PTok) (ts : List PTok) (hat : At text file p (pl :: q :: ts)) (hp : pl.tok = .unq ['+'])
    (hq : q.tok.isQuoted = true) :
    concatLoop LS b (f + 1) T p =
      concatLoop LS b f { T with text := T.text ++ (conv text file q).text } (pullTok LS b (pullTok LS b p).2).2 := by
  rw [concatLoop]
  simp only
  obtain ⟨h1, h2, _⟩ := pullTok_at text file b p pl (q :: ts) hat (badEsc_not_quoted b pl (plus_not_quoted pl hp))
  obtain ⟨g1, _⟩ := pullTok_at_cons text file b _ q ts h2
  obtain ⟨c1, c2⟩ := conv_plus_code text file pl hp
  rw [h1]
  simp only
  rw [if_pos c1, if_neg (by simpa using c2), g1]
  simp only
  rw [if_pos (conv_string text file q hq)]

/-! ## the look-ahead writes nothing -/

theorem head_mem_lookahead (t : PTok) (ts : List PTok) : t ∈ lookahead (t :: ts) := by
  cases ts with
  | nil => simp [lookahead]
  | cons q r =>
    simp only [lookahead]
    split
    · split <;> simp
    · simp

theorem concatLoop_clean (text : List Char) (file : List UInt8) (b : Bool) :
    ∀ (f : Nat) (ts : List PTok) (T : Token) (p : P), At text file p ts → ts.length + 1 ≤ f → p.src.tail = none →
    (∀ x ∈ lookahead ts, badEsc b x = false) → (concatLoop LS b f T p).2.src.errs = [] := by
  intro f
  induction f with
  | zero => intro ts T p _ h; omega
  | succ f ih =>
    intro ts T p hat hf htail hla
    cases ts with
    | nil =>
      unfold concatLoop
      simp only
      obtain ⟨h1, h2⟩ := pullTok_nil_clean text file b p hat htail
      rw [h1]
      exact h2
    | cons nt ts1 =>
      obtain ⟨h1, h2, h3, h4⟩ := pullTok_at text file b p nt ts1 hat (hla nt (head_mem_lookahead nt ts1))
      by_cases hplus : nt.tok = .unq ['+']
      · obtain ⟨c1, c2⟩ := conv_plus_code text file nt hplus
        cases ts1 with
        | nil =>
          unfold concatLoop
          simp only
          rw [h1]
          simp only
          rw [if_pos c1, if_neg (by simpa using c2)]
          obtain ⟨g1, g2⟩ := pullTok_nil_clean text file b _ h2 (h3.trans htail)
          rw [g1]
          simp only
          rw [(push_fields _ _).1]
          exact g2
        | cons nnt ts2 =>
          have hnnt : badEsc b nnt = false := by
            apply hla
            simp only [lookahead, hplus, if_true]
            split <;> simp
          obtain ⟨g1, g2, g3, g4⟩ := pullTok_at text file b _ nnt ts2 h2 hnnt
          cases hq : nnt.tok.isQuoted with
          | true =>
            rw [concatLoop_plus_quoted text file b f T p nt nnt ts2 hat hplus hq]
            apply ih ts2 _ _ g2 (by simp only [List.length_cons] at hf; omega) (g3.trans (h3.trans htail))
            intro x hx
            apply hla
            simp only [lookahead, hplus, if_true, hq]
            simp [hx]
          | false =>
            unfold concatLoop
            simp only
            rw [h1]
            simp only
            rw [if_pos c1, if_neg (by simpa using c2), g1]
            simp only
            rw [if_neg (by rw [conv_code, tokCode_string, hq]; simp)]
            rw [(push_fields _ _).1]
            exact g2.clean
      · unfold concatLoop
        simp only
        rw [h1]
        simp only
        by_cases hcode : (conv text file nt).code = Code.unquoted
        · rw [if_pos hcode, if_pos (by
            intro h; exact hplus ((conv_plus text file nt hcode).1 h))]
          rw [(push_fields _ _).1]
          exact h2.clean
        · rw [if_neg hcode, (push_fields _ _).1]
          exact h2.clean

/-- fetching a quoted string whose look-ahead is harmless writes nothing -/
theorem next_quoted_clean (text : List Char) (file : List UInt8) (b : Bool) (f : Nat) (p : P) (t : PTok)
    (ts : List PTok) (hat : At text file p (t :: ts)) (hq : t.tok.isQuoted = true) (hf : ts.length + 1 ≤ f)
    (htail : p.src.tail = none) (hb : ∀ x ∈ t :: lookahead ts, badEsc b x = false) :
    (next LS b f p).2.src.errs = [] := by
  obtain ⟨h1, h2, h3, h4⟩ := pullTok_at text file b p t ts hat (hb t (by simp))
  rw [next_pull_string b f p _ hat.stack h1 (conv_string text file t hq)]
  exact concatLoop_clean text file b f ts _ _ h2 hf (h3.trans htail) (fun x hx => hb x (by simp [hx]))

/-- if the reference reader gets through the pieces behind a quoted token and the token that
follows them is harmless, the look-ahead is harmless -/
theorem lookahead_harmless (text : List Char) (file : List UInt8) (b : Bool) : ∀ (n : Nat) (ts : List PTok),
    ts.length ≤ n → (∀ x ∈ ts, okTok x) → ∀ v e rest, concatTail text b ts = some (v, e :: rest) →
    badEsc b e = false → ∀ x ∈ lookahead ts, badEsc b x = false := by
  intro n
  induction n with
  | zero =>
    intro ts h _ v e rest hc
    have : ts = [] := List.eq_nil_of_length_eq_zero (by omega)
    subst this
    simp [concatTail] at hc
  | succ n ih =>
    intro ts h hadm v e rest hc he x hx
    cases ts with
    | nil => simp [concatTail] at hc
    | cons pl ts1 =>
      cases ts1 with
      | nil =>
        simp only [concatTail, Option.some.injEq, Prod.mk.injEq, List.cons.injEq] at hc
        simp only [lookahead, List.mem_singleton] at hx
        rw [hx, hc.2.1]; exact he
      | cons q ts2 =>
        by_cases hplus : pl.tok = .unq ['+']
        · cases hq : q.tok.isQuoted with
          | false =>
            rw [concatTail_plus_other text b pl q ts2 hq] at hc
            simp only [Option.some.injEq, Prod.mk.injEq, List.cons.injEq] at hc
            simp only [lookahead, hplus, if_true, hq] at hx
            simp at hx
            rcases hx with hx | hx
            · rw [hx]; exact badEsc_not_quoted b pl (plus_not_quoted pl hplus)
            · rw [hx]; exact badEsc_not_quoted b q hq
          | true =>
            simp only [lookahead, hplus, if_true, hq] at hx
            obtain ⟨pb, pg⟩ := piece_spec text file b q hq (hadm q (by simp))
            cases hbq : badEsc b q with
            | true =>
              rw [concatTail_plus_quoted_none text b pl q ts2 hplus hq (Or.inl (pb hbq))] at hc
              cases hc
            | false =>
              cases hct : concatTail text b ts2 with
              | none =>
                rw [concatTail_plus_quoted_none text b pl q ts2 hplus hq (Or.inr hct)] at hc
                cases hc
              | some vr =>
                obtain ⟨v', r'⟩ := vr
                obtain ⟨v1, hv1, _⟩ := pg hbq
                rw [concatTail_plus_quoted_some text b pl q ts2 hplus hq v1 v' r' hv1 hct] at hc
                simp only [Option.some.injEq, Prod.mk.injEq] at hc
                simp only [List.mem_cons] at hx
                rcases hx with hx | hx | hx
                · rw [hx]; exact badEsc_not_quoted b pl (plus_not_quoted pl hplus)
                · rw [hx]; exact hbq
                · exact ih ts2 (by simp only [List.length_cons] at h; omega) (fun y hy => hadm y (by simp [hy]))
                    v' e rest (by rw [hct, hc.2]) he x hx
        · rw [concatTail_not_plus text b pl (q :: ts2) hplus] at hc
          simp only [Option.some.injEq, Prod.mk.injEq, List.cons.injEq] at hc
          simp only [lookahead, hplus, if_false] at hx
          simp at hx
          rw [hx, hc.2.1]; exact he

/-! ## the loops -/

theorem top_rbrace (text : List Char) (file : List UInt8) (t : PTok) (ts : List PTok) (ht : t.tok = .rbrace)
    (f : Nat) (acc : List Statement) (p : P) (hat : At text file p (t :: ts)) (hf : (t :: ts).length + 2 ≤ f) :
    Concl text file (.fault .unexpectedRBrace t.off) p (topLoop LS f acc p).2 := by
  obtain ⟨f, rfl⟩ : ∃ f', f = f' + 1 := ⟨f - 1, by omega⟩
  simp only [List.length_cons] at hf
  unfold topLoop
  simp only
  obtain ⟨f, rfl⟩ : ∃ f', f = f' + 1 := ⟨f - 1, by omega⟩
  obtain ⟨n1, n2, n3, n4⟩ := nextStatement_rbrace text file f p t ts hat ht
  rw [n1]
  simp only
  intro _
  exact topLoop_head listSource_hmono _ _ _ _ (addErr_clean_head _ _ n2.clean)

theorem top_first (text : List Char) (file : List UInt8) (toks : List PTok) (w : Where)
    (ih : ∀ (f : Nat) (p : P), At text file p toks → toks.length + 1 ≤ f → Concl text file w p (nextStatement LS f p).2)
    (f : Nat) (acc : List Statement) (p : P) (hat : At text file p toks) (hf : toks.length + 2 ≤ f) :
    Concl text file w p (topLoop LS f acc p).2 := by
  obtain ⟨f, rfl⟩ : ∃ f', f = f' + 1 := ⟨f - 1, by omega⟩
  unfold topLoop
  simp only
  apply concl_of_head text file w p (nextStatement LS f p).2 _ (ih f p hat (by omega))
  intro e he
  split
  · exact he
  · exact topLoop_head listSource_hmono e _ _ _ (addErr_head listSource_hmono e _ _ he)
  · exact topLoop_head listSource_hmono e _ _ _ he

theorem block_first (text : List Char) (file : List UInt8) (toks : List PTok) (w : Where)
    (ih : ∀ (f : Nat) (p : P), At text file p toks → toks.length + 1 ≤ f → Concl text file w p (nextStatement LS f p).2)
    (f : Nat) (acc : List Statement) (p : P) (hat : At text file p toks) (hf : toks.length + 2 ≤ f) :
    Concl text file w p (blockLoop LS f acc p).2 := by
  obtain ⟨f, rfl⟩ : ∃ f', f = f' + 1 := ⟨f - 1, by omega⟩
  unfold blockLoop
  simp only
  apply concl_of_head text file w p (nextStatement LS f p).2 _ (ih f p hat (by omega))
  intro e he
  split
  · exact he
  · exact he
  · exact (stmt_block_head listSource_hmono e f).2 _ _ he

/-- the first statement is read by the reference reader: the model reads it too and goes on -/
theorem stmt_read (text : List Char) (file : List UInt8) (t : PTok) (ts : List PTok) (s : Stmt) (rest : List PTok)
    (hnr : t.tok ≠ .rbrace) (hs : stmt text (ts.length + 1) (t :: ts) = some (s, rest))
    (hadm : ∀ x ∈ t :: ts, okTok x) (f : Nat) (p : P) (hat : At text file p (t :: ts)) (hf : (t :: ts).length + 1 ≤ f) :
    (nextStatement LS f p).1 = .stmt (encStmt file s) ∧ At text file (nextStatement LS f p).2 rest ∧
    (nextStatement LS f p).2.src.tail = p.src.tail := by
  have hsp := (stmt_block_spec text file (ts.length + 1)).1 (t :: ts) (by simp) t ts rfl hnr f (ts.length + 1) p hat
    hf (by simp) hadm
  rcases hsp with ⟨s', rest', hs', h1, h2, h3, h4⟩ | ⟨_, hn⟩ | ⟨_, _, _, _, _, hn, _⟩
  · rw [hs] at hs'
    simp only [Option.some.injEq, Prod.mk.injEq] at hs'
    obtain ⟨e1, e2⟩ := hs'
    subst e1 e2
    exact ⟨h1, h2, h4⟩
  · rw [hs] at hn; cases hn
  · rw [hs] at hn; cases hn

theorem top_later (text : List Char) (file : List UInt8) (t : PTok) (ts : List PTok) (s : Stmt) (rest : List PTok)
    (w : Where) (hnr : t.tok ≠ .rbrace) (hs : stmt text (ts.length + 1) (t :: ts) = some (s, rest))
    (hadm : ∀ x ∈ t :: ts, okTok x)
    (ih : ∀ (f : Nat) (acc : List Statement) (p : P), At text file p rest → rest.length + 2 ≤ f →
      Concl text file w p (topLoop LS f acc p).2)
    (f : Nat) (acc : List Statement) (p : P) (hat : At text file p (t :: ts)) (hf : (t :: ts).length + 2 ≤ f) :
    Concl text file w p (topLoop LS f acc p).2 := by
  obtain ⟨f, rfl⟩ : ∃ f', f = f' + 1 := ⟨f - 1, by omega⟩
  unfold topLoop
  simp only
  obtain ⟨h1, h2, h4⟩ := stmt_read text file t ts s rest hnr hs hadm f p hat (by omega)
  rw [h1]
  simp only
  have hlen := ((stmt_stmts_suffix text (ts.length + 1)).1 _ _ _ hs).2
  simp only [List.length_cons] at hlen hf
  exact concl_tail text file w p _ _ h4 (ih f _ _ h2 (by omega))

theorem block_later (text : List Char) (file : List UInt8) (t : PTok) (ts : List PTok) (s : Stmt) (rest : List PTok)
    (w : Where) (hnr : t.tok ≠ .rbrace) (hs : stmt text (ts.length + 1) (t :: ts) = some (s, rest))
    (hadm : ∀ x ∈ t :: ts, okTok x)
    (ih : ∀ (f : Nat) (acc : List Statement) (p : P), At text file p rest → rest.length + 2 ≤ f →
      Concl text file w p (blockLoop LS f acc p).2)
    (f : Nat) (acc : List Statement) (p : P) (hat : At text file p (t :: ts)) (hf : (t :: ts).length + 2 ≤ f) :
    Concl text file w p (blockLoop LS f acc p).2 := by
  obtain ⟨f, rfl⟩ : ∃ f', f = f' + 1 := ⟨f - 1, by omega⟩
  unfold blockLoop
  simp only
  obtain ⟨h1, h2, h4⟩ := stmt_read text file t ts s rest hnr hs hadm f p hat (by omega)
  rw [h1]
  simp only
  have hlen := ((stmt_stmts_suffix text (ts.length + 1)).1 _ _ _ hs).2
  simp only [List.length_cons] at hlen hf
  exact concl_tail text file w p _ _ h4 (ih f _ _ h2 (by omega))

theorem top_ended (text : List Char) (file : List UInt8) (f : Nat) (acc : List Statement) (p : P)
    (hat : At text file p []) (hf : 2 ≤ f) : Concl text file .endOfTokens p (topLoop LS f acc p).2 := by
  obtain ⟨f, rfl⟩ : ∃ f', f = f' + 1 := ⟨f - 1, by omega⟩
  unfold topLoop
  simp only
  obtain ⟨f, rfl⟩ : ∃ f', f = f' + 1 := ⟨f - 1, by omega⟩
  rw [(nextStatement_nil text file f p hat).1]
  simp only
  intro e ht
  exact nextStatement_head_of_next listSource_hmono e f p (next_nil_head text file false f p hat e ht)

theorem block_ended (text : List Char) (file : List UInt8) (f : Nat) (acc : List Statement) (p : P)
    (hat : At text file p []) (hf : 2 ≤ f) : Concl text file .endOfTokens p (blockLoop LS f acc p).2 := by
  obtain ⟨f, rfl⟩ : ∃ f', f = f' + 1 := ⟨f - 1, by omega⟩
  unfold blockLoop
  simp only
  obtain ⟨f, rfl⟩ : ∃ f', f = f' + 1 := ⟨f - 1, by omega⟩
  rw [(nextStatement_nil text file f p hat).1]
  simp only
  intro e ht
  exact nextStatement_head_of_next listSource_hmono e f p (next_nil_head text file false f p hat e ht)

/-! ## one statement -/

/-- the keyword is fetched -/
theorem next_keyword (text : List Char) (file : List UInt8) (f : Nat) (p : P) (k : PTok) (kw : List Char)
    (ts : List PTok) (hat : At text file p (k :: ts)) (hk : k.tok = .unq kw) :
    (next LS false f p).1 = some (conv text file k) ∧ At text file (next LS false f p).2 ts ∧
    (next LS false f p).2.src.tail = p.src.tail ∧ (conv text file k).code ≠ Code.punct 125 ∧
    (conv text file k).code = Code.unquoted ∧
    decide ((conv text file k).text = Model.Parse.patternKw) = decide (kw = Spec.Parse.patternKw) := by
  obtain ⟨n1, n2, n3, _⟩ := next_plain text file false f p k ts hat (by rw [hk]; rfl)
  refine ⟨n1, n2, n3, by rw [conv_code, hk]; simp [tokCode], by rw [conv_code, hk]; rfl, ?_⟩
  simp only [conv, tokText, hk]; exact patternKw_iff kw

/-- what follows the fetch of keyword and argument keeps the first error -/
theorem nextStatement_head_of_fetchArg (e : ErrLine) (f : Nat) (p : P) (T : Token)
    (h1 : (next LS false f p).1 = some T) (hnb : T.code ≠ Code.punct 125) (hu : T.code = Code.unquoted)
    (h2 : HasHead LS e (fetchArg LS T f (next LS false f p).2).2.2) : HasHead LS e (nextStatement LS (f + 1) p).2 := by
  unfold nextStatement
  simp only
  rw [h1]
  simp only
  rw [if_neg hnb, if_neg (by simp [hu])]
  split
  · exact addErr_head listSource_hmono _ _ _ h2
  · split
    · exact h2
    · split
      · have h3 := (stmt_block_head listSource_hmono e f).2 [] _ (show HasHead LS e (setDepth
            ((fetchArg LS T f (next LS false f p).2).2.2.depth + 1)
            (fetchArg LS T f (next LS false f p).2).2.2) from h2)
        split
        · exact h3
        · exact h3
      · exact addErr_head listSource_hmono _ _ _ h2

theorem stmt_block (text : List Char) (file : List UInt8) (k : PTok) (kw : List Char) (ts : List PTok)
    (arg : Option (List Char)) (e : PTok) (rest : List PTok) (w : Where) (hk : k.tok = .unq kw)
    (harg : argument text (kw = Spec.Parse.patternKw) ts = some (arg, e :: rest)) (he : e.tok = .lbrace)
    (hadm : ∀ x ∈ k :: ts, okTok x)
    (ih : ∀ (f : Nat) (acc : List Statement) (p : P), At text file p rest → rest.length + 2 ≤ f →
      Concl text file w p (blockLoop LS f acc p).2)
    (f : Nat) (p : P) (hat : At text file p (k :: ts)) (hf : (k :: ts).length + 1 ≤ f) :
    Concl text file w p (nextStatement LS f p).2 := by
  obtain ⟨f, rfl⟩ : ∃ f', f = f' + 1 := ⟨f - 1, by omega⟩
  simp only [List.length_cons] at hf
  obtain ⟨n1, n2, n3, c1, c2, hb⟩ := next_keyword text file f p k kw ts hat hk
  unfold nextStatement
  simp only
  rw [n1]
  simp only
  rw [if_neg c1, if_neg (by simp [c2])]
  have hsx := argument_suffix text _ ts arg _ harg
  have hrl := hsx.length_le
  simp only [List.length_cons] at hrl
  rcases fetchArg_spec text file (conv text file k) _ hb f _ ts n2 (by omega)
      (fun x hx => hadm x (by simp [hx])) with
    ⟨arg', e', rest', harg', hterm, ha1, ha2, ha3, ha4, ha5⟩ | ⟨_, hsf⟩ | ⟨hsf, _⟩
  · rw [harg] at harg'
    simp only [Option.some.injEq, Prod.mk.injEq, List.cons.injEq] at harg'
    obtain ⟨_, he', hr'⟩ := harg'
    subst he' hr'
    rw [ha2]
    simp only
    rw [if_neg (by rw [conv_code, he]; simp [tokCode]), if_pos (by rw [conv_code, he]; rfl)]
    have hatb : At text file (setDepth ((fetchArg LS (conv text file k) f (next LS false f p).2).2.2.depth + 1)
        (fetchArg LS (conv text file k) f (next LS false f p).2).2.2) rest :=
      ⟨ha3.stack, ha3.toks, ha3.clean, ha3.fault, ha3.text, ha3.file⟩
    have hc := ih f [] _ hatb (by omega)
    have hc' := concl_tail text file w p _ _ (show (setDepth
        ((fetchArg LS (conv text file k) f (next LS false f p).2).2.2.depth + 1)
        (fetchArg LS (conv text file k) f (next LS false f p).2).2.2).src.tail = p.src.tail from ha5.trans n3) hc
    split
    · exact hc'
    · exact hc'
  · exfalso
    rcases hsf with h | ⟨a, r, h, hnt⟩
    · rw [harg] at h; cases h
    · rw [harg] at h
      simp only [Option.some.injEq, Prod.mk.injEq] at h
      rw [← h.2] at hnt
      exact hnt.2 he
  · exfalso
    rcases hsf with h | ⟨a, r, h, hnt⟩
    · rw [harg] at h; cases h
    · rw [harg] at h
      simp only [Option.some.injEq, Prod.mk.injEq] at h
      rw [← h.2] at hnt
      exact hnt.2 he

theorem stmt_keyword (text : List Char) (file : List UInt8) (t : PTok) (ts : List PTok) (hq : t.tok.isQuoted = true)
    (hu : ∀ x ∈ t :: lookahead ts, hasUndefined x = false) (hadm : ∀ x ∈ t :: ts, okTok x)
    (f : Nat) (p : P) (hat : At text file p (t :: ts)) (hf : (t :: ts).length + 1 ≤ f) :
    Concl text file (.fault .quotedKeyword t.off) p (nextStatement LS f p).2 := by
  obtain ⟨f, rfl⟩ : ∃ f', f = f' + 1 := ⟨f - 1, by omega⟩
  simp only [List.length_cons] at hf
  intro htail
  obtain ⟨T, n1, n2, n3, n4, n5, _⟩ := next_quoted text file false f p t ts hat hq (by omega) hadm
  have hclean := next_quoted_clean text file false f p t ts hat hq (by omega) htail
    (fun x hx => badEsc_of_not_undefined false x (hu x hx))
  unfold nextStatement
  simp only
  rw [n1]
  simp only
  rw [if_neg (by rw [n2]; simp), if_pos (by rw [n2]; simp)]
  have heq : tokenErr T .keywordNotUnquoted = faultErr text file .quotedKeyword t.off :=
    tokenErr_eq text file T t.off .quotedKeyword n3 n4 n5
  rw [heq]
  exact addErr_clean_head _ _ hclean

/-! ## neither `;` nor `{` behind the argument -/

theorem code_not_term (text : List Char) (file : List UInt8) (e : PTok) (hs : e.tok ≠ .semi) (hl : e.tok ≠ .lbrace) :
    (conv text file e).code ≠ Code.punct 59 ∧ (conv text file e).code ≠ Code.punct 123 := by
  constructor
  · rw [conv_code]; intro h; exact hs ((tokCode_semi _).1 h)
  · rw [conv_code]; intro h; exact hl ((tokCode_lbrace _).1 h)

/-- fetching the token `e` that stands where `;` or `{` must: it comes back and nothing is written -/
theorem next_noTerm (text : List Char) (file : List UInt8) (f : Nat) (p : P) (e : PTok) (rest : List PTok)
    (hat : At text file p (e :: rest)) (hf : rest.length + 1 ≤ f) (hadm : ∀ x ∈ e :: rest, okTok x)
    (htail : p.src.tail = none) (hs : e.tok ≠ .semi) (hl : e.tok ≠ .lbrace)
    (hu : e.tok.isQuoted = true → ∀ x ∈ e :: lookahead rest, hasUndefined x = false) :
    ∃ E, (next LS false f p).1 = some E ∧ E.file = file ∧ E.line = lineOf text e.off ∧ E.col = colOf text e.off ∧
      E.code ≠ Code.punct 59 ∧ E.code ≠ Code.punct 123 ∧ (next LS false f p).2.src.errs = [] := by
  cases hqe : e.tok.isQuoted with
  | false =>
    obtain ⟨m1, m2, _, _⟩ := next_plain text file false f p e rest hat hqe
    obtain ⟨c1, c2⟩ := code_not_term text file e hs hl
    exact ⟨_, m1, rfl, rfl, rfl, c1, c2, m2.clean⟩
  | true =>
    obtain ⟨T, m1, m2, m3, m4, m5, _⟩ := next_quoted text file false f p e rest hat hqe hf hadm
    have hclean := next_quoted_clean text file false f p e rest hat hqe hf htail
      (fun x hx => badEsc_of_not_undefined false x (hu hqe x hx))
    exact ⟨T, m1, m3, m4, m5, by rw [m2]; simp, by rw [m2]; simp, hclean⟩

theorem fetchArg_noTerm (text : List Char) (file : List UInt8) (kwT : Token) (b : Bool)
    (hb : decide (kwT.text = Model.Parse.patternKw) = b) (f : Nat) (p : P) (ts : List PTok)
    (arg : Option (List Char)) (e : PTok) (rest : List PTok)
    (hat : At text file p ts) (hf : ts.length + 1 ≤ f) (hadm : ∀ x ∈ ts, okTok x) (htail : p.src.tail = none)
    (harg : argument text b ts = some (arg, e :: rest)) (hs : e.tok ≠ .semi) (hl : e.tok ≠ .lbrace)
    (hu : e.tok.isQuoted = true → ∀ x ∈ e :: lookahead rest, hasUndefined x = false) :
    ∃ E, (fetchArg LS kwT f p).2.1 = some E ∧ E.file = file ∧ E.line = lineOf text e.off ∧
      E.col = colOf text e.off ∧ E.code ≠ Code.punct 59 ∧ E.code ≠ Code.punct 123 ∧
      (fetchArg LS kwT f p).2.2.src.errs = [] := by
  unfold fetchArg
  simp only
  rw [hb]
  cases ts with
  | nil => simp [argument] at harg
  | cons t ts' =>
    simp only [List.length_cons] at hf
    cases hq : t.tok.isQuoted with
    | false =>
      obtain ⟨n1, n2, n3, n4⟩ := next_plain text file b f p t ts' hat hq
      rw [n1]
      simp only
      by_cases hunq : (conv text file t).code = Code.unquoted
      · obtain ⟨a, ha⟩ := (tokCode_unquoted t.tok).1 hunq
        rw [if_pos (by simp [hunq])]
        simp only [argument, ha, Option.some.injEq, Prod.mk.injEq] at harg
        obtain ⟨_, hts'⟩ := harg
        subst hts'
        simp only [List.length_cons] at hf
        exact next_noTerm text file f _ e rest n2 (by omega) (fun x hx => hadm x (by simp [hx]))
          (n3.trans htail) hs hl hu
      · have hns : ¬ (conv text file t).code = Code.string := by
          intro h; rw [conv_code, tokCode_string, hq] at h; cases h
        rw [if_neg (by simp [hunq, hns])]
        have harg' : argument text b (t :: ts') = some (none, t :: ts') := by
          rw [conv_code] at hunq
          cases hk : t.tok <;> simp [hk, Tok.isQuoted, tokCode] at hq hunq <;> simp [argument, hk]
        rw [harg'] at harg
        simp only [Option.some.injEq, Prod.mk.injEq, List.cons.injEq] at harg
        obtain ⟨_, hte, _⟩ := harg
        subst hte
        obtain ⟨c1, c2⟩ := code_not_term text file t hs hl
        exact ⟨_, rfl, rfl, rfl, rfl, c1, c2, n2.clean⟩
    | true =>
      -- the argument is read by the reference reader: both parts are there
      have hparts : ∃ v0 v, piece text b t = some v0 ∧ concatTail text b ts' = some (v, e :: rest) := by
        cases hp : piece text b t with
        | none => cases hk : t.tok <;> simp [hk, Tok.isQuoted] at hq <;> simp [argument, hk, hp] at harg
        | some v0 =>
          cases hc : concatTail text b ts' with
          | none => cases hk : t.tok <;> simp [hk, Tok.isQuoted] at hq <;> simp [argument, hk, hp, hc] at harg
          | some vr =>
            obtain ⟨v, r⟩ := vr
            refine ⟨v0, v, rfl, ?_⟩
            cases hk : t.tok <;> simp [hk, Tok.isQuoted] at hq <;> simp [argument, hk, hp, hc] at harg <;>
              rw [harg.2]
      obtain ⟨v0, v, hv0, hct⟩ := hparts
      have hbt : badEsc b t = false := by
        cases hbt : badEsc b t with
        | false => rfl
        | true =>
          have := (piece_spec text file b t hq (hadm t (by simp))).1 hbt
          rw [hv0] at this; cases this
      have hbe : badEsc b e = false := by
        cases hqe : e.tok.isQuoted with
        | false => exact badEsc_not_quoted b e hqe
        | true => exact badEsc_of_not_undefined b e (hu hqe e (by simp))
      have hla := lookahead_harmless text file b ts'.length ts' (Nat.le_refl _) (fun x hx => hadm x (by simp [hx]))
        v e rest hct hbe
      have hclean := next_quoted_clean text file b f p t ts' hat hq (by omega) htail (by
        intro x hx
        simp only [List.mem_cons] at hx
        rcases hx with hx | hx
        · rw [hx]; exact hbt
        · exact hla x hx)
      obtain ⟨T, n1, n2, n3, n4, n5, n6, n7, n8, n9, n10⟩ := next_quoted text file b f p t ts' hat hq (by omega) hadm
      rw [n1]
      simp only
      rw [if_pos (by simp [n2])]
      rcases n10 with ⟨hbad, _⟩ | ⟨_, v0', v', pushed, _, hct', _, htk, hpe, _, _⟩
      · exact absurd hclean hbad
      · rw [hct] at hct'
        simp only [Option.some.injEq, Prod.mk.injEq] at hct'
        obtain ⟨_, hpush⟩ := hct'
        cases pushed with
        | nil =>
          rw [hpe rfl] at hpush
          cases hpush
        | cons e' pushed' =>
          simp only [List.cons_append, List.cons.injEq] at hpush
          obtain ⟨he', _⟩ := hpush
          subst he'
          have hpop := next_pop false f (next LS b f p).2 (conv text file e) (pushed'.map (conv text file))
            (by rw [htk]; rfl)
          rw [hpop]
          obtain ⟨c1, c2⟩ := code_not_term text file e hs hl
          exact ⟨_, rfl, rfl, rfl, rfl, c1, c2, hclean⟩

theorem stmt_noTerm (text : List Char) (file : List UInt8) (k : PTok) (kw : List Char) (ts : List PTok)
    (arg : Option (List Char)) (e : PTok) (rest : List PTok) (hk : k.tok = .unq kw)
    (harg : argument text (kw = Spec.Parse.patternKw) ts = some (arg, e :: rest))
    (hs : e.tok ≠ .semi) (hl : e.tok ≠ .lbrace)
    (hu : e.tok.isQuoted = true → ∀ x ∈ e :: lookahead rest, hasUndefined x = false)
    (hadm : ∀ x ∈ k :: ts, okTok x)
    (f : Nat) (p : P) (hat : At text file p (k :: ts)) (hf : (k :: ts).length + 1 ≤ f) :
    Concl text file (.fault .missingSemi e.off) p (nextStatement LS f p).2 := by
  obtain ⟨f, rfl⟩ : ∃ f', f = f' + 1 := ⟨f - 1, by omega⟩
  simp only [List.length_cons] at hf
  intro htail
  obtain ⟨n1, n2, n3, c1, c2, hb⟩ := next_keyword text file f p k kw ts hat hk
  obtain ⟨E, hE, e1, e2, e3, e4, e5, hclean⟩ := fetchArg_noTerm text file (conv text file k) _ hb f _ ts arg e rest n2
    (by omega) (fun x hx => hadm x (by simp [hx])) (n3.trans htail) harg hs hl hu
  unfold nextStatement
  simp only
  rw [n1]
  simp only
  rw [if_neg c1, if_neg (by simp [c2]), hE]
  simp only
  rw [if_neg e4, if_neg e5]
  have heq : tokenErr E .expectedSemiOrBrace = faultErr text file .missingSemi e.off :=
    tokenErr_eq text file E e.off .missingSemi e1 e2 e3
  rw [heq]
  exact addErr_clean_head _ _ hclean

/-! ## the tokens run out behind the keyword -/

theorem concatLoop_runsOut (text : List Char) (file : List UInt8) (b : Bool) (e0 : ErrLine) (ts : List PTok)
    (h : TailRunsOut b ts) : ∀ (f : Nat) (T : Token) (p : P), At text file p ts → ts.length + 1 ≤ f →
    p.src.tail = some e0 → HasHead LS e0 (concatLoop LS b f T p).2 := by
  induction h with
  | nil =>
    intro f T p hat hf htail
    obtain ⟨f, rfl⟩ : ∃ f', f = f' + 1 := ⟨f - 1, by omega⟩
    unfold concatLoop
    simp only
    rw [(pullTok_at_nil text file b p hat).1]
    exact pullTok_nil_head text file b p hat e0 htail
  | plus pl hp =>
    intro f T p hat hf htail
    obtain ⟨f, rfl⟩ : ∃ f', f = f' + 1 := ⟨f - 1, by omega⟩
    obtain ⟨h1, h2, h3, _⟩ := pullTok_at text file b p pl [] hat (badEsc_not_quoted b pl (plus_not_quoted pl hp))
    obtain ⟨c1, c2⟩ := conv_plus_code text file pl hp
    unfold concatLoop
    simp only
    rw [h1]
    simp only
    rw [if_pos c1, if_neg (by simpa using c2), (pullTok_at_nil text file b _ h2).1]
    exact pullTok_nil_head text file b _ h2 e0 (h3.trans htail)
  | more pl q ts hp hq hu _ ih =>
    intro f T p hat hf htail
    obtain ⟨f, rfl⟩ : ∃ f', f = f' + 1 := ⟨f - 1, by omega⟩
    simp only [List.length_cons] at hf
    have hbq : badEsc b q = false := by
      cases b with
      | true => exact badEsc_true_pattern q
      | false => exact badEsc_of_not_undefined false q (hu rfl)
    obtain ⟨h1, h2, h3, _⟩ := pullTok_at text file b p pl (q :: ts) hat
      (badEsc_not_quoted b pl (plus_not_quoted pl hp))
    obtain ⟨g1, g2, g3, _⟩ := pullTok_at text file b _ q ts h2 hbq
    rw [concatLoop_plus_quoted text file b f T p pl q ts hat hp hq]
    exact ih f _ _ g2 (by omega) (g3.trans (h3.trans htail))

theorem fetchArg_runsOut (text : List Char) (file : List UInt8) (kwT : Token) (b : Bool)
    (hb : decide (kwT.text = Model.Parse.patternKw) = b) (f : Nat) (p : P) (ts : List PTok) (e0 : ErrLine)
    (hat : At text file p ts) (hf : ts.length + 1 ≤ f) (htail : p.src.tail = some e0) (hr : RunsOut b ts) :
    HasHead LS e0 (fetchArg LS kwT f p).2.2 := by
  cases hr with
  | nil =>
    apply fetchArg_head_of_next listSource_hmono
    exact next_nil_head text file _ f p hat e0 htail
  | unq a s ha =>
    obtain ⟨n1, n2, n3, _⟩ := next_plain text file b f p a [] hat (by rw [ha]; rfl)
    unfold fetchArg
    simp only
    rw [hb, n1]
    simp only
    rw [if_pos (by rw [conv_code, ha]; simp [tokCode])]
    exact next_nil_head text file false f _ n2 e0 (n3.trans htail)
  | quoted q ts' hq hu ht =>
    apply fetchArg_head_of_next listSource_hmono
    rw [hb]
    have hbq : badEsc b q = false := by
      cases b with
      | true => exact badEsc_true_pattern q
      | false => exact badEsc_of_not_undefined false q (hu rfl)
    obtain ⟨h1, h2, h3, _⟩ := pullTok_at text file b p q ts' hat hbq
    rw [next_pull_string b f p _ hat.stack h1 (conv_string text file q hq)]
    simp only [List.length_cons] at hf
    exact concatLoop_runsOut text file b e0 ts' ht f _ _ h2 (by omega) (h3.trans htail)

theorem stmt_argEnds (text : List Char) (file : List UInt8) (k : PTok) (kw : List Char) (ts : List PTok)
    (hk : k.tok = .unq kw) (hr : RunsOut (kw = Spec.Parse.patternKw) ts)
    (f : Nat) (p : P) (hat : At text file p (k :: ts)) (hf : (k :: ts).length + 1 ≤ f) :
    Concl text file .endOfTokens p (nextStatement LS f p).2 := by
  obtain ⟨f, rfl⟩ : ∃ f', f = f' + 1 := ⟨f - 1, by omega⟩
  simp only [List.length_cons] at hf
  intro e0 htail
  obtain ⟨n1, n2, n3, c1, c2, hb⟩ := next_keyword text file f p k kw ts hat hk
  exact nextStatement_head_of_fetchArg e0 f p _ n1 c1 c2
    (fetchArg_runsOut text file (conv text file k) _ hb f _ ts e0 n2 (by omega) (n3.trans htail) hr)

/-! ## an undefined backslash pair in the argument -/

theorem hasUndefined_quoted (x : PTok) (h : hasUndefined x = true) : x.tok.isQuoted = true := by
  obtain ⟨tok, off⟩ := x
  cases tok <;> simp [hasUndefined, Tok.isQuoted] at h ⊢

theorem concatLoop_argPieces (text : List Char) (file : List UInt8) (ts : List PTok) (x : PTok)
    (h : ArgPieces ts x) : ∀ (pl : PTok) (f : Nat) (T : Token) (p : P), At text file p (pl :: ts) →
    pl.tok = .unq ['+'] → (pl :: ts).length + 1 ≤ f → HasHead LS (escErr text file x) (concatLoop LS false f T p).2 := by
  induction h with
  | here x post hx =>
    intro pl f T p hat hp hf
    obtain ⟨f, rfl⟩ : ∃ f', f = f' + 1 := ⟨f - 1, by omega⟩
    obtain ⟨h1, h2, h3, _⟩ := pullTok_at text file false p pl (x :: post) hat
      (badEsc_not_quoted false pl (plus_not_quoted pl hp))
    rw [concatLoop_plus_quoted text file false f T p pl x post hat hp (hasUndefined_quoted x hx)]
    exact concatLoop_head listSource_hmono _ false f _ _
      (pullTok_bad_head text file false _ x post h2 (badEsc_of_undefined x hx))
  | more q pl' ts x hq hu hp' _ ih =>
    intro pl f T p hat hp hf
    obtain ⟨f, rfl⟩ : ∃ f', f = f' + 1 := ⟨f - 1, by omega⟩
    simp only [List.length_cons] at hf
    obtain ⟨h1, h2, h3, _⟩ := pullTok_at text file false p pl (q :: pl' :: ts) hat
      (badEsc_not_quoted false pl (plus_not_quoted pl hp))
    obtain ⟨g1, g2, g3, _⟩ := pullTok_at text file false _ q (pl' :: ts) h2 (badEsc_of_not_undefined false q hu)
    rw [concatLoop_plus_quoted text file false f T p pl q (pl' :: ts) hat hp hq]
    exact ih pl' f _ _ g2 hp' (by simp only [List.length_cons]; omega)

theorem next_argPieces (text : List Char) (file : List UInt8) (ts : List PTok) (x : PTok) (h : ArgPieces ts x)
    (f : Nat) (p : P) (hat : At text file p ts) (hf : ts.length + 1 ≤ f) :
    HasHead LS (escErr text file x) (next LS false f p).2 := by
  cases h with
  | here _ post hx =>
    exact next_head_of_pull listSource_hmono _ false f p hat.stack
      (pullTok_bad_head text file false p x post hat (badEsc_of_undefined x hx))
  | more q pl ts' _ hq hu hp hrest =>
    obtain ⟨h1, h2, h3, _⟩ := pullTok_at text file false p q (pl :: ts') hat (badEsc_of_not_undefined false q hu)
    rw [next_pull_string false f p _ hat.stack h1 (conv_string text file q hq)]
    simp only [List.length_cons] at hf
    exact concatLoop_argPieces text file ts' x hrest pl f _ _ h2 hp (by simp only [List.length_cons]; omega)

theorem stmt_escape (text : List Char) (file : List UInt8) (k : PTok) (kw : List Char) (ts : List PTok) (x : PTok)
    (raw : List QItem) (hk : k.tok = .unq kw) (hkw : kw ≠ Spec.Parse.patternKw) (ha : ArgPieces ts x)
    (hx : x.tok = .dq raw)
    (f : Nat) (p : P) (hat : At text file p (k :: ts)) (hf : (k :: ts).length + 1 ≤ f) :
    Concl text file (.fault .badEscape (x.off + 1 + undefinedAt raw)) p (nextStatement LS f p).2 := by
  obtain ⟨f, rfl⟩ : ∃ f', f = f' + 1 := ⟨f - 1, by omega⟩
  simp only [List.length_cons] at hf
  intro _
  obtain ⟨n1, n2, n3, c1, c2, hb⟩ := next_keyword text file f p k kw ts hat hk
  rw [← escErr_eq text file x raw hx]
  apply nextStatement_head_of_fetchArg _ f p _ n1 c1 c2
  apply fetchArg_head_of_next listSource_hmono
  rw [hb, decide_eq_false hkw]
  exact next_argPieces text file ts x ha f _ n2 (by omega)

/-! ## soundness of `Stuck` -/

/-- the claim, by what is being read -/
def Sound (text : List Char) (file : List UInt8) (c : Ctx) (toks : List PTok) (w : Where) : Prop :=
  match c with
  | .top => ∀ (f : Nat) (acc : List Statement) (p : P), At text file p toks → toks.length + 2 ≤ f →
      Concl text file w p (topLoop LS f acc p).2
  | .block => ∀ (f : Nat) (acc : List Statement) (p : P), At text file p toks → toks.length + 2 ≤ f →
      Concl text file w p (blockLoop LS f acc p).2
  | .stmt => ∀ (f : Nat) (p : P), At text file p toks → toks.length + 1 ≤ f →
      Concl text file w p (nextStatement LS f p).2

theorem stuck_sound_aux (text : List Char) (file : List UInt8) (c : Ctx) (toks : List PTok) (w : Where)
    (h : Stuck text c toks w) (hadm : ∀ x ∈ toks, okTok x) : Sound text file c toks w := by
  induction h with
  | rbrace t ts ht =>
    intro f acc p hat hf
    exact top_rbrace text file t ts ht f acc p hat hf
  | first c t ts w hc hnr _ ih =>
    have ih' := ih hadm
    cases c with
    | top => exact top_first text file (t :: ts) w ih'
    | block => exact block_first text file (t :: ts) w ih'
    | stmt => exact absurd rfl hc
  | later c t ts s rest w hc hnr hs _ ih =>
    have hsx := ((stmt_stmts_suffix text (ts.length + 1)).1 _ _ _ hs).1
    have ih' := ih (fun x hx => hadm x (List.IsSuffix.mem hx hsx))
    cases c with
    | top => exact top_later text file t ts s rest w hnr hs hadm ih'
    | block => exact block_later text file t ts s rest w hnr hs hadm ih'
    | stmt => exact absurd rfl hc
  | ended c hc =>
    cases c with
    | top => intro f acc p hat hf; exact top_ended text file f acc p hat hf
    | block => intro f acc p hat hf; exact block_ended text file f acc p hat hf
    | stmt => exact absurd rfl hc
  | keyword t ts hq hu =>
    intro f p hat hf
    exact stmt_keyword text file t ts hq hu hadm f p hat hf
  | escape k kw ts x raw hk hkw ha hx =>
    intro f p hat hf
    exact stmt_escape text file k kw ts x raw hk hkw ha hx f p hat hf
  | noTerm k kw ts arg e rest hk harg hs hl hu =>
    intro f p hat hf
    exact stmt_noTerm text file k kw ts arg e rest hk harg hs hl hu hadm f p hat hf
  | argEnds k kw ts hk hr =>
    intro f p hat hf
    exact stmt_argEnds text file k kw ts hk hr f p hat hf
  | block k kw ts arg e rest w hk harg he _ ih =>
    have hsx := argument_suffix text _ ts arg _ harg
    have ih' := ih (fun x hx => hadm x (by
      have := List.IsSuffix.mem hx ((List.suffix_cons e rest).trans hsx)
      simp [this]))
    intro f p hat hf
    exact stmt_block text file k kw ts arg e rest w hk harg he hadm ih' f p hat hf

/-- **`Stuck` is sound**: over the list source the first error line the run writes is the one
`Stuck` names (for `endOfTokens`: the report of the lexer that stopped behind the last token). -/
theorem stuck_sound (text : List Char) (file : List UInt8) (c : Ctx) (toks : List PTok) (w : Where)
    (h : Stuck text c toks w) (hadm : ∀ x ∈ toks, okTok x) :
    match c with
    | .top => ∀ (f : Nat) (acc : List Statement) (p : P), At text file p toks → toks.length + 2 ≤ f →
        Concl text file w p (topLoop LS f acc p).2
    | .block => ∀ (f : Nat) (acc : List Statement) (p : P), At text file p toks → toks.length + 2 ≤ f →
        Concl text file w p (blockLoop LS f acc p).2
    | .stmt => ∀ (f : Nat) (p : P), At text file p toks → toks.length + 1 ≤ f →
        Concl text file w p (nextStatement LS f p).2 := by
  have := stuck_sound_aux text file c toks w h hadm
  cases c <;> exact this

/-- `stuck_sound` at top level, as the whole-text run uses it -/
theorem stuck_sound_top (text : List Char) (file : List UInt8) (toks : List PTok) (w : Where)
    (h : Stuck text .top toks w) (hadm : ∀ x ∈ toks, okTok x) (f : Nat) (acc : List Statement) (p : P)
    (hat : At text file p toks) (hf : toks.length + 2 ≤ f) : Concl text file w p (topLoop LS f acc p).2 :=
  stuck_sound_aux text file .top toks w h hadm f acc p hat hf

end Goyang.Lemmas.ListFault
