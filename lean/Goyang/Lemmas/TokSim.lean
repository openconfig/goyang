/-
(d) One call of `NextToken` of the lexer model on a well-encoded text = the next token of the
reference reader (`specNext`): same kind, same text (for double-quoted strings: the fold of
`Lemmas/QStr.lean`), same position; the lexer ends up between two tokens again.  A lexical
failure of the reference reader, or an undefined backslash pair outside pattern mode, makes the
lexer write an error.
-/
import Goyang.Lemmas.LexSim
import Goyang.Lemmas.ListSrc

namespace Goyang.Lemmas.TokSim
open Goyang.Model.Lex Goyang.Model.Utf8 Goyang.Lemmas.Utf8 Goyang.Lemmas.Lex Goyang.Lemmas.LexSim
open Goyang.Spec.Parse Goyang.Lemmas.Scan Goyang.Lemmas.QStr
open Goyang.Lemmas.ListSrc (conv tokCode tokText badEsc)

/-- the text is empty or ends in a line feed (`newLexer` sees to that) -/
def EndsNL (s : List Char) : Prop := s = [] ∨ s.getLast? = some '\n'

theorem EndsNL.suffix {a b : List Char} (h : EndsNL (a ++ b)) : EndsNL b := by
  cases b with
  | nil => exact Or.inl rfl
  | cons c r =>
    right
    rcases h with h | h
    · simp at h
    · rw [List.getLast?_append] at h
      simp only [List.getLast?_cons] at h ⊢
      simpa using h

theorem EndsNL.mem {s : List Char} (h : EndsNL s) (hne : s ≠ []) : '\n' ∈ s := by
  rcases h with h | h
  · exact absurd h hne
  · exact List.mem_of_getLast? h

section
variable (text : List Char) (file : List UInt8)

/-- what a call of `NextToken` must deliver before the characters `suf` -/
def Outcome (b : Bool) (pre suf : List Char) (r : Option Token × Lexer) : Prop :=
  match specNext text.length suf with
  | none => r.2.errout ≠ []
  | some none => r.1 = none ∧ r.2.state = .done ∧ Ready file r.2 ∧ r.2.inPattern = b
  | some (some (t, rest)) =>
    (badEsc b t = true ∧ r.2.errout ≠ []) ∨
    (badEsc b t = false ∧ r.1 = some (conv text file t) ∧
      ∃ pre', text = pre' ++ rest ∧ pre.length < pre'.length ∧ Gnd file r.2 pre' rest ∧ r.2.inPattern = b)

theorem Outcome_congr (b : Bool) (pre pre2 suf suf2 : List Char) (r : Option Token × Lexer)
    (h : skipGround suf = skipGround suf2) (hl : pre.length ≤ pre2.length) (ho : Outcome text file b pre2 suf2 r) :
    Outcome text file b pre suf r := by
  unfold Outcome specNext at *
  rw [h]
  cases hsn : specNextG text.length (skipGround suf2) with
  | none => rw [hsn] at ho; exact ho
  | some o =>
    cases o with
    | none => rw [hsn] at ho; exact ho
    | some p =>
      obtain ⟨t, rest⟩ := p
      rw [hsn] at ho
      simp only at ho ⊢
      rcases ho with h1 | ⟨h1, h2, pre', h3, h4, h5⟩
      · exact Or.inl h1
      · exact Or.inr ⟨h1, h2, pre', h3, by omega, h5⟩

/-! ### `Outcome`, by the verdict of the reference reader -/

theorem Outcome.fail {b : Bool} {pre suf : List Char} {x : Option Token × Lexer}
    (h : specNext text.length suf = none) (he : x.2.errout ≠ []) : Outcome text file b pre suf x := by
  unfold Outcome; rw [h]; exact he

theorem Outcome.done {b : Bool} {pre suf : List Char} {x : Option Token × Lexer}
    (h : specNext text.length suf = some none)
    (ho : x.1 = none ∧ x.2.state = .done ∧ Ready file x.2 ∧ x.2.inPattern = b) : Outcome text file b pre suf x := by
  unfold Outcome; rw [h]; exact ho

theorem Outcome.tok {b : Bool} {pre suf : List Char} {x : Option Token × Lexer} {t : PTok} {rest : List Char}
    (h : specNext text.length suf = some (some (t, rest)))
    (ho : (badEsc b t = true ∧ x.2.errout ≠ []) ∨
      (badEsc b t = false ∧ x.1 = some (conv text file t) ∧
        ∃ pre', text = pre' ++ rest ∧ pre.length < pre'.length ∧ Gnd file x.2 pre' rest ∧ x.2.inPattern = b)) :
    Outcome text file b pre suf x := by
  unfold Outcome; rw [h]; exact ho

/-- a token other than a double-quoted string has been delivered -/
theorem Outcome.plain {b : Bool} {P : List Char} {c : Char} {r : List Char} {x : Option Token × Lexer} {tk : Tok}
    {rest : List Char} (hs : skipGround (c :: r) = some (c :: r)) (htk : tokAt c r = some (tk, rest))
    (hq : ∀ items, tk ≠ .dq items)
    (h : x.1 = some (conv text file ⟨tk, text.length - (r.length + 1)⟩) ∧
      ∃ pre', text = pre' ++ rest ∧ P.length < pre'.length ∧ Gnd file x.2 pre' rest ∧ x.2.inPattern = b) :
    Outcome text file b P (c :: r) x := by
  have hb : badEsc b ⟨tk, text.length - (r.length + 1)⟩ = false := by
    cases tk with
    | dq items => exact absurd rfl (hq items)
    | _ => rfl
  exact Outcome.tok text file (by rw [specNext_eq _ hs, htk]; rfl) (Or.inr ⟨hb, h.1, h.2⟩)

/-- the token the lexer emits is the token of the reference reader -/
theorem tok_eq (P r : List Char) (c : Char) (ht : text = P ++ c :: r) (tk : Tok) (sline scol : Int)
    (hsl : sline = lineAfter P) (hsc : scol = colAfter P) :
    ({ code := tokCode tk, text := tokText text ⟨tk, text.length - (r.length + 1)⟩, file := file, line := sline,
       col := scol + 1 } : Token) = conv text file ⟨tk, text.length - (r.length + 1)⟩ := by
  have hoff : text.length - (r.length + 1) = P.length := by
    rw [ht]; simp only [List.length_append, List.length_cons]; omega
  have htake : text.take P.length = P := by rw [ht, List.take_left']; rfl
  unfold conv
  simp only
  rw [hoff, hsl, hsc]
  unfold lineOf colOf lineAfter colAfter
  rw [htake]
  congr 1
  push_cast
  omega

/-- at the first character of a token: white space skipped, `start`, `sline`, `scol` set -/
structure Tk (l : Lexer) (P suf : List Char) : Prop where
  cur : Cur l P suf
  pos : Pos l P
  start : l.start = (encodeChars P).length
  sline : l.sline = lineAfter P
  scol : l.scol = colAfter P
  ready : Ready file l
  state : l.state = .ground

theorem posN_of_fields {l l' : Lexer} {P rest : List Char} (hp : PosN l P rest) (hc : l'.col = l.col)
    (ht : l'.tcol = l.tcol) : PosN l' P rest := by
  unfold PosN at hp ⊢
  split at hp
  · trivial
  · rw [hc, ht]; exact hp
  · exact ⟨hc.trans hp.col, ht.trans hp.tcol⟩

/-! `setState` changes the state only.  (Stated as lemmas: `rfl` on a field of `setState s l` against the field of `l`
unfolds `setState` only after failing to unify `setState s l` with `l`.) -/

theorem _root_.Goyang.Lemmas.LexSim.Cur.setState {l : Lexer} {P r : List Char} (h : Cur l P r) (s : LState) :
    Cur (setState s l) P r := ⟨h.before, h.rest, h.line⟩

theorem posN_setState {l : Lexer} {P r : List Char} (h : PosN l P r) (s : LState) : PosN (setState s l) P r :=
  posN_of_fields h (setState_col s l) (setState_tcol s l)

theorem _root_.Goyang.Lemmas.LexSim.Ready.setState {l : Lexer} (h : Ready file l) (s : LState) :
    Ready file (setState s l) := ⟨h.items, h.errout, h.errcnt, h.fault, h.file⟩

/-- a token is queued, the lexer is in the ground state behind it: `NextToken` hands it out -/
theorem finish (f : Nat) (l2 : Lexer) (t : Token) (P' rest : List Char) (hi : l2.items = [t])
    (hst : l2.state = .ground) (hc : Cur l2 P' rest) (hp : PosN l2 P' rest) (he : l2.errout = [])
    (hn : l2.errcnt = 0) (hf : l2.fault = .none) (hfile : l2.file = file) :
    (nextTokenLoop (f + 1) l2).1 = some t ∧ Gnd file (nextTokenLoop (f + 1) l2).2 P' rest ∧
    (nextTokenLoop (f + 1) l2).2.inPattern = l2.inPattern := by
  rw [nextTokenLoop_pop1 f l2 t hi]
  exact ⟨rfl, ⟨⟨hc.before, hc.rest, hc.line⟩, posN_of_fields hp rfl rfl, ⟨rfl, he, hn, hf, hfile⟩, hst⟩, rfl⟩

/-- `setState .ground (emitText …)`: the fields -/
theorem emitted (c : Code) (tb : List UInt8) (l : Lexer) (hi : l.items = []) :
    (setState .ground (emitText c tb l)).items =
      [{ code := c, text := tb, file := l.file, line := l.sline, col := l.scol + 1 }] ∧
    (setState .ground (emitText c tb l)).state = .ground ∧
    (setState .ground (emitText c tb l)).before = l.before ∧ (setState .ground (emitText c tb l)).rest = l.rest ∧
    (setState .ground (emitText c tb l)).line = l.line ∧ (setState .ground (emitText c tb l)).col = l.col ∧
    (setState .ground (emitText c tb l)).tcol = l.tcol ∧ (setState .ground (emitText c tb l)).errout = l.errout ∧
    (setState .ground (emitText c tb l)).errcnt = l.errcnt ∧ (setState .ground (emitText c tb l)).fault = l.fault ∧
    (setState .ground (emitText c tb l)).file = l.file ∧
    (setState .ground (emitText c tb l)).inPattern = l.inPattern := by
  obtain ⟨e1, e2, e3, e4, e5, e6, e7, e8, e9, e10, _, _⟩ := emitText_frame c tb l
  exact ⟨emitText_items c tb l hi, rfl, e1, e2, e3, e4, e5, e6, e7, e8, e9, e10⟩

/-- `;`, `{`, `}` -/
theorem punct_case (b : Bool) (f : Nat) (l : Lexer) (P r : List Char) (c : Char) (ht : text = P ++ c :: r)
    (hk : Tk file l P (c :: r)) (hb : l.inPattern = b) (tk : Tok)
    (hc : (c = ';' ∧ tk = .semi) ∨ (c = '{' ∧ tk = .lbrace) ∨ (c = '}' ∧ tk = .rbrace)) :
    Outcome text file b P (c :: r)
      (nextTokenLoop (f + 1) (setState .ground (emit (.punct (UInt8.ofNat c.toNat)) (next l).2))) := by
  obtain ⟨n1, n2, n3, _, n5⟩ := next_char l P r c hk.cur (hk.pos.posN _)
  have hemit : emit (.punct (UInt8.ofNat c.toNat)) (next l).2 =
      emitText (.punct (UInt8.ofNat c.toNat)) (encodeChars [c]) (next l).2 :=
    emit_eq _ _ P [c] r n2 (by rw [n5.start]; exact hk.start)
  rw [hemit]
  have hr1 : Ready file (next l).2 := n5.ready hk.ready
  obtain ⟨e1, e2, e3, e4, e5, e6, e7, e8, e9, e10, e11, e12⟩ :=
    emitted (.punct (UInt8.ofNat c.toNat)) (encodeChars [c]) (next l).2 hr1.items
  have htok : Token.mk (Code.punct (UInt8.ofNat c.toNat)) (encodeChars [c]) (next l).2.file (next l).2.sline
      ((next l).2.scol + 1) = conv text file ⟨tk, text.length - (r.length + 1)⟩ := by
    rw [← tok_eq text file P r c ht tk _ _ (n5.sline.trans hk.sline) (n5.scol.trans hk.scol), hr1.file]
    rcases hc with ⟨h1, h2⟩ | ⟨h1, h2⟩ | ⟨h1, h2⟩ <;> (rw [h1, h2]; rfl)
  rw [htok] at e1
  obtain ⟨q1, q2, q3⟩ := finish file f _ _ (P ++ [c]) r e1 e2 ⟨e3.trans n2.before, e4.trans n2.rest, e5.trans n2.line⟩
    (posN_of_fields (n3.posN r) e6 e7) (e8.trans hr1.errout) (e9.trans hr1.errcnt) (e10.trans hr1.fault)
    (e11.trans hr1.file)
  have hspec : skipGround (c :: r) = some (c :: r) ∧ tokAt c r = some (tk, r) ∧ ∀ items, tk ≠ .dq items := by
    rcases hc with ⟨h1, h2⟩ | ⟨h1, h2⟩ | ⟨h1, h2⟩ <;>
      (rw [h1, h2]; exact ⟨skipGround_token _ r rfl (by decide), rfl, fun _ h => by cases h⟩)
  exact Outcome.plain text file hspec.1 hspec.2.1 hspec.2.2
    ⟨q1, P ++ [c], by rw [ht]; simp, by simp, q2, by rw [q3, e12, n5.inPattern]; exact hb⟩

theorem consume_tk (l : Lexer) (P suf : List Char) (hc : Cur l P suf) (hp : Pos l P) (hr : Ready file l)
    (hst : l.state = .ground) (sl sc : Int) (hsl : l.sline = sl) (hsc : l.scol = sc) :
    Cur (consume l) P suf ∧ Pos (consume l) P ∧ (consume l).start = (encodeChars P).length ∧
    Ready file (consume l) ∧ (consume l).state = .ground ∧ (consume l).sline = sl ∧ (consume l).scol = sc ∧
    (consume l).inPattern = l.inPattern := by
  unfold consume Lexer.pos
  refine ⟨⟨hc.before, hc.rest, hc.line⟩, ⟨hp.col, hp.tcol⟩, ?_, ⟨hr.items, hr.errout, hr.errcnt, hr.fault, hr.file⟩,
    hst, hsl, hsc, rfl⟩
  show l.before.length = _
  rw [hc.before]; simp

theorem skipTo_found (pat : List UInt8) (l : Lexer) (x : Nat) (h : indexOf pat l.rest = some x) :
    skipTo pat l = (true, updateCursor x l) := by
  unfold skipTo; rw [h]

theorem skipTo_none (pat : List UInt8) (l : Lexer) (h : indexOf pat l.rest = none) :
    skipTo pat l = (false, l) := by
  unfold skipTo; rw [h]

/-- a single-quoted string -/
theorem sq_case (b : Bool) (f : Nat) (l : Lexer) (P r : List Char) (ht : text = P ++ '\'' :: r)
    (hk : Tk file l P ('\'' :: r)) (hb : l.inPattern = b) :
    Outcome text file b P ('\'' :: r) (nextTokenLoop (f + 1) (groundSQuote l)) := by
  have hsk : skipGround ('\'' :: r) = some ('\'' :: r) := skipGround_token _ r rfl (by decide)
  obtain ⟨n1, n2, n3, _, n5⟩ := next_char l P r '\'' hk.cur (hk.pos.posN _)
  have hr1 : Ready file (next l).2 := n5.ready hk.ready
  obtain ⟨c1, c2, c3, c4, c5, c6, c7, c8⟩ := consume_tk file (next l).2 (P ++ ['\'']) r n2 n3 hr1
    (n5.state.trans hk.state) _ _ (n5.sline.trans hk.sline) (n5.scol.trans hk.scol)
  cases hs : scanSq r with
  | none =>
    have hnm := scanSq_none_iff r hs
    have hidx : indexOf [39] (consume (next l).2).rest = none := by
      rw [c1.rest]; exact indexOf_char_none '\'' (by decide) r hnm
    refine Outcome.fail text file (by rw [specNext_eq _ hsk, tokAt_sq, hs]; rfl) ?_
    unfold groundSQuote
    simp only
    rw [skipTo_none _ _ hidx]
    simp only [Bool.false_eq_true, if_false]
    apply nextTokenLoop_keeps
    rw [setState_errout]
    exact errorfAt_errout _ _ _ _ (Or.inl c4.errcnt)
  | some p =>
    obtain ⟨s, r'⟩ := p
    obtain ⟨hsplit, hnm⟩ := scanSq_split r s r' hs
    have hidx : indexOf [39] (consume (next l).2).rest = some (encodeChars s).length := by
      rw [c1.rest, hsplit]; exact indexOf_char '\'' (by decide) s r' hnm
    obtain ⟨u1, u2, u3⟩ := updateCursor_chars (consume (next l).2) (P ++ ['\'']) s ('\'' :: r')
      (by rw [← hsplit]; exact c1) c2
    -- name the lexer after the bulk move
    obtain ⟨l3, hl3⟩ : ∃ l3, l3 = updateCursor (encodeChars s).length (consume (next l).2) := ⟨_, rfl⟩
    rw [← hl3] at u1 u2 u3
    have hr3 : Ready file l3 := u3.ready c4
    have hemit : emit .string l3 = emitText .string (encodeChars s) l3 :=
      emit_eq _ _ (P ++ ['\'']) s ('\'' :: r') u1 (by rw [u3.start]; exact c3)
    have htok : Token.mk Code.string (encodeChars s) l3.file l3.sline (l3.scol + 1) =
        conv text file ⟨.sq s, text.length - (r.length + 1)⟩ := by
      rw [← tok_eq text file P r '\'' ht (.sq s) _ _ (u3.sline.trans c6) (u3.scol.trans c7), hr3.file]
      rfl
    obtain ⟨l4, hl4⟩ : ∃ l4, l4 = emitText .string (encodeChars s) l3 := ⟨_, rfl⟩
    have hg : groundSQuote l = setState .ground (next l4).2 := by
      unfold groundSQuote
      simp only
      rw [skipTo_found _ _ _ hidx]
      simp only [if_true]
      rw [← hl3, hemit, ← hl4]
    rw [hg]
    obtain ⟨f1, f2, f3, f4, f5, f6, f7, f8, f9, f10, f11, f12⟩ := emitText_frame .string (encodeChars s) l3
    rw [← hl4] at f1 f2 f3 f4 f5 f6 f7 f8 f9 f10 f11 f12
    have hcur4 : Cur l4 (P ++ ['\''] ++ s) ('\'' :: r') := ⟨f1.trans u1.before, f2.trans u1.rest, f3.trans u1.line⟩
    have hpos4 : Pos l4 (P ++ ['\''] ++ s) := ⟨f4.trans u2.col, f5.trans u2.tcol⟩
    obtain ⟨m1, m2, m3, _, m5⟩ := next_char l4 _ r' '\'' hcur4 (hpos4.posN _)
    have hitems : (setState .ground (next l4).2).items =
        [conv text file ⟨.sq s, text.length - (r.length + 1)⟩] := by
      rw [setState_items, m5.items, hl4, emitText_items _ _ _ hr3.items, htok]
    obtain ⟨q1, q2, q3⟩ := finish file f _ _ (P ++ ['\''] ++ s ++ ['\'']) r' hitems (setState_state _ _)
      (m2.setState _) (posN_setState (m3.posN r') _)
      (by rw [setState_errout, m5.errout, f6]; exact hr3.errout)
      (by rw [setState_errcnt, m5.errcnt, f7]; exact hr3.errcnt)
      (by rw [setState_fault, m5.fault, f8]; exact hr3.fault)
      (by rw [setState_file, m5.file, f9]; exact hr3.file)
    refine Outcome.plain text file hsk (by rw [tokAt_sq, hs]; rfl) (fun _ h => by cases h)
      ⟨q1, P ++ ['\''] ++ s ++ ['\''], by rw [ht, hsplit]; simp, by simp, q2, ?_⟩
    rw [q3, setState_inPattern, m5.inPattern, f10, u3.inPattern, c8, n5.inPattern]; exact hb

theorem tcolAfter_quote (P : List Char) (r : List Char) (c : Char) (ht : text = P ++ c :: r) (hn : c ≠ '\n')
    (htb : c ≠ '\t') :
    tcolAfter (P ++ [c]) = ((quoteCol text (text.length - (r.length + 1)) : Nat) : Int) := by
  have hoff : text.length - (r.length + 1) = P.length := by
    rw [ht]; simp only [List.length_append, List.length_cons]; omega
  have htake : text.take P.length = P := by rw [ht, List.take_left']; rfl
  rw [tcolAfter_snoc, if_neg hn, if_neg htb, hoff]
  unfold quoteCol tcolAfter
  rw [htake]; push_cast; omega

/-- a double-quoted string -/
theorem dq_case (b : Bool) (f : Nat) (l : Lexer) (P r : List Char) (ht : text = P ++ '"' :: r)
    (hk : Tk file l P ('"' :: r)) (hb : l.inPattern = b) :
    Outcome text file b P ('"' :: r) (nextTokenLoop (f + 2) (setState .qstring (next l).2)) := by
  have hsk : skipGround ('"' :: r) = some ('"' :: r) := skipGround_token _ r rfl (by decide)
  obtain ⟨n1, n2, n3, _, n5⟩ := next_char l P r '"' hk.cur (hk.pos.posN _)
  have hr1 : Ready file (next l).2 := n5.ready hk.ready
  obtain ⟨l1, hl1⟩ : ∃ l1, l1 = setState .qstring (next l).2 := ⟨_, rfl⟩
  rw [← hl1]
  have hc1 : Cur l1 (P ++ ['"']) r := by rw [hl1]; exact n2.setState _
  have hp1 : Pos l1 (P ++ ['"']) := by
    rw [hl1]; exact ⟨(setState_col _ _).trans n3.col, (setState_tcol _ _).trans n3.tcol⟩
  have hready1 : Ready file l1 := by rw [hl1]; exact hr1.setState file _
  have hpat1 : l1.inPattern = b := by rw [hl1, setState_inPattern, n5.inPattern]; exact hb
  have hloop : ∀ g, nextTokenLoop (g + 1) l1 = nextTokenLoop g (lexQString l1) := fun g =>
    nextTokenLoop_qstring g l1 hready1.items (by rw [hl1]; rfl)
  have htc : l1.tcol = ((quoteCol text (text.length - (r.length + 1)) : Nat) : Int) := by
    rw [hp1.tcol]; exact tcolAfter_quote text P r '"' ht (by decide) (by decide)
  have hbadcase : DqBad l1.inPattern r → ∀ g, (nextTokenLoop (g + 1) l1).2.errout ≠ [] := by
    intro hbad g
    rw [hloop]
    apply nextTokenLoop_keeps
    unfold lexQString
    exact qstringLoop_bad _ _ _ r.length r (Nat.le_refl _) _ [] true l1 _ hc1 (Or.inl hready1.errcnt)
      (by rw [hc1.rest]; exact Nat.le_refl _) hbad
  cases hs : scanDq r with
  | none => exact Outcome.fail text file (by rw [specNext_eq _ hsk, tokAt_dq, hs]; rfl) (hbadcase (Or.inl hs) _)
  | some p =>
    obtain ⟨items, r'⟩ := p
    refine Outcome.tok text file (by rw [specNext_eq _ hsk, tokAt_dq, hs]; rfl) ?_
    obtain ⟨hsplit, hwf⟩ := scanDq_split r.length r (Nat.le_refl _) items r' hs
    by_cases hbe : badEsc b ⟨.dq items, text.length - (r.length + 1)⟩ = true
    · left
      refine ⟨hbe, hbadcase (Or.inr ⟨items, r', hs, ?_, ?_⟩) _⟩
      · rw [hpat1]
        simp only [badEsc, Bool.and_eq_true, Bool.not_eq_eq_eq_not, Bool.not_true] at hbe
        exact hbe.1
      · simp only [badEsc, Bool.and_eq_true, Bool.not_eq_eq_eq_not, Bool.not_true] at hbe
        exact hbe.2
    · right
      have hbe' : badEsc b ⟨.dq items, text.length - (r.length + 1)⟩ = false := by simpa using hbe
      refine ⟨hbe', ?_⟩
      have hpatok : l1.inPattern = true ∨ items.all validEsc = true := by
        rw [hpat1]
        simp only [badEsc, Bool.and_eq_false_iff, Bool.not_eq_eq_eq_not, Bool.not_true, Bool.not_false] at hbe'
        rcases hbe' with h | h
        · left; exact h
        · right; exact h
      obtain ⟨l', g1, g2, g3, g4⟩ := qstringLoop_good (quoteCol text (text.length - (r.length + 1))) l1.line
        (l1.col - 1) r' items (l1.rest.length + 2) ⟨[], true, quoteCol text (text.length - (r.length + 1))⟩ l1
        (P ++ ['"']) hwf (by rw [← hsplit]; exact hc1) hp1 (fun h => by cases h)
        (by rw [hc1.rest, hsplit]; omega) hpatok
      have hlq : lexQString l1 = setState .ground (emitText .string
          (encodeChars (implValue (quoteCol text (text.length - (r.length + 1))) items)) l') := by
        unfold lexQString
        rw [htc]
        exact g1
      rw [hloop, hlq]
      have hr' : Ready file l' := g4.ready hready1
      obtain ⟨e1, e2, e3, e4, e5, e6, e7, e8, e9, e10, e11, e12⟩ :=
        emitted .string (encodeChars (implValue (quoteCol text (text.length - (r.length + 1))) items)) l' hr'.items
      have htok : Token.mk Code.string
          (encodeChars (implValue (quoteCol text (text.length - (r.length + 1))) items)) l'.file l'.sline
          (l'.scol + 1) = conv text file ⟨.dq items, text.length - (r.length + 1)⟩ := by
        rw [← tok_eq text file P r '"' ht (.dq items) _ _
          (g4.sline.trans (by rw [hl1]; exact n5.sline.trans hk.sline))
          (g4.scol.trans (by rw [hl1]; exact n5.scol.trans hk.scol)), hr'.file]
        rfl
      rw [htok] at e1
      obtain ⟨q1, q2, q3⟩ := finish file f _ _ (P ++ ['"'] ++ (itemsChars items ++ ['"'])) r' e1 e2
        ⟨e3.trans g2.before, e4.trans g2.rest, e5.trans g2.line⟩ (posN_of_fields (g3.posN r') e6 e7)
        (e8.trans hr'.errout) (e9.trans hr'.errcnt) (e10.trans hr'.fault) (e11.trans hr'.file)
      exact ⟨q1, P ++ ['"'] ++ (itemsChars items ++ ['"']), by rw [ht, hsplit]; simp, by simp, q2,
        by rw [q3, e12, g4.inPattern]; exact hpat1⟩

theorem takeWhile_cons_nondelim (c : Char) (r : List Char) (h : isDelim c = false) :
    (c :: r).takeWhile (fun x => !isDelim x) = c :: r.takeWhile (fun x => !isDelim x) ∧
    (c :: r).dropWhile (fun x => !isDelim x) = r.dropWhile (fun x => !isDelim x) := by
  simp [List.takeWhile_cons, List.dropWhile_cons, h]

theorem dropWhile_head_delim (r : List Char) : ∀ d t, r.dropWhile (fun x => !isDelim x) = d :: t → isDelim d = true := by
  intro d t h
  have := List.head?_dropWhile_not (fun x => !isDelim x) r
  rw [h] at this
  simpa using this

theorem takeWhile_nondelim (r : List Char) : ∀ x ∈ r.takeWhile (fun x => !isDelim x), isDelim x = false := by
  intro x hx
  have := mem_takeWhile_pos (fun x => !isDelim x) r x hx
  simpa using this

/-- an unquoted token: the lexer is in the state `lexUnquoted` having read `tk` of it -/
theorem unq_finish (b : Bool) (f : Nat) (l2 : Lexer) (P tk rest0 : List Char) (c : Char) (r : List Char)
    (ht : text = P ++ c :: r) (hcr : c :: r = tk ++ rest0)
    (hc : Cur l2 (P ++ tk) rest0) (hp : PosN l2 (P ++ tk) rest0) (hst : l2.start = (encodeChars P).length)
    (hsl : l2.sline = lineAfter P) (hsc : l2.scol = colAfter P) (hr : Ready file l2) (hs : l2.state = .unquoted)
    (hb : l2.inPattern = b) (hne : 0 < (tk ++ rest0.takeWhile (fun x => !isDelim x)).length) :
    (nextTokenLoop (f + 2) l2).1 = some (conv text file
      ⟨.unq (tk ++ rest0.takeWhile (fun x => !isDelim x)), text.length - (r.length + 1)⟩) ∧
    ∃ pre', text = pre' ++ rest0.dropWhile (fun x => !isDelim x) ∧ P.length < pre'.length ∧
      Gnd file (nextTokenLoop (f + 2) l2).2 pre' (rest0.dropWhile (fun x => !isDelim x)) ∧
      (nextTokenLoop (f + 2) l2).2.inPattern = b := by
  rw [nextTokenLoop_unquoted _ l2 hr.items hs]
  have hsplit : rest0 = rest0.takeWhile (fun x => !isDelim x) ++ rest0.dropWhile (fun x => !isDelim x) :=
    List.takeWhile_append_dropWhile.symm
  obtain ⟨l', h1, h2, h3, h4⟩ := unquotedLoop_chars P (rest0.dropWhile (fun x => !isDelim x))
    (dropWhile_head_delim rest0) (rest0.takeWhile (fun x => !isDelim x)) (takeWhile_nondelim rest0)
    (l2.rest.length + 1) l2 tk (by rw [← hsplit]; exact hc) (by rw [← hsplit]; exact hp) hst
    (by rw [hc.rest, ← hsplit]; exact Nat.le_refl _)
  unfold lexUnquoted
  rw [h1]
  have hr' : Ready file l' := h4.ready hr
  obtain ⟨e1, e2, e3, e4, e5, e6, e7, e8, e9, e10, e11, e12⟩ :=
    emitted .unquoted (encodeChars (tk ++ rest0.takeWhile (fun x => !isDelim x))) l' hr'.items
  have htok : Token.mk Code.unquoted (encodeChars (tk ++ rest0.takeWhile (fun x => !isDelim x))) l'.file l'.sline
      (l'.scol + 1) = conv text file
        ⟨.unq (tk ++ rest0.takeWhile (fun x => !isDelim x)), text.length - (r.length + 1)⟩ := by
    rw [← tok_eq text file P r c ht (.unq _) _ _ (h4.sline.trans hsl) (h4.scol.trans hsc), hr'.file]
    rfl
  rw [htok] at e1
  obtain ⟨q1, q2, q3⟩ := finish file f _ _ (P ++ (tk ++ rest0.takeWhile (fun x => !isDelim x)))
    (rest0.dropWhile (fun x => !isDelim x)) e1 e2 ⟨e3.trans h2.before, e4.trans h2.rest, e5.trans h2.line⟩
    (posN_of_fields h3 e6 e7) (e8.trans hr'.errout) (e9.trans hr'.errcnt) (e10.trans hr'.fault)
    (e11.trans hr'.file)
  refine ⟨q1, P ++ (tk ++ rest0.takeWhile (fun x => !isDelim x)), ?_, by rw [List.length_append]; omega, q2,
    by rw [q3, e12, h4.inPattern]; exact hb⟩
  rw [ht, hcr, List.append_assoc, List.append_assoc]
  congr 2

theorem pos_of_posN {l : Lexer} {P r : List Char} {c : Char} (h : PosN l P (c :: r)) (h1 : c ≠ '\n')
    (h2 : c ≠ '\t') : Pos l P := by
  unfold PosN at h
  split at h
  · rename_i heq; simp only [List.cons.injEq] at heq; exact absurd heq.1 h1
  · rename_i heq; simp only [List.cons.injEq] at heq; exact absurd heq.1 h2
  · exact h

theorem groundSlash_line (l : Lexer) (h : (peek (next l).2).1 = 47) :
    groundSlash l = if (skipTo [10] (peek (next l).2).2).1 then setState .ground (skipTo [10] (peek (next l).2).2).2
      else setState .done (errorfAt (skipTo [10] (peek (next l).2).2).2.line
        ((skipTo [10] (peek (next l).2).2).2.col - 1) .noNewline (skipTo [10] (peek (next l).2).2).2) := by
  unfold groundSlash
  simp only [h, if_true]

theorem groundSlash_block (l : Lexer) (h : (peek (next l).2).1 = 42) :
    groundSlash l =
      if (skipTo [42, 47] (next (peek (next l).2).2).2).1 then
        setState .ground (next (next (skipTo [42, 47] (next (peek (next l).2).2).2).2).2).2
      else setState .done (errorfAt (skipTo [42, 47] (next (peek (next l).2).2).2).2.line
        ((skipTo [42, 47] (next (peek (next l).2).2).2).2.col - 2) .missingCommentEnd
        (skipTo [42, 47] (next (peek (next l).2).2).2).2) := by
  unfold groundSlash
  simp only [h, if_true]
  simp

theorem groundSlash_tok (l : Lexer) (h1 : (peek (next l).2).1 ≠ 47) (h2 : (peek (next l).2).1 ≠ 42) :
    groundSlash l = setState .unquoted (peek (next l).2).2 := by
  unfold groundSlash
  simp only [h1, h2, if_false]

/-- `// …`: the lexer is back in the ground state at the end of the line -/
theorem line_comment (l : Lexer) (P s r2 : List Char) (hk : Tk file l P ('/' :: '/' :: (s ++ '\n' :: r2)))
    (hs : '\n' ∉ s) :
    Gnd file (groundSlash l) (P ++ ['/'] ++ ('/' :: s)) ('\n' :: r2) ∧ (groundSlash l).inPattern = l.inPattern := by
  obtain ⟨n1, n2, n3, _, n5⟩ := next_char l P _ '/' hk.cur (hk.pos.posN _)
  obtain ⟨p1, p2, p3, p4⟩ := peek_char (next l).2 _ _ '/' n2 (n3.posN _)
  have hpos : Pos (peek (next l).2).2 (P ++ ['/']) := pos_of_posN p3 (by decide) (by decide)
  have hidx : indexOf [10] (peek (next l).2).2.rest = some (encodeChars ('/' :: s)).length := by
    rw [p2.rest]
    exact indexOf_char '\n' (by decide) ('/' :: s) r2 (by
      simp only [List.mem_cons, not_or]; exact ⟨by decide, hs⟩)
  obtain ⟨u1, u2, u3⟩ := updateCursor_chars (peek (next l).2).2 (P ++ ['/']) ('/' :: s) ('\n' :: r2)
    p2 hpos
  have hg : groundSlash l = setState .ground (updateCursor (encodeChars ('/' :: s)).length (peek (next l).2).2) := by
    rw [groundSlash_line l (by rw [p1]; rfl), skipTo_found _ _ _ hidx]
    rfl
  rw [hg]
  have hfr := (n5.trans p4).trans u3
  obtain ⟨l2, hl2⟩ : ∃ l2, l2 = updateCursor (encodeChars ('/' :: s)).length (peek (next l).2).2 := ⟨_, rfl⟩
  rw [← hl2] at u1 u2 u3 hfr ⊢
  exact ⟨⟨u1.setState _, posN_setState (u2.posN _) _, (hfr.ready hk.ready).setState file _, setState_state _ _⟩,
    (setState_inPattern _ _).trans hfr.inPattern⟩

/-- `/* … */` -/
theorem block_comment (l : Lexer) (P r1 : List Char) (hk : Tk file l P ('/' :: '*' :: r1)) :
    match findSS r1 with
    | none => (groundSlash l).errout ≠ []
    | some (s, r2) =>
      Gnd file (groundSlash l) (P ++ ['/', '*'] ++ s ++ ['*', '/']) r2 ∧ (groundSlash l).inPattern = l.inPattern := by
  obtain ⟨n1, n2, n3, _, n5⟩ := next_char l P _ '/' hk.cur (hk.pos.posN _)
  obtain ⟨p1, p2, p3, p4⟩ := peek_char (next l).2 _ _ '*' n2 (n3.posN _)
  obtain ⟨m1, m2, m3, _, m5⟩ := next_char (peek (next l).2).2 _ _ '*' p2 p3
  obtain ⟨l3, hl3⟩ : ∃ l3, l3 = (next (peek (next l).2).2).2 := ⟨_, rfl⟩
  rw [← hl3] at m2 m3 m5
  have hfr3 : Frame l l3 := (n5.trans p4).trans m5
  have hidx := indexOf_ss r1.length r1 (Nat.le_refl _)
  cases hf : findSS r1 with
  | none =>
    simp only
    rw [hf] at hidx
    have hg : groundSlash l = setState .done (errorfAt l3.line (l3.col - 2) .missingCommentEnd l3) := by
      rw [groundSlash_block l (by rw [p1]; rfl), ← hl3, skipTo_none _ _ (by rw [m2.rest]; exact hidx)]
      rfl
    rw [hg]
    exact errorfAt_errout _ _ _ _ (Or.inl (hfr3.errcnt.trans hk.ready.errcnt))
  | some p =>
    obtain ⟨s, r2⟩ := p
    simp only
    rw [hf] at hidx
    have hsplit := findSS_split r1.length r1 (Nat.le_refl _) s r2 hf
    obtain ⟨u1, u2, u3⟩ := updateCursor_chars l3 (P ++ ['/'] ++ ['*']) s ('*' :: '/' :: r2)
      (by rw [← hsplit]; exact m2) m3
    obtain ⟨l4, hl4⟩ : ∃ l4, l4 = updateCursor (encodeChars s).length l3 := ⟨_, rfl⟩
    rw [← hl4] at u1 u2 u3
    obtain ⟨a1, a2, a3, _, a5⟩ := next_char l4 _ _ '*' u1 (u2.posN _)
    obtain ⟨b1, b2, b3, _, b5⟩ := next_char (next l4).2 _ _ '/' a2 (a3.posN _)
    have hg : groundSlash l = setState .ground (next (next l4).2).2 := by
      rw [groundSlash_block l (by rw [p1]; rfl), ← hl3, skipTo_found _ _ _ (by rw [m2.rest]; exact hidx), ← hl4]
      rfl
    rw [hg]
    have hfr := ((hfr3.trans u3).trans a5).trans b5
    obtain ⟨l6, hl6⟩ : ∃ l6, l6 = (next (next l4).2).2 := ⟨_, rfl⟩
    rw [← hl6] at b2 b3 hfr ⊢
    have hP : P ++ ['/', '*'] ++ s ++ ['*', '/'] = P ++ ['/'] ++ ['*'] ++ s ++ ['*'] ++ ['/'] := by simp
    rw [hP]
    exact ⟨⟨b2.setState _, posN_setState (b3.posN _) _, (hfr.ready hk.ready).setState file _, setState_state _ _⟩,
      (setState_inPattern _ _).trans hfr.inPattern⟩

theorem groundPlus_quote (l : Lexer) (h : (peek (next l).2).1 = 34 ∨ (peek (next l).2).1 = 39) :
    groundPlus l = setState .ground (emit .unquoted (peek (next l).2).2) := by
  unfold groundPlus
  rcases h with h | h <;> simp [h]

theorem groundPlus_tok (l : Lexer) (h1 : (peek (next l).2).1 ≠ 34) (h2 : (peek (next l).2).1 ≠ 39) :
    groundPlus l = setState .unquoted (peek (next l).2).2 := by
  unfold groundPlus
  simp [h1, h2]

/-- `+` directly before a quote is a token of its own -/
theorem plus_quote (b : Bool) (f : Nat) (l : Lexer) (P r' : List Char) (q : Char) (hq : q = '"' ∨ q = '\'')
    (ht : text = P ++ '+' :: q :: r') (hk : Tk file l P ('+' :: q :: r')) (hb : l.inPattern = b) :
    Outcome text file b P ('+' :: q :: r') (nextTokenLoop (f + 1) (groundPlus l)) := by
  obtain ⟨n1, n2, n3, _, n5⟩ := next_char l P _ '+' hk.cur (hk.pos.posN _)
  obtain ⟨p1, p2, p3, p4⟩ := peek_char (next l).2 _ _ q n2 (n3.posN _)
  obtain ⟨l2, hl2⟩ : ∃ l2, l2 = (peek (next l).2).2 := ⟨_, rfl⟩
  rw [← hl2] at p2 p3 p4
  have hfr : Frame l l2 := n5.trans p4
  have hr2 : Ready file l2 := hfr.ready hk.ready
  have hg : groundPlus l = setState .ground (emitText .unquoted (encodeChars ['+']) l2) := by
    rw [groundPlus_quote l (by
      rw [p1]; rcases hq with h | h
      · left; rw [h]; rfl
      · right; rw [h]; rfl), ← hl2]
    rw [emit_eq .unquoted l2 P ['+'] (q :: r') p2 (by rw [hfr.start]; exact hk.start)]
  rw [hg]
  obtain ⟨e1, e2, e3, e4, e5, e6, e7, e8, e9, e10, e11, e12⟩ := emitted .unquoted (encodeChars ['+']) l2 hr2.items
  have htok : Token.mk Code.unquoted (encodeChars ['+']) l2.file l2.sline (l2.scol + 1) =
      conv text file ⟨.unq ['+'], text.length - ((q :: r').length + 1)⟩ := by
    rw [← tok_eq text file P (q :: r') '+' ht (.unq ['+']) _ _ (hfr.sline.trans hk.sline)
      (hfr.scol.trans hk.scol), hr2.file]
    rfl
  rw [htok] at e1
  obtain ⟨q1, q2, q3⟩ := finish file f _ _ (P ++ ['+']) (q :: r') e1 e2
    ⟨e3.trans p2.before, e4.trans p2.rest, e5.trans p2.line⟩ (posN_of_fields p3 e6 e7)
    (e8.trans hr2.errout) (e9.trans hr2.errcnt) (e10.trans hr2.fault) (e11.trans hr2.file)
  have hdd : isDelim q = true := by rcases hq with h | h <;> (rw [h]; decide)
  refine Outcome.plain text file (skipGround_token '+' _ rfl (by decide)) ?_ (fun _ h => by cases h)
    ⟨q1, P ++ ['+'], by rw [ht]; simp, by simp, q2, by rw [q3, e12, hfr.inPattern]; exact hb⟩
  rw [tokAt_unq '+' _ rfl, (takeWhile_cons_nondelim '+' (q :: r') rfl).1, (takeWhile_cons_nondelim '+' (q :: r') rfl).2]
  simp [List.takeWhile_cons, List.dropWhile_cons, hdd]

/-! ### the dispatch of `lexGround` -/

theorem lexGround_eof (l : Lexer) (h : (peek (groundStart l)).1 = eofRune) :
    lexGround l = setState .done (peek (groundStart l)).2 := by
  unfold lexGround; simp only [h, if_true]

theorem lexGround_punct (l : Lexer) (h0 : (peek (groundStart l)).1 ≠ eofRune)
    (h : (peek (groundStart l)).1 = 59 ∨ (peek (groundStart l)).1 = 123 ∨ (peek (groundStart l)).1 = 125) :
    lexGround l = setState .ground (emit (.punct (UInt8.ofNat (peek (groundStart l)).1))
      (next (peek (groundStart l)).2).2) := by
  unfold lexGround
  simp only [h0, if_false]
  rcases h with h | h | h <;> simp [h]

theorem lexGround_sq (l : Lexer) (h : (peek (groundStart l)).1 = 39) :
    lexGround l = groundSQuote (peek (groundStart l)).2 := by
  unfold lexGround; simp [h, eofRune]

theorem lexGround_dq (l : Lexer) (h : (peek (groundStart l)).1 = 34) :
    lexGround l = setState .qstring (next (peek (groundStart l)).2).2 := by
  unfold lexGround; simp [h, eofRune]

theorem lexGround_slash (l : Lexer) (h : (peek (groundStart l)).1 = 47) :
    lexGround l = groundSlash (peek (groundStart l)).2 := by
  unfold lexGround; simp [h, eofRune]

theorem lexGround_plus (l : Lexer) (h : (peek (groundStart l)).1 = 43) :
    lexGround l = groundPlus (peek (groundStart l)).2 := by
  unfold lexGround; simp [h, eofRune]

theorem lexGround_other (l : Lexer) (h0 : (peek (groundStart l)).1 ≠ eofRune)
    (h1 : (peek (groundStart l)).1 ≠ 59) (h2 : (peek (groundStart l)).1 ≠ 123)
    (h3 : (peek (groundStart l)).1 ≠ 125) (h4 : (peek (groundStart l)).1 ≠ 39)
    (h5 : (peek (groundStart l)).1 ≠ 34) (h6 : (peek (groundStart l)).1 ≠ 47)
    (h7 : (peek (groundStart l)).1 ≠ 43) :
    lexGround l = setState .unquoted (peek (groundStart l)).2 := by
  unfold lexGround
  simp only [h0, h1, h2, h3, h4, h5, h6, h7, if_false, Bool.or_self, Bool.false_eq_true, decide_false]

theorem encodeChars_length_append (a b : List Char) :
    (encodeChars (a ++ b)).length = (encodeChars a).length + (encodeChars b).length := by
  rw [encodeChars_append, List.length_append]

theorem encodeChars_length_ge (a : List Char) : a.length ≤ (encodeChars a).length := by
  induction a with
  | nil => simp [encodeChars]
  | cons c r ih =>
    rw [encodeChars_cons, List.length_append, List.length_cons]
    have := encChar_length_pos c
    omega

/-- `unq_finish` for a lexer that has just been put into the state `lexUnquoted` -/
theorem unq_from (b : Bool) (f : Nat) (X : Lexer) (P tk rest0 : List Char) (c : Char) (r : List Char)
    (ht : text = P ++ c :: r) (hcr : c :: r = tk ++ rest0)
    (hc : Cur X (P ++ tk) rest0) (hp : PosN X (P ++ tk) rest0) (hst : X.start = (encodeChars P).length)
    (hsl : X.sline = lineAfter P) (hsc : X.scol = colAfter P) (hr : Ready file X) (hb : X.inPattern = b)
    (hne : 0 < (tk ++ rest0.takeWhile (fun x => !isDelim x)).length) :
    (nextTokenLoop (f + 2) (setState .unquoted X)).1 = some (conv text file
      ⟨.unq (tk ++ rest0.takeWhile (fun x => !isDelim x)), text.length - (r.length + 1)⟩) ∧
    ∃ pre', text = pre' ++ rest0.dropWhile (fun x => !isDelim x) ∧ P.length < pre'.length ∧
      Gnd file (nextTokenLoop (f + 2) (setState .unquoted X)).2 pre' (rest0.dropWhile (fun x => !isDelim x)) ∧
      (nextTokenLoop (f + 2) (setState .unquoted X)).2.inPattern = b :=
  unq_finish text file b f (setState .unquoted X) P tk rest0 c r ht hcr (hc.setState _) (posN_setState hp _)
    hst hsl hsc (hr.setState file _) (setState_state _ _) hb hne

/-- an unquoted token whose first character `c` (`/` or `+`) the lexer has read while looking at the next one -/
theorem unq_second (b : Bool) (f : Nat) (l1 : Lexer) (P : List Char) (c d : Char) (r1 : List Char)
    (ht : text = P ++ c :: d :: r1) (hk : Tk file l1 P (c :: d :: r1)) (hb : l1.inPattern = b)
    (hd : isDelim c = false) (hs : skipGround (c :: d :: r1) = some (c :: d :: r1)) :
    Outcome text file b P (c :: d :: r1) (nextTokenLoop (f + 2) (setState .unquoted (peek (next l1).2).2)) := by
  obtain ⟨_, n2, n3, _, n5⟩ := next_char l1 P (d :: r1) c hk.cur (hk.pos.posN _)
  obtain ⟨_, e2, e3, e4⟩ := peek_char (next l1).2 _ r1 d n2 (n3.posN _)
  have hfr := n5.trans e4
  obtain ⟨t1, t2⟩ := takeWhile_cons_nondelim c (d :: r1) hd
  refine Outcome.plain text file hs (by rw [tokAt_unq c _ hd, t1, t2]) (fun _ h => by cases h) ?_
  exact unq_from text file b f (peek (next l1).2).2 P [c] (d :: r1) c (d :: r1) ht rfl e2 e3
    (hfr.start.trans hk.start) (hfr.sline.trans hk.sline) (hfr.scol.trans hk.scol) (hfr.ready hk.ready)
    (hfr.inPattern.trans hb) (by simp)

/-- `/`: a comment is skipped and the lexer is in the ground state again, or `/` starts a token -/
theorem slash_step (b : Bool) (f : Nat) (l1 : Lexer) (P r : List Char) (ht : text = P ++ '/' :: r)
    (hk : Tk file l1 P ('/' :: r)) (hb : l1.inPattern = b) (hnl : EndsNL ('/' :: r)) :
    Outcome text file b P ('/' :: r) (nextTokenLoop (f + 2) (groundSlash l1)) ∨
    ∃ a suf2, '/' :: r = a ++ suf2 ∧ a ≠ [] ∧ skipGround ('/' :: r) = skipGround suf2 ∧
      Gnd file (groundSlash l1) (P ++ a) suf2 ∧ (groundSlash l1).inPattern = b := by
  cases r with
  | nil => exact absurd hnl (by simp [EndsNL])
  | cons d r1 =>
    by_cases hd1 : d = '/'
    · -- `//`
      subst hd1
      obtain ⟨s0, r2, hr1, hs0⟩ := List.eq_append_cons_of_mem (a := '\n') (xs := r1) (by simpa using hnl.mem (by simp))
      subst hr1
      obtain ⟨c1, c2⟩ := line_comment file l1 P s0 r2 hk hs0
      refine Or.inr ⟨['/'] ++ '/' :: s0, '\n' :: r2, by simp, by simp, ?_, by rw [← List.append_assoc]; exact c1,
        c2.trans hb⟩
      rw [skipGround_slash, afterSlash_line, skipLine_found s0 r2 hs0]
      exact (skipGround_blanks ['\n'] r2 (by simp [isSpace])).symm
    · by_cases hd2 : d = '*'
      · -- `/*`
        subst hd2
        have hcase := block_comment file l1 P r1 hk
        cases hfs : findSS r1 with
        | none =>
          rw [hfs] at hcase
          refine Or.inl (Outcome.fail text file ?_ (nextTokenLoop_keeps _ _ hcase))
          rw [specNext, skipGround_slash, afterSlash_block, skipBlock_none r1 hfs]
          rfl
        | some p =>
          obtain ⟨s0, r2⟩ := p
          rw [hfs] at hcase
          have hsp := findSS_split r1.length r1 (Nat.le_refl _) s0 r2 hfs
          refine Or.inr ⟨['/', '*'] ++ s0 ++ ['*', '/'], r2, by rw [hsp]; simp, by simp, ?_,
            by simpa only [List.append_assoc] using hcase.1, hcase.2.trans hb⟩
          rw [skipGround_slash, afterSlash_block, skipBlock_found r1 s0 r2 hfs]
      · -- a token that starts with `/`
        obtain ⟨_, n2, n3, _, _⟩ := next_char l1 P (d :: r1) '/' hk.cur (hk.pos.posN _)
        obtain ⟨e1, _, _, _⟩ := peek_char (next l1).2 _ r1 d n2 (n3.posN _)
        rw [groundSlash_tok l1 (by rw [e1]; exact fun h => hd1 ((toNat_eq_iff d '/').1 h))
          (by rw [e1]; exact fun h => hd2 ((toNat_eq_iff d '*').1 h))]
        refine Or.inl (unq_second text file b f l1 P '/' d r1 ht hk hb rfl ?_)
        rw [skipGround_slash]
        exact afterSlash_token (d :: r1) (fun c' r' h => by cases h; exact ⟨hd1, hd2⟩)

/-- `+`: a token of its own before a quote, the first character of an unquoted token otherwise -/
theorem plus_step (b : Bool) (f : Nat) (l1 : Lexer) (P r : List Char) (ht : text = P ++ '+' :: r)
    (hk : Tk file l1 P ('+' :: r)) (hb : l1.inPattern = b) (hnl : EndsNL ('+' :: r)) :
    Outcome text file b P ('+' :: r) (nextTokenLoop (f + 2) (groundPlus l1)) := by
  have hs : skipGround ('+' :: r) = some ('+' :: r) := skipGround_token '+' r rfl (by decide)
  cases r with
  | nil => exact absurd hnl (by simp [EndsNL])
  | cons d r1 =>
    by_cases hq : d = '"' ∨ d = '\''
    · exact plus_quote text file b (f + 1) l1 P r1 d hq ht hk hb
    · obtain ⟨_, n2, n3, _, _⟩ := next_char l1 P (d :: r1) '+' hk.cur (hk.pos.posN _)
      obtain ⟨e1, _, _, _⟩ := peek_char (next l1).2 _ r1 d n2 (n3.posN _)
      rw [groundPlus_tok l1 (by rw [e1]; exact fun h => hq (Or.inl ((toNat_eq_iff d '"').1 h)))
        (by rw [e1]; exact fun h => hq (Or.inr ((toNat_eq_iff d '\'').1 h)))]
      exact unq_second text file b f l1 P '+' d r1 ht hk hb rfl hs

/-- `lexGround` has skipped the white space `bl` and looks at the character `c` -/
theorem ground_tk (l : Lexer) (pre bl : List Char) (c : Char) (r : List Char) (hbl : ∀ x ∈ bl, isSpace x = true)
    (hcs : isSpace c = false) (hg : Gnd file l pre (bl ++ c :: r)) :
    (peek (groundStart l)).1 = c.toNat ∧ Tk file (peek (groundStart l)).2 (pre ++ bl) (c :: r) ∧
    (peek (groundStart l)).2.inPattern = l.inPattern := by
  obtain ⟨g1, g2, g3, g4, g5, g6⟩ := groundStart_chars l pre bl (c :: r) hbl
    (fun c' r' h => by cases h; exact hcs) hg.cur hg.posn
  obtain ⟨p1, p2, p3, p4⟩ := peek_char (groundStart l) _ r c g1 (g2.posN _)
  have hcn : c ≠ '\n' := by rintro rfl; cases hcs
  have hct : c ≠ '\t' := by rintro rfl; cases hcs
  exact ⟨p1, ⟨p2, pos_of_posN p3 hcn hct, p4.start.trans g3, p4.sline.trans g4, p4.scol.trans g5,
    p4.ready (g6.ready hg.ready), p4.state.trans (g6.state.trans hg.state)⟩, p4.inPattern.trans g6.inPattern⟩

/-- nothing but white space is left -/
theorem ground_eof (l : Lexer) (pre bl : List Char) (f : Nat) (hbl : ∀ x ∈ bl, isSpace x = true)
    (hg : Gnd file l pre (bl ++ [])) :
    Outcome text file l.inPattern (pre ++ bl) [] (nextTokenLoop (f + 1) (lexGround l)) := by
  obtain ⟨g1, _, _, _, _, g6⟩ := groundStart_chars l pre bl [] hbl (fun c r h => by cases h) hg.cur hg.posn
  obtain ⟨p1, _, _, _, p5⟩ := peek_eof (groundStart l) _ g1
  have hr1 : Ready file (peek (groundStart l)).2 := p5.ready (g6.ready hg.ready)
  rw [lexGround_eof l p1, nextTokenLoop_done f _ (hr1.setState file _).items (setState_state _ _)]
  exact Outcome.done text file (by rw [specNext, skipGround]; rfl) ⟨rfl, setState_state _ _, hr1.setState file _,
    (setState_inPattern _ _).trans (p5.inPattern.trans g6.inPattern)⟩

/-- one round of `lexGround` at the first character `c` behind the white space: the token that starts
there is delivered (or refused) as the reference reader has it, or a comment `a` has been skipped and the
lexer is in the ground state again -/
theorem ground_step (b : Bool) (f : Nat) (l : Lexer) (P : List Char) (c : Char) (r : List Char)
    (ht : text = P ++ c :: r) (hpk : (peek (groundStart l)).1 = c.toNat)
    (hk : Tk file (peek (groundStart l)).2 P (c :: r)) (hb : (peek (groundStart l)).2.inPattern = b)
    (hcs : isSpace c = false) (hnl : EndsNL (c :: r)) :
    Outcome text file b P (c :: r) (nextTokenLoop (f + 2) (lexGround l)) ∨
    ∃ a suf2, c :: r = a ++ suf2 ∧ a ≠ [] ∧ skipGround (c :: r) = skipGround suf2 ∧
      Gnd file (lexGround l) (P ++ a) suf2 ∧ (lexGround l).inPattern = b := by
  have k (d : Char) : (peek (groundStart l)).1 = d.toNat ↔ c = d := by rw [hpk]; exact toNat_eq_iff c d
  have hne0 : (peek (groundStart l)).1 ≠ eofRune := by rw [hpk]; exact char_ne_eof c
  by_cases hsl : c = '/'
  · subst hsl
    rw [lexGround_slash l hpk]
    exact slash_step text file b f _ P r ht hk hb hnl
  left
  have hs : skipGround (c :: r) = some (c :: r) := skipGround_token c r hcs hsl
  rcases delim_cases c hcs with h | h | h | h | h | hd
  · rw [lexGround_punct l hne0 (Or.inl ((k ';').2 h)), hpk]
    exact punct_case text file b (f + 1) _ P r c ht hk hb .semi (Or.inl ⟨h, rfl⟩)
  · rw [lexGround_punct l hne0 (Or.inr (Or.inl ((k '{').2 h))), hpk]
    exact punct_case text file b (f + 1) _ P r c ht hk hb .lbrace (Or.inr (Or.inl ⟨h, rfl⟩))
  · rw [lexGround_punct l hne0 (Or.inr (Or.inr ((k '}').2 h))), hpk]
    exact punct_case text file b (f + 1) _ P r c ht hk hb .rbrace (Or.inr (Or.inr ⟨h, rfl⟩))
  · subst h
    rw [lexGround_sq l hpk]
    exact sq_case text file b (f + 1) _ P r ht hk hb
  · subst h
    rw [lexGround_dq l hpk]
    exact dq_case text file b f _ P r ht hk hb
  · by_cases hpl : c = '+'
    · subst hpl
      rw [lexGround_plus l hpk]
      exact plus_step text file b f _ P r ht hk hb hnl
    · -- any other character starts an unquoted token
      simp only [isDelim, Bool.or_eq_false_iff, decide_eq_false_iff_not] at hd
      rw [lexGround_other l hne0 (fun h => hd.1.1.1.1.2 ((k ';').1 h)) (fun h => hd.1.1.1.2 ((k '{').1 h))
        (fun h => hd.1.1.2 ((k '}').1 h)) (fun h => hd.2 ((k '\'').1 h)) (fun h => hd.1.2 ((k '"').1 h))
        (fun h => hsl ((k '/').1 h)) (fun h => hpl ((k '+').1 h))]
      have hd' : isDelim c = false := by simp [isDelim, hcs, hd]
      refine Outcome.plain text file hs (tokAt_unq c r hd') (fun _ he => by cases he) ?_
      exact unq_from text file b f _ P [] (c :: r) c r ht rfl (by rw [List.append_nil]; exact hk.cur)
        (by rw [List.append_nil]; exact hk.pos.posN _) hk.start hk.sline hk.scol hk.ready hb
        (by simp [List.takeWhile_cons, hd'])

/-- **(d)** `NextToken` from the ground state against the next token of the reference reader: induction
over the comments in front of the token -/
theorem ground_sim : ∀ (n : Nat) (suf : List Char), suf.length ≤ n → ∀ (pre : List Char) (l : Lexer) (f : Nat),
    text = pre ++ suf → Gnd file l pre suf → EndsNL suf → (encodeChars suf).length + 3 ≤ f →
    Outcome text file l.inPattern pre suf (nextTokenLoop f l) := by
  intro n
  induction n using Nat.strongRecOn with
  | _ n ih =>
    intro suf hn pre l f ht hg hnl hf
    obtain ⟨f, rfl⟩ : ∃ f', f = f' + 3 := ⟨f - 3, by omega⟩
    rw [nextTokenLoop_ground (f + 2) l hg.ready.items hg.state]
    obtain ⟨bl, suf', rfl, hbl, hhead⟩ : ∃ bl suf', suf = bl ++ suf' ∧ (∀ x ∈ bl, isSpace x = true) ∧
        ∀ c r, suf' = c :: r → isSpace c = false :=
      ⟨suf.takeWhile isSpace, suf.dropWhile isSpace, List.takeWhile_append_dropWhile.symm,
        fun x hx => mem_takeWhile_pos isSpace suf x hx, fun c r h => by
          have := List.head?_dropWhile_not isSpace suf
          rw [h] at this
          simpa using this⟩
    refine Outcome_congr text file _ pre (pre ++ bl) _ suf' _ (skipGround_blanks bl suf' hbl) (by simp) ?_
    cases suf' with
    | nil => exact ground_eof text file l pre bl (f + 1) hbl hg
    | cons c r =>
      have hcs := hhead c r rfl
      obtain ⟨k1, k2, k3⟩ := ground_tk file l pre bl c r hbl hcs hg
      have hnl' : EndsNL (c :: r) := hnl.suffix
      rcases ground_step text file l.inPattern f l (pre ++ bl) c r (by rw [ht, List.append_assoc]) k1 k2 k3 hcs hnl'
        with h | ⟨a, suf2, hs, hne, hsk, hg2, hb2⟩
      · exact h
      · -- a comment `a` has been skipped: the same again before the shorter `suf2`
        have ha : 0 < a.length := List.length_pos_iff.mpr hne
        have hlen : (c :: r).length = a.length + suf2.length := by rw [hs, List.length_append]
        have henc : (encodeChars (bl ++ c :: r)).length =
            (encodeChars bl).length + ((encodeChars a).length + (encodeChars suf2).length) := by
          rw [hs, encodeChars_length_append, encodeChars_length_append]
        have hge := encodeChars_length_ge a
        rw [List.length_append] at hn
        have hout := ih suf2.length (by omega) suf2 (Nat.le_refl _) (pre ++ bl ++ a) (lexGround l) (f + 2)
          (by rw [ht, hs]; simp) hg2 (by rw [hs] at hnl'; exact hnl'.suffix) (by omega)
        rw [hb2] at hout
        exact Outcome_congr text file _ _ _ _ _ _ hsk (by simp) hout

end

end Goyang.Lemmas.TokSim
