import Goyang.Lemmas.ListAux
import Goyang.Lemmas.SortAux
import Goyang.Lemmas.IncludeMain
import Goyang.Lemmas.SortUnique
/-
C13 (third sentence), part 7: the canonical dump (`Model/Dump.lean`, what the correspondence runner
prints and compares) of the owner's tree equals the dump of the unsplit module's tree.
-/
namespace Goyang.Lemmas.IncludeDump
open Goyang.Model Goyang.Spec.Include Goyang.Lemmas.Tree Goyang.Spec.Tree Goyang.Lemmas.IncludeRel
open Goyang.Lemmas.IncludeMain

/-! ### sorting by name -/

/-- The order the dump walks children in. -/
def nameLt : Entry → Entry → Bool := fun a b => a.name < b.name

theorem sortBy_ren (σ : Nat → Nat) (l : List Entry) : sortBy nameLt (l.map (ren σ)) = (sortBy nameLt l).map (ren σ) :=
  SortAux.sortBy_map (ren σ) nameLt nameLt l (fun a _ b _ => by unfold nameLt; rw [ren_name, ren_name])

theorem sortBy_perm_names (l₁ l₂ : List Entry) (hp : l₁.Perm l₂) (hnd : (l₂.map (·.name)).Nodup) :
    sortBy nameLt l₁ = sortBy nameLt l₂ := by
  have hnd₁ : (l₁.map (·.name)).Nodup := ((hp.map _).nodup_iff).2 hnd
  refine SortUnique.sortBy_perm_invariant nameLt (fun a => by unfold nameLt; simp) ?_ hp ?_
  · intro a b c h1 h2
    unfold nameLt at *
    simp only [decide_eq_true_eq] at *
    exact String.lt_trans h1 h2
  · intro a ha b hb hab
    have hne : a.name ≠ b.name := fun e => hab (ListAux.eq_of_nodup_map _ _ hnd₁ _ ha _ hb e)
    unfold nameLt
    simp only [decide_eq_true_eq]
    exact OrderIndep.str_total hne


/-! ### the path string -/

theorem pathString_go_ren (σ : Nat → Nat) : ∀ (p : Path) (e : Entry) (acc : String),
    Entry.pathString.go (ren σ e) p acc = Entry.pathString.go e p acc
  | [], e, acc => by unfold Entry.pathString.go; rfl
  | s :: rest, e, acc => by
    unfold Entry.pathString.go
    simp only [ren_child?, ren_inp, ren_out]
    cases s with
    | child k =>
      dsimp only
      cases e.child? k with
      | none => rfl
      | some c => simp only [Option.map_some, ren_name]; exact pathString_go_ren σ rest c _
    | input =>
      dsimp only
      cases e.inp with
      | nil => rfl
      | cons c cs => simp only [List.map_cons, List.head?_cons, ren_name]; exact pathString_go_ren σ rest c _
    | output =>
      dsimp only
      cases e.out with
      | nil => rfl
      | cons c cs => simp only [List.map_cons, List.head?_cons, ren_name]; exact pathString_go_ren σ rest c _

theorem pathString_sameTop (σ : Nat → Nat) (t' t : Entry) (h : SameTop σ t' t) (hnd : (t.dir.map (·.name)).Nodup)
    (p : Path) : t'.pathString p = t.pathString p := by
  unfold Entry.pathString
  have hn : t'.name = t.name := by
    have := h.1; unfold SameData at this
    unfold Entry.name; rw [this]
  rw [hn]
  cases p with
  | nil => unfold Entry.pathString.go; rfl
  | cons s rest =>
    unfold Entry.pathString.go
    cases s with
    | child k =>
      dsimp only
      rw [← child?_sameTop σ t' t h hnd k]
      cases t'.child? k with
      | none => rfl
      | some c => simp only [Option.map_some, ren_name]; exact (pathString_go_ren σ rest c _).symm
    | input => dsimp only; rw [h.2.2.1.1, h.2.2.1.2]
    | output => dsimp only; rw [h.2.2.2.1, h.2.2.2.2]

/-! ### the depth -/

theorem depthL_eq (l : List Entry) : entryDepth.depthL l = l.foldr (fun e m => max (entryDepth e) m) 0 := by
  induction l with
  | nil => rfl
  | cons a l ih => simp [entryDepth.depthL, ih]

theorem depthL_perm {l₁ l₂ : List Entry} (h : l₁.Perm l₂) : entryDepth.depthL l₁ = entryDepth.depthL l₂ := by
  induction h with
  | nil => rfl
  | cons x _ ih => simp [entryDepth.depthL, ih]
  | swap x y l => simp only [entryDepth.depthL]; omega
  | trans _ _ ih1 ih2 => exact ih1.trans ih2

theorem entryDepth_ren (σ : Nat → Nat) (e : Entry) : entryDepth (ren σ e) = entryDepth e := by
  induction e using entry_ind with
  | h d c i o hc hi ho =>
    rw [ren_mk]
    have hL : ∀ (l : List Entry), (∀ x ∈ l, entryDepth (ren σ x) = entryDepth x) →
        entryDepth.depthL (l.map (ren σ)) = entryDepth.depthL l := by
      intro l
      induction l with
      | nil => intro _; rfl
      | cons a l ih =>
        intro h
        simp only [List.map_cons, entryDepth.depthL]
        rw [h a (List.mem_cons_self ..), ih (fun x hx => h x (List.mem_cons_of_mem _ hx))]
    simp only [entryDepth]
    rw [hL c hc, hL i hi, hL o ho]

theorem entryDepth_sameTop (σ : Nat → Nat) (t' t : Entry) (h : SameTop σ t' t) : entryDepth t' = entryDepth t := by
  cases t' with | mk d' c' i' o' =>
  cases t with | mk d c i o =>
  obtain ⟨_, h2, ⟨h3, h3'⟩, ⟨h4, h4'⟩⟩ := h
  simp only [Entry.dir, Entry.inp, Entry.out] at h2 h3 h3' h4 h4'
  subst h3 h3' h4 h4'
  simp only [entryDepth]
  have hmap : ∀ (l : List Entry), entryDepth.depthL l = entryDepth.depthL (l.map (ren σ)) := by
    intro l
    induction l with
    | nil => rfl
    | cons a l ih => simp only [List.map_cons, entryDepth.depthL]; rw [entryDepth_ren, ih]
  have : entryDepth.depthL c' = entryDepth.depthL c := by
    rw [← depthL_perm h2, renL_eq_map]
    exact hmap c'
  rw [this]


/-! ### one record -/

/-- The data of a node that the dump prints. -/
def DF (d' d : EData) : Prop :=
  d'.kind = d.kind ∧ d'.hasDir = d.hasDir ∧ d'.isRpc = d.isRpc ∧ d'.config = d.config ∧ d'.mandatory = d.mandatory ∧
  d'.default = d.default ∧ d'.units = d.units ∧ d'.key = d.key ∧ d'.listAttr = d.listAttr ∧ d'.type = d.type

theorem DF_ren (σ : Nat → Nat) (d : EData) : DF d (renD σ d) := ⟨rfl, rfl, rfl, rfl, rfl, rfl, rfl, rfl, rfl, rfl⟩

theorem DF_sameData {d' d : EData} (h : SameData d' d) : DF d' d := by
  unfold SameData at h
  rw [h]
  exact ⟨rfl, rfl, rfl, rfl, rfl, rfl, rfl, rfl, rfl, rfl⟩

/-- What the dump reads besides the node: the same in both worlds, at every path. -/
structure DW (R R' : Registry) (f f' : Forest) (t' t : Entry) (id : Nat) : Prop where
  ro : ∀ p, t'.readOnlyAt p = t.readOnlyAt p
  ns : ∀ p, namespaceAt R' f' (id, p) = namespaceAt R f (id, p)
  im : ∀ p, instantiatingModuleAt R' f' (id, p) = instantiatingModuleAt R f (id, p)
  ps : ∀ p, t'.pathString p = t.pathString p

theorem dumpNode_eq {R R' : Registry} {f f' : Forest} {t' t : Entry} {id : Nat} (hW : DW R R' f f' t' t id)
    (nm : String) (p : Path) (e' e : Entry) (hd : DF e'.d e.d) :
    dumpNode R' f' nm t' (id, p) e' = dumpNode R f nm t (id, p) e := by
  unfold dumpNode
  obtain ⟨h1, h2, h3, h4, h5, h6, h7, h8, h9, h10⟩ := hd
  simp only [h1, h2, h3, h4, h5, h6, h7, h8, h9, h10, hW.ro p, hW.ns p, hW.im p, hW.ps p]

/-! ### the walk -/

theorem dump_sort_eq (l : List Entry) :
    sortBy (fun (a b : Entry) => decide (a.name < b.name)) l = sortBy nameLt l := rfl

theorem dumpTree_succ (reg : Registry) (f : Forest) (nm : String) (root : Entry) (id fuel : Nat) (p : Path) (e : Entry) :
    dumpTree reg f nm root id (fuel + 1) p e =
      dumpNode reg f nm root (id, p) e ::
        (((sortBy nameLt e.dir).map fun c => dumpTree reg f nm root id fuel (p ++ [.child c.name]) c).flatten ++
         (e.inp.map fun c => dumpTree reg f nm root id fuel (p ++ [.input]) c).flatten ++
         (e.out.map fun c => dumpTree reg f nm root id fuel (p ++ [.output]) c).flatten) := rfl

theorem dumpTree_ren {R R' : Registry} {f f' : Forest} {t' t : Entry} {id : Nat} (hW : DW R R' f f' t' t id)
    (σ : Nat → Nat) (nm : String) : ∀ (fuel : Nat) (p : Path) (e' : Entry),
    dumpTree R' f' nm t' id fuel p e' = dumpTree R f nm t id fuel p (ren σ e')
  | 0, _, _ => rfl
  | fuel + 1, p, e' => by
    rw [dumpTree_succ, dumpTree_succ, dumpNode_eq hW nm p e' (ren σ e') (by rw [ren_d]; exact DF_ren σ _),
      ren_dir, ren_inp, ren_out, sortBy_ren, List.map_map, List.map_map, List.map_map]
    have h1 : ((sortBy nameLt e'.dir).map fun c => dumpTree R' f' nm t' id fuel (p ++ [.child c.name]) c) =
        (sortBy nameLt e'.dir).map ((fun c => dumpTree R f nm t id fuel (p ++ [.child c.name]) c) ∘ ren σ) := by
      apply List.map_congr_left
      intro c _
      simp only [Function.comp, ren_name]
      exact dumpTree_ren hW σ nm fuel _ c
    have h2 : (e'.inp.map fun c => dumpTree R' f' nm t' id fuel (p ++ [.input]) c) =
        e'.inp.map ((fun c => dumpTree R f nm t id fuel (p ++ [.input]) c) ∘ ren σ) := by
      apply List.map_congr_left
      intro c _
      exact dumpTree_ren hW σ nm fuel _ c
    have h3 : (e'.out.map fun c => dumpTree R' f' nm t' id fuel (p ++ [.output]) c) =
        e'.out.map ((fun c => dumpTree R f nm t id fuel (p ++ [.output]) c) ∘ ren σ) := by
      apply List.map_congr_left
      intro c _
      exact dumpTree_ren hW σ nm fuel _ c
    rw [h1, h2, h3]

/-- **The dump of the owner's tree is the dump of the unsplit module's tree.** -/
theorem dumpTree_root {R R' : Registry} {f f' : Forest} {t' t : Entry} {id : Nat} (hW : DW R R' f f' t' t id)
    (σ : Nat → Nat) (nm : String) (h : SameTop σ t' t) (hnd : (t.dir.map (·.name)).Nodup) :
    dumpTree R' f' nm t' id (entryDepth t' + 1) [] t' = dumpTree R f nm t id (entryDepth t + 1) [] t := by
  rw [entryDepth_sameTop σ t' t h, dumpTree_succ, dumpTree_succ, dumpNode_eq hW nm [] t' t (DF_sameData h.1),
    h.2.2.1.1, h.2.2.1.2, h.2.2.2.1, h.2.2.2.2]
  have hs : sortBy nameLt t.dir = (sortBy nameLt t'.dir).map (ren σ) := by
    rw [← sortBy_ren, ← renL_eq_map]
    exact (sortBy_perm_names _ _ h.2.1 hnd).symm
  rw [hs, List.map_map]
  have h1 : ((sortBy nameLt t'.dir).map fun c => dumpTree R' f' nm t' id (entryDepth t) ([] ++ [.child c.name]) c) =
      (sortBy nameLt t'.dir).map ((fun c => dumpTree R f nm t id (entryDepth t) ([] ++ [.child c.name]) c) ∘ ren σ) := by
    apply List.map_congr_left
    intro c _
    simp only [Function.comp, ren_name]
    exact dumpTree_ren hW σ nm _ _ c
  rw [h1, List.map_nil, List.map_nil, List.map_nil, List.map_nil]


/-! ### the instantiating module -/

theorem processAll_reg (reg : Registry) (opts : Opts) (plug : Plug) : (processAll reg opts plug).reg = reg := by
  rw [processAll_eq]
  split
  · rfl
  · split <;> rfl

theorem all_map_congr {α β : Type} (f : α → β) (p : β → Bool) (q : α → Bool) : ∀ (l : List α),
    (∀ x ∈ l, p (f x) = q x) → (l.map f).all p = l.all q
  | [], _ => rfl
  | x :: xs, h => by
    simp only [List.map_cons, List.all_cons]
    rw [h x (List.mem_cons_self ..), all_map_congr f p q xs (fun y hy => h y (List.mem_cons_of_mem _ hy))]

section Inst
variable {s : Split} {R R' : Registry}

theorem repl_name (ht : TextOK s) (hr : RegsOK s R R') {x : Mod} (hx : x ∈ R.mods) : (IncludeLink.repl s x).name = x.name := by
  by_cases h : x.seq = s.m.seq
  · rw [IncludeLink.eq_m_of_seq hr hx h, IncludeLink.repl_m]
    exact ht.owner_arg
  · rw [IncludeLink.repl_of_ne h]

theorem repl_ns (ht : TextOK s) (hr : RegsOK s R R') {x : Mod} (hx : x ∈ R.mods) :
    (IncludeLink.repl s x).stmt.argOf? "namespace" = x.stmt.argOf? "namespace" := by
  by_cases h : x.seq = s.m.seq
  · rw [IncludeLink.eq_m_of_seq hr hx h, IncludeLink.repl_m]
    unfold Stmt.argOf?
    rw [IncludeBind.one?_congr (ht.kept "namespace" (by decide))]
  · rw [IncludeLink.repl_of_ne h]

theorem mem_distinct_mods {R : Registry} {x : Mod} (h : x ∈ R.distinctModules) : x ∈ R.mods :=
  (List.mem_filter.1 h).1

/-- The instantiating module is found among the same modules: the owner stands for `m`. -/
theorem inst_split (ht : TextOK s) (hr : RegsOK s R R') (f f' : Forest) (loc : Loc)
    (hns : namespaceAt R' f' loc = namespaceAt R f loc) :
    instantiatingModuleAt R' f' loc = instantiatingModuleAt R f loc := by
  unfold instantiatingModuleAt
  simp only [hns]
  rw [IncludeLink.distinctModules_split hr, List.filter_map]
  have hfilt : R.distinctModules.filter ((fun m : Mod => (m.stmt.argOf? "namespace").getD "" == namespaceAt R f loc) ∘ IncludeLink.repl s) =
      R.distinctModules.filter (fun m : Mod => (m.stmt.argOf? "namespace").getD "" == namespaceAt R f loc) := by
    apply List.filter_congr
    intro x hx
    simp only [Function.comp, repl_ns ht hr (mem_distinct_mods hx)]
  rw [hfilt]
  have hsub : ∀ x ∈ R.distinctModules.filter (fun m : Mod => (m.stmt.argOf? "namespace").getD "" == namespaceAt R f loc),
      x ∈ R.mods := fun x hx => mem_distinct_mods (List.mem_filter.1 hx).1
  generalize R.distinctModules.filter (fun m : Mod => (m.stmt.argOf? "namespace").getD "" == namespaceAt R f loc) = l at hsub
  cases l with
  | nil => rfl
  | cons m0 rest =>
    simp only [List.map_cons]
    rw [repl_name ht hr (hsub m0 (List.mem_cons_self ..))]
    have : (rest.map (IncludeLink.repl s)).all (fun x => x.name == m0.name) = rest.all (fun x => x.name == m0.name) := by
      apply all_map_congr
      intro x hx
      rw [repl_name ht hr (hsub x (List.mem_cons_of_mem _ hx))]
    rw [this]

end Inst

/-! ### the dump of the two results -/

section Final
variable {s : Split} {R R' : Registry} (opts : Opts) (plug plug' : Plug) (h : IsSplitOf s R R' plug plug')

include h in
/-- **The canonical dumps are equal** (no augment or deviation statement in the set). -/
theorem dumpOf_split (hna : NoAugDev R) (hclean : (processAll R opts plug).errors = []) :
    dumpOf (processAll R' opts plug') s.owner = dumpOf (processAll R opts plug) s.m := by
  obtain ⟨_, _, ⟨t, ht⟩, k4⟩ := process_split opts plug plug' h hna hclean
  obtain ⟨t', ht', hst⟩ := k4 t ht
  have hnd := names_nodup_of_clean R opts plug hclean _ t ht
  have hW : DW R R' (processAll R opts plug).forest (processAll R' opts plug').forest t' t s.m.seq :=
    ⟨fun p => readOnlyAt_sameTop s.σ t' t hst hnd p,
     fun p => (process_split_paths opts plug plug' h hna hclean p).1,
     fun p => inst_split h.text h.regs _ _ _ (process_split_paths opts plug plug' h hna hclean p).1,
     fun p => pathString_sameTop s.σ t' t hst hnd p⟩
  unfold dumpOf
  rw [processAll_reg, processAll_reg, h.regs.owner_seq, ht, ht', IncludeLink.owner_fullName h.text]
  exact dumpTree_root hW s.σ _ hst hnd

end Final

end Goyang.Lemmas.IncludeDump
