import Goyang.Lemmas.SortUnique
/-
Order-independence of the places where the Go code still ranges over a map (property C05):
`importErrors` / `checkErrors` over `Entry.Dir` (collection order of errors), `merge` over
`oe.Dir`, `FixChoice` over `Entry.Dir`, and the canonical error set of the model (`canonErrs`).
In the model a Go map is the list of its values in *some* order; "any map order" is "any
permutation of that list".  Core Lean only.
-/
open Goyang.Lemmas.SortAux (fixChoiceL_eq_map)
namespace Goyang.Lemmas.OrderIndep
open Goyang.Model Goyang.Lemmas.SortUnique

/-! ### errors are collected as a multiset -/

theorem allErrorsL_append (a b : List Entry) : Entry.allErrorsL (a ++ b) = Entry.allErrorsL a ++ Entry.allErrorsL b := by
  induction a with
  | nil => rfl
  | cons x t ih => simp [Entry.allErrorsL, ih, List.append_assoc]

/-- Walking the children in another order collects the same errors, as a multiset. -/
theorem allErrorsL_perm {c₁ c₂ : List Entry} (h : c₁.Perm c₂) : (Entry.allErrorsL c₁).Perm (Entry.allErrorsL c₂) := by
  induction h with
  | nil => exact List.Perm.refl _
  | cons x _ ih => exact List.Perm.append_left _ ih
  | swap x y l =>
    simp only [Entry.allErrorsL]
    rw [← List.append_assoc, ← List.append_assoc]
    exact List.Perm.append_right _ List.perm_append_comm
  | trans _ _ ih₁ ih₂ => exact ih₁.trans ih₂

theorem allErrors_perm (d : EData) {c₁ c₂ : List Entry} (i o : List Entry) (h : c₁.Perm c₂) :
    (Entry.allErrors (.mk d c₁ i o)).Perm (Entry.allErrors (.mk d c₂ i o)) := by
  simp only [Entry.allErrors]
  exact List.Perm.append_right _ (List.Perm.append_right _ (List.Perm.append_right _ (allErrorsL_perm h)))

/-! ### the canonical error set -/

/-- The comparison `canonErrs` sorts with. -/
def errLt (a b : Err) : Bool :=
  if a.file != b.file then a.file < b.file
  else if a.line != b.line then a.line < b.line
  else if a.col != b.col then a.col < b.col
  else a.cls < b.cls

theorem canonErrs_eq (es : List Err) : canonErrs es = (sortBy errLt es).eraseDups := rfl

theorem str_total {a b : String} (h : a ≠ b) : a < b ∨ b < a := by
  by_cases h1 : a < b
  · exact Or.inl h1
  · by_cases h2 : b < a
    · exact Or.inr h2
    · exact absurd (String.le_antisymm (String.not_lt.mp h2) (String.not_lt.mp h1)) h

theorem errLt_eq : errLt = lexBy Err.file (· < ·) (lexBy Err.line (· < ·) (lexBy Err.col (· < ·)
    fun a b => decide (a.cls < b.cls))) := rfl

theorem errLt_irrefl (a : Err) : errLt a a = false := by
  rw [errLt_eq]
  exact lexBy_irrefl (lexBy_irrefl (lexBy_irrefl fun a : Err => decide_eq_false (String.lt_irrefl a.cls))) a

theorem errLt_total {a b : Err} (h : a ≠ b) : errLt a b = true ∨ errLt b a = true := by
  rw [errLt_eq]
  refine lexBy_total str_total fun hf => lexBy_total Nat.lt_or_gt_of_ne fun hl =>
    lexBy_total Nat.lt_or_gt_of_ne fun hc => ?_
  have hk : a.cls ≠ b.cls := fun hk => h (by cases a; cases b; simp_all)
  exact (str_total hk).imp decide_eq_true decide_eq_true

theorem errLt_trans (a b c : Err) (h1 : errLt a b = true) (h2 : errLt b c = true) : errLt a c = true := by
  revert h1 h2
  rw [errLt_eq]
  exact lexBy_trans String.lt_irrefl String.lt_trans (lexBy_trans Nat.lt_irrefl Nat.lt_trans
    (lexBy_trans (rest := fun a b : Err => decide (a.cls < b.cls)) Nat.lt_irrefl Nat.lt_trans fun _ _ _ h1 h2 =>
      decide_eq_true (String.lt_trans (of_decide_eq_true h1) (of_decide_eq_true h2)))) a b c

/-- The model's canonical error set does not depend on the order in which the errors were
collected. -/
theorem canonErrs_perm_invariant {l₁ l₂ : List Err} (h : l₁.Perm l₂) : canonErrs l₁ = canonErrs l₂ := by
  rw [canonErrs_eq, canonErrs_eq,
    sortBy_perm_invariant errLt errLt_irrefl errLt_trans h (fun a _ b _ hne => errLt_total hne)]

/-! ### `merge` (Go: `for k, v := range oe.Dir`) -/

/-- The namespace stamp `merge` puts on a copied child. -/
def stamp (ns : Option String) (v : Entry) : Entry :=
  match ns with
  | some n => v.withD fun d => { d with ns := some n }
  | none => v

theorem stamp_name (ns : Option String) (v : Entry) : (stamp ns v).name = v.name := by
  cases ns <;> cases v <;> rfl

/-- One iteration of the loop in `merge`; `x` is the duplicate-node error. -/
def step (ns : Option String) (x : Err) (e v : Entry) : Entry :=
  match e.child? (stamp ns v).name with
  | some _ => e.addErr x
  | none => e.withDir (e.dir ++ [stamp ns v])

theorem merge_eq (e : Entry) (ns : Option String) (oe : Entry) :
    e.merge ns oe = oe.dir.foldl (step ns (Err.at_ oe.d.node "duplicate-node")) (e.importErrors oe) := by
  cases ns <;> rfl

/-- The key `k` is present among the children `c` (Go: `e.Dir[k] != nil`). -/
def taken (c : List Entry) (k : String) : Bool := (c.find? (·.name == k)).isSome

theorem taken_append_singleton (c : List Entry) (s : Entry) (k : String) :
    taken (c ++ [s]) k = (taken c k || s.name == k) := by
  unfold taken
  rw [List.find?_append]
  cases h : c.find? (·.name == k) <;> simp [List.find?_cons]
  cases s.name == k <;> rfl

/-- Closed form of the loop when the keys of `oe.Dir` are unique (they are keys of a map): every
child whose name is free lands in `Dir`, every other one costs one error; what was added by
earlier iterations never matters to later ones. -/
theorem foldl_step (ns : Option String) (x : Err) (vs : List Entry) (hnd : (vs.map Entry.name).Nodup)
    (d : EData) (c i o : List Entry) :
    vs.foldl (step ns x) (.mk d c i o) =
      .mk { d with errors := d.errors ++ (vs.filter fun v => taken c v.name).map fun _ => x }
          (c ++ (vs.filter fun v => !taken c v.name).map (stamp ns)) i o := by
  induction vs generalizing d c with
  | nil => simp
  | cons v t ih =>
    rw [List.map_cons, List.nodup_cons] at hnd
    rw [List.foldl_cons]
    have hstep : step ns x (.mk d c i o) v =
        if taken c v.name then .mk { d with errors := d.errors ++ [x] } c i o
        else .mk d (c ++ [stamp ns v]) i o := by
      unfold step taken Entry.child?
      rw [stamp_name]
      simp only [Entry.dir]
      cases h : c.find? (·.name == v.name) <;> simp [Entry.addErr, Entry.withD, Entry.withDir]
    rw [hstep]
    by_cases htk : taken c v.name = true
    · simp only [htk, ↓reduceIte]
      rw [ih hnd.2]
      simp [htk, List.append_assoc]
    · have htk' : taken c v.name = false := by simpa using htk
      simp only [htk', Bool.false_eq_true, ↓reduceIte]
      rw [ih hnd.2]
      have hcongr : ∀ w ∈ t, taken (c ++ [stamp ns v]) w.name = taken c w.name := by
        intro w hw
        rw [taken_append_singleton, stamp_name]
        have : v.name ≠ w.name := fun e => hnd.1 (e ▸ List.mem_map_of_mem hw)
        simp [this]
      have f1 : (t.filter fun w => taken (c ++ [stamp ns v]) w.name) = t.filter fun w => taken c w.name :=
        List.filter_congr fun w hw => hcongr w hw
      have f2 : (t.filter fun w => !taken (c ++ [stamp ns v]) w.name) = t.filter fun w => !taken c w.name :=
        List.filter_congr fun w hw => by rw [hcongr w hw]
      rw [f1, f2]
      simp [htk', List.append_assoc]

/-- `merge` does not depend on the order in which the map `oe.Dir` is walked: another order
gives the same children (as a set: a permutation of the insertion-ordered list), the same
multiset of errors, and the same everything else. -/
theorem merge_perm (e : Entry) (ns : Option String) (od : EData) {c₁ c₂ : List Entry} (oi oo : List Entry)
    (h : c₁.Perm c₂) (hnd : (c₁.map Entry.name).Nodup) :
    (e.merge ns (.mk od c₁ oi oo)).dir.Perm (e.merge ns (.mk od c₂ oi oo)).dir ∧
    (e.merge ns (.mk od c₁ oi oo)).d.errors.Perm (e.merge ns (.mk od c₂ oi oo)).d.errors ∧
    { (e.merge ns (.mk od c₁ oi oo)).d with errors := [] } = { (e.merge ns (.mk od c₂ oi oo)).d with errors := [] } ∧
    (e.merge ns (.mk od c₁ oi oo)).inp = (e.merge ns (.mk od c₂ oi oo)).inp ∧
    (e.merge ns (.mk od c₁ oi oo)).out = (e.merge ns (.mk od c₂ oi oo)).out := by
  have hnd₂ : (c₂.map Entry.name).Nodup := (h.map Entry.name).nodup_iff.mp hnd
  obtain ⟨d, c, i, o⟩ := e
  rw [merge_eq, merge_eq]
  simp only [Entry.importErrors, Entry.addErrs, Entry.withD, Entry.d, Entry.dir, Entry.inp, Entry.out]
  rw [foldl_step ns _ c₁ hnd, foldl_step ns _ c₂ hnd₂]
  refine ⟨?_, ?_, ?_, ?_, ?_⟩ <;> try trivial
  · exact List.Perm.append_left _ ((h.filter _).map _)
  · refine List.Perm.append ?_ ((h.filter _).map _)
    refine List.Perm.append_left _ ?_
    exact List.Perm.append_right _ (List.Perm.append_right _ (List.Perm.append_left _ (allErrorsL_perm h)))

/-! ### `FixChoice` (Go: two `range e.Dir` loops) -/

/-- The implicit case `FixChoice` puts around a non-case child of a choice. -/
def wrapOne (ce : Entry) : Entry :=
  if ce.d.kind == .case_ then ce
  else .mk { name := ce.d.name, kind := .case_, hasDir := true, config := ce.d.config, node := ce.d.node,
             nodeMod := ce.d.nodeMod, nodeKw := "case" } [ce] [] []

theorem wrapCases_eq_map (l : List Entry) : wrapCases l = l.map wrapOne := by
  induction l with
  | nil => rfl
  | cons a t ih => simp [wrapCases, wrapOne, ih]

/-- `FixChoice` treats every child on its own: walking `Dir` in another order gives the same
children (as a set), and nothing else changes. -/
theorem fixChoice_perm (d : EData) {c₁ c₂ : List Entry} (i o : List Entry) (h : c₁.Perm c₂) :
    (fixChoice (.mk d c₁ i o)).dir.Perm (fixChoice (.mk d c₂ i o)).dir ∧
    (fixChoice (.mk d c₁ i o)).d = (fixChoice (.mk d c₂ i o)).d ∧
    (fixChoice (.mk d c₁ i o)).inp = (fixChoice (.mk d c₂ i o)).inp ∧
    (fixChoice (.mk d c₁ i o)).out = (fixChoice (.mk d c₂ i o)).out := by
  simp only [fixChoice, Entry.dir, Entry.d, Entry.inp, Entry.out, fixChoiceL_eq_map, wrapCases_eq_map]
  refine ⟨?_, ?_, ?_, ?_⟩ <;> try trivial
  split
  · exact (h.map _).map _
  · exact h.map _

/-- The result for one child does not depend on its siblings. -/
theorem fixChoice_children (d : EData) (c i o : List Entry) :
    (fixChoice (.mk d c i o)).dir =
      c.map fun ce => if d.kind == .choice && d.errors.isEmpty then wrapOne (fixChoice ce) else fixChoice ce := by
  simp only [fixChoice, Entry.dir, fixChoiceL_eq_map, wrapCases_eq_map]
  split <;> simp

end Goyang.Lemmas.OrderIndep
