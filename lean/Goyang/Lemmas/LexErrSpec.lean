/-
Pure facts about the error line of the reference reader (`lexErr`): the opener of an unclosed block
comment by shape of the text, when an error line is due, and what a line feed appended to the text
changes (nothing).
-/
import Goyang.Lemmas.LexErr
import Goyang.Lemmas.Scan
import Goyang.Lemmas.ListSrc
import Goyang.Lemmas.Newline

namespace Goyang.Lemmas.LexErrSpec
open Goyang.Model.Lex (ErrLine ErrClass)
open Goyang.Spec.Parse Goyang.Lemmas.Scan Goyang.Lemmas.LexErr
open Goyang.Lemmas.ListSrc (badEsc firstBadOff escErr)
open Goyang.Lemmas.QStr (validEsc)

/-! ## A. the opener functions by shape of the text -/

theorem openerGround_blanks (bl r : List Char) (h : ∀ x ∈ bl, isSpace x = true) :
    openerGround (bl ++ r) = openerGround r := by
  induction bl with
  | nil => rfl
  | cons b bl ih =>
    simp only [List.cons_append]
    rw [openerGround, if_pos (h b (by simp))]
    exact ih (fun x hx => h x (by simp [hx]))

theorem openerGround_token (c : Char) (r : List Char) (hs : isSpace c = false) (hc : c ≠ '/') :
    openerGround (c :: r) = none := by
  rw [openerGround]; simp [hs, hc]

theorem openerGround_slash (r : List Char) : openerGround ('/' :: r) = openerSlash (r.length + 1) r := by
  rw [openerGround]; simp [isSpace]

theorem openerSlash_line (k : Nat) (r : List Char) : openerSlash k ('/' :: r) = openerLine r := by
  rw [openerSlash]; simp

theorem openerSlash_block (k : Nat) (r : List Char) : openerSlash k ('*' :: r) = openerBlock k false r := by
  rw [openerSlash]; simp

theorem openerSlash_token (k : Nat) (r : List Char) (h : ∀ c r', r = c :: r' → c ≠ '/' ∧ c ≠ '*') :
    openerSlash k r = none := by
  cases r with
  | nil => rw [openerSlash]
  | cons c r' =>
    obtain ⟨h1, h2⟩ := h c r' rfl
    rw [openerSlash]; simp [h1, h2]

theorem openerLine_found (s r : List Char) (hs : '\n' ∉ s) : openerLine (s ++ '\n' :: r) = openerGround r := by
  induction s with
  | nil => rw [List.nil_append, openerLine]; simp
  | cons d s ih =>
    have hd : d ≠ '\n' := fun h => hs (by rw [h]; simp)
    simp only [List.cons_append]
    rw [openerLine, if_neg hd]
    exact ih (fun h => hs (by simp [h]))

theorem openerLine_none (s : List Char) (hs : '\n' ∉ s) : openerLine s = none := by
  induction s with
  | nil => rw [openerLine]
  | cons d s ih =>
    have hd : d ≠ '\n' := fun h => hs (by rw [h]; simp)
    rw [openerLine, if_neg hd]
    exact ih (fun h => hs (by simp [h]))

theorem openerBlock_afterSS (k : Nat) (cs : List Char) :
    openerBlock k false cs = afterSS (some k) openerGround cs :=
  (block_walk (openerBlock k) (some k) openerGround (fun _ => by rw [openerBlock])
    (fun _ _ _ => by rw [openerBlock]) cs).1

theorem openerGround_line (s r2 : List Char) (hs : '\n' ∉ s) :
    openerGround ('/' :: '/' :: (s ++ '\n' :: r2)) = openerGround r2 := by
  rw [openerGround_slash, openerSlash_line, openerLine_found s r2 hs]

theorem openerGround_line_none (s : List Char) (hs : '\n' ∉ s) :
    openerGround ('/' :: '/' :: s) = none := by
  rw [openerGround_slash, openerSlash_line, openerLine_none s hs]

theorem openerGround_block_found (r1 s r2 : List Char) (h : findSS r1 = some (s, r2)) :
    openerGround ('/' :: '*' :: r1) = openerGround r2 := by
  rw [openerGround_slash, openerSlash_block, openerBlock_afterSS, afterSS, h]

theorem openerGround_block_none (r1 : List Char) (h : findSS r1 = none) :
    openerGround ('/' :: '*' :: r1) = some (r1.length + 2) := by
  rw [openerGround_slash, openerSlash_block, openerBlock_afterSS, afterSS, h]
  rfl

/-- a block comment that is not closed has an opener -/
theorem openerGround_of_skip_none (cs : List Char) (h : skipGround cs = none) :
    ∃ k, openerGround cs = some k ∧ k ≤ cs.length := by
  revert h
  refine skipGround_ind (P := fun cs o => o = none → ∃ k, openerGround cs = some k ∧ k ≤ cs.length)
    ?_ ?_ ?_ ?_ ?_ ?_ ?_ ?_ cs
  · intro h; cases h
  · intro c r hs ih h
    obtain ⟨k, h1, h2⟩ := ih h
    exact ⟨k, by rw [openerGround, if_pos hs]; exact h1, by rw [List.length_cons]; omega⟩
  · intro c r _ _ h; cases h
  · intro r _ h; cases h
  · intro s r hs ih h
    obtain ⟨k, h1, h2⟩ := ih h
    exact ⟨k, by rw [openerGround_line s r hs]; exact h1,
      by simp only [List.length_cons, List.length_append]; omega⟩
  · intro s _ h; cases h
  · intro r hf _
    exact ⟨r.length + 2, openerGround_block_none r hf, by simp only [List.length_cons]; omega⟩
  · intro r1 s r hf ih h
    obtain ⟨k, h1, h2⟩ := ih h
    have hsp := findSS_split r1.length r1 (Nat.le_refl _) s r hf
    exact ⟨k, by rw [openerGround_block_found r1 s r hf]; exact h1,
      by rw [hsp]; simp only [List.length_cons, List.length_append]; omega⟩

/-! ## B. `lexErr` -/

theorem lexErr_congr (text : List Char) (file : List UInt8) (b : Bool) (suf suf2 : List Char)
    (h1 : skipGround suf = skipGround suf2) (h2 : openerGround suf = openerGround suf2) :
    lexErr text file b suf = lexErr text file b suf2 := by
  unfold lexErr; rw [h1, h2]

/-- where the tokenizer fails, an error line is due -/
theorem lexErr_of_none (text : List Char) (file : List UInt8) (b : Bool) (suf : List Char)
    (h : specNext text.length suf = none) : ∃ e, lexErr text file b suf = some e := by
  cases hg : skipGround suf with
  | none =>
    obtain ⟨k, hk, _⟩ := openerGround_of_skip_none suf hg
    exact ⟨_, by rw [lexErr, hg, hk]; rfl⟩
  | some l =>
    cases l with
    | nil => rw [specNext, hg] at h; cases h
    | cons c r =>
      rw [specNext_eq _ hg] at h
      unfold lexErr
      rw [hg]
      -- only a quote that is not closed makes `tokAt` fail
      rcases delim_cases c ((skipGround_some suf _ hg).2 c r rfl) with rfl | rfl | rfl | rfl | rfl | hd
      · cases h
      · cases h
      · cases h
      · rw [tokAt_sq] at h
        cases hs : scanSq r with
        | none => simp only [reduceIte, hs]; exact ⟨_, rfl⟩
        | some p => rw [hs] at h; cases h
      · rw [tokAt_dq] at h
        cases hs : scanDq r with
        | none =>
          simp only [Char.reduceEq, reduceIte, hs]
          split <;> exact ⟨_, rfl⟩
        | some p => rw [hs] at h; cases h
      · rw [tokAt_unq c r hd] at h; cases h

/-- the first mark of a string with an undefined pair is the backslash of that pair -/
theorem escMarks_firstBad : ∀ (n : Nat) (cs : List Char), cs.length ≤ n → ∀ (o : Nat) (items : List QItem) (r : List Char),
    scanDq cs = some (items, r) → items.all validEsc = false →
    ∃ more, escMarks o cs = (o + firstBadOff items) :: more := by
  intro n
  induction n with
  | zero =>
    intro cs hn o items r h
    have : cs = [] := List.eq_nil_of_length_eq_zero (by omega)
    subst this; simp [scanDq] at h
  | succ n ih =>
    intro cs hn o items r h hbad
    cases cs with
    | nil => simp [scanDq] at h
    | cons c cs =>
      unfold scanDq at h
      split at h
      · simp only [Option.some.injEq, Prod.mk.injEq] at h
        rw [← h.1] at hbad; simp at hbad
      · rename_i hq
        split at h
        · rename_i hb
          split at h
          · cases h
          · rename_i e r0
            cases hs : scanDq r0 with
            | none => simp [hs] at h
            | some p =>
              obtain ⟨s', r'⟩ := p
              simp only [hs, Option.map_some, Option.some.injEq, Prod.mk.injEq] at h
              rw [← h.1] at hbad ⊢
              subst hb
              rw [escMarks]
              simp only [hq, if_false, if_true]
              by_cases hv : (e = 'n' || e = 't' || e = '"' || e = '\\') = true
              · have hv' : validEsc (.esc e) = true := by simpa [validEsc] using hv
                rw [if_pos hv]
                simp only [List.all_cons, hv', Bool.true_and] at hbad
                obtain ⟨more, hm⟩ := ih r0 (by simp only [List.length_cons] at hn; omega) (o + 2) s' r' hs hbad
                refine ⟨more, ?_⟩
                rw [hm, firstBadOff, if_pos hv']
                congr 1; omega
              · have hv' : ¬ validEsc (.esc e) = true := by simpa [validEsc] using hv
                rw [if_neg hv]
                exact ⟨_, by rw [firstBadOff, if_neg hv']; rfl⟩
        · rename_i hb
          cases hs : scanDq cs with
          | none => simp [hs] at h
          | some p =>
            obtain ⟨s', r'⟩ := p
            simp only [hs, Option.map_some, Option.some.injEq, Prod.mk.injEq] at h
            rw [← h.1] at hbad ⊢
            simp only [List.all_cons, validEsc, Bool.true_and] at hbad
            obtain ⟨more, hm⟩ := ih cs (by simp only [List.length_cons] at hn; omega) (o + 1) s' r' hs hbad
            refine ⟨more, ?_⟩
            conv => lhs; unfold escMarks
            simp only [hq, hb, if_false]
            rw [hm, firstBadOff]
            congr 1; omega

theorem escErr_dq (text : List Char) (file : List UInt8) (raw : List QItem) (off : Nat) :
    escErr text file ⟨.dq raw, off⟩ = mkErr text file (off + 1 + firstBadOff raw) .invalidEscape := rfl

/-- a double-quoted token with an undefined pair, read outside pattern mode: the line the list source writes -/
theorem lexErr_of_badEsc (text : List Char) (file : List UInt8) (b : Bool) (suf : List Char) (t : PTok) (rest : List Char)
    (h : specNext text.length suf = some (some (t, rest))) (hb : badEsc b t = true) :
    lexErr text file b suf = some (escErr text file t) := by
  obtain ⟨sk, c, r, hg, _, hc, hoff, htk⟩ := specNext_some text.length suf t rest h
  obtain ⟨tk, off⟩ := t
  simp only at hoff htk
  cases tk with
  | dq raw =>
    simp only [badEsc, Bool.and_eq_true, Bool.not_eq_eq_eq_not, Bool.not_true] at hb
    obtain ⟨hb1, hb2⟩ := hb
    rcases delim_cases c hc with rfl | rfl | rfl | rfl | rfl | hd
    · cases htk
    · cases htk
    · cases htk
    · rw [tokAt_sq] at htk
      cases hs : scanSq r with
      | none => rw [hs] at htk; cases htk
      | some p => rw [hs] at htk; cases htk
    · rw [tokAt_dq] at htk
      cases hs : scanDq r with
      | none => rw [hs] at htk; cases htk
      | some p =>
        rw [hs] at htk; cases htk
        obtain ⟨more, hm⟩ := escMarks_firstBad r.length r (Nat.le_refl _)
          (text.length - (r.length + 1) + 1) p.1 p.2 hs hb2
        unfold lexErr
        rw [hg]
        simp only [Char.reduceEq, reduceIte, hb1, Bool.false_eq_true, hm]
        rw [escErr_dq, hoff]
    · rw [tokAt_unq c r hd] at htk; cases htk
  | _ => cases hb

/-! ## C. a line feed appended to the text -/

theorem openerGround_nl (cs : List Char) : openerGround (cs ++ ['\n']) = (openerGround cs).map (· + 1) := by
  refine skipGround_ind (P := fun cs _ => openerGround (cs ++ ['\n']) = (openerGround cs).map (· + 1))
    ?_ ?_ ?_ ?_ ?_ ?_ ?_ ?_ cs
  · rw [List.nil_append, openerGround, openerGround]
    simp [isSpace, openerGround]
  · intro c r hs ih
    rw [List.cons_append, openerGround, if_pos hs]
    conv => rhs; rw [openerGround, if_pos hs]
    exact ih
  · intro c r hs hc
    rw [List.cons_append, openerGround_token c _ hs hc, openerGround_token c r hs hc]
    rfl
  · intro r h
    rw [List.cons_append, openerGround_slash, openerGround_slash, openerSlash_token _ r h,
      openerSlash_token _ (r ++ ['\n']) (fun c r' he => by
        cases r with
        | nil => cases he; exact ⟨by decide, by decide⟩
        | cons d r1 => cases he; exact h c r1 rfl)]
    rfl
  · intro s r hs ih
    have : '/' :: '/' :: (s ++ '\n' :: r) ++ ['\n'] = '/' :: '/' :: (s ++ '\n' :: (r ++ ['\n'])) := by simp
    rw [this, openerGround_line s _ hs, openerGround_line s r hs]
    exact ih
  · intro s hs
    rw [List.cons_append, List.cons_append, openerGround_line s [] hs, openerGround_line_none s hs, openerGround]
    rfl
  · intro r hf
    have hf2 : findSS (r ++ ['\n']) = none := by rw [findSS_nl r.length r (Nat.le_refl _), hf]; rfl
    rw [List.cons_append, List.cons_append, openerGround_block_none r hf, openerGround_block_none _ hf2]
    simp only [List.length_append, List.length_cons, List.length_nil, Option.map_some]
  · intro r1 s r hf ih
    have hf2 : findSS (r1 ++ ['\n']) = some (s, r ++ ['\n']) := by
      rw [findSS_nl r1.length r1 (Nat.le_refl _), hf]; rfl
    rw [List.cons_append, List.cons_append, openerGround_block_found r1 s r hf, openerGround_block_found _ s _ hf2]
    exact ih

theorem escMarks_nl_aux : ∀ (n : Nat) (cs : List Char), cs.length ≤ n → ∀ (o : Nat),
    escMarks o (cs ++ ['\n']) = escMarks o cs := by
  intro n
  induction n with
  | zero =>
    intro cs hn o
    have : cs = [] := List.eq_nil_of_length_eq_zero (by omega)
    subst this; simp [escMarks]
  | succ n ih =>
    intro cs hn o
    cases cs with
    | nil => simp [escMarks]
    | cons c cs =>
      simp only [List.cons_append]
      by_cases hq : c = '"'
      · subst hq; unfold escMarks; simp
      · by_cases hb : c = '\\'
        · subst hb
          cases cs with
          | nil => simp [escMarks]
          | cons e r0 =>
            simp only [List.cons_append]
            have := ih r0 (by simp only [List.length_cons] at hn; omega) (o + 2)
            conv => lhs; unfold escMarks
            conv => rhs; unfold escMarks
            simp only [show ('\\' : Char) ≠ '"' by decide, if_false, if_true]
            rw [this]
        · have := ih cs (by simp only [List.length_cons] at hn; omega) (o + 1)
          conv => lhs; unfold escMarks
          conv => rhs; unfold escMarks
          simp only [hq, hb, if_false]
          rw [this]

theorem escMarks_nl (o : Nat) (cs : List Char) : escMarks o (cs ++ ['\n']) = escMarks o cs :=
  escMarks_nl_aux cs.length cs (Nat.le_refl _) o

theorem mkErr_nl (text : List Char) (file : List UInt8) (off : Nat) (cls : ErrClass) (h : off ≤ text.length) :
    mkErr (text ++ ['\n']) file off cls = mkErr text file off cls := by
  unfold mkErr lineOf colOf
  rw [Goyang.Lemmas.Newline.take_append_nl text off h]

theorem escMarks_lt_aux : ∀ (n : Nat) (cs : List Char), cs.length ≤ n → ∀ (o : Nat),
    ∀ x ∈ escMarks o cs, x < o + cs.length := by
  intro n
  induction n with
  | zero =>
    intro cs hn o x hx
    have : cs = [] := List.eq_nil_of_length_eq_zero (by omega)
    subst this; simp [escMarks] at hx
  | succ n ih =>
    intro cs hn o x hx
    cases cs with
    | nil => simp [escMarks] at hx
    | cons c cs =>
      by_cases hq : c = '"'
      · subst hq; unfold escMarks at hx; simp at hx
      · by_cases hb : c = '\\'
        · subst hb
          cases cs with
          | nil =>
            simp [escMarks] at hx
            subst hx; simp
          | cons e r0 =>
            have := ih r0 (by simp only [List.length_cons] at hn; omega) (o + 2) x
            unfold escMarks at hx
            simp only [show ('\\' : Char) ≠ '"' by decide, if_false, if_true] at hx
            simp only [List.length_cons]
            split at hx
            · have := this hx; omega
            · simp only [List.mem_cons] at hx
              rcases hx with hx | hx
              · omega
              · have := this hx; omega
        · have := ih cs (by simp only [List.length_cons] at hn; omega) (o + 1) x
          unfold escMarks at hx
          simp only [hq, hb, if_false] at hx
          have := this hx
          simp only [List.length_cons]; omega

/-- every offset `escMarks` returns lies before the end of the scanned text -/
theorem escMarks_lt (o : Nat) (cs : List Char) : ∀ x ∈ escMarks o cs, x < o + cs.length :=
  escMarks_lt_aux cs.length cs (Nat.le_refl _) o

theorem lexErr_nl (text : List Char) (file : List UInt8) (b : Bool) (pre suf : List Char) (ht : text = pre ++ suf) :
    lexErr (text ++ ['\n']) file b (suf ++ ['\n']) = lexErr text file b suf := by
  have hlen : (text ++ ['\n']).length = text.length + 1 := by simp
  have hsl : suf.length ≤ text.length := by rw [ht]; simp
  unfold lexErr
  rw [skipGround_nl suf, openerGround_nl, hlen]
  cases hg : skipGround suf with
  | none =>
    simp only [Option.map_none]
    cases ho : openerGround suf with
    | none => rfl
    | some k =>
      simp only [Option.map_some]
      rw [show text.length + 1 - (k + 1) = text.length - k by omega]
      rw [mkErr_nl text file _ _ (Nat.sub_le _ _)]
  | some l =>
    have hsx := (skipGround_some suf l hg).1
    cases l with
    | nil => simp [withNL]
    | cons c r =>
      have hrl : r.length + 1 ≤ text.length := by
        have := hsx.length_le
        simp only [List.length_cons] at this; omega
      have hoff : text.length + 1 - ((r ++ ['\n']).length + 1) = text.length - (r.length + 1) := by
        simp only [List.length_append, List.length_cons, List.length_nil]; omega
      simp only [Option.map_some, withNL, reduceCtorEq, if_false, List.cons_append, hoff]
      split
      · rw [scanSq_nl]
        cases scanSq r with
        | none =>
          simp only [Option.map_none]
          rw [mkErr_nl text file _ _ (Nat.sub_le _ _)]
        | some p => rfl
      · split
        · rw [escMarks_nl]
          cases b with
          | true =>
            simp only [if_true]
            rw [scanDq_nl r.length r (Nat.le_refl _)]
            cases scanDq r with
            | none =>
              simp only [Option.map_none]
              rw [mkErr_nl text file _ _ (Nat.sub_le _ _)]
            | some p => rfl
          | false =>
            simp only [Bool.false_eq_true, if_false]
            cases hm : escMarks (text.length - (r.length + 1) + 1) r with
            | nil =>
              simp only
              rw [scanDq_nl r.length r (Nat.le_refl _)]
              cases scanDq r with
              | none =>
                simp only [Option.map_none]
                rw [mkErr_nl text file _ _ (Nat.sub_le _ _)]
              | some p => rfl
            | cons o more =>
              simp only
              have := escMarks_lt (text.length - (r.length + 1) + 1) r o (by rw [hm]; simp)
              rw [mkErr_nl text file o _ (by omega)]
        · rfl

end Goyang.Lemmas.LexErrSpec
