import Goyang.Lemmas.TypesDefs
/-
Completeness of the module-level typedef search of the impl model (`findInModule`,
`findLocalModules`: a depth-first walk over a module and the submodules it includes, with one
visited list threaded through the whole walk): if a (sub)module reachable through include
statements declares the name, the search answers `.found _`.

Invariant (the usual one for a depth-first search with a global visited set): when a call answers
`.notFound`, every sequence number it added to the visited list is *done*: it is the number of a
loaded module that does not declare the name and whose include targets are all in the list.  A list
all of whose elements are done is closed under `Includes`, so no module reachable from an element
declares the name.
-/
namespace Goyang.Lemmas.TypesDfs
open Goyang.Model Goyang.Model.Types Goyang.Spec.Types Goyang.Lemmas.Types Goyang.Lemmas.TypesFuel Goyang.Lemmas.TypesDefs
open Goyang.Lemmas.RegistryAux

/-- `x` is the sequence number of a loaded module that has been searched in vain and whose include
targets are all in `S`. -/
def Done (env : Env) (name : String) (S : List Nat) (x : Nat) : Prop :=
  ∃ y ∈ env.reg.mods, y.seq = x ∧ findIn y.stmt name = none ∧ ∀ z ∈ env.includeTargets y, z.seq ∈ S

theorem Done.mono {env : Env} {name : String} {S S' : List Nat} {x : Nat} (h : Done env name S x) (hsub : S ⊆ S') :
    Done env name S' x := by
  obtain ⟨y, hy, hx, hf, hz⟩ := h
  exact ⟨y, hy, hx, hf, fun z hzm => hsub (hz z hzm)⟩

/-- The visited list grew from `s` to `s'`, and everything new is done. -/
def Ext (env : Env) (name : String) (s s' : List Nat) : Prop :=
  s ⊆ s' ∧ ∀ x ∈ s', x ∉ s → Done env name s' x

theorem Ext.refl {env : Env} {name : String} {s : List Nat} : Ext env name s s :=
  ⟨List.Subset.refl _, fun _ hx hn => absurd hx hn⟩

theorem Ext.trans {env : Env} {name : String} {a b c : List Nat} (h1 : Ext env name a b) (h2 : Ext env name b c) :
    Ext env name a c := by
  refine ⟨List.Subset.trans h1.1 h2.1, ?_⟩
  intro x hx hn
  by_cases hb : x ∈ b
  · exact (h1.2 x hb hn).mono h2.1
  · exact h2.2 x hx hb

/-- A `firstHit` that answers `.notFound` has chained the states through the whole list, every call
answering `.notFound`. -/
theorem firstHit_notFound (env : Env) (name : String) (f : Mod → List Nat → Lookup × List Nat) :
    ∀ (l : List Mod), (∀ a ∈ l, ∀ s1 s2, f a s1 = (.notFound, s2) → Ext env name s1 s2 ∧ a.seq ∈ s2) →
      ∀ s s', firstHit f l s = (.notFound, s') → Ext env name s s' ∧ ∀ a ∈ l, a.seq ∈ s' := by
  intro l
  induction l with
  | nil =>
    intro _ s s' h
    simp only [firstHit, Prod.mk.injEq, true_and] at h
    subst h
    exact ⟨Ext.refl, fun a ha => by cases ha⟩
  | cons a rest ih =>
    intro hf s s' h
    unfold firstHit at h
    split at h
    · rename_i s1 hfa
      obtain ⟨he, ha⟩ := hf a List.mem_cons_self s s1 hfa
      obtain ⟨he', hrest⟩ := ih (fun b hb => hf b (List.mem_cons_of_mem _ hb)) s1 s' h
      refine ⟨he.trans he', ?_⟩
      intro b hb
      cases hb with
      | head => exact he'.1 ha
      | tail _ hb => exact hrest b hb
    · rename_i hne
      exact absurd h (hne s')

/-- The invariant of the walk. -/
theorem findInModule_notFound (env : Env) (name : String) :
    ∀ (fuel : Nat) (m : Mod) (seen seen' : List Nat), m ∈ env.reg.mods →
      findInModule env name fuel m seen = (.notFound, seen') → Ext env name seen seen' ∧ m.seq ∈ seen' := by
  intro fuel
  induction fuel with
  | zero => intro m seen seen' _ h; simp [findInModule] at h
  | succ fuel ih =>
    intro m seen seen' hm h
    unfold findInModule at h
    split at h
    · rename_i hc
      simp only [Prod.mk.injEq, true_and] at h
      subst h
      exact ⟨Ext.refl, by simpa using hc⟩
    · simp only at h
      split at h
      · simp at h
      · rename_i hnone
        obtain ⟨he, hz⟩ := firstHit_notFound env name _ _
          (fun im him s1 s2 hf => ih im s1 s2 (includeTargets_mem him) hf) _ _ h
        have hsub : seen ⊆ seen' := fun x hx => he.1 (List.mem_cons_of_mem _ hx)
        have hmem : m.seq ∈ seen' := he.1 List.mem_cons_self
        refine ⟨⟨hsub, ?_⟩, hmem⟩
        intro x hx hn
        by_cases hxm : x = m.seq
        · subst hxm
          exact ⟨m, hm, rfl, hnone, hz⟩
        · exact he.2 x hx (by simp [hxm, hn])

/-- A list all of whose elements are done is closed under include statements, and no module with
its number in the list declares the name. -/
theorem closed_no_decl {env : Env} (hid : SeqId env.reg) (hlink : Linked env) {name : String} {S : List Nat}
    (hS : ∀ x ∈ S, Done env name S x) {a m : Mod} (hstar : IncludesStar env.reg a m) :
    a ∈ env.reg.mods → a.seq ∈ S → PartOfSchema env.reg a → declared m.stmt name = [] := by
  induction hstar with
  | refl a =>
    intro ha hin _
    obtain ⟨y, hy, hseq, hf, _⟩ := hS _ hin
    have : y = a := hid y hy a ha hseq
    subst this
    exact findIn_none hf
  | @head a b c hinc hrest ih =>
    intro ha hin hP
    obtain ⟨y, hy, hseq, _, hz⟩ := hS _ hin
    have : y = a := hid y hy a ha hseq
    subst this
    have hb : b ∈ env.includeTargets y := by rw [hlink y hy hP]; exact hinc
    exact ih (includeTargets_mem hb) (hz b hb) (hP.includes (IncludesStar.head hinc (IncludesStar.refl b)))

/-- a foreign reference: if some (sub)module reachable from `ext` through include statements declares `name`, the search finds a typedef -/
theorem findInModule_complete (env : Env) (hid : SeqId env.reg) (hlink : Linked env) (name : String)
    (ext : Mod) (hext : ext ∈ env.reg.mods) (hsch : PartOfSchema env.reg ext) (m : Mod) (hstar : IncludesStar env.reg ext m)
    (hdecl : declared m.stmt name ≠ []) :
    ∃ r, (findInModule env name env.modFuel ext []).1 = .found r := by
  cases hres : (findInModule env name env.modFuel ext []).1 with
  | found r => exact ⟨r, rfl⟩
  | outOfFuel => exact absurd hres (findInModule_start env name ext hext)
  | notFound =>
    exfalso
    have heq : findInModule env name env.modFuel ext [] =
        (.notFound, (findInModule env name env.modFuel ext []).2) := by rw [← hres]
    obtain ⟨he, hin⟩ := findInModule_notFound env name _ _ _ _ hext heq
    exact hdecl (closed_no_decl hid hlink (fun x hx => he.2 x hx (by simp)) hstar hext hin hsch)

/-- a local reference at module level -/
theorem findLocalModules_complete (env : Env) (hid : SeqId env.reg) (hlink : Linked env) (name : String)
    (root : Mod) (hroot : root ∈ env.reg.mods) (hsch : PartOfSchema env.reg root) (m : Mod) (hunit : InUnit env.reg root m)
    (hdecl : declared m.stmt name ≠ []) :
    ∃ r, findLocalModules env root name = .found r := by
  cases hres : findLocalModules env root name with
  | found r => exact ⟨r, rfl⟩
  | outOfFuel => exact absurd hres (findLocalModules_fuel env root name hroot)
  | notFound =>
    exfalso
    unfold findLocalModules at hres
    simp only at hres
    have hmods : ∀ a ∈ (match root.belongsTo? with
        | some b => root :: (env.reg.getModule b).toList
        | none => [root]), a ∈ env.reg.mods := by
      intro a ha
      split at ha
      · cases ha with
        | head => exact hroot
        | tail _ ha =>
          have ha' : a ∈ (env.reg.getModule _).toList := ha
          rw [Option.mem_toList] at ha'
          exact getModule_mem ha'
      · cases ha with
        | head => exact hroot
        | tail _ ha => cases ha
    obtain ⟨he, hin⟩ := firstHit_notFound env name (fun m s => findInModule env name env.modFuel m s) _
      (fun a ha s1 s2 hf => findInModule_notFound env name _ a s1 s2 (hmods a ha) hf) [] _
      (Prod.ext hres rfl)
    have hS : ∀ x ∈ (firstHit (fun m s => findInModule env name env.modFuel m s)
        (match root.belongsTo? with
          | some b => root :: (env.reg.getModule b).toList
          | none => [root]) []).2, Done env name _ x := fun x hx => he.2 x hx (by simp)
    rcases hunit with hstar | ⟨b, o, hb, ho, hstar⟩
    · refine hdecl (closed_no_decl hid hlink hS hstar hroot (hin root ?_) hsch)
      split <;> exact List.mem_cons_self
    · refine hdecl (closed_no_decl hid hlink hS hstar (getModule_mem ho) (hin o ?_) (partOfSchema_getModule ho))
      rw [hb]
      simp only [ho, Option.toList_some]
      exact List.mem_cons_of_mem _ List.mem_cons_self
