import Goyang.Lemmas.IncludeAugSim2
import Goyang.Lemmas.IncludeAugDec
import Goyang.Lemmas.LoadOrderProcess
/-
C13 (third sentence), augments — piece (S) applied: `LoopsRelatedCore` for split sets without rpc / action nodes from
what `include_conversion` gives about the converted forests and from the relation of the pending augment entries
(piece (A), here the decidable hypothesis `PendRel`).
-/
open Goyang.Lemmas.ForestAux (mem_of_tree?)
namespace Goyang.Lemmas.IncludeAugSim
open Goyang.Model Goyang.Spec.Include Goyang.Spec.Tree Goyang.Lemmas.Tree
open Goyang.Lemmas.IncludeRel Goyang.Lemmas.IncludeMain Goyang.Lemmas.IncludeAugIO Goyang.Lemmas.IncludeAugDec
open Goyang.Lemmas.IncludeAugCompose Goyang.Lemmas.IncludeAugOrder

/-- **Piece (A) as a decidable condition** on the two converted sets: for every module of the unsplit set, the
pending augment entries are those of the split set up to `ren σ` (entry by entry, in order), and the pending table
of the split set has a row for it iff that of the unsplit set has. -/
def PendRel (s : Split) (R R' : Registry) (opts : Opts) (plug plug' : Plug) : Prop :=
  (∀ x ∈ R.mods, (pstate0 R opts plug).pendingOf x.seq = ((pstate0 R' opts plug').pendingOf x.seq).map (ren s.σ)) ∧
  (∀ x ∈ R.mods, (pstate0 R' opts plug').pending.any (·.1 == x.seq) = (pstate0 R opts plug).pending.any (·.1 == x.seq))

instance (s : Split) (R R' : Registry) (opts : Opts) (plug plug' : Plug) : Decidable (PendRel s R R' opts plug plug') := by
  unfold PendRel; infer_instance

/-- Every module of the unsplit set has a tree after conversion (decidable; holds of loaded sets, not proved here). -/
def AllConverted (R : Registry) (opts : Opts) (plug : Plug) : Prop :=
  ∀ x ∈ R.mods, ((forest0 R opts plug).tree? x.seq).isSome = true

instance (R : Registry) (opts : Opts) (plug : Plug) : Decidable (AllConverted R opts plug) := by
  unfold AllConverted; infer_instance

theorem pendingOf_mem_row (st : PState) (id : Nat) (a : Entry) (ha : a ∈ st.pendingOf id) :
    ∃ p ∈ st.pending, p.1 = id ∧ a ∈ p.2 := by
  unfold PState.pendingOf at ha
  cases hf : st.pending.find? (·.1 == id) with
  | none => rw [hf] at ha; cases ha
  | some q =>
    rw [hf] at ha
    exact ⟨q, List.mem_of_find?_eq_some hf, by simpa using List.find?_some hf, ha⟩

section
variable {s : Split} {R R' : Registry} {plug plug' : Plug} (h : IsSplitOf s R R' plug plug')
include h

/-- The two starting states of the augment stage are related. -/
theorem start_rel (opts : Opts) (h0' : NoIOStart R' opts plug') (h0 : NoIOStart R opts plug)
    (hall : AllConverted R opts plug) (hP : PendRel s R R' opts plug plug')
    (h1 : stage1Errs R plug = []) (h2 : forestErrs (forest0 R opts plug) = []) :
    SR s R (pstate0 R' opts plug') (pstate0 R opts plug) := by
  obtain ⟨hlink, _⟩ := stage1_split plug plug' h h1
  obtain ⟨c1, c2, c3, c4⟩ := conv_split opts plug plug' h hlink h2
  refine ⟨⟨?_, ?_, h0'.1, h0.1, ?_⟩, hP.1, hP.2, ?_, ?_⟩
  · intro x hx hxm
    have := hall x hx
    cases ht : (forest0 R opts plug).tree? x.seq with
    | none => rw [ht] at this; cases this
    | some t =>
      obtain ⟨t', a, b⟩ := c2 x hx hxm t ht
      show ((forest0 R' opts plug').tree? x.seq).map (ren s.σ) = (forest0 R opts plug).tree? x.seq
      rw [a, ht, ← b]; rfl
  · obtain ⟨t, ht⟩ := c3
    obtain ⟨t', a, b⟩ := c4 t ht
    refine ⟨t', t, a, ht, b, ?_⟩
    have hne : ForestAll NoErrors (forest0 R opts plug) := (forestErrs_eq_nil _).1 h2
    have hm := mem_of_tree? ht
    have := (Bridge.noDupNames_forest0 R opts plug).1 _ hm (hne _ hm)
    cases t with | mk d c i o =>
    exact ((Bridge.noDupNames_mk d c i o).1 this).1
  · intro p hp _
    exact (forestErrs_eq_nil _).1 c1 p hp
  · intro x hx a' ha'
    obtain ⟨p, hp, hp1, hpa⟩ := pendingOf_mem_row _ _ _ ha'
    refine ⟨?_, h0'.2 p hp a' hpa⟩
    obtain ⟨q, hq, hq1, hq2⟩ := Bridge.pendingOf_row R' opts plug' x.seq a' ha'
    obtain ⟨m, _, e1, _, e3, _⟩ := hq
    rw [hq2] at ha'
    rw [e3 a' ha', ← e1, hq1]
  · intro id hid
    rcases Bridge.pendingOf_pstate0 R' opts plug' id with h0 | ⟨p, hp, hp1, hp2⟩
    · exact h0
    · obtain ⟨m, hm, e1, e2, _, _⟩ := Bridge.tstate_rows R' opts plug' p hp
      rw [hp2]
      rw [IncludeLink.mods_split h.regs] at hm
      rcases List.mem_append.1 hm with hm | hm
      · obtain ⟨x, hx, rfl⟩ := List.mem_map.1 hm
        rw [IncludeLink.repl_seq h.regs] at e1
        exact absurd (e1.symm.trans hp1) (hid x hx)
      · have := (h.text.sub_no_aug m hm).1
        rw [this] at e2
        exact List.map_eq_nil_iff.1 e2

/-- **`LoopsRelatedCore` for split sets without rpc / action nodes**, from `PendRel` (piece (A)) — pieces (S) and (I)
are proved. -/
theorem loopsRelatedCore_norpc (opts : Opts) (hL : Fuel.LoadedShape R') (h0' : NoIOStart R' opts plug')
    (h0 : NoIOStart R opts plug) (hall : AllConverted R opts plug) (hP : PendRel s R R' opts plug plug')
    (hfuel : loopFuel R' opts plug' = loopFuel R opts plug)
    (hdev : ∀ x ∈ R.mods, x.stmt.all "deviation" = []) (hn : NoLeftover R opts plug)
    (hclean : (processAll R opts plug).errors = []) : LoopsRelatedCore s R R' opts plug plug' := by
  obtain ⟨a1, a2⟩ := IncludeNoAug.processAll_clean_stages R opts plug hclean
  have hS := start_rel h opts h0' h0 hall hP a1 a2
  obtain ⟨pe, _⟩ := processAll_noLeftover R opts plug hn hdev a1 a2
  rw [pe] at hclean
  have e0 := canonErrs_eq_nil _ hclean
  have hNs := (noErrors_fixAll (afterLoop R opts plug).2).1 ((forestErrs_eq_nil _).1 e0)
  exact loopsRelatedCore_of_start h opts hL hS hfuel ((forestErrs_eq_nil _).2 hNs) hn

end

/-! ### the loop fuel of the two runs -/

theorem fold_len (l : List Mod) (g : Nat → List Entry) (n : Nat) :
    (l.map fun m => (m.seq, g m.seq)).foldl (fun n (p : Nat × List Entry) => n + p.2.length) n =
      n + (l.map fun m => (g m.seq).length).sum := by
  induction l generalizing n with
  | nil => simp
  | cons m t ih =>
    simp only [List.map_cons, List.foldl_cons, List.sum_cons]
    rw [ih]; omega

theorem sum_zero (l : List Nat) (h : ∀ n ∈ l, n = 0) : l.sum = 0 := by
  induction l with
  | nil => rfl
  | cons a t ih =>
    rw [List.sum_cons, h a (List.mem_cons_self ..), ih (fun n hn => h n (List.mem_cons_of_mem _ hn))]

/-- The fuel of the augment loop is the number of pending augment entries of the (sub)modules held, plus two. -/
theorem loopFuel_eq (reg : Registry) (opts : Opts) (plug : Plug) :
    loopFuel reg opts plug = ((allMods reg).map fun m => ((pstate0 reg opts plug).pendingOf m.seq).length).sum + 2 := by
  have e0 : loopFuel reg opts plug =
      ((allMods reg).map fun m => (m.seq, LoadOrder.augsOf (tstate reg opts plug) m.seq)).foldl
        (fun n (p : Nat × List Entry) => n + p.2.length) 0 + 2 := by
    unfold loopFuel; rw [LoadOrder.pending0_eq]
  rw [e0, fold_len (allMods reg) (LoadOrder.augsOf (tstate reg opts plug)) 0, Nat.zero_add]
  refine congrArg (fun n => n + 2) ?_
  apply congrArg
  apply List.map_congr_left
  intro m hm
  rw [LoadOrder.pendingOf_pstate0]
  have : (allMods reg).any (·.seq == m.seq) = true := List.any_eq_true.2 ⟨m, hm, by simp⟩
  rw [this]; rfl

section
variable {s : Split} {R R' : Registry} {plug plug' : Plug} (h : IsSplitOf s R R' plug plug')
include h

/-- **Equal loop fuel** of the two runs, from the relation of the pending entries. -/
theorem loopFuel_split (opts : Opts)
    (hP : ∀ x ∈ R.mods, (pstate0 R opts plug).pendingOf x.seq = ((pstate0 R' opts plug').pendingOf x.seq).map (ren s.σ)) :
    loopFuel R' opts plug' = loopFuel R opts plug := by
  rw [loopFuel_eq, loopFuel_eq]
  refine congrArg (fun n => n + 2) ?_
  have hr := h.regs
  have eS : R.distinctSubs = [] := by
    unfold Registry.distinctSubs; rw [hr.subModules]; simp
  have e1 : allMods R = R.distinctModules := by unfold allMods; rw [eS, List.append_nil]
  have e2 : allMods R' = R.distinctModules.map (IncludeLink.repl s) ++ R'.distinctSubs := by
    unfold allMods; rw [IncludeLink.distinctModules_split hr]
  rw [e1, e2, List.map_append, List.sum_append, List.map_map]
  have z : (R'.distinctSubs.map fun m => ((pstate0 R' opts plug').pendingOf m.seq).length).sum = 0 := by
    apply sum_zero
    intro n hn
    obtain ⟨sb, hsb, rfl⟩ := List.mem_map.1 hn
    unfold Registry.distinctSubs at hsb
    rw [List.mem_filter, hr.subModules'] at hsb
    obtain ⟨hm, hany⟩ := hsb
    obtain ⟨kv, hkv, hk⟩ := List.any_eq_true.1 hany
    obtain ⟨sb0, hsb0, rfl⟩ := List.mem_map.1 hkv
    have hseq : sb0.seq = sb.seq := by simpa using hk
    rw [IncludeLink.mods_split hr] at hm
    have hsub : sb ∈ s.subs := by
      rcases List.mem_append.1 hm with hm | hm
      · obtain ⟨x, hx, rfl⟩ := List.mem_map.1 hm
        rw [IncludeLink.repl_seq hr] at hseq
        exact absurd hseq (hr.sub_seqs_fresh sb0 hsb0 x hx)
      · exact hm
    rw [pending_sub_nil opts plug plug' h hsub]; rfl
  rw [z, Nat.add_zero]
  apply congrArg
  apply List.map_congr_left
  intro x hx
  have hxm : x ∈ R.mods := by
    unfold Registry.distinctModules at hx
    exact (List.mem_filter.1 hx).1
  simp only [Function.comp, IncludeLink.repl_seq hr]
  rw [hP x hxm, List.length_map]

end
end Goyang.Lemmas.IncludeAugSim
