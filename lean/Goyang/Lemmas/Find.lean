import Batteries.Data.String.Lemmas
import Goyang.Lemmas.FindTurn
import Goyang.Lemmas.ForestAux
/-
Lemmas for C17: the legacy `String.splitOn` with a one-character separator is `List.splitOn`
(so rendering a path and splitting it again gives back the parts, and `splitPrefix`, the model of
Go's `getPrefix`, splits `pfx:name` where it should); `walkParts` (the step loop of `Entry.Find`,
turn by turn in `FindTurn.lean`) composes over `++`, climbs with `..` and descends along any
spelling of the steps of an existing node of a well-formed tree; the only change it can make to
the tree is the creation of absent rpc inputs/outputs; `find` after the split at `/` (`findParts`)
and on rendered absolute and relative paths, with the round trips built on it; the frame of
`find`; every node enumerated by `nodes` is at its location (`getAt_nodes`); growth by an
implicit input/output keeps every existing location and its data; the concrete registry and
forest of the non-vacuity examples of Props/C17 (`Example`).

`Batteries.Data.String.Lemmas` supplies the `…_of_valid` lemmas about byte positions in strings.
-/
namespace Goyang.Lemmas.Find
open Goyang.Model Goyang.Spec.Find
open Goyang.Lemmas.ForestAux (tree?_setTree_same getAt_append)

set_option linter.unusedSimpArgs false
set_option linter.unnecessarySimpa false

section Strings
open String

/-! ### strings: `splitOn` with a one-character separator -/

theorem splitOnAux_char (c : Char) (l m r : List Char) (acc : List String) :
    String.splitOnAux (ofList (l ++ m ++ r)) (String.singleton c) ⟨utf8Len l⟩ ⟨utf8Len l + utf8Len m⟩ 0 acc
      = acc.reverse ++ (List.splitOnPPrepend (· == c) r m.reverse).map ofList := by
  induction r generalizing l m acc with
  | nil =>
    rw [String.splitOnAux]
    have h1 : Pos.Raw.atEnd (ofList (l ++ m ++ [])) ⟨utf8Len l + utf8Len m⟩ = true := by
      have := (atEnd_of_valid (l ++ m) []).2 rfl
      simpa [utf8Len_append, -ofList_append] using this
    simp only [h1, if_true]
    have := extract_of_valid l m []
    simp only [this]
    simp
  | cons c' r ih =>
    rw [String.splitOnAux]
    have h1 : Pos.Raw.atEnd (ofList (l ++ m ++ c' :: r)) ⟨utf8Len l + utf8Len m⟩ = false := by
      apply Bool.eq_false_iff.2
      intro h
      have := (atEnd_of_valid (l ++ m) (c' :: r)).1 (by simpa [utf8Len_append, -ofList_append] using h)
      cases this
    have hget : Pos.Raw.get (ofList (l ++ m ++ c' :: r)) ⟨utf8Len l + utf8Len m⟩ = c' := by
      have := get_of_valid (l ++ m) (c' :: r)
      simpa [utf8Len_append, -ofList_append] using this
    have hnext : Pos.Raw.next (ofList (l ++ m ++ c' :: r)) ⟨utf8Len l + utf8Len m⟩ = ⟨utf8Len l + utf8Len m + c'.utf8Size⟩ := by
      have := next_of_valid (l ++ m) c' r
      simpa [utf8Len_append, -ofList_append] using this
    have hsep : String.singleton c = ofList ([] ++ c :: []) := singleton_eq_ofList
    have hget2 : Pos.Raw.get (String.singleton c) 0 = c := by
      rw [hsep]; exact get_of_valid [] [c]
    have hnext2 : Pos.Raw.next (String.singleton c) 0 = ⟨c.utf8Size⟩ := by
      rw [hsep]; simpa using next_of_valid [] c []
    have hend2 : Pos.Raw.atEnd (String.singleton c) ⟨c.utf8Size⟩ = true := by
      have := (atEnd_of_valid [c] []).2 rfl
      rw [hsep]; simpa [-ofList_append] using this
    simp only [h1, Bool.false_eq_true, if_false, hget, hget2, hnext2]
    by_cases hc : c' = c
    · subst hc
      simp only [beq_self_eq_true, if_true, hnext, hend2]
      have hun : (⟨utf8Len l + utf8Len m + c'.utf8Size⟩ : Pos.Raw).unoffsetBy ⟨c'.utf8Size⟩ = ⟨utf8Len l + utf8Len m⟩ := by
        simp [Pos.Raw.unoffsetBy]
      rw [hun]
      have hex := extract_of_valid l m (c' :: r)
      rw [hex]
      have := ih (l ++ m ++ [c']) [] (ofList m :: acc)
      simp only [List.append_assoc, List.singleton_append, List.append_nil, utf8Len_append, utf8Len_cons, utf8Len_nil,
        Nat.zero_add, Nat.add_zero] at this
      simp only [List.append_assoc]
      rw [Nat.add_assoc, this]
      simp [List.splitOnPPrepend_cons_eq_if]
    · have hne : (c' == c) = false := by simpa using hc
      simp only [hne, Bool.false_eq_true, if_false]
      have hun : (⟨utf8Len l + utf8Len m⟩ : Pos.Raw).unoffsetBy 0 = ⟨utf8Len l + utf8Len m⟩ := by
        simp [Pos.Raw.unoffsetBy]
      rw [hun, hnext]
      have := ih l (m ++ [c']) acc
      simp only [List.append_assoc, List.singleton_append, utf8Len_append, utf8Len_cons, utf8Len_nil, Nat.zero_add] at this
      simp only [List.append_assoc]
      rw [Nat.add_assoc, this]
      simp [List.splitOnPPrepend_cons_eq_if, hne]

/-- The legacy `String.splitOn` with a one-character separator is `List.splitOn` on the characters. -/
theorem splitOn_char (s : String) (c : Char) :
    s.splitOn (String.singleton c) = (s.toList.splitOn c).map ofList := by
  have h := splitOnAux_char c [] [] s.toList []
  have hne : (String.singleton c == "") = false := by
    apply Bool.eq_false_iff.2
    intro h
    have := congrArg String.toList (eq_of_beq h)
    simp at this
  unfold String.splitOn
  rw [hne]
  simp only [List.nil_append, utf8Len_nil, Nat.add_zero, String.ofList_toList, List.reverse_nil] at h
  simp only [Bool.false_eq_true, if_false]
  exact h

theorem slash_eq : "/" = String.singleton '/' := by decide
theorem colon_eq : ":" = String.singleton ':' := by decide

/-- Splitting a rendered path gives back its parts. -/
theorem splitOn_intercalate_slash (parts : List String) (hne : parts ≠ [])
    (h : ∀ s ∈ parts, '/' ∉ s.toList) : ("/".intercalate parts).splitOn "/" = parts := by
  rw [slash_eq, splitOn_char]
  simp only [toList_intercalate, toList_singleton]
  rw [List.splitOn_intercalate]
  · simp [List.map_map]
  · intro l hl
    obtain ⟨s, hs, rfl⟩ := List.mem_map.1 hl
    exact h s hs
  · simpa using hne

theorem takeWhile_ne_append (c : Char) (l r : List Char) (h : c ∉ l) :
    (l ++ c :: r).takeWhile (· != c) = l ∧ (l ++ c :: r).dropWhile (· != c) = c :: r := by
  induction l with
  | nil => simp
  | cons a l ih =>
    have ha : a ≠ c := fun e => h (e ▸ List.mem_cons_self ..)
    have hl : c ∉ l := fun e => h (List.mem_cons_of_mem _ e)
    simp [ha, ih hl]

theorem splitPrefix_bare (n : String) (h : ':' ∉ n.toList) : splitPrefix n = ("", n) := by
  unfold splitPrefix
  simp [h]

theorem splitPrefix_pfx (p n : String) (hp : ':' ∉ p.toList) (_hn : ':' ∉ n.toList) :
    splitPrefix (p ++ ":" ++ n) = (p, n) := by
  unfold splitPrefix
  have : (p ++ ":" ++ n).toList = p.toList ++ ':' :: n.toList := by simp
  simp only [this]
  obtain ⟨h1, h2⟩ := takeWhile_ne_append ':' p.toList n.toList hp
  simp [h1, h2]

end Strings

/-! ### `getAt` -/

theorem getAt_prefix {root : Entry} {p q : Path} {x : Entry} (h : root.getAt (p ++ q) = some x) :
    ∃ e, root.getAt p = some e ∧ e.getAt q = some x := by
  rw [getAt_append] at h
  cases hp : root.getAt p with
  | none => simp [hp] at h
  | some e => exact ⟨e, rfl, by simpa [hp] using h⟩

theorem getAt_snoc {root e c : Entry} {p : Path} (s : Step) (h : root.getAt p = some e)
    (hc : e.getAt [s] = some c) : root.getAt (p ++ [s]) = some c := by
  rw [getAt_append, h]; exact hc

theorem child?_mem {e c : Entry} {k : String} (h : e.child? k = some c) : c ∈ e.dir ∧ c.name = k := by
  unfold Entry.child? at h
  have h1 := List.mem_of_find?_eq_some h
  have h2 := List.find?_some h
  exact ⟨h1, by simpa using h2⟩

/-! ### well-formedness, unfolded -/

theorem wfKeysL_iff (l : List Entry) : wfKeysL l = true ↔ ∀ e ∈ l, wfKeys e = true := by
  induction l with
  | nil => simp [wfKeysL]
  | cons a l ih => simp [wfKeysL, ih]

structure WFNode (e : Entry) : Prop where
  distinct : distinct (e.dir.map (·.name)) = true
  good : ∀ c ∈ e.dir, goodName c.name = true
  rpcNoDir : e.d.isRpc = true → e.dir = []
  slotsRpc : e.d.isRpc = false → e.inp = [] ∧ e.out = []
  dir : ∀ c ∈ e.dir, wfKeys c = true
  inp : ∀ c ∈ e.inp, wfKeys c = true
  out : ∀ c ∈ e.out, wfKeys c = true

theorem wfKeys_node {e : Entry} (h : wfKeys e = true) : WFNode e := by
  cases e with
  | mk d c i o =>
    rw [wfKeys] at h
    simp only [Bool.and_eq_true, List.all_eq_true, wfKeysL_iff] at h
    obtain ⟨⟨⟨⟨⟨h1, h2⟩, h3⟩, h4⟩, h5⟩, h6⟩ := h
    refine ⟨h1, h2, ?_, ?_, h4, h5, h6⟩
    · intro hr
      simp only [Entry.d] at hr
      simpa [hr, Entry.dir] using h3
    · intro hr
      simp only [Entry.d] at hr
      simpa [hr, Entry.inp, Entry.out] using h3

theorem goodName_spec {k : String} (h : goodName k = true) :
    k ≠ "" ∧ k ≠ "." ∧ k ≠ ".." ∧ '/' ∉ k.toList ∧ ':' ∉ k.toList := by
  unfold goodName at h
  simp only [Bool.and_eq_true, bne_iff_ne, ne_eq, Bool.not_eq_true', List.contains_eq_mem, decide_eq_false_iff_not] at h
  obtain ⟨⟨⟨⟨h1, h2⟩, h3⟩, h4⟩, h5⟩ := h
  exact ⟨h1, h2, h3, h4, h5⟩

/-! ### `walkParts`, one step at a time -/

theorem Grown.trans {a b c : Entry} (h1 : Grown a b) (h2 : Grown b c) : Grown a c := by
  induction h1 with
  | refl => exact h2
  | step s _ ih => exact Grown.step s (ih h2)

theorem walkParts_turn (part : String) (root : Entry) (cur : Option Path) :
    ∃ root' cur', Grown root root' ∧
      ∀ rest, walkParts (part :: rest) root cur = walkParts rest root' cur' := by
  cases cur with
  | none => exact ⟨root, none, .refl _, fun _ => by rw [walkParts_none, walkParts_none]⟩
  | some p =>
    cases he : root.getAt p with
    | none => exact ⟨root, none, .refl _, fun _ => by rw [walkParts, he, walkParts_none]⟩
    | some e => exact ⟨_, _, turn_grown he part, walkParts_cons he part⟩

theorem walkParts_append (a b : List String) (root : Entry) (cur : Option Path) :
    walkParts (a ++ b) root cur = walkParts b (walkParts a root cur).2 (walkParts a root cur).1 := by
  induction a generalizing root cur with
  | nil => rfl
  | cons part rest ih =>
    obtain ⟨root', cur', _, h⟩ := walkParts_turn part root cur
    rw [List.cons_append, h, h, ih]

theorem walkParts_grown (parts : List String) : ∀ (root : Entry) (cur : Option Path),
    Grown root (walkParts parts root cur).2 := by
  induction parts with
  | nil => exact fun root _ => .refl root
  | cons part rest ih =>
    intro root cur
    obtain ⟨root', cur', hg, h⟩ := walkParts_turn part root cur
    rw [h]
    exact Grown.trans hg (ih root' cur')

theorem walk_dot {root e : Entry} {p : Path} (rest : List String) (h : root.getAt p = some e) :
    walkParts ("." :: rest) root (some p) = walkParts rest root (some p) := by
  rw [walkParts_cons h]; simp [turn]

theorem walk_dotdot {root e : Entry} {p : Path} (rest : List String) (h : root.getAt p = some e) :
    walkParts (".." :: rest) root (some p) = walkParts rest root (if p.isEmpty then none else some p.dropLast) := by
  rw [walkParts_cons h]; simp [turn]

theorem walk_child {root e c : Entry} {p : Path} {part k : String} (rest : List String)
    (h : root.getAt p = some e) (hr : e.d.isRpc = false) (h1 : part ≠ ".") (h2 : part ≠ "..")
    (hk : stripPrefix part = k) (k1 : k ≠ ".") (k2 : k ≠ "") (k3 : k ≠ "..") (hc : e.child? k = some c) :
    walkParts (part :: rest) root (some p) = walkParts rest root (some (p ++ [.child k])) := by
  rw [walkParts_cons h]; simp [turn, hr, h1, h2, hk, k1, k2, k3, hc]

theorem walk_input {root e : Entry} {p : Path} {part : String} (rest : List String)
    (h : root.getAt p = some e) (hr : e.d.isRpc = true) (h1 : part ≠ ".") (h2 : part ≠ "..")
    (hk : stripPrefix part = "input") (hi : e.inp ≠ []) :
    walkParts (part :: rest) root (some p) = walkParts rest root (some (p ++ [.input])) := by
  rw [walkParts_cons h]; simp [turn, hr, h1, h2, hk, hi]

theorem walk_output {root e : Entry} {p : Path} {part : String} (rest : List String)
    (h : root.getAt p = some e) (hr : e.d.isRpc = true) (h1 : part ≠ ".") (h2 : part ≠ "..")
    (hk : stripPrefix part = "output") (hi : e.out ≠ []) :
    walkParts (part :: rest) root (some p) = walkParts rest root (some (p ++ [.output])) := by
  rw [walkParts_cons h]; simp [turn, hr, h1, h2, hk, hi]

/-! ### spelled steps -/

theorem pfx_ne (p k s : String) (hs : ':' ∉ s.toList) : p ++ ":" ++ k ≠ s := by
  intro h
  apply hs
  rw [← h]
  simp

theorem stepName_good_of_slot : ':' ∉ "input".toList ∧ ':' ∉ "output".toList := by decide

/-- What `walkParts` needs to know about a written step: it is not a navigation step and its bare
name is the step's name. -/
theorem spellsStep_spec {part : String} {s : Step} (h : SpellsStep part s)
    (hn : ':' ∉ (stepName s).toList) (h1 : stepName s ≠ ".") (h2 : stepName s ≠ "..") :
    part ≠ "." ∧ part ≠ ".." ∧ stripPrefix part = stepName s := by
  cases h with
  | bare => exact ⟨h1, h2, by simp [stripPrefix, splitPrefix_bare _ hn]⟩
  | pfx p _ hp =>
    refine ⟨pfx_ne _ _ _ (by decide), pfx_ne _ _ _ (by decide), ?_⟩
    simp [stripPrefix, splitPrefix_pfx _ _ hp.2.1 hn]

/-! ### descending along the steps of an existing node -/

theorem getAt_cons_wf {e x : Entry} {s : Step} {q : Path} (hwf : wfKeys e = true)
    (hx : e.getAt (s :: q) = some x) :
    ∃ c, e.getAt [s] = some c ∧ c.getAt q = some x ∧ wfKeys c = true ∧ goodName (stepName s) = true := by
  have wf := wfKeys_node hwf
  obtain ⟨c, hc, hcx⟩ := getAt_prefix (p := [s]) hx
  refine ⟨c, hc, hcx, ?_⟩
  cases s with
  | child k =>
    obtain ⟨hmem, rfl⟩ := child?_mem (k := k) (by simpa [Entry.getAt] using hc)
    exact ⟨wf.dir c hmem, wf.good c hmem⟩
  | input => exact ⟨wf.inp c (List.mem_of_head? (by simpa [Entry.getAt] using hc)), by decide⟩
  | output => exact ⟨wf.out c (List.mem_of_head? (by simpa [Entry.getAt] using hc)), by decide⟩

theorem walk_step {root e c : Entry} {p : Path} {part : String} {s : Step} (rest : List String)
    (hp : root.getAt p = some e) (hwf : wfKeys e = true) (hc : e.getAt [s] = some c)
    (hstep : SpellsStep part s) :
    walkParts (part :: rest) root (some p) = walkParts rest root (some (p ++ [s])) := by
  have wf := wfKeys_node hwf
  obtain ⟨_, _, _, _, hgood⟩ := getAt_cons_wf hwf hc
  have hg := goodName_spec hgood
  obtain ⟨a1, a2, a3⟩ := spellsStep_spec hstep hg.2.2.2.2 hg.2.1 hg.2.2.1
  cases s with
  | child k =>
    have hc : e.child? k = some c := by simpa [Entry.getAt] using hc
    have hr : e.d.isRpc = false := (Bool.eq_false_or_eq_true _).resolve_left fun hr => by
      have := (child?_mem hc).1; rw [wf.rpcNoDir hr] at this; cases this
    exact walk_child rest hp hr a1 a2 a3 hg.2.1 hg.1 hg.2.2.1 hc
  | input =>
    have hne : e.inp ≠ [] := fun h => by simp [Entry.getAt, h] at hc
    have hr : e.d.isRpc = true := (Bool.eq_false_or_eq_true _).resolve_right fun hr => hne (wf.slotsRpc hr).1
    exact walk_input rest hp hr a1 a2 a3 hne
  | output =>
    have hne : e.out ≠ [] := fun h => by simp [Entry.getAt, h] at hc
    have hr : e.d.isRpc = true := (Bool.eq_false_or_eq_true _).resolve_right fun hr => hne (wf.slotsRpc hr).2
    exact walk_output rest hp hr a1 a2 a3 hne

theorem walk_down {root : Entry} {parts : List String} {q : Path} (hs : Spells parts q) :
    ∀ (rest : List String) (p : Path) (e x : Entry), root.getAt p = some e → wfKeys e = true →
      e.getAt q = some x →
      walkParts (parts ++ rest) root (some p) = walkParts rest root (some (p ++ q)) := by
  induction hs with
  | nil => intro rest p e x _ _ _; simp
  | @cons part s parts q hstep _ ih =>
    intro rest p e x hp hwf hx
    obtain ⟨c, hc, hcx, hwc, _⟩ := getAt_cons_wf hwf hx
    rw [List.cons_append, walk_step _ hp hwf hc hstep, ih rest _ c x (getAt_snoc s hp hc) hwc hcx]
    simp

/-! ### climbing -/

theorem walk_up {root : Entry} (rest : List String) (c : Path) :
    ∀ (ra : Path) (x : Entry), root.getAt (c ++ ra) = some x →
      walkParts (List.replicate ra.length ".." ++ rest) root (some (c ++ ra)) = walkParts rest root (some c) := by
  intro ra
  induction h : ra.length generalizing ra with
  | zero =>
    intro x _
    have : ra = [] := List.length_eq_zero_iff.1 h
    subst this; simp
  | succ n ih =>
    intro x hx
    rcases List.eq_nil_or_concat ra with rfl | ⟨ra', s, rfl⟩
    · simp at h
    · simp only [List.concat_eq_append, List.length_append, List.length_cons, List.length_nil] at h
      simp only [List.concat_eq_append] at hx ⊢
      rw [List.replicate_succ, List.cons_append, walk_dotdot _ hx]
      have hne : (c ++ (ra' ++ [s])).isEmpty = false := by simp
      rw [hne]
      have hd : (c ++ (ra' ++ [s])).dropLast = c ++ ra' := by
        rw [← List.append_assoc, List.dropLast_concat]
      simp only [hd, Bool.false_eq_true, if_false]
      rw [← List.append_assoc] at hx
      obtain ⟨e, he, _⟩ := getAt_prefix hx
      exact ih ra' (by omega) e he

/-! ### forests -/

theorem tree?_mem {f : Forest} {t : Nat} {root : Entry} (h : f.tree? t = some root) : (t, root) ∈ f.trees := by
  unfold Forest.tree? at h
  cases hf : f.trees.find? (·.1 == t) with
  | none => simp [hf] at h
  | some it =>
    simp only [hf, Option.map_some, Option.some.injEq] at h
    have h1 := List.mem_of_find?_eq_some hf
    have h2 := List.find?_some hf
    have : it.1 = t := by simpa using h2
    cases it with
    | mk a b => simp only at this h; subst this; subst h; exact h1

theorem nodup_fst_unique {l : List (Nat × Entry)} (hn : (l.map (·.1)).Nodup) {t : Nat} {x y : Entry}
    (hx : (t, x) ∈ l) (hy : (t, y) ∈ l) : x = y := by
  induction l with
  | nil => cases hx
  | cons a l ih =>
    simp only [List.map_cons, List.nodup_cons] at hn
    rcases List.mem_cons.1 hx with rfl | hx' <;> rcases List.mem_cons.1 hy with hy' | hy'
    · cases hy'; rfl
    · exact absurd (List.mem_map.2 ⟨(t, y), hy', rfl⟩) hn.1
    · subst hy'; exact absurd (List.mem_map.2 ⟨(t, x), hx', rfl⟩) hn.1
    · exact ih hn.2 hx' hy'

/-- Writing back the tree that is already there changes nothing. -/
theorem setTree_same {f : Forest} (hn : (f.trees.map (·.1)).Nodup) {t : Nat} {root : Entry}
    (h : f.tree? t = some root) : f.setTree t root = f := by
  have hm := tree?_mem h
  unfold Forest.setTree
  cases f with
  | mk trees =>
    simp only at hm hn ⊢
    congr 1
    have : ∀ it ∈ trees, (match it with | (i, x) => if i == t then (i, root) else (i, x)) = it := by
      intro it hit
      cases it with
      | mk i x =>
        simp only
        split
        · next hi =>
          have : i = t := by simpa using hi
          subst this
          rw [nodup_fst_unique hn hm hit]
        · rfl
    calc trees.map _ = trees.map id := List.map_congr_left this
      _ = trees := List.map_id _

theorem nodeAt_some {f : Forest} {loc : Loc} {x : Entry} (h : nodeAt f loc = some x) :
    ∃ root, f.tree? loc.1 = some root ∧ root.getAt loc.2 = some x := by
  unfold nodeAt at h
  cases ht : f.tree? loc.1 with
  | none => simp [ht] at h
  | some root => exact ⟨root, rfl, by simpa [ht] using h⟩

theorem nodeAt_setTree {f : Forest} {t : Nat} {root r' : Entry} (h : f.tree? t = some root) (p : Path) :
    nodeAt (f.setTree t r') (t, p) = r'.getAt p := by
  simp [nodeAt, tree?_setTree_same h]

/-! ### `find` on the split parts -/

/-- Where the step loop starts and with which parts: tree, location in it, remaining parts. -/
def startOf (reg : Registry) (start : Loc) (ctx : Nat) : List String → Option (Nat × Path × List String)
  | "" :: parts =>
    (if (splitPrefix (parts.headD "")).1 == "" then some (homeTree reg start.1)
     else prefixTree reg ctx (splitPrefix (parts.headD "")).1).map fun t => (t, [], parts)
  | parts => some (start.1, start.2, parts)

/-- `find` after the split at `/`. -/
def findParts (reg : Registry) (f : Forest) (start : Loc) (ctx : Nat) (parts : List String) : Option Loc × Forest :=
  match startOf reg start ctx parts with
  | none => (none, withPrefixError f start.1)
  | some (t, cur, parts) =>
    match f.tree? t with
    | none => (none, f)
    | some root =>
      ((walkParts parts root (some cur)).1.map (t, ·), f.setTree t (walkParts parts root (some cur)).2)

theorem startOf_abs (reg : Registry) (start : Loc) (ctx : Nat) (parts : List String) :
    startOf reg start ctx ("" :: parts) =
      (if (splitPrefix (parts.headD "")).1 == "" then some (homeTree reg start.1)
       else prefixTree reg ctx (splitPrefix (parts.headD "")).1).map fun t => (t, [], parts) := rfl

theorem startOf_rel (reg : Registry) (start : Loc) (ctx : Nat) (ps : List String)
    (hne : ∀ parts, ps ≠ "" :: parts) : startOf reg start ctx ps = some (start.1, start.2, ps) := by
  unfold startOf
  split
  · next parts => exact absurd rfl (hne parts)
  · rfl

/-- The one place that looks inside `find`. -/
theorem find_eq_findParts (reg : Registry) (f : Forest) (start : Loc) (ctx : Nat) (name : String) (h0 : name ≠ "") :
    find reg f start ctx name = findParts reg f start ctx (name.splitOn "/") := by
  unfold find findParts
  simp only [beq_iff_eq, h0, if_false]
  generalize name.splitOn "/" = ps
  split
  · next parts =>
    rw [startOf_abs]
    generalize (splitPrefix (parts.headD "")).1 = pfx
    by_cases hp : pfx = ""
    · simp only [hp, if_true, beq_self_eq_true, Option.map_some]
      unfold homeTree
      cases hb : reg.byId start.1 with
      | none => simp only; cases h : f.tree? start.1 <;> simp [h]
      | some sm =>
        simp only
        cases hsub : sm.isSub with
        | false => simp only [Bool.false_eq_true, if_false]; cases h : f.tree? start.1 <;> simp [h]
        | true =>
          simp only [if_true]
          cases reg.owner sm with
          | none => simp only [Option.map_none, Option.getD_none]; cases h : f.tree? start.1 <;> simp [h]
          | some o => simp only [Option.map_some, Option.getD_some]; cases h : f.tree? o.seq <;> simp [h]
    · simp only [hp, if_false, beq_iff_eq]
      unfold prefixTree withPrefixError
      cases hb : reg.byId ctx with
      | none => simp only [Option.bind_none, Option.map_none]; cases f.tree? start.1 <;> rfl
      | some cm =>
        simp only [Option.bind_some]
        cases hm : reg.findModuleByPrefix cm pfx with
        | none => simp only [Option.bind_none, Option.map_none]; cases f.tree? start.1 <;> rfl
        | some m =>
          simp only [Option.bind_some]
          cases reg.owner m with
          | none => simp only [Option.map_none]; cases f.tree? start.1 <;> rfl
          | some o =>
            simp only [Option.map_some]
            cases h : f.tree? o.seq <;> simp [h]
  · next parts hne =>
    rw [startOf_rel _ _ _ _ (fun parts h => hne parts h)]
    cases h : f.tree? start.1 <;> simp [h]

/-! ### a step that names nothing -/

theorem walk_bad {root e : Entry} {p : Path} {bad : String} (post : List String)
    (h : root.getAt p = some e) (hb : NamesNoChild e bad) :
    (walkParts (bad :: post) root (some p)).1 = none := by
  obtain ⟨h1, h2, h3⟩ := hb
  have : (turn bad root p e).1 = none := by
    cases hr : e.d.isRpc with
    | true =>
      simp only [hr, if_true] at h3
      simp [turn, h1, h2, hr, h3.1, h3.2]
    | false =>
      simp only [hr, Bool.false_eq_true, if_false] at h3
      simp [turn, h1, h2, hr, h3.1, h3.2]
  rw [walkParts_cons h, this, walkParts_none]

/-! ### well-formedness along a path -/

theorem wfKeys_getAt {root : Entry} (p : Path) : ∀ {e : Entry}, wfKeys root = true → root.getAt p = some e →
    wfKeys e = true := by
  induction p generalizing root with
  | nil => intro e h hg; simp only [Entry.getAt, Option.some.injEq] at hg; subst hg; exact h
  | cons s p ih =>
    intro e h hg
    obtain ⟨c, _, hce, hwc, _⟩ := getAt_cons_wf h hg
    exact ih hwc hce

theorem spellsStep_noSlash {part : String} {s : Step} (h : SpellsStep part s)
    (hn : '/' ∉ (stepName s).toList) : '/' ∉ part.toList := by
  cases h with
  | bare => exact hn
  | pfx p _ hp =>
    simp only [String.toList_append, List.mem_append, not_or]
    exact ⟨⟨hp.2.2, by decide⟩, hn⟩

/-- The written parts of the path of an existing node of a well-formed tree contain no `/`. -/
theorem spells_noSlash {parts : List String} {q : Path} (hs : Spells parts q) :
    ∀ {e x : Entry}, wfKeys e = true → e.getAt q = some x → ∀ s ∈ parts, '/' ∉ s.toList := by
  induction hs with
  | nil => intro e x _ _ s hs; cases hs
  | @cons part st parts q hstep _ ih =>
    intro e x hwf hx s hs
    obtain ⟨c, _, hcx, hwc, hgood⟩ := getAt_cons_wf hwf hx
    rcases List.mem_cons.1 hs with rfl | hs'
    · exact spellsStep_noSlash hstep (goodName_spec hgood).2.2.2.1
    · exact ih hwc hcx s hs'

theorem spells_bare (q : Path) : Spells (bareParts q) q := by
  induction q with
  | nil => exact Spells.nil
  | cons s q ih => exact Spells.cons (SpellsStep.bare s) ih

theorem spells_prefixed {pfx : String} (hp : GoodPrefix pfx) (q : Path) : Spells (prefixedParts pfx q) q := by
  induction q with
  | nil => exact Spells.nil
  | cons s q ih => exact Spells.cons (SpellsStep.pfx pfx s hp) ih

/-! ### rendering -/

theorem splitOn_empty : "".splitOn "/" = [""] := by
  rw [slash_eq, splitOn_char]; simp [List.splitOn_nil]

theorem splitOn_render (parts : List String) (hne : parts ≠ []) (h : ∀ s ∈ parts, '/' ∉ s.toList) :
    (renderRel parts).splitOn "/" = parts := splitOn_intercalate_slash parts hne h

theorem splitOn_renderAbs (parts : List String) (h : ∀ s ∈ parts, '/' ∉ s.toList) :
    (renderAbs parts).splitOn "/" = "" :: parts := by
  unfold renderAbs
  apply splitOn_intercalate_slash _ (by simp)
  intro s hs
  rcases List.mem_cons.1 hs with rfl | hs'
  · simp
  · exact h s hs'

theorem renderAbs_ne (parts : List String) (hne : parts ≠ []) (h : ∀ s ∈ parts, '/' ∉ s.toList) :
    renderAbs parts ≠ "" := by
  intro he
  have := splitOn_renderAbs parts h
  rw [he, splitOn_empty] at this
  simp only [List.cons.injEq, true_and] at this
  exact hne this.symm

theorem renderRel_ne (first : String) (rest : List String) (hf : first ≠ "")
    (h : ∀ s ∈ first :: rest, '/' ∉ s.toList) : renderRel (first :: rest) ≠ "" := by
  intro he
  have := splitOn_render (first :: rest) (by simp) h
  rw [he, splitOn_empty] at this
  simp only [List.cons.injEq] at this
  exact hf this.1.symm


/-- Relative path: the walk starts at the start node. -/
theorem find_renderRel (reg : Registry) (f : Forest) (start : Loc) (ctx : Nat) {parts : List String}
    {root : Entry} (hne : parts ≠ []) (hslash : ∀ s ∈ parts, '/' ∉ s.toList)
    (hhead : parts.head? ≠ some "") (ht : f.tree? start.1 = some root) :
    find reg f start ctx (renderRel parts) =
      ((walkParts parts root (some start.2)).1.map (start.1, ·),
       f.setTree start.1 (walkParts parts root (some start.2)).2) := by
  cases parts with
  | nil => exact absurd rfl hne
  | cons first rest =>
    have hf : first ≠ "" := fun h => hhead (by rw [h]; rfl)
    rw [find_eq_findParts _ _ _ _ _ (renderRel_ne first rest hf hslash), splitOn_render _ hne hslash]
    unfold findParts
    rw [startOf_rel _ _ _ _ (by intro parts h; simp only [List.cons.injEq] at h; exact hf h.1)]
    simp [ht]

/-- Absolute path: the walk starts at the root of the tree the first step selects. -/
theorem find_renderAbs (reg : Registry) (f : Forest) (start : Loc) (ctx : Nat) {parts : List String}
    {t : Nat} {root : Entry} (hne : parts ≠ []) (hslash : ∀ s ∈ parts, '/' ∉ s.toList)
    (hsel : (if (splitPrefix (parts.headD "")).1 == "" then some (homeTree reg start.1)
             else prefixTree reg ctx (splitPrefix (parts.headD "")).1) = some t)
    (ht : f.tree? t = some root) :
    find reg f start ctx (renderAbs parts) =
      ((walkParts parts root (some [])).1.map (t, ·), f.setTree t (walkParts parts root (some [])).2) := by
  rw [find_eq_findParts _ _ _ _ _ (renderAbs_ne parts hne hslash), splitOn_renderAbs parts hslash]
  unfold findParts
  rw [startOf_abs, hsel]
  simp [ht]

/-! ### round trips -/

theorem absSpelling_spells {reg : Registry} {start : Loc} {ctx t : Nat} {parts : List String} {p : Path}
    (h : AbsSpelling reg start ctx t parts p) : Spells parts p := by
  cases h with
  | own s rest q _ hs => exact Spells.cons (SpellsStep.bare s) hs
  | pfx pf s rest q hp _ hs => exact Spells.cons (SpellsStep.pfx pf s hp) hs

theorem prefixTree_of_denotes {reg : Registry} {ctx t : Nat} {pfx : String} (h : Denotes reg ctx pfx t) :
    prefixTree reg ctx pfx = some t := by
  obtain ⟨cm, m, o, h1, h2, h3, h4⟩ := h
  simp [prefixTree, h1, h2, h3, h4]

/-- The name of the first step of an existing path has no `:`. -/
theorem first_noColon {e x : Entry} {s : Step} {q : Path} (hwf : wfKeys e = true)
    (hx : e.getAt (s :: q) = some x) : ':' ∉ (stepName s).toList := by
  obtain ⟨_, _, _, _, hgood⟩ := getAt_cons_wf hwf hx
  exact (goodName_spec hgood).2.2.2.2

theorem abs_roundtrip (reg : Registry) (f : Forest) (start : Loc) (ctx t : Nat) (parts : List String)
    (p : Path) (root x : Entry) (hwf : WFForest f) (hsp : AbsSpelling reg start ctx t parts p)
    (ht : f.tree? t = some root) (hx : root.getAt p = some x) :
    find reg f start ctx (renderAbs parts) = (some (t, p), f) := by
  have hroot : wfKeys root = true := hwf.2 _ (tree?_mem ht)
  have hs := absSpelling_spells hsp
  have hslash := spells_noSlash hs hroot hx
  have hne : parts ≠ [] := by cases hsp <;> simp
  have hsel : (if (splitPrefix (parts.headD "")).1 == "" then some (homeTree reg start.1)
      else prefixTree reg ctx (splitPrefix (parts.headD "")).1) = some t := by
    cases hsp with
    | own s rest q ht' _ =>
      have := first_noColon hroot hx
      simp [splitPrefix_bare _ this, ht']
    | pfx pf s rest q hp hd _ =>
      have := first_noColon hroot hx
      simp [splitPrefix_pfx _ _ hp.2.1 this, hp.1, prefixTree_of_denotes hd]
  rw [find_renderAbs reg f start ctx hne hslash hsel ht]
  have hw := walk_down hs [] [] root x (show root.getAt [] = some root from rfl) hroot hx
  simp only [List.append_nil, List.nil_append, walkParts] at hw
  rw [hw]
  simp [setTree_same hwf.1 ht]

/-! ### relative -/

theorem commonLen_spec (a b : Path) :
    a.take (commonLen a b) = b.take (commonLen a b) ∧ commonLen a b ≤ a.length := by
  induction a generalizing b with
  | nil => simp [commonLen]
  | cons x a ih =>
    cases b with
    | nil => simp [commonLen]
    | cons y b =>
      simp only [commonLen]
      by_cases hxy : x = y
      · subst hxy
        simp only [if_true, List.take_succ_cons, List.cons.injEq, true_and, List.length_cons]
        exact ⟨(ih b).1, by have := (ih b).2; omega⟩
      · simp [hxy]

/-- Any number of `..` steps up to an ancestor, then any spelling of the steps down. -/
theorem rel_roundtrip_gen (reg : Registry) (f : Forest) (ctx t : Nat) (c ra rb : Path) (dparts : List String)
    (root xa xb : Entry) (hwf : WFForest f) (ht : f.tree? t = some root)
    (ha : root.getAt (c ++ ra) = some xa) (hb : root.getAt (c ++ rb) = some xb)
    (hd : Spells dparts rb) (hne : List.replicate ra.length ".." ++ dparts ≠ []) :
    find reg f (t, c ++ ra) ctx (renderRel (List.replicate ra.length ".." ++ dparts)) = (some (t, c ++ rb), f) := by
  have hroot : wfKeys root = true := hwf.2 _ (tree?_mem ht)
  obtain ⟨ec, hec, hecb⟩ := getAt_prefix hb
  have hwc : wfKeys ec = true := wfKeys_getAt c hroot hec
  have hslash : ∀ s ∈ List.replicate ra.length ".." ++ dparts, '/' ∉ s.toList := by
    intro s hs
    rcases List.mem_append.1 hs with h | h
    · rw [List.eq_of_mem_replicate h]; decide
    · exact spells_noSlash hd hwc hecb s h
  -- the first part is not empty
  have hhead : (List.replicate ra.length ".." ++ dparts).head? ≠ some "" := by
    cases ra with
    | cons s ra' => simp [List.replicate_succ]
    | nil =>
      cases hd with
      | nil => exact absurd rfl hne
      | @cons part s parts q hstep _ =>
        obtain ⟨_, _, _, _, hgood⟩ := getAt_cons_wf hwc hecb
        have hn : stepName s ≠ "" := (goodName_spec hgood).1
        have : part ≠ "" := by
          cases hstep with
          | bare => exact hn
          | pfx pf _ hp => exact pfx_ne _ _ _ (by decide)
        simpa using this
  rw [find_renderRel reg f (t, c ++ ra) ctx hne hslash hhead ht]
  simp only
  rw [walk_up dparts c ra xa ha]
  have hw := walk_down hd [] c ec xb hec hwc hecb
  simp only [List.append_nil, walkParts] at hw
  rw [hw]
  simp [setTree_same hwf.1 ht]

theorem rel_roundtrip (reg : Registry) (f : Forest) (ctx t : Nat) (a b : Path) (root xa xb : Entry)
    (hwf : WFForest f) (ht : f.tree? t = some root)
    (ha : root.getAt a = some xa) (hb : root.getAt b = some xb) :
    find reg f (t, a) ctx (relPath a b) = (some (t, b), f) := by
  obtain ⟨htake, hle⟩ := commonLen_spec a b
  unfold relPath relParts
  simp only
  generalize hn : commonLen a b = n at htake hle ⊢
  have hA : a = a.take n ++ a.drop n := (List.take_append_drop _ _).symm
  have hB : b = a.take n ++ b.drop n := by rw [htake]; exact (List.take_append_drop _ _).symm
  have hlen : (a.drop n).length = a.length - n := List.length_drop
  by_cases hemp : (List.replicate (a.length - n) ".." ++ bareParts (b.drop n)).isEmpty = true
  · -- a = b
    simp only [hemp, if_true]
    have h1 : a.length - n = 0 := by
      simp only [List.isEmpty_iff, List.append_eq_nil_iff, List.replicate_eq_nil_iff] at hemp
      exact hemp.1
    have h2 : b.drop n = [] := by
      simp only [List.isEmpty_iff, List.append_eq_nil_iff] at hemp
      simpa [bareParts] using hemp.2
    have hda : a.drop n = [] := List.eq_nil_of_length_eq_zero (by omega)
    have hab : a = b := by rw [hA, hB, hda, h2]
    subst hab
    rw [find_renderRel reg f (t, a) ctx (by simp) (by intro s hs; simp at hs; subst hs; decide) (by decide) ht]
    simp only
    rw [walk_dot [] ha]
    simp [walkParts, setTree_same hwf.1 ht]
  · simp only [hemp, Bool.false_eq_true, if_false]
    have := rel_roundtrip_gen reg f ctx t (a.take n) (a.drop n) (b.drop n)
      (bareParts (b.drop n)) root xa xb hwf ht (by rw [← hA]; exact ha) (by rw [← hB]; exact hb)
      (spells_bare _) (by rw [hlen]; intro h; simp [h] at hemp)
    rw [hlen, ← hA, ← hB] at this
    exact this


/-- Render absolute or relative. -/
def render (abs : Bool) (parts : List String) : String := if abs then renderAbs parts else renderRel parts

theorem splitOn_render_gen (abs : Bool) (parts : List String) (hne : parts ≠ [])
    (h : ∀ s ∈ parts, '/' ∉ s.toList) :
    (render abs parts).splitOn "/" = if abs then "" :: parts else parts := by
  cases abs with
  | true => simp [render, splitOn_renderAbs parts h]
  | false => simp [render, splitOn_render parts hne h]

theorem render_ne (abs : Bool) (parts : List String) (hne : parts ≠ [])
    (h : ∀ s ∈ parts, '/' ∉ s.toList) (hrel : abs = false → parts.head? ≠ some "") : render abs parts ≠ "" := by
  cases abs with
  | true => simpa [render] using renderAbs_ne parts hne h
  | false =>
    cases parts with
    | nil => exact absurd rfl hne
    | cons first rest =>
      have : first ≠ "" := by intro hf; exact hrel rfl (by simp [hf])
      simpa [render] using renderRel_ne first rest this h

theorem startOf_extend (reg : Registry) (start : Loc) (ctx : Nat) (abs : Bool) (pre more : List String)
    (hne : pre ≠ []) (hrel : abs = false → pre.head? ≠ some "") :
    startOf reg start ctx (if abs then "" :: (pre ++ more) else pre ++ more) =
      (startOf reg start ctx (if abs then "" :: pre else pre)).map fun r => (r.1, r.2.1, r.2.2 ++ more) := by
  cases pre with
  | nil => exact absurd rfl hne
  | cons first rest =>
    cases abs with
    | true =>
      simp only [if_true, startOf_abs, List.cons_append, List.headD_cons]
      rw [Option.map_map]; rfl
    | false =>
      have hf : first ≠ "" := by intro hf; exact hrel rfl (by simp [hf])
      simp only [Bool.false_eq_true, if_false, List.cons_append]
      rw [startOf_rel, startOf_rel]
      · rfl
      · intro parts h; simp only [List.cons.injEq] at h; exact hf h.1
      · intro parts h; simp only [List.cons.injEq] at h; exact hf h.1

/-! ### frame -/

/-- Whatever the path, the forest afterwards is the forest before, or the forest before with one
tree replaced by a `Grown` version of itself, or (first prefix unresolvable) the forest before
with the failure recorded on the root of the start tree. -/
theorem frame (reg : Registry) (f : Forest) (start : Loc) (ctx : Nat) (name : String) :
    (find reg f start ctx name).2 = f ∨
    (∃ t root root', f.tree? t = some root ∧ Grown root root' ∧ (find reg f start ctx name).2 = f.setTree t root') ∨
    ((find reg f start ctx name).1 = none ∧ (find reg f start ctx name).2 = withPrefixError f start.1) := by
  by_cases h0 : name = ""
  · left; subst h0; simp [find]
  · rw [find_eq_findParts _ _ _ _ _ h0]
    unfold findParts
    cases startOf reg start ctx (name.splitOn "/") with
    | none => right; right; exact ⟨rfl, rfl⟩
    | some r =>
      obtain ⟨t, cur, ps⟩ := r
      simp only
      cases htr : f.tree? t with
      | none => left; rfl
      | some root =>
        right; left
        exact ⟨t, root, _, htr, walkParts_grown ps root (some cur), rfl⟩


theorem distinct_find {l : List Entry} {k : Entry} (hm : k ∈ l) (hd : distinct (l.map (·.name)) = true) :
    l.find? (·.name == k.name) = some k := by
  induction l with
  | nil => cases hm
  | cons a l ih =>
    simp only [List.map_cons, distinct, Bool.and_eq_true, Bool.not_eq_true', List.contains_eq_mem,
      decide_eq_false_iff_not] at hd
    rcases List.mem_cons.1 hm with rfl | h
    · simp
    · have hne : a.name ≠ k.name := by
        intro heq; apply hd.1; rw [heq]; exact List.mem_map.2 ⟨k, h, rfl⟩
      simp [hne, ih h hd.2]

theorem nodesDir_getAt (d : EData) (all i o : List Entry) (hd : distinct (all.map (·.name)) = true) :
    ∀ ks : List Entry, (∀ k ∈ ks, k ∈ all ∧ ∀ px ∈ nodes k, k.getAt px.1 = some px.2) →
      ∀ px ∈ nodesDir ks, (Entry.mk d all i o).getAt px.1 = some px.2
  | [], _, px, h => by simp [nodesDir] at h
  | k :: rest, hk, px, h => by
    rw [nodesDir] at h
    rcases List.mem_append.1 h with h1 | h2
    · obtain ⟨qy, hqy, rfl⟩ := List.mem_map.1 h1
      have ⟨hm, hn⟩ := hk k (List.mem_cons_self ..)
      simp only [Entry.getAt, Entry.child?, Entry.dir, distinct_find hm hd, Option.bind_some]
      exact hn qy hqy
    · exact nodesDir_getAt d all i o hd rest (fun k h => hk k (List.mem_cons_of_mem _ h)) px h2

theorem nodesSlot_getAt (s : Step) (e : Entry) (l : List Entry) (hl : e.getAt [s] = l.head?)
    (hn : ∀ k ∈ l, ∀ px ∈ nodes k, k.getAt px.1 = some px.2) :
    ∀ px ∈ nodesSlot s l, e.getAt px.1 = some px.2 := by
  intro px h
  cases l with
  | nil => simp [nodesSlot] at h
  | cons k _ =>
    obtain ⟨qy, hqy, rfl⟩ := List.mem_map.1 h
    rw [show s :: qy.1 = [s] ++ qy.1 from rfl, getAt_append, hl]
    exact hn k (List.mem_cons_self ..) qy hqy

theorem getAt_nodes : ∀ (e : Entry), wfKeys e = true → ∀ px ∈ nodes e, e.getAt px.1 = some px.2
  | .mk d c i o, hwf, px, hpx => by
    have wf := wfKeys_node hwf
    rw [nodes] at hpx
    rcases List.mem_cons.1 hpx with rfl | h
    · rfl
    · rcases List.mem_append.1 h with h | h
      · rcases List.mem_append.1 h with h | h
        · exact nodesDir_getAt d c i o wf.distinct c (fun k hk => ⟨hk, getAt_nodes k (wf.dir k hk)⟩) px h
        · exact nodesSlot_getAt .input _ i (by cases i <;> rfl) (fun k hk => getAt_nodes k (wf.inp k hk)) px h
      · exact nodesSlot_getAt .output _ o (by cases o <;> rfl) (fun k hk => getAt_nodes k (wf.out k hk)) px h
termination_by e => e
decreasing_by
  all_goals have := List.sizeOf_lt_of_mem hk
  all_goals simp_wf
  all_goals omega

theorem getAt_nodesDir (d : EData) (all i o : List Entry) (ks : List Entry)
    (hd : distinct (all.map (·.name)) = true) (hsub : ∀ k ∈ ks, k ∈ all) (hwf : wfKeysL ks = true) :
    ∀ px ∈ nodesDir ks, (Entry.mk d all i o).getAt px.1 = some px.2 :=
  nodesDir_getAt d all i o hd ks fun k hk => ⟨hsub k hk, getAt_nodes k ((wfKeysL_iff ks).1 hwf k hk)⟩

theorem getAt_nodesSlot (d : EData) (c i o : List Entry) (isIn : Bool) (l : List Entry)
    (hl : l = if isIn then i else o) (hwf : wfKeysL l = true) :
    ∀ px ∈ nodesSlot (if isIn then Step.input else Step.output) l, (Entry.mk d c i o).getAt px.1 = some px.2 := by
  subst hl
  cases isIn with
  | true => exact nodesSlot_getAt .input _ i (by cases i <;> rfl) fun k hk => getAt_nodes k ((wfKeysL_iff i).1 hwf k hk)
  | false => exact nodesSlot_getAt .output _ o (by cases o <;> rfl) fun k hk => getAt_nodes k ((wfKeysL_iff o).1 hwf k hk)

/-! ### growth keeps every existing node where it is -/

theorem addImplicit_d (b : Bool) (e : Entry) : (addImplicit b e).d = e.d := by
  cases e; cases b <;> rfl

theorem addImplicit_dir (b : Bool) (e : Entry) : (addImplicit b e).dir = e.dir := by
  cases e; cases b <;> rfl

theorem updateAt_d (b : Bool) (p : Path) (e : Entry) : (e.updateAt p (addImplicit b)).d = e.d := by
  cases p with
  | nil => exact addImplicit_d b e
  | cons s p => cases s <;> cases e <;> rfl

theorem find?_map_name (h : Entry → Entry) (hn : ∀ x, (h x).name = x.name) (k : String) (l : List Entry) :
    (l.map h).find? (·.name == k) = (l.find? (·.name == k)).map h := by
  induction l with
  | nil => rfl
  | cons a l ih =>
    simp only [List.map_cons, List.find?_cons, hn]
    cases (a.name == k) <;> simp [ih]

theorem updateAt_addImplicit_getAt (b : Bool) : ∀ (p : Path) (e e0 : Entry), e.getAt p = some e0 →
    (if b then e0.inp = [] else e0.out = []) →
    ∀ (q : Path) (x : Entry), e.getAt q = some x →
      ∃ x', (e.updateAt p (addImplicit b)).getAt q = some x' ∧ x'.d = x.d := by
  intro p
  induction p with
  | nil =>
    intro e e0 he he0 q x hx
    simp only [Entry.getAt, Option.some.injEq] at he
    subst he
    simp only [Entry.updateAt]
    cases q with
    | nil =>
      simp only [Entry.getAt, Option.some.injEq] at hx; subst hx
      exact ⟨_, rfl, addImplicit_d b e⟩
    | cons s q =>
      cases e with
      | mk d c i o =>
        cases s with
        | child k =>
          refine ⟨x, ?_, rfl⟩
          cases b <;> exact hx
        | input =>
          cases b with
          | false => exact ⟨x, hx, rfl⟩
          | true =>
            simp only [if_true, Entry.inp] at he0
            subst he0
            simp [Entry.getAt, Entry.inp] at hx
        | output =>
          cases b with
          | true => exact ⟨x, hx, rfl⟩
          | false =>
            simp only [Bool.false_eq_true, if_false, Entry.out] at he0
            subst he0
            simp [Entry.getAt, Entry.out] at hx
  | cons s p ih =>
    intro e e0 he he0 q x hx
    cases e with
    | mk d c i o =>
      cases q with
      | nil =>
        simp only [Entry.getAt, Option.some.injEq] at hx; subst hx
        exact ⟨_, rfl, updateAt_d b (s :: p) _⟩
      | cons s' q =>
        cases s with
        | child k =>
          simp only [Entry.updateAt]
          cases s' with
          | child k' =>
            simp only [Entry.getAt, Entry.child?, Entry.dir] at he hx ⊢
            rw [find?_map_name _ (by
              intro y; by_cases hy : (y.name == k) = true
              · rw [if_pos hy]; simp only [Entry.name, updateAt_d]
              · rw [if_neg hy])]
            cases hc1 : c.find? (·.name == k') with
            | none => simp [hc1] at hx
            | some c1 =>
              simp only [hc1, Option.bind_some, Option.map_some] at hx ⊢
              have hn1 : c1.name = k' := by simpa using List.find?_some hc1
              by_cases hk : (c1.name == k) = true
              · simp only [hk, if_true]
                have hkk : k' = k := by rw [← hn1]; simpa using hk
                subst hkk
                simp only [hc1, Option.bind_some] at he
                exact ih c1 e0 he he0 q x hx
              · simp only [hk, Bool.false_eq_true, if_false]
                exact ⟨x, hx, rfl⟩
          | input => exact ⟨x, hx, rfl⟩
          | output => exact ⟨x, hx, rfl⟩
        | input =>
          simp only [Entry.updateAt]
          cases s' with
          | child k' => exact ⟨x, hx, rfl⟩
          | output => exact ⟨x, hx, rfl⟩
          | input =>
            simp only [Entry.getAt, Entry.inp] at he hx ⊢
            cases i with
            | nil => simp at hx
            | cons c1 rest =>
              simp only [List.head?_cons, Option.bind_some, List.map_cons] at he hx ⊢
              exact ih c1 e0 he he0 q x hx
        | output =>
          simp only [Entry.updateAt]
          cases s' with
          | child k' => exact ⟨x, hx, rfl⟩
          | input => exact ⟨x, hx, rfl⟩
          | output =>
            simp only [Entry.getAt, Entry.out] at he hx ⊢
            cases o with
            | nil => simp at hx
            | cons c1 rest =>
              simp only [List.head?_cons, Option.bind_some, List.map_cons] at he hx ⊢
              exact ih c1 e0 he he0 q x hx

theorem growStep_getAt {a b : Entry} (h : GrowStep a b) (q : Path) (x : Entry) (hx : a.getAt q = some x) :
    ∃ x', b.getAt q = some x' ∧ x'.d = x.d := by
  cases h with
  | input p e hg _ hi => exact updateAt_addImplicit_getAt true p a e hg (by simpa using hi) q x hx
  | output p e hg _ hi => exact updateAt_addImplicit_getAt false p a e hg (by simpa using hi) q x hx

/-! ### a concrete forest for the non-vacuity examples of Props/C17: two modules, an rpc, a choice with an implicit case -/

namespace Example

def st (kw arg : String) (subs : List Stmt := []) : Stmt := .mk kw true arg "ex.yang" 1 1 subs
/-- `module a { namespace "urn:a"; prefix pa; … }` -/
def modA : Stmt := st "module" "a" [st "namespace" "urn:a", st "prefix" "pa"]
/-- `module b { namespace "urn:b"; prefix pb; import a { prefix qa; } … }` -/
def modB : Stmt := st "module" "b" [st "namespace" "urn:b", st "prefix" "pb", st "import" "a" [st "prefix" "qa"]]
def exReg : Registry := { mods := [⟨0, modA⟩, ⟨1, modB⟩], modules := [("a", 0), ("b", 1)] }

def leaf (n : String) : Entry := .mk { name := n, kind := .leaf, hasDir := false } [] [] []
def dirE (n : String) (k : Kind) (c : List Entry) : Entry := .mk { name := n, kind := k } c [] []

/-- a: container c { leaf x }, choice ch { (implicit case x0) leaf x0 }, rpc r { input { leaf i } } (no output) -/
def treeA : Entry :=
  dirE "a" .directory [
    dirE "c" .directory [leaf "x"],
    dirE "ch" .choice [dirE "x0" .case_ [leaf "x0"]],
    .mk { name := "r", isRpc := true } [] [.mk { name := "input", kind := .input } [leaf "i"] [] []] []]
/-- b: leaf y, container k { leaf z } -/
def treeB : Entry := dirE "b" .directory [leaf "y", dirE "k" .directory [leaf "z"]]
def exF : Forest := { trees := [(0, treeA), (1, treeB)] }

theorem exF_wf : WFForest exF := by
  have : wfForest exF = true := by decide +kernel
  simp only [wfForest, Bool.and_eq_true, List.all_eq_true, decide_eq_true_eq] at this
  exact this

/-- In module b the prefix `qa` denotes module a (tree 0); its own prefix `pb` denotes b. -/
theorem exReg_qa : Denotes exReg 1 "qa" 0 := ⟨⟨1, modB⟩, ⟨0, modA⟩, ⟨0, modA⟩, by rfl, by rfl, by rfl, rfl⟩
theorem exReg_pb : Denotes exReg 1 "pb" 1 := ⟨⟨1, modB⟩, ⟨1, modB⟩, ⟨1, modB⟩, by rfl, by rfl, by rfl, rfl⟩
theorem good_qa : GoodPrefix "qa" := ⟨by decide, by decide, by decide⟩

theorem bogus_split : splitPrefix "qa:bogus" = ("qa", "bogus") := splitPrefix_pfx "qa" "bogus" (by decide) (by decide)

end Example

end Goyang.Lemmas.Find
