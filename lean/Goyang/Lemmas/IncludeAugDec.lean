import Goyang.Lemmas.IncludeAugIO
import Goyang.Lemmas.EntryDecEq
import Goyang.Lemmas.IncludeCheck
/-
C13 (third sentence), augments — with equality of statements and entries decidable (Lemmas/EntryDecEq.lean),
`SameTop σ t' t` (same data but for the statement object, the children equal up to `ren σ` in another order) is
decidable and `LoopsRelatedCore` can be kernel-checked on concrete split pairs (Props/C13Include.lean, `Ex4C`);
`AugArgsPlain` and every hypothesis of `IsSplitOf` but the one on the plug as evaluable conditions
(`AugArgsPlainK`, `SplitCheck` with `isSplitOf_of_check`).
-/
namespace Goyang.Lemmas.IncludeAugDec
open Goyang.Model Goyang.Spec.Include Goyang.Lemmas.IncludeRel

instance (a b : EData) : Decidable (SameData a b) := by unfold SameData; infer_instance

instance (σ : Nat → Nat) (t' t : Entry) : Decidable (SameTop σ t' t) := by unfold SameTop; infer_instance


/-! ### `LoopsRelatedCore` as a decidable check -/
open Goyang.Lemmas.Tree Goyang.Lemmas.IncludeAugCompose Goyang.Lemmas.IncludeAugIO

/-- Both trees exist and the first is `SameTop σ` the second. -/
def treesSameTop (σ : Nat → Nat) : Option Entry → Option Entry → Prop
  | some tu, some t => SameTop σ tu t
  | _, _ => False

instance (σ : Nat → Nat) (a b : Option Entry) : Decidable (treesSameTop σ a b) := by
  cases a <;> cases b <;> unfold treesSameTop <;> infer_instance

theorem exists_of_treesSameTop {σ : Nat → Nat} : ∀ {a b : Option Entry}, treesSameTop σ a b →
    ∃ tu t, a = some tu ∧ b = some t ∧ SameTop σ tu t
  | some tu, some t, h => ⟨tu, t, rfl, rfl, h⟩

/-- `LoopsRelatedCore` in decidable form (the pending table instead of `pendingOf`, the two trees by `match`). -/
def CoreCheck (s : Split) (R R' : Registry) (opts : Opts) (plug plug' : Plug) : Prop :=
  AugmentReport.allErrs (loopU R R' opts plug').forest = [] ∧ (∀ p ∈ (loopU R R' opts plug').pending, p.2 = []) ∧
  treesSameTop s.σ ((loopU R R' opts plug').forest.tree? s.m.seq) ((afterLoop R opts plug).2.forest.tree? s.m.seq)

instance (s : Split) (R R' : Registry) (opts : Opts) (plug plug' : Plug) : Decidable (CoreCheck s R R' opts plug plug') := by
  unfold CoreCheck; infer_instance

theorem core_of_check {s : Split} {R R' : Registry} {opts : Opts} {plug plug' : Plug}
    (h : CoreCheck s R R' opts plug plug') : LoopsRelatedCore s R R' opts plug plug' := by
  obtain ⟨h1, h2, h3⟩ := h
  obtain ⟨tu, t, hu, ht, hst⟩ := exists_of_treesSameTop h3
  exact ⟨h1, fun id => IncludeNoAug.pendingOf_nil _ h2 id, t, tu, ht, hu, hst⟩


/-- `Bridge.AugArgsPlain` with every argument split over its character list (`String.splitOn` does not reduce in the
kernel; `Find.splitOn_char`: the two splits are equal). -/
def AugArgsPlainK (reg : Registry) : Prop :=
  ∀ m ∈ reg.mods, ∀ s ∈ m.stmt.all "augment",
    ((s.arg.toList.splitOn '/').map String.ofList).head? = some "" ∧
    ∀ p ∈ ((s.arg.toList.splitOn '/').map String.ofList).tail, AugmentModel.PlainPart p

instance (reg : Registry) : Decidable (AugArgsPlainK reg) := by unfold AugArgsPlainK; infer_instance

theorem augArgsPlain_of_K {reg : Registry} (h : AugArgsPlainK reg) : Bridge.AugArgsPlain reg := by
  intro m hm s hs
  unfold Bridge.PlainAbsArg
  rw [Find.slash_eq, Find.splitOn_char]
  exact h m hm s hs

open Goyang.Lemmas.IncludeCheck

deriving instance DecidableEq for Model.Mod

instance (R' : Registry) (P Q : Mod) : Decidable (Includes R' P Q) := by unfold Includes; infer_instance

instance (s : Split) : Decidable (TextOK s) :=
  decidable_of_iff _
    ⟨fun ⟨m_kw, owner_kw, owner_arg, m_no_include, m_no_belongs, kept, sub_kw, sub_belongs, sub_prefix, sub_imports,
        sub_no_aug, body⟩ =>
      { m_kw, owner_kw, owner_arg, m_no_include, m_no_belongs, kept, sub_kw, sub_belongs, sub_prefix, sub_imports,
        sub_no_aug, body },
     fun h => And.intro h.m_kw <| And.intro h.owner_kw <| And.intro h.owner_arg <| And.intro h.m_no_include <|
      And.intro h.m_no_belongs <| And.intro h.kept <| And.intro h.sub_kw <| And.intro h.sub_belongs <|
      And.intro h.sub_prefix <| And.intro h.sub_imports <| And.intro h.sub_no_aug h.body⟩

/-- `Q` is reached from `P` through at most `n` include statements. -/
def reachB (R' : Registry) : Nat → Mod → Mod → Bool
  | 0, P, Q => decide (P = Q)
  | n + 1, P, Q => decide (P = Q) || (P.stmt.all "include").any fun a => (R'.findModule true a).any (reachB R' n · Q)

theorem incReach_head {R' : Registry} {P X Q : Mod} (h : Includes R' P X) (hr : IncReach R' X Q) : IncReach R' P Q := by
  induction hr with
  | refl => exact .step (.refl _) h
  | step _ hi ih => exact .step ih hi

theorem incReach_of_reachB {R' : Registry} : ∀ (n : Nat) {P Q : Mod}, reachB R' n P Q = true → IncReach R' P Q
  | 0, P, Q, h => by
    rw [reachB, decide_eq_true_eq] at h
    exact h ▸ .refl P
  | n + 1, P, Q, h => by
    rw [reachB, Bool.or_eq_true, decide_eq_true_eq, List.any_eq_true] at h
    rcases h with h | ⟨a, ha, h⟩
    · exact h ▸ .refl P
    · obtain ⟨X, hX, hr⟩ := (Option.any_eq_true _ _).1 h
      exact incReach_head ⟨a, ha, hX⟩ (incReach_of_reachB n hr)

/-- The clauses of `RegsOK`, in the order of its fields (`m_mem`, `owner_seq`, `seqs_nodup`, `sub_seqs_fresh`, `sub_seqs_nodup`,
`sub_names_nodup`, `mods'`, `modules'`, `subModules`, `subModules'`, `R_modules_only`, `keys_valid`, `m_bound`, `sub_name_ne`,
`inc_resolve`, `inc_cover`, `inc_no_back`, `keys_inj`); `inc_cover`, a reachability, as the bounded search: every submodule
is reached from the owner within as many include steps as there are submodules. -/
def RegsCheck (s : Split) (R R' : Registry) : Prop :=
  s.m ∈ R.mods ∧ s.owner.seq = s.m.seq ∧ (R.mods.map (·.seq)).Nodup ∧ (∀ sb ∈ s.subs, ∀ x ∈ R.mods, sb.seq ≠ x.seq) ∧
  (s.subs.map (·.seq)).Nodup ∧ (s.subs.map (·.name)).Nodup ∧
  R'.mods = R.mods.map (fun x => if x.seq == s.m.seq then s.owner else x) ++ s.subs ∧ R'.modules = R.modules ∧
  R.subModules = [] ∧ R'.subModules = (s.subs.map fun sb => (sb.name, sb.seq)) ∧
  (∀ x ∈ R.mods, x.stmt.kw = "module" ∧ x.stmt.all "belongs-to" = [] ∧ x.stmt.all "include" = []) ∧
  (∀ kv ∈ R.modules, ∃ x ∈ R.mods, x.seq = kv.2) ∧ R.getModule s.m.name = some s.m ∧ (∀ sb ∈ s.subs, sb.name ≠ s.m.name) ∧
  (∀ P ∈ s.parts, ∀ a ∈ P.stmt.all "include", ∃ sb ∈ s.subs, R'.findModule true a = some sb) ∧
  (∀ sb ∈ s.subs, reachB R' s.subs.length s.owner sb = true) ∧
  (∀ P ∈ s.parts, ∀ Q ∈ s.parts, Includes R' P Q → Q ≠ P ∧ ¬ Includes R' Q P) ∧
  ∀ a ∈ s.m.name :: s.subs.map (·.name), ∀ b ∈ s.m.name :: s.subs.map (·.name),
    ∀ c ∈ s.m.name :: s.subs.map (·.name), ∀ d ∈ s.m.name :: s.subs.map (·.name),
    a ++ ":" ++ b = c ++ ":" ++ d → a = c ∧ b = d

def SplitCheck (s : Split) (R R' : Registry) : Prop :=
  TextOK s ∧ RegsCheck s R R' ∧ Visible s R' (linkAll R').1 ∧
  posCheck R = true ∧ posCheck R' = true ∧ refsCheck R = true ∧ refsCheck R' = true ∧ fuelCheck R = true ∧ fuelCheck R' = true

instance (s : Split) (R R' : Registry) : Decidable (RegsCheck s R R') := by unfold RegsCheck; infer_instance

instance (s : Split) (R R' : Registry) : Decidable (SplitCheck s R R') := by unfold SplitCheck Visible; infer_instance

theorem isSplitOf_of_check {s : Split} {R R' : Registry} {plug plug' : Plug} (h : SplitCheck s R R')
    (hp : PlugSplitOK s R R' plug plug') : IsSplitOf s R R' plug plug' :=
  let ⟨text, ⟨m_mem, owner_seq, seqs_nodup, sub_seqs_fresh, sub_seqs_nodup, sub_names_nodup, mods', modules', subModules,
    subModules', R_modules_only, keys_valid, m_bound, sub_name_ne, inc_resolve, inc_reach, inc_no_back, keys_inj⟩,
    visible, pos, pos', refs, refs', fuel, fuel'⟩ := h
  { text
    regs := { m_mem, owner_seq, seqs_nodup, sub_seqs_fresh, sub_seqs_nodup, sub_names_nodup, mods', modules', subModules,
              subModules', R_modules_only, keys_valid, m_bound, sub_name_ne, inc_resolve,
              inc_cover := fun sb hsb => incReach_of_reachB _ (inc_reach sb hsb), inc_no_back, keys_inj }
    visible
    plugOK := hp
    pos := posWF_of_check R pos
    pos' := posWF_of_check R' pos'
    refs := refsWF_of_check R refs
    refs' := refsWF_of_check R' refs'
    fuel := lookupFuelOK_of_check R fuel
    fuel' := lookupFuelOK_of_check R' fuel' }

end Goyang.Lemmas.IncludeAugDec
