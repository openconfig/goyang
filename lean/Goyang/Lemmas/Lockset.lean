import Goyang.Model.Lockset
/-
Helper lemmas for C19 (lock discipline).  Part A: the two invariants of the interleaving
semantics (mutual exclusion of the lock table; every thread is at a position of its program
text) and the lockset theorem per location.  Part B: from the decidable predicates over the fact
table to the discipline of the abstract program the table describes.  Part C: the predicates with
id sets as bit masks and one pass over `F.fns`.
-/
namespace Goyang.Lemmas.Lockset
open Goyang.Model.Lockset

variable {M L : Type} [DecidableEq M]

/-! ## Part A -/

theorem getElem?_set_cases {α : Type} (l : List α) (i j : Nat) (a x : α)
    (h : (l.set i a)[j]? = some x) : (j = i ∧ x = a) ∨ (j ≠ i ∧ l[j]? = some x) := by
  by_cases hji : j = i
  · subst hji
    left
    by_cases hlt : j < l.length
    · simp [List.getElem?_set_self hlt] at h; exact ⟨rfl, h.symm⟩
    · have : (l.set j a)[j]? = none := by simp; omega
      rw [this] at h; cases h
  · right
    rw [List.getElem?_set_ne (fun h => hji h.symm)] at h
    exact ⟨hji, h⟩

/-- Mutual exclusion of the lock table: a mutex held exclusively by one thread is held by no
other thread in any mode. -/
def Excl (s : State M L) : Prop :=
  ∀ (i j : Nat) (ti tj : Thread M L) (m : M), s[i]? = some ti → s[j]? = some tj → i ≠ j →
    m ∈ ti.held.excl → (m ∉ tj.held.excl ∧ m ∉ tj.held.shared)

omit [DecidableEq M] in
theorem excl_start (prog : List (List (Ev M L))) : Excl (start prog) := by
  intro i j ti tj m hi _ _ hm
  simp only [start, List.getElem?_map, Option.map_eq_some_iff] at hi
  obtain ⟨p, _, rfl⟩ := hi
  simp [Held.empty] at hm

theorem after_excl {h : Held M} {e : Ev M L} {m : M} (hm : m ∈ (h.after e).excl) :
    m ∈ h.excl ∨ e = .acquire m .excl := by
  rcases e with ⟨m', _ | _⟩ | m' | l | l
  · exact Or.inl hm
  · exact (List.mem_cons.1 hm).symm.imp_right fun h => by rw [h]
  · exact Or.inl (List.mem_of_mem_erase hm)
  · exact Or.inl hm
  · exact Or.inl hm

theorem after_shared {h : Held M} {e : Ev M L} {m : M} (hm : m ∈ (h.after e).shared) :
    m ∈ h.shared ∨ e = .acquire m .shared := by
  rcases e with ⟨m', _ | _⟩ | m' | l | l
  · exact (List.mem_cons.1 hm).symm.imp_right fun h => by rw [h]
  · exact Or.inl hm
  · exact Or.inl (List.mem_of_mem_erase hm)
  · exact Or.inl hm
  · exact Or.inl hm

theorem excl_step (s s' : State M L) (hinv : Excl s) (h : Step s s') : Excl s' := by
  cases h with
  | mk i t e rest hi htodo hen =>
    intro a b ta tb m' ha hb hab hm'
    rcases getElem?_set_cases _ _ _ _ _ ha with ⟨rfl, rfl⟩ | ⟨hai, ha'⟩ <;>
    rcases getElem?_set_cases _ _ _ _ _ hb with ⟨hbi, rfl⟩ | ⟨hbi, hb'⟩
    · exact absurd hbi.symm hab
    · -- the stepping thread is the exclusive holder
      rcases after_excl hm' with h | rfl
      · exact hinv a b t tb m' hi hb' hab h
      · exact hen b tb hb'
    · -- the stepping thread is the other one
      have := hinv a i ta t m' ha' hi hai hm'
      refine ⟨fun h => ?_, fun h => ?_⟩
      · rcases after_excl h with h | rfl
        · exact this.1 h
        · exact (hen a ta ha').1 hm'
      · rcases after_shared h with h | rfl
        · exact this.2 h
        · exact hen a ta ha' hm'
    · exact hinv a b ta tb m' ha' hb' hab hm'

theorem excl_reach (prog : List (List (Ev M L))) (s : State M L) (h : Reach prog s) : Excl s := by
  induction h with
  | start => exact excl_start prog
  | step _ hs ih => exact excl_step _ _ ih hs

/-- Every thread sits at a position of its program text, holding what the text before that
position acquired and did not release. -/
def AtPos (prog : List (List (Ev M L))) (s : State M L) : Prop :=
  ∀ (i : Nat) (t : Thread M L), s[i]? = some t →
    ∃ (pre : List (Ev M L)), prog[i]? = some (pre ++ t.todo) ∧ t.held = heldAfter pre

theorem heldAfter_snoc (pre : List (Ev M L)) (e : Ev M L) :
    heldAfter (pre ++ [e]) = (heldAfter pre).after e := by
  simp [heldAfter, List.foldl_append]

theorem atPos_start (prog : List (List (Ev M L))) : AtPos prog (start prog) := by
  intro i t hi
  simp only [start, List.getElem?_map, Option.map_eq_some_iff] at hi
  obtain ⟨p, hp, rfl⟩ := hi
  exact ⟨[], by simpa using hp, rfl⟩

theorem atPos_step (prog : List (List (Ev M L))) (s s' : State M L) (hinv : AtPos prog s)
    (h : Step s s') : AtPos prog s' := by
  cases h with
  | mk i t e rest hi htodo _ =>
    intro a ta ha
    rcases getElem?_set_cases _ _ _ _ _ ha with ⟨rfl, rfl⟩ | ⟨_, ha'⟩
    · obtain ⟨pre, hp, hh⟩ := hinv a t hi
      refine ⟨pre ++ [e], ?_, ?_⟩
      · rw [hp, htodo]; simp
      · rw [heldAfter_snoc, hh]
    · exact hinv a ta ha'

theorem atPos_reach (prog : List (List (Ev M L))) (s : State M L) (h : Reach prog s) : AtPos prog s := by
  induction h with
  | start => exact atPos_start prog
  | step _ hs ih => exact atPos_step _ _ _ ih hs

/-- The lockset theorem for one location. -/
theorem lockset_on (prog : List (List (Ev M L))) (l : L) (hd : DisciplinedOn prog l)
    (s : State M L) (hr : Reach prog s) : ¬ RaceOn s l := by
  rintro ⟨i, j, ti, tj, ri, rj, hij, hi, hj, hwi, hj'⟩
  have hex := excl_reach prog s hr
  obtain ⟨prei, hpi, hhi⟩ := atPos_reach prog s hr i ti hi
  obtain ⟨prej, hpj, hhj⟩ := atPos_reach prog s hr j tj hj
  have key : ∀ (b : Bool), tj.todo = acc b l :: rj → False := by
    intro b hb
    have hp := hd i j _ _ prei ri prej rj b hij hpi hpj (by rw [hwi]) (by rw [hb])
    rw [← hhi, ← hhj] at hp
    obtain ⟨m, hm | hm⟩ := hp
    · have := hex i j ti tj m hi hj hij hm.1
      rcases hm.2 with h | h
      · exact this.1 h
      · exact this.2 h
    · have := hex j i tj ti m hj hi (fun h => hij h.symm) hm.1
      rcases hm.2 with h | h
      · exact this.1 h
      · exact this.2 h
  rcases hj' with h | h
  · exact key true (by simpa [acc] using h)
  · exact key false (by simpa [acc] using h)

/-! ## Part B -/

theorem memN_iff (x : Nat) (l : List Nat) : memN x l = true ↔ x ∈ l := by
  induction l with
  | nil => simp [memN]
  | cons y ys ih =>
    simp only [memN, Bool.or_eq_true, ih, List.mem_cons]
    constructor
    · rintro (h | h)
      · exact Or.inl (Nat.eq_of_beq_eq_true h)
      · exact Or.inr h
    · rintro (h | h)
      · exact Or.inl (by subst h; exact Nat.beq_refl x)
      · exact Or.inr h

theorem heldHas_iff (m : Nat) (h : List (Nat × Bool)) : heldHas m h = true ↔ ∃ x, (m, x) ∈ h := by
  simp only [heldHas, List.any_eq_true]
  constructor
  · rintro ⟨⟨m', x⟩, hmem, hb⟩
    have : m' = m := Nat.eq_of_beq_eq_true hb
    subst this
    exact ⟨x, hmem⟩
  · rintro ⟨x, hmem⟩
    exact ⟨(m, x), hmem, Nat.beq_refl m⟩

theorem heldExcl_iff (m : Nat) (h : List (Nat × Bool)) : heldExcl m h = true ↔ (m, true) ∈ h := by
  simp only [heldExcl, List.any_eq_true, Bool.and_eq_true]
  constructor
  · rintro ⟨⟨m', x⟩, hmem, hb, hx⟩
    have : m' = m := Nat.eq_of_beq_eq_true hb
    subst this
    simp only at hx
    subst hx
    exact hmem
  · intro hmem
    exact ⟨(m, true), hmem, Nat.beq_refl m, rfl⟩

theorem protects_spec (w a : List (Nat × Bool)) (h : protects w a = true) :
    ∃ m, ((m, true) ∈ w ∧ ∃ x, (m, x) ∈ a) ∨ ((m, true) ∈ a ∧ ∃ x, (m, x) ∈ w) := by
  simp only [protects, Bool.or_eq_true, List.any_eq_true, Bool.and_eq_true] at h
  rcases h with ⟨⟨m, x⟩, hmem, hx, hh⟩ | ⟨⟨m, x⟩, hmem, hx, hh⟩
  · simp only at hx; subst hx
    exact ⟨m, Or.inl ⟨hmem, (heldHas_iff _ _).1 hh⟩⟩
  · simp only at hx; subst hx
    exact ⟨m, Or.inr ⟨hmem, (heldHas_iff _ _).1 hh⟩⟩

/-- `P` holds at every access event of `evs`, for the lock set held there when starting from `h`. -/
def AllAcc (P : Held M → Bool → L → Prop) : Held M → List (Ev M L) → Prop
  | _, [] => True
  | h, e :: r => (∀ (b : Bool) (l : L), e = acc b l → P h b l) ∧ AllAcc P (h.after e) r

theorem allAcc_append (P : Held M → Bool → L → Prop) (xs ys : List (Ev M L)) (h : Held M) :
    AllAcc P h (xs ++ ys) ↔ AllAcc P h xs ∧ AllAcc P (xs.foldl Held.after h) ys := by
  induction xs generalizing h with
  | nil => simp [AllAcc]
  | cons x xs ih => simp only [List.cons_append, AllAcc, List.foldl_cons, ih, and_assoc]

theorem allAcc_split (P : Held M → Bool → L → Prop) (pre post : List (Ev M L)) (b : Bool) (l : L)
    (h : AllAcc P Held.empty (pre ++ acc b l :: post)) : P (heldAfter pre) b l := by
  rw [allAcc_append] at h
  exact h.2.1 b l rfl

omit [DecidableEq M] in
theorem acc_inj {w b : Bool} {l l' : L} (h : (acc w l : Ev M L) = acc b l') : w = b ∧ l = l' := by
  cases w <;> cases b <;> simp [acc] at h <;> simp [h]

theorem allAcc_acquires (P : Held (Nat × Nat) → Bool → (Nat × Nat) → Prop) (inst : Nat)
    (hs : List (Nat × Bool)) (h : Held (Nat × Nat)) : AllAcc P h (acquires inst hs) := by
  induction hs generalizing h with
  | nil => simp [acquires, AllAcc]
  | cons x xs ih =>
    simp only [acquires, List.map_cons, AllAcc]
    refine ⟨fun b l hb => ?_, ih _⟩
    cases b <;> simp [acc] at hb

theorem allAcc_releases (P : Held (Nat × Nat) → Bool → (Nat × Nat) → Prop) (inst : Nat)
    (hs : List (Nat × Bool)) (h : Held (Nat × Nat)) : AllAcc P h (releases inst hs) := by
  induction hs generalizing h with
  | nil => simp [releases, AllAcc]
  | cons x xs ih =>
    simp only [releases, List.map_cons, AllAcc]
    refine ⟨fun b l hb => ?_, ih _⟩
    cases b <;> simp [acc] at hb

/-- The static lock set of a site, read for instance `inst`, is part of a dynamic lock set. -/
def HeldIn (inst : Nat) (hs : List (Nat × Bool)) (H : Held (Nat × Nat)) : Prop :=
  ∀ (m : Nat) (x : Bool), (m, x) ∈ hs → if x = true then (inst, m) ∈ H.excl else (inst, m) ∈ H.shared

theorem acquires_mono (inst : Nat) (hs : List (Nat × Bool)) (h : Held (Nat × Nat)) :
    (∀ m, m ∈ h.excl → m ∈ ((acquires inst hs).foldl Held.after h).excl) ∧
    (∀ m, m ∈ h.shared → m ∈ ((acquires inst hs).foldl Held.after h).shared) := by
  induction hs generalizing h with
  | nil => simp [acquires]
  | cons x xs ih =>
    obtain ⟨m0, x0⟩ := x
    simp only [acquires, List.map_cons, List.foldl_cons]
    have := ih (h.after (Ev.acquire (L := Nat × Nat) (inst, m0) (mode x0)))
    simp only [acquires] at this
    constructor
    · intro m hm
      apply this.1
      cases x0 <;> simp [mode, Held.after, hm]
    · intro m hm
      apply this.2
      cases x0 <;> simp [mode, Held.after, hm]

theorem heldIn_acquires (inst : Nat) (hs : List (Nat × Bool)) (h : Held (Nat × Nat)) :
    HeldIn inst hs ((acquires inst hs).foldl Held.after h) := by
  induction hs generalizing h with
  | nil => intro m x hm; simp at hm
  | cons y ys ih =>
    obtain ⟨m0, x0⟩ := y
    intro m x hm
    simp only [acquires, List.map_cons, List.foldl_cons]
    simp only [List.mem_cons, Prod.mk.injEq] at hm
    rcases hm with ⟨rfl, rfl⟩ | hm
    · have := acquires_mono inst ys (h.after (Ev.acquire (L := Nat × Nat) (inst, m) (mode x)))
      simp only [acquires] at this
      cases x
      · simp only [Bool.false_eq_true, if_false]
        exact this.2 _ (by simp [mode, Held.after])
      · simp only [if_true]
        exact this.1 _ (by simp [mode, Held.after])
    · have := ih (h.after (Ev.acquire (L := Nat × Nat) (inst, m0) (mode x0))) m x hm
      simpa only [acquires] using this

/-- What is known about an access event of a thread: it stems from an `ok` site of a function
in `S`, and the site's static lock set is held. -/
def Covered (F : Facts) (ok : Acc → Bool) (inst : Nat) (S : Nat → Prop)
    (H : Held (Nat × Nat)) (b : Bool) (l : Nat × Nat) : Prop :=
  ∃ (g : Nat) (fn : Fn) (a : Acc), S g ∧ F.fns[g]? = some fn ∧ a ∈ (if b = true then fn.writes else fn.reads) ∧
    ok a = true ∧ l = locOf F inst a.tgt ∧ HeldIn inst a.held H

/-- `S` is closed under the `ok` call edges. -/
def Closed (F : Facts) (ok : Acc → Bool) (S : Nat → Prop) : Prop :=
  ∀ (g : Nat) (fn : Fn) (a : Acc), S g → F.fns[g]? = some fn → a ∈ fn.calls → ok a = true → S a.tgt

theorem run_covered (F : Facts) (ok : Acc → Bool) (inst : Nat) (S : Nat → Prop) (hc : Closed F ok S)
    (f : Nat) (tr : List AEv) (hr : Run F ok inst f tr) (hf : S f) :
    ∀ h, AllAcc (Covered F ok inst S) h tr := by
  induction hr with
  | done f => intro h; trivial
  | access f fn w a rest hfn ha hok _ ih =>
    intro h
    rw [allAcc_append]
    refine ⟨allAcc_acquires _ _ _ _, ?_, ?_⟩
    · intro b l hb
      obtain ⟨rfl, rfl⟩ := acc_inj hb
      refine ⟨f, fn, a, hf, hfn, ?_, hok, rfl, heldIn_acquires _ _ _⟩
      cases w <;> simpa using ha
    · rw [allAcc_append]
      exact ⟨allAcc_releases _ _ _ _, ih hf _⟩
  | call f fn a sub rest hfn ha hok _ _ ihsub ihrest =>
    intro h
    rw [allAcc_append, allAcc_append]
    refine ⟨⟨allAcc_acquires _ _ _ _, ihsub (hc f fn a hf hfn ha hok) _⟩, ?_⟩
    rw [allAcc_append]
    exact ⟨allAcc_releases _ _ _ _, ihrest hf _⟩

theorem calls_covered (F : Facts) (ok : Acc → Bool) (inst : Nat) (roots S : Nat → Prop)
    (hc : Closed F ok S) (hroots : ∀ r, roots r → S r) (p : List AEv) (hp : Calls F ok inst roots p) :
    ∀ h, AllAcc (Covered F ok inst S) h p := by
  induction hp with
  | nil => intro h; trivial
  | cons r tr rest hr hrun _ ih =>
    intro h
    rw [allAcc_append]
    exact ⟨run_covered F ok inst S hc r tr hrun (hroots r hr) h, ih _⟩

/-- Every access event of a thread is covered by a site. -/
theorem thread_covered (F : Facts) (ok : Acc → Bool) (inst : Nat) (roots S : Nat → Prop)
    (hc : Closed F ok S) (hroots : ∀ r, roots r → S r) (p pre post : List AEv) (b : Bool) (l : Nat × Nat)
    (hp : Calls F ok inst roots p) (hsplit : p = pre ++ acc b l :: post) :
    Covered F ok inst S (heldAfter pre) b l := by
  have := calls_covered F ok inst roots S hc hroots p hp Held.empty
  rw [hsplit] at this
  exact allAcc_split _ _ _ _ _ this

/-! ### What the decidable predicates say -/

theorem allIdx_go_spec {α : Type} (p : Nat → α → Bool) (l : List α) (k : Nat) (h : allIdx.go p k l = true) :
    ∀ (i : Nat) (x : α), l[i]? = some x → p (k + i) x = true := by
  induction l generalizing k with
  | nil => intro i x hx; simp at hx
  | cons y ys ih =>
    simp only [allIdx.go, Bool.and_eq_true] at h
    intro i x hx
    cases i with
    | zero => simp at hx; subst hx; simpa using h.1
    | succ i =>
      simp only [List.getElem?_cons_succ] at hx
      have := ih (k + 1) h.2 i x hx
      rwa [Nat.add_assoc, Nat.add_comm 1 i] at this

theorem allIdx_spec {α : Type} (p : Nat → α → Bool) (l : List α) (h : allIdx l p = true) :
    ∀ (i : Nat) (x : α), l[i]? = some x → p i x = true := by
  intro i x hx
  have := allIdx_go_spec p l 0 h i x hx
  simpa using this

structure ReaderSpec (F : Facts) : Prop where
  roots : ∀ r, memN r F.readerRoots = true → memN r F.readerReach = true
  closed : Closed F inClaim (fun g => memN g F.readerReach = true)
  pairs : ∀ (g1 g2 : Nat) (fn1 fn2 : Fn) (w a : Acc), memN g1 F.readerReach = true → memN g2 F.readerReach = true →
    F.fns[g1]? = some fn1 → F.fns[g2]? = some fn2 → w ∈ fn1.writes → inClaim w = true →
    (a ∈ fn2.writes ∨ a ∈ fn2.reads) → inClaim a = true → a.tgt = w.tgt → protects w.held a.held = true

theorem readerDiscipline_spec (F : Facts) (h : ReaderDiscipline F = true) : ReaderSpec F := by
  simp only [ReaderDiscipline, Bool.and_eq_true, List.all_eq_true] at h
  obtain ⟨⟨⟨_, h1⟩, h2⟩, h3⟩ := h
  refine ⟨?_, ?_, ?_⟩
  · intro r hr
    exact h1 r ((memN_iff _ _).1 hr)
  · intro g fn a hg hfn ha hok
    have := h2 g ((memN_iff _ _).1 hg)
    rw [hfn] at this
    simp only [List.all_eq_true] at this
    have := this a ha
    simpa [hok] using this
  · intro g1 g2 fn1 fn2 w a hg1 hg2 hf1 hf2 hw hwc ha hac htgt
    have hwm : w ∈ claimWrites F F.readerReach := by
      simp only [claimWrites, List.mem_flatMap]
      exact ⟨g1, (memN_iff _ _).1 hg1, by rw [hf1]; exact List.mem_filter.2 ⟨hw, hwc⟩⟩
    have ham : a ∈ claimAccesses F F.readerReach := by
      simp only [claimAccesses, List.mem_flatMap]
      refine ⟨g2, (memN_iff _ _).1 hg2, ?_⟩
      rw [hf2]
      exact List.mem_filter.2 ⟨List.mem_append.2 ha, hac⟩
    have := h3 w hwm a ham
    simpa [htgt] using this

structure GlobalsSpec (F : Facts) : Prop where
  writes : ∀ (i : Nat) (fn : Fn) (w : Acc), F.fns[i]? = some fn → w ∈ fn.writes → memN w.tgt F.globals = true →
    memN i F.initOnly = true
  callers : ∀ (i : Nat) (fn : Fn) (c : Acc), F.fns[i]? = some fn → c ∈ fn.calls → memN c.tgt F.initOnly = true →
    memN i F.initOnly = true
  confined : ∀ f, memN f F.initOnly = true → memN f F.initRoots = true ∨ ∃ fn, F.fns[f]? = some fn ∧ fn.escapes = false
  roots : ∀ r, memN r F.readerRoots = true → memN r F.initOnly = false

theorem globalsInitOnly_spec (F : Facts) (h : GlobalsInitOnly F = true) : GlobalsSpec F := by
  simp only [GlobalsInitOnly, Bool.and_eq_true, List.all_eq_true] at h
  obtain ⟨⟨h1, h2⟩, h3⟩ := h
  have h1' := allIdx_spec _ _ h1
  refine ⟨?_, ?_, ?_, ?_⟩
  · intro i fn w hfn hw hg
    have := h1' i fn hfn
    simp only [Bool.and_eq_true, List.all_eq_true] at this
    have := this.1 w hw
    simpa [hg] using this
  · intro i fn c hfn hc hg
    have := h1' i fn hfn
    simp only [Bool.and_eq_true, List.all_eq_true] at this
    have := this.2 c hc
    simpa [hg] using this
  · intro f hf
    have := h2 f ((memN_iff _ _).1 hf)
    simp only [Bool.or_eq_true] at this
    rcases this with h | h
    · exact Or.inl h
    · right
      cases hfn : F.fns[f]? with
      | none => simp [hfn] at h
      | some fn => exact ⟨fn, rfl, by simpa [hfn] using h⟩
  · intro r hr
    have := h3 r ((memN_iff _ _).1 hr)
    simpa using this

structure GuardSpec (F : Facts) (g : Nat × Nat × Bool) : Prop where
  notGlobal : memN g.1 F.globals = false
  writes : ∀ (fn : Fn) (w : Acc), fn ∈ F.fns → w ∈ fn.writes → w.tgt = g.1 → (g.2.1, true) ∈ w.held
  reads : g.2.2 = true → ∀ (fn : Fn) (r : Acc), fn ∈ F.fns → r ∈ fn.reads → r.tgt = g.1 → ∃ x, (g.2.1, x) ∈ r.held

theorem guardedLocations_spec (F : Facts) (h : GuardedLocations F = true) :
    ∀ g, g ∈ F.guards → GuardSpec F g := by
  simp only [GuardedLocations, List.all_eq_true, Bool.and_eq_true] at h
  intro g hg
  obtain ⟨h0, h1⟩ := h g hg
  refine ⟨by simpa using h0, ?_, ?_⟩
  · intro fn w hfn hw htgt
    have := (h1 fn hfn).1 w hw
    simp only [htgt, Nat.beq_refl, Bool.not_true, Bool.false_or] at this
    exact (heldExcl_iff _ _).1 this
  · intro hr fn r hfn hrd htgt
    have := (h1 fn hfn).2
    simp only [hr, Bool.not_true, Bool.false_or, List.all_eq_true] at this
    have := this r hrd
    simp only [htgt, Nat.beq_refl, Bool.not_true, Bool.false_or] at this
    exact (heldHas_iff _ _).1 this

/-! ### From the predicates to the discipline of the abstract program -/

/-- What is known about an access event of goroutine `k` of a C19 program. -/
def ThreadFact (F : Facts) (k : Nat) (H : Held (Nat × Nat)) (b : Bool) (l : Nat × Nat) : Prop :=
  ∃ (inst g : Nat) (fn : Fn) (a : Acc),
    ((inst = sharedInst ∧ memN g F.readerReach = true ∧ inClaim a = true) ∨ inst = k + 2) ∧
    memN g F.initOnly = false ∧ F.fns[g]? = some fn ∧ a ∈ (if b = true then fn.writes else fn.reads) ∧
    l = locOf F inst a.tgt ∧ HeldIn inst a.held H

theorem notInit_closed (F : Facts) (hG : GlobalsSpec F) (ok : Acc → Bool) :
    Closed F ok (fun g => memN g F.initOnly = false) := by
  intro g fn a hg hfn ha _
  cases hc : memN a.tgt F.initOnly with
  | false => rfl
  | true =>
    have := hG.callers g fn a hfn ha hc
    rw [this] at hg; cases hg

theorem thread_fact (F : Facts) (hR : ReaderSpec F) (hG : GlobalsSpec F) (k : Nat) (p pre post : List AEv)
    (b : Bool) (l : Nat × Nat) (hp : ReaderThread F p ∨ PipelineThread F k p)
    (hsplit : p = pre ++ acc b l :: post) : ThreadFact F k (heldAfter pre) b l := by
  rcases hp with hp | hp
  · have hc : Closed F inClaim (fun g => memN g F.readerReach = true ∧ memN g F.initOnly = false) := by
      intro g fn a hg hfn ha hok
      exact ⟨hR.closed g fn a hg.1 hfn ha hok, notInit_closed F hG inClaim g fn a hg.2 hfn ha hok⟩
    obtain ⟨g, fn, a, hS, hfn, ha, hok, hl, hh⟩ :=
      thread_covered F inClaim sharedInst _ _ hc (fun r hr => ⟨hR.roots r hr, hG.roots r hr⟩) p pre post b l hp hsplit
    exact ⟨sharedInst, g, fn, a, Or.inl ⟨rfl, hS.1, hok⟩, hS.2, hfn, ha, hl, hh⟩
  · obtain ⟨g, fn, a, hS, hfn, ha, _, hl, hh⟩ :=
      thread_covered F (fun _ => true) (k + 2) _ _ (notInit_closed F hG _) (fun r hr => hr) p pre post b l hp hsplit
    exact ⟨k + 2, g, fn, a, Or.inr rfl, hS, hfn, ha, hl, hh⟩

theorem protects_lift (inst : Nat) (w a : List (Nat × Bool)) (Hw Ha : Held (Nat × Nat))
    (hp : protects w a = true) (hw : HeldIn inst w Hw) (ha : HeldIn inst a Ha) : Protects Hw Ha := by
  obtain ⟨m, ⟨hmw, x, hma⟩ | ⟨hma, x, hmw⟩⟩ := protects_spec w a hp
  · refine ⟨(inst, m), Or.inl ⟨by simpa using hw m true hmw, ?_⟩⟩
    have := ha m x hma
    cases x
    · exact Or.inr (by simpa using this)
    · exact Or.inl (by simpa using this)
  · refine ⟨(inst, m), Or.inr ⟨by simpa using ha m true hma, ?_⟩⟩
    have := hw m x hmw
    cases x
    · exact Or.inr (by simpa using this)
    · exact Or.inl (by simpa using this)

theorem c19_disciplined (F : Facts) (hR : ReaderSpec F) (hG : GlobalsSpec F) (prog : List (List AEv))
    (hprog : C19Program F prog) : Disciplined prog := by
  intro l i j pi pj prei posti prej postj b hij hpi hpj hsi hsj
  obtain ⟨insti, gi, fni, ai, hki, hni, hfi, hai, hli, hhi⟩ :=
    thread_fact F hR hG i pi prei posti true l (hprog i pi hpi) (by simpa [acc] using hsi)
  obtain ⟨instj, gj, fnj, aj, hkj, hnj, hfj, haj, hlj, hhj⟩ :=
    thread_fact F hR hG j pj prej postj b l (hprog j pj hpj) hsj
  simp only [if_true] at hai
  -- the written location is not a package-level variable
  have hng : memN ai.tgt F.globals = false := by
    cases hc : memN ai.tgt F.globals with
    | false => rfl
    | true =>
      have := hG.writes gi fni ai hfi hai hc
      rw [this] at hni; cases hni
  have hinsti : insti ≠ 0 := by
    rcases hki with ⟨h, _⟩ | h <;> simp [h, sharedInst]
  simp only [locOf, hng, Bool.false_eq_true, if_false] at hli
  subst hli
  simp only [locOf] at hlj
  split at hlj
  · simp only [Prod.mk.injEq] at hlj
    exact absurd hlj.1 hinsti
  · simp only [Prod.mk.injEq] at hlj
    obtain ⟨hinst, htgt⟩ := hlj
    subst hinst
    rcases hki with ⟨hi1, hri, hci⟩ | hi2
    · rcases hkj with ⟨_, hrj, hcj⟩ | hj2
      · have haj' : aj ∈ fnj.writes ∨ aj ∈ fnj.reads := by
          cases b
          · exact Or.inr (by simpa using haj)
          · exact Or.inl (by simpa using haj)
        have := hR.pairs gi gj fni fnj ai aj hri hrj hfi hfj hai hci haj' hcj htgt.symm
        exact protects_lift _ _ _ _ _ this hhi hhj
      · simp [sharedInst] at hi1; omega
    · rcases hkj with ⟨hj1, _, _⟩ | hj2
      · simp [sharedInst] at hj1; omega
      · omega

theorem guarded_disciplined (F : Facts) (g : Nat × Nat × Bool) (hg : GuardSpec F g) (hstrict : g.2.2 = true)
    (prog : List (List AEv)) (hprog : AnyProgram F prog) : DisciplinedOn prog (sharedInst, g.1) := by
  intro i j pi pj prei posti prej postj b _ hpi hpj hsi hsj
  have hc : Closed F (fun _ => true) (fun _ => True) := fun _ _ _ _ _ _ _ => trivial
  obtain ⟨gi, fni, ai, _, hfi, hai, _, hli, hhi⟩ :=
    thread_covered F (fun _ => true) sharedInst _ _ hc (fun _ h => h) pi prei posti true _ (hprog i pi hpi)
      (by simpa [acc] using hsi)
  obtain ⟨gj, fnj, aj, _, hfj, haj, _, hlj, hhj⟩ :=
    thread_covered F (fun _ => true) sharedInst _ _ hc (fun _ h => h) pj prej postj b _ (hprog j pj hpj) hsj
  simp only [if_true] at hai
  have tgt_of : ∀ (a : Acc), (sharedInst, g.1) = locOf F sharedInst a.tgt → a.tgt = g.1 := by
    intro a h
    simp only [locOf] at h
    split at h
    · simp [sharedInst] at h
    · simp only [Prod.mk.injEq] at h; exact h.2.symm
  have hmi := hg.writes fni ai (List.mem_of_getElem? hfi) hai (tgt_of ai hli)
  have hi' := hhi _ _ hmi
  simp only [if_true] at hi'
  refine ⟨(sharedInst, g.2.1), Or.inl ⟨hi', ?_⟩⟩
  cases b
  · simp only [Bool.false_eq_true, if_false] at haj
    obtain ⟨x, hx⟩ := hg.reads hstrict fnj aj (List.mem_of_getElem? hfj) haj (tgt_of aj hlj)
    have := hhj _ _ hx
    cases x
    · exact Or.inr (by simpa using this)
    · exact Or.inl (by simpa using this)
  · simp only [if_true] at haj
    have := hhj _ _ (hg.writes fnj aj (List.mem_of_getElem? hfj) haj (tgt_of aj hlj))
    exact Or.inl (by simpa using this)

/-! ## Part C: the table predicates with id sets as bit masks and one pass over `F.fns`

A set of ids is a number with those bits set instead of a list searched by `memN`, and the functions
a list of ids names are taken out of `F.fns` in one pass instead of one lookup each.  Each form
equals the predicate of `Model/Lockset.lean` on every table (`readerDiscipline_eq`,
`guardedLocations_eq`, `testBit_mask`); these are the forms `Props/C19.lean` evaluates. -/

def mask (l : List Nat) : Nat := l.foldr (fun x m => 1 <<< x ||| m) 0

theorem testBit_mask (l : List Nat) (x : Nat) : (mask l).testBit x = memN x l := by
  induction l with
  | nil => simp [mask, memN]
  | cons y ys ih =>
    rw [mask, List.foldr_cons, ← mask, Nat.testBit_or, ih, memN, Nat.one_shiftLeft, Nat.testBit_two_pow]
    congr 1
    rw [Bool.eq_iff_iff, decide_eq_true_eq, Nat.beq_eq]
    exact eq_comm

def sel {α : Type} (m : Nat) (l : List α) : List α := (l.zipIdx.filter fun p => m.testBit p.2).map (·.1)

theorem mem_sel_mask {α : Type} (R : List Nat) (l : List α) (x : α) :
    x ∈ sel (mask R) l ↔ ∃ f ∈ R, l[f]? = some x := by
  simp [sel, List.mem_zipIdx_iff_getElem?, testBit_mask, memN_iff, and_comm]

theorem all_lookup (l : List Fn) (R : List Nat) (q : Fn → Bool) :
    R.all (fun f => match l[f]? with | some fn => q fn | none => false) =
      (R.all (fun f => decide (f < l.length)) && (sel (mask R) l).all q) := by
  rw [Bool.eq_iff_iff]
  simp only [Bool.and_eq_true, List.all_eq_true, decide_eq_true_eq, mem_sel_mask]
  constructor
  · intro h
    refine ⟨fun f hf => ?_, fun x ⟨f, hf, hx⟩ => ?_⟩
    · have := h f hf
      cases hl : l[f]? with
      | none => simp [hl] at this
      | some x => exact (List.getElem?_eq_some_iff.1 hl).1
    · have := h f hf
      rwa [hx] at this
  · rintro ⟨hlen, hq⟩ f hf
    rw [List.getElem?_eq_getElem (hlen f hf)]
    exact hq _ ⟨f, hf, List.getElem?_eq_getElem _⟩

theorem all_flatMap_lookup {β : Type} (l : List Fn) (R : List Nat) (g : Fn → List β) (p : β → Bool) :
    (R.flatMap fun f => match l[f]? with | some fn => g fn | none => []).all p =
      ((sel (mask R) l).flatMap g).all p := by
  rw [Bool.eq_iff_iff]
  simp only [List.all_eq_true, List.mem_flatMap, mem_sel_mask]
  constructor
  · rintro h b ⟨x, ⟨f, hf, hx⟩, hb⟩
    exact h b ⟨f, hf, by rw [hx]; exact hb⟩
  · rintro h b ⟨f, hf, hb⟩
    cases hl : l[f]? with
    | none => rw [hl] at hb; cases hb
    | some x => rw [hl] at hb; exact h b ⟨x, ⟨f, hf, hl⟩, hb⟩

theorem all_claimWrites (F : Facts) (R : List Nat) (p : Acc → Bool) :
    (claimWrites F R).all p =
      ((sel (mask R) F.fns).flatMap fun fn => fn.writes.filter inClaim).all p :=
  all_flatMap_lookup F.fns R _ p

theorem all_claimAccesses (F : Facts) (R : List Nat) (p : Acc → Bool) :
    (claimAccesses F R).all p =
      ((sel (mask R) F.fns).flatMap fun fn => (fn.writes ++ fn.reads).filter inClaim).all p :=
  all_flatMap_lookup F.fns R _ p

def readerDisciplineMask (F : Facts) : Bool :=
  let m := mask F.readerReach
  let S := sel m F.fns
  Nat.beq F.goStmts 0 &&
  F.readerRoots.all (fun r => m.testBit r) &&
  (F.readerReach.all (fun f => decide (f < F.fns.length)) &&
    S.all (fun fn => fn.calls.all (fun c => !inClaim c || m.testBit c.tgt))) &&
  (S.flatMap (fun fn => fn.writes.filter inClaim)).all (fun w =>
    (S.flatMap (fun fn => (fn.writes ++ fn.reads).filter inClaim)).all (fun a =>
      !Nat.beq a.tgt w.tgt || protects w.held a.held))

theorem readerDiscipline_eq (F : Facts) : ReaderDiscipline F = readerDisciplineMask F := by
  simp only [ReaderDiscipline, readerDisciplineMask, all_claimWrites, all_claimAccesses, testBit_mask]
  congr 2
  exact all_lookup F.fns F.readerReach _

def guardedLocationsMask (F : Facts) : Bool :=
  let guarded := mask (F.guards.map (·.1))
  let globals := mask F.globals
  F.guards.all (fun g => !globals.testBit g.1) &&
  F.fns.all fun fn =>
    fn.writes.all (fun w => !guarded.testBit w.tgt ||
      F.guards.all (fun g => !Nat.beq w.tgt g.1 || heldExcl g.2.1 w.held)) &&
    fn.reads.all (fun r => !guarded.testBit r.tgt ||
      F.guards.all (fun g => !g.2.2 || (!Nat.beq r.tgt g.1 || heldHas g.2.1 r.held)))

theorem beq_false_of_memN_false {x y : Nat} {l : List Nat} (h : memN x l = false) (hy : y ∈ l) :
    Nat.beq x y = false := by
  cases hb : Nat.beq x y with
  | false => rfl
  | true =>
    rw [Nat.eq_of_beq_eq_true hb, (memN_iff y l).2 hy] at h
    cases h

theorem guardedLocations_eq (F : Facts) : GuardedLocations F = guardedLocationsMask F := by
  rw [Bool.eq_iff_iff]
  simp only [GuardedLocations, guardedLocationsMask, List.all_eq_true, Bool.and_eq_true, Bool.or_eq_true,
    Bool.not_eq_true', testBit_mask]
  constructor
  · intro h
    refine ⟨fun g hg => (h g hg).1, fun fn hfn =>
      ⟨fun w hw => Or.inr fun g hg => ((h g hg).2 fn hfn).1 w hw, fun r hr => Or.inr fun g hg => ?_⟩⟩
    exact (((h g hg).2 fn hfn).2).imp_right fun h' => h' r hr
  · rintro ⟨h0, h1⟩ g hg
    have hmem : g.1 ∈ F.guards.map (·.1) := List.mem_map_of_mem hg
    refine ⟨h0 g hg, fun fn hfn => ⟨fun w hw => ?_, ?_⟩⟩
    · rcases (h1 fn hfn).1 w hw with hno | hall
      · exact Or.inl (beq_false_of_memN_false hno hmem)
      · exact hall g hg
    · cases hs : g.2.2 with
      | false => exact Or.inl rfl
      | true =>
        refine Or.inr fun r hr => ?_
        rcases (h1 fn hfn).2 r hr with hno | hall
        · exact Or.inl (beq_false_of_memN_false hno hmem)
        · exact (hall g hg).resolve_left (by simp [hs])

end Goyang.Lemmas.Lockset
