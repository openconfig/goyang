/-
C07 bridge, input predicate `AugPosDistinct` for ALL byte strings (no admissibility), transport part:
from "sibling statements in increasing position order" of the byte-level parsed forest
(`Lemmas/AugPosOrd.lean`: `ForestOK`; the parser fact is the hypothesis `ParserOK` here) through the
conversion to resolver statements (`Model.toStmt?`) and `Registry.add` to every registry
`Model.loadTexts` produces.

The sentinel `ignoreMe` (position 0:0) is excepted from the order; it has the empty keyword, so it is
never an `augment` statement after conversion.
-/
import Goyang.Lemmas.BridgeLoad
import Goyang.Lemmas.AugPosLoad
import Goyang.Lemmas.AugPosOrd

set_option linter.unusedVariables false
namespace Goyang.Lemmas.AugPosLoadAny
open Goyang.Model
open Goyang.Lemmas.Bridge Goyang.Lemmas.AugPosOrd
open Goyang.Lemmas.AugPosLoad (mpos AugDistinct foldlM_add_stmts)

/-- what the parser layer will supply -/
def ParserOK : Prop := ∀ (name text : List UInt8) (forest : List Parse.Statement),
  Parse.parseText name text = .ok forest → ForestOK forest

/-- the empty keyword is not `augment` -/
theorem empty_kw_ne_augment (k : String) (h : bytesToString? [] = some k) : k ≠ "augment" := by
  intro e; subst e
  revert h
  decide

/-! ### the conversion `toStmt?` keeps positions (as naturals) and keywords -/

theorem toStmt?_any (file : String) (s : Parse.Statement) (x : Stmt)
    (h : toStmt? file s = some x) :
    mpos x = ((spos s).1.toNat, (spos s).2.toNat) ∧ (x.kw = "augment" → s ≠ Parse.ignoreMe) ∧
      toStmt?.toStmtL? file s.subs = some x.subs := by
  obtain ⟨kw, ha, arg, f, line, col, subs⟩ := s
  unfold toStmt? at h
  simp only [Option.bind_eq_bind] at h
  cases hk1 : bytesToString? kw with
  | none => simp [hk1] at h
  | some k =>
    cases hk2 : bytesToString? arg with
    | none => simp [hk1, hk2] at h
    | some a =>
      cases hk3 : toStmt?.toStmtL? file subs with
      | none => simp [hk1, hk2, hk3] at h
      | some ss =>
        simp only [hk1, hk2, hk3, Option.bind_some, Option.some.injEq] at h
        subst h
        refine ⟨by simp [mpos, Stmt.line, Stmt.col], ?_, rfl⟩
        intro hkw e
        simp only [Stmt.kw] at hkw
        have e1 : kw = [] := by
          have := congrArg Parse.Statement.keyword e
          simpa [Parse.ignoreMe] using this
        subst e1
        exact empty_kw_ne_augment k hk1 hkw

/-- every converted statement of a list comes from a statement of the list -/
theorem toStmtL?_mem (file : String) : ∀ (ss : List Parse.Statement) (xs : List Stmt),
    toStmt?.toStmtL? file ss = some xs → ∀ x ∈ xs, ∃ s ∈ ss, toStmt? file s = some x
  | [], xs, h => by
    simp only [toStmt?.toStmtL?, Option.some.injEq] at h
    subst h
    exact fun x hx => by cases hx
  | s :: rest, xs, h => by
    unfold toStmt?.toStmtL? at h
    simp only [Option.bind_eq_bind] at h
    cases h1 : toStmt? file s with
    | none => simp [h1] at h
    | some x =>
      cases h2 : toStmt?.toStmtL? file rest with
      | none => simp [h1, h2] at h
      | some xs' =>
        simp only [h1, h2, Option.bind_some, Option.some.injEq] at h
        subst h
        have ih := toStmtL?_mem file rest xs' h2
        intro y hy
        rcases List.mem_cons.mp hy with hy | hy
        · subst hy; exact ⟨s, by simp, h1⟩
        · obtain ⟨s', hs', e⟩ := ih y hy
          exact ⟨s', by simp [hs'], e⟩

/-- siblings in increasing position order: a converted `augment` statement stands at a position
different from every converted statement before it -/
theorem toStmtL?_pairwise (file : String) : ∀ (ss : List Parse.Statement) (xs : List Stmt),
    ss.Pairwise Rel → toStmt?.toStmtL? file ss = some xs →
    xs.Pairwise (fun a b => b.kw = "augment" → mpos a ≠ mpos b)
  | [], xs, _, h => by
    simp only [toStmt?.toStmtL?, Option.some.injEq] at h
    subst h
    exact List.Pairwise.nil
  | s :: rest, xs, hp, h => by
    unfold toStmt?.toStmtL? at h
    simp only [Option.bind_eq_bind] at h
    cases h1 : toStmt? file s with
    | none => simp [h1] at h
    | some x =>
      cases h2 : toStmt?.toStmtL? file rest with
      | none => simp [h1, h2] at h
      | some xs' =>
        simp only [h1, h2, Option.bind_some, Option.some.injEq] at h
        subst h
        obtain ⟨hhead, htail⟩ := List.pairwise_cons.mp hp
        refine List.pairwise_cons.mpr ⟨?_, toStmtL?_pairwise file rest xs' htail h2⟩
        intro b hb hkw
        obtain ⟨s', hs', e⟩ := toStmtL?_mem file rest xs' h2 b hb
        obtain ⟨pb, nb, _⟩ := toStmt?_any file s' b e
        obtain ⟨px, _, _⟩ := toStmt?_any file s x h1
        rcases hhead s' hs' with hr | hr
        · exact absurd hr (nb hkw)
        · rw [px, pb]
          exact plt_ne hr

/-- a converted statement whose substatements are in increasing position order has its augment
statements at different positions -/
theorem augDistinct_any (file : String) (s : Parse.Statement) (x : Stmt)
    (hs : s.subs.Pairwise Rel) (h : toStmt? file s = some x) : AugDistinct x := by
  have hp := toStmtL?_pairwise file s.subs x.subs hs (toStmt?_any file s x h).2.2
  unfold AugDistinct Stmt.all
  show List.Pairwise (· ≠ ·) _
  rw [List.pairwise_map, List.pairwise_filter]
  refine hp.imp ?_
  intro a b hab _ hb
  have hb' : b.kw = "augment" := by simpa using hb
  exact hab hb'

theorem augDistinct_sibOK (file : String) (s : Parse.Statement) (x : Stmt)
    (hs : SibOK s) (h : toStmt? file s = some x) : AugDistinct x := by
  cases hs with
  | mk _ hp _ => exact augDistinct_any file s x hp h

/-- One `Modules.Parse` of any text keeps `AugPosDistinct`, accepted or rejected. -/
theorem loadText_augPos_any (hP : ParserOK) (reg : Registry) (name text : List UInt8)
    (h1 : AugPosDistinct reg) : AugPosDistinct (loadText reg name text).1 := by
  unfold loadText
  split
  · exact h1
  · exact h1
  · rename_i forest hparse
    split
    · exact h1
    · split
      · exact h1
      · split
        · exact h1
        · rename_i fname _
          split
          · exact h1
          · rename_i stmts hst
            split
            · rename_i r hfold
              obtain ⟨_, hsib⟩ := hP name text forest hparse
              refine foldlM_add_stmts AugDistinct stmts reg r hfold h1 ?_
              intro x hx
              obtain ⟨s, hs, e⟩ := toStmtL?_mem fname forest stmts hst x hx
              exact augDistinct_sibOK fname s x (hsib s hs) e
            · exact h1

/-- **Every registry loaded from raw texts has its augment statements at different positions**,
given that the parser returns forests with siblings in increasing position order. -/
theorem augPosDistinct_loadTexts_any (hP : ParserOK) (texts : List (List UInt8 × List UInt8)) :
    AugPosDistinct (loadTexts texts).1 := by
  unfold loadTexts
  refine ListAux.foldl_inv (fun acc : Registry × List LoadResult => AugPosDistinct acc.1) _ _ _
    (fun m hm => by cases hm) ?_
  rintro ⟨r, res⟩ nt hnt h1
  exact loadText_augPos_any hP r nt.1 nt.2 h1

end Goyang.Lemmas.AugPosLoadAny
