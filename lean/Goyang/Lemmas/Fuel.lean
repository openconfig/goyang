import Goyang.Model.Process
import Goyang.Lemmas.FuelLoops
import Goyang.Lemmas.FuelGrouping
/-
Fuel bound of `toEntry` (Model/ToEntry.lean), property C01.

`toEntry` recurses on fuel; its `0` branch answers an `out-of-fuel` error entry.  The theorem of
this file, `toEntry_fuel`: when the fuel is at least `entryNeed` (a closed form in the number of
tracked statements (groupings, modules) and the maximal statement height of the loaded modules),
the result of `toEntry` does not depend on what the `0` branch answers, i.e. the recursion never
gets there.  The measure: along a call path every tracked node is entered at most once
(`visiting`), and between two tracked nodes the statement height strictly decreases.

How it is set up.  `toEntryBody` is the body of the `fuel + 1` branch of `toEntry` with the
recursive calls abstracted to a parameter `rec`.  It is written in three parts, each a verbatim copy
of the corresponding part of the branch in Model/ToEntry.lean with `toEntry env fuel` replaced by
`rec`: `skeleton` (the cases before the directory case and how that case ends), `stepB` (the field
step of the directory case) and the `uses` case inside `toEntryBody` itself.  The copy is tied to
the model by `toEntry_succ`, which is `rfl`: after an edit of the model the three parts are copied
again, and `toEntry_succ` fails until they agree.  `skeleton_dir`, `skeleton_uses` and
`skeleton_elim` say which of its three outcomes `skeleton` takes (`DirCase`, `dirStart`, `store`:
the directory case, where it starts and how it ends).  `toEntryZ z` is `toEntry` with the answer of
the `0` branch replaced by an arbitrary `z`.  `body_congr` walks through the body once and shows that it uses
`rec` only at the call sites listed in `Callee`; `callee_need` shows that every call site
lowers the measure.
-/
open Goyang.Lemmas.ListAux (countP_lt)
open Goyang.Lemmas.RegistryAux (findModule_mem)
namespace Goyang.Lemmas.Fuel
open Goyang.Model

/-! ### statement height, substatement relation -/

/-- Height of a statement tree (a statement without substatements has height 1). -/
def height : Stmt → Nat
  | .mk _ _ _ _ _ _ subs => 1 + heightL subs
where heightL : List Stmt → Nat
  | [] => 0
  | s :: ss => max (height s) (heightL ss)

theorem height_pos (s : Stmt) : 1 ≤ height s := by
  cases s; simp [height]

theorem height_le_heightL {c : Stmt} {l : List Stmt} (h : c ∈ l) : height c ≤ height.heightL l := by
  induction l with
  | nil => cases h
  | cons x xs ih =>
    simp only [height.heightL]
    cases h with
    | head => exact Nat.le_max_left _ _
    | tail _ h => exact Nat.le_trans (ih h) (Nat.le_max_right _ _)

theorem height_child_lt {c n : Stmt} (h : c ∈ n.subs) : height c < height n := by
  cases n with
  | mk kw ha arg file line col subs =>
    have := height_le_heightL (c := c) (l := subs) h
    simp only [height]; omega

/-- `Sub s t`: `s` is `t` or a (transitive) substatement of `t`. -/
inductive Sub : Stmt → Stmt → Prop
  | refl (s : Stmt) : Sub s s
  | step {s c t : Stmt} : c ∈ t.subs → Sub s c → Sub s t

theorem Sub.child {c n t : Stmt} (hc : c ∈ n.subs) (hn : Sub n t) : Sub c t := by
  induction hn with
  | refl => exact .step hc (.refl c)
  | step hm _ ih => exact .step hm ih

theorem Sub.height_le {s t : Stmt} (h : Sub s t) : height s ≤ height t := by
  induction h with
  | refl => exact Nat.le_refl _
  | step hm _ ih => exact Nat.le_trans ih (Nat.le_of_lt (height_child_lt hm))

theorem mem_all_subs {n c : Stmt} {k : String} (h : c ∈ n.all k) : c ∈ n.subs := by
  simp only [Stmt.all] at h
  exact (List.mem_filter.mp h).1

theorem mem_one_subs {n c : Stmt} {k : String} (h : n.one? k = some c) : c ∈ n.subs := by
  simp only [Stmt.one?] at h
  exact List.mem_of_find?_eq_some h

/-! ### the measure -/

/-- Maximal statement height over the loaded modules. -/
def maxHeight (reg : Registry) : Nat := reg.mods.foldl (fun a m => max a (height m.stmt)) 0

theorem foldl_max_ge (l : List Mod) (a : Nat) : a ≤ l.foldl (fun a m => max a (height m.stmt)) a := by
  induction l generalizing a with
  | nil => exact Nat.le_refl _
  | cons x xs ih => exact Nat.le_trans (Nat.le_max_left _ _) (ih _)

theorem foldl_max_mem (l : List Mod) (a : Nat) (m : Mod) (h : m ∈ l) :
    height m.stmt ≤ l.foldl (fun a m => max a (height m.stmt)) a := by
  induction l generalizing a with
  | nil => cases h
  | cons x xs ih =>
    cases h with
    | head => exact Nat.le_trans (Nat.le_max_right _ _) (foldl_max_ge xs _)
    | tail _ h => exact ih _ h

theorem height_le_maxHeight {reg : Registry} {m : Mod} (hm : m ∈ reg.mods) : height m.stmt ≤ maxHeight reg :=
  foldl_max_mem _ _ _ hm

theorem sub_height_le_max {reg : Registry} {m : Mod} {s : Stmt} (hm : m ∈ reg.mods) (hs : Sub s m.stmt) :
    height s ≤ maxHeight reg :=
  Nat.le_trans hs.height_le (height_le_maxHeight hm)

/-- `toEntry` tracks (puts into `visiting`) modules, submodules and groupings. -/
def isTracked (s : Stmt) : Bool := (s.kw == "module" || s.kw == "submodule") || s.kw == "grouping"

/-- The tracked statements of a tree, the tree itself included. -/
def trackedIn : Stmt → List Stmt
  | .mk kw ha arg file line col subs =>
    (if isTracked (.mk kw ha arg file line col subs) then [.mk kw ha arg file line col subs] else []) ++ trackedInL subs
where trackedInL : List Stmt → List Stmt
  | [] => []
  | s :: ss => trackedIn s ++ trackedInL ss

theorem self_mem_trackedIn {s : Stmt} (h : isTracked s = true) : s ∈ trackedIn s := by
  cases s; simp only [trackedIn, h, ↓reduceIte]; simp

theorem trackedInL_mem {c x : Stmt} {l : List Stmt} (hc : c ∈ l) (hx : x ∈ trackedIn c) : x ∈ trackedIn.trackedInL l := by
  induction l with
  | nil => cases hc
  | cons y ys ih =>
    simp only [trackedIn.trackedInL, List.mem_append]
    cases hc with
    | head => exact .inl hx
    | tail _ h => exact .inr (ih h)

theorem trackedIn_child {c n x : Stmt} (hc : c ∈ n.subs) (hx : x ∈ trackedIn c) : x ∈ trackedIn n := by
  cases n with
  | mk kw ha arg file line col subs =>
    simp only [trackedIn, List.mem_append]
    exact .inr (trackedInL_mem hc hx)

theorem trackedIn_sub {s t : Stmt} (h : Sub s t) (ht : isTracked s = true) : s ∈ trackedIn t := by
  induction h with
  | refl => exact self_mem_trackedIn ht
  | step hm _ ih => exact trackedIn_child hm ih

/-- Identities of all tracked statements of the loaded modules (with multiplicity). -/
def tracked (reg : Registry) : List NodeId :=
  reg.mods.flatMap fun m => (trackedIn m.stmt).map (nodeId m)

theorem mem_tracked {reg : Registry} {m : Mod} {s : Stmt} (hm : m ∈ reg.mods) (hs : Sub s m.stmt)
    (ht : isTracked s = true) : nodeId m s ∈ tracked reg := by
  simp only [tracked, List.mem_flatMap, List.mem_map]
  exact ⟨m, hm, s, trackedIn_sub hs ht, rfl⟩

/-- Tracked identities not being visited (with multiplicity). -/
def free (reg : Registry) (visiting : List NodeId) : Nat :=
  ((tracked reg).filter fun x => !visiting.contains x).length

theorem free_le (reg : Registry) (visiting : List NodeId) : free reg visiting ≤ (tracked reg).length :=
  List.length_filter_le _ _

theorem filter_len_le {α} (p q : α → Bool) (l : List α) (himp : ∀ y, p y = true → q y = true) :
    (l.filter p).length ≤ (l.filter q).length := by
  rw [← List.countP_eq_length_filter, ← List.countP_eq_length_filter]
  exact List.countP_mono_left fun y _ => himp y

theorem filter_len_lt {α} (p q : α → Bool) (l : List α) (himp : ∀ y, p y = true → q y = true)
    (x : α) (hx : x ∈ l) (hqx : q x = true) (hpx : p x = false) :
    (l.filter p).length < (l.filter q).length := by
  rw [← List.countP_eq_length_filter, ← List.countP_eq_length_filter]
  exact countP_lt (fun y _ => himp y) hx hqx hpx

theorem free_cons_lt {reg : Registry} {visiting : List NodeId} {x : NodeId} (hx : x ∈ tracked reg)
    (hv : visiting.contains x = false) : free reg (x :: visiting) < free reg visiting := by
  refine filter_len_lt _ _ _ (fun y hy => ?_) x hx (by simpa using hv) (by simp)
  simp only [Bool.not_eq_true', List.contains_eq_mem, decide_eq_false_iff_not, List.mem_cons, not_or] at hy ⊢
  exact hy.2

theorem free_pos {reg : Registry} {visiting : List NodeId} {x : NodeId} (hx : x ∈ tracked reg)
    (hv : visiting.contains x = false) : 1 ≤ free reg visiting := by
  have := free_cons_lt hx hv; omega

/-! ### the body of `toEntry` with the recursive calls abstracted -/

/-- The type of `toEntry env fuel`. -/
abbrev Rec := Mod → List Stmt → Stmt → List NodeId → TState → Entry × TState

/-- The field step of the directory case (the local `step` of `toEntry`), `rec` abstracted. -/
def stepB (env : Env) (rec : Rec) (root : Mod) (n : Stmt) (sub : List Stmt) (visiting : List NodeId) (isMod : Bool)
    (acc : Entry × TState) (f : String) : Entry × TState :=
let addAll (kw : String) (acc : Entry × TState) : Entry × TState :=
  (n.all kw).foldl (fun (acc : Entry × TState) c =>
    let (ce, st) := rec root sub c visiting acc.2
    (acc.1.add c.arg ce, st)) acc
  let (e, st) := acc
  match f with
  | "config" =>
    let (t, er) := tristate n (n.one? "config")
    ((e.withD fun d => { d with config := t }).addErrs er, st)
  | "mandatory" =>
    let (t, er) := tristate n (n.one? "mandatory")
    ((e.withD fun d => { d with mandatory := t }).addErrs er, st)
  | "description" =>
    (match n.argOf? "description" with
      | some v => e.withD fun d => { d with description := v }
      | none => e, st)
  | "key" =>
    (match n.argOf? "key" with
      | some v => e.withD fun d => { d with key := v }
      | none => e, st)
  | "anydata" | "anyxml" | "case" | "choice" | "container" | "leaf" | "leaf-list" | "list"
  | "notification" => addAll f acc
  | "rpc" | "action" =>
    -- an rpc / action entry always has its `RPC` set, also without written input or output
    (n.all f).foldl (fun (acc : Entry × TState) c =>
      let (ce, st) := rec root sub c visiting acc.2
      (acc.1.add c.arg (ce.withD fun d => { d with isRpc := true }), st)) acc
  | "grouping" =>
    (n.all "grouping").foldl (fun (acc : Entry × TState) g =>
      let (ge, st) := rec root sub g visiting acc.2
      (acc.1.importErrors ge, st)) acc
  | "uses" =>
    (n.all "uses").foldl (fun (acc : Entry × TState) u =>
      let (ge, st) := rec root sub u visiting acc.2
      (acc.1.merge none ge, st)) acc
  | "input" =>
    match n.one? "input" with
    | none => acc
    | some i =>
      let (ie, st) := rec root sub i visiting st
      let ie := ie.withD fun d => { d with name := "input", kind := .input }
      (match e with | .mk d c _ o => .mk { d with isRpc := true } c [ie] o, st)
  | "output" =>
    match n.one? "output" with
    | none => acc
    | some o =>
      let (oe, st) := rec root sub o visiting st
      let oe := oe.withD fun d => { d with name := "output", kind := .output }
      (match e with | .mk d c i _ => .mk { d with isRpc := true } c i [oe], st)
  | "include" =>
    (n.all "include").foldl (fun (acc : Entry × TState) a =>
      let (e, st) := acc
      match env.includeTarget root a with
      | none => (e.addErr (Err.at_ a "other"), st)
      | some im =>
        let srcToIncluded := im.name ++ ":" ++ n.arg
        let includedToSrc := n.arg ++ ":" ++ im.name
        if st.merged.contains srcToIncluded then (e, st)
        else if !st.merged.contains includedToSrc && im.name != n.arg then
          let includedToParent := im.name ++ ":" ++ (im.belongsTo?.getD "")
          if st.merged.contains includedToParent then (e, st)
          else
            let st := { st with merged := st.merged ++ [srcToIncluded, includedToParent] }
            let (ie, st) := rec im [] im.stmt visiting st
            (e.merge none ie, st)
        else if env.opts.ignoreCircular then (e, st)
        else (e.addErr (Err.bare "cycle"), st)) acc
  | "deviation" =>
    (n.all "deviation").foldl (fun (acc : Entry × TState) dv =>
      let (de, st) := rec root sub dv visiting acc.2
      (acc.1.importErrors de, st)) acc
  | "deviate" =>
    (n.all "deviate").foldl (fun (acc : Entry × TState) dv =>
      let (de, st) := rec root sub dv visiting acc.2
      let e := acc.1.importErrors de
      (if deviateKinds.contains dv.arg then e else e.addErr (Err.at_ n "deviate-unknown-kind"), st)) acc
  | "type" =>
    -- only reached for deviate nodes
    match n.one? "type" with
    | none => acc
    | some t =>
      let (ty, terrs) := env.tres.resolve env.reg root sub t
      if terrs.isEmpty then (e.withD fun d => { d with type := ty }, st)
      else (e.addErr (Err.bare "deviate-bad-type"), st)
  | "default" =>
    if e.d.kind == .deviate then
      (match n.one? "default" with
        | some dflt => e.withD fun d => { d with default := [dflt.arg] }
        | none => e, st)
    else acc
  | "units" =>
    (match n.argOf? "units" with
      | some v => e.withD fun d => { d with units := v }
      | none => e, st)
  | "max-elements" =>
    if e.d.kind != .deviate then acc else
    let e := e.withD fun d => { d with listAttr := some (d.listAttr.getD {}) }
    (match n.one? "max-elements" with
      | none => e
      | some v =>
        let (mx, er) := semMax (some v)
        (e.withD fun d => { d with hasMax := true, listAttr := some { (d.listAttr.getD {}) with max := mx } }).addErrs er, st)
  | "min-elements" =>
    if e.d.kind != .deviate then acc else
    let e := e.withD fun d => { d with listAttr := some (d.listAttr.getD {}) }
    (match n.one? "min-elements" with
      | none => e
      | some v =>
        let (mn, er) := semMin (some v)
        (e.withD fun d => { d with hasMin := true, listAttr := some { (d.listAttr.getD {}) with min := mn } }).addErrs er, st)
  | "augment" =>
    if !isMod then acc else
    let (as, st) := (n.all "augment").foldl (fun (acc : List Entry × TState) a =>
      let (ae, st) := rec root sub a visiting acc.2
      (acc.1 ++ [ae], st)) ([], st)
    (e, { st with augs := st.augs ++ [(root.seq, as)] })
  | _ => acc      -- prefix, identity, …

/-- The `fuel + 1` branch of `toEntry` around its two kinds of recursive calls: `usesRes` stands
for the result of the `uses` case, `dirRes` for the fold of the local field step over the fields of
the directory case. -/
def skeleton (env : Env) (root : Mod) (scope : List Stmt) (n : Stmt) (visiting : List NodeId) (st : TState)
    (usesRes : Entry × TState) (dirRes : Bool → Entry → Entry × TState) : Entry × TState :=
    let isMod := n.kw == "module" || n.kw == "submodule"
    -- entry cache (module-level nodes: the only ones whose conversion depends on `st`)
    match (if isMod then st.cache.find? (·.1 == root.seq) else none) with
    | some (_, e) => (e, st)
    | none =>
    match (if n.kw == "grouping" then st.gcache.find? (·.1 == nodeId root n) else none) with
    | some (_, e) => (e, st)
    | none =>
    let track := isMod || n.kw == "grouping"
    if track && visiting.contains (nodeId root n) then (errorEntry root n "cycle", st) else
    if n.kw == "leaf" then (leafEntry env root scope n false, st)
    else if n.kw == "leaf-list" then
      let e := leafEntry env root scope n true
      let (la, lerrs) := listAttrOf n
      (e.withD fun d => { d with listAttr := some la, errors := d.errors ++ lerrs,
                                 default := (n.all "default").map (·.arg) }, st)
    else if n.kw == "uses" then usesRes
    else
    -- directory node
    let base : EData := { name := n.arg, kind := kindOfKw n.kw, hasDir := true, node := n, nodeMod := root.seq,
                          nodeKw := n.kw }
    let (base, kerrs) : EData × List Err :=
      if n.kw == "list" then
        let (la, lerrs) := listAttrOf n
        ({ base with listAttr := some la }, lerrs)
      else if n.kw == "choice" then
        ({ base with default := match n.one? "default" with | some d => [d.arg] | none => [] }, [])
      else (base, [])
    let e0 : Entry := .mk { base with errors := kerrs } [] [] []
    let (e, st) := dirRes isMod e0
    if isMod then (e, { st with cache := st.cache ++ [(root.seq, e)] })
    else if n.kw == "grouping" then (e, { st with gcache := st.gcache ++ [(nodeId root n, e)] })
    else (e, st)

/-- `visiting` as the body passes it on: a tracked node adds itself. -/
def visiting' (root : Mod) (n : Stmt) (visiting : List NodeId) : List NodeId :=
  if isTracked n then nodeId root n :: visiting else visiting

/-- The `fuel + 1` branch of `toEntry` with `toEntry env fuel` replaced by `rec`.  `skeleton`,
`stepB` and the `uses` case below are together a verbatim copy of that branch in
Model/ToEntry.lean; `toEntry_succ` (proved by `rfl`) checks that the copy is faithful. -/
def toEntryBody (env : Env) (fuel : Nat) (rec : Rec) : Rec := fun root scope n visiting st =>
  skeleton env root scope n visiting st
    (match (findGrouping env.reg env.linked (2 * fuel + 16) root scope n.arg []).1 with
      | none => (errorEntry root n "unknown-group", st)
      | some (g, groot, gscope) => rec groot gscope g (visiting' root n visiting) st)
    (fun isMod e0 => (fieldOrder n.kw).foldl (stepB env rec root n (n :: scope) (visiting' root n visiting) isMod) (e0, st))

/-- The entry the directory case starts its field steps from. -/
def dirStart (root : Mod) (n : Stmt) : Entry :=
  let base : EData := { name := n.arg, kind := kindOfKw n.kw, hasDir := true, node := n, nodeMod := root.seq,
                        nodeKw := n.kw }
  let (base, kerrs) : EData × List Err :=
    if n.kw == "list" then
      let (la, lerrs) := listAttrOf n
      ({ base with listAttr := some la }, lerrs)
    else if n.kw == "choice" then
      ({ base with default := match n.one? "default" with | some d => [d.arg] | none => [] }, [])
    else (base, [])
  .mk { base with errors := kerrs } [] [] []

/-- How the directory case ends: a (sub)module and a grouping append their entry to their cache. -/
def store (root : Mod) (n : Stmt) (r : Entry × TState) : Entry × TState :=
  if n.kw == "module" || n.kw == "submodule" then (r.1, { r.2 with cache := r.2.cache ++ [(root.seq, r.1)] })
  else if n.kw == "grouping" then (r.1, { r.2 with gcache := r.2.gcache ++ [(nodeId root n, r.1)] })
  else r

/-- The call reaches the directory case: the statement is not in its cache, not under conversion,
and neither a leaf, a leaf-list nor a `uses`. -/
structure DirCase (root : Mod) (n : Stmt) (visiting : List NodeId) (st : TState) : Prop where
  cache : (n.kw == "module" || n.kw == "submodule") = true → st.cache.find? (·.1 == root.seq) = none
  gcache : (n.kw == "grouping") = true → st.gcache.find? (·.1 == nodeId root n) = none
  cyc : (isTracked n && visiting.contains (nodeId root n)) = false
  kind : (n.kw == "leaf") = false ∧ (n.kw == "leaf-list") = false ∧ (n.kw == "uses") = false

theorem DirCase.of_untracked (root : Mod) {n : Stmt} (visiting : List NodeId) (st : TState) (ht : isTracked n = false)
    (hk : (n.kw == "leaf") = false ∧ (n.kw == "leaf-list") = false ∧ (n.kw == "uses") = false) :
    DirCase root n visiting st := by
  have ht' := ht
  simp only [isTracked, Bool.or_eq_false_iff] at ht'
  refine ⟨fun h => ?_, fun h => ?_, by rw [ht]; rfl, hk⟩
  · rw [ht'.1.1, ht'.1.2] at h; cases h
  · rw [ht'.2] at h; cases h

theorem DirCase.of_grouping {root : Mod} {n : Stmt} {visiting : List NodeId} {st : TState} (hkw : n.kw = "grouping")
    (hmiss : st.gcache.find? (·.1 == nodeId root n) = none) (hnv : visiting.contains (nodeId root n) = false) :
    DirCase root n visiting st :=
  ⟨fun h => by simp [hkw] at h, fun _ => hmiss, by rw [hnv, Bool.and_false], by simp [hkw]⟩

theorem DirCase.of_module {root : Mod} {n : Stmt} {visiting : List NodeId} {st : TState}
    (hkw : n.kw = "module" ∨ n.kw = "submodule") (hmiss : st.cache.find? (·.1 == root.seq) = none)
    (hnv : visiting.contains (nodeId root n) = false) : DirCase root n visiting st :=
  ⟨fun _ => hmiss, fun h => by rcases hkw with hkw | hkw <;> simp [hkw] at h, by rw [hnv, Bool.and_false],
   by rcases hkw with hkw | hkw <;> simp [hkw]⟩

theorem store_fst (root : Mod) (n : Stmt) (r : Entry × TState) : (store root n r).1 = r.1 := by
  unfold store
  split
  · rfl
  · split <;> rfl

theorem store_grouping {root : Mod} {n : Stmt} (hkw : n.kw = "grouping") (r : Entry × TState) :
    store root n r = (r.1, { r.2 with gcache := r.2.gcache ++ [(nodeId root n, r.1)] }) := by
  simp [store, hkw]

theorem store_module {root : Mod} {n : Stmt} (hkw : n.kw = "module" ∨ n.kw = "submodule") (r : Entry × TState) :
    store root n r = (r.1, { r.2 with cache := r.2.cache ++ [(root.seq, r.1)] }) := by
  rcases hkw with hkw | hkw <;> simp [store, hkw]

theorem skeleton_dir (env : Env) {root : Mod} (scope : List Stmt) {n : Stmt} {visiting : List NodeId} {st : TState}
    (u : Entry × TState) (d : Bool → Entry → Entry × TState) (h : DirCase root n visiting st) :
    skeleton env root scope n visiting st u d =
      store root n (d (n.kw == "module" || n.kw == "submodule") (dirStart root n)) := by
  have h1 : (if (n.kw == "module" || n.kw == "submodule") = true then st.cache.find? (·.1 == root.seq) else none) = none := by
    split
    · exact h.cache ‹_›
    · rfl
  have h2 : (if (n.kw == "grouping") = true then st.gcache.find? (·.1 == nodeId root n) else none) = none := by
    split
    · exact h.gcache ‹_›
    · rfl
  have hcyc := h.cyc
  unfold isTracked at hcyc
  unfold skeleton store dirStart
  simp only [h1, h2, hcyc, h.kind.1, h.kind.2.1, h.kind.2.2, Bool.false_eq_true, if_false]

theorem skeleton_uses (env : Env) (root : Mod) (scope : List Stmt) {n : Stmt} (visiting : List NodeId) (st : TState)
    (u : Entry × TState) (d : Bool → Entry → Entry × TState) (h : n.kw = "uses") :
    skeleton env root scope n visiting st u d = u := by
  unfold skeleton
  simp only [h, String.reduceBEq, Bool.or_self, ↓reduceIte, Bool.false_and, Bool.false_eq_true]

theorem visiting'_uses (root : Mod) {n : Stmt} (visiting : List NodeId) (h : n.kw = "uses") :
    visiting' root n visiting = visiting := by
  simp [visiting', isTracked, h]

theorem skeleton_elim {env : Env} {root : Mod} {scope : List Stmt} {n : Stmt} {visiting : List NodeId} {st : TState}
    {u : Entry × TState} {d : Bool → Entry → Entry × TState} {P : Entry × TState → Prop}
    (hst : ∀ e, P (e, st)) (hu : P u)
    (hd : (isTracked n && visiting.contains (nodeId root n)) = false →
      P (store root n (d (n.kw == "module" || n.kw == "submodule") (dirStart root n)))) :
    P (skeleton env root scope n visiting st u d) := by
  unfold skeleton
  dsimp only
  -- `cases` on the generalised scrutinees and `by_cases` for the conditions: `split` would traverse the
  -- whole body at each `match` and `if`
  generalize (if (n.kw == "module" || n.kw == "submodule") = true then st.cache.find? (·.1 == root.seq) else none) = o1
  cases o1 with
  | some x => exact hst _
  | none =>
  generalize (if (n.kw == "grouping") = true then st.gcache.find? (·.1 == nodeId root n) else none) = o2
  cases o2 with
  | some x => exact hst _
  | none =>
  dsimp only
  by_cases hcyc : (((n.kw == "module" || n.kw == "submodule") || n.kw == "grouping") && visiting.contains (nodeId root n)) = true
  · rw [if_pos hcyc]; exact hst _
  rw [if_neg hcyc]
  by_cases h : (n.kw == "leaf") = true
  · rw [if_pos h]; exact hst _
  rw [if_neg h]
  by_cases h : (n.kw == "leaf-list") = true
  · rw [if_pos h]; exact hst _
  rw [if_neg h]
  by_cases h : (n.kw == "uses") = true
  · rw [if_pos h]; exact hu
  rw [if_neg h]
  exact hd (Bool.eq_false_iff.2 hcyc)

/-- The copy is faithful. -/
theorem toEntry_succ (env : Env) (fuel : Nat) : toEntry env (fuel + 1) = toEntryBody env fuel (toEntry env fuel) := by
  funext root scope n visiting st
  rfl

theorem toEntry_dir (env : Env) (fuel : Nat) {root : Mod} (scope : List Stmt) {n : Stmt} {visiting : List NodeId}
    {st : TState} (h : DirCase root n visiting st) :
    toEntry env (fuel + 1) root scope n visiting st =
      store root n ((fieldOrder n.kw).foldl (stepB env (toEntry env fuel) root n (n :: scope)
        (visiting' root n visiting) (n.kw == "module" || n.kw == "submodule")) (dirStart root n, st)) := by
  rw [toEntry_succ]
  exact skeleton_dir env scope _ _ h

/-! ### `toEntry` with an arbitrary answer of the `0` branch -/

/-- `toEntry` whose out-of-fuel branch answers `z`. -/
def toEntryZ (env : Env) (z : Mod → Stmt → TState → Entry × TState) : Nat → Rec
  | 0 => fun root _ n _ st => z root n st
  | fuel + 1 => toEntryBody env fuel (toEntryZ env z fuel)

/-- What the model's `0` branch answers. -/
def oofAnswer : Mod → Stmt → TState → Entry × TState := fun root n st => (errorEntry root n "out-of-fuel", st)

theorem toEntryZ_oof (env : Env) (fuel : Nat) : toEntryZ env oofAnswer fuel = toEntry env fuel := by
  induction fuel with
  | zero => rfl
  | succ k ih => rw [toEntry_succ, ← ih]; rfl

/-- The call sites of the body at `(root, scope, n, visiting)`: what `rec` is applied to. -/
inductive Callee (env : Env) (root : Mod) (scope : List Stmt) (n : Stmt) (visiting : List NodeId) :
    Mod → List Stmt → Stmt → List NodeId → Prop
  | child {c : Stmt} : c ∈ n.subs → Callee env root scope n visiting root (n :: scope) c (visiting' root n visiting)
  | uses {fuel : Nat} {g : Stmt} {groot : Mod} {gscope : List Stmt} :
      (findGrouping env.reg env.linked fuel root scope n.arg []).1 = some (g, groot, gscope) →
      Callee env root scope n visiting groot gscope g (visiting' root n visiting)
  | include_ {a : Stmt} {im : Mod} : "include" ∈ fieldOrder n.kw → env.includeTarget root a = some im →
      Callee env root scope n visiting im [] im.stmt (visiting' root n visiting)

theorem foldl_ext_mem {α β} (f g : β → α → β) (l : List α) (a : β)
    (h : ∀ acc, ∀ x ∈ l, f acc x = g acc x) : l.foldl f a = l.foldl g a := by
  induction l generalizing a with
  | nil => rfl
  | cons x xs ih =>
    simp only [List.foldl_cons]
    rw [h a x (List.mem_cons_self ..)]
    exact ih _ (fun acc y hy => h acc y (List.mem_cons_of_mem _ hy))

/-- Re-entering a tracked node answers the cycle error (or a cached entry): neither recursive
result is looked at. -/
theorem skeleton_cyc (env : Env) (root : Mod) (scope : List Stmt) (n : Stmt) (visiting : List NodeId) (st : TState)
    (u1 u2 : Entry × TState) (d1 d2 : Bool → Entry → Entry × TState)
    (hc : (isTracked n && visiting.contains (nodeId root n)) = true) :
    skeleton env root scope n visiting st u1 d1 = skeleton env root scope n visiting st u2 d2 := by
  simp only [isTracked] at hc
  simp only [skeleton, hc, ↓reduceIte]

theorem step_congr (env : Env) (r1 r2 : Rec) (root : Mod) (n : Stmt) (sub : List Stmt) (vis : List NodeId) (isMod : Bool)
    (acc : Entry × TState) (f : String)
    (hch : ∀ c st', c ∈ n.subs → r1 root sub c vis st' = r2 root sub c vis st')
    (hinc : f = "include" → ∀ a im st', env.includeTarget root a = some im →
      r1 im [] im.stmt vis st' = r2 im [] im.stmt vis st') :
    stepB env r1 root n sub vis isMod acc f = stepB env r2 root n sub vis isMod acc f := by
  obtain ⟨e, st⟩ := acc
  unfold stepB
  dsimp only
  split
  -- config, mandatory, description, key: no call
  iterate 4 rfl
  -- the folds over substatements of one keyword (thirteen arms, `anydata` to `uses`)
  iterate 13 exact foldl_ext_mem _ _ _ _ (fun acc c hc => by rw [hch c _ (mem_all_subs hc)])
  -- input, output
  iterate 2
    split
    · rfl
    · rename_i i heq; rw [hch i _ (mem_one_subs heq)]
  -- include
  · refine foldl_ext_mem _ _ _ _ (fun acc a _ => ?_)
    split
    · rfl
    · rename_i im heq; rw [hinc rfl a im _ heq]
  -- deviation, deviate
  iterate 2 exact foldl_ext_mem _ _ _ _ (fun acc c hc => by rw [hch c _ (mem_all_subs hc)])
  -- type, default, units, max-elements, min-elements
  iterate 5 rfl
  -- augment
  · rw [foldl_ext_mem _ _ _ _ (fun (acc : List Entry × TState) a ha => by rw [hch a _ (mem_all_subs ha)])]
  · rfl

/-- The body uses `rec` only at its call sites. -/
theorem body_congr (env : Env) (fuel : Nat) (r1 r2 : Rec) (root : Mod) (scope : List Stmt) (n : Stmt)
    (visiting : List NodeId) (st : TState)
    (h : ∀ root' scope' n' vis' st', Callee env root scope n visiting root' scope' n' vis' →
      r1 root' scope' n' vis' st' = r2 root' scope' n' vis' st') :
    toEntryBody env fuel r1 root scope n visiting st = toEntryBody env fuel r2 root scope n visiting st := by
  unfold toEntryBody
  congr 1
  · split
    · rfl
    · rename_i g groot gscope heq
      exact h _ _ _ _ _ (.uses heq)
  · funext isMod e0
    exact foldl_ext_mem _ _ _ _ fun acc f hf => step_congr env r1 r2 root n _ _ isMod acc f
      (fun c st' hc => h _ _ _ _ _ (.child hc)) (fun hfi a im st' ha => h _ _ _ _ _ (.include_ (hfi ▸ hf) ha))

/-! ### the measure decreases at every call site -/

theorem include_field_kw {kw : String} (h : "include" ∈ fieldOrder kw) : kw = "module" ∨ kw = "submodule" := by
  unfold fieldOrder at h
  split at h
  all_goals first
    | (left; rfl)
    | (right; rfl)
    | (exfalso; revert h; decide)

theorem includeTarget_mem {env : Env} {root im : Mod} {a : Stmt} (h : env.includeTarget root a = some im) :
    im ∈ env.reg.mods := by
  unfold Env.includeTarget at h
  split at h
  · exact findModule_mem h
  · cases h

/-- What a call of `toEntry` needs: see the file header. `H + 2` units per tracked node that can
still be entered, plus the height of the statement when it is not itself tracked. -/
def need (reg : Registry) (root : Mod) (n : Stmt) (visiting : List NodeId) : Nat :=
  if isTracked n then
    (if visiting.contains (nodeId root n) then 1 else free reg visiting * (maxHeight reg + 2))
  else height n + 1 + free reg visiting * (maxHeight reg + 2)

/-- Where `toEntry` is called: the root is a loaded module, the node and the scope are statements of it. -/
structure Inv (env : Env) (root : Mod) (scope : List Stmt) (n : Stmt) : Prop where
  root_mem : root ∈ env.reg.mods
  node : Sub n root.stmt
  scope : ∀ s ∈ scope, Sub s root.stmt

theorem need_pos {env : Env} {root : Mod} {scope : List Stmt} {n : Stmt} (visiting : List NodeId)
    (inv : Inv env root scope n) : 1 ≤ need env.reg root n visiting := by
  unfold need
  split
  · rename_i ht
    split
    · exact Nat.le_refl _
    · rename_i hv
      have hv' : visiting.contains (nodeId root n) = false := by simpa using hv
      have := free_pos (mem_tracked inv.root_mem inv.node ht) hv'
      calc 1 ≤ 1 * 2 := by omega
        _ ≤ free env.reg visiting * (maxHeight env.reg + 2) := Nat.mul_le_mul this (by omega)
  · omega

/-- `need` of a callee entered with `vis'`, bounded through the cases of `need`. -/
theorem need_le_of {reg : Registry} {root : Mod} {n : Stmt} {vis : List NodeId} {k : Nat}
    (h1 : 1 ≤ k) (h2 : free reg vis * (maxHeight reg + 2) ≤ k)
    (h3 : isTracked n = false → height n + 1 + free reg vis * (maxHeight reg + 2) ≤ k) :
    need reg root n vis ≤ k := by
  unfold need
  split
  · split
    · exact h1
    · exact h2
  · rename_i ht
    exact h3 (by simpa using ht)

theorem callee_need {env : Env} {root : Mod} {scope : List Stmt} {n : Stmt} {visiting : List NodeId} {fuel : Nat}
    (inv : Inv env root scope n) (hneed : need env.reg root n visiting ≤ fuel + 1)
    (hc : ¬ (isTracked n && visiting.contains (nodeId root n)) = true)
    {root' : Mod} {scope' : List Stmt} {n' : Stmt} {vis' : List NodeId}
    (hcal : Callee env root scope n visiting root' scope' n' vis') :
    Inv env root' scope' n' ∧ need env.reg root' n' vis' ≤ fuel := by
  -- what the caller's fuel leaves for a callee entered with `visiting'`: a tracked caller has spent
  -- one of the free blocks, an untracked one sits above its own height
  have caller : free env.reg (visiting' root n visiting) * (maxHeight env.reg + 2) +
      (if isTracked n then maxHeight env.reg + 2 else height n + 1) ≤ fuel + 1 := by
    unfold need at hneed
    unfold visiting'
    cases ht : isTracked n
    · simp only [ht, Bool.false_eq_true, if_false] at hneed ⊢
      omega
    · have hv : visiting.contains (nodeId root n) = false := by
        cases hv : visiting.contains (nodeId root n)
        · rfl
        · exact absurd (by rw [ht, hv]; rfl) hc
      have hmul := Nat.mul_le_mul_right (maxHeight env.reg + 2)
        (free_cons_lt (mem_tracked inv.root_mem inv.node ht) hv)
      rw [Nat.succ_mul] at hmul
      simp only [ht, hv, Bool.false_eq_true, if_true, if_false] at hneed ⊢
      omega
  have hnH : height n ≤ maxHeight env.reg := sub_height_le_max inv.root_mem inv.node
  cases hcal with
  | child hcm =>
    refine ⟨⟨inv.root_mem, Sub.child hcm inv.node, List.forall_mem_cons.2 ⟨inv.node, inv.scope⟩⟩, ?_⟩
    have hcn := height_child_lt hcm
    have hcp := height_pos n'
    split at caller <;> exact need_le_of (by omega) (by omega) (fun _ => by omega)
  | uses hfg =>
    obtain ⟨hkw, ⟨n0, up, hgs, hgm⟩, hloc⟩ := findGrouping_sound hfg
    have hgt : isTracked n' = true := by simp [isTracked, hkw]
    have hinv : Inv env root' scope' n' := by
      rcases hloc with ⟨hroot, pre, hpre⟩ | ⟨hmem, hgs'⟩
      · subst hroot
        have hsc : ∀ s ∈ scope', Sub s root'.stmt := fun s hs =>
          inv.scope s (by rw [hpre]; exact List.mem_append_right _ hs)
        exact ⟨inv.root_mem, Sub.child hgm (hsc n0 (by rw [hgs]; exact List.mem_cons_self ..)), hsc⟩
      · rw [hgs'] at hgs ⊢
        cases hgs
        exact ⟨hmem, Sub.child hgm (.refl _), List.forall_mem_cons.2 ⟨.refl _, fun _ h => nomatch h⟩⟩
    refine ⟨hinv, ?_⟩
    have hnp := height_pos n
    split at caller <;> exact need_le_of (by omega) (by omega) (fun hf => by rw [hgt] at hf; cases hf)
  | include_ hf hit =>
    have him : root' ∈ env.reg.mods := includeTarget_mem hit
    refine ⟨⟨him, .refl _, fun _ hs => nomatch hs⟩, ?_⟩
    have hnt : isTracked n = true := by
      rcases include_field_kw hf with h | h <;> simp [isTracked, h]
    have hiH := height_le_maxHeight him
    rw [if_pos hnt] at caller
    exact need_le_of (by omega) (by omega) (fun _ => by omega)

/-! ### the fuel theorem -/

/-- With fuel at least `need`, the answer of the `0` branch does not reach the result. -/
theorem toEntryZ_indep (env : Env) (z z' : Mod → Stmt → TState → Entry × TState) :
    ∀ (fuel : Nat) (root : Mod) (scope : List Stmt) (n : Stmt) (visiting : List NodeId) (st : TState),
      Inv env root scope n → need env.reg root n visiting ≤ fuel →
      toEntryZ env z fuel root scope n visiting st = toEntryZ env z' fuel root scope n visiting st := by
  intro fuel
  induction fuel with
  | zero =>
    intro root scope n visiting st inv h
    have := need_pos visiting inv
    omega
  | succ k ih =>
    intro root scope n visiting st inv h
    show toEntryBody env k (toEntryZ env z k) root scope n visiting st =
      toEntryBody env k (toEntryZ env z' k) root scope n visiting st
    by_cases hc : (isTracked n && visiting.contains (nodeId root n)) = true
    · unfold toEntryBody
      exact skeleton_cyc _ _ _ _ _ _ _ _ _ _ hc
    · apply body_congr
      intro root' scope' n' vis' st' hcal
      obtain ⟨inv', hn'⟩ := callee_need inv h hc hcal
      exact ih root' scope' n' vis' st' inv' hn'

/-- Closed form: `H + 2` units for every tracked statement of the registry, and one more block
for the statements above the first tracked one. -/
def entryNeed (reg : Registry) : Nat := ((tracked reg).length + 1) * (maxHeight reg + 2)

theorem need_le_entryNeed {env : Env} {root : Mod} {scope : List Stmt} {n : Stmt} (visiting : List NodeId)
    (inv : Inv env root scope n) : need env.reg root n visiting ≤ entryNeed env.reg := by
  have hf := free_le env.reg visiting
  have hh : height n ≤ maxHeight env.reg := sub_height_le_max inv.root_mem inv.node
  have hmul : free env.reg visiting * (maxHeight env.reg + 2) ≤ (tracked env.reg).length * (maxHeight env.reg + 2) :=
    Nat.mul_le_mul_right _ hf
  unfold entryNeed
  rw [Nat.add_mul, Nat.one_mul]
  apply need_le_of
  · omega
  · omega
  · intro _; omega

/-- **Fuel bound of `toEntry`.**  For a call on a statement of a loaded module with fuel at least
`entryNeed`, `toEntry` coincides with `toEntryZ z` for every `z`: whatever the out-of-fuel branch
would answer does not matter, the recursion never reaches it. -/
theorem toEntry_fuel (env : Env) (fuel : Nat) (root : Mod) (scope : List Stmt) (n : Stmt) (visiting : List NodeId)
    (st : TState) (inv : Inv env root scope n) (hfuel : entryNeed env.reg ≤ fuel)
    (z : Mod → Stmt → TState → Entry × TState) :
    toEntry env fuel root scope n visiting st = toEntryZ env z fuel root scope n visiting st := by
  rw [← toEntryZ_oof]
  exact toEntryZ_indep env _ _ fuel root scope n visiting st inv (Nat.le_trans (need_le_entryNeed visiting inv) hfuel)

/-- A top-level call of `processAll`: the module statement itself. -/
theorem Inv.top {env : Env} {m : Mod} (hm : m ∈ env.reg.mods) : Inv env m [] m.stmt :=
  ⟨hm, .refl _, fun _ h => by cases h⟩

/-- The call `processAll` makes for a deviate statement. -/
theorem Inv.deviate {env : Env} {m : Mod} {dv ds : Stmt} (hm : m ∈ env.reg.mods) (hdv : dv ∈ m.stmt.all "deviation")
    (hds : ds ∈ dv.all "deviate") : Inv env m [dv, m.stmt] ds := by
  have h1 : Sub dv m.stmt := Sub.child (mem_all_subs hdv) (.refl _)
  refine ⟨hm, Sub.child (mem_all_subs hds) h1, ?_⟩
  intro s hs
  cases hs with
  | head => exact h1
  | tail _ h =>
    cases h with
    | head => exact .refl _
    | tail _ h => cases h

/-! ### `entryNeed` against the statement count -/

/-- The sum the model's `entryFuel` is computed from. -/
def totalStmts (reg : Registry) : Nat := reg.mods.foldl (fun a m => a + stmtCount m.stmt) 0

theorem entryFuel_eq (reg : Registry) : entryFuel reg = (totalStmts reg + 2) * (totalStmts reg + 2) + 64 := rfl

mutual
theorem height_le_count : (s : Stmt) → height s ≤ stmtCount s
  | .mk _ _ _ _ _ _ subs => by
    have := heightL_le_countL subs
    simp only [height, stmtCount]; omega
theorem heightL_le_countL : (l : List Stmt) → height.heightL l ≤ stmtCount.countL l
  | [] => Nat.le_refl _
  | s :: ss => by
    have h1 := height_le_count s
    have h2 := heightL_le_countL ss
    simp only [height.heightL, stmtCount.countL]; omega
end

mutual
theorem trackedIn_le_count : (s : Stmt) → (trackedIn s).length ≤ stmtCount s
  | .mk kw ha arg file line col subs => by
    have := trackedInL_le_countL subs
    simp only [trackedIn, stmtCount, List.length_append]
    split <;> simp <;> omega
theorem trackedInL_le_countL : (l : List Stmt) → (trackedIn.trackedInL l).length ≤ stmtCount.countL l
  | [] => Nat.le_refl _
  | s :: ss => by
    have h1 := trackedIn_le_count s
    have h2 := trackedInL_le_countL ss
    simp only [trackedIn.trackedInL, stmtCount.countL, List.length_append]; omega
end

theorem foldl_sum_shift (l : List Mod) (a : Nat) :
    l.foldl (fun a m => a + stmtCount m.stmt) a = a + l.foldl (fun a m => a + stmtCount m.stmt) 0 := by
  induction l generalizing a with
  | nil => rfl
  | cons x xs ih =>
    simp only [List.foldl_cons, Nat.zero_add]
    rw [ih (a + stmtCount x.stmt), ih (stmtCount x.stmt)]; omega

theorem tracked_le_total (reg : Registry) : (tracked reg).length ≤ totalStmts reg := by
  unfold tracked totalStmts
  induction reg.mods with
  | nil => exact Nat.le_refl _
  | cons x xs ih =>
    simp only [List.flatMap_cons, List.length_append, List.length_map, List.foldl_cons, Nat.zero_add]
    rw [foldl_sum_shift]
    have := trackedIn_le_count x.stmt
    omega

theorem maxHeight_le_total (reg : Registry) : maxHeight reg ≤ totalStmts reg := by
  unfold maxHeight totalStmts
  suffices h : ∀ (l : List Mod) (a b : Nat), a ≤ b →
      l.foldl (fun a m => max a (height m.stmt)) a ≤ l.foldl (fun a m => a + stmtCount m.stmt) b from h _ 0 0 (Nat.le_refl _)
  intro l
  induction l with
  | nil => intro a b h; exact h
  | cons x xs ih =>
    intro a b h
    simp only [List.foldl_cons]
    apply ih
    have := height_le_count x.stmt
    omega

/-- `entryNeed` is at most quadratic in the number of statements loaded. -/
theorem entryNeed_le_quadratic (reg : Registry) : entryNeed reg ≤ (totalStmts reg + 1) * (totalStmts reg + 2) := by
  unfold entryNeed
  exact Nat.mul_le_mul (Nat.succ_le_succ (tracked_le_total reg)) (Nat.add_le_add_right (maxHeight_le_total reg) 2)

/-- The fuel the model passes is enough. -/
theorem entryNeed_le_entryFuel (reg : Registry) : entryNeed reg ≤ entryFuel reg := by
  rw [entryFuel_eq]
  have h := entryNeed_le_quadratic reg
  have h2 : (totalStmts reg + 1) * (totalStmts reg + 2) ≤ (totalStmts reg + 2) * (totalStmts reg + 2) :=
    Nat.mul_le_mul_right _ (Nat.le_succ _)
  omega

end Goyang.Lemmas.Fuel
