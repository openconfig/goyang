import Goyang.Lemmas.LoadOrderReg
import Goyang.Lemmas.FindTurn
/-
Load-order independence (C05), part 4: paths, `walkParts`, `find`, namespaces commute with the
renaming of module identities.  Core Lean only.
-/
namespace Goyang.Lemmas.LoadOrder
open Goyang.Model

section
variable (σ : Nat → Nat)

theorem getAt_ren : ∀ (p : Path) (e : Entry), (Entry.ren σ e).getAt p = (e.getAt p).map (Entry.ren σ)
  | [], e => rfl
  | .child k :: p, e => by
    simp only [Entry.getAt, ren_child?]
    cases e.child? k with
    | none => rfl
    | some c => exact getAt_ren p c
  | .input :: p, e => by
    simp only [Entry.getAt, ren_inp, List.head?_map]
    cases e.inp.head? with
    | none => rfl
    | some c => exact getAt_ren p c
  | .output :: p, e => by
    simp only [Entry.getAt, ren_out, List.head?_map]
    cases e.out.head? with
    | none => rfl
    | some c => exact getAt_ren p c

theorem updateAt_ren (f f' : Entry → Entry) (hf : ∀ x, Entry.ren σ (f x) = f' (Entry.ren σ x)) :
    ∀ (p : Path) (e : Entry), Entry.ren σ (e.updateAt p f) = (Entry.ren σ e).updateAt p f'
  | [], e => hf e
  | .child k :: p, .mk d c i o => by
    simp only [Entry.updateAt, ren_mk, List.map_map]
    congr 1
    apply List.map_congr_left
    intro x _
    simp only [Function.comp, ren_name]
    split
    · exact updateAt_ren f f' hf p x
    · rfl
  | .input :: p, .mk d c i o => by
    simp only [Entry.updateAt, ren_mk, List.map_map]
    congr 1
    apply List.map_congr_left
    intro x _
    exact updateAt_ren f f' hf p x
  | .output :: p, .mk d c i o => by
    simp only [Entry.updateAt, ren_mk, List.map_map]
    congr 1
    apply List.map_congr_left
    intro x _
    exact updateAt_ren f f' hf p x

theorem implicitIO_ren (parent : Entry) (b : Bool) :
    implicitIO (Entry.ren σ parent) b = Entry.ren σ (implicitIO parent b) := by
  simp [implicitIO, renD]

theorem addImplicit_ren (b : Bool) (x : Entry) :
    Entry.ren σ (Spec.Find.addImplicit b x) = Spec.Find.addImplicit b (Entry.ren σ x) := by
  cases x; cases b <;> simp [Spec.Find.addImplicit, ← implicitIO_ren]

theorem turn_ren (part : String) (root : Entry) (p : Path) (e : Entry) :
    Find.turn part (Entry.ren σ root) p (Entry.ren σ e) =
      ((Find.turn part root p e).1, Entry.ren σ (Find.turn part root p e).2) := by
  have hio := fun b => updateAt_ren σ _ _ (addImplicit_ren σ b) p root
  show _ = (fun r : Option Path × Entry => (r.1, Entry.ren σ r.2)) (Find.turn part root p e)
  simp only [Find.turn, apply_ite (fun r : Option Path × Entry => (r.1, Entry.ren σ r.2)), apply_ite (Entry.ren σ),
    ren_d, renD_isRpc, ren_inp, ren_out, List.isEmpty_map, ren_child?, Option.map_map, hio]
  rfl

theorem walkParts_ren : ∀ (parts : List String) (root : Entry) (cur : Option Path),
    walkParts parts (Entry.ren σ root) cur = ((walkParts parts root cur).1, Entry.ren σ (walkParts parts root cur).2)
  | [], root, cur => rfl
  | part :: rest, root, none => rfl
  | part :: rest, root, some p => by
    cases he : root.getAt p with
    | none => rw [walkParts, walkParts, getAt_ren, he]; rfl
    | some e =>
      have he' : (Entry.ren σ root).getAt p = some (Entry.ren σ e) := by rw [getAt_ren, he]; rfl
      rw [Find.walkParts_cons he, Find.walkParts_cons he', turn_ren]
      exact walkParts_ren rest _ _

end

/-! ### forests -/

section
variable {σ : Nat → Nat} (hσ : ∀ a b, σ a = σ b → a = b)
include hσ

theorem tree?_ren (f : Forest) (id : Nat) : (Forest.ren σ f).tree? (σ id) = (f.tree? id).map (Entry.ren σ) := by
  unfold Forest.tree? Forest.ren
  rw [find?_map_inj σ hσ (fun p : Nat × Entry => p.1) (fun p : Nat × Entry => p.1) _ (fun _ => rfl) f.trees id]
  cases f.trees.find? _ <;> rfl

theorem setTree_ren (f : Forest) (id : Nat) (e : Entry) :
    (Forest.ren σ f).setTree (σ id) (Entry.ren σ e) = Forest.ren σ (f.setTree id e) := by
  unfold Forest.setTree Forest.ren
  simp only [List.map_map]
  congr 1
  apply List.map_congr_left
  rintro ⟨i, t⟩ _
  simp only [Function.comp]
  by_cases hi : i = id
  · simp [hi]
  · have : σ i ≠ σ id := fun e => hi (hσ _ _ e)
    simp [hi, this]

end

/-! ### `find` -/

/-- The tree an absolute path is looked up in (`find`). -/
def findTree (reg : Registry) (s ctxMod : Nat) (pfx : String) : Option Nat :=
  if pfx == "" then
    match reg.byId s with
    | some sm => if sm.isSub then ((reg.owner sm).map (·.seq)).getD s else s
    | none => some s
  else
  match reg.byId ctxMod with
  | none => none
  | some cm =>
    match reg.findModuleByPrefix cm pfx with
    | none => none
    | some m => (reg.owner m).map (·.seq)

def findAbs (reg : Registry) (f : Forest) (start : Loc) (ctxMod : Nat) (parts : List String) : Option Loc × Forest :=
  match findTree reg start.1 ctxMod (splitPrefix (parts.headD "")).1 with
  | none =>
    (none, match f.tree? start.1 with
      | some root => f.setTree start.1 (root.addErr (Err.bare "other"))
      | none => f)
  | some t =>
    match f.tree? t with
    | none => (none, f)
    | some root => ((walkParts parts root (some [])).1.map (t, ·), f.setTree t (walkParts parts root (some [])).2)

def findRel (f : Forest) (start : Loc) (parts : List String) : Option Loc × Forest :=
  match f.tree? start.1 with
  | none => (none, f)
  | some root =>
    ((walkParts parts root (some start.2)).1.map (start.1, ·), f.setTree start.1 (walkParts parts root (some start.2)).2)

theorem find_eq (reg : Registry) (f : Forest) (start : Loc) (ctxMod : Nat) (name : String) :
    find reg f start ctxMod name =
      if name == "" then (none, f) else
      match name.splitOn "/" with
      | "" :: parts => findAbs reg f start ctxMod parts
      | parts => findRel f start parts := by
  rfl

def lren (σ : Nat → Nat) (l : Loc) : Loc := (σ l.1, l.2)

section
variable {σ : Nat → Nat} {r₁ r₂ : Registry} (h : RegRel σ r₁ r₂)
include h

theorem findTree_ren (s ctxMod : Nat) (pfx : String) :
    findTree r₂ (σ s) (σ ctxMod) pfx = (findTree r₁ s ctxMod pfx).map σ := by
  unfold findTree
  rw [h.byId, h.byId]
  split
  · cases r₁.byId s with
    | none => rfl
    | some sm =>
      simp only [Option.map_some, Mod.ren_isSub, h.owner]
      split
      · cases r₁.owner sm <;> rfl
      · rfl
  · cases r₁.byId ctxMod with
    | none => rfl
    | some cm =>
      simp only [Option.map_some, h.findModuleByPrefix]
      cases r₁.findModuleByPrefix cm pfx with
      | none => rfl
      | some m =>
        simp only [Option.map_some, h.owner]
        cases r₁.owner m <;> rfl

theorem findRel_ren (f : Forest) (start : Loc) (parts : List String) :
    findRel (Forest.ren σ f) (lren σ start) parts =
      ((findRel f start parts).1.map (lren σ), Forest.ren σ (findRel f start parts).2) := by
  unfold findRel
  simp only [lren, tree?_ren h.inj]
  cases f.tree? start.1 with
  | none => rfl
  | some root =>
    simp only [Option.map_some, walkParts_ren, setTree_ren h.inj]
    cases (walkParts parts root (some start.2)).1 <;> rfl

theorem findAbs_ren (f : Forest) (start : Loc) (ctxMod : Nat) (parts : List String) :
    findAbs r₂ (Forest.ren σ f) (lren σ start) (σ ctxMod) parts =
      ((findAbs r₁ f start ctxMod parts).1.map (lren σ), Forest.ren σ (findAbs r₁ f start ctxMod parts).2) := by
  unfold findAbs
  simp only [lren, findTree_ren h, tree?_ren h.inj]
  cases findTree r₁ start.1 ctxMod (splitPrefix (parts.headD "")).1 with
  | none =>
    simp only [Option.map_none]
    cases f.tree? start.1 with
    | none => rfl
    | some root =>
      simp only [Option.map_some, ← ren_addErr, setTree_ren h.inj]
  | some t =>
    simp only [Option.map_some, tree?_ren h.inj]
    cases f.tree? t with
    | none => rfl
    | some root =>
      simp only [Option.map_some, walkParts_ren, setTree_ren h.inj]
      cases (walkParts parts root (some [])).1 <;> rfl

/-- **`find` commutes with the renaming of module identities.** -/
theorem find_ren (f : Forest) (start : Loc) (ctxMod : Nat) (name : String) :
    find r₂ (Forest.ren σ f) (lren σ start) (σ ctxMod) name =
      ((find r₁ f start ctxMod name).1.map (lren σ), Forest.ren σ (find r₁ f start ctxMod name).2) := by
  rw [find_eq, find_eq]
  split
  · rfl
  · split
    · exact findAbs_ren h f start ctxMod _
    · exact findRel_ren h f start _

end

/-! ### what the dump reads along a path -/

section
variable (σ : Nat → Nat)

/-- The node one step below `e`. -/
def nextOf (e : Entry) : Step → Option Entry
  | .child k => e.child? k
  | .input => e.inp.head?
  | .output => e.out.head?

theorem nextOf_ren (e : Entry) (s : Step) : nextOf (Entry.ren σ e) s = (nextOf e s).map (Entry.ren σ) := by
  cases s <;> simp [nextOf]

/-- A walk along a path that reads renaming-invariant data of the nodes does not see the renaming:
`upd` is the accumulator on the way down, `fin` the result where the walk ends. -/
theorem pathWalk_ren {A : Type} (go : Entry → Path → A → A) (upd : Entry → Entry → A → A) (fin : Entry → A → A)
    (hnil : ∀ e a, go e [] a = fin e a)
    (hcons : ∀ e s rest a, go e (s :: rest) a =
      match nextOf e s with
      | some c => go c rest (upd e c a)
      | none => fin e a)
    (hupd : ∀ e c a, upd (Entry.ren σ e) (Entry.ren σ c) a = upd e c a)
    (hfin : ∀ e a, fin (Entry.ren σ e) a = fin e a) (p : Path) (e : Entry) (a : A) :
    go (Entry.ren σ e) p a = go e p a := by
  induction p generalizing e a with
  | nil => rw [hnil, hnil, hfin]
  | cons s rest ih =>
    rw [hcons, hcons, nextOf_ren]
    cases nextOf e s with
    | none => exact hfin e a
    | some c =>
      simp only [Option.map_some, hupd]
      exact ih c _

theorem stampAt_ren (root : Entry) (p : Path) : (Entry.ren σ root).stampAt p = root.stampAt p :=
  pathWalk_ren σ Entry.stampAt.go (fun _ c a => match c.d.ns with | some n => some n | none => a) (fun _ a => a)
    (fun _ _ => rfl) (fun _ s _ _ => by cases s <;> rfl) (fun _ _ _ => by simp) (fun _ _ => rfl) p root none

theorem pathString_ren (root : Entry) (p : Path) : (Entry.ren σ root).pathString p = root.pathString p := by
  unfold Entry.pathString
  rw [ren_name]
  exact pathWalk_ren σ Entry.pathString.go (fun _ c a => a ++ "/" ++ c.name) (fun _ a => a)
    (fun _ _ => rfl) (fun _ s _ _ => by cases s <;> rfl) (fun _ _ _ => by simp) (fun _ _ => rfl) p root _

def roHere (e : Entry) (inherited : Bool) : Bool :=
  if e.d.kind == .output then true
  else match e.d.config with
    | .unset => inherited
    | .true_ => false
    | .false_ => true

theorem roHere_ren (e : Entry) (inh : Bool) : roHere (Entry.ren σ e) inh = roHere e inh := by
  simp [roHere]

theorem readOnlyAt_ren (root : Entry) (p : Path) : (Entry.ren σ root).readOnlyAt p = root.readOnlyAt p :=
  pathWalk_ren σ Entry.readOnlyAt.go (fun e _ a => roHere e a) roHere
    (fun _ _ => rfl) (fun _ s _ _ => by cases s <;> rfl) (fun e _ a => roHere_ren σ e a) (roHere_ren σ) p root false

end

/-- The answer of `InstantiatingModule()` given the loaded modules with the node's namespace. -/
def instOf : List Mod → Option String
  | [] => none
  | m :: rest => if rest.all (·.name == m.name) then some m.name else none

theorem instantiatingModuleAt_eq (reg : Registry) (f : Forest) (loc : Loc) :
    instantiatingModuleAt reg f loc =
      instOf (reg.distinctModules.filter fun m => (m.stmt.argOf? "namespace").getD "" == namespaceAt reg f loc) := by
  unfold instantiatingModuleAt
  simp only
  generalize (reg.distinctModules.filter fun m => (m.stmt.argOf? "namespace").getD "" == namespaceAt reg f loc) = l
  cases l <;> rfl

theorem instOf_eq_some (l : List Mod) (x : String) : instOf l = some x ↔ l ≠ [] ∧ ∀ m ∈ l, m.name = x := by
  cases l with
  | nil => simp [instOf]
  | cons a t =>
    simp only [instOf, List.all_eq_true, beq_iff_eq, List.mem_cons, forall_eq_or_imp, ne_eq, reduceCtorEq,
      not_false_eq_true, true_and]
    constructor
    · intro h
      split at h
      · next hall => cases h; exact ⟨rfl, hall⟩
      · cases h
    · rintro ⟨rfl, hall⟩
      rw [if_pos hall]

/-- It depends on them as a set only. -/
theorem instOf_perm {l₁ l₂ : List Mod} (hp : l₁.Perm l₂) : instOf l₁ = instOf l₂ := by
  apply Option.ext
  intro x
  have hn : l₁ = [] ↔ l₂ = [] := ⟨fun e => (e ▸ hp).symm.eq_nil, fun e => (e ▸ hp).eq_nil⟩
  rw [instOf_eq_some, instOf_eq_some, ne_eq, ne_eq, hn]
  exact and_congr_right fun _ => forall_congr' fun m => by rw [hp.mem_iff]

section
variable {σ : Nat → Nat} {r₁ r₂ : Registry} (h : RegRel σ r₁ r₂)
include h

theorem namespaceAt_ren (f : Forest) (loc : Loc) :
    namespaceAt r₂ (Forest.ren σ f) (lren σ loc) = namespaceAt r₁ f loc := by
  unfold namespaceAt
  simp only [lren, tree?_ren h.inj, h.byId]
  cases f.tree? loc.1 with
  | none => rfl
  | some root =>
    simp only [Option.map_some, stampAt_ren]
    cases root.stampAt loc.2 with
    | some n => rfl
    | none =>
      cases r₁.byId loc.1 with
      | none => rfl
      | some m =>
        simp only [Option.map_some, h.owner]
        cases r₁.owner m <;> rfl

theorem instantiatingModuleAt_ren (f : Forest) (loc : Loc) :
    instantiatingModuleAt r₂ (Forest.ren σ f) (lren σ loc) = instantiatingModuleAt r₁ f loc := by
  rw [instantiatingModuleAt_eq, instantiatingModuleAt_eq]
  simp only [namespaceAt_ren h]
  have hp : (r₂.distinctModules.filter fun m => (m.stmt.argOf? "namespace").getD "" == namespaceAt r₁ f loc).Perm
      ((r₁.distinctModules.filter fun m => (m.stmt.argOf? "namespace").getD "" == namespaceAt r₁ f loc).map (Mod.ren σ)) := by
    refine (h.distinctModules.filter _).trans ?_
    rw [List.filter_map]
    exact List.Perm.refl _
  rw [instOf_perm hp]
  cases r₁.distinctModules.filter fun m => (m.stmt.argOf? "namespace").getD "" == namespaceAt r₁ f loc with
  | nil => rfl
  | cons m rest =>
    simp only [instOf, List.map_cons, Mod.ren_name, List.all_map]
    rfl

end

end Goyang.Lemmas.LoadOrder
