import Goyang.Lemmas.IncludeAugIO
import Goyang.Lemmas.LoadOrderFind
/-
C13 (third sentence), augments — groundwork for piece (S), the lockstep simulation of the two augment loops.

* `ren_eq`: the renaming `Spec.Include.ren σ` of the include layer IS C05's `Entry.ren σ` (two textually equal
  definitions), so C05's lemmas that do not need an injective renaming (`LoadOrder.walkParts_ren`, `updateAt_ren`,
  `getAt_ren`, `ren_merge`) apply to the trees of the modules other than the owner.
* `walkParts_path_sameTop`: on trees without rpc / action nodes, `Find`'s step loop reaches the same location in the
  owner's tree as in the unsplit module's tree (`SameTop σ`: the children of the root in another order), from any
  starting location: targets go by name.
-/
namespace Goyang.Lemmas.IncludeAugSim
open Goyang.Model Goyang.Spec.Include Goyang.Spec.Tree Goyang.Lemmas.Tree
open Goyang.Lemmas.IncludeRel Goyang.Lemmas.IncludeMain Goyang.Lemmas.IncludeAugIO

mutual
theorem ren_eq (σ : Nat → Nat) : ∀ e : Entry, ren σ e = LoadOrder.Entry.ren σ e
  | .mk d c i o => by
    simp only [ren, LoadOrder.Entry.ren]
    rw [renL_eq σ c, renL_eq σ i, renL_eq σ o]
    rfl
theorem renL_eq (σ : Nat → Nat) : ∀ l : List Entry, renL σ l = LoadOrder.renL σ l
  | [] => rfl
  | e :: es => by
    simp only [renL, LoadOrder.renL]
    rw [ren_eq σ e, renL_eq σ es]
end

/-- C05's `walkParts_ren` for the renaming of the include layer (any `σ`). -/
theorem walkParts_ren (σ : Nat → Nat) (parts : List String) (root : Entry) (cur : Option Path) :
    walkParts parts (ren σ root) cur = ((walkParts parts root cur).1, ren σ (walkParts parts root cur).2) := by
  rw [ren_eq, ren_eq]
  exact LoadOrder.walkParts_ren σ parts root cur

/-- The nodes at a location of the owner's tree and of the unsplit module's tree (`SameTop σ`) are both absent, or they
are the two roots, or the second is the first up to `ren σ`: whatever relates those pairs relates them. -/
theorem getAt_sameTop_rel (σ : Nat → Nat) (Q : Entry → Entry → Prop) {t' t : Entry} (h : SameTop σ t' t)
    (hnd : (t.dir.map (·.name)).Nodup) (htop : Q t' t) (hren : ∀ x, Q x (ren σ x)) (p : Path) :
    (t'.getAt p = none ∧ t.getAt p = none) ∨ ∃ e' e, t'.getAt p = some e' ∧ t.getAt p = some e ∧ Q e' e := by
  cases p with
  | nil => exact Or.inr ⟨t', t, rfl, rfl, htop⟩
  | cons s q =>
    have hg := getAt_sameTop σ t' t h hnd s q
    cases h1 : t'.getAt (s :: q) with
    | none => rw [h1] at hg; exact Or.inl ⟨rfl, hg.symm⟩
    | some e' => rw [h1] at hg; exact Or.inr ⟨e', ren σ e', rfl, hg.symm, hren e'⟩

theorem getAt_rel (σ : Nat → Nat) {t' t : Entry} (h : SameTop σ t' t) (hnd : (t.dir.map (·.name)).Nodup)
    (hn' : NoIO t') (hn : NoIO t) (p : Path) :
    (t'.getAt p = none ∧ t.getAt p = none) ∨
    ∃ e' e, t'.getAt p = some e' ∧ t.getAt p = some e ∧ e'.d.isRpc = false ∧ e.d.isRpc = false ∧
      ∀ k, (e'.child? k).isSome = (e.child? k).isSome := by
  rcases getAt_sameTop_rel σ (fun e' e => ∀ k, (e'.child? k).isSome = (e.child? k).isSome) h hnd
    (fun k => by rw [← child?_sameTop σ t' t h hnd k]; cases t'.child? k <;> rfl)
    (fun x k => by rw [ren_child?]; cases x.child? k <;> rfl) p with ⟨a, b⟩ | ⟨e', e, a, b, hk⟩
  · exact Or.inl ⟨a, b⟩
  · exact Or.inr ⟨e', e, a, b, noIO_isRpc (everyNode_getAt noIOHere _ t' e' hn' a),
      noIO_isRpc (everyNode_getAt noIOHere _ t e hn b), hk⟩

/-- **`Find`'s step loop reaches the same location** in the owner's tree and in the unsplit module's tree (trees
without rpc / action nodes), whatever the starting location. -/
theorem walkParts_path_sameTop (σ : Nat → Nat) {t' t : Entry} (h : SameTop σ t' t) (hnd : (t.dir.map (·.name)).Nodup)
    (hn' : NoIO t') (hn : NoIO t) : ∀ (parts : List String) (cur : Option Path),
    (walkParts parts t' cur).1 = (walkParts parts t cur).1 := by
  intro parts
  induction parts with
  | nil => intro cur; rfl
  | cons part rest ih =>
    intro cur
    cases cur with
    | none => rfl
    | some p =>
      rcases getAt_rel σ h hnd hn' hn p with ⟨g', g⟩ | ⟨e', e, g', g, r', r, hk⟩
      · rw [walkParts, walkParts, g', g]
      · rw [Find.walkParts_cons g', Find.walkParts_cons g, turn_plain_root r', turn_plain_root r, turn_plain_fst r r' (hk _)]
        exact ih _

/-! ### updates of the owner's tree against the same updates of the unsplit module's tree -/

/-- C05's `updateAt_ren` for the renaming of the include layer (any `σ`). -/
theorem updateAt_ren (σ : Nat → Nat) (f f' : Entry → Entry) (hf : ∀ x, ren σ (f x) = f' (ren σ x)) (p : Path) (e : Entry) :
    ren σ (e.updateAt p f) = (ren σ e).updateAt p f' := by
  rw [ren_eq, ren_eq]
  exact LoadOrder.updateAt_ren σ f f' (fun x => by rw [← ren_eq, ← ren_eq]; exact hf x) p e

/-- An update below a child of the root: `SameTop` is kept when the two update functions commute with `ren σ`. -/
theorem sameTop_updateAt_child (σ : Nat → Nat) {t' t : Entry} (h : SameTop σ t' t) (f f' : Entry → Entry)
    (hf : ∀ x, ren σ (f x) = f' (ren σ x)) (k : String) (q : Path) :
    SameTop σ (t'.updateAt (.child k :: q) f) (t.updateAt (.child k :: q) f') := by
  cases t' with | mk d' c' i' o' =>
  cases t with | mk d c i o =>
  obtain ⟨h1, h2, h3, h4⟩ := h
  simp only [Entry.updateAt]
  refine ⟨h1, ?_, h3, h4⟩
  simp only [Entry.dir] at h2 ⊢
  rw [renL_eq_map] at h2 ⊢
  have e1 : (c'.map fun x => if (x.name == k) = true then x.updateAt q f else x).map (ren σ) =
      (c'.map (ren σ)).map fun x => if (x.name == k) = true then x.updateAt q f' else x := by
    rw [List.map_map, List.map_map]
    apply List.map_congr_left
    intro x _
    simp only [Function.comp, ren_name]
    split
    · exact updateAt_ren σ f f' hf q x
    · rfl
  rw [e1]
  exact h2.map _

/-- `isSome` of a child lookup is the same in two trees with `SameTop`. -/
theorem child?_isSome_sameTop (σ : Nat → Nat) {t' t : Entry} (h : SameTop σ t' t) (k : String) :
    (t'.child? k).isSome = (t.child? k).isSome := by
  have hp := h.2.1
  rw [renL_eq_map] at hp
  unfold Entry.child?
  rw [Bool.eq_iff_iff, List.find?_isSome, List.find?_isSome]
  constructor
  · rintro ⟨x, hx, hk⟩
    exact ⟨ren σ x, hp.mem_iff.1 (List.mem_map_of_mem hx), by rw [ren_name]; exact hk⟩
  · rintro ⟨y, hy, hk⟩
    obtain ⟨x, hx, rfl⟩ := List.mem_map.1 (hp.mem_iff.2 hy)
    exact ⟨x, hx, by rw [ren_name] at hk; exact hk⟩

theorem sameTop_addErr (σ : Nat → Nat) {t' t : Entry} (h : SameTop σ t' t) (x : Err) : SameTop σ (t'.addErr x) (t.addErr x) := by
  cases t' with | mk d' c' i' o' =>
  cases t with | mk d c i o =>
  obtain ⟨h1, h2, h3, h4⟩ := h
  refine ⟨?_, h2, h3, h4⟩
  simp only [Entry.addErr, Entry.withD, Entry.d] at h1 ⊢
  unfold SameData at h1 ⊢
  rw [h1]

theorem sameTop_addErrs (σ : Nat → Nat) {t' t : Entry} (h : SameTop σ t' t) (xs : List Err) :
    SameTop σ (t'.addErrs xs) (t.addErrs xs) := by
  cases t' with | mk d' c' i' o' =>
  cases t with | mk d c i o =>
  obtain ⟨h1, h2, h3, h4⟩ := h
  refine ⟨?_, h2, h3, h4⟩
  simp only [Entry.addErrs, Entry.withD, Entry.d] at h1 ⊢
  unfold SameData at h1 ⊢
  rw [h1]

/-- One iteration of `merge`'s loop on two trees with `SameTop`. -/
theorem sameTop_step (σ : Nat → Nat) {b' b : Entry} (h : SameTop σ b' b) (ns : Option String) (x : Err) (v : Entry) :
    SameTop σ (OrderIndep.step ns x b' v) (OrderIndep.step ns x b (ren σ v)) := by
  unfold OrderIndep.step
  have hk := child?_isSome_sameTop σ h (OrderIndep.stamp ns v).name
  have hn : (OrderIndep.stamp ns (ren σ v)).name = (OrderIndep.stamp ns v).name := by
    rw [OrderIndep.stamp_name, OrderIndep.stamp_name, ren_name]
  rw [hn]
  cases h1 : b'.child? (OrderIndep.stamp ns v).name with
  | some y =>
    rw [h1] at hk
    cases h2 : b.child? (OrderIndep.stamp ns v).name with
    | none => rw [h2] at hk; cases hk
    | some z => exact sameTop_addErr σ h x
  | none =>
    rw [h1] at hk
    cases h2 : b.child? (OrderIndep.stamp ns v).name with
    | some z => rw [h2] at hk; cases hk
    | none =>
      cases b' with | mk d' c' i' o' =>
      cases b with | mk d c i o =>
      obtain ⟨g1, g2, g3, g4⟩ := h
      refine ⟨g1, ?_, g3, g4⟩
      simp only [Entry.withDir, Entry.dir] at g2 ⊢
      rw [renL_eq_map] at g2 ⊢
      rw [List.map_append, List.map_cons, List.map_nil, ren_stamp]
      exact g2.append_right _

/-- **`merge` at the root**: merging an augment entry into the owner's tree and the renamed entry into the unsplit
module's tree keeps `SameTop`. -/
theorem sameTop_merge (σ : Nat → Nat) {t' t : Entry} (h : SameTop σ t' t) (ns : Option String) (oe : Entry) :
    SameTop σ (t'.merge ns oe) (t.merge ns (ren σ oe)) := by
  rw [OrderIndep.merge_eq, OrderIndep.merge_eq]
  have h0 : SameTop σ (t'.importErrors oe) (t.importErrors (ren σ oe)) := by
    unfold Entry.importErrors
    have e1 : (ren σ oe).d.errors ++ Entry.allErrorsL (ren σ oe).dir ++ Entry.allErrorsL (ren σ oe).inp ++
        Entry.allErrorsL (ren σ oe).out =
        oe.d.errors ++ Entry.allErrorsL oe.dir ++ Entry.allErrorsL oe.inp ++ Entry.allErrorsL oe.out := by
      rw [ren_d, renD_errors, ren_dir, ren_inp, ren_out, ← renL_eq_map, ← renL_eq_map, ← renL_eq_map,
        allErrorsL_renL, allErrorsL_renL, allErrorsL_renL]
    rw [e1]
    exact sameTop_addErrs σ h _
  rw [ren_dir, ren_d, renD_node]
  generalize Err.at_ oe.d.node "duplicate-node" = x
  generalize t'.importErrors oe = b' at h0
  generalize t.importErrors (ren σ oe) = b at h0
  induction oe.dir generalizing b' b with
  | nil => exact h0
  | cons v vs ih =>
    simp only [List.map_cons, List.foldl_cons]
    exact ih _ _ (sameTop_step σ h0 ns x v)


/-- **The update the augment stage makes at a target in the owner's tree** (`merge` of the augment entry at `path`)
against the same update with the renamed entry in the unsplit module's tree: `SameTop` is kept, whatever the path. -/
theorem sameTop_mergeAt (σ : Nat → Nat) {t' t : Entry} (h : SameTop σ t' t) (ns : Option String) (a : Entry) (path : Path) :
    SameTop σ (t'.updateAt path fun te => te.merge ns a) (t.updateAt path fun te => te.merge ns (ren σ a)) := by
  cases path with
  | nil => exact sameTop_merge σ h ns a
  | cons st q =>
    cases st with
    | child k => exact sameTop_updateAt_child σ h _ _ (fun x => ren_merge σ x ns a) k q
    | input =>
      cases t' with | mk d' c' i' o' =>
      cases t with | mk d c i o =>
      obtain ⟨h1, h2, ⟨h3, h3'⟩, h4⟩ := h
      simp only [Entry.inp] at h3 h3'
      subst h3 h3'
      exact ⟨h1, h2, ⟨rfl, rfl⟩, h4⟩
    | output =>
      cases t' with | mk d' c' i' o' =>
      cases t with | mk d c i o =>
      obtain ⟨h1, h2, h3, ⟨h4, h4'⟩⟩ := h
      simp only [Entry.out] at h4 h4'
      subst h4 h4'
      exact ⟨h1, h2, h3, ⟨rfl, rfl⟩⟩

/-- … and in any other module's tree (equal up to `ren σ`). -/
theorem ren_mergeAt (σ : Nat → Nat) (t' : Entry) (ns : Option String) (a : Entry) (path : Path) :
    ren σ (t'.updateAt path fun te => te.merge ns a) = (ren σ t').updateAt path fun te => te.merge ns (ren σ a) :=
  updateAt_ren σ _ _ (fun x => ren_merge σ x ns a) path t'

end Goyang.Lemmas.IncludeAugSim
