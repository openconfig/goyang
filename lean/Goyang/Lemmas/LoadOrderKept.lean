import Goyang.Lemmas.LoadOrderLoad
/-
Load-order independence (C05), part 10: arbitrary load lists — names with `@`, several loads with
one header.  A refused load leaves the registry as it was, so the registry after `loadAll ss` is
the registry after loading only the loads that were accepted (`kept ss`): of every header whose
name is free of `@`, the first load that carries it.  Two load lists with the same first load for
every such header (`SameFirsts`) therefore give registries related by a renaming of the sequence
numbers (`regRel_of_sameFirsts`), whatever else the lists contain and in whatever order.
The per-load outcomes are given exactly (`loadFrom_kept_outs`): a load is refused for its name, or as
a duplicate when an `@`-free load with the same header came before; the error value is a function
of the header.  Core Lean only.
-/
namespace Goyang.Lemmas.LoadOrder
open Goyang.Model Goyang.Spec.Registry
open Goyang.Lemmas.Registry (hdr hdrOf NoAt Inv good noAt_of_good good_of_noAt add_step add_error_bad
  good_eq_nameOk inv_empty rejAfterG rejAfterG_perm)


/-- The loads `Registry.loadFrom` accepts; `before` = the headers of the `@`-free loads seen. -/
def keptAfter (before : List Header) : List Stmt → List Stmt
  | [] => []
  | s :: rest =>
    if good s then (if before.contains (hdr s) then [] else [s]) ++ keptAfter (before ++ [hdr s]) rest
    else keptAfter before rest

/-- The loads `Registry.loadAll` accepts, in load order. -/
def kept (ss : List Stmt) : List Stmt := keptAfter [] ss

/-- The loads `Registry.loadFrom` refuses. -/
def refusedAfter (before : List Header) : List Stmt → List Stmt
  | [] => []
  | s :: rest =>
    if good s then (if before.contains (hdr s) then [s] else []) ++ refusedAfter (before ++ [hdr s]) rest
    else s :: refusedAfter before rest

def refused (ss : List Stmt) : List Stmt := refusedAfter [] ss

/-- The error a refused load is refused with (`Modules.add`): a function of the load's header. -/
def errOfHdr (h : Header) : Registry.AddErr :=
  let kind := if h.isSub then "submodule" else "module"
  if nameOk h then .duplicate kind (if h.rev = "" then h.name else h.name ++ "@" ++ h.rev) else .badName kind h.name

def errOf (s : Stmt) : Registry.AddErr := errOfHdr (hdr s)

theorem add_error_eq {r : Registry} {s : Stmt} {e : Registry.AddErr} (h : r.add s = .error e) : e = errOf s := by
  have hfull : (⟨r.mods.length, s⟩ : Mod).fullName = if (hdr s).rev = "" then (hdr s).name else (hdr s).name ++ "@" ++ (hdr s).rev :=
    Registry.fullName_eq _
  have hsub : (⟨r.mods.length, s⟩ : Mod).isSub = (hdr s).isSub := rfl
  unfold errOf errOfHdr
  cases hg : good s with
  | false =>
    have hn : nameOk (hdr s) = false := by rw [← good_eq_nameOk]; exact hg
    have hc : s.arg.toList.contains '@' = true := by simpa [good] using hg
    unfold Registry.add at h
    rw [if_pos hc] at h
    simp only [Except.error.injEq] at h
    rw [← h, hn, hsub]
    rfl
  | true =>
    have hn : nameOk (hdr s) = true := by rw [← good_eq_nameOk]; exact hg
    rw [Registry.add_eq_addChecked (Registry.contains_of_noAt (noAt_of_good hg))] at h
    unfold Registry.addChecked at h
    simp only [hfull, hsub] at h
    simp only [hn, if_true]
    repeat' split at h
    all_goals first
      | (cases h; done)
      | (simp only [Except.error.injEq] at h; rw [← h]; simp [*])

/-- Per load, in load order: refused with which error, or accepted. -/
def outsAfter (before : List Header) : List Stmt → List Registry.LoadOutcome
  | [] => []
  | s :: rest =>
    if good s then (if before.contains (hdr s) then some (errOf s) else none) :: outsAfter (before ++ [hdr s]) rest
    else some (errOf s) :: outsAfter before rest

/-- **A refused load leaves no trace**: the registry after loading `ss` is the registry after
loading the accepted loads only; and the outcome of every load is read off the load list. -/
theorem loadFrom_kept_outs : ∀ (ss : List Stmt) {r : Registry} {L : List Stmt}, Inv r L → (∀ t ∈ L, NoAt t.arg) →
    (r.loadFrom ss).1 = (r.loadFrom (keptAfter (L.map hdr) ss)).1 ∧ (r.loadFrom ss).2 = outsAfter (L.map hdr) ss
  | [], _, _, _, _ => ⟨rfl, rfl⟩
  | s :: rest, r, L, inv, hL => by
    cases hg : good s with
    | false =>
      obtain ⟨e, he, _⟩ := add_error_bad (r := r) hg
      obtain ⟨ih1, ih2⟩ := loadFrom_kept_outs rest inv hL
      simp only [keptAfter, outsAfter, hg, Bool.false_eq_true, if_false, Registry.loadFrom, he, ih2, add_error_eq he]
      exact ⟨ih1, trivial⟩
    | true =>
      have hs : NoAt s.arg := noAt_of_good hg
      have step := add_step inv hs hL
      cases hadd : r.add s with
      | ok r' =>
        rw [hadd] at step
        obtain ⟨hnew, inv'⟩ := step
        obtain ⟨ih1, ih2⟩ := loadFrom_kept_outs rest inv' (noAt_snoc hL hs)
        have hc : (L.map hdr).contains (hdr s) = false := by simpa using hnew
        rw [List.map_append, List.map_cons, List.map_nil] at ih1 ih2
        simp only [keptAfter, outsAfter, hg, hc, if_true, Bool.false_eq_true, if_false, List.singleton_append,
          Registry.loadFrom, hadd, ih2]
        exact ⟨ih1, trivial⟩
      | error e =>
        rw [hadd] at step
        obtain ⟨hdup, inv'⟩ := step
        obtain ⟨ih1, ih2⟩ := loadFrom_kept_outs rest inv' (noAt_snoc hL hs)
        have hc : (L.map hdr).contains (hdr s) = true := by simpa using hdup
        rw [List.map_append, List.map_cons, List.map_nil] at ih1 ih2
        simp only [keptAfter, outsAfter, hg, hc, if_true, List.nil_append, Registry.loadFrom, hadd, ih2,
          add_error_eq hadd]
        exact ⟨ih1, trivial⟩

theorem loadAll_kept (ss : List Stmt) : (Registry.loadAll ss).1 = (Registry.loadAll (kept ss)).1 := by
  have := (loadFrom_kept_outs ss inv_empty (by simp)).1
  simpa [Registry.loadAll, kept] using this

theorem good_of_hdr_eq {s t : Stmt} (h : hdr t = hdr s) : good t = good s := by
  rw [good_eq_nameOk, good_eq_nameOk, h]

/-- The first load with header `h`. -/
def firstOf (h : Header) (ss : List Stmt) : Option Stmt := ss.find? fun t => hdr t == h

theorem firstOf_cons_ne {h : Header} {t : Stmt} (hne : hdr t ≠ h) (rest : List Stmt) :
    firstOf h (t :: rest) = firstOf h rest := by
  unfold firstOf
  rw [List.find?_cons, beq_eq_false_iff_ne.mpr hne]

theorem firstOf_cons_eq {h : Header} {t : Stmt} (he : hdr t = h) (rest : List Stmt) :
    firstOf h (t :: rest) = some t := by
  unfold firstOf
  rw [List.find?_cons, beq_iff_eq.mpr he]

/-- A load is accepted exactly when its name is free of `@`, no earlier `@`-free load had its
header, and it is the first load with its header. -/
theorem mem_keptAfter : ∀ (ss : List Stmt) (before : List Header) (s : Stmt),
    s ∈ keptAfter before ss ↔ good s = true ∧ hdr s ∉ before ∧ firstOf (hdr s) ss = some s
  | [], before, s => by simp [keptAfter, firstOf]
  | t :: rest, before, s => by
    have ih := mem_keptAfter rest
    by_cases hts : hdr t = hdr s
    · -- same header
      rw [firstOf_cons_eq hts]
      have hgs : good t = good s := good_of_hdr_eq hts
      cases hg : good t with
      | false =>
        simp only [keptAfter, hg, Bool.false_eq_true, if_false, ih]
        rw [← hgs, hg]
        simp
      | true =>
        by_cases hb : hdr t ∈ before
        · have hc : before.contains (hdr t) = true := by simpa using hb
          simp only [keptAfter, hg, hc, if_true, List.nil_append, ih, List.mem_append, List.mem_singleton]
          rw [← hts]
          simp [hb]
        · have hc : before.contains (hdr t) = false := by simpa using hb
          simp only [keptAfter, hg, hc, if_true, Bool.false_eq_true, if_false, List.singleton_append,
            List.mem_cons, ih, List.mem_append]
          rw [← hgs, hg, ← hts]
          constructor
          · rintro (rfl | ⟨_, h2, _⟩)
            · exact ⟨rfl, hb, rfl⟩
            · exact absurd (Or.inr (Or.inl rfl)) h2
          · rintro ⟨_, _, e⟩
            exact .inl (Option.some.inj e).symm
    · -- another header
      rw [firstOf_cons_ne hts]
      have hne : s ≠ t := fun e => hts (e ▸ rfl)
      have hne' : hdr s ≠ hdr t := fun e => hts e.symm
      cases hg : good t with
      | false =>
        simp only [keptAfter, hg, Bool.false_eq_true, if_false, ih]
      | true =>
        by_cases hb : hdr t ∈ before
        · have hc : before.contains (hdr t) = true := by simpa using hb
          simp only [keptAfter, hg, hc, if_true, List.nil_append, ih, List.mem_append, List.mem_cons, hne',
            List.not_mem_nil, or_false]
        · have hc : before.contains (hdr t) = false := by simpa using hb
          simp only [keptAfter, hg, hc, if_true, Bool.false_eq_true, if_false, List.singleton_append,
            List.mem_cons, ih, List.mem_append, hne, hne', List.not_mem_nil, or_false, false_or]

theorem mem_kept (ss : List Stmt) (s : Stmt) : s ∈ kept ss ↔ good s = true ∧ firstOf (hdr s) ss = some s := by
  unfold kept
  rw [mem_keptAfter]
  simp

theorem kept_noAt (ss : List Stmt) : ∀ t ∈ kept ss, NoAt t.arg :=
  fun t ht => noAt_of_good ((mem_kept ss t).mp ht).1

theorem kept_sub (ss : List Stmt) : ∀ t ∈ kept ss, t ∈ ss :=
  fun t ht => List.mem_of_find?_eq_some ((mem_kept ss t).mp ht).2

/-- The accepted loads have pairwise different headers. -/
theorem keptAfter_nodup : ∀ (ss : List Stmt) (before : List Header), ((keptAfter before ss).map hdr).Nodup
  | [], _ => by simp [keptAfter]
  | t :: rest, before => by
    have ih := keptAfter_nodup rest
    cases hg : good t with
    | false => simp only [keptAfter, hg, Bool.false_eq_true, if_false]; exact ih before
    | true =>
      by_cases hb : hdr t ∈ before
      · have hc : before.contains (hdr t) = true := by simpa using hb
        simp only [keptAfter, hg, hc, if_true, List.nil_append]
        exact ih _
      · have hc : before.contains (hdr t) = false := by simpa using hb
        simp only [keptAfter, hg, hc, if_true, Bool.false_eq_true, if_false, List.singleton_append, List.map_cons,
          List.nodup_cons]
        refine ⟨?_, ih _⟩
        intro hm
        obtain ⟨s, hs, e⟩ := List.mem_map.mp hm
        have := ((mem_keptAfter rest _ s).mp hs).2.1
        apply this
        rw [e]
        simp

theorem kept_nodup (ss : List Stmt) : ((kept ss).map hdr).Nodup := keptAfter_nodup ss []

/-! ### the first load of every header decides -/

/-- Of every header with an `@`-free name the two load lists have the same first load. -/
def SameFirsts (l₁ l₂ : List Stmt) : Prop := ∀ h, nameOk h = true → firstOf h l₁ = firstOf h l₂

theorem SameFirsts.symm {l₁ l₂ : List Stmt} (h : SameFirsts l₁ l₂) : SameFirsts l₂ l₁ :=
  fun x hx => (h x hx).symm

theorem kept_perm_of_sameFirsts {l₁ l₂ : List Stmt} (h : SameFirsts l₁ l₂) : (kept l₁).Perm (kept l₂) := by
  rw [List.perm_ext_iff_of_nodup (ListAux.nodup_of_map hdr _ (kept_nodup l₁)) (ListAux.nodup_of_map hdr _ (kept_nodup l₂))]
  intro s
  rw [mem_kept, mem_kept]
  constructor
  · rintro ⟨hg, hf⟩
    exact ⟨hg, by rw [← h (hdr s) (by rw [← good_eq_nameOk]; exact hg)]; exact hf⟩
  · rintro ⟨hg, hf⟩
    exact ⟨hg, by rw [h (hdr s) (by rw [← good_eq_nameOk]; exact hg)]; exact hf⟩

/-- **The registry is decided by the first load of every header**: two load lists with the same
first loads give registries that hold the same modules under renamed sequence numbers. -/
theorem regRel_of_sameFirsts {l₁ l₂ : List Stmt} (h : SameFirsts l₁ l₂) :
    ∃ σ, RegRel σ (Registry.loadAll l₁).1 (Registry.loadAll l₂).1 := by
  rw [loadAll_kept l₁, loadAll_kept l₂]
  exact regRel_of_perm (kept_perm_of_sameFirsts h) (kept_noAt l₁) (kept_nodup l₁)

/-- Pairwise different headers: every permutation has the same first loads. -/
theorem sameFirsts_of_perm_nodup {l₁ l₂ : List Stmt} (hp : l₁.Perm l₂) (hnd : (l₁.map hdr).Nodup) :
    SameFirsts l₁ l₂ :=
  fun h _ => find?_perm_unique hdr hp hnd h

/-- A rearrangement that keeps the loads of every header in their relative order has the same
first loads. -/
theorem sameFirsts_of_stable {l₁ l₂ : List Stmt}
    (h : ∀ x, l₁.filter (fun t => hdr t == x) = l₂.filter (fun t => hdr t == x)) : SameFirsts l₁ l₂ := by
  intro x _
  unfold firstOf
  rw [← List.head?_filter, ← List.head?_filter, h x]


theorem loadAll_outs (ss : List Stmt) : (Registry.loadAll ss).2 = outsAfter [] ss := by
  have := (loadFrom_kept_outs ss inv_empty (by simp)).2
  simpa [Registry.loadAll] using this

/-- The errors of the refused loads are the errors of the refused headers. -/
theorem errors_outsAfter : ∀ (ss : List Stmt) (before : List Header),
    (outsAfter before ss).filterMap id = (rejAfterG before (ss.map hdr)).map errOfHdr
  | [], _ => rfl
  | s :: rest, before => by
    have ih := errors_outsAfter rest
    have hn : nameOk (hdr s) = good s := (good_eq_nameOk s).symm
    cases hg : good s with
    | false =>
      simp only [outsAfter, hg, Bool.false_eq_true, if_false, List.map_cons, rejAfterG, hn, List.filterMap_cons, id,
        ih, errOf]
    | true =>
      by_cases hb : hdr s ∈ before
      · have hc : before.contains (hdr s) = true := by simpa using hb
        simp only [outsAfter, hg, hc, if_true, List.map_cons, rejAfterG, hn, List.filterMap_cons, id, ih, errOf,
          List.singleton_append]
      · have hc : before.contains (hdr s) = false := by simpa using hb
        simp only [outsAfter, hg, hc, if_true, Bool.false_eq_true, if_false, List.map_cons, rejAfterG, hn,
          List.filterMap_cons, id, ih, List.nil_append]

/-- **The refused loads' errors do not depend on the load order** (as a multiset) — for any load
lists whatever, also with several loads of one header. -/
theorem load_errors_perm {l₁ l₂ : List Stmt} (hp : l₁.Perm l₂) :
    ((Registry.loadAll l₁).2.filterMap id).Perm ((Registry.loadAll l₂).2.filterMap id) := by
  rw [loadAll_outs, loadAll_outs, errors_outsAfter, errors_outsAfter]
  exact (rejAfterG_perm (hp.map hdr)).map errOfHdr

/-- The loads paired with their outcomes: the accepted ones with `none`, the refused ones with
their error. -/
theorem zip_outs_perm : ∀ (ss : List Stmt) (before : List Header),
    (ss.zip (outsAfter before ss)).Perm
      ((keptAfter before ss).map (fun s => (s, none)) ++ (refusedAfter before ss).map (fun s => (s, some (errOf s))))
  | [], _ => by simp [keptAfter, refusedAfter, outsAfter]
  | s :: rest, before => by
    have ih := zip_outs_perm rest
    cases hg : good s with
    | false =>
      simp only [keptAfter, refusedAfter, outsAfter, hg, Bool.false_eq_true, if_false, List.zip_cons_cons,
        List.map_cons]
      exact ((ih before).cons _).trans List.perm_middle.symm
    | true =>
      by_cases hb : hdr s ∈ before
      · have hc : before.contains (hdr s) = true := by simpa using hb
        simp only [keptAfter, refusedAfter, outsAfter, hg, hc, if_true, List.nil_append, List.singleton_append,
          List.zip_cons_cons, List.map_cons]
        exact ((ih _).cons _).trans List.perm_middle.symm
      · have hc : before.contains (hdr s) = false := by simpa using hb
        simp only [keptAfter, refusedAfter, outsAfter, hg, hc, if_true, Bool.false_eq_true, if_false,
          List.nil_append, List.zip_cons_cons, List.map_cons, List.cons_append]
        exact (ih _).cons _

theorem length_outsAfter : ∀ (ss : List Stmt) (before : List Header), (outsAfter before ss).length = ss.length
  | [], _ => rfl
  | s :: rest, before => by
    simp only [outsAfter]
    split <;> simp only [List.length_cons, length_outsAfter rest]

theorem perm_kept_refused (ss : List Stmt) (before : List Header) :
    ss.Perm (keptAfter before ss ++ refusedAfter before ss) := by
  have := (zip_outs_perm ss before).map Prod.fst
  rw [List.map_fst_zip (by rw [length_outsAfter]; exact Nat.le_refl _), List.map_append, List.map_map, List.map_map] at this
  simpa only [Function.comp_def, List.map_id'] using this

/-- **With the same first loads, every load has the same outcome in both orders**: the loads
paired with their outcomes are the same multiset. -/
theorem load_outcomes_perm {l₁ l₂ : List Stmt} (hp : l₁.Perm l₂) (hf : SameFirsts l₁ l₂) :
    (l₁.zip (Registry.loadAll l₁).2).Perm (l₂.zip (Registry.loadAll l₂).2) := by
  rw [loadAll_outs, loadAll_outs]
  have hk : (keptAfter [] l₁).Perm (keptAfter [] l₂) := kept_perm_of_sameFirsts hf
  have hr : (refusedAfter [] l₁).Perm (refusedAfter [] l₂) := by
    have h1 := perm_kept_refused l₁ []
    have h2 := perm_kept_refused l₂ []
    have : (keptAfter [] l₂ ++ refusedAfter [] l₁).Perm (keptAfter [] l₂ ++ refusedAfter [] l₂) :=
      ((hk.symm.append_right _).trans h1.symm).trans (hp.trans h2)
    exact (List.perm_append_left_iff _).mp this
  exact (zip_outs_perm l₁ []).trans (((hk.map _).append (hr.map _)).trans (zip_outs_perm l₂ []).symm)

/-! ### texts (`Modules.Parse` is atomic) -/

theorem sublist_flatMap_filter (p : SrcFile → Bool) (files : List SrcFile) :
    ((files.filter p).flatMap (·.stmts)).Sublist (files.flatMap (·.stmts)) := by
  induction files with
  | nil => exact List.Sublist.refl _
  | cons f rest ih =>
    cases hg : p f with
    | false =>
      rw [List.filter_cons_of_neg (by rw [hg]; exact Bool.false_ne_true), List.flatMap_cons]
      exact ih.trans (List.sublist_append_right _ _)
    | true =>
      rw [List.filter_cons_of_pos hg, List.flatMap_cons, List.flatMap_cons]
      exact List.Sublist.append (List.Sublist.refl _) ih

/-! ### texts that are refused on their own -/

/-- The text would be accepted by a fresh `Modules`: every name free of `@`, no header twice. -/
def okAlone (f : SrcFile) : Bool := f.stmts.all good && decide ((f.stmts.map hdr).Nodup)

theorem loadFile_eq_addText (r : Registry) (f : SrcFile) :
    loadFile r f = match r.addText f.stmts with | .ok r' => r' | .error _ => r := rfl

theorem noAt_filter_okAlone (files : List SrcFile) :
    ∀ t ∈ (files.filter okAlone).flatMap (·.stmts), NoAt t.arg := by
  intro t ht
  obtain ⟨f, hf, htf⟩ := List.mem_flatMap.mp ht
  have hg := (List.mem_filter.mp hf).2
  unfold okAlone at hg
  rw [Bool.and_eq_true] at hg
  exact noAt_of_good (List.all_eq_true.mp hg.1 t htf)

/-- `processFiles` of two permutations of one list of texts: whether the set is inside the model
does not depend on the order; it remains to compare the dumps of the two registries. -/
theorem processFiles_perm_of_dump (opts : Opts) {files₁ files₂ : List SrcFile} (hperm : files₁.Perm files₂)
    (h : dumpOutcome (processAll (loadFiles files₁) opts (plugFull (loadFiles files₁))) =
      dumpOutcome (processAll (loadFiles files₂) opts (plugFull (loadFiles files₂)))) :
    (processFiles opts files₁).toOption.map dumpOutcome = (processFiles opts files₂).toOption.map dumpOutcome := by
  unfold processFiles
  cases h1 : files₁.findSome? fun f => outsideL "" f.stmts with
  | some why =>
    cases h2 : files₂.findSome? fun f => outsideL "" f.stmts with
    | some why' => rfl
    | none =>
      exfalso
      rw [List.findSome?_eq_none_iff] at h2
      obtain ⟨f, hf, hw⟩ := List.exists_of_findSome?_eq_some h1
      rw [h2 f (hperm.mem_iff.mp hf)] at hw
      cases hw
  | none =>
    cases h2 : files₂.findSome? fun f => outsideL "" f.stmts with
    | some why' =>
      exfalso
      rw [List.findSome?_eq_none_iff] at h1
      obtain ⟨f, hf, hw⟩ := List.exists_of_findSome?_eq_some h2
      rw [h1 f (hperm.mem_iff.mpr hf)] at hw
      cases hw
    | none =>
      simp only [Except.toOption, Option.map_some, Option.some.injEq]
      exact h

/-! ### small permutations for the examples -/

theorem perm_rev3 {α : Type} (a b c : α) : [a, b, c].Perm [c, b, a] := by
  have := List.reverse_perm [c, b, a]
  simpa using this
theorem perm_rev4 {α : Type} (a b c d : α) : [a, b, c, d].Perm [d, c, b, a] := by
  have := List.reverse_perm [d, c, b, a]
  simpa using this

end Goyang.Lemmas.LoadOrder
