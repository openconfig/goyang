import Goyang.Lemmas.IncludeAugSim
import Goyang.Lemmas.RegistryAux
import Goyang.Lemmas.IncludeAugFinal
import Goyang.Lemmas.LoadOrderAug
/-
C13 (third sentence), augments — piece (S), continued: `Find` on the split set against `Find` on the unsplit set.

* `findTree_split`: the tree an absolute path is looked up in (prefix → module → its tree) is the same for the
  two registries when the search starts from, and the augment statement lives in, a module of the unsplit set;
  it is the tree of a module of the unsplit set (never a submodule's).
-/
open Goyang.Lemmas.ForestAux (mem_of_tree?)
namespace Goyang.Lemmas.IncludeAugSim
open Goyang.Model Goyang.Spec.Include Goyang.Spec.Tree Goyang.Lemmas.Tree
open Goyang.Lemmas.IncludeRel Goyang.Lemmas.IncludeMain Goyang.Lemmas.IncludeAugIO
open Goyang.Lemmas.IncludeLink (repl)
open Goyang.Lemmas.LoadOrder (findTree findAbs findRel find_eq)

section
variable {s : Split} {R R' : Registry} {plug plug' : Plug} (h : IsSplitOf s R R' plug plug')
include h

theorem no_belongs {x : Mod} (hx : x ∈ R.mods) : x.stmt.all "belongs-to" = [] := (h.regs.R_modules_only x hx).2.1

theorem repl_no_belongs {x : Mod} (hx : x ∈ R.mods) : (repl s x).stmt.all "belongs-to" = [] := by
  by_cases hm : x.seq = s.m.seq
  · rw [IncludeLink.eq_m_of_seq h.regs hx hm, IncludeLink.repl_m, h.text.kept "belongs-to" (by decide)]
    exact h.text.m_no_belongs
  · rw [IncludeLink.repl_of_ne hm]; exact no_belongs h hx

omit h in
theorem owner_self (reg : Registry) {y : Mod} (hy : y.stmt.all "belongs-to" = []) : reg.owner y = some y := by
  unfold Registry.owner Mod.belongsTo? Stmt.argOf?
  rw [IncludeBind.one?_none hy]
  rfl

theorem repl_prefix {x : Mod} (hx : x ∈ R.mods) : (repl s x).getPrefix = x.getPrefix := by
  by_cases hm : x.seq = s.m.seq
  · rw [IncludeLink.eq_m_of_seq h.regs hx hm, IncludeLink.repl_m, IncludeBind.owner_prefix h.text]
  · rw [IncludeLink.repl_of_ne hm]

theorem findModuleByPrefix_split {x : Mod} (hx : x ∈ R.mods) (pfx : String) :
    R'.findModuleByPrefix (repl s x) pfx = (R.findModuleByPrefix x pfx).map (repl s) := by
  unfold Registry.findModuleByPrefix
  rw [repl_prefix h hx, IncludeLink.repl_imports h.text h.regs hx]
  split
  · rfl
  · cases x.imports.find? (fun i => (i.argOf? "prefix") == some pfx) with
    | none => rfl
    | some i => exact IncludeLink.findModule_false_split h.regs i

/-- **The tree `Find` moves to** for an absolute path is the same in the two registries, and is the tree of a module
of the unsplit set. -/
theorem findTree_split {x : Mod} (hx : x ∈ R.mods) (pfx : String) :
    findTree R' x.seq x.seq pfx = findTree R x.seq x.seq pfx ∧
    ∀ t, findTree R x.seq x.seq pfx = some t → ∃ y ∈ R.mods, y.seq = t := by
  unfold findTree
  rw [IncludeLink.byId_split_of_mem h.regs hx, IncludeLink.byId_of_mem h.regs hx]
  dsimp only
  rw [IncludeBind.isSub_false (no_belongs h hx), IncludeBind.isSub_false (repl_no_belongs h hx)]
  split
  · exact ⟨rfl, fun t ht => ⟨x, hx, by simpa using ht⟩⟩
  · rw [findModuleByPrefix_split h hx]
    cases hy : R.findModuleByPrefix x pfx with
    | none => exact ⟨rfl, fun t ht => by cases ht⟩
    | some y =>
      have hym := RegistryAux.findModuleByPrefix_mem hx hy
      simp only [Option.map_some]
      rw [owner_self R' (repl_no_belongs h hym), owner_self R (no_belongs h hym)]
      simp only [Option.map_some, IncludeLink.repl_seq h.regs, true_and]
      exact fun t ht => ⟨y, hym, by simpa using ht⟩

end

/-! ### the forests of the two runs -/

theorem noIO_ren (σ : Nat → Nat) {e : Entry} (h : NoIO e) : NoIO (ren σ e) :=
  (IncludeAugCompose.everyNode_ren σ noIOHere (fun d c i o => by
    simp [noIOHere, Entry.d, Entry.inp, Entry.out, renD]) e).2 h

/-- The forest of the run over the split set against the forest of the run over the unsplit set (sets without rpc /
action nodes): the tree of every other module equal up to `ren σ`, the owner's tree `SameTop σ` the unsplit module's
(whose root has children of different names). -/
structure FR (s : Split) (R : Registry) (f' f : Forest) : Prop where
  other : ∀ x ∈ R.mods, x.seq ≠ s.m.seq → (f'.tree? x.seq).map (ren s.σ) = f.tree? x.seq
  owner : ∃ t' t, f'.tree? s.m.seq = some t' ∧ f.tree? s.m.seq = some t ∧ SameTop s.σ t' t ∧ (t.dir.map (·.name)).Nodup
  noIO' : ForestAll NoIO f'
  noIO : ForestAll NoIO f
  /-- the trees of the split forest that are not trees of modules of the unsplit set (the submodules') carry no error -/
  errs : ∀ p ∈ f'.trees, (∀ x ∈ R.mods, x.seq ≠ p.1) → NoErrors p.2

theorem mem_setTree {f : Forest} {id : Nat} {e : Entry} {p : Nat × Entry} (hp : p ∈ (f.setTree id e).trees) :
    (p.1 = id ∧ p.2 = e) ∨ (p.1 ≠ id ∧ p ∈ f.trees) := by
  simp only [Forest.setTree, List.mem_map] at hp
  obtain ⟨⟨i, t⟩, hq, rfl⟩ := hp
  by_cases hi : i = id
  · subst hi; left; simp
  · right
    have : (i == id) = false := by simpa using hi
    simp only [this, Bool.false_eq_true, if_false]
    exact ⟨hi, hq⟩

theorem errs_setTree {s : Split} {R : Registry} {f' f : Forest} (hF : FR s R f' f) {y : Mod} (hy : y ∈ R.mods) (e : Entry) :
    ∀ p ∈ (f'.setTree y.seq e).trees, (∀ x ∈ R.mods, x.seq ≠ p.1) → NoErrors p.2 := by
  intro p hp hne
  rcases mem_setTree hp with ⟨h1, _⟩ | ⟨_, h2⟩
  · exact absurd h1.symm (hne y hy)
  · exact hF.errs p h2 hne

theorem tree?_setTree_same (f : Forest) (id : Nat) (r : Entry) (hr : f.tree? id = some r) (id' : Nat) :
    (f.setTree id r).tree? id' = f.tree? id' := by
  rw [tree?_setTree]
  split
  · rename_i e; subst e; rw [hr]; rfl
  · rfl

theorem FR.congr {s : Split} {R : Registry} {f' f g' g : Forest} (hF : FR s R f' f) (e' : ∀ id, g'.tree? id = f'.tree? id)
    (e : ∀ id, g.tree? id = f.tree? id) (n' : ForestAll NoIO g') (n : ForestAll NoIO g)
    (he : ∀ p ∈ g'.trees, (∀ x ∈ R.mods, x.seq ≠ p.1) → NoErrors p.2) : FR s R g' g :=
  ⟨fun x hx hm => by rw [e', e]; exact hF.other x hx hm, by
    obtain ⟨t', t, a, b, c⟩ := hF.owner
    exact ⟨t', t, by rw [e']; exact a, by rw [e]; exact b, c⟩, n', n, he⟩

/-- Putting back the trees that are there changes nothing. -/
theorem FR.setSame {s : Split} {R : Registry} {f' f : Forest} (hF : FR s R f' f) {y : Mod} (hy : y ∈ R.mods) {r' r : Entry}
    (hr' : f'.tree? y.seq = some r') (hr : f.tree? y.seq = some r) : FR s R (f'.setTree y.seq r') (f.setTree y.seq r) :=
  hF.congr (tree?_setTree_same f' y.seq r' hr') (tree?_setTree_same f y.seq r hr)
    (forestAll_setTree _ _ _ hF.noIO' (forestAll_tree? _ _ _ hF.noIO' hr'))
    (forestAll_setTree _ _ _ hF.noIO (forestAll_tree? _ _ _ hF.noIO hr)) (errs_setTree hF hy r')

/-- Replacing the tree of another module by trees equal up to `ren σ`. -/
theorem FR.setOther {s : Split} {R : Registry} {f' f : Forest} (hF : FR s R f' f) {y : Mod} (hy : y ∈ R.mods)
    (hym : y.seq ≠ s.m.seq) (n' : Entry) (hn : NoIO n') :
    FR s R (f'.setTree y.seq n') (f.setTree y.seq (ren s.σ n')) := by
  refine ⟨fun x hx hm => ?_, ?_, forestAll_setTree _ _ _ hF.noIO' hn, forestAll_setTree _ _ _ hF.noIO (noIO_ren _ hn),
    errs_setTree hF hy n'⟩
  · rw [tree?_setTree, tree?_setTree]
    split
    · rw [← hF.other x hx hm]
      cases f'.tree? x.seq <;> rfl
    · exact hF.other x hx hm
  · obtain ⟨t', t, a, b, c⟩ := hF.owner
    refine ⟨t', t, ?_, ?_, c⟩
    · rw [tree?_setTree, if_neg (fun e => hym e.symm)]; exact a
    · rw [tree?_setTree, if_neg (fun e => hym e.symm)]; exact b

/-- Replacing the owner's tree and the unsplit module's tree by trees with `SameTop`. -/
theorem FR.setOwner {s : Split} {R : Registry} {f' f : Forest} (hF : FR s R f' f) (hmm : s.m ∈ R.mods) (n' n : Entry)
    (hst : SameTop s.σ n' n)
    (hnd : (n.dir.map (·.name)).Nodup) (h' : NoIO n') (h0 : NoIO n) :
    FR s R (f'.setTree s.m.seq n') (f.setTree s.m.seq n) := by
  refine ⟨fun x hx hm => ?_, ?_, forestAll_setTree _ _ _ hF.noIO' h', forestAll_setTree _ _ _ hF.noIO h0,
    errs_setTree hF hmm n'⟩
  · rw [tree?_setTree, tree?_setTree, if_neg hm, if_neg hm]
    exact hF.other x hx hm
  · obtain ⟨t', t, a, b, _⟩ := hF.owner
    exact ⟨n', n, by rw [tree?_setTree, if_pos rfl, a]; rfl, by rw [tree?_setTree, if_pos rfl, b]; rfl, hst, hnd⟩

/-- The trees of a module of the unsplit set in the two forests, with what `Find`'s step loop does on them. -/
theorem FR.walk {s : Split} {R : Registry} {f' f : Forest} (hF : FR s R f' f) {y : Mod} (hy : y ∈ R.mods)
    (parts : List String) (cur : Option Path) :
    (f'.tree? y.seq = none ∧ f.tree? y.seq = none) ∨
    ∃ r' r, f'.tree? y.seq = some r' ∧ f.tree? y.seq = some r ∧
      (walkParts parts r' cur).1 = (walkParts parts r cur).1 ∧ (walkParts parts r' cur).2 = r' ∧ (walkParts parts r cur).2 = r := by
  by_cases hym : y.seq = s.m.seq
  · obtain ⟨t', t, a, b, c, d⟩ := hF.owner
    rw [hym]
    have n' := forestAll_tree? _ _ _ hF.noIO' a
    have n := forestAll_tree? _ _ _ hF.noIO b
    exact Or.inr ⟨t', t, a, b, walkParts_path_sameTop s.σ c d n' n parts cur, walkParts_noIO parts t' cur n',
      walkParts_noIO parts t cur n⟩
  · have ho := hF.other y hy hym
    cases a : f'.tree? y.seq with
    | none => rw [a] at ho; exact Or.inl ⟨rfl, ho.symm⟩
    | some r' =>
      rw [a] at ho
      have n' := forestAll_tree? _ _ _ hF.noIO' a
      refine Or.inr ⟨r', ren s.σ r', rfl, ho.symm, ?_, walkParts_noIO parts r' cur n', walkParts_noIO parts _ cur (noIO_ren _ n')⟩
      rw [walkParts_ren]


section
variable {s : Split} {R R' : Registry} {plug plug' : Plug} (h : IsSplitOf s R R' plug plug')
include h

/-- Recording an error on the root of the tree of a module of the unsplit set, in both forests. -/
theorem FR.addErrAt {f' f : Forest} (hF : FR s R f' f) {x : Mod} (hx : x ∈ R.mods) (er : Err) :
    FR s R (match f'.tree? x.seq with
        | some root => f'.setTree x.seq (root.addErr er)
        | none => f')
      (match f.tree? x.seq with
        | some root => f.setTree x.seq (root.addErr er)
        | none => f) := by
  by_cases hxm : x.seq = s.m.seq
  · obtain ⟨t', t, a, b, c, d⟩ := hF.owner
    rw [hxm, a, b]
    refine hF.setOwner h.regs.m_mem _ _ (sameTop_addErr s.σ c er) ?_ (noIO_addErr _ _ (forestAll_tree? _ _ _ hF.noIO' a))
      (noIO_addErr _ _ (forestAll_tree? _ _ _ hF.noIO b))
    cases t; exact d
  · have ho := hF.other x hx hxm
    cases a : f'.tree? x.seq with
    | none => rw [a] at ho; rw [← ho]; exact hF
    | some r' =>
      rw [a] at ho
      rw [← ho]
      simp only [Option.map_some]
      rw [← ren_addErr]
      exact hF.setOther hx hxm _ (noIO_addErr _ _ (forestAll_tree? _ _ _ hF.noIO' a))

omit h in
theorem findAbs_some {reg : Registry} {f : Forest} {start : Loc} {ctxMod : Nat} {parts : List String} {t : Nat}
    (ht : findTree reg start.1 ctxMod (splitPrefix (parts.headD "")).1 = some t) :
    findAbs reg f start ctxMod parts = findRel f (t, []) parts := by
  unfold findAbs findRel
  rw [ht]

omit h in
theorem FR.relFind {f' f : Forest} (hF : FR s R f' f) {y : Mod} (hy : y ∈ R.mods) (parts : List String) (p : Path) :
    (findRel f' (y.seq, p) parts).1 = (findRel f (y.seq, p) parts).1 ∧
    FR s R (findRel f' (y.seq, p) parts).2 (findRel f (y.seq, p) parts).2 ∧
    ∀ t path, (findRel f (y.seq, p) parts).1 = some (t, path) → t = y.seq := by
  unfold findRel
  dsimp only
  rcases hF.walk hy parts (some p) with ⟨a, b⟩ | ⟨r', r, a, b, c, d, e⟩
  · rw [a, b]
    exact ⟨rfl, hF, fun t path e => by cases e⟩
  · rw [a, b]
    dsimp only
    rw [c, d, e]
    refine ⟨rfl, hF.setSame hy a b, fun t path e => ?_⟩
    cases hw : (walkParts parts r (some p)).1 with
    | none => rw [hw] at e; cases e
    | some q => rw [hw] at e; simp only [Option.map_some, Option.some.injEq, Prod.mk.injEq] at e; exact e.1.symm

/-- **`Find` on the two forests**, from the root of the tree of a module `x` of the unsplit set, for an augment
statement of `x`: the same target, the forests stay related, and the target lies in the tree of a module of the
unsplit set. -/
theorem find_rel {f' f : Forest} (hF : FR s R f' f) {x : Mod} (hx : x ∈ R.mods) (name : String) :
    (find R' f' (x.seq, []) x.seq name).1 = (find R f (x.seq, []) x.seq name).1 ∧
    FR s R (find R' f' (x.seq, []) x.seq name).2 (find R f (x.seq, []) x.seq name).2 ∧
    ∀ t path, (find R f (x.seq, []) x.seq name).1 = some (t, path) → ∃ y ∈ R.mods, y.seq = t := by
  rw [find_eq, find_eq]
  split
  · exact ⟨rfl, hF, fun t path e => by cases e⟩
  · split
    · rename_i parts _
      obtain ⟨e1, e2⟩ := findTree_split h hx (splitPrefix (parts.headD "")).1
      cases ht : findTree R x.seq x.seq (splitPrefix (parts.headD "")).1 with
      | none =>
        unfold findAbs
        dsimp only
        rw [e1, ht]
        exact ⟨rfl, hF.addErrAt h hx _, fun t path e => by cases e⟩
      | some t =>
        obtain ⟨y, hy, rfl⟩ := e2 t ht
        rw [findAbs_some (start := (x.seq, [])) (e1.trans ht), findAbs_some (start := (x.seq, [])) ht]
        obtain ⟨a, b, c⟩ := hF.relFind hy parts []
        exact ⟨a, b, fun t path e => ⟨y, hy, (c t path e).symm⟩⟩
    · obtain ⟨a, b, c⟩ := hF.relFind hx (name.splitOn "/") []
      exact ⟨a, b, fun t path e => ⟨x, hx, (c t path e).symm⟩⟩

end

/-! ### names of the root's children under the update of the augment stage -/

theorem names_step (ns : Option String) (x : Err) (b v : Entry) (hb : (b.dir.map (·.name)).Nodup) :
    ((OrderIndep.step ns x b v).dir.map (·.name)).Nodup := by
  unfold OrderIndep.step
  split
  · cases b; exact hb
  · rename_i hk
    cases b with | mk d c i o =>
    simp only [Entry.withDir, Entry.dir] at hb ⊢
    rw [List.map_append, List.nodup_append]
    refine ⟨hb, by simp, ?_⟩
    intro a ha a' ha'
    simp only [List.map_cons, List.map_nil, List.mem_singleton] at ha'
    subst ha'
    obtain ⟨y, hy, rfl⟩ := List.mem_map.1 ha
    exact child?_none _ _ hk y hy

theorem names_merge (e : Entry) (ns : Option String) (oe : Entry) (he : (e.dir.map (·.name)).Nodup) :
    ((e.merge ns oe).dir.map (·.name)).Nodup := by
  rw [OrderIndep.merge_eq]
  have h0 : ((e.importErrors oe).dir.map (·.name)).Nodup := by cases e; exact he
  generalize e.importErrors oe = b at h0
  induction oe.dir generalizing b with
  | nil => exact h0
  | cons v vs ih => exact ih _ (names_step ns _ b v h0)

theorem merge_name (y : Entry) (ns : Option String) (a : Entry) : (y.merge ns a).name = y.name :=
  (rootKeep_merge y ns a).1

theorem names_mergeAt (t : Entry) (ns : Option String) (a : Entry) (path : Path) (ht : (t.dir.map (·.name)).Nodup) :
    ((t.updateAt path fun te => te.merge ns a).dir.map (·.name)).Nodup := by
  cases path with
  | nil => exact names_merge t ns a ht
  | cons st q =>
    cases t with | mk d c i o =>
    cases st with
    | child k =>
      simp only [Entry.updateAt, Entry.dir] at ht ⊢
      have : (c.map fun x => if (x.name == k) = true then x.updateAt q (fun te => te.merge ns a) else x).map (·.name) =
          c.map (·.name) := by
        rw [List.map_map]
        apply List.map_congr_left
        intro x _
        simp only [Function.comp]
        split
        · exact Bridge.updateAt_name' _ (fun y => merge_name y ns a) q x
        · rfl
      rw [this]; exact ht
    | input => exact ht
    | output => exact ht

section
variable {s : Split} {R R' : Registry} {plug plug' : Plug} (h : IsSplitOf s R R' plug plug')
include h

omit h in
/-- The node a target path leads to, in the two forests. -/
theorem FR.getAt {f' f : Forest} (hF : FR s R f' f) {y : Mod} (hy : y ∈ R.mods) (path : Path) :
    ((f'.tree? y.seq).bind (·.getAt path) = none ∧ (f.tree? y.seq).bind (·.getAt path) = none) ∨
    ∃ root' root te' te, f'.tree? y.seq = some root' ∧ f.tree? y.seq = some root ∧ root'.getAt path = some te' ∧
      root.getAt path = some te ∧ cannotHaveChildren te' = cannotHaveChildren te := by
  by_cases hym : y.seq = s.m.seq
  · obtain ⟨t', t, a, b, c, d⟩ := hF.owner
    rw [hym, a, b]
    simp only [Option.bind_some]
    rcases getAt_sameTop_rel s.σ (fun e' e => cannotHaveChildren e' = cannotHaveChildren e) c d
      (by have hd := c.1; unfold SameData at hd; unfold cannotHaveChildren; rw [hd])
      (fun x => by simp [cannotHaveChildren, renD]) path with ⟨g', g⟩ | ⟨te', te, g', g, hq⟩
    · exact Or.inl ⟨g', g⟩
    · exact Or.inr ⟨t', t, te', te, rfl, rfl, g', g, hq⟩
  · have ho := hF.other y hy hym
    cases a : f'.tree? y.seq with
    | none => rw [a] at ho; rw [← ho]; exact Or.inl ⟨rfl, rfl⟩
    | some r' =>
      rw [a] at ho
      rw [← ho]
      simp only [Option.map_some, Option.bind_some, IncludeMain.getAt_ren]
      cases g1 : r'.getAt path with
      | none => exact Or.inl ⟨rfl, rfl⟩
      | some te' =>
        refine Or.inr ⟨r', ren s.σ r', te', ren s.σ te', rfl, rfl, g1, ?_, ?_⟩
        · rw [IncludeMain.getAt_ren, g1]; rfl
        · simp [cannotHaveChildren, renD]

omit h in
theorem augFail_false (id : Nat) (a : Entry) (s0 : PState) (un : List Entry) (p k : Nat) :
    augFail id false a s0 un p k = (s0, un ++ [a], p, k + 1) := rfl

omit h in
theorem renD_name' (σ : Nat → Nat) (d : EData) : (renD σ d).name = d.name := rfl

/-- The accumulators of the loop over the pending augments of one tree, in the two runs. -/
def AccRel (s : Split) (R : Registry) (acc' acc : PState × List Entry × Nat × Nat) : Prop :=
  FR s R acc'.1.forest acc.1.forest ∧ acc.2.1 = acc'.2.1.map (ren s.σ) ∧ acc.2.2 = acc'.2.2

/-- **One augment of module `x`, in the two runs** (sets without rpc / action nodes, no error recording). -/
theorem augStep_rel {x : Mod} (hx : x ∈ R.mods) (ns : String) {acc' acc : PState × List Entry × Nat × Nat}
    (hA : AccRel s R acc' acc) (a' : Entry) (hmod : a'.d.nodeMod = x.seq) (hch : ∀ c ∈ a'.dir, NoIO c) :
    AccRel s R (augStep R' x.seq false ns acc' a') (augStep R x.seq false ns acc (ren s.σ a')) ∧
    (augStep R' x.seq false ns acc' a').1.pending = acc'.1.pending ∧
    (augStep R x.seq false ns acc (ren s.σ a')).1.pending = acc.1.pending := by
  obtain ⟨s', un', p', k'⟩ := acc'
  obtain ⟨s₁, un, p, k⟩ := acc
  obtain ⟨hF, hun, hpk⟩ := hA
  simp only at hF hun hpk
  simp only [Prod.mk.injEq] at hpk
  obtain ⟨rfl, rfl⟩ := hpk
  subst hun
  unfold augStep
  simp only [ren_d, renD_nodeMod, renD_name', hmod, IncludeWorld.σ_of_mem h.regs hx]
  obtain ⟨e1, e2, e3⟩ := find_rel h hF hx a'.d.name
  rw [e1]
  generalize find R' s'.forest (x.seq, []) x.seq a'.d.name = r' at e2
  generalize hr : find R s₁.forest (x.seq, []) x.seq a'.d.name = r at e2 e3
  obtain ⟨tg', g'⟩ := r'
  obtain ⟨tg, g⟩ := r
  simp only at e2 e3 ⊢
  have hfail : AccRel s R (augFail x.seq false a' { s' with forest := g' } un' p k)
      (augFail x.seq false (ren s.σ a') { s₁ with forest := g } (un'.map (ren s.σ)) p k) ∧
      (augFail x.seq false a' { s' with forest := g' } un' p k).1.pending = s'.pending ∧
      (augFail x.seq false (ren s.σ a') { s₁ with forest := g } (un'.map (ren s.σ)) p k).1.pending = s₁.pending := by
    rw [augFail_false, augFail_false]
    exact ⟨⟨e2, by simp, rfl⟩, rfl, rfl⟩
  cases tg with
  | none => exact hfail
  | some tp =>
    obtain ⟨t, path⟩ := tp
    obtain ⟨y, hy, rfl⟩ := e3 t path rfl
    dsimp only
    rcases e2.getAt hy path with ⟨a, b⟩ | ⟨root', root, te', te, a, b, c, d, e⟩
    · rw [a, b]; exact hfail
    · rw [a, b]
      simp only [Option.bind_some, c, d, e]
      split
      · exact hfail
      · refine ⟨⟨?_, rfl, rfl⟩, rfl, rfl⟩
        simp only
        have n' := forestAll_tree? _ _ _ e2.noIO' a
        have nu' : NoIO (root'.updateAt path fun te => te.merge (some ns) a') :=
          noIO_updateAt _ (fun z hz => noIO_merge z (some ns) a' hz hch) path root' n'
        by_cases hym : y.seq = s.m.seq
        · obtain ⟨t', t0, oa, ob, oc, od⟩ := e2.owner
          rw [hym] at a b ⊢
          rw [oa] at a; rw [ob] at b
          cases a; cases b
          refine e2.setOwner h.regs.m_mem _ _ (sameTop_mergeAt s.σ oc (some ns) a' path) (names_mergeAt _ _ _ path od) nu' ?_
          exact noIO_updateAt _ (fun z hz => noIO_merge z (some ns) _ hz (by
            intro c hc
            rw [ren_dir] at hc
            obtain ⟨c0, hc0, rfl⟩ := List.mem_map.1 hc
            exact noIO_ren _ (hch c0 hc0))) path _ (forestAll_tree? _ _ _ e2.noIO ob)
        · have ho := e2.other y hy hym
          rw [a, b] at ho
          simp only [Option.map_some, Option.some.injEq] at ho
          subst ho
          rw [← ren_mergeAt]
          exact e2.setOther hy hym _ nu'

end

/-! ### one tree's pending augments, one pass, the loop -/

/-- The states of the two runs. -/
structure SR (s : Split) (R : Registry) (s' s₁ : PState) : Prop where
  fr : FR s R s'.forest s₁.forest
  pend : ∀ x ∈ R.mods, s₁.pendingOf x.seq = (s'.pendingOf x.seq).map (ren s.σ)
  has : ∀ x ∈ R.mods, s'.pending.any (·.1 == x.seq) = s₁.pending.any (·.1 == x.seq)
  pmod : ∀ x ∈ R.mods, ∀ a' ∈ s'.pendingOf x.seq, a'.d.nodeMod = x.seq ∧ ∀ c ∈ a'.dir, NoIO c
  /-- nothing is pending for a tree of the split set that is not the tree of a module of the unsplit set -/
  subsP : ∀ id, (∀ x ∈ R.mods, x.seq ≠ id) → s'.pendingOf id = []

section
variable {s : Split} {R R' : Registry} {plug plug' : Plug} (h : IsSplitOf s R R' plug plug')
include h

theorem ns_rel {f' f : Forest} (hF : FR s R f' f) {x : Mod} (hx : x ∈ R.mods) :
    namespaceAt R' f' (x.seq, []) = namespaceAt R f (x.seq, []) := by
  have hex : (f'.tree? x.seq).isSome = (f.tree? x.seq).isSome := by
    by_cases hxm : x.seq = s.m.seq
    · obtain ⟨t', t, a, b, _⟩ := hF.owner
      rw [hxm, a, b]; rfl
    · rw [← hF.other x hx hxm]; cases f'.tree? x.seq <;> rfl
  unfold namespaceAt
  cases a : f'.tree? x.seq with
  | none =>
    rw [a] at hex
    cases b : f.tree? x.seq with
    | none => rfl
    | some r => rw [b] at hex; cases hex
  | some r' =>
    rw [a] at hex
    cases b : f.tree? x.seq with
    | none => rw [b] at hex; cases hex
    | some r =>
      have e1 : r'.stampAt [] = none := rfl
      have e2 : r.stampAt [] = none := rfl
      simp only [e1, e2]
      rw [IncludeLink.byId_split_of_mem h.regs hx, IncludeLink.byId_of_mem h.regs hx]
      simp only
      rw [owner_self R' (repl_no_belongs h hx), owner_self R (no_belongs h hx)]
      simp only
      by_cases hxm : x.seq = s.m.seq
      · rw [IncludeLink.eq_m_of_seq h.regs hx hxm, IncludeLink.repl_m]
        unfold Stmt.argOf?
        rw [IncludeBind.one?_congr (h.text.kept "namespace" (by decide))]
      · rw [IncludeLink.repl_of_ne hxm]

/-- The loop over the pending augments of module `x`, in the two runs. -/
theorem fold_rel {x : Mod} (hx : x ∈ R.mods) (ns : String) : ∀ (L' : List Entry),
    (∀ a' ∈ L', a'.d.nodeMod = x.seq ∧ ∀ c ∈ a'.dir, NoIO c) → ∀ (acc' acc : PState × List Entry × Nat × Nat),
    AccRel s R acc' acc →
    AccRel s R (L'.foldl (augStep R' x.seq false ns) acc') ((L'.map (ren s.σ)).foldl (augStep R x.seq false ns) acc) ∧
    (L'.foldl (augStep R' x.seq false ns) acc').1.pending = acc'.1.pending ∧
    ((L'.map (ren s.σ)).foldl (augStep R x.seq false ns) acc).1.pending = acc.1.pending ∧
    ∀ a ∈ (L'.foldl (augStep R' x.seq false ns) acc').2.1, a ∈ acc'.2.1 ∨ a ∈ L' := by
  intro L'
  induction L' with
  | nil => intro _ acc' acc hA; exact ⟨hA, rfl, rfl, fun a ha => Or.inl ha⟩
  | cons a' L ih =>
    intro hL acc' acc hA
    simp only [List.map_cons, List.foldl_cons]
    obtain ⟨h1, h2, h3⟩ := augStep_rel h hx ns hA a' (hL a' (List.mem_cons_self ..)).1 (hL a' (List.mem_cons_self ..)).2
    obtain ⟨i1, i2, i3, i4⟩ := ih (fun b hb => hL b (List.mem_cons_of_mem _ hb)) _ _ h1
    refine ⟨i1, i2.trans h2, i3.trans h3, fun a ha => ?_⟩
    rcases i4 a ha with hh | hh
    · -- what one step leaves unapplied: what was, or the entry itself
      have : ∀ b ∈ (augStep R' x.seq false ns acc' a').2.1, b ∈ acc'.2.1 ∨ b = a' := by
        intro b hb
        obtain ⟨s0, un0, p0, k0⟩ := acc'
        unfold augStep at hb
        simp only at hb
        repeat' split at hb
        all_goals first
          | (rw [augFail_false] at hb
             simp only [List.mem_append, List.mem_singleton] at hb
             exact hb)
          | exact Or.inl hb
      rcases this a hh with g | g
      · exact Or.inl g
      · exact Or.inr (g ▸ List.mem_cons_self ..)
    · exact Or.inr (List.mem_cons_of_mem _ hh)

omit h in
theorem pendingOf_congr {q r : PState} (e : q.pending = r.pending) (id : Nat) : q.pendingOf id = r.pendingOf id := by
  unfold PState.pendingOf; rw [e]

/-- **`augmentTree` for a module of the unsplit set, in the two runs**: related states, the same counts. -/
theorem augmentTree_rel {s' s₁ : PState} (hS : SR s R s' s₁) {x : Mod} (hx : x ∈ R.mods) :
    SR s R (augmentTree R' x.seq false s').1 (augmentTree R x.seq false s₁).1 ∧
    (augmentTree R' x.seq false s').2 = (augmentTree R x.seq false s₁).2 := by
  rw [augmentTree_eq, augmentTree_eq]
  simp only
  rw [ns_rel h hS.fr hx, hS.pend x hx]
  obtain ⟨i1, i2, i3, i4⟩ := fold_rel h hx (namespaceAt R s₁.forest (x.seq, [])) (s'.pendingOf x.seq) (hS.pmod x hx)
    (s', [], 0, 0) (s₁, [], 0, 0) ⟨hS.fr, rfl, rfl⟩
  generalize (s'.pendingOf x.seq).foldl (augStep R' x.seq false (namespaceAt R s₁.forest (x.seq, []))) (s', [], 0, 0) = r' at i1 i2 i4
  generalize ((s'.pendingOf x.seq).map (ren s.σ)).foldl (augStep R x.seq false (namespaceAt R s₁.forest (x.seq, [])))
    (s₁, [], 0, 0) = r at i1 i3
  obtain ⟨q', un', p', k'⟩ := r'
  obtain ⟨q, un, p, k⟩ := r
  obtain ⟨j1, j2, j3⟩ := i1
  simp only at j1 j2 j3 i2 i3 i4
  subst j2
  refine ⟨⟨j1, fun y hy => ?_, fun y hy => ?_, fun y hy a' ha' => ?_, fun id hid => ?_⟩, j3.symm⟩
  · simp only
    rw [LoadOrder.pendingOf_setPending, LoadOrder.pendingOf_setPending, i2, i3, hS.has x hx]
    rw [pendingOf_congr i3, pendingOf_congr i2, hS.pend y hy]
    split
    · split <;> rfl
    · rfl
  · simp only
    rw [LoadOrder.any_setPending, LoadOrder.any_setPending, i2, i3]
    exact hS.has y hy
  · simp only at ha'
    rw [LoadOrder.pendingOf_setPending, i2] at ha'
    split at ha'
    · rename_i e
      split at ha'
      · rcases i4 a' ha' with g | g
        · cases g
        · have hxy : y = x := IncludeLink.eq_of_seq_eq h.regs.seqs_nodup hy hx e
          subst hxy
          exact hS.pmod y hy a' g
      · cases ha'
    · rw [pendingOf_congr i2] at ha'
      exact hS.pmod y hy a' ha'
  · simp only
    rw [LoadOrder.pendingOf_setPending, if_neg (fun e => hid x hx e.symm)]
    rw [pendingOf_congr i2]
    exact hS.subsP id hid

end

theorem mem_swapRemove_sub (mods : Array Nat) (i : Nat) (h : i < mods.size) :
    ∀ id ∈ ((mods.set i (mods.back?.getD 0) h).pop).toList, id ∈ mods.toList := by
  intro id hid
  rw [Array.toList_pop, Array.toList_set] at hid
  have h1 : id ∈ mods.toList.set i (mods.back?.getD 0) := List.dropLast_subset _ hid
  rcases List.mem_or_eq_of_mem_set h1 with h2 | h2
  · exact h2
  · subst h2
    have hb : mods.back? = some mods[mods.size - 1] := by
      rw [Array.back?]; simp
    rw [hb]
    simp

section
variable {s : Split} {R R' : Registry} {plug plug' : Plug} (h : IsSplitOf s R R' plug plug')
include h

/-- **One pass of the augment loop, in the two runs**, over the same module array (numbers of modules of the
unsplit set): the same array left, the same count, related states. -/
theorem augmentPass_rel : ∀ (fuel : Nat) (mods : Array Nat) (i processed : Nat) (s' s₁ : PState), SR s R s' s₁ →
    (∀ id ∈ mods.toList, ∃ x ∈ R.mods, x.seq = id) →
    (augmentPass R' fuel mods i processed s').1 = (augmentPass R fuel mods i processed s₁).1 ∧
    (augmentPass R' fuel mods i processed s').2.1 = (augmentPass R fuel mods i processed s₁).2.1 ∧
    SR s R (augmentPass R' fuel mods i processed s').2.2 (augmentPass R fuel mods i processed s₁).2.2 ∧
    (∀ id ∈ (augmentPass R fuel mods i processed s₁).1.toList, ∃ x ∈ R.mods, x.seq = id)
  | 0, mods, i, processed, s', s₁, hS, hM => ⟨rfl, rfl, hS, hM⟩
  | fuel + 1, mods, i, processed, s', s₁, hS, hM => by
    unfold augmentPass
    by_cases hi : i < mods.size
    · rw [dif_pos hi, dif_pos hi]
      obtain ⟨x, hx, hxs⟩ := hM mods[i] (Array.getElem_mem_toList hi)
      obtain ⟨hrel, heq⟩ := augmentTree_rel h hS hx
      rw [hxs] at hrel heq
      rw [show augmentTree R' mods[i] false s' = ((augmentTree R' mods[i] false s').1, (augmentTree R mods[i] false s₁).2) from by
        rw [← heq]]
      generalize (augmentTree R' mods[i] false s').1 = q' at hrel ⊢
      generalize augmentTree R mods[i] false s₁ = o₁ at hrel ⊢
      obtain ⟨q, p, k⟩ := o₁
      simp only at hrel ⊢
      by_cases hk : (k == 0) = true
      · simp only [hk, if_true]
        exact augmentPass_rel fuel _ i (processed + p) q' q hrel (fun id hid => hM id (mem_swapRemove_sub mods i hi id hid))
      · simp only [hk, Bool.false_eq_true, if_false]
        exact augmentPass_rel fuel mods (i + 1) (processed + p) q' q hrel hM
    · rw [dif_neg hi, dif_neg hi]
      exact ⟨rfl, rfl, hS, hM⟩

/-- **The augment loop, in the two runs** (the same fuel, the same module array). -/
theorem augmentLoop_rel : ∀ (fuel : Nat) (mods : Array Nat) (s' s₁ : PState), SR s R s' s₁ →
    (∀ id ∈ mods.toList, ∃ x ∈ R.mods, x.seq = id) →
    SR s R (augmentLoop R' fuel mods s').2 (augmentLoop R fuel mods s₁).2
  | 0, mods, s', s₁, hS, _ => hS
  | fuel + 1, mods, s', s₁, hS, hM => by
    unfold augmentLoop
    by_cases hm : mods.isEmpty = true
    · rw [if_pos hm, if_pos hm]; exact hS
    · rw [if_neg hm, if_neg hm]
      obtain ⟨h1, h2, h3, h4⟩ := augmentPass_rel h (mods.size + 1) mods 0 0 s' s₁ hS hM
      generalize augmentPass R' (mods.size + 1) mods 0 0 s' = r' at h1 h2 h3
      generalize augmentPass R (mods.size + 1) mods 0 0 s₁ = r at h1 h2 h3 h4
      obtain ⟨m', p', q'⟩ := r'
      obtain ⟨m1, p1, q1⟩ := r
      simp only at h1 h2 h3 h4 ⊢
      subst h1 h2
      split
      · exact h3
      · exact augmentLoop_rel fuel m' q' q1 h3 h4

end

/-! ### the result: `LoopsRelatedCore` from the relation of the two starting states -/

theorem noErrors_ren (σ : Nat → Nat) {e : Entry} (h : NoErrors (ren σ e)) : NoErrors e :=
  (IncludeAugCompose.everyNode_ren σ noErrorsHere (fun d c i o => by simp [noErrorsHere, Entry.d, renD]) e).1 h

theorem noErrors_sameTop (σ : Nat → Nat) {t' t : Entry} (h : SameTop σ t' t) (ht : NoErrors t) : NoErrors t' :=
  IncludeAugCompose.everyNode_sameTop σ noErrorsHere (fun d c i o => by simp [noErrorsHere, Entry.d, renD])
    (fun d' d c' c hd _ => by unfold SameData at hd; simp only [noErrorsHere, Entry.d]; rw [hd]) h ht

theorem tree?_of_mem_nodup {f : Forest} (hk : (fkeys f).Nodup) {p : Nat × Entry} (hp : p ∈ f.trees) : f.tree? p.1 = some p.2 := by
  unfold Forest.tree?
  rw [IncludeAugDump.find?_key_of_nodup (fun q : Nat × Entry => q.1) f.trees hk p hp]
  rfl

section
variable {s : Split} {R R' : Registry} {plug plug' : Plug} (h : IsSplitOf s R R' plug plug')
include h

open Goyang.Lemmas.IncludeAugCompose Goyang.Lemmas.IncludeAugOrder in
/-- **(S) for sets without rpc / action nodes**: when the two starting states are related (`SR`: the converted
forests as `include_conversion` relates them, free of rpc / action nodes; the pending augment entries of every
module equal up to `ren σ` — piece (A)), the two loops have the same fuel, and the loop over the unsplit set ends
without recorded error and leaves nothing pending, then the loop over the split set run in the same module order
records no error, leaves nothing pending, and leaves the owner's tree `SameTop σ` the unsplit module's. -/
theorem loopsRelatedCore_of_start (opts : Opts) (hL : Fuel.LoadedShape R')
    (hstart : SR s R (pstate0 R' opts plug') (pstate0 R opts plug))
    (hfuel : loopFuel R' opts plug' = loopFuel R opts plug)
    (hcl : AugmentReport.allErrs (afterLoop R opts plug).2.forest = []) (hn : NoLeftover R opts plug) :
    LoopsRelatedCore s R R' opts plug plug' := by
  have hM : ∀ id ∈ (((augOrder R).map (·.seq)).toArray).toList, ∃ x ∈ R.mods, x.seq = id := by
    intro id hid
    simp only [List.mem_map] at hid
    obtain ⟨x, hx, rfl⟩ := hid
    unfold augOrder at hx
    rw [SortAux.mem_sortBy] at hx
    obtain ⟨kv, _, hby⟩ := List.mem_filterMap.1 hx
    exact ⟨x, RegistryAux.byId_mem hby, rfl⟩
  have key := augmentLoop_rel h (loopFuel R opts plug) ((augOrder R).map (·.seq)).toArray _ _ hstart hM
  have eU : loopU R R' opts plug' =
      (augmentLoop R' (loopFuel R opts plug) ((augOrder R).map (·.seq)).toArray (pstate0 R' opts plug')).2 := by
    unfold loopU; rw [hfuel]
  have eA : (afterLoop R opts plug).2 =
      (augmentLoop R (loopFuel R opts plug) ((augOrder R).map (·.seq)).toArray (pstate0 R opts plug)).2 := rfl
  rw [← eU, ← eA] at key
  have hNe : ForestAll NoErrors (afterLoop R opts plug).2.forest := (forestErrs_eq_nil _).1 hcl
  refine ⟨?_, fun id => ?_, ?_⟩
  · apply (forestErrs_eq_nil _).2
    intro p hp
    have hkeys : (fkeys (loopU R R' opts plug').forest).Nodup := by
      have e2 : fkeys (loopU R R' opts plug').forest = fkeys (pstate0 R' opts plug').forest :=
        Bridge.fkeys_augmentLoop R' _ _ _
      rw [e2]
      exact Bridge.tstate_ckeys_nodup R' opts plug' hL
    have hp1 := tree?_of_mem_nodup hkeys hp
    by_cases hex : ∃ x ∈ R.mods, x.seq = p.1
    · obtain ⟨x, hx, hxs⟩ := hex
      by_cases hxm : x.seq = s.m.seq
      · obtain ⟨t', t, a, b, c, _⟩ := key.fr.owner
        rw [← hxs, hxm, a] at hp1
        cases hp1
        exact noErrors_sameTop s.σ c (hNe _ (mem_of_tree? b))
      · have ho := key.fr.other x hx hxm
        rw [hxs, hp1] at ho
        exact noErrors_ren s.σ (hNe _ (mem_of_tree? ho.symm))
    · exact key.fr.errs p hp (fun x hx e => hex ⟨x, hx, e⟩)
  · by_cases hex : ∃ x ∈ R.mods, x.seq = id
    · obtain ⟨x, hx, rfl⟩ := hex
      have := key.pend x hx
      rw [IncludeNoAug.pendingOf_nil _ hn x.seq] at this
      exact List.map_eq_nil_iff.1 this.symm
    · exact key.subsP id (fun x hx e => hex ⟨x, hx, e⟩)
  · obtain ⟨t', t, a, b, c, _⟩ := key.fr.owner
    exact ⟨t, t', b, a, c⟩

end
end Goyang.Lemmas.IncludeAugSim
