import Goyang.Lemmas.IncludeMod
/-
C13 (third sentence), part 4c: the conversion of a part of a split with nested includes.

`part_conv`: goyang's depth-first conversion of a part (owner or submodule) — own field steps,
then for every include statement whose target has not been started yet (the merged-submodule
bookkeeping) the target's conversion merged, then the remaining field steps — computes, up to
renaming and where error free, the pure mirror `ppart` over the values of the statements.
-/
namespace Goyang.Lemmas.IncludeModN
open Goyang.Model Goyang.Spec.Include Goyang.Lemmas.Tree Goyang.Spec.Tree Goyang.Lemmas.IncludeRel
open Goyang.Lemmas.IncludePure Goyang.Lemmas.IncludeRun Goyang.Lemmas.IncludeAsm Goyang.Lemmas.IncludeWorld
open Goyang.Lemmas.IncludeMod

/-- The submodule statements the include statements of `X` resolve to. -/
def tgtOf (R' : Registry) (X : Stmt) : List Stmt :=
  (X.all "include").filterMap fun a => (R'.findModule true a).map (·.stmt)

theorem foldl_filterMap_eq {α β γ : Type} (g : α → Option β) (F : γ → β → γ) (G : γ → α → γ)
    (h : ∀ acc a, G acc a = (match g a with | some y => F acc y | none => acc)) (l : List α) (c : γ) :
    (l.filterMap g).foldl F c = l.foldl G c := by
  rw [List.foldl_filterMap]
  congr 1
  funext acc a
  exact (h acc a).symm

section Part
variable {s : Split} {R R' : Registry} (opts : Opts) (plug plug' : Plug)
  (ht : TextOK s) (hr : RegsOK s R R') (hl : LinkOK s R (linkAll R).1 (linkAll R').1)
  (hW : (Ws s R R' opts plug plug').OK)

omit opts plug plug' in
theorem part_of_name (ht : TextOK s) (hr : RegsOK s R R') {P Q : Mod} (hP : P ∈ s.parts) (hQ : Q ∈ s.parts)
    (h : P.name = Q.name) : P = Q := by
  have hon : s.owner.name = s.m.name := ht.owner_arg
  rcases List.mem_cons.1 hP with rfl | hP <;> rcases List.mem_cons.1 hQ with rfl | hQ
  · rfl
  · exact absurd (h.symm.trans hon) (hr.sub_name_ne Q hQ)
  · exact absurd (h.trans hon) (hr.sub_name_ne P hP)
  · exact sub_eq_of_name hr hP hQ h

omit opts plug plug' in
theorem part_name_mem (ht : TextOK s) {P : Mod} (hP : P ∈ s.parts) : P.name ∈ s.m.name :: s.subs.map (·.name) := by
  rcases List.mem_cons.1 hP with rfl | hP
  · rw [show s.owner.name = s.m.name from ht.owner_arg]; exact List.mem_cons_self ..
  · exact List.mem_cons_of_mem _ (List.mem_map_of_mem hP)

omit opts plug plug' in
theorem part_of_seq (hr : RegsOK s R R') {P Q : Mod} (hP : P ∈ s.parts) (hQ : Q ∈ s.parts) (h : P.seq = Q.seq) : P = Q := by
  rcases List.mem_cons.1 hP with rfl | hP <;> rcases List.mem_cons.1 hQ with rfl | hQ
  · rfl
  · exact absurd h.symm (sub_seq_ne_owner hr hQ)
  · exact absurd h (sub_seq_ne_owner hr hP)
  · exact sub_eq_of_seq hr hP hQ h


/-- The conversion state against the names of the started submodules. -/
structure PInv (s : Split) (R R' : Registry) (opts : Opts) (plug plug' : Plug) (st : TState) (S : List String) : Prop where
  coh : Coh (Ws s R R' opts plug plug') st.gcache
  m1 : ∀ sb ∈ s.subs, st.merged.contains (mkey s sb) = S.contains sb.name
  m2 : ∀ k ∈ st.merged, ∃ x ∈ s.subs, x.name ∈ S ∧
    (k = mkey s x ∨ ∃ y ∈ s.parts, Includes R' y x ∧ k = x.name ++ ":" ++ y.name)
  c1 : ∀ p ∈ st.cache, ∀ sb ∈ s.subs, p.1 = sb.seq → sb.name ∈ S
  names : ∀ n ∈ S, ∃ sb ∈ s.subs, sb.name = n

/-- No key of the bookkeeping says that the target was started from a part it is included by…
(goyang's circularity test passes). -/
theorem no_back_key (ht : TextOK s) (hr : RegsOK s R R') {st : TState} {S : List String}
    (hinv : PInv s R R' opts plug plug' st S) {P sb : Mod} (hP : P ∈ s.parts) (hsb : sb ∈ s.subs) (hinc : Includes R' P sb) :
    st.merged.contains (P.name ++ ":" ++ sb.name) = false ∧ sb.name ≠ P.name := by
  have hsbP : sb ∈ s.parts := List.mem_cons_of_mem _ hsb
  have hne : sb.name ≠ P.name := by
    intro e
    exact (hr.inc_no_back P hP sb hsbP hinc).1 (part_of_name ht hr hsbP hP e)
  refine ⟨?_, hne⟩
  rw [Bool.eq_false_iff]
  intro hc
  rw [List.contains_iff_mem] at hc
  obtain ⟨x, hx, _, hk⟩ := hinv.m2 _ hc
  have hxn := part_name_mem ht (List.mem_cons_of_mem _ hx)
  rcases hk with hk | ⟨y, hy, hyx, hk⟩
  · -- `P:sb = x:m`: then `sb` would be named like `m`
    have := hr.keys_inj _ (part_name_mem ht hP) _ (part_name_mem ht hsbP) _ hxn _ (List.mem_cons_self ..) hk
    exact hr.sub_name_ne sb hsb this.2
  · -- `P:sb = x:y` with `y` including `x`: then `sb` includes `P`
    have := hr.keys_inj _ (part_name_mem ht hP) _ (part_name_mem ht hsbP) _ hxn _ (part_name_mem ht hy) hk
    have e1 : P = x := part_of_name ht hr hP (List.mem_cons_of_mem _ hx) this.1
    have e2 : sb = y := part_of_name ht hr hsbP hy this.2
    subst e1 e2
    exact (hr.inc_no_back P hP sb hsbP hinc).2 hyx

/-- … and a key `sb:P` means that `sb` has been started. -/
theorem key_started (ht : TextOK s) (hr : RegsOK s R R') {st : TState} {S : List String}
    (hinv : PInv s R R' opts plug plug' st S) {P sb : Mod} (hP : P ∈ s.parts) (hsb : sb ∈ s.subs)
    (hc : st.merged.contains (sb.name ++ ":" ++ P.name) = true) : S.contains sb.name = true := by
  rw [List.contains_iff_mem] at hc
  obtain ⟨x, hx, hxS, hk⟩ := hinv.m2 _ hc
  have hxn := part_name_mem ht (List.mem_cons_of_mem _ hx)
  have hsbn := part_name_mem ht (List.mem_cons_of_mem _ hsb)
  have : sb.name = x.name := by
    rcases hk with hk | ⟨y, hy, _, hk⟩
    · exact (hr.keys_inj _ hsbn _ (part_name_mem ht hP) _ hxn _ (List.mem_cons_self ..) hk).1
    · exact (hr.keys_inj _ hsbn _ (part_name_mem ht hP) _ hxn _ (part_name_mem ht hy) hk).1
  rw [List.contains_iff_mem, this]; exact hxS


/-- An include statement of a part resolves for the conversion (the part is linked). -/
theorem inc_target (hr : RegsOK s R R') (hl : LinkOK s R (linkAll R).1 (linkAll R').1) {P sb : Mod} (hP : P ∈ s.parts)
    {a : Stmt} (hf : R'.findModule true a = some sb) :
    (Ws s R R' opts plug plug').env₁.includeTarget P a = some sb := by
  unfold Env.includeTarget
  have : (Ws s R R' opts plug plug').env₁.linked.contains P.seq = true := IncludeBind.part_linked hr hl hP
  rw [if_pos this]
  exact hf

include ht hr hl in
/-- An include of a submodule that has been started: skipped. -/
theorem incStep_skip (rec : Rec) {P sb : Mod} (hP : P ∈ s.parts) (hsb : sb ∈ s.subs) {a : Stmt}
    (ha : a ∈ P.stmt.all "include") (hf : R'.findModule true a = some sb) (vis : List NodeId) (e : Entry) {t : TState}
    {S : List String} (hinv : PInv s R R' opts plug plug' t S) (hS : S.contains sb.name = true) :
    incStep (Ws s R R' opts plug plug').env₁ rec P P.stmt vis (e, t) a = (e, t) := by
  have hinc : Includes R' P sb := ⟨a, ha, hf⟩
  obtain ⟨h2, h3⟩ := no_back_key opts plug plug' ht hr hinv hP hsb hinc
  have h4 : t.merged.contains (sb.name ++ ":" ++ s.m.name) = true := by
    have := hinv.m1 sb hsb
    unfold mkey at this
    rw [this]; exact hS
  unfold incStep
  simp only [inc_target opts plug plug' hr hl hP hf, ht.sub_belongs sb hsb, Option.getD_some]
  have h2' : t.merged.contains (P.stmt.arg ++ ":" ++ sb.name) = false := h2
  have h3' : sb.name ≠ P.stmt.arg := h3
  cases h1 : t.merged.contains (sb.name ++ ":" ++ P.stmt.arg) with
  | true => simp only [if_true]
  | false =>
    simp only [h2', h4, Bool.false_eq_true, if_false, Bool.not_false, Bool.true_and, bne_iff_ne, ne_eq, h3',
      not_false_eq_true, if_true]

include ht hr hl in
/-- An include of a submodule that has not been started: it is marked, converted and merged. -/
theorem incStep_start (rec : Rec) {P sb : Mod} (hP : P ∈ s.parts) (hsb : sb ∈ s.subs) {a : Stmt}
    (ha : a ∈ P.stmt.all "include") (hf : R'.findModule true a = some sb) (vis : List NodeId) (e : Entry) {t : TState}
    {S : List String} (hinv : PInv s R R' opts plug plug' t S) (hS : S.contains sb.name = false) :
    incStep (Ws s R R' opts plug plug').env₁ rec P P.stmt vis (e, t) a =
      (e.merge none (rec sb [] sb.stmt vis { t with merged := t.merged ++ [sb.name ++ ":" ++ P.stmt.arg, mkey s sb] }).1,
       (rec sb [] sb.stmt vis { t with merged := t.merged ++ [sb.name ++ ":" ++ P.stmt.arg, mkey s sb] }).2) := by
  have hinc : Includes R' P sb := ⟨a, ha, hf⟩
  obtain ⟨h2, h3⟩ := no_back_key opts plug plug' ht hr hinv hP hsb hinc
  have h4 : t.merged.contains (sb.name ++ ":" ++ s.m.name) = false := by
    have := hinv.m1 sb hsb
    unfold mkey at this
    rw [this]; exact hS
  have h1 : t.merged.contains (sb.name ++ ":" ++ P.stmt.arg) = false := by
    cases hc : t.merged.contains (sb.name ++ ":" ++ P.stmt.arg) with
    | false => rfl
    | true =>
      have := key_started opts plug plug' ht hr hinv hP hsb hc
      rw [hS] at this; cases this
  exact incStep_fresh _ rec P P.stmt vis e t a sb s.m.name (inc_target opts plug plug' hr hl hP hf) (ht.sub_belongs sb hsb) h1 h2 h3 h4


/-! ### counting the submodules not yet started -/

/-- Submodules of the split whose name is not among the started ones. -/
def unstarted (s : Split) (S : List String) : Nat := (s.subs.filter fun sb => !S.contains sb.name).length

omit opts plug plug' in
theorem unstarted_mono {S S' : List String} (h : ∀ n ∈ S, n ∈ S') : unstarted s S' ≤ unstarted s S := by
  unfold unstarted
  refine Fuel.filter_len_le _ _ _ ?_
  intro y hy
  have hy' : S'.contains y.name = false := by simpa using hy
  cases hc : S.contains y.name with
  | false => rfl
  | true =>
    have := h _ (List.contains_iff_mem.1 hc)
    rw [← List.contains_iff_mem] at this
    rw [this] at hy'; cases hy'

omit opts plug plug' in
theorem unstarted_lt {S : List String} {sb : Mod} (hsb : sb ∈ s.subs) (h : S.contains sb.name = false) :
    unstarted s (S ++ [sb.name]) < unstarted s S := by
  unfold unstarted
  refine Fuel.filter_len_lt _ _ _ ?_ sb hsb (by rw [h]; rfl) (by simp)
  intro y hy
  have hy' : (S ++ [sb.name]).contains y.name = false := by simpa using hy
  cases hc : S.contains y.name with
  | false => rfl
  | true =>
    have : (S ++ [sb.name]).contains y.name = true := by
      rw [List.contains_iff_mem] at hc ⊢
      exact List.mem_append_left _ hc
    rw [this] at hy'; cases hy'

/-- Starting a submodule keeps the invariant. -/
theorem pinv_start (ht : TextOK s) (hr : RegsOK s R R') {t : TState} {S : List String} (hinv : PInv s R R' opts plug plug' t S)
    {P sb : Mod} (hP : P ∈ s.parts) (hsb : sb ∈ s.subs) (hinc : Includes R' P sb) :
    PInv s R R' opts plug plug' { t with merged := t.merged ++ [sb.name ++ ":" ++ P.stmt.arg, mkey s sb] } (S ++ [sb.name]) := by
  have hsbn := part_name_mem ht (List.mem_cons_of_mem _ hsb)
  refine ⟨hinv.coh, ?_, ?_, ?_, ?_⟩
  · intro x hx
    have hxn := part_name_mem ht (List.mem_cons_of_mem _ hx)
    have h0 := hinv.m1 x hx
    show (t.merged ++ [sb.name ++ ":" ++ P.stmt.arg, mkey s sb]).contains (mkey s x) = (S ++ [sb.name]).contains x.name
    by_cases hxs : x.name = sb.name
    · have : x = sb := sub_eq_of_name hr hx hsb hxs
      subst this
      have h1 : (t.merged ++ [x.name ++ ":" ++ P.stmt.arg, mkey s x]).contains (mkey s x) = true := by
        rw [List.contains_iff_mem]; simp
      have h2 : (S ++ [x.name]).contains x.name = true := by rw [List.contains_iff_mem]; simp
      rw [h1, h2]
    · have h1 : (t.merged ++ [sb.name ++ ":" ++ P.stmt.arg, mkey s sb]).contains (mkey s x) = t.merged.contains (mkey s x) := by
        apply Bool.eq_iff_iff.2
        simp only [List.contains_iff_mem, List.mem_append, List.mem_cons, List.mem_nil_iff, or_false]
        constructor
        · rintro (h | h | h)
          · exact h
          · exact absurd (hr.keys_inj _ hxn _ (List.mem_cons_self ..) _ hsbn _ (part_name_mem ht hP) h).1 hxs
          · exact absurd (mkey_inj _ _ h) hxs
        · exact Or.inl
      have h2 : (S ++ [sb.name]).contains x.name = S.contains x.name := by
        apply Bool.eq_iff_iff.2
        simp only [List.contains_iff_mem, List.mem_append, List.mem_singleton]
        constructor
        · rintro (h | h)
          · exact h
          · exact absurd h hxs
        · exact Or.inl
      rw [h1, h2, h0]
  · intro k hk
    rcases List.mem_append.1 hk with hk | hk
    · obtain ⟨x, hx, hxS, h⟩ := hinv.m2 k hk
      exact ⟨x, hx, List.mem_append_left _ hxS, h⟩
    · simp only [List.mem_cons, List.mem_nil_iff, or_false] at hk
      refine ⟨sb, hsb, by simp, ?_⟩
      rcases hk with rfl | rfl
      · exact Or.inr ⟨P, hP, hinc, rfl⟩
      · exact Or.inl rfl
  · intro p hp x hx hpx
    exact List.mem_append_left _ (hinv.c1 p hp x hx hpx)
  · intro n hn
    rcases List.mem_append.1 hn with hn | hn
    · exact hinv.names n hn
    · simp only [List.mem_singleton] at hn
      exact ⟨sb, hsb, hn.symm⟩


/-! ### the pure mirror, over include statements -/

/-- The pure mirror of the conversion of a part, over the values of the unsplit module's statements. -/
noncomputable def pp (s : Split) (R R' : Registry) (opts : Opts) (plug : Plug) : Nat → List String → Stmt → Entry × List String :=
  ppart (envOf R opts plug) (vm s R opts plug) s.m (tgtOf R')

/-- One include statement in the pure mirror. -/
noncomputable def pstep (s : Split) (R R' : Registry) (opts : Opts) (plug : Plug) (f : Nat) (acc : Entry × List String) (a : Stmt) :
    Entry × List String :=
  match (R'.findModule true a).map (·.stmt) with
  | some Y =>
    if acc.2.contains Y.arg then acc
    else (acc.1.merge none (pp s R R' opts plug f (acc.2 ++ [Y.arg]) Y).1, (pp s R R' opts plug f (acc.2 ++ [Y.arg]) Y).2)
  | none => acc

omit opts plug plug' in
theorem ppart_succ (env : Env) (v : Stmt → Entry) (root : Mod) (tgt : Stmt → List Stmt) (f : Nat) (S : List String) (X : Stmt) :
    ppart env v root tgt (f + 1) S X =
      ((pfold env v root X postFields
        (((tgt X).foldl (fun (acc : Entry × List String) Y =>
          if acc.2.contains Y.arg then acc
          else ((acc.1.merge none (ppart env v root tgt f (acc.2 ++ [Y.arg]) Y).1), (ppart env v root tgt f (acc.2 ++ [Y.arg]) Y).2))
          ((pfold env v root X preFields (e0 root X, {})).1, S)).1, {})).1,
       ((tgt X).foldl (fun (acc : Entry × List String) Y =>
          if acc.2.contains Y.arg then acc
          else ((acc.1.merge none (ppart env v root tgt f (acc.2 ++ [Y.arg]) Y).1), (ppart env v root tgt f (acc.2 ++ [Y.arg]) Y).2))
          ((pfold env v root X preFields (e0 root X, {})).1, S)).2) := rfl

theorem pp_succ (f : Nat) (S : List String) (X : Stmt) :
    pp s R R' opts plug (f + 1) S X =
      ((pfold (envOf R opts plug) (vm s R opts plug) s.m X postFields
          (((X.all "include").foldl (pstep s R R' opts plug f)
            ((pfold (envOf R opts plug) (vm s R opts plug) s.m X preFields (e0 s.m X, {})).1, S)).1, {})).1,
       ((X.all "include").foldl (pstep s R R' opts plug f)
            ((pfold (envOf R opts plug) (vm s R opts plug) s.m X preFields (e0 s.m X, {})).1, S)).2) := by
  unfold pp
  rw [ppart_succ]
  have : tgtOf R' X = (X.all "include").filterMap fun a => (R'.findModule true a).map (·.stmt) := rfl
  rw [this, foldl_filterMap_eq _ _ (pstep s R R' opts plug f)]
  intro acc a
  unfold pstep pp
  cases (R'.findModule true a).map (·.stmt) <;> rfl

/-- What the module cache holds for a part: its entry is (up to renaming, where error free) a value
of the pure mirror. -/
def PureOf (s : Split) (R R' : Registry) (opts : Opts) (plug : Plug) (p : Nat × Entry) : Prop :=
  ∃ Q ∈ s.subs, p.1 = Q.seq ∧ ∃ (f' : Nat) (S' : List String), (∀ n ∈ S', ∃ sb ∈ s.subs, sb.name = n) ∧
    S'.contains Q.name = true ∧ unstarted s S' < f' ∧ REb s.σ p.2 (pp s R R' opts plug f' S' Q.stmt).1

/-- What `part_conv` concludes. -/
structure PGoal (s : Split) (R R' : Registry) (opts : Opts) (plug plug' : Plug) (P : Mod) (st : TState) (S : List String)
    (out : Entry × TState) (q : Entry × List String) : Prop where
  re : REb s.σ out.1 q.1
  inv : PInv s R R' opts plug plug' out.2 q.2
  mono : ∀ n ∈ S, n ∈ q.2
  cache : ∀ p ∈ out.2.cache, p ∈ st.cache ∨ p = (P.seq, out.1) ∨ PureOf s R R' opts plug p
  grows : ∀ p ∈ st.cache, p ∈ out.2.cache
  self : (P.seq, out.1) ∈ out.2.cache
  newc : ∀ sb ∈ s.subs, q.2.contains sb.name = true → S.contains sb.name = true ∨ ∃ e, (sb.seq, e) ∈ out.2.cache

/-- The statement of `part_conv` at one fuel. -/
def PStmt (s : Split) (R R' : Registry) (opts : Opts) (plug plug' : Plug) (f : Nat) : Prop :=
  ∀ P ∈ s.parts, ∀ (vis : List NodeId) (st : TState) (S : List String),
    PInv s R R' opts plug plug' st S → (P ∈ s.subs → S.contains P.name = true) →
    OnlyMods (Ws s R R' opts plug plug') vis →
    (∀ Q ∈ s.parts, vis.contains (nodeId Q Q.stmt) = true → Q ∈ s.subs → S.contains Q.name = true) →
    vis.contains (nodeId P P.stmt) = false →
    st.cache.find? (·.1 == P.seq) = none →
    Fuel.need R' P P.stmt vis + lookupSlack R' ≤ f + 1 →
    unstarted s S < f + 1 →
    PGoal s R R' opts plug plug' P st S (toEntry (Ws s R R' opts plug plug').env₁ (f + 1) P [] P.stmt vis st)
      (pp s R R' opts plug (f + 1) S P.stmt)


/-- The invariant of the include fold of a part `P` (started from state `st`, names `S`). -/
structure FInv (s : Split) (R R' : Registry) (opts : Opts) (plug plug' : Plug) (st : TState) (S : List String) (f : Nat)
    (x : Entry × TState) (y : Entry × List String) : Prop where
  re : REb s.σ x.1 y.1
  inv : PInv s R R' opts plug plug' x.2 y.2
  mono : ∀ n ∈ S, n ∈ y.2
  cache : ∀ p ∈ x.2.cache, p ∈ st.cache ∨ PureOf s R R' opts plug p
  grows : ∀ p ∈ st.cache, p ∈ x.2.cache
  newc : ∀ sb ∈ s.subs, y.2.contains sb.name = true → S.contains sb.name = true ∨ ∃ e, (sb.seq, e) ∈ x.2.cache
  fuel : unstarted s y.2 < f + 1
  kind : x.1.d.kind = y.1.d.kind

include ht hr hl hW in
/-- One fuel level of `part_conv`, given the levels below. -/
theorem part_conv_aux (f : Nat) (IH : ∀ f₀, f = f₀ + 1 → PStmt s R R' opts plug plug' f₀) : PStmt s R R' opts plug plug' f := by
  intro P hP vis st S hinv hPS hvis hvisS hnv hcache hneed hun
  have hm : isModKw P.stmt = true := by
    rcases List.mem_cons.1 hP with rfl | hP'
    · exact owner_kw_mod ht
    · exact sub_kw_mod ht hP'
  have hX : P ∈ (Ws s R R' opts plug plug').env₁.reg.mods := part_mem' hr hP
  have hcr : (Ws s R R' opts plug plug').CR P [P.stmt] s.m [s.m.stmt] := Or.inl ⟨hP, rfl, [], rfl, rfl⟩
  have hwf : WF (Ws s R R' opts plug plug').env₁.reg P [] P.stmt := ⟨hX, rfl⟩
  have hpos := Fuel.need_pos (env := (Ws s R R' opts plug plug').env₁) vis hwf.inv
  have hneed0 : Fuel.need (Ws s R R' opts plug plug').env₁.reg P P.stmt vis + lookupSlack R' ≤ f + 1 := hneed
  have hneed' : Fuel.need (Ws s R R' opts plug plug').env₁.reg P P.stmt vis ≤ (f - lookupSlack R') + 1 := by omega
  have htr : Fuel.isTracked P.stmt = true := by
    unfold isModKw at hm; unfold Fuel.isTracked; rw [hm]; rfl
  have hv' : Fuel.visiting' P P.stmt vis = nodeId P P.stmt :: vis := by
    unfold Fuel.visiting'; rw [htr]; rfl
  have hc3 : ¬ (Fuel.isTracked P.stmt && vis.contains (nodeId P P.stmt)) = true := by rw [hnv]; simp
  rw [pp_succ, Tree.toEntry_succ, toEntryBody_mod _ f _ P [] P.stmt vis st hm hcache hnv]
  unfold dirBody
  dsimp only
  rw [fieldOrder_mod hm, List.foldl_append, List.foldl_append, List.foldl_cons, List.foldl_nil, step_include_eq]
  -- the recursive calls on the statements of the part
  have hcalls := fun st' => mod_calls (Ws s R R' opts plug plug') hW P s.m hX hm hcr f vis st' hvis hnv hneed
  -- the fields of `Ws` are computed here: the unifier would unfold `lkOf`, `bindGrouping`, … to compare them
  dsimp only [Ws, World.val] at hcalls
  -- the steps before the include step
  have steps := fun st' => fields_rel (RE := REb s.σ) (RS := RSm (Ws s R R' opts plug plug') st') (closed2_REb s.σ)
    (Ws s R R' opts plug plug').env₁ (envOf R opts plug) (toEntry (Ws s R R' opts plug plug').env₁ f) (constRec (vm s R opts plug))
    P s.m P.stmt [P.stmt] [P.stmt] (nodeId P P.stmt :: vis) [] (hcalls st') true (fun _ s₁ s₂ _ _ hs _ => hs)
  have keyA := steps st preFields (fun fld hfld c hc => ⟨fld, pre_sub hm fld hfld, hc⟩) no_io_pre
    (e0 P P.stmt, st) (e0 s.m P.stmt, {})
    ⟨REb_of_eq _ (ren_e0 _ _ _ _ (hW.cr_seq hcr)), hinv.coh, rfl, rfl⟩ (e0_kind_eq _ _ _)
  obtain ⟨⟨hreA, hcoA, hcaA, hmeA⟩, hkA⟩ := keyA
  generalize hA1 : preFields.foldl (stepFn (Ws s R R' opts plug plug').env₁ (toEntry (Ws s R R' opts plug plug').env₁ f) P
    P.stmt [P.stmt] (nodeId P P.stmt :: vis) true) (e0 P P.stmt, st) = A1 at hreA hcoA hcaA hmeA hkA ⊢
  obtain ⟨eA, tA⟩ := A1
  dsimp only at hreA hcoA hcaA hmeA hkA
  have hpA : (pfold (envOf R opts plug) (vm s R opts plug) s.m P.stmt preFields (e0 s.m P.stmt, {})).1 =
      (preFields.foldl (stepFn (envOf R opts plug) (constRec (vm s R opts plug)) s.m P.stmt [P.stmt] [] true)
        (e0 s.m P.stmt, {})).1 := rfl
  rw [hpA]
  generalize hA2 : (preFields.foldl (stepFn (envOf R opts plug) (constRec (vm s R opts plug)) s.m P.stmt [P.stmt] [] true)
    (e0 s.m P.stmt, {})).1 = pA at hreA hkA ⊢
  -- the include step, statement by statement
  have hinvA : PInv s R R' opts plug plug' tA S :=
    ⟨hcoA, by rw [hmeA]; exact hinv.m1, by rw [hmeA]; exact hinv.m2, by rw [hcaA]; exact hinv.c1, hinv.names⟩
  have hfold : ∀ (as : List Stmt), (∀ a ∈ as, a ∈ P.stmt.all "include") → ∀ (x : Entry × TState) (y : Entry × List String),
      FInv s R R' opts plug plug' st S f x y →
      FInv s R R' opts plug plug' st S f
        (as.foldl (incStep (Ws s R R' opts plug plug').env₁ (toEntry (Ws s R R' opts plug plug').env₁ f) P P.stmt (nodeId P P.stmt :: vis)) x)
        (as.foldl (pstep s R R' opts plug f) y) := by
    intro as
    induction as with
    | nil => intro _ x y h; exact h
    | cons a as ih =>
      intro has x y hxy
      refine ih (fun b hb => has b (List.mem_cons_of_mem _ hb)) _ _ ?_
      obtain ⟨e, t⟩ := x
      obtain ⟨pe, Sa⟩ := y
      have ha : a ∈ P.stmt.all "include" := has a (List.mem_cons_self ..)
      obtain ⟨sb, hsb, hfa⟩ := hr.inc_resolve P hP a ha
      have hsbP : sb ∈ s.parts := List.mem_cons_of_mem _ hsb
      have hinc : Includes R' P sb := ⟨a, ha, hfa⟩
      have hps : pstep s R R' opts plug f (pe, Sa) a =
          (if Sa.contains sb.name then (pe, Sa)
           else (pe.merge none (pp s R R' opts plug f (Sa ++ [sb.name]) sb.stmt).1, (pp s R R' opts plug f (Sa ++ [sb.name]) sb.stmt).2)) := by
        unfold pstep
        rw [hfa]
        rfl
      rw [hps]
      cases hSa : Sa.contains sb.name with
      | true =>
        rw [incStep_skip opts plug plug' ht hr hl _ hP hsb ha hfa _ e hxy.inv hSa]
        simp only [if_true]
        exact hxy
      | false =>
        rw [incStep_start opts plug plug' ht hr hl _ hP hsb ha hfa _ e hxy.inv hSa]
        simp only [Bool.false_eq_true, if_false]
        -- the conversion of the submodule: one fuel level below
        have hun1 := unstarted_lt (s := s) hsb hSa
        have hfu := hxy.fuel
        dsimp only at hfu
        obtain ⟨f0, rfl⟩ : ∃ f0, f = f0 + 1 := ⟨f - 1, by omega⟩
        have hinv' := pinv_start opts plug plug' ht hr hxy.inv hP hsb hinc
        have hsbne : sb ≠ P := (hr.inc_no_back P hP sb hsbP hinc).1
        have hnv' : (nodeId P P.stmt :: vis).contains (nodeId sb sb.stmt) = false := by
          rw [Bool.eq_false_iff]
          intro h
          simp only [List.contains_cons, Bool.or_eq_true, beq_iff_eq] at h
          rcases h with h | h
          · exact hsbne (part_of_seq hr hsbP hP (congrArg (·.1) h))
          · have := hvisS sb hsbP h hsb
            have h2 := hxy.mono _ (List.contains_iff_mem.1 this)
            rw [← List.contains_iff_mem, hSa] at h2; cases h2
        have hcache' : ({ t with merged := t.merged ++ [sb.name ++ ":" ++ P.stmt.arg, mkey s sb] } : TState).cache.find?
            (·.1 == sb.seq) = none := by
          rw [List.find?_eq_none]
          intro p hp
          simp only [beq_iff_eq]
          intro he
          have := hxy.inv.c1 p hp sb hsb he
          rw [← List.contains_iff_mem, hSa] at this; cases this
        have hinF : "include" ∈ fieldOrder P.stmt.kw := by rw [fieldOrder_mod hm]; simp
        obtain ⟨_, hn'⟩ := Fuel.callee_need hwf.inv hneed' hc3 (Fuel.Callee.include_ (scope := []) hinF
          (inc_target opts plug plug' hr hl hP hfa))
        rw [hv'] at hn'
        have hneedS : Fuel.need R' sb sb.stmt (nodeId P P.stmt :: vis) + lookupSlack R' ≤ f0 + 1 := by
          have h3 : Fuel.need (Ws s R R' opts plug plug').env₁.reg sb sb.stmt (nodeId P P.stmt :: vis) =
            Fuel.need R' sb sb.stmt (nodeId P P.stmt :: vis) := rfl
          omega
        have hvisS' : ∀ Q ∈ s.parts, (nodeId P P.stmt :: vis).contains (nodeId Q Q.stmt) = true → Q ∈ s.subs →
            (Sa ++ [sb.name]).contains Q.name = true := by
          intro Q hQ h hQs
          rw [List.contains_iff_mem]
          refine List.mem_append_left _ ?_
          simp only [List.contains_cons, Bool.or_eq_true, beq_iff_eq] at h
          rcases h with h | h
          · have : Q = P := part_of_seq hr hQ hP (congrArg (·.1) h)
            subst this
            exact hxy.mono _ (List.contains_iff_mem.1 (hPS hQs))
          · exact hxy.mono _ (List.contains_iff_mem.1 (hvisS Q hQ h hQs))
        have G := IH f0 rfl sb hsbP (nodeId P P.stmt :: vis)
          { t with merged := t.merged ++ [sb.name ++ ":" ++ P.stmt.arg, mkey s sb] } (Sa ++ [sb.name]) hinv'
          (fun _ => by rw [List.contains_iff_mem]; simp) (onlyMods_cons _ hvis hX hm) hvisS' hnv' hcache' hneedS (by omega)
        generalize toEntry (Ws s R R' opts plug plug').env₁ (f0 + 1) sb [] sb.stmt (nodeId P P.stmt :: vis)
          { t with merged := t.merged ++ [sb.name ++ ":" ++ P.stmt.arg, mkey s sb] } = out at G ⊢
        generalize hq : pp s R R' opts plug (f0 + 1) (Sa ++ [sb.name]) sb.stmt = q at G ⊢
        obtain ⟨esb, tsb⟩ := out
        obtain ⟨pq, Sq⟩ := q
        refine ⟨(closed2_REb s.σ).merge _ _ _ _ hxy.re G.re, G.inv, ?_, ?_, ?_, ?_, ?_, ?_⟩
        · intro n hn
          exact G.mono n (List.mem_append_left _ (hxy.mono n hn))
        · intro p hp
          rcases G.cache p hp with h | h | h
          · exact hxy.cache p h
          · refine Or.inr ⟨sb, hsb, by rw [h], f0 + 1, Sa ++ [sb.name], hinv'.names, by rw [List.contains_iff_mem]; simp,
              by omega, ?_⟩
            rw [h, hq]; exact G.re
          · exact Or.inr h
        · intro p hp
          exact G.grows p (hxy.grows p hp)
        · intro x hx hxq
          rcases G.newc x hx hxq with h | ⟨e', he'⟩
          · rw [List.contains_iff_mem] at h
            rcases List.mem_append.1 h with h | h
            · rcases hxy.newc x hx (List.contains_iff_mem.2 h) with h2 | ⟨e', he'⟩
              · exact Or.inl h2
              · exact Or.inr ⟨e', G.grows _ he'⟩
            · simp only [List.mem_singleton] at h
              have : x = sb := sub_eq_of_name hr hx hsb h
              subst this
              exact Or.inr ⟨esb, G.self⟩
          · exact Or.inr ⟨e', he'⟩
        · have h1 := unstarted_mono (s := s) (S := Sa) (S' := Sq) (fun n hn => G.mono n (List.mem_append_left _ hn))
          dsimp only
          omega
        · dsimp only
          rw [(rootKeep_merge e none esb).2.1, (rootKeep_merge pe none pq).2.1]
          exact hxy.kind
  have keyB := hfold (P.stmt.all "include") (fun a h => h) (eA, tA) (pA, S)
    ⟨hreA, hinvA, fun n h => h, fun p hp => Or.inl (hcaA ▸ hp), fun p hp => (by rw [hcaA]; exact hp),
      fun sb _ h => Or.inl h, hun, hkA⟩
  generalize hB1 : (P.stmt.all "include").foldl (incStep (Ws s R R' opts plug plug').env₁
    (toEntry (Ws s R R' opts plug plug').env₁ f) P P.stmt (nodeId P P.stmt :: vis)) (eA, tA) = B1 at keyB ⊢
  generalize hB2 : (P.stmt.all "include").foldl (pstep s R R' opts plug f) (pA, S) = B2 at keyB ⊢
  obtain ⟨eB, tB⟩ := B1
  obtain ⟨pB, SB⟩ := B2
  -- the steps after the include step
  have keyC := steps tB postFields (fun fld hfld c hc => ⟨fld, post_sub hm fld hfld, hc⟩) no_io_post
    (eB, tB) (pB, {}) ⟨keyB.re, keyB.inv.coh, rfl, rfl⟩ keyB.kind
  obtain ⟨⟨hreC, hcoC, hcaC, hmeC⟩, _⟩ := keyC
  generalize hC1 : postFields.foldl (stepFn (Ws s R R' opts plug plug').env₁ (toEntry (Ws s R R' opts plug plug').env₁ f) P
    P.stmt [P.stmt] (nodeId P P.stmt :: vis) true) (eB, tB) = C1 at hreC hcoC hcaC hmeC ⊢
  obtain ⟨eC, tC⟩ := C1
  dsimp only at hreC hcoC hcaC hmeC
  simp only [if_true]
  have hreF : REb s.σ eC (pfold (envOf R opts plug) (vm s R opts plug) s.m P.stmt postFields (pB, {})).1 := hreC
  have hPSB : P ∈ s.subs → SB.contains P.name = true := fun h =>
    List.contains_iff_mem.2 (keyB.mono _ (List.contains_iff_mem.1 (hPS h)))
  refine ⟨?_, ⟨hcoC, ?_, ?_, ?_, keyB.inv.names⟩, keyB.mono, ?_, ?_, ?_, ?_⟩
  · -- the pairs are projected first: the unifier would evaluate the fold to find a pair
    dsimp only
    exact hreF
  · intro x hx; dsimp only; rw [hmeC]; exact keyB.inv.m1 x hx
  · intro k hk; dsimp only at hk; rw [hmeC] at hk; exact keyB.inv.m2 k hk
  · intro p hp x hx hpx
    dsimp only at hp
    rw [hcaC] at hp
    rcases List.mem_append.1 hp with hp | hp
    · exact keyB.inv.c1 p hp x hx hpx
    · obtain rfl := List.mem_singleton.1 hp
      have : P = x := part_of_seq hr hP (List.mem_cons_of_mem _ hx) hpx
      subst this
      exact List.contains_iff_mem.1 (hPSB hx)
  · intro p hp
    dsimp only at hp
    rw [hcaC] at hp
    rcases List.mem_append.1 hp with hp | hp
    · rcases keyB.cache p hp with h | h
      · exact Or.inl h
      · exact Or.inr (Or.inr h)
    · simp only [List.mem_singleton] at hp
      exact Or.inr (Or.inl hp)
  · intro p hp
    dsimp only
    rw [hcaC]
    exact List.mem_append_left _ (keyB.grows p hp)
  · dsimp only
    rw [hcaC]
    exact List.mem_append_right _ (List.mem_singleton.2 rfl)
  · intro x hx hxs
    rcases keyB.newc x hx hxs with h | ⟨e', he'⟩
    · exact Or.inl h
    · refine Or.inr ⟨e', ?_⟩
      dsimp only
      rw [hcaC]
      exact List.mem_append_left _ he'


include ht hr hl hW in
/-- **The conversion of a part of a split with nested includes computes the pure mirror.** -/
theorem part_conv : ∀ f, PStmt s R R' opts plug plug' f := by
  intro f
  induction f with
  | zero => exact part_conv_aux opts plug plug' ht hr hl hW 0 (fun f₀ h => by omega)
  | succ f ih =>
    refine part_conv_aux opts plug plug' ht hr hl hW (f + 1) (fun f₀ h => ?_)
    have : f₀ = f := by omega
    subst this
    exact ih

end Part

end Goyang.Lemmas.IncludeModN
