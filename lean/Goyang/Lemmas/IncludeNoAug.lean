import Goyang.Lemmas.ListAux
import Goyang.Lemmas.RegistryAux
import Goyang.Lemmas.Tree
import Goyang.Lemmas.Fuel
import Goyang.Spec.Include
/-
What `processAll` computes when no loaded module has an `augment` or a `deviation` statement
(`Spec.Include.NoAugDev`): the forest of the conversion stage with `fixChoice` applied to every
tree, and no errors beyond those of the first two stages.
-/
set_option linter.unusedVariables false
set_option linter.unusedSimpArgs false
namespace Goyang.Lemmas.IncludeNoAug
open Goyang.Model Goyang.Lemmas.Tree Goyang.Spec.Include

/-! ### `toEntry` records no augments -/

/-- A (sub)module statement without `augment` substatements (anything else is fine). -/
def Good (n : Stmt) : Prop := (n.kw == "module" || n.kw == "submodule") = true → n.all "augment" = []

/-- Every recorded augment list is empty. -/
def AugNil (st : TState) : Prop := ∀ p ∈ st.augs, p.2 = []

theorem good_of_kw {c : Stmt} {kw : String} (h : c.kw = kw) (hkw : kw ≠ "module" ∧ kw ≠ "submodule") : Good c := by
  intro hm
  rw [h] at hm
  simp [hkw.1, hkw.2] at hm

def nilFrame : Bridge.Frame := { PE := fun _ => True, PR := fun p => p.2 = [] }

/-- "Every row of recorded augments is empty" is closed under the operations of `toEntry`, at call sites
with a `Good` statement: nothing is asked of the entries; a row is filed by a (sub)module statement only,
one entry per `augment` substatement. -/
theorem closure_nil {env : Env} (hreg : ∀ x ∈ env.reg.mods, x.stmt.all "augment" = []) :
    Traverse.Closure env nilFrame (fun _ _ n => Good n) (fun _ _ => True) where
  nmRefl := fun _ => trivial
  siteAll := fun _ _ n kw c _ hk hc => good_of_kw (mem_all_kw n kw c hc) hk
  siteOne := fun _ _ n kw c _ hk hc => good_of_kw (one?_kw n kw c hc) hk
  siteUses := fun _ _ _ _ _ _ _ _ hfg => good_of_kw (Goyang.Lemmas.Fuel.findGrouping_sound hfg).1 (by decide)
  siteInclude := fun _ im _ h _ => hreg im (Goyang.Lemmas.Fuel.includeTarget_mem h)
  withD := by intros; trivial
  addErrs := by intros; trivial
  addErr := by intros; trivial
  importErrors := by intros; trivial
  add := by intros; trivial
  rpcFlag := by intros; trivial
  merge := by intros; trivial
  setInp := by intros; trivial
  setOut := by intros; trivial
  typeSet := by intros; trivial
  laSet := by intros; trivial
  base0 := by intros; trivial
  errE := by intros; trivial
  leafE := by intros; trivial
  leafL := by intros; trivial
  row := fun _ _ n as hs hm _ hmap _ _ => by
    rw [hs hm] at hmap
    exact List.map_eq_nil_iff.1 hmap
  pc := by intros; trivial
  pxCache := by intros; trivial
  pxTriv := by intros; trivial
  pxErr := by intros; trivial

/-! ### the members of the key order are loaded modules -/

theorem mem_keyOrder {reg : Registry} {m : Mod} (h : m ∈ keyOrder reg) : m ∈ reg.mods := by
  unfold keyOrder at h
  simp only [List.mem_append, List.mem_filterMap] at h
  rcases h with ⟨kv, _, hkv⟩ | ⟨kv, _, hkv⟩ <;> exact RegistryAux.byId_mem hkv

/-! ### the conversion stage records no augments -/

theorem tstate_nil (reg : Registry) (opts : Opts) (plug : Plug) (h : NoAugDev reg) : AugNil (tstate reg opts plug) := by
  have inv := Traverse.toEntry_inv (closure_nil (env := envOf reg opts plug) fun x hx => (h x hx).1) (fun _ => trivial)
    (fun _ _ _ _ _ _ _ _ _ _ _ _ => trivial) (entryFuel reg)
  unfold tstate
  refine (ListAux.foldl_inv (Bridge.StOKT nilFrame []) _ _ _ ⟨stOK_empty _ _, fun _ hp => (by cases hp), fun _ hp => (by cases hp)⟩ ?_).rows
  intro st m hm hst
  exact (inv m [] m.stmt [] st [] (fun _ => (h m (mem_keyOrder hm)).1) hst).2.1

/-! ### the augment stage with nothing pending -/

/-- Every pending list is empty. -/
def PNil (s : PState) : Prop := ∀ p ∈ s.pending, p.2 = []

theorem pendingOf_nil (s : PState) (h : PNil s) (id : Nat) : s.pendingOf id = [] := by
  unfold PState.pendingOf
  cases hf : s.pending.find? (·.1 == id) with
  | none => rfl
  | some q => exact h q (List.mem_of_find?_eq_some hf)

theorem setPending_nil (s : PState) (h : PNil s) (id : Nat) : s.setPending id [] = s := by
  unfold PState.setPending
  have : (s.pending.map fun (p : Nat × List Entry) => match p with | (i, p) => if (i == id) = true then (i, []) else (i, p))
      = s.pending := by
    conv => rhs; rw [← List.map_id s.pending]
    apply List.map_congr_left
    rintro ⟨i, p⟩ hp
    have hp' : p = [] := h (i, p) hp
    subst hp'
    simp
  rw [this]

theorem augmentTree_nil (reg : Registry) (id : Nat) (b : Bool) (s : PState) (h : PNil s) :
    augmentTree reg id b s = (s, 0, 0) := by
  rw [augmentTree_eq, pendingOf_nil s h id]
  simp only [List.foldl_nil]
  rw [setPending_nil s h id]

theorem augmentPass_nil (reg : Registry) : ∀ (fuel : Nat) (mods : Array Nat) (i processed : Nat) (s : PState), PNil s →
    (augmentPass reg fuel mods i processed s).2 = (processed, s) := by
  intro fuel
  induction fuel with
  | zero => intro mods i processed s _; rfl
  | succ fuel ih =>
    intro mods i processed s h
    unfold augmentPass
    split
    · rename_i hi
      rw [augmentTree_nil reg _ false s h]
      simp only [beq_self_eq_true, if_true, Nat.add_zero]
      exact ih _ _ _ _ h
    · rfl

theorem augmentLoop_nil (reg : Registry) : ∀ (fuel : Nat) (mods : Array Nat) (s : PState), PNil s →
    (augmentLoop reg fuel mods s).2 = s := by
  intro fuel
  induction fuel with
  | zero => intro mods s _; rfl
  | succ fuel ih =>
    intro mods s h
    unfold augmentLoop
    split
    · rfl
    · have hp := augmentPass_nil reg (mods.size + 1) mods 0 0 s h
      generalize augmentPass reg (mods.size + 1) mods 0 0 s = X at hp ⊢
      obtain ⟨mods', processed, s'⟩ := X
      simp only [Prod.mk.injEq] at hp
      obtain ⟨rfl, rfl⟩ := hp
      simp

theorem loopCount_nil (reg : Registry) (fuel : Nat) (mods : Array Nat) (s : PState) (h : PNil s) :
    Rounds.loopCount reg fuel mods s = 0 :=
  (Rounds.loopCount_eq_zero reg fuel mods s).mpr
    (Or.inr (Or.inr (by rw [augmentPass_nil reg (mods.size + 1) mods 0 0 s h])))

/-- With nothing pending the retry rounds stop after the first (empty) loop. -/
theorem leftoverRounds_nil (reg : Registry) (fuel n : Nat) (mods : Array Nat) (s : PState) (h : PNil s) :
    (leftoverRounds reg fuel n mods s).2 = s := by
  cases n with
  | zero => rfl
  | succ n =>
    rw [Rounds.leftoverRounds_succ, if_pos (loopCount_nil reg fuel mods s h)]
    exact augmentLoop_nil reg fuel mods s h

/-! ### the stages of `processAll` -/

section Stages
variable (reg : Registry) (opts : Opts) (plug : Plug)

theorem pstate0_nil (h : NoAugDev reg) : PNil (pstate0 reg opts plug) := by
  intro p hp
  simp only [pstate0, pending0, List.mem_map] at hp
  obtain ⟨m, _, rfl⟩ := hp
  dsimp only
  cases hf : (tstate reg opts plug).augs.find? (·.1 == m.seq) with
  | none => rfl
  | some q => exact tstate_nil reg opts plug h q (List.mem_of_find?_eq_some hf)

theorem fixAll_nil (s : PState) (h : PNil s) : PNil (fixAll s) := h

theorem afterLoop_nil (h : NoAugDev reg) : (afterLoop reg opts plug).2 = pstate0 reg opts plug :=
  augmentLoop_nil reg _ _ _ (pstate0_nil reg opts plug h)

theorem afterRounds_nil (h : NoAugDev reg) : (afterRounds reg opts plug).2 = fixAll (pstate0 reg opts plug) := by
  unfold afterRounds
  rw [afterLoop_nil reg opts plug h]
  exact leftoverRounds_nil reg _ _ _ _ (fixAll_nil _ (pstate0_nil reg opts plug h))

theorem leftoverPass_nil (h : NoAugDev reg) : leftoverPass reg opts plug = (fixAll (pstate0 reg opts plug), 0) := by
  unfold leftoverPass
  rw [afterRounds_nil reg opts plug h, ← Array.foldl_toList]
  refine ListAux.foldl_inv (fun acc : PState × Nat => acc = (fixAll (pstate0 reg opts plug), 0)) _ _ _ rfl ?_
  rintro acc id _ rfl
  dsimp only
  rw [augmentTree_nil reg id true _ (fixAll_nil _ (pstate0_nil reg opts plug h))]
  rfl

/-- Without augments the state before the deviations is the conversion result with `fixChoice`
applied to every tree. -/
theorem preDev_nil (h : NoAugDev reg) : preDev reg opts plug = fixAll (pstate0 reg opts plug) := by
  unfold preDev
  rw [leftoverPass_nil reg opts plug h]
  simp

theorem devStage_nil (h : NoAugDev reg) (f0 : Forest) :
    (devStage reg opts plug f0).1 = f0 ∧ (devStage reg opts plug f0).2.1 = [] := by
  unfold devStage
  refine ListAux.foldl_inv (fun acc : Forest × List Err × List String => acc.1 = f0 ∧ acc.2.1 = []) _ _ _ ⟨rfl, rfl⟩ ?_
  rintro ⟨f, errs, done⟩ m hm ⟨hf, he⟩
  dsimp only at hf he ⊢
  subst hf he
  split
  · exact ⟨rfl, rfl⟩
  · rw [(h m (mem_keyOrder hm)).2]
    exact ⟨rfl, rfl⟩

theorem forestErrs_fixAll (s : PState) (h : forestErrs s.forest = []) : forestErrs (fixAll s).forest = [] := by
  rw [forestErrs_eq_nil] at h ⊢
  intro t ht
  simp only [fixAll, List.mem_map] at ht
  obtain ⟨⟨i, e⟩, hie, rfl⟩ := ht
  exact (noErrors_fixChoice e).2 (h (i, e) hie)

theorem canonErrs_nil : canonErrs [] = [] := by
  simp [canonErrs, sortBy]

theorem isEmpty_false_of_ne_nil {α} (l : List α) (h : l ≠ []) : (!l.isEmpty) = true := by
  cases l with
  | nil => exact absurd rfl h
  | cons a t => rfl

/-- The first stage (linking, identities, typedefs) failed: its errors are the result. -/
theorem processAll_stage1 (h1 : stage1Errs reg plug ≠ []) :
    (processAll reg opts plug).errors = canonErrs (stage1Errs reg plug) := by
  rw [processAll_eq, if_pos (isEmpty_false_of_ne_nil _ h1)]

/-- The conversion stage failed: its errors are the result. -/
theorem processAll_stage2 (h1 : stage1Errs reg plug = []) (h2 : forestErrs (forest0 reg opts plug) ≠ []) :
    (processAll reg opts plug).errors = canonErrs (forestErrs (forest0 reg opts plug)) := by
  rw [processAll_eq, h1, if_pos (isEmpty_false_of_ne_nil _ h2)]
  rfl

/-- A clean result: the first two stages were clean (every registry). -/
theorem processAll_clean_stages (h : (processAll reg opts plug).errors = []) :
    stage1Errs reg plug = [] ∧ forestErrs (forest0 reg opts plug) = [] :=
  let ⟨a, b, _⟩ := processAll_clean reg opts plug h
  ⟨a, b⟩

/-- **No augment, no deviation**: when the first two stages are clean, `processAll` reports no
error and answers the forest of the conversion stage with `fixChoice` applied to every tree. -/
theorem processAll_noAugDev (h : NoAugDev reg)
    (h1 : stage1Errs reg plug = []) (h2 : forestErrs (forest0 reg opts plug) = []) :
    (processAll reg opts plug).errors = [] ∧
    (processAll reg opts plug).forest =
      { trees := (forest0 reg opts plug).trees.map fun (p : Nat × Entry) => (p.1, fixChoice p.2) } := by
  have hd := devStage_nil reg opts plug h (preDev reg opts plug).forest
  have hp := preDev_nil reg opts plug h
  have he : forestErrs (preDev reg opts plug).forest = [] := by
    rw [hp]; exact forestErrs_fixAll _ h2
  rw [processAll_eq]
  simp only [h1, h2, List.isEmpty_nil, Bool.not_true, Bool.false_eq_true, if_false]
  refine ⟨?_, ?_⟩
  · rw [hd.2, he]; exact canonErrs_nil
  · rw [hd.1, hp]; rfl

/-- Under `NoAugDev` the result is clean exactly when the first two stages are. -/
theorem processAll_noAugDev_clean_iff (h : NoAugDev reg) :
    (processAll reg opts plug).errors = [] ↔
      stage1Errs reg plug = [] ∧ forestErrs (forest0 reg opts plug) = [] :=
  ⟨processAll_clean_stages reg opts plug, fun ⟨h1, h2⟩ => (processAll_noAugDev reg opts plug h h1 h2).1⟩

end Stages

end Goyang.Lemmas.IncludeNoAug
