import Goyang.Lemmas.IncludeRun
import Goyang.Lemmas.IncludeVisibleN
import Goyang.Lemmas.IncludeLinkN
import Goyang.Props.C06
/-
C13 (third sentence), part 3b: the two instances of `World` — the unsplit registry against itself,
and the split registry against the unsplit one — and that they are `OK`.
-/
namespace Goyang.Lemmas.IncludeWorld
open Goyang.Model Goyang.Spec.Include Goyang.Spec.Uses Goyang.Lemmas.Tree Goyang.Spec.Tree Goyang.Lemmas.IncludeRel
open Goyang.Lemmas.IncludePure Goyang.Lemmas.IncludeRun

/-- The grouping lookup of a registry as a function of the place: the specification of C06. -/
def lkOf (R : Registry) (L : List Nat) : Lookup := fun r s a => bindGrouping R L r s.dropLast a

theorem lkOf_concat (R : Registry) (L : List Nat) (r : Mod) (inner : List Stmt) (x : Stmt) (a : String) :
    lkOf R L r (inner ++ [x]) a = bindGrouping R L r inner a := by
  unfold lkOf; rw [List.dropLast_concat]

/-- What a lookup answers is a grouping statement. -/
theorem bindGrouping_kw {R : Registry} {L : List Nat} {root : Mod} {inner : List Stmt} {name : String} {r : GroupingRef}
    (h : bindGrouping R L root inner name = some r) : r.1.kw = "grouping" := by
  cases hb : isBare (localName root name) with
  | true =>
    rcases Props.C06.binding_is_nearest R L root inner name r hb h with ⟨_, n, _, _, hd, _⟩ | ⟨_, s, _, hd, _⟩
    · exact (Lemmas.Uses.declares_spec hd).1
    · exact (Lemmas.Uses.declares_spec hd).1
  | false =>
    obtain ⟨i, _, x, _, _, _, hd⟩ := Props.C06.foreign_scope_is_definers R L root inner name r hb h
    exact (Lemmas.Uses.declares_spec hd).1

theorem lkOf_kw (R : Registry) (L : List Nat) : ∀ r s a g gr gs, lkOf R L r s a = some (g, gr, gs) → isModKw g = false := by
  intro r s a g gr gs h
  have := bindGrouping_kw h
  dsimp only at this
  unfold isModKw; rw [this]; decide

/-- The slack is there: the model's fuel exceeds the proved need by the number of statements + 66. -/
theorem slack_le (R : Registry) : lookupSlack R ≤ entryFuel R - Fuel.entryNeed R := by
  have h1 := Fuel.entryNeed_le_quadratic R
  have h2 := Fuel.entryFuel_eq R
  have h3 : lookupSlack R = Fuel.totalStmts R + 66 := rfl
  have h4 : (Fuel.totalStmts R + 2) * (Fuel.totalStmts R + 2) =
      (Fuel.totalStmts R + 1) * (Fuel.totalStmts R + 2) + (Fuel.totalStmts R + 2) := by
    rw [Nat.succ_mul]
  omega

theorem chain_split {top u : Stmt} : ∀ (s : List Stmt), Chain top (u :: s) → (s = [] ∧ u = top) ∨ ∃ inner, s = inner ++ [top]
  | [], h => Or.inl ⟨rfl, h⟩
  | p :: rest, h => by
    rcases chain_split rest h.2 with ⟨h1, h2⟩ | ⟨inner, h1⟩
    · exact Or.inr ⟨[], by rw [h1, h2]; rfl⟩
    · exact Or.inr ⟨p :: inner, by rw [h1]; rfl⟩

theorem maxSubs_eq (l : List Stmt) : Spec.Include.maxSubs l = Lemmas.Uses.maxSubs l := by
  induction l with
  | nil => rfl
  | cons a l ih => simp [Spec.Include.maxSubs, Lemmas.Uses.maxSubs, ih]

/-- The model's lookup with the fuel `toEntry` gives it is the specification's binding. -/
theorem lookup_is_bind (R : Registry) (L : List Nat) (hrefs : RefsWF R) (hfuel : LookupFuelOK R)
    (r : Mod) (hr : r ∈ R.mods) (u : Stmt) (inner : List Stmt) (hch : Chain r.stmt (u :: inner ++ [r.stmt]))
    (hu : u.kw = "uses") (f : Nat) (hf : lookupSlack R ≤ f) :
    (findGrouping R L (2 * f + 16) r (inner ++ [r.stmt]) u.arg []).1 = bindGrouping R L r inner u.arg := by
  obtain ⟨hinner, hwf⟩ := hrefs r hr u inner hch
  refine Props.C06.uses_binds R L r inner u.arg _ hinner (hwf hu) ?_
  have := hfuel r hr u inner hch
  unfold Lemmas.Uses.bindFuel Lemmas.Uses.width
  rw [← maxSubs_eq]
  omega


/-! ### the unsplit registry against itself -/

section Unsplit
variable (R : Registry) (opts : Opts) (plug : Plug)

/-- The unsplit world: what the unsplit conversion computes is the value. -/
def Wu : World where
  env₁ := envOf R opts plug
  env₂ := envOf R opts plug
  lk₂ := lkOf R (linkAll R).1
  σ := id
  CR := fun r₁ s₁ r₂ s₂ => r₁ = r₂ ∧ s₁ = s₂
  slack := lookupSlack R

theorem Wu_ok (hpos : PosWF R) (hrefs : RefsWF R) (hfuel : LookupFuelOK R) (hkw : ∀ x ∈ R.mods, x.stmt.kw ≠ "uses") :
    (Wu R opts plug).OK := by
  -- the fields of `Wu` are computed first: left to the unifier, it unfolds `lkOf`, `bindGrouping`, … instead
  unfold Wu
  constructor <;> dsimp only
  case cr_seq =>
    rintro r₁ s₁ r₂ s₂ ⟨rfl, rfl⟩; rfl
  case cr_child =>
    rintro r₁ s₁ r₂ s₂ n ⟨rfl, rfl⟩; exact ⟨rfl, rfl⟩
  case cr_fun =>
    rintro r₁ s₁ r₂ s₂ r₂' s₂' ⟨rfl, rfl⟩ ⟨rfl, rfl⟩; exact ⟨rfl, rfl⟩
  case cr_types =>
    rintro r₁ s₁ r₂ s₂ ⟨rfl, rfl⟩ t; rfl
  case lookup =>
    rintro r₁ s₁ r₂ s₂ u f ⟨rfl, rfl⟩ hwf hu hf
    rcases chain_split s₁ hwf.2 with ⟨_, h2⟩ | ⟨inner, rfl⟩
    · exact absurd (h2 ▸ hu) (hkw r₁ hwf.1)
    · refine World.lookup_intro (lookup_is_bind R (linkAll R).1 hrefs hfuel r₁ hwf.1 u inner hwf.2 hu f hf)
        (lkOf_concat R _ r₁ inner r₁.stmt u.arg) ?_
      cases bindGrouping R (linkAll R).1 r₁ inner u.arg with
      | none => exact Or.inl ⟨rfl, rfl⟩
      | some q => exact Or.inr ⟨_, _, _, _, _, rfl, rfl, rfl, rfl⟩
  case lk_kw => exact lkOf_kw R _
  case pos => exact hpos

end Unsplit

/-! ### the split registry against the unsplit one -/

section SplitW
variable (s : Split) (R R' : Registry) (opts : Opts) (plug plug' : Plug)

def Ws : World where
  env₁ := envOf R' opts plug'
  env₂ := envOf R opts plug
  lk₂ := lkOf R (linkAll R).1
  σ := s.σ
  CR := CtxRel s R
  slack := lookupSlack R'

variable {s R R'}

theorem isSubSeq_of_mem (hr : RegsOK s R R') {x : Mod} (hx : x ∈ R.mods) : s.isSubSeq x.seq = false := by
  unfold Split.isSubSeq
  rw [Bool.eq_false_iff]
  intro h
  obtain ⟨sb, hsb, he⟩ := List.any_eq_true.1 h
  exact hr.sub_seqs_fresh sb hsb x hx (by simpa using he)

theorem σ_of_mem (hr : RegsOK s R R') {x : Mod} (hx : x ∈ R.mods) : s.σ x.seq = x.seq := by
  unfold Split.σ; rw [isSubSeq_of_mem hr hx]; rfl

theorem σ_sub (sb : Mod) (hsb : sb ∈ s.subs) : s.σ sb.seq = s.m.seq := by
  unfold Split.σ
  have : s.isSubSeq sb.seq = true := by
    unfold Split.isSubSeq
    exact List.any_eq_true.2 ⟨sb, hsb, by simp⟩
  rw [this]; rfl

theorem σ_part (hr : RegsOK s R R') {P : Mod} (hP : P ∈ s.parts) : s.σ P.seq = s.m.seq := by
  rcases List.mem_cons.1 hP with rfl | hP
  · rw [hr.owner_seq]; exact σ_of_mem hr hr.m_mem
  · exact σ_sub P hP

theorem part_not_other (hr : RegsOK s R R') {P : Mod} (hP : P ∈ s.parts) (hx : P ∈ R.mods) (hne : P.seq ≠ s.m.seq) : False := by
  rcases List.mem_cons.1 hP with rfl | hP
  · exact hne hr.owner_seq
  · exact hr.sub_seqs_fresh P hP P hx rfl

theorem part_mem' (hr : RegsOK s R R') {P : Mod} (hP : P ∈ s.parts) : P ∈ R'.mods :=
  IncludeLinkN.part_mem hr hP

theorem other_mem' (hr : RegsOK s R R') {x : Mod} (hx : x ∈ R.mods) (hne : x.seq ≠ s.m.seq) : x ∈ R'.mods := by
  have := IncludeLink.repl_mem hr hx
  rwa [IncludeLink.repl_of_ne hne] at this

theorem Ws_ok (ht : TextOK s) (hr : RegsOK s R R') (hl : LinkOK s R (linkAll R).1 (linkAll R').1)
    (hv : Visible s R' (linkAll R').1) (hp : PlugSplitOK s R R' plug plug') (hpos : PosWF R') (hrefs : RefsWF R')
    (hfuel : LookupFuelOK R') : (Ws s R R' opts plug plug').OK := by
  unfold Ws
  constructor <;> dsimp only
  case cr_seq =>
    rintro r₁ s₁ r₂ s₂ (⟨hP, rfl, _⟩ | ⟨hx, _, rfl, _⟩)
    · exact σ_part hr hP
    · exact σ_of_mem hr hx
  case cr_child =>
    rintro r₁ s₁ r₂ s₂ n (⟨hP, rfl, inner, h1, h2⟩ | ⟨hx, hne, rfl, rfl⟩)
    · exact Or.inl ⟨hP, rfl, n :: inner, by rw [h1]; rfl, by rw [h2]; rfl⟩
    · exact Or.inr ⟨hx, hne, rfl, rfl⟩
  case cr_fun =>
    rintro r₁ s₁ r₂ s₂ r₂' s₂' (⟨hP, rfl, inner, h1, h2⟩ | ⟨hx, hne, rfl, rfl⟩) (⟨hP', rfl, inner', h1', h2'⟩ | ⟨hx', hne', rfl, rfl⟩)
    · rw [h1] at h1'
      have := List.append_cancel_right h1'
      subst this
      exact ⟨rfl, by rw [h2, h2']⟩
    · exact (part_not_other hr hP hx' hne').elim
    · exact (part_not_other hr hP' hx hne).elim
    · exact ⟨rfl, rfl⟩
  case cr_types =>
    rintro r₁ s₁ r₂ s₂ (⟨hP, rfl, inner, rfl, rfl⟩ | ⟨hx, hne, rfl, rfl⟩) t
    · exact hp.types_part r₁ hP inner t
    · exact hp.types_other r₂ hx hne _ t
  case lookup =>
    rintro r₁ s₁ r₂ s₂ u f hcr hwf hu hf
    rcases hcr with ⟨hP, rfl, inner, rfl, rfl⟩ | ⟨hx, hne, rfl, rfl⟩
    · exact World.lookup_intro (lookup_is_bind R' (linkAll R').1 hrefs hfuel r₁ hwf.1 u inner hwf.2 hu f hf)
        (lkOf_concat R _ s.m inner s.m.stmt u.arg)
        (IncludeVisibleN.bind_partN s R R' _ _ ht hr hl hv r₁ hP inner u.arg).cases
    · rcases chain_split s₂ hwf.2 with ⟨_, h2⟩ | ⟨inner, rfl⟩
      · have := (hr.R_modules_only r₂ hx).1
        rw [← h2, hu] at this
        exact absurd this (by decide)
      · exact World.lookup_intro (lookup_is_bind R' (linkAll R').1 hrefs hfuel r₂ hwf.1 u inner hwf.2 hu f hf)
          (lkOf_concat R _ r₂ inner r₂.stmt u.arg)
          (IncludeVisibleN.bind_otherN s R R' _ _ ht hr hl hv r₂ hx hne inner u.arg).cases
  case lk_kw => exact lkOf_kw R _
  case pos => exact hpos

end SplitW

end Goyang.Lemmas.IncludeWorld
