import Goyang.Model.Indent
import Goyang.Spec.Indent
/-
Helper lemmas for C20: the split/join algorithm of the model refines the byte-level
specification (`tagged` / `render`), and the counting loop `written` counts caller bytes.
Core Lean only.
-/
namespace Goyang.Lemmas.Indent
open Goyang.Model.Indent
open Goyang.Spec.Indent (cutState tagged render callerBytesIn atStartAfter history pending accepted finalState)

theorem specNL : Goyang.Spec.Indent.NL = NL := rfl

/-! ### `lines`, recursively -/

theorem splitAfter_ne_nil (s : Bytes) : splitAfter s ≠ [] := by
  cases s with
  | nil => simp [splitAfter]
  | cons b r =>
    simp only [splitAfter]
    split
    · simp
    · split <;> simp

theorem dropEmptyLast_cons (x : Bytes) {l : List Bytes} (h : l ≠ []) :
    dropEmptyLast (x :: l) = x :: dropEmptyLast l := by
  obtain ⟨y, t, rfl⟩ := List.exists_cons_of_ne_nil h
  simp only [dropEmptyLast, List.getLast?_cons_cons, List.dropLast_cons_cons]
  split <;> simp_all

theorem lines_nil : lines [] = [] := by
  simp [lines, splitAfter, dropEmptyLast]

theorem lines_NL (r : Bytes) : lines (NL :: r) = [NL] :: lines r := by
  simp only [lines, splitAfter, if_true]
  exact dropEmptyLast_cons _ (splitAfter_ne_nil r)

theorem lines_cons {b : UInt8} (hb : b ≠ NL) (r : Bytes) :
    lines (b :: r) = match lines r with
      | [] => [[b]]
      | h :: t => (b :: h) :: t := by
  simp only [lines, splitAfter, if_neg hb]
  have hne := splitAfter_ne_nil r
  cases hs : splitAfter r with
  | nil => exact absurd hs hne
  | cons h t =>
    cases t with
    | nil =>
      cases h with
      | nil => simp [dropEmptyLast]
      | cons c h' => simp [dropEmptyLast]
    | cons y t' =>
      rw [dropEmptyLast_cons (b :: h) (l := y :: t') (by simp),
        dropEmptyLast_cons h (l := y :: t') (by simp)]

theorem lines_ne_nil {s : Bytes} (h : s ≠ []) : lines s ≠ [] := by
  obtain ⟨b, r, rfl⟩ := List.exists_cons_of_ne_nil h
  by_cases hb : b = NL
  · subst hb; rw [lines_NL]; simp
  · rw [lines_cons hb]; split <;> simp

/-! ### the join, with every byte tagged -/

/-- A line of caller bytes, tagged. -/
def tl (l : Bytes) : List (UInt8 × Bool) := l.map (·, true)
/-- The prefix, tagged. -/
def tp (pre : Bytes) : List (UInt8 × Bool) := pre.map (·, false)
/-- Every line preceded by the prefix. -/
def pjoin (pre : Bytes) (ls : List Bytes) : List (UInt8 × Bool) := ls.flatMap (fun l => tp pre ++ tl l)
/-- `join`, tagged: every line but the first preceded by the prefix. -/
def tjoin (pre : Bytes) : List Bytes → List (UInt8 × Bool)
  | [] => []
  | x :: rest => tl x ++ pjoin pre rest

@[simp] theorem tl_nil : tl [] = [] := rfl
@[simp] theorem tl_cons (b : UInt8) (l : Bytes) : tl (b :: l) = (b, true) :: tl l := rfl
@[simp] theorem tl_length (l : Bytes) : (tl l).length = l.length := by simp [tl]
@[simp] theorem tp_length (l : Bytes) : (tp l).length = l.length := by simp [tp]
@[simp] theorem map_fst_tl (l : Bytes) : (tl l).map (·.1) = l := by simp [tl, Function.comp_def]
@[simp] theorem map_fst_tp (l : Bytes) : (tp l).map (·.1) = l := by simp [tp, Function.comp_def]
@[simp] theorem pjoin_nil (pre : Bytes) : pjoin pre [] = [] := rfl
@[simp] theorem pjoin_cons (pre x : Bytes) (rest : List Bytes) :
    pjoin pre (x :: rest) = tp pre ++ (tl x ++ pjoin pre rest) := by
  simp [pjoin, List.append_assoc]

section
variable (pre : Bytes)

theorem pjoin_eq {ls : List Bytes} (h : ls ≠ []) : pjoin pre ls = tp pre ++ tjoin pre ls := by
  obtain ⟨x, rest, rfl⟩ := List.exists_cons_of_ne_nil h
  simp [tjoin]

theorem join_cons (sep x : Bytes) (rest : List Bytes) :
    join sep (x :: rest) = x ++ rest.flatMap (sep ++ ·) := by
  induction rest generalizing x with
  | nil => simp [join]
  | cons y r ih => simp [join, ih, List.append_assoc]

theorem map_fst_pjoin (ls : List Bytes) :
    (pjoin pre ls).map (·.1) = ls.flatMap (pre ++ ·) := by
  induction ls with
  | nil => simp
  | cons x r ih => simp [ih]

theorem join_eq_tjoin (ls : List Bytes) : join pre ls = (tjoin pre ls).map (·.1) := by
  cases ls with
  | nil => simp [join, tjoin]
  | cons x rest => simp [join_cons, tjoin, map_fst_pjoin]

/-! ### the specification's `tagged` -/

theorem tagged_true {pre : Bytes} {s : Bytes} (h : s ≠ []) :
    tagged pre true s = tp pre ++ tagged pre false s := by
  obtain ⟨b, r, rfl⟩ := List.exists_cons_of_ne_nil h
  simp [tagged, tp]

/-- The split-and-join of the Go code puts the prefix exactly in front of every byte that follows
a line feed. -/
theorem tjoin_lines (s : Bytes) : tjoin pre (lines s) = tagged pre false s := by
  induction s with
  | nil => simp [lines_nil, tjoin, tagged]
  | cons b r ih =>
    by_cases hb : b = NL
    · subst hb
      rw [lines_NL]
      simp only [tjoin, tagged, specNL, beq_self_eq_true]
      by_cases hr : r = []
      · subst hr; simp [lines_nil, tagged]
      · rw [pjoin_eq pre (lines_ne_nil hr), ih, tagged_true hr]; simp
    · rw [lines_cons hb]
      have hb' : (b == NL) = false := by simpa using hb
      simp only [tagged, specNL, hb']
      rw [← ih]
      cases lines r with
      | nil => simp [tjoin]
      | cons h t => simp [tjoin]

theorem tjoin_nil_lines {s : Bytes} (h : s ≠ []) :
    tjoin pre ([] :: lines s) = tagged pre true s := by
  simp only [tjoin, tl_nil, List.nil_append]
  rw [pjoin_eq pre (lines_ne_nil h), tjoin_lines, tagged_true h]

/-- What `Write` hands down, tagged. -/
theorem tjoin_write (p : Bool) {s : Bytes} (h : s ≠ []) :
    tjoin pre (if p then lines s else [] :: lines s) = tagged pre (!p) s := by
  cases p with
  | true => simp [tjoin_lines]
  | false => simp [tjoin_nil_lines pre h]

theorem join_write (p : Bool) {s : Bytes} (h : s ≠ []) :
    join pre (if p then lines s else [] :: lines s) = render pre (!p) s := by
  rw [join_eq_tjoin, tjoin_write pre p h]; rfl

theorem render_nil (a : Bool) : render pre a [] = [] := by simp [render, tagged]

theorem render_cons (a : Bool) (b : UInt8) (r : Bytes) :
    render pre a (b :: r) = (if a then pre else []) ++ b :: render pre (b == NL) r := by
  cases a <;> simp [render, tagged, specNL, Function.comp_def]

end

theorem render_empty_prefix (a : Bool) (s : Bytes) : render [] a s = s := by
  induction s generalizing a with
  | nil => simp [render_nil]
  | cons b r ih => simp [render_cons, ih]

section
variable (pre : Bytes)

theorem getLast?_some {s : Bytes} (h : s ≠ []) : ∃ b, s.getLast? = some b :=
  ⟨_, List.getLast?_eq_some_getLast h⟩

theorem atStartAfter_cons (a : Bool) (b : UInt8) (r : Bytes) :
    atStartAfter a (b :: r) = atStartAfter (b == NL) r := by
  cases r with
  | nil => simp [atStartAfter, specNL]
  | cons c r' =>
    obtain ⟨x, hx⟩ := getLast?_some (s := c :: r') (by simp)
    simp [atStartAfter, List.getLast?_cons_cons, hx]

theorem atStartAfter_ne_nil {s : Bytes} (h : s ≠ []) (a a' : Bool) : atStartAfter a s = atStartAfter a' s := by
  obtain ⟨b, r, rfl⟩ := List.exists_cons_of_ne_nil h
  simp [atStartAfter_cons]

theorem atStartAfter_append (a : Bool) (s t : Bytes) :
    atStartAfter a (s ++ t) = atStartAfter (atStartAfter a s) t := by
  induction s generalizing a with
  | nil => simp [atStartAfter]
  | cons b r ih => simp only [List.cons_append, atStartAfter_cons, ih]

theorem tagged_append (a : Bool) (s t : Bytes) :
    tagged pre a (s ++ t) = tagged pre a s ++ tagged pre (atStartAfter a s) t := by
  induction s generalizing a with
  | nil => simp [tagged, atStartAfter]
  | cons b r ih =>
    simp only [List.cons_append, tagged, ih, atStartAfter_cons, specNL, List.append_assoc,
      List.cons_append]

theorem render_append (a : Bool) (s t : Bytes) :
    render pre a (s ++ t) = render pre a s ++ render pre (atStartAfter a s) t := by
  simp [render, tagged_append]

/-- The rendering ends with the last byte of the text: nothing follows the final line break. -/
theorem render_getLast? (a : Bool) {s : Bytes} (h : s ≠ []) :
    (render pre a s).getLast? = s.getLast? := by
  induction s generalizing a with
  | nil => exact absurd rfl h
  | cons b r ih =>
    rw [render_cons]
    cases r with
    | nil => simp [render_nil]
    | cons c r' =>
      have h1 := ih (b == NL) (by simp)
      rw [List.getLast?_append, List.getLast?_cons, h1]
      simp [List.getLast?_cons]

theorem partial_bit (a : Bool) {s : Bytes} (h : s ≠ []) :
    ((render pre a s).getLast? != some NL) = !(atStartAfter a s) := by
  rw [render_getLast? pre a h]
  obtain ⟨b, hb⟩ := getLast?_some h
  simp [atStartAfter, hb, specNL, bne]

/-! ### counting -/

theorem countP_take_tp (k : Nat) : ((tp pre).take k).countP (·.2) = 0 := by
  rw [List.countP_eq_zero]
  intro x hx
  have := List.mem_of_mem_take hx
  simp only [tp, List.mem_map] at this
  obtain ⟨_, _, rfl⟩ := this
  simp

theorem countP_take_tl (l : Bytes) (k : Nat) : ((tl l).take k).countP (·.2) = min k l.length := by
  have : ((tl l).take k).countP (·.2) = ((tl l).take k).length := by
    rw [List.countP_eq_length]
    intro x hx
    have := List.mem_of_mem_take hx
    simp only [tl, List.mem_map] at this
    obtain ⟨_, _, rfl⟩ := this
    simp
  rw [this]; simp

theorem countP_tagged (a : Bool) (s : Bytes) : (tagged pre a s).countP (·.2) = s.length := by
  induction s generalizing a with
  | nil => simp [tagged]
  | cons b r ih =>
    simp only [tagged, List.countP_append, List.countP_cons, ih]
    have : List.countP (·.2) (if a then List.map (·, false) pre else []) = 0 := by
      cases a
      · simp
      · simp
    simp [this]

/-- Dropping the prefix bytes from the tagged rendering gives back the text. -/
theorem filter_tagged (a : Bool) (s : Bytes) :
    ((tagged pre a s).filter (·.2)).map (·.1) = s := by
  induction s generalizing a with
  | nil => simp [tagged]
  | cons b r ih =>
    have : List.filter (·.2) (if a then List.map (·, false) pre else []) = [] := by
      cases a <;> simp
    simp [tagged, this, ih]

theorem callerBytesIn_le (a : Bool) (s : Bytes) (k : Nat) :
    callerBytesIn pre a s k ≤ s.length := by
  unfold callerBytesIn
  calc _ ≤ (tagged pre a s).countP (·.2) := (List.take_sublist k _).countP_le
    _ = s.length := countP_tagged pre a s

/-- Caller bytes among the first `r` bytes of a line followed by more output. -/
theorem countP_take_line (line : Bytes) (rest : List (UInt8 × Bool)) (r : Int) :
    ((tl line ++ rest).take r.toNat).countP (·.2) =
      if r ≤ 0 then 0
      else if r ≤ line.length then r.toNat
      else line.length + (rest.take (r - line.length).toNat).countP (·.2) := by
  rw [List.take_append, List.countP_append, countP_take_tl, tl_length]
  split
  · next h =>
    have : r.toNat = 0 := by omega
    simp [this]
  · split
    · next h1 h2 =>
      have : r.toNat - line.length = 0 := by omega
      simp [this]; omega
    · next h1 h2 =>
      have : r.toNat - line.length = (r - line.length).toNat := by omega
      rw [this]; omega

/-- The counting loop returns the number of caller bytes among the first `remain` bytes of what
is left of the joined output (`first`: the prefix in front of the next line is not part of it). -/
theorem written_eq (ls : List Bytes) (first : Bool) (remain actual : Int) :
    written pre.length first remain ls actual =
      actual + ((((pjoin pre ls).drop (if first then pre.length else 0)).take remain.toNat).countP (·.2) : Nat) := by
  induction ls generalizing first remain actual with
  | nil => simp [written]
  | cons line rest ih =>
    have key : (((pjoin pre (line :: rest)).drop (if first then pre.length else 0)).take remain.toNat).countP (·.2)
        = ((tl line ++ pjoin pre rest).take (if first then remain else remain - pre.length).toNat).countP (·.2) := by
      cases first with
      | true =>
        simp only [pjoin_cons, if_true]
        rw [List.drop_left' (tp_length pre)]
      | false =>
        simp only [pjoin_cons, Bool.false_eq_true, if_false, List.drop_zero]
        rw [List.take_append, List.countP_append, countP_take_tp, tp_length]
        have : remain.toNat - pre.length = (remain - pre.length).toNat := by omega
        rw [this]; simp
    rw [key, countP_take_line]
    simp only [written]
    generalize (if first = true then remain else remain - (pre.length : Int)) = r
    split
    · simp
    · split
      · next h1 h2 => simp; omega
      · rw [ih]; simp; omega

/-- The count `Write` returns on a short write, against the specification. -/
theorem written_write (p : Bool) {s : Bytes} (h : s ≠ []) (k : Nat) :
    written pre.length true k (if p then lines s else [] :: lines s) 0 = callerBytesIn pre (!p) s k := by
  have hne : (if p then lines s else [] :: lines s) ≠ [] := by
    cases p
    · simp
    · simpa using lines_ne_nil h
  rw [written_eq, pjoin_eq pre hne, tjoin_write pre p h]
  simp only [if_true]
  rw [List.drop_left' (tp_length pre)]
  simp [callerBytesIn]

/-! ### the line state after a short write (`partialAfter`) -/

theorem lines_mem_ne_nil (s : Bytes) : ∀ l ∈ lines s, l ≠ [] := by
  induction s with
  | nil => simp [lines_nil]
  | cons b r ih =>
    by_cases hb : b = NL
    · subst hb; rw [lines_NL]
      intro l hl
      rcases List.mem_cons.mp hl with rfl | hl
      · simp
      · exact ih l hl
    · rw [lines_cons hb]
      cases hr : lines r with
      | nil => simp
      | cons h t =>
        intro l hl
        rcases List.mem_cons.mp hl with rfl | hl
        · simp
        · exact ih l (by rw [hr]; exact List.mem_cons_of_mem _ hl)


/-- `cutState` on the tagged list. -/
def cutAt (t : List (UInt8 × Bool)) (a : Bool) (k : Nat) : Option Bool :=
  match min k t.length with
  | 0 => some a
  | j + 1 =>
    match t[j]? with
    | some (b, true) => some (b == NL)
    | some (_, false) =>
      match t[j + 1]? with
      | some (_, false) => none
      | _ => some false
    | none => some a

theorem cutState_eq_cutAt (a : Bool) (s : Bytes) (k : Nat) :
    cutState pre a s k = cutAt (tagged pre a s) a k := rfl

/-- The line state `Write` records on a short write: that of the cut, as the specification of
histories has it (`cutState`); after a cut inside a prefix: "at a line start". -/
def stateOfCut : Option Bool → Bool
  | some a => !a
  | none => false

theorem cutAt_zero (t : List (UInt8 × Bool)) (a : Bool) : cutAt t a 0 = some a := by
  simp [cutAt]

theorem cutAt_min (t : List (UInt8 × Bool)) (a : Bool) (k : Nat) : cutAt t a (min k t.length) = cutAt t a k := by
  simp [cutAt]

theorem cutAt_cons_true (b : UInt8) (t : List (UInt8 × Bool)) (a : Bool) (k : Nat) :
    cutAt ((b, true) :: t) a (k + 1) = cutAt t (b == NL) k := by
  unfold cutAt
  rw [List.length_cons, Nat.add_min_add_right]
  cases hm : min k t.length with
  | zero => simp
  | succ j =>
    have hj : j < t.length := by omega
    simp only [List.getElem?_cons_succ, List.getElem?_eq_getElem hj]
    rcases t[j] with ⟨x, _ | _⟩ <;> rfl

theorem cutAt_cons_false (c : UInt8) (t : List (UInt8 × Bool)) (a a' : Bool) {k : Nat} (hk : 0 < k)
    (ht : t ≠ []) : cutAt ((c, false) :: t) a (k + 1) = cutAt t a' k := by
  unfold cutAt
  rw [List.length_cons, Nat.add_min_add_right]
  cases hm : min k t.length with
  | zero => have := List.length_pos_iff.2 ht; omega
  | succ j =>
    have hj : j < t.length := by omega
    simp only [List.getElem?_cons_succ, List.getElem?_eq_getElem hj]
    rcases t[j] with ⟨x, _ | _⟩ <;> rfl

theorem cutAt_prefix (q : Bytes) (b : UInt8) (t' : List (UInt8 × Bool)) (a : Bool) (k : Nat)
    (h0 : 0 < k) (hk : k ≤ q.length) :
    cutAt (tp q ++ (b, true) :: t') a k = if k < q.length then none else some false := by
  induction q generalizing k with
  | nil => simp at hk; omega
  | cons c q ih =>
    obtain ⟨k, rfl⟩ : ∃ k', k = k' + 1 := ⟨k - 1, by omega⟩
    rw [show tp (c :: q) = (c, false) :: tp q from rfl, List.cons_append]
    cases k with
    | zero => cases q <;> simp [cutAt, tp]
    | succ k =>
      rw [cutAt_cons_false c _ a a (Nat.succ_pos k) (by simp), ih (k + 1) (Nat.succ_pos k) (by simpa using hk)]
      simp

theorem cutAt_shift (q : Bytes) (b : UInt8) (t' : List (UInt8 × Bool)) (a : Bool) (k2 : Nat) :
    cutAt (tp q ++ (b, true) :: t') a (q.length + 1 + k2) = cutAt t' (b == NL) k2 := by
  induction q with
  | nil => rw [show tp [] = [] from rfl, List.nil_append, List.length_nil, Nat.zero_add, Nat.add_comm, cutAt_cons_true]
  | cons c q ih =>
    rw [show tp (c :: q) = (c, false) :: tp q from rfl, List.cons_append, List.length_cons,
      Nat.add_right_comm _ 1 k2, cutAt_cons_false c _ a a (by omega) (by simp), ih]

theorem cutAt_tl (l : Bytes) (t : List (UInt8 × Bool)) (a : Bool) (k : Nat) :
    cutAt (tl l ++ t) a (l.length + k) = cutAt t (atStartAfter a l) k := by
  induction l generalizing a with
  | nil => simp [atStartAfter]
  | cons b l ih =>
    rw [tl_cons, List.cons_append, List.length_cons, Nat.add_right_comm, cutAt_cons_true, ih,
      atStartAfter_cons]

theorem cutAt_in_line (l : Bytes) (t : List (UInt8 × Bool)) (a : Bool) (j : Nat) (hj : j < l.length) :
    cutAt (tl l ++ t) a (j + 1) = some (l[j] == NL) := by
  induction l generalizing a j with
  | nil => simp at hj
  | cons b l ih =>
    rw [tl_cons, List.cons_append, cutAt_cons_true]
    cases j with
    | zero => rw [cutAt_zero]; rfl
    | succ j => rw [ih _ j (by simpa using hj)]; rfl

/-- The loop of `partialAfter` finds the line state at the cut (`j + 1` bytes taken of what is left
of the joined output), provided every line after the first element is non-empty (as the lines of
a split text are). -/
theorem partialAfterGo_eq (all ls : List Bytes) (first a : Bool) (j : Nat)
    (hj : j < (if first then tjoin pre ls else pjoin pre ls).length)
    (hne : ∀ l ∈ ls.drop (if first then 1 else 0), l ≠ []) :
    partialAfterGo pre.length all first (j + 1) ls =
      some (stateOfCut (cutAt (if first then tjoin pre ls else pjoin pre ls) a (j + 1))) := by
  induction ls generalizing first a j with
  | nil => cases first <;> simp [tjoin] at hj
  | cons line rest ih =>
    have body : ∀ (a : Bool) (m : Nat), m < (tl line ++ pjoin pre rest).length → (∀ l ∈ rest, l ≠ []) →
        (if m + 1 ≤ line.length then (line[m]?).map (· != NL)
         else partialAfterGo pre.length all false (m + 1 - line.length) rest) =
        some (stateOfCut (cutAt (tl line ++ pjoin pre rest) a (m + 1))) := by
      intro a m hm hrest
      by_cases hml : m + 1 ≤ line.length
      · rw [if_pos hml, cutAt_in_line line _ a m hml, List.getElem?_eq_getElem hml]
        rfl
      · obtain ⟨m', hm'⟩ : ∃ m', m + 1 = line.length + (m' + 1) := ⟨m - line.length, by omega⟩
        rw [if_neg hml, hm', Nat.add_sub_cancel_left, cutAt_tl]
        exact ih false _ m' (by simp at hm ⊢; omega) (by simpa using hrest)
    cases first with
    | true =>
      simp only [if_true, tjoin] at hj hne ⊢
      rw [← body a j hj (by simpa using hne)]
      simp [partialAfterGo]
    | false =>
      simp only [Bool.false_eq_true, if_false, List.drop_zero, pjoin_cons] at hj hne ⊢
      obtain ⟨b, l, rfl⟩ := List.exists_cons_of_ne_nil (hne line (by simp))
      have hrest : ∀ l ∈ rest, l ≠ [] := fun l hl => hne l (by simp [hl])
      simp only [partialAfterGo, Bool.not_false, Bool.true_and, Bool.false_eq_true, if_false]
      by_cases h1 : j + 1 < pre.length
      · rw [tl_cons, List.cons_append, cutAt_prefix pre b _ a (j + 1) (by omega) (by omega), if_pos h1]
        simp [h1, stateOfCut]
      · by_cases h2 : j + 1 = pre.length
        · rw [h2, tl_cons, List.cons_append, cutAt_prefix pre b _ a _ (by omega) (Nat.le_refl _),
            if_neg (Nat.lt_irrefl _)]
          simp [stateOfCut]
        · obtain ⟨m, hm⟩ : ∃ m, j + 1 = pre.length + 1 + m := ⟨j - pre.length, by omega⟩
          have := body a m (by simp at hj ⊢; omega) hrest
          rw [tl_cons, List.cons_append, cutAt_cons_true] at this
          rw [hm, tl_cons, List.cons_append, cutAt_shift, ← this]
          have e : pre.length + 1 + m - pre.length = m + 1 := by omega
          have h1' : ¬ pre.length + 1 + m < pre.length := by omega
          simp [h1', e]

/-! ### `write`, as a whole record -/

theorem write_none_eq (p : Bool) (buf : Bytes) :
    write pre p buf none =
      { partial_ := !(atStartAfter (!p) buf), handed := render pre (!p) buf,
        reached := render pre (!p) buf, n := buf.length, err := false } := by
  by_cases hb : buf = []
  · subst hb; simp [write, render_nil, atStartAfter]
  · have hj := join_write pre p hb
    have hp := partial_bit pre (!p) hb
    simp only [write, List.isEmpty_iff, hb, if_false, hj, hp]

theorem callerBytesIn_min (a : Bool) (s : Bytes) (k : Nat) :
    callerBytesIn pre a s (min k (render pre a s).length) = callerBytesIn pre a s k := by
  have hlen : (render pre a s).length = (tagged pre a s).length := by simp [render]
  simp only [callerBytesIn, hlen, ← List.take_eq_take_min]

theorem partialAfter_write (p : Bool) {s : Bytes} (h : s ≠ []) (k : Nat) :
    partialAfter (min k (render pre (!p) s).length) pre.length (if p then lines s else [] :: lines s) p =
      some (stateOfCut (cutState pre (!p) s k)) := by
  have hlen : (render pre (!p) s).length = (tagged pre (!p) s).length := by simp [render]
  have hT := tjoin_write pre p h
  rw [hlen, cutState_eq_cutAt, ← cutAt_min]
  cases hk : min k (tagged pre (!p) s).length with
  | zero => simp [partialAfter, cutAt_zero, stateOfCut]
  | succ j =>
    have hmem : ∀ l ∈ (if p then lines s else [] :: lines s).drop 1, l ≠ [] := by
      intro l hl
      cases p
      · exact lines_mem_ne_nil s l (by simpa using hl)
      · exact lines_mem_ne_nil s l (List.mem_of_mem_tail (by simpa using hl))
    have := partialAfterGo_eq pre (if p then lines s else [] :: lines s) (if p then lines s else [] :: lines s)
      true (!p) j (by simp only [if_true, hT]; omega) (by simpa using hmem)
    simpa only [partialAfter, if_true, hT] using this

theorem write_some_eq (p : Bool) {buf : Bytes} (h : buf ≠ []) (k : Nat) :
    write pre p buf (some k) =
      { partial_ := stateOfCut (cutState pre (!p) buf k), handed := render pre (!p) buf,
        reached := (render pre (!p) buf).take k, n := callerBytesIn pre (!p) buf k, err := true,
        crash := false } := by
  have hj := join_write pre p h
  have hw := written_write pre p h (min k (render pre (!p) buf).length)
  have hc := callerBytesIn_min pre (!p) buf k
  have hs := partialAfter_write pre p h k
  simp only [write, List.isEmpty_iff, h, if_false, hj, hw, hc, hs, ← List.take_eq_take_min,
    Option.isNone_some]

/-! ### what a history leaves with the underlying writer -/

theorem countP_tp (q : Bytes) : (tp q).countP (·.2) = 0 := by
  have := countP_take_tp q (tp q).length
  rwa [List.take_length] at this

theorem tagged_cons' (a : Bool) (b : UInt8) (r : Bytes) :
    tagged pre a (b :: r) = tp (if a then pre else []) ++ (b, true) :: tagged pre (b == NL) r := by
  cases a <;> simp [tagged, tp, specNL]

/-- One short write: what the underlying writer took is the rendering of the counted bytes, plus the
prefix of the next line when the cut fell exactly after it; and the state at the cut is the state
after the counted bytes, except in that case. -/
theorem take_render (a : Bool) (c : Bytes) (k : Nat) (a' : Bool)
    (h : cutState pre a c k = some a') :
    (render pre a c).take k =
      render pre a (c.take (callerBytesIn pre a c k)) ++
        pending pre (atStartAfter a (c.take (callerBytesIn pre a c k))) a' ∧
    (a' = atStartAfter a (c.take (callerBytesIn pre a c k)) ∨
      (atStartAfter a (c.take (callerBytesIn pre a c k)) = true ∧ a' = false)) := by
  induction c generalizing a k with
  | nil =>
    simp [cutState, tagged] at h
    subst h
    simp [render_nil, callerBytesIn, tagged, atStartAfter, pending]
  | cons b r ih =>
    rw [cutState_eq_cutAt, tagged_cons'] at h
    generalize hq : (if a then pre else []) = q at h
    have hren : render pre a (b :: r) = q ++ b :: render pre (b == NL) r := by rw [render_cons, hq]
    have hcb : ∀ k, callerBytesIn pre a (b :: r) k =
        ((tp q ++ (b, true) :: tagged pre (b == NL) r).take k).countP (·.2) := by
      intro k; rw [callerBytesIn, tagged_cons', hq]
    by_cases hk0 : k = 0
    · subst hk0
      rw [cutAt_zero] at h
      cases h
      simp [hcb, render_nil, atStartAfter, pending]
    by_cases hk1 : k < q.length
    · rw [cutAt_prefix q b _ a k (by omega) (by omega), if_pos hk1] at h; cases h
    by_cases hk2 : k = q.length
    · subst hk2
      rw [cutAt_prefix q b _ a _ (by omega) (Nat.le_refl _), if_neg (Nat.lt_irrefl _)] at h
      cases h
      have hn : callerBytesIn pre a (b :: r) q.length = 0 := by
        rw [hcb, List.take_left' (tp_length q)]
        exact countP_tp q
      have ha : a = true := by
        cases a
        · simp at hq; subst hq; simp at hk0
        · rfl
      subst ha
      simp only [if_true] at hq
      subst hq
      simp [hn, hren, render_nil, atStartAfter, pending]
    · obtain ⟨k2, rfl⟩ : ∃ k2, k = q.length + 1 + k2 := ⟨k - q.length - 1, by omega⟩
      rw [cutAt_shift, ← cutState_eq_cutAt] at h
      obtain ⟨ih1, ih2⟩ := ih (b == NL) k2 h
      have hn : callerBytesIn pre a (b :: r) (q.length + 1 + k2) = callerBytesIn pre (b == NL) r k2 + 1 := by
        rw [hcb, callerBytesIn]
        have : q.length + 1 + k2 = (tp q).length + (1 + k2) := by simp; omega
        rw [this, List.take_length_add_append, List.countP_append]
        simp [countP_tp, Nat.add_comm 1 k2, List.take_succ_cons]
      rw [hn, hren]
      have : q.length + 1 + k2 = q.length + (k2 + 1) := by omega
      rw [this, List.take_length_add_append, List.take_succ_cons, ih1]
      simp only [List.take_succ_cons, render_cons, hq, atStartAfter_cons, List.append_assoc,
        List.cons_append]
      exact ⟨trivial, ih2⟩


/-- From inside a line, a history that accepts nothing ends inside the line. -/
theorem finalState_of_accepted_nil (cs : List (Bytes × Option Nat)) (st : Bool)
    (hacc : accepted pre false cs = []) (hf : finalState pre false cs = some st) : st = false := by
  induction cs with
  | nil => simp [finalState] at hf; exact hf
  | cons c cs ih =>
    obtain ⟨buf, u⟩ := c
    cases u with
    | none =>
      simp only [accepted, List.append_eq_nil_iff] at hacc
      obtain ⟨hb, hr⟩ := hacc
      subst hb
      simp only [finalState, atStartAfter, List.getLast?_nil] at hf hr
      exact ih hr hf
    | some k =>
      by_cases hb : buf = []
      · subst hb
        simp only [accepted, finalState, List.isEmpty_nil, if_true] at hacc hf
        exact ih hacc hf
      · simp only [accepted, finalState, List.isEmpty_iff, hb, if_false, List.append_eq_nil_iff] at hacc hf
        cases hc : cutState pre false buf k with
        | none => simp [hc] at hf
        | some a' =>
          simp only [hc] at hacc hf
          obtain ⟨ht, hr⟩ := hacc
          have h2 := (take_render pre false buf k a' hc).2
          rw [ht] at h2
          simp only [atStartAfter, List.getLast?_nil] at h2
          have ha' : a' = false := by
            rcases h2 with h | ⟨h, _⟩
            · exact h
            · cases h
          subst ha'
          exact ih hr hf

/-- What the specification of histories leaves with the underlying writer is the rendering of the
accepted bytes as one text, plus the pending prefix. -/
theorem history_sink (a : Bool) (cs : List (Bytes × Option Nat)) (st : Bool)
    (hf : finalState pre a cs = some st) :
    (history pre a cs).1 =
      render pre a (accepted pre a cs) ++ pending pre (atStartAfter a (accepted pre a cs)) st := by
  induction cs generalizing a with
  | nil =>
    simp only [finalState, Option.some.injEq] at hf
    subst hf
    simp [history, accepted, render_nil, atStartAfter, pending]
  | cons c cs ih =>
    obtain ⟨buf, u⟩ := c
    cases u with
    | none =>
      simp only [finalState] at hf
      simp only [history, accepted, ih _ hf, render_append, atStartAfter_append, List.append_assoc]
    | some k =>
      by_cases hb : buf = []
      · subst hb
        simp only [finalState, List.isEmpty_nil, if_true] at hf
        simp only [history, accepted, List.isEmpty_nil, if_true, ih _ hf]
      · simp only [finalState, List.isEmpty_iff, hb, if_false] at hf
        cases hc : cutState pre a buf k with
        | none => simp [hc] at hf
        | some a' =>
          simp only [hc] at hf
          obtain ⟨h1, h2⟩ := take_render pre a buf k a' hc
          simp only [history, accepted, List.isEmpty_iff, hb, if_false, hc, h1, ih _ hf, render_append,
            atStartAfter_append, List.append_assoc]
          congr 1
          rcases h2 with h | ⟨h, h'⟩
          · rw [← h]; simp [pending]
          · rw [h, h']
            simp only [h'] at hf
            by_cases hacc : accepted pre false cs = []
            · have := finalState_of_accepted_nil pre cs st hacc hf
              subst this
              simp [hacc, render_nil, atStartAfter, pending]
            · obtain ⟨x, r, hx⟩ := List.exists_cons_of_ne_nil hacc
              rw [atStartAfter_ne_nil hacc true false]
              simp [hx, render_cons, pending]

end

end Goyang.Lemmas.Indent
