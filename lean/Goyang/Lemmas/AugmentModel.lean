import Goyang.Model.Process
/-
C07 — a lemma-friendly reformulation of the augment part of `Model/Process.lean`.

`find` first decides, from the registry and the text of the path alone, in which tree the search
runs and which steps it takes (`findTree`); only the step loop (`walkParts`) looks at the forest.
The functions below (`…R`) are the model's `augmentTree` / `augmentPass` / `augmentLoop` with
that first part abstracted into a parameter `R : Res` (tree + step names per augment, namespace
per tree) and with one addition: they also return the *trace* of the run — for every augment
applied, in order: its owner, its entry, the forest it was applied to.  `augmentTree_eq` and
`augmentPass_eq` (here) and `augmentLoop_eq` (Lemmas/AugmentLoop.lean) say that erasing the trace gives
exactly the model's functions when `R = Res.ofReg reg` and the paths of the pending augments are plain
absolute schema node identifiers (no `.`/`..`/empty steps).

The parameter exists for one reason: `String.splitOn` does not reduce in the kernel, so concrete
non-vacuity examples are stated for a table-driven `R`.
-/
namespace Goyang.Lemmas.AugmentModel
open Goyang.Model

/-! ### the part of `find` that does not look at the forest -/

/-- The tree an absolute path is searched in (`none`: the first prefix denotes no loaded
module — Go records an error on the root of the starting tree). -/
def targetTree (reg : Registry) (id ctx : Nat) (parts : List String) : Option Nat :=
  let pfx := (splitPrefix (parts.headD "")).1
  if pfx == "" then
    match reg.byId id with
    | some sm => if sm.isSub then ((reg.owner sm).map (·.seq)).getD id else id
    | none => some id
  else
  match reg.byId ctx with
  | none => none
  | some cm =>
    match reg.findModuleByPrefix cm pfx with
    | none => none
    | some m => (reg.owner m).map (·.seq)

/-- How `find` starts, for a start location at the root of tree `id`. -/
inductive Start where
  | noName                                   -- empty path: nothing happens
  | badPrefix                                -- unresolvable first prefix: error on the root of `id`
  | go (t : Nat) (parts : List String)       -- walk `parts` from the root of tree `t`

def findStart (reg : Registry) (id ctx : Nat) (name : String) : Start :=
  if name == "" then .noName else
  let parts0 := name.splitOn "/"
  if parts0.head? = some "" then
    match targetTree reg id ctx parts0.tail with
    | none => .badPrefix
    | some t => .go t parts0.tail
  else .go id parts0

/-- Go: `e.addError(…)` on the root of the starting tree. -/
def addOther (f : Forest) (id : Nat) : Forest :=
  match f.tree? id with
  | some root => f.setTree id (root.addErr (Err.bare "other"))
  | none => f

theorem find_eq (reg : Registry) (f : Forest) (id ctx : Nat) (name : String) :
    find reg f (id, []) ctx name =
      match findStart reg id ctx name with
      | .noName => (none, f)
      | .badPrefix => (none, addOther f id)
      | .go t parts =>
        match f.tree? t with
        | none => (none, f)
        | some root =>
          let r := walkParts parts root (some [])
          (r.1.map (t, ·), f.setTree t r.2) := by
  unfold find findStart
  by_cases hn : (name == "") = true
  · simp [hn]
  · simp only [hn, Bool.false_eq_true, if_false]
    cases hsp : name.splitOn "/" with
    | nil => rfl
    | cons x parts =>
      by_cases hx : x = ""
      · subst hx
        simp only [List.head?_cons, if_true, List.tail_cons, targetTree, addOther]
        by_cases hp : ((splitPrefix (parts.headD "")).fst == "") = true
        · simp only [hp, if_true]
          cases reg.byId id with
          | none => rfl
          | some sm =>
            simp only
            by_cases hs : sm.isSub = true
            · simp only [hs, if_true]
              cases reg.owner sm with
              | none => rfl
              | some o => rfl
            · simp only [hs, Bool.false_eq_true, if_false]; rfl
        · simp only [hp, Bool.false_eq_true, if_false]
          cases reg.byId ctx with
          | none => rfl
          | some cm =>
            simp only
            cases reg.findModuleByPrefix cm (splitPrefix (parts.headD "")).fst with
            | none => rfl
            | some m =>
              simp only
              cases reg.owner m with
              | none => rfl
              | some o => rfl
      · have hne : ¬ (some x = some "") := by simpa using hx
        simp only [List.head?_cons, hne, if_false]
        split
        · rename_i ps h; simp at h; exact absurd h.1 hx
        · rfl

/-! ### the step loop on plain names -/

/-- Go: the `RPC.Input == nil` branch of `Find`. -/
def matIn (e : Entry) : Entry := match e with | .mk d c _ o => .mk d c [implicitIO e true] o
def matOut (e : Entry) : Entry := match e with | .mk d c i _ => .mk d c i [implicitIO e false]

/-- `walkParts` for steps that are plain names (prefix already stripped; not `.`, `..`, empty). -/
def walkN : (names : List String) → (root : Entry) → (cur : Option Path) → Option Path × Entry
  | [], root, cur => (cur, root)
  | nm :: rest, root, cur =>
    match cur with
    | none => (none, root)
    | some p =>
      match root.getAt p with
      | none => (none, root)
      | some e =>
        if e.d.isRpc then
          if nm == "input" then
            walkN rest (if e.inp.isEmpty then root.updateAt p matIn else root) (some (p ++ [.input]))
          else if nm == "output" then
            walkN rest (if e.out.isEmpty then root.updateAt p matOut else root) (some (p ++ [.output]))
          else (none, root)
        else
          match e.child? nm with
          | some _ => walkN rest root (some (p ++ [.child nm]))
          | none => walkN rest root none

theorem walkN_none (names : List String) (root : Entry) : walkN names root none = (none, root) := by
  cases names <;> rfl

/-- A step of an absolute schema node identifier: not `.` or `..`, and a non-empty name other
than `.`/`..` behind the prefix. -/
def PlainPart (part : String) : Prop :=
  part ≠ "." ∧ part ≠ ".." ∧ stripPrefix part ≠ "." ∧ stripPrefix part ≠ "" ∧ stripPrefix part ≠ ".."

theorem walkParts_eq_walkN (parts : List String) (hp : ∀ p ∈ parts, PlainPart p) (root : Entry) (cur : Option Path) :
    walkParts parts root cur = walkN (parts.map stripPrefix) root cur := by
  induction parts generalizing root cur with
  | nil => rfl
  | cons part rest ih =>
    have hpl := hp part (by simp)
    have ihr := fun root cur => ih (fun p h => hp p (by simp [h])) root cur
    obtain ⟨h1, h2, h3, h4, h5⟩ := hpl
    simp only [walkParts, List.map_cons, walkN]
    cases cur with
    | none => rfl
    | some p =>
      simp only
      cases root.getAt p with
      | none => rfl
      | some e =>
        have e1 : (part == ".") = false := by simpa using h1
        have e2 : (part == "..") = false := by simpa using h2
        have e3 : (stripPrefix part == ".") = false := by simpa using h3
        have e4 : (stripPrefix part == "") = false := by simpa using h4
        have e5 : (stripPrefix part == "..") = false := by simpa using h5
        simp only [e1, e2, e3, e4, e5, Bool.false_eq_true, if_false, Bool.or_self]
        by_cases hr : e.d.isRpc = true
        · simp only [hr, if_true]
          by_cases hi : (stripPrefix part == "input") = true
          · simp only [hi, if_true]
            rw [ihr]; rfl
          · simp only [hi, Bool.false_eq_true, if_false]
            by_cases ho : (stripPrefix part == "output") = true
            · simp only [ho, if_true]
              rw [ihr]; rfl
            · simp only [ho, Bool.false_eq_true, if_false]
        · simp only [hr, Bool.false_eq_true, if_false]
          cases e.child? (stripPrefix part) with
          | none => simp only; rw [ihr]
          | some c => simp only; rw [ihr]

/-! ### the parametrised, trace-producing loop -/

/-- Where an augment goes, decided without looking at the forest. -/
inductive Tgt where
  | noName
  | badPrefix
  | go (t : Nat) (names : List String)

structure Res where
  /-- per (owner tree, augment entry): the target tree and the step names -/
  tgt : Nat → Entry → Tgt
  /-- namespace of the module that owns tree `id` -/
  ns : Nat → String

/-- The registry's resolution. -/
def Res.ofReg (reg : Registry) : Res where
  tgt := fun id a =>
    match findStart reg id a.d.nodeMod a.d.name with
    | .noName => .noName
    | .badPrefix => .badPrefix
    | .go t parts => .go t (parts.map stripPrefix)
  ns := fun id =>
    match reg.byId id with
    | none => ""
    | some m =>
      match reg.owner m with
      | some o => (o.stmt.argOf? "namespace").getD ""
      | none => ""

def findR (R : Res) (id : Nat) (a : Entry) (f : Forest) : Option Loc × Forest :=
  match R.tgt id a with
  | .noName => (none, f)
  | .badPrefix => (none, addOther f id)
  | .go t names =>
    match f.tree? t with
    | none => (none, f)
    | some root =>
      let r := walkN names root (some [])
      (r.1.map (t, ·), f.setTree t r.2)

/-- The path of every step is plain. -/
def PlainAug (reg : Registry) (id : Nat) (a : Entry) : Prop :=
  match findStart reg id a.d.nodeMod a.d.name with
  | .go _ parts => ∀ p ∈ parts, PlainPart p
  | _ => True

theorem find_eq_findR (reg : Registry) (f : Forest) (id : Nat) (a : Entry) (hp : PlainAug reg id a) :
    find reg f (id, []) a.d.nodeMod a.d.name = findR (Res.ofReg reg) id a f := by
  rw [find_eq]
  unfold findR Res.ofReg PlainAug at *
  cases h : findStart reg id a.d.nodeMod a.d.name with
  | noName => simp only [h]
  | badPrefix => simp only [h]
  | go t parts =>
    simp only [h] at hp ⊢
    cases f.tree? t with
    | none => rfl
    | some root => simp only [walkParts_eq_walkN parts hp]

/-- One applied augment: owner tree, augment entry, the forest it was applied to. -/
structure Ev where
  owner : Nat
  aug : Entry
  before : Forest

/-- The namespace `augmentTree` stamps with (Go: `a.Namespace()` of an augment entry, whose
parent is the module entry). -/
def nsOfR (R : Res) (f : Forest) (id : Nat) : String :=
  match f.tree? id with
  | none => ""
  | some _ => R.ns id

/-- Go: the `if addErrors { e.errorf(…) }` of a skipped augment. -/
def failForest (id : Nat) (addErrors : Bool) (a : Entry) (f : Forest) : Forest :=
  if addErrors then
    match f.tree? id with
    | some root => f.setTree id (root.addErr (Err.at_ a.d.node "augment-not-found"))
    | none => f
  else f

/-- One iteration of the loop in `Entry.Augment`: the forest afterwards, and whether the augment
was applied. -/
def attemptR (R : Res) (id : Nat) (addErrors : Bool) (nsOf : String) (a : Entry) (f : Forest) : Forest × Bool :=
  let r := findR R id a f
  let f := r.2
  match r.1 with
  | none => (failForest id addErrors a f, false)
  | some (t, path) =>
    match (f.tree? t).bind (·.getAt path) with
    | none => (failForest id addErrors a f, false)
    | some te =>
      if cannotHaveChildren te then (failForest id addErrors a f, false) else
      match f.tree? t with
      | none => (failForest id addErrors a f, false)
      | some root => (f.setTree t (root.updateAt path fun te => te.merge (some nsOf) a), true)

/-- Fold state of `augmentTreeR`: forest, unapplied, processed, skipped, trace (newest last). -/
structure Acc where
  forest : Forest
  unapplied : List Entry
  p : Nat
  k : Nat
  trace : List Ev

def stepR (R : Res) (id : Nat) (addErrors : Bool) (nsOf : String) (acc : Acc) (a : Entry) : Acc :=
  let r := attemptR R id addErrors nsOf a acc.forest
  if r.2 then { acc with forest := r.1, p := acc.p + 1, trace := acc.trace ++ [⟨id, a, acc.forest⟩] }
  else { acc with forest := r.1, unapplied := acc.unapplied ++ [a], k := acc.k + 1 }

def augmentTreeR (R : Res) (id : Nat) (addErrors : Bool) (s : PState) : PState × Nat × Nat × List Ev :=
  let acc := (s.pendingOf id).foldl (stepR R id addErrors (nsOfR R s.forest id)) ⟨s.forest, [], 0, 0, []⟩
  (({ s with forest := acc.forest } : PState).setPending id acc.unapplied, acc.p, acc.k, acc.trace)

def augmentPassR (R : Res) : (fuel : Nat) → (mods : Array Nat) → (i : Nat) → (processed : Nat) → PState → List Ev →
    Array Nat × Nat × PState × List Ev
  | 0, mods, _, processed, s, tr => (mods, processed, s, tr)
  | fuel + 1, mods, i, processed, s, tr =>
    if h : i < mods.size then
      let r := augmentTreeR R mods[i] false s
      if r.2.2.1 == 0 then
        augmentPassR R fuel ((mods.set i (mods.back?.getD 0) h).pop) i (processed + r.2.1) r.1 (tr ++ r.2.2.2)
      else augmentPassR R fuel mods (i + 1) (processed + r.2.1) r.1 (tr ++ r.2.2.2)
    else (mods, processed, s, tr)

def augmentLoopR (R : Res) : (fuel : Nat) → Array Nat → PState → List Ev → Array Nat × PState × List Ev
  | 0, mods, s, tr => (mods, s, tr)
  | fuel + 1, mods, s, tr =>
    if mods.isEmpty then (mods, s, tr) else
    let r := augmentPassR R (mods.size + 1) mods 0 0 s tr
    if r.2.1 == 0 then (r.1, r.2.2.1, r.2.2.2) else augmentLoopR R fuel r.1 r.2.2.1 r.2.2.2


/-- Module list and index a pass goes on with after the call on `mods[i]` left `k` augments unapplied
(Go: swap-remove a module that is done, else step to the next). -/
def passNext (mods : Array Nat) (i : Nat) (h : i < mods.size) (k : Nat) : Array Nat × Nat :=
  if k == 0 then ((mods.set i (mods.back?.getD 0) h).pop, i) else (mods, i + 1)

theorem augmentPassR_stop (R : Res) (fuel : Nat) (mods : Array Nat) (i p : Nat) (s : PState) (tr : List Ev)
    (h : fuel = 0 ∨ ¬ i < mods.size) : augmentPassR R fuel mods i p s tr = (mods, p, s, tr) := by
  cases fuel with
  | zero => rfl
  | succ fuel => rw [augmentPassR, dif_neg (h.resolve_left (Nat.succ_ne_zero _))]

theorem augmentPassR_succ (R : Res) (fuel : Nat) (mods : Array Nat) (i p : Nat) (s : PState) (tr : List Ev)
    (h : i < mods.size) :
    augmentPassR R (fuel + 1) mods i p s tr =
      augmentPassR R fuel (passNext mods i h (augmentTreeR R mods[i] false s).2.2.1).1
        (passNext mods i h (augmentTreeR R mods[i] false s).2.2.1).2 (p + (augmentTreeR R mods[i] false s).2.1)
        (augmentTreeR R mods[i] false s).1 (tr ++ (augmentTreeR R mods[i] false s).2.2.2) := by
  rw [augmentPassR, dif_pos h]
  by_cases hk : ((augmentTreeR R mods[i] false s).2.2.1 == 0) = true
  · simp only [passNext, hk, if_true]
  · simp only [passNext, hk, Bool.false_eq_true, if_false]

theorem augmentLoopR_stop (R : Res) (fuel : Nat) (mods : Array Nat) (s : PState) (tr : List Ev)
    (h : fuel = 0 ∨ mods.isEmpty = true) : augmentLoopR R fuel mods s tr = (mods, s, tr) := by
  cases fuel with
  | zero => rfl
  | succ fuel => rw [augmentLoopR, if_pos (h.resolve_left (Nat.succ_ne_zero _))]

theorem augmentLoopR_done (R : Res) (fuel : Nat) (mods : Array Nat) (s : PState) (tr : List Ev)
    (he : ¬ mods.isEmpty = true) (h0 : (augmentPassR R (mods.size + 1) mods 0 0 s tr).2.1 = 0) :
    augmentLoopR R (fuel + 1) mods s tr =
      ((augmentPassR R (mods.size + 1) mods 0 0 s tr).1, (augmentPassR R (mods.size + 1) mods 0 0 s tr).2.2.1,
        (augmentPassR R (mods.size + 1) mods 0 0 s tr).2.2.2) := by
  rw [augmentLoopR, if_neg he]
  simp only [h0, beq_self_eq_true, if_true]

theorem augmentLoopR_again (R : Res) (fuel : Nat) (mods : Array Nat) (s : PState) (tr : List Ev)
    (he : ¬ mods.isEmpty = true) (h0 : (augmentPassR R (mods.size + 1) mods 0 0 s tr).2.1 ≠ 0) :
    augmentLoopR R (fuel + 1) mods s tr =
      augmentLoopR R fuel (augmentPassR R (mods.size + 1) mods 0 0 s tr).1
        (augmentPassR R (mods.size + 1) mods 0 0 s tr).2.2.1 (augmentPassR R (mods.size + 1) mods 0 0 s tr).2.2.2 := by
  rw [augmentLoopR, if_neg he]
  simp only [beq_iff_eq, h0, if_false]

/-! ### erasing the trace gives the model's functions -/

/-- All pending augments have plain paths. -/
def PlainPending (reg : Registry) (s : PState) : Prop := ∀ id, ∀ a ∈ s.pendingOf id, PlainAug reg id a

theorem nsOfR_eq (reg : Registry) (f : Forest) (id : Nat) : namespaceAt reg f (id, []) = nsOfR (Res.ofReg reg) f id := by
  unfold namespaceAt nsOfR Res.ofReg
  cases f.tree? id with
  | none => rfl
  | some root => simp [Entry.stampAt, Entry.stampAt.go]; rfl

/-- The model's fold body, named. -/
def stepM (reg : Registry) (id : Nat) (addErrors : Bool) (nsOf : String) (acc : PState × List Entry × Nat × Nat) (a : Entry) :
    PState × List Entry × Nat × Nat :=
  let (s, unapplied, p, k) := acc
  let (target, forest) := find reg s.forest (id, []) a.d.nodeMod a.d.name
  let s := { s with forest := forest }
  let fail (s : PState) : PState × List Entry × Nat × Nat :=
    let s := if addErrors then
        match s.forest.tree? id with
        | some root => { s with forest := s.forest.setTree id (root.addErr (Err.at_ a.d.node "augment-not-found")) }
        | none => s
      else s
    (s, unapplied ++ [a], p, k + 1)
  match target with
  | none => fail s
  | some (t, path) =>
    match (s.forest.tree? t).bind (·.getAt path) with
    | none => fail s
    | some te =>
      if cannotHaveChildren te then fail s else
      match s.forest.tree? t with
      | none => fail s
      | some root =>
        let root := root.updateAt path fun te => te.merge (some nsOf) a
        ({ s with forest := s.forest.setTree t root }, unapplied, p + 1, k)

theorem augmentTree_unfold (reg : Registry) (id : Nat) (addErrors : Bool) (s : PState) :
    augmentTree reg id addErrors s =
      let r := (s.pendingOf id).foldl (stepM reg id addErrors (namespaceAt reg s.forest (id, []))) (s, [], 0, 0)
      (r.1.setPending id r.2.1, r.2.2.1, r.2.2.2) := rfl

/-- Projection of the R fold state to the model's. -/
def Acc.erase (pend : List (Nat × List Entry)) (acc : Acc) : PState × List Entry × Nat × Nat :=
  ({ forest := acc.forest, pending := pend }, acc.unapplied, acc.p, acc.k)

theorem failForest_eq (id : Nat) (addErrors : Bool) (a : Entry) (f : Forest) (pend : List (Nat × List Entry)) :
    (if addErrors then
        match f.tree? id with
        | some root => ({ forest := f.setTree id (root.addErr (Err.at_ a.d.node "augment-not-found")), pending := pend } : PState)
        | none => { forest := f, pending := pend }
      else { forest := f, pending := pend }) = { forest := failForest id addErrors a f, pending := pend } := by
  unfold failForest
  cases addErrors with
  | false => rfl
  | true =>
    simp only [if_true]
    cases f.tree? id <;> rfl

theorem stepM_eq_stepR (reg : Registry) (id : Nat) (addErrors : Bool) (nsOf : String) (pend : List (Nat × List Entry))
    (acc : Acc) (a : Entry) (hp : PlainAug reg id a) :
    stepM reg id addErrors nsOf (acc.erase pend) a = (stepR (Res.ofReg reg) id addErrors nsOf acc a).erase pend := by
  unfold stepM stepR attemptR Acc.erase
  simp only [find_eq_findR reg acc.forest id a hp]
  generalize findR (Res.ofReg reg) id a acc.forest = r
  obtain ⟨tgt, f⟩ := r
  simp only
  cases tgt with
  | none => simp only [failForest_eq]; rfl
  | some tp =>
    obtain ⟨t, path⟩ := tp
    simp only
    cases hte : (f.tree? t).bind (·.getAt path) with
    | none => simp only [failForest_eq]; rfl
    | some te =>
      simp only
      by_cases hc : cannotHaveChildren te = true
      · simp only [hc, if_true, failForest_eq]; rfl
      · simp only [hc, Bool.false_eq_true, if_false]
        cases f.tree? t with
        | none => simp only [failForest_eq]; rfl
        | some root => rfl

theorem foldl_stepM_eq (reg : Registry) (id : Nat) (addErrors : Bool) (nsOf : String) (pend : List (Nat × List Entry))
    (l : List Entry) (hp : ∀ a ∈ l, PlainAug reg id a) (acc : Acc) :
    l.foldl (stepM reg id addErrors nsOf) (acc.erase pend) =
      (l.foldl (stepR (Res.ofReg reg) id addErrors nsOf) acc).erase pend := by
  induction l generalizing acc with
  | nil => rfl
  | cons a l ih =>
    simp only [List.foldl_cons]
    rw [stepM_eq_stepR reg id addErrors nsOf pend acc a (hp a (by simp))]
    exact ih (fun b hb => hp b (by simp [hb])) _

theorem augmentTree_eq (reg : Registry) (id : Nat) (addErrors : Bool) (s : PState)
    (hp : ∀ a ∈ s.pendingOf id, PlainAug reg id a) :
    augmentTree reg id addErrors s =
      let r := augmentTreeR (Res.ofReg reg) id addErrors s
      (r.1, r.2.1, r.2.2.1) := by
  rw [augmentTree_unfold]
  unfold augmentTreeR
  simp only [nsOfR_eq]
  have := foldl_stepM_eq reg id addErrors (nsOfR (Res.ofReg reg) s.forest id) s.pending (s.pendingOf id) hp
    ⟨s.forest, [], 0, 0, []⟩
  have hs : (⟨s.forest, [], 0, 0, []⟩ : Acc).erase s.pending = (s, [], 0, 0) := by
    cases s; rfl
  rw [hs] at this
  rw [this]
  rfl

/-! ### what one `augmentTreeR` call does, as a relation -/

/-- `FoldRel … f l f' U tr`: attempting the augments `l` in order from forest `f` ends in `f'`,
leaves `U` unapplied (in order) and applies the events `tr` (in order). -/
inductive FoldRel (R : Res) (id : Nat) (addErrors : Bool) (nsOf : String) :
    Forest → List Entry → Forest → List Entry → List Ev → Prop
  | nil (f : Forest) : FoldRel R id addErrors nsOf f [] f [] []
  | fail {f f' f'' : Forest} {a : Entry} {l U : List Entry} {tr : List Ev} :
      attemptR R id addErrors nsOf a f = (f', false) → FoldRel R id addErrors nsOf f' l f'' U tr →
      FoldRel R id addErrors nsOf f (a :: l) f'' (a :: U) tr
  | ok {f f' f'' : Forest} {a : Entry} {l U : List Entry} {tr : List Ev} :
      attemptR R id addErrors nsOf a f = (f', true) → FoldRel R id addErrors nsOf f' l f'' U tr →
      FoldRel R id addErrors nsOf f (a :: l) f'' U (⟨id, a, f⟩ :: tr)

theorem foldl_stepR_rel (R : Res) (id : Nat) (addErrors : Bool) (nsOf : String) (l : List Entry) (acc : Acc) :
    ∃ f'' U tr, FoldRel R id addErrors nsOf acc.forest l f'' U tr ∧
      l.foldl (stepR R id addErrors nsOf) acc =
        ⟨f'', acc.unapplied ++ U, acc.p + tr.length, acc.k + U.length, acc.trace ++ tr⟩ := by
  induction l generalizing acc with
  | nil => exact ⟨acc.forest, [], [], FoldRel.nil _, by simp⟩
  | cons a l ih =>
    simp only [List.foldl_cons]
    cases hr : attemptR R id addErrors nsOf a acc.forest with
    | mk f' b =>
      cases b with
      | false =>
        have hstep : stepR R id addErrors nsOf acc a =
            { acc with forest := f', unapplied := acc.unapplied ++ [a], k := acc.k + 1 } := by
          simp [stepR, hr]
        obtain ⟨f'', U, tr, hrel, heq⟩ := ih { acc with forest := f', unapplied := acc.unapplied ++ [a], k := acc.k + 1 }
        refine ⟨f'', a :: U, tr, FoldRel.fail hr hrel, ?_⟩
        rw [hstep, heq]
        simp [Nat.add_assoc, Nat.add_comm 1]
      | true =>
        have hstep : stepR R id addErrors nsOf acc a =
            { acc with forest := f', p := acc.p + 1, trace := acc.trace ++ [⟨id, a, acc.forest⟩] } := by
          simp [stepR, hr]
        obtain ⟨f'', U, tr, hrel, heq⟩ := ih { acc with forest := f', p := acc.p + 1, trace := acc.trace ++ [⟨id, a, acc.forest⟩] }
        refine ⟨f'', U, ⟨id, a, acc.forest⟩ :: tr, FoldRel.ok hr hrel, ?_⟩
        rw [hstep, heq]
        simp [Nat.add_assoc, Nat.add_comm 1]

namespace FoldRel
variable {R : Res} {id : Nat} {addErrors : Bool} {nsOf : String}

theorem mem_iff {f f' : Forest} {l U : List Entry} {tr : List Ev} (h : FoldRel R id addErrors nsOf f l f' U tr) :
    ∀ a, a ∈ l ↔ a ∈ U ∨ a ∈ tr.map (·.aug) := by
  induction h with
  | nil f => simp
  | fail _ _ ih => intro b; simp [ih b, or_assoc]
  | ok _ _ ih => intro b; simp [ih b]; constructor <;> (rintro (h | h | h) <;> simp [h])

theorem owner {f f' : Forest} {l U : List Entry} {tr : List Ev} (h : FoldRel R id addErrors nsOf f l f' U tr) :
    ∀ ev ∈ tr, ev.owner = id := by
  induction h with
  | nil f => simp
  | fail _ _ ih => exact ih
  | ok _ _ ih => intro ev hev; rcases List.mem_cons.mp hev with rfl | hev; rfl; exact ih ev hev

theorem length_eq {f f' : Forest} {l U : List Entry} {tr : List Ev} (h : FoldRel R id addErrors nsOf f l f' U tr) :
    tr.length + U.length = l.length := by
  induction h with
  | nil f => rfl
  | fail _ _ ih => simp; omega
  | ok _ _ ih => simp; omega

theorem nodup {f f' : Forest} {l U : List Entry} {tr : List Ev} (h : FoldRel R id addErrors nsOf f l f' U tr)
    (hn : l.Nodup) : U.Nodup ∧ (tr.map (·.aug)).Nodup ∧ ∀ a ∈ U, a ∉ tr.map (·.aug) := by
  induction h with
  | nil f => simp
  | @fail f f' f'' a l U tr _ hrel ih =>
    obtain ⟨hna, hnl⟩ := List.nodup_cons.mp hn
    obtain ⟨h1, h2, h3⟩ := ih hnl
    have hmem := hrel.mem_iff
    refine ⟨List.nodup_cons.mpr ⟨fun h => hna ((hmem a).mpr (Or.inl h)), h1⟩, h2, ?_⟩
    intro b hb
    rcases List.mem_cons.mp hb with rfl | hb
    · exact fun h => hna ((hmem b).mpr (Or.inr h))
    · exact h3 b hb
  | @ok f f' f'' a l U tr _ hrel ih =>
    obtain ⟨hna, hnl⟩ := List.nodup_cons.mp hn
    obtain ⟨h1, h2, h3⟩ := ih hnl
    have hmem := hrel.mem_iff
    refine ⟨h1, ?_, ?_⟩
    · simp only [List.map_cons, List.nodup_cons]
      exact ⟨fun h => hna ((hmem a).mpr (Or.inr h)), h2⟩
    · intro b hb
      simp only [List.map_cons, List.mem_cons, not_or]
      exact ⟨fun h => hna (h ▸ (hmem b).mpr (Or.inl hb)), h3 b hb⟩

end FoldRel

/-! ### pending bookkeeping -/

theorem find?_map_fst {β : Type} (g : Nat × β → Nat × β) (hg : ∀ x, (g x).1 = x.1) (l : List (Nat × β)) (k : Nat) :
    (l.map g).find? (·.1 == k) = (l.find? (·.1 == k)).map g := by
  induction l with
  | nil => rfl
  | cons x xs ih =>
    rw [List.map_cons, List.find?_cons, List.find?_cons, hg]
    cases h : (x.1 == k)
    · exact ih
    · rfl

theorem find?_map_set {β : Type} (l : List (Nat × β)) (k : Nat) (v : β) (k' : Nat) :
    (l.map fun x => match x with | (i, p) => if i == k then (i, v) else (i, p)).find? (·.1 == k') =
      (l.find? (·.1 == k')).map fun x => if k' = k then (k', v) else x := by
  rw [find?_map_fst _ (fun x => by obtain ⟨i, p⟩ := x; simp only; split <;> rfl)]
  cases hf : l.find? (·.1 == k') with
  | none => rfl
  | some x =>
    obtain ⟨i, p⟩ := x
    have h1 : i = k' := by simpa using List.find?_some hf
    subst h1
    by_cases hk : i = k <;> simp [hk]

theorem pendingOf_setPending (s : PState) (id : Nat) (l : List Entry) (id' : Nat) :
    (s.setPending id l).pendingOf id' =
      if id' = id then (if (s.pending.find? (·.1 == id)).isSome then l else []) else s.pendingOf id' := by
  unfold PState.setPending PState.pendingOf
  simp only [find?_map_set]
  by_cases hid : id' = id
  · subst hid
    cases s.pending.find? (·.1 == id') <;> simp
  · cases s.pending.find? (·.1 == id') <;> simp [hid]

theorem pendingOf_eq_nil_of_not_found (s : PState) (id : Nat) (h : (s.pending.find? (·.1 == id)).isSome = false) :
    s.pendingOf id = [] := by
  unfold PState.pendingOf
  cases hf : s.pending.find? (·.1 == id) with
  | none => rfl
  | some x => simp [hf] at h

theorem augmentTreeR_rel (R : Res) (id : Nat) (ae : Bool) (s : PState) :
    FoldRel R id ae (nsOfR R s.forest id) s.forest (s.pendingOf id) (augmentTreeR R id ae s).1.forest
      ((augmentTreeR R id ae s).1.pendingOf id) (augmentTreeR R id ae s).2.2.2 ∧
    (∀ id', id' ≠ id → (augmentTreeR R id ae s).1.pendingOf id' = s.pendingOf id') ∧
    (augmentTreeR R id ae s).2.1 = (augmentTreeR R id ae s).2.2.2.length ∧
    (augmentTreeR R id ae s).2.2.1 = ((augmentTreeR R id ae s).1.pendingOf id).length := by
  obtain ⟨f', U, tr, hrel, heq⟩ := foldl_stepR_rel R id ae (nsOfR R s.forest id) (s.pendingOf id) ⟨s.forest, [], 0, 0, []⟩
  have hval : augmentTreeR R id ae s = (({ s with forest := f' } : PState).setPending id U, tr.length, U.length, tr) := by
    unfold augmentTreeR
    simp only [heq]
    simp
  have hp : ∀ id', (augmentTreeR R id ae s).1.pendingOf id' = if id' = id then U else s.pendingOf id' := by
    intro id'
    rw [hval]
    simp only
    rw [pendingOf_setPending]
    by_cases hid : id' = id
    · subst hid
      simp only [if_true]
      cases hfound : (s.pending.find? (·.1 == id')).isSome with
      | true => simp
      | false =>
        -- no row for `id'`: its pending list is empty, so nothing was left over
        have := hrel.length_eq
        rw [pendingOf_eq_nil_of_not_found s id' hfound] at this
        simp [List.eq_nil_of_length_eq_zero (Nat.eq_zero_of_add_eq_zero_left this)]
    · simp only [hid, if_false]
      rfl
  have hU : (augmentTreeR R id ae s).1.pendingOf id = U := by rw [hp, if_pos rfl]
  have hf : (augmentTreeR R id ae s).1.forest = f' := by rw [hval]; rfl
  have ht : (augmentTreeR R id ae s).2.2.2 = tr := by rw [hval]
  refine ⟨by rw [hf, hU, ht]; exact hrel, fun id' h => by rw [hp, if_neg h], by rw [ht, hval], by rw [hU, hval]⟩

theorem augmentTreeR_pending_sub (R : Res) (id : Nat) (addErrors : Bool) (s : PState) (id' : Nat) :
    ∀ a ∈ ((augmentTreeR R id addErrors s).1).pendingOf id', a ∈ s.pendingOf id' := by
  obtain ⟨hrel, hother, _⟩ := augmentTreeR_rel R id addErrors s
  intro a ha
  by_cases hid : id' = id
  · subst hid
    exact (hrel.mem_iff a).mpr (Or.inl ha)
  · rwa [hother id' hid] at ha

theorem PlainPending.step {reg : Registry} {s : PState} (h : PlainPending reg s) (R : Res) (id : Nat) (addErrors : Bool) :
    PlainPending reg (augmentTreeR R id addErrors s).1 :=
  fun id' a ha => h id' a (augmentTreeR_pending_sub R id addErrors s id' a ha)

theorem augmentPass_eq (reg : Registry) (fuel : Nat) (mods : Array Nat) (i processed : Nat) (s : PState) (tr : List Ev)
    (hp : PlainPending reg s) :
    augmentPass reg fuel mods i processed s =
      let r := augmentPassR (Res.ofReg reg) fuel mods i processed s tr
      (r.1, r.2.1, r.2.2.1) := by
  induction fuel generalizing mods i processed s tr with
  | zero => rfl
  | succ fuel ih =>
    unfold augmentPass augmentPassR
    by_cases h : i < mods.size
    · simp only [h, dite_true]
      rw [augmentTree_eq reg mods[i] false s (hp mods[i])]
      simp only
      have hp' := hp.step (Res.ofReg reg) mods[i] false
      by_cases hk : ((augmentTreeR (Res.ofReg reg) mods[i] false s).2.2.1 == 0) = true
      · simp only [hk, if_true]
        exact ih _ _ _ _ _ hp'
      · simp only [hk, Bool.false_eq_true, if_false]
        exact ih _ _ _ _ _ hp'
    · simp only [h, dite_false]

end Goyang.Lemmas.AugmentModel
