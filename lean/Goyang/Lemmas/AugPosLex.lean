/-
C07 bridge, `AugPosDistinct` for ALL byte strings, lexer part: the tokens (error tokens aside) the
byte-level lexer model hands out stand at strictly increasing (line, col), whatever the bytes are
(ill-formed UTF-8, comment openers inside tokens, any quoted-string shape).

The cursor `(line, col)` of the model is NOT a function of the byte offset (`peek` on a newline
resets `col` to 0 on the way back: Go's `backup` does the same), so the proof does not go through
offsets.  It carries the invariant `F q l`: the cursor stands after `q`, or the next rune is a newline
and `q` is on an earlier-or-equal line (the next token then starts on a later line).
-/
import Goyang.Lemmas.Lex
import Goyang.Lemmas.AugPosOrd

set_option linter.unusedVariables false
namespace Goyang.Lemmas.AugPosLex
open Goyang.Model.Lex Goyang.Model.Utf8 Goyang.Lemmas.Utf8 Goyang.Lemmas.Lex Goyang.Lemmas.AugPosOrd
open Goyang.Model.Parse (Source lexSource skipErrors)

/-- the queued tokens that are not error tokens -/
def noErr (ts : List Token) : List Token := ts.filter (fun t => decide (t.code ≠ Code.error))

theorem noErr_append (a b : List Token) : noErr (a ++ b) = noErr a ++ noErr b := by
  unfold noErr; simp [List.filter_append]

def Cur0 (l : Lexer) : Prop := 0 ≤ l.line ∧ 0 ≤ l.col

/-! ### cursor movement of the primitives -/

theorem next_cur (l : Lexer) (h0 : Cur0 l) :
    Cur0 (next l).2 ∧
    ((next l).1 = 10 → (next l).2.line = l.line + 1 ∧ (next l).2.col = 0) ∧
    ((next l).1 ≠ 10 → l.rest ≠ [] → (next l).2.line = l.line ∧ (next l).2.col = l.col + 1) ∧
    (l.rest = [] → (next l).2.line = l.line ∧ (next l).2.col = l.col) := by
  unfold Cur0 at *
  by_cases h : l.rest = []
  · rw [next_nil l h]
    simp [eofRune, h, h0]
  · unfold next
    split
    · rename_i h'; exact absurd h' h
    · simp only
      split
      · rename_i hr; simp [hr, h]; omega
      · split
        · rename_i hr1 hr2; simp [hr1, h]; omega
        · rename_i hr1 hr2; simp [hr1, h]; omega

theorem peek_cur (l : Lexer) (h0 : Cur0 l) :
    Cur0 (peek l).2 ∧ (peek l).2.line = l.line ∧
    ((next l).1 ≠ 10 → (peek l).2.col = l.col) ∧ ((next l).1 = 10 → (peek l).2.col = 0) := by
  have hm := next_move l
  obtain ⟨c0, c1, c2, c3⟩ := next_cur l h0
  unfold Cur0 at *
  unfold peek
  simp only
  unfold backup Lexer.pos
  rw [if_neg (by omega)]
  simp only
  by_cases hr : l.rest = []
  · have hw : (next l).2.width = 0 := by rw [next_nil l hr]
    have h1 : (next l).1 ≠ 10 := by rw [next_nil l hr]; simp [eofRune]
    obtain ⟨e1, e2⟩ := c3 hr
    rw [if_neg (by omega)]
    simp only
    refine ⟨⟨by omega, by omega⟩, e1, fun _ => e2, fun h => absurd h h1⟩
  · have hw := hm.2.2 hr
    rw [if_pos (by omega)]
    by_cases h10 : (next l).1 = 10
    · obtain ⟨e1, e2⟩ := c1 h10
      rw [if_pos (by omega)]
      simp only
      refine ⟨⟨by omega, by omega⟩, by omega, fun h => absurd h10 h, fun _ => trivial⟩
    · obtain ⟨e1, e2⟩ := c2 h10 hr
      rw [if_neg (by omega)]
      simp only
      refine ⟨⟨by omega, by omega⟩, e1, fun _ => by omega, fun h => absurd h h10⟩

/-- the cursor moved weakly forward, nothing else the invariant looks at changed -/
def Adv (l l' : Lexer) : Prop :=
  Frame l l' ∧ (Cur0 l → Cur0 l' ∧ (l.line < l'.line ∨ (l.line = l'.line ∧ l.col ≤ l'.col)))

theorem Adv.trans {a b c : Lexer} (h1 : Adv a b) (h2 : Adv b c) : Adv a c := by
  refine ⟨h1.1.trans h2.1, fun h0 => ?_⟩
  obtain ⟨g1, g2⟩ := h1.2 h0
  obtain ⟨k1, k2⟩ := h2.2 g1
  exact ⟨k1, by omega⟩

theorem next_adv (l : Lexer) : Adv l (next l).2 := by
  refine ⟨next_frame l, fun h0 => ?_⟩
  obtain ⟨c0, c1, c2, c3⟩ := next_cur l h0
  refine ⟨c0, ?_⟩
  unfold Cur0 at *
  by_cases hr : l.rest = []
  · have := c3 hr; omega
  · by_cases h10 : (next l).1 = 10
    · have := c1 h10; omega
    · have := c2 h10 hr; omega

theorem foldl_cursor_cur (rs : List Nat) : ∀ (l : Lexer),
    (rs.foldl cursorStep l).line = l.line ∧ l.col ≤ (rs.foldl cursorStep l).col := by
  induction rs with
  | nil => intro l; exact ⟨rfl, Int.le_refl _⟩
  | cons r rs ih =>
    intro l
    simp only [List.foldl_cons]
    obtain ⟨h1, h2⟩ := ih (cursorStep l r)
    have g : (cursorStep l r).line = l.line ∧ (cursorStep l r).col = l.col + 1 := by
      unfold cursorStep; split <;> exact ⟨rfl, rfl⟩
    exact ⟨by rw [h1, g.1], by omega⟩

theorem updateCursor_adv (n : Nat) (l : Lexer) : Adv l (updateCursor n l) := by
  refine ⟨(updateCursor_spec n l).1, fun h0 => ?_⟩
  unfold Cur0 at *
  unfold updateCursor
  simp only
  split
  · rename_i hc
    obtain ⟨h1, h2⟩ := foldl_cursor_cur (runes (afterLastNL (l.rest.take n)))
      { l with before := (l.rest.take n).reverse ++ l.before, rest := l.rest.drop n, width := n,
               line := l.line + ↑(List.count 10 (l.rest.take n)), col := 0, tcol := 0 }
    simp only at h1 h2
    have hc' : (0 : Int) < ↑(List.count 10 (l.rest.take n)) := by omega
    refine ⟨⟨by rw [h1]; omega, by omega⟩, Or.inl (by rw [h1]; omega)⟩
  · obtain ⟨h1, h2⟩ := foldl_cursor_cur (runes (afterLastNL (l.rest.take n)))
      { l with before := (l.rest.take n).reverse ++ l.before, rest := l.rest.drop n, width := n }
    simp only at h1 h2
    refine ⟨⟨by rw [h1]; omega, by omega⟩, Or.inr ⟨by rw [h1], h2⟩⟩

theorem Adv.refl (l : Lexer) : Adv l l := ⟨Frame.refl l, fun h0 => ⟨h0, Or.inr ⟨rfl, Int.le_refl _⟩⟩⟩

theorem skipTo_adv (pat : List UInt8) (l : Lexer) : Adv l (skipTo pat l).2 := by
  unfold skipTo
  split
  · exact updateCursor_adv _ l
  · exact Adv.refl l

/-! ### emitting and reporting -/

/-- position the token being read will carry -/
abbrev sp (l : Lexer) : Pos := (l.sline, l.scol + 1)

theorem _root_.Goyang.Lemmas.Lex.Frame.sp {l l' : Lexer} (h : Frame l l') : sp l' = sp l := by
  unfold AugPosLex.sp; rw [h.sline, h.scol]

/-- the fields the invariant reads, `rest` and `items` aside -/
def Keep (l l' : Lexer) : Prop :=
  l'.line = l.line ∧ l'.col = l.col ∧ l'.sline = l.sline ∧ l'.scol = l.scol ∧ l'.state = l.state

theorem emitText_eff (c : Code) (text : List UInt8) (l : Lexer) :
    Keep l (emitText c text l) ∧ (emitText c text l).rest = l.rest ∧
    ((emitText c text l).items = l.items ∨
      ∃ t, (emitText c text l).items = l.items ++ [t] ∧ t.code = c ∧ tpos t = sp l) := by
  unfold emitText consume Keep
  simp only
  split
  · exact ⟨⟨rfl, rfl, rfl, rfl, rfl⟩, rfl, Or.inr ⟨_, rfl, rfl, rfl⟩⟩
  · exact ⟨⟨rfl, rfl, rfl, rfl, rfl⟩, rfl, Or.inl rfl⟩

theorem setFault_eff (f : Fault) (l : Lexer) :
    Keep l (setFault f l) ∧ (setFault f l).rest = l.rest ∧ (setFault f l).items = l.items := by
  unfold setFault Keep
  split <;> exact ⟨⟨rfl, rfl, rfl, rfl, rfl⟩, rfl, rfl⟩

theorem emit_eff (c : Code) (l : Lexer) :
    Keep l (emit c l) ∧ (emit c l).rest = l.rest ∧
    ((emit c l).items = l.items ∨ ∃ t, (emit c l).items = l.items ++ [t] ∧ t.code = c ∧ tpos t = sp l) := by
  unfold emit
  split
  · obtain ⟨k, hr, hi⟩ := setFault_eff .crash l
    exact ⟨k, hr, Or.inl hi⟩
  · exact emitText_eff c _ l

theorem adderror_eff (e : ErrLine) (l : Lexer) : Keep l (adderror e l) ∧ (adderror e l).items = l.items := by
  unfold adderror Keep
  split
  · exact ⟨⟨rfl, rfl, rfl, rfl, rfl⟩, rfl⟩
  · split <;> exact ⟨⟨rfl, rfl, rfl, rfl, rfl⟩, rfl⟩

theorem errorf_eff (cls : ErrClass) (l : Lexer) :
    Keep l (errorf cls l) ∧ noErr (errorf cls l).items = noErr l.items := by
  unfold errorf
  simp only
  obtain ⟨⟨aline, acol, asline, ascol, astate⟩, a2⟩ :=
    adderror_eff { file := l.file, pos := some (l.line, l.col + 1), cls := cls } (emit .error l)
  obtain ⟨⟨eline, ecol, esline, escol, estate⟩, _, e3⟩ := emit_eff .error l
  refine ⟨⟨aline.trans eline, acol.trans ecol, asline.trans esline, ascol.trans escol, astate.trans estate⟩, ?_⟩
  rw [a2]
  rcases e3 with e3 | ⟨t, e3, hc, _⟩
  · rw [e3]
  · rw [e3, noErr_append]
    have : noErr [t] = [] := by simp [noErr, hc]
    rw [this, List.append_nil]

theorem errorfAt_eff (line col : Int) (cls : ErrClass) (l : Lexer) :
    Keep l (errorfAt line col cls l) ∧ noErr (errorfAt line col cls l).items = noErr l.items := by
  unfold errorfAt
  simp only
  obtain ⟨⟨-, -, ksline, kscol, kstate⟩, e⟩ := errorf_eff cls { l with line := line, col := col }
  exact ⟨⟨rfl, rfl, ksline, kscol, kstate⟩, e⟩

-- the primitives enter through the lemmas above only (see the note in `Lemmas/Lex.lean`)
attribute [local irreducible] next backup peek acceptRun updateCursor skipTo emitText emit adderror errorf errorfAt

/-! ### the invariant -/

/-- the cursor stands after `q` -/
def Gt (q : Pos) (l : Lexer) : Prop := Cur0 l ∧ plt q (l.line, l.col + 1)

/-- the next token will stand after `q` -/
def F (q : Pos) (l : Lexer) : Prop :=
  Cur0 l ∧ (plt q (l.line, l.col + 1) ∨ ((next l).1 = 10 ∧ q.1 ≤ l.line ∧ 0 ≤ q.1 ∧ 0 ≤ q.2))

theorem Gt.F {q : Pos} {l : Lexer} (h : Gt q l) : F q l := ⟨h.1, Or.inl h.2⟩

theorem Gt.adv {q : Pos} {l l' : Lexer} (h : Gt q l) (ha : Adv l l') : Gt q l' := by
  obtain ⟨g1, g2⟩ := ha.2 h.1
  refine ⟨g1, ?_⟩
  have := h.2
  unfold plt Cur0 at *
  simp only at *
  omega

theorem Gt.mono {q q' : Pos} {l : Lexer} (h : Gt q' l) (hq : plt q q') : Gt q l := ⟨h.1, plt_trans hq h.2⟩

theorem F.mono {q q' : Pos} {l : Lexer} (h : F q' l) (hq : plt q q') : F q l := by
  refine ⟨h.1, ?_⟩
  rcases h.2 with h2 | h2
  · exact Or.inl (plt_trans hq h2)
  · refine Or.inr ⟨h2.1, ?_⟩
    unfold plt at hq
    omega

theorem F.congr {q : Pos} {l l' : Lexer} (h : F q l) (h1 : l'.line = l.line) (h2 : l'.col = l.col)
    (h3 : l'.rest = l.rest) : F q l' := by
  unfold F Cur0 at *
  rw [h1, h2, next_fst_congr l' l h3]
  exact h

theorem Gt.congr {q : Pos} {l l' : Lexer} (h : Gt q l) (h1 : l'.line = l.line) (h2 : l'.col = l.col) : Gt q l' := by
  unfold Gt Cur0 at *
  rw [h1, h2]
  exact h

/-- `peek` keeps `F` (it may reset `col` before a newline: the second disjunct takes over) -/
theorem F.peek {q : Pos} {l : Lexer} (h : F q l) : F q (peek l).2 := by
  obtain ⟨c0, c1, c2, c3⟩ := peek_cur l h.1
  have hs := peek_snd l
  refine ⟨c0, ?_⟩
  rw [next_peek]
  by_cases h10 : (next l).1 = 10
  · refine Or.inr ⟨h10, ?_⟩
    rw [c1]
    rcases h.2 with h2 | h2
    · unfold plt at h2; simp only at h2; omega
    · exact h2.2
  · rcases h.2 with h2 | h2
    · left; rw [c1, c2 h10]; exact h2
    · exact absurd h2.1 h10

/-- what the lexer state promises about the tokens still to come, `b` being the last position
handed out or queued -/
def St (b : Pos) (l : Lexer) : Prop :=
  match l.state with
  | .ground => F b l
  | .qstring => plt b (sp l) ∧ Gt (sp l) l
  | .unquoted => plt b (sp l) ∧ Cur0 l ∧
      (F (sp l) l ∨ (l.line = l.sline ∧ l.col = l.scol ∧ isUnqDelim (next l).1 = false))
  | .done => True

theorem St.congr {b : Pos} {l l' : Lexer} (h : St b l) (k : Keep l l') (h3 : l'.rest = l.rest) : St b l' := by
  obtain ⟨k1, k2, k3, k4, k5⟩ := k
  unfold St at *
  rw [k5]
  have hn := next_fst_congr l' l h3
  cases hs : l.state <;> rw [hs] at h <;> simp only at h ⊢
  · exact h.congr k1 k2 h3
  · unfold sp; rw [k3, k4]; exact ⟨h.1, h.2.congr k1 k2⟩
  · unfold sp Cur0; rw [k3, k4, k1, k2, hn]
    refine ⟨h.1, h.2.1, ?_⟩
    rcases h.2.2 with h2 | h2
    · exact Or.inl (F.congr h2 k1 k2 h3)
    · exact Or.inr h2

theorem St.mono {b b' : Pos} {l : Lexer} (h : St b' l) (hq : plt b b') : St b l := by
  unfold St at *
  cases hs : l.state <;> rw [hs] at h <;> simp only at h ⊢
  · exact h.mono hq
  · exact ⟨plt_trans hq h.1, h.2⟩
  · exact ⟨plt_trans hq h.1, h.2⟩

theorem St.ground {b : Pos} {l : Lexer} (hs : l.state = .ground) (h : F b l) : St b l := by
  unfold St; rw [hs]; exact h
theorem St.done {b : Pos} {l : Lexer} (hs : l.state = .done) : St b l := by
  unfold St; rw [hs]; trivial
theorem St.unq {b : Pos} {l : Lexer} (hs : l.state = .unquoted) (h : plt b (sp l) ∧ Cur0 l ∧
    (F (sp l) l ∨ (l.line = l.sline ∧ l.col = l.scol ∧ isUnqDelim (next l).1 = false))) : St b l := by
  unfold St; rw [hs]; exact h
theorem St.qstr {b : Pos} {l : Lexer} (hs : l.state = .qstring) (h : plt b (sp l) ∧ Gt (sp l) l) : St b l := by
  unfold St; rw [hs]; exact h
theorem F.set {q : Pos} {l : Lexer} (h : F q l) (s : LState) : F q (setState s l) := h.congr rfl rfl rfl
theorem St.unq_set {b : Pos} {x : Lexer} (h : plt b (sp x) ∧ Cur0 x ∧
    (F (sp x) x ∨ (x.line = x.sline ∧ x.col = x.scol ∧ isUnqDelim (next x).1 = false))) :
    St b (setState .unquoted x) := by
  apply St.unq rfl
  have hn : (next (setState .unquoted x)).1 = (next x).1 := next_fst_congr _ _ rfl
  refine ⟨h.1, h.2.1, ?_⟩
  rcases h.2.2 with h2 | h2
  · exact Or.inl (h2.set _)
  · exact Or.inr ⟨h2.1, h2.2.1, by rw [hn]; exact h2.2.2⟩

/-- effect of one state function: nothing but error tokens queued, or one token after `b` -/
def Post (b : Pos) (l l' : Lexer) : Prop :=
  (noErr l'.items = noErr l.items ∧ St b l') ∨
  (∃ t, noErr l'.items = noErr l.items ++ [t] ∧ plt b (tpos t) ∧ St (tpos t) l')

theorem Post.congr_left {b : Pos} {l l2 l' : Lexer} (h : Post b l2 l') (e : noErr l2.items = noErr l.items) :
    Post b l l' := by
  unfold Post at *; rw [← e]; exact h

/-- an emitted token that is not an error token, at `sp`, followed by the ground state
(`h` is `emit_eff` or `emitText_eff`) -/
theorem post_emit (b : Pos) (l0 l l' : Lexer) (c : Code) (hc : c ≠ Code.error)
    (e0 : noErr l.items = noErr l0.items) (hb : plt b (sp l)) (hF : F (sp l) l)
    (h : Keep l l' ∧ l'.rest = l.rest ∧
      (l'.items = l.items ∨ ∃ t, l'.items = l.items ++ [t] ∧ t.code = c ∧ tpos t = sp l)) :
    Post b l0 (setState .ground l') := by
  obtain ⟨k, hr, hi⟩ := h
  have hF : F (sp l) (setState .ground l') := hF.congr k.1 k.2.1 hr
  rcases hi with hi | ⟨t, hi, htc, htp⟩
  · exact Or.inl ⟨by show noErr l'.items = _; rw [hi, e0], St.ground rfl (hF.mono hb)⟩
  · refine Or.inr ⟨t, ?_, by rw [htp]; exact hb, by rw [htp]; exact St.ground rfl hF⟩
    show noErr l'.items = _
    rw [hi, noErr_append, e0]
    have : noErr [t] = [t] := by simp [noErr, htc, hc]
    rw [this]

theorem post_done (b : Pos) (l0 s : Lexer) (line col : Int) (cls : ErrClass) (e0 : noErr s.items = noErr l0.items) :
    Post b l0 (setState .done (errorfAt line col cls s)) := by
  obtain ⟨_, e⟩ := errorfAt_eff line col cls s
  exact Or.inl ⟨by show noErr (errorfAt line col cls s).items = _; rw [e, e0], St.done rfl⟩

/-! ### `lexUnquoted` -/

theorem unquotedLoop_post (b : Pos) : ∀ (f : Nat) (l : Lexer), l.rest.length + 1 ≤ f → plt b (sp l) → Cur0 l →
    (F (sp l) l ∨ (l.line = l.sline ∧ l.col = l.scol ∧ isUnqDelim (next l).1 = false)) →
    Post b l (unquotedLoop f l) := by
  intro f
  induction f with
  | zero => intro l h; omega
  | succ f ih =>
    intro l hf hb h0 hW
    unfold unquotedLoop
    simp only
    obtain ⟨c0, c1, c2, c3⟩ := peek_cur l h0
    have hs := peek_snd l
    have hfr := hs.2.2
    rw [peek_fst]
    split
    · rename_i hd
      have hF : F (sp l) l := by
        rcases hW with hW | hW
        · exact hW
        · rw [hW.2.2] at hd; cases hd
      exact post_emit b l (peek l).2 _ .unquoted (by decide) (by rw [hfr.items]) (by rw [hfr.sp]; exact hb)
        (by rw [hfr.sp]; exact hF.peek) (emit_eff _ _)
    · rename_i hd
      have hd' : isUnqDelim (next l).1 = false := by simpa using hd
      have h10 : (next l).1 ≠ 10 := by
        intro e; rw [e] at hd'; simp [isUnqDelim] at hd'
      have hne : l.rest ≠ [] := by
        intro e; rw [next_nil l e] at hd'; simp [isUnqDelim] at hd'
      obtain ⟨d0, d1, d2, d3⟩ := next_cur (peek l).2 c0
      have hne' : (peek l).2.rest ≠ [] := by rw [hs.2.1]; exact hne
      obtain ⟨e1, e2⟩ := d2 (by rw [next_peek]; exact h10) hne'
      have hfr2 := hfr.trans (next_frame (peek l).2)
      have hm := next_move (peek l).2
      have hw := hm.2.2 hne'
      have hlen : (next (peek l).2).2.rest.length + 1 ≤ f := by
        have := hm.2.1; rw [hs.2.1] at this; omega
      have hsp := hfr2.sp
      have hpost := ih (next (peek l).2).2 hlen (by rw [hsp]; exact hb) d0 (by
        left
        rw [hsp]
        refine Gt.F ⟨d0, ?_⟩
        rw [e1, e2, c1, c2 h10]
        rcases hW with hW | hW
        · rcases hW.2 with h2 | h2
          · unfold plt at *; simp only at *; unfold Cur0 at h0; omega
          · exact absurd h2.1 h10
        · unfold plt Cur0 at *; simp only; rw [hW.1, hW.2.1]
          have := hb; simp only at this; omega)
      exact hpost.congr_left (by rw [hfr2.items])

/-! ### `lexQString` -/

/-- invariant of the loop of `lexQString` -/
def QI (b : Pos) (l : Lexer) : Prop := l.state = .qstring ∧ plt b (sp l) ∧ Gt (sp l) l

theorem QI.next {b : Pos} {l : Lexer} (h : QI b l) :
    QI b (next l).2 ∧ noErr (next l).2.items = noErr l.items := by
  have ha := next_adv l
  unfold QI
  rw [ha.1.sp, ha.1.state]
  exact ⟨⟨h.1, h.2.1, h.2.2.adv ha⟩, by rw [ha.1.items]⟩

theorem QI.err {b : Pos} {l : Lexer} (h : QI b l) (line col : Int) (cls : ErrClass) :
    QI b (errorfAt line col cls l) ∧ noErr (errorfAt line col cls l).items = noErr l.items := by
  obtain ⟨⟨kline, kcol, ksline, kscol, kstate⟩, e⟩ := errorfAt_eff line col cls l
  have hsp : sp (errorfAt line col cls l) = sp l := by unfold sp; rw [ksline, kscol]
  unfold QI
  rw [hsp, kstate]
  exact ⟨⟨h.1, h.2.1, h.2.2.congr kline kcol⟩, e⟩

theorem QI.toSt {b : Pos} {l : Lexer} (h : QI b l) : St b l := by
  unfold St; rw [h.1]; exact h.2

theorem qstringLoop_post (b : Pos) (indent line col : Int) (f : Nat) (text : List UInt8) (over : Bool)
    (l : Lexer) (h : QI b l) : Post b l (qstringLoop indent line col f text over l) := by
  refine qstringLoop_rule (I := fun _ x => QI b x ∧ noErr x.items = noErr l.items) (Q := Post b l)
    indent line col ?_ ?_ ?_ ?_ ?_ ?_ f text over l ⟨h, rfl⟩
  · intro x ⟨h, e⟩
    obtain ⟨k, hr, hi⟩ := setFault_eff .outOfFuel x
    exact Or.inl ⟨by rw [hi, e], h.toSt.congr k hr⟩
  · intro _ x ⟨h, e⟩ _
    exact post_done b l _ _ _ _ (h.next.2.trans e)
  · intro _ x text ⟨h, e⟩ _
    obtain ⟨h1, e1⟩ := h.next
    exact post_emit b l (next x).2 _ .string (by decide) (e1.trans e) h1.2.1 h1.2.2.F (emitText_eff _ _ _)
  · intro _ x ⟨h, e⟩ _
    exact ⟨h.next.1, h.next.2.trans e⟩
  · intro _ x ⟨h, e⟩ _
    exact ⟨h.next.1.next.1, h.next.1.next.2.trans (h.next.2.trans e)⟩
  · intro _ x el ec ⟨h, e⟩ _
    obtain ⟨h3, e3⟩ := h.next.1.next.1.err el ec .invalidEscape
    exact ⟨h3, e3.trans (h.next.1.next.2.trans (h.next.2.trans e))⟩

theorem lexQString_post (b : Pos) (l : Lexer) (h : QI b l) : Post b l (lexQString l) :=
  qstringLoop_post b _ _ _ _ _ _ l h

/-! ### `lexGround` -/

theorem F.toGt {q : Pos} {l : Lexer} (h : F q l) (h10 : (next l).1 ≠ 10) : Gt q l := by
  refine ⟨h.1, ?_⟩
  rcases h.2 with h2 | h2
  · exact h2
  · exact absurd h2.1 h10

/-- reading a rune keeps `F`: the cursor comes to stand after `b` (at the end of input nothing moves) -/
theorem F.read {b : Pos} {l : Lexer} (hF : F b l) : F b (next l).2 := by
  by_cases hne : l.rest = []
  · rw [next_nil l hne]; exact hF.congr rfl rfl rfl
  obtain ⟨c0, c1, c2, c3⟩ := next_cur l hF.1
  refine Gt.F ⟨c0, ?_⟩
  have h0 := hF.1
  by_cases h10 : (next l).1 = 10
  · obtain ⟨e1, e2⟩ := c1 h10
    rw [e1, e2]
    rcases hF.2 with h2 | h2 <;> (unfold plt Cur0 at *; simp only at *; omega)
  · obtain ⟨e1, e2⟩ := c2 h10 hne
    rw [e1, e2]
    have h2 := (hF.toGt h10).2
    unfold plt Cur0 at *; simp only at *; omega

/-- what `lexGround` knows after skipping white space: the cursor is the token start, after `b`,
and the next rune is not white space -/
structure GS (b : Pos) (l0 p : Lexer) : Prop where
  cur0 : Cur0 p
  sl : p.sline = p.line
  sc : p.scol = p.col
  hb : plt b (sp p)
  items : noErr p.items = noErr l0.items
  nsp : isSpaceRune (next p).1 = false

theorem GS.h10 {b : Pos} {l0 p : Lexer} (h : GS b l0 p) : (next p).1 ≠ 10 := by
  intro e; have := h.nsp; rw [e] at this; simp [isSpaceRune] at this

theorem groundStart_gs (b : Pos) (l : Lexer) (hF : F b l) : GS b l (groundStart l) := by
  obtain ⟨l0, e, hs, hF0, hm⟩ := acceptRun_rule (P := fun x => F b x ∧ Moves l x)
    (fun x h _ => ⟨h.1.read, h.2.trans (next_moves x)⟩) l ⟨hF, Moves.refl l⟩
  have hp := peek_snd l0
  have h10 : (next l0).1 ≠ 10 := by
    intro e; rw [e] at hs; cases hs
  have hg : Gt b (peek l0).2 := hF0.peek.toGt (by rw [next_peek]; exact h10)
  have hn' : (next (groundStart l)).1 = (next l0).1 :=
    next_fst_congr _ l0 (by show (acceptRun l).2.rest = _; rw [e]; exact hp.2.1)
  refine ⟨?_, rfl, rfl, ?_, ?_, by rw [hn']; exact hs⟩
  · show Cur0 (acceptRun l).2
    rw [e]; exact hg.1
  · show plt b ((acceptRun l).2.line, (acceptRun l).2.col + 1)
    rw [e]; exact hg.2
  · show noErr (acceptRun l).2.items = _
    rw [e, hp.2.2.items, hm.frame.items]

theorem GS.peek {b : Pos} {l0 p : Lexer} (h : GS b l0 p) : GS b l0 (peek p).2 := by
  obtain ⟨c0, c1, c2, c3⟩ := peek_cur p h.cur0
  have hs := peek_snd p
  have e2 := c2 h.h10
  refine ⟨c0, by rw [hs.2.2.sline, c1, h.sl], by rw [hs.2.2.scol, e2, h.sc], ?_, by rw [hs.2.2.items, h.items],
    by rw [next_peek]; exact h.nsp⟩
  rw [hs.2.2.sp]
  exact h.hb

/-- after the first rune of a token -/
theorem GS.first {b : Pos} {l0 p : Lexer} (h : GS b l0 p) (hne : (next p).1 ≠ eofRune) :
    Gt (sp (next p).2) (next p).2 ∧ plt b (sp (next p).2) ∧ noErr (next p).2.items = noErr l0.items := by
  obtain ⟨c0, c1, c2, c3⟩ := next_cur p h.cur0
  have hr : p.rest ≠ [] := fun e => hne ((next_eof_iff p).2 e)
  obtain ⟨e1, e2⟩ := c2 h.h10 hr
  have hf := next_frame p
  rw [hf.sp]
  refine ⟨⟨c0, ?_⟩, h.hb, by rw [hf.items, h.items]⟩
  rw [e1, e2]
  have h0 := h.cur0
  unfold plt sp Cur0 at *
  simp only
  rw [h.sl, h.sc]
  omega

theorem Post.read {b : Pos} {l0 x : Lexer} (h : Post b l0 (setState .ground x)) :
    Post b l0 (setState .ground (next x).2) := by
  have key : ∀ q, St q (setState .ground x) → St q (setState .ground (next x).2) := fun q hs =>
    St.ground rfl (((show F q (setState .ground x) from hs).congr (l' := x) rfl rfl rfl).read.set _)
  have hi : noErr (setState .ground (next x).2).items = noErr (setState .ground x).items := by
    show noErr (next x).2.items = noErr x.items
    rw [(next_frame x).items]
  rcases h with ⟨h1, hs⟩ | ⟨t, h1, hb, hs⟩
  · exact Or.inl ⟨hi.trans h1, key _ hs⟩
  · exact Or.inr ⟨t, hi.trans h1, hb, key _ hs⟩

theorem post_ground (b : Pos) (l0 x : Lexer) (hg : Gt b x) (hi : noErr x.items = noErr l0.items) :
    Post b l0 (setState .ground x) :=
  Or.inl ⟨hi, St.ground rfl (hg.F.set _)⟩

theorem groundSQuote_post (b : Pos) (l0 p : Lexer) (h : GS b l0 p) (hne : (next p).1 ≠ eofRune) :
    Post b l0 (groundSQuote p) := by
  obtain ⟨f1, f2, f3⟩ := h.first hne
  unfold groundSQuote
  simp only
  have ha := skipTo_adv [39] (consume (next p).2)
  have hg : Gt (sp (next p).2) (skipTo [39] (consume (next p).2)).2 := Gt.adv (l := consume (next p).2) f1 ha
  have hsp : sp (skipTo [39] (consume (next p).2)).2 = sp (next p).2 := ha.1.sp
  have hit : noErr (skipTo [39] (consume (next p).2)).2.items = noErr l0.items := by
    rw [ha.1.items]; exact f3
  split
  · exact (post_emit b l0 _ _ .string (by decide) hit (by rw [hsp]; exact f2) (by rw [hsp]; exact hg.F)
      (emit_eff _ _)).read
  · exact post_done b l0 _ _ _ _ hit

/-- the state `unquoted` entered after one rune and a look at the next -/
theorem post_unq (b : Pos) (l0 p : Lexer) (h : GS b l0 p) (hne : (next p).1 ≠ eofRune) :
    Post b l0 (setState .unquoted (peek (next p).2).2) := by
  obtain ⟨f1, f2, f3⟩ := h.first hne
  have hs := peek_snd (next p).2
  have hF := f1.F.peek
  refine Or.inl ⟨by show noErr (peek (next p).2).2.items = _; rw [hs.2.2.items]; exact f3, ?_⟩
  refine St.unq_set ?_
  rw [hs.2.2.sp]
  exact ⟨f2, hF.1, Or.inl hF⟩

theorem groundPlus_post (b : Pos) (l0 p : Lexer) (h : GS b l0 p) (hne : (next p).1 ≠ eofRune) :
    Post b l0 (groundPlus p) := by
  obtain ⟨f1, f2, f3⟩ := h.first hne
  unfold groundPlus
  simp only
  have hs := peek_snd (next p).2
  split
  · exact post_emit b l0 _ _ _ (by decide) (by rw [hs.2.2.items]; exact f3) (by rw [hs.2.2.sp]; exact f2)
      (by rw [hs.2.2.sp]; exact f1.F.peek) (emit_eff _ _)
  · exact post_unq b l0 p h hne

theorem groundSlash_post (b : Pos) (l0 p : Lexer) (h : GS b l0 p) (hne : (next p).1 ≠ eofRune) :
    Post b l0 (groundSlash p) := by
  obtain ⟨f1, f2, f3⟩ := h.first hne
  unfold groundSlash
  simp only
  rw [peek_fst]
  have hs := peek_snd (next p).2
  have hit : noErr (peek (next p).2).2.items = noErr l0.items := by rw [hs.2.2.items]; exact f3
  split
  · rename_i hq
    have h10 : (next (next p).2).1 ≠ 10 := by rw [hq]; decide
    have hg : Gt b (peek (next p).2).2 := (f1.F.peek.toGt (by rw [next_peek]; exact h10)).mono f2
    have ha := skipTo_adv [10] (peek (next p).2).2
    split
    · exact post_ground b l0 _ (hg.adv ha) (by rw [ha.1.items]; exact hit)
    · exact post_done b l0 _ _ _ _ (by rw [ha.1.items]; exact hit)
  · split
    · rename_i hq
      have h10 : (next (next p).2).1 ≠ 10 := by rw [hq]; decide
      have hg : Gt b (peek (next p).2).2 := (f1.F.peek.toGt (by rw [next_peek]; exact h10)).mono f2
      have ha := (next_adv (peek (next p).2).2).trans (skipTo_adv [42, 47] (next (peek (next p).2).2).2)
      split
      · have ha2 := (ha.trans (next_adv _)).trans (next_adv (next (skipTo [42, 47] (next (peek (next p).2).2).2).2).2)
        exact post_ground b l0 _ (hg.adv ha2) (by rw [ha2.1.items]; exact hit)
      · exact post_done b l0 _ _ _ _ (by rw [ha.1.items]; exact hit)
    · exact post_unq b l0 p h hne

theorem lexGround_post (b : Pos) (l : Lexer) (hF : F b l) : Post b l (lexGround l) := by
  have h := (groundStart_gs b l hF).peek
  have hn : (next (peek (groundStart l)).2).1 = (peek (groundStart l)).1 :=
    (next_fst_congr _ _ (peek_snd (groundStart l)).2.1).trans (peek_fst _).symm
  refine lexGround_elim (Q := Post b l) rfl ?_ ?_ ?_ ?_ ?_ ?_ ?_
  · intro _; exact Or.inl ⟨h.items, St.done rfl⟩
  · intro h0 _
    obtain ⟨f1, f2, f3⟩ := h.first (by rw [hn]; exact h0)
    exact post_emit b l _ _ _ (fun e => Code.noConfusion e) f3 f2 f1.F (emit_eff _ _)
  · intro h0 _; exact groundSQuote_post b l _ h (by rw [hn]; exact h0)
  · intro h0 _
    obtain ⟨f1, f2, f3⟩ := h.first (by rw [hn]; exact h0)
    exact Or.inl ⟨f3, St.qstr rfl ⟨f2, f1⟩⟩
  · intro h0 _; exact groundSlash_post b l _ h (by rw [hn]; exact h0)
  · intro h0 _; exact groundPlus_post b l _ h (by rw [hn]; exact h0)
  · intro hd _ _
    exact Or.inl ⟨h.items, St.unq_set ⟨h.hb, h.cur0, Or.inr ⟨h.sl.symm, h.sc.symm, by rw [hn]; exact hd⟩⟩⟩

/-! ### the token queue, `NextToken`, the parser's token source -/

/-- `q`, then the positions `ts`, strictly increasing, all at or before `b` -/
def Chain (q : Pos) (ts : List Pos) (b : Pos) : Prop := (q :: ts).Pairwise plt ∧ ∀ x ∈ q :: ts, ple x b

theorem chain_snoc {q : Pos} {ts : List Pos} {b t : Pos} (h : Chain q ts b) (ht : plt b t) :
    Chain q (ts ++ [t]) t := by
  obtain ⟨h1, h2⟩ := h
  refine ⟨?_, ?_⟩
  · rw [← List.cons_append, List.pairwise_append]
    refine ⟨h1, List.pairwise_singleton _ _, ?_⟩
    intro a ha c hc
    simp only [List.mem_singleton] at hc
    rw [hc]
    exact plt_of_ple_of_plt (h2 a ha) ht
  · intro x hx
    rw [← List.cons_append, List.mem_append] at hx
    rcases hx with hx | hx
    · exact Or.inr (plt_of_ple_of_plt (h2 x hx) ht)
    · simp only [List.mem_singleton] at hx; rw [hx]; exact ple_refl _

theorem chain_pop {q t : Pos} {ts : List Pos} {b : Pos} (h : Chain q (t :: ts) b) : plt q t ∧ Chain t ts b := by
  obtain ⟨h1, h2⟩ := h
  rw [List.pairwise_cons] at h1
  exact ⟨h1.1 t (by simp), h1.2, fun x hx => h2 x (List.mem_cons_of_mem _ hx)⟩

/-- **Invariant of the lexer as token source**: every token (error tokens aside) still queued or
still to be read stands strictly after `q`, in strictly increasing order. -/
def LInv (q : Pos) (l : Lexer) : Prop := ∃ b, Chain q ((noErr l.items).map tpos) b ∧ St b l

theorem LInv.post {q b : Pos} {l l' : Lexer} (hc : Chain q ((noErr l.items).map tpos) b) (hp : Post b l l') :
    LInv q l' := by
  rcases hp with ⟨hi, hst⟩ | ⟨t, hi, hbt, hst⟩
  · exact ⟨b, by rw [hi]; exact hc, hst⟩
  · refine ⟨tpos t, ?_, hst⟩
    rw [hi, List.map_append]
    exact chain_snoc hc hbt

theorem LInv.congr {q : Pos} {l l' : Lexer} (h : LInv q l) (k : Keep l l') (hr : l'.rest = l.rest)
    (hi : l'.items = l.items) : LInv q l' := by
  obtain ⟨b, hc, hst⟩ := h
  exact ⟨b, by rw [hi]; exact hc, hst.congr k hr⟩

theorem LInv.setFault {q : Pos} {l : Lexer} (h : LInv q l) (f : Fault) : LInv q (setFault f l) :=
  h.congr (setFault_eff f l).1 (setFault_eff f l).2.1 (setFault_eff f l).2.2

/-- what a fetched token tells -/
def Out (q : Pos) (r : Option Token × Lexer) : Prop :=
  match r.1 with
  | none => LInv q r.2
  | some t => (t.code = Code.error → LInv q r.2) ∧ (t.code ≠ Code.error → plt q (tpos t) ∧ LInv (tpos t) r.2)

theorem nextTokenLoop_inv (q : Pos) : ∀ (f : Nat) (l : Lexer), LInv q l → Out q (nextTokenLoop f l) := by
  intro f
  induction f with
  | zero =>
    intro l h
    unfold nextTokenLoop Out
    exact h.setFault _
  | succ f ih =>
    intro l h
    unfold nextTokenLoop
    split
    · rename_i t ts hits
      obtain ⟨b, hc, hst⟩ := h
      have hst' : St b { l with items := ts } := hst.congr ⟨rfl, rfl, rfl, rfl, rfl⟩ rfl
      unfold Out
      simp only
      rw [hits] at hc
      by_cases he : t.code = Code.error
      · have : noErr (t :: ts) = noErr ts := by simp [noErr, he]
        rw [this] at hc
        exact ⟨fun _ => ⟨b, hc, hst'⟩, fun hn => absurd he hn⟩
      · have : noErr (t :: ts) = t :: noErr ts := by simp [noErr, he]
        rw [this, List.map_cons] at hc
        obtain ⟨h1, h2⟩ := chain_pop hc
        exact ⟨fun hn => absurd hn he, fun _ => ⟨h1, ⟨b, h2, hst'⟩⟩⟩
    · obtain ⟨b, hc, hst⟩ := h
      split
      · rename_i hs
        unfold Out
        exact ⟨b, hc, hst⟩
      · rename_i hs
        have hF : F b l := by unfold St at hst; rw [hs] at hst; exact hst
        exact ih _ (LInv.post hc (lexGround_post b l hF))
      · rename_i hs
        have hQ : QI b l := by unfold St at hst; rw [hs] at hst; exact ⟨hs, hst⟩
        exact ih _ (LInv.post hc (lexQString_post b l hQ))
      · rename_i hs
        have hU := hst
        unfold St at hU; rw [hs] at hU
        exact ih _ (LInv.post hc (unquotedLoop_post b _ l (Nat.le_refl _) hU.1 hU.2.1 hU.2.2))

/-- what a fetched non-error token tells -/
def Out' (q : Pos) (r : Option Token × Lexer) : Prop :=
  match r.1 with
  | none => LInv q r.2
  | some t => plt q (tpos t) ∧ LInv (tpos t) r.2

theorem skipErrors_inv (q : Pos) : ∀ (f : Nat) (l : Lexer), LInv q l → Out' q (skipErrors f l) := by
  intro f
  induction f with
  | zero =>
    intro l h
    unfold skipErrors Out'
    exact h.setFault _
  | succ f ih =>
    intro l h
    unfold skipErrors
    have hn := nextTokenLoop_inv q (l.rest.length + 3) l h
    unfold nextToken
    simp only
    unfold Out at hn
    split
    · rename_i hr
      rw [hr] at hn
      unfold Out'
      exact hn
    · rename_i t hr
      rw [hr] at hn
      simp only at hn
      split
      · rename_i he
        exact ih _ (hn.1 he)
      · rename_i he
        unfold Out'
        exact hn.2 he

theorem pull_inv (b : Bool) (s : Lexer) (q : Pos) (hi : LInv q s) : Out' q (lexSource.pull b s) :=
  skipErrors_inv q _ { s with inPattern := b } (hi.congr ⟨rfl, rfl, rfl, rfl, rfl⟩ rfl rfl)

/-- **The lexer model hands the parser tokens at strictly increasing (line, col), for every byte
string.** -/
theorem lexSource_mono : SrcMono lexSource LInv where
  pull_some b s q t s' hi hp := by
    have h := pull_inv b s q hi
    rw [hp] at h
    exact h
  pull_none b s q s' hi hp := by
    have h := pull_inv b s q hi
    rw [hp] at h
    exact h
  addErr e s q hi := hi.congr ⟨rfl, rfl, rfl, rfl, rfl⟩ rfl rfl

theorem newLexer_inv (text file : List UInt8) : LInv (0, 0) (newLexer text file) := by
  refine ⟨(0, 0), ⟨List.pairwise_singleton _ _, fun x hx => ?_⟩, St.ground rfl (Gt.F ⟨⟨?_, ?_⟩, ?_⟩)⟩
  · have : x = (0, 0) := by simpa [newLexer, noErr] using hx
    rw [this]; exact ple_refl _
  · show (0 : Int) ≤ 1; decide
  · show (0 : Int) ≤ 0; decide
  · show plt (0, 0) (1, 0 + 1)
    unfold plt; simp

end Goyang.Lemmas.AugPosLex
