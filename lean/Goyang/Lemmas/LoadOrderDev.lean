import Goyang.Lemmas.LoadOrderEntry
import Goyang.Lemmas.LoadOrderFind
/-
Load-order independence (C05), part 6: deviations commute with the renaming of module
identities.  Core Lean only.
-/
namespace Goyang.Lemmas.LoadOrder
open Goyang.Model
open Goyang.Lemmas.Tree (dSetMin dSetMax dCfg dDefault dMand dMin dMax dUnits dType dCfgDel dDefaultDel dMandDel
  dMinDel dMaxDel applyOneDeviate' applyOneDeviate_eq)

section
variable (σ : Nat → Nat)

@[simp] theorem isList_ren (e : Entry) : (Entry.ren σ e).isList = e.isList := by simp [Entry.isList]
@[simp] theorem isLeafList_ren (e : Entry) : (Entry.ren σ e).isLeafList = e.isLeafList := by simp [Entry.isLeafList]

variable (ms : Stmt) (kind : String) (sd : EData)

theorem dSetMin_ren (n : Entry) (v : Nat) : dSetMin (Entry.ren σ n) v = Entry.ren σ (dSetMin n v) := by
  unfold dSetMin; rsimp
theorem dSetMax_ren (n : Entry) (v : Nat) : dSetMax (Entry.ren σ n) v = Entry.ren σ (dSetMax n v) := by
  unfold dSetMax; rsimp
theorem dCfg_ren (n : Entry) : dCfg (renD σ sd) (Entry.ren σ n) = Entry.ren σ (dCfg sd n) := by
  unfold dCfg; simp only [renD_config]; split <;> rsimp
/-- New defaults computed from the old ones: the update does not look at `nodeMod`. -/
theorem ren_setDefault (n : Entry) (g : List String → List String) :
    Entry.ren σ (n.withD fun d => { d with default := g d.default }) =
      (Entry.ren σ n).withD fun d => { d with default := g d.default } :=
  ren_withD σ n _ fun _ => rfl
theorem dDefault_ren (n : Entry) :
    dDefault ms kind (renD σ sd) (Entry.ren σ n) = (Entry.ren σ (dDefault ms kind sd n).1, (dDefault ms kind sd n).2) := by
  show _ = (fun r : Entry × List Err => (Entry.ren σ r.1, r.2)) (dDefault ms kind sd n)
  simp only [dDefault, apply_ite (fun r : Entry × List Err => (Entry.ren σ r.1, r.2)), renD_default, isLeafList_ren, ren_d]
  rw [ren_setDefault σ n (· ++ sd.default), ren_setDefault σ n fun _ => sd.default.take 1,
    ren_setDefault σ n fun _ => sd.default]
theorem dMand_ren (n : Entry) : dMand (renD σ sd) (Entry.ren σ n) = Entry.ren σ (dMand sd n) := by
  unfold dMand; simp only [renD_mandatory]; split <;> rsimp
theorem dMin_ren (n : Entry) : dMin (renD σ sd) (Entry.ren σ n) = Entry.ren σ (dMin sd n) := by
  unfold dMin; simp only [renD_hasMin, renD_listAttr, dSetMin_ren]; split <;> rfl
theorem dMax_ren (n : Entry) : dMax (renD σ sd) (Entry.ren σ n) = Entry.ren σ (dMax sd n) := by
  unfold dMax; simp only [renD_hasMax, renD_listAttr, dSetMax_ren]; split <;> rfl
theorem dUnits_ren (n : Entry) : dUnits (renD σ sd) (Entry.ren σ n) = Entry.ren σ (dUnits sd n) := by
  unfold dUnits; simp only [renD_units]; split <;> rsimp
theorem dType_ren (n : Entry) : dType (renD σ sd) (Entry.ren σ n) = Entry.ren σ (dType sd n) := by
  unfold dType; simp only [renD_type]; split <;> rsimp
theorem dCfgDel_ren (n : Entry) : dCfgDel (renD σ sd) (Entry.ren σ n) = Entry.ren σ (dCfgDel sd n) := by
  unfold dCfgDel; simp only [renD_config]; split <;> rsimp
theorem dDefaultDel_ren (n : Entry) :
    dDefaultDel ms (renD σ sd) (Entry.ren σ n) = (Entry.ren σ (dDefaultDel ms sd n).1, (dDefaultDel ms sd n).2) := by
  show _ = (fun r : Entry × List Err => (Entry.ren σ r.1, r.2)) (dDefaultDel ms sd n)
  simp only [dDefaultDel, apply_ite (fun r : Entry × List Err => (Entry.ren σ r.1, r.2)), renD_default, isLeafList_ren, ren_d]
  rw [ren_setDefault σ n fun _ => []]
theorem dMandDel_ren (n : Entry) : dMandDel (renD σ sd) (Entry.ren σ n) = Entry.ren σ (dMandDel sd n) := by
  unfold dMandDel; simp only [renD_mandatory]; split <;> rsimp
theorem dMinDel_ren (n : Entry) (es : List Err) :
    dMinDel (renD σ sd) (Entry.ren σ n) es = (Entry.ren σ (dMinDel sd n es).1, (dMinDel sd n es).2) := by
  unfold dMinDel; simp only [renD_hasMin, renD_listAttr, dSetMin_ren, ren_d]; split <;> rfl
theorem dMaxDel_ren (n : Entry) (es : List Err) :
    dMaxDel (renD σ sd) (Entry.ren σ n) es = (Entry.ren σ (dMaxDel sd n es).1, (dMaxDel sd n es).2) := by
  unfold dMaxDel; simp only [renD_hasMax, renD_listAttr, dSetMax_ren, ren_d]; split <;> rfl

/-- One deviate statement applied to corresponding nodes. -/
theorem applyOneDeviate_ren (opts : Opts) (spec : Entry) (hp : Bool) (node : Entry) :
    applyOneDeviate opts ms kind (Entry.ren σ spec) hp (Entry.ren σ node) =
      (Entry.ren σ (applyOneDeviate opts ms kind spec hp node).1, (applyOneDeviate opts ms kind spec hp node).2) := by
  rw [applyOneDeviate_eq, applyOneDeviate_eq, ren_d]
  show _ = (fun r : Entry × Bool × List Err => (Entry.ren σ r.1, r.2)) (applyOneDeviate' ms kind spec.d opts hp node)
  simp only [applyOneDeviate', apply_ite (fun r : Entry × Bool × List Err => (Entry.ren σ r.1, r.2)),
    dCfg_ren, dDefault_ren, dMand_ren, dMin_ren, dMax_ren, dUnits_ren, dType_ren, dCfgDel_ren,
    dDefaultDel_ren, dMandDel_ren, dMinDel_ren, dMaxDel_ren, renD_hasMin, renD_hasMax, isList_ren, isLeafList_ren]

end

theorem removeAt_ren (σ : Nat → Nat) (root : Entry) (p : Path) :
    removeAt (Entry.ren σ root) p = Entry.ren σ (removeAt root p) := by
  unfold removeAt
  cases p.getLast? with
  | none => rfl
  | some s =>
    cases s with
    | child k =>
      simp only
      refine (updateAt_ren σ _ _ ?_ _ root).symm
      intro pe
      simp only [ren_withDir, ren_dir, List.filter_map]
      congr 3
      funext x
      simp
    | input =>
      simp only
      refine (updateAt_ren σ _ _ ?_ _ root).symm
      rintro ⟨d, c, i, o⟩
      simp
    | output =>
      simp only
      refine (updateAt_ren σ _ _ ?_ _ root).symm
      rintro ⟨d, c, i, o⟩
      simp

def devRen (σ : Nat → Nat) (dv : Stmt × List (String × Entry)) : Stmt × List (String × Entry) :=
  (dv.1, dv.2.map fun ds => (ds.1, Entry.ren σ ds.2))

section
variable {σ : Nat → Nat} {r₁ r₂ : Registry} (h : RegRel σ r₁ r₂)
include h

/-- **`ApplyDeviate` of one module on corresponding forests.** -/
theorem applyDeviations_ren (opts : Opts) (m : Mod) (devs : List (Stmt × List (String × Entry))) (f : Forest) :
    applyDeviations r₂ opts (Mod.ren σ m) (devs.map (devRen σ)) (Forest.ren σ f) =
      (Forest.ren σ (applyDeviations r₁ opts m devs f).1, (applyDeviations r₁ opts m devs f).2) := by
  unfold applyDeviations
  rw [List.foldl_map]
  have h0 : (Forest.ren σ f, ([] : List Err)) = (fun p : Forest × List Err => (Forest.ren σ p.1, p.2)) (f, []) := rfl
  rw [h0]
  refine List.foldl_hom (fun p : Forest × List Err => (Forest.ren σ p.1, p.2)) ?_
  rintro ⟨f, errs⟩ ⟨dstmt, deviates⟩
  simp only [devRen, Mod.ren_seq, Mod.ren_stmt]
  have hf := find_ren h f (m.seq, []) m.seq dstmt.arg
  simp only [lren] at hf
  rw [hf]
  generalize find r₁ f (m.seq, []) m.seq dstmt.arg = r
  obtain ⟨tgt, f'⟩ := r
  cases tgt with
  | none => rfl
  | some tp =>
    obtain ⟨t, path⟩ := tp
    simp only [Option.map_some, lren, tree?_ren h.inj]
    cases ht : f'.tree? t with
    | none => rfl
    | some root =>
      simp only [Option.map_some, Option.bind_some, getAt_ren]
      cases hte : root.getAt path with
      | none => rfl
      | some node0 =>
        simp only [Option.map_some, List.foldl_map]
        have h1 : (Forest.ren σ f', Entry.ren σ node0, false, errs) =
            (fun p : Forest × Entry × Bool × List Err => (Forest.ren σ p.1, Entry.ren σ p.2.1, p.2.2)) (f', node0, false, errs) := rfl
        rw [h1]
        rw [List.foldl_hom (fun p : Forest × Entry × Bool × List Err => (Forest.ren σ p.1, Entry.ren σ p.2.1, p.2.2))
          (g₁ := fun (acc : Forest × Entry × Bool × List Err) ds =>
            let (f, node, detached, errs) := acc
            let (node', remove, es) := applyOneDeviate opts m.stmt ds.1 ds.2 (!path.isEmpty) node
            let es := if remove && detached then es ++ [Err.at_ m.stmt "deviate-already-removed"] else es
            let f := if detached then f else
              match f.tree? t with
              | none => f
              | some root =>
                let root := root.updateAt path fun _ => node'
                f.setTree t (if remove then removeAt root path else root)
            (f, node', detached || remove, errs ++ es))]
        · rfl
        · rintro ⟨f, node, detached, errs⟩ ds
          simp only [applyOneDeviate_ren, tree?_ren h.inj]
          generalize applyOneDeviate opts m.stmt ds.1 ds.2 (!path.isEmpty) node = o
          obtain ⟨node', remove, es⟩ := o
          simp only
          cases detached with
          | true => rfl
          | false =>
            simp only [Bool.false_eq_true, if_false]
            cases f.tree? t with
            | none => rfl
            | some root =>
              simp only [Option.map_some]
              have hu : (Entry.ren σ root).updateAt path (fun _ => Entry.ren σ node') =
                  Entry.ren σ (root.updateAt path fun _ => node') :=
                (updateAt_ren σ (fun _ => node') (fun _ => Entry.ren σ node') (fun _ => rfl) path root).symm
              rw [hu]
              cases remove with
              | true => simp only [if_true, removeAt_ren, setTree_ren h.inj]
              | false => simp only [Bool.false_eq_true, if_false, setTree_ren h.inj]

end

end Goyang.Lemmas.LoadOrder
