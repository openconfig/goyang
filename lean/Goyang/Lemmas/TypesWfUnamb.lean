import Goyang.Lemmas.TypesWf
import Goyang.Lemmas.TypesClosure
import Goyang.Lemmas.ListAux
/-
Under the decidable declare-once conditions of Goyang/Lemmas/TypesWf.lean (`ScopeDeclOnce`,
`UnitDeclOnce`, `ImportDeclOnce`) together with `SeqId` and `ImportsDistinct`, a type name denotes
at most one typedef at every site that stands in the loaded set (property C09: the standing
hypothesis `UnambiguousAt` of the completeness half).
-/
namespace Goyang.Lemmas.TypesWfUnamb
open Goyang.Model Goyang.Model.Types Goyang.Spec.Types Goyang.Lemmas.TypesDefs Goyang.Lemmas.TypesWf
  Goyang.Lemmas.TypesClosure Goyang.Lemmas.TypesFuel Goyang.Lemmas.RegistryAux

/-! ## List facts (no decidable equality on the elements) -/

/-- Two members of a list whose images share an element are the same member, when the
concatenation of all images has no repetition. -/
theorem eq_of_nodup_flatMap {α β : Type} (f : α → List β) :
    ∀ (l : List α), (l.flatMap f).Nodup → ∀ a ∈ l, ∀ b ∈ l, ∀ x, x ∈ f a → x ∈ f b → a = b
  | [], _, _, ha, _, _, _, _, _ => by cases ha
  | c :: cs, h, a, ha, b, hb, x, hxa, hxb => by
    rw [List.flatMap_cons, List.nodup_append] at h
    obtain ⟨_, h2, h3⟩ := h
    rcases List.mem_cons.mp ha with ha | ha
    · rcases List.mem_cons.mp hb with hb | hb
      · rw [ha, hb]
      · exact absurd rfl (h3 x (ha ▸ hxa) x (List.mem_flatMap.mpr ⟨b, hb, hxb⟩))
    · rcases List.mem_cons.mp hb with hb | hb
      · exact absurd rfl (h3 x (hb ▸ hxb) x (List.mem_flatMap.mpr ⟨a, ha, hxa⟩))
      · exact eq_of_nodup_flatMap f cs h2 a ha b hb x hxa hxb

/-- Each image is without repetition when the concatenation is. -/
theorem nodup_of_nodup_flatMap {α β : Type} (f : α → List β) :
    ∀ (l : List α), (l.flatMap f).Nodup → ∀ a ∈ l, (f a).Nodup
  | [], _, _, ha => by cases ha
  | c :: cs, h, a, ha => by
    rw [List.flatMap_cons, List.nodup_append] at h
    obtain ⟨h1, h2, _⟩ := h
    rcases List.mem_cons.mp ha with ha | ha
    · rw [ha]; exact h1
    · exact nodup_of_nodup_flatMap f cs h2 a ha

/-! ## What a statement declares -/

theorem declared_spec {n td : Stmt} {name : String} (h : td ∈ declared n name) :
    td ∈ n.subs.filter (·.kw == "typedef") ∧ td.arg = name := by
  unfold declared at h
  split at h
  · rw [List.mem_filter] at h
    obtain ⟨hm, hp⟩ := h
    simp only [Bool.and_eq_true, beq_iff_eq] at hp
    refine ⟨List.mem_filter.mpr ⟨hm, ?_⟩, hp.2⟩
    simp only [beq_iff_eq]
    exact hp.1
  · cases h

theorem declared_name_mem {n td : Stmt} {name : String} (h : td ∈ declared n name) : name ∈ typedefNames n := by
  obtain ⟨hm, ha⟩ := declared_spec h
  unfold typedefNames
  exact List.mem_map.mpr ⟨td, hm, ha⟩

/-- the key fact: a statement that declares every typedef name once declares at most one typedef
of a given name -/
theorem declared_unique {n td td' : Stmt} {name : String} (hn : (typedefNames n).Nodup)
    (h : td ∈ declared n name) (h' : td' ∈ declared n name) : td = td' := by
  obtain ⟨hm, ha⟩ := declared_spec h
  obtain ⟨hm', ha'⟩ := declared_spec h'
  unfold typedefNames at hn
  exact Goyang.Lemmas.ListAux.eq_of_nodup_map Stmt.arg (n.subs.filter (·.kw == "typedef")) hn td hm td' hm' (ha.trans ha'.symm)

/-! ## Paths -/

/-- every statement of a path stands in the tree of its top -/
theorem isPath_mem_descendants {top : Stmt} : ∀ {l : List Stmt}, IsPath top l → ∀ x ∈ l, x ∈ descendants top
  | [], h, _, _ => h.elim
  | [c], h, x, hx => by
    rw [List.mem_singleton] at hx
    have h : c = top := h
    rw [hx, h]
    exact self_mem_descendants top
  | c :: p :: rest, h, x, hx => by
    have h : c ∈ p.subs ∧ IsPath top (p :: rest) := h
    have ih := isPath_mem_descendants h.2
    rcases List.mem_cons.mp hx with hx | hx
    · rw [hx]
      exact child_below (ih p List.mem_cons_self) h.1
    · exact ih x hx

/-! ## The nearest declaring scope is determined -/

theorem nearest_unique {P : Stmt → Prop} :
    ∀ (pre pre' : List Stmt) (n n' : Stmt) (up up' : List Stmt),
      pre ++ n :: up = pre' ++ n' :: up' → (∀ x ∈ pre, P x) → (∀ x ∈ pre', P x) → ¬ P n → ¬ P n' →
      pre = pre' ∧ n = n' ∧ up = up'
  | [], [], n, n', up, up', e, _, _, _, _ => by
    simp only [List.nil_append, List.cons.injEq] at e
    exact ⟨rfl, e.1, e.2⟩
  | [], y :: ys, n, n', up, up', e, _, hp', hn, _ => by
    simp only [List.nil_append, List.cons_append, List.cons.injEq] at e
    exact absurd (e.1 ▸ hp' y List.mem_cons_self) hn
  | y :: ys, [], n, n', up, up', e, hp, _, _, hn' => by
    simp only [List.nil_append, List.cons_append, List.cons.injEq] at e
    exact absurd (e.1 ▸ hp y List.mem_cons_self) hn'
  | y :: ys, y' :: ys', n, n', up, up', e, hp, hp', hn, hn' => by
    simp only [List.cons_append, List.cons.injEq] at e
    obtain ⟨h1, h2, h3⟩ := nearest_unique ys ys' n n' up up' e.2
      (fun x hx => hp x (List.mem_cons_of_mem _ hx)) (fun x hx => hp' x (List.mem_cons_of_mem _ hx)) hn hn'
    exact ⟨by rw [e.1, h1], h2, h3⟩

/-! ## Top level of a list of (sub)modules -/

/-- Among (sub)modules that together declare every top-level typedef name once, a name is declared
by one of them, once. -/
theorem topLevel_unique {ms : List Mod} (h : (ms.flatMap fun m => typedefNames m.stmt).Nodup)
    {m m' : Mod} (hm : m ∈ ms) (hm' : m' ∈ ms) {td td' : Stmt} {name : String}
    (htd : td ∈ declared m.stmt name) (htd' : td' ∈ declared m'.stmt name) : m = m' ∧ td = td' := by
  -- the types of the three facts are stated: left to unification they are found only after a long search
  have h1 : name ∈ typedefNames m.stmt := declared_name_mem htd
  have h2 : name ∈ typedefNames m'.stmt := declared_name_mem htd'
  have e : m = m' := eq_of_nodup_flatMap (fun m => typedefNames m.stmt) ms h m hm m' hm' name h1 h2
  subst e
  have h3 : (typedefNames m.stmt).Nodup := nodup_of_nodup_flatMap (fun m => typedefNames m.stmt) ms h m hm
  exact ⟨rfl, declared_unique h3 htd htd'⟩

/-! ## Main -/

theorem binds_unique (reg : Registry) (hid : SeqId reg) (himp : ImportsDistinct reg)
    (h1 : ScopeDeclOnce reg) (h2 : UnitDeclOnce reg) (h3 : ImportDeclOnce reg)
    (root : Mod) (hroot : root ∈ reg.mods) (scope : List Stmt) (hscope : ∀ x ∈ scope, x ∈ descendants root.stmt)
    (name : String) {m : Mod} {td : Stmt} {sc : List Stmt} {m' : Mod} {td' : Stmt} {sc' : List Stmt}
    (hb : Binds reg root scope name m td sc) (hb' : Binds reg root scope name m' td' sc') :
    m = m' ∧ td = td' ∧ sc = sc' := by
  cases hb with
  | lexical pre n up td _ hloc hsc hpre htd =>
    cases hb' with
    | lexical pre' n' up' td' _ _ hsc' hpre' htd' =>
      have hne : ¬ declared n (baseName name) = [] := fun e => by rw [e] at htd; cases htd
      have hne' : ¬ declared n' (baseName name) = [] := fun e => by rw [e] at htd'; cases htd'
      obtain ⟨_, e2, e3⟩ := nearest_unique (P := fun x => declared x (baseName name) = [])
        pre pre' n n' up up' (hsc.symm.trans hsc') hpre hpre' hne hne'
      subst e2 e3
      have hn : n ∈ descendants root.stmt := hscope n (by rw [hsc]; simp)
      exact ⟨rfl, declared_unique (h1 root hroot n hn) htd htd', rfl⟩
    | moduleLevel m' td' _ _ hnone _ _ =>
      have : declared n (baseName name) = [] := hnone n (by rw [hsc]; simp)
      rw [this] at htd; cases htd
    | foreign i ext m' td' _ hloc' _ _ _ _ _ =>
      rw [hloc] at hloc'; cases hloc'
  | moduleLevel m td _ hloc hnone hunit htd =>
    cases hb' with
    | lexical pre' n' up' td' _ _ hsc' _ htd' =>
      have : declared n' (baseName name) = [] := hnone n' (by rw [hsc']; simp)
      rw [this] at htd'; cases htd'
    | moduleLevel m' td' _ _ _ hunit' htd' =>
      have hm := (mem_unitOf_iff reg hid root hroot m).mpr hunit
      have hm' := (mem_unitOf_iff reg hid root hroot m').mpr hunit'
      obtain ⟨e1, e2⟩ := topLevel_unique (h2 root hroot) hm hm' htd htd'
      subst e1 e2
      exact ⟨rfl, rfl, rfl⟩
    | foreign i ext m' td' _ hloc' _ _ _ _ _ =>
      rw [hloc] at hloc'; cases hloc'
  | foreign i ext m td _ hloc hi hpfx hfind hstar htd =>
    cases hb' with
    | lexical pre' n' up' td' _ hloc' _ _ _ =>
      rw [hloc] at hloc'; cases hloc'
    | moduleLevel m' td' _ hloc' _ _ _ =>
      rw [hloc] at hloc'; cases hloc'
    | foreign i' ext' m' td' _ _ hi' hpfx' hfind' hstar' htd' =>
      have ei : i = i' := himp root hroot i hi i' hi' _ hpfx hpfx'
      subst ei
      have ee : ext = ext' := Option.some.inj (hfind.symm.trans hfind')
      subst ee
      have hext : ext ∈ reg.mods := findModule_mem hfind
      have hms : ∀ s ∈ [ext], s ∈ reg.mods := fun s hs => by
        rw [List.mem_singleton] at hs; rw [hs]; exact hext
      have hm := withSubmodules_complete reg hid [ext] hms ext List.mem_cons_self m hstar
      have hm' := withSubmodules_complete reg hid [ext] hms ext List.mem_cons_self m' hstar'
      obtain ⟨e1, e2⟩ := topLevel_unique (h3 ext hext) hm hm' htd htd'
      subst e1 e2
      exact ⟨rfl, rfl, rfl⟩

theorem unambiguousAt_of_wf (reg : Registry) (hid : SeqId reg) (himp : ImportsDistinct reg)
    (h1 : ScopeDeclOnce reg) (h2 : UnitDeclOnce reg) (h3 : ImportDeclOnce reg)
    (s : Site) (hs : InPlace reg s) : UnambiguousAt reg s := by
  obtain ⟨root, scope, t⟩ := s
  obtain ⟨hroot, hpath⟩ := hs
  intro m td sc m' td' sc' hb hb'
  have hscope : ∀ x ∈ scope, x ∈ descendants root.stmt := fun x hx =>
    isPath_mem_descendants hpath x (List.mem_cons_of_mem _ hx)
  exact binds_unique reg hid himp h1 h2 h3 root hroot scope hscope t.arg hb hb'

end Goyang.Lemmas.TypesWfUnamb
