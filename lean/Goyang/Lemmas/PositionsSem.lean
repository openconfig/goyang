import Goyang.Spec.Positions
import Goyang.Lemmas.Tree
import Goyang.Lemmas.Fuel
import Goyang.Lemmas.RegistryAux
/-
Semantic half of C16 (Props/C16Sem.lean): what the traversal of the resolver (Lemmas/PositionsWho.lean)
and the plugged layers (Lemmas/PositionsTypes.lean) share.

 * `Sites K`: the class / statement relations `K` that admit every error site of the resolver
   unconditionally (`sites_true`, `sites_names`);
 * statements of loaded modules (`Within`, `StmtOf`), positioned errors (`PosAt`), error lists (`ErrsOK`);
 * the error sites of the entry layer that do not depend on any invariant (`tristate_errs`,
   `listAttrOf_errs`, …), linking, canonicalisation of the error list;
 * the executable form of the position set (`mem_allPositions_iff`, `posOKb_iff`).

(The file Lemmas/Positions.lean belongs to the lexer / parser half of C16.)
-/
set_option linter.unusedVariables false
set_option linter.unusedSimpArgs false
set_option linter.unusedSectionVars false
open Goyang.Lemmas.ListAux (foldl_inv)
open Goyang.Lemmas.SortAux (mem_sortBy)
open Goyang.Lemmas.ListAux (forall_mem_snoc)
namespace Goyang.Lemmas.PositionsSem
open Goyang.Model Goyang.Spec.Positions Goyang.Spec.Tree Goyang.Lemmas.Tree

variable {K : String → Stmt → Prop}

/-- The classes of the errors the deviation stage positions at the deviating module's statement. -/
def devClasses : List String :=
  ["deviate-add-many-defaults", "deviate-add-default-exists", "deviate-no-parent", "deviate-delete-default-leaflist",
   "deviate-delete-default-missing", "deviate-delete-default-mismatch", "deviate-already-removed"]

/-- What the class / statement relation `K` must admit: the error sites of the resolver itself.
Each field is one place where the entry layer, the augment stage or the deviation stage builds a
positioned error, with what is known of the statement at that place. -/
structure Sites (K : String → Stmt → Prop) : Prop where
  dupKey : ∀ s, K "duplicate-key" s
  dupNode : ∀ s, K "duplicate-node" s
  augNF : ∀ s, K "augment-not-found" s
  tristate : ∀ n v, v ∈ n.subs → (v.kw = "config" ∨ v.kw = "mandatory") → v.arg ≠ "true" → v.arg ≠ "false" →
    K "bad-tristate" n
  orderedBy : ∀ s, s.kw = "ordered-by" → K "bad-ordered-by" s
  maxEl : ∀ s, s.kw = "max-elements" → K "bad-max-elements" s
  minEl : ∀ s, s.kw = "min-elements" → K "bad-min-elements" s
  unknownGroup : ∀ s, s.kw = "uses" → K "unknown-group" s
  cycle : ∀ s, K "cycle" s
  fuel : ∀ s, K "out-of-fuel" s
  include_ : ∀ s, s.kw = "include" → K "other" s
  devKind : ∀ s, K "deviate-unknown-kind" s
  deviation : ∀ cls s, cls ∈ devClasses → K cls s

theorem sites_true : Sites (fun _ _ => True) := by
  constructor <;> intros <;> trivial

/-! ### statements of loaded modules -/

theorem within_all {n t c : Stmt} {kw : String} (h : Within n t) (hc : c ∈ n.all kw) : Within c t :=
  .sub h (List.mem_filter.mp hc).1

theorem within_one {n t c : Stmt} {kw : String} (h : Within n t) (hc : n.one? kw = some c) : Within c t :=
  .sub h (List.mem_of_find?_eq_some hc)

theorem within_trans {a b c : Stmt} (h1 : Within a b) (h2 : Within b c) : Within a c := by
  induction h1 with
  | top => exact h2
  | sub _ hc ih => exact .sub (ih h2) hc

theorem stmtOf_within {reg : Registry} {m : Mod} {s : Stmt} (hm : m ∈ reg.mods) (h : Within s m.stmt) : StmtOf reg s :=
  ⟨m, hm, h⟩

theorem stmtOf_sub {reg : Registry} {p c : Stmt} (h : StmtOf reg p) (hc : c ∈ p.subs) : StmtOf reg c := by
  obtain ⟨m, hm, hw⟩ := h
  exact ⟨m, hm, .sub hw hc⟩

theorem stmtOf_one {reg : Registry} {p c : Stmt} {kw : String} (h : StmtOf reg p) (hc : p.one? kw = some c) :
    StmtOf reg c := stmtOf_sub h (List.mem_of_find?_eq_some hc)

theorem stmtOf_all {reg : Registry} {p c : Stmt} {kw : String} (h : StmtOf reg p) (hc : c ∈ p.all kw) :
    StmtOf reg c := stmtOf_sub h (List.mem_filter.mp hc).1

/-! ### errors -/

theorem posOK_bare (reg : Registry) (cls : String) : PosAt K reg (Err.bare cls) := by
  intro h
  rcases h with h | h <;> exact absurd rfl h

theorem posOK_at {reg : Registry} {s : Stmt} (h : StmtOf reg s) (cls : String) (hk : K cls s) :
    PosAt K reg (Err.at_ s cls) :=
  fun _ => ⟨s, h, ⟨rfl, rfl, rfl⟩, hk⟩

/-- The finer form implies the coarse one. -/
theorem posOK_of_posAt {reg : Registry} {e : Err} (h : PosAt K reg e) : PosOK reg e := by
  intro hp
  obtain ⟨s, hs, ⟨h1, h2, h3⟩, _⟩ := h hp
  exact ⟨s, hs, h1.symm, h2.symm, h3.symm⟩

theorem posAt_true_of_posOK {reg : Registry} {e : Err} (h : PosOK reg e) : PosAt (fun _ _ => True) reg e := by
  intro hp
  obtain ⟨s, hs, h1, h2, h3⟩ := h hp
  exact ⟨s, hs, ⟨h1.symm, h2.symm, h3.symm⟩, trivial⟩

/-! ### the error sites of the entry layer -/

/-- A tristate error stands at the node being converted, and the value statement is neither
`true` nor `false`. -/
theorem tristate_errs (n : Stmt) (v : Option Stmt) : ∀ x ∈ (tristate n v).2,
    x = Err.at_ n "bad-tristate" ∧ ∃ v', v = some v' ∧ v'.arg ≠ "true" ∧ v'.arg ≠ "false" := by
  intro x hx
  unfold tristate at hx
  split at hx
  · simp at hx
  · rename_i v'
    split at hx
    · simp at hx
    · rename_i h1
      split at hx
      · simp at hx
      · rename_i h2
        exact ⟨by simpa using hx, v', rfl, by simpa using h1, by simpa using h2⟩

theorem semMax_errs (v : Stmt) : ∀ x ∈ (semMax (some v)).2, x = Err.at_ v "bad-max-elements" := by
  intro x hx
  unfold semMax at hx
  dsimp only at hx
  repeat' split at hx
  all_goals simp at hx
  all_goals exact hx

theorem semMin_errs (v : Stmt) : ∀ x ∈ (semMin (some v)).2, x = Err.at_ v "bad-min-elements" := by
  intro x hx
  unfold semMin at hx
  dsimp only at hx
  repeat' split at hx
  all_goals simp at hx
  all_goals exact hx

theorem semMax_none : (semMax none).2 = [] := rfl
theorem semMin_none : (semMin none).2 = [] := rfl

/-- The errors of the list attributes are positioned at the `ordered-by`, `max-elements` or
`min-elements` substatement they are about. -/
theorem listAttrOf_errs (s : Stmt) : ∀ x ∈ (listAttrOf s).2,
    (∃ o, s.one? "ordered-by" = some o ∧ x = Err.at_ o "bad-ordered-by") ∨
    (∃ v, s.one? "max-elements" = some v ∧ x = Err.at_ v "bad-max-elements") ∨
    (∃ v, s.one? "min-elements" = some v ∧ x = Err.at_ v "bad-min-elements") := by
  intro x hx
  unfold listAttrOf at hx
  dsimp only at hx
  simp only [List.mem_append] at hx
  rcases hx with (hx | hx) | hx
  · left
    split at hx
    · simp at hx
    · rename_i o ho
      split at hx
      · simp at hx
      · split at hx
        · simp at hx
        · exact ⟨o, ho, by simpa using hx⟩
  · right; left
    cases hv : s.one? "max-elements" with
    | none => rw [hv, semMax_none] at hx; simp at hx
    | some v => rw [hv] at hx; exact ⟨v, rfl, semMax_errs v x hx⟩
  · right; right
    cases hv : s.one? "min-elements" with
    | none => rw [hv, semMin_none] at hx; simp at hx
    | some v => rw [hv] at hx; exact ⟨v, rfl, semMin_errs v x hx⟩

/-- A statement `n`, with its ancestors `scope`, inside the loaded module `root`. -/
structure GoodCall (reg : Registry) (root : Mod) (scope : List Stmt) (n : Stmt) : Prop where
  mem : root ∈ reg.mods
  within : Within n root.stmt
  anc : ∀ s ∈ scope, Within s root.stmt

theorem keyOrder_mem {reg : Registry} {m : Mod} (h : m ∈ keyOrder reg) : m ∈ reg.mods := by
  unfold keyOrder at h
  simp only [List.mem_append, List.mem_filterMap] at h
  rcases h with ⟨kv, _, hk⟩ | ⟨kv, _, hk⟩ <;> exact RegistryAux.byId_mem hk


/-- Every error of the list is bare or positioned at a statement of a loaded module. -/
def ErrsOK (K : String → Stmt → Prop) (reg : Registry) (l : List Err) : Prop := ∀ x ∈ l, PosAt K reg x

section
variable {reg : Registry}

theorem errsOK_nil : ErrsOK K reg [] := by intro x hx; simp at hx
theorem errsOK_append {a b : List Err} (ha : ErrsOK K reg a) (hb : ErrsOK K reg b) : ErrsOK K reg (a ++ b) := by
  intro x hx
  rcases List.mem_append.mp hx with hx | hx
  · exact ha x hx
  · exact hb x hx
theorem errsOK_single {x : Err} (h : PosAt K reg x) : ErrsOK K reg [x] := by
  intro y hy; simp only [List.mem_singleton] at hy; subst hy; exact h
theorem errsOK_snoc {a : List Err} {x : Err} (ha : ErrsOK K reg a) (h : PosAt K reg x) : ErrsOK K reg (a ++ [x]) :=
  forall_mem_snoc ha h

end

/-! ### linking; the canonical error list -/

theorem includeWalk_errs (reg : Registry) : ∀ (fuel : Nat) (visited : List Nat) (m : Mod) (e : Err),
    (includeWalk reg fuel visited m).2 = some e → PosAt K reg e := by
  intro fuel
  induction fuel with
  | zero =>
    intro visited m e h
    simp only [includeWalk, Option.some.injEq] at h
    subst h; exact posOK_bare _ _
  | succ fuel ih =>
    intro visited m e h
    unfold includeWalk at h
    split at h
    · cases h
    · dsimp only at h
      have key : ∀ (b : Bool) (l : List Stmt) (acc : List Nat × Option Err),
          (∀ e, acc.2 = some e → PosAt K reg e) →
          ∀ e, (l.foldl (fun (acc : List Nat × Option Err) i =>
            match acc.2 with
            | some _ => acc
            | none =>
              match reg.findModule b i with
              | none => (acc.1, some (Err.bare (if b then "no-such-submodule" else "no-such-module")))
              | some im => includeWalk reg fuel acc.1 im) acc).2 = some e → PosAt K reg e := by
        intro b l acc hacc
        refine foldl_inv (fun acc : List Nat × Option Err => ∀ e, acc.2 = some e → PosAt K reg e) _ l acc hacc ?_
        intro acc i _ ha
        split
        · exact ha
        · split
          · intro e he
            simp only [Option.some.injEq] at he
            subst he; exact posOK_bare _ _
          · intro e he; exact ih _ _ e he
      refine key false _ _ ?_ e h
      exact key true _ _ (by intro e he; cases he)

theorem linkAll_errs (reg : Registry) : ErrsOK K reg (linkAll reg).2 := by
  unfold linkAll
  dsimp only
  refine foldl_inv (fun acc : List Nat × List Err => ErrsOK K reg acc.2) _ _ _ errsOK_nil ?_
  rintro ⟨v, errs⟩ m _ hP
  dsimp only at hP ⊢
  have := includeWalk_errs (K := K) reg (reg.mods.length + 1) v m
  generalize includeWalk reg (reg.mods.length + 1) v m = r at this ⊢
  obtain ⟨v', e⟩ := r
  dsimp only at this ⊢
  split
  · rename_i e'
    exact errsOK_snoc hP (this e' rfl)
  · exact hP

theorem mem_of_mem_eraseDups {α : Type} [BEq α] : ∀ (n : Nat) (l : List α), l.length ≤ n → ∀ x ∈ l.eraseDups, x ∈ l := by
  intro n
  induction n with
  | zero =>
    intro l h x hx
    have : l = [] := List.length_eq_zero_iff.mp (Nat.le_zero.mp h)
    subst this
    simp at hx
  | succ n ih =>
    intro l h x hx
    cases l with
    | nil => simp at hx
    | cons a as =>
      rw [List.eraseDups_cons] at hx
      rcases List.mem_cons.mp hx with hxa | hx
      · subst hxa; simp
      · have hlen : (as.filter (fun b => !b == a)).length ≤ n :=
          Nat.le_trans (List.length_filter_le _ _) (by simpa using h)
        exact List.mem_cons_of_mem _ (List.mem_filter.mp (ih _ hlen x hx)).1

/-- Canonicalisation (sorting, removal of duplicates) invents no error. -/
theorem mem_canonErrs {es : List Err} {x : Err} (h : x ∈ canonErrs es) : x ∈ es := by
  unfold canonErrs at h
  dsimp only at h
  exact (mem_sortBy _ x es).1 (mem_of_mem_eraseDups _ _ (Nat.le_refl _) x h)

/-! ### the executable form of the position set -/

/-- Induction over statement trees with the hypothesis for all substatements. -/
theorem stmt_induct {P : Stmt → Prop}
    (h : ∀ kw ha a f l c subs, (∀ ss ∈ subs, P ss) → P (.mk kw ha a f l c subs)) : ∀ s, P s := by
  intro s
  exact Stmt.rec (motive_1 := P) (motive_2 := fun l => ∀ ss ∈ l, P ss)
    (fun kw ha a f l c subs ih => h kw ha a f l c subs ih)
    (by intro ss hss; cases hss)
    (fun hd tl ih1 ih2 => by
      intro ss hss
      cases hss with
      | head => exact ih1
      | tail _ h' => exact ih2 ss h') s

theorem mem_stmtsOfL (l : List Stmt) (x : Stmt) : x ∈ stmtsOfL l ↔ ∃ c ∈ l, x ∈ stmtsOf c := by
  induction l with
  | nil => simp [stmtsOfL]
  | cons a l ih => simp [stmtsOfL, ih]

theorem mem_stmtsOf_self (s : Stmt) : s ∈ stmtsOf s := by
  cases s; simp [stmtsOf]

theorem within_of_mem_stmtsOf : ∀ (top s : Stmt), s ∈ stmtsOf top → Within s top := by
  intro top
  induction top using stmt_induct with
  | h kw ha a f l c subs ih =>
    intro s hs
    simp only [stmtsOf, List.mem_cons, mem_stmtsOfL] at hs
    rcases hs with rfl | ⟨ch, hch, hs⟩
    · exact .top _
    · exact within_trans (ih ch hch s hs) (.sub (.top _) hch)

theorem stmtsOf_closed : ∀ (top p c : Stmt), p ∈ stmtsOf top → c ∈ p.subs → c ∈ stmtsOf top := by
  intro top
  induction top using stmt_induct with
  | h kw ha a f l col subs ih =>
    intro p c hp hc
    simp only [stmtsOf, List.mem_cons, mem_stmtsOfL] at hp ⊢
    rcases hp with rfl | ⟨ch, hch, hp⟩
    · exact Or.inr ⟨c, hc, mem_stmtsOf_self c⟩
    · exact Or.inr ⟨ch, hch, ih ch hch p c hp hc⟩

theorem mem_stmtsOf_iff (top s : Stmt) : s ∈ stmtsOf top ↔ Within s top := by
  constructor
  · exact within_of_mem_stmtsOf top s
  · intro h
    induction h with
    | top => exact mem_stmtsOf_self _
    | sub _ hc ih => exact stmtsOf_closed _ _ _ ih hc

/-- The list `allPositions reg` holds exactly the statement starts of the loaded set. -/
theorem mem_allPositions_iff (reg : Registry) (f : String) (l c : Nat) :
    (f, l, c) ∈ allPositions reg ↔ StmtPositions reg f l c := by
  unfold allPositions StmtPositions StmtOf
  simp only [List.mem_flatMap, List.mem_map, Prod.mk.injEq]
  constructor
  · rintro ⟨m, hm, s, hs, h1, h2, h3⟩
    exact ⟨s, ⟨m, hm, (mem_stmtsOf_iff _ _).1 hs⟩, h1, h2, h3⟩
  · rintro ⟨s, ⟨m, hm, hw⟩, h1, h2, h3⟩
    exact ⟨m, hm, s, (mem_stmtsOf_iff _ _).2 hw, h1, h2, h3⟩

/-- The Boolean check decides `PosOK`. -/
theorem posOKb_iff (reg : Registry) (e : Err) : posOKb reg e = true ↔ PosOK reg e := by
  unfold posOKb PosOK Positioned
  simp only [Bool.or_eq_true, Bool.and_eq_true, beq_iff_eq, List.contains_iff_mem, mem_allPositions_iff]
  constructor
  · rintro (⟨h1, h2⟩ | h) hp
    · rcases hp with hp | hp
      · exact absurd h1 hp
      · exact absurd h2 hp
    · exact h
  · intro h
    by_cases h1 : e.file = ""
    · by_cases h2 : e.line = 0
      · exact Or.inl ⟨h1, h2⟩
      · exact Or.inr (h (Or.inr h2))
    · exact Or.inr (h (Or.inl h1))

/-! ### the relation `Names` of the specification admits the resolver's sites -/

/-- The classes `Names` says something about. -/
def constrained : List String :=
  ["unknown-group", "bad-ordered-by", "bad-max-elements", "bad-min-elements", "bad-tristate", "unknown-type",
   "unknown-prefix", "bad-range", "bad-length", "negative-length"] ++ enumClasses

theorem names_free {cls : String} (s : Stmt) (h : cls ∉ constrained) : Names cls s := by
  simp only [constrained, List.mem_append, List.mem_cons, List.not_mem_nil, or_false, not_or] at h
  obtain ⟨⟨h1, h2, h3, h4, h5, h6, h7, h8, h9, h10⟩, h11⟩ := h
  exact ⟨fun e => absurd e h1, fun e => absurd e h2, fun e => absurd e h3, fun e => absurd e h4,
    fun e => absurd e h5, fun e => absurd e h6, fun e => absurd e h7, fun e => absurd e h8,
    fun e => absurd e h9, fun e => absurd e h10, fun e => absurd e h11⟩

/-- The keyword of the statement a class names, for the classes `Names` ties to a keyword. -/
def kwOf : String → Option String
  | "unknown-group" => some "uses"
  | "bad-ordered-by" => some "ordered-by"
  | "bad-max-elements" => some "max-elements"
  | "bad-min-elements" => some "min-elements"
  | "unknown-type" => some "type"
  | "unknown-prefix" => some "type"
  | "bad-range" => some "range"
  | "bad-length" => some "length"
  | "negative-length" => some "length"
  | _ => none

theorem names_kw {cls kw : String} {s : Stmt} (hs : s.kw = kw) (h : kwOf cls = some kw) : Names cls s := by
  have key : ∀ c k, kwOf c = some k → cls = c → s.kw = k :=
    fun c k hc e => hs.trans (Option.some.inj ((e ▸ h).symm.trans hc))
  refine ⟨key _ _ rfl, key _ _ rfl, key _ _ rfl, key _ _ rfl, fun e => ?_, key _ _ rfl, key _ _ rfl, key _ _ rfl,
    key _ _ rfl, key _ _ rfl, fun e => ?_⟩
  · subst e; cases h
  · simp only [enumClasses, List.mem_cons, List.not_mem_nil, or_false] at e
    rcases e with rfl | rfl | rfl | rfl | rfl <;> cases h

theorem sites_names : Sites Names where
  dupKey s := names_free s (by decide)
  dupNode s := names_free s (by decide)
  augNF s := names_free s (by decide)
  -- the fifth conjunct of `Names` is the one about `bad-tristate`
  tristate n v hv hk h1 h2 :=
    ⟨fun e => absurd e (by decide), fun e => absurd e (by decide), fun e => absurd e (by decide),
      fun e => absurd e (by decide), fun _ => ⟨v, hv, hk, h1, h2⟩, fun e => absurd e (by decide),
      fun e => absurd e (by decide), fun e => absurd e (by decide), fun e => absurd e (by decide),
      fun e => absurd e (by decide), fun e => absurd e (by decide)⟩
  orderedBy s hs := names_kw hs rfl
  maxEl s hs := names_kw hs rfl
  minEl s hs := names_kw hs rfl
  unknownGroup s hs := names_kw hs rfl
  cycle s := names_free s (by decide)
  fuel s := names_free s (by decide)
  include_ s _ := names_free s (by decide)
  devKind s := names_free s (by decide)
  deviation cls s hc := names_free s ((by decide : ∀ cls ∈ devClasses, cls ∉ constrained) cls hc)

end Goyang.Lemmas.PositionsSem
