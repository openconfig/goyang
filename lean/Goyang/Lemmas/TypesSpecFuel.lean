import Goyang.Lemmas.TypesSpecErr
/-
When does the executable specification of property C09 answer `noClaim`?  (`chainOf`, `finish`,
`specResolve` of Goyang/Spec/Types.lean.)

* `chainOf_noClaim_reason`: with a budget above the number of `type` statements of the loaded set
  (`specFuel reg` is one, `specFuel_ge`), a `noClaim w` answer of `chainOf` for a type statement that
  stands in the loaded set names a `Feature` of a site met while resolving it (`UsesStar`): an
  ambiguous name, a typedef without a type statement, malformed enum values / bit positions /
  fraction-digits, or a member type whose chain restates enum / bit / member types / fraction-digits.
  In particular the answer is never `noClaim "fuel"` (`chainOf_not_fuel`): the budget case cannot
  occur, because the type statements in progress are pairwise different `type` statements of the
  loaded set (a chain that comes back to one of them is answered `error`, the cyclic verdict).
* no hypotheses on the loaded set are needed for this (no `WfReg`, no `linkOk`).
-/
namespace Goyang.Lemmas.TypesSpecFuel
open Goyang.Model Goyang.Model.Types Goyang.Spec.Types Goyang.Lemmas.Types Goyang.Lemmas.TypesFuel
  Goyang.Lemmas.TypesDefs Goyang.Lemmas.TypesSpecBind Goyang.Lemmas.TypesSpecChain Goyang.Lemmas.TypesSpecErr

/-! ## `specFuel` is above the number of type statements -/

mutual
theorem count_stmt : ∀ s : Stmt, countTypeStmts s = ((descendants s).filter (·.kw == "type")).length
  | .mk kw ha a f l c subs => by
    simp only [countTypeStmts, descendants, List.filter_cons]
    rw [count_list subs]
    show _ = List.length (if (kw == "type") = true then _ else _)
    split
    · simp only [List.length_cons]; omega
    · omega
theorem count_list : ∀ l : List Stmt, countTypeStmtsL l = ((descendantsL l).filter (·.kw == "type")).length
  | [] => by simp [countTypeStmtsL, descendantsL]
  | s :: rest => by
    simp only [countTypeStmtsL, descendantsL, List.filter_append, List.length_append]
    rw [count_stmt s, count_list rest]
end

theorem allTypeKeys_length (reg : Registry) :
    (allTypeKeys reg).length = (reg.mods.map fun m => countTypeStmts m.stmt).sum := by
  unfold allTypeKeys
  rw [List.length_flatMap]
  congr 1
  apply List.map_congr_left
  intro m _
  simp only [typeKeysOf, List.length_map]
  exact (count_stmt m.stmt).symm

/-- `specFuel` is two more than the number of `type` statements of the loaded set. -/
theorem specFuel_eq (reg : Registry) : specFuel reg = (allTypeKeys reg).length + 2 := by
  unfold specFuel
  rw [allTypeKeys_length]

theorem specFuel_ge (reg : Registry) : (allTypeKeys reg).length + 1 ≤ specFuel reg + ([] : List Key).length := by
  rw [specFuel_eq]; simp

/-! ## What a name binds to stands in the loaded set -/

theorem binds_inSet {reg : Registry} {root : Mod} {scope : List Stmt} {name : String} {m : Mod} {td : Stmt}
    {sc : List Stmt} (hroot : root ∈ reg.mods) (hscope : ∀ s ∈ scope, s ∈ descendants root.stmt)
    (h : Binds reg root scope name m td sc) :
    m ∈ reg.mods ∧ td ∈ descendants m.stmt ∧ ∀ s ∈ sc, s ∈ descendants m.stmt := by
  have hm := binds_root_mem hroot h
  cases h with
  | lexical pre n up td _ _ hsc _ htd =>
    have hn : ∀ s ∈ n :: up, s ∈ descendants root.stmt := by
      intro s hs
      apply hscope
      rw [hsc]
      exact List.mem_append_right _ hs
    exact ⟨hm, child_below (hn n List.mem_cons_self) (declared_mem_subs htd), hn⟩
  | moduleLevel m td _ _ _ _ htd =>
    refine ⟨hm, child_mem_descendants (declared_mem_subs htd), ?_⟩
    intro s hs
    rw [List.mem_singleton] at hs
    rw [hs]; exact self_mem_descendants _
  | foreign i ext m td _ _ _ _ _ _ htd =>
    refine ⟨hm, child_mem_descendants (declared_mem_subs htd), ?_⟩
    intro s hs
    rw [List.mem_singleton] at hs
    rw [hs]; exact self_mem_descendants _

/-! ## The reasons of `noClaim` -/

/-- What, at one type statement in its place, puts a reference outside the claim; the string is the
reason `chainOf` gives. -/
inductive Feature (reg : Registry) : Site → String → Prop
  /-- the name denotes more than one typedef (or two imports carry its prefix) -/
  | ambiguous {root : Mod} {scope : List Stmt} {t : Stmt} :
      bindType reg root scope t.arg = .ambiguous → Feature reg (root, scope, t) "ambiguous"
  /-- the typedef the name denotes has no type statement -/
  | noType {root : Mod} {scope : List Stmt} {t : Stmt} (m : Mod) (td : Stmt) (sc : List Stmt) :
      bindType reg root scope t.arg = .typedef m td sc → td.one? "type" = none →
      Feature reg (root, scope, t) "typedef-without-type"
  /-- enum members that are not a well-formed member list (RFC 7950 section 9.6.4) -/
  | enumValues {root : Mod} {scope : List Stmt} {t : Stmt} :
      t.all "enum" ≠ [] → assignValues "value" (-2147483648) 2147483647 (t.all "enum") = none →
      Feature reg (root, scope, t) "enum-values"
  /-- bit members that are not a well-formed member list (RFC 7950 section 9.7.4) -/
  | bitPositions {root : Mod} {scope : List Stmt} {t : Stmt} :
      t.all "bit" ≠ [] → assignValues "position" 0 4294967295 (t.all "bit") = none →
      Feature reg (root, scope, t) "bit-positions"
  /-- a fraction-digits argument that is not a number of 1 … 18 -/
  | fractionDigits {root : Mod} {scope : List Stmt} {t : Stmt} (a : String) :
      t.argOf? "fraction-digits" = some a → (∀ n, a.toNat? = some n → ¬ (1 ≤ n ∧ n ≤ 18)) →
      Feature reg (root, scope, t) "fraction-digits"
  /-- a member type whose chain states enum / bit members, member types or fraction-digits more than
  once, or an enumeration with a repeated value -/
  | restated {root : Mod} {scope : List Stmt} {t : Stmt} (ut : Stmt) (fuel : Nat) (vis : List Key) (k : String)
      (ls : List Layer) :
      ut ∈ t.all "type" → chainOf reg fuel root (t :: scope) ut vis = .ok k ls → chainInClaim ls = false →
      Feature reg (root, scope, t) "restated"

/-- The reasons are these six and no other; in particular never `"fuel"`. -/
theorem Feature.reason {reg : Registry} {s : Site} {w : String} (h : Feature reg s w) :
    w ∈ ["ambiguous", "typedef-without-type", "enum-values", "bit-positions", "fraction-digits", "restated"] := by
  cases h <;> simp

theorem Feature.not_fuel {reg : Registry} {s : Site} (h : Feature reg s "fuel") : False := by
  have := h.reason
  revert this
  decide

theorem collectMembers_error : ∀ {l : List SRes} {w : String}, collectMembers l = some (.error w) →
    ∃ r ∈ l, r = .noClaim w
  | [], w, h => by simp [collectMembers] at h
  | .error :: _, w, h => by simp [collectMembers] at h
  | .noClaim w' :: rest, w, h => by
    simp only [collectMembers, Option.map_eq_some_iff] at h
    obtain ⟨_, _, h⟩ := h
    simp only [Except.error.injEq] at h
    subst h
    exact ⟨_, List.mem_cons_self, rfl⟩
  | .ok t :: rest, w, h => by
    simp only [collectMembers, Option.map_eq_some_iff] at h
    obtain ⟨r, hr, h⟩ := h
    cases r with
    | ok ms => cases h
    | error e =>
      simp only [Except.map, Except.error.injEq] at h
      subst h
      obtain ⟨r', hr', he⟩ := collectMembers_error hr
      exact ⟨r', List.mem_cons_of_mem _ hr', he⟩

theorem finish_noClaim {c : Chain} {w : String} (h : finish c = .noClaim w) :
    c = .noClaim w ∨ ∃ k ls, c = .ok k ls ∧ chainInClaim ls = false ∧ w = "restated" := by
  cases c with
  | ok k ls =>
    simp only [finish] at h
    split at h
    · cases h
    · rename_i hc
      simp only [SRes.noClaim.injEq] at h
      exact Or.inr ⟨k, ls, rfl, by simpa using hc, h.symm⟩
  | error => cases h
  | noClaim w' =>
    simp only [finish, SRes.noClaim.injEq] at h
    subst h
    exact Or.inl rfl

/-- Why the own layer of a type statement is not formed. -/
theorem ownLayer_error {t : Stmt} {members? : Except String (List SType)} {w : String}
    (h : ownLayer t members? = .error w) :
    members? = .error w ∨
    (w = "enum-values" ∧ t.all "enum" ≠ [] ∧ assignValues "value" (-2147483648) 2147483647 (t.all "enum") = none) ∨
    (w = "bit-positions" ∧ t.all "bit" ≠ [] ∧ assignValues "position" 0 4294967295 (t.all "bit") = none) ∨
    (w = "fraction-digits" ∧ ∃ a, t.argOf? "fraction-digits" = some a ∧ ∀ n, a.toNat? = some n → ¬ (1 ≤ n ∧ n ≤ 18)) := by
  unfold ownLayer at h
  simp only at h
  split at h
  · cases h
  · simp only [Except.error.injEq] at h
    subst h
    exact Or.inl rfl
  · rename_i he
    simp only [Except.error.injEq] at h
    refine Or.inr (Or.inl ⟨h.symm, ?_⟩)
    cases hemp : (t.all "enum").isEmpty
    · have hne : t.all "enum" ≠ [] := by intro h0; rw [h0] at hemp; cases hemp
      simp only [hemp, Bool.false_eq_true, if_false, Option.map_eq_none_iff] at he
      exact ⟨hne, he⟩
    · simp only [hemp, if_true] at he
      cases he
  · rename_i hb _
    simp only [Except.error.injEq] at h
    refine Or.inr (Or.inr (Or.inl ⟨h.symm, ?_⟩))
    cases hemp : (t.all "bit").isEmpty
    · have hne : t.all "bit" ≠ [] := by intro h0; rw [h0] at hemp; cases hemp
      simp only [hemp, Bool.false_eq_true, if_false, Option.map_eq_none_iff] at hb
      exact ⟨hne, hb⟩
    · simp only [hemp, if_true] at hb
      cases hb
  · rename_i hfd _ _
    simp only [Except.error.injEq] at h
    refine Or.inr (Or.inr (Or.inr ⟨h.symm, ?_⟩))
    cases ha : t.argOf? "fraction-digits" with
    | none => rw [ha] at hfd; cases hfd
    | some a =>
      refine ⟨a, rfl, ?_⟩
      intro n hn hr
      rw [ha] at hfd
      simp only [hn] at hfd
      rw [if_pos (by simpa using hr)] at hfd
      cases hfd

/-- **The reasons of `noClaim`, and the budget.**  For a type statement that stands in the loaded
set, with a budget above the number of `type` statements not yet in progress, a `noClaim w` answer
of `chainOf` names a feature of a site met while resolving the statement. -/
theorem chainOf_noClaim_reason (reg : Registry) :
    ∀ (fuel : Nat) (root : Mod) (scope : List Stmt) (t : Stmt) (vis : List Key) (w : String),
      root ∈ reg.mods → t ∈ descendants root.stmt → (∀ s ∈ scope, s ∈ descendants root.stmt) → t.kw = "type" →
      Budget reg fuel vis →
      chainOf reg fuel root scope t vis = .noClaim w →
      ∃ site, UsesStar reg (root, scope, t) site ∧ Feature reg site w := by
  intro fuel
  induction fuel with
  | zero => intro root scope t vis w _ _ _ _ hb _; exact hb.not_zero.elim
  | succ fuel ih =>
    intro root scope t vis w hroot ht hscope hkw hb h
    rw [chainOf_succ] at h
    split at h
    · cases h
    rename_i hc
    have hnotin : (root.seq, t.line, t.col) ∉ vis := by simpa using hc
    have hb' : Budget reg fuel ((root.seq, t.line, t.col) :: vis) := hb.push hroot ht hkw hnotin
    have hscope' : ∀ s ∈ t :: scope, s ∈ descendants root.stmt := by
      intro s hs
      cases hs with
      | head => exact ht
      | tail _ hs => exact hscope s hs
    split at h
    · cases h
    rename_i members? hcm
    -- a `noClaim` among the member types
    have hmember : ∀ w', members? = .error w' →
        ∃ site, UsesStar reg (root, scope, t) site ∧ Feature reg site w' := by
      intro w' hw'
      subst hw'
      obtain ⟨r, hr, hre⟩ := collectMembers_error hcm
      obtain ⟨ut, hut, rfl⟩ := List.mem_map.mp hr
      rcases finish_noClaim hre with hn | ⟨k, ls, hok, hcl, rfl⟩
      · obtain ⟨site, hs, hf⟩ := ih root (t :: scope) ut _ w' hroot (child_below ht (all_mem_subs hut)) hscope'
          (kw_of_all hut) hb' hn
        exact ⟨site, UsesStar.head (Uses.member ut hut) hs, hf⟩
      · exact ⟨_, UsesStar.refl _, Feature.restated ut fuel _ k ls hut hok hcl⟩
    have hown : ∀ w', ownLayer t members? = .error w' →
        ∃ site, UsesStar reg (root, scope, t) site ∧ Feature reg site w' := by
      intro w' hw'
      rcases ownLayer_error hw' with hm | ⟨rfl, h1, h2⟩ | ⟨rfl, h1, h2⟩ | ⟨rfl, a, h1, h2⟩
      · exact hmember w' hm
      · exact ⟨_, UsesStar.refl _, Feature.enumValues h1 h2⟩
      · exact ⟨_, UsesStar.refl _, Feature.bitPositions h1 h2⟩
      · exact ⟨_, UsesStar.refl _, Feature.fractionDigits a h1 h2⟩
    split at h
    · cases h
    · rename_i hbt
      simp only [Chain.noClaim.injEq] at h
      subst h
      exact ⟨_, UsesStar.refl _, Feature.ambiguous hbt⟩
    · split at h
      · cases h
      · rename_i w' hw'
        simp only [Chain.noClaim.injEq] at h
        subst h
        exact hown _ hw'
    · rename_i m td sc hbt
      split at h
      · rename_i htt
        simp only [Chain.noClaim.injEq] at h
        subst h
        exact ⟨_, UsesStar.refl _, Feature.noType m td sc hbt htt⟩
      · rename_i tt htt
        have hbind := bindType_sound reg root scope t.arg m td sc hbt
        obtain ⟨hm, htd, hsc⟩ := binds_inSet hroot hscope hbind
        split at h
        · split at h
          · cases h
          · rename_i w' hw'
            simp only [Chain.noClaim.injEq] at h
            subst h
            exact hown _ hw'
        · cases h
        · rename_i w' hw'
          simp only [Chain.noClaim.injEq] at h
          subst h
          have hsc' : ∀ s ∈ td :: sc, s ∈ descendants m.stmt := by
            intro s hs
            cases hs with
            | head => exact htd
            | tail _ hs => exact hsc s hs
          obtain ⟨site, hs, hf⟩ := ih m (td :: sc) tt _ _ hm (child_below htd (one_mem_subs htt)) hsc'
            (kw_of_one htt) hb' hw'
          exact ⟨site, UsesStar.head (Uses.base m td sc tt hbind htt) hs, hf⟩

/-- **The budget case cannot occur.** -/
theorem chainOf_not_fuel (reg : Registry) (fuel : Nat) (root : Mod) (scope : List Stmt) (t : Stmt) (vis : List Key)
    (hroot : root ∈ reg.mods) (ht : t ∈ descendants root.stmt) (hscope : ∀ s ∈ scope, s ∈ descendants root.stmt)
    (hkw : t.kw = "type") (hb : Budget reg fuel vis) :
    chainOf reg fuel root scope t vis ≠ .noClaim "fuel" := by
  intro h
  obtain ⟨_, _, hf⟩ := chainOf_noClaim_reason reg fuel root scope t vis _ hroot ht hscope hkw hb h
  exact hf.not_fuel

end Goyang.Lemmas.TypesSpecFuel
