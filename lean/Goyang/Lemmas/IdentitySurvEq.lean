import Goyang.Lemmas.IdentitySurvGraph
/-
Helper lemmas for C11, part 9: the specification always answers — `preorder` finishes within
`preorderSteps r` steps, `closure` within `r.mods.length + 1` rounds, for EVERY registry, so
`parts`, `registrations`, `graph` and `survivorGraph` are `some` — and on a schema with one identity
statement per vertex `survivorGraph` is `graph` up to the order of its lists.
-/
open Goyang.Lemmas.RegistryAux (byId_mem)
namespace Goyang.Lemmas.Identity
open Goyang.Lemmas.ListAux (eq_of_nodup_map nodup_of_map)
open Goyang.Model Goyang.Model.Identity
open Goyang.Spec.Identity (Reach closure includedBy loadedModules preorder preorderSteps statementsOf
  registrationsFor registrations parts graph Graph survivorGraph ascendingKeys survivors vertexStmts names
  Derives ValuesOK Acyclic AllBasesResolve OneStatementPerVertex)


section PreorderSome
variable {α β : Type} [DecidableEq α]

/-- `preorder` answers when the step budget exceeds the length of the stack plus the number of
successors that can still be pushed. -/
theorem preorder_some (succ : α → List α) (key : β → α) (w : β → Nat) (U : List β)
    (hs : ∀ x, succ x = [] ∨ ∃ b ∈ U, key b = x ∧ (succ x).length ≤ w b) :
    ∀ (n : Nat) (todo seen : List α), todo.length + potential key w U seen + 1 ≤ n →
      ∃ out, preorder succ n todo seen = some out := by
  intro n
  induction n with
  | zero => intro todo seen h; omega
  | succ n ih =>
    intro todo seen h
    cases todo with
    | nil => exact ⟨seen, rfl⟩
    | cons x todo =>
      simp only [preorder]
      simp only [List.length_cons] at h
      by_cases hx : x ∈ seen
      · rw [if_pos hx]
        exact ih todo seen (by omega)
      · rw [if_neg hx]
        apply ih
        rw [List.length_append]
        rcases hs x with h0 | ⟨b, hb, hk, hw⟩
        · rw [h0]
          have := potential_mono key w U (seen := seen) (seen' := seen ++ [x])
            (fun y hy => List.mem_append_left _ hy)
          simp only [List.length_nil]; omega
        · have := potential_drop key w U hb hk hx
          omega

end PreorderSome

theorem includedBy_weight (r : Registry) (x : Nat) :
    includedBy r x = [] ∨ ∃ b ∈ r.mods, b.seq = x ∧ (includedBy r x).length ≤ b.includes.length := by
  unfold includedBy
  cases hm : r.byId x with
  | none => exact Or.inl rfl
  | some m => exact Or.inr ⟨m, byId_mem hm, byId_seq hm, List.length_filterMap_le _ _⟩

theorem preorder_root_some (r : Registry) (s : Nat) :
    ∃ ss, preorder (includedBy r) (preorderSteps r) [s] [] = some ss := by
  apply preorder_some (includedBy r) (fun m : Mod => m.seq) (fun m => m.includes.length) r.mods
    (includedBy_weight r)
  rw [potential_nil]
  unfold preorderSteps
  simp only [List.length_cons, List.length_nil]
  omega

theorem registrationsFor_some (r : Registry) : ∀ (L : List Mod), ∃ R, registrationsFor r L = some R := by
  intro L
  induction L with
  | nil => exact ⟨[], rfl⟩
  | cons md L ih =>
    obtain ⟨ss, hss⟩ := preorder_root_some r md.seq
    obtain ⟨R, hR⟩ := ih
    exact ⟨statementsOf r ss ++ R, by simp [registrationsFor, hss, hR]⟩

theorem registrations_some (r : Registry) : ∃ R, registrations r = some R :=
  registrationsFor_some r _


section ClosureSome
variable {α : Type} [DecidableEq α]

theorem closure_some (succ : α → List α) (U : List α) (hU : ∀ x ∈ U, ∀ y ∈ succ x, y ∈ U) :
    ∀ (rounds : Nat) (s : List α), (∀ x ∈ s, x ∈ U) → unv U s < rounds →
      ∃ out, closure succ rounds s = some out := by
  intro rounds
  induction rounds with
  | zero => intro s _ h; omega
  | succ n ih =>
    intro s hs hlt
    unfold closure
    simp only
    split
    · exact ⟨s, rfl⟩
    · rename_i hne
      have hnew : ∀ z ∈ ((s.flatMap succ).filter (fun a => decide (a ∉ s))).eraseDups, z ∈ U ∧ z ∉ s := by
        intro z hz
        rw [List.mem_eraseDups] at hz
        simp only [List.mem_filter, List.mem_flatMap, decide_eq_true_eq] at hz
        obtain ⟨⟨x, hx, hzx⟩, hzs⟩ := hz
        exact ⟨hU x (hs x hx) z hzx, hzs⟩
      apply ih
      · intro x hx
        rcases List.mem_append.mp hx with hx | hx
        · exact hs x hx
        · exact (hnew x hx).1
      · cases hnl : ((s.flatMap succ).filter (fun a => decide (a ∉ s))).eraseDups with
        | nil => rw [hnl] at hne; simp at hne
        | cons z rest =>
          have hz := hnew z (by rw [hnl]; exact List.mem_cons_self ..)
          have h1 := unv_lt U hz.1 hz.2
          have h2 := unv_mono U (ids := s ++ [z]) (ids' := s ++ z :: rest) (by
            intro y hy
            rcases List.mem_append.mp hy with hy | hy
            · exact List.mem_append_left _ hy
            · simp only [List.mem_singleton] at hy
              subst hy
              exact List.mem_append_right _ (List.mem_cons_self ..))
          omega

end ClosureSome

theorem includedBy_mem (r : Registry) (x y : Nat) (hy : y ∈ includedBy r x) : y ∈ r.mods.map (·.seq) := by
  unfold includedBy at hy
  split at hy
  · obtain ⟨i, _, hi⟩ := List.mem_filterMap.mp hy
    obtain ⟨m', hm', rfl⟩ := Option.map_eq_some_iff.mp hi
    obtain ⟨id, hid⟩ := findModule_byId hm'
    exact List.mem_map.mpr ⟨m', byId_mem hid, rfl⟩
  · cases hy

theorem parts_some (r : Registry) : ∃ ps, parts r = some ps := by
  unfold parts
  obtain ⟨out, hout⟩ := closure_some (includedBy r) (r.mods.map (·.seq))
    (fun x _ y hy => includedBy_mem r x y hy) (r.mods.length + 1)
    ((loadedModules r).map (·.seq)).eraseDups
    (by
      intro x hx
      rw [List.mem_eraseDups] at hx
      obtain ⟨md, hmd, rfl⟩ := List.mem_map.mp hx
      unfold loadedModules at hmd
      obtain ⟨kv, _, hkv⟩ := List.mem_filterMap.mp hmd
      exact List.mem_map.mpr ⟨md, byId_mem hkv, rfl⟩)
    (by
      have := unv_le (r.mods.map (·.seq)) ((loadedModules r).map (·.seq)).eraseDups
      rw [List.length_map] at this
      omega)
  exact ⟨_, by rw [hout]; rfl⟩

theorem graph_some (r : Registry) : ∃ G, graph r = some G := by
  obtain ⟨ps, hps⟩ := parts_some r
  unfold graph
  rw [hps]
  exact ⟨_, rfl⟩

theorem survivorGraph_some (r : Registry) : ∃ G, survivorGraph r = some G := by
  obtain ⟨ps, hps⟩ := parts_some r
  obtain ⟨R, hR⟩ := registrations_some r
  unfold survivorGraph
  rw [hps, hR]
  exact ⟨_, rfl⟩

/-- The two graphs hold the same vertices, edges and dangling bases, each the same number of times,
and the same orphans and missing references. -/
structure GraphPerm (G' G : Graph) : Prop where
  verts : G'.verts.Perm G.verts
  edges : G'.edges.Perm G.edges
  dangling : G'.dangling.Perm G.dangling
  orphans : G'.orphans = G.orphans
  missing : G'.missing = G.missing

theorem GraphPerm.symm {G' G : Graph} (h : GraphPerm G' G) : GraphPerm G G' :=
  ⟨h.verts.symm, h.edges.symm, h.dangling.symm, h.orphans.symm, h.missing.symm⟩

theorem GraphPerm.derives {G' G : Graph} (h : GraphPerm G' G) {j i : Spec.Identity.Vertex}
    (hd : Derives G' j i) : Derives G j i := by
  induction hd with
  | base he => exact Derives.base (h.edges.mem_iff.mp he)
  | step he _ ih => exact Derives.step (h.edges.mem_iff.mp he) ih

theorem GraphPerm.derives_iff {G' G : Graph} (h : GraphPerm G' G) (j i : Spec.Identity.Vertex) :
    Derives G' j i ↔ Derives G j i := ⟨h.derives, h.symm.derives⟩

theorem GraphPerm.valuesOK_iff {G' G : Graph} (h : GraphPerm G' G) (i : Spec.Identity.Vertex)
    (l : List Spec.Identity.Vertex) : ValuesOK G' i l ↔ ValuesOK G i l :=
  ⟨fun hv => ⟨fun j => (hv.exact j).trans (h.derives_iff j i), hv.ascending⟩,
   fun hv => ⟨fun j => (hv.exact j).trans (h.derives_iff j i).symm, hv.ascending⟩⟩

theorem GraphPerm.acyclic_iff {G' G : Graph} (h : GraphPerm G' G) : Acyclic G' ↔ Acyclic G :=
  ⟨fun ha v hv => ha v ((h.derives_iff v v).mpr hv), fun ha v hv => ha v ((h.derives_iff v v).mp hv)⟩

theorem perm_nil_iff {α : Type} {l1 l2 : List α} (h : l1.Perm l2) : l1 = [] ↔ l2 = [] :=
  ⟨fun e => (e ▸ h).symm.eq_nil, fun e => (e ▸ h).eq_nil⟩

theorem GraphPerm.allBasesResolve_iff {G' G : Graph} (h : GraphPerm G' G) :
    AllBasesResolve G' ↔ AllBasesResolve G := by
  unfold AllBasesResolve
  rw [perm_nil_iff h.dangling, h.orphans]

theorem GraphPerm.one_iff {G' G : Graph} (h : GraphPerm G' G) :
    OneStatementPerVertex G' ↔ OneStatementPerVertex G := h.verts.nodup_iff

/-! ### who is registered -/

theorem mem_registrationsFor (r : Registry) : ∀ (L : List Mod) (R : List Surv), registrationsFor r L = some R →
    ∀ x, x ∈ R ↔ ∃ md ∈ L, ∃ ss, preorder (includedBy r) (preorderSteps r) [md.seq] [] = some ss ∧
      x ∈ statementsOf r ss := by
  intro L
  induction L with
  | nil =>
    intro R h x
    simp only [registrationsFor, Option.some.injEq] at h
    subst h
    simp
  | cons md L ih =>
    intro R h x
    unfold registrationsFor at h
    cases hp : preorder (includedBy r) (preorderSteps r) [md.seq] [] with
    | none => simp [hp] at h
    | some ss =>
      simp only [hp] at h
      obtain ⟨R', hR', rfl⟩ := Option.map_eq_some_iff.mp h
      rw [List.mem_append, ih R' hR' x]
      constructor
      · rintro (hx | ⟨md', hmd', ss', hss', hx⟩)
        · exact ⟨md, List.mem_cons_self .., ss, hp, hx⟩
        · exact ⟨md', List.mem_cons_of_mem _ hmd', ss', hss', hx⟩
      · rintro ⟨md', hmd', ss', hss', hx⟩
        rcases List.mem_cons.mp hmd' with rfl | hmd'
        · rw [hp] at hss'
          cases hss'
          exact Or.inl hx
        · exact Or.inr ⟨md', hmd', ss', hss', hx⟩

/-- What the explicit-stack traversal lists from a (sub)module of the registry is what is reachable. -/
theorem preorder_reach (r : Registry) (md : Mod) (hmd : md ∈ r.mods) (ss : List Nat)
    (hp : preorder (includedBy r) (preorderSteps r) [md.seq] [] = some ss) (y : Nat) :
    y ∈ ss ↔ Reach (includedBy r) md.seq y := by
  obtain ⟨out, hw, _, hout⟩ := walk_nil (includedBy r) (r.mods.map (·.seq))
    (fun x _ y hy => includedBy_mem r x y hy) (r.mods.length + 1) md.seq
    (List.mem_map.mpr ⟨md, hmd, rfl⟩) (by rw [List.length_map]; omega)
  rw [walk_eq_preorder _ _ _ _ _ _ hw hp]
  exact hout y

theorem mem_ascendingKeys (l : List (String × Nat)) (kv : String × Nat) : kv ∈ ascendingKeys l ↔ kv ∈ l := by
  rw [ascendingKeys_eq, (sortStable_perm _ _).mem_iff, List.mem_reverse]

/-- The registered statements are the identity statements of the parts of the schema (each possibly
several times). -/
theorem mem_registrations {r : Registry} {ps : List Mod} {R : List Surv} (hps : parts r = some ps)
    (hR : registrations r = some R) (x : Surv) : x ∈ R ↔ x ∈ fullStmts r ps := by
  unfold registrations at hR
  rw [mem_registrationsFor r _ R hR x, mem_fullStmts]
  constructor
  · rintro ⟨md, hmd, ss, hss, hx⟩
    rw [statementsOf_eq, mem_fullStmts] at hx
    obtain ⟨m, hm, vs, hvs, rfl⟩ := hx
    refine ⟨m, ?_, vs, hvs, rfl⟩
    obtain ⟨s, hs, hsm⟩ := List.mem_filterMap.mp hm
    obtain ⟨kv, hkv, hkvm⟩ := List.mem_filterMap.mp hmd
    have hmd' : md ∈ moduleEntries r :=
      List.mem_filterMap.mpr ⟨kv, (mem_ascendingKeys _ _).mp hkv, hkvm⟩
    exact (parts_spec hps m).mpr ⟨s, ⟨md, hmd', (preorder_reach r md (byId_mem hkvm) ss hss s).mp hs⟩, hsm⟩
  · rintro ⟨m, hm, vs, hvs, rfl⟩
    obtain ⟨s, ⟨md, hmd, hreach⟩, hsm⟩ := (parts_spec hps m).mp hm
    obtain ⟨kv, hkv, hkvm⟩ := List.mem_filterMap.mp hmd
    obtain ⟨ss, hss⟩ := preorder_root_some r md.seq
    refine ⟨md, List.mem_filterMap.mpr ⟨kv, (mem_ascendingKeys _ _).mpr hkv, hkvm⟩, ss, hss, ?_⟩
    rw [statementsOf_eq, mem_fullStmts]
    exact ⟨m, List.mem_filterMap.mpr ⟨s, (preorder_reach r md (byId_mem hkvm) ss hss s).mpr hreach, hsm⟩,
      vs, hvs, rfl⟩

/-! ### survivors -/

theorem survivors_sub {β : Type} (L : List (Spec.Identity.Vertex × β)) (x : Spec.Identity.Vertex × β)
    (h : x ∈ survivors L) : x ∈ L := ((mem_survivors L x).mp h).mem

/-- Every registered vertex has a surviving statement. -/
theorem survivors_cover {β : Type} (L : List (Spec.Identity.Vertex × β)) (x : Spec.Identity.Vertex × β)
    (hx : x ∈ L) : ∃ y ∈ survivors L, y.1 = x.1 := by
  obtain ⟨y, hy, hk⟩ := exists_lastIn (·.1) L x hx
  exact ⟨y, (mem_survivors L y).mpr hy, hk⟩

/-- With one statement per vertex every statement survives: the survivors are the identity
statements of the parts, in another order. -/
theorem survivors_perm_full {r : Registry} {ps : List Mod} {R : List Surv} (hps : parts r = some ps)
    (hR : registrations r = some R) (hone : ((ps.flatMap (vertexStmts r)).map (·.1)).Nodup) :
    (survivors R).Perm (fullStmts r ps) := by
  have hfull : ((fullStmts r ps).map (·.1)).Nodup := by rw [fullStmts_verts]; exact hone
  apply (List.perm_ext_iff_of_nodup (nodup_of_map _ _ (survivors_nodup R)) (nodup_of_map _ _ hfull)).mpr
  intro x
  constructor
  · intro hx
    exact (mem_registrations hps hR x).mp (survivors_sub R x hx)
  · intro hx
    obtain ⟨y, hy, hyk⟩ := survivors_cover R x ((mem_registrations hps hR x).mpr hx)
    have hyf := (mem_registrations hps hR y).mp (survivors_sub R y hy)
    have : y = x := eq_of_nodup_map (·.1) _ hfull y hyf x hx hyk
    exact this ▸ hy

/-! ### the two graphs -/

theorem edgeOf_congr {V V' : List Spec.Identity.Vertex} (h : ∀ b, b ∈ V' ↔ b ∈ V) : edgeOf V' = edgeOf V := by
  funext ⟨v, a, t⟩
  cases t with
  | none => rfl
  | some b => simp only [edgeOf, h b]

theorem danglingOf_congr {V V' : List Spec.Identity.Vertex} (h : ∀ b, b ∈ V' ↔ b ∈ V) :
    danglingOf V' = danglingOf V := by
  funext ⟨v, a, t⟩
  cases t with
  | none => rfl
  | some b => simp only [danglingOf, h b]

/-- On a schema with one identity statement per vertex, `survivorGraph` answers and is `graph` up
to the order of the lists. -/
theorem survivorGraph_perm_graph {r : Registry} {G : Graph} (hG : graph r = some G)
    (hone : OneStatementPerVertex G) : ∃ G', survivorGraph r = some G' ∧ GraphPerm G' G := by
  unfold graph at hG
  obtain ⟨ps, hps, rfl⟩ := Option.map_eq_some_iff.mp hG
  obtain ⟨R, hR⟩ := registrations_some r
  have hp := survivors_perm_full hps hR hone
  have hverts : ((survivors R).map (·.1)).Perm ((ps.flatMap (vertexStmts r)).map (·.1)) := by
    rw [← fullStmts_verts]
    exact hp.map _
  have hmem : ∀ b, b ∈ (survivors R).map (·.1) ↔ b ∈ (ps.flatMap (vertexStmts r)).map (·.1) :=
    fun b => hverts.mem_iff
  have hbases : (survBases r (survivors R)).Perm (basesOf r ps) := by
    rw [basesOf_eq]
    exact hp.flatMap_right _
  refine ⟨_, by unfold survivorGraph; rw [hps, hR], ?_⟩
  refine ⟨hverts, ?_, ?_, rfl, rfl⟩
  · show ((survBases r (survivors R)).filterMap (edgeOf ((survivors R).map (·.1)))).Perm
      ((basesOf r ps).filterMap (edgeOf ((ps.flatMap (vertexStmts r)).map (·.1))))
    rw [edgeOf_congr hmem]
    exact hbases.filterMap _
  · show ((survBases r (survivors R)).filterMap (danglingOf ((survivors R).map (·.1)))).Perm
      ((basesOf r ps).filterMap (danglingOf ((ps.flatMap (vertexStmts r)).map (·.1))))
    rw [danglingOf_congr hmem]
    exact hbases.filterMap _

end Goyang.Lemmas.Identity
