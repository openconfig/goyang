/-
`scanStop` (the tokens in front of a lexical failure, `Goyang/Spec/Fault.lean`) against `scanAll`,
its fuel, and a line feed appended to the text; `Stuck` depends on the text only through the
positions of the tokens' offsets, so the appended line feed makes no difference to it either.
-/
import Goyang.Spec.Fault
import Goyang.Lemmas.Scan
import Goyang.Lemmas.Newline
import Goyang.Lemmas.ListSrc

namespace Goyang.Lemmas.FaultNL
open Goyang.Spec.Parse Goyang.Spec.Fault Goyang.Lemmas.Scan
open Goyang.Lemmas.ListSrc (argument_suffix stmt_stmts_suffix)
open Goyang.Lemmas.Newline (stmt_stmts_congr take_append_nl)

theorem scanStop_zero (n : Nat) (cs : List Char) : scanStop n 0 cs = ([], some cs) := rfl

theorem scanStop_succ (n f : Nat) (cs : List Char) :
    scanStop n (f + 1) cs =
      match specNext n cs with
      | none => ([], some cs)
      | some none => ([], none)
      | some (some (t, r)) => (t :: (scanStop n f r).1, (scanStop n f r).2) := rfl

theorem scanAll_succ (n f : Nat) (cs : List Char) :
    scanAll n (f + 1) cs =
      match specNext n cs with
      | none => ([], false)
      | some none => ([], true)
      | some (some (t, r)) => (t :: (scanAll n f r).1, (scanAll n f r).2) := rfl

/-- what follows a token is a tail of the text it was read from -/
theorem specNext_suffix (n : Nat) (cs : List Char) (t : PTok) (rest : List Char)
    (h : specNext n cs = some (some (t, rest))) : rest <:+ cs := by
  obtain ⟨sk, c, r, _, hcs, hc, _, ht⟩ := specNext_some n cs t rest h
  exact ((tokAt_suffix c r hc _ rest ht).1.trans (List.suffix_cons c r)).trans ⟨sk, hcs.symm⟩

/-! `scanStop` against `scanAll` -/

theorem scanStop_fst (n : Nat) : ∀ (f : Nat) (cs : List Char), (scanStop n f cs).1 = (scanAll n f cs).1 := by
  intro f
  induction f with
  | zero => intro cs; rfl
  | succ f ih =>
    intro cs
    rw [scanStop_succ, scanAll_succ]
    cases specNext n cs with
    | none => rfl
    | some o =>
      cases o with
      | none => rfl
      | some p =>
        obtain ⟨t, r⟩ := p
        simp only
        rw [ih r]

theorem scanStop_snd (n : Nat) : ∀ (f : Nat) (cs : List Char),
    (scanStop n f cs).2 = none ↔ (scanAll n f cs).2 = true := by
  intro f
  induction f with
  | zero => intro cs; simp [scanStop, scanAll]
  | succ f ih =>
    intro cs
    rw [scanStop_succ, scanAll_succ]
    cases specNext n cs with
    | none => simp
    | some o =>
      cases o with
      | none => simp
      | some p =>
        obtain ⟨t, r⟩ := p
        simp only
        exact ih r

/-- with enough fuel the tokenizer stops where it really fails, and that is a tail of the text it started on -/
theorem scanStop_stop (n : Nat) : ∀ (f : Nat) (cs : List Char), cs.length + 1 ≤ f →
    ∀ (toks : List PTok) (suf : List Char),
    scanStop n f cs = (toks, some suf) → specNext n suf = none ∧ ∃ mid, cs = mid ++ suf := by
  intro f
  induction f with
  | zero => intro cs h; omega
  | succ f ih =>
    intro cs hf toks suf h
    rw [scanStop_succ] at h
    cases hs : specNext n cs with
    | none =>
      rw [hs] at h
      simp only [Prod.mk.injEq, Option.some.injEq] at h
      rw [← h.2]
      exact ⟨hs, [], rfl⟩
    | some o =>
      cases o with
      | none => rw [hs] at h; simp at h
      | some p =>
        obtain ⟨t, r⟩ := p
        rw [hs] at h
        simp only [Prod.mk.injEq] at h
        have hlt := (specNext_lt n cs t r hs).1
        obtain ⟨pre, hpre⟩ := specNext_suffix n cs t r hs
        obtain ⟨h1, mid, hmid⟩ := ih r (by omega) (scanStop n f r).1 suf (Prod.ext rfl h.2)
        refine ⟨h1, pre ++ mid, ?_⟩
        rw [← hpre, hmid]; simp

/-- more fuel than characters changes nothing -/
theorem scanStop_fuel (n : Nat) : ∀ (f : Nat) (cs : List Char), cs.length + 1 ≤ f →
    scanStop n (f + 1) cs = scanStop n f cs := by
  intro f
  induction f with
  | zero => intro cs h; omega
  | succ f ih =>
    intro cs h
    rw [scanStop_succ n (f + 1) cs, scanStop_succ n f cs]
    cases hs : specNext n cs with
    | none => rfl
    | some o =>
      cases o with
      | none => rfl
      | some p =>
        obtain ⟨t, r⟩ := p
        simp only
        have := (specNext_lt n cs t r hs).1
        rw [ih r (by omega)]

/-- a line feed appended to the text -/
theorem scanStop_nl (n : Nat) : ∀ (f : Nat) (cs : List Char),
    scanStop (n + 1) f (cs ++ ['\n']) = ((scanStop n f cs).1, (scanStop n f cs).2.map (· ++ ['\n'])) := by
  intro f
  induction f with
  | zero => intro cs; rfl
  | succ f ih =>
    intro cs
    rw [scanStop_succ, scanStop_succ, specNext_nl]
    cases specNext n cs with
    | none => rfl
    | some o =>
      cases o with
      | none => rfl
      | some p =>
        obtain ⟨t, r⟩ := p
        simp only
        rw [ih r]

/-- offsets of the tokens lie inside the text -/
theorem scanStop_off (n : Nat) : ∀ (f : Nat) (cs : List Char), ∀ t ∈ (scanStop n f cs).1, t.off ≤ n := by
  intro f
  induction f with
  | zero => intro cs t ht; simp [scanStop] at ht
  | succ f ih =>
    intro cs t ht
    rw [scanStop_succ] at ht
    cases hs : specNext n cs with
    | none => rw [hs] at ht; simp at ht
    | some o =>
      cases o with
      | none => rw [hs] at ht; simp at ht
      | some p =>
        obtain ⟨t0, r⟩ := p
        rw [hs] at ht
        simp only [List.mem_cons] at ht
        rcases ht with ht | ht
        · rw [ht]; exact (specNext_lt n cs t0 r hs).2
        · exact ih r t ht

/-! `Stuck` depends on the text only through positions of offsets up to `N` -/

theorem stuck_congr (text1 text2 : List Char) (N : Nat) (hsame : ∀ off, off ≤ N → text1.take off = text2.take off)
    (c : Ctx) (toks : List PTok) (w : Where) (h : Stuck text1 c toks w) (hoff : ∀ t ∈ toks, t.off ≤ N) :
    Stuck text2 c toks w := by
  induction h with
  | rbrace t ts ht => exact .rbrace t ts ht
  | first c t ts w hc ht _ ih => exact .first c t ts w hc ht (ih hoff)
  | later c t ts s rest w hc ht hs _ ih =>
    have hsx := ((stmt_stmts_suffix text1 _).1 _ _ _ hs).1
    rw [(stmt_stmts_congr text1 text2 N hsame _).1 _ hoff] at hs
    exact .later c t ts s rest w hc ht hs (ih (fun x hx => hoff x (hsx.mem hx)))
  | ended c hc => exact .ended c hc
  | keyword t ts hq hu => exact .keyword t ts hq hu
  | escape k kw ts x raw hk hkw hp hx => exact .escape k kw ts x raw hk hkw hp hx
  | noTerm k kw ts arg e rest hk ha h1 h2 h3 =>
    rw [argument_congr text1 text2 N hsame _ ts (fun x hx => hoff x (by simp [hx]))] at ha
    exact .noTerm k kw ts arg e rest hk ha h1 h2 h3
  | argEnds k kw ts hk hr => exact .argEnds k kw ts hk hr
  | block k kw ts arg e rest w hk ha he _ ih =>
    have hsx := argument_suffix text1 _ ts arg (e :: rest) ha
    rw [argument_congr text1 text2 N hsame _ ts (fun x hx => hoff x (by simp [hx]))] at ha
    refine .block k kw ts arg e rest w hk ha he (ih (fun x hx => hoff x ?_))
    exact List.mem_cons_of_mem k (((List.suffix_cons e rest).trans hsx).mem hx)

theorem stuck_nl (text : List Char) (c : Ctx) (toks : List PTok) (w : Where)
    (hoff : ∀ t ∈ toks, t.off ≤ text.length) :
    Stuck text c toks w ↔ Stuck (text ++ ['\n']) c toks w :=
  ⟨fun h => stuck_congr text (text ++ ['\n']) text.length (fun off ho => (take_append_nl text off ho).symm)
      c toks w h hoff,
   fun h => stuck_congr (text ++ ['\n']) text text.length (fun off ho => take_append_nl text off ho)
      c toks w h hoff⟩

end Goyang.Lemmas.FaultNL
