import Goyang.Lemmas.DevExtConv
import Goyang.Lemmas.Bridge
/-
C08, frame across module sets — part 4: the conversions and the deviation stage of `processAll` on a
registry extended by deviation-only modules (`tstate_ext`, `frame_core_of_preDev`); the augment stage
is in `DevExtAug*.lean`.  Core Lean only.
-/
namespace Goyang.Lemmas.DevExt
open Goyang.Model
open Goyang.Lemmas.Tree (envOf keyOrder tstate forest0 pending0 pstate0 preDev devStage fixAll afterLoop afterRounds leftoverPass
  allMods)
open Goyang.Lemmas.Deviate (stageStep devsOf stageTargets stage_frame obsE obs)

/-- The plugged-in type resolution answers the same for the modules of `B` in both registries. -/
def PlugAgree (plug : Plug) (B X : Registry) : Prop :=
  ∀ m ∈ B.mods, ∀ sc t, plug.tres.resolve X m sc t = plug.tres.resolve B m sc t

/-- No module of `B` has an `augment` statement at its top level (restriction of the present proof). -/
def NoAugments (B : Registry) : Prop := ∀ m ∈ B.mods, m.stmt.all "augment" = []

section
variable {B X : Registry} {ds : List Mod} {dk : KeyMap} (h : DevExtCore B X ds dk)
include h

/-- The new modules in the order of their table keys. -/
def newOrder (X : Registry) (dk : KeyMap) : List Mod :=
  (sortBy (fun (a b : String × Nat) => a.1 < b.1) dk).filterMap fun kv => X.byId kv.2

theorem keyOrder_ext : keyOrder X = keyOrder B ++ newOrder X dk := by
  unfold keyOrder newOrder
  simp only [h.subsX, h.subsB, h.modules]
  rw [sortBy_append _ _ _ (fun a ha b hb => by simpa using h.keyLast a ha b hb)]
  have e0 : ∀ (r : Registry), (sortBy (fun (a b : String × Nat) => decide (a.1 < b.1)) ([] : KeyMap)).filterMap
      (fun kv => r.byId kv.2) = [] := fun _ => rfl
  rw [e0, e0, List.append_nil, List.append_nil, List.filterMap_append]
  congr 1
  apply ListAux.filterMap_congr'
  intro kv hkv
  obtain ⟨m, hm, hms⟩ := h.tblB kv ((SortAux.mem_sortBy _ kv _).mp hkv)
  rw [← hms]
  exact byId_ext h (Old.of_mem h hm)

theorem newOrder_mem {d : Mod} (hd : d ∈ newOrder X dk) : d ∈ ds := by
  unfold newOrder at hd
  obtain ⟨kv, hkv, hb⟩ := List.mem_filterMap.mp hd
  obtain ⟨d', hd', hds⟩ := h.tblD kv ((SortAux.mem_sortBy _ kv _).mp hkv)
  unfold Registry.byId at hb
  rw [h.mods, List.find?_append] at hb
  cases hf : B.mods.find? (·.seq == kv.2) with
  | some m =>
    have hm := List.mem_of_find?_eq_some hf
    have hs : m.seq = kv.2 := by simpa using List.find?_some hf
    exact absurd (hs.trans hds.symm) (h.seqFresh m hm d' hd')
  | none =>
    rw [hf] at hb
    simp only [Option.none_or] at hb
    exact List.mem_of_find?_eq_some hb

theorem mem_X {m : Mod} (hm : m ∈ B.mods) : m ∈ X.mods := by rw [h.mods]; exact List.mem_append_left _ hm

theorem envAgree {plug : Plug} (hplug : PlugAgree plug B X) (opts : Opts) :
    ∀ root ∈ B.mods, EnvAgree (envOf X opts plug) (envOf B opts plug) root := by
  intro root hr
  have hx : ∀ (r : Registry), r.subModules = [] → ∀ i, r.findModule true i = none := by
    intro r hr i
    unfold Registry.findModule Registry.getSub
    simp [hr, KeyMap.get?]
  refine ⟨rfl, fun sc t => hplug root hr sc t, fun a => ?_⟩
  unfold Env.includeTarget
  simp only [envOf]
  rw [hx X h.subsX, hx B h.subsB]
  simp

omit h in
theorem need_le_fuel (env : Env) {root : Mod} {scope : List Stmt} {n : Stmt} (vis : List NodeId)
    (inv : Fuel.Inv env root scope n) : Fuel.need env.reg root n vis ≤ entryFuel env.reg :=
  Nat.le_trans (Fuel.need_le_entryNeed vis inv) (Fuel.entryNeed_le_entryFuel env.reg)

/-- Conversion of a statement of a module of `B` at the top-level fuels of the two runs. -/
theorem toEntry_runs (hno : ∀ m ∈ B.mods, noUses m.stmt = true) {plug : Plug} (hplug : PlugAgree plug B X) (opts : Opts) (root : Mod) (scope : List Stmt) (n : Stmt)
    (vis : List NodeId) (st : TState) (inv : Fuel.Inv (envOf B opts plug) root scope n) :
    toEntry (envOf X opts plug) (entryFuel X) root scope n vis st =
      toEntry (envOf B opts plug) (entryFuel B) root scope n vis st := by
  have invX : Fuel.Inv (envOf X opts plug) root scope n := ⟨mem_X h inv.root_mem, inv.node, inv.scope⟩
  exact toEntry_env (B := B) (envOf X opts plug) (envOf B opts plug) rfl (envAgree h hplug opts) hno
    (fun m hm => mem_X h hm) (entryFuel B) (entryFuel X) root scope n vis st inv
    (need_le_fuel (envOf B opts plug) vis inv) (need_le_fuel (envOf X opts plug) vis invX)

omit h in
/-- The conversions of the statements of the modules of `B` agree in the two runs, each at its
top-level fuel.  Proved when `B` has no `uses` (`convAgree_noUses`). -/
def ConvAgree (B X : Registry) (opts : Opts) (plug : Plug) : Prop :=
  ∀ (root : Mod) (scope : List Stmt) (n : Stmt) (vis : List NodeId) (st : TState),
    Fuel.Inv (envOf B opts plug) root scope n →
    toEntry (envOf X opts plug) (entryFuel X) root scope n vis st =
      toEntry (envOf B opts plug) (entryFuel B) root scope n vis st

omit h in
/-- The calls of `toEntry` that `processAll` makes itself: every loaded (sub)module statement, and every
deviate statement of a deviation (both with an empty `visiting`). -/
inductive TopCall (B : Registry) : Mod → List Stmt → Stmt → Prop
  | top {m : Mod} : m ∈ B.mods → TopCall B m [] m.stmt
  | deviate {m : Mod} {dv dsn : Stmt} : m ∈ B.mods → dv ∈ m.stmt.all "deviation" → dsn ∈ dv.all "deviate" →
      TopCall B m [dv, m.stmt] dsn

omit h in
theorem TopCall.inv {env : Env} {root : Mod} {scope : List Stmt} {n : Stmt} (hc : TopCall env.reg root scope n) :
    Fuel.Inv env root scope n := by
  cases hc with
  | top hm => exact Fuel.Inv.top hm
  | deviate hm hdv hds => exact Fuel.Inv.deviate hm hdv hds

omit h in
/-- `ConvAgree` for the calls `processAll` makes itself (`TopCall`) — all that the frame theorems need.
(`ConvAgree` speaks about every call with an arbitrary list of statements as `scope`, also lists so long
that the grouping search of a `uses` is cut short at the one fuel and not at the other.) -/
def ConvAgreeTop (B X : Registry) (opts : Opts) (plug : Plug) : Prop :=
  ∀ (root : Mod) (scope : List Stmt) (n : Stmt) (st : TState), TopCall B root scope n →
    toEntry (envOf X opts plug) (entryFuel X) root scope n [] st =
      toEntry (envOf B opts plug) (entryFuel B) root scope n [] st

omit h in
theorem ConvAgree.top {opts : Opts} {plug : Plug} (hc : ConvAgree B X opts plug) : ConvAgreeTop B X opts plug :=
  fun root scope n st htc => hc root scope n [] st (TopCall.inv (env := envOf B opts plug) htc)

theorem convAgree_noUses (hno : ∀ m ∈ B.mods, noUses m.stmt = true) {plug : Plug} (hplug : PlugAgree plug B X)
    (opts : Opts) : ConvAgree B X opts plug :=
  fun root scope n vis st inv => toEntry_runs h hno hplug opts root scope n vis st inv

omit h in
theorem conv_base {plug : Plug} {opts : Opts} (hconv : ConvAgreeTop B X opts plug) :
    (keyOrder B).foldl (fun st m => (toEntry (envOf X opts plug) (entryFuel X) m [] m.stmt [] st).2) {} =
      tstate B opts plug := by
  unfold tstate
  apply Fuel.foldl_ext_mem
  intro st m hm
  rw [hconv m [] m.stmt st (TopCall.top (Bridge.keyOrder_mem B m hm))]

/-- The conversion state of the run with the new modules: that of the run without them, plus one
cache row and one empty row of pending augments per new module. -/
structure ConvExt (ds : List Mod) (tB st : TState) : Prop where
  cache : ∃ G, NewTrees ds G ∧ st.cache = tB.cache ++ G
  augs : ∃ GA, (∀ p ∈ GA, p.2 = []) ∧ st.augs = tB.augs ++ GA

omit h in
theorem toEntry_hit (env : Env) (fuel : Nat) (root : Mod) (scope : List Stmt) (n : Stmt) (vis : List NodeId) (st : TState)
    (hkw : n.kw = "module") (x : Nat × Entry) (hx : st.cache.find? (·.1 == root.seq) = some x) :
    (toEntry env (fuel + 1) root scope n vis st).2 = st := by
  rw [Fuel.toEntry_succ]
  unfold Fuel.toEntryBody Fuel.skeleton
  simp only [hkw, hx, beq_self_eq_true, Bool.true_or, if_true]

theorem conv_new (env : Env) (fuel : Nat) (tB : TState) (l : List Mod) (hl : ∀ d ∈ l, d ∈ ds) :
    ∀ st, ConvExt ds tB st →
      ConvExt ds tB (l.foldl (fun st m => (toEntry env (fuel + 1) m [] m.stmt [] st).2) st) := by
  induction l with
  | nil => intro st hst; exact hst
  | cons d l ih =>
    intro st hst
    simp only [List.foldl_cons]
    apply ih (fun x hx => hl x (List.mem_cons_of_mem _ hx))
    have hd := hl d (List.mem_cons_self ..)
    cases hf : st.cache.find? (·.1 == d.seq) with
    | some x => rw [toEntry_hit env fuel d [] d.stmt [] st (h.devOnly d hd).1 x hf]; exact hst
    | none =>
      obtain ⟨e, he⟩ := toEntry_devOnly env fuel d st (h.devOnly d hd) hf
      rw [he]
      obtain ⟨G, hG, hc⟩ := hst.cache
      obtain ⟨GA, hGA, ha⟩ := hst.augs
      refine ⟨⟨G ++ [(d.seq, e)], ?_, ?_⟩, ⟨GA ++ [(d.seq, [])], ?_, ?_⟩⟩
      · intro g hg
        rcases List.mem_append.mp hg with hg | hg
        · exact hG g hg
        · simp only [List.mem_singleton] at hg; subst hg; exact ⟨d, hd, rfl⟩
      · simp only [hc, List.append_assoc]
      · intro p hp
        rcases List.mem_append.mp hp with hp | hp
        · exact hGA p hp
        · simp only [List.mem_singleton] at hp; subst hp; rfl
      · simp only [ha, List.append_assoc]

omit h in
theorem entryFuel_succ (reg : Registry) : ∃ k, entryFuel reg = k + 1 := by
  have : 1 ≤ entryFuel reg := by
    rw [Fuel.entryFuel_eq]; exact Nat.le_trans (by decide) (Nat.le_add_left 64 _)
  exact ⟨entryFuel reg - 1, (Nat.sub_add_cancel this).symm⟩

theorem tstate_ext {plug : Plug} {opts : Opts} (hconv : ConvAgreeTop B X opts plug) :
    ConvExt ds (tstate B opts plug) (tstate X opts plug) := by
  have e : tstate X opts plug = (newOrder X dk).foldl
      (fun st m => (toEntry (envOf X opts plug) (entryFuel X) m [] m.stmt [] st).2) (tstate B opts plug) := by
    unfold tstate
    rw [keyOrder_ext h, List.foldl_append, conv_base hconv]
    rfl
  rw [e]
  obtain ⟨k, hk⟩ := entryFuel_succ X
  rw [hk]
  refine conv_new h _ k _ _ (fun d hd => newOrder_mem h hd) _ ⟨⟨[], ⟨?_, by simp⟩⟩, ⟨[], ⟨?_, by simp⟩⟩⟩
  · intro g hg; cases hg
  · intro p hp; cases hp

/-! ### the deviation stage -/

omit h in
theorem devStage_eq (reg : Registry) (opts : Opts) (plug : Plug) (f0 : Forest) :
    devStage reg opts plug f0 =
      (keyOrder reg).foldl (stageStep reg opts (envOf reg opts plug) (entryFuel reg)) (f0, [], []) := rfl

omit h in
theorem devsOf_runs {plug : Plug} {opts : Opts} (hconv : ConvAgreeTop B X opts plug) (m : Mod) (hm : m ∈ B.mods) :
    devsOf (envOf X opts plug) (entryFuel X) m = devsOf (envOf B opts plug) (entryFuel B) m := by
  unfold devsOf
  apply List.map_congr_left
  intro dv hdv
  have : ∀ dsn ∈ dv.all "deviate",
      (if deviateKinds.contains dsn.arg then
        some (dsn.arg, (toEntry (envOf X opts plug) (entryFuel X) m [dv, m.stmt] dsn [] {}).1) else none) =
      (if deviateKinds.contains dsn.arg then
        some (dsn.arg, (toEntry (envOf B opts plug) (entryFuel B) m [dv, m.stmt] dsn [] {}).1) else none) := by
    intro dsn hds
    rw [hconv m [dv, m.stmt] dsn {} (TopCall.deviate hm hdv hds)]
  rw [ListAux.filterMap_congr' this]

/-- The locations the deviations of the new modules resolve to, each at its turn, in the run with
them (after the modules of `B` have had their turn). -/
def newTargets (B X : Registry) (opts : Opts) (plug : Plug) : List Loc :=
  stageTargets X opts (envOf X opts plug) (entryFuel X) ((keyOrder X).drop (keyOrder B).length)
    ((keyOrder B).foldl (stageStep X opts (envOf X opts plug) (entryFuel X)) ((preDev X opts plug).forest, [], []))

omit h in
theorem obsE_ext (G : List (Nat × Entry)) (f : Forest) (t : Nat) (q : Path) (dd : EData) (ho : obsE f t q = some dd) :
    obsE (ext G f) t q = some dd := by
  unfold obsE obs at ho ⊢
  have : (ext G f).tree? t = f.tree? t := by
    unfold Forest.tree? ext
    simp only [List.find?_append]
    cases hf : f.trees.find? (·.1 == t) with
    | some x => rfl
    | none =>
      unfold Forest.tree? at ho
      simp [hf] at ho
  rw [this]
  exact ho

/-- The two runs agree before the deviation stage: the forest of the run with the new modules is the
forest of the run without them plus trees of new modules. -/
def PreDevAgree (B X : Registry) (ds : List Mod) (opts : Opts) (plug : Plug) : Prop :=
  ∃ G, NewTrees ds G ∧ (preDev X opts plug).forest = ext G (preDev B opts plug).forest

/-- **The frame across module sets from the deviation stage on**: whatever the earlier stages are
like, if they end in forests that agree on the trees of `B`, the results agree outside the targets
of the new modules' deviations. -/
theorem frame_core_of_preDev {plug : Plug} {opts : Opts} (hconv : ConvAgreeTop B X opts plug)
    (hpre : PreDevAgree B X ds opts plug)
    (hX : (processAll X opts plug).errors = []) (hB : (processAll B opts plug).errors = [])
    (t : Nat) (q : Path) (dd : EData) (ho : obsE (processAll B opts plug).forest t q = some dd)
    (hq : ∀ loc ∈ newTargets B X opts plug, ¬ (loc.1 = t ∧ loc.2 <+: q)) :
    obsE (processAll X opts plug).forest t q = some dd := by
  obtain ⟨_, _, _, _, hfX⟩ := Tree.processAll_clean X opts plug hX
  obtain ⟨_, _, _, _, hfB⟩ := Tree.processAll_clean B opts plug hB
  rw [hfX, devStage_eq, keyOrder_ext h, List.foldl_append]
  rw [hfB, devStage_eq] at ho
  obtain ⟨G, hG, hpre⟩ := hpre
  have hbase := stageFold_ext h hG opts (envOf X opts plug) (envOf B opts plug) (entryFuel X) (entryFuel B) (keyOrder B)
    (fun m hm => Bridge.keyOrder_mem B m hm) (fun m hm => devsOf_runs hconv m (Bridge.keyOrder_mem B m hm))
    (preDev B opts plug).forest [] []
  have hdrop : (keyOrder X).drop (keyOrder B).length = newOrder X dk := by
    rw [keyOrder_ext h, List.drop_left]
  unfold newTargets at hq
  rw [hdrop, hpre, hbase] at hq
  rw [hpre, hbase]
  exact stage_frame X opts (envOf X opts plug) (entryFuel X) t q dd (newOrder X dk) _ (obsE_ext G _ t q dd ho) hq

end

end Goyang.Lemmas.DevExt
