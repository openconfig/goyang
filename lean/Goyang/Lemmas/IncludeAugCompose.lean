import Goyang.Lemmas.IncludeAugOrder
import Goyang.Lemmas.IncludeAugView
import Goyang.Lemmas.IncludeAugFix
import Goyang.Lemmas.IncludeAugFinal
/-
C13 (third sentence), augments — (E) and (F) applied to `include_augment_loop_order`: on the canonical DUMP
(not only on the flat view) the result of `Process` on the split set is what the augment loop run in the
module order of the UNSPLIT set gives, followed by `FixChoice` — for sets whose loop leaves nothing
pending and without deviation statements.  Hypotheses that are not yet derived: `IOShape` of the two trees
and `SameIO` (the same rpc inputs / outputs created by the two runs).
-/
open Goyang.Lemmas.ForestAux (mem_of_tree?)
namespace Goyang.Lemmas.IncludeAugCompose
open Goyang.Model Goyang.Spec.Include Goyang.Spec.Augment Goyang.Spec.Tree Goyang.Lemmas.Tree
open Goyang.Lemmas.IncludeAugOrder Goyang.Lemmas.IncludeAugDump Goyang.Lemmas.IncludeAugView Goyang.Lemmas.IncludeAugFix
open Goyang.Lemmas.AugmentStep (FVisErr)
open Goyang.Lemmas.IncludeRel Goyang.Lemmas.IncludeMain

/-- Along the augment loop (any fuel, any module order), started where `processAll` starts it, every
error-free tree has `KeysUnique`. -/
theorem keysUnique_loop (reg : Registry) (opts : Opts) (plug : Plug) (fuel : Nat) (mods : Array Nat) :
    ∀ t ∈ (augmentLoop reg fuel mods (pstate0 reg opts plug)).2.forest.trees, NoErrors t.2 → KeysUnique t.2 := by
  have hq := localOK_wfq (envOf reg opts plug)
  have h1 := augmentLoop_ainv (augClosed_treeInv hq) reg fuel mods (pstate0 reg opts plug) (ainv_pstate0 reg opts plug hq)
  intro t ht hne
  exact everyNode_imp wfq keysUniqueHere Bridge.wfq_keysUnique _ ((h1.trees t ht).1.2 hne)

theorem noErrors_fixAll (s : PState) : ForestAll NoErrors (fixAll s).forest ↔ ForestAll NoErrors s.forest := by
  unfold fixAll
  constructor
  · intro hfa t ht
    exact (noErrors_fixChoice _).1 (hfa (t.1, fixChoice t.2) (List.mem_map.2 ⟨t, ht, rfl⟩))
  · intro hfa t ht
    obtain ⟨t0, ht0, rfl⟩ := List.mem_map.1 ht
    exact (noErrors_fixChoice _).2 (hfa _ ht0)

/-- The state after the loop over the split set run in the module order of the unsplit set. -/
def loopU (R R' : Registry) (opts : Opts) (plug' : Plug) : PState :=
  (augmentLoop R' (loopFuel R' opts plug') ((augOrder R).map (·.seq)).toArray (pstate0 R' opts plug')).2

section Split
variable {s : Split} {R R' : Registry} (opts : Opts) (plug plug' : Plug) (h : IsSplitOf s R R' plug plug')

include h in
theorem split_dump_in_unsplit_order (hL : Fuel.LoadedShape R') (hpos : Bridge.AugPosDistinct R') (hplain : Bridge.AugArgsPlain R')
    (h1 : stage1Errs R' plug' = []) (h2 : forestErrs (forest0 R' opts plug') = [])
    (hdev : ∀ x ∈ R'.mods, x.stmt.all "deviation" = []) (hn : NoLeftover R' opts plug')
    (hclean : (processAll R' opts plug').errors = []) (m : Mod) {ts tu : Entry}
    (hts : (afterLoop R' opts plug').2.forest.tree? m.seq = some ts) (htu : (loopU R R' opts plug').forest.tree? m.seq = some tu)
    (hss : IOShape ts) (hsu : IOShape tu) (hio : SameIO ts tu) :
    dumpOf (processAll R' opts plug') m =
      dumpOf { errors := [], forest := AugmentReport.fixAll (loopU R R' opts plug').forest, reg := R' } m := by
  obtain ⟨pe, pf⟩ := processAll_noLeftover R' opts plug' hn hdev h1 h2
  rw [pe] at hclean
  have e0 := canonErrs_eq_nil _ hclean
  have hNs : ForestAll NoErrors (afterLoop R' opts plug').2.forest := (noErrors_fixAll _).1 ((forestErrs_eq_nil _).1 e0)
  have hall : AugmentReport.allErrs (afterLoop R' opts plug').2.forest = [] := (forestErrs_eq_nil _).2 hNs
  have hfree : ∀ er, FVisErr (afterLoop R' opts plug').2.forest er → er.cls ≠ "duplicate-node" := by
    intro er hv
    have := AugmentReport.fVisErr_allErrs hv
    rw [hall] at this
    cases this
  obtain ⟨hview, _⟩ := split_loop_in_unsplit_order opts plug plug' h hL hpos hplain hfree
  have hallu := (split_loop_clean_iff opts plug plug' h hL hpos hplain h2).1 hall
  have hNu : ForestAll NoErrors (loopU R R' opts plug').forest := (forestErrs_eq_nil _).1 hallu
  have hms := mem_of_tree? hts
  have hmu := mem_of_tree? htu
  have hks : KeysUnique ts := keysUnique_loop R' opts plug' _ _ (m.seq, ts) hms (hNs _ hms)
  have hku : KeysUnique tu := keysUnique_loop R' opts plug' _ _ (m.seq, tu) hmu (hNu _ hmu)
  have hp : PEq ts tu := peq_of_veq (veq_of_viewOf hts htu (fun P d => by
    show viewOf (afterLoop R' opts plug').2.forest (m.seq, P) d ↔ viewOf (loopU R R' opts plug').forest (m.seq, P) d
    unfold loopU
    rw [hview])) hss hsu hio
  have key := dumpTree_fix_peq R' htu hts hp hks hku (hNs _ hms) (hNu _ hmu) m.fullName
  unfold dumpOf
  rw [pf, IncludeDump.processAll_reg]
  have e1 : (fixAll (afterLoop R' opts plug').2).forest = AugmentReport.fixAll (afterLoop R' opts plug').2.forest := rfl
  rw [e1]
  simp only [AugmentReport.tree?_fixAll, hts, htu, Option.map_some]
  exact key

end Split
section Split2
variable {s : Split} {R R' : Registry} (opts : Opts) (plug plug' : Plug) (h : IsSplitOf s R R' plug plug')

include h in
/-- `Process` on the split set (nothing left pending, no deviation statements) is error free iff the loop run
in the module order of the unsplit set records no error. -/
theorem split_clean_in_unsplit_order (hL : Fuel.LoadedShape R') (hpos : Bridge.AugPosDistinct R') (hplain : Bridge.AugArgsPlain R')
    (h1 : stage1Errs R' plug' = []) (h2 : forestErrs (forest0 R' opts plug') = [])
    (hdev : ∀ x ∈ R'.mods, x.stmt.all "deviation" = []) (hn : NoLeftover R' opts plug') :
    (processAll R' opts plug').errors = [] ↔ AugmentReport.allErrs (loopU R R' opts plug').forest = [] := by
  obtain ⟨pe, _⟩ := processAll_noLeftover R' opts plug' hn hdev h1 h2
  rw [pe]
  unfold loopU
  rw [← split_loop_clean_iff opts plug plug' h hL hpos hplain h2]
  have key := noErrors_fixAll (afterLoop R' opts plug').2
  constructor
  · intro hc
    exact (forestErrs_eq_nil _).2 (key.1 ((forestErrs_eq_nil _).1 (canonErrs_eq_nil _ hc)))
  · intro hc
    have : forestErrs (fixAll (afterLoop R' opts plug').2).forest = [] :=
      (forestErrs_eq_nil _).2 (key.2 ((forestErrs_eq_nil _).1 hc))
    rw [this]
    exact IncludeNoAug.canonErrs_nil

end Split2
section NLwrap
open Goyang.Lemmas.AugmentLoop Goyang.Lemmas.AugmentReport Goyang.Lemmas.AugmentModel Goyang.Lemmas.Bridge Goyang.Lemmas.AugmentStep
/-- With one row per key, a row of the pending table is what `pendingOf` answers for its key. -/
theorem pendingOf_of_mem (s : PState) (hk : (keys s).Nodup) {p : Nat × List Entry} (hp : p ∈ s.pending) :
    s.pendingOf p.1 = p.2 := by
  unfold PState.pendingOf
  rw [find?_key_of_nodup (fun q : Nat × List Entry => q.1) s.pending hk p hp]
  rfl

section NL
variable {s : Split} {R R' : Registry} (opts : Opts) (plug plug' : Plug) (h : IsSplitOf s R R' plug plug')

include h in
/-- The loop over the split set leaves nothing pending when the run in the module order of the unsplit set
records no error and leaves nothing pending. -/
theorem noLeftover_split (hL : Fuel.LoadedShape R') (hpos : AugPosDistinct R') (hplain : AugArgsPlain R')
    (h2 : forestErrs (forest0 R' opts plug') = [])
    (hcu : allErrs (loopU R R' opts plug').forest = []) (hpu : ∀ id, (loopU R R' opts plug').pendingOf id = []) :
    NoLeftover R' opts plug' := by
  have hall := (split_loop_clean_iff opts plug plug' h hL hpos hplain h2).2 hcu
  have hfree : ∀ er, FVisErr (afterLoop R' opts plug').2.forest er → er.cls ≠ "duplicate-node" := by
    intro er hv
    have := fVisErr_allErrs hv
    rw [hall] at this
    cases this
  obtain ⟨_, hpend⟩ := split_loop_in_unsplit_order opts plug plug' h hL hpos hplain hfree
  have hin := phaseInput_pstate0 R' opts plug' hL hpos hplain
  have hkeys : (keys (afterLoop R' opts plug').2).Nodup := by
    obtain ⟨_, _, _, _, hk, _⟩ := loop_spec (Res.ofReg R') (pstate0 R' opts plug').forest (loopFuel R' opts plug')
      ((augOrder R').map (·.seq)).toArray (pstate0 R' opts plug') [] (FLe.refl _) hin.nodup (cover_pstate0 R' opts plug')
    have e : (afterLoop R' opts plug').2 =
        (augmentLoopR (Res.ofReg R') (loopFuel R' opts plug') ((augOrder R').map (·.seq)).toArray (pstate0 R' opts plug') []).2.1 :=
      congrArg Prod.snd (Goyang.Props.C07.model_loop_eq R' _ _ _ hin.plain)
    rw [e, hk]
    exact hin.keys
  intro p hp
  have e1 := pendingOf_of_mem _ hkeys hp
  apply List.eq_nil_iff_forall_not_mem.2
  intro a ha
  have : a ∈ (afterLoop R' opts plug').2.pendingOf p.1 := by rw [e1]; exact ha
  have := (hpend p.1 a).2 this
  have hh : a ∈ (loopU R R' opts plug').pendingOf p.1 := this
  rw [hpu p.1] at hh
  cases hh

end NL
end NLwrap

/-- No deviation statement in the unsplit set: none in the split set (they stay with the owner). -/
theorem dev_split {s : Split} {R R' : Registry} {plug plug' : Plug} (h : IsSplitOf s R R' plug plug')
    (hdev : ∀ x ∈ R.mods, x.stmt.all "deviation" = []) : ∀ x ∈ R'.mods, x.stmt.all "deviation" = [] := by
  intro x hx
  rw [IncludeLink.mods_split h.regs] at hx
  rcases List.mem_append.1 hx with hx | hx
  · obtain ⟨y, hy, rfl⟩ := List.mem_map.1 hx
    by_cases hym : y.seq = s.m.seq
    · have : y = s.m := IncludeLink.eq_m_of_seq h.regs hy hym
      subst this
      rw [IncludeLink.repl_m, h.text.kept "deviation" (by decide)]
      exact hdev s.m hy
    · rw [IncludeLink.repl_of_ne hym]; exact hdev y hy
  · exact (h.text.sub_no_aug x hx).2.1

section Reduce
variable {s : Split} {R R' : Registry} (opts : Opts) (plug plug' : Plug) (h : IsSplitOf s R R' plug plug')

/-- What the pieces (A) and (S) (and the bookkeeping of rpc inputs / outputs) have to deliver about the two
augment loops run in the SAME module order (that of the unsplit set): the loop over the split set records no
error and leaves nothing pending, and the owner's tree is the unsplit module's up to `SameTop σ`; `ts` is the owner's tree after the
split set's loop in its own order. -/
def LoopsRelated (s : Split) (R R' : Registry) (opts : Opts) (plug plug' : Plug) : Prop :=
  AugmentReport.allErrs (loopU R R' opts plug').forest = [] ∧ (∀ id, (loopU R R' opts plug').pendingOf id = []) ∧
  ∃ t ts tu, (afterLoop R opts plug).2.forest.tree? s.m.seq = some t ∧
    (afterLoop R' opts plug').2.forest.tree? s.m.seq = some ts ∧ (loopU R R' opts plug').forest.tree? s.m.seq = some tu ∧
    SameTop s.σ tu t ∧ IOShape ts ∧ IOShape tu ∧ SameIO ts tu

include h in
theorem eq_inline_of_loopsRelated (hL : Fuel.LoadedShape R') (hpos : Bridge.AugPosDistinct R') (hplain : Bridge.AugArgsPlain R')
    (hdev : ∀ x ∈ R.mods, x.stmt.all "deviation" = []) (hn : NoLeftover R opts plug)
    (hclean : (processAll R opts plug).errors = []) (hS : LoopsRelated s R R' opts plug plug') :
    (processAll R' opts plug').errors = [] ∧ dumpOf (processAll R' opts plug') s.owner = dumpOf (processAll R opts plug) s.m := by
  have hdev' := dev_split h hdev
  obtain ⟨a1, a2⟩ := IncludeNoAug.processAll_clean_stages R opts plug hclean
  obtain ⟨hlink, b1⟩ := stage1_split plug plug' h a1
  have b2 := (conv_split opts plug plug' h hlink a2).1
  obtain ⟨hcu, hpu, t, ts, tu, ht, hts, htu, hst, hss, hsu, hio⟩ := hS
  have hn' : NoLeftover R' opts plug' := noLeftover_split opts plug plug' h hL hpos hplain b2 hcu hpu
  have hclean' : (processAll R' opts plug').errors = [] :=
    (split_clean_in_unsplit_order opts plug plug' h hL hpos hplain b1 b2 hdev' hn').2 hcu
  refine ⟨hclean', ?_⟩
  obtain ⟨_, pf⟩ := processAll_noLeftover R opts plug hn hdev a1 a2
  have hseq : s.owner.seq = s.m.seq := h.regs.owner_seq
  have k1 := split_dump_in_unsplit_order opts plug plug' h hL hpos hplain b1 b2 hdev' hn' hclean' s.owner
    (by rw [hseq]; exact hts) (by rw [hseq]; exact htu) hss hsu hio
  rw [k1]
  have e1 : (fixAll (afterLoop R opts plug).2).forest = AugmentReport.fixAll (afterLoop R opts plug).2.forest := rfl
  have hT : (processAll R opts plug).forest.tree? s.m.seq = some (fixChoice t) := by
    rw [pf, e1, AugmentReport.tree?_fixAll, ht]; rfl
  have hnd := names_nodup_of_clean R opts plug hclean _ _ hT
  exact IncludeAugFinal.dumpOf_sameTop h (processAll R opts plug)
    { errors := [], forest := AugmentReport.fixAll (loopU R R' opts plug').forest, reg := R' }
    (IncludeDump.processAll_reg R opts plug) rfl hT (by rw [AugmentReport.tree?_fixAll, htu]; rfl)
    (sameTop_fixChoice s.σ tu t hst) hnd

end Reduce

/-! ### `IOShape` / `NoRpc` under `ren σ` and `SameTop` (for the non-vacuity examples) -/

theorem everyNode_ren (σ : Nat → Nat) (q : Entry → Bool)
    (hq : ∀ d c i o, q (.mk (renD σ d) (c.map (ren σ)) (i.map (ren σ)) (o.map (ren σ))) = q (.mk d c i o)) (e : Entry) :
    everyNode q (ren σ e) = true ↔ everyNode q e = true := by
  induction e using entry_ind with
  | h d c i o hc hi ho =>
    rw [ren_mk, everyNode_mk, everyNode_mk, hq]
    have hl : ∀ l : List Entry, (∀ x ∈ l, everyNode q (ren σ x) = true ↔ everyNode q x = true) →
        ((∀ x ∈ l.map (ren σ), everyNode q x = true) ↔ ∀ x ∈ l, everyNode q x = true) := by
      intro l hl
      constructor
      · intro h1 x hx; exact (hl x hx).1 (h1 _ (List.mem_map_of_mem hx))
      · intro h1 y hy
        obtain ⟨x, hx, rfl⟩ := List.mem_map.1 hy
        exact (hl x hx).2 (h1 x hx)
    rw [hl c hc, hl i hi, hl o ho]

theorem ioShapeHere_ren (σ : Nat → Nat) (d : EData) (c i o : List Entry) :
    ioShapeHere (.mk (renD σ d) (c.map (ren σ)) (i.map (ren σ)) (o.map (ren σ))) = ioShapeHere (.mk d c i o) := by
  cases hr : d.isRpc <;> simp [ioShapeHere, Entry.d, Entry.dir, Entry.inp, Entry.out, renD, hr]

theorem noRpcHere_ren (σ : Nat → Nat) (d : EData) (c i o : List Entry) :
    noRpcHere (.mk (renD σ d) (c.map (ren σ)) (i.map (ren σ)) (o.map (ren σ))) = noRpcHere (.mk d c i o) := by
  simp [noRpcHere, Entry.d, renD]

theorem sameData_isRpc {d' d : EData} (h : SameData d' d) : d'.isRpc = d.isRpc := by unfold SameData at h; rw [h]

/-- A node predicate that `ren σ` does not change and that reads of the root only what `SameTop` keeps (its data but
for the statement object, whether it has children) holds at every node of `t'` when it does at every node of `t`. -/
theorem everyNode_sameTop (σ : Nat → Nat) (q : Entry → Bool)
    (hq : ∀ d c i o, q (.mk (renD σ d) (c.map (ren σ)) (i.map (ren σ)) (o.map (ren σ))) = q (.mk d c i o))
    (hroot : ∀ d' d c' c, SameData d' d → c'.isEmpty = c.isEmpty → q (.mk d' c' [] []) = q (.mk d c [] []))
    {t' t : Entry} (h : SameTop σ t' t) (ht : everyNode q t = true) : everyNode q t' = true := by
  cases t' with | mk d' c' i' o' =>
  cases t with | mk d c i o =>
  obtain ⟨hd, hp, ⟨rfl, rfl⟩, ⟨rfl, rfl⟩⟩ := h
  simp only [Entry.d, Entry.dir] at hd hp
  rw [everyNode_mk] at ht ⊢
  have hlen : c'.isEmpty = c.isEmpty := by
    have := hp.length_eq
    rw [renL_eq_map, List.length_map] at this
    exact Bool.eq_iff_iff.2 (by rw [List.isEmpty_iff_length_eq_zero, List.isEmpty_iff_length_eq_zero, this])
  refine ⟨hroot d' d c' c hd hlen ▸ ht.1, fun x hx => ?_, nofun, nofun⟩
  have : ren σ x ∈ c := hp.mem_iff.1 (renL_eq_map σ c' ▸ List.mem_map_of_mem hx)
  exact (everyNode_ren σ q hq x).1 (ht.2.1 _ this)

theorem ioShape_sameTop (σ : Nat → Nat) {t' t : Entry} (h : SameTop σ t' t) (ht : IOShape t) : IOShape t' :=
  everyNode_sameTop σ ioShapeHere (ioShapeHere_ren σ)
    (fun d' d c' c hd hc => by
      show (if d'.isRpc then c'.isEmpty else _) = if d.isRpc then c.isEmpty else _
      rw [sameData_isRpc hd, hc]; rfl) h ht

theorem noRpc_sameTop (σ : Nat → Nat) {t' t : Entry} (h : SameTop σ t' t) (ht : NoRpc t) : NoRpc t' :=
  everyNode_sameTop σ noRpcHere (noRpcHere_ren σ) (fun d' d c' c hd _ => by simp only [noRpcHere, Entry.d, sameData_isRpc hd]) h ht

end Goyang.Lemmas.IncludeAugCompose
