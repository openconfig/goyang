import Goyang.Lemmas.DevExtAug
/-
C08, frame across module sets — part 6: the swap-remove array of `augmentPass` when modules without
pending augments stand at its end (`drain_end`, `drain_mid`), the pass and the loop of the run with
the new modules against the run without them (`pass_ext`, `loop_ext`).  Core Lean only.
-/
namespace Goyang.Lemmas.DevExt
open Goyang.Model
open Goyang.Lemmas.Fuel (augmentPass_succ augmentLoop_succ augmentPass_fuel_eq)

/-! ### lists -/

theorem dropLast_set_last {α} (l : List α) (i : Nat) (v : α) (hi : i + 1 = l.length) :
    (l.set i v).dropLast = l.dropLast := by
  induction l generalizing i with
  | nil => cases hi
  | cons x xs ih =>
    cases xs with
    | nil =>
      have : i = 0 := by simpa using hi
      subst this; rfl
    | cons y ys =>
      cases i with
      | zero => simp at hi
      | succ j =>
        simp only [List.set_cons_succ]
        rw [List.dropLast_cons_of_ne_nil (by simp), List.dropLast_cons_of_ne_nil (by simp), ih j (by simpa using hi)]

theorem getLast?_set_of_lt {α} (l : List α) (i : Nat) (v : α) (hi : i + 1 < l.length) :
    (l.set i v).getLast? = l.getLast? := by
  rw [List.getLast?_eq_getElem?, List.getLast?_eq_getElem?, List.length_set, List.getElem?_set_ne (by omega)]

theorem dropLast_set_congr {α} (l : List α) (i : Nat) (v w : α) (hvw : i + 1 < l.length → v = w) (hi : i < l.length) :
    (l.set i v).dropLast = (l.set i w).dropLast := by
  by_cases h1 : i + 1 < l.length
  · rw [hvw h1]
  · rw [dropLast_set_last l i v (by omega), dropLast_set_last l i w (by omega)]

/-! ### the array of a pass with idle modules at its end -/

section Drain
variable (reg : Registry) (s : PState) (Idle : Nat → Prop)
  (hidle : ∀ n, Idle n → augmentTree reg n false s = (s, 0, 0))
include hidle

/-- At the end of the array: idle modules are dropped one after the other. -/
theorem drain_end : ∀ (k : Nat) (N : List Nat), N.length = k → ∀ (Mx A : Array Nat), Mx.toList = A.toList ++ N →
    (∀ n ∈ N, Idle n) → ∀ (f p : Nat), k ≤ f → augmentPass reg f Mx A.size p s = (A, p, s) := by
  intro k
  induction k with
  | zero =>
    intro N hN Mx A hM _ f p _
    have : N = [] := List.eq_nil_of_length_eq_zero hN
    subst this
    have : Mx = A := Array.ext' (by simpa using hM)
    subst this
    cases f with
    | zero => rfl
    | succ g => rw [augmentPass_succ, dif_neg (Nat.lt_irrefl _)]
  | succ k ih =>
    intro N hN Mx A hM hI f p hf
    cases N with
    | nil => cases hN
    | cons n N1 =>
      have hsz : Mx.size = A.size + (N1.length + 1) := by
        have := congrArg List.length hM
        simpa using this
      obtain ⟨g, rfl⟩ : ∃ g, f = g + 1 := ⟨f - 1, by omega⟩
      have hi : A.size < Mx.size := by omega
      have hel : Mx[A.size] = n := by
        rw [← Array.getElem_toList (h := by simpa using hi)]
        simp [hM]
      rw [augmentPass_succ, dif_pos hi, hel, hidle n (hI n (List.mem_cons_self ..))]
      simp only [beq_self_eq_true, if_true, Nat.add_zero]
      -- the array after the swap-remove
      obtain ⟨b, hb, hbm⟩ : ∃ b, Mx.back? = some b ∧ b ∈ n :: N1 := by
        rw [← Array.getLast?_toList, hM, List.getLast?_append]
        have hne : (n :: N1) ≠ [] := by simp
        refine ⟨(n :: N1).getLast hne, ?_, List.getLast_mem hne⟩
        rw [List.getLast?_eq_some_getLast hne]; rfl
      apply ih ((b :: N1).dropLast) (by simpa using hN)
      · rw [Array.toList_pop, Array.toList_set, hM, hb]
        simp only [Option.getD_some]
        rw [List.set_append, if_neg (by simp)]
        simp only [Array.length_toList, Nat.sub_self, List.set_cons_zero]
        rw [List.dropLast_append_of_ne_nil (by simp)]
      · intro x hx
        have hx' := List.dropLast_subset _ hx
        rcases List.mem_cons.mp hx' with rfl | hx'
        · exact hI _ hbm
        · exact hI _ (List.mem_cons_of_mem _ hx')
      · omega

/-- In the middle of the array: an idle module in slot `i` (where the run without the idle modules has
just dropped a module) and idle modules at the end: the idle modules are moved into slot `i` one
after the other and dropped, and what remains is the array of the run without them. -/
theorem drain_mid : ∀ (k : Nat) (N : List Nat), N.length = k → ∀ (n : Nat) (Mx A : Array Nat) (i : Nat) (hi : i < A.size),
    Mx.toList = A.toList.set i n ++ N → Idle n → (∀ x ∈ N, Idle x) →
    ∀ (f f' p : Nat), A.size + k - i + 1 ≤ f → A.size - 1 - i + 1 ≤ f' →
      augmentPass reg f Mx i p s = augmentPass reg f' (A.set i (A.back?.getD 0) hi).pop i p s := by
  intro k
  induction k with
  | zero =>
    intro N hN n Mx A i hi hM hn _ f f' p hf hf'
    have : N = [] := List.eq_nil_of_length_eq_zero hN
    subst this
    simp only [List.append_nil] at hM
    have hsz : Mx.size = A.size := by
      have := congrArg List.length hM
      simpa using this
    obtain ⟨g, rfl⟩ : ∃ g, f = g + 1 := ⟨f - 1, by omega⟩
    have hiX : i < Mx.size := by omega
    have hel : Mx[i] = n := by
      rw [← Array.getElem_toList (h := by simpa using hiX)]
      simp [hM]
    rw [augmentPass_succ, dif_pos hiX, hel, hidle n hn]
    simp only [beq_self_eq_true, if_true, Nat.add_zero]
    have harr : (Mx.set i (Mx.back?.getD 0) hiX).pop = (A.set i (A.back?.getD 0) hi).pop := by
      apply Array.ext'
      rw [Array.toList_pop, Array.toList_set, Array.toList_pop, Array.toList_set, hM, List.set_set]
      apply dropLast_set_congr
      · intro h1
        rw [← Array.getLast?_toList, ← Array.getLast?_toList, hM, getLast?_set_of_lt _ _ _ (by simpa using h1)]
      · simpa using hi
    rw [harr]
    apply augmentPass_fuel_eq
    · simp only [Array.size_pop, Array.size_set]; omega
    · simp only [Array.size_pop, Array.size_set]; omega
  | succ k ih =>
    intro N hN n Mx A i hi hM hn hI f f' p hf hf'
    rcases List.eq_nil_or_concat N with rfl | ⟨N1, n', rfl⟩
    · cases hN
    · simp only [List.concat_eq_append] at hN hM hI
      have hN1 : N1.length = k := by simpa using hN
      have hsz : Mx.size = A.size + (k + 1) := by
        have := congrArg List.length hM
        simp only [Array.length_toList, List.length_append, List.length_set, List.length_cons, List.length_nil] at this
        omega
      obtain ⟨g, rfl⟩ : ∃ g, f = g + 1 := ⟨f - 1, by omega⟩
      have hiX : i < Mx.size := by omega
      have hel : Mx[i] = n := by
        rw [← Array.getElem_toList (h := by simpa using hiX)]
        simp only [hM]
        rw [List.getElem_append_left (by simpa using hi)]
        simp
      rw [augmentPass_succ, dif_pos hiX, hel, hidle n hn]
      simp only [beq_self_eq_true, if_true, Nat.add_zero]
      have hb : Mx.back? = some n' := by
        rw [← Array.getLast?_toList, hM, ← List.append_assoc, List.getLast?_concat]
      apply ih N1 hN1 n' _ A i hi
      · rw [Array.toList_pop, Array.toList_set, hM, hb]
        simp only [Option.getD_some]
        rw [List.set_append_left _ _ (by simpa using hi), List.set_set, ← List.append_assoc, List.dropLast_concat]
      · exact hI n' (by simp)
      · intro x hx; exact hI x (by simp [hx])
      · omega
      · exact hf'

end Drain

/-! ### what a pass and the loop keep -/

theorem swapRemove_mem (A : Array Nat) (i : Nat) (hi : i < A.size) :
    ∀ a ∈ (A.set i (A.back?.getD 0) hi).pop.toList, a ∈ A.toList := by
  intro a ha
  rw [Array.toList_pop, Array.toList_set] at ha
  have ha' := List.dropLast_subset _ ha
  rcases List.mem_or_eq_of_mem_set ha' with h1 | h1
  · exact h1
  · have hne : A.toList ≠ [] := by
      intro e
      have : A.size = 0 := by rw [← Array.length_toList, e]; rfl
      omega
    rw [← Array.getLast?_toList, List.getLast?_eq_some_getLast hne] at h1
    simp only [Option.getD_some] at h1
    rw [h1]
    exact List.getLast_mem hne

theorem augmentPass_keeps (B reg : Registry) : ∀ (f : Nat) (A : Array Nat) (i p : Nat) (s : PState), PInv B s →
    PInv B (augmentPass reg f A i p s).2.2 ∧ ∀ a ∈ (augmentPass reg f A i p s).1.toList, a ∈ A.toList := by
  intro f
  induction f with
  | zero => intro A i p s hs; exact ⟨hs, fun a ha => ha⟩
  | succ g ih =>
    intro A i p s hs
    rw [augmentPass_succ]
    split
    · next hi =>
      have hs' := augmentTree_pinv B reg A[i] false s hs
      split
      · obtain ⟨i1, i2⟩ := ih (A.set i (A.back?.getD 0) hi).pop i (p + (augmentTree reg A[i] false s).2.1) _ hs'
        exact ⟨i1, fun a ha => swapRemove_mem A i hi a (i2 a ha)⟩
      · exact ih A (i + 1) (p + (augmentTree reg A[i] false s).2.1) _ hs'
    · exact ⟨hs, fun a ha => ha⟩

theorem augmentLoop_keeps (B reg : Registry) : ∀ (f : Nat) (A : Array Nat) (s : PState), PInv B s →
    PInv B (augmentLoop reg f A s).2 ∧ ∀ a ∈ (augmentLoop reg f A s).1.toList, a ∈ A.toList := by
  intro f
  induction f with
  | zero => intro A s hs; exact ⟨hs, fun a ha => ha⟩
  | succ g ih =>
    intro A s hs
    rw [augmentLoop_succ]
    obtain ⟨k1, k2⟩ := augmentPass_keeps B reg (A.size + 1) A 0 0 s hs
    split
    · exact ⟨hs, fun a ha => ha⟩
    · split
      · exact ⟨k1, k2⟩
      · obtain ⟨i1, i2⟩ := ih _ _ k1
        exact ⟨i1, fun a ha => k2 a (i2 a ha)⟩

/-! ### the pass and the loop of the two runs -/

section
variable {B X : Registry} {ds : List Mod} {dk : KeyMap} (h : DevExtCore B X ds dk)
include h

/-- **One pass**: the array of the run with the new modules is that of the run without them followed
by new modules `N`; afterwards the arrays are equal. -/
theorem pass_ext {G : List (Nat × Entry)} (hG : NewTrees ds G) {P : List (Nat × List Entry)} (hP : PNew ds P) :
    ∀ (fB : Nat) (A Mx : Array Nat) (N : List Nat) (i p : Nat) (sB : PState) (fX : Nat),
      Mx.toList = A.toList ++ N → (∀ n ∈ N, ∃ d ∈ ds, d.seq = n) → (∀ a ∈ A.toList, ∃ m ∈ B.mods, m.seq = a) →
      PInv B sB → i ≤ A.size → A.size - i + 1 ≤ fB → A.size + N.length - i + 1 ≤ fX →
      augmentPass X fX Mx i p (lift G P sB) =
        ((augmentPass B fB A i p sB).1, (augmentPass B fB A i p sB).2.1, lift G P (augmentPass B fB A i p sB).2.2) := by
  intro fB
  induction fB with
  | zero => intros; omega
  | succ g ih =>
    intro A Mx N i p sB fX hM hN hA hs hiA hfB hfX
    have hsz : Mx.size = A.size + N.length := by
      have := congrArg List.length hM
      simpa using this
    by_cases hi : i < A.size
    · obtain ⟨gx, rfl⟩ : ∃ gx, fX = gx + 1 := ⟨fX - 1, by omega⟩
      have hiX : i < Mx.size := by omega
      have hel : Mx[i] = A[i] := by
        rw [← Array.getElem_toList (h := by simpa using hiX), ← Array.getElem_toList (h := by simpa using hi)]
        simp only [hM]
        rw [List.getElem_append_left (by simpa using hi)]
      have hold : ∃ m ∈ B.mods, m.seq = A[i] := hA _ (by simp)
      rw [augmentPass_succ, augmentPass_succ, dif_pos hiX]
      simp only [dif_pos hi]
      rw [hel, augmentTree_lift h hG hP A[i] hold false sB hs]
      have hs' := augmentTree_pinv B B A[i] false sB hs
      generalize augmentTree B A[i] false sB = r at hs'
      obtain ⟨sB', p', k'⟩ := r
      simp only at hs' ⊢
      have hidle : ∀ n, (∃ d ∈ ds, d.seq = n) → augmentTree X n false (lift G P sB') = (lift G P sB', 0, 0) :=
        fun n hn => augmentTree_new h G hP n hn sB' hs'
      by_cases hk : (k' == 0) = true
      · simp only [hk, if_true]
        have hdrain : augmentPass X gx (Mx.set i (Mx.back?.getD 0) hiX).pop i (p + p') (lift G P sB') =
            augmentPass X g (A.set i (A.back?.getD 0) hi).pop i (p + p') (lift G P sB') := by
          rcases List.eq_nil_or_concat N with rfl | ⟨N1, n', rfl⟩
          · have : Mx = A := Array.ext' (by simpa using hM)
            subst this
            apply augmentPass_fuel_eq
            · simp only [Array.size_pop, Array.size_set]; simp at hfX; omega
            · simp only [Array.size_pop, Array.size_set]; omega
          · simp only [List.concat_eq_append] at hN hM hfX hsz
            have hb : Mx.back? = some n' := by
              rw [← Array.getLast?_toList, hM, ← List.append_assoc, List.getLast?_concat]
            apply drain_mid X (lift G P sB') (fun n => ∃ d ∈ ds, d.seq = n) hidle N1.length N1 rfl n' _ A i hi
            · rw [Array.toList_pop, Array.toList_set, hM, hb]
              simp only [Option.getD_some]
              rw [← List.append_assoc, List.set_append_left _ _ (by simp; omega),
                List.set_append_left _ _ (by simpa using hi), List.dropLast_concat]
            · exact hN n' (by simp)
            · intro x hx; exact hN x (by simp [hx])
            · simp at hfX; omega
            · omega
        rw [hdrain]
        have := ih (A.set i (A.back?.getD 0) hi).pop (A.set i (A.back?.getD 0) hi).pop [] i (p + p') sB' g (by simp)
          (fun _ hn => by cases hn) (fun a ha => hA a (swapRemove_mem A i hi a ha)) hs'
          (by simp only [Array.size_pop, Array.size_set]; omega)
          (by simp only [Array.size_pop, Array.size_set]; omega)
          (by simp only [Array.size_pop, Array.size_set, List.length_nil]; omega)
        exact this
      · simp only [hk]
        exact ih A Mx N (i + 1) (p + p') sB' gx hM hN hA hs' (by omega) (by omega) (by omega)
    · have : i = A.size := by omega
      subst this
      rw [augmentPass_succ, dif_neg hi]
      exact drain_end X (lift G P sB) (fun n => ∃ d ∈ ds, d.seq = n) (fun n hn => augmentTree_new h G hP n hn sB hs)
        N.length N rfl Mx A hM hN fX p (by omega)

/-- **The loop**: the same array is left over, and the states are related as before.  (The new modules
are dropped by the first pass: with `N` not empty there has to be one.) -/
theorem loop_ext {G : List (Nat × Entry)} (hG : NewTrees ds G) {P : List (Nat × List Entry)} (hP : PNew ds P) :
    ∀ (fuel : Nat) (A Mx : Array Nat) (N : List Nat) (sB : PState), Mx.toList = A.toList ++ N →
      (∀ n ∈ N, ∃ d ∈ ds, d.seq = n) → (∀ a ∈ A.toList, ∃ m ∈ B.mods, m.seq = a) → PInv B sB → (N = [] ∨ 0 < fuel) →
      augmentLoop X fuel Mx (lift G P sB) = ((augmentLoop B fuel A sB).1, lift G P (augmentLoop B fuel A sB).2) := by
  intro fuel
  induction fuel with
  | zero =>
    intro A Mx N sB hM _ _ _ hf
    rcases hf with rfl | hf
    · have : Mx = A := Array.ext' (by simpa using hM)
      subst this
      rfl
    · cases hf
  | succ fuel ih =>
    intro A Mx N sB hM hN hA hs _
    have hsz : Mx.size = A.size + N.length := by
      have := congrArg List.length hM
      simpa using this
    rw [augmentLoop_succ, augmentLoop_succ]
    have hp := pass_ext h hG hP (A.size + 1) A Mx N 0 0 sB (Mx.size + 1) hM hN hA hs (by omega) (by omega) (by omega)
    obtain ⟨k1, k2⟩ := augmentPass_keeps B B (A.size + 1) A 0 0 sB hs
    rw [hp]
    by_cases hMe : Mx.isEmpty = true
    · have hM0 : Mx.size = 0 := by simpa using hMe
      have hA0 : A = #[] := by apply Array.eq_empty_of_size_eq_zero; omega
      have hMx0 : Mx = #[] := Array.eq_empty_of_size_eq_zero hM0
      subst hA0 hMx0
      rfl
    · simp only [hMe, Bool.false_eq_true, if_false]
      by_cases hAe : A.isEmpty = true
      · have hA0 : A = #[] := by apply Array.eq_empty_of_size_eq_zero; simpa using hAe
        subst hA0
        rfl
      · simp only [hAe, Bool.false_eq_true, if_false]
        generalize augmentPass B (A.size + 1) A 0 0 sB = r at k1 k2
        obtain ⟨A', p', s'⟩ := r
        simp only at k1 k2 ⊢
        split
        · rfl
        · exact ih A' A' [] s' (List.append_nil _).symm (fun _ hn => nomatch hn) (fun a ha => hA a (k2 a ha)) k1 (.inl rfl)

end


end Goyang.Lemmas.DevExt
