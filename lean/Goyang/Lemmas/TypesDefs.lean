import Goyang.Lemmas.Types
import Goyang.Lemmas.TypesFuel
/-
Shared definitions for the completeness half of property C09 (Goyang/Props/C09.lean:
`resolve_complete`, `resolve_errors_iff`, `spec_exec_*`): the standing hypotheses on a loaded set
under which "the specification accepts" implies "the model reports no error".
-/
namespace Goyang.Lemmas.TypesDefs
open Goyang.Model Goyang.Model.Types Goyang.Spec.Types

/-- Sequence numbers identify the loaded (sub)modules (`Registry.add` numbers them 0, 1, 2, …). -/
def SeqId (reg : Registry) : Prop := ∀ a ∈ reg.mods, ∀ b ∈ reg.mods, a.seq = b.seq → a = b

theorem seqId_single {reg : Registry} {m : Mod} (h : reg.mods = [m]) : SeqId reg := by
  intro a ha b hb _
  rw [h, List.mem_singleton] at ha hb
  rw [ha, hb]

/-- `m` is part of a schema: a module held in `ms.Modules`, or a submodule that one of them includes,
directly or through other submodules.  (A submodule nobody includes is linked by nobody:
`Modules.Process` walks the include statements from the modules down.) -/
def PartOfSchema (reg : Registry) (m : Mod) : Prop := ∃ top ∈ Identity.moduleEntries reg, IncludesStar reg top m

theorem partOfSchema_single {reg : Registry} {m : Mod} (h : Identity.moduleEntries reg = [m]) : PartOfSchema reg m :=
  ⟨m, h ▸ List.mem_singleton.mpr rfl, IncludesStar.refl _⟩

/-- Every include statement of every part of a schema has been linked (`Modules.include` ran without
error): the `Include.Module` pointers the model walks are the include statements the
specification reads.  Holds of `Env.of reg` whenever `linkOk reg` (Lemmas/TypesLinked.lean). -/
def Linked (env : Env) : Prop :=
  ∀ m ∈ env.reg.mods, PartOfSchema env.reg m → env.includeTargets m = includesOf env.reg m

theorem includesStar_trans {reg : Registry} {a b c : Mod} (hab : IncludesStar reg a b) (hbc : IncludesStar reg b c) :
    IncludesStar reg a c := by
  induction hab with
  | refl => exact hbc
  | head h _ ih => exact IncludesStar.head h (ih hbc)

theorem PartOfSchema.includes {reg : Registry} {a b : Mod} (h : PartOfSchema reg a) (hab : IncludesStar reg a b) :
    PartOfSchema reg b := by
  obtain ⟨top, ht, hs⟩ := h
  exact ⟨top, ht, includesStar_trans hs hab⟩

theorem partOfSchema_getModule {reg : Registry} {k : String} {o : Mod} (h : reg.getModule k = some o) :
    PartOfSchema reg o := by
  refine ⟨o, ?_, IncludesStar.refl o⟩
  unfold Registry.getModule KeyMap.get? at h
  obtain ⟨id, hid, hb⟩ := Option.bind_eq_some_iff.mp h
  obtain ⟨kv, hkv, rfl⟩ := Option.map_eq_some_iff.mp hid
  unfold Identity.moduleEntries
  exact List.mem_filterMap.mpr ⟨kv, List.mem_of_find?_eq_some hkv, hb⟩

theorem partOfSchema_findModule_false {reg : Registry} {i : Stmt} {ext : Mod} (h : reg.findModule false i = some ext) :
    PartOfSchema reg ext := by
  unfold Registry.findModule at h
  simp only [Bool.false_eq_true, if_false] at h
  split at h
  · rename_i m' hm'
    cases h
    exact partOfSchema_getModule hm'
  · exact partOfSchema_getModule h

/-- The typedef a name binds to stands in a part of a schema when the reference does. -/
theorem binds_partOfSchema {reg : Registry} {root : Mod} {scope : List Stmt} {name : String} {m : Mod} {td : Stmt}
    {sc : List Stmt} (hroot : PartOfSchema reg root) (h : Binds reg root scope name m td sc) : PartOfSchema reg m := by
  cases h with
  | lexical => exact hroot
  | moduleLevel m td _ _ _ hunit _ =>
    rcases hunit with hstar | ⟨b, o, _, ho, hstar⟩
    · exact hroot.includes hstar
    · exact (partOfSchema_getModule ho).includes hstar
  | foreign i ext m td _ _ _ _ hf hstar _ => exact (partOfSchema_findModule_false hf).includes hstar

/-- Zero or more `Uses` steps. -/
inductive UsesStar (reg : Registry) : Site → Site → Prop
  | refl (a : Site) : UsesStar reg a a
  | tail {a b c : Site} : UsesStar reg a b → Uses reg b c → UsesStar reg a c

/-- How the model (and the executable specification) identify a type statement: sequence number of
its module, line, column (Go: the `*Type` pointer). -/
def siteKey (a : Site) : TypeKey := typeKey a.1 a.2.2

/-- Below the site `s0`, a type statement is identified by its position: two sites on one path of
`Uses` steps that carry the same (module, line, column) are the same site.  (True of every parsed
schema: different statements of one file stand at different positions.) -/
def KeysIdentify (reg : Registry) (s0 : Site) : Prop :=
  ∀ a b, UsesStar reg s0 a → UsesPlus reg a b → siteKey a = siteKey b → a = b

/-- The binding-level error records of `Type.resolve`: unknown name, unknown prefix, cyclic
definition, and the three "cannot happen" records of the model (a typedef without a type statement,
no YangType without an error, both positioned; the identity layer's record of class `crash` has no
position and is not one of these). -/
def BindErr (e : Err) : Prop :=
  e.cls ∈ ["unknown-type", "unknown-prefix", "cycle", "no-yangtype"] ∨ (e.cls = "crash" ∧ e ≠ Err.bare "crash")

instance (e : Err) : Decidable (BindErr e) := by unfold BindErr; infer_instance

/-- No binding-level error and no exhausted budget in the list. -/
def NoBind (l : List Err) : Prop := ∀ e ∈ l, ¬ BindErr e ∧ e.cls ≠ "out-of-fuel"

theorem UsesStar.head {reg : Registry} {a b c : Site} (hab : Uses reg a b) (hbc : UsesStar reg b c) : UsesStar reg a c := by
  induction hbc with
  | refl => exact UsesStar.tail (UsesStar.refl a) hab
  | tail _ hcd ih => exact UsesStar.tail ih hcd

theorem KeysIdentify.step {reg : Registry} {a b : Site} (h : KeysIdentify reg a) (hab : Uses reg a b) : KeysIdentify reg b :=
  fun x y hx hxy hk => h x y (UsesStar.head hab hx) hxy hk

theorem UsesStar.trans {reg : Registry} {a b c : Site} (hab : UsesStar reg a b) (hbc : UsesStar reg b c) : UsesStar reg a c := by
  induction hbc with
  | refl => exact hab
  | tail _ hcd ih => exact UsesStar.tail ih hcd

/-- The prefixes of the import statements of every loaded (sub)module are pairwise different
(RFC 7950 section 7.1.5). -/
def ImportsDistinct (reg : Registry) : Prop :=
  ∀ root ∈ reg.mods, ∀ i ∈ root.imports, ∀ i' ∈ root.imports, ∀ p,
    i.argOf? "prefix" = some p → i'.argOf? "prefix" = some p → i = i'

/-- The name written at the site `s` denotes at most one typedef. -/
def UnambiguousAt (reg : Registry) (s : Site) : Prop :=
  ∀ m td sc m' td' sc', Binds reg s.1 s.2.1 s.2.2.arg m td sc → Binds reg s.1 s.2.1 s.2.2.arg m' td' sc' →
    m = m' ∧ td = td' ∧ sc = sc'

/-- No name met while resolving the type statement at `s0` denotes two typedefs: every site
reachable from `s0` through `Uses` steps is unambiguous.  (`Spec.Types.Unambiguous` asks this of
every conceivable site, made-up scopes included, and holds of no registry.) -/
def UnambiguousBelow (reg : Registry) (s0 : Site) : Prop := ∀ a, UsesStar reg s0 a → UnambiguousAt reg a

theorem UnambiguousBelow.step {reg : Registry} {a b : Site} (h : UnambiguousBelow reg a) (hab : UsesStar reg a b) :
    UnambiguousBelow reg b := fun x hx => h x (UsesStar.trans hab hx)

theorem KeysIdentify.below {reg : Registry} {a b : Site} (h : KeysIdentify reg a) (hab : UsesStar reg a b) : KeysIdentify reg b :=
  fun x y hx hxy hk => h x y (UsesStar.trans hab hx) hxy hk

end Goyang.Lemmas.TypesDefs
