/-
Helper lemmas about `Goyang.Model.Number`, part 2 (core Lean only): what the parsers return.
-/
import Goyang.Lemmas.Number

namespace Goyang.Lemmas.Number
open Goyang.Model.Number
open Goyang.Spec.Number (num WF WFInt WFDec digitsVal Lit)

/-! ### results of the parsers are well-formed -/

theorem ite_error_eq_ok {ε α : Type} {c : Prop} [Decidable c] {e : ε} {x : Except ε α} {a : α} :
    (if c then .error e else x) = .ok a ↔ ¬ c ∧ x = .ok a := by
  split <;> simp [*]

theorem puLoop_lt (b0 : Bool) (base : Nat) : ∀ (s : List UInt8) (n : Nat) (us : Bool) (v : Nat) (u : Bool),
    n < W → puLoop b0 base s n us = .ok (v, u) → v < W
  | [], n, us, v, u, hn, h => by
    simp only [puLoop, Except.ok.injEq, Prod.mk.injEq] at h; omega
  | c :: rest, n, us, v, u, hn, h => by
    unfold puLoop at h
    split at h
    · exact puLoop_lt b0 base rest n true v u hn h
    · split at h
      · cases h
      · simp only [ite_error_eq_ok] at h
        exact puLoop_lt b0 base rest _ us v u (Nat.mod_lt _ (by decide)) h.2.2.2

theorem parseUint_lt (b0 : Bool) (s : List UInt8) (v : Nat) (h : parseUint b0 s = .ok v) : v < W := by
  unfold parseUint at h
  rw [ite_error_eq_ok] at h
  split at h
  · cases h.2
  · next n us heq =>
    cases (ite_error_eq_ok.mp h.2).2
    exact puLoop_lt _ _ _ _ _ _ _ (by decide) heq

theorem parseInt_wf (s : List UInt8) (n : Number) (h : parseInt s = .ok n) : n.fd = 0 ∧ n.value < 2 ^ 64 := by
  unfold parseInt at h
  simp only [ite_error_eq_ok] at h
  obtain ⟨_, _, h⟩ := h
  split at h
  · cases h
  · next v hv =>
    cases h
    exact ⟨rfl, W_eq ▸ parseUint_lt _ _ _ hv⟩

theorem toI64_of_lt (u : Nat) (h : u < H) : toI64 u = (u : Int) := by
  unfold toI64
  have : u % W = u := Nat.mod_eq_of_lt (by unfold W; unfold H at h; omega)
  simp [this, h]

theorem toI64_H : toI64 H = -(H : Int) := by decide

theorem toU64_nat (u : Nat) (h : u < W) : toU64 (u : Int) = u := by
  unfold toU64
  have : ((u : Int) % (W : Int)) = ((u % W : Nat) : Int) := by simp
  rw [this, Nat.mod_eq_of_lt h]; simp

theorem negI64_neg (u : Nat) (h : u ≤ H) : negI64 (-(u : Int)) = if u = H then -(H : Int) else (u : Int) := by
  unfold negI64
  rw [Int.neg_neg, toU64_nat u (by unfold W; unfold H at h; omega)]
  split
  · next e => rw [e]; exact toI64_H
  · next e => exact toI64_of_lt u (by omega)

theorem toI64_toU64 (x : Int) (h1 : -(H : Int) ≤ x) (h2 : x < H) : toI64 (toU64 x) = x := by
  unfold toI64 toU64
  have hW : W = 18446744073709551616 := rfl
  have hH : H = 9223372036854775808 := rfl
  have hH' : (H : Int) = 9223372036854775808 := by rw [hH]; rfl
  rw [hW, hH]
  split <;> omega

theorem negI64_pos (u : Nat) (h : u < H) : negI64 (u : Int) = -(u : Int) := by
  unfold negI64
  by_cases h0 : u = 0
  · subst h0; decide
  · exact toI64_toU64 _ (by omega) (by omega)

theorem toU64_abs (v : Int) (h1 : -(H : Int) ≤ v) (h2 : v < H) :
    toU64 (if v < 0 then negI64 v else v) = v.natAbs := by
  have hW : W = 18446744073709551616 := rfl
  have hH : H = 9223372036854775808 := rfl
  have hH' : (H : Int) = 9223372036854775808 := by rw [hH]; rfl
  by_cases hv : v < 0
  · simp only [hv, if_true]
    have e : v = -((v.natAbs : Nat) : Int) := by omega
    have hu : v.natAbs ≤ H := by omega
    rw [e, negI64_neg _ hu]
    split
    · next e2 => rw [Int.natAbs_neg, Int.natAbs_natCast, e2]; decide
    · next e2 =>
      rw [Int.natAbs_neg, Int.natAbs_natCast]
      exact toU64_nat _ (by omega)
  · simp only [hv, if_false]
    have e : v = ((v.natAbs : Nat) : Int) := by omega
    rw [e, Int.natAbs_natCast]
    exact toU64_nat _ (by omega)

/-- `strconv.ParseInt(s, 10, 64)` returns a signed 64-bit value -/
theorem strconvParseInt10_range (s : List UInt8) (v : Int) (h : strconvParseInt10 s = .ok v) :
    -(H : Int) ≤ v ∧ v < H := by
  have hW : W = 18446744073709551616 := rfl
  have hH : H = 9223372036854775808 := rfl
  unfold strconvParseInt10 at h
  simp only [ite_error_eq_ok] at h
  obtain ⟨_, h⟩ := h
  split at h
  · cases h
  · next un hun =>
    have hlt : un < W := by
      split at hun
      · next u hu => cases hun; exact parseUint_lt _ _ _ hu
      · cases hun; decide
      · cases hun
    simp only [ite_error_eq_ok, Bool.and_eq_true, Bool.not_eq_true', decide_eq_true_eq, not_and, Nat.not_le,
      Nat.not_lt, Except.ok.injEq] at h
    obtain ⟨c1, c2, rfl⟩ := h
    cases hneg : (splitSign s).1
    · have c1 := c1 hneg
      rw [if_neg Bool.false_ne_true, toI64_of_lt _ c1]; omega
    · have c2 := c2 hneg
      rw [if_pos rfl]
      by_cases e : un = H
      · subst e; rw [toI64_H, negI64_neg _ (Nat.le_refl _)]; simp; omega
      · rw [toI64_of_lt _ (by omega), negI64_pos _ (by omega)]; omega

theorem parseDecimal_wf (s : List UInt8) (f : Nat) (n : Number) (h : parseDecimal s f = .ok n) :
    n.fd = f ∧ 1 ≤ f ∧ f ≤ 18 ∧ n.value ≤ 2 ^ 63 := by
  unfold parseDecimal decimalValueFromString at h
  simp only [ite_error_eq_ok, Bool.or_eq_true, decide_eq_true_eq, not_or, Nat.not_lt] at h
  obtain ⟨_, _, hf, _, _, h⟩ := h
  split at h
  · cases h
  · next v hv =>
    cases h
    obtain ⟨h1, h2⟩ := strconvParseInt10_range _ _ hv
    refine ⟨rfl, by omega, by omega, ?_⟩
    simp only
    rw [toU64_abs v h1 h2, ← H_eq]
    omega

/-! ### digit strings -/

/-- the bytes of a digit list -/
def asc (ds : List Nat) : List UInt8 := ds.map digitChar

theorem ne_of_toNat_ne {a b : UInt8} (h : a.toNat ≠ b.toNat) : a ≠ b := fun e => h (e ▸ rfl)

theorem digitChar_toNat (d : Nat) (h : d < 10) : (digitChar d).toNat = 48 + d := by
  unfold digitChar
  rw [UInt8.toNat_ofNat']
  omega

theorem digitChar_isDigit (d : Nat) (h : d < 10) : isDigit (digitChar d) = true := by
  unfold isDigit; rw [digitChar_toNat d h]; simp; omega

theorem digitChar_digitVal (d : Nat) (h : d < 10) : digitVal (digitChar d) = some d := by
  unfold digitVal; rw [digitChar_isDigit d h, digitChar_toNat d h]; simp

theorem digitChar_ne (d : Nat) (h : d < 10) (k : UInt8) (hk : k.toNat < 48 ∨ 57 < k.toNat) : digitChar d ≠ k := by
  apply ne_of_toNat_ne; rw [digitChar_toNat d h]; omega

theorem digitChar_beq (d : Nat) (h : d < 10) (k : UInt8) (hk : k.toNat < 48 ∨ 57 < k.toNat) :
    (digitChar d == k) = false := beq_eq_false_iff_ne.mpr (digitChar_ne d h k hk)

/-- Horner value of a digit list on top of an accumulator -/
def hv (n : Nat) (ds : List Nat) : Nat := ds.foldl (fun a d => a * 10 + d) n

theorem hv_ge (ds : List Nat) : ∀ n, n ≤ hv n ds := by
  induction ds with
  | nil => intro n; exact Nat.le_refl _
  | cons d ds ih => intro n; have := ih (n * 10 + d); simp only [hv, List.foldl_cons] at this ⊢; omega

theorem digitsVal_eq_hv (ds : List Nat) : digitsVal ds = hv 0 ds := rfl

/-- one decimal digit in the loop of `strconv.ParseUint`: multiply and add, or a range error exactly
    when that leaves 64 bits (the first test catches `n * 10`, the second the wrapped sum) -/
theorem puLoop_digit (b0 us : Bool) (d : Nat) (hd : d < 10) (rest : List UInt8) (n : Nat) (hn : n < W) :
    puLoop b0 10 (digitChar d :: rest) n us =
      if n * 10 + d < W then puLoop b0 10 rest (n * 10 + d) us else .error .range := by
  have hW : W = 18446744073709551616 := rfl
  have h95 : (digitChar d == 95) = false := digitChar_beq d hd 95 (by decide)
  rw [puLoop]
  simp only [h95, Bool.false_and, Bool.false_eq_true, if_false, digitChar_digitVal d hd,
    show ¬ d ≥ 10 from Nat.not_le.mpr hd]
  by_cases hc : n ≥ (W - 1) / 10 + 1
  · rw [if_pos hc, if_neg (by omega)]
  · rw [if_neg hc, Nat.mod_eq_of_lt (show n * 10 < W by omega)]
    by_cases ho : n * 10 + d < W
    · rw [if_pos ho, Nat.mod_eq_of_lt ho, if_neg (by simp; omega)]
    · rw [if_neg ho, Nat.mod_eq_sub_mod (Nat.not_lt.mp ho), Nat.mod_eq_of_lt (show n * 10 + d - W < W by omega),
        if_pos (by simp; omega)]

/-- the digit loop of `strconv.ParseUint` in base 10 on a digit string: the value, or a range error
    exactly when the value does not fit 64 bits -/
theorem puLoop_digits (b0 : Bool) (us : Bool) : ∀ (ds : List Nat) (n : Nat), (∀ d ∈ ds, d < 10) → n < W →
    puLoop b0 10 (asc ds) n us = if hv n ds < W then .ok (hv n ds, us) else .error .range
  | [], n, _, hn => by simp [asc, puLoop, hv, hn]
  | d :: ds, n, hds, hn => by
    have hmono := hv_ge ds (n * 10 + d)
    rw [show asc (d :: ds) = digitChar d :: asc ds from rfl, puLoop_digit b0 us d (hds d (by simp)) _ n hn,
      show hv n (d :: ds) = hv (n * 10 + d) ds from rfl]
    split
    · next ho => exact puLoop_digits b0 us ds _ (fun x hx => hds x (by simp [hx])) ho
    · rw [if_neg (by omega)]

theorem asc_isEmpty (ds : List Nat) (h : ds ≠ []) : (asc ds).isEmpty = false := by
  cases ds with
  | nil => exact absurd rfl h
  | cons d ds => rfl

theorem parseUint_digits (b0 : Bool) (ds : List Nat) (hds : ∀ d ∈ ds, d < 10) (hne : ds ≠ [])
    (hb : basePrefix b0 (asc ds) = (10, asc ds)) :
    parseUint b0 (asc ds) = if digitsVal ds < W then .ok (digitsVal ds) else .error .range := by
  unfold parseUint
  simp only [asc_isEmpty ds hne, Bool.false_eq_true, if_false, hb]
  rw [puLoop_digits b0 false ds 0 hds (by decide), digitsVal_eq_hv]
  by_cases hw : hv 0 ds < W <;> simp [hw]

/-- `strconv.ParseUint(_, 10, 64)` on a non-empty digit string -/
theorem parseUint10_digits (ds : List Nat) (hds : ∀ d ∈ ds, d < 10) (hne : ds ≠ []) :
    parseUint false (asc ds) = if digitsVal ds < W then .ok (digitsVal ds) else .error .range :=
  parseUint_digits false ds hds hne rfl

/-- `strconv.ParseUint(_, 0, 64)` on a digit string without a superfluous leading zero -/
theorem parseUint0_digits (ds : List Nat) (hds : ∀ d ∈ ds, d < 10)
    (hnz : ds = [0] ∨ (ds ≠ [] ∧ ds.head? ≠ some 0)) :
    parseUintBase0 (asc ds) = if digitsVal ds < W then .ok (digitsVal ds) else .error .range := by
  rcases hnz with rfl | ⟨hne, hh⟩
  · rfl
  · cases ds with
    | nil => exact absurd rfl hne
    | cons d ds' =>
      have hd : d < 10 := hds d (by simp)
      have hd0 : d ≠ 0 := by intro e; apply hh; simp [e]
      have h48 : (digitChar d == 48) = false :=
        beq_eq_false_iff_ne.mpr (ne_of_toNat_ne (by rw [digitChar_toNat d hd]; show 48 + d ≠ 48; omega))
      refine parseUint_digits true (d :: ds') hds hne ?_
      simp only [basePrefix, asc, List.map_cons, if_true, h48, Bool.false_eq_true, if_false]

/-- the bytes of an optional sign -/
def signB : Option Bool → List UInt8
  | none => []
  | some true => [45]
  | some false => [43]

theorem splitSign_sign (sg : Option Bool) (ds : List Nat) (hds : ∀ d ∈ ds, d < 10) (hne : ds ≠ []) :
    splitSign (signB sg ++ asc ds) = (decide (sg = some true), asc ds) := by
  match sg with
  | some true => simp [signB, splitSign]
  | some false => simp [signB, splitSign]
  | none =>
    cases ds with
    | nil => exact absurd rfl hne
    | cons d ds' =>
      have hd : d < 10 := hds d (by simp)
      have h43 : (digitChar d == 43) = false := digitChar_beq d hd 43 (by decide)
      have h45 : (digitChar d == 45) = false := digitChar_beq d hd 45 (by decide)
      simp [signB, splitSign, asc, h43, h45]

/-- `strconv.ParseInt(_, 10, 64)` on `[sign] digits`: the exact value, or a range error exactly when it
    is not a signed 64-bit integer -/
theorem strconvParseInt10_digits (sg : Option Bool) (ds : List Nat) (hds : ∀ d ∈ ds, d < 10) (hne : ds ≠ []) :
    strconvParseInt10 (signB sg ++ asc ds) =
      if sg = some true then
        (if digitsVal ds ≤ H then .ok (-(digitsVal ds : Int)) else .error .range)
      else
        (if digitsVal ds < H then .ok (digitsVal ds : Int) else .error .range) := by
  unfold strconvParseInt10
  have hemp : (signB sg ++ asc ds).isEmpty = false := by
    cases ds with
    | nil => exact absurd rfl hne
    | cons d ds' => cases sg with
      | none => rfl
      | some b => cases b <;> rfl
  simp only [hemp, Bool.false_eq_true, if_false, splitSign_sign sg ds hds hne, parseUint10_digits ds hds hne]
  generalize digitsVal ds = m
  have hW : W = 18446744073709551616 := rfl
  have hH : H = 9223372036854775808 := rfl
  -- `m` is below 2^63, equal to it (only `-2^63` fits), or beyond (clamped to 2^64-1 when it overflows)
  rcases Nat.lt_trichotomy m H with hlt | rfl | hgt
  · -- below 2^63: accepted with either sign
    have hltW : m < W := by omega
    have hnge : ¬ m ≥ H := by omega
    have hngt : ¬ m > H := by omega
    by_cases hs : sg = some true
    · simp [hs, hltW, hngt, Nat.le_of_lt hlt, toI64_of_lt m hlt, negI64_pos m hlt]
    · simp [hs, hlt, hltW, hnge, toI64_of_lt m hlt]
  · -- exactly 2^63: accepted only with a minus sign
    have hHW : H < W := by decide
    by_cases hs : sg = some true
    · simp [hs, hHW, toI64_H, negI64_neg H (Nat.le_refl _)]
    · simp [hs, hHW]
  · -- beyond 2^63: rejected, whether or not `ParseUint` had to clamp it
    have hnlt : ¬ m < H := by omega
    have hnle : ¬ m ≤ H := by omega
    have hmax : W - 1 > H := by decide
    by_cases hs : sg = some true
    · by_cases hw : m < W
      · simp [hs, hw, hgt, hnle]
      · simp [hs, hw, hmax, hnle]
    · by_cases hw : m < W
      · simp [hs, hw, hnlt, Nat.le_of_lt hgt]
      · simp [hs, hw, hnlt, Nat.le_of_lt hmax]

/-! ### strings.TrimSpace leaves plain ASCII alone -/

/-- every white-space encoding starts (and ends) with an ASCII blank/control byte or a byte ≥ 0x80 -/
def headOK (p : List UInt8) : Bool :=
  match p with
  | [] => false
  | a :: _ => a.toNat ≤ 32 || a.toNat ≥ 128

theorem heads_fwd : spaceEncodings.all headOK = true := by decide
theorem heads_bwd : (spaceEncodings.map List.reverse).all headOK = true := by decide

/-- a printable ASCII byte -/
def plainB (c : UInt8) : Prop := 33 ≤ c.toNat ∧ c.toNat < 128
instance (c : UInt8) : Decidable (plainB c) := by unfold plainB; exact inferInstance

theorem spacePrefixLen_plain (pats : List (List UInt8)) (hp : pats.all headOK = true) (s : List UInt8)
    (hs : ∀ c ∈ s.head?, plainB c) : spacePrefixLen pats s = 0 := by
  unfold spacePrefixLen
  have : pats.find? (fun p => p.isPrefixOf s) = none := by
    apply List.find?_eq_none.mpr
    intro p hpm
    have hk := List.all_eq_true.mp hp p hpm
    cases p with
    | nil => simp [headOK] at hk
    | cons a t =>
      cases s with
      | nil => simp [List.isPrefixOf]
      | cons c rest =>
        have hc := hs c (by simp)
        have : a ≠ c := by
          apply ne_of_toNat_ne
          simp only [headOK, Bool.or_eq_true, decide_eq_true_eq] at hk
          unfold plainB at hc; omega
        simp [List.isPrefixOf, this]
  rw [this]

theorem trimLeftFuel_plain (pats : List (List UInt8)) (hp : pats.all headOK = true) (fuel : Nat) (s : List UInt8)
    (hs : ∀ c ∈ s.head?, plainB c) : trimLeftFuel pats fuel s = s := by
  cases fuel with
  | zero => rfl
  | succ k => unfold trimLeftFuel; simp only [spacePrefixLen_plain pats hp s hs]

theorem trimSpace_plain (s : List UInt8) (hs : ∀ c ∈ s, plainB c) : trimSpace s = s := by
  unfold trimSpace trimLeft trimRight
  rw [trimLeftFuel_plain _ heads_fwd _ s (fun c hc => hs c (List.mem_of_mem_head? hc))]
  rw [trimLeftFuel_plain _ heads_bwd _ s.reverse
    (fun c hc => hs c (by rw [List.head?_reverse] at hc; exact List.mem_of_mem_getLast? hc))]
  exact List.reverse_reverse s

/-! ### parsing a rendered literal -/

open Goyang.Spec.Number (parseDecimalSpec parseIntSpec)

theorem render_eq (l : Lit) :
    l.render = signB l.sign ++ asc l.ip ++ (match l.fp with | none => [] | some f => 46 :: asc f) := by
  unfold Lit.render
  match l.sign with
  | none => rfl
  | some true => rfl
  | some false => rfl

theorem asc_append (a b : List Nat) : asc (a ++ b) = asc a ++ asc b := List.map_append

theorem asc_plain (ds : List Nat) (hds : ∀ d ∈ ds, d < 10) : ∀ c ∈ asc ds, plainB c ∧ c ≠ 46 := by
  intro c hc
  simp only [asc, List.mem_map] at hc
  obtain ⟨d, hd, rfl⟩ := hc
  have := digitChar_toNat d (hds d hd)
  have := hds d hd
  exact ⟨by unfold plainB; omega, digitChar_ne d (hds d hd) 46 (by decide)⟩

theorem signB_plain (sg : Option Bool) : ∀ c ∈ signB sg, plainB c ∧ c ≠ 46 := by
  intro c hc
  match sg with
  | none => simp [signB] at hc
  | some true => simp only [signB, List.mem_singleton] at hc; subst hc; exact ⟨by decide, by decide⟩
  | some false => simp only [signB, List.mem_singleton] at hc; subst hc; exact ⟨by decide, by decide⟩

theorem indexDot_none (s : List UInt8) (h : ∀ c ∈ s, c ≠ 46) : indexDot s = none := by
  induction s with
  | nil => rfl
  | cons c rest ih =>
    have hc : (c == 46) = false := beq_eq_false_iff_ne.mpr (h c (by simp))
    simp [indexDot, hc, ih (fun x hx => h x (by simp [hx]))]

theorem indexDot_app (a b : List UInt8) (h : ∀ c ∈ a, c ≠ 46) : indexDot (a ++ 46 :: b) = some a.length := by
  induction a with
  | nil => simp [indexDot]
  | cons c rest ih =>
    have hc : (c == 46) = false := beq_eq_false_iff_ne.mpr (h c (by simp))
    simp [indexDot, hc, ih (fun x hx => h x (by simp [hx]))]

theorem drop_succ_append_cons {α : Type} (a b : List α) (c : α) : (a ++ c :: b).drop (a.length + 1) = b := by
  rw [← List.drop_drop, List.drop_left]; rfl

theorem dropDot_app (a b : List UInt8) (h : ∀ c ∈ a, c ≠ 46) : dropDot (a ++ 46 :: b) = (b.length, a ++ b) := by
  unfold dropDot
  rw [indexDot_app a b h]
  have h1 : (a ++ 46 :: b).length - 1 - a.length = b.length := by
    simp only [List.length_append, List.length_cons]; omega
  simp only [h1, List.take_left', drop_succ_append_cons]

theorem render_pre_ne_dot (l : Lit) (hd : l.digitsOK) : ∀ c ∈ signB l.sign ++ asc l.ip, c ≠ 46 := by
  intro c hc
  rcases List.mem_append.mp hc with h | h
  · exact (signB_plain _ c h).2
  · exact (asc_plain _ hd.1 c h).2

theorem dropDot_render (l : Lit) (hd : l.digitsOK) :
    dropDot l.render = (l.scale, signB l.sign ++ asc (l.ip ++ l.fp.getD [])) := by
  have hpre := render_pre_ne_dot l hd
  rw [render_eq]
  unfold Lit.scale
  cases hfp : l.fp with
  | none =>
    simp only [List.append_nil, Option.getD_none, List.length_nil]
    unfold dropDot
    rw [indexDot_none _ hpre]
  | some f =>
    simp only [Option.getD_some]
    rw [dropDot_app _ _ hpre, asc_append, List.append_assoc]
    simp [asc]

/-- the guard of the repaired `decimalValueFromString` never fires on a literal `[sign] digits [. digits]` -/
theorem signAfterDot_render (l : Lit) (hd : l.digitsOK) : signAfterDot l.render = false := by
  have hpre := render_pre_ne_dot l hd
  rw [render_eq]
  unfold signAfterDot
  cases hfp : l.fp with
  | none =>
    simp only [List.append_nil]
    rw [indexDot_none _ hpre]
  | some f =>
    simp only
    rw [indexDot_app _ _ hpre]
    simp only [drop_succ_append_cons]
    cases f with
    | nil => rfl
    | cons d rest =>
      have hd10 : d < 10 := by have := hd.2; rw [hfp] at this; exact this d (by simp)
      have h45 : (digitChar d == 45) = false := digitChar_beq d hd10 45 (by decide)
      have h43 : (digitChar d == 43) = false := digitChar_beq d hd10 43 (by decide)
      simp [asc, h45, h43]

theorem space18_take (k : Nat) (h : k ≤ 18) : space18.take k = asc (List.replicate k 0) := by
  unfold space18 asc
  rw [List.take_replicate, List.map_replicate, Nat.min_eq_left h]
  rfl

theorem hv_append (a b : List Nat) (n : Nat) : hv n (a ++ b) = hv (hv n a) b := by
  unfold hv; rw [List.foldl_append]

theorem hv_zeros (k n : Nat) : hv n (List.replicate k 0) = n * 10 ^ k := by
  induction k generalizing n with
  | zero => simp [hv]
  | succ k ih =>
    rw [List.replicate_succ]
    show hv (n * 10 + 0) (List.replicate k 0) = _
    rw [ih, Nat.pow_succ]; simp [Nat.mul_assoc, Nat.mul_comm]

theorem digitsVal_zeros (ds : List Nat) (k : Nat) : digitsVal (ds ++ List.replicate k 0) = digitsVal ds * 10 ^ k := by
  rw [digitsVal_eq_hv, hv_append, hv_zeros]; rfl

/-- `decimalValueFromString` on a literal `[sign] digits [. digits]` (digit strings may be empty) -/
theorem decimalValueFromString_render (l : Lit) (f : Nat) (hd : l.digitsOK) (hf1 : 1 ≤ f) (hf2 : f ≤ 18) :
    decimalValueFromString l.render f =
      if l.scale > f then .error .precision
      else match parseDecimalSpec l f with
        | some n => .ok n
        | none => .error .range := by
  have hH : H = 9223372036854775808 := rfl
  unfold decimalValueFromString
  have hbad : (decide (f > 18) || decide (f < 1)) = false := by simp; omega
  simp only [hbad, Bool.false_eq_true, if_false, signAfterDot_render l hd, dropDot_render l hd]
  by_cases hsc : l.scale > f
  · simp [hsc]
  · simp only [hsc, if_false]
    rw [space18_take _ (by omega), List.append_assoc, ← asc_append]
    have hds : ∀ d ∈ l.ip ++ l.fp.getD [] ++ List.replicate (f - l.scale) 0, d < 10 := by
      intro d hm
      rcases List.mem_append.mp hm with h | h
      · rcases List.mem_append.mp h with h | h
        · exact hd.1 d h
        · exact hd.2 d h
      · rw [List.mem_replicate] at h; omega
    have hne : l.ip ++ l.fp.getD [] ++ List.replicate (f - l.scale) 0 ≠ [] := by
      intro e
      have := congrArg List.length e
      simp only [List.length_append, List.length_replicate, List.length_nil] at this
      unfold Lit.scale at hsc this
      omega
    rw [strconvParseInt10_digits l.sign _ hds hne, digitsVal_zeros]
    unfold parseDecimalSpec
    simp only [hsc, if_false]
    have hm : digitsVal (l.ip ++ l.fp.getD []) = l.mant := rfl
    rw [hm]
    generalize l.mant * 10 ^ (f - l.scale) = m
    unfold Lit.neg
    rw [← H_eq]
    by_cases hs : l.sign = some true
    · by_cases hle : m ≤ H
      · have := toU64_abs (-(m : Int)) (by omega) (by omega)
        simp only [hs, hle, if_true, decide_true, Bool.true_and, decide_eq_true_eq, this, Int.natAbs_neg,
          Int.natAbs_natCast]
        by_cases h0 : m = 0
        · simp [h0]
        · simp [h0, Nat.pos_of_ne_zero h0]
      · simp [hs, hle]
    · by_cases hlt : m < H
      · have := toU64_abs (m : Int) (by omega) (by omega)
        have hnn : ¬ ((m : Int) < 0) := by omega
        simp only [hnn, if_false] at this
        simp [hs, hlt, hnn, this]
      · simp [hs, hlt]

theorem render_plain (l : Lit) (hd : l.digitsOK) : ∀ c ∈ l.render, plainB c := by
  rw [render_eq]
  intro c hc
  rcases List.mem_append.mp hc with h | h
  · rcases List.mem_append.mp h with h | h
    · exact (signB_plain _ c h).1
    · exact (asc_plain _ hd.1 c h).1
  · cases hfp : l.fp with
    | none => rw [hfp] at h; simp at h
    | some fp =>
      rw [hfp] at h
      rcases List.mem_cons.mp h with h | h
      · subst h; decide
      · exact (asc_plain _ (by have := hd.2; rw [hfp] at this; exact this) c h).1

/-- a rendered literal with at least one digit or a dot is neither empty nor a lone sign -/
theorem render_not_sign (l : Lit) (hd : l.digitsOK) (hne : l.ip ≠ [] ∨ l.fp ≠ none) :
    l.render ≠ [] ∧ l.render ≠ [43] ∧ l.render ≠ [45] := by
  rw [render_eq]
  cases hip : l.ip with
  | nil =>
    rw [hip] at hne
    cases hfp : l.fp with
    | none => rw [hfp] at hne; simp at hne
    | some fp => rcases l.sign with _ | _ | _ <;> simp [signB, asc]
  | cons d ds =>
    have hd' := hd.1 d (by rw [hip]; simp)
    have h43 := digitChar_ne d hd' 43 (by decide)
    have h45 := digitChar_ne d hd' 45 (by decide)
    rcases l.sign with _ | _ | _ <;> simp [signB, asc, h43, h45]

/-- `yang.ParseDecimal` on a literal `[sign] digits [. digits]`: exactly what the specification prescribes -/
theorem parseDecimal_render (l : Lit) (f : Nat) (hd : l.digitsOK) (hne : l.ip ≠ [] ∨ l.fp ≠ none)
    (hf1 : 1 ≤ f) (hf2 : f ≤ 18) :
    parseDecimal l.render f =
      if l.scale > f then .error .precision
      else match parseDecimalSpec l f with
        | some n => .ok n
        | none => .error .range := by
  unfold parseDecimal
  obtain ⟨h0, h1, h2⟩ := render_not_sign l hd hne
  simp only [trimSpace_plain _ (render_plain l hd), h0, h1, h2, if_false, decide_false, Bool.or_self,
    Bool.false_eq_true]
  exact decimalValueFromString_render l f hd hf1 hf2

/-- `yang.ParseInt` on `[sign] digits` without a superfluous leading zero -/
theorem parseInt_render (l : Lit) (hd : l.digitsOK) (hip : l.ip ≠ []) (hfp : l.fp = none) (hz : l.noLeadingZero) :
    parseInt l.render = match parseIntSpec l with
      | some n => .ok n
      | none => .error .range := by
  unfold parseInt
  obtain ⟨h0, h1, h2⟩ := render_not_sign l hd (Or.inl hip)
  simp only [trimSpace_plain _ (render_plain l hd), h0, h1, h2, if_false, decide_false, Bool.or_self,
    Bool.false_eq_true]
  have hr : l.render = signB l.sign ++ asc l.ip := by rw [render_eq, hfp]; simp
  rw [hr, splitSign_sign l.sign l.ip hd.1 hip]
  have hz' : l.ip = [0] ∨ (l.ip ≠ [] ∧ l.ip.head? ≠ some 0) := by
    rcases hz with h | h
    · exact Or.inl h
    · exact Or.inr ⟨hip, h⟩
  simp only [parseUint0_digits l.ip hd.1 hz']
  unfold parseIntSpec Lit.mant Lit.neg
  simp only [hfp, Option.getD_none, List.append_nil, ← W_eq]
  by_cases hw : digitsVal l.ip < W <;> simp [hw]

end Goyang.Lemmas.Number
