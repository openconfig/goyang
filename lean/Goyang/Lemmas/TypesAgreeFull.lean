import Goyang.Lemmas.TypesSpecChain
import Goyang.Lemmas.TypesAssign
import Goyang.Lemmas.TypesAssignFold
import Goyang.Lemmas.TypesStrBridge
import Goyang.Lemmas.TypesEnumRfc
import Goyang.Lemmas.TypesFdRfc
import Goyang.Lemmas.TypesSpecClaim
/-
C09: the enum table, bit table and fraction-digits of an error-free resolution agree with what the
executable specification (`inherit k ls`) computes for the same derivation chain — for chains whose
integer arguments (`value`, `position`, `fraction-digits`) are canonically written (`CanonInt`:
optional `-`, decimal digits, no superfluous leading zero).  Outside that form the two readings
differ (`value 010` is 8 for Go's `ParseInt` with base 0 and 10 for `parseIntLit`): Props/C09.lean
`agreesWithFull_fails_noncanonical`.

* `chain_fd_some` (and `chain_table_some` of TypesSpecChain.lean for the tables): along the layers of an
  `ok` chain (`Forall₂ LayerOf`) what is stated was readable (`toNat? = some`, `assignValues … = some`).
* `written_of_canon`: canonical arguments are `Written` (the literal form property C14 / C15 speak about).
* `table_agree`; `enum_agree`, `bit_agree`, `fd_agree`: the three agreements.
-/
namespace Goyang.Lemmas.TypesAgreeFull
open Goyang.Model Goyang.Model.Types Goyang.Spec.Types Goyang.Lemmas.Types
open Goyang.Lemmas.TypesSpecChain Goyang.Lemmas.TypesAssign Goyang.Lemmas.TypesStrBridge
open Goyang.Lemmas.TypesEnumRfc (chainEnums_ty_cons chainEnums_td_cons chainBits_ty_cons chainBits_td_cons)
open Goyang.Lemmas.TypesFdRfc (chainFd_ty_some chainFd_ty_none chainFd_td_cons)

/-- Every integer argument the tables and fraction-digits of the chain are read from is canonically
written. -/
def CanonArgs (chain : List Link) : Prop :=
  (∀ es, chainEnums chain = some es → ∀ e ∈ es, ∀ a, e.argOf? "value" = some a → CanonInt a) ∧
  (∀ bs, chainBits chain = some bs → ∀ b ∈ bs, ∀ a, b.argOf? "position" = some a → CanonInt a) ∧
  (∀ f, chainFractionDigits chain = some f → CanonInt f.arg)

theorem written_of_canon {kw : String} {es : List Stmt}
    (h : ∀ e ∈ es, ∀ a, e.argOf? kw = some a → CanonInt a) : Goyang.Lemmas.TypesAssignFold.Written kw es := by
  intro e he a ha
  obtain ⟨l, hl, _, hb, hp⟩ := canonInt_lit (h e he a ha)
  exact ⟨l, hl, hb, hp⟩

/-! ## What an `ok` chain states was readable -/

theorem chain_fd_some {reg : Registry} {chain : List Link} {ls : List Layer}
    (h : List.Forall₂ (LayerOf reg) chain ls) :
    ∀ f, chainFractionDigits chain = some f → ∃ n, f.arg.toNat? = some n ∧ 1 ≤ n ∧ n ≤ 18 := by
  induction h with
  | nil => intro f hf; simp [chainFractionDigits] at hf
  | @cons link l chain' ls' hl _ ih =>
    intro f hf
    cases link with
    | td d => rw [chainFd_td_cons] at hf; exact ih f hf
    | ty r s t =>
      cases hq : t.one? "fraction-digits" with
      | none => rw [chainFd_ty_none hq] at hf; exact ih f hf
      | some f0 =>
        rw [chainFd_ty_some hq] at hf
        simp only [Option.some.injEq] at hf
        subst hf
        obtain ⟨_, _, _, _, hfd, _, _, _, _, hfdn, hfdr, _, _⟩ := hl
        have harg : t.argOf? "fraction-digits" = some f0.arg := by
          unfold Stmt.argOf?; rw [hq]; rfl
        rw [harg] at hfd hfdn
        simp only [Option.bind_some] at hfd
        cases hn : f0.arg.toNat? with
        | some n => exact ⟨n, rfl, hfdr n (by rw [hfd, hn])⟩
        | none =>
          rw [hn] at hfd
          have := hfdn.mp hfd
          cases this

/-! ## The three agreements -/

/-- A table the model's resolve loop built without error from canonically written, readable members
(`toInt` lists the members last first) holds the values `assignValues` gives them. -/
theorem table_agree {k : Goyang.Spec.Enum.Kind} {vkw : String} {lo hi : Int} {ms? : Option (List Stmt)}
    {tab? : Option EnumTab}
    (htab : tab? = ms?.map fun es => (enumFold (Goyang.Lemmas.Enum.new k) vkw es).1)
    (hsome : ∀ es, ms? = some es → ∃ tab, assignValues vkw lo hi es = some tab)
    (hcanon : ∀ es, ms? = some es → ∀ e ∈ es, ∀ a, e.argOf? vkw = some a → CanonInt a)
    (hE : ∀ es, ms? = some es → (enumFold (Goyang.Lemmas.Enum.new k) vkw es).2 = []) :
    tab?.map (·.toInt) = (ms?.bind (assignValues vkw lo hi)).map fun tab => (toB tab).reverse := by
  rw [htab]
  cases ms? with
  | none => rfl
  | some es =>
    obtain ⟨tab, htab⟩ := hsome es rfl
    obtain ⟨msS, hr, hto, _⟩ := Goyang.Lemmas.TypesAssignFold.enumFold_agrees k vkw es
      (written_of_canon (hcanon es rfl)) (hE es rfl)
    obtain ⟨ms', hr', ht', _⟩ := assignValues_some htab
    rw [hr] at hr'
    cases hr'
    simp only [Option.map_some, Option.bind_some, htab, hto, ht']

theorem enum_agree {reg : Registry} {chain : List Link} {ls : List Layer} (k : String)
    (hfor : List.Forall₂ (LayerOf reg) chain ls) (hc : CanonArgs chain) {y : YType}
    (hen : y.enum = (chainEnums chain).map (fun es => (enumFold newEnum "value" es).1))
    (hE : ∀ es, chainEnums chain = some es → (enumFold newEnum "value" es).2 = []) :
    y.enum.map (·.toInt) = (inherit k ls).enum.map (fun tab => (toB tab).reverse) := by
  obtain ⟨_, _, _, _, _, henum, _, _⟩ := inherit_eq hfor k
  rw [henum]
  exact table_agree (k := .enumeration) hen (chain_table_some layerOf_enum hfor) hc.1 hE

/-- … and so does the bit table. -/
theorem bit_agree {reg : Registry} {chain : List Link} {ls : List Layer} (k : String)
    (hfor : List.Forall₂ (LayerOf reg) chain ls) (hc : CanonArgs chain) {y : YType}
    (hbi : y.bit = (chainBits chain).map (fun bs => (enumFold newBits "position" bs).1))
    (hB : ∀ bs, chainBits chain = some bs → (enumFold newBits "position" bs).2 = []) :
    y.bit.map (·.toInt) = (inherit k ls).bit.map (fun tab => (toB tab).reverse) := by
  obtain ⟨_, _, _, _, _, _, hbit, _⟩ := inherit_eq hfor k
  rw [hbit]
  exact table_agree (k := .bits) hbi (chain_table_some layerOf_bit hfor) hc.2.1 hB

/-- The fraction-digits of the model are those the executable specification reads. -/
theorem fd_agree {reg : Registry} {chain : List Link} {ls : List Layer} (k : String)
    (hfor : List.Forall₂ (LayerOf reg) chain ls) (hc : CanonArgs chain) {y : YType}
    (hfd : y.fractionDigits = ((chainFractionDigits chain).map parseFd).getD 0)
    (hF : ∀ f, chainFractionDigits chain = some f →
      ∃ i, Number.asRangeInt (some (bytesOf f.arg)) 1 18 = .ok i ∧ y.fractionDigits = i.toNat) :
    y.fractionDigits = (inherit k ls).fd := by
  obtain ⟨_, _, _, _, _, _, _, j8⟩ := inherit_eq hfor k
  rw [j8]
  cases hq : chainFractionDigits chain with
  | none => rw [hfd, hq]; rfl
  | some f =>
    obtain ⟨n, hn, _, _⟩ := chain_fd_some hfor f hq
    obtain ⟨i, hi, hy⟩ := hF f hq
    obtain ⟨l, ⟨hd, hip, hfp, hz⟩, _, hb, hnum⟩ := canonInt_toNat (hc.2.2 f hq) hn
    obtain ⟨h1, _, _⟩ := Goyang.Lemmas.TypesFdRfc.fd_written hd hip hfp hz hb hi
    simp only [Option.bind_some, hn, Option.getD_some]
    rw [hy]
    omega

/-- The derivation chain of a type statement that names a built-in type is the statement alone. -/
theorem derives_builtin {reg : Registry} {root : Mod} {scope : List Stmt} {t : Stmt} {kind : String} {chain : List Link}
    (hb : builtinNames.contains t.arg = true) (h : DerivesFrom reg root scope t kind chain) :
    chain = [.ty root scope t] := by
  cases h with
  | builtin _ => rfl
  | derived m td sc tt kind chain hbind _ _ =>
    rw [binds_not_builtin hbind] at hb
    cases hb

theorem canonArgs_builtin {reg : Registry} {root : Mod} {scope : List Stmt} {t : Stmt}
    (hb : builtinNames.contains t.arg = true)
    (hv : ∀ e ∈ t.all "enum", ∀ a, e.argOf? "value" = some a → CanonInt a)
    (hp : ∀ b ∈ t.all "bit", ∀ a, b.argOf? "position" = some a → CanonInt a)
    (hf : ∀ f, t.one? "fraction-digits" = some f → CanonInt f.arg) :
    ∀ kind chain, DerivesFrom reg root scope t kind chain → CanonArgs chain := by
  intro kind chain h
  rw [derives_builtin hb h]
  refine ⟨?_, ?_, ?_⟩
  · intro es hes
    rw [chainEnums_ty_cons] at hes
    split at hes
    · cases hes
    · cases hes
      exact hv
  · intro bs hbs
    rw [chainBits_ty_cons] at hbs
    split at hbs
    · cases hbs
    · cases hbs
      exact hp
  · intro f hf'
    cases hq : t.one? "fraction-digits" with
    | none =>
      rw [chainFd_ty_none hq] at hf'
      cases hf'
    | some f0 =>
      rw [chainFd_ty_some hq] at hf'
      cases hf'
      exact hf f hq

/-- A type statement that names a built-in type, has no member types and whose own enum / bit members
and fraction-digits are readable is inside the claim of the executable specification (used for
examples whose `chainOf` the kernel cannot evaluate because of `String.toNat!`). -/
theorem insideClaim_builtin {reg : Registry} {root : Mod} {scope : List Stmt} {t : Stmt}
    (hb : builtinNames.contains t.arg = true) (hm : t.all "type" = [])
    (hbind : ∃ k, bindType reg root scope t.arg = .builtin k)
    (he : t.all "enum" ≠ [] → assignValues "value" (-2147483648) 2147483647 (t.all "enum") ≠ none)
    (hbit : t.all "bit" ≠ [] → assignValues "position" 0 4294967295 (t.all "bit") ≠ none)
    (hfd : ∀ a, t.argOf? "fraction-digits" = some a → ∃ n, a.toNat? = some n ∧ 1 ≤ n ∧ n ≤ 18) :
    Goyang.Lemmas.TypesSpecClaim.InsideClaim reg (root, scope, t) := by
  intro site w hs
  have hsite : site = (root, scope, t) := by
    induction hs with
    | refl => rfl
    | tail _ hbc ih =>
      subst ih
      obtain ⟨ut, hut, _⟩ := Goyang.Lemmas.TypesSpecBind.uses_of_builtin hb hbc
      rw [hm] at hut
      cases hut
  intro hf
  subst hsite
  obtain ⟨k, hk⟩ := hbind
  cases hf with
  | ambiguous h => rw [hk] at h; cases h
  | noType m td sc h _ => rw [hk] at h; cases h
  | enumValues hne h => exact he hne h
  | bitPositions hne h => exact hbit hne h
  | fractionDigits a ha h =>
    obtain ⟨n, hn, h1⟩ := hfd a ha
    exact h n hn h1
  | restated ut fuel vis k' ls hut _ _ => rw [hm] at hut; cases hut

/-! ## A registry-level sufficient condition for `CanonArgs` -/

/-- Every `value` / `position` / `fraction-digits` argument of the loaded set is canonically written. -/
def CanonReg (reg : Registry) : Prop :=
  ∀ m ∈ reg.mods, ∀ s ∈ descendants m.stmt,
    (∀ a, s.argOf? "value" = some a → CanonInt a) ∧ (∀ a, s.argOf? "position" = some a → CanonInt a) ∧
    (∀ a, s.argOf? "fraction-digits" = some a → CanonInt a)

open Goyang.Lemmas.TypesFuel (child_below) in
/-- The type statements of a derivation chain of a reference that stands in the loaded set stand in the loaded set. -/
theorem derives_links_inSet {reg : Registry} {root : Mod} {scope : List Stmt} {t : Stmt} {kind : String} {chain : List Link}
    (h : DerivesFrom reg root scope t kind chain) :
    root ∈ reg.mods → t ∈ descendants root.stmt → (∀ s ∈ scope, s ∈ descendants root.stmt) →
    ∀ r s t', Link.ty r s t' ∈ chain → r ∈ reg.mods ∧ t' ∈ descendants r.stmt := by
  induction h with
  | builtin _ =>
    intro hroot ht _ r s t' hmem
    rw [List.mem_singleton] at hmem
    cases hmem
    exact ⟨hroot, ht⟩
  | @derived root scope t m td sc tt kind chain hbind htt _ ih =>
    intro hroot ht hscope r s t' hmem
    obtain ⟨hm, htd, hsc⟩ := Goyang.Lemmas.TypesSpecFuel.binds_inSet hroot hscope hbind
    rcases List.mem_cons.mp hmem with h1 | h1
    · cases h1
      exact ⟨hroot, ht⟩
    · rcases List.mem_cons.mp h1 with h2 | h2
      · cases h2
      · have htt' : tt ∈ td.subs := by
          unfold Stmt.one? at htt
          exact List.mem_of_find?_eq_some htt
        refine ih hm (child_below htd htt') ?_ r s t' h2
        intro x hx
        rcases List.mem_cons.mp hx with rfl | hx
        · exact htd
        · exact hsc x hx

theorem chainEnums_some {chain : List Link} {es : List Stmt} (h : chainEnums chain = some es) :
    ∃ r s t, Link.ty r s t ∈ chain ∧ es = t.all "enum" := by
  induction chain with
  | nil => simp [chainEnums] at h
  | cons link rest ih =>
    cases link with
    | td d =>
      rw [chainEnums_td_cons] at h
      obtain ⟨r, s, t, hm, he⟩ := ih h
      exact ⟨r, s, t, List.mem_cons_of_mem _ hm, he⟩
    | ty r s t =>
      rw [chainEnums_ty_cons] at h
      split at h
      · obtain ⟨r', s', t', hm, he⟩ := ih h
        exact ⟨r', s', t', List.mem_cons_of_mem _ hm, he⟩
      · simp only [Option.some.injEq] at h
        exact ⟨r, s, t, List.mem_cons_self, h.symm⟩

theorem chainBits_some {chain : List Link} {bs : List Stmt} (h : chainBits chain = some bs) :
    ∃ r s t, Link.ty r s t ∈ chain ∧ bs = t.all "bit" := by
  induction chain with
  | nil => simp [chainBits] at h
  | cons link rest ih =>
    cases link with
    | td d =>
      rw [chainBits_td_cons] at h
      obtain ⟨r, s, t, hm, he⟩ := ih h
      exact ⟨r, s, t, List.mem_cons_of_mem _ hm, he⟩
    | ty r s t =>
      rw [chainBits_ty_cons] at h
      split at h
      · obtain ⟨r', s', t', hm, he⟩ := ih h
        exact ⟨r', s', t', List.mem_cons_of_mem _ hm, he⟩
      · simp only [Option.some.injEq] at h
        exact ⟨r, s, t, List.mem_cons_self, h.symm⟩

theorem chainFd_some {chain : List Link} {f : Stmt} (h : chainFractionDigits chain = some f) :
    ∃ r s t, Link.ty r s t ∈ chain ∧ t.one? "fraction-digits" = some f := by
  induction chain with
  | nil => simp [chainFractionDigits] at h
  | cons link rest ih =>
    cases link with
    | td d =>
      rw [chainFd_td_cons] at h
      obtain ⟨r, s, t, hm, he⟩ := ih h
      exact ⟨r, s, t, List.mem_cons_of_mem _ hm, he⟩
    | ty r s t =>
      cases hq : t.one? "fraction-digits" with
      | none =>
        rw [chainFd_ty_none hq] at h
        obtain ⟨r', s', t', hm, he⟩ := ih h
        exact ⟨r', s', t', List.mem_cons_of_mem _ hm, he⟩
      | some f0 =>
        rw [chainFd_ty_some hq] at h
        simp only [Option.some.injEq] at h
        subst h
        exact ⟨r, s, t, List.mem_cons_self, hq⟩

open Goyang.Lemmas.TypesFuel (child_below) in
/-- In a loaded set all of whose integer arguments are canonically written, every derivation chain of
a reference that stands in the set has canonical arguments. -/
theorem canonArgs_of_canonReg {reg : Registry} (hc : CanonReg reg) {root : Mod} {scope : List Stmt} {t : Stmt}
    (hroot : root ∈ reg.mods) (ht : t ∈ descendants root.stmt) (hscope : ∀ s ∈ scope, s ∈ descendants root.stmt)
    {kind : String} {chain : List Link} (h : DerivesFrom reg root scope t kind chain) : CanonArgs chain := by
  have hin := derives_links_inSet h hroot ht hscope
  refine ⟨?_, ?_, ?_⟩
  · intro es hes e he a ha
    obtain ⟨r, s, t', hm, rfl⟩ := chainEnums_some hes
    obtain ⟨hr, ht'⟩ := hin r s t' hm
    have he' : e ∈ t'.subs := by
      unfold Stmt.all at he
      exact (List.mem_filter.mp he).1
    exact (hc r hr e (child_below ht' he')).1 a ha
  · intro bs hbs b hb a ha
    obtain ⟨r, s, t', hm, rfl⟩ := chainBits_some hbs
    obtain ⟨hr, ht'⟩ := hin r s t' hm
    have hb' : b ∈ t'.subs := by
      unfold Stmt.all at hb
      exact (List.mem_filter.mp hb).1
    exact (hc r hr b (child_below ht' hb')).2.1 a ha
  · intro f hf
    obtain ⟨r, s, t', hm, hq⟩ := chainFd_some hf
    obtain ⟨hr, ht'⟩ := hin r s t' hm
    have harg : t'.argOf? "fraction-digits" = some f.arg := by
      unfold Stmt.argOf?; rw [hq]; rfl
    exact (hc r hr t' ht').2.2 f.arg harg

end Goyang.Lemmas.TypesAgreeFull
