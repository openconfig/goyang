/-
The tokeniser of the reference reader, one token at a time (`specNext`), and the tokens found
before a lexical failure (`scanAll`): what the simulation of the lexer model runs against.
-/
import Goyang.Spec.Parse

namespace Goyang.Lemmas.Scan
open Goyang.Spec.Parse

/-- the next token after skipping (`g` = `skipGround cs`, `cs` the tail of a text of `n` characters) and what follows it;
`none`: an unterminated quote or comment; `some none`: nothing but white space and comments -/
def specNextG (n : Nat) (g : Option (List Char)) : Option (Option (PTok × List Char)) :=
  match g with
  | none => none
  | some [] => some none
  | some (c :: r) =>
    let off := n - (r.length + 1)
    if c = ';' then some (some (⟨.semi, off⟩, r))
    else if c = '{' then some (some (⟨.lbrace, off⟩, r))
    else if c = '}' then some (some (⟨.rbrace, off⟩, r))
    else if c = '\'' then
      match scanSq r with
      | none => none
      | some (s, r') => some (some (⟨.sq s, off⟩, r'))
    else if c = '"' then
      match scanDq r with
      | none => none
      | some (s, r') => some (some (⟨.dq s, off⟩, r'))
    else
      some (some (⟨.unq ((c :: r).takeWhile (fun x => !isDelim x)), off⟩, (c :: r).dropWhile (fun x => !isDelim x)))

/-- the next token of `cs` -/
def specNext (n : Nat) (cs : List Char) : Option (Option (PTok × List Char)) := specNextG n (skipGround cs)

/-- the token that starts with the character `c` before `r`, and the text behind it (`specNextG` without
the offset); `none`: an unterminated quote -/
def tokAt (c : Char) (r : List Char) : Option (Tok × List Char) :=
  if c = ';' then some (.semi, r)
  else if c = '{' then some (.lbrace, r)
  else if c = '}' then some (.rbrace, r)
  else if c = '\'' then (scanSq r).map fun p => (.sq p.1, p.2)
  else if c = '"' then (scanDq r).map fun p => (.dq p.1, p.2)
  else some (.unq ((c :: r).takeWhile (fun x => !isDelim x)), (c :: r).dropWhile (fun x => !isDelim x))

theorem specNextG_cons (n : Nat) (c : Char) (r : List Char) :
    specNextG n (some (c :: r)) = (tokAt c r).map fun p => some (⟨p.1, n - (r.length + 1)⟩, p.2) := by
  unfold specNextG tokAt
  by_cases h1 : c = ';'
  · simp only [if_pos h1]
    rfl
  by_cases h2 : c = '{'
  · simp only [if_neg h1, if_pos h2]
    rfl
  by_cases h3 : c = '}'
  · simp only [if_neg h1, if_neg h2, if_pos h3]
    rfl
  by_cases h4 : c = '\''
  · simp only [if_neg h1, if_neg h2, if_neg h3, if_pos h4]
    cases scanSq r with
    | none => rfl
    | some p => rfl
  by_cases h5 : c = '"'
  · simp only [if_neg h1, if_neg h2, if_neg h3, if_neg h4, if_pos h5]
    cases scanDq r with
    | none => rfl
    | some p => rfl
  · simp only [if_neg h1, if_neg h2, if_neg h3, if_neg h4, if_neg h5]
    rfl

theorem specNext_eq (n : Nat) {cs : List Char} {c : Char} {r : List Char} (h : skipGround cs = some (c :: r)) :
    specNext n cs = (tokAt c r).map fun p => some (⟨p.1, n - (r.length + 1)⟩, p.2) := by
  unfold specNext; rw [h, specNextG_cons]

theorem tokAt_sq (r : List Char) : tokAt '\'' r = (scanSq r).map fun p => (.sq p.1, p.2) := rfl

theorem tokAt_dq (r : List Char) : tokAt '"' r = (scanDq r).map fun p => (.dq p.1, p.2) := rfl

theorem tokAt_unq (c : Char) (r : List Char) (h : isDelim c = false) :
    tokAt c r = some (.unq ((c :: r).takeWhile (fun x => !isDelim x)), (c :: r).dropWhile (fun x => !isDelim x)) := by
  simp only [isDelim, Bool.or_eq_false_iff, decide_eq_false_iff_not] at h
  simp only [tokAt, h, if_false]

/-- the tokens up to the end or up to the first lexical failure, and whether the end was reached -/
def scanAll (n : Nat) : Nat → List Char → List PTok × Bool
  | 0, _ => ([], false)
  | f + 1, cs =>
    match specNext n cs with
    | none => ([], false)
    | some none => ([], true)
    | some (some (t, r)) => (t :: (scanAll n f r).1, (scanAll n f r).2)

/-! ## the skipping functions, by shape of the text -/

theorem skipGround_blanks (bl r : List Char) (h : ∀ x ∈ bl, isSpace x = true) :
    skipGround (bl ++ r) = skipGround r := by
  induction bl with
  | nil => rfl
  | cons b bl ih =>
    simp only [List.cons_append]
    rw [skipGround, if_pos (h b (by simp))]
    exact ih (fun x hx => h x (by simp [hx]))

theorem skipGround_token (c : Char) (r : List Char) (hs : isSpace c = false) (hc : c ≠ '/') :
    skipGround (c :: r) = some (c :: r) := by
  rw [skipGround]; simp [hs, hc]

theorem skipGround_slash (r : List Char) : skipGround ('/' :: r) = afterSlash r := by
  rw [skipGround]; simp [isSpace]

theorem afterSlash_line (r : List Char) : afterSlash ('/' :: r) = skipLine r := by
  rw [afterSlash]; simp

theorem afterSlash_block (r : List Char) : afterSlash ('*' :: r) = skipBlock false r := by
  rw [afterSlash]; simp

theorem afterSlash_token (r : List Char) (h : ∀ c r', r = c :: r' → c ≠ '/' ∧ c ≠ '*') :
    afterSlash r = some ('/' :: r) := by
  cases r with
  | nil => rw [afterSlash]
  | cons c r' =>
    obtain ⟨h1, h2⟩ := h c r' rfl
    rw [afterSlash]; simp [h1, h2]

theorem skipLine_found (s r : List Char) (hs : '\n' ∉ s) : skipLine (s ++ '\n' :: r) = skipGround r := by
  induction s with
  | nil => rw [List.nil_append, skipLine]; simp
  | cons d s ih =>
    have hd : d ≠ '\n' := fun h => hs (by rw [h]; simp)
    simp only [List.cons_append]
    rw [skipLine, if_neg hd]
    exact ih (fun h => hs (by simp [h]))

/-- the text before the nearest `*/` and the text after it -/
def findSS : List Char → Option (List Char × List Char)
  | [] => none
  | [_] => none
  | c :: d :: r =>
    if c = '*' ∧ d = '/' then some ([], r)
    else (findSS (d :: r)).map fun p => (c :: p.1, p.2)

theorem findSS_split : ∀ (n : Nat) (cs : List Char), cs.length ≤ n → ∀ (s r : List Char),
    findSS cs = some (s, r) → cs = s ++ '*' :: '/' :: r := by
  intro n
  induction n with
  | zero =>
    intro cs hn s r h
    have : cs = [] := List.eq_nil_of_length_eq_zero (by omega)
    subst this; simp [findSS] at h
  | succ n ih =>
    intro cs hn s r h
    cases cs with
    | nil => simp [findSS] at h
    | cons c cs =>
      cases cs with
      | nil => simp [findSS] at h
      | cons d r0 =>
        rw [findSS] at h
        split at h
        · rename_i hc
          simp only [Option.some.injEq, Prod.mk.injEq] at h
          rw [← h.1, ← h.2, hc.1, hc.2]; rfl
        · cases hf : findSS (d :: r0) with
          | none => simp [hf] at h
          | some p =>
            simp only [hf, Option.map_some, Option.some.injEq, Prod.mk.injEq] at h
            have := ih (d :: r0) (by simp only [List.length_cons] at hn ⊢; omega) p.1 p.2 hf
            rw [← h.1, ← h.2, this]; rfl

/-- what a walk through a block comment comes to: `z` if the comment is not closed, `G` of the text behind the
nearest `*/` otherwise -/
def afterSS {α : Type} (z : α) (G : List Char → α) (cs : List Char) : α :=
  match findSS cs with
  | none => z
  | some p => G p.2

theorem afterSS_cons {α : Type} (z : α) (G : List Char → α) (c : Char) (cs : List Char) (hc : c ≠ '*') :
    afterSS z G (c :: cs) = afterSS z G cs := by
  unfold afterSS
  cases cs with
  | nil => simp [findSS]
  | cons d r =>
    rw [findSS, if_neg (fun h => hc h.1)]
    cases findSS (d :: r) with
    | none => rfl
    | some p => rfl

theorem afterSS_star {α : Type} (z : α) (G : List Char → α) (c : Char) (cs : List Char) :
    afterSS z G ('*' :: c :: cs) = if c = '/' then G cs else afterSS z G (c :: cs) := by
  unfold afterSS
  rw [findSS]
  by_cases hc : c = '/'
  · simp [hc]
  · rw [if_neg (fun h => hc h.2), if_neg hc]
    cases findSS (c :: cs) with
    | none => rfl
    | some p => rfl

/-- a function that walks through a block comment the way `skipBlock` does (`star`: the character before
was `*`) comes to `afterSS` -/
theorem block_walk {α : Type} (g : Bool → List Char → α) (z : α) (G : List Char → α) (hnil : ∀ star, g star [] = z)
    (hcons : ∀ star c cs, g star (c :: cs) = if (star && c = '/') = true then G cs else g (c = '*') cs) :
    ∀ (cs : List Char), g false cs = afterSS z G cs ∧ g true cs = afterSS z G ('*' :: cs) := by
  intro cs
  induction cs with
  | nil => constructor <;> simp [hnil, afterSS, findSS]
  | cons c cs ih =>
    obtain ⟨ih1, ih2⟩ := ih
    have hfalse : g false (c :: cs) = afterSS z G (c :: cs) := by
      rw [hcons]
      simp only [Bool.false_and, Bool.false_eq_true, if_false]
      by_cases hc : c = '*'
      · subst hc; simp only [decide_true]; exact ih2
      · simp only [hc, decide_false]; rw [ih1, afterSS_cons z G c cs hc]
    refine ⟨hfalse, ?_⟩
    rw [afterSS_star, hcons]
    by_cases hc : c = '/'
    · simp [hc]
    · simp only [Bool.true_and, decide_eq_true_eq, hc, if_false]
      rw [← hfalse, hcons]
      simp

theorem skipBlock_afterSS (cs : List Char) : skipBlock false cs = afterSS none skipGround cs :=
  (block_walk skipBlock none skipGround (fun _ => by rw [skipBlock]) (fun _ _ _ => by rw [skipBlock]) cs).1

theorem skipBlock_found (cs s r : List Char) (h : findSS cs = some (s, r)) : skipBlock false cs = skipGround r := by
  rw [skipBlock_afterSS, afterSS, h]

theorem skipBlock_none (cs : List Char) (h : findSS cs = none) : skipBlock false cs = none := by
  rw [skipBlock_afterSS, afterSS, h]

/-! ## single quotes -/

theorem scanSq_found : ∀ (s r : List Char), '\'' ∉ s → scanSq (s ++ '\'' :: r) = some (s, r) := by
  intro s
  induction s with
  | nil => intro r _; rw [List.nil_append, scanSq]; simp
  | cons d s ih =>
    intro r hs
    have hd : d ≠ '\'' := fun h => hs (by rw [h]; simp)
    simp only [List.cons_append]
    rw [scanSq, if_neg hd, ih r (fun h => hs (by simp [h]))]
    rfl

theorem scanSq_none : ∀ (s : List Char), '\'' ∉ s → scanSq s = none := by
  intro s
  induction s with
  | nil => intro _; rfl
  | cons d s ih =>
    intro hs
    have hd : d ≠ '\'' := fun h => hs (by rw [h]; simp)
    rw [scanSq, if_neg hd, ih (fun h => hs (by simp [h]))]
    rfl

theorem scanSq_split : ∀ (cs s r : List Char), scanSq cs = some (s, r) → cs = s ++ '\'' :: r ∧ '\'' ∉ s := by
  intro cs
  induction cs with
  | nil => intro s r h; simp [scanSq] at h
  | cons c cs ih =>
    intro s r h
    rw [scanSq] at h
    split at h
    · rename_i hc
      simp only [Option.some.injEq, Prod.mk.injEq] at h
      rw [← h.1, ← h.2, hc]; simp
    · rename_i hc
      cases hf : scanSq cs with
      | none => simp [hf] at h
      | some p =>
        obtain ⟨s', r'⟩ := p
        simp only [hf, Option.map_some, Option.some.injEq, Prod.mk.injEq] at h
        obtain ⟨h1, h2⟩ := ih s' r' hf
        rw [← h.1, ← h.2, h1]
        refine ⟨rfl, ?_⟩
        simp only [List.mem_cons, not_or]
        exact ⟨fun he => hc he.symm, h2⟩

theorem scanSq_none_iff (cs : List Char) (h : scanSq cs = none) : '\'' ∉ cs := by
  induction cs with
  | nil => simp
  | cons c cs ih =>
    rw [scanSq] at h
    split at h
    · cases h
    · rename_i hc
      cases hf : scanSq cs with
      | none =>
        simp only [List.mem_cons, not_or]
        exact ⟨fun he => hc he.symm, ih hf⟩
      | some p => simp [hf] at h

/-! ## every token takes at least one character -/

theorem skipLine_none (s : List Char) (hs : '\n' ∉ s) : skipLine s = some [] := by
  induction s with
  | nil => rw [skipLine]
  | cons d s ih =>
    have hd : d ≠ '\n' := fun h => hs (by rw [h]; simp)
    rw [skipLine, if_neg hd]
    exact ih (fun h => hs (by simp [h]))

/-- induction over `skipGround`, by what stands in front of the text: white space, the first character of a
token, a `//` comment with or without its line feed, a `/*` comment with or without its `*/` -/
theorem skipGround_ind {P : List Char → Option (List Char) → Prop}
    (nil : P [] (some []))
    (blank : ∀ c r, isSpace c = true → P r (skipGround r) → P (c :: r) (skipGround r))
    (tok : ∀ c r, isSpace c = false → c ≠ '/' → P (c :: r) (some (c :: r)))
    (slash : ∀ r, (∀ c r', r = c :: r' → c ≠ '/' ∧ c ≠ '*') → P ('/' :: r) (some ('/' :: r)))
    (line : ∀ s r, '\n' ∉ s → P r (skipGround r) → P ('/' :: '/' :: (s ++ '\n' :: r)) (skipGround r))
    (lineEnd : ∀ s, '\n' ∉ s → P ('/' :: '/' :: s) (some []))
    (unclosed : ∀ r, findSS r = none → P ('/' :: '*' :: r) none)
    (block : ∀ r1 s r, findSS r1 = some (s, r) → P r (skipGround r) → P ('/' :: '*' :: r1) (skipGround r))
    (cs : List Char) : P cs (skipGround cs) := by
  generalize hn : cs.length = n
  induction n using Nat.strongRecOn generalizing cs with
  | _ n ih =>
    cases cs with
    | nil => rw [skipGround]; exact nil
    | cons c cs' =>
      simp only [List.length_cons] at hn
      by_cases hsp : isSpace c = true
      · rw [skipGround, if_pos hsp]
        exact blank c cs' hsp (ih cs'.length (by omega) cs' rfl)
      · have hsp' : isSpace c = false := by simpa using hsp
        by_cases hc : c = '/'
        · subst hc
          rw [skipGround_slash]
          cases cs' with
          | nil => rw [afterSlash]; exact slash [] (fun c r h => by cases h)
          | cons d r1 =>
            by_cases hd1 : d = '/'
            · subst hd1
              rw [afterSlash_line]
              by_cases hnl : '\n' ∈ r1
              · obtain ⟨s0, r2, hr1, hs0⟩ := List.eq_append_cons_of_mem hnl
                subst hr1
                rw [skipLine_found s0 r2 hs0]
                exact line s0 r2 hs0 (ih r2.length (by
                  simp only [List.length_cons, List.length_append] at hn; omega) r2 rfl)
              · rw [skipLine_none r1 hnl]; exact lineEnd r1 hnl
            · by_cases hd2 : d = '*'
              · subst hd2
                rw [afterSlash_block]
                cases hf : findSS r1 with
                | none => rw [skipBlock_none r1 hf]; exact unclosed r1 hf
                | some p =>
                  obtain ⟨s0, r2⟩ := p
                  rw [skipBlock_found r1 s0 r2 hf]
                  have hsp2 := findSS_split r1.length r1 (Nat.le_refl _) s0 r2 hf
                  exact block r1 s0 r2 hf (ih r2.length (by
                    rw [hsp2] at hn; simp only [List.length_cons, List.length_append] at hn; omega) r2 rfl)
              · have hd : ∀ c' r', d :: r1 = c' :: r' → c' ≠ '/' ∧ c' ≠ '*' := fun c' r' he => by
                  simp only [List.cons.injEq] at he; rw [← he.1]; exact ⟨hd1, hd2⟩
                rw [afterSlash_token (d :: r1) hd]
                exact slash (d :: r1) hd
        · rw [skipGround_token c cs' hsp' hc]; exact tok c cs' hsp' hc

theorem skipGround_some (cs r : List Char) (h : skipGround cs = some r) :
    r <:+ cs ∧ ∀ c r', r = c :: r' → isSpace c = false := by
  revert r
  refine skipGround_ind (P := fun cs o => ∀ r, o = some r → r <:+ cs ∧ ∀ c r', r = c :: r' → isSpace c = false)
    ?_ ?_ ?_ ?_ ?_ ?_ ?_ ?_ cs
  · intro r h; cases h; exact ⟨List.suffix_refl _, fun c r' h => by cases h⟩
  · intro c r _ ih x h; exact ⟨(ih x h).1.trans (List.suffix_cons c r), (ih x h).2⟩
  · intro c r hs _ x h; cases h; exact ⟨List.suffix_refl _, fun c' r' he => by cases he; exact hs⟩
  · intro r _ x h; cases h; exact ⟨List.suffix_refl _, fun c' r' he => by cases he; rfl⟩
  · intro s r _ ih x h; exact ⟨(ih x h).1.trans ⟨'/' :: '/' :: (s ++ ['\n']), by simp⟩, (ih x h).2⟩
  · intro s _ x h; cases h; exact ⟨List.nil_suffix, fun c r' h => by cases h⟩
  · intro r _ x h; cases h
  · intro r1 s r hf ih x h
    have := findSS_split r1.length r1 (Nat.le_refl _) s r hf
    exact ⟨(ih x h).1.trans ⟨'/' :: '*' :: (s ++ ['*', '/']), by rw [this]; simp⟩, (ih x h).2⟩

theorem scanDq_suffix : ∀ (n : Nat) (cs : List Char), cs.length ≤ n → ∀ (s : List QItem) (r : List Char),
    scanDq cs = some (s, r) → r <:+ cs := by
  intro n
  induction n with
  | zero =>
    intro cs hn s r h
    have : cs = [] := List.eq_nil_of_length_eq_zero (by omega)
    subst this; simp [scanDq] at h
  | succ n ih =>
    intro cs hn s r h
    cases cs with
    | nil => simp [scanDq] at h
    | cons c cs =>
      unfold scanDq at h
      split at h
      · simp only [Option.some.injEq, Prod.mk.injEq] at h
        rw [← h.2]; exact List.suffix_cons c cs
      · split at h
        · split at h
          · cases h
          · rename_i e r0
            cases hs : scanDq r0 with
            | none => simp [hs] at h
            | some p =>
              obtain ⟨s', r'⟩ := p
              simp only [hs, Option.map_some, Option.some.injEq, Prod.mk.injEq] at h
              have := ih r0 (by simp only [List.length_cons] at hn; omega) s' r' hs
              rw [← h.2]; exact this.trans ((List.suffix_cons e r0).trans (List.suffix_cons c _))
        · cases hs : scanDq cs with
          | none => simp [hs] at h
          | some p =>
            obtain ⟨s', r'⟩ := p
            simp only [hs, Option.map_some, Option.some.injEq, Prod.mk.injEq] at h
            have := ih cs (by simp only [List.length_cons] at hn; omega) s' r' hs
            rw [← h.2]; exact this.trans (List.suffix_cons c cs)

theorem delim_cases (c : Char) (hc : isSpace c = false) :
    c = ';' ∨ c = '{' ∨ c = '}' ∨ c = '\'' ∨ c = '"' ∨ isDelim c = false := by
  simp only [isDelim, hc, Bool.false_or, Bool.or_eq_false_iff, decide_eq_false_iff_not]
  by_cases h1 : c = ';'
  · exact Or.inl h1
  by_cases h2 : c = '{'
  · exact Or.inr (Or.inl h2)
  by_cases h3 : c = '}'
  · exact Or.inr (Or.inr (Or.inl h3))
  by_cases h4 : c = '\''
  · exact Or.inr (Or.inr (Or.inr (Or.inl h4)))
  by_cases h5 : c = '"'
  · exact Or.inr (Or.inr (Or.inr (Or.inr (Or.inl h5))))
  · exact Or.inr (Or.inr (Or.inr (Or.inr (Or.inr ⟨⟨⟨⟨h1, h2⟩, h3⟩, h5⟩, h4⟩))))

theorem tokAt_suffix (c : Char) (r : List Char) (hc : isSpace c = false) (tk : Tok) (rest : List Char)
    (h : tokAt c r = some (tk, rest)) :
    rest <:+ r ∧ ∀ s, tk = .unq s → s ≠ [] ∧ s = (c :: r).takeWhile (fun x => !isDelim x) := by
  have punct : ∀ tk', some (tk', r) = some (tk, rest) → (∀ s, tk' ≠ .unq s) →
      rest <:+ r ∧ ∀ s, tk = .unq s → s ≠ [] ∧ s = (c :: r).takeWhile (fun x => !isDelim x) := by
    intro tk' he hn; cases he; exact ⟨List.suffix_refl _, fun s hs => absurd hs (hn s)⟩
  rcases delim_cases c hc with rfl | rfl | rfl | rfl | rfl | hd
  · exact punct .semi h (fun _ he => by cases he)
  · exact punct .lbrace h (fun _ he => by cases he)
  · exact punct .rbrace h (fun _ he => by cases he)
  · rw [tokAt_sq] at h
    cases hs : scanSq r with
    | none => rw [hs] at h; cases h
    | some p =>
      rw [hs] at h; cases h
      exact ⟨⟨p.1 ++ ['\''], by rw [(scanSq_split r p.1 p.2 hs).1]; simp⟩, fun s he => by cases he⟩
  · rw [tokAt_dq] at h
    cases hs : scanDq r with
    | none => rw [hs] at h; cases h
    | some p =>
      rw [hs] at h; cases h
      exact ⟨scanDq_suffix r.length r (Nat.le_refl _) p.1 p.2 hs, fun s he => by cases he⟩
  · rw [tokAt_unq c r hd] at h; cases h
    have ht : (c :: r).takeWhile (fun x => !isDelim x) = c :: r.takeWhile (fun x => !isDelim x) := by
      simp [List.takeWhile_cons, hd]
    have hdr : (c :: r).dropWhile (fun x => !isDelim x) = r.dropWhile (fun x => !isDelim x) := by
      simp [List.dropWhile_cons, hd]
    rw [hdr]
    exact ⟨List.dropWhile_suffix _, fun s he => by cases he; rw [ht]; exact ⟨by simp, rfl⟩⟩

theorem specNext_some (n : Nat) (cs : List Char) (t : PTok) (rest : List Char)
    (h : specNext n cs = some (some (t, rest))) :
    ∃ sk c r, skipGround cs = some (c :: r) ∧ cs = sk ++ c :: r ∧ isSpace c = false ∧
      t.off = n - (r.length + 1) ∧ tokAt c r = some (t.tok, rest) := by
  cases hg : skipGround cs with
  | none => rw [specNext, hg] at h; cases h
  | some l =>
    obtain ⟨⟨sk, hsk⟩, hhead⟩ := skipGround_some cs l hg
    cases l with
    | nil => rw [specNext, hg] at h; cases h
    | cons c r =>
      rw [specNext_eq n hg] at h
      cases ht : tokAt c r with
      | none => rw [ht] at h; cases h
      | some p => rw [ht] at h; cases h; exact ⟨sk, c, r, rfl, hsk.symm, hhead c r rfl, rfl, ht⟩

/-- a token takes at least one character; its offset lies inside the text -/
theorem specNext_lt (n : Nat) (cs : List Char) (t : PTok) (rest : List Char)
    (h : specNext n cs = some (some (t, rest))) : rest.length < cs.length ∧ t.off ≤ n := by
  obtain ⟨sk, c, r, _, hcs, hc, hoff, ht⟩ := specNext_some n cs t rest h
  have := (tokAt_suffix c r hc _ rest ht).1.length_le
  rw [hcs, hoff, List.length_append, List.length_cons]
  omega

theorem tokensAux_succ (n f : Nat) (cs : List Char) :
    tokensAux n (f + 1) cs =
      match specNext n cs with
      | none => none
      | some none => some []
      | some (some (t, r)) => (tokensAux n f r).map (t :: ·) := by
  rw [tokensAux]
  cases hg : skipGround cs with
  | none => rw [specNext, hg]; rfl
  | some l =>
    cases l with
    | nil => rw [specNext, hg]; rfl
    | cons c r =>
      rw [specNext_eq n hg]
      rcases delim_cases c ((skipGround_some cs _ hg).2 c r rfl) with rfl | rfl | rfl | rfl | rfl | hd
      · rfl
      · rfl
      · rfl
      · rw [tokAt_sq]
        simp only [Char.reduceEq, reduceIte]
        cases scanSq r with
        | none => rfl
        | some p => rfl
      · rw [tokAt_dq]
        simp only [Char.reduceEq, reduceIte]
        cases scanDq r with
        | none => rfl
        | some p => rfl
      · rw [tokAt_unq c r hd]
        simp only [isDelim, Bool.or_eq_false_iff, decide_eq_false_iff_not] at hd
        simp only [hd, if_false]
        rfl

theorem tokensAux_scanAll (n : Nat) : ∀ (f : Nat) (cs : List Char),
    tokensAux n f cs = if (scanAll n f cs).2 then some (scanAll n f cs).1 else none := by
  intro f
  induction f with
  | zero => intro cs; simp [tokensAux, scanAll]
  | succ f ih =>
    intro cs
    rw [tokensAux_succ]
    unfold scanAll
    cases specNext n cs with
    | none => rfl
    | some o =>
      cases o with
      | none => rfl
      | some p =>
        obtain ⟨t, r⟩ := p
        simp only
        rw [ih r]
        split <;> simp

/-- more fuel than characters + 1 changes nothing -/
theorem tokensAux_fuel (n : Nat) : ∀ (f : Nat) (cs : List Char), cs.length + 1 ≤ f →
    tokensAux n (f + 1) cs = tokensAux n f cs := by
  intro f
  induction f with
  | zero => intro cs h; omega
  | succ f ih =>
    intro cs h
    rw [tokensAux_succ n (f + 1) cs, tokensAux_succ n f cs]
    cases hs : specNext n cs with
    | none => rfl
    | some o =>
      cases o with
      | none => rfl
      | some p =>
        obtain ⟨t, r⟩ := p
        simp only
        have := (specNext_lt n cs t r hs).1
        rw [ih r (by omega)]

/-! ## a line feed appended to the text (`newLexer` does that) changes no token -/

/-- what is left after skipping, when a line feed is appended to the text -/
def withNL (r : List Char) : List Char := if r = [] then [] else r ++ ['\n']

theorem findSS_nl : ∀ (n : Nat) (cs : List Char), cs.length ≤ n →
    findSS (cs ++ ['\n']) = (findSS cs).map fun p => (p.1, p.2 ++ ['\n']) := by
  intro n
  induction n with
  | zero =>
    intro cs hn
    have : cs = [] := List.eq_nil_of_length_eq_zero (by omega)
    subst this; simp [findSS]
  | succ n ih =>
    intro cs hn
    cases cs with
    | nil => simp [findSS]
    | cons c cs =>
      cases cs with
      | nil =>
        simp only [List.cons_append, List.nil_append]
        rw [findSS]
        simp [findSS]
      | cons d r =>
        simp only [List.cons_append]
        rw [findSS, findSS]
        split
        · simp
        · have := ih (d :: r) (by simp only [List.length_cons] at hn ⊢; omega)
          simp only [List.cons_append] at this
          rw [this]
          cases findSS (d :: r) <;> simp

theorem skipGround_nl (cs : List Char) : skipGround (cs ++ ['\n']) = (skipGround cs).map withNL := by
  refine skipGround_ind (P := fun cs o => skipGround (cs ++ ['\n']) = o.map withNL) ?_ ?_ ?_ ?_ ?_ ?_ ?_ ?_ cs
  · rw [List.nil_append, skipGround, skipGround]
    simp [isSpace, withNL]
  · intro c r hs ih
    rw [List.cons_append, skipGround, if_pos hs]; exact ih
  · intro c r hs hc
    rw [List.cons_append, skipGround_token c _ hs hc]
    simp [withNL]
  · intro r h
    rw [List.cons_append, skipGround_slash, afterSlash_token (r ++ ['\n']) (fun c r' he => by
      cases r with
      | nil => cases he; exact ⟨by decide, by decide⟩
      | cons d r1 => cases he; exact h c r1 rfl)]
    simp [withNL]
  · intro s r hs ih
    have : '/' :: '/' :: (s ++ '\n' :: r) ++ ['\n'] = '/' :: '/' :: (s ++ '\n' :: (r ++ ['\n'])) := by simp
    rw [this, skipGround_slash, afterSlash_line, skipLine_found s _ hs]; exact ih
  · intro s hs
    rw [List.cons_append, List.cons_append, skipGround_slash, afterSlash_line, skipLine_found s [] hs, skipGround]
    simp [withNL]
  · intro r hf
    rw [List.cons_append, List.cons_append, skipGround_slash, afterSlash_block,
      skipBlock_none _ (by rw [findSS_nl r.length r (Nat.le_refl _), hf]; rfl)]
    rfl
  · intro r1 s r hf ih
    rw [List.cons_append, List.cons_append, skipGround_slash, afterSlash_block,
      skipBlock_found (r1 ++ ['\n']) s (r ++ ['\n']) (by rw [findSS_nl r1.length r1 (Nat.le_refl _), hf]; rfl)]
    exact ih

theorem scanSq_nl : ∀ (cs : List Char),
    scanSq (cs ++ ['\n']) = (scanSq cs).map fun p => (p.1, p.2 ++ ['\n']) := by
  intro cs
  induction cs with
  | nil => simp [scanSq]
  | cons c cs ih =>
    simp only [List.cons_append]
    rw [scanSq, scanSq]
    split
    · simp
    · rw [ih]; cases scanSq cs <;> simp

theorem scanDq_nl : ∀ (n : Nat) (cs : List Char), cs.length ≤ n →
    scanDq (cs ++ ['\n']) = (scanDq cs).map fun p => (p.1, p.2 ++ ['\n']) := by
  intro n
  induction n with
  | zero =>
    intro cs hn
    have : cs = [] := List.eq_nil_of_length_eq_zero (by omega)
    subst this; simp [scanDq]
  | succ n ih =>
    intro cs hn
    cases cs with
    | nil => simp [scanDq]
    | cons c cs =>
      simp only [List.cons_append]
      by_cases hq : c = '"'
      · subst hq; unfold scanDq; simp
      · by_cases hb : c = '\\'
        · subst hb
          cases cs with
          | nil => simp [scanDq]
          | cons e r0 =>
            simp only [List.cons_append]
            have := ih r0 (by simp only [List.length_cons] at hn; omega)
            conv => lhs; unfold scanDq
            conv => rhs; unfold scanDq
            simp only [show ('\\' : Char) ≠ '"' by decide, if_false, if_true]
            rw [this]
            cases scanDq r0 <;> simp
        · have := ih cs (by simp only [List.length_cons] at hn; omega)
          conv => lhs; unfold scanDq
          conv => rhs; unfold scanDq
          simp only [hq, hb, if_false]
          rw [this]
          cases scanDq cs <;> simp

theorem takeWhile_snoc_neg {α : Type} (p : α → Bool) (x : α) (hx : p x = false) : ∀ (l : List α),
    (l ++ [x]).takeWhile p = l.takeWhile p ∧ (l ++ [x]).dropWhile p = l.dropWhile p ++ [x] := by
  intro l
  induction l with
  | nil => simp [List.takeWhile_cons, List.dropWhile_cons, hx]
  | cons a l ih =>
    simp only [List.cons_append, List.takeWhile_cons, List.dropWhile_cons]
    split
    · exact ⟨by rw [ih.1], ih.2⟩
    · exact ⟨rfl, rfl⟩

theorem tokAt_nl (c : Char) (r : List Char) (hc : isSpace c = false) :
    tokAt c (r ++ ['\n']) = (tokAt c r).map fun p => (p.1, p.2 ++ ['\n']) := by
  rcases delim_cases c hc with rfl | rfl | rfl | rfl | rfl | hd
  · rfl
  · rfl
  · rfl
  · rw [tokAt_sq, tokAt_sq, scanSq_nl]; cases scanSq r <;> rfl
  · rw [tokAt_dq, tokAt_dq, scanDq_nl r.length r (Nat.le_refl _)]; cases scanDq r <;> rfl
  · have h := takeWhile_snoc_neg (fun x => !isDelim x) '\n' (by decide) (c :: r)
    rw [tokAt_unq c _ hd, tokAt_unq c _ hd, ← List.cons_append, h.1, h.2]
    rfl

theorem specNext_nl (n : Nat) (cs : List Char) :
    specNext (n + 1) (cs ++ ['\n']) =
      match specNext n cs with
      | none => none
      | some none => some none
      | some (some (t, rest)) => some (some (t, rest ++ ['\n'])) := by
  cases hg : skipGround cs with
  | none => rw [specNext, specNext, skipGround_nl, hg]; rfl
  | some l =>
    cases l with
    | nil => rw [specNext, specNext, skipGround_nl, hg]; rfl
    | cons c r =>
      have hg' : skipGround (cs ++ ['\n']) = some (c :: (r ++ ['\n'])) := by rw [skipGround_nl, hg]; rfl
      have hoff : n + 1 - ((r ++ ['\n']).length + 1) = n - (r.length + 1) := by
        rw [List.length_append, List.length_singleton]; omega
      rw [specNext_eq _ hg', specNext_eq _ hg, tokAt_nl c r ((skipGround_some cs _ hg).2 c r rfl), hoff]
      cases tokAt c r <;> rfl

theorem tokensAux_nl (n : Nat) : ∀ (f : Nat) (cs : List Char),
    tokensAux (n + 1) f (cs ++ ['\n']) = tokensAux n f cs := by
  intro f
  induction f with
  | zero => intro cs; simp [tokensAux]
  | succ f ih =>
    intro cs
    rw [tokensAux_succ, tokensAux_succ, specNext_nl]
    cases specNext n cs with
    | none => rfl
    | some o =>
      cases o with
      | none => rfl
      | some p =>
        obtain ⟨t, r⟩ := p
        simp only
        rw [ih r]

/-- the tokens of the text with a line feed appended are the tokens of the text -/
theorem tokenize_nl (text : List Char) : tokenize (text ++ ['\n']) = tokenize text := by
  unfold tokenize
  rw [List.length_append, List.length_cons, List.length_nil, Nat.zero_add, tokensAux_nl]
  exact tokensAux_fuel text.length (text.length + 1) text (Nat.le_refl _)

/-! ## a token's offset is where its first character stands -/

/-- the offset of a token is the number of characters before its first character, and an unquoted
token (every keyword is one) is not empty and is the text from there up to the next delimiter -/
theorem specNext_off (text pre cs : List Char) (ht : text = pre ++ cs) (t : PTok) (rest : List Char)
    (h : specNext text.length cs = some (some (t, rest))) :
    ∃ pre', text = pre' ++ rest ∧ rest <:+ cs ∧ t.off < text.length ∧
      ∀ s, t.tok = .unq s → s ≠ [] ∧ s = (text.drop t.off).takeWhile (fun x => !isDelim x) := by
  obtain ⟨sk, c, r, _, hcs, hc, hoff, htk⟩ := specNext_some text.length cs t rest h
  obtain ⟨⟨a, ha⟩, hunq⟩ := tokAt_suffix c r hc _ rest htk
  have htext : text = (pre ++ sk) ++ c :: r := by rw [ht, hcs, List.append_assoc]
  have hoff' : t.off = (pre ++ sk).length := by
    rw [hoff, htext]; simp only [List.length_append, List.length_cons]; omega
  refine ⟨pre ++ sk ++ c :: a, ?_, ⟨sk ++ c :: a, by rw [hcs, ← ha]; simp⟩, ?_, ?_⟩
  · rw [htext, ← ha]; simp
  · rw [hoff', htext]; simp only [List.length_append, List.length_cons]; omega
  · rw [hoff', htext, List.drop_left']
    · exact hunq
    · rfl

theorem tokensAux_keyword_start (text : List Char) : ∀ (f : Nat) (pre cs : List Char) (toks : List PTok),
    text = pre ++ cs → tokensAux text.length f cs = some toks →
    ∀ t ∈ toks, t.off < text.length ∧
      ∀ s, t.tok = .unq s → s ≠ [] ∧ s = (text.drop t.off).takeWhile (fun x => !isDelim x) := by
  intro f
  induction f with
  | zero => intro pre cs toks _ h; simp [tokensAux] at h
  | succ f ih =>
    intro pre cs toks ht h
    rw [tokensAux_succ] at h
    cases hs : specNext text.length cs with
    | none => rw [hs] at h; cases h
    | some o =>
      cases o with
      | none => rw [hs] at h; injection h with h; rw [← h]; intro t htm; cases htm
      | some p =>
        obtain ⟨t0, r⟩ := p
        rw [hs] at h
        simp only at h
        obtain ⟨pre', hp', _, hlt, hunq⟩ := specNext_off text pre cs ht t0 r hs
        cases hr : tokensAux text.length f r with
        | none => rw [hr] at h; cases h
        | some ts =>
          rw [hr] at h
          simp only [Option.map_some, Option.some.injEq] at h
          rw [← h]
          intro t htm
          simp only [List.mem_cons] at htm
          rcases htm with htm | htm
          · rw [htm]; exact ⟨hlt, hunq⟩
          · exact ih pre' r ts hp' hr t htm

/-- every token of a text starts inside the text, and an unquoted one is the non-empty run of
characters from its offset up to the next delimiter -/
theorem tokenize_keyword_start (text : List Char) (toks : List PTok) (h : tokenize text = some toks) :
    ∀ t ∈ toks, t.off < text.length ∧
      ∀ s, t.tok = .unq s → s ≠ [] ∧ s = (text.drop t.off).takeWhile (fun x => !isDelim x) :=
  tokensAux_keyword_start text _ [] text toks rfl h

/-! ## positions depend on the text before the offset only -/

theorem tokensAux_off (n : Nat) : ∀ (f : Nat) (cs : List Char) (toks : List PTok),
    tokensAux n f cs = some toks → ∀ t ∈ toks, t.off ≤ n := by
  intro f
  induction f with
  | zero => intro cs toks h; simp [tokensAux] at h
  | succ f ih =>
    intro cs toks h
    rw [tokensAux_succ] at h
    cases hs : specNext n cs with
    | none => rw [hs] at h; cases h
    | some o =>
      cases o with
      | none => rw [hs] at h; injection h with h; rw [← h]; intro t ht; cases ht
      | some p =>
        obtain ⟨t0, r⟩ := p
        rw [hs] at h
        simp only at h
        cases hr : tokensAux n f r with
        | none => rw [hr] at h; cases h
        | some ts =>
          rw [hr] at h
          simp only [Option.map_some, Option.some.injEq] at h
          rw [← h]
          intro t ht
          simp only [List.mem_cons] at ht
          rcases ht with ht | ht
          · rw [ht]; exact (specNext_lt n cs t0 r hs).2
          · exact ih r ts hr t ht

section congr
variable (text1 text2 : List Char) (N : Nat) (hsame : ∀ off, off ≤ N → text1.take off = text2.take off)
include hsame

theorem lineOf_congr (off : Nat) (h : off ≤ N) : lineOf text1 off = lineOf text2 off := by
  unfold lineOf; rw [hsame off h]

theorem colOf_congr (off : Nat) (h : off ≤ N) : colOf text1 off = colOf text2 off := by
  unfold colOf; rw [hsame off h]

theorem quoteCol_congr (off : Nat) (h : off ≤ N) : quoteCol text1 off = quoteCol text2 off := by
  unfold quoteCol; rw [hsame off h]

theorem piece_congr (b : Bool) (t : PTok) (h : t.off ≤ N) : piece text1 b t = piece text2 b t := by
  obtain ⟨tok, off⟩ := t
  cases tok <;> simp only [piece]
  rw [quoteCol_congr text1 text2 N hsame off h]

theorem concatTail_congr (b : Bool) : ∀ (n : Nat) (ts : List PTok), ts.length ≤ n → (∀ t ∈ ts, t.off ≤ N) →
    concatTail text1 b ts = concatTail text2 b ts := by
  intro n
  induction n with
  | zero =>
    intro ts hn _
    have : ts = [] := List.eq_nil_of_length_eq_zero (by omega)
    subst this; simp [concatTail]
  | succ n ih =>
    intro ts hn hoff
    cases ts with
    | nil => simp [concatTail]
    | cons p ts1 =>
      cases ts1 with
      | nil => simp [concatTail]
      | cons q ts2 =>
        simp only [concatTail]
        rw [piece_congr text1 text2 N hsame b q (hoff q (by simp)),
          ih ts2 (by simp only [List.length_cons] at hn; omega) (fun t ht => hoff t (by simp [ht]))]

theorem argument_congr (b : Bool) (ts : List PTok) (hoff : ∀ t ∈ ts, t.off ≤ N) :
    argument text1 b ts = argument text2 b ts := by
  cases ts with
  | nil => simp [argument]
  | cons t ts' =>
    have h1 := piece_congr text1 text2 N hsame b t (hoff t (by simp))
    have h2 := concatTail_congr text1 text2 N hsame b ts'.length ts' (Nat.le_refl _)
      (fun x hx => hoff x (by simp [hx]))
    cases hk : t.tok <;> simp only [argument, hk, h1, h2]

end congr

end Goyang.Lemmas.Scan
