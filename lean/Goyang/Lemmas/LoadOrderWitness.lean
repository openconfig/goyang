import Goyang.Lemmas.Find
import Goyang.Lemmas.LoadOrderKept
/-
Load-order independence (C05): tools for evaluating `processFiles` (the real pipeline, `plugFull`)
on a concrete witness.  Two places do not reduce in the kernel — the legacy `String.splitOn` in
`outside` and `String.contains` in the typedef collection of the type layer; they are discharged
here by lemmas (`split_colon_length`, `plugFull_noTypedefs`), the rest is kernel evaluation.
Imports one Mathlib module through `Lemmas.Find` (`List.splitOn`).
-/
namespace Goyang.Lemmas.LoadOrder
open Goyang.Model

/-- A keyword without a colon is not an extension keyword. -/
theorem split_colon_length (kw : String) (h : ':' ∉ kw.toList) : (kw.splitOn ":").length = 1 := by
  rw [Goyang.Lemmas.Find.colon_eq, Goyang.Lemmas.Find.splitOn_char, List.length_map, List.splitOn,
    List.splitOnP_eq_singleton]
  · rfl
  · intro x hx
    simp
    rintro rfl
    exact h hx

/-- `plugFull` with the typedef errors known to be none. -/
def plugNoTd (r : Registry) : Plug :=
  { tres := (plugFull r).tres, identityErrs := (plugFull r).identityErrs, typedefErrs := fun _ => [] }

/-- A registry whose modules define no typedef: `resolveTypedefs` has nothing to report. -/
theorem plugFull_noTypedefs (r : Registry) (h : ∀ m ∈ r.mods, Types.dictTypedefs m = []) :
    plugFull r = plugNoTd r := by
  have e : plugFull r = ⟨(plugFull r).tres, (plugFull r).identityErrs, (plugFull r).typedefErrs⟩ := rfl
  have ht : (plugFull r).typedefErrs = fun _ => [] := by
    funext r'
    show (Types.resolveAllTypedefsE (Types.Env.of r)).map normTypeErr = []
    unfold Types.resolveAllTypedefsE
    have hr : (Types.Env.of r).reg = r := rfl
    rw [hr]
    have : (r.mods.flatMap fun m =>
        (Types.dictTypedefs m).flatMap fun (td, scope) =>
          (Types.resolveTypedefF (Types.Env.of r) (Types.Env.of r).fuel m scope td).errs) = [] := by
      rw [List.flatMap_eq_nil_iff]
      intro m hm
      rw [h m hm]
      rfl
    rw [this]
    rfl
  rw [e, ht]
  rfl

mutual
def noTypedef : Stmt → Bool
  | .mk kw _ _ _ _ _ subs => kw != "typedef" && noTypedefL subs
def noTypedefL : List Stmt → Bool
  | [] => true
  | s :: rest => noTypedef s && noTypedefL rest
end

theorem noTypedefL_mem : ∀ {l : List Stmt}, noTypedefL l = true → ∀ x ∈ l, noTypedef x = true
  | _ :: _, h, x, hx => by
    rw [noTypedefL, Bool.and_eq_true] at h
    rcases List.mem_cons.mp hx with rfl | hx
    · exact h.1
    · exact noTypedefL_mem h.2 x hx

mutual
theorem collect_noTypedef (kws : List String) : ∀ (up : List Stmt) (s : Stmt), noTypedef s = true →
    ∀ p ∈ Types.collect kws up s, noTypedef p.1 = true
  | up, .mk kw ha a f l c subs, h, p, hp => by
    rw [Types.collect] at hp
    split at hp
    · cases hp
    · rcases List.mem_append.mp hp with hp | hp
      · split at hp
        · rw [List.mem_singleton.mp hp]; exact h
        · cases hp
      · rw [noTypedef, Bool.and_eq_true] at h
        exact collectL_noTypedef kws _ subs h.2 p hp
theorem collectL_noTypedef (kws : List String) : ∀ (up : List Stmt) (l : List Stmt), noTypedefL l = true →
    ∀ p ∈ Types.collectL kws up l, noTypedef p.1 = true
  | _, [], _, _, hp => by rw [Types.collectL] at hp; cases hp
  | up, s :: rest, h, p, hp => by
    rw [noTypedefL, Bool.and_eq_true] at h
    rw [Types.collectL] at hp
    rcases List.mem_append.mp hp with hp | hp
    · exact collect_noTypedef kws up s h.1 p hp
    · exact collectL_noTypedef kws up rest h.2 p hp
end

theorem dictTypedefs_noTypedef (m : Mod) (h : noTypedef m.stmt = true) : Types.dictTypedefs m = [] := by
  unfold Types.dictTypedefs
  rw [List.flatMap_eq_nil_iff]
  rintro ⟨n, up⟩ hp
  have hn := collect_noTypedef _ _ _ h _ hp
  have : n.all "typedef" = [] := by
    cases n with | mk kw ha a f l c subs =>
    rw [noTypedef, Bool.and_eq_true] at hn
    rw [Stmt.all, List.filter_eq_nil_iff]
    intro x hx hk
    have := noTypedefL_mem hn.2 x hx
    cases x with | mk kw' _ _ _ _ _ subs' =>
    rw [noTypedef, Bool.and_eq_true] at this
    exact absurd (beq_iff_eq.mp hk) (bne_iff_ne.mp this.1)
  simp only [this, List.filter_nil, List.map_nil]

theorem loadAll_mods_sub (ss : List Stmt) : ∀ m ∈ (Registry.loadAll ss).1.mods, m.stmt ∈ ss := by
  intro m hm
  rw [loadAll_kept] at hm
  exact kept_sub ss _ ((linv_loadAll _ (kept_noAt ss) (kept_nodup ss)).inv.src m hm)

theorem processFiles_noTypedefs (opts : Opts) {files : List SrcFile} {loads : List Stmt}
    (hin : (files.findSome? fun f => outsideL "" f.stmts) = none)
    (hreg : loadFiles files = (Registry.loadAll loads).1)
    (htd : ∀ s ∈ loads, noTypedef s = true) :
    processFiles opts files =
      .ok (processAll (Registry.loadAll loads).1 opts (plugNoTd (Registry.loadAll loads).1)) := by
  unfold processFiles
  rw [hin, hreg]
  exact congrArg (fun p => Except.ok (processAll _ opts p))
    (plugFull_noTypedefs _ fun m hm => dictTypedefs_noTypedef m (htd _ (loadAll_mods_sub loads m hm)))

end Goyang.Lemmas.LoadOrder
