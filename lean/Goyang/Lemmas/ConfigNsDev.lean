import Goyang.Lemmas.BridgeBuilt
import Goyang.Lemmas.Deviate
import Goyang.Lemmas.ListAux
/-
C12, the deviation stage and the error-free run.

`BuiltX reg ae` is `Bridge.Built'` (conversion / graft / FixChoice + the stamp-free steps of the
augment loop) with the two steps of the deviation stage:
  `retouch` — `ApplyDeviate` writes the deviated copy of the target back (`updateAt path fun _ => node'`):
              same children, same stamp, same name, same recorded errors — only §7.20.3 data (config,
              default, mandatory, min/max, units, type) may differ; the provenance stays;
  `remove`  — `deviate not-supported` unlinks the target: the removed location and everything below it
              has no placer any more, every other location keeps its placer;
and with the flag `ae` ("an error may have been recorded on a root"): the constructor `rootErr` needs
`ae = true`.  `BuiltX reg false` is the class of forests of error-free runs.

Proved here: the provenance theorem for `BuiltX` (`builtX_namespace`); every `Built'` forest is
`BuiltX true`; the deviation stage of `processAll` keeps every forest invariant that `Find`, the write-back
and the unlinking keep (`DevClosed`, `devStage_inv`), so it keeps `BuiltX true` (`devStage_builtX`, all inputs);
a `BuiltX true` forest whose visible roots carry no error is `BuiltX false` (`builtX_clean`: on an
error-free run no error was ever recorded on a root — recorded errors are never removed).  Put together:
the final forest of `processAll` is `BuiltX true` for every input (`final_builtX`) and `BuiltX false` when
the run reports no error (`processAll_builtX_clean`).  `Find` alone keeps every forest invariant that storing
a tree back, creating an absent rpc input / output and recording an error on a root keep (`find_keeps`).
`Placed` (Lemmas/ConfigNs.lean) is the property of a provenance that the provenance theorem is about;
`placed_setTree_same` and `placed_remove` are the deviation steps for it.

Last part, independent of `BuiltX`: the config a deviate statement leaves on its target
(`applyOneDeviate_config`: `add` / `replace` write the config substatement, `delete` erases it, everything
else leaves it alone; the stages of `Deviate.staged` are followed by `cfg_addReplace`, `cfg_delete`), and
`readOnlyAt_explicit`: `ReadOnly()` of a node with an explicit config that is no rpc output is that config.
-/
set_option linter.unusedVariables false
set_option linter.unusedSimpArgs false
open Goyang.Lemmas.ForestAux (tree?_setTree)
namespace Goyang.Lemmas.ConfigNsDev
open Goyang.Model Goyang.Spec.ConfigNs Goyang.Lemmas.ConfigNs Goyang.Lemmas.Bridge
open Goyang.Spec.Find (addImplicit)

/-- `loc` is the removed location `(t, path)` or lies below it. -/
def Removed (t : Nat) (path : Path) (loc : Loc) : Prop := loc.1 = t ∧ path <+: loc.2

/-- `Bridge.Built'` with the steps of the deviation stage; `ae`: root errors allowed. -/
inductive BuiltX (reg : Registry) (ae : Bool) : Forest → (Loc → Option Nat) → Prop
  | init {f : Forest} :
      (∀ id t, f.tree? id = some t → noStampBelow t = true) →
      BuiltX reg ae f (fun loc => some loc.1)
  | graft {f : Forest} {prov prov' : Loc → Option Nat} {by_ t : Nat} {path : Path} {root te a : Entry} :
      BuiltX reg ae f prov →
      f.tree? t = some root → root.getAt path = some te →
      noStampL a.dir = true →
      (∀ loc, NewBelow t path te a loc → prov' loc = some by_) →
      (∀ loc, ¬ NewBelow t path te a loc → prov' loc = prov loc) →
      BuiltX reg ae (f.setTree t (root.updateAt path fun te => te.merge (some (ownerNs reg by_)) a)) prov'
  | fix {f : Forest} {prov prov' : Loc → Option Nat} :
      BuiltX reg ae f prov →
      (∀ id root p, f.tree? id = some root → (root.getAt p).isSome →
          prov' (id, liftPath root p) = prov (id, p)) →
      (∀ loc', (¬ ∃ root p, f.tree? loc'.1 = some root ∧ (root.getAt p).isSome ∧ loc'.2 = liftPath root p) →
          prov' loc' = none) →
      BuiltX reg ae (fixAll f) prov'
  | rootErr {f : Forest} {prov : Loc → Option Nat} {t : Nat} {root : Entry} (x : Err) :
      ae = true → BuiltX reg ae f prov → f.tree? t = some root →
      BuiltX reg ae (f.setTree t (root.addErr x)) prov
  | implicit {f : Forest} {prov : Loc → Option Nat} {t : Nat} {root e : Entry} {p : Path} (isInput : Bool) :
      BuiltX reg ae f prov → f.tree? t = some root → root.getAt p = some e →
      (if isInput = true then e.inp = [] else e.out = []) →
      BuiltX reg ae (f.setTree t (root.updateAt p (addImplicit isInput))) prov
  | congr {f f' : Forest} {prov : Loc → Option Nat} :
      BuiltX reg ae f prov → (∀ id, f'.tree? id = f.tree? id) → BuiltX reg ae f' prov
  /-- the deviated copy of the target is written back: children, stamp, name, errors as before -/
  | retouch {f : Forest} {prov : Loc → Option Nat} {t : Nat} {root node node' : Entry} {path : Path} :
      BuiltX reg ae f prov → f.tree? t = some root → root.getAt path = some node →
      node'.dir = node.dir → node'.inp = node.inp → node'.out = node.out →
      node'.d.ns = node.d.ns → node'.name = node.name → node'.d.errors = node.d.errors →
      BuiltX reg ae (f.setTree t (root.updateAt path fun _ => node')) prov
  /-- `deviate not-supported`: the target is unlinked from its parent -/
  | remove {f : Forest} {prov prov' : Loc → Option Nat} {t : Nat} {root : Entry} {path : Path} :
      BuiltX reg ae f prov → f.tree? t = some root → path ≠ [] → (root.getAt path).isSome = true →
      (∀ loc, Removed t path loc → prov' loc = none) →
      (∀ loc, ¬ Removed t path loc → prov' loc = prov loc) →
      BuiltX reg ae (f.setTree t (removeAt root path)) prov'

theorem Built'.toBuiltX {reg : Registry} {f : Forest} {prov : Loc → Option Nat} (h : Built' reg f prov) :
    BuiltX reg true f prov := by
  induction h with
  | init h => exact BuiltX.init h
  | graft _ h1 h2 h3 h4 h5 ih => exact BuiltX.graft ih h1 h2 h3 h4 h5
  | fix _ h1 h2 ih => exact BuiltX.fix ih h1 h2
  | rootErr x _ h1 ih => exact BuiltX.rootErr x rfl ih h1
  | implicit b _ h1 h2 h3 ih => exact BuiltX.implicit b ih h1 h2 h3
  | congr _ h1 ih => exact BuiltX.congr ih h1

theorem BuiltX.weaken {reg : Registry} {f : Forest} {prov : Loc → Option Nat} (h : BuiltX reg false f prov) :
    BuiltX reg true f prov := by
  induction h with
  | init h => exact BuiltX.init h
  | graft _ h1 h2 h3 h4 h5 ih => exact BuiltX.graft ih h1 h2 h3 h4 h5
  | fix _ h1 h2 ih => exact BuiltX.fix ih h1 h2
  | rootErr x hae _ h1 ih => cases hae
  | implicit b _ h1 h2 h3 ih => exact BuiltX.implicit b ih h1 h2 h3
  | congr _ h1 ih => exact BuiltX.congr ih h1
  | retouch _ h1 h2 h3 h4 h5 h6 h7 h8 ih => exact BuiltX.retouch ih h1 h2 h3 h4 h5 h6 h7 h8
  | remove _ h1 h2 h3 h4 h5 ih => exact BuiltX.remove ih h1 h2 h3 h4 h5

/-- `updateAt_next` for a function that keeps the names it is applied to (`Deviate.NameStable`). -/
theorem updateAt_next' (e : Entry) (s : Step) (p : Path) (g : Entry → Entry) (hs : Deviate.NameStable (s :: p) g)
    (s' : Step) :
    next (e.updateAt (s :: p) g) s' =
      if s' = s then (next e s).map (·.updateAt p g) else next e s' := by
  refine updateAt_next_of e s p g (fun k hk x => ?_) s'
  subst hk
  exact Deviate.childMap_name hs x

/-- Writing back a copy of the target that has the same children, stamp and name changes no stamp on
any walk. -/
theorem stampGo_retouch (node node' : Entry) (hd : node'.dir = node.dir) (hi : node'.inp = node.inp)
    (ho : node'.out = node.out) (hns : node'.d.ns = node.d.ns) (hname : node'.name = node.name) :
    ∀ (path : Path) (root : Entry) (q : Path) (acc : Option String), root.getAt path = some node →
      Entry.stampAt.go (root.updateAt path fun _ => node') q acc = Entry.stampAt.go root q acc := by
  intro path
  induction path with
  | nil =>
    intro root q acc h
    simp only [Entry.getAt, Option.some.injEq] at h; subst h
    rw [updateAt_nil]
    apply stampGo_congr_next
    intro s
    cases s with
    | child k => simp only [next, Entry.child?, hd]
    | input => simp only [next, hi]
    | output => simp only [next, ho]
  | cons s path ih =>
    intro root q acc h
    cases q with
    | nil => rw [stampGo_nil, stampGo_nil]
    | cons s' q =>
      have hst : Deviate.NameStable (s :: path) (fun _ => node') :=
        Deviate.NameStable.of_pathNamed
          (Deviate.pathNamed_step hname (Deviate.pathNamed_of_getAt (s :: path) root node h))
      rw [stampGo_cons, stampGo_cons, updateAt_next' root s path _ hst]
      by_cases hs : s' = s
      · subst hs
        simp only [if_true]
        rw [getAt_cons] at h
        cases hn : next root s' with
        | none => simp [hn] at h
        | some c =>
          simp only [hn, Option.bind_some] at h
          simp only [Option.map_some]
          have hcns : (c.updateAt path fun _ => node').d.ns = c.d.ns := by
            cases path with
            | nil =>
              simp only [Entry.getAt, Option.some.injEq] at h; subst h
              rw [updateAt_nil]; exact hns
            | cons a path => rw [Deviate.updateAt_d_of_ne_nil _ _ _ (by simp)]
          rw [hcns]
          exact ih c q _ h
      · simp only [hs, if_false]

theorem stampAt_retouch (root : Entry) (path : Path) (node node' : Entry) (h : root.getAt path = some node)
    (hd : node'.dir = node.dir) (hi : node'.inp = node.inp) (ho : node'.out = node.out)
    (hns : node'.d.ns = node.d.ns) (hname : node'.name = node.name) (q : Path) :
    (root.updateAt path fun _ => node').stampAt q = root.stampAt q := by
  unfold Entry.stampAt
  exact stampGo_retouch node node' hd hi ho hns hname path root q none h

theorem dropStep_sameCN (s : Step) : ∀ x, sameCN (Deviate.dropStep s x) x := by
  intro x; rw [sameCN, Deviate.dropStep_d]; exact ⟨rfl, rfl, rfl, rfl⟩

theorem dropStep_next {s s' : Step} (h : s' ≠ s) (pe : Entry) : next (Deviate.dropStep s pe) s' = next pe s' := by
  cases pe with
  | mk d c i o =>
    cases s with
    | child k =>
      cases s' with
      | child k' =>
        have hk : k' ≠ k := fun e => h (by rw [e])
        show (c.filter (·.name != k)).find? (·.name == k') = c.find? (·.name == k')
        rw [Deviate.find_filter_ne c hk]
      | input => rfl
      | output => rfl
    | input =>
      cases s' with
      | child k' => rfl
      | input => exact absurd rfl h
      | output => rfl
    | output =>
      cases s' with
      | child k' => rfl
      | input => rfl
      | output => exact absurd rfl h

/-- Unlinking the node at `path` changes no stamp on a walk to a location that is neither the removed
one nor below it. -/
theorem stampAt_removeAt (root : Entry) (path : Path) (hne : path ≠ []) (hex : (root.getAt path).isSome = true)
    (q : Path) (hq : ¬ path <+: q) : (removeAt root path).stampAt q = root.stampAt q := by
  obtain ⟨pd, s, rfl⟩ : ∃ pd s, path = pd ++ [s] :=
    ⟨path.dropLast, path.getLast hne, (List.dropLast_concat_getLast hne).symm⟩
  rw [Deviate.removeAt_eq]
  unfold Entry.stampAt
  by_cases hpre : pd <+: q
  · obtain ⟨r, rfl⟩ := hpre
    rw [ForestAux.getAt_append] at hex
    cases hte : root.getAt pd with
    | none => simp [hte] at hex
    | some te =>
      rw [stampGo_updateAt_through root pd r _ (dropStep_sameCN s) te hte, stampGo_append root pd r none te hte]
      cases r with
      | nil => rw [stampGo_nil, stampGo_nil]
      | cons s' r =>
        have hs : s' ≠ s := by
          intro he; subst he
          exact hq ⟨r, by simp⟩
        rw [stampGo_cons, stampGo_cons, dropStep_next hs]
  · exact stampGo_updateAt_off root pd q _ (dropStep_sameCN s) hpre none

/-! ### provenance: the namespace is that of the placing module -/

section Placed
variable {reg : Registry} {f : Forest} {prov prov' : Loc → Option Nat}

theorem placed_setTree_same {t : Nat} {root root' : Entry} (ih : Placed reg f prov) (hroot : f.tree? t = some root)
    (hs : ∀ q, root'.stampAt q = root.stampAt q) : Placed reg (f.setTree t root') prov := by
  intro loc m hsome hp
  rw [namespaceAt_setTree_same reg f t root _ hroot hs]
  rw [isSome_tree?_setTree] at hsome
  exact ih loc m hsome hp

theorem placed_remove {t : Nat} {root : Entry} {path : Path} (ih : Placed reg f prov) (hroot : f.tree? t = some root)
    (hne : path ≠ []) (hex : (root.getAt path).isSome = true)
    (hgone : ∀ loc, Removed t path loc → prov' loc = none) (hkeep : ∀ loc, ¬ Removed t path loc → prov' loc = prov loc) :
    Placed reg (f.setTree t (removeAt root path)) prov' := by
  intro loc m hsome hp
  rw [isSome_tree?_setTree] at hsome
  by_cases hr : Removed t path loc
  · rw [hgone loc hr] at hp; cases hp
  · rw [hkeep loc hr] at hp
    rw [← ih loc m hsome hp]
    by_cases hl : loc.1 = t
    · have hroot0 : f.tree? loc.1 = some root := by rw [hl]; exact hroot
      rw [namespaceAt_tree reg f loc root hroot0,
        namespaceAt_tree reg _ loc (removeAt root path) (by rw [tree?_setTree, if_pos hl, hroot]; rfl)]
      unfold nsOfTree
      rw [stampAt_removeAt root path hne hex loc.2 (fun hpre => hr ⟨hl, hpre⟩)]
    · unfold namespaceAt
      rw [tree?_setTree, if_neg hl]

end Placed

/-- **C12's provenance theorem for `BuiltX`**: every location that some module's text placed (and that
no deviation removed) reports the namespace of that module (of the module it belongs to, for a
submodule) — through augments, `FixChoice` and deviations. -/
theorem builtX_namespace {reg : Registry} {ae : Bool} {f : Forest} {prov : Loc → Option Nat} (hb : BuiltX reg ae f prov) :
    ∀ (loc : Loc) (m : Nat), (f.tree? loc.1).isSome = true → prov loc = some m →
      namespaceAt reg f loc = ownerNs reg m := by
  show Placed reg f prov
  induction hb with
  | init h => exact placed_init h
  | graft _ h1 h2 h3 h4 h5 ih => exact placed_graft ih h1 h2 h3 h4 h5
  | fix _ h1 h2 ih => exact placed_fix ih h1 h2
  | rootErr x _ _ hroot ih => exact placed_setTree_same ih hroot (stampAt_addErr _ x)
  | implicit b _ hroot hg hb ih => exact placed_setTree_same ih hroot (stampAt_addImplicit _ _ _ b hg hb)
  | congr _ heq ih =>
    intro loc m hsome hp
    rw [namespaceAt_congr reg _ _ heq]
    exact ih loc m (by rw [← heq]; exact hsome) hp
  | retouch _ hroot hg hd hi ho hns hname _ ih =>
    exact placed_setTree_same ih hroot (stampAt_retouch _ _ _ _ hg hd hi ho hns hname)
  | remove _ hroot hne hex hgone hkeep ih => exact placed_remove ih hroot hne hex hgone hkeep

/-! ### an error-free run records no error on a root -/

/-- No visible tree of the forest has an error recorded on its root entry. -/
def RootsClean (f : Forest) : Prop := ∀ id t, f.tree? id = some t → t.d.errors = []

theorem rootsClean_of_setTree (f : Forest) (t : Nat) (root r' : Entry) (hroot : f.tree? t = some root)
    (himp : r'.d.errors = [] → root.d.errors = []) (h : RootsClean (f.setTree t r')) : RootsClean f := by
  intro id tr htr
  by_cases hid : id = t
  · subst hid
    rw [hroot] at htr; cases htr
    exact himp (h id r' (by rw [tree?_setTree, if_pos rfl, hroot]; rfl))
  · exact h id tr (by rw [tree?_setTree, if_neg hid]; exact htr)

theorem updateAt_root_errors (root : Entry) (path : Path) (g : Entry → Entry)
    (hg : (g root).d.errors = [] → root.d.errors = []) (h : (root.updateAt path g).d.errors = []) :
    root.d.errors = [] := by
  cases path with
  | nil => rw [updateAt_nil] at h; exact hg h
  | cons s p => rw [Deviate.updateAt_d_of_ne_nil _ _ _ (by simp)] at h; exact h

theorem retouch_root_errors (root node node' : Entry) (path : Path) (hg : root.getAt path = some node)
    (herr : node'.d.errors = node.d.errors) : (root.updateAt path fun _ => node').d.errors = root.d.errors := by
  cases path with
  | nil =>
    simp only [Entry.getAt, Option.some.injEq] at hg; subst hg
    rw [updateAt_nil, herr]
  | cons s p => rw [Deviate.updateAt_d_of_ne_nil _ _ _ (by simp)]

theorem removeAt_root_errors (root : Entry) (path : Path) (hne : path ≠ []) :
    (removeAt root path).d.errors = root.d.errors := by
  obtain ⟨pd, s, rfl⟩ : ∃ pd s, path = pd ++ [s] :=
    ⟨path.dropLast, path.getLast hne, (List.dropLast_concat_getLast hne).symm⟩
  rw [Deviate.removeAt_eq]
  cases pd with
  | nil => rw [updateAt_nil, Deviate.dropStep_d]
  | cons s' p => rw [Deviate.updateAt_d_of_ne_nil _ _ _ (by simp)]

theorem addImplicit_d (b : Bool) (e : Entry) : (addImplicit b e).d = e.d := by
  cases e; cases b <;> rfl

/-- **On an error-free run no error was recorded on a root.**  Errors recorded on a root entry are
never removed by a later step (a graft on the root appends, everything else leaves the root's own error
list alone), so a forest built with `rootErr` steps allowed whose visible roots are error-free at the
end was built without any. -/
theorem builtX_clean {reg : Registry} {f : Forest} {prov : Loc → Option Nat} (hb : BuiltX reg true f prov) :
    RootsClean f → BuiltX reg false f prov := by
  induction hb with
  | init h => intro _; exact BuiltX.init h
  | @graft f prov prov' by_ t path root te a _ h1 h2 h3 h4 h5 ih =>
    intro hc
    refine BuiltX.graft (ih (rootsClean_of_setTree f t root _ h1 ?_ hc)) h1 h2 h3 h4 h5
    intro he
    refine updateAt_root_errors root path _ ?_ he
    intro hm
    obtain ⟨xs, hxs⟩ := Tree.merge_root_errors root (some (ownerNs reg by_)) a
    rw [hxs] at hm
    simp only [List.append_eq_nil_iff] at hm
    exact hm.1.1
  | @fix f prov prov' _ h1 h2 ih =>
    intro hc
    refine BuiltX.fix (ih ?_) h1 h2
    intro id t ht
    have := hc id (fixChoice t) (by rw [tree?_fixAll, ht]; rfl)
    rw [fixChoice_d] at this; exact this
  | @rootErr f prov t root x _ _ hroot ih =>
    intro hc
    have := hc t (root.addErr x) (by rw [tree?_setTree, if_pos rfl, hroot]; rfl)
    cases root with
    | mk d c i o => simp [Entry.addErr, Entry.withD, Entry.d] at this
  | @implicit f prov t root e p b _ hroot hg hb ih =>
    intro hc
    refine BuiltX.implicit b (ih (rootsClean_of_setTree f t root _ hroot ?_ hc)) hroot hg hb
    intro he
    exact updateAt_root_errors root p _ (by rw [addImplicit_d]; exact id) he
  | @congr f f' prov _ heq ih =>
    intro hc
    exact BuiltX.congr (ih (fun id t ht => hc id t (by rw [heq]; exact ht))) heq
  | @retouch f prov t root node node' path _ hroot hg hd hi ho hns hname herr ih =>
    intro hc
    refine BuiltX.retouch (ih (rootsClean_of_setTree f t root _ hroot ?_ hc)) hroot hg hd hi ho hns hname herr
    intro he
    rwa [retouch_root_errors root node node' path hg herr] at he
  | @remove f prov prov' t root path _ hroot hne hex hgone hkeep ih =>
    intro hc
    refine BuiltX.remove (ih (rootsClean_of_setTree f t root _ hroot ?_ hc)) hroot hne hex hgone hkeep
    intro he
    rwa [removeAt_root_errors root path hne] at he

/-! ### the deviation stage -/

theorem setTree_setTree (f : Forest) (t : Nat) (a b : Entry) : (f.setTree t a).setTree t b = f.setTree t b := by
  unfold Forest.setTree
  simp only [List.map_map]
  congr 1
  apply List.map_congr_left
  rintro ⟨i, x⟩ _
  simp only [Function.comp]
  by_cases h : (i == t) = true <;> simp [h]

section FindKeeps
open Goyang.Spec.Find (Grown GrowStep)
variable {reg : Registry} {I : Forest → Prop}
  (hstore : ∀ f t root, I f → f.tree? t = some root → I (f.setTree t root))
  (himp : ∀ f t root e p b, I f → f.tree? t = some root → root.getAt p = some e → e.d.isRpc = true →
    (if b = true then e.inp = [] else e.out = []) → I (f.setTree t (root.updateAt p (addImplicit b))))
  (herr : ∀ f t root x, I f → f.tree? t = some root → I (f.setTree t (root.addErr x)))
include hstore himp

theorem grown_keeps {t : Nat} {root root' : Entry} (hg : Grown root root') :
    ∀ f, I f → f.tree? t = some root → I (f.setTree t root') := by
  induction hg with
  | refl e => exact fun f h ht => hstore f t e h ht
  | @step a b c hs _ ih =>
    intro f h ht
    have h1 : I (f.setTree t b) := by
      cases hs with
      | input p e hge hr hi => exact himp f t a e p true h ht hge hr (by simpa using hi)
      | output p e hge hr ho => exact himp f t a e p false h ht hge hr (by simpa using ho)
    have := ih _ h1 (by rw [tree?_setTree, if_pos rfl, ht]; rfl)
    rwa [setTree_setTree] at this

include herr in
/-- **`Find` keeps every forest invariant** that storing a tree back, the creation of an absent rpc
input / output and an error recorded on a root keep — whatever it is asked. -/
theorem find_keeps (f : Forest) (start : Loc) (ctx : Nat) (name : String) (h : I f) :
    I (find reg f start ctx name).2 := by
  rcases Find.frame reg f start ctx name with h1 | ⟨t, root, root', hr, hg, h1⟩ | ⟨_, h1⟩
  · rw [h1]; exact h
  · rw [h1]; exact grown_keeps hstore himp hg f h hr
  · rw [h1]
    unfold Goyang.Spec.Find.withPrefixError
    split
    · rename_i root hroot; exact herr f _ root _ h hroot
    · exact h

end FindKeeps

theorem builtX_find {reg : Registry} {f : Forest} {prov : Loc → Option Nat} (hb : BuiltX reg true f prov)
    (start : Loc) (ctx : Nat) (name : String) : BuiltX reg true (find reg f start ctx name).2 prov :=
  find_keeps (I := fun f => BuiltX reg true f prov) (fun f t root h ht => .congr h (tree?_setTree_self f t root ht))
    (fun f t root e p b h ht hg _ he => .implicit b h ht hg he) (fun f t root x h ht => .rootErr x rfl h ht)
    f start ctx name hb

/-- What the deviation stage needs of a forest invariant: kept by `Find`, by writing the deviated copy
of the target back (children, stamp, name, errors as before), and by unlinking the target. -/
structure DevClosed (reg : Registry) (I : Forest → Prop) : Prop where
  find : ∀ f start ctx name, I f → I (find reg f start ctx name).2
  retouch : ∀ f t root node node' path, I f → f.tree? t = some root → root.getAt path = some node →
    node'.dir = node.dir → node'.inp = node.inp → node'.out = node.out →
    node'.d.ns = node.d.ns → node'.name = node.name → node'.d.errors = node.d.errors →
    I (f.setTree t (root.updateAt path fun _ => node'))
  remove : ∀ f t root path, I f → f.tree? t = some root → path ≠ [] → (root.getAt path).isSome = true →
    I (f.setTree t (removeAt root path))

section DevStage
variable {reg : Registry} {I : Forest → Prop} (hI : DevClosed reg I)
include hI

/-- One deviate statement: the deviated copy is written back (`retouch`), and unlinked when it is a
`not-supported` (`remove`). -/
theorem innerStep_inv (opts : Opts) (m : Mod) (t : Nat) (path : Path)
    (acc : Forest × Entry × Bool × List Err) (ds : String × Entry)
    (hb : I acc.1) (ht : Deviate.TargetInv t path acc) (hn : Deviate.PathNamed path acc.2.1) :
    I (Deviate.innerStep opts m t path acc ds).1 := by
  obtain ⟨f, node, detached, errs⟩ := acc
  rw [Deviate.innerStep_forest]
  cases detached with
  | true => exact hb
  | false =>
    simp only [Bool.false_eq_true, if_false]
    have h1 := ht.1 rfl
    simp only at h1
    cases hroot : f.tree? t with
    | none => exact hb
    | some root =>
      rw [hroot] at h1
      simp only [Option.bind_some] at h1
      simp only []
      generalize hr : applyOneDeviate opts m.stmt ds.1 ds.2 (!path.isEmpty) node = r
      have hun := Deviate.applyOneDeviate_untouched opts m.stmt ds.1 ds.2 (!path.isEmpty) node
      have hnm := Deviate.applyOneDeviate_name opts m.stmt ds.1 ds.2 (!path.isEmpty) node
      rw [hr] at hun hnm
      simp only [Deviate.untouched, Prod.mk.injEq] at hun
      obtain ⟨u1, u2, u3, _, _, _, _, _, _, u10, u11, _⟩ := hun
      have hb1 := hI.retouch f t root node r.1 path hb hroot h1 u1 u2 u3 u10 hnm u11
      cases hrem : r.2.1 with
      | false => simp only [Bool.false_eq_true, if_false]; exact hb1
      | true =>
        simp only [if_true]
        have hp : (!path.isEmpty) = true :=
          (Deviate.applyOneDeviate_remove opts m.stmt ds.1 ds.2 (!path.isEmpty) node (by rw [hr]; exact hrem)).1
        have hne : path ≠ [] := by intro he; simp [he] at hp
        have hst : Deviate.NameStable path (fun _ => r.1) :=
          Deviate.NameStable.of_pathNamed (Deviate.pathNamed_step hnm hn)
        have hex : ((root.updateAt path fun _ => r.1).getAt path).isSome = true := by
          rw [Deviate.getAt_updateAt_self _ path hst root, h1]; rfl
        have := hI.remove _ t _ path hb1 (by rw [tree?_setTree, if_pos rfl, hroot]; rfl) hne hex
        rw [setTree_setTree] at this
        exact this

theorem innerFold_inv (opts : Opts) (m : Mod) (t : Nat) (path : Path) (ds : List (String × Entry)) :
    ∀ (acc : Forest × Entry × Bool × List Err), I acc.1 → Deviate.TargetInv t path acc →
      Deviate.PathNamed path acc.2.1 → I (ds.foldl (Deviate.innerStep opts m t path) acc).1 := by
  induction ds with
  | nil => intro acc h _ _; exact h
  | cons d ds ih =>
    intro acc hb ht hn
    simp only [List.foldl_cons]
    apply ih
    · exact innerStep_inv hI opts m t path acc d hb ht hn
    · exact Deviate.innerStep_target opts m t path acc d hn ht
    · rw [Deviate.innerStep_node]
      exact Deviate.pathNamed_step (Deviate.nodeStep_name _ _ _ _ _) hn

theorem outerStep_inv (opts : Opts) (m : Mod) (acc : Forest × List Err)
    (dv : Stmt × List (String × Entry)) (hb : I acc.1) : I (Deviate.outerStep reg opts m acc dv).1 := by
  obtain ⟨f, errs⟩ := acc
  obtain ⟨dstmt, deviates⟩ := dv
  have hfind := hI.find f (m.seq, []) m.seq dstmt.arg hb
  unfold Deviate.outerStep
  dsimp only
  generalize find reg f (m.seq, []) m.seq dstmt.arg = r at hfind
  obtain ⟨target, f'⟩ := r
  dsimp only at hfind ⊢
  split
  · exact hfind
  · rename_i t path
    split
    · exact hfind
    · rename_i node0 hn0
      dsimp only
      refine innerFold_inv hI opts m t path deviates (f', node0, false, errs) hfind
        ⟨fun _ => hn0, fun h => by simp at h⟩ ?_
      cases hroot : f'.tree? t with
      | none => simp [hroot] at hn0
      | some root =>
        rw [hroot] at hn0
        exact Deviate.pathNamed_of_getAt path root node0 hn0

/-- **The deviation stage of `processAll` keeps every such invariant** (every registry, option set,
plugged-in stage and start forest).  `Tree.devStage_inv` is the companion for a predicate of the single
trees (`ForestAll P`) that is only kept when the stage returns no error. -/
theorem devStage_inv (opts : Opts) (plug : Plug) (f0 : Forest) (hb : I f0) :
    I (Tree.devStage reg opts plug f0).1 := by
  unfold Tree.devStage
  refine ListAux.foldl_inv (fun acc : Forest × List Err × List String => I acc.1) _ _ _ hb ?_
  rintro ⟨f, errs, done⟩ m _ hP
  dsimp only at hP ⊢
  split
  · exact hP
  · dsimp only
    rw [Deviate.applyDeviations_eq]
    exact ListAux.foldl_inv (fun acc : Forest × List Err => I acc.1) _ _ (f, []) hP
      fun acc dv _ h => outerStep_inv hI opts m acc dv h

end DevStage

theorem devClosed_builtX (reg : Registry) : DevClosed reg fun f => ∃ prov, BuiltX reg true f prov where
  find f start ctx name := fun ⟨prov, hb⟩ => ⟨prov, builtX_find hb start ctx name⟩
  retouch f t root node node' path := fun ⟨prov, hb⟩ hroot h1 u1 u2 u3 u4 u5 u6 =>
    ⟨prov, BuiltX.retouch hb hroot h1 u1 u2 u3 u4 u5 u6⟩
  remove f t root path := fun ⟨prov, hb⟩ hroot hne hex => by
    classical
    exact ⟨fun loc => if Removed t path loc then none else prov loc,
      BuiltX.remove hb hroot hne hex (fun loc h => by simp only [h, if_true]) (fun loc h => by simp only [h, if_false])⟩

theorem devStage_builtX (reg : Registry) (opts : Opts) (plug : Plug) (f0 : Forest)
    (hb : ∃ prov, BuiltX reg true f0 prov) :
    ∃ prov, BuiltX reg true (Tree.devStage reg opts plug f0).1 prov :=
  devStage_inv (devClosed_builtX reg) opts plug f0 hb

/-- **The final forest of `processAll`, whenever the run reaches the augment phase, is `BuiltX`** —
for every input, clean or not. -/
theorem final_builtX (reg : Registry) (opts : Opts) (plug : Plug) :
    ∃ prov, BuiltX reg true (Tree.devStage reg opts plug (Tree.preDev reg opts plug).forest).1 prov := by
  obtain ⟨prov, hb⟩ := (bi_preDev reg opts plug).built
  exact devStage_builtX reg opts plug _ ⟨prov, Built'.toBuiltX hb⟩

/-- **The forest of an error-free `processAll` run is `BuiltX` without any root error step.** -/
theorem processAll_builtX_clean (reg : Registry) (opts : Opts) (plug : Plug)
    (hclean : (processAll reg opts plug).errors = []) :
    ∃ prov, BuiltX reg false (processAll reg opts plug).forest prov := by
  obtain ⟨prov, hb⟩ := final_builtX reg opts plug
  obtain ⟨_, _, _, _, h5⟩ := Tree.processAll_clean reg opts plug hclean
  have hne := Tree.process_clean_no_errors reg opts plug hclean
  rw [h5] at hne ⊢
  refine ⟨prov, builtX_clean hb ?_⟩
  intro id t ht
  have := Tree.forestAll_tree? _ id t hne ht
  exact Tree.noErrors_own t this

/-! ### what a deviate statement does to the config of its target -/

section Cfg
open Goyang.Lemmas.Deviate

/-- The explicit config of a node. -/
def cfg (n : Entry) : Tri := n.d.config

theorem cfg_withD (n : Entry) (f : EData → EData) : cfg (n.withD f) = (f n.d).config := by cases n; rfl

/- Each stage is a conditional around `withD`s that leave the config alone: `cfg` goes into the
branches, which then all agree. -/
theorem cfg_stMand (sd : EData) (n : Entry) : cfg (stMand sd n) = cfg n := by
  simp only [stMand, apply_ite cfg, cfg_withD]
  simp only [cfg, ite_self]
theorem cfg_stUnits (sd : EData) (n : Entry) : cfg (stUnits sd n) = cfg n := by
  simp only [stUnits, apply_ite cfg, cfg_withD]
  simp only [cfg, ite_self]
theorem cfg_stType (sd : EData) (n : Entry) : cfg (stType sd n) = cfg n := by
  simp only [stType, apply_ite cfg, cfg_withD]
  simp only [cfg, ite_self]
theorem cfg_stMandDel (sd : EData) (n : Entry) : cfg (stMandDel sd n) = cfg n := by
  simp only [stMandDel, apply_ite cfg, cfg_withD]
  simp only [cfg, ite_self]
theorem cfg_stDefAR (ms : Stmt) (a : Bool) (sd : EData) (n : Entry) : cfg (stDefAR ms a sd n).1 = cfg n := by
  simp only [stDefAR, apply_ite Prod.fst, apply_ite cfg, cfg_withD]
  simp only [cfg, ite_self]
theorem cfg_stDefDel (ms : Stmt) (sd : EData) (n : Entry) : cfg (stDefDel ms sd n).1 = cfg n := by
  simp only [stDefDel, apply_ite Prod.fst, apply_ite cfg, cfg_withD]
  simp only [cfg, ite_self]
theorem cfg_setMin (n : Entry) (v : Nat) : cfg (setMin n v) = cfg n := cfg_withD n _
theorem cfg_setMax (n : Entry) (v : Nat) : cfg (setMax n v) = cfg n := cfg_withD n _

theorem cfg_stCfg (sd : EData) (n : Entry) : cfg (stCfg sd n) = if sd.config != .unset then sd.config else cfg n := by
  simp only [stCfg, apply_ite cfg, cfg_withD]
theorem cfg_stCfgDel (sd : EData) (n : Entry) : cfg (stCfgDel sd n) = if sd.config != .unset then .unset else cfg n := by
  simp only [stCfgDel, apply_ite cfg, cfg_withD]

theorem cfg_addReplace (ms : Stmt) (a : Bool) (spec node : Entry) :
    cfg (addReplace ms a spec node).1 = if spec.d.config != .unset then spec.d.config else cfg node := by
  simp only [addReplace, apply_ite Prod.fst, apply_ite cfg, cfg_stMand, cfg_stUnits, cfg_stType, cfg_stDefAR,
    cfg_setMin, cfg_setMax, cfg_stCfg, ite_self]

theorem cfg_delete (ms : Stmt) (spec node : Entry) :
    cfg (delete_ ms spec node).1 = if spec.d.config != .unset then .unset else cfg node := by
  simp only [delete_, apply_ite Prod.fst, apply_ite cfg, cfg_stMandDel, cfg_stDefDel, cfg_stCfgDel, cfg_setMin,
    cfg_setMax, ite_self]

/-- **The config a deviate statement leaves on its target**: `add` / `replace` with a config
substatement write it; `delete` with one erases the node's config statement; everything else — and a
statement that reports an error — leaves the config alone. -/
theorem applyOneDeviate_config (opts : Opts) (ms : Stmt) (kind : String) (spec : Entry) (hp : Bool) (node : Entry) :
    (applyOneDeviate opts ms kind spec hp node).1.d.config =
      match kindOf kind with
      | .add | .replace => if spec.d.config != .unset then spec.d.config else node.d.config
      | .delete => if spec.d.config != .unset then .unset else node.d.config
      | _ => node.d.config := by
  rw [applyOneDeviate_eq_staged]
  show cfg (staged opts ms kind spec hp node).1 = _
  unfold staged
  cases kindOf kind with
  | add => exact cfg_addReplace ms true spec node
  | replace => exact cfg_addReplace ms false spec node
  | delete => exact cfg_delete ms spec node
  | notSupported => simp only [notSupported]; split <;> rfl
  | other => rfl

end Cfg

/-! ### read-only at a node whose config a deviation wrote -/

theorem configsAlong_last : ∀ (p : Path) (root e : Entry), root.getAt p = some e →
    ∃ init, configsAlong root p = init ++ [ck e] := by
  intro p
  induction p with
  | nil =>
    intro root e h
    simp only [Entry.getAt, Option.some.injEq] at h; subst h
    exact ⟨[], rfl⟩
  | cons s p ih =>
    intro root e h
    rw [getAt_cons] at h
    cases hn : next root s with
    | none => simp [hn] at h
    | some c =>
      simp only [hn, Option.bind_some] at h
      obtain ⟨init, hi⟩ := ih c e h
      refine ⟨ck root :: init, ?_⟩
      rw [configsAlong]
      simp only [hn, hi, List.cons_append]

/-- `ReadOnly()` of a node that carries an explicit config (and is no rpc output) is that config. -/
theorem readOnlyAt_explicit (root : Entry) (p : Path) (e : Entry) (hg : root.getAt p = some e)
    (hc : e.d.config ≠ .unset) (hk : e.d.kind ≠ .output) : root.readOnlyAt p = (e.d.config == .false_) := by
  rw [readOnlyAt_exact]
  obtain ⟨init, hi⟩ := configsAlong_last p root e hg
  rw [hi]
  unfold readOnlyExact
  have hd : decisive (ck e) = true := by
    simp only [decisive, ck, Bool.or_eq_true, bne_iff_ne, ne_eq]
    exact Or.inr hc
  simp only [List.reverse_append, List.reverse_cons, List.reverse_nil, List.nil_append, List.singleton_append,
    List.find?_cons, hd, Option.map_some, Option.getD_some]
  simp only [verdict, ck, kind_beq, hk, decide_false, Bool.false_or]

end Goyang.Lemmas.ConfigNsDev
