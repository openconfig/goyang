import Goyang.Lemmas.Bridge
import Goyang.Lemmas.Find
import Goyang.Spec.Find
/-
Bridge lemmas, part 3 (C17): what `Spec.Find.wfKeys` asks beyond C04's `KeysUnique` —

  * every `Dir` child has a name a path can spell (`goodName`), and
  * an rpc / action has no `Dir` children, and only an rpc / action has an input / output

(the local predicate `gq`) — holds at every node of every error-free tree `toEntry` builds, when
the names written in the loaded statements are spellable (`NamesPlain`, an input predicate: goyang
does not check identifiers, finding D17-L1).  This file: the predicates and the conversion stage;
Lemmas/BridgeNamesStages.lean carries `gq` through the augment stage, `FixChoice` and the
deviation stage.
-/
set_option linter.unusedVariables false
set_option linter.unusedSimpArgs false
open Goyang.Lemmas.ListAux (foldl_inv)
namespace Goyang.Lemmas.Bridge
open Goyang.Model Goyang.Spec.Tree Goyang.Lemmas.Tree
open Goyang.Spec.Find (goodName wfKeys wfKeysL WFForest)

/-! ### the local predicate -/

/-- Child names are spellable; an rpc / action has no `Dir` children, anything else no rpc input /
output. -/
def gq (x : Entry) : Bool :=
  x.dir.all (fun k => goodName k.name) && (if x.d.isRpc then x.dir.isEmpty else x.inp.isEmpty && x.out.isEmpty)

theorem gq_mk (d : EData) (c i o : List Entry) : gq (.mk d c i o) = true ↔
    (∀ k ∈ c, goodName k.name = true) ∧ (if d.isRpc = true then c = [] else i = [] ∧ o = []) := by
  unfold gq
  simp only [Entry.dir, Entry.inp, Entry.out, Entry.d, Bool.and_eq_true, List.all_eq_true]
  by_cases h : d.isRpc = true <;> simp [h]

theorem hdrLocal_gq : ∀ d c i o c' i' o', c.map hdr = c'.map hdr → i.map hdr = i'.map hdr → o.map hdr = o'.map hdr →
    gq (.mk d c i o) = gq (.mk d c' i' o') := by
  intro d c i o c' i' o' hc hi ho
  have hn := names_hdr c c' hc
  have hlc := length_hdr c c' hc
  have hli := length_hdr i i' hi
  have hlo := length_hdr o o' ho
  have e1 : ∀ l : List Entry, (∀ k ∈ l, goodName k.name = true) ↔ ∀ s ∈ l.map (·.name), goodName s = true := by
    intro l; simp
  have e2 : ∀ (a b : List Entry), a.length = b.length → (a = [] ↔ b = []) := by
    intro a b h; cases a <;> cases b <;> simp_all
  rw [Bool.eq_iff_iff, gq_mk, gq_mk, e1 c, e1 c', hn, e2 c c' hlc, e2 i i' hli, e2 o o' hlo]

/-- `gq` does not look at the node's own data beyond the rpc flag. -/
theorem gq_data (d d' : EData) (c i o : List Entry) (h : d'.isRpc = d.isRpc) : gq (.mk d' c i o) = gq (.mk d c i o) := by
  rw [Bool.eq_iff_iff, gq_mk, gq_mk, h]

theorem everyNode_gq_withD (e : Entry) (f : EData → EData) (hf : ∀ d, (f d).isRpc = d.isRpc) :
    everyNode gq (e.withD f) = everyNode gq e := by
  cases e with | mk d c i o =>
  simp only [Entry.withD]
  rw [Bool.eq_iff_iff, everyNode_mk, everyNode_mk, gq_data d (f d) c i o (hf d)]

/-! ### the input predicate -/

/-- `p` holds of a statement and of all its (transitive) substatements. -/
def stmtEvery (p : Stmt → Bool) : Stmt → Bool
  | .mk kw ha arg file line col subs => p (.mk kw ha arg file line col subs) && everyL subs
where everyL : List Stmt → Bool
  | [] => true
  | s :: ss => stmtEvery p s && everyL ss

theorem stmtEvery_everyL (p : Stmt → Bool) (l : List Stmt) : stmtEvery.everyL p l = true ↔ ∀ s ∈ l, stmtEvery p s = true := by
  induction l with
  | nil => simp [stmtEvery.everyL]
  | cons a l ih => simp [stmtEvery.everyL, ih]

theorem stmtEvery_self (p : Stmt → Bool) (t : Stmt) (ht : stmtEvery p t = true) : p t = true := by
  cases t; simp only [stmtEvery, Bool.and_eq_true] at ht; exact ht.1

theorem stmtEvery_child (p : Stmt → Bool) (c t : Stmt) (hc : c ∈ t.subs) (ht : stmtEvery p t = true) :
    stmtEvery p c = true := by
  cases t with | mk kw ha arg file line col subs =>
  simp only [stmtEvery, Bool.and_eq_true] at ht
  exact (stmtEvery_everyL p subs).1 ht.2 c hc

theorem stmtEvery_sub' (p : Stmt → Bool) {s t : Stmt} (h : Fuel.Sub s t) : stmtEvery p t = true → stmtEvery p s = true := by
  induction h with
  | refl => exact id
  | step hm _ ih => exact fun ht => ih (stmtEvery_child p _ _ hm ht)

theorem stmtEvery_sub (p : Stmt → Bool) {s t : Stmt} (h : Fuel.Sub s t) (ht : stmtEvery p t = true) : p s = true :=
  stmtEvery_self p s (stmtEvery_sub' p h ht)

/-- A statement whose entry becomes a `Dir` child (anydata, anyxml, case, choice, container, leaf,
leaf-list, list, notification, rpc, action) has an argument a path can spell: not empty, not `.`
or `..`, no `/`, no `:`. -/
def nameStmtOK (s : Stmt) : Bool := !(addKws.contains s.kw) || goodName s.arg

/-- Input predicate: every data-node statement of every loaded (sub)module, at any depth
(groupings, augments, cases, rpc input / output included), has a spellable name. -/
def NamesPlain (reg : Registry) : Prop := ∀ m ∈ reg.mods, stmtEvery nameStmtOK m.stmt = true

instance (reg : Registry) : Decidable (NamesPlain reg) := by unfold NamesPlain; infer_instance

theorem namesPlain_child {env : Env} (hnp : NamesPlain env.reg) {root : Mod} {scope : List Stmt} {n c : Stmt}
    (inv : InvT env root scope n) {kw : String} (hkw : kw ∈ addKws) (hc : c ∈ n.all kw) : goodName c.arg = true := by
  have hsub : Fuel.Sub c root.stmt := Fuel.Sub.child (Fuel.mem_all_subs hc) inv.node
  have := stmtEvery_sub nameStmtOK hsub (hnp root inv.root_mem)
  have hk := mem_all_kw n kw c hc
  simp only [nameStmtOK, hk, Bool.or_eq_true, Bool.not_eq_true'] at this
  rcases this with h | h
  · have : addKws.contains kw = true := by simpa using hkw
    rw [this] at h; cases h
  · exact h

/-! ### the conversion stage -/

/-- The frame: an error-free entry has `gq` at every node; the entry made from an rpc / action
statement has no `Dir` children. -/
def namesFrame : Frame where
  PE e := NoErrors e → everyNode gq e = true
  PX _ _ n e := (n.kw = "rpc" ∨ n.kw = "action") → e.dir = []

theorem condgq_withD (e : Entry) (f : EData → EData) (hr : ∀ d, (f d).isRpc = d.isRpc)
    (he : ∀ d, ∃ xs, (f d).errors = d.errors ++ xs) (h : NoErrors e → everyNode gq e = true) :
    NoErrors (e.withD f) → everyNode gq (e.withD f) = true := by
  intro hne
  rw [everyNode_gq_withD e f hr]
  apply h
  cases e with | mk d c i o =>
  simp only [Entry.withD] at hne
  rw [noErrors_mk] at hne ⊢
  obtain ⟨xs, hxs⟩ := he d
  refine ⟨?_, hne.2⟩
  have := hne.1; rw [hxs] at this; exact (List.append_eq_nil_iff.mp this).1

/-- What `merge` does to the child list: old children stay in front, the new ones are (stamped)
children of `oe`. -/
theorem merge_dir (e : Entry) (ns : Option String) (oe : Entry) :
    (e.merge ns oe).d.isRpc = e.d.isRpc ∧ (e.merge ns oe).inp = e.inp ∧ (e.merge ns oe).out = e.out ∧
    ∀ y ∈ (e.merge ns oe).dir, y ∈ e.dir ∨ ∃ v ∈ oe.dir, y = AugmentTree.stampO ns v := by
  rw [AugmentTree.merge_eq]
  refine foldl_inv (fun x : Entry => x.d.isRpc = e.d.isRpc ∧ x.inp = e.inp ∧ x.out = e.out ∧
    ∀ y ∈ x.dir, y ∈ e.dir ∨ ∃ v ∈ oe.dir, y = AugmentTree.stampO ns v) _ _ _ ?_ ?_
  · cases e with | mk d c i o =>
    exact ⟨rfl, rfl, rfl, fun y hy => Or.inl hy⟩
  · rintro b v hv ⟨h1, h2, h3, h4⟩
    unfold AugmentTree.mstep
    split
    · cases b with | mk d c i o => exact ⟨h1, h2, h3, h4⟩
    · cases b with | mk d c i o =>
      simp only [Entry.dir, Entry.inp, Entry.out, Entry.withDir, Entry.d] at h1 h2 h3 h4 ⊢
      refine ⟨h1, h2, h3, ?_⟩
      intro y hy
      rcases List.mem_append.mp hy with hy | hy
      · exact h4 y hy
      · simp only [List.mem_singleton] at hy
        exact Or.inr ⟨v, hv, hy⟩

theorem everyNode_gq_stampO (ns : Option String) (v : Entry) : everyNode gq (AugmentTree.stampO ns v) = everyNode gq v := by
  cases ns with
  | none => rfl
  | some n => exact everyNode_gq_withD _ _ (fun d => rfl)

/-- `merge` into a node that is not an rpc / action keeps `gq` everywhere. -/
theorem gq_merge (e : Entry) (ns : Option String) (oe : Entry) (he : everyNode gq e = true)
    (ho : everyNode gq oe = true) (hr : e.d.isRpc = false) : everyNode gq (e.merge ns oe) = true := by
  obtain ⟨m1, m2, m3, m4⟩ := merge_dir e ns oe
  generalize e.merge ns oe = r at m1 m2 m3 m4 ⊢
  cases r with | mk d' c' i' o' =>
  cases e with | mk d c i o =>
  cases oe with | mk d2 c2 i2 o2 =>
  simp only [Entry.dir, Entry.inp, Entry.out, Entry.d] at m1 m2 m3 m4 hr
  subst m2 m3
  rw [everyNode_mk] at he ho ⊢
  have hge := (gq_mk _ _ _ _).1 he.1
  have hgo := (gq_mk _ _ _ _).1 ho.1
  simp only [hr, Bool.false_eq_true, if_false] at hge
  have key : ∀ y ∈ c', goodName y.name = true ∧ everyNode gq y = true := by
    intro y hy
    rcases m4 y hy with h | ⟨v, hv, hy'⟩
    · exact ⟨hge.1 y h, he.2.1 y h⟩
    · rw [hy']
      exact ⟨by rw [AugmentTree.stampO_name]; exact hgo.1 v hv, by rw [everyNode_gq_stampO]; exact ho.2.1 v hv⟩
  refine ⟨?_, fun y hy => (key y hy).2, he.2.2.1, he.2.2.2⟩
  rw [gq_mk]
  refine ⟨fun y hy => (key y hy).1, ?_⟩
  rw [m1, hr]
  simp only [Bool.false_eq_true, if_false]
  exact hge.2

theorem e0_gq (root : Mod) (n : Stmt) : everyNode gq (e0 root n) = true := by
  have h := e0_isRpc root n
  unfold e0 at h ⊢
  rw [everyNode_mk]
  refine ⟨?_, by simp, by simp, by simp⟩
  rw [gq_mk]
  simp only [Entry.d] at h
  simp [h]

theorem leafEntry_gq (env : Env) (root : Mod) (scope : List Stmt) (n : Stmt) (syn : Bool) :
    everyNode gq (leafEntry env root scope n syn) = true := by
  have hr : (leafEntry env root scope n syn).d.isRpc = false := by unfold leafEntry; dsimp only; rfl
  have hd := leafEntry_data env root scope n syn
  generalize leafEntry env root scope n syn = le at hd hr ⊢
  cases le with | mk d c i o =>
  simp only [Entry.dir, Entry.inp, Entry.out, Entry.d] at hd hr
  obtain ⟨_, _, _, _, _, rfl, rfl, rfl⟩ := hd
  rw [everyNode_mk]
  refine ⟨?_, by simp, by simp, by simp⟩
  rw [gq_mk]; simp [hr]

/-- The four steps of an rpc / action statement leave its `Dir` empty. -/
theorem fold_io_dir (env : Env) (rec : Rec) (root : Mod) (n : Stmt) (sub : List Stmt) (visiting : List NodeId)
    (isMod : Bool) (acc : Entry × TState) :
    (ioList.foldl (stepFn env rec root n sub visiting isMod) acc).1.dir = acc.1.dir := by
  refine foldl_inv (fun a : Entry × TState => a.1.dir = acc.1.dir) _ _ _ rfl ?_
  intro b f hf hb
  rw [stepFn_io_dir env rec root n sub visiting isMod b f hf]; exact hb

theorem fieldOrder_rpc (kw : String) (h : kw = "rpc" ∨ kw = "action") : fieldOrder kw = ioList := by
  rcases h with rfl | rfl <;> rfl

theorem closedT_namesFrame (env : Env) (hnp : NamesPlain env.reg) : ClosedT env namesFrame where
  withD e f _ hr he h := condgq_withD e f hr he h
  addErrs e xs h := condgq_withD e _ (fun d => rfl) (fun d => ⟨xs, rfl⟩) h
  addErr e x h := condgq_withD e _ (fun d => rfl) (fun d => ⟨[x], rfl⟩) h
  importErrors e c h := condgq_withD e _ (fun d => rfl) (fun d => ⟨_, rfl⟩) h
  add root scope n kw c e v inv hkw hc hr he hv hs _ := by
    unfold Entry.add
    split
    · intro hne; exact absurd hne (not_noErrors_addErr _ _)
    · rename_i hk
      intro hne
      cases e with | mk d cc i o =>
      simp only [Entry.withDir, Entry.dir] at hne ⊢
      rw [noErrors_mk] at hne
      have hnv : NoErrors v := hne.2.1 v (by simp)
      have hne' : NoErrors (.mk d cc i o) :=
        (noErrors_mk _ _ _ _).2 ⟨hne.1, fun x hx => hne.2.1 x (by simp [hx]), hne.2.2⟩
      have hge := he hne'
      rw [everyNode_mk] at hge ⊢
      have hg := (gq_mk _ _ _ _).1 hge.1
      simp only [Entry.d] at hr
      simp only [hr, Bool.false_eq_true, if_false] at hg
      refine ⟨?_, ?_, hge.2.2⟩
      · rw [gq_mk]
        refine ⟨?_, by simp only [hr, Bool.false_eq_true, if_false]; exact hg.2⟩
        intro k hk'
        rcases List.mem_append.mp hk' with hk' | hk'
        · exact hg.1 k hk'
        · simp only [List.mem_singleton] at hk'; subst hk'
          rw [(hs hnv).1]; exact namesPlain_child hnp inv hkw hc
      · intro x hx
        rcases List.mem_append.mp hx with hx | hx
        · exact hge.2.1 x hx
        · simp only [List.mem_singleton] at hx; subst hx; exact hv hnv
  rpcFlag root scope n kw c v inv hrpc hc hv hpx := by
    have hk := mem_all_kw n kw c hc
    have hdir : v.dir = [] := hpx (by rw [hk]; exact hrpc)
    intro hne
    cases v with | mk d cc i o =>
    simp only [Entry.dir] at hdir
    subst hdir
    simp only [Entry.withD] at hne ⊢
    have hne' : NoErrors (.mk d [] i o) := by rw [noErrors_mk] at hne ⊢; exact hne
    have := hv hne'
    rw [everyNode_mk] at this ⊢
    refine ⟨?_, this.2⟩
    rw [gq_mk]; simp
  merge e oe hr he ho := by
    intro hne
    exact gq_merge e none oe (he (noErrors_merge_left e none oe hne)) (ho (noErrors_of_merge e none oe hne)) hr
  setInp d o ie he hi _ := by
    intro hne
    rw [noErrors_mk] at hne
    have hnie : NoErrors ie := by
      have := hne.2.2.1 _ (List.mem_singleton.mpr rfl)
      cases ie with | mk d' c' i' o' =>
      simp only [Entry.withD] at this
      rw [noErrors_mk] at this ⊢; exact this
    have h1 := he ((noErrors_mk _ _ _ _).2 ⟨hne.1, by simp, by simp, hne.2.2.2⟩)
    rw [everyNode_mk] at h1 ⊢
    refine ⟨by rw [gq_mk]; simp, by simp, ?_, h1.2.2.2⟩
    intro x hx
    simp only [List.mem_singleton] at hx; subst hx
    exact (everyNode_gq_withD ie (fun d => { d with name := "input", kind := .input }) (fun d => rfl)).trans (hi hnie)
  setOut d i oe he ho _ := by
    intro hne
    rw [noErrors_mk] at hne
    have hnoe : NoErrors oe := by
      have := hne.2.2.2 _ (List.mem_singleton.mpr rfl)
      cases oe with | mk d' c' i' o' =>
      simp only [Entry.withD] at this
      rw [noErrors_mk] at this ⊢; exact this
    have h1 := he ((noErrors_mk _ _ _ _).2 ⟨hne.1, by simp, hne.2.2.1, by simp⟩)
    rw [everyNode_mk] at h1 ⊢
    refine ⟨by rw [gq_mk]; simp, by simp, h1.2.2.1, ?_⟩
    intro x hx
    simp only [List.mem_singleton] at hx; subst hx
    exact (everyNode_gq_withD oe (fun d => { d with name := "output", kind := .output }) (fun d => rfl)).trans (ho hnoe)
  typeSet e ty h _ := condgq_withD e _ (fun d => rfl) (fun d => ⟨[], by simp⟩) h
  laSet e f h _ _ hr he := condgq_withD e f hr he h
  base0 root scope n _ := fun _ => e0_gq root n
  errE root scope n cls _ := fun hne => absurd (noErrors_own _ hne) (errorEntry_errors root n cls)
  leafE root scope n syn _ := fun _ => leafEntry_gq env root scope n syn
  leafL root scope n la xs dl _ := fun _ => by
    exact (everyNode_gq_withD (leafEntry env root scope n true)
      (fun d => { d with listAttr := some la, errors := d.errors ++ xs, default := dl }) (fun d => rfl)).trans
      (leafEntry_gq env root scope n true)
  row _ _ _ _ _ _ _ _ _ _ := trivial
  pc _ _ _ _ _ _ _ _ := trivial
  pxCache root scope n p inv hm _ _ := by
    intro h
    simp only [isModKw, Bool.or_eq_true, beq_iff_eq] at hm
    rcases hm with hm | hm <;> rcases h with h | h <;> rw [hm] at h <;> exact absurd h (by decide)
  pxTriv root scope n e hk := by
    intro h
    rcases hk with hk | hk | hk | hk <;> rcases h with h | h <;> rw [hk] at h <;> exact absurd h (by decide)
  pxErr root scope n cls _ := fun _ => rfl
  pxDir fuel root scope n visiting st S isMod _ _ _ _ := by
    intro h
    rw [fieldOrder_rpc n.kw h, fold_io_dir]
    rfl

/-- Every error-free tree the conversion leaves in the cache, and every error-free pending augment
entry, has `gq` at every node. -/
theorem gq_tstate (reg : Registry) (opts : Opts) (plug : Plug) (hnp : NamesPlain reg) :
    (∀ t ∈ (tstate reg opts plug).cache, NoErrors t.2 → everyNode gq t.2 = true) ∧
    (∀ p ∈ (tstate reg opts plug).augs, ∀ a ∈ p.2, NoErrors a → everyNode gq a = true) := by
  have h := (tstate_okT reg opts plug (closedT_namesFrame (envOf reg opts plug) hnp)).base
  exact ⟨fun t ht => h.cache t ht, fun p hp a ha => h.augs p hp a ha⟩

end Goyang.Lemmas.Bridge
