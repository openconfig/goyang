import Goyang.Lemmas.IdentitySpec
/-
Helper lemmas for C11, part 4: what holds of every registry built by `Modules.add` (model:
`Registry.add`, `loadAll`): its module table holds modules only and has distinct keys, and texts
whose (sub)module names are YANG identifiers load into a registry without a colon in any name.
-/
open Goyang.Lemmas.RegistryAux (keymap_bind_mem)
namespace Goyang.Lemmas.Identity
open Goyang.Model Goyang.Model.Identity
open Goyang.Spec.Identity (isIdentifier identifierChar)

/-- Invariant of a registry built by `add`. -/
structure RInv (r : Registry) : Prop where
  seqs : ∀ m ∈ r.mods, m.seq < r.mods.length
  modules : ∀ kv ∈ r.modules, ∃ m, r.byId kv.2 = some m ∧ m.isSub = false

theorem rinv_empty : RInv {} := ⟨by simp, by simp⟩

/-- What a successful `add` does to the module table: it gains bindings of the new sequence number
under some keys `ks` — none when a submodule was added. -/
theorem add_effect {r r' : Registry} {s : Stmt} (h : r.add s = .ok r') :
    ∃ ks : List String, r'.modules = ks.foldl (fun km k => km.bind k r.mods.length) r.modules ∧
      (ks ≠ [] → ({ seq := r.mods.length, stmt := s } : Mod).isSub = false) := by
  have h := (Registry.add_ok h).2
  unfold Registry.addChecked at h
  simp only at h
  generalize ({ seq := r.mods.length, stmt := s } : Mod) = m at h ⊢
  cases hsub : m.isSub with
  | true =>
    simp only [hsub, Registry.kmOf, Registry.umOf, Registry.withKm, Registry.withUm, if_true] at h
    repeat' split at h
    all_goals first
      | (cases h; done)
      | (cases h; exact ⟨[], rfl, fun hn => absurd rfl hn⟩)
  | false =>
    simp only [hsub, Registry.kmOf, Registry.umOf, Registry.withKm, Registry.withUm, Bool.false_eq_true, if_false] at h
    -- `addChecked` binds the full name, and the bare name when it is free or bound to an older
    -- revision: at most two keys
    repeat' split at h
    all_goals first
      | (cases h; done)
      | (cases h; exact ⟨[], rfl, fun _ => rfl⟩)
      | (cases h; exact ⟨[_], rfl, fun _ => rfl⟩)
      | (cases h; exact ⟨[_, _], rfl, fun _ => rfl⟩)

theorem foldl_bind_mem' (n : Nat) : ∀ (ks : List String) (km : KeyMap) (kv : String × Nat),
    kv ∈ ks.foldl (fun km k => km.bind k n) km → kv ∈ km ∨ (kv.2 = n ∧ ks ≠ []) := by
  intro ks
  induction ks with
  | nil => exact fun _ _ h => Or.inl h
  | cons k ks ih =>
    intro km kv h
    rcases ih (km.bind k n) kv h with h1 | ⟨h1, _⟩
    · rcases keymap_bind_mem h1 with h2 | h2
      · exact Or.inl h2
      · exact Or.inr ⟨by rw [h2], List.cons_ne_nil _ _⟩
    · exact Or.inr ⟨h1, List.cons_ne_nil _ _⟩

/-- What a successful `add` does to the module list and the module table. -/
theorem add_shape {r r' : Registry} {s : Stmt} (h : r.add s = .ok r') :
    r'.mods = r.mods ++ [{ seq := r.mods.length, stmt := s }] ∧
    ∀ kv ∈ r'.modules, kv ∈ r.modules ∨
      (kv.2 = r.mods.length ∧ ({ seq := r.mods.length, stmt := s } : Mod).isSub = false) := by
  obtain ⟨ks, hks, hsub⟩ := add_effect h
  refine ⟨RegistryAux.add_mods h, fun kv hkv => ?_⟩
  rw [hks] at hkv
  rcases foldl_bind_mem' _ ks _ kv hkv with h1 | ⟨h1, hne⟩
  · exact Or.inl h1
  · exact Or.inr ⟨h1, hsub hne⟩

theorem rinv_add {r r' : Registry} (hr : RInv r) (s : Stmt) (h : r.add s = .ok r') : RInv r' := by
  obtain ⟨hmods, hmodules⟩ := add_shape h
  generalize hm : ({ seq := r.mods.length, stmt := s } : Mod) = m at hmods hmodules
  have hseq : m.seq = r.mods.length := by rw [← hm]
  have hold : ∀ id x, r.byId id = some x → r'.byId id = some x := by
    intro id x hx
    unfold Registry.byId at hx ⊢
    rw [hmods, List.find?_append, hx]; rfl
  have hnew : r'.byId r.mods.length = some m := by
    unfold Registry.byId
    rw [hmods, List.find?_append]
    have : r.mods.find? (·.seq == r.mods.length) = none := by
      apply List.find?_eq_none.mpr
      intro x hx
      have := hr.seqs x hx
      simp only [beq_iff_eq]
      omega
    rw [this]
    simp [hseq]
  constructor
  · intro x hx
    rw [hmods] at hx ⊢
    simp only [List.length_append, List.length_cons, List.length_nil]
    rcases List.mem_append.mp hx with hx | hx
    · have := hr.seqs x hx; omega
    · simp only [List.mem_singleton] at hx; subst hx; omega
  · intro kv hkv
    rcases hmodules kv hkv with h1 | ⟨h1, h2⟩
    · obtain ⟨x, hx, hxs⟩ := hr.modules kv h1
      exact ⟨x, hold _ _ hx, hxs⟩
    · exact ⟨m, h1 ▸ hnew, h2⟩

theorem foldlM_inv_mem {α : Type} (P : Registry → Prop) (step : Registry → α → Except Registry.AddErr Registry) :
    ∀ (l : List α), (∀ a ∈ l, ∀ r r', P r → step r a = .ok r' → P r') →
      ∀ r r', P r → l.foldlM step r = .ok r' → P r' := by
  intro l
  induction l with
  | nil => intro _ r r' hr h; simp only [List.foldlM, pure, Except.pure, Except.ok.injEq] at h; exact h ▸ hr
  | cons a l ih =>
    intro hstep r r' hr h
    simp only [List.foldlM, bind, Except.bind] at h
    split at h
    · cases h
    · rename_i r1 h1
      exact ih (fun b hb => hstep b (List.mem_cons_of_mem _ hb)) r1 r'
        (hstep a (List.mem_cons_self ..) r r1 hr h1) h

theorem loadAll_invariant (P : Registry → Prop) {files : List SrcFile} {r : Registry} (h : loadAll files = .ok r)
    (h0 : P {}) (hadd : ∀ f ∈ files, ∀ s ∈ f.stmts, ∀ ra rb, P ra → ra.add s = .ok rb → P rb) : P r :=
  foldlM_inv_mem P _ files (fun f hf r0 r1 hr0 h01 => foldlM_inv_mem P _ f.stmts (hadd f hf) r0 r1 hr0 h01) {} r h0 h

/-- Whatever texts were loaded: the module table holds modules only. -/
theorem regOK_of_loadAll {files : List SrcFile} {r : Registry} (h : loadAll files = .ok r) : RegOK r := by
  have hinv : RInv r := loadAll_invariant RInv h rinv_empty (fun _ _ s _ _ _ hra hs => rinv_add hra s hs)
  apply regOK_of_entries
  intro kv hkv m hm
  obtain ⟨x, hx, hxs⟩ := hinv.modules kv hkv
  rw [hx] at hm
  cases hm
  exact hxs


/-- The keys of `ms.Modules` are distinct (it is a Go map). -/
def KeysDistinct (r : Registry) : Prop := (r.modules.map (·.1)).Nodup

instance (r : Registry) : Decidable (KeysDistinct r) := inferInstanceAs (Decidable (List.Nodup _))

theorem keymap_bind_keys (km : KeyMap) (k : String) (v : Nat) (h : (km.map (·.1)).Nodup) :
    ((km.bind k v).map (·.1)).Nodup := by
  unfold KeyMap.bind
  split
  · have : (km.map fun kv => if (kv.1 == k) = true then (k, v) else kv).map (·.1) = km.map (·.1) := by
      rw [List.map_map]
      apply List.map_congr_left
      intro kv _
      simp only [Function.comp]
      split
      · rename_i hk; exact (beq_iff_eq.mp hk).symm
      · rfl
    rw [this]; exact h
  · rename_i hany
    rw [List.map_append, List.nodup_append]
    refine ⟨h, by simp, ?_⟩
    intro a ha b hb
    simp only [List.map_cons, List.map_nil, List.mem_singleton] at hb
    subst hb
    intro hab
    subst hab
    obtain ⟨kv, hkv, hk⟩ := List.mem_map.mp ha
    exact hany (List.any_eq_true.mpr ⟨kv, hkv, by simp [hk]⟩)

theorem foldl_bind_keys (n : Nat) : ∀ (ks : List String) (km : KeyMap), (km.map (·.1)).Nodup →
    ((ks.foldl (fun km k => km.bind k n) km).map (·.1)).Nodup
  | [], _, h => h
  | k :: ks, km, h => foldl_bind_keys n ks _ (keymap_bind_keys km k n h)

theorem keysDistinct_add {r r' : Registry} {s : Stmt} (hr : KeysDistinct r) (h : r.add s = .ok r') :
    KeysDistinct r' := by
  obtain ⟨ks, hks, -⟩ := add_effect h
  unfold KeysDistinct at hr ⊢
  rw [hks]
  exact foldl_bind_keys _ ks _ hr

theorem keysDistinct_of_loadAll {files : List SrcFile} {r : Registry} (h : loadAll files = .ok r) :
    KeysDistinct r :=
  loadAll_invariant KeysDistinct h (by simp [KeysDistinct]) (fun _ _ _ _ _ _ hra hs => keysDistinct_add hra hs)

/-- The name of every module and submodule handed to `Modules.add` is a YANG identifier
(RFC 7950 §6.2).  goyang's parser and AST builder do not check this. -/
def IdentifierNames (files : List SrcFile) : Prop :=
  ∀ f ∈ files, ∀ s ∈ f.stmts, isIdentifier s.arg = true

instance (files : List SrcFile) : Decidable (IdentifierNames files) :=
  inferInstanceAs (Decidable (∀ f ∈ files, ∀ s ∈ f.stmts, isIdentifier s.arg = true))

theorem identifier_no_colon {s : String} (h : isIdentifier s = true) : ':' ∉ s.toList := by
  unfold isIdentifier at h
  split at h
  · cases h
  · rename_i c cs hs
    rw [hs]
    simp only [Bool.and_eq_true, List.all_eq_true] at h
    intro hm
    rcases List.mem_cons.mp hm with hc | hc
    · subst hc
      exact absurd h.1 (by decide)
    · exact absurd (h.2 _ hc) (by decide)

theorem loadAll_mods {files : List SrcFile} {r : Registry} (h : loadAll files = .ok r) :
    ∀ m ∈ r.mods, ∃ f ∈ files, m.stmt ∈ f.stmts := by
  refine loadAll_invariant (fun r => ∀ m ∈ r.mods, ∃ f ∈ files, m.stmt ∈ f.stmts) h (fun m hm => nomatch hm) ?_
  intro f hf s hs ra rb hra hab m hm
  rw [(add_shape hab).1] at hm
  rcases List.mem_append.mp hm with hm | hm
  · exact hra m hm
  · simp only [List.mem_singleton] at hm
    subst hm
    exact ⟨f, hf, hs⟩

/-- Hypothesis (b), derived: identifier-named texts load into a registry without a colon in any
module or submodule name. -/
theorem noColon_of_identifierNames {files : List SrcFile} {r : Registry} (h : loadAll files = .ok r)
    (hid : IdentifierNames files) : ∀ m ∈ r.mods, ':' ∉ m.name.toList := by
  intro m hm
  obtain ⟨f, hf, hs⟩ := loadAll_mods h m hm
  exact identifier_no_colon (hid f hf _ hs)

end Goyang.Lemmas.Identity
