import Goyang.Lemmas.Deviate
import Goyang.Lemmas.Tree
import Goyang.Lemmas.Fuel
import Goyang.Lemmas.ListAux
import Goyang.Lemmas.RegistryAux
import Goyang.Lemmas.SortAux
/-
C08, frame across module sets — part 1: registries extended by deviation-only modules.

`DevExt B X ds dk`: the registry `X` is the registry `B` with the modules `ds` loaded after it
(`dk` = their rows of the module table).  This file: the definition, the registry lookups that the
resolver makes on behalf of a module of `B` answer the same in `X`, `sortBy` over an appended block
that sorts last, forests with extra trees (`ext G f`), and `find` / `namespaceAt` on them.
Core Lean only.
-/
namespace Goyang.Lemmas.DevExt
open Goyang.Model

/-! ### sorting a list whose second block sorts last -/

theorem insertBy_append {α} (lt : α → α → Bool) (x : α) (s1 s2 : List α) (h : ∀ y ∈ s2, lt x y = true) :
    insertBy lt x (s1 ++ s2) = insertBy lt x s1 ++ s2 := by
  induction s1 with
  | nil =>
    cases s2 with
    | nil => rfl
    | cons y ys => simp [insertBy, h y (List.mem_cons_self ..)]
  | cons a s1 ih =>
    simp only [List.cons_append, insertBy]
    split
    · rfl
    · simp [ih]

theorem sortBy_cons {α} (lt : α → α → Bool) (a : α) (l : List α) : sortBy lt (a :: l) = insertBy lt a (sortBy lt l) := rfl

theorem sortBy_append {α} (lt : α → α → Bool) (l1 l2 : List α) (h : ∀ a ∈ l1, ∀ b ∈ l2, lt a b = true) :
    sortBy lt (l1 ++ l2) = sortBy lt l1 ++ sortBy lt l2 := by
  induction l1 with
  | nil => rfl
  | cons a l1 ih =>
    rw [List.cons_append, sortBy_cons, sortBy_cons, ih (fun x hx => h x (List.mem_cons_of_mem _ hx)), insertBy_append]
    intro y hy
    exact h a (List.mem_cons_self ..) y ((SortAux.mem_sortBy lt y l2).mp hy)

/-- Two folds whose steps agree through a map `φ` of the first component, as long as `I` holds (and the
steps of the second keep `I`): the results agree through `φ`. -/
theorem foldl_lift {α σ τ ρ} (φ : σ → τ) (I : σ × ρ → Prop) (gX : τ × ρ → α → τ × ρ) (gB : σ × ρ → α → σ × ρ)
    (l : List α) (hstep : ∀ a ∈ l, ∀ x, I x → gX (φ x.1, x.2) a = (φ (gB x a).1, (gB x a).2) ∧ I (gB x a)) :
    ∀ x, I x → l.foldl gX (φ x.1, x.2) = (φ (l.foldl gB x).1, (l.foldl gB x).2) := by
  induction l with
  | nil => intro x _; rfl
  | cons a l ih =>
    intro x hx
    obtain ⟨e, hx'⟩ := hstep a (List.mem_cons_self ..) x hx
    rw [List.foldl_cons, List.foldl_cons, e]
    exact ih (fun b hb => hstep b (List.mem_cons_of_mem _ hb)) _ hx'

/-! ### the extension -/

/-- The keywords a deviation-only module may have at its top level. -/
def devOnlyKws : List String :=
  ["yang-version", "namespace", "prefix", "import", "organization", "contact", "description", "reference",
   "revision", "deviation"]

/-- A module statement with header statements, imports and deviations only. -/
def DeviationOnly (s : Stmt) : Prop := s.kw = "module" ∧ ∀ c ∈ s.subs, c.kw ∈ devOnlyKws

instance (s : Stmt) : Decidable (DeviationOnly s) := by unfold DeviationOnly; exact inferInstance

mutual
/-- No `uses` statement anywhere in the statement tree. -/
def noUses : Stmt → Bool
  | .mk kw _ _ _ _ _ subs => kw != "uses" && noUsesL subs
def noUsesL : List Stmt → Bool
  | [] => true
  | s :: ss => noUses s && noUsesL ss
end

theorem noUsesL_mem {l : List Stmt} (h : noUsesL l = true) {c : Stmt} (hc : c ∈ l) : noUses c = true := by
  induction l with
  | nil => cases hc
  | cons a l ih =>
    simp only [noUsesL, Bool.and_eq_true] at h
    rcases List.mem_cons.mp hc with rfl | hc
    · exact h.1
    · exact ih h.2 hc

theorem noUses_subs {t : Stmt} (ht : noUses t = true) : noUsesL t.subs = true := by
  cases t with
  | mk kw ha arg file line col subs =>
    simp only [noUses, Bool.and_eq_true] at ht
    exact ht.2

theorem noUses_sub {s t : Stmt} (h : Fuel.Sub s t) (ht : noUses t = true) : noUses s = true := by
  induction h with
  | refl => exact ht
  | step hm _ ih => exact ih (noUsesL_mem (noUses_subs ht) hm)

theorem noUses_kw {s : Stmt} (h : noUses s = true) : (s.kw == "uses") = false := by
  cases s with
  | mk kw ha arg file line col subs =>
    simp only [noUses, Bool.and_eq_true, bne_iff_ne, ne_eq] at h
    simp [Stmt.kw, h.1]

/-- `X` is `B` plus the modules `ds`, loaded after `B`; `dk` are their rows of the module table
(everything but the restriction on `uses`). -/
structure DevExtCore (B X : Registry) (ds : List Mod) (dk : KeyMap) : Prop where
  mods : X.mods = B.mods ++ ds
  modules : X.modules = B.modules ++ dk
  /-- no submodules (restriction of the present proof) -/
  subsX : X.subModules = []
  subsB : B.subModules = []
  /-- the sequence numbers of the new modules are new -/
  seqFresh : ∀ m ∈ B.mods, ∀ d ∈ ds, m.seq ≠ d.seq
  /-- the rows of `B` point to modules of `B`, the new rows to new modules -/
  tblB : ∀ kv ∈ B.modules, ∃ m ∈ B.mods, m.seq = kv.2
  tblD : ∀ kv ∈ dk, ∃ d ∈ ds, d.seq = kv.2
  /-- the new modules sort after the modules of `B`: by table key and by full name (restriction of
  the present proof: the conversion order, the augment loop's swap-remove order) -/
  keyLast : ∀ kb ∈ B.modules, ∀ kd ∈ dk, kb.1 < kd.1
  nameLast : ∀ m ∈ B.mods, ∀ d ∈ ds, m.fullName < d.fullName
  /-- nobody in `B` imports a new module, or belongs to one -/
  imports : ∀ m ∈ B.mods, ∀ i ∈ m.imports, X.findModule false i = B.findModule false i
  ownerEq : ∀ m ∈ B.mods, X.owner m = B.owner m
  /-- the new modules contain nothing but header statements, imports and deviations -/
  devOnly : ∀ d ∈ ds, DeviationOnly d.stmt

/-- `DevExtCore` plus: no `uses` in `B` (restriction of the proof of `frame_across_modules`: the fuel
of the grouping search). -/
structure DevExt (B X : Registry) (ds : List Mod) (dk : KeyMap) : Prop extends DevExtCore B X ds dk where
  noUsesB : ∀ m ∈ B.mods, noUses m.stmt = true

/-- `DevExtCore` from its conditions on the two tables (decidable for concrete registries) as one
conjunction, and the two conditions on lookups. -/
theorem DevExtCore.of_tables {B X : Registry} {ds : List Mod} {dk : KeyMap}
    (mods : X.mods = B.mods ++ ds) (subsX : X.subModules = []) (subsB : B.subModules = [])
    (tables : X.modules = B.modules ++ dk ∧ (∀ m ∈ B.mods, ∀ d ∈ ds, m.seq ≠ d.seq) ∧
      (∀ kv ∈ B.modules, ∃ m ∈ B.mods, m.seq = kv.2) ∧ (∀ kv ∈ dk, ∃ d ∈ ds, d.seq = kv.2) ∧
      (∀ kb ∈ B.modules, ∀ kd ∈ dk, kb.1 < kd.1) ∧ (∀ m ∈ B.mods, ∀ d ∈ ds, m.fullName < d.fullName) ∧
      ∀ d ∈ ds, DeviationOnly d.stmt)
    (imports : ∀ m ∈ B.mods, ∀ i ∈ m.imports, X.findModule false i = B.findModule false i)
    (ownerEq : ∀ m ∈ B.mods, X.owner m = B.owner m) : DevExtCore B X ds dk :=
  ⟨mods, tables.1, subsX, subsB, tables.2.1, tables.2.2.1, tables.2.2.2.1, tables.2.2.2.2.1, tables.2.2.2.2.2.1,
    imports, ownerEq, tables.2.2.2.2.2.2⟩

section
variable {B X : Registry} {ds : List Mod} {dk : KeyMap} (h : DevExtCore B X ds dk)
include h

/-- `id` is not the sequence number of a new module. -/
def Old (ds : List Mod) (id : Nat) : Prop := ∀ d ∈ ds, d.seq ≠ id

omit h in
theorem Old.of_mem {B X : Registry} {ds : List Mod} {dk : KeyMap} (h : DevExtCore B X ds dk) {m : Mod} (hm : m ∈ B.mods) :
    Old ds m.seq := fun d hd e => h.seqFresh m hm d hd e.symm

theorem byId_ext {id : Nat} (hid : Old ds id) : X.byId id = B.byId id := by
  unfold Registry.byId
  rw [h.mods, List.find?_append]
  cases hb : B.mods.find? (·.seq == id) with
  | some m => rfl
  | none =>
    simp only [Option.none_or]
    apply List.find?_eq_none.mpr
    intro d hd
    simpa using hid d hd

theorem findModuleByPrefix_ext {cm : Mod} (hcm : cm ∈ B.mods) (pfx : String) :
    X.findModuleByPrefix cm pfx = B.findModuleByPrefix cm pfx := by
  unfold Registry.findModuleByPrefix
  split
  · rfl
  · split
    · next i hi => exact h.imports cm hcm i (List.mem_of_find?_eq_some hi)
    · rfl

/-! ### forests with extra trees -/

/-- The forest `f` with the trees `G` appended. -/
def ext (G : List (Nat × Entry)) (f : Forest) : Forest := { trees := f.trees ++ G }

omit h in
theorem tree?_ext (G : List (Nat × Entry)) (f : Forest) (t : Nat) (ht : ∀ g ∈ G, g.1 ≠ t) :
    (ext G f).tree? t = f.tree? t := by
  unfold Forest.tree? ext
  simp only [List.find?_append]
  cases f.trees.find? (·.1 == t) with
  | some x => rfl
  | none =>
    simp only [Option.none_or]
    rw [List.find?_eq_none.mpr]
    intro g hg
    simpa using ht g hg

omit h in
theorem setTree_ext (G : List (Nat × Entry)) (f : Forest) (t : Nat) (e : Entry) (ht : ∀ g ∈ G, g.1 ≠ t) :
    (ext G f).setTree t e = ext G (f.setTree t e) := by
  unfold Forest.setTree ext
  simp only [List.map_append, Forest.mk.injEq, List.append_cancel_left_eq]
  rw [List.map_congr_left (g := id)]
  · simp
  · intro g hg
    obtain ⟨i, x⟩ := g
    have : ¬ i = t := ht (i, x) hg
    simp [this]

/-! ### `find` without the registry -/

/-- The tree an absolute path starts in (`find`, first half). -/
def treeOf (reg : Registry) (start : Loc) (ctxMod : Nat) (first : String) : Option Nat :=
  let pfx := (splitPrefix first).1
  if pfx == "" then
    match reg.byId start.1 with
    | some sm => if sm.isSub then ((reg.owner sm).map (·.seq)).getD start.1 else start.1
    | none => some start.1
  else
  match reg.byId ctxMod with
  | none => none
  | some cm =>
    match reg.findModuleByPrefix cm pfx with
    | none => none
    | some m => (reg.owner m).map (·.seq)

/-- `find` for an absolute path, given the tree. -/
def findAbs (f : Forest) (start : Loc) (tree : Option Nat) (parts : List String) : Option Loc × Forest :=
  match tree with
  | none =>
    (none, match f.tree? start.1 with
      | some root => f.setTree start.1 (root.addErr (Err.bare "other"))
      | none => f)
  | some t =>
    match f.tree? t with
    | none => (none, f)
    | some root =>
      let (r, root) := walkParts parts root (some [])
      (r.map (t, ·), f.setTree t root)

def findRel (f : Forest) (start : Loc) (parts : List String) : Option Loc × Forest :=
  match f.tree? start.1 with
  | none => (none, f)
  | some root =>
    let (r, root) := walkParts parts root (some start.2)
    (r.map (start.1, ·), f.setTree start.1 root)

def findParts (reg : Registry) (f : Forest) (start : Loc) (ctxMod : Nat) : List String → Option Loc × Forest
  | "" :: parts => findAbs f start (treeOf reg start ctxMod (parts.headD "")) parts
  | parts => findRel f start parts

omit h in
theorem find_eq (reg : Registry) (f : Forest) (start : Loc) (ctxMod : Nat) (name : String) :
    find reg f start ctxMod name =
      if name == "" then (none, f) else findParts reg f start ctxMod (name.splitOn "/") := by
  unfold find
  split
  · rfl
  · simp only
    generalize name.splitOn "/" = l
    split
    · rfl
    · next hne => rw [findParts.eq_2 _ _ _ _ _ hne]; rfl

theorem treeOf_ext {start : Loc} {ctxMod : Nat} (hs : ∃ m ∈ B.mods, m.seq = start.1) (hc : Old ds ctxMod)
    (first : String) : treeOf X start ctxMod first = treeOf B start ctxMod first := by
  obtain ⟨m0, hm0, hm0s⟩ := hs
  unfold treeOf
  simp only
  rw [byId_ext h (hm0s ▸ Old.of_mem h hm0), byId_ext h hc]
  split
  · split
    · next sm hsm => rw [h.ownerEq sm (RegistryAux.byId_mem hsm)]
    · rfl
  · split
    · rfl
    · next cm hcm =>
      have hcmB : cm ∈ B.mods := RegistryAux.byId_mem hcm
      rw [findModuleByPrefix_ext h hcmB]
      split
      · rfl
      · next m hm => rw [h.ownerEq m (RegistryAux.findModuleByPrefix_mem hcmB hm)]

omit h in
/-- The tree an absolute path of a module of `B` starts in is a tree of `B`. -/
theorem treeOf_old {start : Loc} {ctxMod : Nat} (hs : ∃ m ∈ B.mods, m.seq = start.1) (first : String) (t : Nat)
    (ht : treeOf B start ctxMod first = some t) : ∃ m ∈ B.mods, m.seq = t := by
  obtain ⟨m0, hm0, hm0s⟩ := hs
  unfold treeOf at ht
  simp only at ht
  split at ht
  · split at ht
    · next sm hsm =>
      split at ht
      · cases ho : B.owner sm with
        | none => simp [ho] at ht; exact ⟨m0, hm0, hm0s.trans ht⟩
        | some o => simp [ho] at ht; exact ⟨o, RegistryAux.owner_mem ho (RegistryAux.byId_mem hsm), ht⟩
      · cases ht; exact ⟨m0, hm0, hm0s⟩
    · cases ht; exact ⟨m0, hm0, hm0s⟩
  · split at ht
    · cases ht
    · next cm hcm =>
      split at ht
      · cases ht
      · next m hm =>
        have hmB := RegistryAux.findModuleByPrefix_mem (RegistryAux.byId_mem hcm) hm
        cases ho : B.owner m with
        | none => simp [ho] at ht
        | some o => simp [ho] at ht; exact ⟨o, RegistryAux.owner_mem ho hmB, ht⟩

/-- Extra trees are those of new modules. -/
def NewTrees (ds : List Mod) (G : List (Nat × Entry)) : Prop := ∀ g ∈ G, ∃ d ∈ ds, d.seq = g.1

omit h in
theorem NewTrees.ne {ds : List Mod} {G : List (Nat × Entry)} (hG : NewTrees ds G) {t : Nat} (ht : Old ds t) :
    ∀ g ∈ G, g.1 ≠ t := by
  intro g hg e
  obtain ⟨d, hd, hdg⟩ := hG g hg
  exact ht d hd (hdg.trans e)

theorem old_of_mem {t : Nat} (ht : ∃ m ∈ B.mods, m.seq = t) : Old ds t := by
  obtain ⟨m, hm, rfl⟩ := ht
  exact Old.of_mem h hm

omit h in
theorem findAbs_ext {G : List (Nat × Entry)} (hG : NewTrees ds G) (f : Forest) (start : Loc) (tree : Option Nat)
    (parts : List String) (hs : Old ds start.1) (ht : ∀ t, tree = some t → Old ds t) :
    findAbs (ext G f) start tree parts = ((findAbs f start tree parts).1, ext G (findAbs f start tree parts).2) := by
  unfold findAbs
  cases tree with
  | none =>
    simp only
    rw [tree?_ext G f _ (hG.ne hs)]
    cases f.tree? start.1 with
    | none => rfl
    | some root => simp only; rw [setTree_ext G f _ _ (hG.ne hs)]
  | some t =>
    simp only
    rw [tree?_ext G f _ (hG.ne (ht t rfl))]
    cases f.tree? t with
    | none => rfl
    | some root => simp only; rw [setTree_ext G f _ _ (hG.ne (ht t rfl))]

omit h in
theorem findRel_ext {G : List (Nat × Entry)} (hG : NewTrees ds G) (f : Forest) (start : Loc)
    (parts : List String) (hs : Old ds start.1) :
    findRel (ext G f) start parts = ((findRel f start parts).1, ext G (findRel f start parts).2) := by
  unfold findRel
  rw [tree?_ext G f _ (hG.ne hs)]
  cases f.tree? start.1 with
  | none => rfl
  | some root => simp only; rw [setTree_ext G f _ _ (hG.ne hs)]

/-- **`find` on behalf of a module of `B` does not see the new modules.** -/
theorem find_ext {G : List (Nat × Entry)} (hG : NewTrees ds G) (f : Forest) (start : Loc) (ctxMod : Nat) (name : String)
    (hs : ∃ m ∈ B.mods, m.seq = start.1) (hc : Old ds ctxMod) :
    find X (ext G f) start ctxMod name =
      ((find B f start ctxMod name).1, ext G (find B f start ctxMod name).2) := by
  rw [find_eq, find_eq]
  split
  · rfl
  · generalize name.splitOn "/" = l
    unfold findParts
    split
    · next parts =>
      rw [treeOf_ext h hs hc]
      exact findAbs_ext hG f start _ parts (old_of_mem h hs) (fun t ht => old_of_mem h (treeOf_old hs _ t ht))
    · exact findRel_ext hG f start _ (old_of_mem h hs)

theorem namespaceAt_ext {G : List (Nat × Entry)} (hG : NewTrees ds G) (f : Forest) (loc : Loc)
    (hs : ∃ m ∈ B.mods, m.seq = loc.1) : namespaceAt X (ext G f) loc = namespaceAt B f loc := by
  unfold namespaceAt
  rw [tree?_ext G f _ (hG.ne (old_of_mem h hs)), byId_ext h (old_of_mem h hs)]
  cases f.tree? loc.1 with
  | none => rfl
  | some root =>
    simp only
    split
    · rfl
    · split
      · rfl
      · next m hm => rw [h.ownerEq m (RegistryAux.byId_mem hm)]

end

end Goyang.Lemmas.DevExt
