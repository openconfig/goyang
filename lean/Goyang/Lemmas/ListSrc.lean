/-
The reference reader's tokens as a token source for the (generic) parser model, and
(c): the parser model over that source = the statement grammar of the reference reader over the
same tokens (concatenation, nesting, sibling order, positions; rejection ⇔ an error line).
-/
import Goyang.Model.Parse
import Goyang.Spec.Parse
import Goyang.Lemmas.QStr
import Goyang.Lemmas.Utf8
import Goyang.Lemmas.ParseSim

namespace Goyang.Lemmas.ListSrc
open Goyang.Model.Lex (Token Code ErrLine ErrClass Fault)
open Goyang.Model.Parse
open Goyang.Model.Utf8 (encodeChars)
open Goyang.Spec.Parse
open Goyang.Lemmas.QStr
open Goyang.Lemmas.Utf8 (encodeChars_append encodeChars_eq_single encodeChars_inj_ascii)

/-! ## the statements of the reference reader as statements of the model -/

mutual
def encStmt (file : List UInt8) : Stmt → Statement
  | ⟨kw, arg, line, col, subs⟩ =>
    { keyword := encodeChars kw, hasArg := arg.isSome, arg := encodeChars (arg.getD []), file := file,
      line := line, col := col, subs := encStmts file subs }
def encStmts (file : List UInt8) : List Stmt → List Statement
  | [] => []
  | s :: r => encStmt file s :: encStmts file r
end

theorem encStmts_append (file : List UInt8) (a b : List Stmt) :
    encStmts file (a ++ b) = encStmts file a ++ encStmts file b := by
  induction a with
  | nil => simp [encStmts]
  | cons s r ih => simp [encStmts, ih]

/-! ## the token source -/

/-- tokens still to come, errors written so far, and what the lexer will report when it stops at
an unterminated quote or comment after the last token -/
structure LSrc where
  text : List Char
  file : List UInt8
  toks : List PTok
  errs : List ErrLine
  tail : Option ErrLine

def tokCode : Tok → Code
  | .semi => .punct 59
  | .lbrace => .punct 123
  | .rbrace => .punct 125
  | .unq _ => .unquoted
  | .sq _ => .string
  | .dq _ => .string

def tokText (text : List Char) (t : PTok) : List UInt8 :=
  match t.tok with
  | .semi => [59]
  | .lbrace => [123]
  | .rbrace => [125]
  | .unq s => encodeChars s
  | .sq s => encodeChars s
  | .dq raw => encodeChars (implValue (quoteCol text t.off) raw)

/-- the token the lexer hands out for `t` -/
def conv (text : List Char) (file : List UInt8) (t : PTok) : Token :=
  { code := tokCode t.tok, text := tokText text t, file := file,
    line := lineOf text t.off, col := colOf text t.off }

/-- a double-quoted token with an undefined backslash pair, read outside pattern mode -/
def badEsc (b : Bool) (t : PTok) : Bool :=
  match t.tok with
  | .dq raw => !b && !raw.all validEsc
  | _ => false

/-- characters before the first undefined backslash pair -/
def firstBadOff : List QItem → Nat
  | [] => 0
  | .lit _ :: r => 1 + firstBadOff r
  | .esc c :: r => if validEsc (.esc c) then 2 + firstBadOff r else 0

def escErr (text : List Char) (file : List UInt8) (t : PTok) : ErrLine :=
  match t.tok with
  | .dq raw =>
    { file := file, cls := .invalidEscape,
      pos := some (lineOf text (t.off + 1 + firstBadOff raw), colOf text (t.off + 1 + firstBadOff raw)) }
  | _ => { file := file, cls := .invalidEscape, pos := none }

def lpull (b : Bool) (s : LSrc) : Option Token × LSrc :=
  match s.toks with
  | [] => (none, match s.tail with
                 | some e => { s with errs := s.errs ++ [e], tail := none }
                 | none => s)
  | t :: ts =>
    (some (conv s.text s.file t),
     { s with toks := ts, errs := if badEsc b t then s.errs ++ [escErr s.text s.file t] else s.errs })

def listSource : Source LSrc where
  pull := lpull
  errs s := s.errs
  addErr e s := { s with errs := s.errs ++ [e] }
  endLoc s := (s.file, 0, 0)
  fault _ := .none

abbrev LS := listSource
abbrev P := Parser LSrc

/-! ## basic facts about fetching from the list -/

theorem pullTok_eq (b : Bool) (p : P) :
    pullTok LS b p = ((lpull b p.src).1, { p with src := (lpull b p.src).2 }) := rfl

theorem pullTok_nil (b : Bool) (p : P) (h : p.src.toks = []) :
    (pullTok LS b p).1 = none ∧ (pullTok LS b p).2.tokens = p.tokens ∧ (pullTok LS b p).2.depth = p.depth ∧
    (pullTok LS b p).2.fault = p.fault ∧ (pullTok LS b p).2.src.toks = [] ∧
    (pullTok LS b p).2.src.text = p.src.text ∧ (pullTok LS b p).2.src.file = p.src.file ∧
    (p.src.tail = none → (pullTok LS b p).2.src.errs = p.src.errs ∧ (pullTok LS b p).2.src.tail = none) ∧
    (p.src.tail ≠ none → (pullTok LS b p).2.src.errs ≠ []) ∧
    (p.src.errs ≠ [] → (pullTok LS b p).2.src.errs ≠ []) := by
  rw [pullTok_eq]
  unfold lpull
  rw [h]
  cases ht : p.src.tail with
  | none => simp [h, ht]
  | some e => simp [h]

theorem pullTok_cons (b : Bool) (p : P) (t : PTok) (ts : List PTok) (h : p.src.toks = t :: ts) :
    (pullTok LS b p).1 = some (conv p.src.text p.src.file t) ∧
    (pullTok LS b p).2.tokens = p.tokens ∧ (pullTok LS b p).2.depth = p.depth ∧
    (pullTok LS b p).2.fault = p.fault ∧ (pullTok LS b p).2.src.toks = ts ∧
    (pullTok LS b p).2.src.text = p.src.text ∧ (pullTok LS b p).2.src.file = p.src.file ∧
    (pullTok LS b p).2.src.tail = p.src.tail ∧
    (badEsc b t = false → (pullTok LS b p).2.src.errs = p.src.errs) ∧
    (badEsc b t = true → (pullTok LS b p).2.src.errs ≠ []) ∧
    (p.src.errs ≠ [] → (pullTok LS b p).2.src.errs ≠ []) := by
  rw [pullTok_eq]
  unfold lpull
  rw [h]
  by_cases hb : badEsc b t = true
  · simp [hb]
  · simp [hb]

theorem pullTok_frame (b : Bool) (p : P) :
    (pullTok LS b p).2.fault = p.fault ∧ (pullTok LS b p).2.depth = p.depth ∧
    (pullTok LS b p).2.src.text = p.src.text ∧ (pullTok LS b p).2.src.file = p.src.file := by
  cases ht : p.src.toks with
  | nil => obtain ⟨_, _, h3, h4, _, h6, h7, _⟩ := pullTok_nil b p ht; exact ⟨h4, h3, h6, h7⟩
  | cons t ts => obtain ⟨_, _, h3, h4, _, h6, h7, _⟩ := pullTok_cons b p t ts ht; exact ⟨h4, h3, h6, h7⟩

theorem pullTok_length (b : Bool) (p : P) (T : Token) (h : (pullTok LS b p).1 = some T) :
    (pullTok LS b p).2.src.toks.length + 1 = p.src.toks.length := by
  cases ht : p.src.toks with
  | nil => rw [(pullTok_nil b p ht).1] at h; cases h
  | cons t ts => rw [(pullTok_cons b p t ts ht).2.2.2.2.1]; rfl

theorem push_fields (ts : List Token) (p : P) :
    (push ts p).src = p.src ∧ (push ts p).depth = p.depth ∧ (push ts p).fault = p.fault ∧
    (push ts p).tokens = ts.reverse ++ p.tokens := ⟨rfl, rfl, rfl, rfl⟩

theorem addErr_fields (e : ErrLine) (p : P) :
    (addErr LS e p).src.errs = p.src.errs ++ [e] ∧ (addErr LS e p).src.toks = p.src.toks ∧
    (addErr LS e p).tokens = p.tokens ∧ (addErr LS e p).depth = p.depth ∧ (addErr LS e p).fault = p.fault ∧
    (addErr LS e p).src.text = p.src.text ∧ (addErr LS e p).src.file = p.src.file ∧
    (addErr LS e p).src.tail = p.src.tail := ⟨rfl, rfl, rfl, rfl, rfl, rfl, rfl, rfl⟩

theorem addErr_bad (e : ErrLine) (p : P) : (addErr LS e p).src.errs ≠ [] := by
  rw [(addErr_fields e p).1]; simp

/-- errors are never taken back -/
def Bad (p : P) : Prop := p.src.errs ≠ []

theorem pullTok_bad (b : Bool) (p : P) (h : Bad p) : Bad (pullTok LS b p).2 := by
  cases ht : p.src.toks with
  | nil => exact (pullTok_nil b p ht).2.2.2.2.2.2.2.2.2 h
  | cons t ts => exact (pullTok_cons b p t ts ht).2.2.2.2.2.2.2.2.2.2 h

theorem mono : ParseSim.Mono LS :=
  ⟨fun b s h => pullTok_bad b (initParser s) h, fun e s => addErr_bad e (initParser s)⟩

theorem concatLoop_bad (b : Bool) : ∀ (f : Nat) (T : Token) (p : P), Bad p → Bad (concatLoop LS b f T p).2 :=
  ParseSim.concatLoop_bad mono b

theorem next_bad (b : Bool) (f : Nat) (p : P) (h : Bad p) : Bad (next LS b f p).2 := ParseSim.next_bad mono b f p h

theorem fetchArg_bad (kw : Token) (f : Nat) (p : P) (h : Bad p) : Bad (fetchArg LS kw f p).2.2 :=
  ParseSim.fetchArg_bad mono kw f p h

theorem stmt_block_bad : ∀ (f : Nat),
    (∀ (p : P), Bad p → Bad (nextStatement LS f p).2) ∧
    (∀ (acc : List Statement) (p : P), Bad p → Bad (blockLoop LS f acc p).2) := ParseSim.stmt_block_bad mono

theorem topLoop_bad : ∀ (f : Nat) (acc : List Statement) (p : P), Bad p → Bad (topLoop LS f acc p).2 :=
  ParseSim.topLoop_bad mono

/-! ## the tokens as the reference reader sees them -/

/-- admissibility as far as (c) needs it: exclusion (3) for every double-quoted token -/
def okTok (t : PTok) : Prop :=
  match t.tok with
  | .dq raw => noEscBlankEnd raw
  | _ => True

theorem conv_code (text : List Char) (file : List UInt8) (t : PTok) : (conv text file t).code = tokCode t.tok := rfl

theorem tokCode_string (t : Tok) : tokCode t = Code.string ↔ t.isQuoted = true := by
  cases t <;> simp [tokCode, Tok.isQuoted]

theorem tokCode_unquoted (t : Tok) : tokCode t = Code.unquoted ↔ ∃ s, t = .unq s := by
  cases t <;> simp [tokCode]

/-- a quoted piece: its value is the text of the token the lexer hands out, unless an undefined
backslash pair is read outside pattern mode -/
theorem piece_spec (text : List Char) (file : List UInt8) (b : Bool) (t : PTok) (hq : t.tok.isQuoted = true)
    (hok : okTok t) :
    (badEsc b t = true → piece text b t = none) ∧
    (badEsc b t = false → ∃ v, piece text b t = some v ∧ encodeChars v = (conv text file t).text) := by
  obtain ⟨tok, off⟩ := t
  cases tok with
  | sq s => simp [badEsc, piece, conv, tokText]
  | dq raw =>
    have hok' : noEscBlankEnd raw := hok
    cases b with
    | true =>
      simp only [badEsc, Bool.not_true, Bool.false_and, Bool.false_eq_true, false_implies, true_and,
        forall_const, piece, conv, tokText]
      exact ⟨_, dequote_true _ raw hok', rfl⟩
    | false =>
      simp only [badEsc, Bool.not_false, Bool.true_and, Bool.not_eq_eq_eq_not, Bool.not_true, piece, conv, tokText,
        Bool.not_eq_false]
      rw [dequote_false _ raw hok']
      constructor
      · intro h; simp [h]
      · intro h; simp [h]
  | semi => simp [Tok.isQuoted] at hq
  | lbrace => simp [Tok.isQuoted] at hq
  | rbrace => simp [Tok.isQuoted] at hq
  | unq s => simp [Tok.isQuoted] at hq

theorem badEsc_not_quoted (b : Bool) (t : PTok) (hq : t.tok.isQuoted = false) : badEsc b t = false := by
  obtain ⟨tok, off⟩ := t
  cases tok <;> simp [badEsc, Tok.isQuoted] at hq ⊢

/-- the token is the unquoted `+` -/
theorem conv_plus (text : List Char) (file : List UInt8) (t : PTok) (hc : (conv text file t).code = Code.unquoted) :
    (conv text file t).text = [43] ↔ t.tok = .unq ['+'] := by
  obtain ⟨tok, off⟩ := t
  cases tok with
  | unq s =>
    simp only [conv, tokText, Tok.unq.injEq]
    constructor
    · intro h
      exact encodeChars_eq_single s '+' (by decide) h
    · intro h; rw [h]; rfl
  | semi => simp [conv, tokCode] at hc
  | lbrace => simp [conv, tokCode] at hc
  | rbrace => simp [conv, tokCode] at hc
  | sq s => simp [conv, tokCode] at hc
  | dq s => simp [conv, tokCode] at hc

/-- the parser stands between two statements, before the tokens `ts`, and nothing has gone wrong -/
structure At (text : List Char) (file : List UInt8) (p : P) (ts : List PTok) : Prop where
  stack : p.tokens = []
  toks : p.src.toks = ts
  clean : p.src.errs = []
  fault : p.fault = .none
  text : p.src.text = text
  file : p.src.file = file


theorem pullTok_at_cons (text : List Char) (file : List UInt8) (b : Bool) (p : P) (t : PTok) (ts : List PTok)
    (hat : At text file p (t :: ts)) :
    (pullTok LS b p).1 = some (conv text file t) ∧ (pullTok LS b p).2.src.toks = ts ∧
    (badEsc b t = false → At text file (pullTok LS b p).2 ts ∧ (pullTok LS b p).2.src.tail = p.src.tail) ∧
    (badEsc b t = true → Bad (pullTok LS b p).2) := by
  obtain ⟨h1, h2, h3, h4, h5, h6, h7, h8, h9, h10, _⟩ := pullTok_cons b p t ts hat.toks
  exact ⟨by rw [h1, hat.text, hat.file], h5, fun hb => ⟨⟨h2.trans hat.stack, h5, (h9 hb).trans hat.clean,
    h4.trans hat.fault, h6.trans hat.text, h7.trans hat.file⟩, h8⟩, h10⟩

theorem pullTok_at (text : List Char) (file : List UInt8) (b : Bool) (p : P) (t : PTok) (ts : List PTok)
    (hat : At text file p (t :: ts)) (hb : badEsc b t = false) :
    (pullTok LS b p).1 = some (conv text file t) ∧ At text file (pullTok LS b p).2 ts ∧
    (pullTok LS b p).2.src.tail = p.src.tail ∧ (pullTok LS b p).2.depth = p.depth := by
  obtain ⟨h1, _, hg, _⟩ := pullTok_at_cons text file b p t ts hat
  exact ⟨h1, (hg hb).1, (hg hb).2, (pullTok_frame b p).2.1⟩

theorem pullTok_at_nil (text : List Char) (file : List UInt8) (b : Bool) (p : P) (hat : At text file p []) :
    (pullTok LS b p).1 = none ∧ (pullTok LS b p).2.depth = p.depth ∧
    (p.src.tail = none → At text file (pullTok LS b p).2 [] ∧ (pullTok LS b p).2.src.tail = none) ∧
    (p.src.tail ≠ none → Bad (pullTok LS b p).2) := by
  obtain ⟨h1, h2, h3, h4, h5, h6, h7, h8, h9, _⟩ := pullTok_nil b p hat.toks
  exact ⟨h1, h3, fun ht => ⟨⟨h2.trans hat.stack, h5, (h8 ht).1.trans hat.clean, h4.trans hat.fault,
    h6.trans hat.text, h7.trans hat.file⟩, (h8 ht).2⟩, h9⟩

/-- after these tokens the statement cannot end: neither `;` nor `{` comes next -/
def NoTerm : List PTok → Prop
  | [] => True
  | e :: _ => e.tok ≠ .semi ∧ e.tok ≠ .lbrace

/-! ## `concatTail` case by case -/

theorem concatTail_nil (text : List Char) (b : Bool) : concatTail text b [] = some ([], []) := by
  simp [concatTail]

theorem concatTail_single (text : List Char) (b : Bool) (t : PTok) : concatTail text b [t] = some ([], [t]) := by
  simp [concatTail]

theorem concatTail_not_plus (text : List Char) (b : Bool) (t : PTok) (ts : List PTok) (h : t.tok ≠ .unq ['+']) :
    concatTail text b (t :: ts) = some ([], t :: ts) := by
  cases ts with
  | nil => exact concatTail_single text b t
  | cons q rest => simp [concatTail, h]

theorem concatTail_plus_other (text : List Char) (b : Bool) (t q : PTok) (ts : List PTok)
    (h : q.tok.isQuoted = false) : concatTail text b (t :: q :: ts) = some ([], t :: q :: ts) := by
  simp [concatTail, h]

theorem concatTail_plus_quoted_some (text : List Char) (b : Bool) (t q : PTok) (ts : List PTok)
    (ht : t.tok = .unq ['+']) (h : q.tok.isQuoted = true) (s s' : List Char) (r : List PTok)
    (h1 : piece text b q = some s) (h2 : concatTail text b ts = some (s', r)) :
    concatTail text b (t :: q :: ts) = some (s ++ s', r) := by
  simp [concatTail, ht, h, h1, h2]

theorem concatTail_plus_quoted_none (text : List Char) (b : Bool) (t q : PTok) (ts : List PTok)
    (ht : t.tok = .unq ['+']) (h : q.tok.isQuoted = true)
    (h1 : piece text b q = none ∨ concatTail text b ts = none) :
    concatTail text b (t :: q :: ts) = none := by
  rcases h1 with h1 | h1
  · simp [concatTail, ht, h, h1]
  · simp only [concatTail, ht, h, h1, decide_true, Bool.and_self, if_true]
    split <;> simp_all

/-! ## `parser.next` on the list -/

/-- what `concatLoop` leaves untouched -/
theorem concatLoop_frame (b : Bool) : ∀ (f : Nat) (T : Token) (p : P), p.src.toks.length + 1 ≤ f →
    (concatLoop LS b f T p).1.code = T.code ∧ (concatLoop LS b f T p).1.file = T.file ∧
    (concatLoop LS b f T p).1.line = T.line ∧ (concatLoop LS b f T p).1.col = T.col ∧
    (concatLoop LS b f T p).2.fault = p.fault ∧ (concatLoop LS b f T p).2.depth = p.depth ∧
    (concatLoop LS b f T p).2.src.text = p.src.text ∧ (concatLoop LS b f T p).2.src.file = p.src.file := by
  intro f
  induction f with
  | zero => intro T p h; omega
  | succ f ih =>
    intro T p hf
    unfold concatLoop
    simp only
    obtain ⟨h4, h3, h6, h7⟩ := pullTok_frame b p
    split
    · exact ⟨rfl, rfl, rfl, rfl, h4, h3, h6, h7⟩
    · rename_i nt hnt
      split
      · split
        · exact ⟨rfl, rfl, rfl, rfl, h4, h3, h6, h7⟩
        · obtain ⟨g4, g3, g6, g7⟩ := pullTok_frame b (pullTok LS b p).2
          split
          · exact ⟨rfl, rfl, rfl, rfl, g4.trans h4, g3.trans h3, g6.trans h6, g7.trans h7⟩
          · rename_i nnt hnnt
            split
            · have l1 := pullTok_length b p nt hnt
              have l2 := pullTok_length b _ nnt hnnt
              obtain ⟨i1, i2, i3, i4, i5, i6, i7, i8⟩ := ih { T with text := T.text ++ nnt.text }
                (pullTok LS b (pullTok LS b p).2).2 (by omega)
              exact ⟨i1, i2, i3, i4, i5.trans (g4.trans h4), i6.trans (g3.trans h3), i7.trans (g6.trans h6),
                i8.trans (g7.trans h7)⟩
            · exact ⟨rfl, rfl, rfl, rfl, g4.trans h4, g3.trans h3, g6.trans h6, g7.trans h7⟩
      · exact ⟨rfl, rfl, rfl, rfl, h4, h3, h6, h7⟩

/-- the concatenation loop against `concatTail` -/
theorem concatLoop_spec (text : List Char) (file : List UInt8) (b : Bool) :
    ∀ (f : Nat) (ts : List PTok) (T : Token) (p : P),
    At text file p ts → ts.length + 1 ≤ f → (∀ t ∈ ts, okTok t) →
    ((Bad (concatLoop LS b f T p).2 ∧
        (concatTail text b ts = none ∨ ∃ v rest, concatTail text b ts = some (v, rest) ∧ NoTerm rest)) ∨
     ((concatLoop LS b f T p).2.src.errs = [] ∧
        ∃ v pushed, concatTail text b ts = some (v, pushed ++ (concatLoop LS b f T p).2.src.toks) ∧
          (concatLoop LS b f T p).1.text = T.text ++ encodeChars v ∧
          (concatLoop LS b f T p).2.tokens = pushed.map (conv text file) ∧
          (pushed = [] → (concatLoop LS b f T p).2.src.toks = []) ∧
          (concatLoop LS b f T p).2.src.tail = p.src.tail ∧
          (∀ e e2 r, pushed = e :: e2 :: r → e.tok = .unq ['+']))) := by
  intro f
  induction f with
  | zero => intro ts T p _ h; omega
  | succ f ih =>
    intro ts T p hat hf hadm
    unfold concatLoop
    simp only
    cases ts with
    | nil =>
      obtain ⟨h1, _, h8, h9⟩ := pullTok_at_nil text file b p hat
      rw [h1]
      simp only
      cases htail : p.src.tail with
      | none =>
        obtain ⟨hat1, e2⟩ := h8 htail
        refine Or.inr ⟨hat1.clean, [], [], ?_, by simp [Goyang.Model.Utf8.encodeChars], hat1.stack, fun _ => hat1.toks, e2,
          (fun _ _ _ h => by cases h)⟩
        rw [hat1.toks]; exact concatTail_nil text b
      | some e =>
        exact Or.inl ⟨h9 (by rw [htail]; simp), Or.inr ⟨[], [], concatTail_nil text b, trivial⟩⟩
    | cons nt ts1 =>
      obtain ⟨h1, _, hgood, hbadc⟩ := pullTok_at_cons text file b p nt ts1 hat
      rw [h1]
      simp only
      -- the token `nt` alone is pushed back: nothing is joined
      have back : nt.tok ≠ .unq ['+'] → badEsc b nt = false →
          (push [conv text file nt] (pullTok LS b p).2).src.errs = [] ∧
          ∃ v pushed, concatTail text b (nt :: ts1) =
              some (v, pushed ++ (push [conv text file nt] (pullTok LS b p).2).src.toks) ∧
            T.text = T.text ++ encodeChars v ∧
            (push [conv text file nt] (pullTok LS b p).2).tokens = pushed.map (conv text file) ∧
            (pushed = [] → (push [conv text file nt] (pullTok LS b p).2).src.toks = []) ∧
            (push [conv text file nt] (pullTok LS b p).2).src.tail = p.src.tail ∧
            (∀ e e2 r, pushed = e :: e2 :: r → e.tok = .unq ['+']) := by
        intro hnt hb
        obtain ⟨hat1, h8⟩ := hgood hb
        refine ⟨by rw [(push_fields _ _).1]; exact hat1.clean, [], [nt], ?_,
          by simp [Goyang.Model.Utf8.encodeChars], ?_, (fun h => by cases h), ?_, (fun _ _ _ h => by cases h)⟩
        · rw [(push_fields _ _).1, hat1.toks]; exact concatTail_not_plus text b nt ts1 hnt
        · rw [(push_fields _ _).2.2.2, hat1.stack]; rfl
        · rw [(push_fields _ _).1, h8]
      by_cases hcode : (conv text file nt).code = Code.unquoted
      · rw [if_pos hcode]
        have hnq : badEsc b nt = false := by
          obtain ⟨s, hs⟩ := (tokCode_unquoted nt.tok).1 hcode
          exact badEsc_not_quoted b nt (by rw [hs]; rfl)
        by_cases hplus : (conv text file nt).text = [43]
        · rw [if_neg (by simpa using hplus)]
          have hnt : nt.tok = .unq ['+'] := (conv_plus text file nt hcode).1 hplus
          obtain ⟨hat1, h8⟩ := hgood hnq
          cases ts1 with
          | nil =>
            obtain ⟨g1, _, g8, g9⟩ := pullTok_at_nil text file b _ hat1
            rw [g1]
            simp only
            cases htail : p.src.tail with
            | none =>
              obtain ⟨hat2, e2⟩ := g8 (h8.trans htail)
              refine Or.inr ⟨by rw [(push_fields _ _).1]; exact hat2.clean, [], [nt], ?_,
                by simp [Goyang.Model.Utf8.encodeChars], ?_, (fun h => by cases h), ?_, (fun _ _ _ h => by cases h)⟩
              · rw [(push_fields _ _).1, hat2.toks]; exact concatTail_single text b nt
              · rw [(push_fields _ _).2.2.2, hat2.stack]; rfl
              · rw [(push_fields _ _).1, e2]
            | some e =>
              refine Or.inl ⟨?_, Or.inr ⟨[], [nt], concatTail_single text b nt, ?_⟩⟩
              · unfold Bad
                rw [(push_fields _ _).1]
                exact g9 (by rw [h8, htail]; simp)
              · rw [NoTerm, hnt]; simp
          | cons nnt ts2 =>
            obtain ⟨g1, _, ggood, gbadc⟩ := pullTok_at_cons text file b _ nnt ts2 hat1
            rw [g1]
            simp only
            by_cases hq : (conv text file nnt).code = Code.string
            · rw [if_pos hq]
              have hquoted : nnt.tok.isQuoted = true := (tokCode_string nnt.tok).1 hq
              obtain ⟨pb, pg⟩ := piece_spec text file b nnt hquoted (hadm nnt (by simp))
              by_cases hbad : badEsc b nnt = true
              · exact Or.inl ⟨concatLoop_bad b f _ _ (gbadc hbad),
                  Or.inl (concatTail_plus_quoted_none text b nt nnt ts2 hnt hquoted (Or.inl (pb hbad)))⟩
              · have hbad' : badEsc b nnt = false := by simpa using hbad
                obtain ⟨v1, hv1, hev1⟩ := pg hbad'
                obtain ⟨hat2, g8⟩ := ggood hbad'
                rcases ih ts2 { T with text := T.text ++ (conv text file nnt).text } _ hat2
                    (by simp only [List.length_cons] at hf; omega)
                    (fun t ht => hadm t (by simp [ht])) with ⟨hb, hsp⟩ | ⟨hc, v, pushed, hsp, htx, htk, hpe, htl, hsh⟩
                · left
                  refine ⟨hb, ?_⟩
                  rcases hsp with hsp | ⟨v, rest, hsp, hnt'⟩
                  · exact Or.inl (concatTail_plus_quoted_none text b nt nnt ts2 hnt hquoted (Or.inr hsp))
                  · exact Or.inr ⟨v1 ++ v, rest,
                      concatTail_plus_quoted_some text b nt nnt ts2 hnt hquoted v1 v rest hv1 hsp, hnt'⟩
                · right
                  refine ⟨hc, v1 ++ v, pushed,
                    concatTail_plus_quoted_some text b nt nnt ts2 hnt hquoted v1 v _ hv1 hsp, ?_, htk, hpe, ?_, hsh⟩
                  · rw [htx]; simp only; rw [encodeChars_append, ← hev1, List.append_assoc]
                  · rw [htl, g8, h8]
            · rw [if_neg hq]
              have hnquoted : nnt.tok.isQuoted = false := by
                cases hh : nnt.tok.isQuoted with
                | false => rfl
                | true => exact absurd ((tokCode_string nnt.tok).2 hh) hq
              obtain ⟨hat2, g8⟩ := ggood (badEsc_not_quoted b nnt hnquoted)
              refine Or.inr ⟨by rw [(push_fields _ _).1]; exact hat2.clean, [], [nt, nnt], ?_,
                by simp [Goyang.Model.Utf8.encodeChars], ?_, (fun h => by cases h), ?_,
                (fun e e2 r h => by simp only [List.cons.injEq] at h; rw [← h.1]; exact hnt)⟩
              · rw [(push_fields _ _).1, hat2.toks]
                exact concatTail_plus_other text b nt nnt ts2 hnquoted
              · rw [(push_fields _ _).2.2.2, hat2.stack]; rfl
              · rw [(push_fields _ _).1, g8, h8]
        · rw [if_pos (by simpa using hplus)]
          exact Or.inr (back (fun h => hplus ((conv_plus text file nt hcode).2 h)) hnq)
      · rw [if_neg hcode]
        have hnt : nt.tok ≠ .unq ['+'] := by
          intro h; apply hcode; rw [conv_code, h]; rfl
        by_cases hbad : badEsc b nt = true
        · refine Or.inl ⟨by unfold Bad; rw [(push_fields _ _).1]; exact hbadc hbad,
            Or.inr ⟨[], nt :: ts1, concatTail_not_plus text b nt ts1 hnt, ?_⟩⟩
          have : nt.tok.isQuoted = true := by
            cases hh : nt.tok.isQuoted with
            | true => rfl
            | false => rw [badEsc_not_quoted b nt hh] at hbad; cases hbad
          cases hk : nt.tok <;> simp [hk, Tok.isQuoted] at this <;> simp [NoTerm, hk]
        · exact Or.inr (back hnt (by simpa using hbad))

theorem next_pop (b : Bool) (f : Nat) (p : P) (t : Token) (ts : List Token) (h : p.tokens = t :: ts) :
    next LS b f p = (some t, { p with tokens := ts }) := by
  unfold next; rw [h]

/-- fetching at the end of the tokens -/
theorem next_nil (text : List Char) (file : List UInt8) (b : Bool) (f : Nat) (p : P) (hat : At text file p []) :
    (next LS b f p).1 = none ∧
    (p.src.tail ≠ none → Bad (next LS b f p).2) ∧
    (p.src.tail = none → At text file (next LS b f p).2 [] ∧ (next LS b f p).2.src.tail = none ∧
      (next LS b f p).2.depth = p.depth) := by
  unfold next
  rw [hat.stack]
  simp only
  obtain ⟨h1, h3, h8, h9⟩ := pullTok_at_nil text file b p hat
  rw [h1]
  exact ⟨rfl, h9, fun ht => ⟨(h8 ht).1, (h8 ht).2, h3⟩⟩

/-- fetching a token that is not a quoted string -/
theorem next_plain (text : List Char) (file : List UInt8) (b : Bool) (f : Nat) (p : P) (t : PTok) (ts : List PTok)
    (hat : At text file p (t :: ts)) (hq : t.tok.isQuoted = false) :
    (next LS b f p).1 = some (conv text file t) ∧ At text file (next LS b f p).2 ts ∧
    (next LS b f p).2.src.tail = p.src.tail ∧ (next LS b f p).2.depth = p.depth := by
  unfold next
  rw [hat.stack]
  simp only
  obtain ⟨h1, h2, h8, h3⟩ := pullTok_at text file b p t ts hat (badEsc_not_quoted b t hq)
  rw [h1]
  simp only
  have hns : ¬ (conv text file t).code = Code.string := by
    intro h
    rw [conv_code] at h
    rw [(tokCode_string t.tok).1 h] at hq
    cases hq
  rw [if_neg hns]
  exact ⟨rfl, h2, h8, h3⟩

/-- fetching a quoted string: the pieces joined by `+` come back as one token -/
theorem next_quoted (text : List Char) (file : List UInt8) (b : Bool) (f : Nat) (p : P) (t : PTok) (ts : List PTok)
    (hat : At text file p (t :: ts)) (hq : t.tok.isQuoted = true) (hf : ts.length + 1 ≤ f)
    (hadm : ∀ x ∈ t :: ts, okTok x) :
    ∃ T, (next LS b f p).1 = some T ∧ T.code = Code.string ∧ T.file = file ∧
      T.line = lineOf text t.off ∧ T.col = colOf text t.off ∧
      (next LS b f p).2.fault = .none ∧ (next LS b f p).2.depth = p.depth ∧
      (next LS b f p).2.src.text = text ∧ (next LS b f p).2.src.file = file ∧
      ((Bad (next LS b f p).2 ∧
          (piece text b t = none ∨ concatTail text b ts = none ∨
            ∃ v rest, concatTail text b ts = some (v, rest) ∧ NoTerm rest)) ∨
       ((next LS b f p).2.src.errs = [] ∧
          ∃ v0 v pushed, piece text b t = some v0 ∧
            concatTail text b ts = some (v, pushed ++ (next LS b f p).2.src.toks) ∧
            T.text = encodeChars (v0 ++ v) ∧
            (next LS b f p).2.tokens = pushed.map (conv text file) ∧
            (pushed = [] → (next LS b f p).2.src.toks = []) ∧
            (next LS b f p).2.src.tail = p.src.tail ∧
            (∀ e e2 r, pushed = e :: e2 :: r → e.tok = .unq ['+']))) := by
  unfold next
  rw [hat.stack]
  simp only
  obtain ⟨h1, h5, hgood, hbadc⟩ := pullTok_at_cons text file b p t ts hat
  obtain ⟨h4, h3, h6, h7⟩ := pullTok_frame b p
  rw [h1]
  simp only
  have hs : (conv text file t).code = Code.string := by
    rw [conv_code]; exact (tokCode_string t.tok).2 hq
  rw [if_pos hs]
  obtain ⟨c1, c2, c3, c4, c5, c6, c7, c8⟩ := concatLoop_frame b f (conv text file t) (pullTok LS b p).2
    (by rw [h5]; exact hf)
  obtain ⟨pb, pg⟩ := piece_spec text file b t hq (hadm t (by simp))
  refine ⟨_, rfl, c1.trans hs, c2, c3, c4, c5.trans (h4.trans hat.fault),
    c6.trans h3, c7.trans (h6.trans hat.text), c8.trans (h7.trans hat.file), ?_⟩
  by_cases hbad : badEsc b t = true
  · left
    exact ⟨concatLoop_bad b f _ _ (hbadc hbad), Or.inl (pb hbad)⟩
  · have hbad' : badEsc b t = false := by simpa using hbad
    obtain ⟨v0, hv0, hev0⟩ := pg hbad'
    obtain ⟨hat1, h8⟩ := hgood hbad'
    rcases concatLoop_spec text file b f ts (conv text file t) _ hat1 hf (fun x hx => hadm x (by simp [hx])) with
      ⟨hb, hsp⟩ | ⟨hc, v, pushed, hsp, htx, htk, hpe, htl, hsh⟩
    · left
      exact ⟨hb, Or.inr hsp⟩
    · right
      refine ⟨hc, v0, v, pushed, hv0, hsp, ?_, htk, hpe, htl.trans h8, hsh⟩
      rw [htx, encodeChars_append, hev0]

/-! ## the optional argument and the token after it -/

theorem patternKw_iff (kwc : List Char) :
    decide (encodeChars kwc = Model.Parse.patternKw) = decide (kwc = Spec.Parse.patternKw) := by
  have h : Model.Parse.patternKw = encodeChars Spec.Parse.patternKw := by decide
  rw [h]
  by_cases hk : kwc = Spec.Parse.patternKw
  · simp [hk]
  · have : encodeChars kwc ≠ encodeChars Spec.Parse.patternKw := by
      intro he
      exact hk (encodeChars_inj_ascii _ _ (by decide) he)
    simp [hk, this]

theorem tokCode_semi (t : Tok) : tokCode t = Code.punct 59 ↔ t = .semi := by
  cases t <;> simp [tokCode]

theorem tokCode_lbrace (t : Tok) : tokCode t = Code.punct 123 ↔ t = .lbrace := by
  cases t <;> simp [tokCode]

theorem tokCode_rbrace (t : Tok) : tokCode t = Code.punct 125 ↔ t = .rbrace := by
  cases t <;> simp [tokCode]

/-- the reference reader cannot finish the statement after this argument -/
def SpecFail (text : List Char) (b : Bool) (ts : List PTok) : Prop :=
  argument text b ts = none ∨ ∃ arg rest, argument text b ts = some (arg, rest) ∧ NoTerm rest

theorem argument_quoted (text : List Char) (b : Bool) (t : PTok) (ts : List PTok) (hq : t.tok.isQuoted = true)
    (v0 v : List Char) (rest : List PTok) (h1 : piece text b t = some v0) (h2 : concatTail text b ts = some (v, rest)) :
    argument text b (t :: ts) = some (some (v0 ++ v), rest) := by
  cases hk : t.tok <;> simp [hk, Tok.isQuoted] at hq <;> simp [argument, hk, h1, h2]

theorem argument_quoted_none (text : List Char) (b : Bool) (t : PTok) (ts : List PTok) (hq : t.tok.isQuoted = true)
    (h : piece text b t = none ∨ concatTail text b ts = none) : argument text b (t :: ts) = none := by
  have key : (match piece text b t, concatTail text b ts with
      | some s, some (s', r) => some (some (s ++ s'), r)
      | _, _ => (none : Option (Option (List Char) × List PTok))) = none := by
    rcases h with h | h
    · rw [h]
    · rw [h]; cases piece text b t <;> rfl
  cases hk : t.tok <;> simp [hk, Tok.isQuoted] at hq
  · simp only [argument, hk]
    exact key
  · simp only [argument, hk]
    exact key

theorem not_term (text : List Char) (file : List UInt8) (e : PTok) (hterm : ¬ (e.tok = .semi ∨ e.tok = .lbrace)) :
    (e.tok ≠ .semi ∧ e.tok ≠ .lbrace) ∧ (conv text file e).code ≠ Code.punct 59 ∧
      (conv text file e).code ≠ Code.punct 123 := by
  have hnt : e.tok ≠ .semi ∧ e.tok ≠ .lbrace := ⟨fun h => hterm (Or.inl h), fun h => hterm (Or.inr h)⟩
  refine ⟨hnt, ?_, ?_⟩
  · rw [conv_code]; exact fun h => hnt.1 ((tokCode_semi _).1 h)
  · rw [conv_code]; exact fun h => hnt.2 ((tokCode_lbrace _).1 h)

/-- `fetchArg` against `argument` and the token that must follow -/
theorem fetchArg_spec (text : List Char) (file : List UInt8) (kw : Token) (b : Bool)
    (hb : decide (kw.text = Model.Parse.patternKw) = b) (f : Nat) (p : P) (ts : List PTok)
    (hat : At text file p ts) (hf : ts.length + 1 ≤ f) (hadm : ∀ x ∈ ts, okTok x) :
    (∃ arg e rest, argument text b ts = some (arg, e :: rest) ∧ (e.tok = .semi ∨ e.tok = .lbrace) ∧
        (fetchArg LS kw f p).1 = (arg.isSome, encodeChars (arg.getD [])) ∧
        (fetchArg LS kw f p).2.1 = some (conv text file e) ∧ At text file (fetchArg LS kw f p).2.2 rest ∧
        (fetchArg LS kw f p).2.2.depth = p.depth ∧ (fetchArg LS kw f p).2.2.src.tail = p.src.tail) ∨
    (Bad (fetchArg LS kw f p).2.2 ∧ SpecFail text b ts) ∨
    (SpecFail text b ts ∧
      ((fetchArg LS kw f p).2.1 = none ∨
       ∃ T, (fetchArg LS kw f p).2.1 = some T ∧ T.code ≠ Code.punct 59 ∧ T.code ≠ Code.punct 123)) := by
  unfold fetchArg
  simp only
  rw [hb]
  cases ts with
  | nil =>
    obtain ⟨n1, n2, n3⟩ := next_nil text file b f p hat
    rw [n1]
    simp only
    right; right
    exact ⟨Or.inr ⟨none, [], by simp [argument], trivial⟩, Or.inl trivial⟩
  | cons t ts' =>
    cases hq : t.tok.isQuoted with
    | false =>
      obtain ⟨n1, n2, n3, n4⟩ := next_plain text file b f p t ts' hat hq
      rw [n1]
      simp only
      by_cases hunq : (conv text file t).code = Code.unquoted
      · obtain ⟨a, ha⟩ := (tokCode_unquoted t.tok).1 hunq
        have harg : ∀ r, argument text b (t :: r) = some (some a, r) := by
          intro r; simp [argument, ha]
        rw [if_pos (by simp [hunq])]
        cases ts' with
        | nil =>
          obtain ⟨m1, m2, m3⟩ := next_nil text file false f _ n2
          right; right
          exact ⟨Or.inr ⟨some a, [], harg [], trivial⟩, Or.inl m1⟩
        | cons e ts'' =>
          cases hqe : e.tok.isQuoted with
          | false =>
            obtain ⟨m1, m2, m3, m4⟩ := next_plain text file false f _ e ts'' n2 hqe
            by_cases hterm : e.tok = .semi ∨ e.tok = .lbrace
            · left
              refine ⟨some a, e, ts'', harg _, hterm, ?_, m1, m2, m4.trans n4, m3.trans n3⟩
              simp [conv, tokText, ha]
            · obtain ⟨hnt, h59, h123⟩ := not_term text file e hterm
              exact Or.inr (Or.inr ⟨Or.inr ⟨some a, e :: ts'', harg _, hnt⟩, Or.inr ⟨_, m1, h59, h123⟩⟩)
          | true =>
            obtain ⟨T, m1, m2, m3, m4, m5, m6, m7, m8, m9, m10⟩ := next_quoted text file false f _ e ts'' n2 hqe
              (by simp only [List.length_cons] at hf; omega) (fun x hx => hadm x (by simp [hx]))
            have hnt : e.tok ≠ .semi ∧ e.tok ≠ .lbrace := by
              cases hk : e.tok <;> simp [hk, Tok.isQuoted] at hqe <;> simp
            have hsf : SpecFail text b (t :: e :: ts'') := Or.inr ⟨some a, e :: ts'', harg _, hnt⟩
            right; right
            exact ⟨hsf, Or.inr ⟨T, m1, by rw [m2]; simp, by rw [m2]; simp⟩⟩
      · have hns : ¬ (conv text file t).code = Code.string := by
          intro h; rw [conv_code, tokCode_string, hq] at h; cases h
        rw [if_neg (by simp [hunq, hns])]
        have harg : argument text b (t :: ts') = some (none, t :: ts') := by
          rw [conv_code] at hunq
          cases hk : t.tok <;> simp [hk, Tok.isQuoted, tokCode] at hq hunq <;> simp [argument, hk]
        by_cases hterm : t.tok = .semi ∨ t.tok = .lbrace
        · left
          exact ⟨none, t, ts', harg, hterm, rfl, rfl, n2, n4, n3⟩
        · obtain ⟨hnt, h59, h123⟩ := not_term text file t hterm
          exact Or.inr (Or.inr ⟨Or.inr ⟨none, t :: ts', harg, hnt⟩, Or.inr ⟨_, rfl, h59, h123⟩⟩)
    | true =>
      obtain ⟨T, n1, n2, n3, n4, n5, n6, n7, n8, n9, n10⟩ := next_quoted text file b f p t ts' hat hq
        (by simp only [List.length_cons] at hf; omega) hadm
      rw [n1]
      simp only
      rw [if_pos (by simp [n2])]
      have hargq := argument_quoted text b t ts' hq
      have hargn := argument_quoted_none text b t ts' hq
      rcases n10 with ⟨hbad, hsp⟩ | ⟨hclean, v0, v, pushed, hv0, hct, hT, htk, hpe, htl, hsh⟩
      · right; left
        refine ⟨next_bad false f _ hbad, ?_⟩
        rcases hsp with h | h | ⟨v, rest, h, hnt⟩
        · exact Or.inl (hargn (Or.inl h))
        · exact Or.inl (hargn (Or.inr h))
        · cases hp : piece text b t with
          | none => exact Or.inl (hargn (Or.inl hp))
          | some v0 => exact Or.inr ⟨_, rest, hargq v0 v rest hp h, hnt⟩
      · have harg := hargq v0 v _ hv0 hct
        cases pushed with
        | nil =>
          have htoks := hpe rfl
          have hat1 : At text file (next LS b f p).2 [] :=
            ⟨by rw [htk]; rfl, htoks, hclean, n6, n8, n9⟩
          obtain ⟨m1, m2, m3⟩ := next_nil text file false f _ hat1
          right; right
          refine ⟨Or.inr ⟨_, _, harg, ?_⟩, Or.inl m1⟩
          rw [htoks]; trivial
        | cons e pushed' =>
          have hpop := next_pop false f (next LS b f p).2 (conv text file e) (pushed'.map (conv text file))
            (by rw [htk]; rfl)
          rw [hpop]
          simp only
          by_cases hterm : e.tok = .semi ∨ e.tok = .lbrace
          · left
            have hp' : pushed' = [] := by
              cases pushed' with
              | nil => rfl
              | cons e2 r =>
                have := hsh e e2 r rfl
                rcases hterm with h | h <;> rw [h] at this <;> cases this
            subst hp'
            refine ⟨some (v0 ++ v), e, (next LS b f p).2.src.toks, harg, hterm, ?_, rfl, ?_, n7, htl⟩
            · rw [hT]; rfl
            · exact ⟨rfl, rfl, hclean, n6, n8, n9⟩
          · obtain ⟨hnt, h59, h123⟩ := not_term text file e hterm
            exact Or.inr (Or.inr ⟨Or.inr ⟨_, _, harg, hnt⟩, Or.inr ⟨_, rfl, h59, h123⟩⟩)

/-! ## the statement grammar case by case -/

theorem stmt_not_unq (text : List Char) (g : Nat) (k : PTok) (ts : List PTok) (h : ∀ kw, k.tok ≠ .unq kw) :
    stmt text g (k :: ts) = none := by
  cases g with
  | zero => simp [stmt]
  | succ g =>
    unfold stmt
    split
    · rename_i kw hk; exact absurd hk (h kw)
    · rfl

theorem stmt_fail (text : List Char) (g : Nat) (k : PTok) (kw : List Char) (ts : List PTok) (hk : k.tok = .unq kw)
    (h : SpecFail text (decide (kw = Spec.Parse.patternKw)) ts) : stmt text g (k :: ts) = none := by
  cases g with
  | zero => simp [stmt]
  | succ g =>
    unfold stmt
    simp only [hk]
    rcases h with h | ⟨arg, rest, h, hnt⟩
    · rw [h]
    · rw [h]
      simp only
      cases rest with
      | nil => rfl
      | cons e r =>
        simp only
        rw [if_neg hnt.1, if_neg hnt.2]

theorem stmt_semi (text : List Char) (g : Nat) (k : PTok) (kw : List Char) (ts : List PTok) (hk : k.tok = .unq kw)
    (arg : Option (List Char)) (e : PTok) (rest : List PTok)
    (h : argument text (decide (kw = Spec.Parse.patternKw)) ts = some (arg, e :: rest)) (he : e.tok = .semi) :
    stmt text (g + 1) (k :: ts) =
      some ({ keyword := kw, arg := arg, line := lineOf text k.off, col := colOf text k.off, subs := [] }, rest) := by
  unfold stmt
  simp only [hk, h, he, if_true]

theorem stmt_block_some (text : List Char) (g : Nat) (k : PTok) (kw : List Char) (ts : List PTok)
    (hk : k.tok = .unq kw) (arg : Option (List Char)) (e : PTok) (rest : List PTok)
    (h : argument text (decide (kw = Spec.Parse.patternKw)) ts = some (arg, e :: rest)) (he : e.tok = .lbrace)
    (subs : List Stmt) (c : PTok) (r' : List PTok) (hs : stmts text g rest = some (subs, c :: r'))
    (hc : c.tok = .rbrace) :
    stmt text (g + 1) (k :: ts) =
      some ({ keyword := kw, arg := arg, line := lineOf text k.off, col := colOf text k.off, subs := subs }, r') := by
  unfold stmt
  simp only [hk, h, he, hs, hc, if_true]
  simp

theorem stmt_block_fail (text : List Char) (g : Nat) (k : PTok) (kw : List Char) (ts : List PTok)
    (hk : k.tok = .unq kw) (arg : Option (List Char)) (e : PTok) (rest : List PTok)
    (h : argument text (decide (kw = Spec.Parse.patternKw)) ts = some (arg, e :: rest)) (he : e.tok = .lbrace)
    (hs : stmts text g rest = none ∨ ∃ ss, stmts text g rest = some (ss, [])) :
    stmt text (g + 1) (k :: ts) = none := by
  unfold stmt
  simp only [hk, h, he]
  rcases hs with hs | ⟨ss, hs⟩
  · simp [hs]
  · simp [hs]

theorem stmts_nil (text : List Char) (g : Nat) : stmts text (g + 1) [] = some ([], []) := by
  unfold stmts; rfl

theorem stmts_rbrace (text : List Char) (g : Nat) (t : PTok) (ts : List PTok) (h : t.tok = .rbrace) :
    stmts text (g + 1) (t :: ts) = some ([], t :: ts) := by
  unfold stmts; simp [h]

theorem stmts_cons_none (text : List Char) (g : Nat) (t : PTok) (ts : List PTok) (h : t.tok ≠ .rbrace)
    (hs : stmt text g (t :: ts) = none) : stmts text (g + 1) (t :: ts) = none := by
  rw [stmts]; simp [h, hs]

theorem stmts_cons_none2 (text : List Char) (g : Nat) (t : PTok) (ts : List PTok) (h : t.tok ≠ .rbrace)
    (s : Stmt) (r : List PTok) (hs : stmt text g (t :: ts) = some (s, r)) (hr : stmts text g r = none) :
    stmts text (g + 1) (t :: ts) = none := by
  rw [stmts]; simp [h, hs, hr]

theorem stmts_cons_some (text : List Char) (g : Nat) (t : PTok) (ts : List PTok) (h : t.tok ≠ .rbrace)
    (s : Stmt) (r : List PTok) (hs : stmt text g (t :: ts) = some (s, r)) (ss : List Stmt) (r' : List PTok)
    (hr : stmts text g r = some (ss, r')) :
    stmts text (g + 1) (t :: ts) = some (s :: ss, r') := by
  rw [stmts]; simp [h, hs, hr]

theorem stmts_cons_fail (text : List Char) (g : Nat) (t : PTok) (ts : List PTok) (h : t.tok ≠ .rbrace)
    (s : Stmt) (r : List PTok) (hs : stmt text g (t :: ts) = some (s, r))
    (hr : stmts text g r = none ∨ ∃ ss, stmts text g r = some (ss, [])) :
    stmts text (g + 1) (t :: ts) = none ∨ ∃ ss, stmts text (g + 1) (t :: ts) = some (ss, []) := by
  rcases hr with hr | ⟨ss, hr⟩
  · exact Or.inl (stmts_cons_none2 text g t ts h s r hs hr)
  · exact Or.inr ⟨s :: ss, stmts_cons_some text g t ts h s r hs ss _ hr⟩

/-! ## how many tokens a statement takes -/

theorem concatTail_suffix (text : List Char) (b : Bool) : ∀ (n : Nat) (ts : List PTok), ts.length ≤ n →
    ∀ v rest, concatTail text b ts = some (v, rest) → rest <:+ ts := by
  intro n
  induction n with
  | zero =>
    intro ts h v rest hc
    have : ts = [] := List.eq_nil_of_length_eq_zero (by omega)
    subst this
    simp [concatTail] at hc
    rw [← hc.2]; exact List.suffix_refl _
  | succ n ih =>
    intro ts h v rest hc
    cases ts with
    | nil => simp [concatTail] at hc; rw [← hc.2]; exact List.suffix_refl _
    | cons p ts1 =>
      cases ts1 with
      | nil => simp [concatTail] at hc; rw [← hc.2]; exact List.suffix_refl _
      | cons q ts2 =>
        by_cases hcond : (p.tok = .unq ['+'] && q.tok.isQuoted) = true
        · simp only [concatTail, hcond, if_true] at hc
          cases hp : piece text b q with
          | none => simp [hp] at hc
          | some s =>
            cases hr : concatTail text b ts2 with
            | none => simp [hp, hr] at hc
            | some vr =>
              obtain ⟨v', r'⟩ := vr
              simp only [hp, hr, Option.some.injEq, Prod.mk.injEq] at hc
              have := ih ts2 (by simp only [List.length_cons] at h; omega) v' r' hr
              rw [← hc.2]
              exact this.trans ((List.suffix_cons q ts2).trans (List.suffix_cons p _))
        · simp only [concatTail, hcond, Bool.false_eq_true, if_false, Option.some.injEq, Prod.mk.injEq] at hc
          rw [← hc.2]; exact List.suffix_refl _

theorem argument_suffix (text : List Char) (b : Bool) (ts : List PTok) (arg : Option (List Char))
    (rest : List PTok) (h : argument text b ts = some (arg, rest)) : rest <:+ ts := by
  cases ts with
  | nil => simp [argument] at h; rw [← h.2]; exact List.suffix_refl _
  | cons t ts' =>
    have hq : ∀ (hp : Option (List Char)),
        (match hp, concatTail text b ts' with
          | some s, some (s', r) => some (some (s ++ s'), r)
          | _, _ => none) = some (arg, rest) → rest <:+ t :: ts' := by
      intro hp h
      cases hp with
      | none => simp at h
      | some s =>
        cases hc : concatTail text b ts' with
        | none => simp [hc] at h
        | some vr =>
          obtain ⟨v', r'⟩ := vr
          simp only [hc, Option.some.injEq, Prod.mk.injEq] at h
          have := concatTail_suffix text b _ ts' (Nat.le_refl _) _ _ hc
          rw [← h.2]; exact this.trans (List.suffix_cons t ts')
    cases hk : t.tok with
    | unq a => simp [argument, hk] at h; rw [← h.2]; exact List.suffix_cons t ts'
    | sq s0 => simp only [argument, hk] at h; exact hq _ h
    | dq raw => simp only [argument, hk] at h; exact hq _ h
    | semi => simp [argument, hk] at h; rw [← h.2]; exact List.suffix_refl _
    | lbrace => simp [argument, hk] at h; rw [← h.2]; exact List.suffix_refl _
    | rbrace => simp [argument, hk] at h; rw [← h.2]; exact List.suffix_refl _

theorem stmt_stmts_suffix (text : List Char) : ∀ (g : Nat),
    (∀ ts s rest, stmt text g ts = some (s, rest) → rest <:+ ts ∧ rest.length + 2 ≤ ts.length) ∧
    (∀ ts ss rest, stmts text g ts = some (ss, rest) → rest <:+ ts) := by
  intro g
  induction g with
  | zero =>
    constructor
    · intro ts s rest h; simp [stmt] at h
    · intro ts ss rest h; simp [stmts] at h
  | succ g ih =>
    obtain ⟨ih1, ih2⟩ := ih
    constructor
    · intro ts s rest h
      cases ts with
      | nil => simp [stmt] at h
      | cons k ts' =>
        unfold stmt at h
        split at h
        · split at h
          · cases h
          · rename_i arg r1 harg
            have hsx := argument_suffix text _ ts' arg r1 harg
            have hl := hsx.length_le
            split at h
            · rename_i e r2
              split at h
              · simp only [Option.some.injEq, Prod.mk.injEq] at h
                rw [← h.2]
                refine ⟨(List.suffix_cons e r2).trans (hsx.trans (List.suffix_cons k ts')), ?_⟩
                simp only [List.length_cons] at hl ⊢; omega
              · split at h
                · split at h
                  · rename_i subs c r3 hs
                    split at h
                    · simp only [Option.some.injEq, Prod.mk.injEq] at h
                      have hs3 := ih2 _ _ _ hs
                      have := hs3.length_le
                      rw [← h.2]
                      refine ⟨(List.suffix_cons c r3).trans (hs3.trans ((List.suffix_cons e r2).trans
                        (hsx.trans (List.suffix_cons k ts')))), ?_⟩
                      simp only [List.length_cons] at hl this ⊢; omega
                    · cases h
                  · cases h
                · cases h
            · cases h
        · cases h
    · intro ts ss rest h
      cases ts with
      | nil => simp [stmts] at h; rw [← h.2]; exact List.suffix_refl _
      | cons t ts' =>
        by_cases hr : t.tok = .rbrace
        · rw [stmts_rbrace text g t ts' hr] at h
          simp only [Option.some.injEq, Prod.mk.injEq] at h
          rw [← h.2]; exact List.suffix_refl _
        · cases hs : stmt text g (t :: ts') with
          | none => rw [stmts_cons_none text g t ts' hr hs] at h; cases h
          | some sr =>
            obtain ⟨s, r⟩ := sr
            cases hss : stmts text g r with
            | none => rw [stmts_cons_none2 text g t ts' hr s r hs hss] at h; cases h
            | some ssr =>
              obtain ⟨ss', r'⟩ := ssr
              rw [stmts_cons_some text g t ts' hr s r hs ss' r' hss] at h
              simp only [Option.some.injEq, Prod.mk.injEq] at h
              have h1 := (ih1 _ _ _ hs).1
              have h2 := ih2 _ _ _ hss
              rw [← h.2]; exact h2.trans h1

/-! ## (c) statements and blocks -/

/-- what `nextStatement` does before a token that starts a statement -/
def StmtPost (text : List Char) (file : List UInt8) (g : Nat) (ts : List PTok) (p : P) (r : NS × P) : Prop :=
  (∃ s rest, stmt text g ts = some (s, rest) ∧ r.1 = .stmt (encStmt file s) ∧ At text file r.2 rest ∧
      r.2.depth = p.depth ∧ r.2.src.tail = p.src.tail) ∨
  (Bad r.2 ∧ stmt text g ts = none) ∨
  (r.1 = .eof ∧ r.2.src.errs = [] ∧ r.2.fault = .none ∧ r.2.src.tail = none ∧ p.depth + 1 ≤ r.2.depth ∧
      stmt text g ts = none ∧ p.src.tail = none)

/-- what the loop after `{` does -/
def BlockPost (text : List Char) (file : List UInt8) (g : Nat) (ts : List PTok) (acc : List Statement) (p : P)
    (r : Option (List Statement) × P) : Prop :=
  (∃ ss c rest, stmts text g ts = some (ss, c :: rest) ∧ c.tok = .rbrace ∧
      r.1 = some (acc ++ encStmts file ss) ∧ At text file r.2 rest ∧ r.2.depth = p.depth - 1 ∧
      r.2.src.tail = p.src.tail) ∨
  (Bad r.2 ∧ (stmts text g ts = none ∨ ∃ ss, stmts text g ts = some (ss, []))) ∨
  (r.1 = none ∧ r.2.src.errs = [] ∧ r.2.fault = .none ∧ r.2.src.tail = none ∧ p.depth ≤ r.2.depth ∧
      (stmts text g ts = none ∨ ∃ ss, stmts text g ts = some (ss, [])) ∧ p.src.tail = none)

theorem nextStatement_nil (text : List Char) (file : List UInt8) (f : Nat) (p : P) (hat : At text file p []) :
    (nextStatement LS (f + 1) p).1 = .eof ∧
    (p.src.tail ≠ none → Bad (nextStatement LS (f + 1) p).2) ∧
    (p.src.tail = none → At text file (nextStatement LS (f + 1) p).2 [] ∧
      (nextStatement LS (f + 1) p).2.src.tail = none ∧ (nextStatement LS (f + 1) p).2.depth = p.depth) := by
  unfold nextStatement
  simp only
  obtain ⟨n1, n2, n3⟩ := next_nil text file false f p hat
  rw [n1]
  exact ⟨rfl, n2, n3⟩

theorem nextStatement_rbrace (text : List Char) (file : List UInt8) (f : Nat) (p : P) (t : PTok) (ts : List PTok)
    (hat : At text file p (t :: ts)) (ht : t.tok = .rbrace) :
    (nextStatement LS (f + 1) p).1 = .brace file (lineOf text t.off) (colOf text t.off) ∧
    At text file (nextStatement LS (f + 1) p).2 ts ∧
    (nextStatement LS (f + 1) p).2.depth = p.depth - 1 ∧
    (nextStatement LS (f + 1) p).2.src.tail = p.src.tail := by
  unfold nextStatement
  simp only
  obtain ⟨n1, n2, n3, n4⟩ := next_plain text file false f p t ts hat (by rw [ht]; rfl)
  rw [n1]
  simp only
  rw [if_pos (by rw [conv_code, ht]; rfl)]
  refine ⟨rfl, ⟨n2.stack, n2.toks, n2.clean, n2.fault, n2.text, n2.file⟩, ?_, n3⟩
  show (next LS false f p).2.depth - 1 = _
  rw [n4]

theorem mkStmt_enc (text : List Char) (file : List UInt8) (k : PTok) (kw : List Char) (hk : k.tok = .unq kw)
    (arg : Option (List Char)) (subs : List Stmt) :
    mkStmt (conv text file k) (arg.isSome, encodeChars (arg.getD [])) (encStmts file subs) =
      encStmt file { keyword := kw, arg := arg, line := lineOf text k.off, col := colOf text k.off, subs := subs } := by
  simp [mkStmt, encStmt, conv, tokText, hk]

theorem stmt_block_spec (text : List Char) (file : List UInt8) : ∀ (n : Nat),
    (∀ (ts : List PTok), ts.length ≤ n → ∀ (t : PTok) (ts' : List PTok), ts = t :: ts' → t.tok ≠ .rbrace →
      ∀ (f g : Nat) (p : P), At text file p ts → ts.length + 1 ≤ f → ts.length ≤ g → (∀ x ∈ ts, okTok x) →
      StmtPost text file g ts p (nextStatement LS f p)) ∧
    (∀ (ts : List PTok), ts.length ≤ n →
      ∀ (f g : Nat) (acc : List Statement) (p : P), At text file p ts → ts.length + 2 ≤ f → ts.length + 1 ≤ g →
      (∀ x ∈ ts, okTok x) → BlockPost text file g ts acc p (blockLoop LS f acc p)) := by
  intro n
  induction n using Nat.strongRecOn with
  | _ n ih =>
    -- statements first
    have hstmt : ∀ (ts : List PTok), ts.length ≤ n → ∀ (t : PTok) (ts' : List PTok), ts = t :: ts' →
        t.tok ≠ .rbrace → ∀ (f g : Nat) (p : P), At text file p ts → ts.length + 1 ≤ f → ts.length ≤ g →
        (∀ x ∈ ts, okTok x) → StmtPost text file g ts p (nextStatement LS f p) := by
      intro ts hn t ts' hts hnr f g p hat hf hg hadm
      subst hts
      obtain ⟨f, rfl⟩ : ∃ f', f = f' + 1 := ⟨f - 1, by omega⟩
      obtain ⟨g, rfl⟩ : ∃ g', g = g' + 1 := ⟨g - 1, by simp only [List.length_cons] at hg; omega⟩
      simp only [List.length_cons] at hf hg hn
      unfold nextStatement
      simp only
      cases hq : t.tok.isQuoted with
      | true =>
        -- a quoted string where a keyword must stand
        obtain ⟨T, n1, n2, _⟩ := next_quoted text file false f p t ts' hat hq (by omega) hadm
        rw [n1]
        simp only
        rw [if_neg (by rw [n2]; simp), if_pos (by rw [n2]; simp)]
        right; left
        refine ⟨addErr_bad _ _, stmt_not_unq text _ t ts' ?_⟩
        intro kw hk; rw [hk] at hq; cases hq
      | false =>
        obtain ⟨n1, n2, n3, n4⟩ := next_plain text file false f p t ts' hat hq
        rw [n1]
        simp only
        rw [if_neg (by rw [conv_code]; intro h; exact hnr ((tokCode_rbrace _).1 h))]
        by_cases hunq : (conv text file t).code = Code.unquoted
        · rw [if_neg (by simp [hunq])]
          obtain ⟨kw, hk⟩ := (tokCode_unquoted t.tok).1 hunq
          have hb : decide ((conv text file t).text = Model.Parse.patternKw) = decide (kw = Spec.Parse.patternKw) := by
            simp only [conv, tokText, hk]; exact patternKw_iff kw
          have hadm' : ∀ x ∈ ts', okTok x := fun x hx => hadm x (by simp [hx])
          rcases fetchArg_spec text file (conv text file t) _ hb f _ ts' n2 (by omega) hadm' with
            ⟨arg, e, rest, harg, hterm, ha1, ha2, ha3, ha4, ha5⟩ | ⟨hbad, hsf⟩ | ⟨hsf, hnone⟩
          · rw [ha2]
            simp only
            have hsx := argument_suffix text _ ts' arg _ harg
            have hrl := hsx.length_le
            simp only [List.length_cons] at hrl
            rcases hterm with he | he
            · -- `;`
              rw [if_pos (by rw [conv_code, he]; rfl)]
              left
              refine ⟨_, rest, stmt_semi text g t kw ts' hk arg e rest harg he, ?_, ha3, ha4.trans n4, ha5.trans n3⟩
              rw [ha1]
              exact congrArg NS.stmt (mkStmt_enc text file t kw hk arg [])
            · -- `{`
              rw [if_neg (by rw [conv_code, he]; simp [tokCode]), if_pos (by rw [conv_code, he]; rfl)]
              have hatb : At text file (setDepth ((fetchArg LS (conv text file t) f (next LS false f p).2).2.2.depth + 1)
                  (fetchArg LS (conv text file t) f (next LS false f p).2).2.2) rest :=
                ⟨ha3.stack, ha3.toks, ha3.clean, ha3.fault, ha3.text, ha3.file⟩
              have hblk := (ih rest.length (by omega)).2 rest (Nat.le_refl _) f g []
                (setDepth ((fetchArg LS (conv text file t) f (next LS false f p).2).2.2.depth + 1)
                  (fetchArg LS (conv text file t) f (next LS false f p).2).2.2) hatb (by omega) (by omega)
                (fun x hx => hadm' x (List.IsSuffix.mem hx ((List.suffix_cons e rest).trans hsx)))
              rcases hblk with ⟨ss, c, rest', hss, hc, hr1, hr2, hr3, hr4⟩ | ⟨hbad, hsp⟩ |
                ⟨hr1, hr2, hr3, hr4, hr5, hsp, hr6⟩
              · rw [hr1]
                simp only
                left
                refine ⟨_, rest', stmt_block_some text g t kw ts' hk arg e rest harg he ss c rest' hss hc, ?_, hr2, ?_,
                  hr4.trans (ha5.trans n3)⟩
                · rw [ha1, List.nil_append]
                  exact congrArg NS.stmt (mkStmt_enc text file t kw hk arg ss)
                · rw [hr3]
                  show (fetchArg LS (conv text file t) f (next LS false f p).2).2.2.depth + 1 - 1 = p.depth
                  rw [ha4, n4]; omega
              · right; left
                refine ⟨?_, stmt_block_fail text g t kw ts' hk arg e rest harg he hsp⟩
                split <;> exact hbad
              · rw [hr1]
                simp only
                right; right
                refine ⟨rfl, hr2, hr3, hr4, ?_, stmt_block_fail text g t kw ts' hk arg e rest harg he hsp,
                  (n3.symm.trans (ha5.symm.trans hr6))⟩
                have : (setDepth ((fetchArg LS (conv text file t) f (next LS false f p).2).2.2.depth + 1)
                  (fetchArg LS (conv text file t) f (next LS false f p).2).2.2).depth = p.depth + 1 := by
                  show (fetchArg LS (conv text file t) f (next LS false f p).2).2.2.depth + 1 = p.depth + 1
                  rw [ha4, n4]
                rw [this] at hr5
                exact hr5
          · -- an error has been written while the argument was read
            right; left
            refine ⟨?_, stmt_fail text _ t kw ts' hk hsf⟩
            split
            · exact addErr_bad _ _
            · split
              · exact hbad
              · split
                · have h3 := (stmt_block_bad f).2 [] _ (show Bad (setDepth
                      ((fetchArg LS (conv text file t) f (next LS false f p).2).2.2.depth + 1)
                      (fetchArg LS (conv text file t) f (next LS false f p).2).2.2) from hbad)
                  split <;> exact h3
                · exact addErr_bad _ _
          · -- neither `;` nor `{` follows
            right; left
            refine ⟨?_, stmt_fail text _ t kw ts' hk hsf⟩
            rcases hnone with hn | ⟨T, hT, h59, h123⟩
            · rw [hn]
              exact addErr_bad _ _
            · rw [hT]
              simp only
              rw [if_neg h59, if_neg h123]
              exact addErr_bad _ _
        · -- `;` or `{` where a keyword must stand
          rw [if_pos (by simpa using hunq)]
          right; left
          refine ⟨addErr_bad _ _, stmt_not_unq text _ t ts' ?_⟩
          intro kw hk
          apply hunq
          rw [conv_code, hk]; rfl
    refine ⟨hstmt, ?_⟩
    -- the loop after `{`
    intro ts hn f g acc p hat hf hg hadm
    obtain ⟨f, rfl⟩ : ∃ f', f = f' + 1 := ⟨f - 1, by omega⟩
    obtain ⟨g, rfl⟩ : ∃ g', g = g' + 1 := ⟨g - 1, by omega⟩
    unfold blockLoop
    simp only
    cases ts with
    | nil =>
      obtain ⟨f, rfl⟩ : ∃ f', f = f' + 1 := ⟨f - 1, by simp only [List.length_nil] at hf; omega⟩
      obtain ⟨n1, n2, n3⟩ := nextStatement_nil text file f p hat
      rw [n1]
      simp only
      cases htail : p.src.tail with
      | none =>
        right; right
        obtain ⟨m1, m2, m3⟩ := n3 htail
        exact ⟨rfl, m1.clean, m1.fault, m2, by rw [m3]; exact Int.le_refl _, Or.inr ⟨[], stmts_nil text g⟩, htail⟩
      | some e =>
        right; left
        exact ⟨n2 (by rw [htail]; simp), Or.inr ⟨[], stmts_nil text g⟩⟩
    | cons t ts' =>
      simp only [List.length_cons] at hf hg hn
      by_cases hr : t.tok = .rbrace
      · obtain ⟨f, rfl⟩ : ∃ f', f = f' + 1 := ⟨f - 1, by omega⟩
        obtain ⟨n1, n2, n3, n4⟩ := nextStatement_rbrace text file f p t ts' hat hr
        rw [n1]
        simp only
        left
        exact ⟨[], t, ts', stmts_rbrace text g t ts' hr, hr, by simp [encStmts], n2, n3, n4⟩
      · have hs := hstmt (t :: ts') (by simp only [List.length_cons]; omega) t ts' rfl hr f g p hat
          (by simp only [List.length_cons]; omega) (by simp only [List.length_cons]; omega) hadm
        rcases hs with ⟨s, rest, hsp, h1, h2, h3, h4⟩ | ⟨hbad, hsp⟩ | ⟨h1, h2, h3, h4, h5, hsp, h6⟩
        · rw [h1]
          simp only
          obtain ⟨hsx, hlen⟩ := (stmt_stmts_suffix text g).1 _ _ _ hsp
          simp only [List.length_cons] at hlen
          have hblk := (ih rest.length (by omega)).2 rest (Nat.le_refl _) f g (acc ++ [encStmt file s])
            (nextStatement LS f p).2 h2 (by omega) (by omega) (fun x hx => hadm x (List.IsSuffix.mem hx hsx))
          rcases hblk with ⟨ss, c, rest', hss, hc, hr1, hr2, hr3, hr4⟩ | ⟨hbad, hsp'⟩ |
            ⟨hr1, hr2, hr3, hr4, hr5, hsp', hr6⟩
          · left
            refine ⟨s :: ss, c, rest', stmts_cons_some text g t ts' hr s rest hsp ss _ hss, hc, ?_, hr2, ?_,
              hr4.trans h4⟩
            · rw [hr1]; simp [encStmts]
            · rw [hr3, h3]
          · exact Or.inr (Or.inl ⟨hbad, stmts_cons_fail text g t ts' hr s rest hsp hsp'⟩)
          · exact Or.inr (Or.inr ⟨hr1, hr2, hr3, hr4, by rw [← h3]; exact hr5,
              stmts_cons_fail text g t ts' hr s rest hsp hsp', h4.symm.trans hr6⟩)
        · right; left
          refine ⟨?_, Or.inl (stmts_cons_none text g t ts' hr hsp)⟩
          split
          · exact hbad
          · exact hbad
          · exact (stmt_block_bad f).2 _ _ hbad
        · rw [h1]
          simp only
          right; right
          exact ⟨rfl, h2, h3, h4, by simp only; omega, Or.inl (stmts_cons_none text g t ts' hr hsp), h6⟩

/-! ## (c) the whole text -/

theorem stmts_cons_inv (text : List Char) (g : Nat) (t : PTok) (ts : List PTok) (h : t.tok ≠ .rbrace)
    (s : Stmt) (r : List PTok) (hs : stmt text g (t :: ts) = some (s, r)) (x : List Stmt)
    (hx : stmts text (g + 1) (t :: ts) = some (x, [])) : ∃ ss, stmts text g r = some (ss, []) := by
  cases hss : stmts text g r with
  | none => rw [stmts_cons_none2 text g t ts h s r hs hss] at hx; cases hx
  | some ssr =>
    obtain ⟨ss, r'⟩ := ssr
    rw [stmts_cons_some text g t ts h s r hs ss r' hss] at hx
    simp only [Option.some.injEq, Prod.mk.injEq] at hx
    exact ⟨ss, by rw [hx.2]⟩

def TopPost (text : List Char) (file : List UInt8) (g : Nat) (ts : List PTok) (acc : List Statement) (p : P)
    (r : List Statement × P) : Prop :=
  (p.src.tail = none ∧ ∃ ss, stmts text g ts = some (ss, []) ∧ r.1 = acc ++ encStmts file ss ∧
      r.2.src.errs = [] ∧ r.2.fault = .none ∧ r.2.depth = p.depth) ∨
  (Bad r.2 ∧ (p.src.tail ≠ none ∨ ¬ ∃ ss, stmts text g ts = some (ss, []))) ∨
  (p.src.tail = none ∧ r.2.src.errs = [] ∧ r.2.fault = .none ∧ p.depth + 1 ≤ r.2.depth ∧
      ¬ ∃ ss, stmts text g ts = some (ss, []))

theorem topLoop_spec (text : List Char) (file : List UInt8) : ∀ (n : Nat) (ts : List PTok), ts.length ≤ n →
    ∀ (f g : Nat) (acc : List Statement) (p : P), At text file p ts → ts.length + 2 ≤ f → ts.length + 1 ≤ g →
    (∀ x ∈ ts, okTok x) → TopPost text file g ts acc p (topLoop LS f acc p) := by
  intro n
  induction n using Nat.strongRecOn with
  | _ n ih =>
    intro ts hn f g acc p hat hf hg hadm
    obtain ⟨f, rfl⟩ : ∃ f', f = f' + 1 := ⟨f - 1, by omega⟩
    obtain ⟨g, rfl⟩ : ∃ g', g = g' + 1 := ⟨g - 1, by omega⟩
    unfold topLoop
    simp only
    cases ts with
    | nil =>
      obtain ⟨f, rfl⟩ : ∃ f', f = f' + 1 := ⟨f - 1, by simp only [List.length_nil] at hf; omega⟩
      obtain ⟨n1, n2, n3⟩ := nextStatement_nil text file f p hat
      rw [n1]
      simp only
      cases htail : p.src.tail with
      | none =>
        left
        obtain ⟨m1, m2, m3⟩ := n3 htail
        exact ⟨htail, [], stmts_nil text g, by simp [encStmts], m1.clean, m1.fault, m3⟩
      | some e =>
        right; left
        exact ⟨n2 (by rw [htail]; simp), Or.inl (by rw [htail]; simp)⟩
    | cons t ts' =>
      simp only [List.length_cons] at hf hg hn
      by_cases hr : t.tok = .rbrace
      · obtain ⟨f, rfl⟩ : ∃ f', f = f' + 1 := ⟨f - 1, by omega⟩
        obtain ⟨n1, n2, n3, n4⟩ := nextStatement_rbrace text file f p t ts' hat hr
        rw [n1]
        simp only
        right; left
        refine ⟨topLoop_bad _ _ _ (addErr_bad _ _), Or.inr ?_⟩
        rintro ⟨ss, hss⟩
        rw [stmts_rbrace text g t ts' hr] at hss
        simp at hss
      · have hs := (stmt_block_spec text file (ts'.length + 1)).1 (t :: ts') (by simp) t ts' rfl hr f g p hat
          (by simp only [List.length_cons]; omega) (by simp only [List.length_cons]; omega) hadm
        rcases hs with ⟨s, rest, hsp, h1, h2, h3, h4⟩ | ⟨hbad, hsp⟩ | ⟨h1, h2, h3, h4, h5, hsp, h6⟩
        · rw [h1]
          simp only
          obtain ⟨hsx, hlen⟩ := (stmt_stmts_suffix text g).1 _ _ _ hsp
          simp only [List.length_cons] at hlen
          have htop := ih rest.length (by omega) rest (Nat.le_refl _) f g (acc ++ [encStmt file s])
            (nextStatement LS f p).2 h2 (by omega) (by omega) (fun x hx => hadm x (List.IsSuffix.mem hx hsx))
          rcases htop with ⟨ht, ss, hss, hr1, hr2, hr3, hr4⟩ | ⟨hbad, hsp'⟩ | ⟨ht, hr2, hr3, hr5, hsp'⟩
          · left
            refine ⟨h4.symm.trans ht, s :: ss, stmts_cons_some text g t ts' hr s rest hsp ss _ hss, ?_, hr2, hr3,
              hr4.trans h3⟩
            rw [hr1]; simp [encStmts]
          · right; left
            refine ⟨hbad, ?_⟩
            rcases hsp' with h | h
            · exact Or.inl (by rw [← h4]; exact h)
            · right
              rintro ⟨x, hx⟩
              exact h (stmts_cons_inv text g t ts' hr s rest hsp x hx)
          · right; right
            refine ⟨h4.symm.trans ht, hr2, hr3, by omega, ?_⟩
            rintro ⟨x, hx⟩
            exact hsp' (stmts_cons_inv text g t ts' hr s rest hsp x hx)
        · right; left
          refine ⟨?_, Or.inr ?_⟩
          · split
            · exact hbad
            · exact topLoop_bad _ _ _ (addErr_bad _ _)
            · exact topLoop_bad _ _ _ hbad
          · rintro ⟨x, hx⟩
            rw [stmts_cons_none text g t ts' hr hsp] at hx
            cases hx
        · rw [h1]
          simp only
          right; right
          refine ⟨h6, h2, h3, h5, ?_⟩
          rintro ⟨x, hx⟩
          rw [stmts_cons_none text g t ts' hr hsp] at hx
          cases hx

/-- the parser before the first token -/
def initP (text : List Char) (file : List UInt8) (toks : List PTok) (tail : Option ErrLine) : P :=
  { src := { text := text, file := file, toks := toks, errs := [], tail := tail }, tokens := [], depth := 0,
    fault := .none }

/-- **(c)**: over the tokens of the reference reader the parser model returns a forest exactly
when the statement grammar derives one, and it is the same forest (keywords, arguments with
`+`-joined pieces concatenated, positions, nesting, sibling order).  `tail` is what a lexer that
stops at an unterminated quote or comment reports after the last token. -/
theorem parse_list (text : List Char) (file : List UInt8) (toks : List PTok) (tail : Option ErrLine)
    (fuel : Nat) (hf : toks.length + 2 ≤ fuel) (hadm : ∀ x ∈ toks, okTok x) (forest : List Statement) :
    parseWith LS fuel { text := text, file := file, toks := toks, errs := [], tail := tail } = .ok forest ↔
      tail = none ∧ ∃ ss, parseTokens text toks = some ss ∧ forest = encStmts file ss := by
  unfold parseWith
  simp only
  rw [show initParser (⟨text, file, toks, [], tail⟩ : LSrc) = initP text file toks tail from rfl]
  have hat : At text file ((initP text file toks tail) : P) toks := ⟨rfl, rfl, rfl, rfl, rfl, rfl⟩
  have htop := topLoop_spec text file toks.length toks (Nat.le_refl _) fuel (toks.length + 1) [] _ hat hf
    (Nat.le_refl _) hadm
  have hpt : ∀ ss, parseTokens text toks = some ss ↔ stmts text (toks.length + 1) toks = some (ss, []) := by
    intro ss
    unfold parseTokens
    constructor
    · intro h
      split at h
      · rename_i forest' heq; injection h with h; rw [heq, h]
      · cases h
    · intro h; rw [h]
  rcases htop with ⟨ht, ss, hss, hr1, hr2, hr3, hr4⟩ | ⟨hbad, hsp⟩ | ⟨ht, hr2, hr3, hr5, hsp⟩
  · have hd : (topLoop LS fuel [] (initP text file toks tail)).2.depth = 0 := hr4
    have hchk : checkStatementDepthIsZero LS (topLoop LS fuel [] (initP text file toks tail)).2 =
        (topLoop LS fuel [] (initP text file toks tail)).2 := by
      unfold checkStatementDepthIsZero
      rw [if_pos (by rw [hd]; simp)]
    rw [hchk, if_neg (by rw [hr3]; simp), if_neg (by simp [listSource]),
      if_pos (by show (List.isEmpty (LSrc.errs _)) = true; rw [hr2]; rfl)]
    rw [hr1]
    simp only [List.nil_append, ParseResult.ok.injEq]
    constructor
    · intro h; exact ⟨ht, ss, (hpt ss).2 hss, h.symm⟩
    · rintro ⟨_, ss', hss', hf'⟩
      have := (hpt ss').1 hss'
      rw [hss] at this
      simp only [Option.some.injEq, Prod.mk.injEq, and_true] at this
      rw [hf', this]
  · have hb2 : Bad (checkStatementDepthIsZero LS (topLoop LS fuel [] (initP text file toks tail)).2) := by
      unfold checkStatementDepthIsZero
      split
      · exact hbad
      · exact addErr_bad _ _
    constructor
    · intro h
      exfalso
      split at h
      · cases h
      · split at h
        · cases h
        · split at h
          · rename_i he
            apply hb2
            exact List.isEmpty_iff.mp he
          · cases h
    · rintro ⟨ht, ss, hss, _⟩
      exfalso
      rcases hsp with h | h
      · exact h ht
      · exact h ⟨ss, (hpt ss).1 hss⟩
  · have hne : ¬ ((LS.errs (topLoop LS fuel [] (initP text file toks tail)).2.src).isEmpty = false ∨
        (topLoop LS fuel [] (initP text file toks tail)).2.depth = 0) := by
      intro h
      rcases h with h | h
      · have : (LS.errs (topLoop LS fuel [] (initP text file toks tail)).2.src) = [] := hr2
        rw [this] at h; cases h
      · rw [h] at hr5
        have : (initP text file toks tail).depth = 0 := rfl
        omega
    have hb2 : Bad (checkStatementDepthIsZero LS (topLoop LS fuel [] (initP text file toks tail)).2) := by
      unfold checkStatementDepthIsZero
      rw [if_neg (by simpa using hne)]
      exact addErr_bad _ _
    constructor
    · intro h
      exfalso
      split at h
      · cases h
      · split at h
        · cases h
        · split at h
          · rename_i he
            apply hb2
            exact List.isEmpty_iff.mp he
          · cases h
    · rintro ⟨_, ss, hss, _⟩
      exact absurd ⟨ss, (hpt ss).1 hss⟩ hsp

/-! ## an unterminated quote or comment is always reported -/

open Goyang.Lemmas.ParseSim (Faulty concatLoop_faulty next_faulty fetchArg_faulty stmt_block_faulty topLoop_faulty)

/-- the lexer's report is still to come, or an error has been written -/
def Armed (p : P) : Prop := p.src.tail ≠ none ∨ Bad p

/-- an error has been written or the parser has run out of fuel: the result is not a forest -/
def Dead (p : P) : Prop := Bad p ∨ Faulty p

theorem pullTok_armed (b : Bool) (p : P) (h : Armed p) :
    Armed (pullTok LS b p).2 ∧ ((pullTok LS b p).1 = none → Bad (pullTok LS b p).2) := by
  cases ht : p.src.toks with
  | nil =>
    obtain ⟨h1, h2, h3, h4, h5, h6, h7, h8, h9, h10⟩ := pullTok_nil b p ht
    have hb : Bad (pullTok LS b p).2 := by
      rcases h with h | h
      · exact h9 h
      · exact h10 h
    exact ⟨Or.inr hb, fun _ => hb⟩
  | cons t ts =>
    obtain ⟨h1, h2, h3, h4, h5, h6, h7, h8, h9, h10, h11⟩ := pullTok_cons b p t ts ht
    refine ⟨?_, fun hn => by rw [h1] at hn; cases hn⟩
    rcases h with h | h
    · left; rw [h8]; exact h
    · right; exact h11 h

theorem push_armed (ts : List Token) (p : P) (h : Armed p) : Armed (push ts p) := h

theorem concatLoop_armed (b : Bool) : ∀ (f : Nat) (T : Token) (p : P), Armed p → Armed (concatLoop LS b f T p).2 :=
  ParseSim.concatLoop_kept ⟨fun b p h => (pullTok_armed b p h).1, fun e p _ => Or.inr (addErr_bad e p),
    fun _ _ h => h, fun _ _ h => h, fun _ _ h => h, fun _ h => h⟩ b

theorem next_armed (b : Bool) (f : Nat) (p : P) (h : Armed p) :
    Armed (next LS b f p).2 ∧ ((next LS b f p).1 = none → Bad (next LS b f p).2) := by
  unfold next
  split
  · exact ⟨h, fun hn => by cases hn⟩
  · simp only
    obtain ⟨h1, h2⟩ := pullTok_armed b p h
    split
    · rename_i hn; exact ⟨h1, fun _ => h2 hn⟩
    · split
      · exact ⟨concatLoop_armed b f _ _ h1, fun hn => by cases hn⟩
      · exact ⟨h1, fun hn => by cases hn⟩

theorem fetchArg_armed (kw : Token) (f : Nat) (p : P) (h : Armed p) :
    Armed (fetchArg LS kw f p).2.2 ∧ ((fetchArg LS kw f p).2.1 = none → Bad (fetchArg LS kw f p).2.2) := by
  unfold fetchArg
  simp only
  obtain ⟨h1, h2⟩ := next_armed (kw.text = Model.Parse.patternKw) f p h
  split
  · rename_i a ha
    split
    · exact next_armed false f _ h1
    · exact ⟨h1, fun hn => by rw [ha] at hn; cases hn⟩
  · rename_i hn
    exact ⟨h1, fun _ => h2 hn⟩

theorem addErr_armed (e : ErrLine) (p : P) : Armed (addErr LS e p) := Or.inr (addErr_bad e p)

theorem stmt_block_armed : ∀ (f : Nat),
    (∀ (p : P), Armed p → Armed (nextStatement LS f p).2 ∧
      ((nextStatement LS f p).1 = .eof → Dead (nextStatement LS f p).2)) ∧
    (∀ (acc : List Statement) (p : P), Armed p → Armed (blockLoop LS f acc p).2 ∧
      ((blockLoop LS f acc p).1 = none → Dead (blockLoop LS f acc p).2)) := by
  intro f
  induction f with
  | zero =>
    constructor
    · intro p h; unfold nextStatement; exact ⟨h, fun _ => Or.inr (by unfold Faulty; simp)⟩
    · intro acc p h; unfold blockLoop; exact ⟨h, fun _ => Or.inr (by unfold Faulty; simp)⟩
  | succ f ih =>
    obtain ⟨ihs, ihb⟩ := ih
    constructor
    · intro p h
      unfold nextStatement
      simp only
      obtain ⟨h1, h2⟩ := next_armed false f p h
      split
      · rename_i hn; exact ⟨h1, fun _ => Or.inl (h2 hn)⟩
      · rename_i t _
        split
        · exact ⟨h1, fun hn => by cases hn⟩
        · split
          · exact ⟨addErr_armed _ _, fun hn => by cases hn⟩
          · obtain ⟨a1, a2⟩ := fetchArg_armed t f _ h1
            split
            · exact ⟨addErr_armed _ _, fun _ => Or.inl (addErr_bad _ _)⟩
            · split
              · exact ⟨a1, fun hn => by cases hn⟩
              · split
                · obtain ⟨b1, b2⟩ := ihb [] _ (show Armed (setDepth
                      ((fetchArg LS t f (next LS false f p).2).2.2.depth + 1)
                      (fetchArg LS t f (next LS false f p).2).2.2) from a1)
                  split
                  · rename_i hn; exact ⟨b1, fun _ => b2 hn⟩
                  · exact ⟨b1, fun hn => by cases hn⟩
                · exact ⟨addErr_armed _ _, fun hn => by cases hn⟩
    · intro acc p h
      unfold blockLoop
      simp only
      obtain ⟨h1, h2⟩ := ihs p h
      split
      · rename_i hn; exact ⟨h1, fun _ => h2 hn⟩
      · exact ⟨h1, fun hn => by cases hn⟩
      · exact ihb _ _ h1

theorem topLoop_armed : ∀ (f : Nat) (acc : List Statement) (p : P), Armed p → Dead (topLoop LS f acc p).2 := by
  intro f
  induction f with
  | zero => intro acc p _; unfold topLoop; exact Or.inr (by unfold Faulty; simp)
  | succ f ih =>
    intro acc p h
    unfold topLoop
    simp only
    obtain ⟨h1, h2⟩ := (stmt_block_armed f).1 p h
    split
    · rename_i hn; exact h2 hn
    · exact ih _ _ (addErr_armed _ _)
    · exact ih _ _ h1

/-- if the reference reader's tokeniser fails, the parser model over the tokens found so far does
not return a forest -/
theorem parse_list_fail (text : List Char) (file : List UInt8) (toks : List PTok) (e : ErrLine) (fuel : Nat)
    (forest : List Statement) :
    parseWith LS fuel { text := text, file := file, toks := toks, errs := [], tail := some e } ≠ .ok forest := by
  have hd := topLoop_armed fuel [] (initParser (⟨text, file, toks, [], some e⟩ : LSrc)) (Or.inl (by simp [initParser]))
  rcases hd with hb | hf
  · exact ParseSim.parseWith_bad mono fuel _ hb forest
  · have hf2 : (checkStatementDepthIsZero LS (topLoop LS fuel [] (initParser
        (⟨text, file, toks, [], some e⟩ : LSrc))).2).fault ≠ .none := by
      unfold checkStatementDepthIsZero
      split
      · exact hf
      · exact hf
    unfold parseWith
    simp only
    rw [if_pos hf2]
    simp

end Goyang.Lemmas.ListSrc
