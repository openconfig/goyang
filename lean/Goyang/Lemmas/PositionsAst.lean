import Goyang.Spec.Positions
import Goyang.Lemmas.Ast
/-
Helper lemmas for the semantic half of C16, AST builder part: which statement a positioned error
of `Ast.build` is about (`Spec.Positions.Ast.Blames`).  Built on the loop invariant and the
id-versus-spelling lemmas of the C03 work (Lemmas/Ast.lean).
-/
set_option linter.unusedVariables false
namespace Goyang.Lemmas.PositionsAst
open Goyang.Model.Ast Goyang.Spec.Ast Goyang.Spec.Positions.Ast Goyang.Lemmas.Ast

theorem within_trans {a b c : Stmt} (h1 : Within a b) (h2 : Within b c) : Within a c := by
  induction h1 with
  | top => exact h2
  | sub _ hc ih => exact .sub (ih h2) hc

/-- What is blamed inside a substatement tree is blamed inside the enclosing tree. -/
theorem blames_lift {tbl : Schema} {top ss : Stmt} {cls : ErrClass} {c : Stmt} (h : Blames tbl ss cls c)
    (hw : Within ss top) : Blames tbl top cls c := by
  cases h with
  | unknownStmt h1 h2 => exact .unknownStmt (within_trans h1 hw) h2
  | unknownField h1 h2 h3 h4 h5 => exact .unknownField (within_trans h1 hw) h2 h3 h4 h5
  | noExt h1 h2 h3 h4 h5 h6 => exact .noExt (within_trans h1 hw) h2 h3 h4 h5 h6
  | foreign h1 h2 h3 h4 h5 => exact .foreign (within_trans h1 hw) h2 h3 h4 h5
  | missing h1 h2 h3 h4 h5 => exact .missing (within_trans h1 hw) h2 h3 h4 h5

/-- The culprit is a statement of the tree. -/
theorem blames_within {tbl : Schema} {top : Stmt} {cls : ErrClass} {c : Stmt} (h : Blames tbl top cls c) :
    Within c top := by
  cases h with
  | unknownStmt h1 _ => exact h1
  | unknownField h1 h2 _ _ _ => exact .sub h1 h2
  | noExt h1 h2 _ _ _ _ => exact .sub h1 h2
  | foreign h1 _ _ _ _ => exact h1
  | missing h1 _ _ _ _ => exact h1

theorem setParent_err_pos {tbl : Schema} {T : TypeDef} {p : Option Nat} {e : Err}
    (h : setParent tbl T p = .error e) : e.pos = none := by
  revert h
  fun_cases setParent tbl T p
  -- the two failures are `crash`, which has no position
  case case2 | case4 => rintro ⟨⟩; rfl
  all_goals exact nofun

theorem addSub_err {tbl : Schema} {T : TypeDef} {ss : Stmt} {st : Partial}
    {child : Unit → Except Err ANode} {e : Err} (h : addSub tbl T ss st child = .error e) :
    child () = .error e ∨ e.pos = none ∨
    ((tbl.kwId ss.kw).bind (T.funcIdx tbl) = none ∧
      ((e = ⟨.noExt, ss.pos⟩ ∧ prefixed ss.kw = true ∧ T.hasKind .ext = false) ∨
       (e = ⟨.unknownField, ss.pos⟩ ∧ prefixed ss.kw = false))) := by
  unfold addSub at h
  dsimp only at h
  split at h
  · -- a function was found
    split at h
    · split at h
      · simp only [Except.error.injEq] at h; subst h; exact Or.inr (Or.inl rfl)
      · split at h
        · rename_i e' he'
          simp only [Except.error.injEq] at h; subst h; exact Or.inl he'
        · split at h
          · simp only [Except.error.injEq] at h; subst h; exact Or.inr (Or.inl rfl)
          · cases h
    · simp only [Except.error.injEq] at h; subst h; exact Or.inr (Or.inl rfl)
  · rename_i hnone
    refine Or.inr (Or.inr ⟨hnone, ?_⟩)
    split at h
    · rename_i hext
      split at h
      · cases h
      · rename_i hnoext
        simp only [Except.error.injEq] at h; subst h
        exact Or.inl ⟨rfl, by rw [← isExtKw_eq]; exact hext, by simpa using hnoext⟩
    · rename_i hext
      simp only [Except.error.injEq] at h; subst h
      exact Or.inr ⟨rfl, by rw [← isExtKw_eq]; simpa using hext⟩

/-- The ways the substatement loop fails. -/
theorem buildSubs_err {tbl : Schema} {t : Nat} {T : TypeDef} :
    ∀ (rest : List Stmt) (st : Partial) (e : Err), buildSubs tbl t T rest st = .error e →
      (∃ ss ∈ rest, build tbl ss (some t) = .error e) ∨ e.pos = none ∨
      ∃ ss ∈ rest, (tbl.kwId ss.kw).bind (T.funcIdx tbl) = none ∧
        ((e = ⟨.noExt, ss.pos⟩ ∧ prefixed ss.kw = true ∧ T.hasKind .ext = false) ∨
         (e = ⟨.unknownField, ss.pos⟩ ∧ prefixed ss.kw = false)) := by
  intro rest
  induction rest with
  | nil => intro st e h; simp [buildSubs] at h
  | cons ss rest ih =>
    intro st e h
    rw [buildSubs] at h
    split at h
    · rename_i e1 h1
      cases h
      rcases addSub_err h1 with h | h | h
      · exact Or.inl ⟨ss, List.mem_cons_self, h⟩
      · exact Or.inr (Or.inl h)
      · exact Or.inr (Or.inr ⟨ss, List.mem_cons_self, h⟩)
    · rename_i st1 h1
      rcases ih st1 e h with ⟨x, hx, h⟩ | h | ⟨x, hx, h⟩
      · exact Or.inl ⟨x, List.mem_cons_of_mem _ hx, h⟩
      · exact Or.inr (Or.inl h)
      · exact Or.inr (Or.inr ⟨x, List.mem_cons_of_mem _ hx, h⟩)

theorem finish_cls {tbl : Schema} {t : Nat} {T : TypeDef} {kid : Option Nat} {pos : Nat × Nat} {name : Bytes}
    {src : Option Stmt} {par : Option Nat} {st : Partial} {e : Err}
    (h : finish tbl t T kid pos name src par st = .error e) : e.cls = .missing ∨ e.cls = .unknownField := by
  unfold finish at h
  dsimp only at h
  split at h
  · cases h; exact Or.inl rfl
  · split at h
    · cases h; exact Or.inl rfl
    · split at h
      · cases h; exact Or.inr rfl
      · cases h

/-- The ways the checks after the loop fail: the error stands at the statement itself, and a
mandatory substatement is absent or a substatement mandatory for another keyword only is present. -/
theorem finish_err {tbl : Schema} (hw : WFP tbl) {t : Nat} {T : TypeDef} (hT : WFT tbl T)
    {kw : Bytes} {pos : Nat × Nat} {name : Bytes} {src : Option Stmt} {par : Option Nat}
    {st : Partial} {subs : List Stmt} {e : Err} (hinv : Inv tbl t T st subs)
    (h : finish tbl t T (tbl.kwId kw) pos name src par st = .error e) :
    e.pos = some pos ∧
    ((e.cls = .missing ∧ ∃ f ∈ T.fields, f.kind.isSub = true ∧
        (f.required = true ∨ ∃ k ∈ f.reqKinds, tbl.kwName k = some kw) ∧ subsOf tbl f subs = []) ∨
     (e.cls = .unknownField ∧ ∃ f ∈ T.fields, f.kind.isSub = true ∧
        (∃ k ∈ f.reqKinds, tbl.kwName k ≠ some kw) ∧ subsOf tbl f subs ≠ [])) := by
  have hfound : ∀ r, st.found.contains (some r) = true ↔ ∃ ss ∈ subs, tbl.kwName r = some ss.kw := by
    intro r
    rw [hinv.found, found_iff]
    constructor
    · rintro ⟨ss, hss, hk⟩; exact ⟨ss, hss, kwId_name hk⟩
    · rintro ⟨ss, hss, hk⟩; exact ⟨ss, hss, kwId_of_name hw.names hk⟩
  have hsubOf : ∀ f ∈ T.fields, (f.required = true ∨ f.reqKinds ≠ []) → f.kind.isSub = true := by
    intro f hf hreq
    cases hs' : f.kind.isSub with
    | true => rfl
    | false =>
      obtain ⟨h1, h2⟩ := hT.metaPlain f hf hs'
      rcases hreq with hr | hr
      · rw [h1] at hr; cases hr
      · exact absurd h2 hr
  have hempty : ∀ f : Field, st.found.contains (some f.tag) = false → subsOf tbl f subs = [] := by
    intro f hnf
    cases hl : subsOf tbl f subs with
    | nil => rfl
    | cons a l =>
      have hpos : 1 ≤ (subsOf tbl f subs).length := by rw [hl]; simp
      rw [subsOf_pos_iff, ← hfound] at hpos
      rw [hpos] at hnf; cases hnf
  have hnonempty : ∀ f : Field, st.found.contains (some f.tag) = true → subsOf tbl f subs ≠ [] := by
    intro f hf hnil
    have hpos : 1 ≤ (subsOf tbl f subs).length := by rw [subsOf_pos_iff, ← hfound]; exact hf
    rw [hnil] at hpos; simp at hpos
  unfold finish at h
  simp only at h
  split at h
  · rename_i h1
    simp only [Except.error.injEq] at h; subst h
    refine ⟨rfl, Or.inl ⟨rfl, ?_⟩⟩
    simp only [TypeDef.required, List.any_map, List.any_filter, List.any_eq_true, Bool.and_eq_true,
      Function.comp, Bool.not_eq_true'] at h1
    obtain ⟨f, hf, hr, hnf⟩ := h1
    have hs := hsubOf f hf (Or.inl hr)
    rw [(hT.sub f hf hs).2.1] at hnf
    exact ⟨f, hf, hs, Or.inl hr, hempty f hnf⟩
  · split at h
    · rename_i h2
      simp only [Except.error.injEq] at h; subst h
      refine ⟨rfl, Or.inl ⟨rfl, ?_⟩⟩
      simp only [TypeDef.sRequired, List.any_map, List.any_filter, List.any_eq_true, Bool.and_eq_true,
        Function.comp, Bool.not_eq_true', beq_iff_eq] at h2
      obtain ⟨f, hf, ⟨k, hk, hkid⟩, hnf⟩ := h2
      have hs := hsubOf f hf (Or.inr (List.ne_nil_of_mem hk))
      rw [(hT.sub f hf hs).2.1] at hnf
      exact ⟨f, hf, hs, Or.inr ⟨k, hk, kwId_name hkid.symm⟩, hempty f hnf⟩
    · split at h
      · rename_i h3
        simp only [Except.error.injEq] at h; subst h
        refine ⟨rfl, Or.inr ⟨rfl, ?_⟩⟩
        simp only [TypeDef.sRequiredOther, List.any_map, List.any_filter, List.any_eq_true, Bool.and_eq_true,
          Function.comp, bne_iff_ne, ne_eq] at h3
        obtain ⟨f, hf, ⟨k, hk, hkid⟩, hfd⟩ := h3
        have hs := hsubOf f hf (Or.inr (List.ne_nil_of_mem hk))
        rw [(hT.sub f hf hs).2.1] at hfd
        refine ⟨f, hf, hs, ⟨k, hk, ?_⟩, hnonempty f hfd⟩
        intro hname
        exact hkid (kwId_of_name hw.names hname).symm
      · cases h

/-- Every positioned error of the builder is about a statement of the tree it was given: the
statement with the unknown keyword, the unknown substatement, the statement that lacks a mandatory
substatement or holds one that is mandatory for another keyword only. -/
theorem build_blames {tbl : Schema} (hw : WFP tbl) :
    ∀ (s : Stmt) (p : Option Nat) (e : Err) (pq : Nat × Nat), build tbl s p = .error e → e.pos = some pq →
      ∃ c, Blames tbl s e.cls c ∧ pq = (c.line, c.col) := by
  intro s
  induction s using Stmt.induct with
  | h kw ha arg line col subs ih =>
    intro p e pq h hpos
    rw [build] at h
    simp only at h
    split at h
    · rename_i hnone
      simp only [Except.error.injEq] at h; subst h
      simp only [Option.some.injEq] at hpos
      exact ⟨_, .unknownStmt (.top _) (by rw [typeFor_eq hw]; exact hnone), hpos.symm⟩
    rename_i t ht
    have htf : typeFor tbl kw = some t := by rw [typeFor_eq hw]; exact ht
    split at h
    · simp only [Except.error.injEq] at h; subst h; cases hpos
    rename_i T hTy
    have hT : WFT tbl T := hw.types T (List.mem_of_getElem? hTy)
    have hnt : nodeType tbl (Stmt.mk kw ha arg line col subs) = some T := by
      simp [nodeType, htf, hTy]
    split at h
    · rename_i e' he'
      simp only [Except.error.injEq] at h; subst h
      rw [setParent_err_pos he'] at hpos; cases hpos
    split at h
    · rename_i e' he'
      simp only [Except.error.injEq] at h; subst h
      rcases buildSubs_err subs _ e' he' with ⟨ss, hss, hb⟩ | hn | ⟨ss, hss, hfn, ⟨rfl, h2, h3⟩ | ⟨rfl, h2⟩⟩
      · obtain ⟨c, hc, hpq⟩ := ih ss hss (some t) e' pq hb hpos
        exact ⟨c, blames_lift hc (.sub (.top _) hss), hpq⟩
      · rw [hn] at hpos; cases hpos
      · simp only [Stmt.pos, Option.some.injEq] at hpos
        exact ⟨ss, .noExt (.top _) hss hnt (fn_none hw hT hfn) h2 h3, hpos.symm⟩
      · simp only [Stmt.pos, Option.some.injEq] at hpos
        exact ⟨ss, .unknownField (.top _) hss hnt (fn_none hw hT hfn) h2, hpos.symm⟩
    · rename_i st hst
      have hinv := buildSubs_inv hw hT subs (fun ss hss c hc => build_sound hw ss (some t) c hc) _ [] st
        (Inv.init tbl t T) hst
      simp only [List.nil_append] at hinv
      obtain ⟨hp', hcase⟩ := finish_err hw hT hinv h
      rw [hp'] at hpos
      simp only [Option.some.injEq] at hpos
      refine ⟨Stmt.mk kw ha arg line col subs, ?_, hpos.symm⟩
      rcases hcase with ⟨hc, f, hf, hs, hreq, hnil⟩ | ⟨hc, f, hf, hs, hreq, hne⟩
      · rw [hc]
        refine .missing (.top _) hnt hf ?_ hnil
        simp only [mandatoryFor, hs, Bool.true_and, Bool.or_eq_true, List.any_eq_true, beq_iff_eq, kw_mk]
        exact hreq
      · rw [hc]
        refine .foreign (.top _) hnt hf ?_ hne
        simp only [foreignFor, hs, Bool.true_and, List.any_eq_true, bne_iff_ne, ne_eq, kw_mk]
        exact hreq

/-- Errors about a second occurrence of a single-valued substatement carry no position. -/
theorem build_alreadySet_unpositioned {tbl : Schema} :
    ∀ (s : Stmt) (p : Option Nat) (e : Err), build tbl s p = .error e → e.cls = .alreadySet → e.pos = none := by
  intro s
  induction s using Stmt.induct with
  | h kw ha arg line col subs ih =>
    intro p e h hc
    rw [build] at h
    simp only at h
    split at h
    · simp only [Except.error.injEq] at h; subst h; cases hc
    rename_i t ht
    split at h
    · simp only [Except.error.injEq] at h; subst h; cases hc
    rename_i T hTy
    split at h
    · rename_i e' he'
      simp only [Except.error.injEq] at h; subst h
      exact setParent_err_pos he'
    split at h
    · rename_i e' he'
      simp only [Except.error.injEq] at h; subst h
      rcases buildSubs_err subs _ e' he' with ⟨ss, hss, hb⟩ | hn | ⟨_, _, _, ⟨rfl, _⟩ | ⟨rfl, _⟩⟩
      · exact ih ss hss _ _ hb hc
      · exact hn
      · cases hc
      · cases hc
    · rcases finish_cls h with h' | h' <;> rw [hc] at h' <;> cases h'

end Goyang.Lemmas.PositionsAst
