import Goyang.Lemmas.Types
import Goyang.Lemmas.RegistryAux
/-
The recursion budgets of the type layer suffice (property C09, theorem `fuel_suffices`): with the
fuel `Env.of` supplies, neither the walk over a module and its submodules nor the resolution of a
type statement that stands in the loaded set ever runs out of fuel.

Idea: the types in progress (`stack`) are pairwise different identities of `type` statements of
the loaded set, so there are never more of them than `allTypeKeys reg` has entries; the modules
already searched (`seen`) are pairwise different sequence numbers of loaded modules.
-/
namespace Goyang.Lemmas.TypesFuel
open Goyang.Model Goyang.Model.Types Goyang.Spec.Types Goyang.Lemmas.Types Goyang.Lemmas.RegistryAux

/-! ## Pigeonhole -/

theorem nodup_subset_length {α : Type} [DecidableEq α] :
    ∀ (l l' : List α), l.Nodup → l ⊆ l' → l.length ≤ l'.length := by
  intro l
  induction l with
  | nil => intro l' _ _; simp
  | cons a l ih =>
    intro l' hnd hsub
    have ha : a ∈ l' := hsub List.mem_cons_self
    have hnd' := List.nodup_cons.mp hnd
    have hsub' : l ⊆ l'.erase a := by
      intro x hx
      have hne : x ≠ a := fun e => hnd'.1 (e ▸ hx)
      exact (List.mem_erase_of_ne hne).mpr (hsub (List.mem_cons_of_mem _ hx))
    have := ih (l'.erase a) hnd'.2 hsub'
    rw [List.length_erase_of_mem ha] at this
    have hpos : 0 < l'.length := List.length_pos_of_mem ha
    simp only [List.length_cons]
    omega

/-! ## Statements below a statement -/

theorem self_mem_descendants (s : Stmt) : s ∈ descendants s := by
  cases s with
  | mk kw ha a f l c subs => simp [descendants]

mutual
theorem trans_stmt (a b : Stmt) (hab : a ∈ descendants b) : ∀ (c : Stmt), b ∈ descendants c → a ∈ descendants c
  | .mk kw ha ar f l col subs, h => by
    simp only [descendants, List.mem_cons] at h ⊢
    rcases h with h | h
    · subst h
      simpa only [descendants, List.mem_cons] using hab
    · exact Or.inr (trans_list a b hab subs h)
theorem trans_list (a b : Stmt) (hab : a ∈ descendants b) : ∀ (l : List Stmt), b ∈ descendantsL l → a ∈ descendantsL l
  | [], h => by simp [descendantsL] at h
  | s :: rest, h => by
    simp only [descendantsL, List.mem_append] at h ⊢
    rcases h with h | h
    · exact Or.inl (trans_stmt a b hab s h)
    · exact Or.inr (trans_list a b hab rest h)
end

theorem mem_descendantsL {x : Stmt} : ∀ {l : List Stmt}, x ∈ l → x ∈ descendantsL l := by
  intro l
  induction l with
  | nil => intro h; cases h
  | cons s rest ih =>
    intro h
    simp only [descendantsL, List.mem_append]
    cases h with
    | head => exact Or.inl (self_mem_descendants _)
    | tail _ h => exact Or.inr (ih h)

theorem child_mem_descendants {p x : Stmt} (h : x ∈ p.subs) : x ∈ descendants p := by
  cases p with
  | mk kw ha a f l c subs =>
    simp only [descendants, List.mem_cons]
    exact Or.inr (mem_descendantsL h)

/-- A child of a statement below `c` is below `c`. -/
theorem child_below {c n x : Stmt} (hn : n ∈ descendants c) (hx : x ∈ n.subs) : x ∈ descendants c :=
  trans_stmt x n (child_mem_descendants hx) c hn

theorem one_mem_subs {s c : Stmt} {k : String} (h : s.one? k = some c) : c ∈ s.subs := by
  unfold Stmt.one? at h
  exact List.mem_of_find?_eq_some h

theorem all_mem_subs {s c : Stmt} {k : String} (h : c ∈ s.all k) : c ∈ s.subs := by
  unfold Stmt.all at h
  exact (List.mem_filter.mp h).1

theorem declared_mem_subs {n td : Stmt} {name : String} (h : td ∈ declared n name) : td ∈ n.subs := by
  unfold declared at h
  split at h
  · exact (List.mem_filter.mp h).1
  · cases h

/-- The identity of a `type` statement of a loaded module is in the list of all of them. -/
theorem key_mem {reg : Registry} {m : Mod} {t : Stmt} (hm : m ∈ reg.mods) (ht : t ∈ descendants m.stmt)
    (hkw : t.kw = "type") : typeKey m t ∈ allTypeKeys reg := by
  unfold allTypeKeys typeKeysOf
  rw [List.mem_flatMap]
  refine ⟨m, hm, List.mem_map_of_mem ?_⟩
  rw [List.mem_filter]
  exact ⟨ht, by simp [hkw]⟩

/-- The budget of the recursion over `type` statements: those in progress are pairwise different
statements of the loaded set, and the fuel covers all the others. -/
def Budget (reg : Registry) (fuel : Nat) (stack : List TypeKey) : Prop :=
  stack.Nodup ∧ (∀ k ∈ stack, k ∈ allTypeKeys reg) ∧ (allTypeKeys reg).length + 1 ≤ fuel + stack.length

theorem Budget.nil {reg : Registry} {fuel : Nat} (h : (allTypeKeys reg).length + 1 ≤ fuel) : Budget reg fuel [] :=
  ⟨List.nodup_nil, nofun, h⟩

theorem Budget.not_zero {reg : Registry} {stack : List TypeKey} (h : Budget reg 0 stack) : False := by
  have := nodup_subset_length stack (allTypeKeys reg) h.1 h.2.1
  have := h.2.2
  omega

theorem Budget.push {reg : Registry} {fuel : Nat} {stack : List TypeKey} {m : Mod} {t : Stmt}
    (h : Budget reg (fuel + 1) stack) (hm : m ∈ reg.mods) (ht : t ∈ descendants m.stmt) (hkw : t.kw = "type")
    (hnotin : typeKey m t ∉ stack) : Budget reg fuel (typeKey m t :: stack) := by
  refine ⟨List.nodup_cons.mpr ⟨hnotin, h.1⟩, ?_, ?_⟩
  · intro k hk
    cases hk with
    | head => exact key_mem hm ht hkw
    | tail _ hk => exact h.2.1 k hk
  · have := h.2.2
    simp only [List.length_cons]
    omega

/-! ## Modules the registry hands out are loaded modules -/

theorem includeTargets_mem {env : Env} {m im : Mod} (h : im ∈ env.includeTargets m) : im ∈ env.reg.mods := by
  have := includeTargets_sub env m im h
  unfold Includes includesOf at this
  rw [List.mem_filterMap] at this
  obtain ⟨s, _, hs⟩ := this
  exact findModule_mem hs

theorem includesStar_mem {reg : Registry} {a b : Mod} (h : IncludesStar reg a b) (ha : a ∈ reg.mods) : b ∈ reg.mods := by
  induction h with
  | refl a => exact ha
  | head hinc _ ih =>
    apply ih
    unfold Includes includesOf at hinc
    rw [List.mem_filterMap] at hinc
    obtain ⟨s, _, hs⟩ := hinc
    exact findModule_mem hs


/-- None of the errors is the report of an exhausted recursion budget. -/
def NoOof (l : List Err) : Prop := ∀ e ∈ l, e.cls ≠ "out-of-fuel"

theorem NoOof.append {a b : List Err} (ha : NoOof a) (hb : NoOof b) : NoOof (a ++ b) := by
  intro e he
  rcases List.mem_append.mp he with h | h
  · exact ha e h
  · exact hb e h

theorem NoOof.single {e : Err} (h : e.cls ≠ "out-of-fuel") : NoOof [e] := by
  intro e' he'
  rw [List.mem_singleton] at he'
  rw [he']; exact h

theorem at_cls (s : Stmt) (c : String) : (Err.at_ s c).cls = c := rfl
theorem bare_cls (c : String) : (Err.bare c).cls = c := rfl

/-- A class that is neither one of the binding-level records (unknown name or prefix, cycle, the
"cannot happen" records) nor the exhausted budget. -/
def Plain (c : String) : Prop :=
  c ≠ "unknown-type" ∧ c ≠ "unknown-prefix" ∧ c ≠ "cycle" ∧ c ≠ "no-yangtype" ∧ c ≠ "crash" ∧ c ≠ "out-of-fuel"

instance (c : String) : Decidable (Plain c) := by unfold Plain; infer_instance

/-- A record the overlays of `Type.resolve` / `Typedef.resolve` make themselves: its class is `Plain`,
or it is the identity layer's position-less `crash`. -/
def Own (e : Err) : Prop := Plain e.cls ∨ e = Err.bare "crash"

def Raises (old new : List Err) : Prop := ∀ e ∈ new, e ∈ old ∨ Own e

theorem own_at (s : Stmt) {c : String} (h : Plain c) : Own (Err.at_ s c) := Or.inl h

theorem own_bare {c : String} (h : Plain c) : Own (Err.bare c) := Or.inl h

theorem Own.noOof {e : Err} (h : Own e) : e.cls ≠ "out-of-fuel" :=
  h.elim (fun ⟨_, _, _, _, _, hoof⟩ => hoof) (fun hc => by rw [hc, bare_cls]; decide)

theorem Raises.refl (l : List Err) : Raises l l := fun _ h => Or.inl h

theorem Raises.trans {a b c : List Err} (h1 : Raises a b) (h2 : Raises b c) : Raises a c :=
  fun e he => (h2 e he).elim (h1 e) Or.inr

theorem Raises.append {l b : List Err} (h : ∀ e ∈ b, Own e) : Raises l (l ++ b) :=
  fun e he => (List.mem_append.mp he).imp id (h e)

theorem Raises.snoc {l : List Err} {e : Err} (h : Own e) : Raises l (l ++ [e]) :=
  Raises.append fun _ he => List.mem_singleton.mp he ▸ h

theorem Raises.own {l : List Err} (h : Raises [] l) : ∀ e ∈ l, Own e := fun e he => (h e he).elim nofun id

theorem idbase_own {reg : Registry} {dict : Identity.Dict} {root : Mod} {b : String} {e : Err}
    (h : Identity.findIdentityBase reg dict root b = .error e) : Own e := by
  revert h
  fun_cases Identity.findIdentityBase reg dict root b
  all_goals
    intro h
    cases h <;> first | exact own_at _ (by decide) | exact Or.inr rfl

theorem enumErrClass_plain (e : Enum.EnumErr) : Plain (enumErrClass e) := by
  cases e <;> (simp only [enumErrClass]; decide)

theorem enumFold_own (start : EnumTab) (kw : String) (ms : List Stmt) : ∀ e ∈ (enumFold start kw ms).2, Own e := by
  intro e he
  obtain ⟨ie, _, hie⟩ := List.mem_filterMap.mp he
  obtain ⟨m, _, rfl⟩ := Option.map_eq_some_iff.mp hie
  exact own_at m (enumErrClass_plain _)

theorem stepRequireInstance_raises {t : Stmt} {s : St} : Raises s.2 (stepRequireInstance t s).2 := by
  fun_cases stepRequireInstance t s
  all_goals first | exact .refl _ | exact .snoc (own_bare (by decide))

theorem stepKind_raises {env : Env} {root : Mod} {t : Stmt} {src : Source} {dec : Bool} {s : St} :
    Raises s.2 (stepKind env root t src dec s).2 := by
  fun_cases stepKind env root t src dec s
  all_goals first | exact .refl _ | exact .snoc (own_at _ (by decide)) | exact .snoc (idbase_own ‹_›)

theorem stepRange_raises {t : Stmt} {dec : Bool} {s : St} : Raises s.2 (stepRange t dec s).2 := by
  fun_cases stepRange t dec s
  all_goals first | exact .refl _ | exact .snoc (own_at _ (by decide))

theorem stepLength_raises {t : Stmt} {s : St} : Raises s.2 (stepLength t s).2 := by
  fun_cases stepLength t s
  all_goals first | exact .refl _ | exact .snoc (own_at _ (by decide))

theorem stepEnum_raises {t : Stmt} {s : St} : Raises s.2 (stepEnum t s).2 := by
  fun_cases stepEnum t s
  · exact .refl _
  · exact .append (enumFold_own _ _ _)

theorem stepBit_raises {t : Stmt} {s : St} : Raises s.2 (stepBit t s).2 := by
  fun_cases stepBit t s
  · exact .refl _
  · exact .append (enumFold_own _ _ _)

theorem stepPosix_raises {env : Env} {pps : List Stmt} {s : St} : Raises s.2 (stepPosix env pps s).2 :=
  .append fun e he => by
    obtain ⟨x, _, rfl⟩ := List.mem_map.mp he
    exact own_at x (by decide)

theorem startSt_raises {t : Stmt} {tdY : YType} : Raises [] (startSt t tdY).2 := by
  unfold startSt
  rw [stepPath_errs]
  exact stepRequireInstance_raises

theorem overlayLocal_raises {env : Env} {root : Mod} {t : Stmt} {src : Source} {tdY : YType} :
    Raises [] (overlayLocal env root t src tdY (startSt t tdY)).2 :=
  ((((startSt_raises.trans stepKind_raises).trans stepRange_raises).trans stepLength_raises).trans
    stepEnum_raises).trans stepBit_raises

theorem overlayType_own {env : Env} {root : Mod} {t : Stmt} {src : Source} {tdY : YType} {ms : List Res} :
    ∀ e ∈ (overlayType env root t src tdY ms).errs, (∃ r ∈ ms, e ∈ r.errs) ∨ Own e := by
  intro e he
  unfold overlayType at he
  simp only [] at he
  split at he
  · exact .inr ((startSt_raises.trans (.snoc (own_at t (by decide)))).own e he)
  · split at he
    · exact .inr (List.mem_singleton.mp he ▸ own_bare (by decide))
    · rcases (mem_appendNewErrs e _ _).mp he with h | h
      · exact .inr ((overlayLocal_raises.trans stepPosix_raises).own e h)
      · exact .inl (List.mem_flatMap.mp h)

theorem typedefOverlay_own {env : Env} {root : Mod} {td tt : Stmt} {ty : YType} :
    ∀ e ∈ (typedefOverlay env root td tt ty).errs, Own e := by
  intro e he
  unfold typedefOverlay at he
  split at he
  · exact List.mem_singleton.mp he ▸ own_bare (by decide)
  · cases he

theorem overlayType_noOof {env : Env} {root : Mod} {t : Stmt} {src : Source} {tdY : YType} {ms : List Res}
    (hms : ∀ r ∈ ms, NoOof r.errs) : NoOof (overlayType env root t src tdY ms).errs :=
  fun e he => (overlayType_own e he).elim (fun ⟨r, hr, her⟩ => hms r hr e her) Own.noOof

theorem typedefOverlay_noOof {env : Env} {root : Mod} {td tt : Stmt} {ty : YType} :
    NoOof (typedefOverlay env root td tt ty).errs := fun e he => (typedefOverlay_own e he).noOof

/-! ## The walk over a module and its submodules never runs out of fuel -/

/-- Sequence numbers of the loaded modules. -/
def seqs (env : Env) : List Nat := env.reg.mods.map (·.seq)

/-- Invariant of the visited set: pairwise different sequence numbers of loaded modules, at
least `k` of them, and enough fuel left for the rest. -/
def SeenOk (env : Env) (fuel k : Nat) (seen : List Nat) : Prop :=
  seen.Nodup ∧ (∀ x ∈ seen, x ∈ seqs env) ∧ k ≤ seen.length ∧ (seqs env).length + 1 ≤ fuel + seen.length

theorem SeenOk.mono {env : Env} {fuel k k' : Nat} {seen : List Nat} (h : SeenOk env fuel k seen) (hk : k' ≤ k) :
    SeenOk env fuel k' seen := ⟨h.1, h.2.1, Nat.le_trans hk h.2.2.1, h.2.2.2⟩

theorem firstHit_inv {α : Type} (P : List Nat → Prop) (f : α → List Nat → Lookup × List Nat) :
    ∀ (l : List α), (∀ a ∈ l, ∀ s, P s → (f a s).1 ≠ .outOfFuel ∧ P (f a s).2) →
      ∀ s, P s → (firstHit f l s).1 ≠ .outOfFuel ∧ P (firstHit f l s).2 := by
  intro l
  induction l with
  | nil => intro _ s hs; exact ⟨by simp [firstHit], by simpa [firstHit] using hs⟩
  | cons a rest ih =>
    intro hf s hs
    have ha := hf a List.mem_cons_self s hs
    unfold firstHit
    split
    · rename_i s' heq
      have : (f a s).2 = s' := by rw [heq]
      rw [this] at ha
      exact ih (fun b hb => hf b (List.mem_cons_of_mem _ hb)) s' ha.2
    · rename_i hne
      exact ha

theorem findInModule_fuel (env : Env) (name : String) :
    ∀ (fuel : Nat) (m : Mod) (seen : List Nat), m ∈ env.reg.mods → SeenOk env fuel seen.length seen →
      (findInModule env name fuel m seen).1 ≠ .outOfFuel ∧
      SeenOk env fuel seen.length (findInModule env name fuel m seen).2 := by
  intro fuel
  induction fuel with
  | zero =>
    intro m seen _ hs
    have := nodup_subset_length seen (seqs env) hs.1 hs.2.1
    have h4 := hs.2.2.2
    omega
  | succ fuel ih =>
    intro m seen hm hs
    unfold findInModule
    split
    · exact ⟨by simp, hs⟩
    · rename_i hc
      have hnotin : m.seq ∉ seen := by simpa using hc
      have hs' : SeenOk env fuel (m.seq :: seen).length (m.seq :: seen) := by
        refine ⟨List.nodup_cons.mpr ⟨hnotin, hs.1⟩, ?_, Nat.le_refl _, ?_⟩
        · intro x hx
          cases hx with
          | head => exact List.mem_map_of_mem hm
          | tail _ hx => exact hs.2.1 x hx
        · have := hs.2.2.2
          simp only [List.length_cons]
          omega
      have hup : ∀ {s : List Nat}, SeenOk env fuel (m.seq :: seen).length s → SeenOk env (fuel + 1) seen.length s := by
        intro s h
        refine ⟨h.1, h.2.1, ?_, ?_⟩
        · have := h.2.2.1; simp only [List.length_cons] at this; omega
        · have := h.2.2.2; omega
      simp only
      split
      · exact ⟨by simp, hup hs'⟩
      · have := firstHit_inv (SeenOk env fuel (m.seq :: seen).length)
          (fun im s => findInModule env name fuel im s) (env.includeTargets m)
          (by
            intro im him s hsok
            have hsok' : SeenOk env fuel s.length s := ⟨hsok.1, hsok.2.1, Nat.le_refl _, hsok.2.2.2⟩
            obtain ⟨h1, h2⟩ := ih im s (includeTargets_mem him) hsok'
            exact ⟨h1, h2.mono hsok.2.2.1⟩)
          (m.seq :: seen) hs'
        exact ⟨this.1, hup this.2⟩

theorem seqs_length (env : Env) : (seqs env).length = env.reg.mods.length := by simp [seqs]

theorem findInModule_start (env : Env) (name : String) (m : Mod) (hm : m ∈ env.reg.mods) :
    (findInModule env name env.modFuel m []).1 ≠ .outOfFuel := by
  refine (findInModule_fuel env name env.modFuel m [] hm ?_).1
  refine ⟨List.nodup_nil, (by intro x hx; cases hx), Nat.le_refl _, ?_⟩
  rw [seqs_length]; simp [Env.modFuel]

theorem findLocalModules_fuel (env : Env) (root : Mod) (name : String) (hroot : root ∈ env.reg.mods) :
    findLocalModules env root name ≠ .outOfFuel := by
  unfold findLocalModules
  simp only
  have hmods : ∀ m ∈ (match root.belongsTo? with
      | some b => root :: (env.reg.getModule b).toList
      | none => [root]), m ∈ env.reg.mods := by
    intro m hm
    split at hm
    · cases hm with
      | head => exact hroot
      | tail _ hm =>
        have hm' : m ∈ (env.reg.getModule _).toList := hm
        rw [Option.mem_toList] at hm'
        exact getModule_mem hm'
    · cases hm with
      | head => exact hroot
      | tail _ hm => cases hm
  have := firstHit_inv (SeenOk env env.modFuel 0) (fun m s => findInModule env name env.modFuel m s) _
    (by
      intro m hm s hsok
      have hsok' : SeenOk env env.modFuel s.length s := ⟨hsok.1, hsok.2.1, Nat.le_refl _, hsok.2.2.2⟩
      obtain ⟨h1, h2⟩ := findInModule_fuel env name env.modFuel m s (hmods m hm) hsok'
      exact ⟨h1, h2.mono (Nat.zero_le _)⟩)
    [] ⟨List.nodup_nil, (by intro x hx; cases hx), Nat.le_refl _, (by rw [seqs_length]; simp [Env.modFuel])⟩
  exact this.1

/-! ## What `lookup` hands back stands in the loaded set -/

/-- `root` is a loaded module, `t` and the statements of `scope` are statements of it. -/
def InSet (env : Env) (root : Mod) (scope : List Stmt) (t : Stmt) : Prop :=
  root ∈ env.reg.mods ∧ t ∈ descendants root.stmt ∧ ∀ s ∈ scope, s ∈ descendants root.stmt

theorem moduleHit_inSet {env : Env} {m : Mod} {name : String} {r : TdRef} (hm : m ∈ env.reg.mods)
    (h : IncludesStar env.reg m r.root ∧ r.td ∈ declared r.root.stmt name ∧ r.scope = [r.root.stmt]) :
    InSet env r.root r.scope r.td := by
  obtain ⟨hstar, htd, hsc⟩ := h
  refine ⟨includesStar_mem hstar hm, child_mem_descendants (declared_mem_subs htd), ?_⟩
  rw [hsc]
  intro s hs
  rw [List.mem_singleton] at hs
  rw [hs]; exact self_mem_descendants _

theorem lookup_inSet {env : Env} {root : Mod} {scope : List Stmt} {t : Stmt} {src : Source} {r : TdRef}
    (hin : InSet env root scope t) (h : lookup env root scope t = .typedef src r) :
    InSet env r.root r.scope r.td := by
  obtain ⟨hroot, ht, hscope⟩ := hin
  rcases (lookup_typedef_cases h).2 with ⟨_, _, hfs | ⟨_, hfl⟩⟩ | ⟨_, _, ext, hext, hfm⟩
  · obtain ⟨pre, n, up, hsc, _, htd, hr, hs⟩ := findInScope_some hfs
    have hn : ∀ s ∈ n :: up, s ∈ descendants root.stmt := by
      intro s hs
      have : s ∈ t :: scope := by rw [hsc]; exact List.mem_append_right _ hs
      exact (List.forall_mem_cons.mpr ⟨ht, hscope⟩) s this
    rw [hr, hs]
    exact ⟨hroot, child_below (hn n List.mem_cons_self) (declared_mem_subs htd), hn⟩
  · unfold findLocalModules at hfl
    simp only at hfl
    obtain ⟨m, hm, s1, s2, hf⟩ := firstHit_found' _ _ _ _ hfl
    have hmm : m ∈ env.reg.mods := by
      split at hm
      · cases hm with
        | head => exact hroot
        | tail _ hm =>
          have hm' : m ∈ (env.reg.getModule _).toList := hm
          rw [Option.mem_toList] at hm'
          exact getModule_mem hm'
      · cases hm with
        | head => exact hroot
        | tail _ hm => cases hm
    exact moduleHit_inSet hmm (findInModule_sound env _ _ m s1 s2 _ hf)
  · exact moduleHit_inSet (findModuleByPrefix_mem hroot hext) (findInModule_sound' env _ _ _ _ _ hfm)

theorem InSet.member {env : Env} {root : Mod} {scope : List Stmt} {t ut : Stmt} (h : InSet env root scope t)
    (hut : ut ∈ t.all "type") : InSet env root (t :: scope) ut :=
  ⟨h.1, child_below h.2.1 (all_mem_subs hut), List.forall_mem_cons.mpr ⟨h.2.1, h.2.2⟩⟩

theorem InSet.base {env : Env} {root : Mod} {scope : List Stmt} {t tt : Stmt} {src : Source} {r : TdRef}
    (h : InSet env root scope t) (hl : lookup env root scope t = .typedef src r) (htt : r.td.one? "type" = some tt) :
    InSet env r.root (r.td :: r.scope) tt :=
  have hr := lookup_inSet h hl
  ⟨hr.1, child_below hr.2.1 (one_mem_subs htt), List.forall_mem_cons.mpr ⟨hr.2.1, hr.2.2⟩⟩

theorem lookup_error_noOof {env : Env} {root : Mod} {scope : List Stmt} {t : Stmt} {e : Err}
    (hroot : root ∈ env.reg.mods) (h : lookup env root scope t = .error e) : e.cls ≠ "out-of-fuel" := by
  rcases lookup_error_cases h with ⟨_, _, ⟨_, rfl⟩ | ⟨hoof, _⟩⟩ | ⟨_, ⟨_, rfl⟩ | ⟨ext, hext, ⟨_, rfl⟩ | ⟨hoof, _⟩⟩⟩
  · rw [at_cls]; decide
  · exact absurd hoof (findLocalModules_fuel env root _ hroot)
  · rw [at_cls]; decide
  · rw [at_cls]; decide
  · exact absurd hoof (findInModule_start env _ ext (findModuleByPrefix_mem hroot hext))

/-! ## The resolution of a type statement never runs out of fuel -/

theorem resolve_noOof (env : Env) :
    ∀ (fuel : Nat) (root : Mod) (scope : List Stmt) (t : Stmt) (stack : List TypeKey),
      InSet env root scope t → t.kw = "type" → Budget env.reg fuel stack →
      NoOof (resolveTypeF env fuel root scope t stack).errs := by
  intro fuel
  induction fuel with
  | zero => intro root scope t stack _ _ hb; exact hb.not_zero.elim
  | succ fuel ih =>
    intro root scope t stack hin hkw hb
    unfold resolveTypeF
    simp only
    split
    · exact NoOof.single (by rw [at_cls]; decide)
    · rename_i hc
      have hb' := hb.push hin.1 hin.2.1 hkw (by simpa using hc)
      have hmembers : ∀ r ∈ (t.all "type").map (fun ut => resolveTypeF env fuel root (t :: scope) ut (typeKey root t :: stack)),
          NoOof r.errs := by
        intro r hr
        obtain ⟨ut, hut, rfl⟩ := List.mem_map.mp hr
        exact ih root (t :: scope) ut _ (hin.member hut) (kw_of_all hut) hb'
      split
      · rename_i e hl
        exact NoOof.single (lookup_error_noOof hin.1 hl)
      · exact overlayType_noOof hmembers
      · rename_i src r hl
        split
        · exact NoOof.single (by rw [at_cls]; decide)
        · rename_i tt htt
          split
          · exact ih r.root (r.td :: r.scope) tt _ (hin.base hl htt) (kw_of_one htt) hb'
          · split
            · exact NoOof.single (by rw [at_cls]; decide)
            · split
              · exact typedefOverlay_noOof
              · split
                · exact NoOof.single (by rw [at_cls]; decide)
                · exact overlayType_noOof hmembers

end Goyang.Lemmas.TypesFuel
