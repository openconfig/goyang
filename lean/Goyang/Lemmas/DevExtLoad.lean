import Goyang.Lemmas.DevExtFuel
import Goyang.Lemmas.BridgeLoad
/-
C08, frame across module sets — part 12: the structural half of `DevExtCore` is what LOADING one more
module does.  `X = B.add d` for a module statement `d` whose name is not yet bound in the module table of a
registry `B` that loading produced (`Bridge.TablesOK`: sequence numbers are positions, table rows point to
loaded modules — proved of every `loadTexts` / `loadAll` result in `Lemmas/BridgeLoad.lean`):
`add_fresh` computes the registry — the module list grows by `⟨B.mods.length, d⟩`, the module table by the
rows `newRows` (full name and name, or the name alone without revision), the submodule table is unchanged —
and `devExtCore_of_add` derives the fields `mods`, `modules`, `subsX`, `seqFresh`, `tblB`, `tblD` of
`DevExtCore` from it; what remains to be asked are the conditions on the contents (the new module is
deviation-only and sorts last, nobody in `B` imports it, no submodules).  Core Lean only.
-/
open Goyang.Lemmas.RegistryAux (add_mods)
namespace Goyang.Lemmas.DevExt
open Goyang.Model
open Goyang.Lemmas.Bridge (TablesOK)
open Goyang.Lemmas.Registry (SeqOk)

/-! ### binding an absent key -/

theorem get?_none_any {m : KeyMap} {k : String} (h : m.get? k = none) : m.any (·.1 == k) = false := by
  unfold KeyMap.get? at h
  cases hf : m.find? (·.1 == k) with
  | some x => rw [hf] at h; cases h
  | none =>
    apply List.any_eq_false.mpr
    intro x hx
    have := List.find?_eq_none.mp hf x hx
    simpa using this

theorem bind_absent {m : KeyMap} {k : String} (v : Nat) (h : m.get? k = none) : m.bind k v = m ++ [(k, v)] := by
  unfold KeyMap.bind
  rw [get?_none_any h]
  rfl

theorem get?_snoc_ne {m : KeyMap} {k k' : String} (v : Nat) (h : m.get? k = none) (hne : (k' == k) = false) :
    (m ++ [(k', v)]).get? k = none := by
  unfold KeyMap.get? at h ⊢
  rw [List.find?_append]
  cases hf : m.find? (·.1 == k) with
  | some x => rw [hf] at h; cases h
  | none => simp [hne]

/-- The rows of the module table a freshly named module gets. -/
def newRows (n : Nat) (d : Stmt) : KeyMap :=
  let m : Mod := ⟨n, d⟩
  if m.fullName == m.name then [(m.name, n)] else [(m.fullName, n), (m.name, n)]

/-- **`add` of a module statement with a fresh name**: the registry it returns. -/
theorem add_fresh {B X : Registry} {d : Stmt} (ha : B.add d = .ok X) (hsub : (⟨B.mods.length, d⟩ : Mod).isSub = false)
    (hfresh : B.modules.get? d.arg = none) :
    X.mods = B.mods ++ [⟨B.mods.length, d⟩] ∧ X.modules = B.modules ++ newRows B.mods.length d ∧
      X.subModules = B.subModules := by
  refine ⟨add_mods ha, ?_⟩
  have ha := (Registry.add_ok ha).2
  unfold Registry.addChecked at ha
  simp only [hsub] at ha
  have hkm : B.kmOf false = B.modules := rfl
  have hname : (⟨B.mods.length, d⟩ : Mod).name = d.arg := rfl
  unfold newRows
  simp only
  split at ha
  · next hfn =>
    rw [if_pos hfn]
    split at ha
    · cases ha
    · rw [hkm, hname, hfresh] at ha
      simp only at ha
      cases ha
      rw [bind_absent _ hfresh, hname]
      exact ⟨rfl, rfl⟩
  · next hfn =>
    rw [if_neg hfn]
    split at ha
    · cases ha
    · next hfull =>
      rw [hkm] at hfull ha
      have hne : ((⟨B.mods.length, d⟩ : Mod).fullName == d.arg) = false := by
        rw [← hname]; simpa using hfn
      rw [bind_absent _ hfull, hname, get?_snoc_ne _ hfresh hne] at ha
      simp only at ha
      cases ha
      rw [bind_absent _ (get?_snoc_ne _ hfresh hne), hname]
      exact ⟨by simp [Registry.withKm], rfl⟩

/-- **The structural fields of `DevExtCore` from loading**: `B` as loading produces it (`TablesOK`), `X` the
result of adding the module statement `d` under a name not yet in the module table. -/
theorem devExtCore_of_add {B X : Registry} {d : Stmt} (hB : TablesOK B) (ha : B.add d = .ok X)
    (hsub : (⟨B.mods.length, d⟩ : Mod).isSub = false) (hfresh : B.modules.get? d.arg = none)
    (subsB : B.subModules = [])
    (keyLast : ∀ kb ∈ B.modules, ∀ kd ∈ newRows B.mods.length d, kb.1 < kd.1)
    (nameLast : ∀ m ∈ B.mods, m.fullName < (⟨B.mods.length, d⟩ : Mod).fullName)
    (imports : ∀ m ∈ B.mods, ∀ i ∈ m.imports, X.findModule false i = B.findModule false i)
    (ownerEq : ∀ m ∈ B.mods, X.owner m = B.owner m)
    (devOnly : DeviationOnly d) :
    DevExtCore B X [⟨B.mods.length, d⟩] (newRows B.mods.length d) := by
  obtain ⟨hmods, hmodules, hsubs⟩ := add_fresh ha hsub hfresh
  have hlt : ∀ m ∈ B.mods, m.seq < B.mods.length := by
    intro m hm
    obtain ⟨i, hi, rfl⟩ := List.getElem_of_mem hm
    rw [hB.seq i hi]; exact hi
  refine ⟨hmods, hmodules, by rw [hsubs, subsB], subsB, ?_, ?_, ?_, keyLast, ?_, imports, ownerEq, ?_⟩
  · intro m hm x hx
    rw [List.mem_singleton] at hx; subst hx
    exact Nat.ne_of_lt (hlt m hm)
  · intro kv hkv
    obtain ⟨m, hm, hs, _⟩ := hB.kinds false kv hkv
    exact ⟨m, hm, hs⟩
  · intro kv hkv
    refine ⟨_, List.mem_singleton.mpr rfl, ?_⟩
    unfold newRows at hkv
    simp only at hkv
    split at hkv
    · rw [List.mem_singleton] at hkv; rw [hkv]
    · simp only [List.mem_cons, List.not_mem_nil, or_false] at hkv
      rcases hkv with rfl | rfl <;> rfl
  · intro m hm x hx
    rw [List.mem_singleton] at hx; subst hx
    exact nameLast m hm
  · intro x hx
    rw [List.mem_singleton] at hx; subst hx
    exact devOnly

end Goyang.Lemmas.DevExt
