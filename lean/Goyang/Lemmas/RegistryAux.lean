import Goyang.Model.Ctx
/-
Whatever a lookup in a registry returns is one of its loaded modules, and what `add` does to the list
of loaded modules.  Core Lean only.
-/
namespace Goyang.Lemmas.RegistryAux
open Goyang.Model

theorem byId_mem {r : Registry} {id : Nat} {m : Mod} (h : r.byId id = some m) : m ∈ r.mods :=
  List.mem_of_find?_eq_some h

theorem getModule_mem {r : Registry} {k : String} {m : Mod} (h : r.getModule k = some m) : m ∈ r.mods := by
  obtain ⟨id, _, h⟩ := Option.bind_eq_some_iff.mp h
  exact byId_mem h

theorem getSub_mem {r : Registry} {k : String} {m : Mod} (h : r.getSub k = some m) : m ∈ r.mods := by
  obtain ⟨id, _, h⟩ := Option.bind_eq_some_iff.mp h
  exact byId_mem h

theorem findModule_mem {r : Registry} {b : Bool} {i : Stmt} {m : Mod} (h : r.findModule b i = some m) : m ∈ r.mods := by
  unfold Registry.findModule at h
  cases b <;> simp only [Bool.false_eq_true, if_false, if_true] at h <;> split at h
  · next h' => cases h; exact getModule_mem h'
  · exact getModule_mem h
  · next h' => cases h; exact getSub_mem h'
  · exact getSub_mem h

theorem findModuleByPrefix_mem {r : Registry} {root m : Mod} {pfx : String} (hroot : root ∈ r.mods)
    (h : r.findModuleByPrefix root pfx = some m) : m ∈ r.mods := by
  unfold Registry.findModuleByPrefix at h
  split at h
  · cases h; exact hroot
  · split at h
    · exact findModule_mem h
    · cases h

theorem belongsTo_mem {r : Registry} {root owner : Mod} (h : root.belongsTo?.bind r.getModule = some owner) :
    owner ∈ r.mods := by
  obtain ⟨b, _, h⟩ := Option.bind_eq_some_iff.mp h
  exact getModule_mem h

theorem owner_mem {r : Registry} {m ow : Mod} (h : r.owner m = some ow) (hm : m ∈ r.mods) : ow ∈ r.mods := by
  unfold Registry.owner at h
  split at h
  · exact getModule_mem h
  · cases h; exact hm

theorem keymap_bind_mem {km : KeyMap} {k : String} {v : Nat} {kv : String × Nat} (h : kv ∈ km.bind k v) :
    kv ∈ km ∨ kv = (k, v) := by
  unfold KeyMap.bind at h
  split at h
  · obtain ⟨y, hy, hxy⟩ := List.mem_map.mp h
    split at hxy
    · exact Or.inr hxy.symm
    · exact Or.inl (hxy ▸ hy)
  · rcases List.mem_append.mp h with h | h
    · exact Or.inl h
    · exact Or.inr (by simpa using h)

theorem mods_withKm (r : Registry) (b : Bool) (km : KeyMap) : (r.withKm b km).mods = r.mods := by
  cases b <;> rfl

theorem mods_withUm (r : Registry) (b : Bool) (um : KeyMap) : (r.withUm b um).mods = r.mods := by
  cases b <;> rfl

theorem add_mods {r r' : Registry} {s : Stmt} (ha : r.add s = .ok r') : r'.mods = r.mods ++ [⟨r.mods.length, s⟩] := by
  have ha := (Registry.add_ok ha).2
  unfold Registry.addChecked at ha
  simp only at ha
  split at ha
  · split at ha
    · cases ha
    · cases ha; rw [mods_withKm, mods_withUm]
  · split at ha
    · cases ha
    · cases ha; rw [mods_withKm]

end Goyang.Lemmas.RegistryAux
