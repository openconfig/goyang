import Goyang.Lemmas.BridgeRegistry
import Goyang.Lemmas.TypesClosure
import Goyang.Lemmas.TypesDefs
import Goyang.Lemmas.IdentityDict
/-
The executable `Spec.Types.partOfSchema` agrees with the relation `TypesDefs.PartOfSchema` on every
registry with the invariant `Bridge.TablesOK` (sequence numbers are positions; every id bound in
the table `modules` is the sequence number of a loaded non-submodule), and every registry obtained
by loading (`Registry.loadAll`, `Registry.loadTexts`) has that invariant.
-/
open Goyang.Lemmas.RegistryAux (byId_mem)
namespace Goyang.Lemmas.TypesPartOf
open Goyang.Model Goyang.Model.Types Goyang.Spec.Types
open Goyang.Lemmas.TypesDefs
open Goyang.Lemmas.TypesClosure (withSubmodules_complete)
open Goyang.Lemmas.Bridge (TablesOK tablesOK_empty tablesOK_add tablesOK_loadFrom)
open Goyang.Lemmas.Identity (byId_seq moduleEntries_byId)

/-- Loaded (sub)modules have pairwise different sequence numbers. -/
theorem seqId_of_tablesOK {reg : Registry} (h : TablesOK reg) : SeqId reg := by
  intro a ha b hb hab
  obtain ⟨i, hi, rfl⟩ := List.getElem_of_mem ha
  obtain ⟨j, hj, rfl⟩ := List.getElem_of_mem hb
  have h1 := h.seq i hi
  have h2 := h.seq j hj
  have hij : i = j := by omega
  subst hij
  rfl

/-- The entries of the table `modules` are loaded non-submodules. -/
theorem moduleEntries_nonSub {reg : Registry} (h : TablesOK reg) :
    ∀ top ∈ Identity.moduleEntries reg, top ∈ reg.mods ∧ top.isSub = false := by
  intro top htop
  unfold Identity.moduleEntries at htop
  obtain ⟨kv, hkv, hb⟩ := List.mem_filterMap.mp htop
  have hmem : top ∈ reg.mods := byId_mem hb
  refine ⟨hmem, ?_⟩
  have hkv' : kv ∈ reg.kmOf false := by simpa [Registry.kmOf] using hkv
  obtain ⟨m, hm, hseq, hsub⟩ := h.kinds false kv hkv'
  have : m = top := seqId_of_tablesOK h m hm top hmem (by rw [hseq, byId_seq hb])
  rw [← this]
  exact hsub

/-- The executable test accepts every part of a schema. -/
theorem partOfSchema_of_PartOfSchema {reg : Registry} (h : TablesOK reg) {root : Mod}
    (hp : PartOfSchema reg root) : partOfSchema reg root = true := by
  obtain ⟨top, htop, hstar⟩ := hp
  obtain ⟨hmem, hsub⟩ := moduleEntries_nonSub h top htop
  have hin : root ∈ withSubmodules reg [top] :=
    withSubmodules_complete reg (seqId_of_tablesOK h) [top]
      (fun s hs => by
        cases hs with
        | head => exact hmem
        | tail _ hs => cases hs)
      top List.mem_cons_self root hstar
  unfold partOfSchema
  rw [Bool.or_eq_true]
  refine Or.inr ?_
  rw [List.any_eq_true]
  refine ⟨top, hmem, ?_⟩
  rw [Bool.and_eq_true]
  refine ⟨by rw [hsub]; rfl, ?_⟩
  rw [List.any_eq_true]
  exact ⟨root, hin, by simp⟩

/-! ## Every loaded registry has the invariant -/

theorem tablesOK_loadAll (ss : List Stmt) : TablesOK (Registry.loadAll ss).1 := by
  unfold Registry.loadAll
  exact tablesOK_loadFrom ss {} tablesOK_empty

theorem tablesOK_foldlM_add : ∀ (ss : List Stmt) {r r' : Registry}, TablesOK r →
    ss.foldlM (fun r s => r.add s) r = .ok r' → TablesOK r'
  | [], r, r', h, ha => by
    simp only [List.foldlM_nil] at ha
    cases ha
    exact h
  | s :: rest, r, r', h, ha => by
    rw [List.foldlM_cons] at ha
    cases hs : r.add s with
    | error e =>
      rw [hs] at ha
      cases ha
    | ok r1 =>
      rw [hs] at ha
      exact tablesOK_foldlM_add rest (tablesOK_add h hs) ha

/-- A text that is accepted keeps the invariant (a rejected one leaves the registry as it was). -/
theorem tablesOK_addText {r r' : Registry} {ss : List Stmt} (h : TablesOK r) (ha : r.addText ss = .ok r') :
    TablesOK r' := by
  unfold Registry.addText at ha
  exact tablesOK_foldlM_add ss h ha

theorem tablesOK_loadTextsFrom : ∀ (ts : List (List Stmt)) (r : Registry), TablesOK r →
    TablesOK (r.loadTextsFrom ts).1
  | [], r, h => h
  | t :: rest, r, h => by
    unfold Registry.loadTextsFrom
    cases ha : r.addText t with
    | ok r' => exact tablesOK_loadTextsFrom rest r' (tablesOK_addText h ha)
    | error e => exact tablesOK_loadTextsFrom rest r h

theorem tablesOK_loadTexts (ts : List (List Stmt)) : TablesOK (Registry.loadTexts ts).1 := by
  unfold Registry.loadTexts
  exact tablesOK_loadTextsFrom ts {} tablesOK_empty

/-- On loaded registries the executable test accepts every part of a schema. -/
theorem partOfSchema_loadAll (ss : List Stmt) {root : Mod} (hp : PartOfSchema (Registry.loadAll ss).1 root) :
    partOfSchema (Registry.loadAll ss).1 root = true :=
  partOfSchema_of_PartOfSchema (tablesOK_loadAll ss) hp

theorem partOfSchema_loadTexts (ts : List (List Stmt)) {root : Mod}
    (hp : PartOfSchema (Registry.loadTexts ts).1 root) : partOfSchema (Registry.loadTexts ts).1 root = true :=
  partOfSchema_of_PartOfSchema (tablesOK_loadTexts ts) hp

/-! ## The invariant is satisfiable by a non-empty registry -/

/-- A module statement without substatements. -/
def exM : Stmt := Stmt.mk "module" true "m" "m.yang" 1 1 []

example : TablesOK { mods := [⟨0, exM⟩], modules := [("m", 0)] } := by
  refine ⟨?_, ?_⟩
  · intro i hi
    have hi0 : i = 0 := by
      simp only [List.length_cons, List.length_nil] at hi
      omega
    subst hi0
    rfl
  · intro sub kv hkv
    cases sub with
    | true =>
      simp only [Registry.kmOf, if_true] at hkv
      cases hkv
    | false =>
      simp only [Registry.kmOf, Bool.false_eq_true, if_false] at hkv
      cases hkv with
      | head => exact ⟨⟨0, exM⟩, List.mem_cons_self, rfl, rfl⟩
      | tail _ hkv => cases hkv

end Goyang.Lemmas.TypesPartOf
