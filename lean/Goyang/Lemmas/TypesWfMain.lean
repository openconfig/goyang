import Goyang.Lemmas.TypesWfKeys
import Goyang.Lemmas.TypesWfUnamb
/-
The standing hypotheses of the completeness half of property C09 follow from decidable
well-formedness conditions on the loaded set (`WfReg`), for every reference that stands in the
loaded set (`InPlace`).
-/
namespace Goyang.Lemmas.TypesWfMain
open Goyang.Model Goyang.Model.Types Goyang.Spec.Types Goyang.Lemmas.TypesDefs Goyang.Lemmas.TypesWf
  Goyang.Lemmas.TypesWfKeys Goyang.Lemmas.TypesWfUnamb Goyang.Lemmas.TypesComplete Goyang.Lemmas.TypesFuel

/-- Decidable well-formedness of a loaded set: sequence numbers pairwise different; per (sub)module:
import prefixes pairwise different, statements at pairwise different positions, no typedef name
declared twice in one statement; no top-level typedef name declared twice in a module and its
submodules. -/
def WfReg (reg : Registry) : Prop :=
  (reg.mods.map (·.seq)).Nodup ∧
  (∀ root ∈ reg.mods, (root.imports.filterMap (·.argOf? "prefix")).Nodup) ∧
  PosDistinct reg ∧ ScopeDeclOnce reg ∧ UnitDeclOnce reg ∧ ImportDeclOnce reg

instance (reg : Registry) : Decidable (WfReg reg) := by unfold WfReg; infer_instance

theorem seqId_of_nodup {reg : Registry} (h : (reg.mods.map (·.seq)).Nodup) : SeqId reg :=
  fun a ha b hb hab => Goyang.Lemmas.ListAux.eq_of_nodup_map (·.seq) _ h a ha b hb hab

theorem inj_of_nodup_filterMap {α β : Type} (f : α → Option β) : ∀ {l : List α}, (l.filterMap f).Nodup →
    ∀ x ∈ l, ∀ y ∈ l, ∀ p, f x = some p → f y = some p → x = y := by
  intro l
  induction l with
  | nil => intro _ x hx; cases hx
  | cons a rest ih =>
    intro hnd x hx y hy p hfx hfy
    have hmem : ∀ z ∈ rest, f z = some p → p ∈ rest.filterMap f := fun z hz hfz => List.mem_filterMap.mpr ⟨z, hz, hfz⟩
    cases hx with
    | head =>
      cases hy with
      | head => rfl
      | tail _ hy =>
        rw [List.filterMap_cons, hfx, List.nodup_cons] at hnd
        exact absurd (hmem y hy hfy) hnd.1
    | tail _ hx =>
      cases hy with
      | head =>
        rw [List.filterMap_cons, hfy, List.nodup_cons] at hnd
        exact absurd (hmem x hx hfx) hnd.1
      | tail _ hy =>
        have hnd' : (rest.filterMap f).Nodup := by
          rw [List.filterMap_cons] at hnd
          cases hfa : f a with
          | none => rw [hfa] at hnd; exact hnd
          | some v => rw [hfa] at hnd; exact (List.nodup_cons.mp hnd).2
        exact ih hnd' x hx y hy p hfx hfy

theorem importsDistinct_of_nodup {reg : Registry}
    (h : ∀ root ∈ reg.mods, (root.imports.filterMap (·.argOf? "prefix")).Nodup) : ImportsDistinct reg :=
  fun root hroot i hi i' hi' p hp hp' => inj_of_nodup_filterMap (·.argOf? "prefix") (h root hroot) i hi i' hi' p hp hp'

theorem inPlace_star {reg : Registry} {s0 a : Site} (h0 : InPlace reg s0) (h : UsesStar reg s0 a) : InPlace reg a := by
  induction h with
  | refl => exact h0
  | tail _ hbc ih => exact inPlace_uses reg _ _ ih hbc

theorem inPlace_plus {reg : Registry} {a b : Site} (ha : InPlace reg a) (h : UsesPlus reg a b) : InPlace reg b := by
  induction h with
  | one hab => exact inPlace_uses reg _ _ ha hab
  | cons hab _ ih => exact ih (inPlace_uses reg _ _ ha hab)

/-- In a well-formed loaded set every reference that stands in it satisfies the standing hypotheses. -/
theorem standing_of_wf (env : Env) (hwf : WfReg env.reg) (hlink : Linked env) (s0 : Site) (h0 : InPlace env.reg s0) :
    Standing env s0 := by
  obtain ⟨hseq, himp, hpos, h1, h2, h3⟩ := hwf
  have hid := seqId_of_nodup hseq
  have himp' := importsDistinct_of_nodup himp
  exact {
    seqId := hid
    linked := hlink
    imports := himp'
    unamb := fun a ha => unambiguousAt_of_wf env.reg hid himp' h1 h2 h3 a (inPlace_star h0 ha)
    keys := fun a b ha hab hk => inPlace_eq_of_key env.reg hid hpos a b (inPlace_star h0 ha)
      (inPlace_plus (inPlace_star h0 ha) hab) hk }

/-- A site that stands in the loaded set stands in it in the sense of `InSet`. -/
theorem inSet_of_inPlace {env : Env} {root : Mod} {scope : List Stmt} {t : Stmt} (h : InPlace env.reg (root, scope, t)) :
    InSet env root scope t :=
  ⟨h.1, isPath_mem_descendants h.2 t List.mem_cons_self,
    fun s hs => isPath_mem_descendants h.2 s (List.mem_cons_of_mem _ hs)⟩

end Goyang.Lemmas.TypesWfMain
