import Goyang.Lemmas.IdentitySurvEq
import Goyang.Spec.IdentityReport
/-
Helper lemmas for C11, part 10: WHICH errors `resolveIdentities` reports, defect by defect.

* `findIdentityBase_error`: a failing base lookup is an error of class identity-base-local /
  identity-base-remote / identity-prefix at the (sub)module statement of the text that writes it.
* `buildDict_errs_cls`: the dictionary loop only reports absent owners.
* `resolveIdentities_reports`: over a list of statements with distinct vertices that the dictionary
  agrees with (the surviving statements; all statements on a schema with one statement per vertex)
  — one cycle error at the identity statement of EVERY vertex derived from itself, one
  undefined-base error at the writing text for every base statement naming no vertex; and
  conversely every cycle error sits at the statement of a vertex derived from itself, every
  undefined-base error at the text of a base statement that names no vertex.
-/
open Goyang.Lemmas.RegistryAux (byId_mem)
namespace Goyang.Lemmas.Identity
open Goyang.Lemmas.ListAux (eq_of_nodup_map)
open Goyang.Model Goyang.Model.Identity
open Goyang.Spec.Identity (Reach names parts graph Graph Derives survivorGraph registrations survivors
  undefinedBaseClasses undefinedBases derivedDirectly derived derivedTable cycleOf cycleReported unreportedCycle
  unreportedBase judgeReports cycleClass locatedAt closure Verdict)

/-- A failing `findIdentityBase` reports one of the three undefined-base classes at `Source(root)`
(the "crash" branch is dead: imports resolve in the module table, which holds modules only). -/
theorem findIdentityBase_error (r : Registry) (hr : RegOK r) (dict : Dict) (root : Mod) (arg : String) (err : Err)
    (h : findIdentityBase r dict root arg = .error err) :
    ∃ c ∈ undefinedBaseClasses, err = Err.at_ root.stmt c := by
  unfold findIdentityBase at h
  simp only at h
  split at h
  · split at h
    · cases h; exact ⟨_, by simp [undefinedBaseClasses], rfl⟩
    · split at h
      · cases h
      · cases h; exact ⟨_, by simp [undefinedBaseClasses], rfl⟩
  · rename_i hc
    split at h
    · cases h; exact ⟨_, by simp [undefinedBaseClasses], rfl⟩
    · rename_i ext hfp
      have hmod : ext.isSub = false := by
        unfold Registry.findModuleByPrefix at hfp
        rw [if_neg hc] at hfp
        split at hfp
        · exact findModule_false_module hr hfp
        · cases hfp
      rw [owner_of_module hmod] at h
      simp only at h
      split at h
      · cases h
      · cases h; exact ⟨_, by simp [undefinedBaseClasses], rfl⟩

/-! ### the dictionary loop reports absent owners only -/

def LinkCls (e : Err) : Prop := e.cls = "no-such-module" ∨ e.cls = "crash"

theorem registerMod_cls (r : Registry) (m : Mod) (acc : Dict × List Err) (h : ∀ e ∈ acc.2, LinkCls e) :
    ∀ e ∈ (registerMod r m acc).2, LinkCls e := by
  unfold registerMod
  split
  · split
    · intro e he
      simp only [List.mem_append, List.mem_singleton] at he
      rcases he with he | rfl
      · exact h e he
      · exact Or.inl rfl
    · intro e he
      simp only [List.mem_append, List.mem_singleton] at he
      rcases he with he | rfl
      · exact h e he
      · exact Or.inr rfl
  · exact h

theorem regFold_cls (r : Registry) : ∀ (cl : List Nat) (acc : Dict × List Err), (∀ e ∈ acc.2, LinkCls e) →
    ∀ e ∈ (cl.foldl (regSeq r) acc).2, LinkCls e := by
  intro cl
  induction cl with
  | nil => intro acc h; exact h
  | cons s cl ih =>
    intro acc h
    rw [List.foldl_cons]
    apply ih
    unfold regSeq
    split
    · exact registerMod_cls r _ acc h
    · exact h

theorem buildDict_errs_cls {o : Oracle} (ho : o.Valid) {r : Registry} {lk : Link} {dict : Dict} {errs : List Err}
    (h : buildDict o r lk = some (dict, errs)) : ∀ e ∈ errs, LinkCls e := by
  have he : Prod.snd _ = errs :=
    congrArg Prod.snd (Option.some.inj ((buildDict_closures o ho r lk).symm.trans h))
  subst he
  exact regFold_cls r _ _ (fun _ h => nomatch h)

/-! ### which errors, defect by defect -/

theorem resolveIdentities_reports (o : Oracle) (ho : o.Valid) (r : Registry) (lk : Link)
    (hreg : RegOK r) (hnc : ∀ m ∈ r.mods, ':' ∉ m.name.toList) {G : Graph} {ps : List Mod} {sv : List Surv}
    (sf : SurvFacts r G ps sv) (hnd : (sv.map (·.1)).Nodup)
    (hag : ∀ dict errs, buildDict o r lk = some (dict, errs) → Agrees r dict sv) :
    ∃ res, resolveIdentities o r lk (fun _ => []) = some res ∧
      (∀ x ∈ sv, Derives G x.1 x.1 → Err.at_ x.2.2 "cycle" ∈ res.errs) ∧
      (∀ x ∈ sv, ∀ base ∈ x.2.2.all "base",
        (¬ ∃ b, names r x.2.1 base.arg = some b ∧ b ∈ G.verts) →
          ∃ c ∈ undefinedBaseClasses, Err.at_ x.2.1.stmt c ∈ res.errs) ∧
      (∀ e ∈ res.errs, e.cls = "cycle" →
        ∃ x ∈ sv, e = Err.at_ x.2.2 "cycle" ∧ Derives G x.1 x.1) ∧
      (∀ e ∈ res.errs, e.cls ∈ undefinedBaseClasses →
        ∃ x ∈ sv, ∃ base ∈ x.2.2.all "base", e = Err.at_ x.2.1.stmt e.cls ∧
          ¬ ∃ b, names r x.2.1 base.arg = some b ∧ b ∈ G.verts) := by
  classical
  let p : Dict → Vtx → Bool := fun dict i => decide (Below (MEdge r dict) i i)
  have hp : ∀ dict i, p dict i = true ↔ Below (MEdge r dict) i i := fun dict i => by simp [p]
  obtain ⟨res, errs1, hbd, hres, _, _, _, herrs⟩ :=
    resolveIdentities_full o ho r lk p hp (fun _ => []) (fun _ _ _ _ _ h => nomatch h)
  have ag : Agrees r res.dict sv := hag _ _ hbd
  have hE := medge_iffS hreg hnc sf ag
  have hp1 := ho DEntry siteDirect res.dict
  have hp2 := ho DEntry siteClose res.dict
  have hcls1 := buildDict_errs_cls ho hbd
  -- the entry found under the key of a dictionary entry carries the same statement
  have hget : ∀ e ∈ res.dict, ∃ e', res.dict.get? e.vtx.key = some e' ∧ e'.stmt = e.stmt := by
    intro e he
    obtain ⟨m, hroot, hsv, hkey, ow, how, hname⟩ := ag.a1 e he
    obtain ⟨e', hg⟩ := get?_of_key (d := res.dict) (k := Vtx.key e.vtx) ⟨e, he, hkey⟩
    obtain ⟨he', hk'⟩ := get?_some hg
    obtain ⟨m', hroot', hsv', hkey', ow', how', hname'⟩ := ag.a1 e' he'
    have hv : e'.vtx = e.vtx :=
      key_inj (by rw [hname']; exact hnc ow' how') (by rw [hname]; exact hnc ow how) (hkey' ▸ hk')
    have heq := eq_of_nodup_map (fun (x : Surv) => x.1) _ hnd _ hsv' _ hsv hv
    exact ⟨e', hg, congrArg (fun (x : Surv) => x.2.2) heq⟩
  -- the failing base statements of an entry
  have hbase : ∀ d ∈ res.dict, ∀ err ∈ baseErrs r res.dict d, ∃ m, (d.vtx, m, d.stmt) ∈ sv ∧
      r.byId d.root = some m ∧
      ∃ base ∈ d.stmt.all "base", findIdentityBase r res.dict m base.arg = .error err := by
    intro d hd err herr
    obtain ⟨m, hroot, hsv, _⟩ := ag.a1 d hd
    unfold baseErrs resolvedBases at herr
    rw [hroot] at herr
    obtain ⟨rb, hrb, hm⟩ := List.mem_filterMap.mp herr
    obtain ⟨base, hb, rfl⟩ := List.mem_map.mp hrb
    refine ⟨m, hsv, hroot, base, hb, ?_⟩
    cases hf : findIdentityBase r res.dict m base.arg with
    | ok eb => simp [hf] at hm
    | error x =>
      simp only [hf, Option.some.injEq] at hm
      rw [hm]
  refine ⟨res, hres, ?_, ?_, ?_, ?_⟩
  · intro x hx hd
    obtain ⟨e, he, hev, hest, _⟩ := ag.a2 x hx
    obtain ⟨e', hg, hst⟩ := hget e he
    have hb : Below (MEdge r res.dict) e.vtx e.vtx := (below_iff_derives hE _ _).mpr (by rw [hev]; exact hd)
    rw [herrs]
    apply List.mem_append_right
    refine List.mem_filterMap.mpr ⟨e.vtx, List.mem_filter.mpr
      ⟨List.mem_map.mpr ⟨e, hp2.mem_iff.mpr he, rfl⟩, (hp _ _).mpr hb⟩, ?_⟩
    unfold cycleErr
    rw [hg, Option.map_some, hst, hest]
  · intro x hx base hbs hno
    obtain ⟨e, he, hev, hest, hroot⟩ := ag.a2 x hx
    cases hf : findIdentityBase r res.dict x.2.1 base.arg with
    | ok eb =>
      exact absurd ⟨eb.vtx, (resolve_agreesS hreg hnc sf ag (byId_mem hroot) base.arg eb.vtx).mp ⟨eb, hf, rfl⟩⟩ hno
    | error err =>
      obtain ⟨c, hc, rfl⟩ := findIdentityBase_error r hreg _ _ _ _ hf
      refine ⟨c, hc, ?_⟩
      rw [herrs]
      apply List.mem_append_left
      apply List.mem_append_right
      refine List.mem_flatMap.mpr ⟨e, hp1.mem_iff.mpr he, ?_⟩
      unfold baseErrs resolvedBases
      rw [hroot]
      exact List.mem_filterMap.mpr ⟨.error (Err.at_ x.2.1.stmt c),
        List.mem_map.mpr ⟨base, hest ▸ hbs, hf⟩, rfl⟩
  · intro e he hcls
    rw [herrs] at he
    rcases List.mem_append.mp he with he | he
    · rcases List.mem_append.mp he with he | he
      · rcases hcls1 e he with h | h <;> (rw [hcls] at h; simp at h)
      · obtain ⟨d, hd, hed⟩ := List.mem_flatMap.mp he
        obtain ⟨m, _, _, base, _, hf⟩ := hbase d (hp1.mem_iff.mp hd) e hed
        obtain ⟨c, hc, rfl⟩ := findIdentityBase_error r hreg _ _ _ _ hf
        have : c = "cycle" := hcls
        subst this
        simp [undefinedBaseClasses] at hc
    · obtain ⟨v, hv, hce⟩ := List.mem_filterMap.mp he
      obtain ⟨hvo, hpv⟩ := List.mem_filter.mp hv
      obtain ⟨d, hdo, rfl⟩ := List.mem_map.mp hvo
      have hd := hp2.mem_iff.mp hdo
      obtain ⟨e', hg, hst⟩ := hget d hd
      unfold cycleErr at hce
      rw [hg] at hce
      simp only [Option.map_some, Option.some.injEq] at hce
      obtain ⟨m, _, hsv, _⟩ := ag.a1 d hd
      exact ⟨(d.vtx, m, d.stmt), hsv, by rw [← hce, hst], (below_iff_derives hE _ _).mp ((hp _ _).mp hpv)⟩
  · intro e he hcls
    rw [herrs] at he
    rcases List.mem_append.mp he with he | he
    · rcases List.mem_append.mp he with he | he
      · rcases hcls1 e he with h | h <;> (rw [h] at hcls; simp [undefinedBaseClasses] at hcls)
      · obtain ⟨d, hd, hed⟩ := List.mem_flatMap.mp he
        obtain ⟨m, hsv, hroot, base, hb, hf⟩ := hbase d (hp1.mem_iff.mp hd) e hed
        obtain ⟨c, hc, rfl⟩ := findIdentityBase_error r hreg _ _ _ _ hf
        refine ⟨(d.vtx, m, d.stmt), hsv, base, hb, rfl, ?_⟩
        rintro ⟨b, hn, hbv⟩
        obtain ⟨eb, hfo, _⟩ := (resolve_agreesS hreg hnc sf ag (byId_mem hroot) base.arg b).mpr ⟨hn, hbv⟩
        rw [hf] at hfo
        cases hfo
    · obtain ⟨v, hv, hce⟩ := List.mem_filterMap.mp he
      unfold cycleErr at hce
      obtain ⟨e', _, rfl⟩ := Option.map_eq_some_iff.mp hce
      simp [undefinedBaseClasses, Err.at_] at hcls

/-! ### the executable verdict `judgeReports` -/

theorem locatedAt_at (s : Stmt) (c : String) : locatedAt (Err.at_ s c) s = true := by
  simp [locatedAt, Err.at_]

theorem mem_undefinedBases {r : Registry} {G : Graph} {stmts : List Surv} {u : Spec.Identity.Vertex × Mod × String} :
    u ∈ undefinedBases r G stmts ↔ ∃ x ∈ stmts, ∃ b ∈ x.2.2.all "base", u = (x.1, x.2.1, b.arg) ∧
      ¬ ∃ t, names r x.2.1 b.arg = some t ∧ t ∈ G.verts := by
  unfold undefinedBases
  simp only [List.mem_flatMap, List.mem_filterMap]
  constructor
  · rintro ⟨⟨v, m, s⟩, hx, b, hb, hu⟩
    simp only at hu
    refine ⟨(v, m, s), hx, b, hb, ?_⟩
    split at hu
    · rename_i t hn
      split at hu
      · cases hu
      · rename_i ht
        cases hu
        exact ⟨rfl, by rintro ⟨t', ht', hm⟩; rw [hn] at ht'; cases ht'; exact ht hm⟩
    · rename_i hn
      cases hu
      exact ⟨rfl, by rintro ⟨t', ht', _⟩; rw [hn] at ht'; cases ht'⟩
  · rintro ⟨⟨v, m, s⟩, hx, b, hb, rfl, hno⟩
    refine ⟨(v, m, s), hx, b, hb, ?_⟩
    simp only
    split
    · rename_i t hn
      rw [if_neg (fun hm => hno ⟨t, hn, hm⟩)]
    · rfl

/-- The dangling bases of the survivors' graph are the undefined base statements of the surviving
statements. -/
theorem survivor_dangling {r : Registry} {G : Graph} (h : survivorGraph r = some G) {R : List Surv}
    (hR : registrations r = some R) (v : Spec.Identity.Vertex) (a : String) :
    (v, a) ∈ G.dangling ↔ ∃ m, (v, m, a) ∈ undefinedBases r G (survivors R) := by
  unfold survivorGraph at h
  split at h
  · rename_i ps R' hps hR'
    rw [hR] at hR'
    cases hR'
    simp only [Option.some.injEq] at h
    subst h
    show (v, a) ∈ (survBases r (survivors R)).filterMap _ ↔ _
    simp only [List.mem_filterMap, mem_survBases, mem_undefinedBases]
    constructor
    · rintro ⟨x, ⟨y, hy, base, hbase, rfl⟩, hx⟩
      simp only at hx
      refine ⟨y.2.1, y, hy, base, hbase, ?_⟩
      split at hx
      · rename_i b' hb'
        split at hx
        · cases hx
        · rename_i hmem
          cases hx
          exact ⟨rfl, by rintro ⟨t, ht, hm⟩; rw [hb'] at ht; cases ht; exact hmem hm⟩
      · rename_i hnone
        cases hx
        exact ⟨rfl, by rintro ⟨t, ht, _⟩; rw [hnone] at ht; cases ht⟩
    · rintro ⟨m, y, hy, base, hbase, hu, hno⟩
      simp only [Prod.mk.injEq] at hu
      obtain ⟨rfl, rfl, rfl⟩ := hu
      refine ⟨(y.1, base.arg, names r y.2.1 base.arg), ⟨y, hy, base, hbase, rfl⟩, ?_⟩
      simp only
      split
      · rename_i t hn
        rw [if_neg (fun hm => hno ⟨t, hn, hm⟩)]
      · rfl
  · cases h

theorem mem_derivedDirectly (G : Graph) (v w : Spec.Identity.Vertex) :
    w ∈ derivedDirectly G v ↔ (w, v) ∈ G.edges := by
  unfold derivedDirectly
  simp only [List.mem_map, List.mem_filter]
  constructor
  · rintro ⟨⟨a, b⟩, ⟨h1, h2⟩, rfl⟩
    have : b = v := by simpa using h2
    subst this
    exact h1
  · intro h
    exact ⟨(w, v), ⟨h, by simp⟩, rfl⟩

theorem reach_derived {G : Graph} {c y : Spec.Identity.Vertex} (h : Reach (derivedDirectly G) c y) :
    c = y ∨ Derives G y c := by
  induction h with
  | refl a => exact Or.inl rfl
  | step hb _ ih =>
    have he := (mem_derivedDirectly G _ _).mp hb
    rcases ih with rfl | ih
    · exact Or.inr (Derives.base he)
    · exact Or.inr (derives_snoc ih he)

theorem derives_reach {G : Graph} {y i : Spec.Identity.Vertex} (hd : Derives G y i) :
    ∃ c, c ∈ (derivedDirectly G i).eraseDups ∧ Reach (derivedDirectly G) c y := by
  induction hd with
  | base h => exact ⟨_, List.mem_eraseDups.mpr ((mem_derivedDirectly G _ _).mpr h), Reach.refl _⟩
  | step h _ ih =>
    obtain ⟨c, hc, hr⟩ := ih
    exact ⟨c, hc, Reach.trans hr (Reach.single ((mem_derivedDirectly G _ _).mpr h))⟩

theorem derives_trans {G : Graph} {a b c : Spec.Identity.Vertex} (h1 : Derives G a b) (h2 : Derives G b c) :
    Derives G a c := by
  induction h1 with
  | base h => exact Derives.step h h2
  | step h _ ih => exact Derives.step h (ih h2)

/-- `derived G i` holds exactly the vertices derived from `i`. -/
theorem derived_spec {G : Graph} {i : Spec.Identity.Vertex} {d : List Spec.Identity.Vertex}
    (h : derived G i = some d) (y : Spec.Identity.Vertex) : y ∈ d ↔ Derives G y i := by
  unfold derived at h
  rw [closure_spec _ _ _ _ h y]
  constructor
  · rintro ⟨c, hc, hr⟩
    have hci : (c, i) ∈ G.edges := (mem_derivedDirectly G i c).mp (List.mem_eraseDups.mp hc)
    rcases reach_derived hr with rfl | hd
    · exact Derives.base hci
    · exact derives_snoc hd hci
  · intro hd
    obtain ⟨c, hc, hr⟩ := derives_reach hd
    exact ⟨c, hc, hr⟩

theorem derived_some (G : Graph) (i : Spec.Identity.Vertex) : ∃ d, derived G i = some d := by
  unfold derived
  apply closure_some (derivedDirectly G) (G.edges.map (·.1))
  · intro x _ y hy
    exact List.mem_map.mpr ⟨(y, x), (mem_derivedDirectly G x y).mp hy, rfl⟩
  · intro x hx
    rw [List.mem_eraseDups] at hx
    exact List.mem_map.mpr ⟨(x, i), (mem_derivedDirectly G i x).mp hx, rfl⟩
  · have := unv_mono (G.edges.map (·.1)) (ids := []) (ids' := (derivedDirectly G i).eraseDups)
      (by intro _ h; cases h)
    rw [unv_nil, List.length_map] at this
    omega

theorem mapM_option_some {α β : Type} (f : α → Option β) : ∀ (l : List α), (∀ a ∈ l, ∃ b, f a = some b) →
    ∃ bs, l.mapM f = some bs ∧ ∀ b, b ∈ bs → ∃ a ∈ l, f a = some b := by
  intro l
  induction l with
  | nil => intro _; exact ⟨[], by simp, by intro b hb; cases hb⟩
  | cons a l ih =>
    intro h
    obtain ⟨b, hb⟩ := h a (List.mem_cons_self ..)
    obtain ⟨bs, hbs, hmem⟩ := ih (fun a' ha' => h a' (List.mem_cons_of_mem _ ha'))
    refine ⟨b :: bs, by simp [List.mapM_cons, hb, hbs], ?_⟩
    intro b' hb'
    rcases List.mem_cons.mp hb' with rfl | hb'
    · exact ⟨a, List.mem_cons_self .., hb⟩
    · obtain ⟨a', ha', hf⟩ := hmem b' hb'
      exact ⟨a', List.mem_cons_of_mem _ ha', hf⟩

/-- The table of derived lists exists, and every row is the list of a vertex. -/
theorem derivedTable_some (G : Graph) :
    ∃ T, derivedTable G = some T ∧ ∀ v d, (v, d) ∈ T → derived G v = some d := by
  unfold derivedTable
  obtain ⟨T, hT, hmem⟩ := mapM_option_some (fun v => (derived G v).map fun d => (v, d)) G.verts.eraseDups
    (fun v _ => by obtain ⟨d, hd⟩ := derived_some G v; exact ⟨(v, d), by simp [hd]⟩)
  refine ⟨T, hT, ?_⟩
  intro v d hvd
  obtain ⟨a, _, hf⟩ := hmem (v, d) hvd
  obtain ⟨d', hd', he⟩ := Option.map_eq_some_iff.mp hf
  cases he
  exact hd'

/-- When every cyclic vertex has a statement whose position carries a cycle error, and every
undefined base statement an undefined-base error at its text, the verdict is "holds". -/
theorem judgeReports_holds (r : Registry) (G : Graph) (stmts : List Surv) (errs : List Err)
    (hverts : ∀ v, Derives G v v → ∃ x ∈ stmts, x.1 = v)
    (hcyc : ∀ x ∈ stmts, Derives G x.1 x.1 → ∃ e ∈ errs, e.cls = cycleClass ∧ locatedAt e x.2.2 = true)
    (hbase : ∀ u ∈ undefinedBases r G stmts,
      ∃ e ∈ errs, e.cls ∈ undefinedBaseClasses ∧ locatedAt e u.2.1.stmt = true) :
    judgeReports r G stmts errs = Verdict.holds := by
  obtain ⟨T, hT, hrow⟩ := derivedTable_some G
  have h1 : unreportedCycle T stmts errs = none := by
    unfold unreportedCycle
    rw [List.findSome?_eq_none_iff]
    rintro ⟨v, d⟩ hvd
    simp only
    split
    · rfl
    · rename_i hc
      exfalso
      apply hc
      simp only [Bool.or_eq_true]
      by_cases hemp : (cycleOf T v d).isEmpty = true
      · exact Or.inl hemp
      · right
        obtain ⟨w, hw⟩ : ∃ w, w ∈ cycleOf T v d := by
          cases hl : cycleOf T v d with
          | nil => rw [hl] at hemp; simp at hemp
          | cons w _ => exact ⟨w, List.mem_cons_self ..⟩
        have hw' := hw
        unfold cycleOf at hw'
        obtain ⟨hwd, hany⟩ := List.mem_filter.mp hw'
        obtain ⟨⟨w', d'⟩, hrow', hp⟩ := List.any_eq_true.mp hany
        simp only [Bool.and_eq_true, beq_iff_eq, List.contains_iff_mem] at hp
        obtain ⟨rfl, hvd'⟩ := hp
        have hwv : Derives G w' v := (derived_spec (hrow v d hvd) w').mp hwd
        have hvw : Derives G v w' := (derived_spec (hrow w' d' hrow') v).mp hvd'
        have hww : Derives G w' w' := derives_trans hwv hvw
        obtain ⟨x, hx, hxw⟩ := hverts w' hww
        obtain ⟨e, he, hecls, heloc⟩ := hcyc x hx (by rw [hxw]; exact hww)
        unfold cycleReported
        refine List.any_eq_true.mpr ⟨x, hx, ?_⟩
        obtain ⟨xv, xm, xs⟩ := x
        simp only [Bool.and_eq_true, List.contains_iff_mem]
        subst hxw
        exact ⟨hw, List.any_eq_true.mpr ⟨e, he, by simp [hecls, heloc]⟩⟩
  have h2 : unreportedBase r G stmts errs = none := by
    unfold unreportedBase
    rw [List.find?_eq_none]
    rintro ⟨v, m, a⟩ hu
    obtain ⟨e, he, hecls, heloc⟩ := hbase (v, m, a) hu
    simp only [Bool.not_eq_true']
    simp only [Bool.not_eq_false]
    exact List.any_eq_true.mpr ⟨e, he, by simp [hecls, heloc]⟩
  unfold judgeReports
  simp only [hT, h1, h2]

end Goyang.Lemmas.Identity
