/-
Two token sources that hand out the same tokens as long as neither has written an error make the
(generic) parser model return the same forest — or both runs end with an error written.
-/
import Goyang.Model.Parse

namespace Goyang.Lemmas.ParseSim
open Goyang.Model.Lex (Token Code ErrLine ErrClass Fault)
open Goyang.Model.Parse

/-- errors are only ever added -/
structure Mono {σ : Type} (S : Source σ) : Prop where
  pull : ∀ b s, S.errs s ≠ [] → S.errs (S.pull b s).2 ≠ []
  add : ∀ e s, S.errs (S.addErr e s) ≠ []

section mono
variable {σ : Type} {S : Source σ}

def Bad (S : Source σ) (p : Parser σ) : Prop := S.errs p.src ≠ []

theorem pullTok_bad (hM : Mono S) (b : Bool) (p : Parser σ) (h : Bad S p) : Bad S (pullTok S b p).2 :=
  hM.pull b p.src h

theorem addErr_bad (hM : Mono S) (e : ErrLine) (p : Parser σ) : Bad S (addErr S e p) := hM.add e p.src

/-- a property of parsers that no step of the parser loses -/
structure Kept (S : Source σ) (Q : Parser σ → Prop) : Prop where
  pull : ∀ b p, Q p → Q (pullTok S b p).2
  addErr : ∀ e p, Q p → Q (addErr S e p)
  push : ∀ ts p, Q p → Q (push ts p)
  pop : ∀ ts (p : Parser σ), Q p → Q { p with tokens := ts }
  depth : ∀ d p, Q p → Q (setDepth d p)
  fuel : ∀ (p : Parser σ), Q p → Q { p with fault := .outOfFuel }

section kept
variable {Q : Parser σ → Prop}

theorem concatLoop_kept_of_pull (hK : Kept S Q) (b : Bool) (f : Nat)
    (ih : ∀ (T : Token) (p : Parser σ), Q p → Q (concatLoop S b f T p).2) (T : Token) (p : Parser σ)
    (h1 : Q (pullTok S b p).2) : Q (concatLoop S b (f + 1) T p).2 := by
  unfold concatLoop
  simp only
  split
  · exact h1
  · split
    · split
      · exact hK.push _ _ h1
      · have h2 := hK.pull b _ h1
        split
        · exact hK.push _ _ h2
        · split
          · exact ih _ _ h2
          · exact hK.push _ _ h2
    · exact hK.push _ _ h1

theorem concatLoop_kept (hK : Kept S Q) (b : Bool) : ∀ (f : Nat) (T : Token) (p : Parser σ),
    Q p → Q (concatLoop S b f T p).2 := by
  intro f
  induction f with
  | zero => intro T p h; exact hK.fuel p h
  | succ f ih => intro T p h; exact concatLoop_kept_of_pull hK b f ih T p (hK.pull b p h)

theorem next_kept_of_pull (hK : Kept S Q) (b : Bool) (f : Nat) (p : Parser σ) (ht : p.tokens = [])
    (h1 : Q (pullTok S b p).2) : Q (next S b f p).2 := by
  unfold next
  rw [ht]
  simp only
  split
  · exact h1
  · split
    · exact concatLoop_kept hK b f _ _ h1
    · exact h1

theorem next_kept (hK : Kept S Q) (b : Bool) (f : Nat) (p : Parser σ) (h : Q p) : Q (next S b f p).2 := by
  cases ht : p.tokens with
  | nil => exact next_kept_of_pull hK b f p ht (hK.pull b p h)
  | cons t ts => unfold next; rw [ht]; exact hK.pop ts p h

theorem fetchArg_kept_of_next (hK : Kept S Q) (kw : Token) (f : Nat) (p : Parser σ)
    (h1 : Q (next S (kw.text = patternKw) f p).2) : Q (fetchArg S kw f p).2.2 := by
  unfold fetchArg
  simp only
  split
  · split
    · exact next_kept hK false f _ h1
    · exact h1
  · exact h1

theorem fetchArg_kept (hK : Kept S Q) (kw : Token) (f : Nat) (p : Parser σ) (h : Q p) :
    Q (fetchArg S kw f p).2.2 := fetchArg_kept_of_next hK kw f p (next_kept hK _ f p h)

theorem nextStatement_kept_of_next (hK : Kept S Q) {f : Nat}
    (ihb : ∀ (acc : List Statement) (p : Parser σ), Q p → Q (blockLoop S f acc p).2) (p : Parser σ) (h1 : Q (next S false f p).2) : Q (nextStatement S (f + 1) p).2 := by
  unfold nextStatement
  simp only
  split
  · exact h1
  · rename_i t _
    split
    · exact hK.depth _ _ h1
    · split
      · exact hK.addErr _ _ h1
      · have h2 := fetchArg_kept hK t f _ h1
        split
        · exact hK.addErr _ _ h2
        · split
          · exact h2
          · split
            · have h3 := ihb [] _ (hK.depth ((fetchArg S t f (next S false f p).2).2.2.depth + 1) _ h2)
              split
              · exact h3
              · exact h3
            · exact hK.addErr _ _ h2

theorem stmt_block_kept (hK : Kept S Q) : ∀ (f : Nat),
    (∀ (p : Parser σ), Q p → Q (nextStatement S f p).2) ∧
    (∀ (acc : List Statement) (p : Parser σ), Q p → Q (blockLoop S f acc p).2) := by
  intro f
  induction f with
  | zero =>
    constructor
    · intro p h; unfold nextStatement; exact hK.fuel p h
    · intro acc p h; unfold blockLoop; exact hK.fuel p h
  | succ f ih =>
    obtain ⟨ihs, ihb⟩ := ih
    constructor
    · intro p h
      exact nextStatement_kept_of_next hK ihb p (next_kept hK false f p h)
    · intro acc p h
      unfold blockLoop
      simp only
      have h1 := ihs p h
      split
      · exact h1
      · exact h1
      · exact ihb _ _ h1

theorem topLoop_kept (hK : Kept S Q) : ∀ (f : Nat) (acc : List Statement) (p : Parser σ),
    Q p → Q (topLoop S f acc p).2 := by
  intro f
  induction f with
  | zero => intro acc p h; unfold topLoop; exact hK.fuel p h
  | succ f ih =>
    intro acc p h
    unfold topLoop
    simp only
    have h1 := (stmt_block_kept hK f).1 p h
    split
    · exact h1
    · exact ih _ _ (hK.addErr _ _ h1)
    · exact ih _ _ h1

end kept

theorem kept_bad (hM : Mono S) : Kept S (Bad S) :=
  ⟨fun b p h => hM.pull b p.src h, fun e p _ => hM.add e p.src, fun _ _ h => h, fun _ _ h => h, fun _ _ h => h,
    fun _ h => h⟩

theorem concatLoop_bad (hM : Mono S) (b : Bool) : ∀ (f : Nat) (T : Token) (p : Parser σ),
    Bad S p → Bad S (concatLoop S b f T p).2 := concatLoop_kept (kept_bad hM) b

theorem next_bad (hM : Mono S) (b : Bool) (f : Nat) (p : Parser σ) (h : Bad S p) : Bad S (next S b f p).2 :=
  next_kept (kept_bad hM) b f p h

theorem fetchArg_bad (hM : Mono S) (kw : Token) (f : Nat) (p : Parser σ) (h : Bad S p) :
    Bad S (fetchArg S kw f p).2.2 := fetchArg_kept (kept_bad hM) kw f p h

theorem stmt_block_bad (hM : Mono S) : ∀ (f : Nat),
    (∀ (p : Parser σ), Bad S p → Bad S (nextStatement S f p).2) ∧
    (∀ (acc : List Statement) (p : Parser σ), Bad S p → Bad S (blockLoop S f acc p).2) :=
  stmt_block_kept (kept_bad hM)

theorem topLoop_bad (hM : Mono S) : ∀ (f : Nat) (acc : List Statement) (p : Parser σ),
    Bad S p → Bad S (topLoop S f acc p).2 := topLoop_kept (kept_bad hM)

/-- an error written by the first fetch of a statement stays -/
theorem nextStatement_bad_of_next (hM : Mono S) (f : Nat) (p : Parser σ) (h1 : Bad S (next S false f p).2) :
    Bad S (nextStatement S (f + 1) p).2 :=
  nextStatement_kept_of_next (kept_bad hM) (stmt_block_bad hM f).2 p h1

theorem fetchArg_bad_of_next (hM : Mono S) (kw : Token) (f : Nat) (p : Parser σ)
    (h1 : Bad S (next S (kw.text = patternKw) f p).2) : Bad S (fetchArg S kw f p).2.2 :=
  fetchArg_kept_of_next (kept_bad hM) kw f p h1

theorem next_bad_of_pull (hM : Mono S) (b : Bool) (f : Nat) (p : Parser σ) (ht : p.tokens = [])
    (h1 : Bad S (pullTok S b p).2) : Bad S (next S b f p).2 := next_kept_of_pull (kept_bad hM) b f p ht h1

theorem parseWith_bad_check (fuel : Nat) (s : σ)
    (h2 : Bad S (checkStatementDepthIsZero S (topLoop S fuel [] (initParser s)).2))
    (forest : List Statement) : parseWith S fuel s ≠ .ok forest := by
  unfold parseWith
  simp only
  split
  · simp
  · split
    · simp
    · split
      · rename_i he
        exact absurd (List.isEmpty_iff.mp he) h2
      · simp

theorem parseWith_bad (hM : Mono S) (fuel : Nat) (s : σ)
    (h : Bad S (topLoop S fuel [] (initParser s)).2)
    (forest : List Statement) : parseWith S fuel s ≠ .ok forest := by
  refine parseWith_bad_check fuel s ?_ forest
  unfold checkStatementDepthIsZero
  split
  · exact h
  · exact addErr_bad hM _ _

end mono

/-! ## a parser fault stays -/

section fault
variable {σ : Type} {S : Source σ}

def Faulty (p : Parser σ) : Prop := p.fault ≠ .none

theorem kept_faulty : Kept S (Faulty (σ := σ)) :=
  ⟨fun _ _ h => h, fun _ _ h => h, fun _ _ h => h, fun _ _ h => h, fun _ _ h => h, fun _ _ => by simp [Faulty]⟩

theorem concatLoop_faulty (b : Bool) : ∀ (f : Nat) (T : Token) (p : Parser σ),
    Faulty p → Faulty (concatLoop S b f T p).2 := concatLoop_kept kept_faulty b

theorem next_faulty (b : Bool) (f : Nat) (p : Parser σ) (h : Faulty p) : Faulty (next S b f p).2 :=
  next_kept kept_faulty b f p h

theorem fetchArg_faulty (kw : Token) (f : Nat) (p : Parser σ) (h : Faulty p) : Faulty (fetchArg S kw f p).2.2 :=
  fetchArg_kept kept_faulty kw f p h

theorem stmt_block_faulty : ∀ (f : Nat),
    (∀ (p : Parser σ), Faulty p → Faulty (nextStatement S f p).2) ∧
    (∀ (acc : List Statement) (p : Parser σ), Faulty p → Faulty (blockLoop S f acc p).2) :=
  stmt_block_kept kept_faulty

theorem topLoop_faulty : ∀ (f : Nat) (acc : List Statement) (p : Parser σ),
    Faulty p → Faulty (topLoop S f acc p).2 := topLoop_kept kept_faulty

end fault

/-! ## two sources in step -/

/-- `R` relates states of two sources that have not written an error and will hand out the same
tokens until one of them does -/
structure Sim {σ₁ σ₂ : Type} (S₁ : Source σ₁) (S₂ : Source σ₂) (R : σ₁ → σ₂ → Prop) : Prop where
  clean : ∀ s₁ s₂, R s₁ s₂ → S₁.errs s₁ = [] ∧ S₂.errs s₂ = []
  fault : ∀ s₁ s₂, R s₁ s₂ → S₁.fault s₁ = .none ∧ S₂.fault s₂ = .none
  pull : ∀ b s₁ s₂, R s₁ s₂ →
    ((S₁.pull b s₁).1 = (S₂.pull b s₂).1 ∧ R (S₁.pull b s₁).2 (S₂.pull b s₂).2) ∨
    (S₁.errs (S₁.pull b s₁).2 ≠ [] ∧ S₂.errs (S₂.pull b s₂).2 ≠ [])

section sim
variable {σ₁ σ₂ : Type} {S₁ : Source σ₁} {S₂ : Source σ₂} {R : σ₁ → σ₂ → Prop}

/-- the two parsers are in step -/
structure PR (R : σ₁ → σ₂ → Prop) (p₁ : Parser σ₁) (p₂ : Parser σ₂) : Prop where
  src : R p₁.src p₂.src
  tokens : p₁.tokens = p₂.tokens
  depth : p₁.depth = p₂.depth
  fault : p₁.fault = p₂.fault

/-- both have written an error -/
def BadB (S₁ : Source σ₁) (S₂ : Source σ₂) (p₁ : Parser σ₁) (p₂ : Parser σ₂) : Prop := Bad S₁ p₁ ∧ Bad S₂ p₂

theorem pullTok_sim (hS : Sim S₁ S₂ R) (b : Bool) (p₁ : Parser σ₁) (p₂ : Parser σ₂) (h : PR R p₁ p₂) :
    ((pullTok S₁ b p₁).1 = (pullTok S₂ b p₂).1 ∧ PR R (pullTok S₁ b p₁).2 (pullTok S₂ b p₂).2) ∨
    BadB S₁ S₂ (pullTok S₁ b p₁).2 (pullTok S₂ b p₂).2 := by
  unfold pullTok
  simp only
  rcases hS.pull b _ _ h.src with ⟨h1, h2⟩ | h
  · exact Or.inl ⟨h1, ⟨h2, h.tokens, h.depth, h.fault⟩⟩
  · exact Or.inr h

theorem push_sim (ts : List Token) (p₁ : Parser σ₁) (p₂ : Parser σ₂) (h : PR R p₁ p₂) :
    PR R (push ts p₁) (push ts p₂) :=
  ⟨h.src, by unfold push; simp only; rw [h.tokens], h.depth, h.fault⟩

theorem concatLoop_sim (hS : Sim S₁ S₂ R) (hM₁ : Mono S₁) (hM₂ : Mono S₂) (b : Bool) :
    ∀ (f : Nat) (T : Token) (p₁ : Parser σ₁) (p₂ : Parser σ₂), PR R p₁ p₂ →
    ((concatLoop S₁ b f T p₁).1 = (concatLoop S₂ b f T p₂).1 ∧
        PR R (concatLoop S₁ b f T p₁).2 (concatLoop S₂ b f T p₂).2) ∨
    BadB S₁ S₂ (concatLoop S₁ b f T p₁).2 (concatLoop S₂ b f T p₂).2 := by
  intro f
  induction f with
  | zero =>
    intro T p₁ p₂ h
    unfold concatLoop
    exact Or.inl ⟨rfl, ⟨h.src, h.tokens, h.depth, by simp⟩⟩
  | succ f ih =>
    intro T p₁ p₂ h
    rcases pullTok_sim hS b p₁ p₂ h with ⟨e1, r1⟩ | hb
    · unfold concatLoop
      simp only
      rw [e1]
      split
      · exact Or.inl ⟨rfl, r1⟩
      · rename_i nt _
        split
        · split
          · exact Or.inl ⟨rfl, push_sim _ _ _ r1⟩
          · rcases pullTok_sim hS b _ _ r1 with ⟨e2, r2⟩ | hb
            · rw [e2]
              split
              · exact Or.inl ⟨rfl, push_sim _ _ _ r2⟩
              · split
                · exact ih _ _ _ r2
                · exact Or.inl ⟨rfl, push_sim _ _ _ r2⟩
            · right
              constructor
              · split
                · exact hb.1
                · split
                  · exact concatLoop_bad hM₁ b f _ _ hb.1
                  · exact hb.1
              · split
                · exact hb.2
                · split
                  · exact concatLoop_bad hM₂ b f _ _ hb.2
                  · exact hb.2
        · exact Or.inl ⟨rfl, push_sim _ _ _ r1⟩
    · exact Or.inr ⟨concatLoop_kept_of_pull (kept_bad hM₁) b f (concatLoop_bad hM₁ b f) T p₁ hb.1,
        concatLoop_kept_of_pull (kept_bad hM₂) b f (concatLoop_bad hM₂ b f) T p₂ hb.2⟩

theorem next_sim (hS : Sim S₁ S₂ R) (hM₁ : Mono S₁) (hM₂ : Mono S₂) (b : Bool) (f : Nat)
    (p₁ : Parser σ₁) (p₂ : Parser σ₂) (h : PR R p₁ p₂) :
    ((next S₁ b f p₁).1 = (next S₂ b f p₂).1 ∧ PR R (next S₁ b f p₁).2 (next S₂ b f p₂).2) ∨
    BadB S₁ S₂ (next S₁ b f p₁).2 (next S₂ b f p₂).2 := by
  cases ht : p₂.tokens with
  | cons t ts =>
    have ht1 : p₁.tokens = t :: ts := h.tokens.trans ht
    unfold next
    rw [ht, ht1]
    exact Or.inl ⟨rfl, ⟨h.src, rfl, h.depth, h.fault⟩⟩
  | nil =>
    have ht1 : p₁.tokens = [] := h.tokens.trans ht
    rcases pullTok_sim hS b p₁ p₂ h with ⟨e1, r1⟩ | hb
    · unfold next
      rw [ht, ht1]
      simp only
      rw [e1]
      split
      · exact Or.inl ⟨rfl, r1⟩
      · split
        · rcases concatLoop_sim hS hM₁ hM₂ b f _ _ _ r1 with ⟨e2, r2⟩ | hb
          · exact Or.inl ⟨by rw [e2], r2⟩
          · exact Or.inr hb
        · exact Or.inl ⟨rfl, r1⟩
    · exact Or.inr ⟨next_bad_of_pull hM₁ b f p₁ ht1 hb.1, next_bad_of_pull hM₂ b f p₂ ht hb.2⟩

theorem fetchArg_sim (hS : Sim S₁ S₂ R) (hM₁ : Mono S₁) (hM₂ : Mono S₂) (kw : Token) (f : Nat)
    (p₁ : Parser σ₁) (p₂ : Parser σ₂) (h : PR R p₁ p₂) :
    ((fetchArg S₁ kw f p₁).1 = (fetchArg S₂ kw f p₂).1 ∧ (fetchArg S₁ kw f p₁).2.1 = (fetchArg S₂ kw f p₂).2.1 ∧
        PR R (fetchArg S₁ kw f p₁).2.2 (fetchArg S₂ kw f p₂).2.2) ∨
    BadB S₁ S₂ (fetchArg S₁ kw f p₁).2.2 (fetchArg S₂ kw f p₂).2.2 := by
  rcases next_sim hS hM₁ hM₂ (kw.text = patternKw) f p₁ p₂ h with ⟨e1, r1⟩ | hb
  · unfold fetchArg
    simp only
    rw [e1]
    split
    · split
      · rcases next_sim hS hM₁ hM₂ false f _ _ r1 with ⟨e2, r2⟩ | hb
        · exact Or.inl ⟨rfl, e2, r2⟩
        · exact Or.inr hb
      · exact Or.inl ⟨rfl, rfl, r1⟩
    · exact Or.inl ⟨rfl, rfl, r1⟩
  · exact Or.inr ⟨fetchArg_bad_of_next hM₁ kw f p₁ hb.1, fetchArg_bad_of_next hM₂ kw f p₂ hb.2⟩

theorem addErr_badB (hM₁ : Mono S₁) (hM₂ : Mono S₂) (e : ErrLine) (p₁ : Parser σ₁) (p₂ : Parser σ₂) :
    BadB S₁ S₂ (addErr S₁ e p₁) (addErr S₂ e p₂) := ⟨addErr_bad hM₁ e p₁, addErr_bad hM₂ e p₂⟩

theorem stmt_block_sim (hS : Sim S₁ S₂ R) (hM₁ : Mono S₁) (hM₂ : Mono S₂) : ∀ (f : Nat),
    (∀ (p₁ : Parser σ₁) (p₂ : Parser σ₂), PR R p₁ p₂ →
      ((nextStatement S₁ f p₁).1 = (nextStatement S₂ f p₂).1 ∧
          PR R (nextStatement S₁ f p₁).2 (nextStatement S₂ f p₂).2) ∨
      BadB S₁ S₂ (nextStatement S₁ f p₁).2 (nextStatement S₂ f p₂).2) ∧
    (∀ (acc : List Statement) (p₁ : Parser σ₁) (p₂ : Parser σ₂), PR R p₁ p₂ →
      ((blockLoop S₁ f acc p₁).1 = (blockLoop S₂ f acc p₂).1 ∧
          PR R (blockLoop S₁ f acc p₁).2 (blockLoop S₂ f acc p₂).2) ∨
      BadB S₁ S₂ (blockLoop S₁ f acc p₁).2 (blockLoop S₂ f acc p₂).2) := by
  intro f
  induction f with
  | zero =>
    constructor
    · intro p₁ p₂ h
      unfold nextStatement
      exact Or.inl ⟨rfl, ⟨h.src, h.tokens, h.depth, rfl⟩⟩
    · intro acc p₁ p₂ h
      unfold blockLoop
      exact Or.inl ⟨rfl, ⟨h.src, h.tokens, h.depth, rfl⟩⟩
  | succ f ih =>
    obtain ⟨ihs, ihb⟩ := ih
    constructor
    · intro p₁ p₂ h
      rcases next_sim hS hM₁ hM₂ false f p₁ p₂ h with ⟨e1, r1⟩ | hb
      · unfold nextStatement
        simp only
        rw [e1]
        split
        · exact Or.inl ⟨rfl, r1⟩
        · rename_i t _
          split
          · exact Or.inl ⟨rfl, ⟨r1.src, r1.tokens, by unfold setDepth; simp only; rw [r1.depth], r1.fault⟩⟩
          · split
            · exact Or.inr (addErr_badB hM₁ hM₂ _ _ _)
            · rcases fetchArg_sim hS hM₁ hM₂ t f _ _ r1 with ⟨a1, a2, a3⟩ | hb
              · rw [a1, a2]
                split
                · exact Or.inr (addErr_badB hM₁ hM₂ _ _ _)
                · split
                  · exact Or.inl ⟨rfl, a3⟩
                  · split
                    · have hpr : PR R (setDepth ((fetchArg S₁ t f (next S₁ false f p₁).2).2.2.depth + 1)
                          (fetchArg S₁ t f (next S₁ false f p₁).2).2.2)
                          (setDepth ((fetchArg S₂ t f (next S₂ false f p₂).2).2.2.depth + 1)
                          (fetchArg S₂ t f (next S₂ false f p₂).2).2.2) :=
                        ⟨a3.src, a3.tokens, by unfold setDepth; simp only; rw [a3.depth], a3.fault⟩
                      rcases ihb [] _ _ hpr with ⟨b1, b2⟩ | hb
                      · rw [b1]
                        split
                        · exact Or.inl ⟨rfl, b2⟩
                        · exact Or.inl ⟨rfl, b2⟩
                      · right
                        constructor
                        · split <;> exact hb.1
                        · split <;> exact hb.2
                    · exact Or.inr (addErr_badB hM₁ hM₂ _ _ _)
              · right
                constructor
                · split
                  · exact addErr_bad hM₁ _ _
                  · split
                    · exact hb.1
                    · split
                      · have h3 := (stmt_block_bad hM₁ f).2 [] _ (show Bad S₁ (setDepth
                            ((fetchArg S₁ t f (next S₁ false f p₁).2).2.2.depth + 1)
                            (fetchArg S₁ t f (next S₁ false f p₁).2).2.2) from hb.1)
                        split <;> exact h3
                      · exact addErr_bad hM₁ _ _
                · split
                  · exact addErr_bad hM₂ _ _
                  · split
                    · exact hb.2
                    · split
                      · have h3 := (stmt_block_bad hM₂ f).2 [] _ (show Bad S₂ (setDepth
                            ((fetchArg S₂ t f (next S₂ false f p₂).2).2.2.depth + 1)
                            (fetchArg S₂ t f (next S₂ false f p₂).2).2.2) from hb.2)
                        split <;> exact h3
                      · exact addErr_bad hM₂ _ _
      · exact Or.inr ⟨nextStatement_bad_of_next hM₁ f p₁ hb.1, nextStatement_bad_of_next hM₂ f p₂ hb.2⟩
    · intro acc p₁ p₂ h
      unfold blockLoop
      simp only
      rcases ihs p₁ p₂ h with ⟨e1, r1⟩ | hb
      · rw [e1]
        split
        · exact Or.inl ⟨rfl, r1⟩
        · exact Or.inl ⟨rfl, r1⟩
        · exact ihb _ _ _ r1
      · right
        constructor
        · split
          · exact hb.1
          · exact hb.1
          · exact (stmt_block_bad hM₁ f).2 _ _ hb.1
        · split
          · exact hb.2
          · exact hb.2
          · exact (stmt_block_bad hM₂ f).2 _ _ hb.2

theorem topLoop_sim (hS : Sim S₁ S₂ R) (hM₁ : Mono S₁) (hM₂ : Mono S₂) : ∀ (f : Nat) (acc : List Statement)
    (p₁ : Parser σ₁) (p₂ : Parser σ₂), PR R p₁ p₂ →
    ((topLoop S₁ f acc p₁).1 = (topLoop S₂ f acc p₂).1 ∧ PR R (topLoop S₁ f acc p₁).2 (topLoop S₂ f acc p₂).2) ∨
    BadB S₁ S₂ (topLoop S₁ f acc p₁).2 (topLoop S₂ f acc p₂).2 := by
  intro f
  induction f with
  | zero =>
    intro acc p₁ p₂ h
    unfold topLoop
    exact Or.inl ⟨rfl, ⟨h.src, h.tokens, h.depth, rfl⟩⟩
  | succ f ih =>
    intro acc p₁ p₂ h
    unfold topLoop
    simp only
    rcases (stmt_block_sim hS hM₁ hM₂ f).1 p₁ p₂ h with ⟨e1, r1⟩ | hb
    · rw [e1]
      split
      · exact Or.inl ⟨rfl, r1⟩
      · exact Or.inr ⟨topLoop_bad hM₁ _ _ _ (addErr_bad hM₁ _ _), topLoop_bad hM₂ _ _ _ (addErr_bad hM₂ _ _)⟩
      · exact ih _ _ _ r1
    · right
      constructor
      · split
        · exact hb.1
        · exact topLoop_bad hM₁ _ _ _ (addErr_bad hM₁ _ _)
        · exact topLoop_bad hM₁ _ _ _ hb.1
      · split
        · exact hb.2
        · exact topLoop_bad hM₂ _ _ _ (addErr_bad hM₂ _ _)
        · exact topLoop_bad hM₂ _ _ _ hb.2

/-- two sources in step give the same forest, or neither gives one -/
theorem parseWith_sim (hS : Sim S₁ S₂ R) (hM₁ : Mono S₁) (hM₂ : Mono S₂) (fuel : Nat) (s₁ : σ₁) (s₂ : σ₂)
    (h : R s₁ s₂) (forest : List Statement) :
    parseWith S₁ fuel s₁ = .ok forest ↔ parseWith S₂ fuel s₂ = .ok forest := by
  have hpr : PR R (initParser s₁)
      (initParser s₂) := ⟨h, rfl, rfl, rfl⟩
  rcases topLoop_sim hS hM₁ hM₂ fuel [] _ _ hpr with ⟨e1, r1⟩ | hb
  · obtain ⟨c1, c2⟩ := hS.clean _ _ r1.src
    obtain ⟨f1, f2⟩ := hS.fault _ _ r1.src
    unfold parseWith
    simp only
    by_cases hd : (topLoop S₂ fuel [] (initParser s₂)).2.depth = 0
    · have hd1 : (topLoop S₁ fuel [] (initParser s₁)).2.depth = 0 :=
        r1.depth.trans hd
      have k1 : checkStatementDepthIsZero S₁ (topLoop S₁ fuel [] (initParser s₁)).2 = (topLoop S₁ fuel [] (initParser s₁)).2 := by
        unfold checkStatementDepthIsZero; rw [if_pos (by rw [hd1]; simp)]
      have k2 : checkStatementDepthIsZero S₂ (topLoop S₂ fuel [] (initParser s₂)).2 = (topLoop S₂ fuel [] (initParser s₂)).2 := by
        unfold checkStatementDepthIsZero; rw [if_pos (by rw [hd]; simp)]
      rw [k1, k2, r1.fault, f1, f2, c1, c2, e1]
    · have hd1 : ¬ (topLoop S₁ fuel [] (initParser s₁)).2.depth = 0 := by
        rw [r1.depth]; exact hd
      have b1 : Bad S₁ (checkStatementDepthIsZero S₁ (topLoop S₁ fuel [] (initParser s₁)).2) := by
        unfold checkStatementDepthIsZero
        rw [if_neg (by rw [c1]; simpa using hd1)]
        exact addErr_bad hM₁ _ _
      have b2 : Bad S₂ (checkStatementDepthIsZero S₂ (topLoop S₂ fuel [] (initParser s₂)).2) := by
        unfold checkStatementDepthIsZero
        rw [if_neg (by rw [c2]; simpa using hd)]
        exact addErr_bad hM₂ _ _
      exact ⟨fun h => absurd h (parseWith_bad_check fuel s₁ b1 forest),
        fun h => absurd h (parseWith_bad_check fuel s₂ b2 forest)⟩
  · constructor
    · intro h'; exact absurd h' (parseWith_bad hM₁ fuel s₁ hb.1 forest)
    · intro h'; exact absurd h' (parseWith_bad hM₂ fuel s₂ hb.2 forest)

end sim

end Goyang.Lemmas.ParseSim
