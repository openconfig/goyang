/-
Helper lemmas for C10, part 1: the algorithms of the range code (insertion sort, coalesce,
Validate, Contains) written over integer intervals, and what they compute in terms of the
denotation of `Goyang.Spec.Range`.  Part 2 (`Goyang.Lemmas.Range`) shows that the model over
`Number`s is mapped onto these by taking mantissas, including at the 64-bit extremes.

Core Lean only.
-/
import Goyang.Spec.Range
import Goyang.Model.Range
import Goyang.Lemmas.InsertionAux

namespace Goyang.Lemmas.RangeZ
open Goyang.Spec.Range
open Goyang.Model.Range (RangeErr)

/-! ### denotation basics -/

def AllValid (l : List Iv) : Prop := ∀ r ∈ l, r.1 ≤ r.2
def SortedLo (l : List Iv) : Prop := l.Pairwise (fun a b => a.1 ≤ b.1)

theorem mem_nil (x : Int) : ¬ Mem x [] := by
  rintro ⟨r, hr, _⟩; cases hr

theorem mem_cons (x : Int) (r : Iv) (rs : List Iv) :
    Mem x (r :: rs) ↔ ((r.1 ≤ x ∧ x ≤ r.2) ∨ Mem x rs) := by simp [Mem]

theorem mem_append (x : Int) (a b : List Iv) : Mem x (a ++ b) ↔ (Mem x a ∨ Mem x b) := by
  simp [Mem, or_and_right, exists_or]

/-- membership in the denotation only depends on which parts occur -/
theorem mem_congr {a b : List Iv} (h : ∀ r, r ∈ a ↔ r ∈ b) (x : Int) : Mem x a ↔ Mem x b := by
  simp [Mem, h]

theorem memB_iff (x : Int) (rs : List Iv) : memB x rs = true ↔ Mem x rs := by
  unfold memB Mem
  simp [List.any_eq_true]

theorem sdcB_iff (rs : List Iv) : sdcB rs = true ↔ SDC rs := by
  induction rs with
  | nil => simp [sdcB, SDC]
  | cons r rs ih =>
    cases rs with
    | nil => simp [sdcB, SDC]
    | cons s rest => simp [sdcB, SDC, ih, and_assoc]

/-! ### SDC -/

theorem sdc_tail {r : Iv} {rs : List Iv} (h : SDC (r :: rs)) : SDC rs := by
  cases rs with
  | nil => trivial
  | cons s rest => exact h.2.2

theorem sdc_head {r : Iv} {rs : List Iv} (h : SDC (r :: rs)) : r.1 ≤ r.2 := by
  cases rs with
  | nil => exact h
  | cons s rest => exact h.1

theorem sdc_allValid {rs : List Iv} (h : SDC rs) : AllValid rs := by
  induction rs with
  | nil => intro r hr; cases hr
  | cons r rs ih =>
    intro q hq
    rcases List.mem_cons.mp hq with rfl | hq
    · exact sdc_head h
    · exact ih (sdc_tail h) q hq

/-- every later part starts beyond the end of the first part plus one -/
theorem sdc_gap {p : Iv} {rest : List Iv} (h : SDC (p :: rest)) : ∀ n ∈ rest, p.2 + 1 < n.1 := by
  induction rest generalizing p with
  | nil => intro n hn; cases hn
  | cons s rest ih =>
    intro n hn
    rcases List.mem_cons.mp hn with rfl | hn
    · exact h.2.1
    · have h2 := ih h.2.2 n hn
      have h3 : s.1 ≤ s.2 := sdc_head h.2.2
      have h4 := h.2.1
      omega

theorem sdc_append_right {a b : List Iv} (h : SDC (a ++ b)) : SDC b := by
  induction a with
  | nil => exact h
  | cons r a ih => exact ih (sdc_tail h)

theorem sdc_sortedLo {rs : List Iv} (h : SDC rs) : SortedLo rs := by
  induction rs with
  | nil => exact List.Pairwise.nil
  | cons r rs ih =>
    refine List.Pairwise.cons ?_ (ih (sdc_tail h))
    intro n hn
    have := sdc_gap h n hn
    have := sdc_head h
    omega

/-- the first part of an SDC list holds the least element -/
theorem lowest_sdc {r : Iv} {rs : List Iv} (h : SDC (r :: rs)) : lowest (r :: rs) = some r.1 := by
  induction rs generalizing r with
  | nil => simp [lowest, sdc_head h]
  | cons s rest ih =>
    have h1 := ih h.2.2
    have hr := h.1
    have hg := h.2.1
    unfold lowest
    rw [h1]
    simp [hr]
    omega

theorem highest_sdc_le {r : Iv} {rs : List Iv} (h : SDC (r :: rs)) :
    highest (r :: rs) = some ((r :: rs).getLast (List.cons_ne_nil _ _)).2 ∧
      r.2 ≤ ((r :: rs).getLast (List.cons_ne_nil _ _)).2 := by
  induction rs generalizing r with
  | nil => simp [highest, sdc_head h]
  | cons s rest ih =>
    obtain ⟨h1, h2⟩ := ih h.2.2
    have hg := h.2.1
    have hs := sdc_head h.2.2
    rw [List.getLast_cons (List.cons_ne_nil _ _)]
    unfold highest
    rw [h1, if_pos h.1]
    exact ⟨congrArg some (if_neg (by omega)), by omega⟩

theorem highest_sdc {r : Iv} {rs : List Iv} (h : SDC (r :: rs)) :
    highest (r :: rs) = some ((r :: rs).getLast (List.cons_ne_nil _ _)).2 := (highest_sdc_le h).1

theorem mem_cons_of_not_le {r : Iv} (hv : ¬ r.1 ≤ r.2) (rs : List Iv) (x : Int) : Mem x (r :: rs) ↔ Mem x rs := by
  rw [mem_cons]
  exact ⟨fun h => h.resolve_left (fun hx => hv (Int.le_trans hx.1 hx.2)), Or.inr⟩

theorem lowest_spec (p : List Iv) :
    match lowest p with
    | none => ∀ x, ¬ Mem x p
    | some m => IsLeast p m := by
  induction p with
  | nil => exact mem_nil
  | cons r rs ih =>
    unfold lowest
    by_cases hv : r.1 ≤ r.2
    · rw [if_pos hv]
      have hr : Mem r.1 (r :: rs) := (mem_cons ..).mpr (Or.inl ⟨Int.le_refl _, hv⟩)
      cases hl : lowest rs with
      | none =>
        rw [hl] at ih
        exact ⟨hr, fun x hx => ((mem_cons ..).mp hx).elim (·.1) (fun hx => absurd hx (ih x))⟩
      | some m' =>
        rw [hl] at ih
        obtain ⟨hm1, hm2⟩ := ih
        show IsLeast (r :: rs) (if r.1 < m' then r.1 else m')
        split
        · refine ⟨hr, fun x hx => ?_⟩
          rcases (mem_cons ..).mp hx with hx | hx
          · exact hx.1
          · have := hm2 x hx; omega
        · refine ⟨(mem_cons ..).mpr (Or.inr hm1), fun x hx => ?_⟩
          rcases (mem_cons ..).mp hx with hx | hx
          · omega
          · exact hm2 x hx
    · rw [if_neg hv]
      unfold IsLeast at ih ⊢
      simpa only [mem_cons_of_not_le hv] using ih

theorem lowest_isLeast (p : List Iv) (m : Int) (h : lowest p = some m) : IsLeast p m := by
  have := lowest_spec p
  rwa [h] at this

theorem highest_spec (p : List Iv) :
    match highest p with
    | none => ∀ x, ¬ Mem x p
    | some m => IsGreatest p m := by
  induction p with
  | nil => exact mem_nil
  | cons r rs ih =>
    unfold highest
    by_cases hv : r.1 ≤ r.2
    · rw [if_pos hv]
      have hr : Mem r.2 (r :: rs) := (mem_cons ..).mpr (Or.inl ⟨hv, Int.le_refl _⟩)
      cases hl : highest rs with
      | none =>
        rw [hl] at ih
        exact ⟨hr, fun x hx => ((mem_cons ..).mp hx).elim (·.2) (fun hx => absurd hx (ih x))⟩
      | some m' =>
        rw [hl] at ih
        obtain ⟨hm1, hm2⟩ := ih
        show IsGreatest (r :: rs) (if m' < r.2 then r.2 else m')
        split
        · refine ⟨hr, fun x hx => ?_⟩
          rcases (mem_cons ..).mp hx with hx | hx
          · exact hx.2
          · have := hm2 x hx; omega
        · refine ⟨(mem_cons ..).mpr (Or.inr hm1), fun x hx => ?_⟩
          rcases (mem_cons ..).mp hx with hx | hx
          · omega
          · exact hm2 x hx
    · rw [if_neg hv]
      unfold IsGreatest at ih ⊢
      simpa only [mem_cons_of_not_le hv] using ih

theorem highest_isGreatest (p : List Iv) (m : Int) (h : highest p = some m) : IsGreatest p m := by
  have := highest_spec p
  rwa [h] at this

/-! ### insertion sort -/

/-- `YangRange.Less` on mantissas -/
def lexLt (a b : Iv) : Bool :=
  if a.1 < b.1 then true else if b.1 < a.1 then false else decide (a.2 < b.2)

def bubbleZ (x : Iv) : List Iv → List Iv
  | [] => [x]
  | y :: ys => if lexLt x y then y :: bubbleZ x ys else x :: y :: ys

def sortLoopZ : List Iv → List Iv → List Iv
  | revPre, [] => revPre.reverse
  | revPre, x :: xs => sortLoopZ (bubbleZ x revPre) xs

def sortZ (l : List Iv) : List Iv := sortLoopZ [] l

/-- `b` is not after `a` in the lexicographic order -/
def LexLe (b a : Iv) : Prop := b.1 < a.1 ∨ (b.1 = a.1 ∧ b.2 ≤ a.2)

theorem lexLt_false_iff (a b : Iv) : lexLt a b = false ↔ LexLe b a := by
  unfold lexLt LexLe
  by_cases h1 : a.1 < b.1
  · simp [h1]; omega
  · by_cases h2 : b.1 < a.1
    · simp [h1, h2]
    · simp [h1, h2]; omega

theorem lexLt_true_imp (a b : Iv) (h : lexLt a b = true) : LexLe a b := by
  unfold lexLt at h
  unfold LexLe
  by_cases h1 : a.1 < b.1
  · exact Or.inl h1
  · by_cases h2 : b.1 < a.1
    · simp [h1, h2] at h
    · simp [h1, h2] at h; right; omega

theorem lexLe_trans {a b c : Iv} (h1 : LexLe a b) (h2 : LexLe b c) : LexLe a c := by
  unfold LexLe at *; omega

theorem mem_bubbleZ (x : Iv) (l : List Iv) (r : Iv) : r ∈ bubbleZ x l ↔ (r = x ∨ r ∈ l) :=
  InsertionAux.mem_insert (p := fun y => lexLt x y) (ins := bubbleZ x) rfl (fun _ _ => rfl) r l

theorem mem_sortLoopZ (pre l : List Iv) (r : Iv) : r ∈ sortLoopZ pre l ↔ (r ∈ pre ∨ r ∈ l) :=
  InsertionAux.mem_loop mem_bubbleZ (loop := sortLoopZ) (fun _ => rfl) (fun _ _ _ => rfl) pre l r

theorem mem_sortZ (l : List Iv) (r : Iv) : r ∈ sortZ l ↔ r ∈ l := by
  unfold sortZ; rw [mem_sortLoopZ]; simp

/-- the reversed prefix is descending -/
def Desc (l : List Iv) : Prop := l.Pairwise (fun a b => LexLe b a)

theorem bubbleZ_desc (x : Iv) (l : List Iv) (h : Desc l) : Desc (bubbleZ x l) := by
  induction l with
  | nil => exact List.Pairwise.cons (fun _ h => by cases h) List.Pairwise.nil
  | cons y ys ih =>
    unfold bubbleZ
    have hy := List.pairwise_cons.mp h
    split
    · rename_i hlt
      refine List.Pairwise.cons ?_ (ih hy.2)
      intro b hb
      rcases (mem_bubbleZ x ys b).mp hb with rfl | hb
      · exact lexLt_true_imp _ _ hlt
      · exact hy.1 b hb
    · rename_i hlt
      have hyx : LexLe y x := (lexLt_false_iff x y).mp (by simpa using hlt)
      refine List.Pairwise.cons ?_ h
      intro b hb
      rcases List.mem_cons.mp hb with rfl | hb
      · exact hyx
      · exact lexLe_trans (hy.1 b hb) hyx

theorem sortLoopZ_sorted (pre l : List Iv) (h : Desc pre) :
    (sortLoopZ pre l).Pairwise (fun a b => LexLe a b) := by
  induction l generalizing pre with
  | nil =>
    unfold sortLoopZ
    rw [List.pairwise_reverse]
    exact h
  | cons x xs ih =>
    unfold sortLoopZ
    exact ih _ (bubbleZ_desc x pre h)

theorem sortZ_lex (l : List Iv) : (sortZ l).Pairwise (fun a b => LexLe a b) :=
  sortLoopZ_sorted [] l List.Pairwise.nil

theorem sortZ_sortedLo (l : List Iv) : SortedLo (sortZ l) := by
  unfold SortedLo
  refine List.Pairwise.imp ?_ (sortZ_lex l)
  intro a b h
  unfold LexLe at h
  omega

theorem sortZ_allValid (l : List Iv) (h : AllValid l) : AllValid (sortZ l) :=
  fun r hr => h r ((mem_sortZ l r).mp hr)

theorem sortZ_mem (l : List Iv) (x : Int) : Mem x (sortZ l) ↔ Mem x l :=
  mem_congr (mem_sortZ l) x

theorem sortZ_ne_nil (l : List Iv) (h : l ≠ []) : sortZ l ≠ [] := by
  cases l with
  | nil => exact absurd rfl h
  | cons a l =>
    intro he
    have : a ∈ sortZ (a :: l) := (mem_sortZ _ a).mpr (List.mem_cons_self ..)
    rw [he] at this
    cases this


def coalLoopZ (cur : Iv) : List Iv → List Iv
  | [] => [cur]
  | r :: rs =>
    if cur.2 + 1 < r.1 then cur :: coalLoopZ r rs
    else if cur.2 < r.2 then coalLoopZ (cur.1, r.2) rs
    else coalLoopZ cur rs

def coalZ : List Iv → List Iv
  | [] => []
  | r :: rs => coalLoopZ r rs

theorem coalLoopZ_head (cur : Iv) (rs : List Iv) :
    ∃ hi tl, coalLoopZ cur rs = (cur.1, hi) :: tl ∧ cur.2 ≤ hi := by
  induction rs generalizing cur with
  | nil => exact ⟨cur.2, [], rfl, Int.le_refl _⟩
  | cons r rs ih =>
    unfold coalLoopZ
    split
    · exact ⟨cur.2, coalLoopZ r rs, rfl, Int.le_refl _⟩
    · split
      · obtain ⟨hi, tl, h, hle⟩ := ih (cur.1, r.2)
        exact ⟨hi, tl, h, by simp at hle; omega⟩
      · exact ih cur

theorem coalLoopZ_spec (cur : Iv) (rs : List Iv) (hc : cur.1 ≤ cur.2)
    (hv : AllValid rs) (hs : SortedLo rs) (hlo : ∀ r ∈ rs, cur.1 ≤ r.1) :
    SDC (coalLoopZ cur rs) ∧
      ∀ x, Mem x (coalLoopZ cur rs) ↔ ((cur.1 ≤ x ∧ x ≤ cur.2) ∨ Mem x rs) := by
  induction rs generalizing cur with
  | nil => exact ⟨hc, fun x => by simp [coalLoopZ, mem_cons, mem_nil]⟩
  | cons r rs ih =>
    have hr : r.1 ≤ r.2 := hv r (List.mem_cons_self ..)
    have hvrs : AllValid rs := fun q hq => hv q (List.mem_cons_of_mem _ hq)
    have hsp := List.pairwise_cons.mp hs
    have hcr : cur.1 ≤ r.1 := hlo r (List.mem_cons_self ..)
    have hlo' : ∀ q ∈ rs, cur.1 ≤ q.1 := fun q hq => hlo q (List.mem_cons_of_mem _ hq)
    unfold coalLoopZ
    split
    · next hgap =>
      obtain ⟨hsub, hmem⟩ := ih r hr hvrs hsp.2 hsp.1
      obtain ⟨hi, tl, heq, _⟩ := coalLoopZ_head r rs
      refine ⟨?_, fun x => by rw [mem_cons, mem_cons, hmem]⟩
      rw [heq] at hsub ⊢
      exact ⟨hc, hgap, hsub⟩
    · -- `cur` and `r` overlap or touch: their union is the interval from `cur.1` to the larger end
      split
      · obtain ⟨hsub, hmem⟩ := ih (cur.1, r.2) (by simp; omega) hvrs hsp.2 hlo'
        refine ⟨hsub, fun x => ?_⟩
        rw [hmem, mem_cons]
        by_cases hm : Mem x rs <;> simp [hm] <;> omega
      · obtain ⟨hsub, hmem⟩ := ih cur hc hvrs hsp.2 hlo'
        refine ⟨hsub, fun x => ?_⟩
        rw [hmem, mem_cons]
        by_cases hm : Mem x rs <;> simp [hm] <;> omega

/-- Go's single-pass merge over valid parts sorted by lower bound: the result is sorted, disjoint
and coalesced and denotes the same set. -/
theorem coalZ_spec (rs : List Iv) (hv : AllValid rs) (hs : SortedLo rs) :
    SDC (coalZ rs) ∧ ∀ x, Mem x (coalZ rs) ↔ Mem x rs := by
  cases rs with
  | nil => exact ⟨trivial, fun x => Iff.rfl⟩
  | cons r rs =>
    have hsp := List.pairwise_cons.mp hs
    obtain ⟨hsdc, hmem⟩ := coalLoopZ_spec r rs (hv r (List.mem_cons_self ..))
      (fun q hq => hv q (List.mem_cons_of_mem _ hq)) hsp.2 hsp.1
    exact ⟨hsdc, fun x => by rw [mem_cons]; exact hmem x⟩

theorem coalZ_ne_nil (rs : List Iv) (h : rs ≠ []) : coalZ rs ≠ [] := by
  cases rs with
  | nil => exact absurd rfl h
  | cons r rs =>
    obtain ⟨hi, tl, heq, _⟩ := coalLoopZ_head r rs
    show coalLoopZ r rs ≠ []
    rw [heq]
    exact List.cons_ne_nil _ _

/-! ### Validate -/

def isSortedZ : List Iv → Bool
  | [] => true
  | [_] => true
  | a :: b :: rest => !lexLt b a && isSortedZ (b :: rest)

def validateZ (r : List Iv) : Option RangeErr :=
  if !isSortedZ r then some .unsorted
  else match r with
    | [] => none
    | p :: rest =>
      if !(!decide (p.2 < p.1)) then some .invalid
      else if rest.any (fun n => decide (n.1 < p.2)) then some .overlap
      else none

theorem isSortedZ_sdc (r : List Iv) (h : SDC r) : isSortedZ r = true := by
  induction r with
  | nil => rfl
  | cons a r ih =>
    cases r with
    | nil => rfl
    | cons b rest =>
      unfold isSortedZ
      have h1 := h.1
      have h2 := h.2.1
      have h3 : lexLt b a = false := by
        rw [lexLt_false_iff]; unfold LexLe; omega
      simp [h3, ih h.2.2]

/-- `Validate` never fails on a sorted, disjoint, coalesced list: the last check of
`parseChildRanges` cannot reject what `coalesce` returned. -/
theorem validateZ_sdc (r : List Iv) (h : SDC r) : validateZ r = none := by
  unfold validateZ
  rw [isSortedZ_sdc r h]
  cases r with
  | nil => simp
  | cons p rest =>
    have hp := sdc_head h
    have hg := sdc_gap h
    have h1 : decide (p.2 < p.1) = false := by simp; omega
    have h2 : rest.any (fun n => decide (n.1 < p.2)) = false := by
      rw [List.any_eq_false]
      intro n hn
      have := hg n hn
      simp; omega
    simp [h1, h2]

/-! ### Contains -/

def advanceZ (x : Int) (cur : Iv) : List Iv → Option (Iv × List Iv)
  | [] => if cur.2 < x then none else some (cur, [])
  | n :: rest' => if cur.2 < x then advanceZ x n rest' else some (cur, n :: rest')

def containsLoopZ : Iv → List Iv → List Iv → Bool
  | _, _, [] => true
  | cur, rest, ss :: more =>
    match advanceZ ss.1 cur rest with
    | none => false
    | some (cur', rest') =>
      if decide (ss.1 < cur'.1) || decide (cur'.2 < ss.2) then false
      else containsLoopZ cur' rest' more

def containsZ (r s : List Iv) : Bool :=
  match r, s with
  | [], _ => true
  | _, [] => true
  | cur :: rest, s => containsLoopZ cur rest s

theorem advanceZ_spec (x : Int) (cur : Iv) (rest : List Iv) :
    match advanceZ x cur rest with
    | none => ∀ d ∈ cur :: rest, d.2 < x
    | some (c', r') => ∃ dropped, cur :: rest = dropped ++ c' :: r' ∧ (∀ d ∈ dropped, d.2 < x) ∧ ¬ c'.2 < x := by
  induction rest generalizing cur with
  | nil =>
    unfold advanceZ
    by_cases hx : cur.2 < x
    · rw [if_pos hx]; simpa using hx
    · rw [if_neg hx]; exact ⟨[], rfl, nofun, hx⟩
  | cons n rest ih =>
    unfold advanceZ
    by_cases hx : cur.2 < x
    · rw [if_pos hx]
      have := ih n
      cases h : advanceZ x n rest with
      | none => rw [h] at this; exact List.forall_mem_cons.mpr ⟨hx, this⟩
      | some p =>
        rw [h] at this
        obtain ⟨dr, heq, hd, hc⟩ := this
        exact ⟨cur :: dr, congrArg _ heq, List.forall_mem_cons.mpr ⟨hx, hd⟩, hc⟩
    · rw [if_neg hx]; exact ⟨[], rfl, nofun, hx⟩

theorem sdc_lo_le {p : Iv} {rest : List Iv} (h : SDC (p :: rest)) {x : Int} (hx : Mem x (p :: rest)) : p.1 ≤ x := by
  rcases (mem_cons ..).mp hx with hx | ⟨q, hq, hx⟩
  · exact hx.1
  · have := sdc_gap h q hq
    have := sdc_head h
    omega

/-- the merge-walk decides inclusion when both lists are sorted, disjoint and coalesced -/
theorem containsLoopZ_iff (s : List Iv) : ∀ (cur : Iv) (rest : List Iv),
    SDC (cur :: rest) → SDC s → (containsLoopZ cur rest s = true ↔ Within s (cur :: rest)) := by
  induction s with
  | nil => exact fun _ _ _ _ => ⟨fun _ x hx => absurd hx (mem_nil x), fun _ => rfl⟩
  | cons ss more ih =>
    intro cur rest hr hs
    have hssv : ss.1 ≤ ss.2 := sdc_head hs
    have hlo : Mem ss.1 (ss :: more) := (mem_cons ..).mpr (Or.inl ⟨Int.le_refl _, hssv⟩)
    have hadv := advanceZ_spec ss.1 cur rest
    unfold containsLoopZ
    cases h : advanceZ ss.1 cur rest with
    | none =>
      rw [h] at hadv
      simp only [Bool.false_eq_true, false_iff]
      intro hsub
      obtain ⟨q, hq, h1, h2⟩ := hsub ss.1 hlo
      have := hadv q hq
      omega
    | some p =>
      rw [h] at hadv
      obtain ⟨c', r'⟩ := p
      obtain ⟨dr, heq, hdr, hstop⟩ := hadv
      have hr' : SDC (c' :: r') := sdc_append_right (heq ▸ hr)
      have hc'v := sdc_head hr'
      have hgap' := sdc_gap hr'
      -- every point of ss :: more is at least ss.1, so the dropped parts do not matter
      have hdrop : Within (ss :: more) (cur :: rest) ↔ Within (ss :: more) (c' :: r') := by
        rw [heq]
        refine ⟨fun hsub x hx => ?_, fun hsub x hx => (mem_append ..).mpr (Or.inr (hsub x hx))⟩
        rcases (mem_append ..).mp (hsub x hx) with ⟨q, hq, hq1, hq2⟩ | h
        · have := hdr q hq
          have := sdc_lo_le hs hx
          omega
        · exact h
      rw [hdrop]
      simp only
      by_cases hin : ss.1 < c'.1 ∨ c'.2 < ss.2
      · have : (decide (ss.1 < c'.1) || decide (c'.2 < ss.2)) = true := by
          rcases hin with h | h <;> simp [h]
        simp only [this, if_true, Bool.false_eq_true, false_iff]
        intro hsub
        -- ss.1 lies in c' (it is ≤ c'.2 and later parts start after c'.2 + 1)
        have hc1 : c'.1 ≤ ss.1 := sdc_lo_le hr' (hsub ss.1 hlo)
        rcases hin with h | h
        · omega
        · -- c'.2 + 1 lies in ss but in no part of c' :: r'
          have hmid : Mem (c'.2 + 1) (ss :: more) := (mem_cons ..).mpr (Or.inl ⟨by omega, by omega⟩)
          rcases (mem_cons ..).mp (hsub (c'.2 + 1) hmid) with h' | ⟨q, hq, h1, _⟩
          · omega
          · have := hgap' q hq; omega
      · have hdec : (decide (ss.1 < c'.1) || decide (c'.2 < ss.2)) = false := by
          simpa using hin
        simp only [hdec, Bool.false_eq_true, if_false]
        rw [ih c' r' hr' (sdc_tail hs)]
        refine ⟨fun hsub x hx => ?_, fun hsub x hx => hsub x ((mem_cons ..).mpr (Or.inr hx))⟩
        rcases (mem_cons ..).mp hx with hx | hx
        · exact (mem_cons ..).mpr (Or.inl ⟨by omega, by omega⟩)
        · exact hsub x hx

/-- `Contains` on sorted, disjoint, coalesced lists is inclusion of the denoted sets, except that
an empty receiver stands for "everything". -/
theorem containsZ_iff (r s : List Iv) (hr : SDC r) (hs : SDC s) :
    containsZ r s = true ↔ (r = [] ∨ Within s r) := by
  cases r with
  | nil => simp [containsZ]
  | cons cur rest =>
    cases s with
    | nil =>
      simp only [containsZ, true_iff]
      right
      intro x hx
      exact absurd hx (mem_nil x)
    | cons ss more =>
      unfold containsZ
      rw [containsLoopZ_iff (ss :: more) cur rest hr hs]
      simp

/-! ### the executable inclusion test of the specification (critical points) -/

theorem critical_lo {r : Iv} {a : List Iv} (h : r ∈ a) : r.1 ∈ critical a := by
  unfold critical
  rw [List.mem_flatMap]
  exact ⟨r, h, by simp⟩

theorem critical_hi_succ {r : Iv} {a : List Iv} (h : r ∈ a) : r.2 + 1 ∈ critical a := by
  unfold critical
  rw [List.mem_flatMap]
  exact ⟨r, h, by simp⟩

/-- Inclusion of two finite unions of intervals can be tested on the bounds and their neighbours:
walking right from the lower bound of a part of `a`, one can only leave `⟦b⟧` at a point `q.hi + 1`. -/
theorem subsetB_iff (a b : List Iv) : subsetB a b = true ↔ Within a b := by
  unfold subsetB
  rw [List.all_eq_true]
  constructor
  · intro h x ⟨r, hr, hx1, hx2⟩
    have hcrit : ∀ p, p ∈ critical a ++ critical b → Mem p a → Mem p b := by
      intro p hp hpa
      have := h p hp
      simp only [Bool.or_eq_true, Bool.not_eq_true'] at this
      rcases this with h1 | h1
      · have h2 := (memB_iff p a).mpr hpa
        rw [h1] at h2; cases h2
      · exact (memB_iff p b).mp h1
    -- induction on the distance from the lower bound of the part
    have key : ∀ (n : Nat) (x : Int), r.1 ≤ x → x ≤ r.2 → x - r.1 = n → Mem x b := by
      intro n
      induction n with
      | zero =>
        intro x h1 h2 hn
        have : x = r.1 := by omega
        subst this
        exact hcrit _ (List.mem_append_left _ (critical_lo hr)) ⟨r, hr, h1, h2⟩
      | succ k ih =>
        intro x h1 h2 hn
        obtain ⟨q, hq, hq1, hq2⟩ := ih (x - 1) (by omega) (by omega) (by omega)
        by_cases hle : x ≤ q.2
        · exact ⟨q, hq, by omega, hle⟩
        · have hx : x = q.2 + 1 := by omega
          rw [hx]
          exact hcrit _ (List.mem_append_right _ (critical_hi_succ hq)) ⟨r, hr, by omega, by omega⟩
    exact key (x - r.1).toNat x hx1 hx2 (by omega)
  · intro h x _
    simp only [Bool.or_eq_true, Bool.not_eq_true']
    by_cases hxa : Mem x a
    · exact Or.inr ((memB_iff x b).mpr (h x hxa))
    · left
      cases hm : memB x a
      · rfl
      · exact absurd ((memB_iff x a).mp hm) hxa

theorem setEqB_iff (a b : List Iv) : setEqB a b = true ↔ SetEq a b := by
  unfold setEqB SetEq
  rw [Bool.and_eq_true, subsetB_iff, subsetB_iff]
  unfold Within
  constructor
  · rintro ⟨h1, h2⟩ x
    exact ⟨h1 x, h2 x⟩
  · intro h
    exact ⟨fun x => (h x).mp, fun x => (h x).mpr⟩

end Goyang.Lemmas.RangeZ
