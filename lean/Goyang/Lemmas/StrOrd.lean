import Goyang.Model.StrOrd
/-
Order facts about `charsLt` / `strLt` (Go's byte-wise string order): a strict total order;
behaviour under a common prefix; `charsLe`; interplay with `++` on `String`.
-/
namespace Goyang.Lemmas.StrOrd
open Goyang.Model

theorem charsLt_irrefl : ∀ a : List Char, charsLt a a = false
  | [] => rfl
  | c :: cs => by simp [charsLt, charsLt_irrefl cs]

theorem char_eq_of_toNat_eq {a b : Char} (h : a.toNat = b.toNat) : a = b :=
  Char.ext (UInt32.toNat_inj.mp h)

theorem charsLt_trans : ∀ {a b c : List Char}, charsLt a b = true → charsLt b c = true → charsLt a c = true
  | _, [], _, h, _ => by cases ‹List Char› <;> simp [charsLt] at h
  | _, _ :: _, [], _, h => by simp [charsLt] at h
  | [], _ :: _, _ :: _, _, _ => by simp [charsLt]
  | x :: xs, y :: ys, z :: zs, h1, h2 => by
    simp only [charsLt, Bool.or_eq_true, decide_eq_true_eq, Bool.and_eq_true, beq_iff_eq] at *
    rcases h1 with h1 | ⟨rfl, h1⟩ <;> rcases h2 with h2 | ⟨rfl, h2⟩
    · left; omega
    · left; exact h1
    · left; exact h2
    · right; exact ⟨rfl, charsLt_trans h1 h2⟩

theorem charsLt_total : ∀ a b : List Char, charsLt a b = true ∨ a = b ∨ charsLt b a = true
  | [], [] => by simp
  | [], _ :: _ => by simp [charsLt]
  | _ :: _, [] => by simp [charsLt]
  | x :: xs, y :: ys => by
    simp only [charsLt, Bool.or_eq_true, decide_eq_true_eq, Bool.and_eq_true, beq_iff_eq, List.cons.injEq]
    rcases Nat.lt_trichotomy x.toNat y.toNat with h | h | h
    · left; left; exact h
    · have hxy := char_eq_of_toNat_eq h
      subst hxy
      rcases charsLt_total xs ys with h' | h' | h'
      · left; right; exact ⟨rfl, h'⟩
      · right; left; exact ⟨rfl, h'⟩
      · right; right; right; exact ⟨rfl, h'⟩
    · right; right; left; exact h

theorem charsLt_asymm {a b : List Char} (h : charsLt a b = true) : charsLt b a = false := by
  cases hb : charsLt b a with
  | false => rfl
  | true => have := charsLt_trans h hb; simp [charsLt_irrefl] at this

theorem charsLt_nil_left (b : List Char) : charsLt [] b = !b.isEmpty := by
  cases b <;> simp [charsLt]

/-- A common prefix does not matter. -/
theorem charsLt_append_left : ∀ (p a b : List Char), charsLt (p ++ a) (p ++ b) = charsLt a b
  | [], _, _ => rfl
  | c :: p, a, b => by simp [charsLt, charsLt_append_left p a b]

/-- A proper prefix is smaller. -/
theorem charsLt_prefix (p : List Char) {s : List Char} (h : s ≠ []) : charsLt p (p ++ s) = true := by
  have := charsLt_append_left p [] s
  simp only [List.append_nil] at this
  rw [this, charsLt_nil_left]; cases s <;> simp_all


theorem charsLe_refl (a : List Char) : charsLe a a = true := by simp [charsLe, charsLt_irrefl]

theorem charsLe_total (a b : List Char) : (charsLe a b || charsLe b a) = true := by
  simp only [charsLe, Bool.or_eq_true, Bool.not_eq_true']
  rcases charsLt_total a b with h | h | h
  · exact .inl (charsLt_asymm h)
  · subst h; exact .inl (charsLt_irrefl a)
  · exact .inr (charsLt_asymm h)

theorem charsLe_trans {a b c : List Char} (h1 : charsLe a b = true) (h2 : charsLe b c = true) : charsLe a c = true := by
  simp only [charsLe, Bool.not_eq_true'] at *
  rcases charsLt_total a b with h | h | h
  · cases hca : charsLt c a with
    | false => rfl
    | true => have := charsLt_trans hca h; simp [this] at h2
  · subst h; exact h2
  · simp [h] at h1

/-! ### `String` -/

theorem strLt_irrefl (a : String) : strLt a a = false := charsLt_irrefl _

theorem strLt_trans {a b c : String} (h1 : strLt a b = true) (h2 : strLt b c = true) : strLt a c = true :=
  charsLt_trans h1 h2

theorem strLt_total (a b : String) : strLt a b = true ∨ a = b ∨ strLt b a = true := by
  rcases charsLt_total a.toList b.toList with h | h | h
  · exact .inl h
  · exact .inr (.inl (String.toList_inj.mp h))
  · exact .inr (.inr h)

theorem strLt_asymm {a b : String} (h : strLt a b = true) : strLt b a = false := charsLt_asymm h

theorem strLt_empty_left (b : String) : strLt "" b = true ↔ b ≠ "" := by
  unfold strLt
  rw [show ("" : String).toList = [] from rfl, charsLt_nil_left]
  constructor
  · intro h hb; subst hb; simp at h
  · intro h
    cases hb : b.toList with
    | nil => exact absurd (String.toList_inj.mp (hb.trans (rfl : ("" : String).toList = []).symm)) h
    | cons _ _ => rfl

theorem strLt_empty_right (a : String) : strLt a "" = false := by
  unfold strLt; rw [show ("" : String).toList = [] from rfl]; cases a.toList <;> rfl

theorem strLt_append_left (p a b : String) : strLt (p ++ a) (p ++ b) = strLt a b := by
  simp [strLt, String.toList_append, charsLt_append_left]

theorem strLt_prefix (p : String) {s : String} (h : s ≠ "") : strLt p (p ++ s) = true := by
  unfold strLt; rw [String.toList_append]
  apply charsLt_prefix
  intro hs; exact h (String.toList_inj.mp (hs.trans (rfl : ("" : String).toList = []).symm))

end Goyang.Lemmas.StrOrd
