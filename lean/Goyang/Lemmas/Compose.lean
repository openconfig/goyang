/-
(e) Composition: the lexer model as token source and the reference reader's tokens as token
source are in step (`Sim`), hence `parseText` returns a forest exactly when the reference reader
derives one, and it is the same forest.
-/
import Goyang.Lemmas.TokSim
import Goyang.Lemmas.ParseSim
import Goyang.Lemmas.ListSrc
import Goyang.Lemmas.Newline
import Goyang.Lemmas.Parse
import Goyang.Lemmas.LexKeepsH

namespace Goyang.Lemmas.Compose
open Goyang.Model.Lex Goyang.Model.Parse Goyang.Model.Utf8
open Goyang.Lemmas.Utf8 Goyang.Lemmas.Lex Goyang.Lemmas.LexSim Goyang.Lemmas.TokSim Goyang.Lemmas.Scan
open Goyang.Lemmas.ParseSim (Mono Sim parseWith_sim)
open Goyang.Lemmas.ListSrc (LSrc listSource lpull conv tokCode badEsc escErr okTok encStmts parse_list parse_list_fail)
open Goyang.Spec.Parse

/-! ## errors are only added -/

theorem lexSource_mono : Mono lexSource := by
  constructor
  · intro b l h
    exact (LexKeepsH.skipErrors_extends _ _).keeps (show ({ l with inPattern := b } : Lexer).errout ≠ [] from h)
  · intro e l
    show l.errout ++ [e] ≠ []
    simp

/-! ## the two sources in step -/

section
variable (text : List Char) (file : List UInt8)

def dummyErr : ErrLine := { file := [], pos := none, cls := .tooMany }

/-- the tokens of the reference reader from `suf` on, as a token source -/
def srcOf (g : Nat) (suf : List Char) : LSrc :=
  { text := text, file := file, toks := (scanAll text.length g suf).1, errs := [],
    tail := if (scanAll text.length g suf).2 then none else some dummyErr }

/-- the lexer stands between two tokens before `suf` and the list holds the tokens of `suf`;
or both are at the end -/
def R (l : Lexer) (s : LSrc) : Prop :=
  (∃ pre suf g, text = pre ++ suf ∧ Gnd file l pre suf ∧ EndsNL suf ∧ suf.length + 1 ≤ g ∧
      s = srcOf text file g suf) ∨
  (l.state = .done ∧ Ready file l ∧ s = { text := text, file := file, toks := [], errs := [], tail := none })

theorem conv_code_ne_error (t : PTok) : (conv text file t).code ≠ Code.error := by
  obtain ⟨tok, off⟩ := t
  cases tok <;> simp [conv, tokCode]

theorem skipErrors_token (f : Nat) (l : Lexer) (t : Token) (h : (nextToken l).1 = some t) (hc : t.code ≠ Code.error) :
    skipErrors (f + 1) l = (some t, (nextToken l).2) := by
  unfold skipErrors
  simp only [h, if_neg hc]

theorem skipErrors_none (f : Nat) (l : Lexer) (h : (nextToken l).1 = none) :
    skipErrors (f + 1) l = (none, (nextToken l).2) := by
  unfold skipErrors
  simp only [h]

theorem skipErrors_bad_after (f : Nat) (l : Lexer) (h : (nextToken l).2.errout ≠ []) :
    (skipErrors (f + 1) l).2.errout ≠ [] := by
  unfold skipErrors
  simp only
  split
  · exact h
  · split
    · exact (LexKeepsH.skipErrors_extends _ _).keeps h
    · exact h

theorem suffix_of_append_eq (pre suf pre' rest : List Char) (h : pre ++ suf = pre' ++ rest)
    (hl : pre.length < pre'.length) : ∃ a, suf = a ++ rest ∧ rest.length + 1 ≤ suf.length := by
  rcases List.append_eq_append_iff.mp h with ⟨a, h1, h2⟩ | ⟨c, h1, h2⟩
  · refine ⟨a, h2, ?_⟩
    rw [h1] at hl
    rw [h2]
    simp only [List.length_append] at hl ⊢
    omega
  · rw [h1] at hl
    simp only [List.length_append] at hl
    omega

theorem pull_ground (b : Bool) (l : Lexer) (pre suf : List Char) (hg : Gnd file l pre suf) :
    ∃ F l', lexSource.pull b l = skipErrors (F + 1) l' ∧ Gnd file l' pre suf ∧ l'.inPattern = b ∧
      (encodeChars suf).length + 3 ≤ l'.rest.length + 3 :=
  ⟨l.items.length + l.rest.length + (l.pos - l.start) + 1, { l with inPattern := b }, rfl,
    ⟨⟨hg.cur.before, hg.cur.rest, hg.cur.line⟩, posN_of_fields hg.posn rfl rfl,
      ⟨hg.ready.items, hg.ready.errout, hg.ready.errcnt, hg.ready.fault, hg.ready.file⟩, hg.state⟩, rfl,
    by rw [hg.cur.rest]; exact Nat.le_refl _⟩

theorem pull_done (b : Bool) (l : Lexer) (hst : l.state = .done) (hr : Ready file l) :
    ∃ l', lexSource.pull b l = (none, l') ∧ l'.state = .done ∧ Ready file l' := by
  have hnt : nextToken ({ l with inPattern := b } : Lexer) = (none, { l with inPattern := b }) := by
    unfold nextToken
    exact nextTokenLoop_done _ _ hr.items hst
  refine ⟨{ l with inPattern := b }, ?_, hst, ⟨hr.items, hr.errout, hr.errcnt, hr.fault, hr.file⟩⟩
  show skipErrors (l.items.length + l.rest.length + (l.pos - l.start) + 1 + 1) _ = _
  rw [skipErrors_none _ _ (by rw [hnt]), hnt]

theorem rest_ok (pre suf pre' rest : List Char) (h : pre ++ suf = pre' ++ rest) (hl : pre.length < pre'.length)
    (hnl : EndsNL suf) : EndsNL rest ∧ rest.length + 1 ≤ suf.length := by
  obtain ⟨a, ha, hal⟩ := suffix_of_append_eq pre suf pre' rest h hl
  rw [ha] at hnl
  exact ⟨hnl.suffix, hal⟩

theorem sim : Sim lexSource listSource (R text file) := by
  refine ⟨?_, ?_, ?_⟩
  · intro l s h
    rcases h with ⟨pre, suf, g, _, hg, _, _, hs⟩ | ⟨_, hr, hs⟩
    · exact ⟨hg.ready.errout, by rw [hs]; rfl⟩
    · exact ⟨hr.errout, by rw [hs]; rfl⟩
  · intro l s h
    rcases h with ⟨pre, suf, g, _, hg, _, _, hs⟩ | ⟨_, hr, hs⟩
    · exact ⟨hg.ready.fault, rfl⟩
    · exact ⟨hr.fault, rfl⟩
  · intro b l s h
    rcases h with ⟨pre, suf, g, ht, hg, hnl, hgl, hs⟩ | ⟨hst, hr, hs⟩
    · obtain ⟨F, l', hpull, hg', hpat, hfu⟩ := pull_ground file b l pre suf hg
      rw [hpull]
      have hout := ground_sim text file suf.length suf (Nat.le_refl _) pre l' (l'.rest.length + 3) ht hg' hnl hfu
      rw [hpat] at hout
      obtain ⟨g, rfl⟩ : ∃ g', g = g' + 1 := ⟨g - 1, by omega⟩
      have hlist : listSource.pull b s = lpull b s := rfl
      rw [hlist, hs]
      unfold Outcome at hout
      cases hsn : specNext text.length suf with
      | none =>
        -- a quote or comment that is never closed
        rw [hsn] at hout
        right
        refine ⟨skipErrors_bad_after F l' hout, ?_⟩
        show (lpull b (srcOf text file (g + 1) suf)).2.errs ≠ []
        unfold lpull srcOf scanAll
        simp [hsn]
      | some o =>
        cases o with
        | none =>
          -- the end of the text
          rw [hsn] at hout
          obtain ⟨o1, o2, o3, o4⟩ := hout
          left
          have hle : lpull b (srcOf text file (g + 1) suf) =
              (none, { text := text, file := file, toks := [], errs := [], tail := none }) := by
            unfold lpull srcOf scanAll
            simp [hsn]
          rw [skipErrors_none F l' o1, hle]
          exact ⟨rfl, Or.inr ⟨o2, o3, rfl⟩⟩
        | some p =>
          obtain ⟨t, rest⟩ := p
          rw [hsn] at hout
          simp only at hout
          have hscan : scanAll text.length (g + 1) suf =
              (t :: (scanAll text.length g rest).1, (scanAll text.length g rest).2) := by
            conv => lhs; unfold scanAll
            simp [hsn]
          rcases hout with ⟨hb, he⟩ | ⟨hb, htok, pre', ht', hlen, hg2, hp2⟩
          · right
            refine ⟨skipErrors_bad_after F l' he, ?_⟩
            show (lpull b (srcOf text file (g + 1) suf)).2.errs ≠ []
            unfold lpull srcOf
            rw [hscan]
            simp [hb]
          · left
            have hle : lpull b (srcOf text file (g + 1) suf) =
                (some (conv text file t), srcOf text file g rest) := by
              unfold lpull srcOf
              rw [hscan]
              simp [hb]
            rw [skipErrors_token F l' _ htok (conv_code_ne_error text file t), hle]
            obtain ⟨hnl', hal⟩ := rest_ok pre suf pre' rest (ht.symm.trans ht') hlen hnl
            exact ⟨rfl, Or.inl ⟨pre', rest, g, ht', hg2, hnl', by omega, rfl⟩⟩
    · -- both are at the end
      obtain ⟨l', hpull, hs', hr'⟩ := pull_done file b l hst hr
      rw [hpull, hs]
      exact Or.inl ⟨rfl, Or.inr ⟨hs', hr', rfl⟩⟩

end

/-! ## the text the lexer works on -/

/-- `newLexer`: a line feed is appended unless the text is empty or ends in one -/
def normText (text : List Char) : List Char :=
  if text = [] ∨ text.getLast? = some '\n' then text else text ++ ['\n']

theorem encChar_getLast (c : Char) : (encChar c).getLast? = some 10 ↔ c = '\n' := by
  constructor
  · intro h
    have hm : (10 : UInt8) ∈ encChar c := List.mem_of_getLast? h
    have := (mem_encChar_ascii c 10 (by decide) hm).2
    exact char_eq_of_toNat_eq c '\n' (by rw [this]; decide)
  · intro h; rw [h]; decide

theorem enc_getLast : ∀ (text : List Char), (encodeChars text).getLast? = some 10 ↔ text.getLast? = some '\n' := by
  intro text
  induction text with
  | nil => simp [encodeChars]
  | cons c r ih =>
    rw [encodeChars_cons]
    cases r with
    | nil =>
      rw [encodeChars_nil, List.append_nil]
      simp only [List.getLast?_singleton, Option.some.injEq]
      exact encChar_getLast c
    | cons d r' =>
      have hne : encodeChars (d :: r') ≠ [] := by
        intro h; exact absurd (encodeChars_eq_nil _ h) (by simp)
      rw [List.getLast?_append]
      cases hl : (encodeChars (d :: r')).getLast? with
      | none => exact absurd (List.getLast?_eq_none_iff.mp hl) hne
      | some x =>
        simp only [Option.some_or]
        rw [← hl, ih]
        simp [List.getLast?_cons_cons]

/-- the lexer before its first step, the input written as characters -/
def lexer0 (file : List UInt8) (t : List Char) : Lexer :=
  { errout := [], errcnt := 0, file := file, before := [], rest := encodeChars t, start := 0,
    line := 1, col := 0, inPattern := false, items := [], tcol := 0, scol := 0, sline := 0, state := .ground,
    width := 0, fault := .none }

theorem gnd_lexer0 (file : List UInt8) (t : List Char) : Gnd file (lexer0 file t) [] t :=
  ⟨⟨rfl, rfl, rfl⟩, Pos.posN ⟨rfl, rfl⟩ _, ⟨rfl, rfl, rfl, rfl, rfl⟩, rfl⟩

theorem newLexer_enc (text : List Char) (file : List UInt8) :
    newLexer (encodeChars text) file = lexer0 file (normText text) := by
  unfold newLexer normText lexer0
  by_cases hnil : text = []
  · subst hnil; simp [encodeChars]
  · have hlen : (encodeChars text).length > 0 := by
      cases hl : (encodeChars text).length with
      | zero => exact absurd (encodeChars_eq_nil text (List.eq_nil_of_length_eq_zero hl)) hnil
      | succ n => omega
    by_cases hlast : text.getLast? = some '\n'
    · have : (encodeChars text).getLast? = some 10 := (enc_getLast text).2 hlast
      simp [this, hlast]
    · have : ¬ (encodeChars text).getLast? = some 10 := fun h => hlast ((enc_getLast text).1 h)
      simp only [hnil, hlast, or_self, if_false]
      have hcond : (decide ((encodeChars text).length > 0) && (encodeChars text).getLast? != some 10) = true := by
        simp [hlen, this]
      simp only [hcond, if_true]
      rw [encodeChars_append]
      rfl

theorem normText_endsNL (text : List Char) : EndsNL (normText text) := by
  unfold normText EndsNL
  split
  · rename_i h; exact h
  · right; simp

theorem parse_norm (text : List Char) : parse (normText text) = parse text := by
  unfold normText; split
  · rfl
  · exact Goyang.Lemmas.Newline.parse_nl text

theorem admissible_norm (text : List Char) : Admissible (normText text) = Admissible text := by
  unfold normText; split
  · rfl
  · exact Goyang.Lemmas.Newline.admissible_nl text

theorem normText_length (text : List Char) : (normText text).length ≤ text.length + 1 := by
  unfold normText; split <;> simp

/-! ## admissibility as far as the proof needs it -/

open Goyang.Lemmas.QStr in
theorem okTok_of_not_excluded (text : List Char) (t : PTok) (h : tokExcluded text t = false) : okTok t := by
  obtain ⟨tok, off⟩ := t
  cases tok with
  | dq raw =>
    show noEscBlankEnd raw
    simp only [tokExcluded, dqExcluded, Bool.or_eq_false_iff] at h
    obtain ⟨⟨_, h2⟩, _⟩ := h
    intro x hx q hq
    rw [List.any_eq_false] at h2
    have := h2 x hx
    rw [hq] at this
    simpa using this
  | semi => trivial
  | lbrace => trivial
  | rbrace => trivial
  | unq s => trivial
  | sq s => trivial

theorem scanAll_length (n : Nat) : ∀ (f : Nat) (cs : List Char), (scanAll n f cs).1.length ≤ cs.length := by
  intro f
  induction f with
  | zero => intro cs; simp [scanAll]
  | succ f ih =>
    intro cs
    unfold scanAll
    cases hs : specNext n cs with
    | none => simp
    | some o =>
      cases o with
      | none => simp
      | some p =>
        obtain ⟨t, r⟩ := p
        simp only [List.length_cons]
        have := (specNext_lt n cs t r hs).1
        have := ih r
        omega

/-! ## (e) -/

/-- **(e)** for every Unicode text that contains none of the excluded constructs: the parser model
returns a forest exactly when the reference reader does, and then it is the reference reader's
forest, encoded -/
theorem parseText_ok_iff (file : List UInt8) (text : List Char) (hadm : Admissible text = true)
    (forest : List Statement) :
    parseText file (encodeChars text) = .ok forest ↔
      ∃ ss, parse text = some ss ∧ forest = encStmts file ss := by
  unfold parseText
  rw [newLexer_enc]
  obtain ⟨t', ht'⟩ : ∃ t', t' = normText text := ⟨_, rfl⟩
  rw [← ht']
  have hR : R t' file (lexer0 file t') (srcOf t' file (t'.length + 1) t') :=
    Or.inl ⟨[], t', t'.length + 1, rfl, gnd_lexer0 file t', by rw [ht']; exact normText_endsNL text, Nat.le_refl _, rfl⟩
  rw [parseWith_sim (sim t' file) lexSource_mono ListSrc.mono _ _ _ hR forest]
  have hparse : parse t' = parse text := by rw [ht']; exact parse_norm text
  have hadm' : Admissible t' = true := by rw [ht', admissible_norm]; exact hadm
  rw [← hparse]
  have htok := tokensAux_scanAll t'.length (t'.length + 1) t'
  have hlen := scanAll_length t'.length (t'.length + 1) t'
  have hfuel : (scanAll t'.length (t'.length + 1) t').1.length + 2 ≤ parseFuel (encodeChars text).length := by
    unfold parseFuel
    have h1 := normText_length text
    rw [← ht'] at h1
    have h2 := encodeChars_length_ge text
    omega
  unfold srcOf
  cases hok : (scanAll t'.length (t'.length + 1) t').2 with
  | true =>
    rw [hok] at htok
    simp only [if_true] at htok ⊢
    have htz : tokenize t' = some (scanAll t'.length (t'.length + 1) t').1 := htok
    have hall : ∀ x ∈ (scanAll t'.length (t'.length + 1) t').1, okTok x := by
      intro x hx
      unfold Admissible at hadm'
      rw [htz] at hadm'
      simp only [List.all_eq_true, Bool.not_eq_eq_eq_not, Bool.not_true] at hadm'
      exact okTok_of_not_excluded t' x (hadm' x hx)
    rw [parse_list t' file _ none _ hfuel hall forest]
    unfold parse
    rw [htz]
    simp
  | false =>
    rw [hok] at htok
    simp only [Bool.false_eq_true, if_false] at htok ⊢
    have htz : tokenize t' = none := htok
    constructor
    · intro h; exact absurd h (parse_list_fail t' file _ dummyErr _ forest)
    · rintro ⟨ss, hss, _⟩
      unfold parse at hss
      rw [htz] at hss
      cases hss

end Goyang.Lemmas.Compose
