import Goyang.Model.Types
import Goyang.Spec.Types
/-
Helper lemmas for property C09 (Goyang/Props/C09.lean): the typedef lookup of the impl model is
sound for the binding relation of the specification; frame and monotonicity lemmas for the overlay
steps of `Type.resolve`.
-/
namespace Goyang.Lemmas.Types
open Goyang.Model Goyang.Model.Types Goyang.Spec.Types

/-! ## The dictionary of one statement -/

theorem kinds_agree (k : String) : typedeferKinds.contains k = scopeKinds.contains k := by
  simp only [typedeferKinds, scopeKinds, List.contains_cons, List.contains_nil, Bool.or_false]
  ac_rfl

theorem findIn_eq (n : Stmt) (name : String) : findIn n name = (declared n name).getLast? := by
  unfold findIn declared
  rw [kinds_agree]
  split
  · simp only [Stmt.all, List.filter_filter]
    congr 1
    apply List.filter_congr
    intro x _
    exact Bool.and_comm _ _
  · simp

theorem findIn_some {n : Stmt} {name : String} {td : Stmt} (h : findIn n name = some td) :
    td ∈ declared n name := by
  rw [findIn_eq] at h
  exact List.mem_of_getLast? h

theorem findIn_none {n : Stmt} {name : String} (h : findIn n name = none) : declared n name = [] := by
  rw [findIn_eq] at h
  exact List.getLast?_eq_none_iff.mp h

/-- A statement that cannot hold typedefs declares none. -/
theorem declared_of_not_scope {n : Stmt} {name : String} (h : scopeKinds.contains n.kw = false) :
    declared n name = [] := by
  unfold declared; rw [h]; simp

/-! ## The walk over the ancestors -/

theorem findInScope_some {root : Mod} {name : String} :
    ∀ {sc : List Stmt} {r : TdRef}, findInScope root name sc = some r →
      ∃ pre n up, sc = pre ++ n :: up ∧ (∀ x ∈ pre, declared x name = []) ∧
        r.td ∈ declared n name ∧ r.root = root ∧ r.scope = n :: up := by
  intro sc
  induction sc with
  | nil => intro r h; simp [findInScope] at h
  | cons n up ih =>
    intro r h
    unfold findInScope at h
    split at h
    · rename_i td htd
      cases h
      exact ⟨[], n, up, rfl, by simp, findIn_some htd, rfl, rfl⟩
    · rename_i hnone
      obtain ⟨pre, n', up', hsc, hpre, htd, hr, hs⟩ := ih h
      refine ⟨n :: pre, n', up', by rw [hsc]; rfl, ?_, htd, hr, hs⟩
      intro x hx
      cases hx with
      | head => exact findIn_none hnone
      | tail _ hx => exact hpre x hx

theorem findInScope_none {root : Mod} {name : String} :
    ∀ {sc : List Stmt}, findInScope root name sc = none → ∀ x ∈ sc, declared x name = [] := by
  intro sc
  induction sc with
  | nil => intro _ x hx; cases hx
  | cons n up ih =>
    intro h x hx
    unfold findInScope at h
    split at h
    · cases h
    · rename_i hnone
      cases hx with
      | head => exact findIn_none hnone
      | tail _ hx => exact ih h x hx

/-! ## The walk over a module and its submodules -/

theorem firstHit_found {α σ : Type} (f : α → σ → Lookup × σ) :
    ∀ (l : List α) (s s' : σ) (r : TdRef), firstHit f l s = (.found r, s') →
      ∃ a ∈ l, ∃ s1 s2, f a s1 = (.found r, s2) := by
  intro l
  induction l with
  | nil => intro s s' r h; simp [firstHit] at h
  | cons a rest ih =>
    intro s s' r h
    unfold firstHit at h
    split at h
    · rename_i s1 hfa
      obtain ⟨b, hb, s2, s3, hf⟩ := ih _ _ _ h
      exact ⟨b, List.mem_cons_of_mem _ hb, s2, s3, hf⟩
    · rename_i hne
      refine ⟨a, List.mem_cons_self, s, s', ?_⟩
      rw [← h]

theorem firstHit_found' {α σ : Type} (f : α → σ → Lookup × σ) (l : List α) (s : σ) (r : TdRef)
    (h : (firstHit f l s).1 = .found r) : ∃ a ∈ l, ∃ s1 s2, f a s1 = (.found r, s2) :=
  firstHit_found f l s (firstHit f l s).2 r (by rw [← h])

/-- A linked include target is what the registry resolves one of the include statements to. -/
theorem includeTargets_sub (env : Env) (m im : Mod) (h : im ∈ env.includeTargets m) :
    Includes env.reg m im := by
  unfold Env.includeTargets Identity.includeTargets at h
  unfold Includes includesOf
  rw [List.mem_filterMap] at h ⊢
  obtain ⟨⟨s, i⟩, hmem, hsome⟩ := h
  simp only at hsome
  refine ⟨s, ?_, ?_⟩
  · exact (List.mem_zipIdx hmem).2.2 ▸ List.getElem_mem _
  · split at hsome
    · exact hsome
    · cases hsome

theorem findInModule_sound (env : Env) (name : String) :
    ∀ (fuel : Nat) (m : Mod) (seen seen' : List Nat) (r : TdRef),
      findInModule env name fuel m seen = (.found r, seen') →
        IncludesStar env.reg m r.root ∧ r.td ∈ declared r.root.stmt name ∧ r.scope = [r.root.stmt] := by
  intro fuel
  induction fuel with
  | zero => intro m seen seen' r h; simp [findInModule] at h
  | succ fuel ih =>
    intro m seen seen' r h
    unfold findInModule at h
    split at h
    · simp at h
    · split at h
      · rename_i td htd
        simp only [Prod.mk.injEq, Lookup.found.injEq] at h
        obtain ⟨hr, _⟩ := h
        subst hr
        exact ⟨IncludesStar.refl _, findIn_some htd, rfl⟩
      · obtain ⟨im, him, s1, s2, hf⟩ := firstHit_found _ _ _ _ _ h
        obtain ⟨hstar, htd, hsc⟩ := ih im s1 s2 r hf
        exact ⟨IncludesStar.head (includeTargets_sub env m im him) hstar, htd, hsc⟩

theorem findInModule_sound' (env : Env) (name : String) (fuel : Nat) (m : Mod) (seen : List Nat) (r : TdRef)
    (h : (findInModule env name fuel m seen).1 = .found r) :
    IncludesStar env.reg m r.root ∧ r.td ∈ declared r.root.stmt name ∧ r.scope = [r.root.stmt] :=
  findInModule_sound env name fuel m seen (findInModule env name fuel m seen).2 r (by rw [← h])

theorem findLocalModules_sound (env : Env) (root : Mod) (name : String) (r : TdRef)
    (h : findLocalModules env root name = .found r) :
    InUnit env.reg root r.root ∧ r.td ∈ declared r.root.stmt name ∧ r.scope = [r.root.stmt] := by
  unfold findLocalModules at h
  simp only at h
  obtain ⟨m, hm, s1, s2, hf⟩ := firstHit_found' _ _ _ _ h
  obtain ⟨hstar, htd, hsc⟩ := findInModule_sound env name _ m s1 s2 r hf
  refine ⟨?_, htd, hsc⟩
  split at hm
  · rename_i b hb
    cases hm with
    | head => exact Or.inl hstar
    | tail _ hm =>
      have hm' : m ∈ (env.reg.getModule b).toList := hm
      rw [Option.mem_toList] at hm'
      exact Or.inr ⟨b, m, hb, hm', hstar⟩
  · cases hm with
    | head => exact Or.inl hstar
    | tail _ hm => cases hm

theorem lookup_typedef_cases {env : Env} {root : Mod} {scope : List Stmt} {t : Stmt} {src : Source} {r : TdRef}
    (h : lookup env root scope t = .typedef src r) :
    builtin? t.arg = none ∧
    ((((splitPrefix t.arg).1 == "" || root.getPrefix == (splitPrefix t.arg).1) = true ∧ src = .local_ ∧
        (findInScope root (splitPrefix t.arg).2 (t :: scope) = some r ∨
          findInScope root (splitPrefix t.arg).2 (t :: scope) = none ∧
            findLocalModules env root (splitPrefix t.arg).2 = .found r)) ∨
      (¬ ((splitPrefix t.arg).1 == "" || root.getPrefix == (splitPrefix t.arg).1) = true ∧ src = .imported ∧
        ∃ ext, env.reg.findModuleByPrefix root (splitPrefix t.arg).1 = some ext ∧
          (findInModule env (splitPrefix t.arg).2 env.modFuel ext []).1 = .found r)) := by
  unfold lookup at h
  split at h
  · cases h
  · rename_i hb
    refine ⟨hb, ?_⟩
    simp only at h
    split at h
    · rename_i hloc
      split at h
      · rename_i r' hfs
        cases h
        exact .inl ⟨hloc, rfl, .inl hfs⟩
      · rename_i hfs
        split at h
        · rename_i r' hfl
          cases h
          exact .inl ⟨hloc, rfl, .inr ⟨hfs, hfl⟩⟩
        · cases h
        · cases h
    · rename_i hloc
      split at h
      · cases h
      · rename_i ext hext
        split at h
        · rename_i r' hfm
          cases h
          exact .inr ⟨hloc, rfl, ext, hext, hfm⟩
        · cases h
        · cases h

theorem lookup_error_cases {env : Env} {root : Mod} {scope : List Stmt} {t : Stmt} {e : Err}
    (h : lookup env root scope t = .error e) :
    (((splitPrefix t.arg).1 == "" || root.getPrefix == (splitPrefix t.arg).1) = true ∧
      findInScope root (splitPrefix t.arg).2 (t :: scope) = none ∧
      (findLocalModules env root (splitPrefix t.arg).2 = .notFound ∧ e = Err.at_ t "unknown-type" ∨
        findLocalModules env root (splitPrefix t.arg).2 = .outOfFuel ∧ e = Err.at_ t "out-of-fuel")) ∨
    (¬ ((splitPrefix t.arg).1 == "" || root.getPrefix == (splitPrefix t.arg).1) = true ∧
      (env.reg.findModuleByPrefix root (splitPrefix t.arg).1 = none ∧ e = Err.at_ t "unknown-prefix" ∨
        ∃ ext, env.reg.findModuleByPrefix root (splitPrefix t.arg).1 = some ext ∧
          ((findInModule env (splitPrefix t.arg).2 env.modFuel ext []).1 = .notFound ∧ e = Err.at_ t "unknown-type" ∨
            (findInModule env (splitPrefix t.arg).2 env.modFuel ext []).1 = .outOfFuel ∧ e = Err.at_ t "out-of-fuel"))) := by
  unfold lookup at h
  split at h
  · cases h
  · simp only at h
    split at h
    · rename_i hloc
      split at h
      · cases h
      · rename_i hfs
        split at h
        · cases h
        · rename_i hfl
          cases h
          exact .inl ⟨hloc, hfs, .inl ⟨hfl, rfl⟩⟩
        · rename_i hfl
          cases h
          exact .inl ⟨hloc, hfs, .inr ⟨hfl, rfl⟩⟩
    · rename_i hloc
      split at h
      · rename_i hext
        cases h
        exact .inr ⟨hloc, .inl ⟨hext, rfl⟩⟩
      · rename_i ext hext
        split at h
        · cases h
        · rename_i hfm
          cases h
          exact .inr ⟨hloc, .inr ⟨ext, hext, .inl ⟨hfm, rfl⟩⟩⟩
        · rename_i hfm
          cases h
          exact .inr ⟨hloc, .inr ⟨ext, hext, .inr ⟨hfm, rfl⟩⟩⟩

/-! ## Built-in names -/

theorem builtin_names (n : String) : n ∈ builtinTable.map (·.1) ↔ n ∈ builtinNames := by
  have h1 : ∀ n ∈ builtinTable.map (·.1), n ∈ builtinNames := by decide +kernel
  have h2 : ∀ n ∈ builtinNames, n ∈ builtinTable.map (·.1) := by decide +kernel
  exact ⟨h1 n, h2 n⟩

theorem builtin_agree (n : String) : (builtin? n).isSome = builtinNames.contains n := by
  rw [Bool.eq_iff_iff, List.contains_iff_mem, ← builtin_names]
  simp [builtin?, List.find?_isSome]

theorem builtin_none {n : String} (h : builtin? n = none) : builtinNames.contains n = false := by
  rw [← builtin_agree, h]; rfl

theorem builtin_some {n : String} {y : YType} (h : builtin? n = some y) : builtinNames.contains n = true := by
  rw [← builtin_agree, h]; rfl

/-- The YangType of a built-in: its own root, named and of the kind of the built-in. -/
theorem builtin_shape {n : String} {y : YType} (h : builtin? n = some y) :
    y.name = n ∧ y.kind = n ∧ y.root = none ∧ y.units = "" ∧ y.hasDefault = false ∧ y.default = "" ∧
    y.path = "" ∧ y.pattern = [] ∧ y.enum = none ∧ y.bit = none ∧ y.members = [] ∧ y.fractionDigits = 0 := by
  unfold builtin? at h
  rw [Option.map_eq_some_iff] at h
  obtain ⟨⟨n', r⟩, hf, hy⟩ := h
  have hn : n' = n := by
    have := List.find?_some hf
    simpa using this
  subst hy
  subst hn
  exact ⟨rfl, rfl, rfl, rfl, rfl, rfl, rfl, rfl, rfl, rfl, rfl, rfl⟩

/-! ## Errors of the overlays -/

theorem mem_appendNewErrs (x : Err) : ∀ (new have_ : List Err),
    x ∈ appendNewErrs have_ new ↔ x ∈ have_ ∨ x ∈ new := by
  intro new
  induction new with
  | nil => intro have_; simp [appendNewErrs]
  | cons q rest ih =>
    intro have_
    unfold appendNewErrs
    split
    · rename_i hc
      have hq : q ∈ have_ := by
        obtain ⟨o, ho, hoq⟩ := List.any_eq_true.mp hc
        exact (of_decide_eq_true hoq) ▸ ho
      rw [ih]
      constructor
      · rintro (h | h)
        · exact Or.inl h
        · exact Or.inr (List.mem_cons_of_mem _ h)
      · rintro (h | h)
        · exact Or.inl h
        · cases h with
          | head => exact Or.inl hq
          | tail _ h => exact Or.inr h
    · rw [ih]
      simp only [List.mem_append, List.mem_cons, List.not_mem_nil, or_false]
      exact or_assoc

theorem appendNewErrs_eq_nil {have_ new : List Err} (h : appendNewErrs have_ new = []) : have_ = [] ∧ new = [] := by
  constructor
  · cases hq : have_ with
    | nil => rfl
    | cons a l =>
      have : a ∈ appendNewErrs have_ new := (mem_appendNewErrs a new have_).mpr (Or.inl (by rw [hq]; exact List.mem_cons_self))
      rw [h] at this; cases this
  · cases hq : new with
    | nil => rfl
    | cons a l =>
      have : a ∈ appendNewErrs have_ new := (mem_appendNewErrs a new have_).mpr (Or.inr (by rw [hq]; exact List.mem_cons_self))
      rw [h] at this; cases this

theorem flatMap_errs_nil {members : List Res} (h : members.flatMap (·.errs) = []) :
    ∀ r ∈ members, r.errs = [] := by
  intro r hr
  rw [List.flatMap_eq_nil_iff] at h
  exact h r hr

/-- An error-free `Type.resolve` got as far as its member types, and they are error-free. -/
theorem overlayType_errs_nil {env : Env} {root : Mod} {t : Stmt} {src : Source} {tdY : YType}
    {members : List Res} (h : (overlayType env root t src tdY members).errs = []) :
    ∀ r ∈ members, r.errs = [] := by
  unfold overlayType at h
  simp only at h
  split at h
  · simp at h
  · split at h
    · simp at h
    · simp only [stepMembers] at h
      exact flatMap_errs_nil (appendNewErrs_eq_nil h).2

/-- The keyword of a statement picked by `one?` / `all`. -/
theorem kw_of_one {s : Stmt} {k : String} {c : Stmt} (h : s.one? k = some c) : c.kw = k := by
  unfold Stmt.one? at h
  have := List.find?_some h
  simpa using this

theorem kw_of_all {s : Stmt} {k : String} {c : Stmt} (h : c ∈ s.all k) : c.kw = k := by
  unfold Stmt.all at h
  have := (List.mem_filter.mp h).2
  simpa using this

theorem type_not_scope {c : Stmt} (h : c.kw = "type") : scopeKinds.contains c.kw = false := by
  rw [h]; decide

/-! ## Frame lemmas: what each overlay step leaves alone

Each step changes one or a few fields of the type under construction; `…_keeps` lists the others, for
`simp` (which takes the conjuncts one by one).  A field that has a lemma of its own below is not repeated
in `…_keeps`. -/

@[simp] theorem stepRequireInstance_keeps (t : Stmt) (s : St) :
    (stepRequireInstance t s).1.kind = s.1.kind ∧
    (stepRequireInstance t s).1.units = s.1.units ∧
    (stepRequireInstance t s).1.default = s.1.default ∧
    (stepRequireInstance t s).1.hasDefault = s.1.hasDefault ∧
    (stepRequireInstance t s).1.fractionDigits = s.1.fractionDigits ∧
    (stepRequireInstance t s).1.path = s.1.path ∧
    (stepRequireInstance t s).1.pattern = s.1.pattern ∧
    (stepRequireInstance t s).1.enum = s.1.enum ∧
    (stepRequireInstance t s).1.bit = s.1.bit ∧
    (stepRequireInstance t s).1.members = s.1.members ∧
    (stepRequireInstance t s).1.range = s.1.range ∧
    (stepRequireInstance t s).1.length = s.1.length := by
  fun_cases stepRequireInstance t s <;> exact ⟨rfl, rfl, rfl, rfl, rfl, rfl, rfl, rfl, rfl, rfl, rfl, rfl⟩
@[simp] theorem stepRequireInstance_name (t : Stmt) (s : St) : (stepRequireInstance t s).1.name = s.1.name := by
  fun_cases stepRequireInstance t s <;> rfl
@[simp] theorem stepRequireInstance_identityBase (t : Stmt) (s : St) : (stepRequireInstance t s).1.identityBase = s.1.identityBase := by
  fun_cases stepRequireInstance t s <;> rfl
@[simp] theorem stepRequireInstance_posixPattern (t : Stmt) (s : St) : (stepRequireInstance t s).1.posixPattern = s.1.posixPattern := by
  fun_cases stepRequireInstance t s <;> rfl

@[simp] theorem stepPath_keeps (t : Stmt) (s : St) :
    (stepPath t s).1.kind = s.1.kind ∧
    (stepPath t s).1.units = s.1.units ∧
    (stepPath t s).1.default = s.1.default ∧
    (stepPath t s).1.hasDefault = s.1.hasDefault ∧
    (stepPath t s).1.fractionDigits = s.1.fractionDigits ∧
    (stepPath t s).1.pattern = s.1.pattern ∧
    (stepPath t s).1.enum = s.1.enum ∧
    (stepPath t s).1.bit = s.1.bit ∧
    (stepPath t s).1.members = s.1.members ∧
    (stepPath t s).1.range = s.1.range ∧
    (stepPath t s).1.length = s.1.length := by
  fun_cases stepPath t s <;> exact ⟨rfl, rfl, rfl, rfl, rfl, rfl, rfl, rfl, rfl, rfl, rfl⟩
@[simp] theorem stepPath_name (t : Stmt) (s : St) : (stepPath t s).1.name = s.1.name := by
  fun_cases stepPath t s <;> rfl
@[simp] theorem stepPath_identityBase (t : Stmt) (s : St) : (stepPath t s).1.identityBase = s.1.identityBase := by
  fun_cases stepPath t s <;> rfl
@[simp] theorem stepPath_posixPattern (t : Stmt) (s : St) : (stepPath t s).1.posixPattern = s.1.posixPattern := by
  fun_cases stepPath t s <;> rfl
@[simp] theorem stepPath_optionalInstance (t : Stmt) (s : St) : (stepPath t s).1.optionalInstance = s.1.optionalInstance := by
  fun_cases stepPath t s <;> rfl

@[simp] theorem stepKind_keeps (env : Env) (root : Mod) (t : Stmt) (src : Source) (dec : Bool) (s : St) :
    (stepKind env root t src dec s).1.name = s.1.name ∧
    (stepKind env root t src dec s).1.kind = s.1.kind ∧
    (stepKind env root t src dec s).1.units = s.1.units ∧
    (stepKind env root t src dec s).1.default = s.1.default ∧
    (stepKind env root t src dec s).1.hasDefault = s.1.hasDefault ∧
    (stepKind env root t src dec s).1.path = s.1.path ∧
    (stepKind env root t src dec s).1.pattern = s.1.pattern ∧
    (stepKind env root t src dec s).1.enum = s.1.enum ∧
    (stepKind env root t src dec s).1.bit = s.1.bit ∧
    (stepKind env root t src dec s).1.members = s.1.members ∧
    (stepKind env root t src dec s).1.posixPattern = s.1.posixPattern ∧
    (stepKind env root t src dec s).1.optionalInstance = s.1.optionalInstance := by
  fun_cases stepKind env root t src dec s <;> exact ⟨rfl, rfl, rfl, rfl, rfl, rfl, rfl, rfl, rfl, rfl, rfl, rfl⟩
@[simp] theorem stepKind_length (env : Env) (root : Mod) (t : Stmt) (src : Source) (dec : Bool) (s : St) : (stepKind env root t src dec s).1.length = s.1.length := by
  fun_cases stepKind env root t src dec s <;> rfl

@[simp] theorem stepRange_keeps (t : Stmt) (dec : Bool) (s : St) :
    (stepRange t dec s).1.name = s.1.name ∧
    (stepRange t dec s).1.kind = s.1.kind ∧
    (stepRange t dec s).1.units = s.1.units ∧
    (stepRange t dec s).1.default = s.1.default ∧
    (stepRange t dec s).1.hasDefault = s.1.hasDefault ∧
    (stepRange t dec s).1.fractionDigits = s.1.fractionDigits ∧
    (stepRange t dec s).1.path = s.1.path ∧
    (stepRange t dec s).1.pattern = s.1.pattern ∧
    (stepRange t dec s).1.enum = s.1.enum ∧
    (stepRange t dec s).1.bit = s.1.bit ∧
    (stepRange t dec s).1.members = s.1.members ∧
    (stepRange t dec s).1.identityBase = s.1.identityBase ∧
    (stepRange t dec s).1.posixPattern = s.1.posixPattern ∧
    (stepRange t dec s).1.optionalInstance = s.1.optionalInstance := by
  fun_cases stepRange t dec s <;> exact ⟨rfl, rfl, rfl, rfl, rfl, rfl, rfl, rfl, rfl, rfl, rfl, rfl, rfl, rfl⟩
@[simp] theorem stepRange_length (t : Stmt) (dec : Bool) (s : St) : (stepRange t dec s).1.length = s.1.length := by
  fun_cases stepRange t dec s <;> rfl

@[simp] theorem stepLength_keeps (t : Stmt) (s : St) :
    (stepLength t s).1.name = s.1.name ∧
    (stepLength t s).1.kind = s.1.kind ∧
    (stepLength t s).1.units = s.1.units ∧
    (stepLength t s).1.default = s.1.default ∧
    (stepLength t s).1.hasDefault = s.1.hasDefault ∧
    (stepLength t s).1.fractionDigits = s.1.fractionDigits ∧
    (stepLength t s).1.path = s.1.path ∧
    (stepLength t s).1.pattern = s.1.pattern ∧
    (stepLength t s).1.enum = s.1.enum ∧
    (stepLength t s).1.bit = s.1.bit ∧
    (stepLength t s).1.members = s.1.members ∧
    (stepLength t s).1.identityBase = s.1.identityBase ∧
    (stepLength t s).1.posixPattern = s.1.posixPattern ∧
    (stepLength t s).1.range = s.1.range ∧
    (stepLength t s).1.optionalInstance = s.1.optionalInstance := by
  fun_cases stepLength t s <;> exact ⟨rfl, rfl, rfl, rfl, rfl, rfl, rfl, rfl, rfl, rfl, rfl, rfl, rfl, rfl, rfl⟩

@[simp] theorem stepEnum_keeps (t : Stmt) (s : St) :
    (stepEnum t s).1.name = s.1.name ∧
    (stepEnum t s).1.kind = s.1.kind ∧
    (stepEnum t s).1.units = s.1.units ∧
    (stepEnum t s).1.default = s.1.default ∧
    (stepEnum t s).1.hasDefault = s.1.hasDefault ∧
    (stepEnum t s).1.fractionDigits = s.1.fractionDigits ∧
    (stepEnum t s).1.path = s.1.path ∧
    (stepEnum t s).1.pattern = s.1.pattern ∧
    (stepEnum t s).1.bit = s.1.bit ∧
    (stepEnum t s).1.members = s.1.members ∧
    (stepEnum t s).1.identityBase = s.1.identityBase ∧
    (stepEnum t s).1.posixPattern = s.1.posixPattern ∧
    (stepEnum t s).1.range = s.1.range ∧
    (stepEnum t s).1.length = s.1.length ∧
    (stepEnum t s).1.optionalInstance = s.1.optionalInstance := by
  fun_cases stepEnum t s <;> exact ⟨rfl, rfl, rfl, rfl, rfl, rfl, rfl, rfl, rfl, rfl, rfl, rfl, rfl, rfl, rfl⟩

@[simp] theorem stepBit_keeps (t : Stmt) (s : St) :
    (stepBit t s).1.name = s.1.name ∧
    (stepBit t s).1.kind = s.1.kind ∧
    (stepBit t s).1.units = s.1.units ∧
    (stepBit t s).1.default = s.1.default ∧
    (stepBit t s).1.hasDefault = s.1.hasDefault ∧
    (stepBit t s).1.fractionDigits = s.1.fractionDigits ∧
    (stepBit t s).1.path = s.1.path ∧
    (stepBit t s).1.pattern = s.1.pattern ∧
    (stepBit t s).1.enum = s.1.enum ∧
    (stepBit t s).1.members = s.1.members ∧
    (stepBit t s).1.identityBase = s.1.identityBase ∧
    (stepBit t s).1.posixPattern = s.1.posixPattern ∧
    (stepBit t s).1.range = s.1.range ∧
    (stepBit t s).1.length = s.1.length ∧
    (stepBit t s).1.optionalInstance = s.1.optionalInstance := by
  fun_cases stepBit t s <;> exact ⟨rfl, rfl, rfl, rfl, rfl, rfl, rfl, rfl, rfl, rfl, rfl, rfl, rfl, rfl, rfl⟩

@[simp] theorem stepPattern_keeps (t : Stmt) (s : St) :
    (stepPattern t s).1.name = s.1.name ∧
    (stepPattern t s).1.kind = s.1.kind ∧
    (stepPattern t s).1.units = s.1.units ∧
    (stepPattern t s).1.default = s.1.default ∧
    (stepPattern t s).1.hasDefault = s.1.hasDefault ∧
    (stepPattern t s).1.fractionDigits = s.1.fractionDigits ∧
    (stepPattern t s).1.path = s.1.path ∧
    (stepPattern t s).1.enum = s.1.enum ∧
    (stepPattern t s).1.bit = s.1.bit ∧
    (stepPattern t s).1.members = s.1.members ∧
    (stepPattern t s).1.identityBase = s.1.identityBase ∧
    (stepPattern t s).1.range = s.1.range ∧
    (stepPattern t s).1.length = s.1.length ∧
    (stepPattern t s).1.optionalInstance = s.1.optionalInstance :=
  ⟨rfl, rfl, rfl, rfl, rfl, rfl, rfl, rfl, rfl, rfl, rfl, rfl, rfl, rfl⟩
@[simp] theorem stepPattern_posixPattern (t : Stmt) (s : St) : (stepPattern t s).1.posixPattern = s.1.posixPattern := rfl

@[simp] theorem stepPosix_keeps (env : Env) (pps : List Stmt) (s : St) :
    (stepPosix env pps s).1.name = s.1.name ∧
    (stepPosix env pps s).1.kind = s.1.kind ∧
    (stepPosix env pps s).1.units = s.1.units ∧
    (stepPosix env pps s).1.default = s.1.default ∧
    (stepPosix env pps s).1.hasDefault = s.1.hasDefault ∧
    (stepPosix env pps s).1.fractionDigits = s.1.fractionDigits ∧
    (stepPosix env pps s).1.path = s.1.path ∧
    (stepPosix env pps s).1.pattern = s.1.pattern ∧
    (stepPosix env pps s).1.enum = s.1.enum ∧
    (stepPosix env pps s).1.bit = s.1.bit ∧
    (stepPosix env pps s).1.members = s.1.members ∧
    (stepPosix env pps s).1.identityBase = s.1.identityBase ∧
    (stepPosix env pps s).1.range = s.1.range ∧
    (stepPosix env pps s).1.length = s.1.length ∧
    (stepPosix env pps s).1.optionalInstance = s.1.optionalInstance :=
  ⟨rfl, rfl, rfl, rfl, rfl, rfl, rfl, rfl, rfl, rfl, rfl, rfl, rfl, rfl, rfl⟩

@[simp] theorem stepMembers_keeps (ms : List Res) (s : St) :
    (stepMembers ms s).1.kind = s.1.kind ∧
    (stepMembers ms s).1.units = s.1.units ∧
    (stepMembers ms s).1.default = s.1.default ∧
    (stepMembers ms s).1.hasDefault = s.1.hasDefault ∧
    (stepMembers ms s).1.fractionDigits = s.1.fractionDigits ∧
    (stepMembers ms s).1.path = s.1.path ∧
    (stepMembers ms s).1.pattern = s.1.pattern ∧
    (stepMembers ms s).1.enum = s.1.enum ∧
    (stepMembers ms s).1.bit = s.1.bit ∧
    (stepMembers ms s).1.range = s.1.range ∧
    (stepMembers ms s).1.length = s.1.length :=
  ⟨rfl, rfl, rfl, rfl, rfl, rfl, rfl, rfl, rfl, rfl, rfl⟩
@[simp] theorem stepMembers_name (ms : List Res) (s : St) : (stepMembers ms s).1.name = s.1.name := rfl
@[simp] theorem stepMembers_identityBase (ms : List Res) (s : St) : (stepMembers ms s).1.identityBase = s.1.identityBase := rfl
@[simp] theorem stepMembers_posixPattern (ms : List Res) (s : St) : (stepMembers ms s).1.posixPattern = s.1.posixPattern := rfl
@[simp] theorem stepMembers_optionalInstance (ms : List Res) (s : St) : (stepMembers ms s).1.optionalInstance = s.1.optionalInstance := rfl

@[simp] theorem fixRoot_keeps (y : YType) :
    (fixRoot y).kind = y.kind ∧
    (fixRoot y).units = y.units ∧
    (fixRoot y).default = y.default ∧
    (fixRoot y).hasDefault = y.hasDefault ∧
    (fixRoot y).fractionDigits = y.fractionDigits ∧
    (fixRoot y).path = y.path ∧
    (fixRoot y).pattern = y.pattern ∧
    (fixRoot y).enum = y.enum ∧
    (fixRoot y).bit = y.bit ∧
    (fixRoot y).members = y.members ∧
    (fixRoot y).range = y.range ∧
    (fixRoot y).length = y.length := by
  fun_cases fixRoot y <;> exact ⟨rfl, rfl, rfl, rfl, rfl, rfl, rfl, rfl, rfl, rfl, rfl, rfl⟩
@[simp] theorem fixRoot_name (y : YType) : (fixRoot y).name = y.name := by
  fun_cases fixRoot y <;> rfl
@[simp] theorem fixRoot_identityBase (y : YType) : (fixRoot y).identityBase = y.identityBase := by
  fun_cases fixRoot y <;> rfl
@[simp] theorem fixRoot_posixPattern (y : YType) : (fixRoot y).posixPattern = y.posixPattern := by
  fun_cases fixRoot y <;> rfl
@[simp] theorem fixRoot_optionalInstance (y : YType) : (fixRoot y).optionalInstance = y.optionalInstance := by
  fun_cases fixRoot y <;> rfl
@[simp] theorem copyOf_name (y : YType) : y.copyOf.name = y.name := rfl
@[simp] theorem copyOf_kind (y : YType) : y.copyOf.kind = y.kind := rfl
@[simp] theorem copyOf_units (y : YType) : y.copyOf.units = y.units := rfl
@[simp] theorem copyOf_default (y : YType) : y.copyOf.default = y.default := rfl
@[simp] theorem copyOf_hasDefault (y : YType) : y.copyOf.hasDefault = y.hasDefault := rfl
@[simp] theorem copyOf_fractionDigits (y : YType) : y.copyOf.fractionDigits = y.fractionDigits := rfl
@[simp] theorem copyOf_path (y : YType) : y.copyOf.path = y.path := rfl
@[simp] theorem copyOf_pattern (y : YType) : y.copyOf.pattern = y.pattern := rfl
@[simp] theorem copyOf_enum (y : YType) : y.copyOf.enum = y.enum := rfl
@[simp] theorem copyOf_bit (y : YType) : y.copyOf.bit = y.bit := rfl
@[simp] theorem copyOf_members (y : YType) : y.copyOf.members = y.members := rfl
@[simp] theorem copyOf_identityBase (y : YType) : y.copyOf.identityBase = y.identityBase := rfl
@[simp] theorem copyOf_posixPattern (y : YType) : y.copyOf.posixPattern = y.posixPattern := rfl
@[simp] theorem copyOf_range (y : YType) : y.copyOf.range = y.range := rfl
@[simp] theorem copyOf_length (y : YType) : y.copyOf.length = y.length := rfl
@[simp] theorem copyOf_optionalInstance (y : YType) : y.copyOf.optionalInstance = y.optionalInstance := rfl

/-! ## Errors only grow -/

theorem errs_nil_of_append {l b : List Err} (h : l ++ b = []) : l = [] := (List.append_eq_nil_iff.mp h).1

theorem stepRequireInstance_errs_nil {t : Stmt} {s : St} (h : (stepRequireInstance t s).2 = []) : s.2 = [] := by
  revert h
  fun_cases stepRequireInstance t s
  all_goals first | exact id | exact errs_nil_of_append
theorem stepPath_errs (t : Stmt) (s : St) : (stepPath t s).2 = s.2 := by
  unfold stepPath; repeat' (first | rfl | split)
theorem stepKind_errs_nil {env : Env} {root : Mod} {t : Stmt} {src : Source} {dec : Bool} {s : St}
    (h : (stepKind env root t src dec s).2 = []) : s.2 = [] := by
  revert h
  fun_cases stepKind env root t src dec s
  all_goals first | exact id | exact errs_nil_of_append
theorem stepRange_errs_nil {t : Stmt} {dec : Bool} {s : St} (h : (stepRange t dec s).2 = []) : s.2 = [] := by
  revert h
  fun_cases stepRange t dec s
  all_goals first | exact id | exact errs_nil_of_append
theorem stepLength_errs_nil {t : Stmt} {s : St} (h : (stepLength t s).2 = []) : s.2 = [] := by
  revert h
  fun_cases stepLength t s
  all_goals first | exact id | exact errs_nil_of_append
theorem stepEnum_errs_nil {t : Stmt} {s : St} (h : (stepEnum t s).2 = []) : s.2 = [] := by
  unfold stepEnum at h
  split at h
  · exact h
  · exact (List.append_eq_nil_iff.mp h).1
theorem stepBit_errs_nil {t : Stmt} {s : St} (h : (stepBit t s).2 = []) : s.2 = [] := by
  unfold stepBit at h
  split at h
  · exact h
  · exact (List.append_eq_nil_iff.mp h).1
theorem stepPattern_errs (t : Stmt) (s : St) : (stepPattern t s).2 = s.2 := rfl
theorem stepPosix_errs_nil {env : Env} {pps : List Stmt} {s : St} (h : (stepPosix env pps s).2 = []) : s.2 = [] :=
  (List.append_eq_nil_iff.mp h).1
theorem stepMembers_errs_nil {ms : List Res} {s : St} (h : (stepMembers ms s).2 = []) : s.2 = [] :=
  (appendNewErrs_eq_nil h).1

/-- The state after the kind switch, in an error-free overlay. -/
theorem overlayLocal_errs_nil {env : Env} {root : Mod} {t : Stmt} {src : Source} {tdY : YType} {s : St}
    (h : (overlayLocal env root t src tdY s).2 = []) :
    (stepKind env root t src (isDecimal64 t tdY) s).2 = [] := by
  unfold overlayLocal at h
  simp only [] at h
  rw [stepPattern_errs] at h
  exact stepRange_errs_nil (stepLength_errs_nil (stepEnum_errs_nil (stepBit_errs_nil h)))

/-! ## The shape of an error-free overlay -/

/-- The state `Type.resolve` starts its kind switch with. -/
def startSt (t : Stmt) (tdY : YType) : St := stepPath t (stepRequireInstance t (tdY.copyOf, []))

theorem overlayType_ok {env : Env} {root : Mod} {t : Stmt} {src : Source} {tdY : YType} {ms : List Res} {y : YType}
    (h : overlayType env root t src tdY ms = { ty := some y, errs := [] }) :
    ¬ ((isDecimal64 t tdY && tdY.fractionDigits != 0 && (t.one? "fraction-digits").isSome) = true) ∧
    ∃ pps, posixPatterns env root t = some pps ∧
      y = fixRoot (stepMembers ms (stepPosix env pps (overlayLocal env root t src tdY (startSt t tdY)))).1 ∧
      (stepMembers ms (stepPosix env pps (overlayLocal env root t src tdY (startSt t tdY)))).2 = [] := by
  unfold overlayType at h
  simp only [] at h
  split at h
  · simp at h
  · rename_i hc
    refine ⟨hc, ?_⟩
    split at h
    · simp at h
    · rename_i pps hp
      simp only [Res.mk.injEq, Option.some.injEq] at h
      exact ⟨pps, hp, h.1.symm, h.2⟩

/-! ## What the overlay steps set -/

theorem stepPath_path (t : Stmt) (s : St) :
    (stepPath t s).1.path = ((t.argOf? "path").getD s.1.path) := by
  unfold stepPath Stmt.argOf?
  split <;> rename_i h <;> simp [h]

theorem stepEnum_enum (t : Stmt) (s : St) :
    (stepEnum t s).1.enum =
      if (t.all "enum").isEmpty then s.1.enum else some (enumFold newEnum "value" (t.all "enum")).1 := by
  unfold stepEnum
  split <;> rename_i h
  · simp [h]
  · cases hq : t.all "enum" with
    | nil => exact absurd hq (by simpa using h)
    | cons a l => simp

theorem stepBit_bit (t : Stmt) (s : St) :
    (stepBit t s).1.bit =
      if (t.all "bit").isEmpty then s.1.bit else some (enumFold newBits "position" (t.all "bit")).1 := by
  unfold stepBit
  split <;> rename_i h
  · simp [h]
  · cases hq : t.all "bit" with
    | nil => exact absurd hq (by simpa using h)
    | cons a l => simp

theorem mem_appendNew (p : String) : ∀ (new have_ : List String),
    p ∈ appendNew have_ new ↔ p ∈ have_ ∨ p ∈ new := by
  intro new
  induction new with
  | nil => intro have_; simp [appendNew]
  | cons q rest ih =>
    intro have_
    unfold appendNew
    split
    · rename_i hc
      rw [ih]
      have hq : q ∈ have_ := by simpa using hc
      constructor
      · rintro (h | h)
        · exact Or.inl h
        · exact Or.inr (List.mem_cons_of_mem _ h)
      · rintro (h | h)
        · exact Or.inl h
        · cases h with
          | head => exact Or.inl hq
          | tail _ h => exact Or.inr h
    · rw [ih]
      simp only [List.mem_append, List.mem_cons, List.not_mem_nil, or_false]
      exact or_assoc

/-- How a fraction-digits argument is read: `asRangeInt(1, 18)` (0 when it is rejected). -/
def parseFd (f : Stmt) : Nat :=
  match Number.asRangeInt (some (bytesOf f.arg)) 1 18 with
  | .ok i => i.toNat
  | .error _ => 0

/-- fraction-digits in an error-free kind switch: a statement is only accepted on a direct
decimal64, a derived type keeps what it inherits. -/
theorem stepKind_fd {env : Env} {root : Mod} {t : Stmt} {src : Source} {dec : Bool} {s : St}
    (h : (stepKind env root t src dec s).2 = [])
    (hc : ¬ ((dec && s.1.fractionDigits != 0 && (t.one? "fraction-digits").isSome) = true)) :
    (stepKind env root t src dec s).1.fractionDigits =
      match t.one? "fraction-digits" with
      | some f => parseFd f
      | none => s.1.fractionDigits := by
  revert h
  fun_cases stepKind env root t src dec s with
  | case1 h1 =>
    intro _
    cases hfd : t.one? "fraction-digits" with
    | none => rfl
    | some f => rw [hfd] at hc; simp [h1] at hc
  | case2 fd _ _ i hi =>
    intro _
    cases hfd : t.one? "fraction-digits" with
    | none => simp [fd, hfd, Number.asRangeInt] at hi
    | some f => simp only [fd, hfd, Option.map_some] at hi; simp only [parseFd, hi]
  | case3 =>
    intro h
    simp at h
  | case4 =>
    intro h
    simp at h
  | case5 fd _ _ h3 | case6 fd _ _ h3 | case7 fd _ _ h3 | case8 fd _ _ h3 | case9 fd _ _ h3 =>
    intro _
    rw [show t.one? "fraction-digits" = none from Option.not_isSome_iff_eq_none.mp h3]

/-! ## Typedef.resolve -/

@[simp] theorem tdCopy_keeps (td : Stmt) (y : YType) :
    (tdCopy td y).kind = y.kind ∧
    (tdCopy td y).units = y.units ∧
    (tdCopy td y).default = y.default ∧
    (tdCopy td y).hasDefault = y.hasDefault ∧
    (tdCopy td y).fractionDigits = y.fractionDigits ∧
    (tdCopy td y).path = y.path ∧
    (tdCopy td y).pattern = y.pattern ∧
    (tdCopy td y).enum = y.enum ∧
    (tdCopy td y).bit = y.bit ∧
    (tdCopy td y).members = y.members ∧
    (tdCopy td y).posixPattern = y.posixPattern ∧
    (tdCopy td y).range = y.range ∧
    (tdCopy td y).length = y.length ∧
    (tdCopy td y).optionalInstance = y.optionalInstance :=
  ⟨rfl, rfl, rfl, rfl, rfl, rfl, rfl, rfl, rfl, rfl, rfl, rfl, rfl, rfl⟩
@[simp] theorem tdCopy_identityBase (td : Stmt) (y : YType) : (tdCopy td y).identityBase = y.identityBase := rfl

@[simp] theorem tdUnits_keeps (td : Stmt) (y : YType) :
    (tdUnits td y).name = y.name ∧
    (tdUnits td y).kind = y.kind ∧
    (tdUnits td y).default = y.default ∧
    (tdUnits td y).hasDefault = y.hasDefault ∧
    (tdUnits td y).fractionDigits = y.fractionDigits ∧
    (tdUnits td y).path = y.path ∧
    (tdUnits td y).pattern = y.pattern ∧
    (tdUnits td y).enum = y.enum ∧
    (tdUnits td y).bit = y.bit ∧
    (tdUnits td y).members = y.members ∧
    (tdUnits td y).posixPattern = y.posixPattern ∧
    (tdUnits td y).range = y.range ∧
    (tdUnits td y).length = y.length ∧
    (tdUnits td y).optionalInstance = y.optionalInstance := by
  fun_cases tdUnits td y <;> exact ⟨rfl, rfl, rfl, rfl, rfl, rfl, rfl, rfl, rfl, rfl, rfl, rfl, rfl, rfl⟩
@[simp] theorem tdUnits_identityBase (td : Stmt) (y : YType) : (tdUnits td y).identityBase = y.identityBase := by
  fun_cases tdUnits td y <;> rfl

@[simp] theorem tdDefault_keeps (td : Stmt) (y : YType) :
    (tdDefault td y).name = y.name ∧
    (tdDefault td y).kind = y.kind ∧
    (tdDefault td y).units = y.units ∧
    (tdDefault td y).fractionDigits = y.fractionDigits ∧
    (tdDefault td y).path = y.path ∧
    (tdDefault td y).pattern = y.pattern ∧
    (tdDefault td y).enum = y.enum ∧
    (tdDefault td y).bit = y.bit ∧
    (tdDefault td y).members = y.members ∧
    (tdDefault td y).posixPattern = y.posixPattern ∧
    (tdDefault td y).range = y.range ∧
    (tdDefault td y).length = y.length ∧
    (tdDefault td y).optionalInstance = y.optionalInstance := by
  fun_cases tdDefault td y <;> exact ⟨rfl, rfl, rfl, rfl, rfl, rfl, rfl, rfl, rfl, rfl, rfl, rfl, rfl⟩
@[simp] theorem tdDefault_identityBase (td : Stmt) (y : YType) : (tdDefault td y).identityBase = y.identityBase := by
  fun_cases tdDefault td y <;> rfl

@[simp] theorem tdRoot_keeps (ty y : YType) :
    (tdRoot ty y).name = y.name ∧
    (tdRoot ty y).kind = y.kind ∧
    (tdRoot ty y).units = y.units ∧
    (tdRoot ty y).default = y.default ∧
    (tdRoot ty y).hasDefault = y.hasDefault ∧
    (tdRoot ty y).fractionDigits = y.fractionDigits ∧
    (tdRoot ty y).path = y.path ∧
    (tdRoot ty y).pattern = y.pattern ∧
    (tdRoot ty y).enum = y.enum ∧
    (tdRoot ty y).bit = y.bit ∧
    (tdRoot ty y).members = y.members ∧
    (tdRoot ty y).range = y.range ∧
    (tdRoot ty y).length = y.length := by
  fun_cases tdRoot ty y <;> exact ⟨rfl, rfl, rfl, rfl, rfl, rfl, rfl, rfl, rfl, rfl, rfl, rfl, rfl⟩
@[simp] theorem tdRoot_identityBase (ty y : YType) : (tdRoot ty y).identityBase = y.identityBase := by
  fun_cases tdRoot ty y <;> rfl
@[simp] theorem tdRoot_posixPattern (ty y : YType) : (tdRoot ty y).posixPattern = y.posixPattern := by
  fun_cases tdRoot ty y <;> rfl
@[simp] theorem tdRoot_optionalInstance (ty y : YType) : (tdRoot ty y).optionalInstance = y.optionalInstance := by
  fun_cases tdRoot ty y <;> rfl

theorem tdIdentity_frame {env : Env} {root : Mod} {tt : Stmt} {y y' : YType} (h : tdIdentity env root tt y = some y') :
    y'.name = y.name ∧ y'.kind = y.kind ∧ y'.units = y.units ∧ y'.default = y.default ∧ y'.hasDefault = y.hasDefault ∧
    y'.fractionDigits = y.fractionDigits ∧ y'.path = y.path ∧ y'.pattern = y.pattern ∧ y'.enum = y.enum ∧
    y'.bit = y.bit ∧ y'.members = y.members := by
  unfold tdIdentity at h
  split at h
  · cases h; exact ⟨rfl, rfl, rfl, rfl, rfl, rfl, rfl, rfl, rfl, rfl, rfl⟩
  · split at h
    · cases h; exact ⟨rfl, rfl, rfl, rfl, rfl, rfl, rfl, rfl, rfl, rfl, rfl⟩
    · cases h

theorem tdUnits_units (td : Stmt) (y : YType) : (tdUnits td y).units = (td.argOf? "units").getD y.units := by
  unfold tdUnits Stmt.argOf?
  split <;> rename_i h <;> simp [h]

theorem tdDefault_default (td : Stmt) (y : YType) : (tdDefault td y).default = (td.argOf? "default").getD y.default := by
  unfold tdDefault Stmt.argOf?
  split <;> rename_i h <;> simp [h]

theorem tdDefault_hasDefault (td : Stmt) (y : YType) :
    (tdDefault td y).hasDefault = ((td.argOf? "default").isSome || y.hasDefault) := by
  unfold tdDefault Stmt.argOf?
  split <;> rename_i h <;> simp [h]

theorem typedefOverlay_ok {env : Env} {root : Mod} {td tt : Stmt} {ty y : YType}
    (h : typedefOverlay env root td tt ty = { ty := some y, errs := [] }) :
    y.name = td.arg ∧ y.kind = ty.kind ∧
    y.units = (td.argOf? "units").getD ty.units ∧
    y.hasDefault = ((td.argOf? "default").isSome || ty.hasDefault) ∧
    y.default = (td.argOf? "default").getD ty.default ∧
    y.path = ty.path ∧ y.pattern = ty.pattern ∧ y.enum = ty.enum ∧ y.bit = ty.bit ∧
    y.members = ty.members ∧ y.fractionDigits = ty.fractionDigits := by
  unfold typedefOverlay at h
  split at h
  · simp at h
  · rename_i y' hy'
    simp only [Res.mk.injEq, Option.some.injEq, and_true] at h
    obtain ⟨h1, h2, h3, h4, h5, h6, h7, h8, h9, h10, h11⟩ := tdIdentity_frame hy'
    subst h
    refine ⟨?_, ?_, ?_, ?_, ?_, ?_, ?_, ?_, ?_, ?_, ?_⟩
    · simp [h1, tdCopy]
    · simp [h2]
    · simp [h3, tdUnits_units]
    · simp [h5, tdDefault_hasDefault]
    · simp [h4, tdDefault_default]
    · simp [h7]
    · simp [h8]
    · simp [h9]
    · simp [h10]
    · simp [h11]
    · simp [h6]

/-! ## One level of `Type.resolve`, error-free -/

@[simp] theorem startSt_keeps (t : Stmt) (y : YType) :
    (startSt t y).1.kind = y.kind ∧ (startSt t y).1.units = y.units ∧ (startSt t y).1.default = y.default ∧
    (startSt t y).1.hasDefault = y.hasDefault ∧ (startSt t y).1.pattern = y.pattern ∧ (startSt t y).1.enum = y.enum ∧
    (startSt t y).1.bit = y.bit ∧ (startSt t y).1.members = y.members ∧
    (startSt t y).1.fractionDigits = y.fractionDigits := by
  simp [startSt]
theorem startSt_path (t : Stmt) (y : YType) : (startSt t y).1.path = (t.argOf? "path").getD y.path := by
  simp [startSt, stepPath_path]

/-- What one error-free `Type.resolve` step makes of the YangType of the typedef it is based on. -/
theorem overlay_attrs {env : Env} {root : Mod} {t : Stmt} {src : Source} {tdY : YType} {ms : List Res} {y : YType}
    (h : overlayType env root t src tdY ms = { ty := some y, errs := [] }) :
    y.kind = tdY.kind ∧ y.units = tdY.units ∧ y.hasDefault = tdY.hasDefault ∧ y.default = tdY.default ∧
    y.path = (t.argOf? "path").getD tdY.path ∧
    y.pattern = appendNew tdY.pattern ((t.all "pattern").map Stmt.arg) ∧
    y.enum = (if (t.all "enum").isEmpty then tdY.enum else some (enumFold newEnum "value" (t.all "enum")).1) ∧
    y.bit = (if (t.all "bit").isEmpty then tdY.bit else some (enumFold newBits "position" (t.all "bit")).1) ∧
    y.fractionDigits = (match t.one? "fraction-digits" with
      | some f => parseFd f
      | none => tdY.fractionDigits) ∧
    y.members = addMembers tdY.members ms := by
  obtain ⟨hc, pps, _, hy, herrs⟩ := overlayType_ok h
  have hk := overlayLocal_errs_nil (stepPosix_errs_nil (stepMembers_errs_nil herrs))
  have hfd := stepKind_fd hk (by simpa using hc)
  subst hy
  refine ⟨?_, ?_, ?_, ?_, ?_, ?_, ?_, ?_, ?_, ?_⟩
  · simp [overlayLocal]
  · simp [overlayLocal]
  · simp [overlayLocal]
  · simp [overlayLocal]
  · simp [overlayLocal, startSt_path]
  · simp [overlayLocal, stepPattern]
  · simp [overlayLocal, stepEnum_enum]
  · simp [overlayLocal, stepBit_bit]
  · simp only [overlayLocal, fixRoot_keeps, stepMembers_keeps, stepPosix_keeps, stepPattern_keeps, stepBit_keeps,
      stepEnum_keeps, stepLength_keeps, stepRange_keeps]
    rw [hfd]
    simp
  · simp [overlayLocal, stepMembers]

/-! ## Union members -/

theorem addMembers_sub : ∀ (rs : List Res) (have_ : List YType), ∀ m ∈ have_, m ∈ addMembers have_ rs := by
  intro rs
  induction rs with
  | nil => intro have_ m hm; simpa [addMembers] using hm
  | cons r rest ih =>
    intro have_ m hm
    unfold addMembers
    split
    · split
      · exact ih have_ m hm
      · exact ih _ m (List.mem_append_left _ hm)
    · exact ih have_ m hm

theorem addMembers_mem : ∀ (rs : List Res) (have_ : List YType) (m : YType),
    m ∈ addMembers have_ rs → m ∈ have_ ∨ ∃ r ∈ rs, r.ty = some m := by
  intro rs
  induction rs with
  | nil => intro have_ m hm; exact Or.inl (by simpa [addMembers] using hm)
  | cons r rest ih =>
    intro have_ m hm
    unfold addMembers at hm
    split at hm
    · rename_i m0 hm0
      split at hm
      · rcases ih have_ m hm with h | ⟨r', hr', h⟩
        · exact Or.inl h
        · exact Or.inr ⟨r', List.mem_cons_of_mem _ hr', h⟩
      · rcases ih _ m hm with h | ⟨r', hr', h⟩
        · rw [List.mem_append, List.mem_singleton] at h
          rcases h with h | h
          · exact Or.inl h
          · exact Or.inr ⟨r, List.mem_cons_self, by rw [h, hm0]⟩
        · exact Or.inr ⟨r', List.mem_cons_of_mem _ hr', h⟩
    · rcases ih have_ m hm with h | ⟨r', hr', h⟩
      · exact Or.inl h
      · exact Or.inr ⟨r', List.mem_cons_of_mem _ hr', h⟩

/-- Every resolved member is in the list, or was left out because an `Equal` one is. -/
theorem addMembers_covers : ∀ (rs : List Res) (have_ : List YType) (r : Res) (m : YType),
    r ∈ rs → r.ty = some m → ∃ m' ∈ addMembers have_ rs, m' = m ∨ m.equal m' = true := by
  intro rs
  induction rs with
  | nil => intro _ r _ hr; cases hr
  | cons r0 rest ih =>
    intro have_ r m hr hm
    unfold addMembers
    cases hr with
    | head =>
      rw [hm]
      simp only
      split
      · rename_i hany
        obtain ⟨m', hm', heq⟩ := List.any_eq_true.mp hany
        exact ⟨m', addMembers_sub rest have_ m' hm', Or.inr heq⟩
      · exact ⟨m, addMembers_sub rest _ m (List.mem_append_right _ (List.mem_singleton.mpr rfl)), Or.inl rfl⟩
    | tail _ hr =>
      split
      · split
        · exact ih have_ r m hr hm
        · exact ih _ r m hr hm
      · exact ih have_ r m hr hm

/-- A resolution without errors has set `YangType`. -/
theorem resolve_ty_some (env : Env) : ∀ (fuel : Nat) (root : Mod) (scope : List Stmt) (t : Stmt) (stack : List TypeKey),
    (resolveTypeF env fuel root scope t stack).errs = [] →
    ∃ y, resolveTypeF env fuel root scope t stack = { ty := some y, errs := [] } := by
  intro fuel root scope t stack h
  have hov : ∀ {src : Source} {tdY : YType} {ms : List Res}, ∃ y, (overlayType env root t src tdY ms).ty = some y := by
    intro src tdY ms
    unfold overlayType
    simp only []
    split
    · exact ⟨_, rfl⟩
    · split <;> exact ⟨_, rfl⟩
  cases fuel with
  | zero => simp [resolveTypeF] at h
  | succ fuel =>
    unfold resolveTypeF at h ⊢
    simp only at h ⊢
    split
    · rename_i hc; rw [if_pos hc] at h; simp at h
    · rename_i hc
      rw [if_neg hc] at h
      split
      · rename_i e hl; rw [hl] at h; simp at h
      · rename_i y0 hl
        rw [hl] at h
        simp only at h
        obtain ⟨y, hy⟩ := hov (src := .builtin) (tdY := y0)
          (ms := (t.all "type").map fun ut => resolveTypeF env fuel root (t :: scope) ut (typeKey root t :: stack))
        exact ⟨y, by rw [← hy, ← h]⟩
      · rename_i src r hl
        rw [hl] at h
        simp only at h
        split
        · rename_i htt; rw [htt] at h; simp at h
        · rename_i tt htt
          rw [htt] at h
          simp only at h
          split
          · rename_i hb; rw [if_pos hb] at h; simp only at h; rw [h] at hb; simp at hb
          · rename_i hb
            rw [if_neg hb] at h
            split
            · rename_i hty; rw [hty] at h; simp at h
            · rename_i bty hty
              rw [hty] at h
              simp only at h
              split
              · rename_i hne; rw [if_pos hne] at h; simp only at h; rw [h] at hne; simp at hne
              · rename_i hne
                rw [if_neg hne] at h
                split
                · rename_i hn; rw [hn] at h; simp at h
                · rename_i tdY htdY
                  rw [htdY] at h
                  simp only at h
                  obtain ⟨y, hy⟩ := hov (src := src) (tdY := tdY)
                    (ms := (t.all "type").map fun ut => resolveTypeF env fuel root (t :: scope) ut (typeKey root t :: stack))
                  exact ⟨y, by rw [← hy, ← h]⟩

/-- The member types of one error-free `Type.resolve` step. -/
theorem level_members {env : Env} {fuel : Nat} {root : Mod} {scope : List Stmt} {t : Stmt} {stk : List TypeKey}
    {src : Source} {tdY y : YType}
    (h : overlayType env root t src tdY
      ((t.all "type").map fun ut => resolveTypeF env fuel root (t :: scope) ut stk) = { ty := some y, errs := [] }) :
    (∀ m ∈ y.members, m ∈ tdY.members ∨
      ∃ ut ∈ t.all "type", resolveTypeF env fuel root (t :: scope) ut stk = { ty := some m, errs := [] }) ∧
    (∀ ut ∈ t.all "type", ∃ m, resolveTypeF env fuel root (t :: scope) ut stk = { ty := some m, errs := [] } ∧
      ∃ m' ∈ y.members, m' = m ∨ m.equal m' = true) ∧
    (∀ m ∈ tdY.members, m ∈ y.members) := by
  have herr : ∀ ut ∈ t.all "type", (resolveTypeF env fuel root (t :: scope) ut stk).errs = [] := by
    intro ut hut
    have he : (overlayType env root t src tdY
      ((t.all "type").map fun ut => resolveTypeF env fuel root (t :: scope) ut stk)).errs = [] := by rw [h]
    exact overlayType_errs_nil he _ (List.mem_map_of_mem (f := fun ut => resolveTypeF env fuel root (t :: scope) ut stk) hut)
  obtain ⟨_, _, _, _, _, _, _, _, _, hmem⟩ := overlay_attrs h
  refine ⟨?_, ?_, ?_⟩
  · intro m hm
    rw [hmem] at hm
    rcases addMembers_mem _ _ _ hm with h1 | ⟨r, hr, hty⟩
    · exact Or.inl h1
    · obtain ⟨ut, hut, rfl⟩ := List.mem_map.mp hr
      obtain ⟨y', hy'⟩ := resolve_ty_some env fuel root (t :: scope) ut stk (herr ut hut)
      refine Or.inr ⟨ut, hut, ?_⟩
      rw [hy'] at hty ⊢
      simp only [Option.some.injEq] at hty
      rw [hty]
  · intro ut hut
    obtain ⟨m, hm⟩ := resolve_ty_some env fuel root (t :: scope) ut stk (herr ut hut)
    refine ⟨m, hm, ?_⟩
    rw [hmem]
    exact addMembers_covers _ _ _ m
      (List.mem_map_of_mem (f := fun ut => resolveTypeF env fuel root (t :: scope) ut stk) hut) (by rw [hm])
  · intro m hm
    rw [hmem]
    exact addMembers_sub _ _ m hm

/-! ## A finite derivation excludes cycles -/

theorem binds_not_builtin {reg : Registry} {root : Mod} {scope : List Stmt} {name : String} {m : Mod} {td : Stmt}
    {sc : List Stmt} (h : Binds reg root scope name m td sc) : builtinNames.contains name = false := by
  cases h <;> assumption

/-- In an unambiguous schema, below a resolvable type statement every chain of `Uses` steps ends.
(`Unambiguous` holds of no registry — `Goyang.Props.C09.unambiguous_false` —; the usable forms are
`resolvable_acc'` / `resolvable_not_cyclic'` of Lemmas/TypesComplete.lean over `UnambiguousBelow`.) -/
theorem resolvable_acc {reg : Registry} (hU : Unambiguous reg) :
    ∀ {root : Mod} {scope : List Stmt} {t : Stmt}, Resolvable reg root scope t →
      Acc (fun b a => Uses reg a b) (root, scope, t)
  | root, scope, t, .builtin hb hm => by
    constructor
    intro y hy
    cases hy with
    | base m td sc tt hbind _ => rw [binds_not_builtin hbind] at hb; cases hb
    | member ut hut => exact resolvable_acc hU (hm ut hut)
  | root, scope, t, .derived m td sc tt hbind htt hbase hm => by
    constructor
    intro y hy
    cases hy with
    | base m' td' sc' tt' hbind' htt' =>
      obtain ⟨h1, h2, h3⟩ := hU _ _ _ _ _ _ _ _ _ hbind hbind'
      subst h1 h2 h3
      rw [htt] at htt'
      cases htt'
      exact resolvable_acc hU hbase
    | member ut hut => exact resolvable_acc hU (hm ut hut)

theorem usesPlus_snoc {reg : Registry} {a b c : Site} (h : UsesPlus reg a b) (hbc : Uses reg b c) : UsesPlus reg a c := by
  induction h with
  | one hab => exact UsesPlus.cons hab (UsesPlus.one hbc)
  | cons hab _ ih => exact UsesPlus.cons hab (ih hbc)

theorem acc_usesPlus {reg : Registry} {a b : Site} (ha : Acc (fun b a => Uses reg a b) a) (h : UsesPlus reg a b) :
    Acc (fun b a => Uses reg a b) b := by
  induction h with
  | one hab => exact ha.inv hab
  | cons hab _ ih => exact ih (ha.inv hab)

theorem acc_no_cycle {reg : Registry} {a : Site} (ha : Acc (fun b a => Uses reg a b) a) : ¬ UsesPlus reg a a := by
  induction ha with
  | intro x _ ih =>
    intro hcyc
    cases hcyc with
    | one hxx => exact ih x hxx (UsesPlus.one hxx)
    | cons hxy hyx => exact ih _ hxy (usesPlus_snoc hyx hxy)

theorem resolvable_not_cyclic {reg : Registry} (hU : Unambiguous reg) {root : Mod} {scope : List Stmt} {t : Stmt}
    (h : Resolvable reg root scope t) : ¬ Cyclic reg (root, scope, t) := by
  rintro ⟨b, hb, hcyc⟩
  have hacc := resolvable_acc hU h
  rcases hb with rfl | hb
  · exact acc_no_cycle hacc hcyc
  · exact acc_no_cycle (acc_usesPlus hacc hb) hcyc

end Goyang.Lemmas.Types
