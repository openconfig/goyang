import Goyang.Spec.Tree
import Goyang.Lemmas.Rounds
import Goyang.Lemmas.AugmentModel
import Goyang.Lemmas.Traverse
import Goyang.Lemmas.SortAux
import Goyang.Lemmas.ForestAux
/-
Tree predicates along the resolver pipeline (`processAll`), stage by stage.  Written for C04 (Props/C04.lean:
after a clean `Process` every tree is well formed and error-free); the stage lemmas take the invariant as a
variable, so the layers of C07, C12, C13, C16 and C17 (`Bridge*`, `ConfigNs*`, `Include*`, `Positions*`) use them too.
In order:
* the stages of `processAll` named (`stage1Errs` … `preDev`, `devStage`; `processAll_eq`, `afterRounds_state`);
  `updateAt` / `getAt`; what one deviate statement can change (`DataEquiv`, `applyOneDeviate_equiv`);
  `walkParts` and `find` by cases (`walkParts_ind`, `find_cases`); the ways `processAll` can end (`processAll_clean`);
* local predicates `q` on a node and its children's names and kinds (`LocalOK`), "`q` everywhere unless an error is
  recorded" (`Cond`) and its closure under the operations of `toEntry` (`closed_cond`); `Closed` and the traversal
  `toEntry_ok` (an instance of Lemmas/Traverse.lean); the predicates of the specification are local (`localOK_wfq`);
  sibling names are distinct unconditionally (`U`, `closed_U`); all modules (`tstate_ok`);
* the augment stage: forest keys and sticky root errors (`fkeys`, `FLe`), one `Augment` call (`augmentTree_ok`), who
  still has pending augments (`InvA`, `InvB`, `process_clean_no_pending`), `fixChoice` (`fixChoice_cases`,
  `fixChoice_idem`), the update of the one node a path leads to (`updateAt_unique_ind`), the tree invariant `TInv`,
  any invariant kept by `find`, `addErr` and the merge at the target (`AugClosed`, `AInv`) through pass, loop and
  leftover sweep (`augmentPass_keeps`, `augmentTree_pending`), concretely for `wfqB` (`TreeInv`, `preDev_clean`),
  a loop that applies nothing (`augmentLoop_zero`);
* the deviation stage: `DP`, `applyDeviations_inv`, `devStage_inv`; the result (`process_clean_dp`, `process_clean_wf`).
-/
set_option linter.unusedVariables false
set_option linter.unusedSimpArgs false
open Goyang.Lemmas.ListAux (foldl_inv)
open Goyang.Lemmas.SortAux (mem_sortBy)
open Goyang.Lemmas.SortAux (fixChoiceL_eq_map)
open Goyang.Lemmas.SortAux (insertBy_ne_nil)
namespace Goyang.Lemmas.Tree
open Goyang.Model Goyang.Spec.Tree

/-! ### generic list helpers -/

theorem sortBy_eq_nil {α} (lt : α → α → Bool) (l : List α) (h : sortBy lt l = []) : l = [] := by
  cases l with
  | nil => rfl
  | cons a t => exact absurd h (insertBy_ne_nil lt a _)

/-- An empty canonical error list means there were no errors. -/
theorem canonErrs_eq_nil (l : List Err) (h : canonErrs l = []) : l = [] := by
  unfold canonErrs at h
  simp only at h
  generalize hs : sortBy _ l = s at h
  cases s with
  | nil => exact sortBy_eq_nil _ _ hs
  | cons a t => rw [List.eraseDups_cons] at h; exact absurd h (by simp)

/-! ### `everyNode` -/

mutual
theorem entry_ind_e {P : Entry → Prop}
    (h : ∀ d c i o, (∀ x ∈ c, P x) → (∀ x ∈ i, P x) → (∀ x ∈ o, P x) → P (.mk d c i o)) : ∀ e, P e
  | .mk d c i o => h d c i o (entry_ind_l h c) (entry_ind_l h i) (entry_ind_l h o)
theorem entry_ind_l {P : Entry → Prop}
    (h : ∀ d c i o, (∀ x ∈ c, P x) → (∀ x ∈ i, P x) → (∀ x ∈ o, P x) → P (.mk d c i o)) :
    ∀ l : List Entry, ∀ x ∈ l, P x
  | [] => by simp
  | e :: es => by
    intro x hx
    rcases List.mem_cons.mp hx with hxe | hx
    · rw [hxe]; exact entry_ind_e h e
    · exact entry_ind_l h es x hx
end

/-- Induction on trees: a node from all its `Dir`, input and output children. -/
theorem entry_ind {P : Entry → Prop}
    (h : ∀ d c i o, (∀ x ∈ c, P x) → (∀ x ∈ i, P x) → (∀ x ∈ o, P x) → P (.mk d c i o)) (e : Entry) : P e :=
  entry_ind_e h e

theorem allErrorsL_eq_nil (l : List Entry) : Entry.allErrorsL l = [] ↔ ∀ x ∈ l, x.allErrors = [] := by
  induction l with
  | nil => simp [Entry.allErrorsL]
  | cons a l ih => simp [Entry.allErrorsL, ih]

/-- The specification's "no node carries an error" is the model's "the error walk finds nothing". -/
theorem noErrors_iff (e : Entry) : NoErrors e ↔ e.allErrors = [] := by
  induction e using entry_ind with
  | h d c i o hc hi ho =>
    unfold NoErrors at *
    rw [everyNode_mk]
    simp only [Entry.allErrors, List.append_eq_nil_iff, allErrorsL_eq_nil, noErrorsHere, Entry.d,
      List.isEmpty_iff]
    constructor
    · rintro ⟨h1, h2, h3, h4⟩
      exact ⟨⟨⟨fun x hx => (hc x hx).1 (h2 x hx), fun x hx => (hi x hx).1 (h3 x hx)⟩,
        fun x hx => (ho x hx).1 (h4 x hx)⟩, h1⟩
    · rintro ⟨⟨⟨h2, h3⟩, h4⟩, h1⟩
      exact ⟨h1, fun x hx => (hc x hx).2 (h2 x hx), fun x hx => (hi x hx).2 (h3 x hx),
        fun x hx => (ho x hx).2 (h4 x hx)⟩


/-! ### the stages of `processAll`, named -/

section Stages
variable (reg : Registry) (opts : Opts) (plug : Plug)

def stage1Errs : List Err := (linkAll reg).2 ++ plug.identityErrs reg ++ plug.typedefErrs reg
def envOf : Env := { reg := reg, opts := opts, tres := plug.tres, linked := (linkAll reg).1 }
def allMods : List Mod := reg.distinctModules ++ reg.distinctSubs
/-- The (sub)modules in key order of the two maps (modules, then submodules). -/
def keyOrder : List Mod :=
  let keys (km : KeyMap) := (sortBy (fun (a b : String × Nat) => a.1 < b.1) km).filterMap fun kv => reg.byId kv.2
  keys reg.modules ++ keys reg.subModules
def tstate : TState :=
  (keyOrder reg).foldl (fun st m => (toEntry (envOf reg opts plug) (entryFuel reg) m [] m.stmt [] st).2) {}
def forest0 : Forest := { trees := (tstate reg opts plug).cache }
def forestErrs (f : Forest) : List Err := (f.trees.map fun (_, e) => e.allErrors).flatten
def pending0 : List (Nat × List Entry) :=
  (allMods reg).map fun m => (m.seq, (((tstate reg opts plug).augs.find? (·.1 == m.seq)).map (·.2)).getD [])
def pstate0 : PState := { forest := forest0 reg opts plug, pending := pending0 reg opts plug }
def augOrder : List Mod :=
  sortBy (fun (a b : Mod) => if a.fullName != b.fullName then a.fullName < b.fullName else !a.isSub && b.isSub)
    ((reg.modules ++ reg.subModules).filterMap fun kv => reg.byId kv.2)
def afterLoop : Array Nat × PState :=
  augmentLoop reg ((pending0 reg opts plug).foldl (fun n p => n + p.2.length) 0 + 2)
    ((augOrder reg).map (·.seq)).toArray (pstate0 reg opts plug)
def fixAll (s : PState) : PState :=
  { s with forest := { trees := s.forest.trees.map fun (i, e) => (i, fixChoice e) } }
/-- The retry rounds after the first `FixChoice` (`for augmentLoop() > 0 { fixChoice() }`): the modules
still holding pending augments and the state. -/
def afterRounds : Array Nat × PState :=
  leftoverRounds reg ((pending0 reg opts plug).foldl (fun n p => n + p.2.length) 0 + 2)
    ((pending0 reg opts plug).foldl (fun n p => n + p.2.length) 0 + 2)
    (afterLoop reg opts plug).1 (fixAll (afterLoop reg opts plug).2)
/-- The reporting sweep (`Augment(true)`) over what the rounds left. -/
def leftoverPass : PState × Nat :=
  (afterRounds reg opts plug).1.foldl (fun (acc : PState × Nat) id =>
    let (s, p, _) := augmentTree reg id true acc.1
    (s, acc.2 + p)) ((afterRounds reg opts plug).2, 0)
/-- The state before the deviations are applied. -/
def preDev : PState :=
  if (leftoverPass reg opts plug).2 > 0 then fixAll (leftoverPass reg opts plug).1 else (leftoverPass reg opts plug).1
def devStage (f0 : Forest) : Forest × List Err × List String :=
  (keyOrder reg).foldl (fun (acc : Forest × List Err × List String) m =>
    let (f, errs, done) := acc
    if done.contains m.name then acc else
    let devs := (m.stmt.all "deviation").map fun dv =>
      (dv, (dv.all "deviate").filterMap fun ds =>
        if deviateKinds.contains ds.arg then some (ds.arg, (toEntry (envOf reg opts plug) (entryFuel reg) m [dv, m.stmt] ds [] {}).1) else none)
    let (f, es) := applyDeviations reg opts m devs f
    (f, errs ++ es, done ++ [m.name])) (f0, [], [])

-- (`leftoverRounds` is kept folded: the elaborator's `whnf` would otherwise run the rounds on the
-- stuck module list while it looks for the pair the rounds return)
attribute [local irreducible] leftoverRounds in
theorem processAll_eq : processAll reg opts plug =
    if !(stage1Errs reg plug).isEmpty then { errors := canonErrs (stage1Errs reg plug), forest := {}, reg := reg } else
    if !(forestErrs (forest0 reg opts plug)).isEmpty then
      { errors := canonErrs (forestErrs (forest0 reg opts plug)), forest := forest0 reg opts plug, reg := reg } else
    { errors := canonErrs (forestErrs (preDev reg opts plug).forest ++ (devStage reg opts plug (preDev reg opts plug).forest).2.1),
      forest := (devStage reg opts plug (preDev reg opts plug).forest).1, reg := reg } := by
  rfl

/-- A property of the state that the augment loop and `FixChoice` everywhere preserve holds after the
retry rounds (the state the reporting sweep starts from). -/
theorem afterRounds_state (P : PState → Prop)
    (hloop : ∀ fuel mods s, P s → P (augmentLoop reg fuel mods s).2)
    (hfix : ∀ s, P s → P (fixAll s)) (h0 : P (pstate0 reg opts plug)) : P (afterRounds reg opts plug).2 :=
  Rounds.rounds_ind_state reg P hloop hfix _ _ _ _ (hfix _ (hloop _ _ _ h0))
end Stages

/-! ### `updateAt`, `getAt` -/

/-- `p` looks at the node's own data only. -/
def OwnOnly (p : Entry → Bool) : Prop := ∀ d c i o c' i' o', p (.mk d c i o) = p (.mk d c' i' o')

theorem ownOnly_noErrorsHere : OwnOnly noErrorsHere := by intro d c i o c' i' o'; rfl

theorem everyNode_updateAt_own (p : Entry → Bool) (hp : OwnOnly p) (f : Entry → Entry)
    (hf : ∀ x, everyNode p x = true → everyNode p (f x) = true) :
    ∀ (path : Path) (e : Entry), everyNode p e = true → everyNode p (e.updateAt path f) = true := by
  intro path
  induction path with
  | nil => intro e h; exact hf e h
  | cons s path ih =>
    intro e h
    cases e with | mk d c i o =>
    rw [everyNode_mk] at h
    obtain ⟨h1, h2, h3, h4⟩ := h
    cases s with
    | child k =>
      simp only [Entry.updateAt]
      rw [everyNode_mk]
      refine ⟨by rw [hp d _ i o c i o]; exact h1, ?_, h3, h4⟩
      intro x hx
      simp only [List.mem_map] at hx
      obtain ⟨y, hy, rfl⟩ := hx
      split
      · exact ih y (h2 y hy)
      · exact h2 y hy
    | input =>
      simp only [Entry.updateAt]
      rw [everyNode_mk]
      refine ⟨by rw [hp d c _ o c i o]; exact h1, h2, ?_, h4⟩
      intro x hx
      simp only [List.mem_map] at hx
      obtain ⟨y, hy, rfl⟩ := hx
      exact ih y (h3 y hy)
    | output =>
      simp only [Entry.updateAt]
      rw [everyNode_mk]
      refine ⟨by rw [hp d c i _ c i o]; exact h1, h2, h3, ?_⟩
      intro x hx
      simp only [List.mem_map] at hx
      obtain ⟨y, hy, rfl⟩ := hx
      exact ih y (h4 y hy)

theorem everyNode_getAt (p : Entry → Bool) : ∀ (path : Path) (e x : Entry), everyNode p e = true →
    e.getAt path = some x → everyNode p x = true := by
  intro path
  induction path with
  | nil => intro e x h hx; simp only [Entry.getAt, Option.some.injEq] at hx; exact hx ▸ h
  | cons s path ih =>
    intro e x h hx
    cases e with | mk d c i o =>
    rw [everyNode_mk] at h
    obtain ⟨h1, h2, h3, h4⟩ := h
    cases s with
    | child k =>
      simp only [Entry.getAt, Entry.child?, Entry.dir] at hx
      cases hf : c.find? (fun x => x.name == k) with
      | none => simp [hf] at hx
      | some y =>
        simp only [hf, Option.bind_some] at hx
        exact ih y x (h2 y (List.mem_of_find?_eq_some hf)) hx
    | input =>
      simp only [Entry.getAt, Entry.inp] at hx
      cases i with
      | nil => simp at hx
      | cons y ys => simp only [List.head?_cons, Option.bind_some] at hx; exact ih y x (h3 y (by simp)) hx
    | output =>
      simp only [Entry.getAt, Entry.out] at hx
      cases o with
      | nil => simp at hx
      | cons y ys => simp only [List.head?_cons, Option.bind_some] at hx; exact ih y x (h4 y (by simp)) hx

/-! ### what one deviate statement can change -/

/-- What a deviate statement leaves alone: children, errors, name, kind, child map presence,
presence of list attributes, source node; a present type stays present. -/
structure DataEquiv (a b : Entry) : Prop where
  dir : b.dir = a.dir
  inp : b.inp = a.inp
  out : b.out = a.out
  errors : b.d.errors = a.d.errors
  name : b.d.name = a.d.name
  kind : b.d.kind = a.d.kind
  hasDir : b.d.hasDir = a.d.hasDir
  la : b.d.listAttr.isSome = a.d.listAttr.isSome
  node : b.d.node = a.d.node
  type : a.d.type.isSome = true → b.d.type.isSome = true

theorem DataEquiv.refl (a : Entry) : DataEquiv a a := ⟨rfl, rfl, rfl, rfl, rfl, rfl, rfl, rfl, rfl, id⟩

theorem DataEquiv.trans {a b c : Entry} (h1 : DataEquiv a b) (h2 : DataEquiv b c) : DataEquiv a c :=
  ⟨h2.dir.trans h1.dir, h2.inp.trans h1.inp, h2.out.trans h1.out, h2.errors.trans h1.errors,
   h2.name.trans h1.name, h2.kind.trans h1.kind, h2.hasDir.trans h1.hasDir, h2.la.trans h1.la,
   h2.node.trans h1.node, fun h => h2.type (h1.type h)⟩

/-- A change of the node's data that a deviate may make. -/
def GoodD (f : EData → EData) : Prop :=
  ∀ d, (f d).errors = d.errors ∧ (f d).name = d.name ∧ (f d).kind = d.kind ∧ (f d).hasDir = d.hasDir ∧
    (f d).listAttr.isSome = d.listAttr.isSome ∧ (f d).node = d.node ∧ (d.type.isSome = true → (f d).type.isSome = true)

theorem DataEquiv.withD (a : Entry) (f : EData → EData) (hf : GoodD f) : DataEquiv a (a.withD f) := by
  cases a with | mk d c i o =>
  obtain ⟨h1, h2, h3, h4, h5, h6, h7⟩ := hf d
  exact ⟨rfl, rfl, rfl, h1, h2, h3, h4, h5, h6, h7⟩

theorem DataEquiv.ite {a x y : Entry} (c : Prop) [Decidable c] (hx : DataEquiv a x) (hy : DataEquiv a y) :
    DataEquiv a (if c then x else y) := by split <;> assumption

section Dev
variable (ms : Stmt) (kind : String) (sd : EData)

def dSetMin (n : Entry) (v : Nat) : Entry := n.withD fun d => { d with listAttr := d.listAttr.map fun la => { la with min := v } }
def dSetMax (n : Entry) (v : Nat) : Entry := n.withD fun d => { d with listAttr := d.listAttr.map fun la => { la with max := v } }
def dCfg (node : Entry) : Entry := if sd.config != .unset then node.withD fun d => { d with config := sd.config } else node
def dDefault (node : Entry) : Entry × List Err :=
  if sd.default.isEmpty then (node, [])
  else if kind == "add" then
    if node.isLeafList then (node.withD fun d => { d with default := d.default ++ sd.default }, [])
    else if sd.default.length > 1 then (node, [Err.at_ ms "deviate-add-many-defaults"])
    else if !node.d.default.isEmpty then (node, [Err.at_ ms "deviate-add-default-exists"])
    else (node.withD fun d => { d with default := sd.default.take 1 }, [])
  else (node.withD fun d => { d with default := sd.default }, [])
def dMand (node : Entry) : Entry := if sd.mandatory != .unset then node.withD fun d => { d with mandatory := sd.mandatory } else node
def dMin (node : Entry) : Entry := if sd.hasMin then dSetMin node (sd.listAttr.getD {}).min else node
def dMax (node : Entry) : Entry := if sd.hasMax then dSetMax node (sd.listAttr.getD {}).max else node
def dUnits (node : Entry) : Entry := if sd.units != "" then node.withD fun d => { d with units := sd.units } else node
def dType (node : Entry) : Entry := if sd.type.isSome then node.withD fun d => { d with type := sd.type } else node
def dCfgDel (node : Entry) : Entry := if sd.config != .unset then node.withD fun d => { d with config := .unset } else node
def dDefaultDel (node : Entry) : Entry × List Err :=
  if sd.default.isEmpty then (node, [])
  else if node.isLeafList then (node, [Err.at_ ms "deviate-delete-default-leaflist"])
  else if node.d.default.isEmpty then (node, [Err.at_ ms "deviate-delete-default-missing"])
  else if sd.default.head? != node.d.default.head? then (node, [Err.at_ ms "deviate-delete-default-mismatch"])
  else (node.withD fun d => { d with default := [] }, [])
def dMandDel (node : Entry) : Entry := if sd.mandatory != .unset then node.withD fun d => { d with mandatory := .unset } else node
def dMinDel (node : Entry) (errs : List Err) : Entry × List Err :=
  if sd.hasMin then
    (dSetMin node 0, if (node.d.listAttr.getD {}).min != (sd.listAttr.getD {}).min then errs ++ [Err.bare "deviate-delete-min-mismatch"] else errs)
  else (node, errs)
def dMaxDel (node : Entry) (errs : List Err) : Entry × List Err :=
  if sd.hasMax then
    (dSetMax node maxU64, if (node.d.listAttr.getD {}).max != (sd.listAttr.getD {}).max then errs ++ [Err.bare "deviate-delete-max-mismatch"] else errs)
  else (node, errs)

/-- `applyOneDeviate` with its blocks named. -/
def applyOneDeviate' (opts : Opts) (hasParent : Bool) (node : Entry) : Entry × Bool × List Err :=
  if kind == "add" || kind == "replace" then
    let p := dDefault ms kind sd (dCfg sd node)
    let node := dMand sd p.1
    if sd.hasMin && !(node.isList || node.isLeafList) then (node, false, p.2 ++ [Err.bare "deviate-min-nonlist"]) else
    let node := dMin sd node
    if sd.hasMax && !(node.isList || node.isLeafList) then (node, false, p.2 ++ [Err.bare "deviate-max-nonlist"]) else
    (dType sd (dUnits sd (dMax sd node)), false, p.2)
  else if kind == "not-supported" then
    if !hasParent then (node, false, [Err.at_ ms "deviate-no-parent"])
    else (node, !opts.ignoreNotSupported, [])
  else if kind == "delete" then
    let p := dDefaultDel ms sd (dCfgDel sd node)
    let node := dMandDel sd p.1
    if sd.hasMin && !(node.isList || node.isLeafList) then (node, false, p.2 ++ [Err.bare "deviate-min-nonlist"]) else
    let q := dMinDel sd node p.2
    if sd.hasMax && !(q.1.isList || q.1.isLeafList) then (q.1, false, q.2 ++ [Err.bare "deviate-max-nonlist"]) else
    let r := dMaxDel sd q.1 q.2
    (r.1, false, r.2)
  else (node, false, [Err.bare "deviate-unknown-kind"])
end Dev

theorem applyOneDeviate_eq (opts : Opts) (ms : Stmt) (kind : String) (spec : Entry) (hp : Bool) (node : Entry) :
    applyOneDeviate opts ms kind spec hp node = applyOneDeviate' ms kind spec.d opts hp node := by
  rfl


section DevLemmas
variable (ms : Stmt) (kind : String) (sd : EData)

theorem dSetMin_equiv (n : Entry) (v : Nat) : DataEquiv n (dSetMin n v) :=
  DataEquiv.withD _ _ (fun d => ⟨rfl, rfl, rfl, rfl, by simp, rfl, id⟩)
theorem dSetMax_equiv (n : Entry) (v : Nat) : DataEquiv n (dSetMax n v) :=
  DataEquiv.withD _ _ (fun d => ⟨rfl, rfl, rfl, rfl, by simp, rfl, id⟩)
theorem dCfg_equiv (n : Entry) : DataEquiv n (dCfg sd n) :=
  DataEquiv.ite _ (DataEquiv.withD _ _ (fun d => ⟨rfl, rfl, rfl, rfl, rfl, rfl, id⟩)) (DataEquiv.refl _)
theorem dDefault_equiv (n : Entry) : DataEquiv n (dDefault ms kind sd n).1 := by
  have hw : ∀ v : List String → List String, DataEquiv n (n.withD fun d => { d with default := v d.default }) :=
    fun v => DataEquiv.withD _ _ (fun d => ⟨rfl, rfl, rfl, rfl, rfl, rfl, id⟩)
  unfold dDefault
  by_cases h1 : sd.default.isEmpty = true
  · rw [if_pos h1]; exact DataEquiv.refl _
  rw [if_neg h1]
  by_cases h2 : (kind == "add") = true
  · rw [if_pos h2]
    by_cases h3 : n.isLeafList = true
    · rw [if_pos h3]; exact hw (· ++ sd.default)
    rw [if_neg h3]
    by_cases h4 : sd.default.length > 1
    · rw [if_pos h4]; exact DataEquiv.refl _
    rw [if_neg h4]
    by_cases h5 : (!n.d.default.isEmpty) = true
    · rw [if_pos h5]; exact DataEquiv.refl _
    rw [if_neg h5]; exact hw fun _ => sd.default.take 1
  rw [if_neg h2]; exact hw fun _ => sd.default
theorem dMand_equiv (n : Entry) : DataEquiv n (dMand sd n) :=
  DataEquiv.ite _ (DataEquiv.withD _ _ (fun d => ⟨rfl, rfl, rfl, rfl, rfl, rfl, id⟩)) (DataEquiv.refl _)
theorem dMin_equiv (n : Entry) : DataEquiv n (dMin sd n) := DataEquiv.ite _ (dSetMin_equiv _ _) (DataEquiv.refl _)
theorem dMax_equiv (n : Entry) : DataEquiv n (dMax sd n) := DataEquiv.ite _ (dSetMax_equiv _ _) (DataEquiv.refl _)
theorem dUnits_equiv (n : Entry) : DataEquiv n (dUnits sd n) :=
  DataEquiv.ite _ (DataEquiv.withD _ _ (fun d => ⟨rfl, rfl, rfl, rfl, rfl, rfl, id⟩)) (DataEquiv.refl _)
theorem dType_equiv (n : Entry) : DataEquiv n (dType sd n) := by
  unfold dType
  split
  · exact DataEquiv.withD _ _ (fun d => ⟨rfl, rfl, rfl, rfl, rfl, rfl, fun _ => by assumption⟩)
  · exact DataEquiv.refl _
theorem dCfgDel_equiv (n : Entry) : DataEquiv n (dCfgDel sd n) :=
  DataEquiv.ite _ (DataEquiv.withD _ _ (fun d => ⟨rfl, rfl, rfl, rfl, rfl, rfl, id⟩)) (DataEquiv.refl _)
theorem dDefaultDel_equiv (n : Entry) : DataEquiv n (dDefaultDel ms sd n).1 := by
  unfold dDefaultDel
  by_cases h1 : sd.default.isEmpty = true
  · rw [if_pos h1]; exact DataEquiv.refl _
  rw [if_neg h1]
  by_cases h2 : n.isLeafList = true
  · rw [if_pos h2]; exact DataEquiv.refl _
  rw [if_neg h2]
  by_cases h3 : n.d.default.isEmpty = true
  · rw [if_pos h3]; exact DataEquiv.refl _
  rw [if_neg h3]
  by_cases h4 : (sd.default.head? != n.d.default.head?) = true
  · rw [if_pos h4]; exact DataEquiv.refl _
  rw [if_neg h4]; exact DataEquiv.withD _ _ (fun d => ⟨rfl, rfl, rfl, rfl, rfl, rfl, id⟩)
theorem dMandDel_equiv (n : Entry) : DataEquiv n (dMandDel sd n) :=
  DataEquiv.ite _ (DataEquiv.withD _ _ (fun d => ⟨rfl, rfl, rfl, rfl, rfl, rfl, id⟩)) (DataEquiv.refl _)
theorem dMinDel_equiv (n : Entry) (es : List Err) : DataEquiv n (dMinDel sd n es).1 := by
  unfold dMinDel; split
  · exact dSetMin_equiv _ _
  · exact DataEquiv.refl _
theorem dMaxDel_equiv (n : Entry) (es : List Err) : DataEquiv n (dMaxDel sd n es).1 := by
  unfold dMaxDel; split
  · exact dSetMax_equiv _ _
  · exact DataEquiv.refl _
end DevLemmas

/-- A deviate statement changes none of: children, errors, name, kind, child-map presence,
presence of list attributes, source node; and it never removes a type. -/
theorem applyOneDeviate_equiv (opts : Opts) (ms : Stmt) (kind : String) (spec : Entry) (hp : Bool) (node : Entry) :
    DataEquiv node (applyOneDeviate opts ms kind spec hp node).1 := by
  rw [applyOneDeviate_eq]
  unfold applyOneDeviate'
  have a1 := fun n => dCfg_equiv spec.d n
  have a2 := fun n => dDefault_equiv ms kind spec.d n
  have a3 := fun n => dMand_equiv spec.d n
  have a4 := fun n => dMin_equiv spec.d n
  have a5 := fun n => dMax_equiv spec.d n
  have a6 := fun n => dUnits_equiv spec.d n
  have a7 := fun n => dType_equiv spec.d n
  have b1 := fun n => dCfgDel_equiv spec.d n
  have b2 := fun n => dDefaultDel_equiv ms spec.d n
  have b3 := fun n => dMandDel_equiv spec.d n
  have b4 := fun n es => dMinDel_equiv spec.d n es
  have b5 := fun n es => dMaxDel_equiv spec.d n es
  dsimp only
  by_cases k1 : (kind == "add" || kind == "replace") = true
  · rw [if_pos k1]
    split
    · exact ((a1 _).trans (a2 _)).trans (a3 _)
    · split
      · exact (((a1 _).trans (a2 _)).trans (a3 _)).trans (a4 _)
      · exact ((((((a1 _).trans (a2 _)).trans (a3 _)).trans (a4 _)).trans (a5 _)).trans (a6 _)).trans (a7 _)
  rw [if_neg k1]
  by_cases k2 : (kind == "not-supported") = true
  · rw [if_pos k2]; split <;> exact DataEquiv.refl _
  rw [if_neg k2]
  by_cases k3 : (kind == "delete") = true
  · rw [if_pos k3]
    split
    · exact ((b1 _).trans (b2 _)).trans (b3 _)
    · split
      · exact (((b1 _).trans (b2 _)).trans (b3 _)).trans (b4 _ _)
      · exact ((((b1 _).trans (b2 _)).trans (b3 _)).trans (b4 _ _)).trans (b5 _ _)
  rw [if_neg k3]; exact DataEquiv.refl _

/-! ### forests -/

theorem forestAll_setTree {P : Entry → Prop} (f : Forest) (id : Nat) (e : Entry) (hf : ForestAll P f) (he : P e) :
    ForestAll P (f.setTree id e) := by
  intro t ht
  simp only [Forest.setTree, List.mem_map] at ht
  obtain ⟨⟨i, x⟩, hx, rfl⟩ := ht
  split
  · exact he
  · exact hf _ hx

theorem forestAll_tree? {P : Entry → Prop} (f : Forest) (id : Nat) (e : Entry) (hf : ForestAll P f)
    (h : f.tree? id = some e) : P e := by
  simp only [Forest.tree?, Option.map_eq_some_iff] at h
  obtain ⟨t, ht, rfl⟩ := h
  exact hf _ (List.mem_of_find?_eq_some ht)


theorem noErrors_of_equiv {a b : Entry} (h : DataEquiv a b) (ha : NoErrors a) : NoErrors b := by
  cases a with | mk d c i o =>
  cases b with | mk d' c' i' o' =>
  unfold NoErrors at *
  rw [everyNode_mk] at *
  have h1 := h.dir; have h2 := h.inp; have h3 := h.out; have h4 := h.errors
  simp only [Entry.dir, Entry.inp, Entry.out, Entry.d] at h1 h2 h3 h4
  subst h1 h2 h3
  simp only [noErrorsHere, Entry.d] at *
  rw [h4]; exact ha

theorem noErrors_implicitIO (parent : Entry) (b : Bool) : NoErrors (implicitIO parent b) := by
  unfold NoErrors implicitIO; rw [everyNode_mk]; simp [noErrorsHere, Entry.d]

/-- The two functions `walkParts` applies at an rpc node without input / output. -/
def setImplicitIn : Entry → Entry := fun e => match e with | .mk d c _ o => .mk d c [implicitIO e true] o
def setImplicitOut : Entry → Entry := fun e => match e with | .mk d c i _ => .mk d c i [implicitIO e false]

/-- Induction along `walkParts`, for a property `P` of the tree and a property `Q` of the path walked so
far that the steps of the walk keep.  At each lazy creation it is known that the path satisfies `Q` and
leads to an rpc / action node that has no input (output) yet. -/
theorem walkParts_ind (P : Entry → Prop) (Q : Path → Prop)
    (qdrop : ∀ p, Q p → Q p.dropLast) (qin : ∀ p, Q p → Q (p ++ [.input])) (qout : ∀ p, Q p → Q (p ++ [.output]))
    (qchild : ∀ p nm, Q p → nm ≠ "" → Q (p ++ [.child nm]))
    (hin : ∀ root p e, P root → Q p → root.getAt p = some e → e.d.isRpc = true → e.inp = [] →
      P (root.updateAt p setImplicitIn))
    (hout : ∀ root p e, P root → Q p → root.getAt p = some e → e.d.isRpc = true → e.out = [] →
      P (root.updateAt p setImplicitOut)) :
    ∀ (parts : List String) (root : Entry) (cur : Option Path), P root → (∀ p, cur = some p → Q p) →
      P (walkParts parts root cur).2 ∧ (∀ p, (walkParts parts root cur).1 = some p → Q p) := by
  intro parts
  induction parts with
  | nil => intro root cur h hc; exact ⟨h, hc⟩
  | cons part rest ih =>
    intro root cur h hc
    have stop : P ((none : Option Path), root).2 ∧ ∀ p, ((none : Option Path), root).1 = some p → Q p := ⟨h, fun p hp => absurd hp (by simp)⟩
    unfold walkParts
    cases cur with
    | none => exact stop
    | some p =>
    have hp : Q p := hc p rfl
    dsimp only
    cases he : root.getAt p with
    | none => exact stop
    | some e =>
    dsimp only
    by_cases h1 : (part == ".") = true
    · rw [if_pos h1]; exact ih root _ h (fun q hq => by cases hq; exact hp)
    rw [if_neg h1]
    by_cases h2 : (part == "..") = true
    · rw [if_pos h2]
      refine ih root _ h (fun q hq => ?_)
      split at hq
      · exact absurd hq (by simp)
      · cases hq; exact qdrop p hp
    rw [if_neg h2]
    by_cases hrpc : e.d.isRpc = true
    · rw [if_pos hrpc]
      by_cases h3 : (stripPrefix part == "input") = true
      · rw [if_pos h3]
        refine ih _ _ ?_ (fun q hq => by cases hq; exact qin p hp)
        split
        · rename_i hemp
          exact hin root p e h hp he hrpc (by simpa using hemp)
        · exact h
      rw [if_neg h3]
      by_cases h4 : (stripPrefix part == "output") = true
      · rw [if_pos h4]
        refine ih _ _ ?_ (fun q hq => by cases hq; exact qout p hp)
        split
        · rename_i hemp
          exact hout root p e h hp he hrpc (by simpa using hemp)
        · exact h
      rw [if_neg h4]; exact stop
    rw [if_neg hrpc]
    by_cases h5 : (stripPrefix part == ".") = true
    · rw [if_pos h5]; exact ih root _ h (fun q hq => by cases hq; exact hp)
    rw [if_neg h5]
    by_cases h6 : (stripPrefix part == "" || stripPrefix part == "..") = true
    · rw [if_pos h6]; exact stop
    rw [if_neg h6]
    cases hc' : e.child? (stripPrefix part) with
    | some _ =>
      refine ih root _ h (fun q hq => ?_)
      cases hq
      refine qchild p _ hp ?_
      intro h0; apply h6; simp [h0]
    | none => exact ih root _ h (fun q hq => absurd hq (by simp))

/-- Anything preserved by the lazy creation of an rpc input / output is preserved by `walkParts`. -/
theorem walkParts_inv (P : Entry → Prop) (hin : ∀ root p, P root → P (root.updateAt p setImplicitIn))
    (hout : ∀ root p, P root → P (root.updateAt p setImplicitOut)) :
    ∀ (parts : List String) (root : Entry) (cur : Option Path), P root → P (walkParts parts root cur).2 :=
  fun parts root cur h =>
    (walkParts_ind P (fun _ => True) (fun _ _ => trivial) (fun _ _ => trivial) (fun _ _ => trivial)
      (fun _ _ _ _ => trivial) (fun root p _ h _ _ _ _ => hin root p h) (fun root p _ h _ _ _ _ => hout root p h)
      parts root cur h (fun _ _ => trivial)).1

theorem noErrors_setImplicitIn (x : Entry) (hx : NoErrors x) : NoErrors (setImplicitIn x) := by
  cases x with | mk d c i o =>
  unfold NoErrors setImplicitIn at *
  rw [everyNode_mk] at hx ⊢
  obtain ⟨h1, h2, h3, h4⟩ := hx
  refine ⟨h1, h2, ?_, h4⟩
  intro y hy; simp only [List.mem_singleton] at hy; subst hy; exact noErrors_implicitIO _ _

theorem noErrors_setImplicitOut (x : Entry) (hx : NoErrors x) : NoErrors (setImplicitOut x) := by
  cases x with | mk d c i o =>
  unfold NoErrors setImplicitOut at *
  rw [everyNode_mk] at hx ⊢
  obtain ⟨h1, h2, h3, h4⟩ := hx
  refine ⟨h1, h2, h3, ?_⟩
  intro y hy; simp only [List.mem_singleton] at hy; subst hy; exact noErrors_implicitIO _ _

/-- What `find` returns: nothing and the forest as it was; or nothing and an error recorded on the root of
the tree it started in (an unresolvable prefix); or what `walkParts` returns, from the root of a tree or from
the start path. -/
theorem find_cases (reg : Registry) (f : Forest) (start : Loc) (ctx : Nat) (name : String)
    {P : Option Loc × Forest → Prop} (same : P (none, f))
    (err : ∀ root, f.tree? start.1 = some root → P (none, f.setTree start.1 (root.addErr (Err.bare "other"))))
    (walk : ∀ t root parts cur, f.tree? t = some root → (cur = [] ∨ cur = start.2) →
      P ((walkParts parts root (some cur)).1.map (t, ·), f.setTree t (walkParts parts root (some cur)).2)) :
    P (find reg f start ctx name) := by
  unfold find
  dsimp only
  repeat' split
  all_goals first
    | exact same                                        -- empty name, unknown module, no such tree
    | exact err _ (by assumption)                       -- a prefix that resolves to no module
    | exact walk _ _ _ _ (by assumption) (Or.inl rfl)   -- absolute name: walk from the root of the tree found
    | exact walk _ _ _ _ (by assumption) (Or.inr rfl)   -- relative name: walk from the start path

/-- `find` changes a tree through `walkParts`, or records an error on the root of the tree it
started in (an unresolvable prefix). -/
theorem find_inv (P : Entry → Prop) (hw : ∀ parts root cur, P root → P (walkParts parts root cur).2)
    (hadd : ∀ e x, P e → P (e.addErr x))
    (reg : Registry) (f : Forest) (start : Loc) (ctx : Nat) (name : String) (hf : ForestAll P f) :
    ForestAll P (find reg f start ctx name).2 :=
  find_cases reg f start ctx name (P := fun r => ForestAll P r.2) hf
    (fun _ h => forestAll_setTree _ _ _ hf (hadd _ _ (forestAll_tree? _ _ _ hf h)))
    (fun _ _ _ _ h _ => forestAll_setTree _ _ _ hf (hw _ _ _ (forestAll_tree? _ _ _ hf h)))

theorem forestErrs_eq_nil (f : Forest) : forestErrs f = [] ↔ ForestAll NoErrors f := by
  unfold forestErrs ForestAll
  simp only [List.flatten_eq_nil_iff, List.mem_map, forall_exists_index, and_imp]
  constructor
  · intro h t ht; exact (noErrors_iff _).2 (h _ t ht rfl)
  · rintro h l t ht rfl; exact (noErrors_iff _).1 (h t ht)

/-- The three ways `processAll` can end. -/
theorem processAll_clean (reg : Registry) (opts : Opts) (plug : Plug) (h : (processAll reg opts plug).errors = []) :
    stage1Errs reg plug = [] ∧ forestErrs (forest0 reg opts plug) = [] ∧
    forestErrs (preDev reg opts plug).forest = [] ∧ (devStage reg opts plug (preDev reg opts plug).forest).2.1 = [] ∧
    (processAll reg opts plug).forest = (devStage reg opts plug (preDev reg opts plug).forest).1 := by
  rw [processAll_eq] at h
  by_cases h1 : stage1Errs reg plug = []
  · by_cases h2 : forestErrs (forest0 reg opts plug) = []
    · simp only [h1, h2, List.isEmpty_nil, Bool.not_true, Bool.false_eq_true, if_false] at h
      have := canonErrs_eq_nil _ h
      simp only [List.append_eq_nil_iff] at this
      refine ⟨h1, h2, this.1, this.2, ?_⟩
      rw [processAll_eq]
      simp only [h1, h2, List.isEmpty_nil, Bool.not_true, Bool.false_eq_true, if_false]
    · have : (!(forestErrs (forest0 reg opts plug)).isEmpty) = true := by
        cases hh : forestErrs (forest0 reg opts plug) with
        | nil => exact absurd hh h2
        | cons a t => rfl
      simp only [h1, List.isEmpty_nil, Bool.not_true, Bool.false_eq_true, if_false, this, if_true] at h
      exact absurd (canonErrs_eq_nil _ h) h2
  · have : (!(stage1Errs reg plug).isEmpty) = true := by
      cases hh : stage1Errs reg plug with
      | nil => exact absurd hh h1
      | cons a t => rfl
    simp only [this, if_true] at h
    exact absurd (canonErrs_eq_nil _ h) h1

/-! ### local predicates and their closure properties -/

/-- What a parent's local condition may look at in a child. -/
def hdr (e : Entry) : String × Kind := (e.d.name, e.d.kind)

/-- No `Dir`, input or output child is a deviate entry (those never enter a schema tree). -/
def ndHere (e : Entry) : Bool :=
  e.dir.all (·.d.kind != .deviate) && e.inp.all (·.d.kind != .deviate) && e.out.all (·.d.kind != .deviate)

/-- Closure properties of a local predicate `q` under the operations `toEntry`, `merge` and the
augment stage perform. -/
structure LocalBase (env : Env) (q : Entry → Bool) : Prop where
  hdr : ∀ d c i o c' i' o', c.map hdr = c'.map hdr → i.map hdr = i'.map hdr → o.map hdr = o'.map hdr →
    q (.mk d c i o) = q (.mk d c' i' o')
  leaf : ∀ root scope n syn, (leafEntry env root scope n syn).d.errors = [] → q (leafEntry env root scope n syn) = true
  leafList : ∀ (d : EData) la xs dl, d.kind = .leaf → d.hasDir = false → q (.mk d [] [] []) = true →
    q (.mk { d with listAttr := some la, errors := d.errors ++ xs, default := dl } [] [] []) = true
  base : ∀ d : EData, d.hasDir = true → d.kind ≠ .leaf → (d.listAttr.isSome = true → d.kind = .directory) →
    d.type = none → q (.mk d [] [] []) = true
  neutral : ∀ d d' c i o, NeutralD d d' → q (.mk d c i o) = true → q (.mk d' c i o) = true
  rename : ∀ (d : EData) c i o nm, q (.mk d c i o) = true → q (.mk { d with name := nm } c i o) = true
  typeSet : ∀ (d : EData) c i o ty, d.kind ≠ .leaf → q (.mk d c i o) = true → q (.mk { d with type := ty } c i o) = true
  laSet : ∀ d d' c i o, d.kind = .deviate → LaOnlyD d d' → q (.mk d c i o) = true → q (.mk d' c i o) = true
  append : ∀ d c i o (v : Entry), q (.mk d c i o) = true → (∀ x ∈ c, x.name ≠ v.name) → v.d.kind ≠ .deviate →
    q (.mk d (c ++ [v]) i o) = true
  setInp : ∀ d c o (v : Entry), q (.mk d c [] o) = true → v.d.kind = .input → q (.mk d c [v] o) = true
  setOut : ∀ d c i (v : Entry), q (.mk d c i []) = true → v.d.kind = .output → q (.mk d c i [v]) = true

/-- A local predicate with the closure properties that also excludes deviate entries as children. -/
structure LocalOK (env : Env) (q : Entry → Bool) : Prop extends LocalBase env q where
  nd : ∀ e, q e = true → ndHere e = true

/-- "If the tree carries no error, `q` holds at every node." -/
def Cond (q : Entry → Bool) (e : Entry) : Prop := NoErrors e → everyNode q e = true

theorem not_noErrors_addErr (e : Entry) (x : Err) : ¬ NoErrors (e.addErr x) := by
  cases e with | mk d c i o =>
  intro h
  simp only [Entry.addErr, Entry.withD] at h
  rw [noErrors_mk] at h
  simp at h

theorem child?_none (e : Entry) (k : String) (h : e.child? k = none) : ∀ x ∈ e.dir, x.name ≠ k := by
  intro x hx hk
  simp only [Entry.child?, List.find?_eq_none] at h
  exact h x hx (by simp [hk])

section Closure
variable {env : Env} {q : Entry → Bool} (hq : LocalOK env q)
include hq

theorem cond_withD (e : Entry) (f : EData → EData) (hn : ∀ d, NeutralD d (f d))
    (he : ∀ d, ∃ xs, (f d).errors = d.errors ++ xs) (h : Cond q e) : Cond q (e.withD f) := by
  cases e with | mk d c i o =>
  intro hne
  simp only [Entry.withD] at hne ⊢
  rw [noErrors_mk] at hne
  obtain ⟨xs, hxs⟩ := he d
  have hd : d.errors = [] := by
    have := hne.1; rw [hxs] at this; exact (List.append_eq_nil_iff.mp this).1
  have := h ((noErrors_mk _ _ _ _).2 ⟨hd, hne.2⟩)
  rw [everyNode_mk] at this ⊢
  exact ⟨hq.neutral _ _ _ _ _ (hn d) this.1, this.2⟩

theorem cond_addErrs (e : Entry) (xs : List Err) (h : Cond q e) : Cond q (e.addErrs xs) :=
  cond_withD hq e _ (fun d => ⟨rfl, rfl, rfl, rfl, rfl, rfl⟩) (fun d => ⟨xs, rfl⟩) h

theorem cond_addErr (e : Entry) (x : Err) (h : Cond q e) : Cond q (e.addErr x) :=
  cond_withD hq e _ (fun d => ⟨rfl, rfl, rfl, rfl, rfl, rfl⟩) (fun d => ⟨[x], rfl⟩) h

theorem cond_importErrors (e c : Entry) (h : Cond q e) : Cond q (e.importErrors c) := cond_addErrs hq _ _ h

/-- Appending a child whose name is new. -/
theorem cond_append (e v : Entry) (h : Cond q e) (hv : Cond q v) (hk : e.child? v.name = none)
    (hkind : NoErrors v → v.d.kind ≠ .deviate) : Cond q (e.withDir (e.dir ++ [v])) := by
  cases e with | mk d c i o =>
  intro hne
  simp only [Entry.withDir, Entry.dir] at hne ⊢
  rw [noErrors_mk] at hne
  have hnv : NoErrors v := hne.2.1 v (by simp)
  have hne' : NoErrors (.mk d c i o) :=
    (noErrors_mk _ _ _ _).2 ⟨hne.1, fun x hx => hne.2.1 x (by simp [hx]), hne.2.2⟩
  have he := h hne'
  rw [everyNode_mk] at he ⊢
  refine ⟨hq.append _ _ _ _ _ he.1 (child?_none _ _ hk) (hkind hnv), ?_, he.2.2⟩
  intro x hx
  rcases List.mem_append.mp hx with hx | hx
  · exact he.2.1 x hx
  · simp only [List.mem_singleton] at hx; subst hx; exact hv hnv

theorem cond_add (e : Entry) (k : String) (v : Entry) (h : Cond q e) (hv : Cond q v)
    (hs : NoErrors v → v.name = k ∧ v.d.kind ≠ .deviate) : Cond q (e.add k v) := by
  unfold Entry.add
  split
  · intro hne; exact absurd hne (not_noErrors_addErr _ _)
  · rename_i hk
    intro hne
    have hnv : NoErrors v := by
      cases e with | mk d c i o =>
      simp only [Entry.withDir, Entry.dir] at hne
      rw [noErrors_mk] at hne
      exact hne.2.1 v (by simp)
    exact cond_append hq e v h hv (by rw [(hs hnv).1]; exact hk) (fun h => (hs h).2) hne


omit hq in
theorem merge_root_errors (e : Entry) (ns : Option String) (oe : Entry) : ∃ xs, (e.merge ns oe).d.errors =
    (e.d.errors ++ (oe.d.errors ++ Entry.allErrorsL oe.dir ++ Entry.allErrorsL oe.inp ++ Entry.allErrorsL oe.out)) ++ xs := by
  unfold Entry.merge
  refine foldl_inv (fun x : Entry => ∃ xs, x.d.errors =
    (e.d.errors ++ (oe.d.errors ++ Entry.allErrorsL oe.dir ++ Entry.allErrorsL oe.inp ++ Entry.allErrorsL oe.out)) ++ xs)
    _ _ _ ?_ ?_
  · refine ⟨[], ?_⟩
    cases e with | mk d c i o => simp [Entry.importErrors, Entry.addErrs, Entry.withD, Entry.d]
  · rintro b a _ ⟨xs, hxs⟩
    dsimp only
    split
    · refine ⟨xs ++ [Err.at_ oe.d.node "duplicate-node"], ?_⟩
      cases b with | mk d c i o =>
      simp only [Entry.addErr, Entry.withD, Entry.d] at hxs ⊢
      rw [hxs, List.append_assoc]
    · refine ⟨xs, ?_⟩
      cases b with | mk d c i o => exact hxs

omit hq in
theorem noErrors_of_merge (e : Entry) (ns : Option String) (oe : Entry) (h : NoErrors (e.merge ns oe)) : NoErrors oe := by
  obtain ⟨xs, hxs⟩ := merge_root_errors e ns oe
  have h0 : (e.merge ns oe).d.errors = [] := by
    generalize e.merge ns oe = r at h
    cases r with | mk d c i o => exact ((noErrors_mk _ _ _ _).1 h).1
  rw [h0] at hxs
  have := hxs.symm
  simp only [List.append_eq_nil_iff] at this
  rw [noErrors_iff]
  cases oe with | mk d c i o =>
  simp only [Entry.d, Entry.dir, Entry.inp, Entry.out] at this
  simp [Entry.allErrors, this]

theorem cond_merge (e : Entry) (ns : Option String) (oe : Entry) (h : Cond q e) (ho : Cond q oe) :
    Cond q (e.merge ns oe) := by
  intro hne
  have hoe := noErrors_of_merge e ns oe hne
  have hqo := ho hoe
  revert hne
  show Cond q (e.merge ns oe)
  cases oe with | mk d2 c2 i2 o2 =>
  rw [everyNode_mk] at hqo
  rw [noErrors_mk] at hoe
  have hnd := hq.nd _ hqo.1
  simp only [ndHere, Entry.dir, Bool.and_eq_true, List.all_eq_true] at hnd
  have step : ∀ (stamp : Entry → Entry) (x : Err), (∀ v, Cond q v → Cond q (stamp v)) → (∀ v, (stamp v).name = v.name) →
      (∀ v, (stamp v).d.kind = v.d.kind) → ∀ b v, v ∈ c2 → Cond q b →
      Cond q (match b.child? (stamp v).name with
        | some _ => b.addErr x
        | none => b.withDir (b.dir ++ [stamp v])) := by
    intro stamp x h1 h2 h3 b v hv hb
    split
    · intro hne; exact absurd hne (not_noErrors_addErr _ _)
    · rename_i hk
      exact cond_append hq b _ hb (h1 v (fun _ => hqo.2.1 v hv)) hk (fun _ => by rw [h3]; exact (bne_iff_ne).mp (hnd.1.1 v hv))
  unfold Entry.merge
  simp only [Entry.dir]
  cases ns with
  | none =>
    refine foldl_inv (fun x : Entry => Cond q x) _ c2 _ (cond_importErrors hq _ _ h) ?_
    intro b v hv hb
    exact step id _ (fun v hv => hv) (fun v => rfl) (fun v => rfl) b v hv hb
  | some n =>
    refine foldl_inv (fun x : Entry => Cond q x) _ c2 _ (cond_importErrors hq _ _ h) ?_
    intro b v hv hb
    exact step (fun v => v.withD fun d => { d with ns := some n }) _
      (fun v hv => cond_withD hq _ _ (fun d => ⟨rfl, rfl, rfl, rfl, rfl, rfl⟩) (fun d => ⟨[], by simp⟩) hv)
      (fun v => by cases v; rfl) (fun v => by cases v; rfl) b v hv hb

end Closure

/-! ### more closure properties of `Cond q` -/

section ClosureMore
variable {env : Env} {q : Entry → Bool} (hq : LocalOK env q) (root : Mod) (n : Stmt)
include hq

theorem cond_setInp (d : EData) (c o : List Entry) (ie : Entry) (he : Cond q (.mk d c [] o)) (hi : Cond q ie)
    (hs : ie.d.errors = [] → ie.d.kind = .input) :
    Cond q (.mk { d with isRpc := true } c [ie.withD fun d => { d with name := "input", kind := .input }] o) := by
  cases ie with | mk d2 c2 i2 o2 =>
  intro hne
  simp only [Entry.withD] at hne ⊢
  rw [noErrors_mk] at hne
  have hne2 := hne.2.2.1 _ (List.mem_singleton.mpr rfl)
  rw [noErrors_mk] at hne2
  have hk : d2.kind = .input := hs hne2.1
  have hqe := he ((noErrors_mk _ _ _ _).2 ⟨hne.1, hne.2.1, by simp, hne.2.2.2⟩)
  have hqi := hi ((noErrors_mk _ _ _ _).2 hne2)
  rw [everyNode_mk] at hqe hqi ⊢
  refine ⟨?_, hqe.2.1, ?_, hqe.2.2.2⟩
  · exact hq.setInp _ _ _ _ (hq.neutral d _ _ _ _ ⟨rfl, rfl, rfl, rfl, rfl, rfl⟩ hqe.1) rfl
  · intro x hx
    simp only [List.mem_singleton] at hx; subst hx
    rw [everyNode_mk]
    refine ⟨?_, hqi.2⟩
    have := hq.rename _ _ _ _ "input" hqi.1
    rw [← hk]; exact this

theorem cond_setOut (d : EData) (c i : List Entry) (oe : Entry) (he : Cond q (.mk d c i [])) (ho : Cond q oe)
    (hs : oe.d.errors = [] → oe.d.kind = .output) :
    Cond q (.mk { d with isRpc := true } c i [oe.withD fun d => { d with name := "output", kind := .output }]) := by
  cases oe with | mk d2 c2 i2 o2 =>
  intro hne
  simp only [Entry.withD] at hne ⊢
  rw [noErrors_mk] at hne
  have hne2 := hne.2.2.2 _ (List.mem_singleton.mpr rfl)
  rw [noErrors_mk] at hne2
  have hk : d2.kind = .output := hs hne2.1
  have hqe := he ((noErrors_mk _ _ _ _).2 ⟨hne.1, hne.2.1, hne.2.2.1, by simp⟩)
  have hqo := ho ((noErrors_mk _ _ _ _).2 hne2)
  rw [everyNode_mk] at hqe hqo ⊢
  refine ⟨?_, hqe.2.1, hqe.2.2.1, ?_⟩
  · exact hq.setOut _ _ _ _ (hq.neutral d _ _ _ _ ⟨rfl, rfl, rfl, rfl, rfl, rfl⟩ hqe.1) rfl
  · intro x hx
    simp only [List.mem_singleton] at hx; subst hx
    rw [everyNode_mk]
    refine ⟨?_, hqo.2⟩
    have := hq.rename _ _ _ _ "output" hqo.1
    rw [← hk]; exact this

theorem cond_typeSet (e : Entry) (ty : Option TypeInfo) (he : Cond q e) (hk : e.d.kind ≠ .leaf) :
    Cond q (e.withD fun d => { d with type := ty }) := by
  cases e with | mk d c i o =>
  intro hne
  simp only [Entry.withD] at hne ⊢
  have := he (by rw [noErrors_mk] at hne ⊢; exact hne)
  rw [everyNode_mk] at this ⊢
  exact ⟨hq.typeSet _ _ _ _ _ hk this.1, this.2⟩

theorem cond_laSet (e : Entry) (f : EData → EData) (he : Cond q e) (hk : e.d.kind = .deviate)
    (hf : ∀ d, LaOnlyD d (f d)) (hfe : ∀ d, ∃ xs, (f d).errors = d.errors ++ xs) : Cond q (e.withD f) := by
  cases e with | mk d c i o =>
  intro hne
  simp only [Entry.withD] at hne ⊢
  rw [noErrors_mk] at hne
  obtain ⟨xs, hxs⟩ := hfe d
  have hd : d.errors = [] := by
    have := hne.1; rw [hxs] at this; exact (List.append_eq_nil_iff.mp this).1
  have := he ((noErrors_mk _ _ _ _).2 ⟨hd, hne.2⟩)
  rw [everyNode_mk] at this ⊢
  exact ⟨hq.laSet _ _ _ _ _ hk (hf d) this.1, this.2⟩

theorem cond_e0 : Cond q (e0 root n) := by
  intro hne
  have h0 := e0_data root n
  unfold e0 at hne h0 ⊢
  rw [everyNode_mk]
  simp only [Entry.d] at h0
  refine ⟨hq.base _ h0.2.2.1 (by rw [h0.2.1]; exact kindOfKw_ne_leaf _) ?_ h0.2.2.2.2.2, by simp, by simp, by simp⟩
  intro hl
  rw [h0.2.1, h0.2.2.2.2.1 hl]; exact kindOfKw_list

omit hq in
theorem cond_errorEntry (root : Mod) (n : Stmt) (cls : String) : Cond q (errorEntry root n cls) := by
  intro hne
  exact absurd (noErrors_own _ hne) (errorEntry_errors _ _ _)

theorem cond_leafEntry (scope : List Stmt) (syn : Bool) : Cond q (leafEntry env root scope n syn) := by
  intro hne
  have hd := leafEntry_data env root scope n syn
  have hl := hq.leaf root scope n syn (noErrors_own _ hne)
  generalize leafEntry env root scope n syn = le at hd hl ⊢
  cases le with | mk d c i o =>
  simp only [Entry.dir, Entry.inp, Entry.out] at hd
  obtain ⟨_, _, _, _, _, rfl, rfl, rfl⟩ := hd
  rw [everyNode_mk]; exact ⟨hl, by simp, by simp, by simp⟩

theorem cond_leafList (scope : List Stmt) (la : ListAttr) (xs : List Err) (dl : List String) :
    Cond q ((leafEntry env root scope n true).withD fun d =>
      { d with listAttr := some la, errors := d.errors ++ xs, default := dl }) := by
  intro hne
  have hd := leafEntry_data env root scope n true
  have hc := cond_leafEntry hq root n scope true
  generalize leafEntry env root scope n true = le at hd hc hne ⊢
  cases le with | mk d c i o =>
  simp only [Entry.dir, Entry.inp, Entry.out, Entry.d] at hd
  obtain ⟨_, hk, hdir, _, _, rfl, rfl, rfl⟩ := hd
  simp only [Entry.withD] at hne ⊢
  rw [noErrors_mk] at hne
  have hde : d.errors = [] := (List.append_eq_nil_iff.mp hne.1).1
  have := hc ((noErrors_mk _ _ _ _).2 ⟨hde, by simp, by simp, by simp⟩)
  rw [everyNode_mk] at this ⊢
  exact ⟨hq.leafList d la xs dl hk hdir this.1, by simp, by simp, by simp⟩

end ClosureMore

/-! ### what the traversal of `toEntry` needs of an entry invariant -/

/-- An entry invariant that every operation of `toEntry` preserves. -/
structure Closed (env : Env) (PE : Entry → Prop) : Prop where
  withD : ∀ (e : Entry) (f : EData → EData), (∀ d, NeutralD d (f d)) → (∀ d, ∃ xs, (f d).errors = d.errors ++ xs) →
    PE e → PE (e.withD f)
  addErrs : ∀ (e : Entry) (xs : List Err), PE e → PE (e.addErrs xs)
  addErr : ∀ (e : Entry) (x : Err), PE e → PE (e.addErr x)
  importErrors : ∀ (e c : Entry), PE e → PE (e.importErrors c)
  add : ∀ (e : Entry) (k : String) (v : Entry), PE e → PE v → (NoErrors v → v.name = k ∧ v.d.kind ≠ .deviate) →
    (v.name = k ∨ v.name = "") → PE (e.add k v)
  merge : ∀ (e : Entry) (ns : Option String) (oe : Entry), PE e → PE oe → PE (e.merge ns oe)
  setInp : ∀ (d : EData) (c o : List Entry) (ie : Entry), PE (.mk d c [] o) → PE ie →
    (ie.d.errors = [] → ie.d.kind = .input) →
    PE (.mk { d with isRpc := true } c [ie.withD fun d => { d with name := "input", kind := .input }] o)
  setOut : ∀ (d : EData) (c i : List Entry) (oe : Entry), PE (.mk d c i []) → PE oe →
    (oe.d.errors = [] → oe.d.kind = .output) →
    PE (.mk { d with isRpc := true } c i [oe.withD fun d => { d with name := "output", kind := .output }])
  typeSet : ∀ (e : Entry) (ty : Option TypeInfo), PE e → e.d.kind ≠ .leaf → PE (e.withD fun d => { d with type := ty })
  laSet : ∀ (e : Entry) (f : EData → EData), PE e → e.d.kind = .deviate → (∀ d, LaOnlyD d (f d)) →
    (∀ d, ∃ xs, (f d).errors = d.errors ++ xs) → PE (e.withD f)
  base0 : ∀ (root : Mod) (n : Stmt), PE (e0 root n)
  errE : ∀ (root : Mod) (n : Stmt) (cls : String), PE (errorEntry root n cls)
  leafE : ∀ (root : Mod) (n : Stmt) (scope : List Stmt) (syn : Bool), PE (leafEntry env root scope n syn)
  leafL : ∀ (root : Mod) (n : Stmt) (scope : List Stmt) (la : ListAttr) (xs : List Err) (dl : List String),
    PE ((leafEntry env root scope n true).withD fun d =>
      { d with listAttr := some la, errors := d.errors ++ xs, default := dl })

theorem closed_cond {env : Env} {q : Entry → Bool} (hq : LocalOK env q) : Closed env (Cond q) where
  withD e f h1 h2 h := cond_withD hq e f h1 h2 h
  addErrs e xs h := cond_addErrs hq e xs h
  addErr e x h := cond_addErr hq e x h
  importErrors e c h := cond_importErrors hq e c h
  add e k v h hv hs _ := cond_add hq e k v h hv hs
  merge e ns oe h ho := cond_merge hq e ns oe h ho
  setInp d c o ie h hi hs := cond_setInp hq d c o ie h hi hs
  setOut d c i oe h ho hs := cond_setOut hq d c i oe h ho hs
  typeSet e ty h hk := cond_typeSet hq e ty h hk
  laSet e f h hk hf hfe := cond_laSet hq e f h hk hf hfe
  base0 root n := cond_e0 hq root n
  errE root n cls := cond_errorEntry root n cls
  leafE root n scope syn := cond_leafEntry hq root n scope syn
  leafL root n scope la xs dl := cond_leafList hq root n scope la xs dl


/-- What the induction hypothesis gives for the recursive calls. -/
def RecOK (PE : Entry → Prop) (rec : Rec) : Prop :=
  ∀ root scope n visiting st S, StOK PE S st →
    PE (rec root scope n visiting st).1 ∧ StOK PE S (rec root scope n visiting st).2 ∧
      Shape n (rec root scope n visiting st).1 ∧ Shape2 n (rec root scope n visiting st).1

theorem closure_of_closed {env : Env} {PE : Entry → Prop} (h : Closed env PE) :
    Traverse.Closure env { PE := PE } (fun _ _ _ => True) (fun a k => a = k ∨ a = "") where
  nmRefl _ := Or.inl rfl
  siteAll _ _ _ _ _ _ _ _ := trivial
  siteOne _ _ _ _ _ _ _ _ := trivial
  siteUses _ _ _ _ _ _ _ _ _ := trivial
  siteInclude _ _ _ _ := trivial
  withD e f h1 _ h2 he := h.withD e f h1 h2 he
  addErrs := h.addErrs
  addErr := h.addErr
  importErrors := h.importErrors
  add root scope n kw c e v _ _ _ _ he hv hs hs2 := h.add e c.arg v he hv hs hs2
  rpcFlag root scope n kw c v _ _ _ hv _ := h.withD v _ (fun d => ⟨rfl, rfl, rfl, rfl, rfl, rfl⟩) (fun d => ⟨[], by simp⟩) hv
  merge e oe _ he ho := h.merge e none oe he ho
  setInp d o ie := h.setInp d [] o ie
  setOut d i oe := h.setOut d [] i oe
  typeSet := h.typeSet
  laSet e f he hk h1 _ h2 := h.laSet e f he hk h1 h2
  base0 root scope n _ := h.base0 root n
  errE root scope n cls _ := h.errE root n cls
  leafE root scope n syn _ := h.leafE root n scope syn
  leafL root scope n la xs dl _ := h.leafL root n scope la xs dl
  row _ _ _ _ _ _ _ _ _ _ := trivial
  pc _ _ _ _ _ _ _ _ := trivial
  pxCache _ _ _ _ _ _ _ _ := trivial
  pxTriv _ _ _ _ _ := trivial
  pxErr _ _ _ _ _ := trivial

/-- The invariant of `toEntry`: from a good state it produces a good entry and a good state. -/
theorem toEntry_ok {env : Env} {PE : Entry → Prop} (hC : Closed env PE) (fuel : Nat) : RecOK PE (toEntry env fuel) := by
  intro root scope n visiting st S hst
  obtain ⟨hpe, hst', hshape, hshape2, _⟩ :=
    Traverse.toEntry_inv (closure_of_closed hC) (fun _ => Or.inr rfl) (fun _ _ _ _ _ _ _ _ _ _ _ _ => trivial) fuel
      root scope n visiting st S trivial ⟨hst, fun _ _ => trivial, fun _ _ => trivial⟩
  exact ⟨hpe, hst'.base, hshape, hshape2⟩

/-! ### the local predicates of the specification have the closure properties -/

theorem LocalBase.and {env : Env} {q1 q2 : Entry → Bool} (h1 : LocalBase env q1) (h2 : LocalBase env q2) :
    LocalBase env (fun e => q1 e && q2 e) where
  hdr d c i o c' i' o' hc hi ho := by
    show (q1 _ && q2 _) = (q1 _ && q2 _)
    rw [h1.hdr d c i o c' i' o' hc hi ho, h2.hdr d c i o c' i' o' hc hi ho]
  leaf root scope n syn he := by
    simp only [Bool.and_eq_true]; exact ⟨h1.leaf _ _ _ _ he, h2.leaf _ _ _ _ he⟩
  leafList d la xs dl hk hd h := by
    simp only [Bool.and_eq_true] at h ⊢; exact ⟨h1.leafList _ _ _ _ hk hd h.1, h2.leafList _ _ _ _ hk hd h.2⟩
  base d a b c e := by
    simp only [Bool.and_eq_true]; exact ⟨h1.base d a b c e, h2.base d a b c e⟩
  neutral d d' c i o hn h := by
    simp only [Bool.and_eq_true] at h ⊢; exact ⟨h1.neutral _ _ _ _ _ hn h.1, h2.neutral _ _ _ _ _ hn h.2⟩
  rename d c i o nm h := by
    simp only [Bool.and_eq_true] at h ⊢; exact ⟨h1.rename _ _ _ _ _ h.1, h2.rename _ _ _ _ _ h.2⟩
  typeSet d c i o ty hk h := by
    simp only [Bool.and_eq_true] at h ⊢; exact ⟨h1.typeSet _ _ _ _ _ hk h.1, h2.typeSet _ _ _ _ _ hk h.2⟩
  laSet d d' c i o hk hl h := by
    simp only [Bool.and_eq_true] at h ⊢; exact ⟨h1.laSet _ _ _ _ _ hk hl h.1, h2.laSet _ _ _ _ _ hk hl h.2⟩
  append d c i o v h hx hk := by
    simp only [Bool.and_eq_true] at h ⊢; exact ⟨h1.append _ _ _ _ _ h.1 hx hk, h2.append _ _ _ _ _ h.2 hx hk⟩
  setInp d c o v h hk := by
    simp only [Bool.and_eq_true] at h ⊢; exact ⟨h1.setInp _ _ _ _ h.1 hk, h2.setInp _ _ _ _ h.2 hk⟩
  setOut d c i v h hk := by
    simp only [Bool.and_eq_true] at h ⊢; exact ⟨h1.setOut _ _ _ _ h.1 hk, h2.setOut _ _ _ _ h.2 hk⟩

theorem all_kind_hdr (p : Kind → Bool) (c c' : List Entry) (h : c.map hdr = c'.map hdr) :
    c.all (fun x => p x.d.kind) = c'.all (fun x => p x.d.kind) := by
  have : ∀ l : List Entry, l.all (fun x => p x.d.kind) = (l.map hdr).all (fun h => p h.2) := by
    intro l; induction l with
    | nil => rfl
    | cons a l ih => simp [List.all_cons, ih, hdr]
  rw [this c, this c', h]

theorem names_hdr (c c' : List Entry) (h : c.map hdr = c'.map hdr) : c.map (·.name) = c'.map (·.name) := by
  have : ∀ l : List Entry, l.map (·.name) = (l.map hdr).map (·.1) := by
    intro l; simp [hdr, Entry.name]
  rw [this c, this c', h]

theorem length_hdr (c c' : List Entry) (h : c.map hdr = c'.map hdr) : c.length = c'.length := by
  have := congrArg List.length h; simpa using this

theorem ndHere_iff (d : EData) (c i o : List Entry) : ndHere (.mk d c i o) = true ↔
    (∀ x ∈ c, x.d.kind ≠ .deviate) ∧ (∀ x ∈ i, x.d.kind ≠ .deviate) ∧ (∀ x ∈ o, x.d.kind ≠ .deviate) := by
  simp [ndHere, Entry.dir, Entry.inp, Entry.out, and_assoc]

theorem keysUniqueHere_iff (d : EData) (c i o : List Entry) : keysUniqueHere (.mk d c i o) = true ↔
    (c.map (·.name)).Nodup ∧ i.length ≤ 1 ∧ o.length ≤ 1 := by
  simp only [keysUniqueHere, Entry.dir, Entry.inp, Entry.out, Bool.and_eq_true, and_assoc]
  constructor
  · rintro ⟨h1, h2, h3⟩; exact ⟨of_decide_eq_true h1, of_decide_eq_true h2, of_decide_eq_true h3⟩
  · rintro ⟨h1, h2, h3⟩; exact ⟨decide_eq_true h1, decide_eq_true h2, decide_eq_true h3⟩

theorem localBase_ndHere (env : Env) : LocalBase env ndHere where
  hdr d c i o c' i' o' hc hi ho := by
    simp only [ndHere, Entry.dir, Entry.inp, Entry.out]
    rw [all_kind_hdr (· != .deviate) c c' hc, all_kind_hdr (· != .deviate) i i' hi,
      all_kind_hdr (· != .deviate) o o' ho]
  leaf root scope n syn he := by
    have := leafEntry_data env root scope n syn
    simp [ndHere, this.2.2.2.2.2.1, this.2.2.2.2.2.2.1, this.2.2.2.2.2.2.2]
  leafList d la xs dl hk hd h := by simp [ndHere, Entry.dir, Entry.inp, Entry.out]
  base d a b c e := by simp [ndHere, Entry.dir, Entry.inp, Entry.out]
  neutral d d' c i o hn h := h
  rename d c i o nm h := h
  typeSet d c i o ty hk h := h
  laSet d d' c i o hk hl h := h
  append d c i o v h hx hk := by
    rw [ndHere_iff] at h ⊢
    refine ⟨?_, h.2⟩
    intro x hx'
    rcases List.mem_append.mp hx' with hx' | hx'
    · exact h.1 x hx'
    · simp only [List.mem_singleton] at hx'; subst hx'; exact hk
  setInp d c o v h hk := by
    rw [ndHere_iff] at h ⊢
    refine ⟨h.1, ?_, h.2.2⟩
    intro x hx; simp only [List.mem_singleton] at hx; subst hx; rw [hk]; decide
  setOut d c i v h hk := by
    rw [ndHere_iff] at h ⊢
    refine ⟨h.1, h.2.1, ?_⟩
    intro x hx; simp only [List.mem_singleton] at hx; subst hx; rw [hk]; decide

theorem localBase_keysUniqueHere (env : Env) : LocalBase env keysUniqueHere where
  hdr d c i o c' i' o' hc hi ho := by
    rw [Bool.eq_iff_iff, keysUniqueHere_iff, keysUniqueHere_iff, names_hdr c c' hc, length_hdr i i' hi,
      length_hdr o o' ho]
  leaf root scope n syn he := by
    have := leafEntry_data env root scope n syn
    simp [keysUniqueHere, this.2.2.2.2.2.1, this.2.2.2.2.2.2.1, this.2.2.2.2.2.2.2]
  leafList d la xs dl hk hd h := by simp [keysUniqueHere, Entry.dir, Entry.inp, Entry.out]
  base d a b c e := by simp [keysUniqueHere, Entry.dir, Entry.inp, Entry.out]
  neutral d d' c i o hn h := h
  rename d c i o nm h := h
  typeSet d c i o ty hk h := h
  laSet d d' c i o hk hl h := h
  append d c i o v h hx hk := by
    rw [keysUniqueHere_iff] at h ⊢
    refine ⟨?_, h.2⟩
    simp only [List.map_append, List.map_cons, List.map_nil]
    rw [List.nodup_append]
    refine ⟨h.1, by simp, ?_⟩
    intro a ha b hb
    simp only [List.mem_singleton] at hb; subst hb
    simp only [List.mem_map] at ha
    obtain ⟨x, hx', rfl⟩ := ha
    exact hx x hx'
  setInp d c o v h hk := by
    rw [keysUniqueHere_iff] at h ⊢
    exact ⟨h.1, by simp, h.2.2⟩
  setOut d c i v h hk := by
    rw [keysUniqueHere_iff] at h ⊢
    exact ⟨h.1, h.2.1, by simp⟩


/-- The kind / child-map / list-attribute condition, allowing deviate entries to carry list
attributes (they never enter a schema tree: `ndHere`). -/
def kindsWeakHere (e : Entry) : Bool :=
  ((e.d.kind == .leaf) == !e.d.hasDir) &&
  (!e.d.listAttr.isSome || e.d.kind == .leaf || e.d.kind == .directory || e.d.kind == .deviate)

theorem localBase_kindsWeakHere (env : Env) : LocalBase env kindsWeakHere where
  hdr d c i o c' i' o' hc hi ho := rfl
  leaf root scope n syn he := by
    have := leafEntry_data env root scope n syn
    simp [kindsWeakHere, this.2.1, this.2.2.1, this.2.2.2.2.1]
  leafList d la xs dl hk hd h := by simp [kindsWeakHere, Entry.d, hk, hd]
  base d a b c e := by
    simp only [kindsWeakHere, Entry.d, a, Bool.not_true]
    have h1 : (d.kind == Kind.leaf) = false := by simpa using b
    rw [h1]
    cases hl : d.listAttr.isSome with
    | false => simp
    | true => simp [c hl]
  neutral d d' c i o hn h := by
    obtain ⟨_, h2, h3, _, h5, _⟩ := hn
    simp only [kindsWeakHere, Entry.d, h2, h3, h5] at h ⊢; exact h
  rename d c i o nm h := h
  typeSet d c i o ty hk h := h
  laSet d d' c i o hk hl h := by
    obtain ⟨_, h2, h3, _, _⟩ := hl
    simp only [kindsWeakHere, Entry.d, h2, h3, hk] at h ⊢
    simp only [Bool.and_eq_true] at h ⊢
    exact ⟨h.1, by simp⟩
  append d c i o v h hx hk := h
  setInp d c o v h hk := h
  setOut d c i v h hk := h

theorem localBase_typePresentHere (env : Env) (ht : TypeResTotal env.tres) : LocalBase env typePresentHere where
  hdr d c i o c' i' o' hc hi ho := rfl
  leaf root scope n syn he := by
    unfold leafEntry at he ⊢
    simp only [typePresentHere, Entry.d] at he ⊢
    cases hty : n.one? "type" with
    | none => simp
    | some t =>
      simp only [hty] at he ⊢
      have : (env.tres.resolve env.reg root (n :: scope) t).2 = [] := by
        simp only [List.append_eq_nil_iff] at he; exact he.1.1
      simp [ht _ _ _ _ this]
  leafList d la xs dl hk hd h := h
  base d a b c e := by
    have h1 : (d.kind == Kind.leaf) = false := by simpa using b
    simp [typePresentHere, Entry.d, h1]
  neutral d d' c i o hn h := by
    obtain ⟨_, h2, _, h4, _, h6⟩ := hn
    simp only [typePresentHere, Entry.d, h2, h4, h6] at h ⊢; exact h
  rename d c i o nm h := h
  typeSet d c i o ty hk h := by
    have h1 : (d.kind == Kind.leaf) = false := by simpa using hk
    simp [typePresentHere, Entry.d, h1]
  laSet d d' c i o hk hl h := by
    obtain ⟨_, h2, _, _, _⟩ := hl
    simp [typePresentHere, Entry.d, h2, hk]
  append d c i o v h hx hk := h
  setInp d c o v h hk := h
  setOut d c i v h hk := h

/-- Everything the entry layer establishes, as one local predicate. -/
def wfq (e : Entry) : Bool := (keysUniqueHere e && kindsWeakHere e) && ndHere e

theorem localOK_wfq (env : Env) : LocalOK env wfq where
  toLocalBase := ((localBase_keysUniqueHere env).and (localBase_kindsWeakHere env)).and (localBase_ndHere env)
  nd e h := by simp only [wfq, Bool.and_eq_true] at h; exact h.2

def wfqT (e : Entry) : Bool := wfq e && typePresentHere e

theorem localOK_wfqT (env : Env) (ht : TypeResTotal env.tres) : LocalOK env wfqT where
  toLocalBase := (localOK_wfq env).toLocalBase.and (localBase_typePresentHere env ht)
  nd e h := by simp only [wfqT, Bool.and_eq_true] at h; exact (localOK_wfq env).nd e h.1

/-! ### unconditionally: sibling names, the empty name apart, are pairwise different

(An error entry — out of fuel — has the empty name whatever it was filed under; everything else is
named after the key it is added under, and `add` / `merge` refuse a name that is taken.) -/

def names1 (c : List Entry) : List String := (c.map (·.name)).filter (· ≠ "")

def uHere (e : Entry) : Bool := decide (names1 e.dir).Nodup && decide (e.inp.length ≤ 1) && decide (e.out.length ≤ 1)

def U (e : Entry) : Prop := everyNode uHere e = true

theorem U_mk (d : EData) (c i o : List Entry) : U (.mk d c i o) ↔
    ((names1 c).Nodup ∧ i.length ≤ 1 ∧ o.length ≤ 1) ∧ (∀ x ∈ c, U x) ∧ (∀ x ∈ i, U x) ∧ (∀ x ∈ o, U x) := by
  unfold U; rw [everyNode_mk]
  simp only [uHere, Entry.dir, Entry.inp, Entry.out, Bool.and_eq_true]
  constructor
  · rintro ⟨⟨⟨h1, h1'⟩, h1''⟩, h2⟩; exact ⟨⟨of_decide_eq_true h1, of_decide_eq_true h1', of_decide_eq_true h1''⟩, h2⟩
  · rintro ⟨⟨h1, h1', h1''⟩, h2⟩; exact ⟨⟨⟨decide_eq_true h1, decide_eq_true h1'⟩, decide_eq_true h1''⟩, h2⟩

theorem U_withD (e : Entry) (f : EData → EData) : U (e.withD f) ↔ U e := by
  cases e with | mk d c i o => simp only [Entry.withD, U_mk]

theorem names1_append (c : List Entry) (v : Entry) :
    names1 (c ++ [v]) = names1 c ++ (if v.name ≠ "" then [v.name] else []) := by
  unfold names1
  simp only [List.map_append, List.filter_append, List.map_cons, List.map_nil]
  congr 1
  by_cases h : v.name = "" <;> simp [h]

theorem U_append (e v : Entry) (he : U e) (hv : U v) (hk : e.child? v.name = none) : U (e.withDir (e.dir ++ [v])) := by
  cases e with | mk d c i o =>
  simp only [Entry.withDir, Entry.dir]
  rw [U_mk] at he ⊢
  refine ⟨⟨?_, he.1.2⟩, ?_, he.2.2⟩
  · rw [names1_append]
    by_cases h : v.name = ""
    · simp [h, he.1.1]
    · simp only [ne_eq, h, not_false_eq_true, if_true]
      rw [List.nodup_append]
      refine ⟨he.1.1, by simp, ?_⟩
      intro a ha b hb
      simp only [List.mem_singleton] at hb; subst hb
      simp only [names1, List.mem_filter, List.mem_map] at ha
      obtain ⟨⟨x, hx, rfl⟩, _⟩ := ha
      exact child?_none _ _ hk x hx
  · intro x hx
    rcases List.mem_append.mp hx with hx | hx
    · exact he.2.1 x hx
    · simp only [List.mem_singleton] at hx; subst hx; exact hv

theorem U_add (e : Entry) (k : String) (v : Entry) (he : U e) (hv : U v) (hs : v.name = k ∨ v.name = "") :
    U (e.add k v) := by
  unfold Entry.add
  split
  · exact (U_withD _ _).2 he
  · rename_i hk
    rcases hs with hs | hs
    · exact U_append e v he hv (by rw [hs]; exact hk)
    · -- the empty name does not count
      cases e with | mk d c i o =>
      simp only [Entry.withDir, Entry.dir]
      rw [U_mk] at he ⊢
      refine ⟨⟨by rw [names1_append]; simp [hs, he.1.1], he.1.2⟩, ?_, he.2.2⟩
      intro x hx
      rcases List.mem_append.mp hx with hx | hx
      · exact he.2.1 x hx
      · simp only [List.mem_singleton] at hx; subst hx; exact hv

theorem U_merge (e : Entry) (ns : Option String) (oe : Entry) (he : U e) (ho : U oe) : U (e.merge ns oe) := by
  cases oe with | mk d2 c2 i2 o2 =>
  rw [U_mk] at ho
  have step : ∀ (stamp : Entry → Entry) (x : Err), (∀ v, U v → U (stamp v)) → ∀ b v, v ∈ c2 → U b →
      U (match b.child? (stamp v).name with
        | some _ => b.addErr x
        | none => b.withDir (b.dir ++ [stamp v])) := by
    intro stamp x h1 b v hv hb
    split
    · exact (U_withD _ _).2 hb
    · rename_i hk
      exact U_append b _ hb (h1 v (ho.2.1 v hv)) hk
  unfold Entry.merge
  simp only [Entry.dir]
  cases ns with
  | none =>
    refine foldl_inv U _ c2 _ ((U_withD _ _).2 he) ?_
    intro b v hv hb
    exact step id _ (fun v hv => hv) b v hv hb
  | some n =>
    refine foldl_inv U _ c2 _ ((U_withD _ _).2 he) ?_
    intro b v hv hb
    exact step (fun v => v.withD fun d => { d with ns := some n }) _ (fun v hv => (U_withD _ _).2 hv) b v hv hb

theorem U_leafEntry (env : Env) (root : Mod) (n : Stmt) (scope : List Stmt) (syn : Bool) :
    U (leafEntry env root scope n syn) := by
  have hd := leafEntry_data env root scope n syn
  generalize leafEntry env root scope n syn = le at hd ⊢
  cases le with | mk d c i o =>
  simp only [Entry.dir, Entry.inp, Entry.out] at hd
  obtain ⟨_, _, _, _, _, rfl, rfl, rfl⟩ := hd
  rw [U_mk]; simp [names1]

theorem closed_U (env : Env) : Closed env U where
  withD e f _ _ h := (U_withD e f).2 h
  addErrs e xs h := (U_withD e _).2 h
  addErr e x h := (U_withD e _).2 h
  importErrors e c h := (U_withD e _).2 h
  add e k v h hv _ hs := U_add e k v h hv hs
  merge e ns oe h ho := U_merge e ns oe h ho
  setInp d c o ie h hi _ := by
    rw [U_mk] at h ⊢
    refine ⟨⟨h.1.1, by simp, h.1.2.2⟩, h.2.1, ?_, h.2.2.2⟩
    intro x hx; simp only [List.mem_singleton] at hx; subst hx; exact (U_withD _ _).2 hi
  setOut d c i oe h ho _ := by
    rw [U_mk] at h ⊢
    refine ⟨⟨h.1.1, h.1.2.1, by simp⟩, h.2.1, h.2.2.1, ?_⟩
    intro x hx; simp only [List.mem_singleton] at hx; subst hx; exact (U_withD _ _).2 ho
  typeSet e ty h _ := (U_withD e _).2 h
  laSet e f h _ _ _ := (U_withD e f).2 h
  base0 root n := by unfold e0; rw [U_mk]; simp [names1]
  errE root n cls := by unfold errorEntry; rw [U_mk]; simp [names1]
  leafE root n scope syn := U_leafEntry env root n scope syn
  leafL root n scope la xs dl := (U_withD _ _).2 (U_leafEntry env root n scope true)

/-! ### the conversion of all modules -/

theorem tstate_ok (reg : Registry) (opts : Opts) (plug : Plug) {PE : Entry → Prop}
    (hC : Closed (envOf reg opts plug) PE) : StOK PE [] (tstate reg opts plug) := by
  unfold tstate
  refine foldl_inv (StOK PE []) _ _ _ (stOK_empty PE []) ?_
  intro st m _ hst
  exact (toEntry_ok hC (entryFuel reg) m [] m.stmt [] st [] hst).2.1

/-! ### forests: keys and sticky root errors -/

def fkeys (f : Forest) : List Nat := f.trees.map (·.1)

theorem fkeys_setTree (f : Forest) (id : Nat) (e : Entry) : fkeys (f.setTree id e) = fkeys f := by
  unfold fkeys Forest.setTree
  simp only [List.map_map]
  apply List.map_congr_left
  rintro ⟨i, t⟩ _
  simp only [Function.comp]
  split <;> rfl

theorem tree?_isSome (f : Forest) (id : Nat) : (f.tree? id).isSome = true ↔ id ∈ fkeys f := by
  unfold Forest.tree? fkeys
  simp only [Option.isSome_map, List.find?_isSome, List.mem_map]
  constructor
  · rintro ⟨x, hx, h⟩; exact ⟨x, hx, by simpa using h⟩
  · rintro ⟨x, hx, h⟩; exact ⟨x, hx, by simp [h]⟩

theorem tree?_setTree (f : Forest) (id id' : Nat) (e : Entry) :
    (f.setTree id e).tree? id' = if id' = id then (f.tree? id').map (fun _ => e) else f.tree? id' := by
  rw [ForestAux.tree?_setTree]
  split
  · next h => rw [h]
  · rfl

/-- A node's own error list only grows. -/
def OwnMono (a b : Entry) : Prop := a.d.errors ≠ [] → b.d.errors ≠ []

theorem OwnMono.refl (a : Entry) : OwnMono a a := id
theorem OwnMono.trans {a b c : Entry} (h1 : OwnMono a b) (h2 : OwnMono b c) : OwnMono a c := fun h => h2 (h1 h)

/-- The forest keeps its keys, and a tree whose root carries an error keeps carrying one. -/
def FLe (f f' : Forest) : Prop :=
  fkeys f' = fkeys f ∧ ∀ id t, f.tree? id = some t → ∃ t', f'.tree? id = some t' ∧ OwnMono t t'

theorem FLe.refl (f : Forest) : FLe f f := ⟨rfl, fun id t h => ⟨t, h, OwnMono.refl t⟩⟩
theorem FLe.trans {a b c : Forest} (h1 : FLe a b) (h2 : FLe b c) : FLe a c := by
  refine ⟨h2.1.trans h1.1, ?_⟩
  intro id t ht
  obtain ⟨t', ht', m1⟩ := h1.2 id t ht
  obtain ⟨t'', ht'', m2⟩ := h2.2 id t' ht'
  exact ⟨t'', ht'', m1.trans m2⟩

theorem FLe_setTree (f : Forest) (id : Nat) (t e : Entry) (ht : f.tree? id = some t) (hm : OwnMono t e) :
    FLe f (f.setTree id e) := by
  refine ⟨fkeys_setTree f id e, ?_⟩
  intro id' t' ht'
  rw [tree?_setTree]
  by_cases h : id' = id
  · subst h
    simp only [if_true, ht']
    rw [ht] at ht'; cases ht'
    exact ⟨e, rfl, hm⟩
  · simp only [h, if_false]
    exact ⟨t', ht', OwnMono.refl _⟩

def RootErrAt (f : Forest) (id : Nat) : Prop := ∃ t, f.tree? id = some t ∧ t.d.errors ≠ []

theorem RootErrAt.mono {f f' : Forest} {id : Nat} (h : RootErrAt f id) (hf : FLe f f') : RootErrAt f' id := by
  obtain ⟨t, ht, he⟩ := h
  obtain ⟨t', ht', m⟩ := hf.2 id t ht
  exact ⟨t', ht', m he⟩

theorem ownMono_updateAt (f : Entry → Entry) (hf : ∀ x, OwnMono x (f x)) (p : Path) (e : Entry) :
    OwnMono e (e.updateAt p f) := by
  cases p with
  | nil => exact hf e
  | cons s p =>
    cases e with | mk d c i o =>
    cases s <;> exact id

theorem ownMono_walkParts (parts : List String) (root : Entry) (cur : Option Path) :
    OwnMono root (walkParts parts root cur).2 :=
  walkParts_inv (OwnMono root)
    (fun r p h => h.trans (ownMono_updateAt _ (fun x => by cases x; exact id) p r))
    (fun r p h => h.trans (ownMono_updateAt _ (fun x => by cases x; exact id) p r))
    parts root cur (OwnMono.refl root)

theorem ownMono_addErr (e : Entry) (x : Err) : OwnMono e (e.addErr x) := by
  cases e with | mk d c i o => intro _; simp [Entry.addErr, Entry.withD, Entry.d]

theorem ownMono_merge (e : Entry) (ns : Option String) (oe : Entry) : OwnMono e (e.merge ns oe) := by
  intro h
  obtain ⟨xs, hxs⟩ := merge_root_errors e ns oe
  rw [hxs]
  intro h0
  simp only [List.append_eq_nil_iff] at h0
  exact h h0.1.1

theorem FLe_find (reg : Registry) (f : Forest) (start : Loc) (ctx : Nat) (name : String) :
    FLe f (find reg f start ctx name).2 := by
  unfold find
  dsimp only
  repeat' split
  all_goals first
    | exact FLe.refl f
    | (rename_i heq; exact FLe_setTree _ _ _ _ heq (ownMono_walkParts _ _ _))
    | (rename_i heq; exact FLe_setTree _ _ _ _ heq (ownMono_addErr _ _))

/-! ### one `Augment` call, step by step -/

/-- What `augmentTree` does when an augment cannot be applied. -/
def augFail (id : Nat) (addErrors : Bool) (a : Entry) (s : PState) (unapplied : List Entry) (p k : Nat) :
    PState × List Entry × Nat × Nat :=
  let s := if addErrors then
      match s.forest.tree? id with
      | some root => { s with forest := s.forest.setTree id (root.addErr (Err.at_ a.d.node "augment-not-found")) }
      | none => s
    else s
  (s, unapplied ++ [a], p, k + 1)

/-- The body of the loop over the pending augments of one tree. -/
def augStep (reg : Registry) (id : Nat) (addErrors : Bool) (nsOf : String)
    (acc : PState × List Entry × Nat × Nat) (a : Entry) : PState × List Entry × Nat × Nat :=
  let (s, unapplied, p, k) := acc
  let (target, forest) := find reg s.forest (id, []) a.d.nodeMod a.d.name
  let s := { s with forest := forest }
  match target with
  | none => augFail id addErrors a s unapplied p k
  | some (t, path) =>
    match (s.forest.tree? t).bind (·.getAt path) with
    | none => augFail id addErrors a s unapplied p k
    | some te =>
      if cannotHaveChildren te then augFail id addErrors a s unapplied p k else
      match s.forest.tree? t with
      | none => augFail id addErrors a s unapplied p k
      | some root =>
        let root := root.updateAt path fun te => te.merge (some nsOf) a
        ({ s with forest := s.forest.setTree t root }, unapplied, p + 1, k)

theorem augmentTree_eq (reg : Registry) (id : Nat) (addErrors : Bool) (s : PState) :
    augmentTree reg id addErrors s =
      (let r := (s.pendingOf id).foldl (augStep reg id addErrors (namespaceAt reg s.forest (id, []))) (s, [], 0, 0)
       (r.1.setPending id r.2.1, r.2.2.1, r.2.2.2)) := by
  rfl


/-- What one step of the loop does to the state and the counters. -/
structure AugStepOK (id : Nat) (addErrors : Bool) (a : Entry) (s0 : PState)
    (acc acc' : PState × List Entry × Nat × Nat) : Prop where
  fle : FLe s0.forest acc'.1.forest
  pend : acc'.1.pending = acc.1.pending
  res : (acc'.2.1 = acc.2.1 ∧ acc'.2.2.2 = acc.2.2.2 ∧ acc'.2.2.1 = acc.2.2.1 + 1) ∨
    (acc'.2.1 = acc.2.1 ++ [a] ∧ acc'.2.2.2 = acc.2.2.2 + 1 ∧
      (addErrors = true → id ∈ fkeys s0.forest → RootErrAt acc'.1.forest id))

theorem augFail_ok (id : Nat) (addErrors : Bool) (a : Entry) (s0 s : PState) (un : List Entry) (p k : Nat)
    (pend0 : List (Nat × List Entry)) (hf : FLe s0.forest s.forest) (hp : s.pending = pend0) :
    FLe s0.forest (augFail id addErrors a s un p k).1.forest ∧ (augFail id addErrors a s un p k).1.pending = pend0 ∧
    (augFail id addErrors a s un p k).2.1 = un ++ [a] ∧ (augFail id addErrors a s un p k).2.2.2 = k + 1 ∧
    (addErrors = true → id ∈ fkeys s0.forest → RootErrAt (augFail id addErrors a s un p k).1.forest id) := by
  unfold augFail
  dsimp only
  cases addErrors with
  | false => simp only [Bool.false_eq_true, if_false]; exact ⟨hf, hp, by first | rfl | trivial, by first | rfl | trivial, fun h => absurd h (by simp)⟩
  | true =>
    simp only [if_true]
    cases ht : s.forest.tree? id with
    | none =>
      refine ⟨hf, hp, by first | rfl | trivial, by first | rfl | trivial, ?_⟩
      intro _ hid
      have : (s.forest.tree? id).isSome = true := (tree?_isSome _ _).2 (by rw [hf.1]; exact hid)
      rw [ht] at this; exact absurd this (by simp)
    | some root =>
      dsimp only
      refine ⟨hf.trans (FLe_setTree _ _ _ _ ht (ownMono_addErr _ _)), hp, by first | rfl | trivial, by first | rfl | trivial, ?_⟩
      intro _ _
      refine ⟨root.addErr (Err.at_ a.d.node "augment-not-found"), ?_, ?_⟩
      · rw [tree?_setTree]; simp [ht]
      · cases root; simp [Entry.addErr, Entry.withD, Entry.d]

theorem augStep_ok (reg : Registry) (id : Nat) (addErrors : Bool) (nsOf : String) (s0 : PState)
    (acc : PState × List Entry × Nat × Nat) (a : Entry) (hf : FLe s0.forest acc.1.forest) :
    AugStepOK id addErrors a s0 acc (augStep reg id addErrors nsOf acc a) := by
  obtain ⟨s, un, p, k⟩ := acc
  dsimp only at hf
  have hfind := FLe_find reg s.forest (id, []) a.d.nodeMod a.d.name
  unfold augStep
  dsimp only
  generalize find reg s.forest (id, []) a.d.nodeMod a.d.name = r at hfind
  obtain ⟨target, forest⟩ := r
  dsimp only at hfind ⊢
  have hf2 : FLe s0.forest forest := hf.trans hfind
  have fail := augFail_ok id addErrors a s0 { s with forest := forest } un p k s.pending hf2 rfl
  have failOK : AugStepOK id addErrors a s0 (s, un, p, k) (augFail id addErrors a { s with forest := forest } un p k) :=
    ⟨fail.1, fail.2.1, Or.inr ⟨fail.2.2.1, fail.2.2.2.1, fail.2.2.2.2⟩⟩
  repeat' split
  all_goals first
    | exact failOK
    | (rename_i root hroot
       refine ⟨hf2.trans (FLe_setTree _ _ _ _ hroot (ownMono_updateAt _ (fun x => ownMono_merge _ _ _) _ _)), rfl,
         Or.inl ⟨rfl, rfl, rfl⟩⟩)


/-- One `Augment` call: the forest keeps its keys and its root errors; the pending list of `id`
becomes the list `un` of augments that could not be applied (`k = un.length`), the other pending
lists are untouched; and with `addErrors`, a non-empty `un` leaves an error on the root of tree `id`. -/
theorem augmentTree_ok (reg : Registry) (id : Nat) (addErrors : Bool) (s : PState) :
    ∃ un : List Entry,
      FLe s.forest (augmentTree reg id addErrors s).1.forest ∧
      (augmentTree reg id addErrors s).1.pending =
        s.pending.map (fun (ip : Nat × List Entry) => if ip.1 == id then (ip.1, un) else (ip.1, ip.2)) ∧
      (∀ a ∈ un, a ∈ s.pendingOf id) ∧
      (augmentTree reg id addErrors s).2.2 = un.length ∧
      (addErrors = true → un ≠ [] → id ∈ fkeys s.forest → RootErrAt (augmentTree reg id addErrors s).1.forest id) ∧
      ((augmentTree reg id addErrors s).2.1 = 0 → un = [] → (augmentTree reg id addErrors s).1.forest = s.forest) := by
  rw [augmentTree_eq]
  dsimp only
  have key := foldl_inv (fun acc : PState × List Entry × Nat × Nat =>
      FLe s.forest acc.1.forest ∧ acc.1.pending = s.pending ∧ (∀ a ∈ acc.2.1, a ∈ s.pendingOf id) ∧
      acc.2.2.2 = acc.2.1.length ∧
      (addErrors = true → acc.2.1 ≠ [] → id ∈ fkeys s.forest → RootErrAt acc.1.forest id) ∧
      (acc.2.2.1 = 0 → acc.2.1 = [] → acc.1.forest = s.forest))
    (augStep reg id addErrors (namespaceAt reg s.forest (id, []))) (s.pendingOf id) (s, [], 0, 0)
    ⟨FLe.refl _, rfl, by simp, rfl, fun _ h => absurd rfl h, fun _ _ => rfl⟩ ?_
  · obtain ⟨k1, k2, k3, k4, k5, k6⟩ := key
    refine ⟨_, k1, ?_, k3, k4, k5, k6⟩
    simp only [PState.setPending, k2]
  · rintro acc a ha ⟨i1, i2, i3, i4, i5, i6⟩
    have st := augStep_ok reg id addErrors (namespaceAt reg s.forest (id, [])) acc.1 acc a (FLe.refl _)
    generalize augStep reg id addErrors (namespaceAt reg s.forest (id, [])) acc a = acc' at st ⊢
    obtain ⟨f1, f2, f3⟩ := st
    refine ⟨i1.trans f1, f2.trans i2, ?_, ?_, ?_, ?_⟩
    rotate_left 3
    · intro hp0 hun
      rcases f3 with ⟨_, _, e3⟩ | ⟨e1, _, _⟩
      · rw [e3] at hp0; exact absurd hp0 (by simp)
      · rw [e1] at hun; exact absurd hun (by simp)
    · rcases f3 with ⟨e1, _⟩ | ⟨e1, _, _⟩
      · rw [e1]; exact i3
      · rw [e1]; intro x hx
        rcases List.mem_append.mp hx with hx | hx
        · exact i3 x hx
        · simp only [List.mem_singleton] at hx; subst hx; exact ha
    · rcases f3 with ⟨e1, e2, _⟩ | ⟨e1, e2, _⟩
      · rw [e1, e2]; exact i4
      · rw [e1, e2, i4]; simp
    · intro hadd hne hid
      rcases f3 with ⟨e1, _⟩ | ⟨_, _, e3⟩
      · rw [e1] at hne; exact (i5 hadd hne hid).mono f1
      · exact e3 hadd (by rw [i1.1]; exact hid)

/-! ### the augment loop: who still has pending augments -/

theorem mem_swapRemove (mods : Array Nat) (i : Nat) (h : i < mods.size) (x : Nat) (hx : x ∈ mods) (hne : x ≠ mods[i]) :
    x ∈ (mods.set i (mods.back?.getD 0) h).pop := by
  obtain ⟨j, hj, rfl⟩ := Array.mem_iff_getElem.mp hx
  have hji : j ≠ i := fun e => hne (by subst e; rfl)
  rw [Array.mem_iff_getElem]
  by_cases hl : j < mods.size - 1
  · refine ⟨j, by simp; omega, ?_⟩
    simp [Array.getElem_pop, Array.getElem_set, Ne.symm hji]
  · have hj' : j = mods.size - 1 := by omega
    refine ⟨i, by simp; omega, ?_⟩
    simp only [Array.getElem_pop, Array.getElem_set_self]
    rw [Array.back?_eq_getElem?]
    simp [hj']
    have : mods.size - 1 < mods.size := by omega
    simp [Array.getElem?_eq_getElem this]

/-- Every tree with pending augments exists. -/
def InvB (s : PState) : Prop := ∀ p ∈ s.pending, p.2 ≠ [] → p.1 ∈ fkeys s.forest

/-- Every tree with pending augments is still in the work list. -/
def InvA (mods : Array Nat) (s : PState) : Prop := ∀ p ∈ s.pending, p.2 ≠ [] → p.1 ∈ mods

theorem pendingOf_ne_nil (s : PState) (id : Nat) (h : s.pendingOf id ≠ []) :
    ∃ p ∈ s.pending, p.1 = id ∧ p.2 ≠ [] := by
  unfold PState.pendingOf at h
  cases hf : s.pending.find? (·.1 == id) with
  | none => simp [hf] at h
  | some p =>
    simp only [hf, Option.map_some, Option.getD_some] at h
    exact ⟨p, List.mem_of_find?_eq_some hf, by simpa using List.find?_some hf, h⟩

theorem invB_augmentTree (reg : Registry) (id : Nat) (addErrors : Bool) (s : PState) (hB : InvB s) :
    InvB (augmentTree reg id addErrors s).1 := by
  obtain ⟨un, fle, hp, hsub, _, _, _⟩ := augmentTree_ok reg id addErrors s
  intro p hp' hne
  rw [fle.1]
  rw [hp] at hp'
  simp only [List.mem_map] at hp'
  obtain ⟨ip, hip, rfl⟩ := hp'
  by_cases hid : (ip.1 == id) = true
  · simp only [hid, if_true] at hne ⊢
    have hid' : ip.1 = id := by simpa using hid
    cases un with
    | nil => exact absurd rfl hne
    | cons a t =>
      obtain ⟨p0, hp0, h1, h2⟩ := pendingOf_ne_nil s id (List.ne_nil_of_mem (hsub a (by simp)))
      rw [hid', ← h1]; exact hB p0 hp0 h2
  · simp only [hid, if_false] at hne ⊢
    exact hB ip hip hne

theorem augmentPass_inv (reg : Registry) : ∀ (fuel : Nat) (mods : Array Nat) (i processed : Nat) (s : PState),
    InvB s → InvA mods s →
    InvB (augmentPass reg fuel mods i processed s).2.2 ∧
      InvA (augmentPass reg fuel mods i processed s).1 (augmentPass reg fuel mods i processed s).2.2 := by
  intro fuel
  induction fuel with
  | zero => intro mods i processed s hB hA; exact ⟨hB, hA⟩
  | succ fuel ih =>
    intro mods i processed s hB hA
    unfold augmentPass
    split
    · rename_i hi
      have hB' := invB_augmentTree reg mods[i] false s hB
      obtain ⟨un, fle, hp, hsub, hk, _, _⟩ := augmentTree_ok reg mods[i] false s
      generalize augmentTree reg mods[i] false s = r at hB' hp hk ⊢
      obtain ⟨s', p, k⟩ := r
      dsimp only at hB' hp hk ⊢
      split
      · rename_i hk0
        have hun : un = [] := by
          have : k = 0 := by simpa using hk0
          rw [this] at hk; exact List.length_eq_zero_iff.mp hk.symm
        apply ih _ _ _ _ hB'
        intro q hq hne
        rw [hp] at hq
        simp only [List.mem_map] at hq
        obtain ⟨ip, hip, rfl⟩ := hq
        by_cases hid : (ip.1 == mods[i]) = true
        · simp only [hid, if_true] at hne
          exact absurd hun hne
        · simp only [hid, if_false] at hne ⊢
          exact mem_swapRemove mods i hi ip.1 (hA ip hip hne) (by simpa using hid)
      · apply ih _ _ _ _ hB'
        intro q hq hne
        rw [hp] at hq
        simp only [List.mem_map] at hq
        obtain ⟨ip, hip, rfl⟩ := hq
        by_cases hid : (ip.1 == mods[i]) = true
        · simp only [hid, if_true]
          have : ip.1 = mods[i] := by simpa using hid
          rw [this]; exact Array.getElem_mem hi
        · simp only [hid, if_false] at hne ⊢
          exact hA ip hip hne
    · exact ⟨hB, hA⟩

theorem augmentLoop_inv (reg : Registry) : ∀ (fuel : Nat) (mods : Array Nat) (s : PState),
    InvB s → InvA mods s →
    InvB (augmentLoop reg fuel mods s).2 ∧ InvA (augmentLoop reg fuel mods s).1 (augmentLoop reg fuel mods s).2 := by
  intro fuel
  induction fuel with
  | zero => intro mods s hB hA; exact ⟨hB, hA⟩
  | succ fuel ih =>
    intro mods s hB hA
    unfold augmentLoop
    split
    · exact ⟨hB, hA⟩
    · have := augmentPass_inv reg (mods.size + 1) mods 0 0 s hB hA
      generalize augmentPass reg (mods.size + 1) mods 0 0 s = r at this ⊢
      obtain ⟨mods', processed, s'⟩ := r
      dsimp only at this ⊢
      split
      · exact this
      · exact ih _ _ this.1 this.2

theorem foldl_prefix_inv {α β} (P : List α → β → Prop) (f : β → α → β) (l : List α) (b : β) (h0 : P [] b)
    (hs : ∀ done a b, a ∈ l → P done b → P (done ++ [a]) (f b a)) : P l (l.foldl f b) := by
  have gen : ∀ (l2 done : List α) (b : β), (∀ a ∈ l2, a ∈ l) → P done b → P (done ++ l2) (l2.foldl f b) := by
    intro l2
    induction l2 with
    | nil => intro done b _ h; simpa using h
    | cons a l2 ih =>
      intro done b hsub h
      simp only [List.foldl_cons]
      have := ih (done ++ [a]) (f b a) (fun x hx => hsub x (by simp [hx])) (hs done a b (hsub a (by simp)) h)
      simpa using this
  simpa using gen l [] b (fun a h => h) h0

theorem tree?_mapTrees (f : Forest) (g : Entry → Entry) (id : Nat) :
    (Forest.tree? { trees := f.trees.map fun (ie : Nat × Entry) => (ie.1, g ie.2) } id) = (f.tree? id).map g := by
  unfold Forest.tree?
  simp only
  induction f.trees with
  | nil => simp
  | cons a l ih =>
    simp only [List.map_cons, List.find?_cons]
    split
    · simp
    · exact ih

theorem fixChoice_d (e : Entry) : (fixChoice e).d = e.d := by
  cases e with | mk d c i o => simp [fixChoice, Entry.d]

theorem FLe_fixAll (s : PState) : FLe s.forest (fixAll s).forest := by
  unfold fixAll
  refine ⟨?_, ?_⟩
  · simp [fkeys, List.map_map, Function.comp_def]
  · intro id t ht
    refine ⟨fixChoice t, ?_, ?_⟩
    · have := tree?_mapTrees s.forest fixChoice id
      simp only [ht, Option.map_some] at this
      exact this
    · intro h; rw [fixChoice_d]; exact h

/-- The pass over the trees left with pending augments (`addErrors = true`): afterwards every
tree that still has one carries an error on its root. -/
theorem leftover_inv (reg : Registry) (left : Array Nat) (s : PState) (hB : InvB s) (hA : InvA left s) :
    let r := left.foldl (fun (acc : PState × Nat) id =>
      let (s, p, _) := augmentTree reg id true acc.1
      (s, acc.2 + p)) (s, 0)
    ∀ p ∈ r.1.pending, p.2 ≠ [] → RootErrAt r.1.forest p.1 := by
  intro r
  have key : InvB r.1 ∧ InvA left r.1 ∧ ∀ p ∈ r.1.pending, p.2 ≠ [] → p.1 ∈ left.toList → RootErrAt r.1.forest p.1 := by
    show InvB r.1 ∧ InvA left r.1 ∧ _
    simp only [r]
    rw [← Array.foldl_toList]
    refine foldl_prefix_inv (fun (done : List Nat) (acc : PState × Nat) =>
      InvB acc.1 ∧ InvA left acc.1 ∧ ∀ p ∈ acc.1.pending, p.2 ≠ [] → p.1 ∈ done → RootErrAt acc.1.forest p.1)
      _ _ _ ⟨hB, hA, fun _ _ _ h => absurd h (by simp)⟩ ?_
    rintro done id ⟨s, cnt⟩ hid ⟨jB, jA, jE⟩
    dsimp only at jB jA jE ⊢
    have hB' := invB_augmentTree reg id true s jB
    obtain ⟨un, fle, hp, hsub, hk, herr, _⟩ := augmentTree_ok reg id true s
    generalize augmentTree reg id true s = r' at hB' fle hp hk herr ⊢
    obtain ⟨s', p, k⟩ := r'
    dsimp only at hB' fle hp hk herr ⊢
    refine ⟨hB', ?_, ?_⟩
    · intro q hq hne
      rw [hp] at hq
      simp only [List.mem_map] at hq
      obtain ⟨ip, hip, rfl⟩ := hq
      by_cases hk : (ip.1 == id) = true
      · simp only [hk, if_true]
        have : ip.1 = id := by simpa using hk
        rw [this]; exact Array.mem_toList_iff.mp hid
      · simp only [hk] at hne ⊢
        exact jA ip hip hne
    · intro q hq hne hdone
      rw [hp] at hq
      simp only [List.mem_map] at hq
      obtain ⟨ip, hip, rfl⟩ := hq
      by_cases hk : (ip.1 == id) = true
      · simp only [hk, if_true] at hne ⊢
        have hid' : ip.1 = id := by simpa using hk
        rw [hid']
        cases un with
        | nil => exact absurd rfl hne
        | cons a t =>
          obtain ⟨p0, hp0, h1, h2⟩ := pendingOf_ne_nil s id (List.ne_nil_of_mem (hsub a (by simp)))
          exact herr rfl (by simp) (by rw [← h1]; exact jB p0 hp0 h2)
      · simp only [hk] at hne hdone ⊢
        have hne_id : ip.1 ≠ id := by simpa using hk
        have : ip.1 ∈ done := by
          rcases List.mem_append.mp hdone with h | h
          · exact h
          · simp only [List.mem_singleton] at h; exact absurd h hne_id
        exact (jE ip hip hne this).mono fle
  intro p hp hne
  exact key.2.2 p hp hne (Array.mem_toList_iff.mpr (key.2.1 p hp hne))

/-! ### no augment is left unapplied after a clean `Process` -/

theorem invB_pstate0 (reg : Registry) (opts : Opts) (plug : Plug) : InvB (pstate0 reg opts plug) := by
  have hst := tstate_ok reg opts plug (closed_U (envOf reg opts plug))
  intro p hp hne
  simp only [pstate0, pending0, List.mem_map] at hp
  obtain ⟨m, _, rfl⟩ := hp
  dsimp only at hne ⊢
  cases hf : (tstate reg opts plug).augs.find? (·.1 == m.seq) with
  | none => simp [hf] at hne
  | some q =>
    have hq := List.mem_of_find?_eq_some hf
    have hk : q.1 = m.seq := by simpa using List.find?_some hf
    rcases hst.keys q hq with h | h
    · simp only [pstate0, forest0, fkeys]
      rw [← hk]; exact h
    · exact absurd h (by simp)

theorem byId_some_of_mem (reg : Registry) (m : Mod) (hm : m ∈ reg.mods) : ∃ m', reg.byId m.seq = some m' ∧ m'.seq = m.seq := by
  unfold Registry.byId
  cases hf : reg.mods.find? (·.seq == m.seq) with
  | none =>
    rw [List.find?_eq_none] at hf
    exact absurd (hf m hm) (by simp)
  | some m' => exact ⟨m', rfl, by simpa using List.find?_some hf⟩

theorem invA_pstate0 (reg : Registry) (opts : Opts) (plug : Plug) :
    InvA ((augOrder reg).map (·.seq)).toArray (pstate0 reg opts plug) := by
  intro p hp _
  simp only [pstate0, pending0, List.mem_map] at hp
  obtain ⟨m, hm, rfl⟩ := hp
  dsimp only
  simp only [List.mem_toArray, List.mem_map]
  -- m is bound in one of the two tables
  have : ∃ kv ∈ reg.modules ++ reg.subModules, kv.2 = m.seq ∧ m ∈ reg.mods := by
    simp only [allMods, Registry.distinctModules, Registry.distinctSubs, List.mem_append, List.mem_filter,
      List.any_eq_true] at hm
    rcases hm with ⟨h1, kv, h2, h3⟩ | ⟨h1, kv, h2, h3⟩
    · exact ⟨kv, List.mem_append.mpr (Or.inl h2), by simpa using h3, h1⟩
    · exact ⟨kv, List.mem_append.mpr (Or.inr h2), by simpa using h3, h1⟩
  obtain ⟨kv, hkv, hseq, hmem⟩ := this
  obtain ⟨m', hm', hs⟩ := byId_some_of_mem reg m hmem
  refine ⟨m', ?_, hs⟩
  unfold augOrder
  rw [mem_sortBy]
  simp only [List.mem_filterMap]
  exact ⟨kv, hkv, by rw [hseq]; exact hm'⟩

theorem invB_fixAll (s : PState) (h : InvB s) : InvB (fixAll s) := by
  intro p hp hne
  rw [(FLe_fixAll s).1]
  exact h p hp hne

theorem ownErr_forestErrs (f : Forest) (id : Nat) (h : RootErrAt f id) : forestErrs f ≠ [] := by
  obtain ⟨t, ht, he⟩ := h
  intro h0
  have := (forestErrs_eq_nil f).1 h0
  simp only [Forest.tree?, Option.map_eq_some_iff] at ht
  obtain ⟨x, hx, rfl⟩ := ht
  exact he (noErrors_own _ (this x (List.mem_of_find?_eq_some hx)))

theorem invA_fixAll (mods : Array Nat) (s : PState) (h : InvA mods s) : InvA mods (fixAll s) :=
  fun p hp hne => h p hp hne

/-- The two bookkeeping invariants hold after the retry rounds. -/
theorem rounds_inv (reg : Registry) (opts : Opts) (plug : Plug) :
    InvB (afterRounds reg opts plug).2 ∧ InvA (afterRounds reg opts plug).1 (afterRounds reg opts plug).2 := by
  have hl := augmentLoop_inv reg ((pending0 reg opts plug).foldl (fun n p => n + p.2.length) 0 + 2)
    ((augOrder reg).map (·.seq)).toArray (pstate0 reg opts plug) (invB_pstate0 reg opts plug) (invA_pstate0 reg opts plug)
  exact Rounds.rounds_ind reg (fun mods s => InvB s ∧ InvA mods s)
    (fun fuel mods s h => augmentLoop_inv reg fuel mods s h.1 h.2)
    (fun mods s h => ⟨invB_fixAll s h.1, invA_fixAll mods s h.2⟩) _ _ _ _
    ⟨invB_fixAll _ hl.1, invA_fixAll _ _ hl.2⟩

attribute [local irreducible] leftoverRounds in
/-- With no errors returned, no augment is left unapplied. -/
theorem process_clean_no_pending (reg : Registry) (opts : Opts) (plug : Plug)
    (h : (processAll reg opts plug).errors = []) : NoPending (preDev reg opts plug) := by
  obtain ⟨_, _, h3, _, _⟩ := processAll_clean reg opts plug h
  have hl := augmentLoop_inv reg ((pending0 reg opts plug).foldl (fun n p => n + p.2.length) 0 + 2)
    ((augOrder reg).map (·.seq)).toArray (pstate0 reg opts plug) (invB_pstate0 reg opts plug) (invA_pstate0 reg opts plug)
  have hr := rounds_inv reg opts plug
  have hleft := leftover_inv reg (afterRounds reg opts plug).1 (afterRounds reg opts plug).2 hr.1 hr.2
  intro p hp
  apply Classical.byContradiction
  intro hne
  have hroot : RootErrAt (preDev reg opts plug).forest p.1 := by
    unfold preDev at hp ⊢
    split at hp
    · rename_i happ
      simp only [happ, if_true]
      exact (hleft p hp hne).mono (FLe_fixAll _)
    · rename_i happ
      simp only [happ, if_false]
      exact hleft p hp hne
  exact ownErr_forestErrs _ _ hroot h3

/-! ### `fixChoice` -/

/-- The implicit case `FixChoice` puts around a non-case child of a choice. -/
def wrapCase (ce : Entry) : Entry :=
  if ce.d.kind == .case_ then ce
  else .mk { name := ce.d.name, kind := .case_, hasDir := true, config := ce.d.config, node := ce.d.node,
             nodeMod := ce.d.nodeMod, nodeKw := "case" } [ce] [] []

theorem wrapCases_eq_map (l : List Entry) : wrapCases l = l.map wrapCase := by
  induction l with
  | nil => rfl
  | cons a l ih => simp [wrapCases, wrapCase, ih]

theorem wrapCase_kind (ce : Entry) : (wrapCase ce).d.kind = .case_ := by
  unfold wrapCase; split
  · rename_i h; simpa using h
  · rfl

theorem wrapCase_name (ce : Entry) : (wrapCase ce).name = ce.name := by
  unfold wrapCase; split <;> rfl

theorem fixChoice_eq (d : EData) (c i o : List Entry) : fixChoice (.mk d c i o) =
    .mk d (if d.kind == .choice && d.errors.isEmpty then (c.map fixChoice).map wrapCase else c.map fixChoice)
      (i.map fixChoice) (o.map fixChoice) := by
  simp only [fixChoice, fixChoiceL_eq_map, wrapCases_eq_map]

theorem choiceCases_mk (d : EData) (c i o : List Entry) : ChoiceCases (.mk d c i o) ↔
    (d.kind = .choice → d.errors = [] → ∀ x ∈ c, x.d.kind = .case_) ∧
      (∀ x ∈ c, ChoiceCases x) ∧ (∀ x ∈ i, ChoiceCases x) ∧ (∀ x ∈ o, ChoiceCases x) := by
  unfold ChoiceCases; rw [everyNode_mk]
  simp only [choiceCasesHere, Entry.d, Entry.dir, Bool.or_eq_true, Bool.not_eq_true', Bool.and_eq_false_iff,
    List.all_eq_true, beq_iff_eq, List.isEmpty_iff]
  constructor
  · rintro ⟨h1, h2⟩
    refine ⟨fun hk he => ?_, h2⟩
    rcases h1 with (h | h) | h
    · rw [hk] at h; simp at h
    · rw [he] at h; simp at h
    · exact h
  · rintro ⟨h1, h2⟩
    refine ⟨?_, h2⟩
    by_cases hk : d.kind = .choice
    · by_cases he : d.errors = []
      · exact Or.inr (h1 hk he)
      · left; right; simpa using he
    · left; left; simpa using hk

theorem choiceCases_wrapCase (ce : Entry) (h : ChoiceCases ce) : ChoiceCases (wrapCase ce) := by
  unfold wrapCase; split
  · exact h
  · rw [choiceCases_mk]
    refine ⟨fun hk => absurd hk (by simp), ?_, by simp, by simp⟩
    intro x hx; simp only [List.mem_singleton] at hx; subst hx; exact h

/-- After `FixChoice`, every child of every choice node without an error of its own is a case. -/
theorem fixChoice_cases (e : Entry) : ChoiceCases (fixChoice e) := by
  induction e using entry_ind with
  | h d c i o hc hi ho =>
    rw [fixChoice_eq, choiceCases_mk]
    refine ⟨?_, ?_, ?_, ?_⟩
    · intro hk he x hx
      simp only [hk, he, beq_self_eq_true, List.isEmpty_nil, Bool.and_self, if_true, List.mem_map] at hx
      obtain ⟨y, _, rfl⟩ := hx
      exact wrapCase_kind y
    · intro x hx
      split at hx
      · simp only [List.mem_map] at hx
        obtain ⟨y, ⟨z, hz, rfl⟩, rfl⟩ := hx
        exact choiceCases_wrapCase _ (hc z hz)
      · simp only [List.mem_map] at hx
        obtain ⟨z, hz, rfl⟩ := hx
        exact hc z hz
    · intro x hx
      simp only [List.mem_map] at hx
      obtain ⟨z, hz, rfl⟩ := hx
      exact hi z hz
    · intro x hx
      simp only [List.mem_map] at hx
      obtain ⟨z, hz, rfl⟩ := hx
      exact ho z hz

theorem wrapCase_of_case (x : Entry) (h : x.d.kind = .case_) : wrapCase x = x := by
  unfold wrapCase; simp [h]

theorem fixChoice_kind (e : Entry) : (fixChoice e).d.kind = e.d.kind := by rw [fixChoice_d]

theorem fixChoice_wrapCase (x : Entry) (h : fixChoice x = x) : fixChoice (wrapCase x) = wrapCase x := by
  unfold wrapCase; split
  · exact h
  · rw [fixChoice_eq]
    simp [h]

/-- `FixChoice` is idempotent. -/
theorem fixChoice_idem (e : Entry) : fixChoice (fixChoice e) = fixChoice e := by
  induction e using entry_ind with
  | h d c i o hc hi ho =>
    rw [fixChoice_eq]
    rw [fixChoice_eq]
    congr 1
    · by_cases hg : (d.kind == Kind.choice && d.errors.isEmpty) = true
      · simp only [hg, if_true, List.map_map]
        apply List.map_congr_left
        intro x hx
        simp only [Function.comp]
        rw [fixChoice_wrapCase _ (hc x hx)]
        exact wrapCase_of_case _ (wrapCase_kind _)
      · simp only [hg, if_false, List.map_map, Bool.false_eq_true]
        apply List.map_congr_left
        intro x hx
        exact hc x hx
    · simp only [List.map_map]
      apply List.map_congr_left
      intro x hx; exact hi x hx
    · simp only [List.map_map]
      apply List.map_congr_left
      intro x hx; exact ho x hx

/-! ### updating the one node a path leads to -/

/-- No step of the path goes to a child with the empty name (`walkParts` never makes one). -/
def PathOK (p : Path) : Prop := ∀ k, Step.child k ∈ p → k ≠ ""

theorem PathOK.tail {s : Step} {p : Path} (h : PathOK (s :: p)) : PathOK p := fun k hk => h k (by simp [hk])

theorem names1_split (pre post : List Entry) (y : Entry) (hy : y.name ≠ "") :
    names1 (pre ++ y :: post) = names1 pre ++ y.name :: names1 post := by
  unfold names1
  simp [List.filter_cons, hy]

/-- Under `U`, the child a non-empty name leads to is the only child of that name. -/
theorem child_split (c : List Entry) (k : String) (y : Entry) (hk : k ≠ "") (hu : (names1 c).Nodup)
    (hf : c.find? (fun x => x.name == k) = some y) :
    ∃ pre post, c = pre ++ y :: post ∧ y.name = k ∧ (∀ x ∈ pre, (x.name == k) = false) ∧
      (∀ x ∈ post, (x.name == k) = false) := by
  obtain ⟨hyk, pre, post, hc, hpre⟩ := List.find?_eq_some_iff_append.mp hf
  have hyk' : y.name = k := by simpa using hyk
  refine ⟨pre, post, hc, hyk', ?_, ?_⟩
  · intro x hx; simpa using hpre x hx
  · intro x hx
    rw [hc, names1_split pre post y (by rw [hyk']; exact hk)] at hu
    have := (List.nodup_append.mp hu).2.1
    have hnot : y.name ∉ names1 post := (List.nodup_cons.mp this).1
    cases hxk : (x.name == k) with
    | false => rfl
    | true =>
      exfalso
      apply hnot
      have hxk' : x.name = k := by simpa using hxk
      simp only [names1, List.mem_filter, List.mem_map]
      exact ⟨⟨x, hx, by rw [hxk', hyk']⟩, by simpa [hyk'] using hk⟩

theorem map_if_split (pre post : List Entry) (y : Entry) (k : String) (g : Entry → Entry)
    (hpre : ∀ x ∈ pre, (x.name == k) = false) (hpost : ∀ x ∈ post, (x.name == k) = false) (hy : y.name = k) :
    (pre ++ y :: post).map (fun x => if x.name == k then g x else x) = pre ++ g y :: post := by
  simp only [List.map_append, List.map_cons]
  have h1 : pre.map (fun x => if x.name == k then g x else x) = pre := by
    conv => rhs; rw [← List.map_id pre]
    apply List.map_congr_left
    intro x hx; simp [hpre x hx]
  have h2 : post.map (fun x => if x.name == k then g x else x) = post := by
    conv => rhs; rw [← List.map_id post]
    apply List.map_congr_left
    intro x hx; simp [hpost x hx]
  rw [h1, h2]; simp [hy]

/-- The shape of an update through a `Dir` step. -/
theorem updateAt_child (d : EData) (c i o : List Entry) (k : String) (p : Path) (f : Entry → Entry) (e : Entry)
    (hu : U (.mk d c i o)) (hk : k ≠ "") (hg : (Entry.mk d c i o).getAt (.child k :: p) = some e) :
    ∃ pre y post, c = pre ++ y :: post ∧ y.name = k ∧ y.getAt p = some e ∧
      (∀ x ∈ pre, (x.name == k) = false) ∧ (∀ x ∈ post, (x.name == k) = false) ∧
      (Entry.mk d c i o).updateAt (.child k :: p) f = .mk d (pre ++ y.updateAt p f :: post) i o := by
  simp only [Entry.getAt, Entry.child?, Entry.dir] at hg
  cases hf : c.find? (fun x => x.name == k) with
  | none => simp [hf] at hg
  | some y =>
    simp only [hf, Option.bind_some] at hg
    obtain ⟨pre, post, hc, hy, hpre, hpost⟩ := child_split c k y hk ((U_mk _ _ _ _).1 hu).1.1 hf
    refine ⟨pre, y, post, hc, hy, hg, hpre, hpost, ?_⟩
    simp only [Entry.updateAt]
    rw [hc, map_if_split pre post y k _ hpre hpost hy]

theorem updateAt_input (d : EData) (c i o : List Entry) (p : Path) (f : Entry → Entry) (e : Entry)
    (hu : U (.mk d c i o)) (hg : (Entry.mk d c i o).getAt (.input :: p) = some e) :
    ∃ y, i = [y] ∧ y.getAt p = some e ∧
      (Entry.mk d c i o).updateAt (.input :: p) f = .mk d c [y.updateAt p f] o := by
  simp only [Entry.getAt, Entry.inp] at hg
  have hlen := ((U_mk _ _ _ _).1 hu).1.2.1
  match i, hg, hlen with
  | [y], hg, _ =>
    simp only [List.head?_cons, Option.bind_some] at hg
    exact ⟨y, rfl, hg, by simp [Entry.updateAt]⟩
  | [], hg, _ => simp at hg
  | _ :: _ :: _, _, hlen => simp at hlen

theorem updateAt_output (d : EData) (c i o : List Entry) (p : Path) (f : Entry → Entry) (e : Entry)
    (hu : U (.mk d c i o)) (hg : (Entry.mk d c i o).getAt (.output :: p) = some e) :
    ∃ y, o = [y] ∧ y.getAt p = some e ∧
      (Entry.mk d c i o).updateAt (.output :: p) f = .mk d c i [y.updateAt p f] := by
  simp only [Entry.getAt, Entry.out] at hg
  have hlen := ((U_mk _ _ _ _).1 hu).1.2.2
  match o, hg, hlen with
  | [y], hg, _ =>
    simp only [List.head?_cons, Option.bind_some] at hg
    exact ⟨y, rfl, hg, by simp [Entry.updateAt]⟩
  | [], hg, _ => simp at hg
  | _ :: _ :: _, _, hlen => simp at hlen


/-- Induction along the path to the one node that is updated. -/
theorem updateAt_unique_ind (R : Entry → Entry → Prop) (f : Entry → Entry) (e : Entry) (hbase : R e (f e))
    (hchild : ∀ d pre y post i o y', U (.mk d (pre ++ y :: post) i o) → R y y' →
      R (.mk d (pre ++ y :: post) i o) (.mk d (pre ++ y' :: post) i o))
    (hinp : ∀ d c y o y', U (.mk d c [y] o) → R y y' → R (.mk d c [y] o) (.mk d c [y'] o))
    (hout : ∀ d c i y y', U (.mk d c i [y]) → R y y' → R (.mk d c i [y]) (.mk d c i [y'])) :
    ∀ (p : Path) (root : Entry), U root → PathOK p → root.getAt p = some e → R root (root.updateAt p f) := by
  intro p
  induction p with
  | nil =>
    intro root _ _ hg
    simp only [Entry.getAt, Option.some.injEq] at hg
    subst hg; exact hbase
  | cons s p ih =>
    intro root hu hp hg
    cases root with | mk d c i o =>
    cases s with
    | child k =>
      obtain ⟨pre, y, post, hc, hy, hgy, _, _, hupd⟩ := updateAt_child d c i o k p f e hu (hp k (by simp)) hg
      rw [hupd]
      subst hc
      have huy : U y := ((U_mk _ _ _ _).1 hu).2.1 y (by simp)
      exact hchild d pre y post i o _ hu (ih y huy hp.tail hgy)
    | input =>
      obtain ⟨y, hi, hgy, hupd⟩ := updateAt_input d c i o p f e hu hg
      rw [hupd]; subst hi
      have huy : U y := ((U_mk _ _ _ _).1 hu).2.2.1 y (by simp)
      exact hinp d c y o _ hu (ih y huy hp.tail hgy)
    | output =>
      obtain ⟨y, ho, hgy, hupd⟩ := updateAt_output d c i o p f e hu hg
      rw [hupd]; subst ho
      have huy : U y := ((U_mk _ _ _ _).1 hu).2.2.2 y (by simp)
      exact hout d c i y _ hu (ih y huy hp.tail hgy)

theorem hdr_map_replace (pre post : List Entry) (y y' : Entry) (h : hdr y' = hdr y) :
    (pre ++ y' :: post).map hdr = (pre ++ y :: post).map hdr := by simp [h]

/-- `U` survives an update of the node at `p` that keeps the node's name. -/
theorem U_updateAt (f : Entry → Entry) (e : Entry) (hf : U (f e)) (hn : (f e).name = e.name)
    (p : Path) (root : Entry) (hu : U root) (hp : PathOK p) (hg : root.getAt p = some e) : U (root.updateAt p f) := by
  have := updateAt_unique_ind (fun a b => U b ∧ b.name = a.name) f e ⟨hf, hn⟩ ?_ ?_ ?_ p root hu hp hg
  · exact this.1
  · intro d pre y post i o y' hu' ⟨h1, h2⟩
    refine ⟨?_, rfl⟩
    rw [U_mk] at hu' ⊢
    refine ⟨⟨?_, hu'.1.2⟩, ?_, hu'.2.2⟩
    · have : names1 (pre ++ y' :: post) = names1 (pre ++ y :: post) := by
        unfold names1; simp [h2]
      rw [this]; exact hu'.1.1
    · intro x hx
      rcases List.mem_append.mp hx with hx | hx
      · exact hu'.2.1 x (by simp [hx])
      · rcases List.mem_cons.mp hx with hx | hx
        · subst hx; exact h1
        · exact hu'.2.1 x (by simp [hx])
  · intro d c y o y' hu' ⟨h1, _⟩
    refine ⟨?_, rfl⟩
    rw [U_mk] at hu' ⊢
    exact ⟨⟨hu'.1.1, by simp, hu'.1.2.2⟩, hu'.2.1, by simpa using h1, hu'.2.2.2⟩
  · intro d c i y y' hu' ⟨h1, _⟩
    refine ⟨?_, rfl⟩
    rw [U_mk] at hu' ⊢
    exact ⟨⟨hu'.1.1, hu'.1.2.1, by simp⟩, hu'.2.1, hu'.2.2.1, by simpa using h1⟩

/-- If the updated tree carries no error and that says the old node carried none, the old tree carried none. -/
theorem noErrors_of_updateAt (f : Entry → Entry) (e : Entry) (hf : NoErrors (f e) → NoErrors e)
    (p : Path) (root : Entry) (hu : U root) (hp : PathOK p) (hg : root.getAt p = some e)
    (h : NoErrors (root.updateAt p f)) : NoErrors root ∧ NoErrors (f e) := by
  have := updateAt_unique_ind (fun a b => NoErrors b → NoErrors a ∧ NoErrors (f e)) f e (fun h => ⟨hf h, h⟩)
    ?_ ?_ ?_ p root hu hp hg
  · exact this h
  · intro d pre y post i o y' _ hr hn
    rw [noErrors_mk] at hn
    have hy := hr (hn.2.1 y' (by simp))
    refine ⟨?_, hy.2⟩
    rw [noErrors_mk]
    refine ⟨hn.1, ?_, hn.2.2⟩
    intro x hx
    rcases List.mem_append.mp hx with hx | hx
    · exact hn.2.1 x (by simp [hx])
    · rcases List.mem_cons.mp hx with hx | hx
      · subst hx; exact hy.1
      · exact hn.2.1 x (by simp [hx])
  · intro d c y o y' _ hr hn
    rw [noErrors_mk] at hn
    have hy := hr (hn.2.2.1 y' (by simp))
    exact ⟨(noErrors_mk _ _ _ _).2 ⟨hn.1, hn.2.1, by simpa using hy.1, hn.2.2.2⟩, hy.2⟩
  · intro d c i y y' _ hr hn
    rw [noErrors_mk] at hn
    have hy := hr (hn.2.2.2 y' (by simp))
    exact ⟨(noErrors_mk _ _ _ _).2 ⟨hn.1, hn.2.1, hn.2.2.1, by simpa using hy.1⟩, hy.2⟩

/-- A local predicate that reads the children's names and kinds only survives an update of the
node at `p` that keeps the node's name and kind. -/
theorem everyNode_updateAt (q : Entry → Bool)
    (hq : ∀ d c i o c' i' o', c.map hdr = c'.map hdr → i.map hdr = i'.map hdr → o.map hdr = o'.map hdr →
      q (.mk d c i o) = q (.mk d c' i' o'))
    (f : Entry → Entry) (e : Entry) (hf : everyNode q e = true → everyNode q (f e) = true) (hh : hdr (f e) = hdr e)
    (p : Path) (root : Entry) (hu : U root) (hp : PathOK p) (hg : root.getAt p = some e)
    (h : everyNode q root = true) : everyNode q (root.updateAt p f) = true := by
  have := updateAt_unique_ind (fun a b => everyNode q a = true → everyNode q b = true ∧ hdr b = hdr a) f e
    (fun h => ⟨hf h, hh⟩) ?_ ?_ ?_ p root hu hp hg
  · exact (this h).1
  · intro d pre y post i o y' _ hr hn
    rw [everyNode_mk] at hn
    have hy := hr (hn.2.1 y (by simp))
    refine ⟨?_, rfl⟩
    rw [everyNode_mk]
    refine ⟨?_, ?_, hn.2.2⟩
    · rw [hq d _ i o (pre ++ y :: post) i o (hdr_map_replace pre post y y' hy.2) rfl rfl]; exact hn.1
    · intro x hx
      rcases List.mem_append.mp hx with hx | hx
      · exact hn.2.1 x (by simp [hx])
      · rcases List.mem_cons.mp hx with hx | hx
        · subst hx; exact hy.1
        · exact hn.2.1 x (by simp [hx])
  · intro d c y o y' _ hr hn
    rw [everyNode_mk] at hn
    have hy := hr (hn.2.2.1 y (by simp))
    refine ⟨?_, rfl⟩
    rw [everyNode_mk]
    refine ⟨?_, hn.2.1, by simpa using hy.1, hn.2.2.2⟩
    rw [hq d c [y'] o c [y] o rfl (by simp [hy.2]) rfl]; exact hn.1
  · intro d c i y y' _ hr hn
    rw [everyNode_mk] at hn
    have hy := hr (hn.2.2.2 y (by simp))
    refine ⟨?_, rfl⟩
    rw [everyNode_mk]
    refine ⟨?_, hn.2.1, hn.2.2.1, by simpa using hy.1⟩
    rw [hq d c i [y'] c i [y] rfl rfl (by simp [hy.2])]; exact hn.1

/-- The conditional invariant survives an update of the node at `p`. -/
theorem cond_updateAt (q : Entry → Bool)
    (hq : ∀ d c i o c' i' o', c.map hdr = c'.map hdr → i.map hdr = i'.map hdr → o.map hdr = o'.map hdr →
      q (.mk d c i o) = q (.mk d c' i' o'))
    (f : Entry → Entry) (e : Entry) (hne : NoErrors (f e) → NoErrors e)
    (hf : NoErrors (f e) → everyNode q e = true → everyNode q (f e) = true) (hh : hdr (f e) = hdr e)
    (p : Path) (root : Entry) (hu : U root) (hp : PathOK p) (hg : root.getAt p = some e)
    (h : Cond q root) : Cond q (root.updateAt p f) := by
  intro hn
  obtain ⟨h1, h2⟩ := noErrors_of_updateAt f e hne p root hu hp hg hn
  exact everyNode_updateAt q hq f e (hf h2) hh p root hu hp hg (h h1)

theorem pathOK_nil : PathOK [] := fun k h => absurd h (by simp)
theorem pathOK_append_input (p : Path) (h : PathOK p) : PathOK (p ++ [.input]) := by
  intro k hk; simp only [List.mem_append, List.mem_singleton, reduceCtorEq, or_false] at hk; exact h k hk
theorem pathOK_append_output (p : Path) (h : PathOK p) : PathOK (p ++ [.output]) := by
  intro k hk; simp only [List.mem_append, List.mem_singleton, reduceCtorEq, or_false] at hk; exact h k hk
theorem pathOK_append_child (p : Path) (nm : String) (h : PathOK p) (hn : nm ≠ "") : PathOK (p ++ [.child nm]) := by
  intro k hk
  simp only [List.mem_append, List.mem_singleton, Step.child.injEq] at hk
  rcases hk with hk | hk
  · exact h k hk
  · rw [hk]; exact hn
theorem pathOK_dropLast (p : Path) (h : PathOK p) : PathOK p.dropLast :=
  fun k hk => h k (List.dropLast_subset p hk)

/-- `walkParts` with what it knows at each lazy creation: the path is proper, leads to a node, and
that node has no input (output) yet. -/
theorem walkParts_inv2 (P : Entry → Prop)
    (hin : ∀ root p e, P root → PathOK p → root.getAt p = some e → e.inp = [] → P (root.updateAt p setImplicitIn))
    (hout : ∀ root p e, P root → PathOK p → root.getAt p = some e → e.out = [] → P (root.updateAt p setImplicitOut)) :
    ∀ (parts : List String) (root : Entry) (cur : Option Path), P root → (∀ p, cur = some p → PathOK p) →
      P (walkParts parts root cur).2 ∧ (∀ p, (walkParts parts root cur).1 = some p → PathOK p) :=
  walkParts_ind P PathOK pathOK_dropLast pathOK_append_input pathOK_append_output pathOK_append_child
    (fun root p e h hp he _ hi => hin root p e h hp he hi) (fun root p e h hp he _ ho => hout root p e h hp he ho)

/-! ### the tree invariant of the augment stage -/

/-- Unconditionally `U`; and if error-free, `q` everywhere. -/
def TInv (q : Entry → Bool) (t : Entry) : Prop := U t ∧ Cond q t

theorem U_getAt (p : Path) (root e : Entry) (h : U root) (hg : root.getAt p = some e) : U e :=
  everyNode_getAt _ p root e h hg

theorem U_implicitIO (parent : Entry) (b : Bool) : U (implicitIO parent b) := by
  unfold implicitIO; rw [U_mk]; simp [names1]

theorem find_inv2 (P : Entry → Prop)
    (hw : ∀ parts root cur, P root → (∀ p, cur = some p → PathOK p) →
      P (walkParts parts root cur).2 ∧ ∀ p, (walkParts parts root cur).1 = some p → PathOK p)
    (hadd : ∀ e x, P e → P (e.addErr x))
    (reg : Registry) (f : Forest) (start : Loc) (ctx : Nat) (name : String) (hf : ForestAll P f)
    (hs : PathOK start.2) :
    ForestAll P (find reg f start ctx name).2 ∧
      ∀ t path, (find reg f start ctx name).1 = some (t, path) → PathOK path := by
  have hside : ∀ cur : Path, (cur = [] ∨ cur = start.2) → ∀ p, some cur = some p → PathOK p := by
    intro c hc p hp; cases hp; rcases hc with rfl | rfl
    · exact pathOK_nil
    · exact hs
  refine find_cases reg f start ctx name
    (P := fun r => ForestAll P r.2 ∧ ∀ t path, r.1 = some (t, path) → PathOK path)
    ⟨hf, fun t path h => absurd h (by simp)⟩
    (fun _ h => ⟨forestAll_setTree _ _ _ hf (hadd _ _ (forestAll_tree? _ _ _ hf h)), fun t path h => absurd h (by simp)⟩)
    (fun t root parts cur h hc => ?_)
  have hw' := hw parts root (some cur) (forestAll_tree? _ _ _ hf h) (hside cur hc)
  refine ⟨forestAll_setTree _ _ _ hf hw'.1, fun t' path h' => ?_⟩
  simp only [Option.map_eq_some_iff, Prod.mk.injEq] at h'
  obtain ⟨a, ha, _, rfl⟩ := h'
  exact hw'.2 a ha

section TInvLemmas
variable {env : Env} {q : Entry → Bool} (hq : LocalOK env q)
include hq

theorem everyNode_implicitIO (parent : Entry) (b : Bool) : everyNode q (implicitIO parent b) = true := by
  unfold implicitIO
  rw [everyNode_mk]
  refine ⟨hq.base _ rfl ?_ (fun h => absurd h (by simp)) rfl, by simp, by simp, by simp⟩
  cases b <;> simp

theorem tinv_setImplicitIn (root : Entry) (p : Path) (e : Entry) (h : TInv q root) (hp : PathOK p)
    (hg : root.getAt p = some e) (hi : e.inp = []) : TInv q (root.updateAt p setImplicitIn) := by
  have hue := U_getAt p root e h.1 hg
  cases e with | mk d c i o =>
  simp only [Entry.inp] at hi; subst hi
  refine ⟨U_updateAt setImplicitIn _ ?_ rfl p root h.1 hp hg, ?_⟩
  · rw [U_mk] at hue
    simp only [setImplicitIn]
    rw [U_mk]
    refine ⟨⟨hue.1.1, by simp, hue.1.2.2⟩, hue.2.1, ?_, hue.2.2.2⟩
    intro x hx; simp only [List.mem_singleton] at hx; subst hx; exact U_implicitIO _ _
  · refine cond_updateAt q hq.hdr setImplicitIn _ ?_ ?_ rfl p root h.1 hp hg h.2
    · intro hn
      simp only [setImplicitIn] at hn
      rw [noErrors_mk] at hn ⊢
      exact ⟨hn.1, hn.2.1, by simp, hn.2.2.2⟩
    · intro _ he
      simp only [setImplicitIn]
      rw [everyNode_mk] at he ⊢
      refine ⟨hq.setInp _ _ _ _ he.1 rfl, he.2.1, ?_, he.2.2.2⟩
      intro x hx; simp only [List.mem_singleton] at hx; subst hx; exact everyNode_implicitIO hq _ _

theorem tinv_setImplicitOut (root : Entry) (p : Path) (e : Entry) (h : TInv q root) (hp : PathOK p)
    (hg : root.getAt p = some e) (ho : e.out = []) : TInv q (root.updateAt p setImplicitOut) := by
  have hue := U_getAt p root e h.1 hg
  cases e with | mk d c i o =>
  simp only [Entry.out] at ho; subst ho
  refine ⟨U_updateAt setImplicitOut _ ?_ rfl p root h.1 hp hg, ?_⟩
  · rw [U_mk] at hue
    simp only [setImplicitOut]
    rw [U_mk]
    refine ⟨⟨hue.1.1, hue.1.2.1, by simp⟩, hue.2.1, hue.2.2.1, ?_⟩
    intro x hx; simp only [List.mem_singleton] at hx; subst hx; exact U_implicitIO _ _
  · refine cond_updateAt q hq.hdr setImplicitOut _ ?_ ?_ rfl p root h.1 hp hg h.2
    · intro hn
      simp only [setImplicitOut] at hn
      rw [noErrors_mk] at hn ⊢
      exact ⟨hn.1, hn.2.1, hn.2.2.1, by simp⟩
    · intro _ he
      simp only [setImplicitOut]
      rw [everyNode_mk] at he ⊢
      refine ⟨hq.setOut _ _ _ _ he.1 rfl, he.2.1, he.2.2.1, ?_⟩
      intro x hx; simp only [List.mem_singleton] at hx; subst hx; exact everyNode_implicitIO hq _ _

theorem tinv_walkParts (parts : List String) (root : Entry) (cur : Option Path) (h : TInv q root)
    (hc : ∀ p, cur = some p → PathOK p) :
    TInv q (walkParts parts root cur).2 ∧ ∀ p, (walkParts parts root cur).1 = some p → PathOK p :=
  walkParts_inv2 (TInv q) (fun root p e h hp hg hi => tinv_setImplicitIn hq root p e h hp hg hi)
    (fun root p e h hp hg ho => tinv_setImplicitOut hq root p e h hp hg ho) parts root cur h hc

theorem tinv_addErr (e : Entry) (x : Err) (h : TInv q e) : TInv q (e.addErr x) :=
  ⟨(U_withD _ _).2 h.1, cond_addErr hq _ _ h.2⟩

theorem tinv_find (reg : Registry) (f : Forest) (start : Loc) (ctx : Nat) (name : String)
    (hf : ForestAll (TInv q) f) (hs : PathOK start.2) :
    ForestAll (TInv q) (find reg f start ctx name).2 ∧
      ∀ t path, (find reg f start ctx name).1 = some (t, path) → PathOK path :=
  find_inv2 (TInv q) (fun parts root cur h hc => tinv_walkParts hq parts root cur h hc)
    (fun e x h => tinv_addErr hq e x h) reg f start ctx name hf hs

end TInvLemmas

theorem merge_shape (e : Entry) (ns : Option String) (oe : Entry) :
    (∀ y ∈ e.dir, y ∈ (e.merge ns oe).dir) ∧ (e.merge ns oe).inp = e.inp ∧ (e.merge ns oe).out = e.out := by
  unfold Entry.merge
  refine foldl_inv (fun x : Entry => (∀ y ∈ e.dir, y ∈ x.dir) ∧ x.inp = e.inp ∧ x.out = e.out) _ _ _ ?_ ?_
  · cases e with | mk d c i o =>
    simp [Entry.importErrors, Entry.addErrs, Entry.withD, Entry.dir, Entry.inp, Entry.out]
  · rintro b a _ ⟨h1, h2, h3⟩
    dsimp only
    split
    · cases b with | mk d c i o => exact ⟨h1, h2, h3⟩
    · cases b with | mk d c i o =>
      simp only [Entry.dir, Entry.inp, Entry.out, Entry.withDir] at h1 h2 h3 ⊢
      exact ⟨fun y hy => List.mem_append.mpr (Or.inl (h1 y hy)), h2, h3⟩

theorem noErrors_merge_left (e : Entry) (ns : Option String) (oe : Entry) (h : NoErrors (e.merge ns oe)) : NoErrors e := by
  obtain ⟨h1, h2, h3⟩ := merge_shape e ns oe
  obtain ⟨xs, hxs⟩ := merge_root_errors e ns oe
  generalize e.merge ns oe = r at h h1 h2 h3 hxs
  cases r with | mk d' c' i' o' =>
  cases e with | mk d c i o =>
  simp only [Entry.dir, Entry.inp, Entry.out, Entry.d] at h1 h2 h3 hxs
  subst h2 h3
  rw [noErrors_mk] at h ⊢
  refine ⟨?_, fun x hx => h.2.1 x (h1 x hx), h.2.2⟩
  have := h.1; rw [hxs] at this
  simp only [List.append_eq_nil_iff] at this
  exact this.1.1

theorem pendingOf_mem (s : PState) (id : Nat) (a : Entry) (h : a ∈ s.pendingOf id) : ∃ p ∈ s.pending, a ∈ p.2 := by
  unfold PState.pendingOf at h
  cases hf : s.pending.find? (·.1 == id) with
  | none => simp [hf] at h
  | some p =>
    simp only [hf, Option.map_some, Option.getD_some] at h
    exact ⟨p, List.mem_of_find?_eq_some hf, h⟩

section AugInv
variable {env : Env} {q : Entry → Bool} (hq : LocalOK env q)
include hq

/-- Merging an augment into the node a proper path leads to. -/
theorem tinv_merge_at (root : Entry) (path : Path) (te a : Entry) (ns : Option String) (h : TInv q root)
    (hp : PathOK path) (hg : root.getAt path = some te) (ha : TInv q a) :
    TInv q (root.updateAt path fun te => te.merge ns a) := by
  have hute := U_getAt path root te h.1 hg
  refine ⟨U_updateAt (fun te => te.merge ns a) te (U_merge te ns a hute ha.1) (rootKeep_merge te ns a).1 path root h.1 hp hg, ?_⟩
  refine cond_updateAt q hq.hdr _ te (noErrors_merge_left te ns a) ?_ ?_ path root h.1 hp hg h.2
  · intro hn hte
    exact cond_merge hq te ns a (fun _ => hte) ha.2 hn
  · have := rootKeep_merge te ns a
    exact Prod.ext this.1 this.2.1

end AugInv

/-! ### the augment stage keeps any tree invariant that its three operations keep -/

/-- What the augment stage needs of a tree invariant `P` (and of an invariant `PA` of pending augments). -/
structure AugClosed (P PA : Entry → Prop) : Prop where
  find : ∀ (reg : Registry) (f : Forest) (start : Loc) (ctx : Nat) (name : String), ForestAll P f → PathOK start.2 →
    ForestAll P (find reg f start ctx name).2 ∧ ∀ t path, (find reg f start ctx name).1 = some (t, path) → PathOK path
  addErr : ∀ (e : Entry) (x : Err), P e → P (e.addErr x)
  mergeAt : ∀ (root : Entry) (path : Path) (te a : Entry) (ns : Option String), P root → PathOK path →
    root.getAt path = some te → PA a → P (root.updateAt path fun te => te.merge ns a)

/-- The state invariant of the augment stage. -/
structure AInv (P PA : Entry → Prop) (s : PState) : Prop where
  trees : ForestAll P s.forest
  pend : ∀ p ∈ s.pending, ∀ a ∈ p.2, PA a

/-! The passes of the augment stage keep whatever one `augmentTree` call keeps: pass and loop call it without
error reporting, the leftover sweep with. -/
section StageKeeps
variable (reg : Registry) (I : PState → Prop)

theorem augmentPass_keeps (hF : ∀ (id : Nat) (s : PState), I s → I (augmentTree reg id false s).1) :
    ∀ (fuel : Nat) (mods : Array Nat) (i processed : Nat) (s : PState),
    I s → I (augmentPass reg fuel mods i processed s).2.2 := by
  intro fuel
  induction fuel with
  | zero => intro mods i processed s h; exact h
  | succ fuel ih =>
    intro mods i processed s h
    unfold augmentPass
    split
    · have := hF mods[i] s h
      generalize augmentTree reg mods[i] false s = r at this ⊢
      obtain ⟨s', p, k⟩ := r
      dsimp only at this ⊢
      split
      · exact ih _ _ _ _ this
      · exact ih _ _ _ _ this
    · exact h

theorem augmentLoop_keeps (hF : ∀ (id : Nat) (s : PState), I s → I (augmentTree reg id false s).1) :
    ∀ (fuel : Nat) (mods : Array Nat) (s : PState),
    I s → I (augmentLoop reg fuel mods s).2 := by
  intro fuel
  induction fuel with
  | zero => intro mods s h; exact h
  | succ fuel ih =>
    intro mods s h
    unfold augmentLoop
    split
    · exact h
    · have := augmentPass_keeps reg I hF (mods.size + 1) mods 0 0 s h
      generalize augmentPass reg (mods.size + 1) mods 0 0 s = r at this ⊢
      obtain ⟨mods', processed, s'⟩ := r
      dsimp only at this ⊢
      split
      · exact this
      · exact ih _ _ this

theorem leftover_keeps (hTr : ∀ (id : Nat) (s : PState), I s → I (augmentTree reg id true s).1)
    (left : Array Nat) (s : PState) (h : I s) :
    I (left.foldl (fun (acc : PState × Nat) id =>
      let (s, p, _) := augmentTree reg id true acc.1
      (s, acc.2 + p)) (s, 0)).1 := by
  rw [← Array.foldl_toList]
  refine foldl_inv (fun acc : PState × Nat => I acc.1) _ _ _ h ?_
  rintro ⟨s, cnt⟩ id _ hs
  have := hTr id s hs
  generalize augmentTree reg id true s = r at this ⊢
  obtain ⟨s', p, k⟩ := r
  exact this

end StageKeeps

/-- The pending lists only shrink. -/
theorem augmentTree_pending (PA : Entry → Prop) (reg : Registry) (id : Nat) (addErrors : Bool) (s : PState)
    (h : ∀ p ∈ s.pending, ∀ a ∈ p.2, PA a) : ∀ p ∈ (augmentTree reg id addErrors s).1.pending, ∀ a ∈ p.2, PA a := by
  obtain ⟨un, _, hp, hsub, _, _, _⟩ := augmentTree_ok reg id addErrors s
  rw [hp]
  intro p hp' a ha
  simp only [List.mem_map] at hp'
  obtain ⟨ip, hip, rfl⟩ := hp'
  split at ha
  · obtain ⟨p0, hp0, h0⟩ := pendingOf_mem s id a (hsub a ha)
    exact h p0 hp0 a h0
  · exact h ip hip a ha

theorem augmentTree_ainv_of_step {P PA : Entry → Prop}
    (hS : ∀ (reg : Registry) (id : Nat) (addErrors : Bool) (nsOf : String) (acc : PState × List Entry × Nat × Nat) (a : Entry),
      ForestAll P acc.1.forest → PA a → ForestAll P (augStep reg id addErrors nsOf acc a).1.forest)
    (reg : Registry) (id : Nat) (addErrors : Bool) (s : PState) (h : AInv P PA s) :
    AInv P PA (augmentTree reg id addErrors s).1 := by
  refine ⟨?_, augmentTree_pending PA reg id addErrors s h.pend⟩
  rw [augmentTree_eq]
  dsimp only
  refine foldl_inv (fun acc : PState × List Entry × Nat × Nat => ForestAll P acc.1.forest) _ _ _ h.trees ?_
  intro acc a ha hacc
  obtain ⟨p, hp, hap⟩ := pendingOf_mem s id a ha
  exact hS reg id addErrors _ acc a hacc (h.pend p hp a hap)

section AugGeneric
variable {P PA : Entry → Prop} (hA : AugClosed P PA)
include hA

theorem augFail_inv (id : Nat) (addErrors : Bool) (a : Entry) (s : PState) (un : List Entry) (p k : Nat)
    (hf : ForestAll P s.forest) : ForestAll P (augFail id addErrors a s un p k).1.forest := by
  unfold augFail
  dsimp only
  split
  · split
    · rename_i root hroot
      exact forestAll_setTree _ _ _ hf (hA.addErr _ _ (forestAll_tree? _ _ _ hf hroot))
    · exact hf
  · exact hf

theorem augStep_inv (reg : Registry) (id : Nat) (addErrors : Bool) (nsOf : String)
    (acc : PState × List Entry × Nat × Nat) (a : Entry) (hf : ForestAll P acc.1.forest) (ha : PA a) :
    ForestAll P (augStep reg id addErrors nsOf acc a).1.forest := by
  obtain ⟨s, un, p, k⟩ := acc
  dsimp only at hf
  have hfind := hA.find reg s.forest (id, []) a.d.nodeMod a.d.name hf pathOK_nil
  unfold augStep
  dsimp only
  generalize find reg s.forest (id, []) a.d.nodeMod a.d.name = r at hfind
  obtain ⟨target, forest⟩ := r
  dsimp only at hfind ⊢
  have fail := augFail_inv hA id addErrors a { s with forest := forest } un p k hfind.1
  split
  · exact fail
  · rename_i t path
    have hpath : PathOK path := hfind.2 t path rfl
    split
    · exact fail
    · rename_i te hte
      split
      · exact fail
      · split
        · exact fail
        · rename_i root hroot
          dsimp only at hroot hte ⊢
          simp only [hroot, Option.bind_some] at hte
          exact forestAll_setTree _ _ _ hfind.1
            (hA.mergeAt root path te a (some nsOf) (forestAll_tree? _ _ _ hfind.1 hroot) hpath hte ha)

theorem augmentTree_ainv (reg : Registry) (id : Nat) (addErrors : Bool) (s : PState) (h : AInv P PA s) :
    AInv P PA (augmentTree reg id addErrors s).1 :=
  augmentTree_ainv_of_step (augStep_inv hA) reg id addErrors s h

theorem augmentPass_ainv (reg : Registry) : ∀ (fuel : Nat) (mods : Array Nat) (i processed : Nat) (s : PState),
    AInv P PA s → AInv P PA (augmentPass reg fuel mods i processed s).2.2 :=
  augmentPass_keeps reg _ (fun id => augmentTree_ainv hA reg id false)

theorem augmentLoop_ainv (reg : Registry) : ∀ (fuel : Nat) (mods : Array Nat) (s : PState),
    AInv P PA s → AInv P PA (augmentLoop reg fuel mods s).2 :=
  augmentLoop_keeps reg _ (fun id => augmentTree_ainv hA reg id false)

theorem leftover_ainv (reg : Registry) (left : Array Nat) (s : PState) (h : AInv P PA s) :
    AInv P PA (left.foldl (fun (acc : PState × Nat) id =>
      let (s, p, _) := augmentTree reg id true acc.1
      (s, acc.2 + p)) (s, 0)).1 :=
  leftover_keeps reg _ (fun id => augmentTree_ainv hA reg id true) left s h

end AugGeneric

/-! ### the entry-layer predicate, with or without the type clause -/

def wfqB (tp : Bool) (e : Entry) : Bool := wfq e && (!tp || typePresentHere e)

theorem localOK_wfqB (env : Env) (tp : Bool) (ht : tp = true → TypeResTotal env.tres) : LocalOK env (wfqB tp) := by
  cases tp with
  | false =>
    have : wfqB false = wfq := by funext e; simp [wfqB]
    rw [this]; exact localOK_wfq env
  | true =>
    have : wfqB true = wfqT := by funext e; simp [wfqB, wfqT]
    rw [this]; exact localOK_wfqT env (ht rfl)

theorem wfqB_iff (tp : Bool) (d : EData) (c i o : List Entry) : wfqB tp (.mk d c i o) = true ↔
    ((c.map (·.name)).Nodup ∧ i.length ≤ 1 ∧ o.length ≤ 1) ∧ kindsWeakHere (.mk d [] [] []) = true ∧
    ((∀ x ∈ c, x.d.kind ≠ .deviate) ∧ (∀ x ∈ i, x.d.kind ≠ .deviate) ∧ (∀ x ∈ o, x.d.kind ≠ .deviate)) ∧
    (tp = true → typePresentHere (.mk d [] [] []) = true) := by
  simp only [wfqB, wfq, Bool.and_eq_true, keysUniqueHere_iff, ndHere_iff, Bool.or_eq_true, Bool.not_eq_true']
  have h1 : kindsWeakHere (.mk d c i o) = kindsWeakHere (.mk d [] [] []) := rfl
  have h2 : typePresentHere (.mk d c i o) = typePresentHere (.mk d [] [] []) := rfl
  rw [h1, h2]
  constructor
  · rintro ⟨⟨⟨a, b⟩, c⟩, e⟩
    refine ⟨a, b, c, ?_⟩
    intro htp; rcases e with e | e
    · rw [htp] at e; exact absurd e (by simp)
    · exact e
  · rintro ⟨a, b, c, e⟩
    refine ⟨⟨⟨a, b⟩, c⟩, ?_⟩
    cases tp with
    | false => exact Or.inl rfl
    | true => exact Or.inr (e rfl)

/-! ### `fixChoice` and the invariants -/

theorem noErrors_fixChoice (e : Entry) : NoErrors (fixChoice e) ↔ NoErrors e := by
  induction e using entry_ind with
  | h d c i o hc hi ho =>
    rw [fixChoice_eq, noErrors_mk, noErrors_mk]
    have hwrap : ∀ x, NoErrors (wrapCase x) ↔ NoErrors x := by
      intro x; unfold wrapCase; split
      · rfl
      · rw [noErrors_mk]; simp
    constructor
    · rintro ⟨h1, h2, h3, h4⟩
      refine ⟨h1, ?_, ?_, ?_⟩
      · intro x hx
        apply (hc x hx).1
        split at h2
        · exact (hwrap _).1 (h2 _ (List.mem_map.mpr ⟨_, List.mem_map.mpr ⟨x, hx, rfl⟩, rfl⟩))
        · exact h2 _ (List.mem_map.mpr ⟨x, hx, rfl⟩)
      · intro x hx; exact (hi x hx).1 (h3 _ (List.mem_map.mpr ⟨x, hx, rfl⟩))
      · intro x hx; exact (ho x hx).1 (h4 _ (List.mem_map.mpr ⟨x, hx, rfl⟩))
    · rintro ⟨h1, h2, h3, h4⟩
      refine ⟨h1, ?_, ?_, ?_⟩
      · intro x hx
        split at hx
        · simp only [List.mem_map] at hx
          obtain ⟨y, ⟨z, hz, rfl⟩, rfl⟩ := hx
          exact (hwrap _).2 ((hc z hz).2 (h2 z hz))
        · simp only [List.mem_map] at hx
          obtain ⟨z, hz, rfl⟩ := hx
          exact (hc z hz).2 (h2 z hz)
      · intro x hx
        simp only [List.mem_map] at hx
        obtain ⟨z, hz, rfl⟩ := hx
        exact (hi z hz).2 (h3 z hz)
      · intro x hx
        simp only [List.mem_map] at hx
        obtain ⟨z, hz, rfl⟩ := hx
        exact (ho z hz).2 (h4 z hz)

theorem fixChoice_name (e : Entry) : (fixChoice e).name = e.name := by
  unfold Entry.name; rw [fixChoice_d]

theorem names_fix (c : List Entry) (g : Bool) :
    (if g then (c.map fixChoice).map wrapCase else c.map fixChoice).map (·.name) = c.map (·.name) := by
  split
  · simp only [List.map_map]
    apply List.map_congr_left
    intro x _
    simp only [Function.comp, wrapCase_name, fixChoice_name]
  · simp only [List.map_map]
    apply List.map_congr_left
    intro x _
    simp only [Function.comp, fixChoice_name]

theorem U_wrapCase (x : Entry) (h : U x) : U (wrapCase x) := by
  unfold wrapCase; split
  · exact h
  · rw [U_mk]
    refine ⟨⟨?_, by simp, by simp⟩, ?_, by simp, by simp⟩
    · unfold names1
      simp only [List.map_cons, List.map_nil]
      by_cases hx : x.name = "" <;> simp [hx]
    · intro y hy; simp only [List.mem_singleton] at hy; subst hy; exact h

theorem U_fixChoice (e : Entry) (h : U e) : U (fixChoice e) := by
  induction e using entry_ind with
  | h d c i o hc hi ho =>
    rw [fixChoice_eq]
    rw [U_mk] at h ⊢
    refine ⟨⟨?_, by simpa using h.1.2.1, by simpa using h.1.2.2⟩, ?_, ?_, ?_⟩
    · unfold names1 at h ⊢
      rw [names_fix]; exact h.1.1
    · intro x hx
      split at hx
      · simp only [List.mem_map] at hx
        obtain ⟨y, ⟨z, hz, rfl⟩, rfl⟩ := hx
        exact U_wrapCase _ (hc z hz (h.2.1 z hz))
      · simp only [List.mem_map] at hx
        obtain ⟨z, hz, rfl⟩ := hx
        exact hc z hz (h.2.1 z hz)
    · intro x hx
      simp only [List.mem_map] at hx
      obtain ⟨z, hz, rfl⟩ := hx
      exact hi z hz (h.2.2.1 z hz)
    · intro x hx
      simp only [List.mem_map] at hx
      obtain ⟨z, hz, rfl⟩ := hx
      exact ho z hz (h.2.2.2 z hz)

theorem wfqB_wrapCase (tp : Bool) (x : Entry) (hk : x.d.kind ≠ .deviate) (h : everyNode (wfqB tp) x = true) :
    everyNode (wfqB tp) (wrapCase x) = true := by
  unfold wrapCase; split
  · exact h
  · rw [everyNode_mk]
    refine ⟨?_, ?_, by simp, by simp⟩
    · rw [wfqB_iff]
      refine ⟨⟨by simp, by simp, by simp⟩, by simp [kindsWeakHere, Entry.d], ⟨?_, by simp, by simp⟩, ?_⟩
      · intro y hy; simp only [List.mem_singleton] at hy; subst hy; exact hk
      · intro _; simp [typePresentHere, Entry.d]
    · intro y hy; simp only [List.mem_singleton] at hy; subst hy; exact h

theorem wfqB_fixChoice (tp : Bool) (e : Entry) (h : everyNode (wfqB tp) e = true) :
    everyNode (wfqB tp) (fixChoice e) = true := by
  induction e using entry_ind with
  | h d c i o hc hi ho =>
    rw [fixChoice_eq]
    rw [everyNode_mk] at h ⊢
    obtain ⟨h0, h1, h2, h3⟩ := h
    rw [wfqB_iff] at h0
    obtain ⟨⟨k1, k2, k3⟩, kw, ⟨n1, n2, n3⟩, tpc⟩ := h0
    refine ⟨?_, ?_, ?_, ?_⟩
    · rw [wfqB_iff]
      refine ⟨⟨?_, by simpa using k2, by simpa using k3⟩, kw, ⟨?_, ?_, ?_⟩, tpc⟩
      · rw [names_fix]; exact k1
      · intro x hx
        split at hx
        · simp only [List.mem_map] at hx
          obtain ⟨y, _, rfl⟩ := hx
          rw [wrapCase_kind]; decide
        · simp only [List.mem_map] at hx
          obtain ⟨z, hz, rfl⟩ := hx
          rw [fixChoice_kind]; exact n1 z hz
      · intro x hx
        simp only [List.mem_map] at hx
        obtain ⟨z, hz, rfl⟩ := hx
        rw [fixChoice_kind]; exact n2 z hz
      · intro x hx
        simp only [List.mem_map] at hx
        obtain ⟨z, hz, rfl⟩ := hx
        rw [fixChoice_kind]; exact n3 z hz
    · intro x hx
      split at hx
      · simp only [List.mem_map] at hx
        obtain ⟨y, ⟨z, hz, rfl⟩, rfl⟩ := hx
        exact wfqB_wrapCase tp _ (by rw [fixChoice_kind]; exact n1 z hz) (hc z hz (h1 z hz))
      · simp only [List.mem_map] at hx
        obtain ⟨z, hz, rfl⟩ := hx
        exact hc z hz (h1 z hz)
    · intro x hx
      simp only [List.mem_map] at hx
      obtain ⟨z, hz, rfl⟩ := hx
      exact hi z hz (h2 z hz)
    · intro x hx
      simp only [List.mem_map] at hx
      obtain ⟨z, hz, rfl⟩ := hx
      exact ho z hz (h3 z hz)

/-! ### the augment stage, concretely -/

/-- The invariant of a module tree during the augment stage. -/
def TreeInv (q : Entry → Bool) (t : Entry) : Prop := TInv q t ∧ t.d.kind = .directory

theorem updateAt_kind (f : Entry → Entry) (hf : ∀ x, (f x).d.kind = x.d.kind) (p : Path) (e : Entry) :
    (e.updateAt p f).d.kind = e.d.kind := by
  cases p with
  | nil => exact hf e
  | cons s p => cases e with | mk d c i o => cases s <;> rfl

theorem augClosed_treeInv {env : Env} {q : Entry → Bool} (hq : LocalOK env q) : AugClosed (TreeInv q) (TInv q) where
  find reg f start ctx name hf hs :=
    find_inv2 (TreeInv q)
      (walkParts_inv2 (TreeInv q)
        (fun root p e h hp hg hi => ⟨tinv_setImplicitIn hq root p e h.1 hp hg hi,
          (updateAt_kind _ (fun x => by cases x; rfl) p root).trans h.2⟩)
        (fun root p e h hp hg ho => ⟨tinv_setImplicitOut hq root p e h.1 hp hg ho,
          (updateAt_kind _ (fun x => by cases x; rfl) p root).trans h.2⟩))
      (fun e x h => ⟨tinv_addErr hq e x h.1, by cases e; exact h.2⟩) reg f start ctx name hf hs
  addErr e x h := ⟨tinv_addErr hq e x h.1, by cases e; exact h.2⟩
  mergeAt root path te a ns h hp hg ha :=
    ⟨tinv_merge_at hq root path te a ns h.1 hp hg ha,
      (updateAt_kind _ (fun x => (rootKeep_merge x ns a).2.1) path root).trans h.2⟩

theorem ainv_pstate0 (reg : Registry) (opts : Opts) (plug : Plug) {q : Entry → Bool}
    (hq : LocalOK (envOf reg opts plug) q) : AInv (TreeInv q) (TInv q) (pstate0 reg opts plug) := by
  have hU := tstate_ok reg opts plug (closed_U (envOf reg opts plug))
  have hC := tstate_ok reg opts plug (closed_cond hq)
  refine ⟨?_, ?_⟩
  · intro t ht
    simp only [pstate0, forest0] at ht
    exact ⟨⟨hU.cache t ht, hC.cache t ht⟩, hU.ckind t ht⟩
  · intro p hp a ha
    simp only [pstate0, pending0, List.mem_map] at hp
    obtain ⟨m, _, rfl⟩ := hp
    dsimp only at ha
    cases hf : (tstate reg opts plug).augs.find? (·.1 == m.seq) with
    | none => simp [hf] at ha
    | some r =>
      simp only [hf, Option.map_some, Option.getD_some] at ha
      have hr := List.mem_of_find?_eq_some hf
      exact ⟨hU.augs r hr a ha, hC.augs r hr a ha⟩

theorem ainv_fixAll {q : Entry → Bool} (hfix : ∀ e, everyNode q e = true → everyNode q (fixChoice e) = true)
    (s : PState) (h : AInv (TreeInv q) (TInv q) s) : AInv (TreeInv q) (TInv q) (fixAll s) := by
  refine ⟨?_, h.pend⟩
  intro t ht
  simp only [fixAll, List.mem_map] at ht
  obtain ⟨⟨i, e⟩, he, rfl⟩ := ht
  have := h.trees _ he
  dsimp only at this ⊢
  refine ⟨⟨U_fixChoice e this.1.1, ?_⟩, by rw [fixChoice_kind]; exact this.2⟩
  intro hn
  exact hfix e (this.1.2 ((noErrors_fixChoice e).1 hn))

attribute [local irreducible] leftoverRounds in
theorem ainv_preDev (reg : Registry) (opts : Opts) (plug : Plug) {q : Entry → Bool}
    (hq : LocalOK (envOf reg opts plug) q)
    (hfix : ∀ e, everyNode q e = true → everyNode q (fixChoice e) = true) :
    AInv (TreeInv q) (TInv q) (preDev reg opts plug) := by
  have hA := augClosed_treeInv hq
  have h1 := augmentLoop_ainv hA reg ((pending0 reg opts plug).foldl (fun n p => n + p.2.length) 0 + 2)
    ((augOrder reg).map (·.seq)).toArray (pstate0 reg opts plug) (ainv_pstate0 reg opts plug hq)
  have hr : AInv (TreeInv q) (TInv q) (afterRounds reg opts plug).2 :=
    Rounds.rounds_ind_state reg (AInv (TreeInv q) (TInv q))
      (fun fuel mods s h => augmentLoop_ainv hA reg fuel mods s h)
      (fun s h => ainv_fixAll hfix s h) _ _ _ _ (ainv_fixAll hfix _ h1)
  have h2 := leftover_ainv hA reg (afterRounds reg opts plug).1 (afterRounds reg opts plug).2 hr
  unfold preDev
  split
  · exact ainv_fixAll hfix _ h2
  · exact h2

/-- What a clean `Process` has established before the deviations: every tree is error-free, has
`q` at every node, unconditionally unique non-empty sibling names, and a directory root. -/
theorem preDev_clean (reg : Registry) (opts : Opts) (plug : Plug) {q : Entry → Bool}
    (hq : LocalOK (envOf reg opts plug) q)
    (hfix : ∀ e, everyNode q e = true → everyNode q (fixChoice e) = true)
    (h : (processAll reg opts plug).errors = []) :
    ∀ t ∈ (preDev reg opts plug).forest.trees,
      NoErrors t.2 ∧ everyNode q t.2 = true ∧ U t.2 ∧ t.2.d.kind = .directory := by
  obtain ⟨_, _, h3, _, _⟩ := processAll_clean reg opts plug h
  have hne := (forestErrs_eq_nil _).1 h3
  have hinv := ainv_preDev reg opts plug hq hfix
  intro t ht
  have := hinv.trees t ht
  exact ⟨hne t ht, this.1.2 (hne t ht), this.1.1, this.2⟩

/-- The last pass either leaves a root error somewhere, or — when it applied nothing — leaves the
forest as it was. -/
theorem leftover_forest (reg : Registry) (left : Array Nat) (s : PState) (hB : InvB s) :
    let r := left.foldl (fun (acc : PState × Nat) id =>
      let (s, p, _) := augmentTree reg id true acc.1
      (s, acc.2 + p)) (s, 0)
    (∃ id, RootErrAt r.1.forest id) ∨ (r.2 = 0 → r.1.forest = s.forest) := by
  intro r
  have key : InvB r.1 ∧ ((∃ id, RootErrAt r.1.forest id) ∨ (r.2 = 0 → r.1.forest = s.forest)) := by
    simp only [r]
    rw [← Array.foldl_toList]
    refine foldl_inv (fun (acc : PState × Nat) =>
      InvB acc.1 ∧ ((∃ id, RootErrAt acc.1.forest id) ∨ (acc.2 = 0 → acc.1.forest = s.forest)))
      _ _ _ ⟨hB, Or.inr (fun _ => rfl)⟩ ?_
    rintro ⟨s1, cnt⟩ id _ ⟨jB, jE⟩
    dsimp only at jB jE ⊢
    have hB' := invB_augmentTree reg id true s1 jB
    obtain ⟨un, fle, hp, hsub, hk, herr, hsame⟩ := augmentTree_ok reg id true s1
    generalize augmentTree reg id true s1 = r' at hB' fle hp hk herr hsame ⊢
    obtain ⟨s', p, k⟩ := r'
    dsimp only at hB' fle hp hk herr hsame ⊢
    refine ⟨hB', ?_⟩
    rcases jE with ⟨id0, h0⟩ | jE
    · exact Or.inl ⟨id0, h0.mono fle⟩
    · cases un with
      | nil =>
        right
        intro h0
        have hc : cnt = 0 := by omega
        have hp0 : p = 0 := by omega
        rw [hsame hp0 rfl]; exact jE hc
      | cons a t =>
        left
        obtain ⟨p0, hp0, h1, h2⟩ := pendingOf_ne_nil s1 id (List.ne_nil_of_mem (hsub a (by simp)))
        exact ⟨id, herr rfl (by simp) (by rw [← h1]; exact jB p0 hp0 h2)⟩
  exact key.2

theorem choiceCases_fixAll (s : PState) : ForestAll ChoiceCases (fixAll s).forest := by
  intro t ht
  simp only [fixAll, List.mem_map] at ht
  obtain ⟨⟨i, e⟩, _, rfl⟩ := ht
  exact fixChoice_cases e

/-! ### a loop that applies nothing leaves the forest alone, unless something is still pending -/

/-- One step of `Augment`: it applies the augment (`p + 1`) or appends it to the unapplied ones. -/
theorem augStep_counts (reg : Registry) (id : Nat) (addErrors : Bool) (nsOf : String)
    (acc : PState × List Entry × Nat × Nat) (a : Entry) :
    ((augStep reg id addErrors nsOf acc a).2.2.1 = acc.2.2.1 + 1) ∨
    ((augStep reg id addErrors nsOf acc a).2.2.1 = acc.2.2.1 ∧ (augStep reg id addErrors nsOf acc a).2.1 = acc.2.1 ++ [a]) := by
  obtain ⟨s, un, p, k⟩ := acc
  unfold augStep
  dsimp only
  generalize find reg s.forest (id, []) a.d.nodeMod a.d.name = r
  obtain ⟨target, forest⟩ := r
  dsimp only
  repeat' split
  all_goals first
    | exact Or.inr ⟨rfl, rfl⟩
    | exact Or.inl rfl

/-- An `Augment` call that applies nothing leaves every pending list as it was, and the forest too
when the tree has nothing pending. -/
theorem augmentTree_zero (reg : Registry) (id : Nat) (addErrors : Bool) (s : PState)
    (h0 : (augmentTree reg id addErrors s).2.1 = 0) :
    (∀ id', (augmentTree reg id addErrors s).1.pendingOf id' = s.pendingOf id') ∧
    (s.pendingOf id = [] → (augmentTree reg id addErrors s).1.forest = s.forest) := by
  rw [augmentTree_eq] at h0 ⊢
  dsimp only at h0 ⊢
  refine ⟨?_, ?_⟩
  · have key := foldl_prefix_inv (fun (done : List Entry) (acc : PState × List Entry × Nat × Nat) =>
        FLe s.forest acc.1.forest ∧ acc.1.pending = s.pending ∧ (acc.2.2.1 = 0 → acc.2.1 = done))
      (augStep reg id addErrors (namespaceAt reg s.forest (id, []))) (s.pendingOf id) (s, [], 0, 0)
      ⟨FLe.refl _, rfl, fun _ => rfl⟩ ?_
    · obtain ⟨_, k2, k3⟩ := key
      have hun := k3 h0
      intro id'
      rw [AugmentModel.pendingOf_setPending]
      have hgen : ∀ (a b : PState), a.pending = b.pending → ∀ x, a.pendingOf x = b.pendingOf x := by
        intro a b hab x; unfold PState.pendingOf; rw [hab]
      have hpo := hgen _ _ k2
      by_cases hid : id' = id
      · subst hid
        rw [if_pos rfl, k2, hun]
        cases hf : (s.pending.find? (·.1 == id')).isSome with
        | true => rfl
        | false => simp only [Bool.false_eq_true, if_false]; exact (AugmentModel.pendingOf_eq_nil_of_not_found s id' hf).symm
      · rw [if_neg hid]; exact hpo id'
    · rintro done a acc ha ⟨i1, i2, i3⟩
      have st := augStep_ok reg id addErrors (namespaceAt reg s.forest (id, [])) s acc a i1
      refine ⟨st.fle, st.pend.trans i2, ?_⟩
      intro hz
      rcases augStep_counts reg id addErrors (namespaceAt reg s.forest (id, [])) acc a with hc | ⟨hc, hu⟩
      · rw [hc] at hz; exact absurd hz (by omega)
      · rw [hu, i3 (by rw [← hc]; exact hz)]
  · intro hnil
    rw [hnil]
    rfl

theorem augmentTree_zero_live (reg : Registry) (id : Nat) (addErrors : Bool) (s : PState)
    (h0 : (augmentTree reg id addErrors s).2.1 = 0) :
    (augmentTree reg id addErrors s).1.forest = s.forest ∨ ∃ id', s.pendingOf id' ≠ [] := by
  by_cases h : s.pendingOf id = []
  · exact Or.inl ((augmentTree_zero reg id addErrors s h0).2 h)
  · exact Or.inr ⟨id, h⟩

/-- A pass of the augment loop that applies nothing. -/
theorem augmentPass_zero (reg : Registry) : ∀ (fuel : Nat) (mods : Array Nat) (i processed : Nat) (s : PState),
    processed ≤ (augmentPass reg fuel mods i processed s).2.1 ∧
    ((augmentPass reg fuel mods i processed s).2.1 = processed →
      (∀ id', (augmentPass reg fuel mods i processed s).2.2.pendingOf id' = s.pendingOf id') ∧
      ((augmentPass reg fuel mods i processed s).2.2.forest = s.forest ∨ ∃ id', s.pendingOf id' ≠ [])) := by
  intro fuel
  induction fuel with
  | zero => intro mods i processed s; exact ⟨Nat.le_refl _, fun _ => ⟨fun _ => rfl, Or.inl rfl⟩⟩
  | succ fuel ih =>
    intro mods i processed s
    unfold augmentPass
    split
    · have hz := augmentTree_zero reg mods[i] false s
      have hl := augmentTree_zero_live reg mods[i] false s
      generalize augmentTree reg mods[i] false s = r at hz hl ⊢
      obtain ⟨s', p, k⟩ := r
      dsimp only at hz hl ⊢
      have step : ∀ (mods' : Array Nat) (i' : Nat),
          processed ≤ (augmentPass reg fuel mods' i' (processed + p) s').2.1 ∧
          ((augmentPass reg fuel mods' i' (processed + p) s').2.1 = processed →
            (∀ id', (augmentPass reg fuel mods' i' (processed + p) s').2.2.pendingOf id' = s.pendingOf id') ∧
            ((augmentPass reg fuel mods' i' (processed + p) s').2.2.forest = s.forest ∨ ∃ id', s.pendingOf id' ≠ [])) := by
        intro mods' i'
        obtain ⟨j1, j2⟩ := ih mods' i' (processed + p) s'
        refine ⟨by omega, ?_⟩
        intro heq
        have hp0 : p = 0 := by omega
        obtain ⟨k1, k2⟩ := j2 (by omega)
        obtain ⟨z1, _⟩ := hz hp0
        refine ⟨fun id' => (k1 id').trans (z1 id'), ?_⟩
        rcases k2 with k2 | ⟨id', k2⟩
        · rcases hl hp0 with hl | hl
          · exact Or.inl (k2.trans hl)
          · exact Or.inr hl
        · exact Or.inr ⟨id', by rw [← z1 id']; exact k2⟩
      split
      · exact step _ _
      · exact step _ _
    · exact ⟨Nat.le_refl _, fun _ => ⟨fun _ => rfl, Or.inl rfl⟩⟩

/-- A loop that applied nothing (Go: `augmentLoop() == 0`). -/
theorem augmentLoop_zero (reg : Registry) (fuel : Nat) (mods : Array Nat) (s : PState)
    (h : Rounds.loopCount reg fuel mods s = 0) :
    (∀ id', (augmentLoop reg fuel mods s).2.pendingOf id' = s.pendingOf id') ∧
    ((augmentLoop reg fuel mods s).2.forest = s.forest ∨ ∃ id', s.pendingOf id' ≠ []) := by
  rcases (Rounds.loopCount_eq_zero reg fuel mods s).mp h with h1 | h1 | hp
  · subst h1; exact ⟨fun _ => rfl, Or.inl rfl⟩
  · rw [Rounds.augmentLoop_empty reg fuel mods s h1]; exact ⟨fun _ => rfl, Or.inl rfl⟩
  · cases fuel with
    | zero => exact ⟨fun _ => rfl, Or.inl rfl⟩
    | succ fuel =>
      unfold augmentLoop
      split
      · exact ⟨fun _ => rfl, Or.inl rfl⟩
      · have hz := (augmentPass_zero reg (mods.size + 1) mods 0 0 s).2
        generalize augmentPass reg (mods.size + 1) mods 0 0 s = r at hp hz ⊢
        obtain ⟨mods', processed, s'⟩ := r
        dsimp only at hp hz ⊢
        subst hp
        simp only [beq_self_eq_true, if_true]
        exact hz rfl

/-- After the retry rounds every child of every choice is a case, unless something is still
pending (which the reporting sweep then turns into an error). -/
theorem rounds_choiceCases (reg : Registry) (fuel : Nat) : ∀ (n : Nat) (mods : Array Nat) (s : PState),
    ForestAll ChoiceCases s.forest →
    ForestAll ChoiceCases (leftoverRounds reg fuel n mods s).2.forest ∨
      ∃ id, (leftoverRounds reg fuel n mods s).2.pendingOf id ≠ []
  | 0, mods, s, h => by rw [Rounds.leftoverRounds_zero]; exact Or.inl h
  | n + 1, mods, s, h => by
    rw [Rounds.leftoverRounds_succ]
    split
    · rename_i hc
      obtain ⟨z1, z2⟩ := augmentLoop_zero reg fuel mods s hc
      rcases z2 with z2 | ⟨id, z2⟩
      · left; rw [z2]; exact h
      · right; exact ⟨id, by rw [z1 id]; exact z2⟩
    · exact rounds_choiceCases reg fuel n _ _ (choiceCases_fixAll _)

/-- The reporting sweep, when it applies nothing, leaves every pending list as it was. -/
theorem leftover_zero (reg : Registry) (left : Array Nat) (s : PState) :
    let r := left.foldl (fun (acc : PState × Nat) id =>
      let (s, p, _) := augmentTree reg id true acc.1
      (s, acc.2 + p)) (s, 0)
    r.2 = 0 → ∀ id', r.1.pendingOf id' = s.pendingOf id' := by
  intro r
  simp only [r]
  rw [← Array.foldl_toList]
  refine foldl_inv (fun (acc : PState × Nat) => acc.2 = 0 → ∀ id', acc.1.pendingOf id' = s.pendingOf id')
    _ _ _ (fun _ _ => rfl) ?_
  rintro ⟨s1, cnt⟩ id _ j
  dsimp only at j ⊢
  have hz := augmentTree_zero reg id true s1
  generalize augmentTree reg id true s1 = r' at hz ⊢
  obtain ⟨s', p, k⟩ := r'
  dsimp only at hz ⊢
  intro h0 id'
  rw [(hz (by omega)).1 id']
  exact j (by omega) id'

attribute [local irreducible] leftoverRounds in
/-- After a clean `Process`, before the deviations, every child of every choice is a case. -/
theorem preDev_choiceCases (reg : Registry) (opts : Opts) (plug : Plug)
    (h : (processAll reg opts plug).errors = []) : ForestAll ChoiceCases (preDev reg opts plug).forest := by
  obtain ⟨_, _, h3, _, _⟩ := processAll_clean reg opts plug h
  have hr := rounds_inv reg opts plug
  have hf := leftover_forest reg (afterRounds reg opts plug).1 (afterRounds reg opts plug).2 hr.1
  have hinv := leftover_inv reg (afterRounds reg opts plug).1 (afterRounds reg opts plug).2 hr.1 hr.2
  have hzero := leftover_zero reg (afterRounds reg opts plug).1 (afterRounds reg opts plug).2
  have hcc := rounds_choiceCases reg ((pending0 reg opts plug).foldl (fun n p => n + p.2.length) 0 + 2)
    ((pending0 reg opts plug).foldl (fun n p => n + p.2.length) 0 + 2)
    (afterLoop reg opts plug).1 (fixAll (afterLoop reg opts plug).2) (choiceCases_fixAll _)
  unfold preDev at h3 ⊢
  split
  · exact choiceCases_fixAll _
  · rename_i happ
    simp only [happ, if_false] at h3
    have h0 : (leftoverPass reg opts plug).2 = 0 := by
      have : ¬ (leftoverPass reg opts plug).2 > 0 := happ
      omega
    rcases hf with ⟨id, herr⟩ | hf
    · exact absurd h3 (ownErr_forestErrs _ _ herr)
    · have hsame : (leftoverPass reg opts plug).1.forest = (afterRounds reg opts plug).2.forest := hf h0
      rcases hcc with hcc | ⟨id, hne⟩
      · rw [hsame]; exact hcc
      · -- something is still pending after the rounds: the sweep reports it
        have hne' : (leftoverPass reg opts plug).1.pendingOf id ≠ [] := by
          rw [show (leftoverPass reg opts plug).1.pendingOf id = (afterRounds reg opts plug).2.pendingOf id from
            hzero h0 id]
          exact hne
        obtain ⟨p0, hp0, h1, h2⟩ := pendingOf_ne_nil _ id hne'
        exact absurd h3 (ownErr_forestErrs _ _ (hinv p0 hp0 h2))

/-! ### updates by a function that is harmless wherever it is applied -/

theorem everyNode_updateAt_all (q : Entry → Bool)
    (hq : ∀ d c i o c' i' o', c.map hdr = c'.map hdr → i.map hdr = i'.map hdr → o.map hdr = o'.map hdr →
      q (.mk d c i o) = q (.mk d c' i' o'))
    (f : Entry → Entry) (hf : ∀ x, everyNode q x = true → everyNode q (f x) = true) (hh : ∀ x, hdr (f x) = hdr x) :
    ∀ (p : Path) (e : Entry), everyNode q e = true → everyNode q (e.updateAt p f) = true ∧ hdr (e.updateAt p f) = hdr e := by
  intro p
  induction p with
  | nil => intro e h; exact ⟨hf e h, hh e⟩
  | cons s p ih =>
    intro e h
    cases e with | mk d c i o =>
    rw [everyNode_mk] at h
    obtain ⟨h1, h2, h3, h4⟩ := h
    cases s with
    | child k =>
      simp only [Entry.updateAt]
      refine ⟨?_, rfl⟩
      rw [everyNode_mk]
      refine ⟨?_, ?_, h3, h4⟩
      · rw [hq d _ i o c i o ?_ rfl rfl]; exact h1
        simp only [List.map_map]
        apply List.map_congr_left
        intro x hx
        simp only [Function.comp]
        split
        · exact (ih x (h2 x hx)).2
        · rfl
      · intro x hx
        simp only [List.mem_map] at hx
        obtain ⟨y, hy, rfl⟩ := hx
        split
        · exact (ih y (h2 y hy)).1
        · exact h2 y hy
    | input =>
      simp only [Entry.updateAt]
      refine ⟨?_, rfl⟩
      rw [everyNode_mk]
      refine ⟨?_, h2, ?_, h4⟩
      · rw [hq d c _ o c i o rfl ?_ rfl]; exact h1
        simp only [List.map_map]
        apply List.map_congr_left
        intro x hx
        exact (ih x (h3 x hx)).2
      · intro x hx
        simp only [List.mem_map] at hx
        obtain ⟨y, hy, rfl⟩ := hx
        exact (ih y (h3 y hy)).1
    | output =>
      simp only [Entry.updateAt]
      refine ⟨?_, rfl⟩
      rw [everyNode_mk]
      refine ⟨?_, h2, h3, ?_⟩
      · rw [hq d c i _ c i o rfl rfl ?_]; exact h1
        simp only [List.map_map]
        apply List.map_congr_left
        intro x hx
        exact (ih x (h4 x hx)).2
      · intro x hx
        simp only [List.mem_map] at hx
        obtain ⟨y, hy, rfl⟩ := hx
        exact (ih y (h4 y hy)).1

theorem hdrLocal_uHere : ∀ d c i o c' i' o', c.map hdr = c'.map hdr → i.map hdr = i'.map hdr → o.map hdr = o'.map hdr →
    uHere (.mk d c i o) = uHere (.mk d c' i' o') := by
  intro d c i o c' i' o' hc hi ho
  have hiff : ∀ (d : EData) (c i o : List Entry), uHere (.mk d c i o) = true ↔
      (names1 c).Nodup ∧ i.length ≤ 1 ∧ o.length ≤ 1 := by
    intro d c i o
    simp only [uHere, Entry.dir, Entry.inp, Entry.out, Bool.and_eq_true]
    constructor
    · rintro ⟨⟨h1, h2⟩, h3⟩; exact ⟨of_decide_eq_true h1, of_decide_eq_true h2, of_decide_eq_true h3⟩
    · rintro ⟨h1, h2, h3⟩; exact ⟨⟨decide_eq_true h1, decide_eq_true h2⟩, decide_eq_true h3⟩
  rw [Bool.eq_iff_iff, hiff, hiff]
  unfold names1
  rw [names_hdr c c' hc, length_hdr i i' hi, length_hdr o o' ho]

theorem hdrLocal_choiceCasesHere : ∀ d c i o c' i' o', c.map hdr = c'.map hdr → i.map hdr = i'.map hdr →
    o.map hdr = o'.map hdr → choiceCasesHere (.mk d c i o) = choiceCasesHere (.mk d c' i' o') := by
  intro d c i o c' i' o' hc hi ho
  show (!(d.kind == .choice && d.errors.isEmpty) || c.all (fun x => x.d.kind == .case_)) =
    (!(d.kind == .choice && d.errors.isEmpty) || c'.all (fun x => x.d.kind == .case_))
  rw [all_kind_hdr (· == .case_) c c' hc]

/-- After the update, the path leads to the updated node. -/
theorem getAt_updateAt (f : Entry → Entry) (e : Entry) (hn : (f e).name = e.name) :
    ∀ (p : Path) (root : Entry), U root → PathOK p → root.getAt p = some e →
      (root.updateAt p f).getAt p = some (f e) ∧ (root.updateAt p f).name = root.name := by
  intro p
  induction p with
  | nil =>
    intro root _ _ hg
    simp only [Entry.getAt, Option.some.injEq] at hg
    subst hg
    exact ⟨rfl, hn⟩
  | cons s p ih =>
    intro root hu hp hg
    cases root with | mk d c i o =>
    cases s with
    | child k =>
      obtain ⟨pre, y, post, hc, hy, hgy, hpre, _, hupd⟩ := updateAt_child d c i o k p f e hu (hp k (by simp)) hg
      rw [hupd]
      subst hc
      have huy : U y := ((U_mk _ _ _ _).1 hu).2.1 y (by simp)
      have hih := ih y huy hp.tail hgy
      refine ⟨?_, rfl⟩
      simp only [Entry.getAt, Entry.child?, Entry.dir]
      have hfind : (pre ++ y.updateAt p f :: post).find? (fun x => x.name == k) = some (y.updateAt p f) := by
        rw [List.find?_append]
        have hnone : pre.find? (fun x => x.name == k) = none := by
          rw [List.find?_eq_none]; intro x hx; simp [hpre x hx]
        rw [hnone]
        have hk : ((y.updateAt p f).name == k) = true := by rw [hih.2, hy]; simp
        simp [List.find?_cons, hk]
      rw [hfind]; exact hih.1
    | input =>
      obtain ⟨y, hi, hgy, hupd⟩ := updateAt_input d c i o p f e hu hg
      rw [hupd]; subst hi
      have huy : U y := ((U_mk _ _ _ _).1 hu).2.2.1 y (by simp)
      have := ih y huy hp.tail hgy
      exact ⟨by simpa [Entry.getAt, Entry.inp] using this.1, rfl⟩
    | output =>
      obtain ⟨y, ho, hgy, hupd⟩ := updateAt_output d c i o p f e hu hg
      rw [hupd]; subst ho
      have huy : U y := ((U_mk _ _ _ _).1 hu).2.2.2 y (by simp)
      have := ih y huy hp.tail hgy
      exact ⟨by simpa [Entry.getAt, Entry.out] using this.1, rfl⟩

/-! ### the deviation stage -/

/-- The invariant of a module tree during the deviation stage of a clean `Process`. -/
structure DP (tp : Bool) (t : Entry) : Prop where
  ne : NoErrors t
  wf : everyNode (wfqB tp) t = true
  u : U t
  kind : t.d.kind = .directory
  cc : ChoiceCases t

theorem choiceCases_implicitIO (parent : Entry) (b : Bool) : ChoiceCases (implicitIO parent b) := by
  unfold implicitIO; rw [choiceCases_mk]; simp

theorem find_inv2_some (P : Entry → Prop)
    (hw : ∀ parts root cur, P root → (∀ p, cur = some p → PathOK p) →
      P (walkParts parts root cur).2 ∧ ∀ p, (walkParts parts root cur).1 = some p → PathOK p)
    (reg : Registry) (f : Forest) (start : Loc) (ctx : Nat) (name : String) (hf : ForestAll P f)
    (hs : PathOK start.2) :
    ((find reg f start ctx name).1 ≠ none → ForestAll P (find reg f start ctx name).2) ∧
      ∀ t path, (find reg f start ctx name).1 = some (t, path) → PathOK path := by
  have hside : ∀ cur : Path, (cur = [] ∨ cur = start.2) → ∀ p, some cur = some p → PathOK p := by
    intro c hc p hp; cases hp; rcases hc with rfl | rfl
    · exact pathOK_nil
    · exact hs
  refine find_cases reg f start ctx name
    (P := fun r => (r.1 ≠ none → ForestAll P r.2) ∧ ∀ t path, r.1 = some (t, path) → PathOK path)
    ⟨fun _ => hf, fun t path h => absurd h (by simp)⟩
    (fun _ _ => ⟨fun h => absurd rfl h, fun t path h => absurd h (by simp)⟩)
    (fun t root parts cur h hc => ?_)
  have hw' := hw parts root (some cur) (forestAll_tree? _ _ _ hf h) (hside cur hc)
  refine ⟨fun _ => forestAll_setTree _ _ _ hf hw'.1, fun t' path h' => ?_⟩
  simp only [Option.map_eq_some_iff, Prod.mk.injEq] at h'
  obtain ⟨a, ha, _, rfl⟩ := h'
  exact hw'.2 a ha

section DPLemmas
variable {env : Env} {tp : Bool} (hq : LocalOK env (wfqB tp))
include hq

theorem dp_setImplicitIn (root : Entry) (p : Path) (e : Entry) (h : DP tp root) (hp : PathOK p)
    (hg : root.getAt p = some e) (hi : e.inp = []) : DP tp (root.updateAt p setImplicitIn) := by
  have hne : NoErrors (root.updateAt p setImplicitIn) :=
    everyNode_updateAt_own _ ownOnly_noErrorsHere _ noErrors_setImplicitIn p root h.ne
  have ht := tinv_setImplicitIn hq root p e ⟨h.u, fun _ => h.wf⟩ hp hg hi
  refine ⟨hne, ht.2 hne, ht.1, (updateAt_kind _ (fun x => by cases x; rfl) p root).trans h.kind, ?_⟩
  refine everyNode_updateAt choiceCasesHere hdrLocal_choiceCasesHere setImplicitIn e ?_ (by cases e; rfl) p root h.u hp hg h.cc
  intro he
  cases e with | mk d c i o =>
  change ChoiceCases _ at he
  change ChoiceCases _
  simp only [setImplicitIn]
  rw [choiceCases_mk] at he ⊢
  refine ⟨he.1, he.2.1, ?_, he.2.2.2⟩
  intro x hx; simp only [List.mem_singleton] at hx; subst hx; exact choiceCases_implicitIO _ _

theorem dp_setImplicitOut (root : Entry) (p : Path) (e : Entry) (h : DP tp root) (hp : PathOK p)
    (hg : root.getAt p = some e) (ho : e.out = []) : DP tp (root.updateAt p setImplicitOut) := by
  have hne : NoErrors (root.updateAt p setImplicitOut) :=
    everyNode_updateAt_own _ ownOnly_noErrorsHere _ noErrors_setImplicitOut p root h.ne
  have ht := tinv_setImplicitOut hq root p e ⟨h.u, fun _ => h.wf⟩ hp hg ho
  refine ⟨hne, ht.2 hne, ht.1, (updateAt_kind _ (fun x => by cases x; rfl) p root).trans h.kind, ?_⟩
  refine everyNode_updateAt choiceCasesHere hdrLocal_choiceCasesHere setImplicitOut e ?_ (by cases e; rfl) p root h.u hp hg h.cc
  intro he
  cases e with | mk d c i o =>
  change ChoiceCases _ at he
  change ChoiceCases _
  simp only [setImplicitOut]
  rw [choiceCases_mk] at he ⊢
  refine ⟨he.1, he.2.1, he.2.2.1, ?_⟩
  intro x hx; simp only [List.mem_singleton] at hx; subst hx; exact choiceCases_implicitIO _ _

theorem dp_find (reg : Registry) (f : Forest) (start : Loc) (ctx : Nat) (name : String)
    (hf : ForestAll (DP tp) f) (hs : PathOK start.2) :
    ((find reg f start ctx name).1 ≠ none → ForestAll (DP tp) (find reg f start ctx name).2) ∧
      ∀ t path, (find reg f start ctx name).1 = some (t, path) → PathOK path :=
  find_inv2_some (DP tp)
    (walkParts_inv2 (DP tp) (fun root p e h hp hg hi => dp_setImplicitIn hq root p e h hp hg hi)
      (fun root p e h hp hg ho => dp_setImplicitOut hq root p e h hp hg ho))
    reg f start ctx name hf hs


omit hq in
theorem dp_of_equiv (e v : Entry) (heq : DataEquiv e v) (h1 : NoErrors e) (h2 : everyNode (wfqB tp) e = true)
    (h3 : U e) (h4 : ChoiceCases e) :
    NoErrors v ∧ everyNode (wfqB tp) v = true ∧ U v ∧ ChoiceCases v ∧ hdr v = hdr e := by
  refine ⟨noErrors_of_equiv heq h1, ?_⟩
  cases e with | mk d c i o =>
  cases v with | mk d' c' i' o' =>
  obtain ⟨e1, e2, e3, e4, e5, e6, e7, e8, e9, e10⟩ := heq
  simp only [Entry.dir, Entry.inp, Entry.out, Entry.d] at e1 e2 e3 e4 e5 e6 e7 e8 e9 e10
  subst e1 e2 e3
  refine ⟨?_, ?_, ?_, ?_⟩
  · rw [everyNode_mk] at h2 ⊢
    refine ⟨?_, h2.2⟩
    have := h2.1
    rw [wfqB_iff] at this ⊢
    refine ⟨this.1, ?_, this.2.2.1, ?_⟩
    · have hk := this.2.1
      simp only [kindsWeakHere, Entry.d, e6, e7, e8] at hk ⊢
      exact hk
    · intro htp
      have ht := this.2.2.2 htp
      simp only [typePresentHere, Entry.d, e6, e9, Bool.or_eq_true, Bool.not_eq_true'] at ht ⊢
      rcases ht with ht | ht
      · exact Or.inl ht
      · exact Or.inr (e10 ht)
  · rw [U_mk] at h3 ⊢; exact h3
  · rw [choiceCases_mk] at h4 ⊢
    rw [e6, e4]; exact h4
  · simp only [hdr, Entry.d, e5, e6]

theorem dp_replace (root : Entry) (path : Path) (e v : Entry) (h : DP tp root) (hp : PathOK path)
    (hg : root.getAt path = some e) (heq : DataEquiv e v) :
    DP tp (root.updateAt path fun _ => v) ∧ (root.updateAt path fun _ => v).getAt path = some v := by
  obtain ⟨v1, v2, v3, v4, v5⟩ := dp_of_equiv e v heq (everyNode_getAt _ path root e h.ne hg)
    (everyNode_getAt _ path root e h.wf hg) (U_getAt path root e h.u hg) (everyNode_getAt _ path root e h.cc hg)
  have hname : v.name = e.name := congrArg Prod.fst v5
  have hkind : v.d.kind = e.d.kind := congrArg Prod.snd v5
  refine ⟨⟨?_, ?_, ?_, ?_, ?_⟩, (getAt_updateAt (fun _ => v) e hname path root h.u hp hg).1⟩
  · exact everyNode_updateAt_own _ ownOnly_noErrorsHere _ (fun _ _ => v1) path root h.ne
  · exact everyNode_updateAt (wfqB tp) hq.hdr (fun _ => v) e (fun _ => v2) v5 path root h.u hp hg h.wf
  · exact U_updateAt (fun _ => v) e v3 hname path root h.u hp hg
  · cases path with
    | nil =>
      simp only [Entry.getAt, Option.some.injEq] at hg
      subst hg
      exact hkind.trans h.kind
    | cons s p => cases root with | mk d c i o => cases s <;> exact h.kind
  · exact everyNode_updateAt choiceCasesHere hdrLocal_choiceCasesHere (fun _ => v) e (fun _ => v4) v5 path root h.u hp hg h.cc

omit hq in
theorem sublist_names_filter (c : List Entry) (p : Entry → Bool) :
    ((c.filter p).map (·.name)).Sublist (c.map (·.name)) :=
  List.Sublist.map _ List.filter_sublist

omit hq in
theorem dp_dropKids (d : EData) (c i o : List Entry) (p : Entry → Bool) (b1 b2 : Bool)
    (h1 : NoErrors (.mk d c i o)) (h2 : everyNode (wfqB tp) (.mk d c i o) = true) (h3 : U (.mk d c i o))
    (h4 : ChoiceCases (.mk d c i o)) :
    NoErrors (.mk d (c.filter p) (if b1 then [] else i) (if b2 then [] else o)) ∧
    everyNode (wfqB tp) (.mk d (c.filter p) (if b1 then [] else i) (if b2 then [] else o)) = true ∧
    U (.mk d (c.filter p) (if b1 then [] else i) (if b2 then [] else o)) ∧
    ChoiceCases (.mk d (c.filter p) (if b1 then [] else i) (if b2 then [] else o)) := by
  have hi : ∀ z ∈ (if b1 then [] else i), z ∈ i := by intro z hz; split at hz <;> simp_all
  have ho : ∀ z ∈ (if b2 then [] else o), z ∈ o := by intro z hz; split at hz <;> simp_all
  have hil : (if b1 then [] else i).length ≤ i.length := by split <;> simp
  have hol : (if b2 then [] else o).length ≤ o.length := by split <;> simp
  refine ⟨?_, ?_, ?_, ?_⟩
  · rw [noErrors_mk] at h1 ⊢
    exact ⟨h1.1, fun z hz => h1.2.1 z (List.mem_filter.mp hz).1, fun z hz => h1.2.2.1 z (hi z hz),
      fun z hz => h1.2.2.2 z (ho z hz)⟩
  · rw [everyNode_mk] at h2 ⊢
    refine ⟨?_, fun z hz => h2.2.1 z (List.mem_filter.mp hz).1, fun z hz => h2.2.2.1 z (hi z hz),
      fun z hz => h2.2.2.2 z (ho z hz)⟩
    have := h2.1
    rw [wfqB_iff] at this ⊢
    refine ⟨⟨this.1.1.sublist (sublist_names_filter c p), by omega, by omega⟩, this.2.1,
      ⟨fun z hz => this.2.2.1.1 z (List.mem_filter.mp hz).1, fun z hz => this.2.2.1.2.1 z (hi z hz),
        fun z hz => this.2.2.1.2.2 z (ho z hz)⟩, this.2.2.2⟩
  · rw [U_mk] at h3 ⊢
    refine ⟨⟨?_, by omega, by omega⟩, fun z hz => h3.2.1 z (List.mem_filter.mp hz).1, fun z hz => h3.2.2.1 z (hi z hz),
      fun z hz => h3.2.2.2 z (ho z hz)⟩
    unfold names1
    exact h3.1.1.sublist (List.Sublist.filter _ (sublist_names_filter c p))
  · rw [choiceCases_mk] at h4 ⊢
    exact ⟨fun hk he z hz => h4.1 hk he z (List.mem_filter.mp hz).1, fun z hz => h4.2.1 z (List.mem_filter.mp hz).1,
      fun z hz => h4.2.2.1 z (hi z hz), fun z hz => h4.2.2.2 z (ho z hz)⟩


omit hq in
theorem everyNode_and (p q : Entry → Bool) (e : Entry) :
    everyNode (fun x => p x && q x) e = true ↔ everyNode p e = true ∧ everyNode q e = true := by
  induction e using entry_ind with
  | h d c i o hc hi ho =>
    simp only [everyNode_mk, Bool.and_eq_true]
    constructor
    · rintro ⟨⟨a, b⟩, h2, h3, h4⟩
      exact ⟨⟨a, fun x hx => ((hc x hx).1 (h2 x hx)).1, fun x hx => ((hi x hx).1 (h3 x hx)).1,
        fun x hx => ((ho x hx).1 (h4 x hx)).1⟩, ⟨b, fun x hx => ((hc x hx).1 (h2 x hx)).2,
        fun x hx => ((hi x hx).1 (h3 x hx)).2, fun x hx => ((ho x hx).1 (h4 x hx)).2⟩⟩
    · rintro ⟨⟨a, a2, a3, a4⟩, ⟨b, b2, b3, b4⟩⟩
      exact ⟨⟨a, b⟩, fun x hx => (hc x hx).2 ⟨a2 x hx, b2 x hx⟩, fun x hx => (hi x hx).2 ⟨a3 x hx, b3 x hx⟩,
        fun x hx => (ho x hx).2 ⟨a4 x hx, b4 x hx⟩⟩

/-- Drop some `Dir` children and possibly the rpc input / output (what a removal does to the parent). -/
def dropKids (pr : Entry → Bool) (b1 b2 : Bool) : Entry → Entry
  | .mk d c i o => .mk d (c.filter pr) (if b1 then [] else i) (if b2 then [] else o)

/-- The four node-wise parts of `DP` as one predicate. -/
def allq (tp : Bool) (x : Entry) : Bool := ((noErrorsHere x && wfqB tp x) && uHere x) && choiceCasesHere x

omit hq in
theorem allq_iff (e : Entry) : everyNode (allq tp) e = true ↔
    NoErrors e ∧ everyNode (wfqB tp) e = true ∧ U e ∧ ChoiceCases e := by
  unfold allq
  rw [everyNode_and, everyNode_and, everyNode_and]
  exact ⟨fun ⟨⟨⟨a, b⟩, c⟩, d⟩ => ⟨a, b, c, d⟩, fun ⟨a, b, c, d⟩ => ⟨⟨⟨a, b⟩, c⟩, d⟩⟩

theorem hdrLocal_allq : ∀ d c i o c' i' o', c.map hdr = c'.map hdr → i.map hdr = i'.map hdr → o.map hdr = o'.map hdr →
    allq tp (.mk d c i o) = allq tp (.mk d c' i' o') := by
  intro d c i o c' i' o' hc hi ho
  unfold allq
  rw [hq.hdr d c i o c' i' o' hc hi ho, hdrLocal_uHere d c i o c' i' o' hc hi ho,
    hdrLocal_choiceCasesHere d c i o c' i' o' hc hi ho]
  rfl

theorem dp_removeAt (root : Entry) (p : Path) (h : DP tp root) : DP tp (removeAt root p) := by
  have hall : everyNode (allq tp) root = true := (allq_iff root).2 ⟨h.ne, h.wf, h.u, h.cc⟩
  have gen : ∀ (pr : Entry → Bool) (b1 b2 : Bool) (path : Path), DP tp (root.updateAt path (dropKids pr b1 b2)) := by
    intro pr b1 b2 path
    have := everyNode_updateAt_all (allq tp) (hdrLocal_allq hq) (dropKids pr b1 b2) (fun x hx => by
        cases x with | mk d0 c0 i0 o0 =>
        obtain ⟨a, b, c, d⟩ := (allq_iff _).1 hx
        obtain ⟨a', b', c', d'⟩ := dp_dropKids d0 c0 i0 o0 pr b1 b2 a b c d
        exact (allq_iff _).2 ⟨a', b', c', d'⟩)
      (fun x => by cases x; rfl) path root hall
    obtain ⟨a, b, c, d⟩ := (allq_iff _).1 this.1
    exact ⟨a, b, c, (updateAt_kind _ (fun x => by cases x; rfl) path root).trans h.kind, d⟩
  unfold removeAt
  split
  · rename_i k _
    have := gen (fun x => x.name != k) false false p.dropLast
    have heq : dropKids (fun x => x.name != k) false false =
        (fun pe : Entry => pe.withDir (pe.dir.filter (·.name != k))) := by
      funext x; cases x; rfl
    rw [heq] at this; exact this
  · have := gen (fun _ => true) true false p.dropLast
    have heq : dropKids (fun _ => true) true false =
        (fun pe : Entry => match pe with | .mk d c _ o => .mk d c [] o) := by
      funext x; cases x; simp [dropKids]
    rw [heq] at this; exact this
  · have := gen (fun _ => true) false true p.dropLast
    have heq : dropKids (fun _ => true) false true =
        (fun pe : Entry => match pe with | .mk d c i _ => .mk d c i []) := by
      funext x; cases x; simp [dropKids]
    rw [heq] at this; exact this
  · exact h

end DPLemmas

/-- The deviations of one module keep a tree invariant `P` that `find`, the replacement of the target by
what a deviate statement makes of it, and `removeAt` keep — unless they return an error. -/
theorem applyDeviations_inv (P : Entry → Prop)
    (hfind : ∀ (reg : Registry) (f : Forest) (start : Loc) (ctx : Nat) (name : String), ForestAll P f → PathOK start.2 →
      ((find reg f start ctx name).1 ≠ none → ForestAll P (find reg f start ctx name).2) ∧
        ∀ t path, (find reg f start ctx name).1 = some (t, path) → PathOK path)
    (hrep : ∀ (opts : Opts) (ms : Stmt) (kind : String) (spec : Entry) (hp : Bool) (root : Entry) (path : Path) (node : Entry),
      P root → PathOK path → root.getAt path = some node →
      P (root.updateAt path fun _ => (applyOneDeviate opts ms kind spec hp node).1) ∧
        (root.updateAt path fun _ => (applyOneDeviate opts ms kind spec hp node).1).getAt path =
          some (applyOneDeviate opts ms kind spec hp node).1)
    (hrem : ∀ root p, P root → P (removeAt root p))
    (reg : Registry) (opts : Opts) (m : Mod) (devs : List (Stmt × List (String × Entry)))
    (f : Forest) (hf : ForestAll (P) f) (hclean : (applyDeviations reg opts m devs f).2 = []) :
    ForestAll (P) (applyDeviations reg opts m devs f).1 := by
  revert hclean
  unfold applyDeviations
  refine foldl_inv (fun acc : Forest × List Err => acc.2 = [] → ForestAll (P) acc.1) _ devs (f, []) (fun _ => hf) ?_
  rintro ⟨f, errs⟩ ⟨dstmt, deviates⟩ _ hP
  dsimp only at hP ⊢
  have hfind := fun h => hfind reg f (m.seq, []) m.seq dstmt.arg h pathOK_nil
  generalize find reg f (m.seq, []) m.seq dstmt.arg = r at hfind
  obtain ⟨target, f'⟩ := r
  dsimp only at hfind ⊢
  split
  · intro h; simp at h
  · rename_i t path
    split
    · intro h; simp at h
    · rename_i node0 hn0
      dsimp only
      have key := foldl_inv (fun acc : Forest × Entry × Bool × List Err =>
          (∃ l, acc.2.2.2 = errs ++ l) ∧ (errs = [] → ForestAll (P) acc.1 ∧
            (acc.2.2.1 = false → ∃ root, acc.1.tree? t = some root ∧ root.getAt path = some acc.2.1)))
        (fun (acc : Forest × Entry × Bool × List Err) (ds : String × Entry) =>
          let (f, node, detached, errs) := acc
          let (node', remove, es) := applyOneDeviate opts m.stmt ds.1 ds.2 (!path.isEmpty) node
          let es := if remove && detached then es ++ [Err.at_ m.stmt "deviate-already-removed"] else es
          let f := if detached then f else
            match f.tree? t with
            | none => f
            | some root =>
              let root := root.updateAt path fun _ => node'
              f.setTree t (if remove then removeAt root path else root)
          (f, node', detached || remove, errs ++ es))
        deviates (f', node0, false, errs) ⟨⟨[], by simp⟩, ?_⟩ ?_
      · intro hfin
        obtain ⟨⟨l, hl⟩, hk⟩ := key
        have he : errs = [] := by
          have := hl.symm.trans hfin
          simp only [List.append_eq_nil_iff] at this; exact this.1
        exact (hk he).1
      · intro he
        have hf' := (hfind (hP he)).1 (by simp)
        refine ⟨hf', fun _ => ?_⟩
        cases ht : f'.tree? t with
        | none => simp [ht] at hn0
        | some root =>
          simp only [ht, Option.bind_some] at hn0
          exact ⟨root, rfl, hn0⟩
      · rintro ⟨f2, node, detached, errs2⟩ ds _ ⟨⟨l, hl⟩, hk⟩
        dsimp only at hl hk ⊢
        refine ⟨⟨l ++ _, by rw [hl, List.append_assoc]⟩, ?_⟩
        intro he
        obtain ⟨hf2, hnode⟩ := hk he
        have hpath : PathOK path := (hfind (hP he)).2 t path rfl
        cases detached with
        | true =>
          simp only [if_true, Bool.true_or]
          exact ⟨hf2, fun h => absurd h (by simp)⟩
        | false =>
          simp only [Bool.false_eq_true, if_false, Bool.false_or]
          obtain ⟨root, hroot, hg⟩ := hnode rfl
          simp only [hroot]
          have hrep := hrep opts m.stmt ds.1 ds.2 (!path.isEmpty) root path node (forestAll_tree? _ _ _ hf2 hroot) hpath hg
          refine ⟨?_, ?_⟩
          · apply forestAll_setTree _ _ _ hf2
            split
            · exact hrem _ _ hrep.1
            · exact hrep.1
          · intro hrem
            simp only [hrem, Bool.false_eq_true, if_false]
            refine ⟨_, ?_, hrep.2⟩
            rw [tree?_setTree]; simp [hroot]

theorem devStage_inv (P : Entry → Prop)
    (happly : ∀ (reg : Registry) (opts : Opts) (m : Mod) (devs : List (Stmt × List (String × Entry))) (f : Forest),
      ForestAll P f → (applyDeviations reg opts m devs f).2 = [] → ForestAll P (applyDeviations reg opts m devs f).1)
    (reg : Registry) (opts : Opts) (plug : Plug)
    (f0 : Forest) (h : ForestAll P f0) (hclean : (devStage reg opts plug f0).2.1 = []) :
    ForestAll (P) (devStage reg opts plug f0).1 := by
  revert hclean
  unfold devStage
  refine foldl_inv (fun acc : Forest × List Err × List String => acc.2.1 = [] → ForestAll (P) acc.1) _ _ _
    (fun _ => h) ?_
  rintro ⟨f, errs, done⟩ m _ hP
  dsimp only at hP ⊢
  split
  · exact hP
  · dsimp only
    intro he
    simp only [List.append_eq_nil_iff] at he
    exact happly _ _ _ _ _ (hP he.1) he.2

section DevStage
variable {env : Env} {tp : Bool} (hq : LocalOK env (wfqB tp))
include hq

/-- The deviations of one module keep the tree invariant, unless they return an error. -/
theorem dp_applyDeviations (reg : Registry) (opts : Opts) (m : Mod) (devs : List (Stmt × List (String × Entry)))
    (f : Forest) (hf : ForestAll (DP tp) f) (hclean : (applyDeviations reg opts m devs f).2 = []) :
    ForestAll (DP tp) (applyDeviations reg opts m devs f).1 :=
  applyDeviations_inv (DP tp) (dp_find hq)
    (fun opts ms kind spec hp root path node h hpath hg =>
      dp_replace hq root path node _ h hpath hg (applyOneDeviate_equiv opts ms kind spec hp node))
    (dp_removeAt hq) reg opts m devs f hf hclean

theorem dp_devStage (reg : Registry) (opts : Opts) (plug : Plug) (hqe : env = envOf reg opts plug)
    (f0 : Forest) (h : ForestAll (DP tp) f0) (hclean : (devStage reg opts plug f0).2.1 = []) :
    ForestAll (DP tp) (devStage reg opts plug f0).1 :=
  devStage_inv (DP tp) (dp_applyDeviations hq) reg opts plug f0 h hclean

end DevStage

/-! ### the result of a clean `Process` -/

theorem process_clean_dp (reg : Registry) (opts : Opts) (plug : Plug) (tp : Bool)
    (ht : tp = true → TypeResTotal plug.tres) (h : (processAll reg opts plug).errors = []) :
    ForestAll (DP tp) (processAll reg opts plug).forest := by
  have hq : LocalOK (envOf reg opts plug) (wfqB tp) := localOK_wfqB _ tp ht
  obtain ⟨_, _, _, h4, h5⟩ := processAll_clean reg opts plug h
  rw [h5]
  refine dp_devStage hq reg opts plug rfl _ ?_ h4
  intro t ht'
  obtain ⟨a, b, c, d⟩ := preDev_clean reg opts plug hq (wfqB_fixChoice tp) h t ht'
  exact ⟨a, b, c, d, preDev_choiceCases reg opts plug h t ht'⟩

theorem process_clean_no_errors (reg : Registry) (opts : Opts) (plug : Plug)
    (h : (processAll reg opts plug).errors = []) : ForestAll NoErrors (processAll reg opts plug).forest :=
  fun t ht => (process_clean_dp reg opts plug false (fun h => absurd h (by simp)) h t ht).ne

theorem everyNode_imp (p q : Entry → Bool) (hpq : ∀ x, p x = true → q x = true) (e : Entry)
    (h : everyNode p e = true) : everyNode q e = true := by
  induction e using entry_ind with
  | h d c i o hc hi ho =>
    rw [everyNode_mk] at h ⊢
    exact ⟨hpq _ h.1, fun x hx => hc x hx (h.2.1 x hx), fun x hx => hi x hx (h.2.2.1 x hx),
      fun x hx => ho x hx (h.2.2.2 x hx)⟩

theorem wfqB_keysUnique (tp : Bool) (x : Entry) (h : wfqB tp x = true) : keysUniqueHere x = true := by
  simp only [wfqB, wfq, Bool.and_eq_true] at h; exact h.1.1.1

theorem wfqB_typePresent (x : Entry) (h : wfqB true x = true) : typePresentHere x = true := by
  simp only [wfqB, Bool.and_eq_true, Bool.not_true, Bool.false_or] at h; exact h.2

/-- From the entry-layer predicate to the specification's kind consistency: no deviate entry is
in the tree (the root is not one, and no node has one as a child), no error is left, and the
choices have been fixed. -/
theorem kindsConsistent_of (tp : Bool) (e : Entry) (hk : e.d.kind ≠ .deviate) (hne : NoErrors e)
    (hw : everyNode (wfqB tp) e = true) (hc : ChoiceCases e) : KindsConsistent e := by
  unfold KindsConsistent
  induction e using entry_ind with
  | h d c i o ihc ihi iho =>
    rw [noErrors_mk] at hne
    rw [everyNode_mk] at hw ⊢
    rw [choiceCases_mk] at hc
    have hw0 := hw.1
    rw [wfqB_iff] at hw0
    obtain ⟨_, kw, ⟨n1, n2, n3⟩, _⟩ := hw0
    refine ⟨?_, fun x hx => ihc x hx (n1 x hx) (hne.2.1 x hx) (hw.2.1 x hx) (hc.2.1 x hx),
      fun x hx => ihi x hx (n2 x hx) (hne.2.2.1 x hx) (hw.2.2.1 x hx) (hc.2.2.1 x hx),
      fun x hx => iho x hx (n3 x hx) (hne.2.2.2 x hx) (hw.2.2.2 x hx) (hc.2.2.2 x hx)⟩
    simp only [Entry.d] at hk
    simp only [kindsWeakHere, Entry.d, Bool.and_eq_true, Bool.or_eq_true, Bool.not_eq_true', beq_iff_eq] at kw
    simp only [kindsConsistentHere, Entry.d, Entry.dir, Bool.and_eq_true, Bool.or_eq_true, Bool.not_eq_true',
      beq_iff_eq, List.all_eq_true]
    refine ⟨⟨kw.1, ?_⟩, ?_⟩
    · rcases kw.2 with ((h | h) | h) | h
      · exact Or.inl (Or.inl h)
      · exact Or.inl (Or.inr h)
      · exact Or.inr h
      · exact absurd h hk
    · by_cases hch : d.kind = .choice
      · exact Or.inr (hc.1 hch hne.1)
      · left; simpa using hch

/-- The value-level half of C04. -/
theorem process_clean_wf (reg : Registry) (opts : Opts) (plug : Plug)
    (h : (processAll reg opts plug).errors = []) :
    ∀ t ∈ (processAll reg opts plug).forest.trees, WFTree t.2 ∧ NoErrors t.2 := by
  intro t ht
  have := process_clean_dp reg opts plug false (fun h => absurd h (by simp)) h t ht
  refine ⟨⟨everyNode_imp _ _ (wfqB_keysUnique false) _ this.wf, ?_⟩, this.ne⟩
  exact kindsConsistent_of false t.2 (by rw [this.kind]; decide) this.ne this.wf this.cc

theorem process_clean_types (reg : Registry) (opts : Opts) (plug : Plug) (htot : TypeResTotal plug.tres)
    (h : (processAll reg opts plug).errors = []) :
    ∀ t ∈ (processAll reg opts plug).forest.trees, TypesPresent t.2 := by
  intro t ht
  have := process_clean_dp reg opts plug true (fun _ => htot) h t ht
  exact everyNode_imp _ _ wfqB_typePresent _ this.wf

end Goyang.Lemmas.Tree
