import Goyang.Lemmas.Identity
/-
Helper lemmas for C11, part 2: the identity dictionary built by the first loop of
`resolveIdentities` holds exactly the identity statements of the schema.
-/
open Goyang.Lemmas.RegistryAux (byId_mem)
namespace Goyang.Lemmas.Identity
open Goyang.Model Goyang.Model.Identity
open Goyang.Spec.Identity (Reach closure includedBy loadedModules)


section Last
variable {β κ : Type}

/-- `x` is in the list and no later element has the same key. -/
def LastIn (k : β → κ) : List β → β → Prop
  | [], _ => False
  | e :: E, x => (x = e ∧ ∀ y ∈ E, k y ≠ k x) ∨ LastIn k E x

theorem LastIn.mem {k : β → κ} : ∀ {E : List β} {x : β}, LastIn k E x → x ∈ E
  | [], _, h => nomatch h
  | e :: E, x, h => by
    rcases h with ⟨rfl, _⟩ | h
    · exact List.mem_cons_self ..
    · exact List.mem_cons_of_mem _ (LastIn.mem h)

theorem exists_lastIn (k : β → κ) : ∀ (E : List β) (e : β), e ∈ E → ∃ x, LastIn k E x ∧ k x = k e := by
  intro E
  induction E with
  | nil => intro e he; cases he
  | cons e0 E ih =>
    intro e he
    by_cases hlater : ∃ y ∈ E, k y = k e
    · obtain ⟨y, hy, hky⟩ := hlater
      obtain ⟨x, hx, hkx⟩ := ih y hy
      exact ⟨x, Or.inr hx, hkx.trans hky⟩
    · rcases List.mem_cons.mp he with rfl | he'
      · exact ⟨e, Or.inl ⟨rfl, fun y hy hk => hlater ⟨y, hy, hk⟩⟩, rfl⟩
      · exact absurd ⟨e, he', rfl⟩ hlater

end Last

theorem mem_bind_iff (d : Dict) (e x : DEntry) : x ∈ d.bind e ↔ x = e ∨ (x ∈ d ∧ x.key ≠ e.key) := by
  unfold Dict.bind
  split
  · rename_i hany
    simp only [List.mem_map]
    constructor
    · rintro ⟨y, hy, hxy⟩
      split at hxy
      · exact Or.inl hxy.symm
      · rename_i hne
        subst hxy
        exact Or.inr ⟨hy, fun h => hne (by simp [h])⟩
    · rintro (rfl | ⟨hx, hne⟩)
      · obtain ⟨y, hy, hk⟩ := List.any_eq_true.mp hany
        exact ⟨y, hy, by simp [hk]⟩
      · exact ⟨x, hx, by simp [hne]⟩
  · rename_i hany
    simp only [List.mem_append, List.mem_singleton]
    constructor
    · rintro (h | h)
      · refine Or.inr ⟨h, fun hk => hany (List.any_eq_true.mpr ⟨x, h, by simp [hk]⟩)⟩
      · exact Or.inl h
    · rintro (h | ⟨h, _⟩)
      · exact Or.inr h
      · exact Or.inl h

theorem mem_foldl_bind_iff : ∀ (E : List DEntry) (d : Dict) (x : DEntry),
    x ∈ E.foldl Dict.bind d ↔ LastIn (·.key) E x ∨ (x ∈ d ∧ ∀ y ∈ E, y.key ≠ x.key) := by
  intro E
  induction E with
  | nil => intro d x; simp [LastIn]
  | cons e E ih =>
    intro d x
    simp only [List.foldl_cons, LastIn]
    rw [ih, mem_bind_iff]
    constructor
    · rintro (h | ⟨(rfl | ⟨hx, hne⟩), hall⟩)
      · exact Or.inl (Or.inr h)
      · exact Or.inl (Or.inl ⟨rfl, hall⟩)
      · right
        refine ⟨hx, ?_⟩
        intro y hy
        rcases List.mem_cons.mp hy with rfl | hy
        · exact fun h => hne h.symm
        · exact hall y hy
    · rintro ((⟨rfl, hall⟩ | h) | ⟨hx, hall⟩)
      · exact Or.inr ⟨Or.inl rfl, hall⟩
      · exact Or.inl h
      · exact Or.inr ⟨Or.inr ⟨hx, fun h => hall e (List.mem_cons_self ..) h.symm⟩,
          fun y hy => hall y (List.mem_cons_of_mem _ hy)⟩

/-! ### one (sub)module -/

/-- The entry `registerMod` makes for identity statement `s` (the `i`-th) of `m` owned by `ow`. -/
def mkEntry (ow m : Mod) (si : Stmt × Nat) : DEntry :=
  { key := Vtx.key (ow.name, si.1.arg), vtx := (ow.name, si.1.arg), root := m.seq, idx := si.2, stmt := si.1 }

theorem registerMod_some (r : Registry) (m ow : Mod) (h : r.owner m = some ow) (acc : Dict × List Err) :
    registerMod r m acc = (((identities m).zipIdx.map (mkEntry ow m)).foldl Dict.bind acc.1, acc.2) := by
  unfold registerMod
  simp only [h]
  rw [List.foldl_map]
  rfl

theorem registerMod_none (r : Registry) (m : Mod) (h : r.owner m = none) (acc : Dict × List Err) :
    (registerMod r m acc).1 = acc.1 ∧ ∃ e, (registerMod r m acc).2 = acc.2 ++ [e] := by
  unfold registerMod
  simp only [h]
  split
  · exact ⟨rfl, _, rfl⟩
  · exact ⟨rfl, _, rfl⟩

theorem byId_seq {r : Registry} {s : Nat} {m : Mod} (h : r.byId s = some m) : m.seq = s := by
  unfold Registry.byId at h
  have := List.find?_some h
  simpa using this

theorem byId_self {r : Registry} {s : Nat} {m : Mod} (h : r.byId s = some m) : r.byId m.seq = some m := by
  rw [byId_seq h]; exact h

/-- The body of the inner loop of `buildDict` for one sequence number. -/
def regSeq (r : Registry) (acc : Dict × List Err) (s : Nat) : Dict × List Err :=
  match r.byId s with
  | some m => registerMod r m acc
  | none => acc

/-- The entries `registerMod` binds for (sub)module `m`, in order. -/
def entriesOf (r : Registry) (m : Mod) : List DEntry :=
  match r.owner m with
  | some ow => (identities m).zipIdx.map (mkEntry ow m)
  | none => []

def seqEntries (r : Registry) (s : Nat) : List DEntry :=
  match r.byId s with
  | some m => entriesOf r m
  | none => []

theorem regSeq_fst (r : Registry) (acc : Dict × List Err) (s : Nat) :
    (regSeq r acc s).1 = (seqEntries r s).foldl Dict.bind acc.1 := by
  unfold regSeq seqEntries
  cases hm : r.byId s with
  | none => rfl
  | some m =>
    simp only
    unfold entriesOf
    cases how : r.owner m with
    | none => simp only [List.foldl_nil]; exact (registerMod_none r m how acc).1
    | some ow => rw [registerMod_some r m ow how acc]

theorem regFold_fst (r : Registry) : ∀ (cl : List Nat) (acc : Dict × List Err),
    (cl.foldl (regSeq r) acc).1 = (cl.flatMap (seqEntries r)).foldl Dict.bind acc.1 := by
  intro cl
  induction cl with
  | nil => intro acc; rfl
  | cons s cl ih =>
    intro acc
    simp only [List.foldl_cons, List.flatMap_cons, List.foldl_append]
    rw [ih, regSeq_fst]

theorem regFold_snd (r : Registry) : ∀ (cl : List Nat) (acc : Dict × List Err),
    ∃ t, (cl.foldl (regSeq r) acc).2 = acc.2 ++ t ∧
      (t = [] ↔ ∀ s ∈ cl, ∀ m, r.byId s = some m → ∃ ow, r.owner m = some ow) := by
  intro cl
  induction cl with
  | nil => intro acc; exact ⟨[], by simp, by simp⟩
  | cons s cl ih =>
    intro acc
    obtain ⟨t2, h2, e2⟩ := ih (regSeq r acc s)
    have one : ∃ t1, (regSeq r acc s).2 = acc.2 ++ t1 ∧
        (t1 = [] ↔ ∀ m, r.byId s = some m → ∃ ow, r.owner m = some ow) := by
      unfold regSeq
      cases hm : r.byId s with
      | none => exact ⟨[], by simp, by simp⟩
      | some m =>
        simp only [Option.some.injEq, forall_eq']
        cases how : r.owner m with
        | none =>
          obtain ⟨_, e, he⟩ := registerMod_none r m how acc
          exact ⟨[e], he, by simp⟩
        | some ow =>
          rw [registerMod_some r m ow how acc]
          exact ⟨[], by simp, by simp⟩
    obtain ⟨t1, h1, e1⟩ := one
    refine ⟨t1 ++ t2, by rw [List.foldl_cons, h2, h1, List.append_assoc], ?_⟩
    rw [List.append_eq_nil_iff, e1, e2]
    constructor
    · rintro ⟨ha, hb⟩ s' hs'
      rcases List.mem_cons.mp hs' with rfl | hs'
      · exact ha
      · exact hb s' hs'
    · intro h
      exact ⟨h s (List.mem_cons_self ..), fun s' hs' => h s' (List.mem_cons_of_mem _ hs')⟩

/-! ### the schema -/

/-- The (sub)module with sequence number `s` is part of the schema: a loaded module, or included
(directly or through other submodules) by one. -/
def InSchema (r : Registry) (s : Nat) : Prop :=
  ∃ md ∈ moduleEntries r, Reach (includedBy r) md.seq s

/-- A dictionary entry that stands for an identity statement of the schema. -/
def Sound (r : Registry) (e : DEntry) : Prop :=
  ∃ m ow, InSchema r m.seq ∧ r.byId e.root = some m ∧ r.owner m = some ow ∧
    e.stmt ∈ identities m ∧ e.vtx = (ow.name, e.stmt.arg) ∧ e.key = Vtx.key e.vtx

theorem mem_seqEntries {r : Registry} {s : Nat} {m ow : Mod} (hm : r.byId s = some m) (how : r.owner m = some ow)
    (e : DEntry) : e ∈ seqEntries r s ↔ ∃ si ∈ (identities m).zipIdx, e = mkEntry ow m si := by
  unfold seqEntries entriesOf
  simp only [hm, how, List.mem_map]
  exact ⟨fun ⟨si, h, he⟩ => ⟨si, h, he.symm⟩, fun ⟨si, h, he⟩ => ⟨si, h, he.symm⟩⟩

theorem seqEntries_sound {r : Registry} {s : Nat} (hs : InSchema r s) : ∀ e ∈ seqEntries r s, Sound r e := by
  intro e he
  cases hm : r.byId s with
  | none => simp [seqEntries, hm] at he
  | some m =>
    cases how : r.owner m with
    | none => simp [seqEntries, entriesOf, hm, how] at he
    | some ow =>
      obtain ⟨si, hsi, rfl⟩ := (mem_seqEntries hm how e).mp he
      exact ⟨m, ow, byId_seq hm ▸ hs, byId_self hm, how, List.fst_mem_of_mem_zipIdx hsi, rfl, rfl⟩

/-! ### all modules -/

theorem reach_congr_mp {α : Type} {s1 s2 : α → List α} {a : α} (h : ∀ x, Reach s2 a x → s1 x = s2 x) :
    ∀ {b y : α}, Reach s1 b y → Reach s2 a b → Reach s2 a y := by
  intro b y hby
  induction hby with
  | refl => exact id
  | step hc _ ih =>
    intro hab
    rw [h _ hab] at hc
    exact ih (Reach.trans hab (Reach.single hc))

theorem reach_congr_mpr {α : Type} {s1 s2 : α → List α} {a : α} (h : ∀ x, Reach s2 a x → s1 x = s2 x) :
    ∀ {b y : α}, Reach s2 b y → Reach s2 a b → Reach s1 b y := by
  intro b y hby
  induction hby with
  | refl => exact fun _ => Reach.refl _
  | step hc _ ih =>
    intro hab
    have hc' := hc
    rw [← h _ hab] at hc'
    exact Reach.step hc' (ih (Reach.trans hab (Reach.single hc)))

theorem reach_congr {α : Type} {s1 s2 : α → List α} {a : α} (h : ∀ x, Reach s2 a x → s1 x = s2 x) (y : α) :
    Reach s1 a y ↔ Reach s2 a y :=
  ⟨fun h1 => reach_congr_mp h h1 (Reach.refl a), fun h2 => reach_congr_mpr h h2 (Reach.refl a)⟩

theorem findModule_byId {r : Registry} {b : Bool} {i : Stmt} {m : Mod} (h : r.findModule b i = some m) :
    ∃ id, r.byId id = some m := by
  have hget : ∀ k, (if b then r.getSub else r.getModule) k = some m → ∃ id, r.byId id = some m := by
    intro k hk
    cases b with
    | true =>
      simp only [if_true, Registry.getSub] at hk
      obtain ⟨id, _, hid⟩ := Option.bind_eq_some_iff.mp hk
      exact ⟨id, hid⟩
    | false =>
      simp only [Bool.false_eq_true, if_false, Registry.getModule] at hk
      obtain ⟨id, _, hid⟩ := Option.bind_eq_some_iff.mp hk
      exact ⟨id, hid⟩
  unfold Registry.findModule at h
  simp only at h
  split at h
  · rename_i m' hm'
    cases h
    exact hget _ hm'
  · exact hget _ h

/-- The include links of every part of the schema are set (what `include` leaves behind when no
include or import fails). -/
def LinkOK (r : Registry) (lk : Link) : Prop :=
  ∀ s, InSchema r s → includeSucc r lk s = includedBy r s

theorem includeSucc_mem (r : Registry) (lk : Link) (x y : Nat) (hy : y ∈ includeSucc r lk x) :
    y ∈ r.mods.map (·.seq) := by
  unfold includeSucc at hy
  split at hy
  · rename_i m _
    obtain ⟨m', hm', rfl⟩ := List.mem_map.mp hy
    unfold includeTargets at hm'
    obtain ⟨⟨st, i⟩, _, hsi⟩ := List.mem_filterMap.mp hm'
    simp only at hsi
    split at hsi
    · obtain ⟨id, hid⟩ := findModule_byId hsi
      exact List.mem_map.mpr ⟨m', byId_mem hid, rfl⟩
    · cases hsi
  · cases hy

theorem moduleEntries_byId {r : Registry} {md : Mod} (h : md ∈ moduleEntries r) : ∃ id, r.byId id = some md := by
  unfold moduleEntries at h
  obtain ⟨kv, _, hkv⟩ := List.mem_filterMap.mp h
  exact ⟨_, hkv⟩

/-- The step function of `buildDict`. -/
def dictStep (r : Registry) (lk : Link) (acc : Dict × List Err) (md : Mod) : Option (Dict × List Err) :=
  match walk (includeSucc r lk) (r.mods.length + 1) md.seq [] with
  | none => none
  | some cl => some (cl.foldl (regSeq r) acc)

theorem buildDict_eq (o : Oracle) (r : Registry) (lk : Link) :
    buildDict o r lk = (modulesByKey o r).foldlM (dictStep r lk) ([], []) := rfl

/-- Whatever the map order and the sort make of it, the loop visits the entries of `ms.Modules`. -/
theorem mem_modulesByKey (o : Oracle) (ho : o.Valid) (r : Registry) (md : Mod) :
    md ∈ modulesByKey o r ↔ md ∈ moduleEntries r := by
  unfold modulesByKey moduleEntries
  have hp : (sortStable (fun a b => decide (a.1 < b.1)) (o.order siteModules r.modules)).Perm r.modules :=
    (sortStable_perm _ _).trans (ho _ siteModules r.modules)
  exact (hp.filterMap _).mem_iff

/-- The include closure the dictionary loop walks for module `md` (nothing when the walk ran out of
budget, which `closureOf_spec` excludes). -/
def closureOf (r : Registry) (lk : Link) (md : Mod) : List Nat :=
  (walk (includeSucc r lk) (r.mods.length + 1) md.seq []).getD []

theorem closureOf_spec (r : Registry) (lk : Link) {md : Mod} (hmd : md ∈ moduleEntries r) :
    walk (includeSucc r lk) (r.mods.length + 1) md.seq [] = some (closureOf r lk md) ∧
    ∀ y, y ∈ closureOf r lk md ↔ Reach (includeSucc r lk) md.seq y := by
  obtain ⟨id, hid⟩ := moduleEntries_byId hmd
  obtain ⟨cl, hcl, _, hmem⟩ := walk_nil (includeSucc r lk) (r.mods.map (·.seq))
    (fun x _ y hy => includeSucc_mem r lk x y hy) (r.mods.length + 1) md.seq
    (List.mem_map.mpr ⟨md, byId_mem hid, rfl⟩) (by simp)
  unfold closureOf
  rw [hcl]
  exact ⟨rfl, hmem⟩

theorem dictFold_eq (r : Registry) (lk : Link) : ∀ (L : List Mod), (∀ md ∈ L, md ∈ moduleEntries r) →
    ∀ acc, L.foldlM (dictStep r lk) acc = some ((L.flatMap (closureOf r lk)).foldl (regSeq r) acc) := by
  intro L
  induction L with
  | nil => intro _ acc; rfl
  | cons md L ih =>
    intro hL acc
    rw [List.foldlM_cons, dictStep, (closureOf_spec r lk (hL md (List.mem_cons_self ..))).1]
    simp only [Option.bind_eq_bind, Option.bind_some]
    rw [ih (fun x hx => hL x (List.mem_cons_of_mem _ hx)), List.flatMap_cons, List.foldl_append]

theorem buildDict_closures (o : Oracle) (ho : o.Valid) (r : Registry) (lk : Link) :
    buildDict o r lk = some (((modulesByKey o r).flatMap (closureOf r lk)).foldl (regSeq r) ([], [])) :=
  dictFold_eq r lk _ (fun md hmd => (mem_modulesByKey o ho r md).mp hmd) _

theorem mem_closures (o : Oracle) (ho : o.Valid) (r : Registry) (lk : Link) (hlk : LinkOK r lk) (s : Nat) :
    s ∈ (modulesByKey o r).flatMap (closureOf r lk) ↔ InSchema r s := by
  rw [List.mem_flatMap]
  constructor
  · rintro ⟨md, hmd, hs⟩
    have hmd' := (mem_modulesByKey o ho r md).mp hmd
    exact ⟨md, hmd', (reach_congr (fun x hx => hlk x ⟨md, hmd', hx⟩) s).mp
      (((closureOf_spec r lk hmd').2 s).mp hs)⟩
  · rintro ⟨md, hmd, hs⟩
    exact ⟨md, (mem_modulesByKey o ho r md).mpr hmd, ((closureOf_spec r lk hmd).2 s).mpr
      ((reach_congr (fun x hx => hlk x ⟨md, hmd, hx⟩) s).mpr hs)⟩

/-- The dictionary, for every admissible oracle: only identity statements of the schema, all of
them (by key), and an error exactly when a part of the schema has no owner. -/
theorem buildDict_spec (o : Oracle) (ho : o.Valid) (r : Registry) (lk : Link) (hlk : LinkOK r lk) :
    ∃ dict errs, buildDict o r lk = some (dict, errs) ∧ (∀ e ∈ dict, Sound r e) ∧
      (∀ s, InSchema r s → ∀ m ow, r.byId s = some m → r.owner m = some ow → ∀ st ∈ identities m,
        ∃ x ∈ dict, x.key = Vtx.key (ow.name, st.arg)) ∧
      (errs = [] ↔ ∀ s, InSchema r s → ∀ m, r.byId s = some m → ∃ ow, r.owner m = some ow) := by
  have hin := mem_closures o ho r lk hlk
  have hd := regFold_fst r ((modulesByKey o r).flatMap (closureOf r lk)) ([], [])
  refine ⟨_, _, buildDict_closures o ho r lk, ?_, ?_, ?_⟩
  · intro e he
    rw [hd] at he
    rcases (mem_foldl_bind_iff _ _ e).mp he with hl | ⟨h, _⟩
    · obtain ⟨s, hs, hes⟩ := List.mem_flatMap.mp hl.mem
      exact seqEntries_sound ((hin s).mp hs) e hes
    · cases h
  · intro s hs m ow hm how st hst
    obtain ⟨si, hsi, hfst⟩ := List.mem_map.mp (List.zipIdx_map_fst .. ▸ hst : st ∈ (identities m).zipIdx.map Prod.fst)
    have he : mkEntry ow m si ∈ ((modulesByKey o r).flatMap (closureOf r lk)).flatMap (seqEntries r) :=
      List.mem_flatMap.mpr ⟨s, (hin s).mpr hs, (mem_seqEntries hm how _).mpr ⟨si, hsi, rfl⟩⟩
    obtain ⟨x, hx, hk⟩ := exists_lastIn (·.key) _ _ he
    exact ⟨x, hd ▸ (mem_foldl_bind_iff _ _ x).mpr (Or.inl hx), by rw [hk, ← hfst]; rfl⟩
  · obtain ⟨t, e, q⟩ := regFold_snd r ((modulesByKey o r).flatMap (closureOf r lk)) ([], [])
    rw [e, List.nil_append, q]
    exact ⟨fun h s hs => h s ((hin s).mpr hs), fun h s hs => h s ((hin s).mp hs)⟩

end Goyang.Lemmas.Identity
