import Goyang.Lemmas.Uses
import Goyang.Lemmas.Fuel
/-
C06: the fuel side condition of `uses_scope` / `uses_is_copy` (`bindFuel … ≤ 2 * fuel + 16`: the
fuel `toEntry` hands to `findGrouping` reaches what the binding theorem asks) holds at every call of
`toEntry` that a top-level call of `processAll` leads to.

* `Reached env fuel root scope n visiting`: the calls of `toEntry` reachable from the top-level
  calls `processAll` makes (a loaded (sub)module statement, or one of its deviate statements, with
  `entryFuel reg`), through the call sites of the body (`Lemmas.Fuel.Callee`: a substatement, the
  grouping a `uses` resolves to — with whatever fuel the lookup had —, an included submodule).  It
  over-approximates the real call tree (`Lemmas.Fuel.body_congr`: the body calls itself only at
  these sites).
* `reached_good`: along such a path the remaining fuel stays at least `need + slack`, where `need`
  is C01's measure and `slack = entryFuel reg - entryNeed reg`; the scope is the chain of
  ancestors of the node up to the (sub)module statement.
* `bindFuel_le_slack` (arithmetic over the statement counts of the registry): `bindFuel` is at
  most `2 * slack + 18`.
* `reached_bindFuel`: hence `bindFuel env.reg root inner ≤ 2 * fuel + 16` at every reached `uses`.
Core Lean only.
-/
namespace Goyang.Lemmas.Uses
open Goyang.Model Goyang.Spec.Uses
open Goyang.Lemmas.Fuel (Inv need Callee callee_need need_pos entryNeed height isTracked free maxHeight tracked totalStmts
  findGrouping_sound Sub)

/-! ### counting statements -/

theorem count_pos (x : Stmt) : 1 ≤ stmtCount x := by cases x; simp only [stmtCount]; omega

theorem len_le_countL : (l : List Stmt) → l.length ≤ stmtCount.countL l
  | [] => Nat.le_refl _
  | c :: cs => by
    have h1 := count_pos c
    have h2 := len_le_countL cs
    simp only [List.length_cons, stmtCount.countL]; omega

theorem subs_lt_count (x : Stmt) : x.subs.length + 1 ≤ stmtCount x := by
  cases x with
  | mk kw ha arg file line col subs =>
    have := len_le_countL subs
    simp only [stmtCount, Stmt.subs]; omega

theorem len_heightL_le : (l : List Stmt) → l.length + height.heightL l ≤ stmtCount.countL l + 1
  | [] => by simp [height.heightL, stmtCount.countL]
  | c :: cs => by
    have h1 := Goyang.Lemmas.Fuel.height_le_count c
    have h2 := len_le_countL cs
    have h3 := len_heightL_le cs
    have h4 := count_pos c
    simp only [List.length_cons, height.heightL, stmtCount.countL]; omega

theorem subs_height_le (x : Stmt) : x.subs.length + height x ≤ stmtCount x + 1 := by
  cases x with
  | mk kw ha arg file line col subs =>
    have := len_heightL_le subs
    simp only [stmtCount, height, Stmt.subs]; omega

theorem foldl_max_shift (l : List Mod) (a : Nat) :
    l.foldl (fun a m => max a (height m.stmt)) a = max a (l.foldl (fun a m => max a (height m.stmt)) 0) := by
  induction l generalizing a with
  | nil => simp
  | cons x xs ih =>
    simp only [List.foldl_cons]
    rw [ih (max a (height x.stmt)), ih (max 0 (height x.stmt))]; omega

/-- The counts of a list of loaded (sub)modules against each other. -/
theorem counts (l : List Mod) :
    let s := l.foldl (fun a m => a + stmtCount m.stmt) 0
    let H := l.foldl (fun a m => max a (height m.stmt)) 0
    let W := maxSubs (l.map (·.stmt))
    l.length ≤ s ∧ H ≤ s ∧ W + l.length ≤ s ∧ l.length + H ≤ s + 1 ∧ W + H ≤ s + 1 := by
  induction l with
  | nil => simp [maxSubs]
  | cons x xs ih =>
    simp only [List.foldl_cons, Nat.zero_add, List.map_cons, maxSubs, List.length_cons] at ih ⊢
    rw [Goyang.Lemmas.Fuel.foldl_sum_shift, foldl_max_shift]
    have h1 := count_pos x.stmt
    have h2 := subs_lt_count x.stmt
    have h3 := Goyang.Lemmas.Fuel.height_le_count x.stmt
    have h4 := subs_height_le x.stmt
    have h5 := Goyang.Lemmas.Fuel.height_pos x.stmt
    omega

/-! ### the arithmetic -/

theorem slack_arith (s T H M W I : Nat) (hT : T ≤ s) (hM1 : 1 ≤ M) (hB : M + H ≤ s + 1) (hD : W + H ≤ s + 1)
    (hI : I + 2 ≤ H) :
    I + 1 + (M + 2) * (W + 3) + 2 * ((T + 1) * (H + 2)) ≤ 2 * ((s + 2) * (s + 2) + 64) + 18 := by
  -- in terms of `a = s + 1 - H`, which bounds `M` and `W`: the claim follows from `H ≤ a * H` and `5 * a ≤ a * a + 20`
  obtain ⟨a, ha⟩ : ∃ a, a + H = s + 1 := ⟨s + 1 - H, by omega⟩
  have hs : s + 2 = a + H + 1 := by omega
  have h1 : (T + 1) * (H + 2) ≤ (a + H) * (H + 2) := Nat.mul_le_mul_right _ (by omega)
  have h2 : (M + 2) * (W + 3) ≤ (a + 2) * (a + 3) := Nat.mul_le_mul (by omega) (by omega)
  have h3 : H ≤ a * H := Nat.le_mul_of_pos_left H (by omega)
  have h4 : 5 * a ≤ a * a + 20 := by
    by_cases h : 5 ≤ a
    · exact Nat.le_add_right_of_le (Nat.mul_le_mul_right a h)
    · omega
  rw [hs]
  simp only [Nat.add_mul, Nat.mul_add, Nat.mul_one, Nat.one_mul, Nat.mul_comm H a] at h1 h2 ⊢
  omega

/-- **`bindFuel` against the slack of `entryFuel`.**  For a loaded (sub)module `root` and a scope
whose length is bounded by the statement height, `bindFuel` is at most twice the difference
between the fuel the model passes and C01's bound, plus 18. -/
theorem bindFuel_le_slack (reg : Registry) (root : Mod) (inner : List Stmt) (hroot : root ∈ reg.mods)
    (hI : inner.length + 2 ≤ maxHeight reg) :
    bindFuel reg root inner ≤ 2 * (entryFuel reg - entryNeed reg) + 18 := by
  have hc := counts reg.mods
  simp only at hc
  obtain ⟨c1, c2, c3, c4, c5⟩ := hc
  have hT := Goyang.Lemmas.Fuel.tracked_le_total reg
  have hle := Goyang.Lemmas.Fuel.entryNeed_le_entryFuel reg
  have hW : width reg root = maxSubs (reg.mods.map (·.stmt)) := by
    have hle : root.stmt.subs.length ≤ maxSubs (reg.mods.map (·.stmt)) :=
      le_maxSubs (List.mem_map_of_mem (f := (·.stmt)) hroot)
    show max root.stmt.subs.length (maxSubs (reg.mods.map (·.stmt))) = _
    exact Nat.max_eq_right hle
  have hM1 : 1 ≤ reg.mods.length := List.length_pos_of_mem hroot
  unfold bindFuel
  rw [hW]
  rw [Goyang.Lemmas.Fuel.entryFuel_eq] at hle ⊢
  unfold entryNeed at hle ⊢
  have := slack_arith (totalStmts reg) (tracked reg).length (maxHeight reg) reg.mods.length
    (maxSubs (reg.mods.map (·.stmt))) inner.length hT hM1 c4 c5 hI
  unfold totalStmts maxHeight at *
  omega

/-! ### the calls reached from `processAll`'s top-level calls -/

/-- `scope` is the chain of ancestors of `n`, nearest first. -/
def Chain : Stmt → List Stmt → Prop
  | _, [] => True
  | n, a :: up => n ∈ a.subs ∧ Chain a up

theorem chain_height : ∀ (inner : List Stmt) (n r : Stmt), Chain n (inner ++ [r]) → height n + inner.length + 1 ≤ height r
  | [], n, r, h => by
    have := Goyang.Lemmas.Fuel.height_child_lt h.1
    simp only [List.length_nil]; omega
  | a :: up, n, r, h => by
    have h1 := Goyang.Lemmas.Fuel.height_child_lt h.1
    have h2 := chain_height up a r h.2
    simp only [List.length_cons]; omega

theorem chain_suffix : ∀ (pre : List Stmt) (n a : Stmt) (up : List Stmt), Chain n (pre ++ a :: up) → Chain a up
  | [], _, _, _, h => h.2
  | _ :: pre, _, a, up, h => chain_suffix pre _ a up h.2

theorem suffix_shape {α : Type} (r : α) : ∀ (pre inner : List α) (a : α) (up : List α), pre ++ a :: up = inner ++ [r] →
    ∃ inner', a :: up = inner' ++ [r]
  | [], inner, a, up, h => ⟨inner, h⟩
  | b :: pre, [], a, up, h => by
    simp only [List.cons_append, List.nil_append, List.cons.injEq] at h
    have := congrArg List.length h.2
    simp at this
  | b :: pre, c :: inner, a, up, h => by
    simp only [List.cons_append, List.cons.injEq] at h
    exact suffix_shape r pre inner a up h.2

/-- The calls of `toEntry` reached from the top-level calls of `processAll`. -/
inductive Reached (env : Env) : Nat → Mod → List Stmt → Stmt → List NodeId → Prop
  | top {m : Mod} : m ∈ env.reg.mods → Reached env (entryFuel env.reg) m [] m.stmt []
  | deviate {m : Mod} {dv ds : Stmt} : m ∈ env.reg.mods → dv ∈ m.stmt.all "deviation" → ds ∈ dv.all "deviate" →
      Reached env (entryFuel env.reg) m [dv, m.stmt] ds []
  | call {fuel : Nat} {root : Mod} {scope : List Stmt} {n : Stmt} {vis : List NodeId}
      {root' : Mod} {scope' : List Stmt} {n' : Stmt} {vis' : List NodeId} :
      Reached env (fuel + 1) root scope n vis → ¬ (isTracked n && vis.contains (nodeId root n)) = true →
      Callee env root scope n vis root' scope' n' vis' → Reached env fuel root' scope' n' vis'

/-- What holds at every reached call. -/
structure Good (env : Env) (fuel : Nat) (root : Mod) (scope : List Stmt) (n : Stmt) (vis : List NodeId) : Prop where
  inv : Inv env root scope n
  fuel : need env.reg root n vis + (entryFuel env.reg - entryNeed env.reg) ≤ fuel
  shape : (scope = [] ∧ n = root.stmt) ∨ (∃ inner, scope = inner ++ [root.stmt] ∧ Chain n scope)

theorem reached_good (env : Env) {fuel : Nat} {root : Mod} {scope : List Stmt} {n : Stmt} {vis : List NodeId}
    (h : Reached env fuel root scope n vis) : Good env fuel root scope n vis := by
  induction h with
  | top hm =>
    refine ⟨Goyang.Lemmas.Fuel.Inv.top hm, ?_, Or.inl ⟨rfl, rfl⟩⟩
    have h1 := Goyang.Lemmas.Fuel.need_le_entryNeed (env := env) [] (Goyang.Lemmas.Fuel.Inv.top hm)
    have h2 := Goyang.Lemmas.Fuel.entryNeed_le_entryFuel env.reg
    omega
  | deviate hm hdv hds =>
    refine ⟨Goyang.Lemmas.Fuel.Inv.deviate hm hdv hds, ?_, Or.inr ⟨[_], rfl, ?_⟩⟩
    · have h1 := Goyang.Lemmas.Fuel.need_le_entryNeed (env := env) [] (Goyang.Lemmas.Fuel.Inv.deviate hm hdv hds)
      have h2 := Goyang.Lemmas.Fuel.entryNeed_le_entryFuel env.reg
      omega
    · exact ⟨Goyang.Lemmas.Fuel.mem_all_subs hds, Goyang.Lemmas.Fuel.mem_all_subs hdv, trivial⟩
  | call hr hc hcal ih =>
    rename_i fuel root scope n vis root' scope' n' vis'
    obtain ⟨inv, hfuel, hshape⟩ := ih
    have hpos := need_pos vis inv
    have hcn := callee_need (fuel := fuel - (entryFuel env.reg - entryNeed env.reg)) inv (by omega) hc hcal
    refine ⟨hcn.1, by have := hcn.2; omega, ?_⟩
    cases hcal with
    | child hcm =>
      right
      rcases hshape with ⟨hs, hn⟩ | ⟨inner, hs, hch⟩
      · subst hs; subst hn
        exact ⟨[], rfl, hcm, trivial⟩
      · exact ⟨n :: inner, by rw [hs]; rfl, hcm, hch⟩
    | uses hfg =>
      right
      obtain ⟨_, ⟨n0, up, hgs, hgm⟩, hloc⟩ := findGrouping_sound hfg
      rcases hloc with ⟨hroot, pre, hpre⟩ | ⟨_, hgs'⟩
      · subst hroot
        rcases hshape with ⟨hs, _⟩ | ⟨inner, hs, hch⟩
        · rw [hs, hgs] at hpre
          have := congrArg List.length hpre
          simp at this
        · rw [hgs] at hpre ⊢
          obtain ⟨inner', hi'⟩ := suffix_shape root'.stmt pre inner n0 up (by rw [← hpre, hs])
          refine ⟨inner', hi', hgm, ?_⟩
          rw [hpre] at hch
          exact chain_suffix pre n n0 up hch
      · refine ⟨[], by rw [hgs']; rfl, ?_⟩
        rw [hgs'] at hgs ⊢
        cases hgs
        exact ⟨hgm, trivial⟩
    | include_ _ _ => exact Or.inl ⟨rfl, rfl⟩

/-- **The fuel side condition holds at every reached `uses`.**  At a call of `toEntry` on a
statement that is not a grouping or (sub)module statement (a `uses` statement in particular),
reached from a top-level call of `processAll`, the fuel `2 * fuel + 16` handed to `findGrouping`
is at least `bindFuel`. -/
theorem reached_bindFuel (env : Env) {fuel : Nat} {root : Mod} {inner : List Stmt} {u : Stmt} {vis : List NodeId}
    (h : Reached env (fuel + 1) root (inner ++ [root.stmt]) u vis) (hu : isTracked u = false) :
    bindFuel env.reg root inner ≤ 2 * fuel + 16 := by
  obtain ⟨inv, hfuel, hshape⟩ := reached_good env h
  have hch : Chain u (inner ++ [root.stmt]) := by
    rcases hshape with ⟨hs, _⟩ | ⟨_, _, hch⟩
    · have := congrArg List.length hs
      simp at this
    · exact hch
  have hh := chain_height inner u root.stmt hch
  have hH := Goyang.Lemmas.Fuel.height_le_maxHeight inv.root_mem
  have hup := Goyang.Lemmas.Fuel.height_pos u
  have hb := bindFuel_le_slack env.reg root inner inv.root_mem (by omega)
  have hneed : 2 ≤ need env.reg root u vis := by
    unfold need
    rw [if_neg (by rw [hu]; exact Bool.false_ne_true)]
    omega
  omega

/-- The same without naming the predecessor of the fuel: a reached call has fuel left. -/
theorem reached_bindFuel' (env : Env) {fuel : Nat} {root : Mod} {inner : List Stmt} {u : Stmt} {vis : List NodeId}
    (h : Reached env fuel root (inner ++ [root.stmt]) u vis) (hu : isTracked u = false) :
    1 ≤ fuel ∧ bindFuel env.reg root inner ≤ 2 * (fuel - 1) + 16 := by
  have hg := reached_good env h
  have hpos := need_pos vis hg.inv
  have h1 : 1 ≤ fuel := by have := hg.fuel; omega
  obtain ⟨k, rfl⟩ : ∃ k, fuel = k + 1 := ⟨fuel - 1, by omega⟩
  exact ⟨h1, reached_bindFuel env h hu⟩

/-- A substatement of a reached statement that is not being re-entered is reached, with one unit
of fuel less. -/
theorem Reached.child' {env : Env} {fuel : Nat} {root : Mod} {scope : List Stmt} {n c : Stmt} {vis : List NodeId}
    (h : Reached env fuel root scope n vis) (hc : ¬ (isTracked n && vis.contains (nodeId root n)) = true)
    (hcm : c ∈ n.subs) : Reached env (fuel - 1) root (n :: scope) c (Goyang.Lemmas.Fuel.visiting' root n vis) := by
  have hg := reached_good env h
  have hpos := need_pos vis hg.inv
  obtain ⟨k, rfl⟩ : ∃ k, fuel = k + 1 := ⟨fuel - 1, by have := hg.fuel; omega⟩
  exact Reached.call h hc (Callee.child hcm)

end Goyang.Lemmas.Uses
