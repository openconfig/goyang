import Goyang.Model.Find
/-
Reading back what was written: `Forest.tree?` after `Forest.setTree`, and the first facts about
`Entry.child?` and `Entry.getAt` that every layer over the trees uses.  Core Lean only.
-/
namespace Goyang.Lemmas.ForestAux
open Goyang.Model

theorem tree?_setTree (f : Forest) (t : Nat) (e : Entry) (t' : Nat) :
    (f.setTree t e).tree? t' = if t' = t then (f.tree? t).map (fun _ => e) else f.tree? t' := by
  unfold Forest.tree? Forest.setTree
  simp only
  induction f.trees with
  | nil => simp
  | cons a l ih =>
    obtain ⟨i, x⟩ := a
    simp only [List.map_cons, List.find?_cons]
    by_cases h1 : i = t
    · subst h1
      by_cases h2 : i = t'
      · subst h2; simp
      · have h2' : (i == t') = false := by simpa using h2
        have h3 : ¬ t' = i := fun e => h2 e.symm
        simp only [beq_self_eq_true, if_true, h2', Bool.false_eq_true, if_false, h3] at ih ⊢
        exact ih
    · have h1' : (i == t) = false := by simpa using h1
      simp only [h1', Bool.false_eq_true, if_false]
      by_cases h2 : i = t'
      · subst h2; simp [h1]
      · have h2' : (i == t') = false := by simpa using h2
        simp only [h2', Bool.false_eq_true, if_false]
        exact ih

theorem tree?_setTree_same {f : Forest} {t : Nat} {root : Entry} (h : f.tree? t = some root) (e : Entry) :
    (f.setTree t e).tree? t = some e := by
  rw [tree?_setTree, if_pos rfl, h]; rfl

theorem mem_of_tree? {f : Forest} {id : Nat} {root : Entry} (h : f.tree? id = some root) : (id, root) ∈ f.trees := by
  unfold Forest.tree? at h
  cases hf : f.trees.find? (·.1 == id) with
  | none => simp [hf] at h
  | some x =>
    obtain ⟨i, e⟩ := x
    simp only [hf, Option.map_some, Option.some.injEq] at h
    have hi : i = id := by simpa using List.find?_some hf
    rw [← h, ← hi]
    exact List.mem_of_find?_eq_some hf

theorem child?_name {e c : Entry} {k : String} (h : e.child? k = some c) : c.name = k := by
  simpa using List.find?_some h

theorem getAt_append (e : Entry) (p q : Path) : e.getAt (p ++ q) = (e.getAt p).bind (·.getAt q) := by
  induction p generalizing e with
  | nil => rfl
  | cons s p ih =>
    cases s with
    | child k =>
      simp only [List.cons_append, Entry.getAt]
      cases e.child? k with
      | none => rfl
      | some c => exact ih c
    | input =>
      simp only [List.cons_append, Entry.getAt]
      cases e.inp.head? with
      | none => rfl
      | some c => exact ih c
    | output =>
      simp only [List.cons_append, Entry.getAt]
      cases e.out.head? with
      | none => rfl
      | some c => exact ih c

end Goyang.Lemmas.ForestAux
