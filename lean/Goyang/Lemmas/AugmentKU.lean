import Goyang.Lemmas.Bridge
import Goyang.Lemmas.AugmentErrs
import Goyang.Lemmas.AugmentErrsBridge
import Goyang.Lemmas.Fuel
/-
C07, error list at `processAll` level: `KeysUnique` of EVERY tree and EVERY pending augment entry the
conversion (`toEntry`) leaves behind — with or without recorded errors.

C04's invariant (`Lemmas/Tree.lean`, `Closed`, `Cond wfq`) gives `KeysUnique` only for error-free
entries: its `add` closure is told `v.name = k ∨ v.name = ""` about the child `v` added under key `k`,
and two children with the empty name below one node would break the invariant.  The empty name under
a non-empty key arises only in the `0` branch of `toEntry` (the `out-of-fuel` error entry), and C01's
fuel bound (`Lemmas/Fuel.lean`, `toEntry_fuel`) shows that for the calls `processAll` makes the result
does not depend on what that branch answers.  So `toEntry` is replaced by `toEntryZ zArg` — the
out-of-fuel branch answering an error entry NAMED AFTER ITS STATEMENT — for which every entry added as
a child is named after its key, and the traversal (`Lemmas/Traverse.lean`) is instantiated with the
strong `add` closure (`ClosedS`) and equality as the name relation (`toEntry_okS`, `tstate_okS`).
`KeysUnique` has the strong closure properties (`closedS_ku`); the results are `keysUnique_tstate`,
`keysUnique_pstate0_all` and `keysUnique_pending_all`.
-/
set_option linter.unusedVariables false
set_option linter.unusedSimpArgs false
open Goyang.Lemmas.ListAux (foldl_inv)
namespace Goyang.Lemmas.AugmentKU
open Goyang.Model Goyang.Spec.Tree Goyang.Lemmas.Tree
open Goyang.Lemmas.AugmentErrs (ku_mk ku_withD ku_addErr ku_importErrors ku_merge)

/-- what the out-of-fuel branch answers instead: the error entry, named after its statement -/
def zArg : Mod → Stmt → TState → Entry × TState := fun root n st =>
  (.mk { name := n.arg, kind := .leaf, hasDir := false, errors := [Err.at_ n "out-of-fuel"], node := n,
         nodeMod := root.seq, nodeKw := n.kw } [] [] [], st)

/-- C04's `Closed` with the strong `add`: the child is named after the key it is added under. -/
structure ClosedS (env : Env) (PE : Entry → Prop) : Prop where
  withD : ∀ (e : Entry) (f : EData → EData), (∀ d, NeutralD d (f d)) → (∀ d, ∃ xs, (f d).errors = d.errors ++ xs) →
    PE e → PE (e.withD f)
  addErrs : ∀ (e : Entry) (xs : List Err), PE e → PE (e.addErrs xs)
  addErr : ∀ (e : Entry) (x : Err), PE e → PE (e.addErr x)
  importErrors : ∀ (e c : Entry), PE e → PE (e.importErrors c)
  add : ∀ (e : Entry) (k : String) (v : Entry), PE e → PE v → (NoErrors v → v.name = k ∧ v.d.kind ≠ .deviate) →
    v.name = k → PE (e.add k v)
  merge : ∀ (e : Entry) (ns : Option String) (oe : Entry), PE e → PE oe → PE (e.merge ns oe)
  setInp : ∀ (d : EData) (c o : List Entry) (ie : Entry), PE (.mk d c [] o) → PE ie →
    (ie.d.errors = [] → ie.d.kind = .input) →
    PE (.mk { d with isRpc := true } c [ie.withD fun d => { d with name := "input", kind := .input }] o)
  setOut : ∀ (d : EData) (c i : List Entry) (oe : Entry), PE (.mk d c i []) → PE oe →
    (oe.d.errors = [] → oe.d.kind = .output) →
    PE (.mk { d with isRpc := true } c i [oe.withD fun d => { d with name := "output", kind := .output }])
  typeSet : ∀ (e : Entry) (ty : Option TypeInfo), PE e → e.d.kind ≠ .leaf → PE (e.withD fun d => { d with type := ty })
  laSet : ∀ (e : Entry) (f : EData → EData), PE e → e.d.kind = .deviate → (∀ d, LaOnlyD d (f d)) →
    (∀ d, ∃ xs, (f d).errors = d.errors ++ xs) → PE (e.withD f)
  base0 : ∀ (root : Mod) (n : Stmt), PE (e0 root n)
  errE : ∀ (root : Mod) (n : Stmt) (cls : String), PE (errorEntry root n cls)
  leafE : ∀ (root : Mod) (n : Stmt) (scope : List Stmt) (syn : Bool), PE (leafEntry env root scope n syn)
  leafL : ∀ (root : Mod) (n : Stmt) (scope : List Stmt) (la : ListAttr) (xs : List Err) (dl : List String),
    PE ((leafEntry env root scope n true).withD fun d =>
      { d with listAttr := some la, errors := d.errors ++ xs, default := dl })
  zE : ∀ (root : Mod) (n : Stmt) (st : TState), PE (zArg root n st).1

theorem closure_of_closedS {env : Env} {PE : Entry → Prop} (h : ClosedS env PE) :
    Traverse.Closure env { PE := PE } (fun _ _ _ => True) (fun a k => a = k) where
  nmRefl _ := rfl
  siteAll _ _ _ _ _ _ _ _ := trivial
  siteOne _ _ _ _ _ _ _ _ := trivial
  siteUses _ _ _ _ _ _ _ _ _ := trivial
  siteInclude _ _ _ _ := trivial
  withD e f h1 _ h2 he := h.withD e f h1 h2 he
  addErrs := h.addErrs
  addErr := h.addErr
  importErrors := h.importErrors
  add root scope n kw c e v _ _ _ _ he hv hs hs2 := h.add e c.arg v he hv hs hs2
  rpcFlag root scope n kw c v _ _ _ hv _ := h.withD v _ (fun d => ⟨rfl, rfl, rfl, rfl, rfl, rfl⟩) (fun d => ⟨[], by simp⟩) hv
  merge e oe _ he ho := h.merge e none oe he ho
  setInp d o ie := h.setInp d [] o ie
  setOut d i oe := h.setOut d [] i oe
  typeSet := h.typeSet
  laSet e f he hk h1 _ h2 := h.laSet e f he hk h1 h2
  base0 root scope n _ := h.base0 root n
  errE root scope n cls _ := h.errE root n cls
  leafE root scope n syn _ := h.leafE root n scope syn
  leafL root scope n la xs dl _ := h.leafL root n scope la xs dl
  row _ _ _ _ _ _ _ _ _ _ := trivial
  pc _ _ _ _ _ _ _ _ := trivial
  pxCache _ _ _ _ _ _ _ _ := trivial
  pxTriv _ _ _ _ _ := trivial
  pxErr _ _ _ _ _ := trivial

/-- The invariant of `toEntryZ zArg`: from a good state it produces a good entry and a good state. -/
theorem toEntry_okS {env : Env} {PE : Entry → Prop} (hC : ClosedS env PE) (fuel : Nat) :
    Traverse.RecInv { PE := PE } (fun _ _ _ => True) (fun a k => a = k) (Fuel.toEntryZ env zArg fuel) := by
  induction fuel with
  | zero =>
    intro root scope n visiting st S _ hst
    exact ⟨hC.zE root n st, hst, fun herr => absurd herr (by simp [Fuel.toEntryZ, zArg, Entry.d]),
      fun _ _ _ _ => rfl, fun _ _ _ _ => ⟨rfl, rfl⟩, trivial⟩
  | succ fuel ih =>
    exact Traverse.toEntryBody_recInv (closure_of_closedS hC) ih fuel (fun _ _ _ _ _ _ _ _ _ _ => trivial)

/-- The conversion of all modules: C01's fuel bound lets `toEntryZ zArg` stand for `toEntry`. -/
theorem tstate_okS (reg : Registry) (opts : Opts) (plug : Plug) {PE : Entry → Prop}
    (hC : ClosedS (envOf reg opts plug) PE) : StOK PE [] (tstate reg opts plug) := by
  unfold tstate
  refine (foldl_inv (Bridge.StOKT { PE := PE } []) _ _ _ ⟨stOK_empty PE [], fun _ _ => trivial, fun _ _ => trivial⟩ ?_).base
  intro st m hm hst
  have hmem : m ∈ (envOf reg opts plug).reg.mods := Bridge.keyOrder_mem reg m hm
  rw [Fuel.toEntry_fuel (envOf reg opts plug) (entryFuel reg) m [] m.stmt [] st (Fuel.Inv.top hmem)
    (Fuel.entryNeed_le_entryFuel reg) zArg]
  exact (toEntry_okS hC (entryFuel reg) m [] m.stmt [] st [] trivial hst).2.1

/-! ### `KeysUnique` has the strong closure properties -/

theorem ku_dir (e : Entry) (h : KeysUnique e) : ∀ c ∈ e.dir, KeysUnique c := by
  cases e with | mk d cs i o => exact ((ku_mk d cs i o).mp h).2.2.2.1

theorem ku_append (e v : Entry) (he : KeysUnique e) (hv : KeysUnique v) (hk : e.child? v.name = none) :
    KeysUnique (e.withDir (e.dir ++ [v])) := by
  have hne := child?_none e v.name hk
  cases e with | mk d c i o =>
  simp only [Entry.withDir, Entry.dir] at hne ⊢
  rw [ku_mk] at he ⊢
  refine ⟨?_, he.2.1, he.2.2.1, ?_, he.2.2.2.2.1, he.2.2.2.2.2⟩
  · rw [List.map_append, List.map_cons, List.map_nil, List.nodup_append]
    refine ⟨he.1, by simp, ?_⟩
    intro a ha b hb
    simp only [List.mem_singleton] at hb; subst hb
    obtain ⟨x, hx, rfl⟩ := List.mem_map.mp ha
    exact hne x hx
  · intro x hx
    rcases List.mem_append.mp hx with hx | hx
    · exact he.2.2.2.1 x hx
    · simp only [List.mem_singleton] at hx; subst hx; exact hv

theorem ku_add (e : Entry) (k : String) (v : Entry) (he : KeysUnique e) (hv : KeysUnique v) (hs : v.name = k) :
    KeysUnique (e.add k v) := by
  unfold Entry.add
  split
  · exact ku_addErr _ _ he
  · rename_i hk
    exact ku_append e v he hv (by rw [hs]; exact hk)

theorem ku_leafEntry (env : Env) (root : Mod) (n : Stmt) (scope : List Stmt) (syn : Bool) :
    KeysUnique (leafEntry env root scope n syn) := by
  have hd := leafEntry_data env root scope n syn
  generalize leafEntry env root scope n syn = le at hd ⊢
  cases le with | mk d c i o =>
  simp only [Entry.dir, Entry.inp, Entry.out] at hd
  obtain ⟨_, _, _, _, _, rfl, rfl, rfl⟩ := hd
  rw [ku_mk]; simp

theorem closedS_ku (env : Env) : ClosedS env KeysUnique where
  withD e f _ _ h := (ku_withD e f).mpr h
  addErrs e xs h := (ku_withD e _).mpr h
  addErr e x h := ku_addErr e x h
  importErrors e c h := ku_importErrors e c h
  add e k v h hv _ hs := ku_add e k v h hv hs
  merge e ns oe h ho := ku_merge e ns oe h (ku_dir oe ho)
  setInp d c o ie h hi _ := by
    rw [ku_mk] at h ⊢
    refine ⟨h.1, by simp, h.2.2.1, h.2.2.2.1, ?_, h.2.2.2.2.2⟩
    intro x hx; simp only [List.mem_singleton] at hx; subst hx; exact (ku_withD _ _).mpr hi
  setOut d c i oe h ho _ := by
    rw [ku_mk] at h ⊢
    refine ⟨h.1, h.2.1, by simp, h.2.2.2.1, h.2.2.2.2.1, ?_⟩
    intro x hx; simp only [List.mem_singleton] at hx; subst hx; exact (ku_withD _ _).mpr ho
  typeSet e ty h _ := (ku_withD e _).mpr h
  laSet e f h _ _ _ := (ku_withD e f).mpr h
  base0 root n := by unfold e0; rw [ku_mk]; simp
  errE root n cls := by unfold errorEntry; rw [ku_mk]; simp
  leafE root n scope syn := ku_leafEntry env root n scope syn
  leafL root n scope la xs dl := (ku_withD _ _).mpr (ku_leafEntry env root n scope true)
  zE root n st := by unfold zArg; rw [ku_mk]; simp

/-! ### the state `processAll` enters the augment phase with -/

/-- **Every tree the conversion leaves in the cache and every pending augment entry has unique keys at
every node — whether or not errors are recorded in it.** -/
theorem keysUnique_tstate (reg : Registry) (opts : Opts) (plug : Plug) :
    (∀ t ∈ (forest0 reg opts plug).trees, KeysUnique t.2) ∧
    (∀ p ∈ (tstate reg opts plug).augs, ∀ a ∈ p.2, KeysUnique a) := by
  have hC := tstate_okS reg opts plug (closedS_ku (envOf reg opts plug))
  exact ⟨fun t ht => hC.cache t ht, fun p hp a ha => hC.augs p hp a ha⟩

theorem keysUnique_pstate0_all (reg : Registry) (opts : Opts) (plug : Plug) :
    ∀ t ∈ (pstate0 reg opts plug).forest.trees, KeysUnique t.2 :=
  (keysUnique_tstate reg opts plug).1

/-- A pending augment entry has unique keys (so have its children), errors recorded in it or not. -/
theorem keysUnique_pending_all (reg : Registry) (opts : Opts) (plug : Plug) (id : Nat) :
    ∀ a ∈ (pstate0 reg opts plug).pendingOf id, KeysUnique a ∧ ∀ c ∈ a.dir, KeysUnique c := by
  intro a ha
  rcases Bridge.pendingOf_pstate0 reg opts plug id with h0 | ⟨p, hp, _, h2⟩
  · rw [h0] at ha; cases ha
  · rw [h2] at ha
    have hku := (keysUnique_tstate reg opts plug).2 p hp a ha
    exact ⟨hku, ku_dir a hku⟩

end Goyang.Lemmas.AugmentKU
