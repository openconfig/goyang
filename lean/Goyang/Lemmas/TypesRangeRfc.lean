import Goyang.Props.C10
import Goyang.Lemmas.Types
import Goyang.Lemmas.TypesRestr
import Goyang.Lemmas.TypesFuel
import Goyang.Lemmas.TypesComplete
/-
C09 ∘ C10: the range a resolved numeric type carries is the set written along its derivation chain.

* `level_attrs` (Lemmas/TypesRestr.lean): an error-free `Type.resolve` overlay satisfies the side condition
  `typeOk` and yields the attributes `typeNext`.
* `typeNext_reached`: one level on the attributes: if the inherited range was reached from `base` by
  accepted restriction steps and is a legitimate non-empty parent at the scale `(dec, f)`, so is the
  range after the level, by one more `Goyang.Props.C10.StepOk` when the statement has a `range`.
* `resolve_chain_range_inv`: the invariant `Inv` along the typedef chain (`resolve_chain_ind`, Lemmas/TypesComplete.lean).
* `resolve_chain_range`: an error-free resolution went along a derivation chain to a built-in `kind`;
  if that kind has a built-in range `base` at scale `(dec, f)` (`BaseOf`; the eight integer types, and
  decimal64 with `f` = the fraction-digits of the resolved type and `base = decimalBase f`), the range
  of the resolved type is reached from `base` by the accepted steps written in the `range` statements
  of the chain, farthest first, each relative to the set before it.
* `resolve_range_within_base`: hence it denotes a subset of the built-in range.
* `resolve_chain_length` / `resolve_length_within_base`: the same for `length` (any kind), starting from
  `0..2^64-1` (C10 `applyLength_step`).
Core Lean only.
-/
namespace Goyang.Lemmas.TypesRangeRfc
open Goyang.Model Goyang.Model.Types Goyang.Spec.Types Goyang.Lemmas.Types Goyang.Lemmas.TypesRestr
open Goyang.Lemmas.Range (ScaleOk ParentOk abs)
open Goyang.Spec.Range (Within)
open Goyang.Props.C10 (IsBase StepOk base_ok applyRange_step)

/-! ## Chains of accepted steps -/

/-- the `range` argument (as bytes) of a type statement, if it has one -/
def stmtRanges (t : Stmt) : List (List UInt8) := ((t.one? "range").map fun r => bytesOf r.arg).toList

/-- the `range` arguments (as bytes) of the type statements of a chain, nearest first -/
def chainRanges (chain : List Link) : List (List UInt8) :=
  chain.filterMap fun
    | .ty _ _ t => (t.one? "range").map (fun r => bytesOf r.arg)
    | .td _ => none

theorem chainRanges_ty (root : Mod) (scope : List Stmt) (t : Stmt) (rest : List Link) :
    chainRanges (.ty root scope t :: rest) = stmtRanges t ++ chainRanges rest := by
  unfold chainRanges stmtRanges
  rw [List.filterMap_cons]
  cases hq : t.one? "range" <;> simp [hq]

theorem chainRanges_td (d : Stmt) (rest : List Link) : chainRanges (.td d :: rest) = chainRanges rest := by
  unfold chainRanges
  rw [List.filterMap_cons]

/-- `r` is reached from `prev` by the accepted restriction steps `ss` (farthest first) -/
def RangeSteps (dec : Bool) (f : Nat) : YangRange → List (List UInt8) → YangRange → Prop
  | prev, [], r => r = prev
  | prev, s :: ss, r => ∃ mid, StepOk dec f prev s mid ∧ RangeSteps dec f mid ss r

theorem RangeSteps.snoc {dec : Bool} {f : Nat} {s : List UInt8} {r mid : YangRange} :
    ∀ {ss : List (List UInt8)} {prev : YangRange}, RangeSteps dec f prev ss mid → StepOk dec f mid s r →
      RangeSteps dec f prev (ss ++ [s]) r := by
  intro ss
  induction ss with
  | nil =>
    intro prev h hs
    simp only [RangeSteps] at h
    subst h
    exact ⟨r, hs, rfl⟩
  | cons a ss ih =>
    intro prev h hs
    obtain ⟨m, hm, hrest⟩ := h
    exact ⟨m, hm, ih hrest hs⟩

/-- Steps only narrow. -/
theorem RangeSteps.within {dec : Bool} {f : Nat} {r : YangRange} :
    ∀ {ss : List (List UInt8)} {prev : YangRange}, RangeSteps dec f prev ss r → Within (abs r) (abs prev) := by
  intro ss
  induction ss with
  | nil =>
    intro prev h
    simp only [RangeSteps] at h
    subst h
    exact fun x hx => hx
  | cons a ss ih =>
    intro prev h
    obtain ⟨m, hm, hrest⟩ := h
    exact fun x hx => hm.2.2 x (ih hrest x hx)

/-- `yr` is reached from `base` by the steps `rs` (nearest first) and is a legitimate non-empty parent. -/
def Reached (dec : Bool) (f : Nat) (base : YangRange) (rs : List (List UInt8)) (yr : YangRange) : Prop :=
  RangeSteps dec f base rs.reverse yr ∧ ParentOk f yr ∧ yr ≠ []

theorem reached_base {dec : Bool} {f : Nat} {base : YangRange} (hb : IsBase dec f base) :
    Reached dec f base [] base := by
  obtain ⟨_, hp, hne⟩ := base_ok dec f base hb
  exact ⟨rfl, hp, hne⟩

/-! ## One level, on the attributes -/

theorem asRangeInt_bounds {v : Option (List UInt8)} {lo hi i : Int} (h : Number.asRangeInt v lo hi = .ok i) :
    lo ≤ i ∧ i ≤ hi := by
  unfold Number.asRangeInt at h
  split at h
  · cases h
  · split at h
    · cases h
    · split at h
      · cases h
      · split at h
        · cases h
        · rename_i hc
          simp only [Except.ok.injEq] at h
          subst h
          simp only [Bool.or_eq_true, decide_eq_true_eq, not_or, Int.not_lt] at hc
          omega

/-- The `range` step. -/
theorem rangeNext_reached {t : Stmt} {dec : Bool} {f : Nat} {a : Attrs} {base : YangRange} {rs : List (List UInt8)}
    (hsc : ScaleOk dec f) (hf : a.fd = f) (hr : Reached dec f base rs a.range) (hok : rangeOk t dec a = true) :
    Reached dec f base (stmtRanges t ++ rs) (rangeNext t dec a).range := by
  obtain ⟨hs, hp, hne⟩ := hr
  unfold rangeOk at hok
  unfold rangeNext stmtRanges
  cases hq : t.one? "range" with
  | none => exact ⟨hs, hp, hne⟩
  | some r =>
    rw [hq] at hok
    simp only at hok ⊢
    rw [hf] at hok ⊢
    have hstep := applyRange_step dec f hsc a.range hp hne (bytesOf r.arg)
    cases ha : Range.applyRange a.range (bytesOf r.arg) dec f with
    | mk y' e =>
      rw [ha] at hstep hok
      cases e with
      | some e' => simp at hok
      | none =>
        simp only at hstep
        obtain ⟨hso, hpo, hne'⟩ := hstep
        refine ⟨?_, hpo, hne'⟩
        simp only [Option.map_some, Option.toList_some, List.singleton_append, List.reverse_cons]
        exact RangeSteps.snoc hs hso

theorem typeOk_parts {env : Env} {root : Mod} {t : Stmt} {b : Bool} {a : Attrs} (h : typeOk env root t b a = true) :
    kindOk env root t b (isDec t a) a = true ∧ rangeOk t (isDec t a) (kindNext t (isDec t a) a) = true := by
  unfold typeOk at h
  simp only [Bool.and_eq_true] at h
  exact ⟨h.1.1.1.1.1.2, h.1.1.1.1.2⟩

/-- A level whose kind switch leaves the attributes alone (an integer type; a type derived from a
decimal64 typedef). -/
theorem typeNext_reached {env : Env} {root : Mod} {t : Stmt} {b : Bool} {a : Attrs} {dec : Bool} {f : Nat}
    {base : YangRange} {rs : List (List UInt8)}
    (hok : typeOk env root t b a = true) (hd : isDec t a = dec) (hk : kindNext t dec a = a)
    (hsc : ScaleOk dec f) (hf : a.fd = f) (hr : Reached dec f base rs a.range) :
    (typeNext t a).fd = f ∧ Reached dec f base (stmtRanges t ++ rs) (typeNext t a).range := by
  obtain ⟨_, hro⟩ := typeOk_parts hok
  unfold typeNext
  rw [hd] at hro ⊢
  rw [hk] at hro ⊢
  rw [lengthNext_fd, rangeNext_fd, lengthNext_range]
  exact ⟨hf, rangeNext_reached hsc hf hr hro⟩

/-- The level of a direct decimal64: fraction-digits `f` in 1..18 are read, the range starts from
`decimalBase f`. -/
theorem typeNext_reached_dec {env : Env} {root : Mod} {t : Stmt} {b : Bool} {a : Attrs}
    (hok : typeOk env root t b a = true) (hd : isDec t a = true) (hfd : a.fd = 0) :
    1 ≤ (typeNext t a).fd ∧ (typeNext t a).fd ≤ 18 ∧
      Reached true (typeNext t a).fd (Range.decimalBase (typeNext t a).fd) (stmtRanges t) (typeNext t a).range := by
  obtain ⟨hko, hro⟩ := typeOk_parts hok
  rw [hd] at hko hro
  unfold kindOk at hko
  have h0 : ¬ ((true && a.fd != 0) = true) := by rw [hfd]; decide
  rw [if_neg h0] at hko
  simp only [if_true] at hko
  cases hi : Number.asRangeInt ((t.one? "fraction-digits").map fun f => bytesOf f.arg) 1 18 with
  | error e => rw [hi] at hko; simp at hko
  | ok i =>
    obtain ⟨h1, h18⟩ := asRangeInt_bounds hi
    have hk : kindNext t true a = { a with fd := i.toNat, range := Range.decimalBase i.toNat } := by
      unfold kindNext
      rw [if_neg h0]
      simp only [if_true]
      rw [hi]
    have hf1 : 1 ≤ i.toNat := by omega
    have hf18 : i.toNat ≤ 18 := by omega
    unfold typeNext
    rw [hd]
    rw [hk] at hro ⊢
    rw [lengthNext_fd, rangeNext_fd, lengthNext_range]
    refine ⟨hf1, hf18, ?_⟩
    have := rangeNext_reached (t := t) (dec := true) (f := i.toNat)
      (a := { a with fd := i.toNat, range := Range.decimalBase i.toNat })
      (base := Range.decimalBase i.toNat) (rs := [])
      (Or.inr ⟨rfl, hf1, hf18⟩) rfl (reached_base (IsBase.dec i.toNat hf1 hf18)) hro
    rw [List.append_nil] at this
    exact this

/-! ## The built-in ranges -/

/-- the built-in range of an integer kind -/
inductive IntBase : String → YangRange → Prop
  | int8 : IntBase "int8" Range.int8Range
  | int16 : IntBase "int16" Range.int16Range
  | int32 : IntBase "int32" Range.int32Range
  | int64 : IntBase "int64" Range.int64Range
  | uint8 : IntBase "uint8" Range.uint8Range
  | uint16 : IntBase "uint16" Range.uint16Range
  | uint32 : IntBase "uint32" Range.uint32Range
  | uint64 : IntBase "uint64" Range.uint64Range

theorem IntBase.isBase {kind : String} {base : YangRange} (h : IntBase kind base) : IsBase false 0 base := by
  cases h <;> constructor

theorem IntBase.not_dec {kind : String} {base : YangRange} (h : IntBase kind base) : (kind == "decimal64") = false := by
  cases h <;> decide

private theorem range_of_eq {n : String} {y0 : YType} {r : YangRange} (h : builtin? n = some y0)
    (e : builtin? n = some { name := n, kind := n, range := r }) : y0.range = r := by
  rw [e] at h
  simp only [Option.some.injEq] at h
  subst h
  rfl

/-- `builtin?` gives an integer type its built-in range. -/
theorem IntBase.builtin {kind : String} {base : YangRange} {y0 : YType} (h : IntBase kind base)
    (hb : builtin? kind = some y0) : y0.range = base := by
  cases h <;> exact range_of_eq hb rfl

/-- `base` is the built-in range of `kind` at scale `(dec, f)`, for a resolved type with fraction-digits
`fd`: the eight integer types (`dec = false`, `f = 0`), and decimal64, whose range starts from
`decimalBase fd` where the direct decimal64 type statement reads its fraction-digits (`f = fd`). -/
inductive BaseOf : String → Nat → Bool → Nat → YangRange → Prop
  | int {kind : String} {fd : Nat} {base : YangRange} : IntBase kind base → BaseOf kind fd false 0 base
  | dec (fd : Nat) : BaseOf "decimal64" fd true fd (Range.decimalBase fd)

/-- The invariant of the induction. -/
def Inv (kind : String) (chain : List Link) (y : YType) : Prop :=
  y.kind = kind ∧
  (∀ base, IntBase kind base → y.fractionDigits = 0 ∧ Reached false 0 base (chainRanges chain) y.range) ∧
  (kind = "decimal64" → 1 ≤ y.fractionDigits ∧ y.fractionDigits ≤ 18 ∧
    Reached true y.fractionDigits (Range.decimalBase y.fractionDigits) (chainRanges chain) y.range)

/-- The level of the type statement that names the built-in. -/
theorem level_builtin {env : Env} {root : Mod} {scope : List Stmt} {t : Stmt} {src : Source} {y0 y : YType}
    {ms : List Res} (hb : builtin? t.arg = some y0)
    (h : overlayType env root t src y0 ms = { ty := some y, errs := [] }) :
    Inv t.arg [.ty root scope t] y := by
  obtain ⟨hok, ha⟩ := level_attrs h
  obtain ⟨_, hkind, _, _, _, _, _, _, _, _, _, hfd⟩ := builtin_shape hb
  have hyk : y.kind = (typeNext t (attrsOf y0)).kind := congrArg Attrs.kind ha
  have hyf : y.fractionDigits = (typeNext t (attrsOf y0)).fd := congrArg Attrs.fd ha
  have hyr : y.range = (typeNext t (attrsOf y0)).range := congrArg Attrs.range ha
  have hcr : chainRanges [.ty root scope t] = stmtRanges t ++ [] := by
    rw [chainRanges_ty]; rfl
  refine ⟨by rw [hyk, typeNext_kind]; exact hkind, ?_, ?_⟩
  · intro base hbase
    have hnd : isDec t (attrsOf y0) = false := by
      unfold isDec
      show ((y0.kind == "decimal64") && _) = false
      rw [hkind, hbase.not_dec]
      rfl
    have hk : kindNext t false (attrsOf y0) = attrsOf y0 := by
      unfold kindNext
      simp
    have hr0 : Reached false 0 base [] (attrsOf y0).range := by
      show Reached false 0 base [] y0.range
      rw [hbase.builtin hb]
      exact reached_base hbase.isBase
    obtain ⟨h1, h2⟩ := typeNext_reached hok hnd hk (Or.inl ⟨rfl, rfl⟩) (show (attrsOf y0).fd = 0 from hfd) hr0
    rw [hyf, hyr, hcr]
    exact ⟨h1, h2⟩
  · intro hdec
    have hd : isDec t (attrsOf y0) = true := by
      unfold isDec
      show ((y0.kind == "decimal64") && ((t.arg == "decimal64") || _)) = true
      rw [hkind, hdec]
      rfl
    obtain ⟨h1, h2, h3⟩ := typeNext_reached_dec hok hd (show (attrsOf y0).fd = 0 from hfd)
    rw [hyf, hyr, hcr, List.append_nil]
    exact ⟨h1, h2, h3⟩

/-- The level of a type statement that names a typedef. -/
theorem level_derived {env : Env} {root : Mod} {scope : List Stmt} {t : Stmt} {src : Source} {tdY y : YType}
    {ms : List Res} {kind : String} {d : Stmt} {chain : List Link} {bty : YType}
    (h : overlayType env root t src tdY ms = { ty := some y, errs := [] })
    (hat : attrsOf tdY = attrsOf bty) (hinv : Inv kind chain bty) :
    Inv kind (.ty root scope t :: .td d :: chain) y := by
  obtain ⟨hok, ha⟩ := level_attrs h
  rw [hat] at hok ha
  obtain ⟨hbk, hint, hdec⟩ := hinv
  have hyk : y.kind = (typeNext t (attrsOf bty)).kind := congrArg Attrs.kind ha
  have hyf : y.fractionDigits = (typeNext t (attrsOf bty)).fd := congrArg Attrs.fd ha
  have hyr : y.range = (typeNext t (attrsOf bty)).range := congrArg Attrs.range ha
  have hcr : chainRanges (.ty root scope t :: .td d :: chain) = stmtRanges t ++ chainRanges chain := by
    rw [chainRanges_ty, chainRanges_td]
  refine ⟨by rw [hyk, typeNext_kind]; exact hbk, ?_, ?_⟩
  · intro base hbase
    obtain ⟨hf0, hr0⟩ := hint base hbase
    have hnd : isDec t (attrsOf bty) = false := by
      unfold isDec
      show ((bty.kind == "decimal64") && _) = false
      rw [hbk, hbase.not_dec]
      rfl
    have hk : kindNext t false (attrsOf bty) = attrsOf bty := by
      unfold kindNext
      simp
    obtain ⟨h1, h2⟩ := typeNext_reached hok hnd hk (Or.inl ⟨rfl, rfl⟩) (show (attrsOf bty).fd = 0 from hf0) hr0
    rw [hyf, hyr, hcr]
    exact ⟨h1, h2⟩
  · intro hkd
    obtain ⟨hf1, hf18, hr0⟩ := hdec hkd
    have hne : (bty.fractionDigits != 0) = true := by
      rw [bne_iff_ne]; omega
    have hd : isDec t (attrsOf bty) = true := by
      unfold isDec
      show ((bty.kind == "decimal64") && ((t.arg == "decimal64") || (bty.fractionDigits != 0))) = true
      rw [hbk, hkd, hne, Bool.or_true]
      rfl
    have hk : kindNext t true (attrsOf bty) = attrsOf bty := by
      unfold kindNext
      have : (true && (attrsOf bty).fd != 0) = true := by
        show (true && bty.fractionDigits != 0) = true
        rw [hne]; rfl
      rw [if_pos this]
    obtain ⟨h1, h2⟩ := typeNext_reached (f := bty.fractionDigits) hok hd hk (Or.inr ⟨rfl, hf1, hf18⟩) rfl hr0
    rw [hyf, hyr, hcr, h1]
    exact ⟨hf1, hf18, h2⟩

/-! ## Along the derivation chain -/

/-- The induction: the chain and the invariant. -/
theorem resolve_chain_range_inv (env : Env) :
    ∀ (fuel : Nat) (root : Mod) (scope : List Stmt) (t : Stmt) (stack : List TypeKey) (y : YType),
      scopeKinds.contains t.kw = false →
      resolveTypeF env fuel root scope t stack = { ty := some y, errs := [] } →
      ∃ kind chain, DerivesFrom env.reg root scope t kind chain ∧ Inv kind chain y :=
  Goyang.Lemmas.TypesComplete.resolve_chain_ind env (Q := Inv) level_builtin fun hinv htd h => level_derived h (typedef_attrs htd) hinv

/-- An error-free resolution went along a derivation chain to a built-in `kind`, and the resolved type
is of that kind.  If the kind has a built-in range `base` at scale `(dec, f)` (`BaseOf`: one of the
eight integer types at `(false, 0)`; decimal64 at `(true, f)` with `f` the fraction-digits of the
resolved type and `base = decimalBase f`), then `base` is a base of C10 (`IsBase`) and the range of the
resolved type is reached from it by the accepted restriction steps (`Goyang.Props.C10.StepOk`) written
in the `range` statements of the chain, farthest first: each denotes exactly the set written (with
`min` / `max` the bounds of the set before it), is sorted, disjoint and coalesced, and is within the
set before it; the result is a legitimate non-empty parent at that scale. -/
theorem resolve_chain_range (env : Env) :
    ∀ (fuel : Nat) (root : Mod) (scope : List Stmt) (t : Stmt) (stack : List TypeKey) (y : YType),
      scopeKinds.contains t.kw = false →
      resolveTypeF env fuel root scope t stack = { ty := some y, errs := [] } →
      ∃ kind chain, DerivesFrom env.reg root scope t kind chain ∧ y.kind = kind ∧
        ∀ dec f base, BaseOf kind y.fractionDigits dec f base →
          IsBase dec f base ∧ RangeSteps dec f base (chainRanges chain).reverse y.range ∧
            ParentOk f y.range ∧ y.range ≠ [] := by
  intro fuel root scope t stack y ht h
  obtain ⟨kind, chain, hder, hk, hint, hdec⟩ := resolve_chain_range_inv env fuel root scope t stack y ht h
  refine ⟨kind, chain, hder, hk, ?_⟩
  intro dec f base hb
  cases hb with
  | int hi =>
    obtain ⟨_, hr⟩ := hint base hi
    exact ⟨hi.isBase, hr⟩
  | dec =>
    obtain ⟨h1, h18, hr⟩ := hdec rfl
    exact ⟨IsBase.dec _ h1 h18, hr⟩

/-- The fraction-digits of a resolved integer type are 0, those of a resolved decimal64 are in 1..18. -/
theorem resolve_chain_scale (env : Env) (fuel : Nat) (root : Mod) (scope : List Stmt) (t : Stmt)
    (stack : List TypeKey) (y : YType) (ht : scopeKinds.contains t.kw = false)
    (h : resolveTypeF env fuel root scope t stack = { ty := some y, errs := [] }) :
    (∀ base, IntBase y.kind base → y.fractionDigits = 0) ∧
    (y.kind = "decimal64" → 1 ≤ y.fractionDigits ∧ y.fractionDigits ≤ 18) := by
  obtain ⟨kind, chain, _, hk, hint, hdec⟩ := resolve_chain_range_inv env fuel root scope t stack y ht h
  subst hk
  exact ⟨fun base hb => (hint base hb).1, fun hd => ⟨(hdec hd).1, (hdec hd).2.1⟩⟩

/-- Hence the range of a resolved numeric type denotes a subset of the built-in range of its kind. -/
theorem resolve_range_within_base (env : Env) (fuel : Nat) (root : Mod) (scope : List Stmt) (t : Stmt)
    (stack : List TypeKey) (y : YType) (ht : scopeKinds.contains t.kw = false)
    (h : resolveTypeF env fuel root scope t stack = { ty := some y, errs := [] })
    (dec : Bool) (f : Nat) (base : YangRange) (hb : BaseOf y.kind y.fractionDigits dec f base) :
    Within (abs y.range) (abs base) := by
  obtain ⟨kind, chain, _, hk, hall⟩ := resolve_chain_range env fuel root scope t stack y ht h
  subst hk
  exact (hall dec f base hb).2.1.within

/-! ## `length`

The length overlay (types.go:301) is applied whatever the kind; the parent of the first `length` of a
chain is `0..2^64-1` (`Range.uint64Range`), an empty length is "no length stated". -/

/-- the `length` argument (as bytes) of a type statement, if it has one -/
def stmtLengths (t : Stmt) : List (List UInt8) := ((t.one? "length").map fun r => bytesOf r.arg).toList

/-- the `length` arguments (as bytes) of the type statements of a chain, nearest first -/
def chainLengths (chain : List Link) : List (List UInt8) :=
  chain.filterMap fun
    | .ty _ _ t => (t.one? "length").map (fun r => bytesOf r.arg)
    | .td _ => none

theorem chainLengths_ty (root : Mod) (scope : List Stmt) (t : Stmt) (rest : List Link) :
    chainLengths (.ty root scope t :: rest) = stmtLengths t ++ chainLengths rest := by
  unfold chainLengths stmtLengths
  rw [List.filterMap_cons]
  cases hq : t.one? "length" <;> simp [hq]

theorem chainLengths_td (d : Stmt) (rest : List Link) : chainLengths (.td d :: rest) = chainLengths rest := by
  unfold chainLengths
  rw [List.filterMap_cons]

/-- `yl` is the length reached from `0..2^64-1` by the steps `rs` (nearest first): it is a legitimate
parent at the integer scale, empty exactly when no step was taken. -/
def LenInv (rs : List (List UInt8)) (yl : YangRange) : Prop :=
  RangeSteps false 0 Range.uint64Range rs.reverse (if yl.isEmpty then Range.uint64Range else yl) ∧
    ParentOk 0 yl ∧ (yl = [] ↔ rs = [])

theorem lenInv_nil : LenInv [] [] := by
  refine ⟨rfl, ⟨?_, trivial⟩, ⟨fun _ => rfl, fun _ => rfl⟩⟩
  intro p hp
  cases hp

theorem builtin_length {n : String} {y : YType} (h : builtin? n = some y) : y.length = [] := by
  unfold builtin? at h
  rw [Option.map_eq_some_iff] at h
  obtain ⟨⟨n', r⟩, _, hy⟩ := h
  subst hy
  rfl

/-- The `length` step. -/
theorem lengthNext_inv {t : Stmt} {a : Attrs} {rs : List (List UInt8)}
    (hr : LenInv rs a.length) (hok : lengthOk t a = true) :
    LenInv (stmtLengths t ++ rs) (lengthNext t a).length := by
  obtain ⟨hs, hp, hiff⟩ := hr
  unfold lengthOk at hok
  unfold lengthNext stmtLengths
  cases hq : t.one? "length" with
  | none => exact ⟨hs, hp, hiff⟩
  | some l =>
    rw [hq] at hok
    simp only at hok ⊢
    have hstep := Goyang.Props.C10.applyLength_step a.length hp (bytesOf l.arg)
    cases ha : Range.applyLength a.length (bytesOf l.arg) with
    | mk y' e =>
      rw [ha] at hstep hok
      cases e with
      | some e' => simp at hok
      | none =>
        simp only at hstep
        obtain ⟨hso, hpo, hne'⟩ := hstep
        have hpar : (if y'.isEmpty then Range.uint64Range else y') = y' := by
          cases y' with
          | nil => exact absurd rfl hne'
          | cons _ _ => rfl
        refine ⟨?_, hpo, ?_⟩
        · simp only [Option.map_some, Option.toList_some, List.singleton_append, List.reverse_cons]
          rw [hpar]
          exact RangeSteps.snoc hs hso
        · simp [hne']

theorem typeNext_length_inv {env : Env} {root : Mod} {t : Stmt} {b : Bool} {a : Attrs} {rs : List (List UInt8)}
    (hok : typeOk env root t b a = true) (hr : LenInv rs a.length) :
    LenInv (stmtLengths t ++ rs) (typeNext t a).length := by
  have hlo : lengthOk t a = true := by
    unfold typeOk at hok
    simp only [Bool.and_eq_true] at hok
    exact hok.1.1.1.2
  have : (typeNext t a).length = (lengthNext t a).length := by
    unfold typeNext lengthNext
    split <;> simp
  rw [this]
  exact lengthNext_inv hr hlo

/-- The induction for `length`. -/
theorem resolve_chain_length_inv (env : Env) :
    ∀ (fuel : Nat) (root : Mod) (scope : List Stmt) (t : Stmt) (stack : List TypeKey) (y : YType),
      scopeKinds.contains t.kw = false →
      resolveTypeF env fuel root scope t stack = { ty := some y, errs := [] } →
      ∃ kind chain, DerivesFrom env.reg root scope t kind chain ∧ LenInv (chainLengths chain) y.length := by
  refine Goyang.Lemmas.TypesComplete.resolve_chain_ind env (Q := fun _ chain y => LenInv (chainLengths chain) y.length) ?_ ?_
  · intro _ root scope t _ y0 y hb0 h
    obtain ⟨hok, ha⟩ := level_attrs h
    have h0 : LenInv [] (attrsOf y0).length := by
      show LenInv [] y0.length
      rw [builtin_length hb0]
      exact lenInv_nil
    rw [show y.length = (typeNext t (attrsOf y0)).length from congrArg Attrs.length ha, chainLengths_ty]
    exact typeNext_length_inv hok h0
  · intro _ root scope t _ _ r _ bty _ y _ chain hinv htd h
    obtain ⟨hok, ha⟩ := level_attrs h
    rw [typedef_attrs htd] at hok ha
    rw [show y.length = (typeNext t (attrsOf bty)).length from congrArg Attrs.length ha, chainLengths_ty,
      chainLengths_td]
    exact typeNext_length_inv hok hinv

/-- An error-free resolution went along a derivation chain; the length of the resolved type is
reached from `0..2^64-1` by the accepted restriction steps written in the `length` statements of the
chain, farthest first (each denotes exactly the set written, `min` / `max` being the bounds of the
set before it, is sorted, disjoint and coalesced and within the set before it); it is empty exactly
when the chain states no length (then "the length reached" is `0..2^64-1` itself). -/
theorem resolve_chain_length (env : Env) :
    ∀ (fuel : Nat) (root : Mod) (scope : List Stmt) (t : Stmt) (stack : List TypeKey) (y : YType),
      scopeKinds.contains t.kw = false →
      resolveTypeF env fuel root scope t stack = { ty := some y, errs := [] } →
      ∃ kind chain, DerivesFrom env.reg root scope t kind chain ∧
        RangeSteps false 0 Range.uint64Range (chainLengths chain).reverse
          (if y.length.isEmpty then Range.uint64Range else y.length) ∧
        ParentOk 0 y.length ∧ (y.length = [] ↔ chainLengths chain = []) :=
  resolve_chain_length_inv env

/-- Hence a stated length denotes a subset of `0..2^64-1`. -/
theorem resolve_length_within_base (env : Env) (fuel : Nat) (root : Mod) (scope : List Stmt) (t : Stmt)
    (stack : List TypeKey) (y : YType) (ht : scopeKinds.contains t.kw = false)
    (h : resolveTypeF env fuel root scope t stack = { ty := some y, errs := [] }) :
    Within (abs y.length) (abs Range.uint64Range) := by
  obtain ⟨kind, chain, _, hs, _, _⟩ := resolve_chain_length env fuel root scope t stack y ht h
  cases hy : y.length with
  | nil => intro x hx; obtain ⟨q, hq, _⟩ := hx; cases hq
  | cons p l =>
    rw [hy] at hs
    exact hs.within

/-! ## Examples: the hypotheses are satisfiable

`typedef t { type int8 { range "1..10"; } }`, `leaf x { type t { range "min..5"; } }` and
`typedef d { type decimal64 { fraction-digits 2; range "1.5..2.5"; } }`, `leaf z { type d { range "min..2.0"; } }`
resolve without error (kernel evaluation of the model), so the theorems apply to them. -/

section Examples

private def S (kw arg : String) (l c : Nat) (subs : List Stmt) : Stmt := Stmt.mk kw true arg "m.yang" l c subs
private def tdT : Stmt := S "typedef" "t" 2 3 [S "type" "int8" 2 13 [S "range" "1..10" 2 20 []]]
private def tyT : Stmt := S "type" "t" 3 10 [S "range" "min..5" 3 20 []]
private def leafT : Stmt := S "leaf" "x" 3 3 [tyT]
private def tdD : Stmt :=
  S "typedef" "d" 4 3 [S "type" "decimal64" 4 13 [S "fraction-digits" "2" 4 20 [], S "range" "1.5..2.5" 4 40 []]]
private def tyD : Stmt := S "type" "d" 5 10 [S "range" "min..2.0" 5 20 []]
private def leafD : Stmt := S "leaf" "z" 5 3 [tyD]
private def tdS : Stmt := S "typedef" "s" 6 3 [S "type" "string" 6 13 [S "length" "1..10" 6 20 []]]
private def tyS : Stmt := S "type" "s" 7 10 [S "length" "min..5" 7 20 []]
private def leafS : Stmt := S "leaf" "w" 7 3 [tyS]
private def exM : Stmt := S "module" "m" 1 1 [S "prefix" "p" 1 10 [], tdT, leafT, tdD, leafD, tdS, leafS]
private def exMod : Mod := ⟨0, exM⟩
private def exEnv : Env := { reg := { mods := [exMod], modules := [("m", 0)] }, link := {}, dict := [], fuel := 10 }

private theorem res_shape {r : Res} {k : String} {fd : Nat} {v : YangRange}
    (h : r.errs = [] ∧ r.ty.map (fun y => (y.kind, y.fractionDigits, y.range)) = some (k, fd, v)) :
    ∃ y, r = { ty := some y, errs := [] } ∧ y.kind = k ∧ y.fractionDigits = fd ∧ y.range = v := by
  obtain ⟨ty, errs⟩ := r
  obtain ⟨h1, h2⟩ := h
  simp only at h1 h2
  subst h1
  cases ty with
  | none => simp at h2
  | some y =>
    simp only [Option.map_some, Option.some.injEq, Prod.mk.injEq] at h2
    exact ⟨y, rfl, h2⟩

/-- The integer chain resolves to `1..5` … -/
private theorem exT_resolves : ∃ y, resolveTypeF exEnv 10 exMod [leafT, exM] tyT [] = { ty := some y, errs := [] } ∧
    y.kind = "int8" ∧ y.fractionDigits = 0 ∧
    y.range = [{ min := { value := 1, fd := 0, neg := false }, max := { value := 5, fd := 0, neg := false } }] :=
  res_shape (by decide +kernel)

/-- … and `resolve_chain_range` applies to it with the base `int8Range` at scale `(false, 0)`. -/
example : ∃ y, resolveTypeF exEnv 10 exMod [leafT, exM] tyT [] = { ty := some y, errs := [] } ∧
    (∃ kind chain, DerivesFrom exEnv.reg exMod [leafT, exM] tyT kind chain ∧
      RangeSteps false 0 Range.int8Range (chainRanges chain).reverse y.range) ∧
    Within (abs y.range) (abs Range.int8Range) := by
  obtain ⟨y, hy, hk, hf, _⟩ := exT_resolves
  have hb : BaseOf y.kind y.fractionDigits false 0 Range.int8Range := by
    rw [hk]; exact .int .int8
  refine ⟨y, hy, ?_, resolve_range_within_base exEnv 10 exMod [leafT, exM] tyT [] y (by decide) hy _ _ _ hb⟩
  obtain ⟨kind, chain, hder, hkk, hall⟩ := resolve_chain_range exEnv 10 exMod [leafT, exM] tyT [] y (by decide) hy
  subst hkk
  exact ⟨_, chain, hder, (hall _ _ _ hb).2.1⟩

/-- The decimal64 chain resolves to `1.50..2.00` at 2 fraction-digits … -/
private theorem exD_resolves : ∃ y, resolveTypeF exEnv 10 exMod [leafD, exM] tyD [] = { ty := some y, errs := [] } ∧
    y.kind = "decimal64" ∧ y.fractionDigits = 2 ∧
    y.range = [{ min := { value := 150, fd := 2, neg := false }, max := { value := 200, fd := 2, neg := false } }] :=
  res_shape (by decide +kernel)

/-- … and is within `decimalBase 2`. -/
example : ∃ y, resolveTypeF exEnv 10 exMod [leafD, exM] tyD [] = { ty := some y, errs := [] } ∧
    Within (abs y.range) (abs (Range.decimalBase 2)) := by
  obtain ⟨y, hy, hk, hf, _⟩ := exD_resolves
  have hb : BaseOf y.kind y.fractionDigits true 2 (Range.decimalBase 2) := by
    rw [hk, hf]; exact .dec 2
  exact ⟨y, hy, resolve_range_within_base exEnv 10 exMod [leafD, exM] tyD [] y (by decide) hy _ _ _ hb⟩

/-- The string chain resolves to the length `1..5`, reached from `0..2^64-1` by the steps of a chain. -/
example : (resolveTypeF exEnv 10 exMod [leafS, exM] tyS []).errs = [] ∧
    (resolveTypeF exEnv 10 exMod [leafS, exM] tyS []).ty.map (·.length) =
      some [{ min := { value := 1, fd := 0, neg := false }, max := { value := 5, fd := 0, neg := false } }] := by
  decide +kernel

example : ∃ y, resolveTypeF exEnv 10 exMod [leafS, exM] tyS [] = { ty := some y, errs := [] } ∧
    ∃ kind chain, DerivesFrom exEnv.reg exMod [leafS, exM] tyS kind chain ∧
      RangeSteps false 0 Range.uint64Range (chainLengths chain).reverse y.length := by
  have he : (resolveTypeF exEnv 10 exMod [leafS, exM] tyS []).errs = [] ∧
      ((resolveTypeF exEnv 10 exMod [leafS, exM] tyS []).ty.map fun y => y.length.isEmpty) = some false := by
    decide +kernel
  obtain ⟨h1, h2⟩ := he
  cases hr : resolveTypeF exEnv 10 exMod [leafS, exM] tyS [] with
  | mk ty errs =>
    rw [hr] at h1 h2
    simp only at h1 h2
    subst h1
    cases ty with
    | none => simp at h2
    | some y =>
      simp only [Option.map_some, Option.some.injEq] at h2
      obtain ⟨kind, chain, hder, hs, _, _⟩ := resolve_chain_length exEnv 10 exMod [leafS, exM] tyS [] y (by decide) hr
      rw [h2] at hs
      exact ⟨y, rfl, kind, chain, hder, hs⟩

end Examples

end Goyang.Lemmas.TypesRangeRfc
