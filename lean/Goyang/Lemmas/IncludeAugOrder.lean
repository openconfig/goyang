import Goyang.Lemmas.IncludeMain
import Goyang.Lemmas.SortAux
import Goyang.Lemmas.IncludeNoAug
import Goyang.Lemmas.AugmentErrsBridge
import Goyang.Props.C07
/-
C13 (third sentence), augments — the augment stage of `processAll` on a split set.

1. `pending_sub_nil`, `pending_stmts_split`: at the start of the augment stage the submodules of the
   split have nothing pending, and every other row lists the augment statements of the same module
   (the owner's row: the unsplit module's statements).
2. `cover_unsplit_order` + `split_loop_in_unsplit_order`: the additional, augment-free submodule trees
   change the order in which the loop visits the modules (swap-remove over the module array); by C07's
   order independence the loop over the split set can be run in the module order of the UNSPLIT set
   instead — same flat view, same augments left over — whenever the split run leaves no
   `duplicate-node` error.
3. `NoLeftover`, `preDev_noLeftover`, `processAll_noLeftover`: when the loop leaves nothing pending,
   the retry rounds, the reporting sweep and the last FixChoice do nothing: the result is the loop's
   forest with `fixChoice` applied to every tree (no deviation statements).  (A run WITH augments
   left for the stage after FixChoice used to be order dependent — finding D67, repaired: that stage
   is now a fixpoint; Props/C13Include.lean `include_eq_inline_witness`.)
-/
open Goyang.Lemmas.ListAux (foldl_inv)
namespace Goyang.Lemmas.IncludeAugOrder
open Goyang.Model Goyang.Spec.Include Goyang.Spec.Augment Goyang.Lemmas.Tree
open Goyang.Lemmas.AugmentLoop Goyang.Lemmas.AugmentReport Goyang.Lemmas.AugmentModel Goyang.Lemmas.Bridge Goyang.Lemmas.AugmentStep
open Goyang.Lemmas.Fuel (LoadedShape)

/-! ### the module order covers the pending table (any registry) -/

theorem cover_pstate0 (reg : Registry) (opts : Opts) (plug : Plug) :
    Cover (pstate0 reg opts plug) ((augOrder reg).map (·.seq)).toArray := by
  intro id hne
  have hk := mem_keys_of_pendingOf_ne_nil _ id hne
  simp only [keys, pstate0, pending0, allMods, List.map_map, List.mem_map, Function.comp] at hk
  obtain ⟨m, hm, hid⟩ := hk
  subst hid
  show _ ∈ (List.toArray _).toList
  rcases List.mem_append.mp hm with hm | hm
  · simp only [Registry.distinctModules, List.mem_filter] at hm
    exact seq_in_order reg m hm.1 (by rw [List.any_append, hm.2]; rfl)
  · simp only [Registry.distinctSubs, List.mem_filter] at hm
    exact seq_in_order reg m hm.1 (by rw [List.any_append, hm.2]; simp)

section Split
variable {s : Split} {R R' : Registry} (opts : Opts) (plug plug' : Plug) (h : IsSplitOf s R R' plug plug')

include h in
/-- A submodule of the split has no pending augments (the augment statements stay with the owner). -/
theorem pending_sub_nil {sb : Mod} (hsb : sb ∈ s.subs) : (pstate0 R' opts plug').pendingOf sb.seq = [] := by
  rcases pendingOf_pstate0 R' opts plug' sb.seq with h0 | ⟨p, hp, h1, h2⟩
  · exact h0
  · obtain ⟨m, hm, e1, e2, _, _⟩ := tstate_rows R' opts plug' p hp
    rw [h2]
    rw [IncludeLink.mods_split h.regs] at hm
    rcases List.mem_append.1 hm with hm | hm
    · obtain ⟨x, hx, rfl⟩ := List.mem_map.1 hm
      rw [IncludeLink.repl_seq h.regs] at e1
      exact absurd (h1.symm.trans e1) (h.regs.sub_seqs_fresh sb hsb x hx)
    · have := (h.text.sub_no_aug m hm).1
      rw [this] at e2
      exact List.map_eq_nil_iff.1 e2

include h in
/-- The pending rows of the split set list the augment statements of the unsplit set: for every
module `x` of `R`, the row of `x.seq` in `R'` is empty or lists exactly `x`'s augment statements. -/
theorem pending_stmts_split {x : Mod} (hx : x ∈ R.mods) :
    (pstate0 R' opts plug').pendingOf x.seq = [] ∨
    ((pstate0 R' opts plug').pendingOf x.seq).map (·.d.node) = x.stmt.all "augment" := by
  rcases pendingOf_pstate0 R' opts plug' x.seq with h0 | ⟨p, hp, h1, h2⟩
  · exact Or.inl h0
  · obtain ⟨m, hm, e1, e2, _, _⟩ := tstate_rows R' opts plug' p hp
    rw [h2]
    rw [IncludeLink.mods_split h.regs] at hm
    rcases List.mem_append.1 hm with hm | hm
    · obtain ⟨y, hy, rfl⟩ := List.mem_map.1 hm
      rw [IncludeLink.repl_seq h.regs] at e1
      have hxy : y = x := IncludeLink.eq_of_seq_eq h.regs.seqs_nodup hy hx (e1.symm.trans h1)
      subst hxy
      right
      rw [e2]
      by_cases hym : y.seq = s.m.seq
      · have : y = s.m := IncludeLink.eq_m_of_seq h.regs hy hym
        subst this
        rw [IncludeLink.repl_m, h.text.kept "augment" (by decide)]
      · rw [IncludeLink.repl_of_ne hym]
    · left
      have := (h.text.sub_no_aug m hm).1
      rw [this] at e2
      exact List.map_eq_nil_iff.1 e2

include h in
/-- The module order of the UNSPLIT set mentions every tree of the split set that has pending augments. -/
theorem cover_unsplit_order : Cover (pstate0 R' opts plug') ((augOrder R).map (·.seq)).toArray := by
  intro id hne
  have h1 := cover_pstate0 R' opts plug' id hne
  have h1' : id ∈ (augOrder R').map (·.seq) := h1
  obtain ⟨m', hm', hid⟩ := List.mem_map.1 h1'
  unfold augOrder at hm'
  rw [SortAux.mem_sortBy] at hm'
  obtain ⟨kv, hkv, hby⟩ := List.mem_filterMap.1 hm'
  have hseq : m'.seq = kv.2 := IncludeLink.byId_seq hby
  show id ∈ (augOrder R).map (·.seq)
  rw [h.regs.modules', h.regs.subModules'] at hkv
  rcases List.mem_append.1 hkv with hkv | hkv
  · obtain ⟨x, hx, hxs⟩ := h.regs.keys_valid kv hkv
    have := seq_in_order R x hx (by
      rw [List.any_append, Bool.or_eq_true]; left
      exact List.any_eq_true.2 ⟨kv, hkv, by simp [hxs]⟩)
    rw [← hid, hseq, ← hxs]
    exact this
  · obtain ⟨sb, hsb, rfl⟩ := List.mem_map.1 hkv
    exfalso
    apply hne
    rw [← hid, hseq]
    exact pending_sub_nil opts plug plug' h hsb

/-- The fuel `processAll` gives the augment loop. -/
def loopFuel (reg : Registry) (opts : Opts) (plug : Plug) : Nat :=
  (pending0 reg opts plug).foldl (fun n p => n + p.2.length) 0 + 2

include h in
/-- **The loop over the split set, run in the module order of the unsplit set**, ends in the same flat
view and leaves the same augments pending as the run `processAll` makes (whose order the
augment-free submodule trees have changed), provided that run leaves no `duplicate-node` error. -/
theorem split_loop_in_unsplit_order (hL : LoadedShape R') (hpos : AugPosDistinct R') (hplain : AugArgsPlain R')
    (hfree : ∀ er, FVisErr (afterLoop R' opts plug').2.forest er → er.cls ≠ "duplicate-node") :
    viewOf (augmentLoop R' (loopFuel R' opts plug') ((augOrder R).map (·.seq)).toArray (pstate0 R' opts plug')).2.forest =
      viewOf (afterLoop R' opts plug').2.forest ∧
    (∀ id a, a ∈ (augmentLoop R' (loopFuel R' opts plug') ((augOrder R).map (·.seq)).toArray (pstate0 R' opts plug')).2.pendingOf id ↔
      a ∈ (afterLoop R' opts plug').2.pendingOf id) := by
  have hin := phaseInput_pstate0 R' opts plug' hL hpos hplain
  have hfuel : mu (pstate0 R' opts plug') < loopFuel R' opts plug' :=
    Goyang.Props.C07.model_fuel_sufficient (pstate0 R' opts plug') hin.keys
  have e : afterLoop R' opts plug' =
      augmentLoop R' (loopFuel R' opts plug') ((augOrder R').map (·.seq)).toArray (pstate0 R' opts plug') := rfl
  rw [e] at hfree ⊢
  have hc1 := cover_pstate0 R' opts plug'
  have hc2 := cover_unsplit_order opts plug plug' h
  have hp : PlainPending R' (pstate0 R' opts plug') := hin.plain
  have hn : NodupPending (pstate0 R' opts plug') := hin.nodup
  generalize pstate0 R' opts plug' = S at *
  generalize loopFuel R' opts plug' = F at *
  generalize ((augOrder R').map (·.seq)).toArray = O1 at *
  generalize ((augOrder R).map (·.seq)).toArray = O2 at *
  exact Goyang.Props.C07.augment_loop_confluent_model R' F F O1 O2 S S hp hp rfl (fun _ _ => Iff.rfl) hn hn hc1 hc2 hfuel hfuel hfree

include h in
/-- **… and the one run ends without recorded errors iff the other does** (C07 (d′): one tree per id and
unique sibling names hold of the conversion's result). -/
theorem split_loop_clean_iff (hL : LoadedShape R') (hpos : AugPosDistinct R') (hplain : AugArgsPlain R')
    (h0 : forestErrs (forest0 R' opts plug') = []) :
    allErrs (afterLoop R' opts plug').2.forest = [] ↔
      allErrs (augmentLoop R' (loopFuel R' opts plug') ((augOrder R).map (·.seq)).toArray (pstate0 R' opts plug')).2.forest = [] := by
  have hin := phaseInput_pstate0 R' opts plug' hL hpos hplain
  have hfuel : mu (pstate0 R' opts plug') < loopFuel R' opts plug' :=
    Goyang.Props.C07.model_fuel_sufficient (pstate0 R' opts plug') hin.keys
  have e : afterLoop R' opts plug' =
      augmentLoop R' (loopFuel R' opts plug') ((augOrder R').map (·.seq)).toArray (pstate0 R' opts plug') := rfl
  rw [e]
  have hc1 := cover_pstate0 R' opts plug'
  have hc2 := cover_unsplit_order opts plug plug' h
  have hp : PlainPending R' (pstate0 R' opts plug') := hin.plain
  have hn : NodupPending (pstate0 R' opts plug') := hin.nodup
  have hids : ((pstate0 R' opts plug').forest.trees.map (·.1)).Nodup := tstate_ckeys_nodup R' opts plug' hL
  have hku := Goyang.Lemmas.AugmentErrsBridge.keysUnique_pstate0 R' opts plug' h0
  have hbody := Goyang.Lemmas.AugmentErrsBridge.keysUnique_pending R' opts plug'
  generalize pstate0 R' opts plug' = S at *
  generalize loopFuel R' opts plug' = F at *
  generalize ((augOrder R').map (·.seq)).toArray = O1 at *
  generalize ((augOrder R).map (·.seq)).toArray = O2 at *
  rw [Goyang.Props.C07.model_loop_eq R' F O1 S hp, Goyang.Props.C07.model_loop_eq R' F O2 S hp]
  exact Goyang.Props.C07.augment_loop_clean_iff (Res.ofReg R') F F O1 O2 S S rfl (fun _ _ => Iff.rfl) hn hn hc1 hc2 hfuel hfuel
    hids hku hbody

end Split

/-! ### nothing left over after the loop -/

section NoLeftover
variable (reg : Registry) (opts : Opts) (plug : Plug)

/-- The loop of `processAll` leaves no augment pending (decidable: evaluate the loop). -/
def NoLeftover : Prop := ∀ p ∈ (afterLoop reg opts plug).2.pending, p.2 = []

instance : Decidable (NoLeftover reg opts plug) := by unfold NoLeftover; infer_instance

/-- With nothing left over the retry rounds stop after the first (empty) loop. -/
theorem afterRounds_noLeftover (hn : NoLeftover reg opts plug) :
    (afterRounds reg opts plug).2 = fixAll (afterLoop reg opts plug).2 := by
  unfold afterRounds
  exact IncludeNoAug.leftoverRounds_nil reg _ _ _ _ (IncludeNoAug.fixAll_nil _ hn)

theorem leftoverPass_noLeftover (hn : NoLeftover reg opts plug) :
    leftoverPass reg opts plug = (fixAll (afterLoop reg opts plug).2, 0) := by
  unfold leftoverPass
  rw [afterRounds_noLeftover reg opts plug hn, ← Array.foldl_toList]
  refine foldl_inv (fun acc : PState × Nat => acc = (fixAll (afterLoop reg opts plug).2, 0)) _ _ _ rfl ?_
  rintro acc id _ rfl
  dsimp only
  rw [IncludeNoAug.augmentTree_nil reg id true _ (IncludeNoAug.fixAll_nil _ hn)]
  rfl

/-- With nothing left over, the state before the deviations is the loop's result with `fixChoice`
applied to every tree (the retry rounds, the reporting sweep and the last FixChoice do nothing). -/
theorem preDev_noLeftover (hn : NoLeftover reg opts plug) : preDev reg opts plug = fixAll (afterLoop reg opts plug).2 := by
  unfold preDev
  rw [leftoverPass_noLeftover reg opts plug hn]
  simp

/-- … and without deviation statements this is what `processAll` returns. -/
theorem processAll_noLeftover (hn : NoLeftover reg opts plug) (hdev : ∀ x ∈ reg.mods, x.stmt.all "deviation" = [])
    (h1 : stage1Errs reg plug = []) (h2 : forestErrs (forest0 reg opts plug) = []) :
    (processAll reg opts plug).errors = canonErrs (forestErrs (fixAll (afterLoop reg opts plug).2).forest) ∧
    (processAll reg opts plug).forest = (fixAll (afterLoop reg opts plug).2).forest := by
  have hd : ∀ f0, (devStage reg opts plug f0).1 = f0 ∧ (devStage reg opts plug f0).2.1 = [] := by
    intro f0
    unfold devStage
    refine foldl_inv (fun acc : Forest × List Err × List String => acc.1 = f0 ∧ acc.2.1 = []) _ _ _ ⟨rfl, rfl⟩ ?_
    rintro ⟨f, errs, done⟩ m hm ⟨hf, he⟩
    dsimp only at hf he ⊢
    subst hf he
    split
    · exact ⟨rfl, rfl⟩
    · rw [hdev m (IncludeNoAug.mem_keyOrder hm)]
      exact ⟨rfl, rfl⟩
  rw [processAll_eq]
  simp only [h1, h2, List.isEmpty_nil, Bool.not_true, Bool.false_eq_true, if_false]
  rw [(hd _).1, (hd _).2, preDev_noLeftover reg opts plug hn, List.append_nil]
  exact ⟨rfl, rfl⟩

end NoLeftover

end Goyang.Lemmas.IncludeAugOrder
