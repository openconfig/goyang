import Goyang.Lemmas.SessionCached
/-
Property C18: a small kit on which the machines of Model/SessionCached.lean run in the kernel
(`decide`), used by Props/C18Cached.lean to show that the refinement theorem is not vacuous and that
every reset it assumes is needed; and decidability of answer-by-answer agreement.

The toy resolver: a registry is the list of loaded module numbers; a text is a list of module
numbers, refused at the first one that is already loaded (the tables then hold the earlier ones of
the text: the shape of D32); the link table of a registry is the sum of its modules; module `n` has
one type statement `n`, which resolves to `links + identities + n` - so every result depends on the
whole registry, as in goyang (imports, augments); a run answers (sum of the resolved types + links,
number of modules).
-/
namespace Goyang.Lemmas.SessionCachedToy
open Goyang.Model.SessionCached Goyang.Lemmas.SessionCached

def toyDirty (r : List Nat) : List Nat → List Nat × Option Nat
  | [] => (r, none)
  | n :: ns => if r.contains n then (r, some n) else toyDirty (r ++ [n]) ns

@[reducible] def toy : Kit where
  Reg := List Nat
  Opts := Unit
  Src := List Nat
  Rej := Nat
  Outc := Nat × Nat
  Key := Nat
  Path := Nat
  Ans := Nat
  Links := Nat
  Ids := Nat
  TyKey := Nat
  TyVal := Nat
  Early := Unit
  keyEq := fun a b => a == b
  loadDirty := toyDirty
  hasModule := fun reg key => reg.contains key
  size := fun reg => reg.length
  link := fun reg => reg.sum
  linksNone := 0
  idents := fun reg L => 10 * reg.length + L
  idsNone := 0
  resolveTy := fun _ L I k => L + I + k
  touched := fun reg => reg
  touchedEarly := fun _ key => [key]
  build := fun reg _ L _ ty => ((reg.map ty).sum + L, reg.length)
  osize := fun o => o.2
  hasTree := fun _ o key => decide (key ≤ o.2)
  find := fun _ o key path => (o.1 + key + path, o)
  earlyRead := fun _ _ _ _ ty _ key _ => (ty key, ())

theorem toyDirty_len (src r : List Nat) : r.length ≤ (toyDirty r src).1.length := by
  induction src generalizing r with
  | nil => exact Nat.le_refl _
  | cons n ns ih =>
    unfold toyDirty
    split
    · exact Nat.le_refl _
    · have := ih (r ++ [n])
      rw [List.length_append] at this
      omega

theorem toy_laws : Laws toy where
  grow := fun r src r' h => by
    have hl := toyDirty_len src r
    have h' : verdict (toyDirty r src) = .ok r' := h
    unfold verdict at h'
    split at h'
    · cases h'; exact hl
    · cases h'
  osize_run := fun _ _ => Nat.le_refl _
  osize_find := fun _ _ _ _ => rfl

/-! ### deciding agreement -/

instance decEqOut {K : Kit} [DecidableEq K.Rej] [DecidableEq K.Outc] [DecidableEq K.Ans] : DecidableEq (Out K) := by
  intro a b
  cases a <;> cases b <;> first
    | (refine isFalse fun h => ?_; cases h; done)
    | exact isTrue rfl
    | (rename_i x y; exact if h : x = y then isTrue (h ▸ rfl) else isFalse (fun e => by cases e; exact h rfl))

instance decAgree {K : Kit} [DecidableEq K.Rej] [DecidableEq K.Outc] [DecidableEq K.Ans] (p c : Out K) :
    Decidable (Agree p c) := by
  cases p <;> cases c <;> unfold Agree <;> infer_instance

instance decAgreeAll {K : Kit} [DecidableEq K.Rej] [DecidableEq K.Outc] [DecidableEq K.Ans] :
    (ps cs : List (Out K)) → Decidable (AgreeAll ps cs)
  | [], [] => isTrue trivial
  | [], _ :: _ => isFalse (fun h => h)
  | _ :: _, [] => isFalse (fun h => h)
  | p :: ps, c :: cs =>
    match decAgree p c, decAgreeAll ps cs with
    | isTrue h1, isTrue h2 => isTrue ⟨h1, h2⟩
    | isFalse h1, _ => isFalse (fun h => h1 h.1)
    | _, isFalse h2 => isFalse (fun h => h2 h.2)

/-- The answers of the two machines to a history on a fresh value. -/
def pureAns (h : List (Op toy)) : List (Out toy) := (prunFrom toy { reg := [], opts := () } h).2
def cachedAns (P : Policy) (h : List (Op toy)) : List (Out toy) := (crunFrom toy P { reg := [], opts := () } h).2

end Goyang.Lemmas.SessionCachedToy
