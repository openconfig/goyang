import Goyang.Props.C15
import Goyang.Lemmas.Types
import Goyang.Lemmas.TypesFuel
import Goyang.Lemmas.TypesComplete
/-
C09 ∘ C15: the fraction-digits a resolved type carries are the written integer.

* `overlay_fd_ok`: in an error-free `Type.resolve` overlay a `fraction-digits` substatement was
  accepted by `asRangeInt(1, 18)` (a rejected one, one on a type that is not a direct decimal64, and
  one restated on a type derived from a decimal64 typedef are all errors).
* `resolve_chain_fd`: an error-free resolution went along a derivation chain, the resolved type has
  the fraction-digits of the nearest type statement of the chain that states them, and that
  statement's argument was accepted by `asRangeInt(1, 18)`.
* `fd_written`: through C15's `asRangeInt_exact`, the accepted value is the integer written, in 1..18.
-/
namespace Goyang.Lemmas.TypesFdRfc
open Goyang.Model Goyang.Model.Types Goyang.Spec.Types Goyang.Lemmas.Types

/-! ## One overlay -/

/-- An error-free overlay accepted its `fraction-digits` substatement. -/
theorem overlay_fd_ok {env : Env} {root : Mod} {t : Stmt} {src : Source} {tdY : YType} {ms : List Res} {y : YType}
    (h : overlayType env root t src tdY ms = { ty := some y, errs := [] })
    {f : Stmt} (hf : t.one? "fraction-digits" = some f) :
    ∃ i, Number.asRangeInt (some (bytesOf f.arg)) 1 18 = .ok i := by
  obtain ⟨hc, pps, _, _, herrs⟩ := overlayType_ok h
  have hk := overlayLocal_errs_nil (stepPosix_errs_nil (stepMembers_errs_nil herrs))
  revert hk
  fun_cases stepKind env root t src (isDecimal64 t tdY) (startSt t tdY) with
  | case1 h1 =>
    -- a decimal64 whose fraction-digits are fixed already: restating them is the override error
    rw [hf] at hc
    simp only [startSt_keeps] at h1
    exact absurd (by simpa using h1) hc
  | case2 fd _ _ i hi =>
    simp only [fd, hf, Option.map_some] at hi
    exact fun _ => ⟨i, hi⟩
  | case3 =>
    intro hk
    simp at hk
  | case4 =>
    intro hk
    simp at hk
  | case5 fd _ _ h3 | case6 fd _ _ h3 | case7 fd _ _ h3 | case8 fd _ _ h3 | case9 fd _ _ h3 =>
    -- the identityref arms and the last `else`: reached only without a fraction-digits statement
    simp [fd, hf] at h3

/-! ## Along the derivation chain -/

theorem chainFd_ty_some {root : Mod} {scope : List Stmt} {t : Stmt} {rest : List Link} {f : Stmt}
    (hq : t.one? "fraction-digits" = some f) : chainFractionDigits (.ty root scope t :: rest) = some f := by
  simp [chainFractionDigits, hq]

theorem chainFd_ty_none {root : Mod} {scope : List Stmt} {t : Stmt} {rest : List Link}
    (hq : t.one? "fraction-digits" = none) :
    chainFractionDigits (.ty root scope t :: rest) = chainFractionDigits rest := by
  simp [chainFractionDigits, hq]

theorem chainFd_td_cons (d : Stmt) (chain : List Link) :
    chainFractionDigits (.td d :: chain) = chainFractionDigits chain := by
  simp only [chainFractionDigits, List.findSome?_cons]

/-- One level of the chain. -/
theorem level_fd {env : Env} {root : Mod} {scope : List Stmt} {t : Stmt} {src : Source} {tdY y : YType}
    {ms : List Res} {rest : List Link}
    (h : overlayType env root t src tdY ms = { ty := some y, errs := [] })
    (hfd : tdY.fractionDigits = ((chainFractionDigits rest).map parseFd).getD 0)
    (hF : ∀ f, chainFractionDigits rest = some f → ∃ i, Number.asRangeInt (some (bytesOf f.arg)) 1 18 = .ok i) :
    y.fractionDigits = ((chainFractionDigits (.ty root scope t :: rest)).map parseFd).getD 0 ∧
    (∀ f, chainFractionDigits (.ty root scope t :: rest) = some f →
      ∃ i, Number.asRangeInt (some (bytesOf f.arg)) 1 18 = .ok i) := by
  obtain ⟨_, _, _, _, _, _, _, _, a9, _⟩ := overlay_attrs h
  cases hq : t.one? "fraction-digits" with
  | none =>
    rw [chainFd_ty_none hq]
    rw [hq] at a9
    exact ⟨by rw [a9, hfd], hF⟩
  | some f0 =>
    rw [chainFd_ty_some hq]
    rw [hq] at a9
    refine ⟨by rw [a9]; rfl, ?_⟩
    intro f hf'
    simp only [Option.some.injEq] at hf'
    subst hf'
    exact overlay_fd_ok h hq

/-- The induction: the chain, the inherited fraction-digits, and acceptance of the statement. -/
theorem resolve_chain_fd_ok (env : Env) :
    ∀ (fuel : Nat) (root : Mod) (scope : List Stmt) (t : Stmt) (stack : List TypeKey) (y : YType),
      scopeKinds.contains t.kw = false →
      resolveTypeF env fuel root scope t stack = { ty := some y, errs := [] } →
      ∃ kind chain, DerivesFrom env.reg root scope t kind chain ∧
        y.fractionDigits = ((chainFractionDigits chain).map parseFd).getD 0 ∧
        ∀ f, chainFractionDigits chain = some f →
          ∃ i, Number.asRangeInt (some (bytesOf f.arg)) 1 18 = .ok i := by
  refine Goyang.Lemmas.TypesComplete.resolve_chain_ind env (Q := fun _ chain y =>
    y.fractionDigits = ((chainFractionDigits chain).map parseFd).getD 0 ∧
    ∀ f, chainFractionDigits chain = some f → ∃ i, Number.asRangeInt (some (bytesOf f.arg)) 1 18 = .ok i) ?_ ?_
  · intro _ _ _ _ _ y0 _ hb0 h
    obtain ⟨_, _, _, _, _, _, _, _, _, _, _, hfd⟩ := builtin_shape hb0
    exact level_fd (rest := []) h (by rw [hfd]; rfl) (fun f hf => by simp [chainFractionDigits] at hf)
  · intro _ _ _ _ _ _ r _ _ _ _ _ chain ⟨hfd, hF⟩ htd h
    obtain ⟨_, _, _, _, _, _, _, _, _, _, b11⟩ := typedefOverlay_ok htd
    exact level_fd (rest := .td r.td :: chain) h
      (by rw [b11, hfd, chainFd_td_cons]) (by rw [chainFd_td_cons]; exact hF)

/-- (1) An error-free resolution went along a derivation chain; the resolved type has the
fraction-digits of the nearest type statement of the chain that states them, and `asRangeInt(1, 18)`
accepted that statement's argument. -/
theorem resolve_chain_fd (env : Env) :
    ∀ (fuel : Nat) (root : Mod) (scope : List Stmt) (t : Stmt) (stack : List TypeKey) (y : YType),
      scopeKinds.contains t.kw = false →
      resolveTypeF env fuel root scope t stack = { ty := some y, errs := [] } →
      ∃ kind chain, DerivesFrom env.reg root scope t kind chain ∧
        y.fractionDigits = ((chainFractionDigits chain).map parseFd).getD 0 ∧
        ∀ f, chainFractionDigits chain = some f →
          ∃ i, Number.asRangeInt (some (bytesOf f.arg)) 1 18 = .ok i ∧ y.fractionDigits = i.toNat := by
  intro fuel root scope t stack y ht h
  obtain ⟨kind, chain, hder, hfd, hF⟩ := resolve_chain_fd_ok env fuel root scope t stack y ht h
  refine ⟨kind, chain, hder, hfd, ?_⟩
  intro f hf
  obtain ⟨i, hi⟩ := hF f hf
  refine ⟨i, hi, ?_⟩
  rw [hfd, hf]
  simp only [Option.map_some, Option.getD_some]
  unfold parseFd
  rw [hi]

/-! ## The C15 reading -/

open Goyang.Spec.Number in
/-- (2) A `fraction-digits` argument written as an integer literal (`[sign] digits`, no superfluous
leading zeros) that `asRangeInt(1, 18)` accepted as `i`: `i` is the integer written and lies in
1..18. -/
theorem fd_written {f : Stmt} {l : Lit} {i : Int}
    (hd : l.digitsOK) (hip : l.ip ≠ []) (hfp : l.fp = none) (hz : l.noLeadingZero)
    (hw : bytesOf f.arg = l.render) (h : Number.asRangeInt (some (bytesOf f.arg)) 1 18 = .ok i) :
    l.num = i ∧ 1 ≤ i ∧ i ≤ 18 := by
  rw [hw] at h
  exact (Goyang.Props.C15.asRangeInt_exact l 1 18 i hd hip hfp hz (by decide) (by decide)).mp h

end Goyang.Lemmas.TypesFdRfc
