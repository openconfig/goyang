/-
Totality of the parser model: with the fuel `parseText` supplies no loop runs dry and no fault is
reached, for arbitrary byte input.  Proved once for any token source whose fetches lower a
measure (`Tame`), then instantiated with the lexer (`rank`, `Lemmas/Lex.lean`).
-/
import Goyang.Model.Parse
import Goyang.Lemmas.Lex

namespace Goyang.Lemmas.Parse
open Goyang.Model.Lex (Token ErrLine ErrClass Code Fault Lexer)
open Goyang.Model.Parse

/-- a source with an invariant `inv` and a measure `μ` that every fetched token lowers -/
structure Tame {σ : Type} (S : Source σ) (inv : σ → Prop) (μ : σ → Nat) : Prop where
  pull_inv : ∀ b s, inv s → inv (S.pull b s).2
  pull_some : ∀ b s t, inv s → (S.pull b s).1 = some t → μ (S.pull b s).2 + 1 ≤ μ s
  pull_none : ∀ b s, inv s → (S.pull b s).1 = none → μ (S.pull b s).2 ≤ μ s
  addErr_inv : ∀ e s, inv s → inv (S.addErr e s)
  addErr_mu : ∀ e s, μ (S.addErr e s) = μ s
  fault_none : ∀ s, inv s → S.fault s = .none

/-- `omega`, after reducing projections of pairs if need be -/
local macro "somega" : tactic => `(tactic| first | omega | (simp only; omega))

section generic
variable {σ : Type} {S : Source σ} {inv : σ → Prop} {μ : σ → Nat}

/-- tokens the parser can still get: pushed back + what the source has -/
def size (μ : σ → Nat) (p : Parser σ) : Nat := μ p.src + p.tokens.length

/-- parser invariant -/
structure Good (inv : σ → Prop) (p : Parser σ) : Prop where
  src : inv p.src
  fault : p.fault = .none

theorem pullTok_spec (hT : Tame S inv μ) (b : Bool) (p : Parser σ) (hg : Good inv p) :
    Good inv (pullTok S b p).2 ∧
    (∀ t, (pullTok S b p).1 = some t → size μ (pullTok S b p).2 + 1 ≤ size μ p) ∧
    ((pullTok S b p).1 = none → size μ (pullTok S b p).2 ≤ size μ p) := by
  unfold pullTok size
  simp only
  refine ⟨⟨hT.pull_inv b _ hg.src, hg.fault⟩, ?_, ?_⟩
  · intro t ht; have := hT.pull_some b _ t hg.src ht; omega
  · intro hn; have := hT.pull_none b _ hg.src hn; omega

theorem push_spec (ts : List Token) (p : Parser σ) (hg : Good inv p) :
    Good inv (push ts p) ∧ size μ (push ts p) = size μ p + ts.length := by
  unfold push size
  refine ⟨⟨hg.src, hg.fault⟩, ?_⟩
  simp only [List.length_append, List.length_reverse]; omega

theorem addErr_spec (hT : Tame S inv μ) (e : ErrLine) (p : Parser σ) (hg : Good inv p) :
    Good inv (addErr S e p) ∧ size μ (addErr S e p) = size μ p ∧ (addErr S e p).depth = p.depth := by
  unfold addErr size
  exact ⟨⟨hT.addErr_inv e _ hg.src, hg.fault⟩, by simp only; rw [hT.addErr_mu], rfl⟩

theorem concatLoop_spec (hT : Tame S inv μ) (b : Bool) : ∀ (f : Nat) (t : Token) (p : Parser σ),
    Good inv p → size μ p + 1 ≤ f →
    Good inv (concatLoop S b f t p).2 ∧ size μ (concatLoop S b f t p).2 ≤ size μ p := by
  intro f
  induction f with
  | zero => intro t p _ h; omega
  | succ f ih =>
    intro t p hg hf
    unfold concatLoop
    simp only
    obtain ⟨g1, s1, n1⟩ := pullTok_spec hT b p hg
    split
    · rename_i hn; exact ⟨g1, n1 hn⟩
    · rename_i nt hnt
      have hs1 := s1 nt hnt
      split
      · split
        · obtain ⟨g2, e2⟩ := push_spec (μ := μ) [nt] _ g1
          exact ⟨g2, by rw [e2]; simp only [List.length_cons, List.length_nil]; omega⟩
        · obtain ⟨g2, s2, n2⟩ := pullTok_spec hT b _ g1
          split
          · rename_i hn
            obtain ⟨g3, e3⟩ := push_spec (μ := μ) [nt] _ g2
            have := n2 hn
            exact ⟨g3, by rw [e3]; simp only [List.length_cons, List.length_nil]; omega⟩
          · rename_i nnt hnnt
            have hs2 := s2 nnt hnnt
            split
            · obtain ⟨g3, l3⟩ := ih { t with text := t.text ++ nnt.text } _ g2 (by omega)
              exact ⟨g3, by omega⟩
            · obtain ⟨g3, e3⟩ := push_spec (μ := μ) [nnt, nt] _ g2
              exact ⟨g3, by rw [e3]; simp only [List.length_cons, List.length_nil]; omega⟩
      · obtain ⟨g2, e2⟩ := push_spec (μ := μ) [nt] _ g1
        exact ⟨g2, by rw [e2]; simp only [List.length_cons, List.length_nil]; omega⟩

/-- `parser.next`: a returned token lowers `size`; `depth` is not touched -/
theorem next_spec (hT : Tame S inv μ) (b : Bool) (f : Nat) (p : Parser σ) (hg : Good inv p)
    (hf : size μ p ≤ f) :
    Good inv (next S b f p).2 ∧
    (∀ t, (next S b f p).1 = some t → size μ (next S b f p).2 + 1 ≤ size μ p) ∧
    ((next S b f p).1 = none → size μ (next S b f p).2 ≤ size μ p) := by
  unfold next
  split
  · rename_i t ts ht
    refine ⟨⟨hg.src, hg.fault⟩, ?_, fun h => by cases h⟩
    intro _ _
    unfold size; rw [ht]; simp only [List.length_cons]; omega
  · simp only
    obtain ⟨g1, s1, n1⟩ := pullTok_spec hT b p hg
    split
    · rename_i hn; exact ⟨g1, (fun _ h => by cases h), fun _ => n1 hn⟩
    · rename_i t ht
      have hs1 := s1 t ht
      split
      · obtain ⟨g2, l2⟩ := concatLoop_spec hT b f t _ g1 (by omega)
        exact ⟨g2, (fun _ _ => by simp only; omega), fun h => by cases h⟩
      · exact ⟨g1, fun _ _ => hs1, fun h => by cases h⟩

theorem fetchArg_spec (hT : Tame S inv μ) (kw : Token) (f : Nat) (p : Parser σ) (hg : Good inv p)
    (hf : size μ p ≤ f) :
    Good inv (fetchArg S kw f p).2.2 ∧
    (∀ e, (fetchArg S kw f p).2.1 = some e → size μ (fetchArg S kw f p).2.2 + 1 ≤ size μ p) ∧
    size μ (fetchArg S kw f p).2.2 ≤ size μ p := by
  unfold fetchArg
  simp only
  obtain ⟨g1, s1, n1⟩ := next_spec hT (kw.text = patternKw) f p hg hf
  split
  · rename_i a ha
    have hs1 := s1 a ha
    split
    · obtain ⟨g2, s2, n2⟩ := next_spec hT false f _ g1 (by omega)
      refine ⟨g2, fun e he => ?_, ?_⟩
      · have := s2 e he; simp only; omega
      · simp only
        cases h : (next S false f (next S (decide (kw.text = patternKw)) f p).2).1 with
        | none => have := n2 h; omega
        | some e => have := s2 e h; omega
    · exact ⟨g1, (fun e _ => by simp only; omega), by simp only; omega⟩
  · rename_i hn
    exact ⟨g1, (fun e he => by cases he), n1 hn⟩

theorem stmt_block_spec (hT : Tame S inv μ) : ∀ (f : Nat),
    (∀ (p : Parser σ), Good inv p → size μ p + 1 ≤ f →
      Good inv (nextStatement S f p).2 ∧ size μ (nextStatement S f p).2 ≤ size μ p ∧
      (∀ s, (nextStatement S f p).1 = .stmt s → size μ (nextStatement S f p).2 + 1 ≤ size μ p) ∧
      (∀ a b c, (nextStatement S f p).1 = .brace a b c → size μ (nextStatement S f p).2 + 1 ≤ size μ p)) ∧
    (∀ (acc : List Statement) (p : Parser σ), Good inv p → size μ p + 2 ≤ f →
      Good inv (blockLoop S f acc p).2 ∧ size μ (blockLoop S f acc p).2 ≤ size μ p) := by
  intro f
  induction f with
  | zero => exact ⟨(fun p _ h => by somega), (fun _ p _ h => by somega)⟩
  | succ f ih =>
    obtain ⟨ihs, ihb⟩ := ih
    constructor
    · intro p hg hf
      -- split the definition in one copy (`hr`), not in every occurrence in the goal
      generalize hr : nextStatement S (f + 1) p = r
      unfold nextStatement at hr
      simp only at hr
      obtain ⟨g1, s1, n1⟩ := next_spec hT false f p hg (by somega)
      split at hr
      · rename_i hn
        subst hr
        exact ⟨g1, n1 hn, (fun _ h => by cases h), (fun _ _ _ h => by cases h)⟩
      · rename_i t ht
        have hs1 := s1 t ht
        split at hr
        · subst hr
          refine ⟨⟨g1.src, g1.fault⟩, ?_, (fun _ h => by cases h), fun _ _ _ _ => ?_⟩
          · show size μ (next S false f p).2 ≤ _; somega
          · show size μ (next S false f p).2 + 1 ≤ _; somega
        · split at hr
          · subst hr
            obtain ⟨g2, e2, _⟩ := addErr_spec hT (tokenErr t .keywordNotUnquoted) _ g1
            exact ⟨g2, by rw [e2]; somega, (fun _ _ => by rw [e2]; somega), (fun _ _ _ h => by cases h)⟩
          · obtain ⟨ga, sa, la⟩ := fetchArg_spec hT t f _ g1 (by somega)
            split at hr
            · subst hr
              obtain ⟨g2, e2, _⟩ := addErr_spec hT { file := t.file, pos := none, cls := .unexpectedEOF } _ ga
              exact ⟨g2, by rw [e2]; somega, (fun _ h => by cases h), (fun _ _ _ h => by cases h)⟩
            · rename_i e he
              have hsa := sa e he
              split at hr
              · subst hr
                exact ⟨ga, by somega, (fun _ _ => by somega), (fun _ _ _ h => by cases h)⟩
              · split at hr
                · have gb : Good inv (setDepth ((fetchArg S t f (next S false f p).2).2.2.depth + 1)
                      (fetchArg S t f (next S false f p).2).2.2) := ⟨ga.src, ga.fault⟩
                  obtain ⟨g3, l3⟩ := ihb [] _ gb (by show size μ (fetchArg S t f (next S false f p).2).2.2 + 2 ≤ f; omega)
                  have l3' : size μ (blockLoop S f [] (setDepth ((fetchArg S t f (next S false f p).2).2.2.depth + 1)
                      (fetchArg S t f (next S false f p).2).2.2)).2 ≤
                      size μ (fetchArg S t f (next S false f p).2).2.2 := l3
                  split at hr
                  · subst hr
                    exact ⟨g3, by somega, (fun _ h => by cases h), (fun _ _ _ h => by cases h)⟩
                  · subst hr
                    exact ⟨g3, by somega, (fun _ _ => by somega), (fun _ _ _ h => by cases h)⟩
                · subst hr
                  obtain ⟨g2, e2, _⟩ := addErr_spec hT (tokenErr e .expectedSemiOrBrace) _ ga
                  exact ⟨g2, by rw [e2]; somega, (fun _ _ => by rw [e2]; somega), (fun _ _ _ h => by cases h)⟩
    · intro acc p hg hf
      unfold blockLoop
      simp only
      obtain ⟨g1, l1, s1, b1⟩ := ihs p hg (by somega)
      split
      · exact ⟨g1, l1⟩
      · exact ⟨g1, l1⟩
      · rename_i s hs
        have := s1 s hs
        obtain ⟨g2, l2⟩ := ihb (acc ++ [s]) _ g1 (by somega)
        exact ⟨g2, by somega⟩

theorem topLoop_spec (hT : Tame S inv μ) : ∀ (f : Nat) (acc : List Statement) (p : Parser σ),
    Good inv p → size μ p + 2 ≤ f → Good inv (topLoop S f acc p).2 := by
  intro f
  induction f with
  | zero => intro _ p _ h; omega
  | succ f ih =>
    intro acc p hg hf
    unfold topLoop
    simp only
    obtain ⟨g1, l1, s1, b1⟩ := (stmt_block_spec hT f).1 p hg (by omega)
    split
    · exact g1
    · rename_i a b c hb
      have := b1 a b c hb
      obtain ⟨g2, e2, _⟩ := addErr_spec hT { file := a, pos := some (b, c), cls := .unexpectedRBrace } _ g1
      exact ih acc _ g2 (by rw [e2]; omega)
    · rename_i s hs
      have := s1 s hs
      exact ih (acc ++ [s]) _ g1 (by omega)

/-- with enough fuel `Parse` over a tame source never faults -/
theorem parseWith_no_fault (hT : Tame S inv μ) (fuel : Nat) (s : σ) (hs : inv s) (hf : μ s + 2 ≤ fuel) :
    ∀ f, parseWith S fuel s ≠ .fault f := by
  intro f
  unfold parseWith
  simp only
  have hg : Good inv (initParser s) := ⟨hs, rfl⟩
  have h1 := topLoop_spec hT fuel [] _ hg (by unfold size initParser; simpa using hf)
  have h2 : Good inv (checkStatementDepthIsZero S (topLoop S fuel [] (initParser s)).2) := by
    unfold checkStatementDepthIsZero
    split
    · exact h1
    · exact (addErr_spec hT _ _ h1).1
  rw [if_neg (by rw [h2.fault]; simp)]
  rw [if_neg (by rw [hT.fault_none _ h2.src]; simp)]
  split <;> simp

end generic

/-! ## the lexer as a tame source -/

open Goyang.Lemmas.Lex in
/-- invariant of the lexer between two calls of `NextToken` -/
def LexInv (l : Lexer) : Prop := Ok l ∧ (l.state = .ground ∨ l.state = .done)

open Goyang.Lemmas.Lex Goyang.Model.Lex in
theorem skipErrors_spec : ∀ (f : Nat) (l : Lexer), LexInv l → rank l + 1 ≤ f →
    LexInv (skipErrors f l).2 ∧
    (∀ t, (skipErrors f l).1 = some t → rank (skipErrors f l).2 + 1 ≤ rank l) ∧
    ((skipErrors f l).1 = none → rank (skipErrors f l).2 ≤ rank l) := by
  intro f
  induction f with
  | zero => intro l _ h; omega
  | succ f ih =>
    intro l hi hf
    unfold skipErrors
    simp only
    have hp := nextToken_spec l hi.1 hi.2
    split
    · rename_i hn
      exact ⟨⟨hp.ok, hp.st⟩, (fun _ h => by cases h), fun _ => (hp.none_rank hn).1⟩
    · rename_i t ht
      have hr := hp.some_rank t ht
      split
      · obtain ⟨i2, s2, n2⟩ := ih (nextToken l).2 ⟨hp.ok, hp.st⟩ (by omega)
        refine ⟨i2, fun t' ht' => ?_, fun hn => ?_⟩
        · have := s2 t' ht'; omega
        · have := n2 hn; omega
      · exact ⟨⟨hp.ok, hp.st⟩, (fun _ _ => hr), fun h => by cases h⟩

open Goyang.Lemmas.Lex Goyang.Model.Lex in
theorem lexSource_tame : Tame lexSource LexInv rank := by
  have hfuel : ∀ (b : Bool) (l : Lexer), rank { l with inPattern := b } + 1 ≤
      l.items.length + l.rest.length + (l.pos - l.start) + 2 := by
    intro b l
    unfold rank unread Lexer.pos
    cases l.state <;> simp only [weight] <;> omega
  have hinv : ∀ (b : Bool) (l : Lexer), LexInv l → LexInv { l with inPattern := b } :=
    fun b l h => ⟨⟨h.1.fault, h.1.start_le⟩, h.2⟩
  refine ⟨?_, ?_, ?_, ?_, ?_, ?_⟩
  · intro b l hi
    exact (skipErrors_spec _ _ (hinv b l hi) (hfuel b l)).1
  · intro b l t hi ht
    exact (skipErrors_spec _ _ (hinv b l hi) (hfuel b l)).2.1 t ht
  · intro b l hi hn
    exact (skipErrors_spec _ _ (hinv b l hi) (hfuel b l)).2.2 hn
  · intro e l hi
    exact ⟨⟨hi.1.fault, hi.1.start_le⟩, hi.2⟩
  · intro e l; rfl
  · intro l hi; exact hi.1.fault

open Goyang.Lemmas.Lex Goyang.Model.Lex in
/-- `yang.Parse` as modelled never reaches a fault: every loop has enough fuel, no slice is out of
range — for arbitrary bytes as input -/
theorem parseText_no_fault (file text : List UInt8) (f : Fault) : parseText file text ≠ .fault f := by
  unfold parseText
  apply parseWith_no_fault lexSource_tame
  · unfold newLexer
    exact ⟨⟨rfl, Nat.le_refl _⟩, Or.inl rfl⟩
  · unfold parseFuel newLexer rank unread
    simp only [weight]
    split <;> simp <;> omega

end Goyang.Lemmas.Parse
