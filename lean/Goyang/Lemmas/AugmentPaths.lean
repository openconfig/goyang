import Goyang.Lemmas.AugmentTree
/-
C07 — the flat view as a list: `Spec.Augment.paths e` enumerates exactly the locations below `e`
with their data (`mem_paths`), provided child names are distinct at every level (which
`Entry.add` and `Entry.merge` maintain by refusing a second child of a name).
-/
namespace Goyang.Lemmas.AugmentPaths
open Goyang.Model Goyang.Spec.Augment Goyang.Lemmas.AugmentConfl Goyang.Lemmas.AugmentTree

mutual
/-- Child names are distinct at every level of the tree. -/
def NoDupNames : Entry → Prop
  | .mk _ c i o => (c.map (·.name)).Nodup ∧ NoDupNamesL c ∧ NoDupNamesL i ∧ NoDupNamesL o
def NoDupNamesL : List Entry → Prop
  | [] => True
  | e :: es => NoDupNames e ∧ NoDupNamesL es
end

theorem implicitIO_dataAt (e : Entry) (b : Bool) (P : NPath) (d : EData) :
    dataAt (implicitIO e b) P = some d ↔ P = [] ∧ d = nodeData (implicitIO e b).d := by
  cases P with
  | nil => simp [dataAt_nil, eq_comm]
  | cons k r =>
    rw [dataAt_cons]
    have : kid (implicitIO e b) k = none := by simp [kid, implicitIO, Entry.child?]
    simp [this]

mutual
theorem mem_paths : ∀ (e : Entry), NoDupNames e → ∀ (P : NPath) (d : EData), (P, d) ∈ paths e ↔ dataAt e P = some d
  | .mk dd c i o, h, P, d => by
    obtain ⟨hn, hc, hi, ho⟩ := h
    rw [paths]
    cases P with
    | nil =>
      simp only [List.mem_cons, Prod.mk.injEq, true_and, dataAt_nil, mk_d, Option.some.injEq]
      constructor
      · rintro (h | h)
        · exact h.symm
        · exfalso
          by_cases hr : dd.isRpc = true
          · simp only [hr, if_true, List.mem_append] at h
            rcases h with h | h
            · exact nil_not_mem_pathsIO _ _ _ _ h
            · exact nil_not_mem_pathsIO _ _ _ _ h
          · simp only [hr, Bool.false_eq_true, if_false] at h
            exact nil_not_mem_pathsL _ _ h
      · exact fun h => Or.inl h.symm
    | cons k r =>
      simp only [List.mem_cons, Prod.mk.injEq, reduceCtorEq, false_and, false_or]
      rw [dataAt_cons]
      by_cases hr : dd.isRpc = true
      · simp only [hr, if_true, List.mem_append]
        rw [mem_pathsIO "input" _ i hi k r d, mem_pathsIO "output" _ o ho k r d]
        rw [kid_rpc (e := .mk dd c i o) hr]
        simp only [mk_inp, mk_out]
        by_cases hk1 : k = "input"
        · subst hk1
          simp only [true_and, beq_self_eq_true, if_true, Option.bind_some]
          have : ¬ ("input" = "output") := by decide
          simp only [this, false_and, or_false]
          cases i with
          | nil =>
            simp only [List.head?_nil, Option.getD_none]
            exact (implicitIO_dataAt _ _ _ _).symm
          | cons x xs => simp
        · by_cases hk2 : k = "output"
          · subst hk2
            have h1 : ("output" == "input") = false := by decide
            simp only [hk1, false_and, false_or, true_and, h1, Bool.false_eq_true, if_false, beq_self_eq_true,
              if_true, Option.bind_some]
            cases o with
            | nil =>
              simp only [List.head?_nil, Option.getD_none]
              exact (implicitIO_dataAt _ _ _ _).symm
            | cons x xs => simp
          · have h1 : (k == "input") = false := by simpa using hk1
            have h2 : (k == "output") = false := by simpa using hk2
            simp [hk1, hk2, h1, h2]
      · simp only [hr, Bool.false_eq_true, if_false]
        rw [mem_pathsL c hc hn k r d]
        rw [kid_nonrpc (by simpa using hr)]
        simp only [Entry.child?, mk_dir]
        cases c.find? (·.name == k) with
        | none => simp
        | some x => simp
theorem nil_not_mem_pathsL : ∀ (l : List Entry) (d : EData), ([], d) ∉ pathsL l
  | [], d => by simp [pathsL]
  | e :: es, d => by
    rw [pathsL]
    simp only [List.mem_append, List.mem_map, Prod.mk.injEq, reduceCtorEq, false_and, and_false, exists_false, false_or]
    exact nil_not_mem_pathsL es d
theorem nil_not_mem_pathsIO : ∀ (k : String) (impl : EData) (l : List Entry) (d : EData), ([], d) ∉ pathsIO k impl l
  | k, impl, [], d => by simp [pathsIO]
  | k, impl, e :: es, d => by simp [pathsIO]
theorem mem_pathsL : ∀ (l : List Entry), NoDupNamesL l → (l.map (·.name)).Nodup → ∀ (k : String) (P : NPath) (d : EData),
    (k :: P, d) ∈ pathsL l ↔ ∃ c, l.find? (·.name == k) = some c ∧ dataAt c P = some d
  | [], _, _, k, P, d => by simp [pathsL]
  | e :: es, h, hn, k, P, d => by
    obtain ⟨he, hes⟩ := h
    simp only [List.map_cons, List.nodup_cons] at hn
    rw [pathsL]
    simp only [List.mem_append, List.mem_map, Prod.mk.injEq, List.cons.injEq]
    rw [mem_pathsL es hes hn.2 k P d, List.find?_cons]
    by_cases hk : e.name = k
    · subst hk
      simp only [beq_self_eq_true]
      constructor
      · rintro (⟨x, hx, ⟨_, rfl⟩, rfl⟩ | ⟨c, hc, _⟩)
        · exact ⟨e, rfl, (mem_paths e he x.1 x.2).mp hx⟩
        · exfalso
          have := List.find?_some hc
          simp only [beq_iff_eq] at this
          exact hn.1 (this ▸ List.mem_map.mpr ⟨c, List.mem_of_find?_eq_some hc, rfl⟩)
      · rintro ⟨c, hc, hd⟩
        simp only [Option.some.injEq] at hc
        subst hc
        exact Or.inl ⟨(P, d), (mem_paths _ he P d).mpr hd, by simp⟩
    · have hb : (e.name == k) = false := by simpa using hk
      simp only [hb]
      constructor
      · rintro (⟨x, _, ⟨h1, _⟩, _⟩ | h)
        · exact absurd h1 hk
        · exact h
      · exact fun h => Or.inr h
theorem mem_pathsIO : ∀ (key : String) (impl : EData) (l : List Entry), NoDupNamesL l → ∀ (k : String) (P : NPath) (d : EData),
    (k :: P, d) ∈ pathsIO key impl l ↔
      (k = key ∧ match l with | [] => (P = [] ∧ d = impl) | e :: _ => dataAt e P = some d)
  | key, impl, [], _, k, P, d => by simp [pathsIO, and_assoc]
  | key, impl, e :: es, h, k, P, d => by
    rw [pathsIO]
    simp only [List.mem_map, Prod.mk.injEq, List.cons.injEq]
    constructor
    · rintro ⟨x, hx, ⟨rfl, rfl⟩, rfl⟩
      exact ⟨rfl, (mem_paths e h.1 x.1 x.2).mp hx⟩
    · rintro ⟨rfl, hd⟩
      exact ⟨(P, d), (mem_paths e h.1 P d).mpr hd, ⟨rfl, rfl⟩, rfl⟩
end

/-! ### attribution below a grafted root: `Namespace()` finds the nearest stamp -/

/-- The node one step below `e` (the `next` of `Entry.stampAt.go`, `Entry.getAt`, …). -/
def stepTo (e : Entry) : Step → Option Entry
  | .child k => e.child? k
  | .input => e.inp.head?
  | .output => e.out.head?

theorem getAt_cons (e : Entry) (s : Step) (p : Path) : e.getAt (s :: p) = (stepTo e s).bind (·.getAt p) := by
  cases s <;> rfl

theorem stampGo_cons (e : Entry) (s : Step) (p : Path) (acc : Option String) :
    Entry.stampAt.go e (s :: p) acc =
      match stepTo e s with
      | some c => Entry.stampAt.go c p (match c.d.ns with | some n => some n | none => acc)
      | none => acc := by
  cases s <;> rfl

theorem stampGo_append : ∀ (p : Path) (e x : Entry) (q : Path) (acc : Option String), e.getAt p = some x →
    Entry.stampAt.go e (p ++ q) acc = Entry.stampAt.go x q (Entry.stampAt.go e p acc)
  | [], e, x, q, acc, h => by
    simp only [Entry.getAt, Option.some.injEq] at h; subst h
    simp [Entry.stampAt.go]
  | s :: p, e, x, q, acc, h => by
    rw [getAt_cons] at h
    rw [List.cons_append, stampGo_cons, stampGo_cons]
    cases hc : stepTo e s with
    | none => simp [hc] at h
    | some c =>
      simp only [hc, Option.bind_some] at h
      exact stampGo_append p c x q _ h

theorem stampGo_at_stamped : ∀ (p : Path) (e x : Entry) (acc : Option String) (n : String), p ≠ [] →
    e.getAt p = some x → x.d.ns = some n → Entry.stampAt.go e p acc = some n
  | [], _, _, _, _, hp, _, _ => absurd rfl hp
  | s :: p, e, x, acc, n, _, h, hn => by
    rw [getAt_cons] at h
    rw [stampGo_cons]
    cases hc : stepTo e s with
    | none => simp [hc] at h
    | some c =>
      simp only [hc, Option.bind_some] at h
      cases p with
      | nil =>
        simp only [Entry.getAt, Option.some.injEq] at h; subst h
        simp [Entry.stampAt.go, hn]
      | cons s' p' => exact stampGo_at_stamped (s' :: p') c x _ n (by simp) h hn

theorem stampGo_unstamped : ∀ (q : Path) (x : Entry) (acc : Option String),
    (∀ q' y, q' ≠ [] → q' <+: q → x.getAt q' = some y → y.d.ns = none) → Entry.stampAt.go x q acc = acc
  | [], _, _, _ => by simp [Entry.stampAt.go]
  | s :: q, x, acc, h => by
    rw [stampGo_cons]
    cases hc : stepTo x s with
    | none => rfl
    | some c =>
      have hcn : c.d.ns = none := h [s] c (by simp) (by simp) (by rw [getAt_cons, hc]; rfl)
      simp only [hcn]
      apply stampGo_unstamped q c acc
      intro q' y hne hpre hget
      exact h (s :: q') y (by simp) (List.cons_prefix_cons.mpr ⟨rfl, hpre⟩) (by rw [getAt_cons, hc]; exact hget)

/-- Below a stamped node, as far as no deeper node carries a stamp of its own, `Namespace()`
(the model's `stampAt`: nearest stamp on the way up, the root excluded) answers that node's stamp. -/
theorem stampAt_below (root x : Entry) (p q : Path) (n : String) (hp : p ≠ []) (hx : root.getAt p = some x)
    (hn : x.d.ns = some n) (hq : ∀ q' y, q' ≠ [] → q' <+: q → x.getAt q' = some y → y.d.ns = none) :
    root.stampAt (p ++ q) = some n := by
  unfold Entry.stampAt
  rw [stampGo_append p root x q none hx, stampGo_at_stamped p root x none n hp hx hn, stampGo_unstamped q x _ hq]

end Goyang.Lemmas.AugmentPaths
