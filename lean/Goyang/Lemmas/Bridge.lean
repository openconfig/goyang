import Goyang.Lemmas.BridgeTraverse
import Goyang.Lemmas.AugmentReport
import Goyang.Lemmas.AugmentPaths
import Goyang.Lemmas.FuelProcess
import Goyang.Lemmas.RegistryAux
/-
Bridge lemmas, part 2 (C07): the state with which `processAll` enters the augment phase
(`AugmentReport.phaseStart`, which is C04's `pstate0`) satisfies the hypotheses `PhaseInput` under
which C07 analyses the augment loop.  What is left as hypothesis speaks about the registry and the
statements loaded into it:

* `LoadedShape reg`   — the registry has the shape loading produces (distinct sequence numbers,
                        no module bound in both tables): `Fuel.LoadedShape`, decidable;
* `AugPosDistinct reg` — the augment statements of one (sub)module stand at different positions;
* `AugArgsPlain reg`  — every augment argument is an absolute schema node identifier: it starts
                        with `/` and no step is empty, `.` or `..` (before or behind the prefix).

Also here: `NoDupNames` (C07) against `KeysUnique` / `U` (C04) and along the pipeline; the module
cache only grows and holds the tree of every converted (sub)module (`cacheMono`, `tstate_cache_all`);
its keys are distinct (`cacheKeys`, `tstate_ckeys_nodup`).
-/
set_option linter.unusedVariables false
set_option linter.unusedSimpArgs false
open Goyang.Lemmas.ListAux (foldl_inv)
namespace Goyang.Lemmas.Bridge
open Goyang.Model Goyang.Spec.Tree Goyang.Lemmas.Tree
open Goyang.Lemmas.AugmentModel Goyang.Lemmas.AugmentLoop Goyang.Lemmas.AugmentReport Goyang.Lemmas.AugmentPaths

/-! ### input predicates -/

instance (p : String) : Decidable (PlainPart p) := by unfold PlainPart; infer_instance

/-- An absolute schema node identifier without empty, `.` or `..` steps. -/
def PlainAbsArg (arg : String) : Prop :=
  (arg.splitOn "/").head? = some "" ∧ ∀ p ∈ (arg.splitOn "/").tail, PlainPart p

instance (arg : String) : Decidable (PlainAbsArg arg) := by unfold PlainAbsArg; infer_instance

/-- Every augment statement at the top level of a loaded (sub)module has such an argument. -/
def AugArgsPlain (reg : Registry) : Prop := ∀ m ∈ reg.mods, ∀ s ∈ m.stmt.all "augment", PlainAbsArg s.arg

instance (reg : Registry) : Decidable (AugArgsPlain reg) := by unfold AugArgsPlain; infer_instance

/-- The augment statements of one (sub)module stand at different positions of its text. -/
def AugPosDistinct (reg : Registry) : Prop :=
  ∀ m ∈ reg.mods, ((m.stmt.all "augment").map fun s => (s.line, s.col)).Nodup

instance (reg : Registry) : Decidable (AugPosDistinct reg) := by unfold AugPosDistinct; infer_instance

instance (reg : Registry) : Decidable (Fuel.LoadedShape reg) :=
  decidable_of_iff ((reg.mods.map (·.seq)).Nodup ∧
      ∀ m ∈ reg.mods, ¬ (reg.modules.any (·.2 == m.seq) = true ∧ reg.subModules.any (·.2 == m.seq) = true))
    ⟨fun h => ⟨h.1, h.2⟩, fun h => ⟨h.seqs, h.tables⟩⟩

/-! ### the conversion of all modules, with the call sites known -/

theorem keyOrder_mem (reg : Registry) (m : Mod) (h : m ∈ keyOrder reg) : m ∈ reg.mods := by
  unfold keyOrder at h
  simp only [List.mem_append, List.mem_filterMap] at h
  rcases h with ⟨kv, _, h⟩ | ⟨kv, _, h⟩ <;> exact RegistryAux.byId_mem h

theorem stOKT_empty (F : Frame) (S : List Nat) : StOKT F S {} :=
  ⟨stOK_empty _ _, by simp, by simp⟩

theorem tstate_okT (reg : Registry) (opts : Opts) (plug : Plug) {F : Frame}
    (hC : ClosedT (envOf reg opts plug) F) : StOKT F [] (tstate reg opts plug) := by
  unfold tstate
  refine foldl_inv (fun st => StOKT F [] st ∧ True) _ _ _ ⟨stOKT_empty F [], trivial⟩ ?_ |>.1
  intro st m hm hst
  exact ⟨(toEntry_okT hC (entryFuel reg) m [] m.stmt [] st [] (InvT.ofMod (keyOrder_mem reg m hm)) hst.1).2.1, trivial⟩

/-! ### the rows of the pending-augment table -/

/-- A row of `TState.augs`: filed by a loaded (sub)module, one entry per augment statement of it,
in written order; each entry remembers its statement and is named by the statement's argument
(or is an error entry, with the empty name). -/
def RowOK (reg : Registry) (p : Nat × List Entry) : Prop :=
  ∃ m ∈ reg.mods, p.1 = m.seq ∧ p.2.map (·.d.node) = m.stmt.all "augment" ∧ (∀ a ∈ p.2, a.d.nodeMod = m.seq) ∧
    ∀ a ∈ p.2, a.name = a.d.node.arg ∨ a.name = ""

def rowFrame (reg : Registry) : Frame := { PE := fun _ => True, PR := RowOK reg }

theorem closedT_rowFrame (env : Env) : ClosedT env (rowFrame env.reg) where
  withD _ _ _ _ _ _ := trivial
  addErrs _ _ _ := trivial
  addErr _ _ _ := trivial
  importErrors _ _ _ := trivial
  add _ _ _ _ _ _ _ _ _ _ _ _ _ _ _ := trivial
  rpcFlag _ _ _ _ _ _ _ _ _ _ _ := trivial
  merge _ _ _ _ _ := trivial
  setInp _ _ _ _ _ _ := trivial
  setOut _ _ _ _ _ _ := trivial
  typeSet _ _ _ _ := trivial
  laSet _ _ _ _ _ _ _ := trivial
  base0 _ _ _ _ := trivial
  errE _ _ _ _ _ := trivial
  leafE _ _ _ _ _ := trivial
  leafL _ _ _ _ _ _ _ := trivial
  row root scope n as inv hm _ h1 h2 h3 := by
    have hn := inv.top hm
    exact ⟨root, inv.root_mem, rfl, by rw [h1, hn], h2, h3⟩
  pc _ _ _ _ _ _ _ _ := trivial
  pxCache _ _ _ _ _ _ _ _ := trivial
  pxTriv _ _ _ _ _ := trivial
  pxErr _ _ _ _ _ := trivial
  pxDir _ _ _ _ _ _ _ _ _ _ _ _ := trivial

theorem tstate_rows (reg : Registry) (opts : Opts) (plug : Plug) : ∀ p ∈ (tstate reg opts plug).augs, RowOK reg p :=
  (tstate_okT reg opts plug (closedT_rowFrame (envOf reg opts plug))).rows

/-- The pending list of a tree, at the start of the augment phase, is empty or a row of `augs`. -/
theorem pendingOf_pstate0 (reg : Registry) (opts : Opts) (plug : Plug) (id : Nat) :
    (pstate0 reg opts plug).pendingOf id = [] ∨
    ∃ p ∈ (tstate reg opts plug).augs, p.1 = id ∧ (pstate0 reg opts plug).pendingOf id = p.2 := by
  unfold PState.pendingOf
  cases hf : (pstate0 reg opts plug).pending.find? (·.1 == id) with
  | none => left; rfl
  | some q =>
    simp only [Option.map_some, Option.getD_some]
    have hq := List.mem_of_find?_eq_some hf
    have hk : q.1 = id := by simpa using List.find?_some hf
    simp only [pstate0, pending0, List.mem_map] at hq
    obtain ⟨m, _, rfl⟩ := hq
    dsimp only at hk ⊢
    cases hg : (tstate reg opts plug).augs.find? (·.1 == m.seq) with
    | none => left; simp
    | some r =>
      right
      refine ⟨r, List.mem_of_find?_eq_some hg, ?_, by simp⟩
      have : r.1 = m.seq := by simpa using List.find?_some hg
      rw [this, hk]

theorem pendingOf_row (reg : Registry) (opts : Opts) (plug : Plug) (id : Nat) (a : Entry)
    (ha : a ∈ (pstate0 reg opts plug).pendingOf id) :
    ∃ p, RowOK reg p ∧ p.1 = id ∧ (pstate0 reg opts plug).pendingOf id = p.2 := by
  rcases pendingOf_pstate0 reg opts plug id with h | ⟨p, hp, h1, h2⟩
  · rw [h] at ha; cases ha
  · exact ⟨p, tstate_rows reg opts plug p hp, h1, h2⟩

/-! ### the four hypotheses of `PhaseInput` -/

theorem phaseStart_eq (reg : Registry) (opts : Opts) (plug : Plug) (s : PState) (order : List Nat)
    (h : phaseStart reg opts plug = some (s, order)) :
    s = pstate0 reg opts plug ∧ order = (augOrder reg).map (·.seq) := by
  unfold phaseStart at h
  simp only at h
  split at h
  · cases h
  · split at h
    · cases h
    · simp only [Option.some.injEq, Prod.mk.injEq] at h
      obtain ⟨hs, ho⟩ := h
      subst hs ho
      exact ⟨rfl, rfl⟩

/-- No augment entry is listed twice for one module. -/
theorem nodupPending_pstate0 (reg : Registry) (opts : Opts) (plug : Plug) (hpos : AugPosDistinct reg) :
    NodupPending (pstate0 reg opts plug) := by
  intro id
  rcases pendingOf_pstate0 reg opts plug id with h | ⟨p, hp, _, h2⟩
  · rw [h]; exact List.nodup_nil
  · rw [h2]
    obtain ⟨m, hm, _, hnodes, _, _⟩ := tstate_rows reg opts plug p hp
    have h1 : (m.stmt.all "augment").Nodup := ListAux.nodup_of_map _ _ (hpos m hm)
    rw [← hnodes] at h1
    exact ListAux.nodup_of_map _ _ h1

theorem plainAug_of_arg (reg : Registry) (id : Nat) (a : Entry) (h : a.d.name = "" ∨ PlainAbsArg a.d.name) :
    PlainAug reg id a := by
  unfold PlainAug findStart
  rcases h with h | ⟨h1, h2⟩
  · simp [h]
  · by_cases hn : (a.d.name == "") = true
    · simp [hn]
    · simp only [hn, Bool.false_eq_true, if_false, h1, if_true]
      split
      · rename_i t parts heq
        split at heq
        · cases heq
        · cases heq; exact h2
      · trivial

/-- Augment arguments that are absolute schema node identifiers give plain pending paths. -/
theorem plainPending_pstate0 (reg : Registry) (opts : Opts) (plug : Plug) (hplain : AugArgsPlain reg) :
    PlainPending reg (pstate0 reg opts plug) := by
  intro id a ha
  obtain ⟨p, ⟨m, hm, _, hnodes, _, hnames⟩, _, h2⟩ := pendingOf_row reg opts plug id a ha
  rw [h2] at ha
  apply plainAug_of_arg
  have hnode : a.d.node ∈ m.stmt.all "augment" := by
    rw [← hnodes]; exact List.mem_map_of_mem ha
  rcases hnames a ha with h | h
  · right
    have : a.d.name = a.d.node.arg := h
    rw [this]; exact hplain m hm _ hnode
  · left; exact h

/-- One row per tree in the pending table. -/
theorem keys_pstate0 (reg : Registry) (opts : Opts) (plug : Plug) (hL : Fuel.LoadedShape reg) :
    (keys (pstate0 reg opts plug)).Nodup :=
  Fuel.processAll_pending_keys_nodup reg hL _

/-- The tree of every (sub)module with augments exists. -/
theorem trees_pstate0 (reg : Registry) (opts : Opts) (plug : Plug) (id : Nat)
    (h : (pstate0 reg opts plug).pendingOf id ≠ []) : ((pstate0 reg opts plug).forest.tree? id).isSome = true := by
  obtain ⟨p, hp, h1, h2⟩ := pendingOf_ne_nil _ id h
  rw [tree?_isSome, ← h1]
  exact invB_pstate0 reg opts plug p hp h2

theorem phaseInput_pstate0 (reg : Registry) (opts : Opts) (plug : Plug) (hL : Fuel.LoadedShape reg)
    (hpos : AugPosDistinct reg) (hplain : AugArgsPlain reg) : PhaseInput reg (pstate0 reg opts plug) where
  plain := plainPending_pstate0 reg opts plug hplain
  nodup := nodupPending_pstate0 reg opts plug hpos
  keys := keys_pstate0 reg opts plug hL
  trees := trees_pstate0 reg opts plug

/-! ### `NoDupNames` (C07) against `KeysUnique` / `U` (C04) -/

theorem noDupNamesL_iff (l : List Entry) : NoDupNamesL l ↔ ∀ x ∈ l, NoDupNames x := by
  induction l with
  | nil => simp [NoDupNamesL]
  | cons a l ih => simp [NoDupNamesL, ih]

theorem noDupNames_mk (d : EData) (c i o : List Entry) : NoDupNames (.mk d c i o) ↔
    (c.map (·.name)).Nodup ∧ (∀ x ∈ c, NoDupNames x) ∧ (∀ x ∈ i, NoDupNames x) ∧ (∀ x ∈ o, NoDupNames x) := by
  rw [NoDupNames, noDupNamesL_iff, noDupNamesL_iff, noDupNamesL_iff]

/-- C04's `KeysUnique` (pairwise different sibling names, at most one rpc input and output, at
every node) is C07's `NoDupNames` plus the bound on input / output: `NoDupNames` asks nothing
about the names themselves (in particular not that they are non-empty). -/
theorem noDupNames_of_everyNode (q : Entry → Bool) (hq : ∀ x, q x = true → keysUniqueHere x = true) (e : Entry)
    (h : everyNode q e = true) : NoDupNames e := by
  induction e using entry_ind with
  | h d c i o hc hi ho =>
    rw [everyNode_mk] at h
    rw [noDupNames_mk]
    have := hq _ h.1
    rw [keysUniqueHere_iff] at this
    exact ⟨this.1, fun x hx => hc x hx (h.2.1 x hx), fun x hx => hi x hx (h.2.2.1 x hx),
      fun x hx => ho x hx (h.2.2.2 x hx)⟩

theorem noDupNames_of_keysUnique (e : Entry) (h : KeysUnique e) : NoDupNames e :=
  noDupNames_of_everyNode keysUniqueHere (fun _ h => h) e h

theorem keysUnique_iff (e : Entry) : KeysUnique e ↔
    NoDupNames e ∧ everyNode (fun x => decide (x.inp.length ≤ 1) && decide (x.out.length ≤ 1)) e = true := by
  induction e using entry_ind with
  | h d c i o hc hi ho =>
    unfold KeysUnique at hc hi ho ⊢
    rw [everyNode_mk, everyNode_mk, noDupNames_mk, keysUniqueHere_iff]
    constructor
    · rintro ⟨⟨h1, h2, h3⟩, h4, h5, h6⟩
      refine ⟨⟨h1, fun x hx => ((hc x hx).1 (h4 x hx)).1, fun x hx => ((hi x hx).1 (h5 x hx)).1,
        fun x hx => ((ho x hx).1 (h6 x hx)).1⟩, ?_, fun x hx => ((hc x hx).1 (h4 x hx)).2,
        fun x hx => ((hi x hx).1 (h5 x hx)).2, fun x hx => ((ho x hx).1 (h6 x hx)).2⟩
      show (decide (i.length ≤ 1) && decide (o.length ≤ 1)) = true
      rw [Bool.and_eq_true]; exact ⟨decide_eq_true h2, decide_eq_true h3⟩
    · rintro ⟨⟨h1, h4, h5, h6⟩, h23, k4, k5, k6⟩
      have h23' : (decide (i.length ≤ 1) && decide (o.length ≤ 1)) = true := h23
      rw [Bool.and_eq_true] at h23'
      exact ⟨⟨h1, of_decide_eq_true h23'.1, of_decide_eq_true h23'.2⟩, fun x hx => (hc x hx).2 ⟨h4 x hx, k4 x hx⟩,
        fun x hx => (hi x hx).2 ⟨h5 x hx, k5 x hx⟩, fun x hx => (ho x hx).2 ⟨h6 x hx, k6 x hx⟩⟩

theorem wfq_keysUnique (x : Entry) (h : wfq x = true) : keysUniqueHere x = true := by
  simp only [wfq, Bool.and_eq_true] at h; exact h.1.1

/-- `merge` keeps sibling names distinct, whatever it is given: a child whose name is taken is
refused (with a `duplicate-node` error), so no collision can make two siblings share a name. -/
theorem noDupNames_withD (b : Entry) (f : EData → EData) (hb : NoDupNames b) : NoDupNames (b.withD f) := by
  cases b with | mk d c i o => simp only [Entry.withD]; rw [noDupNames_mk] at hb ⊢; exact hb

theorem noDupNames_merge (e : Entry) (ns : Option String) (oe : Entry) (he : NoDupNames e)
    (ho : ∀ c ∈ oe.dir, NoDupNames c) : NoDupNames (e.merge ns oe) := by
  have step : ∀ (stamp : Entry → Entry) (x : Err), (∀ v, NoDupNames v → NoDupNames (stamp v)) → ∀ b v, v ∈ oe.dir →
      NoDupNames b → NoDupNames (match b.child? (stamp v).name with
        | some _ => b.addErr x
        | none => b.withDir (b.dir ++ [stamp v])) := by
    intro stamp x h1 b v hv hb
    split
    · exact noDupNames_withD _ _ hb
    · rename_i hk
      have hv' := h1 v (ho v hv)
      generalize stamp v = w at hk hv' ⊢
      cases b with | mk d c i o =>
      simp only [Entry.withDir, Entry.dir]
      rw [noDupNames_mk] at hb ⊢
      refine ⟨?_, ?_, hb.2.2⟩
      · rw [List.map_append, List.nodup_append]
        refine ⟨hb.1, by simp, ?_⟩
        intro a ha b' hb'
        simp only [List.map_cons, List.map_nil, List.mem_singleton] at hb'
        subst hb'
        obtain ⟨x, hx, rfl⟩ := List.mem_map.mp ha
        exact child?_none _ _ hk x hx
      · intro x hx
        rcases List.mem_append.mp hx with hx | hx
        · exact hb.2.1 x hx
        · simp only [List.mem_singleton] at hx; subst hx; exact hv'
  unfold Entry.merge
  cases ns with
  | none =>
    refine foldl_inv NoDupNames _ _ _ (noDupNames_withD _ _ he) ?_
    intro b v hv hb
    exact step id _ (fun v hv => hv) b v hv hb
  | some n =>
    refine foldl_inv NoDupNames _ _ _ (noDupNames_withD _ _ he) ?_
    intro b v hv hb
    exact step (fun v => v.withD fun d => { d with ns := some n }) _ (fun v hv => noDupNames_withD _ _ hv) b v hv hb

theorem updateAt_name' (g : Entry → Entry) (hg : ∀ y, (g y).name = y.name) : ∀ (p : Path) (e : Entry),
    (e.updateAt p g).name = e.name
  | [], e => hg e
  | s :: p, .mk d c i o => by cases s <;> rfl

/-- Updating one node by a function that keeps `NoDupNames` and the node's name keeps `NoDupNames`. -/
theorem noDupNames_updateAt (g : Entry → Entry) (hg : ∀ y, NoDupNames y → NoDupNames (g y))
    (hn : ∀ y, (g y).name = y.name) : ∀ (p : Path) (e : Entry), NoDupNames e → NoDupNames (e.updateAt p g)
  | [], e, h => hg e h
  | s :: p, .mk d c i o, h => by
    rw [noDupNames_mk] at h
    cases s with
    | child k =>
      simp only [Entry.updateAt]
      rw [noDupNames_mk]
      refine ⟨?_, ?_, h.2.2⟩
      · have : (c.map fun x => if (x.name == k) = true then x.updateAt p g else x).map (·.name) = c.map (·.name) := by
          rw [List.map_map]
          apply List.map_congr_left
          intro x _
          simp only [Function.comp]
          split
          · exact updateAt_name' g hn p x
          · rfl
        rw [this]; exact h.1
      · intro x hx
        obtain ⟨y, hy, rfl⟩ := List.mem_map.mp hx
        split
        · exact noDupNames_updateAt g hg hn p y (h.2.1 y hy)
        · exact h.2.1 y hy
    | input =>
      simp only [Entry.updateAt]
      rw [noDupNames_mk]
      refine ⟨h.1, h.2.1, ?_, h.2.2.2⟩
      intro x hx
      obtain ⟨y, hy, rfl⟩ := List.mem_map.mp hx
      exact noDupNames_updateAt g hg hn p y (h.2.2.1 y hy)
    | output =>
      simp only [Entry.updateAt]
      rw [noDupNames_mk]
      refine ⟨h.1, h.2.1, h.2.2.1, ?_⟩
      intro x hx
      obtain ⟨y, hy, rfl⟩ := List.mem_map.mp hx
      exact noDupNames_updateAt g hg hn p y (h.2.2.2 y hy)

theorem noDupNames_addErr (e : Entry) (x : Err) (h : NoDupNames e) : NoDupNames (e.addErr x) := by
  cases e with | mk d c i o => simp only [Entry.addErr, Entry.withD]; rw [noDupNames_mk] at h ⊢; exact h

theorem noDupNames_implicitIO (parent : Entry) (b : Bool) : NoDupNames (implicitIO parent b) := by
  unfold implicitIO; rw [noDupNames_mk]; simp

/-- The augment stage keeps `NoDupNames` of every tree, provided the children of every pending
augment entry have it: the three operations of the stage (`Find` with the lazily created rpc input /
output, error recording, `merge` at the target) keep it unconditionally. -/
theorem augClosed_noDupNames : AugClosed NoDupNames (fun a => ∀ c ∈ a.dir, NoDupNames c) where
  find reg f start ctx name hf hs :=
    find_inv2 NoDupNames
      (walkParts_inv2 NoDupNames
        (fun root p e h _ _ _ => noDupNames_updateAt _ (fun y hy => by
            cases y with | mk d c i o =>
            simp only [setImplicitIn]; rw [noDupNames_mk] at hy ⊢
            exact ⟨hy.1, hy.2.1, fun x hx => by
              simp only [List.mem_singleton] at hx; subst hx; exact noDupNames_implicitIO _ _, hy.2.2.2⟩)
          (fun y => by cases y; rfl) p root h)
        (fun root p e h _ _ _ => noDupNames_updateAt _ (fun y hy => by
            cases y with | mk d c i o =>
            simp only [setImplicitOut]; rw [noDupNames_mk] at hy ⊢
            exact ⟨hy.1, hy.2.1, hy.2.2.1, fun x hx => by
              simp only [List.mem_singleton] at hx; subst hx; exact noDupNames_implicitIO _ _⟩)
          (fun y => by cases y; rfl) p root h))
      (fun e x h => noDupNames_addErr e x h) reg f start ctx name hf hs
  addErr e x h := noDupNames_addErr e x h
  mergeAt root path te a ns h _ _ ha :=
    noDupNames_updateAt _ (fun y hy => noDupNames_merge y ns a hy ha) (fun y => (rootKeep_merge y ns a).1) path root h

/-! ### `NoDupNames` along the pipeline -/

/-- Every error-free tree the conversion leaves in the cache, and every error-free pending
augment entry, has distinct sibling names at every level. -/
theorem noDupNames_forest0 (reg : Registry) (opts : Opts) (plug : Plug) :
    (∀ t ∈ (forest0 reg opts plug).trees, NoErrors t.2 → NoDupNames t.2) ∧
    (∀ p ∈ (tstate reg opts plug).augs, ∀ a ∈ p.2, NoErrors a → NoDupNames a) := by
  have hC := tstate_ok reg opts plug (closed_cond (localOK_wfq (envOf reg opts plug)))
  exact ⟨fun t ht hne => noDupNames_of_everyNode wfq wfq_keysUnique _ (hC.cache t ht hne),
    fun p hp a ha hne => noDupNames_of_everyNode wfq wfq_keysUnique _ (hC.augs p hp a ha hne)⟩

/-- At the start of the augment phase (the conversion left no error in any tree) every tree has
`NoDupNames`. -/
theorem noDupNames_pstate0 (reg : Registry) (opts : Opts) (plug : Plug)
    (h0 : allErrs (pstate0 reg opts plug).forest = []) :
    ∀ t ∈ (pstate0 reg opts plug).forest.trees, NoDupNames t.2 := by
  intro t ht
  have hne : ForestAll NoErrors (forest0 reg opts plug) := (forestErrs_eq_nil _).1 h0
  exact (noDupNames_forest0 reg opts plug).1 t ht (hne t ht)

/-- Along the augment loop (any fuel, any module order), started where `processAll` starts it:
every tree in which no error has been recorded — in particular no `duplicate-node` collision — has
`NoDupNames`. -/
theorem noDupNames_loop (reg : Registry) (opts : Opts) (plug : Plug) (fuel : Nat) (mods : Array Nat) :
    ∀ t ∈ (augmentLoop reg fuel mods (pstate0 reg opts plug)).2.forest.trees, NoErrors t.2 → NoDupNames t.2 := by
  have hq := localOK_wfq (envOf reg opts plug)
  have h1 := augmentLoop_ainv (augClosed_treeInv hq) reg fuel mods (pstate0 reg opts plug) (ainv_pstate0 reg opts plug hq)
  intro t ht hne
  exact noDupNames_of_everyNode wfq wfq_keysUnique _ ((h1.trees t ht).1.2 hne)

/-- The same at the end of the whole augment part of `Process` (loop, FixChoice, retry rounds,
reporting sweep, FixChoice): the forest the deviations are applied to. -/
theorem noDupNames_preDev (reg : Registry) (opts : Opts) (plug : Plug) :
    ∀ t ∈ (preDev reg opts plug).forest.trees, NoErrors t.2 → NoDupNames t.2 := by
  have hq := localOK_wfqB (envOf reg opts plug) false (fun h => absurd h (by simp))
  have h1 := ainv_preDev reg opts plug hq (wfqB_fixChoice false)
  intro t ht hne
  exact noDupNames_of_everyNode (wfqB false) (wfqB_keysUnique false) _ ((h1.trees t ht).1.2 hne)

/-! ### the cache holds the tree of every converted (sub)module -/

/-- Every loaded statement is a `module` or `submodule` statement (the AST builder returns nothing
else at the top level of a text). -/
def ModsAreModules (reg : Registry) : Prop := ∀ m ∈ reg.mods, isModKw m.stmt = true

instance (reg : Registry) : Decidable (ModsAreModules reg) := by unfold ModsAreModules; infer_instance

def ckeys (st : TState) : List Nat := st.cache.map (·.1)

/-- The module cache only grows. -/
def cacheMono (env : Env) : RelFrame env where
  R _ st st' := ∀ k ∈ ckeys st, k ∈ ckeys st'
  refl _ _ _ h := h
  trans _ _ _ _ h1 h2 k hk := h2 k (h1 k hk)
  weaken _ _ _ _ h := h
  merged _ _ _ _ h := h
  gcache _ _ _ _ h := h
  augs _ _ _ _ h := h
  cache root scope n v st st1 e _ _ _ _ h k hk := by
    simp only [ckeys, List.map_append, List.mem_append]
    exact Or.inl (h k hk)

theorem entryFuel_succ (reg : Registry) : ∃ k, entryFuel reg = k + 1 := by
  rw [Fuel.entryFuel_eq]; exact ⟨_, rfl⟩

/-- A top-level conversion of a (sub)module statement leaves its entry in the cache. -/
theorem module_cached (env : Env) (fuel : Nat) (rec : Rec) (root : Mod) (scope : List Stmt) (n : Stmt) (st : TState)
    (hm : isModKw n = true) : root.seq ∈ ckeys (toEntryBody env fuel rec root scope n [] st).2 := by
  have hm' : (n.kw == "module" || n.kw == "submodule") = true := hm
  have hg : (n.kw == "grouping") = false := by
    simp only [Bool.or_eq_true, beq_iff_eq] at hm'
    rcases hm' with h | h <;> simp [h]
  have hl : (n.kw == "leaf") = false := by
    simp only [Bool.or_eq_true, beq_iff_eq] at hm'
    rcases hm' with h | h <;> simp [h]
  have hll : (n.kw == "leaf-list") = false := by
    simp only [Bool.or_eq_true, beq_iff_eq] at hm'
    rcases hm' with h | h <;> simp [h]
  have hu : (n.kw == "uses") = false := by
    simp only [Bool.or_eq_true, beq_iff_eq] at hm'
    rcases hm' with h | h <;> simp [h]
  unfold toEntryBody
  simp only [hm', hg, hl, hll, hu, if_true, Bool.false_eq_true, if_false, List.contains_nil, Bool.and_false, Bool.true_or]
  split
  · rename_i k e hfind
    simp only [ckeys, List.mem_map]
    exact ⟨(k, e), List.mem_of_find?_eq_some hfind, by simpa using List.find?_some hfind⟩
  · unfold dirBody
    simp only [if_true, ckeys, List.map_append, List.mem_append, List.map_cons, List.map_nil, List.mem_singleton]
    exact Or.inr trivial

theorem tstate_cache_all (reg : Registry) (opts : Opts) (plug : Plug) (hmods : ModsAreModules reg) :
    ∀ m ∈ keyOrder reg, m.seq ∈ ckeys (tstate reg opts plug) := by
  obtain ⟨fuel, hfuel⟩ := entryFuel_succ reg
  have gen : ∀ (l : List Mod) (st : TState), (∀ m ∈ l, m ∈ reg.mods) →
      (∀ k ∈ ckeys st, k ∈ ckeys (l.foldl (fun st m => (toEntry (envOf reg opts plug) (entryFuel reg) m [] m.stmt [] st).2) st)) ∧
      ∀ m ∈ l, m.seq ∈ ckeys (l.foldl (fun st m => (toEntry (envOf reg opts plug) (entryFuel reg) m [] m.stmt [] st).2) st) := by
    intro l
    induction l with
    | nil => intro st _; exact ⟨fun k h => h, fun m h => by cases h⟩
    | cons m l ih =>
      intro st hl
      simp only [List.foldl_cons]
      have hm : m ∈ reg.mods := hl m (by simp)
      obtain ⟨i1, i2⟩ := ih (toEntry (envOf reg opts plug) (entryFuel reg) m [] m.stmt [] st).2 (fun x hx => hl x (by simp [hx]))
      have hmono := toEntry_rel (cacheMono (envOf reg opts plug)) (entryFuel reg) m [] m.stmt [] st (InvT.ofMod hm)
      refine ⟨fun k hk => i1 k (hmono k hk), ?_⟩
      intro x hx
      rcases List.mem_cons.mp hx with hx | hx
      · subst hx
        apply i1
        rw [hfuel, toEntry_succ]
        exact module_cached _ _ _ _ _ _ _ (hmods x hm)
      · exact i2 x hx
  exact (gen (keyOrder reg) {} (fun m hm => keyOrder_mem reg m hm)).2

/-- Every module and submodule bound in one of the two tables is in the conversion order. -/
theorem allMods_keyOrder (reg : Registry) (m : Mod) (hm : m ∈ allMods reg) : ∃ m' ∈ keyOrder reg, m'.seq = m.seq := by
  simp only [allMods, Registry.distinctModules, Registry.distinctSubs, List.mem_append, List.mem_filter,
    List.any_eq_true] at hm
  unfold keyOrder
  simp only [List.mem_append, List.mem_filterMap, SortAux.mem_sortBy]
  rcases hm with ⟨h1, kv, h2, h3⟩ | ⟨h1, kv, h2, h3⟩
  · obtain ⟨m', hm', hs⟩ := byId_some_of_mem reg m h1
    have : kv.2 = m.seq := by simpa using h3
    exact ⟨m', Or.inl ⟨kv, h2, by rw [this]; exact hm'⟩, hs⟩
  · obtain ⟨m', hm', hs⟩ := byId_some_of_mem reg m h1
    have : kv.2 = m.seq := by simpa using h3
    exact ⟨m', Or.inr ⟨kv, h2, by rw [this]; exact hm'⟩, hs⟩

/-- The tree of every (sub)module exists when the augment phase starts. -/
theorem trees_all_pstate0 (reg : Registry) (opts : Opts) (plug : Plug) (hmods : ModsAreModules reg) :
    ∀ m ∈ allMods reg, ((pstate0 reg opts plug).forest.tree? m.seq).isSome = true := by
  intro m hm
  obtain ⟨m', hm', hs⟩ := allMods_keyOrder reg m hm
  rw [tree?_isSome, ← hs]
  exact tstate_cache_all reg opts plug hmods m' hm'

/-! ### the cache keys are distinct -/

/-- The call appends rows to the module cache whose keys are new, pairwise different, and are not
the sequence number of a (sub)module whose conversion is in progress. -/
def cacheKeys (env : Env) (hseq : (env.reg.mods.map (·.seq)).Nodup) : RelFrame env where
  R v st st' := ∃ ext : List (Nat × Entry), st'.cache = st.cache ++ ext ∧ (ext.map (·.1)).Nodup ∧
    (∀ k ∈ ext.map (·.1), k ∉ ckeys st) ∧
    (∀ k ∈ ext.map (·.1), ∀ m ∈ env.reg.mods, m.seq = k → v.contains (nodeId m m.stmt) = false)
  refl v st := ⟨[], by simp, by simp, by simp, by simp⟩
  trans v a b c := by
    rintro ⟨e1, h1, n1, d1, v1⟩ ⟨e2, h2, n2, d2, v2⟩
    refine ⟨e1 ++ e2, by rw [h2, h1, List.append_assoc], ?_, ?_, ?_⟩
    · rw [List.map_append, List.nodup_append]
      refine ⟨n1, n2, ?_⟩
      intro x hx y hy hxy
      subst hxy
      apply d2 x hy
      simp only [ckeys, h1, List.map_append, List.mem_append]
      exact Or.inr hx
    · intro k hk
      rw [List.map_append, List.mem_append] at hk
      rcases hk with hk | hk
      · exact d1 k hk
      · intro hk'
        apply d2 k hk
        simp only [ckeys, h1, List.map_append, List.mem_append]
        exact Or.inl hk'
    · intro k hk
      rw [List.map_append, List.mem_append] at hk
      rcases hk with hk | hk
      · exact v1 k hk
      · exact v2 k hk
  weaken v x a b := by
    rintro ⟨e1, h1, n1, d1, v1⟩
    refine ⟨e1, h1, n1, d1, ?_⟩
    intro k hk m hm hmk
    have := v1 k hk m hm hmk
    simp only [List.contains_cons, Bool.or_eq_false_iff] at this
    exact this.2
  merged v st m := ⟨[], by simp, by simp, by simp, by simp⟩
  gcache v st x := ⟨[], by simp, by simp, by simp, by simp⟩
  augs v st x := ⟨[], by simp, by simp, by simp, by simp⟩
  cache root scope n v st st1 e inv hm hmiss hc := by
    rintro ⟨e1, h1, n1, d1, v1⟩
    have hn : n = root.stmt := inv.top hm
    have hroot1 : root.seq ∉ e1.map (·.1) := by
      intro hk
      have := v1 root.seq hk root inv.root_mem rfl
      rw [← hn] at this
      simp at this
    have hroot0 : root.seq ∉ ckeys st := by
      intro hk
      simp only [ckeys, List.mem_map] at hk
      obtain ⟨x, hx, hxk⟩ := hk
      have := List.find?_eq_none.mp hmiss x hx
      simp [hxk] at this
    refine ⟨e1 ++ [(root.seq, e)], by simp [h1], ?_, ?_, ?_⟩
    · rw [List.map_append, List.nodup_append]
      refine ⟨n1, by simp, ?_⟩
      intro x hx y hy hxy
      simp only [List.map_cons, List.map_nil, List.mem_singleton] at hy
      subst hxy; subst hy
      exact hroot1 hx
    · intro k hk
      rw [List.map_append, List.mem_append] at hk
      rcases hk with hk | hk
      · exact d1 k hk
      · simp only [List.map_cons, List.map_nil, List.mem_singleton] at hk
        subst hk; exact hroot0
    · intro k hk m hm' hmk
      rw [List.map_append, List.mem_append] at hk
      rcases hk with hk | hk
      · have := v1 k hk m hm' hmk
        simp only [List.contains_cons, Bool.or_eq_false_iff] at this
        exact this.2
      · simp only [List.map_cons, List.map_nil, List.mem_singleton] at hk
        subst hk
        have : m = root := ListAux.eq_of_nodup_map (·.seq) env.reg.mods hseq m hm' root inv.root_mem hmk
        subst this
        rw [← hn]; exact hc

/-- One entry per converted (sub)module: the keys of the cache the conversion leaves are distinct. -/
theorem tstate_ckeys_nodup (reg : Registry) (opts : Opts) (plug : Plug) (hL : Fuel.LoadedShape reg) :
    (ckeys (tstate reg opts plug)).Nodup := by
  unfold tstate
  refine (foldl_inv (fun st : TState => (ckeys st).Nodup ∧ True) _ _ _ ⟨by simp [ckeys], trivial⟩ ?_).1
  intro st m hm ⟨hst, _⟩
  refine ⟨?_, trivial⟩
  obtain ⟨ext, h1, n1, d1, _⟩ := toEntry_rel (cacheKeys (envOf reg opts plug) hL.seqs) (entryFuel reg) m [] m.stmt [] st
    (InvT.ofMod (keyOrder_mem reg m hm))
  simp only [ckeys, h1, List.map_append]
  rw [List.nodup_append]
  exact ⟨hst, n1, fun x hx y hy hxy => d1 y hy (hxy ▸ hx)⟩

end Goyang.Lemmas.Bridge
