import Goyang.Lemmas.Tree
import Goyang.Lemmas.Find
/-
C13 (third sentence), augments: a copy of the augment part of `processAll` that the kernel can
evaluate.  `find` splits the path with the legacy `String.splitOn`, which does not reduce in the
kernel; `findK` splits the character list instead (`Lemmas.Find.splitOn_char`: the two are equal).
`augmentTreeK` … `preDevK` are the model's definitions with `findK` in the place of `find`;
`processAll_eqK : processAll = outcomeK` when the first two stages are clean.  Used by the kernel-checked
witnesses of Props/C13Include.lean (`decide +kernel` on the `K` forms).
-/
namespace Goyang.Lemmas.IncludeAugK
open Goyang.Model Goyang.Lemmas.Tree

/-- `find` with the path split over the character list. -/
def findK (reg : Registry) (f : Forest) (start : Loc) (ctxMod : Nat) (name : String) : Option Loc × Forest :=
  if name == "" then (none, f) else
  let parts := (name.toList.splitOn '/').map String.ofList
  match parts with
  | "" :: parts =>
    let first := parts.headD ""
    let pfx := (splitPrefix first).1
    let tree : Option Nat :=
      if pfx == "" then
        match reg.byId start.1 with
        | some sm => if sm.isSub then ((reg.owner sm).map (·.seq)).getD start.1 else start.1
        | none => some start.1
      else
      match reg.byId ctxMod with
      | none => none
      | some cm =>
        match reg.findModuleByPrefix cm pfx with
        | none => none
        | some m => (reg.owner m).map (·.seq)
    match tree with
    | none =>
      (none, match f.tree? start.1 with
        | some root => f.setTree start.1 (root.addErr (Err.bare "other"))
        | none => f)
    | some t =>
      match f.tree? t with
      | none => (none, f)
      | some root =>
        let (r, root) := walkParts parts root (some [])
        (r.map (t, ·), f.setTree t root)
  | parts =>
    match f.tree? start.1 with
    | none => (none, f)
    | some root =>
      let (r, root) := walkParts parts root (some start.2)
      (r.map (start.1, ·), f.setTree start.1 root)

theorem find_eqK (reg : Registry) (f : Forest) (start : Loc) (ctxMod : Nat) (name : String) :
    find reg f start ctxMod name = findK reg f start ctxMod name := by
  unfold find findK
  rw [Lemmas.Find.slash_eq, Lemmas.Find.splitOn_char]
  rfl

def augmentTreeK (reg : Registry) (id : Nat) (addErrors : Bool) (s : PState) : PState × Nat × Nat :=
  let augs := s.pendingOf id
  let nsOf : String := namespaceAt reg s.forest (id, [])
  let (s, unapplied, p, k) := augs.foldl (fun (acc : PState × List Entry × Nat × Nat) a =>
    let (s, unapplied, p, k) := acc
    let (target, forest) := findK reg s.forest (id, []) a.d.nodeMod a.d.name
    let s := { s with forest := forest }
    let fail (s : PState) : PState × List Entry × Nat × Nat :=
      let s := if addErrors then
          match s.forest.tree? id with
          | some root => { s with forest := s.forest.setTree id (root.addErr (Err.at_ a.d.node "augment-not-found")) }
          | none => s
        else s
      (s, unapplied ++ [a], p, k + 1)
    match target with
    | none => fail s
    | some (t, path) =>
      match (s.forest.tree? t).bind (·.getAt path) with
      | none => fail s
      | some te =>
        if cannotHaveChildren te then fail s else
        match s.forest.tree? t with
        | none => fail s
        | some root =>
          let root := root.updateAt path fun te => te.merge (some nsOf) a
          ({ s with forest := s.forest.setTree t root }, unapplied, p + 1, k)) (s, [], 0, 0)
  (s.setPending id unapplied, p, k)

theorem augmentTree_eqK (reg : Registry) (id : Nat) (addErrors : Bool) (s : PState) :
    augmentTree reg id addErrors s = augmentTreeK reg id addErrors s := by
  unfold augmentTree augmentTreeK
  simp only [find_eqK]
  rfl

def augmentPassK (reg : Registry) : (fuel : Nat) → (mods : Array Nat) → (i : Nat) → (processed : Nat) → PState →
    Array Nat × Nat × PState
  | 0, mods, _, processed, s => (mods, processed, s)
  | fuel + 1, mods, i, processed, s =>
    if h : i < mods.size then
      let (s, p, k) := augmentTreeK reg mods[i] false s
      if k == 0 then
        let mods := (mods.set i (mods.back?.getD 0) h).pop
        augmentPassK reg fuel mods i (processed + p) s
      else augmentPassK reg fuel mods (i + 1) (processed + p) s
    else (mods, processed, s)

theorem augmentPass_eqK (reg : Registry) : ∀ (fuel : Nat) (mods : Array Nat) (i processed : Nat) (s : PState),
    augmentPass reg fuel mods i processed s = augmentPassK reg fuel mods i processed s := by
  intro fuel
  induction fuel with
  | zero => intro mods i processed s; rfl
  | succ fuel ih =>
    intro mods i processed s
    unfold augmentPass augmentPassK
    simp only [augmentTree_eqK, ih]

def augmentLoopK (reg : Registry) : (fuel : Nat) → Array Nat → PState → Array Nat × PState
  | 0, mods, s => (mods, s)
  | fuel + 1, mods, s =>
    if mods.isEmpty then (mods, s) else
    let (mods, processed, s) := augmentPassK reg (mods.size + 1) mods 0 0 s
    if processed == 0 then (mods, s) else augmentLoopK reg fuel mods s

theorem augmentLoop_eqK (reg : Registry) : ∀ (fuel : Nat) (mods : Array Nat) (s : PState),
    augmentLoop reg fuel mods s = augmentLoopK reg fuel mods s := by
  intro fuel
  induction fuel with
  | zero => intro mods s; rfl
  | succ fuel ih =>
    intro mods s
    unfold augmentLoop augmentLoopK
    simp only [augmentPass_eqK, ih]

def augmentLoopNK (reg : Registry) : (fuel : Nat) → Array Nat → PState → Array Nat × PState × Nat
  | 0, mods, s => (mods, s, 0)
  | fuel + 1, mods, s =>
    if mods.isEmpty then (mods, s, 0) else
    let (mods, processed, s) := augmentPassK reg (mods.size + 1) mods 0 0 s
    if processed == 0 then (mods, s, 0) else
    let (mods, s, applied) := augmentLoopNK reg fuel mods s
    (mods, s, processed + applied)

theorem augmentLoopN_eqK (reg : Registry) : ∀ (fuel : Nat) (mods : Array Nat) (s : PState),
    augmentLoopN reg fuel mods s = augmentLoopNK reg fuel mods s := by
  intro fuel
  induction fuel with
  | zero => intro mods s; rfl
  | succ fuel ih =>
    intro mods s
    unfold augmentLoopN augmentLoopNK
    simp only [augmentPass_eqK, ih]

/-- The retry rounds (`Model.leftoverRounds`), evaluable. -/
def leftoverRoundsK (reg : Registry) (fuel : Nat) : (n : Nat) → Array Nat → PState → Array Nat × PState
  | 0, mods, s => (mods, s)
  | n + 1, mods, s =>
    let (mods, s, applied) := augmentLoopNK reg fuel mods s
    if applied == 0 then (mods, s) else
    leftoverRoundsK reg fuel n mods
      { s with forest := { trees := s.forest.trees.map fun (i, e) => (i, fixChoice e) } }

theorem leftoverRounds_eqK (reg : Registry) (fuel : Nat) : ∀ (n : Nat) (mods : Array Nat) (s : PState),
    leftoverRounds reg fuel n mods s = leftoverRoundsK reg fuel n mods s := by
  intro n
  induction n with
  | zero => intro mods s; rfl
  | succ n ih =>
    intro mods s
    unfold leftoverRounds leftoverRoundsK
    simp only [augmentLoopN_eqK, ih]

section Stages
variable (reg : Registry) (opts : Opts) (plug : Plug)

def afterLoopK : Array Nat × PState :=
  augmentLoopK reg ((pending0 reg opts plug).foldl (fun n p => n + p.2.length) 0 + 2)
    ((augOrder reg).map (·.seq)).toArray (pstate0 reg opts plug)

theorem afterLoop_eqK : afterLoop reg opts plug = afterLoopK reg opts plug := by
  unfold afterLoop afterLoopK
  rw [augmentLoop_eqK]

def afterRoundsK : Array Nat × PState :=
  leftoverRoundsK reg ((pending0 reg opts plug).foldl (fun n p => n + p.2.length) 0 + 2)
    ((pending0 reg opts plug).foldl (fun n p => n + p.2.length) 0 + 2)
    (afterLoopK reg opts plug).1 (fixAll (afterLoopK reg opts plug).2)

theorem afterRounds_eqK : afterRounds reg opts plug = afterRoundsK reg opts plug := by
  unfold afterRounds afterRoundsK
  rw [leftoverRounds_eqK, afterLoop_eqK]

def leftoverPassK : PState × Nat :=
  (afterRoundsK reg opts plug).1.foldl (fun (acc : PState × Nat) id =>
    let (s, p, _) := augmentTreeK reg id true acc.1
    (s, acc.2 + p)) ((afterRoundsK reg opts plug).2, 0)

theorem leftoverPass_eqK : leftoverPass reg opts plug = leftoverPassK reg opts plug := by
  unfold leftoverPass leftoverPassK
  simp only [afterRounds_eqK, augmentTree_eqK]

def preDevK : PState :=
  if (leftoverPassK reg opts plug).2 > 0 then fixAll (leftoverPassK reg opts plug).1 else (leftoverPassK reg opts plug).1

theorem preDev_eqK : preDev reg opts plug = preDevK reg opts plug := by
  unfold preDev preDevK
  rw [leftoverPass_eqK]

/-- What `processAll` returns when its first two stages are clean, with the augment part in evaluable form. -/
def outcomeK : Outcome :=
  { errors := canonErrs (forestErrs (preDevK reg opts plug).forest ++ (devStage reg opts plug (preDevK reg opts plug).forest).2.1)
    forest := (devStage reg opts plug (preDevK reg opts plug).forest).1
    reg := reg }

theorem processAll_eqK (h1 : stage1Errs reg plug = []) (h2 : forestErrs (forest0 reg opts plug) = []) :
    processAll reg opts plug = outcomeK reg opts plug := by
  rw [processAll_eq, h1, h2, preDev_eqK]
  rfl

theorem processAll_errors_K (h1 : stage1Errs reg plug = []) (h2 : forestErrs (forest0 reg opts plug) = []) :
    (processAll reg opts plug).errors =
      canonErrs (forestErrs (preDevK reg opts plug).forest ++ (devStage reg opts plug (preDevK reg opts plug).forest).2.1) := by
  simp only [processAll_eqK reg opts plug h1 h2, outcomeK]

theorem processAll_forest_K (h1 : stage1Errs reg plug = []) (h2 : forestErrs (forest0 reg opts plug) = []) :
    (processAll reg opts plug).forest = (devStage reg opts plug (preDevK reg opts plug).forest).1 := by
  simp only [processAll_eqK reg opts plug h1 h2, outcomeK]

end Stages

end Goyang.Lemmas.IncludeAugK
