/-
Helper lemmas about `Goyang.Model.Number` (core Lean only).
Part 1: `pow10`, `Trunc`/`frac` without overflow for `fd ≤ 18`, order and equality against the
exact cross-multiplied comparison of `Goyang.Spec.Number`.
-/
import Goyang.Model.Number
import Goyang.Spec.Number

namespace Goyang.Lemmas.Number
open Goyang.Model.Number
open Goyang.Spec.Number (num WF WFInt WFDec)

theorem W_eq : W = 2 ^ 64 := by decide
theorem H_eq : H = 2 ^ 63 := by decide

theorem pow10_eq (e : Nat) (h : e ≤ 19) : pow10 e = 10 ^ e := by
  induction e with
  | zero => rfl
  | succ k ih =>
    have hk : k ≤ 18 := by omega
    have : pow10 k = 10 ^ k := ih (by omega)
    unfold pow10
    rw [this]
    have hlt : 10 ^ k * 10 < W := by
      have : 10 ^ k ≤ 10 ^ 18 := Nat.pow_le_pow_right (by decide) hk
      unfold W; omega
    rw [Nat.mod_eq_of_lt hlt, Nat.pow_succ]

theorem pow10_pos (e : Nat) (h : e ≤ 19) : 0 < pow10 e := by
  rw [pow10_eq e h]; exact Nat.pow_pos (by decide)

/-- `Trunc` cannot panic on a number with at most 18 (19) fraction digits -/
theorem truncPanics_false (n : Number) (h : n.fd ≤ 19) : truncPanics n = false := by
  have := pow10_pos n.fd h
  simp [truncPanics]; omega

theorem lessPanics_false (n m : Number) (hn : n.fd ≤ 19) (hm : m.fd ≤ 19) : lessPanics n m = false := by
  simp [lessPanics, truncPanics_false n hn, truncPanics_false m hm]

theorem ten18 (f : Nat) (h : f ≤ 18) : 10 ^ f * 10 ^ (18 - f) = 10 ^ 18 := by
  rw [← Nat.pow_add]; congr 1; omega

/-- the `uint64` arithmetic of `frac` on a value `v < 2^64` with `p = 10^fd`, `q = 10^(18-fd)`:
    nothing wraps and the result is the remainder scaled by `q` -/
theorem frac_arith (v p q : Nat) (hv : v < W) (hp : 0 < p) (hq : 0 < q) (hpq : p * q = 10 ^ 18) :
    ((v + W - v / p * p % W) % W * q) % W = v % p * q ∧
      v * q = v / p * 10 ^ 18 + v % p * q ∧ v % p * q < 10 ^ 18 := by
  have hdm := Nat.div_add_mod v p
  have hmul : v / p * p ≤ v := Nat.div_mul_le_self _ _
  have hcomm := Nat.mul_comm p (v / p)
  have hlt : v % p * q < 10 ^ 18 := by
    rw [← hpq]; exact Nat.mul_lt_mul_of_pos_right (Nat.mod_lt _ hp) hq
  have hsub : v + W - v / p * p = v % p + W := by omega
  refine ⟨?_, ?_, hlt⟩
  · rw [Nat.mod_eq_of_lt (Nat.lt_of_le_of_lt hmul hv), hsub, Nat.add_mod_right,
      Nat.mod_eq_of_lt (a := v % p) (by omega)]
    exact Nat.mod_eq_of_lt (Nat.lt_trans hlt (by decide))
  · rw [← hpq, ← Nat.mul_assoc, ← Nat.add_mul, ← hcomm, hdm]

/-- value scaled to 18 fraction digits = Trunc·10^18 + frac, and frac < 10^18: no overflow anywhere -/
theorem scaled_split (n : Number) (h : WF n) :
    n.value * 10 ^ (18 - n.fd) = trunc n * 10 ^ 18 + frac n ∧ frac n < 10 ^ 18 := by
  obtain ⟨hv, hfd⟩ := h
  have he : (18 + 256 - n.fd) % 256 = 18 - n.fd := by omega
  obtain ⟨hfrac, hsplit, hlt⟩ :=
    frac_arith n.value (10 ^ n.fd) (10 ^ (18 - n.fd)) hv (Nat.pow_pos (by decide)) (Nat.pow_pos (by decide)) (ten18 n.fd hfd)
  unfold frac trunc
  rw [he, pow10_eq n.fd (by omega), pow10_eq (18 - n.fd) (by omega), hfrac]
  exact ⟨hsplit, hlt⟩

/-- lexicographic comparison of (quotient, remainder) is comparison of the number -/
theorem lex_lt (a b c d B : Nat) (hb : b < B) (hd : d < B) :
    a * B + b < c * B + d ↔ (a < c ∨ (a = c ∧ b < d)) := by
  constructor
  · intro h
    by_cases hac : a < c
    · exact Or.inl hac
    · by_cases hca : c < a
      · exfalso
        have : (c + 1) * B ≤ a * B := Nat.mul_le_mul_right B hca
        rw [Nat.add_mul] at this; omega
      · have : a = c := by omega
        subst this; right; exact ⟨rfl, by omega⟩
  · rintro (h | ⟨rfl, h⟩)
    · have : (a + 1) * B ≤ c * B := Nat.mul_le_mul_right B h
      rw [Nat.add_mul] at this; omega
    · omega

/-- the denotation scaled by 10^18 (an integer for fd ≤ 18) -/
def scaled (n : Number) : Int := num n * ((10 ^ (18 - n.fd) : Nat) : Int)

theorem scaled_eq (n : Number) :
    scaled n = if n.neg then -((n.value * 10 ^ (18 - n.fd) : Nat) : Int) else ((n.value * 10 ^ (18 - n.fd) : Nat) : Int) := by
  unfold scaled num
  split <;> simp [Int.natCast_mul, Int.neg_mul]

theorem ten18_int (f : Nat) (h : f ≤ 18) :
    (10 : Int) ^ f * ((10 ^ (18 - f) : Nat) : Int) = ((10 ^ 18 : Nat) : Int) := by
  rw [← ten18 f h, Int.natCast_mul, Int.natCast_pow]; rfl

theorem cross_lt {a b p q p' q' k : Int} (hp : p * p' = k) (hq : q * q' = k)
    (hp' : 0 < p') (hq' : 0 < q') (hk : 0 < k) : a * q < b * p ↔ a * p' < b * q' := by
  have e1 : a * q * (p' * q') = a * p' * k := by rw [← hq]; ac_rfl
  have e2 : b * p * (p' * q') = b * q' * k := by rw [← hp]; ac_rfl
  rw [← Int.mul_lt_mul_right (Int.mul_pos hp' hq'), e1, e2, Int.mul_lt_mul_right hk]

/-- cross-multiplied comparison = comparison of the values scaled to 18 digits -/
theorem lt_iff_scaled (n m : Number) (hn : n.fd ≤ 18) (hm : m.fd ≤ 18) :
    Spec.Number.lt n m ↔ scaled n < scaled m :=
  have pos (f : Nat) : (0 : Int) < ((10 ^ f : Nat) : Int) := Int.natCast_pos.mpr (Nat.pow_pos (by decide))
  cross_lt (ten18_int n.fd hn) (ten18_int m.fd hm) (pos _) (pos _) (pos 18)

theorem eq_iff_scaled (n m : Number) (hn : n.fd ≤ 18) (hm : m.fd ≤ 18) :
    Spec.Number.eq n m ↔ scaled n = scaled m := by
  have a := lt_iff_scaled n m hn hm
  have b := lt_iff_scaled m n hm hn
  unfold Spec.Number.lt at a b
  unfold Spec.Number.eq
  omega

theorem less_iff_lex (n m : Number) :
    less n m = true ↔
      (nsign n = true ∧ nsign m = false) ∨
      (nsign n = nsign m ∧
        if nsign n then trunc m < trunc n ∨ (trunc m = trunc n ∧ frac m < frac n)
        else trunc n < trunc m ∨ (trunc n = trunc m ∧ frac n < frac m)) := by
  unfold less
  generalize nsign n = a, nsign m = b, trunc n = nt, trunc m = mt, frac n = nf, frac m = mf
  by_cases ht : nt = mt
  · subst ht
    by_cases hf : nf = mf
    · subst hf; cases a <;> cases b <;> simp
    · cases a <;> cases b <;> simp [hf] <;> omega
  · cases a <;> cases b <;> simp [ht] <;> omega

theorem scaled_eq_nsign (n : Number) :
    scaled n = if nsign n then -((n.value * 10 ^ (18 - n.fd) : Nat) : Int)
      else ((n.value * 10 ^ (18 - n.fd) : Nat) : Int) := by
  rw [scaled_eq]; unfold nsign
  by_cases h : n.value = 0 <;> simp [h]

theorem nsign_pos (n : Number) (h : nsign n = true) : 0 < n.value * 10 ^ (18 - n.fd) := by
  unfold nsign at h
  exact Nat.mul_pos (Nat.pos_of_ne_zero fun h0 => by simp [h0] at h) (Nat.pow_pos (by decide))

/-- C15 order theorem (all well-formed numbers, mixed fraction digits, negative zero included) -/
theorem less_iff (n m : Number) (hn : WF n) (hm : WF m) :
    less n m = true ↔ Spec.Number.lt n m := by
  obtain ⟨hns, hnf⟩ := scaled_split n hn
  obtain ⟨hms, hmf⟩ := scaled_split m hm
  have hnp := nsign_pos n
  have hmp := nsign_pos m
  rw [lt_iff_scaled n m hn.2 hm.2, scaled_eq_nsign, scaled_eq_nsign, less_iff_lex,
    ← lex_lt _ _ _ _ _ hnf hmf, ← lex_lt _ _ _ _ _ hmf hnf, ← hns, ← hms]
  generalize n.value * 10 ^ (18 - n.fd) = x, m.value * 10 ^ (18 - m.fd) = y,
    nsign n = a, nsign m = b at hnp hmp ⊢
  cases a <;> cases b <;> simp at hnp hmp ⊢ <;> omega

theorem equal_iff (n m : Number) (hn : WF n) (hm : WF m) :
    equal n m = true ↔ Spec.Number.eq n m := by
  have a := less_iff n m hn hm
  have b := less_iff m n hm hn
  unfold Spec.Number.lt at a b
  unfold equal Spec.Number.eq
  cases h1 : less n m <;> cases h2 : less m n <;> simp [h1, h2] at a b ⊢ <;> omega

end Goyang.Lemmas.Number
