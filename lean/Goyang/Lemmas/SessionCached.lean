import Goyang.Model.SessionCached
import Goyang.Lemmas.SessionRun
/-
Property C18: the cached machine (Model/SessionCached.lean) refines the pure one, for every kit
that satisfies three size laws, under the reset discipline (`Policy.sound`).

The invariant (`Coh`, cache coherence): the two machines hold the same registry and options; no
memoised type result carries a stamp beyond the current generation (so after the increment at the
start of a run none is a hit and every type is resolved afresh); and the trees the pure machine
would answer a read from are the trees in the entry cache - unless texts were accepted since that
run, in which case the pure machine declines to answer and the entry cache may hold anything.
Links and identity tables need no clause: the prologue forgets them before the run looks at them.
-/
namespace Goyang.Lemmas.SessionCached
open Goyang.Model.SessionCached Goyang.Lemmas.SessionRun

/-- What the refinement needs of a kit. -/
structure Laws (K : Kit) : Prop where
  /-- an accepted text does not shrink the registry -/
  grow : ∀ r src r', K.tryLoad r src = .ok r' → K.size r ≤ K.size r'
  /-- a run does not see more modules than there are -/
  osize_run : ∀ reg opts, K.osize (K.processAll reg opts) ≤ K.size reg
  /-- Find does not change how many modules the run saw -/
  osize_find : ∀ reg o key path, K.osize (K.find reg o key path).2 = K.osize o

/-- Cache coherence. -/
structure Coh {K : Kit} (s : PState K) (c : CState K) : Prop where
  reg : c.reg = s.reg
  opts : c.opts = s.opts
  stamps : ∀ e ∈ c.memo, e.2.1 ≤ c.gen
  trees : ∀ o, s.cache = some o → K.osize o ≤ K.size s.reg ∧ (c.run = some o ∨ K.osize o < K.size s.reg)

theorem sound_eq {P : Policy} (h : P.sound = true) : P = {} := by
  obtain ⟨a, b, c, d, e, f⟩ := P
  simp only [Policy.sound, Bool.and_eq_true] at h
  obtain ⟨⟨⟨⟨⟨rfl, rfl⟩, rfl⟩, rfl⟩, rfl⟩, rfl⟩ := h
  rfl

/-- With every stamp below the generation asked for, the memo has no hit. -/
theorem memoHit_none (K : Kit) (memo : List (K.TyKey × Nat × K.TyVal)) (gen : Nat)
    (h : ∀ e ∈ memo, e.2.1 < gen) (k : K.TyKey) : memoHit K memo true gen k = none := by
  unfold memoHit
  cases hf : memo.find? (fun e => K.keyEq e.1 k) with
  | none => rfl
  | some e =>
    obtain ⟨k', g, v⟩ := e
    have hm := List.mem_of_find?_eq_some hf
    have hlt : g < gen := h _ hm
    have : (g == gen) = false := by
      rw [beq_eq_false_iff_ne]; omega
    simp only [Bool.not_true, Bool.false_or, this, Bool.false_eq_true, if_false]

theorem tyFun_fresh (K : Kit) (memo : List (K.TyKey × Nat × K.TyVal)) (gen : Nat)
    (h : ∀ e ∈ memo, e.2.1 < gen) (reg : K.Reg) (L : K.Links) (I : K.Ids) :
    tyFun K memo true gen reg L I = K.resolveTy reg L I := by
  funext k
  unfold tyFun
  rw [memoHit_none K memo gen h k]

/-- The initial states are coherent. -/
theorem coh_init (K : Kit) (reg : K.Reg) (opts : K.Opts) :
    Coh ({ reg := reg, opts := opts } : PState K) ({ reg := reg, opts := opts } : CState K) :=
  ⟨rfl, rfl, (fun _ h => by cases h), (fun _ h => by cases h)⟩

theorem step_load (K : Kit) (hl : Laws K) (s : PState K) (c : CState K) (h : Coh s c) (src : K.Src) :
    Coh (pstep K s (.load src)).1 (cstep K {} c (.load src)).1 ∧
    Agree (pstep K s (.load src)).2 (cstep K {} c (.load src)).2 := by
  have hg := hl.grow s.reg src
  simp only [pstep, cstep, Kit.tryLoad, verdict, h.reg] at hg ⊢
  cases hd : K.loadDirty s.reg src with
  | mk d w =>
    rw [hd] at hg
    cases w with
    | none =>
      have hg' : K.size s.reg ≤ K.size d := hg d rfl
      refine ⟨⟨rfl, h.opts, h.stamps, ?_⟩, rfl⟩
      intro o ho
      have := h.trees o ho
      exact ⟨Nat.le_trans this.1 hg', this.2.imp_right (Nat.lt_of_lt_of_le · hg')⟩
    | some w =>
      exact ⟨⟨h.reg ▸ rfl, h.opts, h.stamps, h.trees⟩, rfl⟩

theorem step_process (K : Kit) (hl : Laws K) (s : PState K) (c : CState K) (h : Coh s c) :
    Coh (pstep K s .process).1 (cstep K {} c .process).1 ∧
    Agree (pstep K s .process).2 (cstep K {} c .process).2 := by
  have hfresh : ∀ e ∈ c.memo, e.2.1 < c.gen + 1 := fun e he => Nat.lt_succ_of_le (h.stamps e he)
  have hty := tyFun_fresh K c.memo (c.gen + 1) hfresh
  simp only [pstep, cstep, if_true, hty, h.reg, h.opts, Kit.processAll]
  refine ⟨⟨rfl, rfl, ?_, ?_⟩, rfl⟩
  · intro e he
    rcases List.mem_append.mp he with h1 | h1
    · obtain ⟨k, _, rfl⟩ := List.mem_map.mp h1
      exact Nat.le_refl _
    · exact Nat.le_succ_of_le (h.stamps e h1)
  · intro o ho
    cases ho
    exact ⟨hl.osize_run s.reg s.opts, .inl rfl⟩

theorem step_clear (K : Kit) (s : PState K) (c : CState K) (h : Coh s c) :
    Coh (pstep K s .clear).1 (cstep K {} c .clear).1 ∧
    Agree (pstep K s .clear).2 (cstep K {} c .clear).2 :=
  ⟨⟨h.reg, h.opts, h.stamps, fun _ ho => by cases ho⟩, rfl⟩

theorem pstep_read (K : Kit) (s : PState K) (key : K.Key) (path : K.Path) (hm : K.hasModule s.reg key = true) :
    (∃ o, s.cache = some o ∧ K.osize o = K.size s.reg ∧ K.hasTree s.reg o key = true ∧
      pstep K s (.read key path) =
        ({ s with cache := some (K.find s.reg o key path).2 }, .found (K.find s.reg o key path).1)) ∨
    ((∀ o, s.cache = some o → K.osize o ≠ K.size s.reg ∨ K.hasTree s.reg o key = false) ∧
      pstep K s (.read key path) = (s, .unprocessed)) := by
  simp only [pstep, hm, Bool.not_true, Bool.false_eq_true, if_false]
  cases hc : s.cache with
  | none => exact .inr ⟨fun _ ho => (by cases ho), rfl⟩
  | some o =>
    by_cases hsz : K.osize o = K.size s.reg
    · cases htr : K.hasTree s.reg o key with
      | true =>
        exact .inl ⟨o, rfl, hsz, htr, by simp only [hsz, htr, bne_self_eq_false, Bool.false_eq_true, if_false, Bool.not_true]⟩
      | false =>
        exact .inr ⟨fun _ ho => (by cases ho; exact .inr htr),
          by simp only [hsz, htr, bne_self_eq_false, Bool.false_eq_true, if_false, Bool.not_false, if_true]⟩
    · exact .inr ⟨fun _ ho => (by cases ho; exact .inl hsz), by simp only [bne_iff_ne.mpr hsz, if_true]⟩

theorem read_keeps (K : Kit) (s : PState K) (c : CState K) (h : Coh s c) (key : K.Key) (path : K.Path)
    (hm : K.hasModule s.reg key = true)
    (hs : ∀ o, s.cache = some o → K.osize o ≠ K.size s.reg ∨ K.hasTree s.reg o key = false) :
    Coh s (cstep K {} c (.read key path)).1 ∧ ∃ a, (cstep K {} c (.read key path)).2 = .found a := by
  simp only [cstep, h.reg, hm, Bool.not_true, Bool.false_eq_true, if_false]
  split
  · rename_i o hhit
    refine ⟨⟨rfl, h.opts, h.stamps, fun o2 ho2 => ⟨(h.trees o2 ho2).1, ?_⟩⟩, _, rfl⟩
    rcases (h.trees o2 ho2).2 with hrun | hlt
    · -- a hit in the entry cache `o2` means it has a tree of the key: the pure machine declined for the size
      rw [hrun] at hhit
      rcases hs o2 ho2 with hne | hno
      · exact .inr (Nat.lt_of_le_of_ne (h.trees o2 ho2).1 hne)
      · simp only [hno, Bool.false_eq_true, if_false] at hhit
        cases hhit
    · exact .inr hlt
  · refine ⟨⟨rfl, h.opts, ?_, h.trees⟩, _, rfl⟩
    intro e he
    rcases List.mem_append.mp he with h1 | h1
    · obtain ⟨k, _, rfl⟩ := List.mem_map.mp h1
      exact Nat.le_refl _
    · exact h.stamps e h1

theorem step_read (K : Kit) (hl : Laws K) (s : PState K) (c : CState K) (h : Coh s c) (key : K.Key) (path : K.Path) :
    Coh (pstep K s (.read key path)).1 (cstep K {} c (.read key path)).1 ∧
    Agree (pstep K s (.read key path)).2 (cstep K {} c (.read key path)).2 := by
  by_cases hm : K.hasModule s.reg key = true
  · rcases pstep_read K s key path hm with ⟨o, hc, hsz, htr, e⟩ | ⟨hs, e⟩
    · -- answered by both from the same trees
      have ht := h.trees o hc
      have hrun : c.run = some o := ht.2.resolve_right (by omega)
      rw [e]
      simp only [cstep, hm, htr, h.reg, hrun, Bool.not_true, Bool.false_eq_true, if_false, if_true]
      refine ⟨⟨rfl, h.opts, h.stamps, ?_⟩, rfl⟩
      intro o2 ho2
      cases ho2
      rw [hl.osize_find]
      exact ⟨ht.1, .inl rfl⟩
    · obtain ⟨hk, a, ha⟩ := read_keeps K s c h key path hm hs
      rw [e, ha]
      exact ⟨hk, trivial⟩
  · have hm' : K.hasModule s.reg key = false := Bool.eq_false_iff.mpr hm
    simp only [pstep, cstep, hm', h.reg, Bool.not_false, if_true]
    exact ⟨h, rfl⟩

/-- One step: coherence is kept and the answers agree. -/
theorem step_refines (K : Kit) (hl : Laws K) (P : Policy) (hP : P.sound = true) (s : PState K) (c : CState K)
    (h : Coh s c) (op : Op K) :
    Coh (pstep K s op).1 (cstep K P c op).1 ∧ Agree (pstep K s op).2 (cstep K P c op).2 := by
  rw [sound_eq hP]
  cases op with
  | load src => exact step_load K hl s c h src
  | process => exact step_process K hl s c h
  | read key path => exact step_read K hl s c h key path
  | clear => exact step_clear K s c h

theorem prunFrom_cons (K : Kit) (s : PState K) (op : Op K) (ops : List (Op K)) :
    prunFrom K s (op :: ops) =
      ((prunFrom K (pstep K s op).1 ops).1, (pstep K s op).2 :: (prunFrom K (pstep K s op).1 ops).2) := rfl

theorem crunFrom_cons (K : Kit) (P : Policy) (c : CState K) (op : Op K) (ops : List (Op K)) :
    crunFrom K P c (op :: ops) =
      ((crunFrom K P (cstep K P c op).1 ops).1, (cstep K P c op).2 :: (crunFrom K P (cstep K P c op).1 ops).2) := rfl

/-- Every history: the answers agree one by one and the final states are coherent. -/
theorem run_refines (K : Kit) (hl : Laws K) (P : Policy) (hP : P.sound = true) (h : List (Op K)) (s : PState K) (c : CState K)
    (hc : Coh s c) :
    Coh (prunFrom K s h).1 (crunFrom K P c h).1 ∧ AgreeAll (prunFrom K s h).2 (crunFrom K P c h).2 := by
  induction h generalizing s c with
  | nil => exact ⟨hc, trivial⟩
  | cons op ops ih =>
    have h1 := step_refines K hl P hP s c hc op
    have h2 := ih _ _ h1.1
    rw [prunFrom_cons, crunFrom_cons]
    exact ⟨h2.1, h1.2, h2.2⟩

/-- Where the pure machine answers, the cached machine answers the same. -/
theorem agree_eq {K : Kit} {p c : Out K} (h : Agree p c) (hp : ∀ _ : p = .unprocessed, False) : p = c := by
  cases p <;> first | exact h | exact absurd rfl (fun e => hp e)

theorem agreeAll_length {K : Kit} : ∀ {ps cs : List (Out K)}, AgreeAll ps cs → ps.length = cs.length
  | [], [], _ => rfl
  | [], _ :: _, h => h.elim
  | _ :: _, [], h => h.elim
  | _ :: ps, _ :: cs, h => by rw [List.length_cons, List.length_cons, agreeAll_length (ps := ps) (cs := cs) h.2]

/-- Position by position: an answer of the pure machine other than `unprocessed` is the answer of
the cached machine. -/
theorem agreeAll_getElem? {K : Kit} : ∀ {ps cs : List (Out K)}, AgreeAll ps cs → ∀ (i : Nat) (p : Out K),
    ps[i]? = some p → (∀ _ : p = .unprocessed, False) → cs[i]? = some p
  | [], _, _, i, p, hp, _ => by simp at hp
  | _ :: _, [], h, _, _, _, _ => h.elim
  | q :: ps, c :: cs, h, 0, p, hp, hne => by
    simp only [List.getElem?_cons_zero, Option.some.injEq] at hp ⊢
    subst hp
    exact (agree_eq h.1 hne).symm
  | _ :: ps, _ :: cs, h, i + 1, p, hp, hne => by
    simp only [List.getElem?_cons_succ] at hp ⊢
    exact agreeAll_getElem? h.2 i p hp hne

/-- A refused load leaves the WHOLE state of the cached machine - entry cache, links, identity
tables, generation, memo - as it was. -/
theorem cstep_rejected_state (K : Kit) (c : CState K) (src : K.Src) (w : K.Rej)
    (h : (cstep K {} c (.load src)).2 = .rejected w) : (cstep K {} c (.load src)).1 = c := by
  simp only [cstep] at h ⊢
  cases hd : K.loadDirty c.reg src with
  | mk d w' =>
    rw [hd] at h
    cases w' with
    | none => cases h
    | some w' => rfl

/-! ### histories of the cached machine -/

theorem isRun (K : Kit) (P : Policy) : IsRun (cstep K P) (crunFrom K P) := ⟨fun _ => rfl, crunFrom_cons K P⟩

/-- A load anywhere in a history of the cached machine that is answered `rejected`: cutting it out
changes no other answer - also not of reads outside the contract, which show hidden state - and not
the final state, hidden state included. -/
theorem crun_failed_load_no_trace (K : Kit) (c : CState K) (pre post : List (Op K)) (src : K.Src) (w : K.Rej)
    (h : (crunFrom K {} c (pre ++ .load src :: post)).2[pre.length]? = some (.rejected w)) :
    (crunFrom K {} c (pre ++ .load src :: post)).1 = (crunFrom K {} c (pre ++ post)).1 ∧
    (crunFrom K {} c (pre ++ .load src :: post)).2.eraseIdx pre.length = (crunFrom K {} c (pre ++ post)).2 := by
  rw [(isRun K {}).getElem?_mid, Option.some.injEq] at h
  exact (isRun K {}).cut c pre post _ (cstep_rejected_state K _ src w h)

/-! ### reads -/

theorem agree_kind {K : Kit} {p c : Out K} (h : Agree p c) : c.isReadOut = p.isReadOut := by
  cases p <;> cases c <;> first | rfl | exact h.elim | cases h

/-- Agreeing answer lists have the same answers to everything that is not a read. -/
theorem agreeAll_filter {K : Kit} : ∀ {ps cs : List (Out K)}, AgreeAll ps cs →
    cs.filter (fun o => !o.isReadOut) = ps.filter (fun o => !o.isReadOut)
  | [], [], _ => rfl
  | [], _ :: _, h => h.elim
  | _ :: _, [], h => h.elim
  | p :: ps, c :: cs, h => by
    have ih := agreeAll_filter (ps := ps) (cs := cs) h.2
    have hk := agree_kind h.1
    cases hp : p.isReadOut with
    | true => simp only [List.filter_cons, hk, hp, Bool.not_true, Bool.false_eq_true, if_false, ih]
    | false =>
      have := agree_eq h.1 (fun e => by rw [e] at hp; cases hp)
      subst this
      simp only [List.filter_cons, hp, Bool.not_false, if_true, ih]

/-- The cached machine answers a read with a read answer, anything else not. -/
theorem cstep_out_kind (K : Kit) (P : Policy) (c : CState K) (op : Op K) : (cstep K P c op).2.isReadOut = op.isRead := by
  cases op with
  | load src =>
    simp only [cstep]
    cases hd : K.loadDirty c.reg src with
    | mk d w => cases w <;> rfl
  | process => rfl
  | read key path =>
    simp only [cstep]
    split
    · rfl
    · split <;> rfl
  | clear => rfl

theorem crun_no_reads (K : Kit) (P : Policy) (h : List (Op K)) (hr : ∀ op ∈ h, op.isRead = false) (c : CState K) :
    (crunFrom K P c h).2.filter (fun o => !o.isReadOut) = (crunFrom K P c h).2 := by
  induction h generalizing c with
  | nil => rfl
  | cons op ops ih =>
    have h1 : (cstep K P c op).2.isReadOut = false := by rw [cstep_out_kind, hr op (List.mem_cons_self ..)]
    rw [crunFrom_cons]
    simp only [List.filter_cons, h1, Bool.not_false, if_true]
    rw [ih (fun op' h' => hr op' (List.mem_cons_of_mem _ h'))]

end Goyang.Lemmas.SessionCached
