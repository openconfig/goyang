import Goyang.Lemmas.LoadOrderIdentity
import Goyang.Model.Types
/-
Load-order independence (C05), part 11: type and typedef resolution (C09 layer) on two registries
that hold the same modules under renamed sequence numbers: every type statement resolves to the
same `YangType` with the same errors; the errors of `resolveTypedefs` are the same multiset.
Core Lean only.
-/
namespace Goyang.Lemmas.LoadOrder
open Goyang.Model Goyang.Model.Types

/-- Two environments of the type layer over corresponding registries. -/
structure TEnvRel (σ : Nat → Nat) (e₁ e₂ : Types.Env) : Prop where
  reg : RegRel σ e₁.reg e₂.reg
  link : e₂.link = lkRen σ e₁.link
  dict : e₂.dict = e₁.dict.map (deRen σ)
  fuel : e₂.fuel = e₁.fuel
  posixOk : e₂.posixOk = e₁.posixOk

def tdRen (σ : Nat → Nat) (r : TdRef) : TdRef := { r with root := Mod.ren σ r.root }

def luRen (σ : Nat → Nat) : Lookup → Lookup
  | .found r => .found (tdRen σ r)
  | .notFound => .notFound
  | .outOfFuel => .outOfFuel

def lupRen (σ : Nat → Nat) (p : Lookup × List Nat) : Lookup × List Nat := (luRen σ p.1, p.2.map σ)

theorem firstHit_ren (σ : Nat → Nat) (f₁ f₂ : Mod → List Nat → Lookup × List Nat)
    (hf : ∀ m s, f₂ (Mod.ren σ m) (s.map σ) = lupRen σ (f₁ m s)) : ∀ (l : List Mod) (s : List Nat),
    firstHit f₂ (l.map (Mod.ren σ)) (s.map σ) = lupRen σ (firstHit f₁ l s)
  | [], s => rfl
  | a :: rest, s => by
    simp only [List.map_cons, firstHit, hf]
    rcases h1 : f₁ a s with ⟨lu, s'⟩
    cases lu with
    | notFound => simp only [lupRen, luRen]; exact firstHit_ren σ f₁ f₂ hf rest s'
    | found r => rfl
    | outOfFuel => rfl

section
variable {σ : Nat → Nat} {e₁ e₂ : Types.Env} (h : TEnvRel σ e₁ e₂)
include h

theorem env_includeTargets_ren (m : Mod) :
    e₂.includeTargets (Mod.ren σ m) = (e₁.includeTargets m).map (Mod.ren σ) := by
  unfold Types.Env.includeTargets
  rw [h.link]
  exact includeTargets_ren h.reg e₁.link m

theorem findInModule_ren (name : String) : ∀ (fuel : Nat) (m : Mod) (seen : List Nat),
    findInModule e₂ name fuel (Mod.ren σ m) (seen.map σ) = lupRen σ (findInModule e₁ name fuel m seen)
  | 0, m, seen => rfl
  | fuel + 1, m, seen => by
    unfold findInModule
    rw [Mod.ren_seq, contains_map_inj σ h.reg.inj, Mod.ren_stmt]
    split
    · rfl
    · cases findIn m.stmt name with
      | some td => rfl
      | none =>
        simp only [env_includeTargets_ren h]
        have h0 : σ m.seq :: seen.map σ = (m.seq :: seen).map σ := rfl
        rw [h0]
        exact firstHit_ren σ _ _ (fun im s => findInModule_ren name fuel im s) _ _

theorem modFuel_eq : e₂.modFuel = e₁.modFuel := by
  unfold Types.Env.modFuel
  rw [h.reg.length]

theorem findLocalModules_ren (root : Mod) (name : String) :
    findLocalModules e₂ (Mod.ren σ root) name = luRen σ (findLocalModules e₁ root name) := by
  unfold findLocalModules
  rw [Mod.ren_belongsTo?, modFuel_eq h]
  have key : ∀ (l : List Mod),
      (firstHit (fun m s => findInModule e₂ name e₁.modFuel m s) (l.map (Mod.ren σ)) []).1 =
        luRen σ (firstHit (fun m s => findInModule e₁ name e₁.modFuel m s) l []).1 := by
    intro l
    have := firstHit_ren σ (fun m s => findInModule e₁ name e₁.modFuel m s)
      (fun m s => findInModule e₂ name e₁.modFuel m s) (fun m s => findInModule_ren h name _ m s) l []
    simp only [List.map_nil] at this
    rw [this]; rfl
  cases root.belongsTo? with
  | none => exact key [root]
  | some b =>
    simp only [h.reg.getModule]
    have : Mod.ren σ root :: ((e₁.reg.getModule b).map (Mod.ren σ)).toList =
        (root :: (e₁.reg.getModule b).toList).map (Mod.ren σ) := by
      cases e₁.reg.getModule b <;> rfl
    rw [this]
    exact key _

def bdRen (σ : Nat → Nat) : Bound → Bound
  | .builtin y => .builtin y
  | .typedef src r => .typedef src (tdRen σ r)
  | .error e => .error e

omit h in
theorem findInScope_ren (σ : Nat → Nat) (root : Mod) (name : String) : ∀ (l : List Stmt),
    findInScope (Mod.ren σ root) name l = (findInScope root name l).map (tdRen σ)
  | [] => rfl
  | n :: up => by
    simp only [findInScope]
    cases findIn n name with
    | some td => rfl
    | none => exact findInScope_ren σ root name up

theorem lookup_ren (root : Mod) (scope : List Stmt) (t : Stmt) :
    lookup e₂ (Mod.ren σ root) scope t = bdRen σ (lookup e₁ root scope t) := by
  unfold lookup
  cases builtin? t.arg with
  | some y => rfl
  | none =>
    simp only [Mod.ren_getPrefix, findInScope_ren, findLocalModules_ren h, h.reg.findModuleByPrefix, modFuel_eq h]
    split
    · cases findInScope root (splitPrefix t.arg).2 (t :: scope) with
      | some r => rfl
      | none =>
        simp only [Option.map_none]
        cases findLocalModules e₁ root (splitPrefix t.arg).2 <;> rfl
    · cases e₁.reg.findModuleByPrefix root (splitPrefix t.arg).1 with
      | none => rfl
      | some ext =>
        simp only [Option.map_some]
        have := findInModule_ren h (splitPrefix t.arg).2 e₁.modFuel ext []
        simp only [List.map_nil] at this
        rw [this]
        simp only [lupRen]
        cases (findInModule e₁ (splitPrefix t.arg).2 e₁.modFuel ext []).1 <;> rfl

theorem env_findIdentityBase_ren (root : Mod) (s : String) :
    Identity.findIdentityBase e₂.reg e₂.dict (Mod.ren σ root) s =
      (Identity.findIdentityBase e₁.reg e₁.dict root s).map (deRen σ) := by
  rw [h.dict]
  exact findIdentityBase_ren h.reg e₁.dict root s

theorem tdIdentity_ren (root : Mod) (tt : Stmt) (y : YType) :
    tdIdentity e₂ (Mod.ren σ root) tt y = tdIdentity e₁ root tt y := by
  unfold tdIdentity
  cases tt.one? "base" with
  | none => rfl
  | some b =>
    simp only [env_findIdentityBase_ren h]
    cases Identity.findIdentityBase e₁.reg e₁.dict root b.arg <;> rfl

theorem typedefOverlay_ren (root : Mod) (td tt : Stmt) (ty : YType) :
    typedefOverlay e₂ (Mod.ren σ root) td tt ty = typedefOverlay e₁ root td tt ty := by
  unfold typedefOverlay
  rw [tdIdentity_ren h]

theorem posixPatterns_ren (root : Mod) (t : Stmt) :
    posixPatterns e₂ (Mod.ren σ root) t = posixPatterns e₁ root t := by
  unfold posixPatterns
  congr 1
  funext acc ext
  cases acc with
  | none => rfl
  | some l =>
    simp only [h.reg.findModuleByPrefix]
    cases e₁.reg.findModuleByPrefix root (splitPrefix ext.kw).1 <;> rfl

theorem stepKind_ren (root : Mod) (t : Stmt) (source : Source) (dec : Bool) (s : St) :
    stepKind e₂ (Mod.ren σ root) t source dec s = stepKind e₁ root t source dec s := by
  -- only the look-up of an identityref's base consults the environment
  unfold stepKind
  simp only [env_findIdentityBase_ren h]
  cases t.one? "base" with
  | none => rfl
  | some b =>
    dsimp only
    cases Identity.findIdentityBase e₁.reg e₁.dict root b.arg <;> rfl

theorem overlayType_ren (root : Mod) (t : Stmt) (source : Source) (tdY : YType) (members : List Res) :
    overlayType e₂ (Mod.ren σ root) t source tdY members = overlayType e₁ root t source tdY members := by
  unfold overlayType overlayLocal stepPosix
  simp only [stepKind_ren h, posixPatterns_ren h, h.posixOk]

def tkRen (σ : Nat → Nat) (k : TypeKey) : TypeKey := (σ k.1, k.2)

omit h in
theorem tkRen_inj {σ : Nat → Nat} (hσ : ∀ a b, σ a = σ b → a = b) (a b : TypeKey) (e : tkRen σ a = tkRen σ b) : a = b := by
  obtain ⟨a1, a2⟩ := a
  obtain ⟨b1, b2⟩ := b
  simp only [tkRen, Prod.mk.injEq] at e
  rw [hσ _ _ e.1, e.2]

omit h in
theorem typeKey_ren (σ : Nat → Nat) (root : Mod) (t : Stmt) : typeKey (Mod.ren σ root) t = tkRen σ (typeKey root t) := by
  cases root; rfl

/-- **`Type.resolve` on corresponding environments: the same type, the same errors.** -/
theorem resolveTypeF_ren : ∀ (fuel : Nat) (root : Mod) (scope : List Stmt) (t : Stmt) (stack : List TypeKey),
    resolveTypeF e₂ fuel (Mod.ren σ root) scope t (stack.map (tkRen σ)) = resolveTypeF e₁ fuel root scope t stack
  | 0, _, _, _, _ => rfl
  | fuel + 1, root, scope, t, stack => by
    unfold resolveTypeF
    simp only [typeKey_ren, contains_map_inj (tkRen σ) (tkRen_inj h.reg.inj), lookup_ren h, overlayType_ren h]
    split
    · rfl
    · have hst : tkRen σ (typeKey root t) :: stack.map (tkRen σ) = (typeKey root t :: stack).map (tkRen σ) := rfl
      simp only [hst, resolveTypeF_ren fuel]
      cases lookup e₁ root scope t with
      | error e => rfl
      | builtin y => rfl
      | typedef src r =>
        simp only [bdRen, tdRen, typedefOverlay_ren h]
        cases r.td.one? "type" with
        | none => rfl
        | some tt => simp only [resolveTypeF_ren fuel]

theorem resolveTypeE_ren (root : Mod) (scope : List Stmt) (t : Stmt) :
    resolveTypeE e₂ (Mod.ren σ root) scope t = resolveTypeE e₁ root scope t := by
  unfold resolveTypeE
  have := resolveTypeF_ren h e₁.fuel root scope t []
  simp only [List.map_nil] at this
  rw [h.fuel, this]

theorem resolveTypedefF_ren (fuel : Nat) (root : Mod) (scope : List Stmt) (td : Stmt) :
    resolveTypedefF e₂ fuel (Mod.ren σ root) scope td = resolveTypedefF e₁ fuel root scope td := by
  unfold resolveTypedefF
  cases td.one? "type" with
  | none => rfl
  | some tt =>
    have := resolveTypeF_ren h fuel root (td :: scope) tt []
    simp only [List.map_nil] at this
    simp only [this, typedefOverlay_ren h]

theorem resolveAllTypedefsE_perm : (resolveAllTypedefsE e₂).Perm (resolveAllTypedefsE e₁) := by
  unfold resolveAllTypedefsE
  refine (List.Perm.flatMap_right _ h.reg.mods).trans ?_
  rw [List.flatMap_map]
  apply List.Perm.of_eq
  congr 1
  funext m
  have hd : dictTypedefs (Mod.ren σ m) = dictTypedefs m := rfl
  rw [hd]
  congr 1
  funext p
  obtain ⟨td, scope⟩ := p
  simp only [h.fuel, resolveTypedefF_ren h]

end

/-! ### the environment `process` builds -/

section
variable {σ : Nat → Nat} {r₁ r₂ : Registry} (h : RegRel σ r₁ r₂)
include h

theorem allTypeKeys_length : (allTypeKeys r₂).length = (allTypeKeys r₁).length := by
  unfold allTypeKeys
  rw [(List.Perm.flatMap_right _ h.mods).length_eq, List.flatMap_map, List.length_flatMap, List.length_flatMap]
  congr 2
  funext m
  unfold typeKeysOf
  simp only [List.length_map, Mod.ren_stmt]

theorem envOf_tenvRel : TEnvRel σ (Types.Env.of r₁) (Types.Env.of r₂) where
  reg := h
  link := by
    unfold Types.Env.of
    simp only [identity_linkAll_ren h]
    cases Identity.linkAll (Identity.Oracle.ofNat 0) r₁ with
    | none => rfl
    | some p => rfl
  dict := by
    unfold Types.Env.of
    simp only [identity_linkAll_ren h]
    cases Identity.linkAll (Identity.Oracle.ofNat 0) r₁ with
    | none =>
      simp only [Option.map_none]
      have := buildDict_ren h {}
      have h0 : lkRen σ ({} : Identity.Link) = {} := rfl
      rw [h0] at this
      rw [this]
      cases Identity.buildDict (Identity.Oracle.ofNat 0) r₁ {} <;> rfl
    | some p =>
      simp only [Option.map_some, llRen, buildDict_ren h]
      cases Identity.buildDict (Identity.Oracle.ofNat 0) r₁ p.1 <;> rfl
  fuel := by
    unfold Types.Env.of
    simp only [allTypeKeys_length h]
  posixOk := rfl

end

end Goyang.Lemmas.LoadOrder
