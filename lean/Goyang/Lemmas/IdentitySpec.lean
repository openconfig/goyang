import Goyang.Lemmas.IdentityDict
/-
Helper lemmas for C11, part 3: the comparator, key injectivity, `findIdentityBase` against the
specification's `names`; the specification's graphs, unfolded into facts about the list of
statements they are read off (`SurvFacts`, `GraphFacts`); the dictionary entries of a schema with
one statement per vertex.
-/
open Goyang.Lemmas.RegistryAux (byId_mem)
namespace Goyang.Lemmas.Identity
open Goyang.Lemmas.ListAux (eq_of_nodup_map)
open Goyang.Lemmas.RegistryAux (owner_mem)
open Goyang.Model Goyang.Model.Identity
open Goyang.Spec.Identity (Reach closure includedBy loadedModules names splitName moduleOfPrefix parts graph
  Graph vertexStmts Derives OneStatementPerVertex statementsOf)


theorem str_lt_or_gt {a b : String} (h : a ≠ b) : a < b ∨ b < a := by
  by_cases h1 : a < b
  · exact Or.inl h1
  · by_cases h2 : b < a
    · exact Or.inr h2
    · exact absurd (String.le_antisymm (String.not_lt.mp h2) (String.not_lt.mp h1)) h

theorem vtxLt_iff (a b : Vtx) : vtxLt a b = true ↔ (a.2 < b.2 ∨ (a.2 = b.2 ∧ a.1 < b.1)) := by
  unfold vtxLt
  by_cases h : a.2 = b.2
  · simp [h, String.lt_irrefl]
  · simp only [bne_iff_ne, ne_eq, h, not_false_eq_true, if_true, decide_eq_true_eq, false_and, or_false]

theorem vtxLt_strictTotal : StrictTotal vtxLt := by
  constructor
  · intro a
    cases hlt : vtxLt a a with
    | false => rfl
    | true =>
      rcases (vtxLt_iff a a).mp hlt with h | ⟨_, h⟩
      · exact absurd h (String.lt_irrefl _)
      · exact absurd h (String.lt_irrefl _)
  · intro a b c hab hbc
    rw [vtxLt_iff] at hab hbc ⊢
    rcases hab with h1 | ⟨e1, h1⟩
    · rcases hbc with h2 | ⟨e2, _⟩
      · exact Or.inl (String.lt_trans h1 h2)
      · exact Or.inl (e2 ▸ h1)
    · rcases hbc with h2 | ⟨e2, h2⟩
      · exact Or.inl (e1 ▸ h2)
      · exact Or.inr ⟨e1.trans e2, String.lt_trans h1 h2⟩
  · intro a b hne
    rw [vtxLt_iff, vtxLt_iff]
    by_cases h : a.2 = b.2
    · have h1 : a.1 ≠ b.1 := fun e => hne (Prod.ext e h)
      rcases str_lt_or_gt h1 with h2 | h2
      · exact Or.inl (Or.inr ⟨h, h2⟩)
      · exact Or.inr (Or.inr ⟨h.symm, h2⟩)
    · rcases str_lt_or_gt h with h2 | h2
      · exact Or.inl (Or.inl h2)
      · exact Or.inr (Or.inl h2)


theorem split_colon_unique : ∀ (l1 l2 r1 r2 : List Char), ':' ∉ l1 → ':' ∉ l2 →
    l1 ++ ':' :: r1 = l2 ++ ':' :: r2 → l1 = l2 ∧ r1 = r2 := by
  intro l1
  induction l1 with
  | nil =>
    intro l2 r1 r2 _ h2 h
    cases l2 with
    | nil => simp at h; exact ⟨rfl, h⟩
    | cons c l2 =>
      simp only [List.nil_append, List.cons_append, List.cons.injEq] at h
      exact absurd (h.1 ▸ List.mem_cons_self ..) h2
  | cons c l1 ih =>
    intro l2 r1 r2 h1 h2 h
    cases l2 with
    | nil =>
      simp only [List.nil_append, List.cons_append, List.cons.injEq] at h
      exact absurd (h.1 ▸ List.mem_cons_self ..) h1
    | cons d l2 =>
      simp only [List.cons_append, List.cons.injEq] at h
      obtain ⟨e1, e2⟩ := ih l2 r1 r2 (fun hm => h1 (List.mem_cons_of_mem _ hm))
        (fun hm => h2 (List.mem_cons_of_mem _ hm)) h.2
      exact ⟨by rw [h.1, e1], e2⟩

theorem key_inj {v1 v2 : Vtx} (h1 : ':' ∉ v1.1.toList) (h2 : ':' ∉ v2.1.toList)
    (h : Vtx.key v1 = Vtx.key v2) : v1 = v2 := by
  unfold Vtx.key at h
  have := congrArg String.toList h
  simp only [String.toList_append] at this
  have hc : ":".toList = [':'] := rfl
  rw [hc, List.append_assoc, List.append_assoc] at this
  obtain ⟨e1, e2⟩ := split_colon_unique _ _ _ _ h1 h2 this
  exact Prod.ext (String.toList_inj.mp e1) (String.toList_inj.mp e2)

theorem get?_some {d : Dict} {k : String} {e : DEntry} (h : d.get? k = some e) : e ∈ d ∧ e.key = k := by
  unfold Dict.get? at h
  exact ⟨List.mem_of_find?_eq_some h, by simpa using List.find?_some h⟩

theorem get?_of_key {d : Dict} {k : String} (h : ∃ x ∈ d, x.key = k) : ∃ e, d.get? k = some e := by
  obtain ⟨x, hx, hk⟩ := h
  unfold Dict.get?
  have : (d.find? (fun y => y.key == k)).isSome = true :=
    List.find?_isSome.mpr ⟨x, hx, by simp [hk]⟩
  exact Option.isSome_iff_exists.mp this

theorem findIdentityBase_mem {r : Registry} {dict : Dict} {root : Mod} {arg : String} {e : DEntry}
    (h : findIdentityBase r dict root arg = .ok e) : e ∈ dict := by
  unfold findIdentityBase at h
  simp only at h
  repeat' split at h
  all_goals first
    | (cases h; done)
    | (cases h; exact (get?_some (by assumption)).1)


/-- The module table holds modules only (what `Modules.add` guarantees). -/
def RegOK (r : Registry) : Prop := ∀ k m, r.getModule k = some m → m.isSub = false

theorem owner_of_module {r : Registry} {m : Mod} (h : m.isSub = false) : r.owner m = some m := by
  unfold Registry.owner Mod.belongsTo? Stmt.argOf?
  unfold Mod.isSub at h
  cases hb : m.stmt.one? "belongs-to" with
  | none => simp
  | some b => simp [hb] at h

theorem findModule_false_module {r : Registry} (hr : RegOK r) {i : Stmt} {m : Mod}
    (h : r.findModule false i = some m) : m.isSub = false := by
  unfold Registry.findModule at h
  simp only [Bool.false_eq_true, if_false] at h
  split at h
  · rename_i m' hm'
    cases h
    exact hr _ _ hm'
  · exact hr _ _ h

theorem splitColon_splitName (s : String) :
    (splitColon s).2 = (splitName s).2 ∧
    (((splitName s).1 = none ∧ (splitColon s).1 = "") ∨ (splitName s).1 = some (splitColon s).1) := by
  unfold splitColon splitName
  simp only
  split
  · exact ⟨rfl, Or.inr rfl⟩
  · exact ⟨rfl, Or.inl ⟨rfl, rfl⟩⟩

theorem findIdentityBase_ok (r : Registry) (hr : RegOK r) (dict : Dict) (root : Mod) (arg : String) (eb : DEntry) :
    findIdentityBase r dict root arg = .ok eb ↔
      ∃ v, names r root arg = some v ∧ dict.get? (Vtx.key v) = some eb := by
  obtain ⟨h2, h1⟩ := splitColon_splitName arg
  unfold findIdentityBase names moduleOfPrefix
  simp only
  rw [← h2]
  have fin : ∀ (t : Option Mod) (cls : String),
      (match t with
        | none => (Except.error (Err.at_ root.stmt cls) : Except Err DEntry)
        | some ow =>
          match dict.get? (ow.name ++ ":" ++ (splitColon arg).2) with
          | some e => .ok e
          | none => .error (Err.at_ root.stmt cls)) = .ok eb ↔
      ∃ v, t.map (fun target => (target.name, (splitColon arg).2)) = some v ∧ dict.get? (Vtx.key v) = some eb := by
    intro t cls
    cases t with
    | none => simp
    | some ow =>
      simp only [Option.map_some, Option.some.injEq, exists_eq_left', Vtx.key]
      cases dict.get? (ow.name ++ ":" ++ (splitColon arg).2) with
      | none => simp
      | some e => simp
  rcases h1 with ⟨hn, he⟩ | hs
  · -- no colon
    rw [hn, he]
    simp only [beq_self_eq_true, Bool.true_or, if_true]
    exact fin (r.owner root) _
  · rw [hs]
    simp only
    by_cases hc : ((splitColon arg).1 == "" || (splitColon arg).1 == root.getPrefix) = true
    · simp only [hc, if_true]
      exact fin (r.owner root) _
    · simp only [hc, if_false, Bool.false_eq_true]
      unfold Registry.findModuleByPrefix
      simp only [hc, if_false, Bool.false_eq_true]
      cases hi : root.imports.find? (fun i => i.argOf? "prefix" == some (splitColon arg).1) with
      | none => simp
      | some i =>
        simp only
        cases hf : r.findModule false i with
        | none => simp
        | some ext =>
          simp only
          rw [owner_of_module (findModule_false_module hr hf)]
          simp only
          exact fin (some ext) _

theorem mem_vertexStmts {r : Registry} {m : Mod} {vs : Spec.Identity.Vertex × Stmt} :
    vs ∈ vertexStmts r m ↔ ∃ ow, r.owner m = some ow ∧ vs.2 ∈ identities m ∧ vs.1 = (ow.name, vs.2.arg) := by
  unfold vertexStmts identities
  cases h : r.owner m with
  | none => simp
  | some ow =>
    simp only [List.mem_map, Option.some.injEq, exists_eq_left']
    constructor
    · rintro ⟨s, hs, rfl⟩; exact ⟨hs, rfl⟩
    · rintro ⟨hs, hv⟩; exact ⟨vs.2, hs, Prod.ext hv.symm rfl⟩

/-- The parts of the schema, as the specification computes them, are the (sub)modules in the schema. -/
theorem parts_spec {r : Registry} {ps : List Mod} (h : parts r = some ps) (m : Mod) :
    m ∈ ps ↔ ∃ s, InSchema r s ∧ r.byId s = some m := by
  unfold parts at h
  obtain ⟨ss, hss, rfl⟩ := Option.map_eq_some_iff.mp h
  have hc := closure_spec (includedBy r) _ _ _ hss
  simp only [List.mem_filterMap]
  constructor
  · rintro ⟨s, hs, hm⟩
    refine ⟨s, ?_, hm⟩
    obtain ⟨c, hc', hr⟩ := (hc s).mp hs
    rw [List.mem_eraseDups] at hc'
    obtain ⟨md, hmd, rfl⟩ := List.mem_map.mp hc'
    exact ⟨md, hmd, hr⟩
  · rintro ⟨s, ⟨md, hmd, hr⟩, hm⟩
    refine ⟨s, (hc s).mpr ⟨md.seq, ?_, hr⟩, hm⟩
    rw [List.mem_eraseDups]
    exact List.mem_map.mpr ⟨md, hmd, rfl⟩

/-- The base statements of the schema: (vertex of the identity, argument, vertex named). -/
def basesOf (r : Registry) (ps : List Mod) : List (Spec.Identity.Vertex × String × Option Spec.Identity.Vertex) :=
  ps.flatMap fun m =>
    (vertexStmts r m).flatMap fun (v, s) => (s.all "base").map fun b => (v, b.arg, names r m b.arg)

abbrev Surv := Spec.Identity.Vertex × Mod × Stmt

/-- Every identity statement of the parts `ps`, with its vertex and declaring (sub)module. -/
def fullStmts (r : Registry) (ps : List Mod) : List Surv :=
  ps.flatMap fun m => (vertexStmts r m).map fun (v, s) => (v, m, s)

theorem statementsOf_eq (r : Registry) (ss : List Nat) : statementsOf r ss = fullStmts r (ss.filterMap r.byId) := rfl

theorem mem_fullStmts {r : Registry} {ps : List Mod} {x : Surv} :
    x ∈ fullStmts r ps ↔ ∃ m ∈ ps, ∃ vs ∈ vertexStmts r m, x = (vs.1, m, vs.2) := by
  unfold fullStmts
  simp only [List.mem_flatMap, List.mem_map]
  constructor
  · rintro ⟨m, hm, ⟨v, s⟩, hvs, rfl⟩; exact ⟨m, hm, (v, s), hvs, rfl⟩
  · rintro ⟨m, hm, ⟨v, s⟩, hvs, rfl⟩; exact ⟨m, hm, (v, s), hvs, rfl⟩

theorem fullStmts_verts (r : Registry) (ps : List Mod) :
    (fullStmts r ps).map (·.1) = (ps.flatMap (vertexStmts r)).map (·.1) := by
  unfold fullStmts
  rw [List.map_flatMap, List.map_flatMap]
  congr 1
  funext m
  rw [List.map_map]
  apply List.map_congr_left
  rintro ⟨v, s⟩ _
  rfl

/-- The base statements of the surviving statements: (vertex of the identity, argument, vertex named). -/
def survBases (r : Registry) (sv : List Surv) : List (Spec.Identity.Vertex × String × Option Spec.Identity.Vertex) :=
  sv.flatMap fun (v, m, s) => (s.all "base").map fun b => (v, b.arg, names r m b.arg)

theorem mem_survBases {r : Registry} {sv : List Surv} {x : Spec.Identity.Vertex × String × Option Spec.Identity.Vertex} :
    x ∈ survBases r sv ↔ ∃ y ∈ sv, ∃ b ∈ y.2.2.all "base", x = (y.1, b.arg, names r y.2.1 b.arg) := by
  unfold survBases
  simp only [List.mem_flatMap, List.mem_map]
  constructor
  · rintro ⟨⟨v, m, s⟩, hy, b, hb, rfl⟩
    exact ⟨(v, m, s), hy, b, hb, rfl⟩
  · rintro ⟨⟨v, m, s⟩, hy, b, hb, rfl⟩
    exact ⟨(v, m, s), hy, b, hb, rfl⟩

structure SurvFacts (r : Registry) (G : Graph) (ps : List Mod) (sv : List Surv) : Prop where
  parts : parts r = some ps
  vertsEq : G.verts = sv.map (·.1)
  verts : ∀ v, v ∈ G.verts ↔ ∃ x ∈ sv, x.1 = v
  edges : ∀ i b, (i, b) ∈ G.edges ↔ ∃ x ∈ sv, x.1 = i ∧ ∃ base ∈ x.2.2.all "base",
    names r x.2.1 base.arg = some b ∧ b ∈ G.verts
  dangling : G.dangling = [] ↔ ∀ x ∈ sv, ∀ base ∈ x.2.2.all "base",
    ∃ b, names r x.2.1 base.arg = some b ∧ b ∈ G.verts
  orphans : G.orphans = [] ↔ ∀ m ∈ ps, ∃ ow, r.owner m = some ow

theorem basesOf_eq (r : Registry) (ps : List Mod) : basesOf r ps = survBases r (fullStmts r ps) := by
  unfold basesOf survBases fullStmts
  rw [List.flatMap_assoc]
  congr 1
  funext m
  rw [List.flatMap_map]

def edgeOf (verts : List Spec.Identity.Vertex) :
    Spec.Identity.Vertex × String × Option Spec.Identity.Vertex → Option (Spec.Identity.Vertex × Spec.Identity.Vertex) :=
  fun (v, _, t) =>
    match t with
    | some b => if b ∈ verts then some (v, b) else none
    | none => none

def danglingOf (verts : List Spec.Identity.Vertex) :
    Spec.Identity.Vertex × String × Option Spec.Identity.Vertex → Option (Spec.Identity.Vertex × String) :=
  fun (v, a, t) =>
    match t with
    | some b => if b ∈ verts then none else some (v, a)
    | none => some (v, a)

theorem survFacts_of {r : Registry} {G : Graph} {ps : List Mod} {sv : List Surv} (hps : parts r = some ps)
    (hv : G.verts = sv.map (·.1)) (he : G.edges = (survBases r sv).filterMap (edgeOf G.verts))
    (hd : G.dangling = (survBases r sv).filterMap (danglingOf G.verts))
    (ho : G.orphans = (ps.filter fun m => (r.owner m).isNone).map (·.name)) : SurvFacts r G ps sv := by
  refine ⟨hps, hv, ?_, ?_, ?_, ?_⟩
  · intro v
    rw [hv]
    simp only [List.mem_map]
  · intro i b
    rw [he]
    simp only [List.mem_filterMap, mem_survBases]
    constructor
    · rintro ⟨x, ⟨y, hy, base, hbase, rfl⟩, hx⟩
      simp only [edgeOf] at hx
      split at hx
      · rename_i b' hb'
        split at hx
        · rename_i hmem
          simp only [Option.some.injEq, Prod.mk.injEq] at hx
          obtain ⟨rfl, rfl⟩ := hx
          exact ⟨y, hy, rfl, base, hbase, hb', hmem⟩
        · cases hx
      · cases hx
    · rintro ⟨y, hy, rfl, base, hbase, hn, hmem⟩
      refine ⟨(y.1, base.arg, names r y.2.1 base.arg), ⟨y, hy, base, hbase, rfl⟩, ?_⟩
      simp only [edgeOf, hn]
      rw [if_pos hmem]
  · rw [hd, List.filterMap_eq_nil_iff]
    constructor
    · intro hall y hy base hbase
      have := hall (y.1, base.arg, names r y.2.1 base.arg) (mem_survBases.mpr ⟨y, hy, base, hbase, rfl⟩)
      simp only [danglingOf] at this
      split at this
      · rename_i b hb
        split at this
        · rename_i hmem; exact ⟨b, hb, hmem⟩
        · cases this
      · cases this
    · intro hall x hx
      obtain ⟨y, hy, base, hbase, rfl⟩ := mem_survBases.mp hx
      obtain ⟨b, hb, hmem⟩ := hall y hy base hbase
      simp only [danglingOf, hb]
      rw [if_pos hmem]
  · rw [ho, List.map_eq_nil_iff, List.filter_eq_nil_iff]
    constructor
    · intro hall m hm
      have := hall m hm
      cases ho : r.owner m with
      | none => simp [ho] at this
      | some ow => exact ⟨ow, rfl⟩
    · intro hall m hm
      obtain ⟨ow, ho⟩ := hall m hm
      simp [ho]

structure GraphFacts (r : Registry) (G : Graph) (ps : List Mod) : Prop where
  parts : parts r = some ps
  vertsEq : G.verts = (ps.flatMap (vertexStmts r)).map (·.1)
  verts : ∀ v, v ∈ G.verts ↔ ∃ m ∈ ps, ∃ vs ∈ vertexStmts r m, vs.1 = v
  edges : ∀ i b, (i, b) ∈ G.edges ↔ ∃ m ∈ ps, ∃ vs ∈ vertexStmts r m, vs.1 = i ∧ ∃ base ∈ vs.2.all "base",
    names r m base.arg = some b ∧ b ∈ G.verts
  dangling : G.dangling = [] ↔ ∀ m ∈ ps, ∀ vs ∈ vertexStmts r m, ∀ base ∈ vs.2.all "base",
    ∃ b, names r m base.arg = some b ∧ b ∈ G.verts
  orphans : G.orphans = [] ↔ ∀ m ∈ ps, ∃ ow, r.owner m = some ow

/-- `GraphFacts` speaks of the statements (sub)module by (sub)module, `SurvFacts` of the list of all
of them. -/
theorem graphFacts_iff {r : Registry} {G : Graph} {ps : List Mod} :
    GraphFacts r G ps ↔ SurvFacts r G ps (fullStmts r ps) := by
  have hx : ∀ (p : Surv → Prop), (∃ x ∈ fullStmts r ps, p x) ↔
      ∃ m ∈ ps, ∃ vs ∈ vertexStmts r m, p (vs.1, m, vs.2) := by
    intro p
    constructor
    · rintro ⟨x, hx, hp⟩
      obtain ⟨m, hm, vs, hvs, rfl⟩ := mem_fullStmts.mp hx
      exact ⟨m, hm, vs, hvs, hp⟩
    · rintro ⟨m, hm, vs, hvs, hp⟩
      exact ⟨_, mem_fullStmts.mpr ⟨m, hm, vs, hvs, rfl⟩, hp⟩
  have hall : ∀ (p : Surv → Prop), (∀ x ∈ fullStmts r ps, p x) ↔
      ∀ m ∈ ps, ∀ vs ∈ vertexStmts r m, p (vs.1, m, vs.2) := by
    intro p
    constructor
    · intro h m hm vs hvs
      exact h _ (mem_fullStmts.mpr ⟨m, hm, vs, hvs, rfl⟩)
    · intro h x hx
      obtain ⟨m, hm, vs, hvs, rfl⟩ := mem_fullStmts.mp hx
      exact h m hm vs hvs
  constructor
  · intro gf
    exact ⟨gf.parts, gf.vertsEq.trans (fullStmts_verts r ps).symm, fun v => (gf.verts v).trans (hx (·.1 = v)).symm,
      fun i b => (gf.edges i b).trans (hx fun x => x.1 = i ∧ ∃ base ∈ x.2.2.all "base",
        names r x.2.1 base.arg = some b ∧ b ∈ G.verts).symm,
      gf.dangling.trans (hall fun x => ∀ base ∈ x.2.2.all "base",
        ∃ b, names r x.2.1 base.arg = some b ∧ b ∈ G.verts).symm, gf.orphans⟩
  · intro sf
    exact ⟨sf.parts, sf.vertsEq.trans (fullStmts_verts r ps), fun v => (sf.verts v).trans (hx (·.1 = v)),
      fun i b => (sf.edges i b).trans (hx fun x => x.1 = i ∧ ∃ base ∈ x.2.2.all "base",
        names r x.2.1 base.arg = some b ∧ b ∈ G.verts),
      sf.dangling.trans (hall fun x => ∀ base ∈ x.2.2.all "base",
        ∃ b, names r x.2.1 base.arg = some b ∧ b ∈ G.verts), sf.orphans⟩

theorem GraphFacts.toSurv {r : Registry} {G : Graph} {ps : List Mod} (gf : GraphFacts r G ps) :
    SurvFacts r G ps (fullStmts r ps) := graphFacts_iff.mp gf

theorem graph_facts {r : Registry} {G : Graph} (h : graph r = some G) : ∃ ps, GraphFacts r G ps := by
  unfold graph at h
  obtain ⟨ps, hps, rfl⟩ := Option.map_eq_some_iff.mp h
  refine ⟨ps, graphFacts_iff.mpr (survFacts_of hps (fullStmts_verts r ps).symm ?_ ?_ rfl)⟩
  · show (basesOf r ps).filterMap _ = _
    rw [basesOf_eq]
    rfl
  · show (basesOf r ps).filterMap _ = _
    rw [basesOf_eq]
    rfl


/-- Well-formedness of the loaded set that the agreement needs. -/
structure Hyp (r : Registry) : Prop where
  reg : RegOK r
  noColon : ∀ m ∈ r.mods, ':' ∉ m.name.toList
  one : ∀ G, graph r = some G → OneStatementPerVertex G

theorem names_mem {r : Registry} {m : Mod} {arg : String} {v : Spec.Identity.Vertex}
    (h : names r m arg = some v) (hm : m ∈ r.mods) : ∃ t ∈ r.mods, v.1 = t.name := by
  unfold names at h
  simp only at h
  obtain ⟨t, ht, rfl⟩ := Option.map_eq_some_iff.mp h
  refine ⟨t, ?_, rfl⟩
  unfold Spec.Identity.moduleOfPrefix at ht
  simp only at ht
  split at ht
  · exact owner_mem ht hm
  · split at ht
    · exact owner_mem ht hm
    · split at ht
      · obtain ⟨id, hid⟩ := findModule_byId ht
        exact byId_mem hid
      · cases ht

/-- Derivation in the graph is "below" in the model, given that the edges agree. -/
theorem derives_snoc {G : Graph} {j k i : Spec.Identity.Vertex} (h1 : Derives G j k) (h2 : (k, i) ∈ G.edges) :
    Derives G j i := by
  induction h1 with
  | base h => exact Derives.step h (Derives.base h2)
  | step h _ ih => exact Derives.step h (ih h2)

theorem below_iff_derives {G : Graph} {E : Vtx → Vtx → Prop} (hE : ∀ b i, E b i ↔ (i, b) ∈ G.edges)
    (i j : Vtx) : Below E i j ↔ Derives G j i := by
  constructor
  · intro h
    induction h with
    | direct h => exact Derives.base ((hE _ _).mp h)
    | step h _ ih => exact derives_snoc ih ((hE _ _).mp h)
  · intro h
    induction h with
    | base h => exact Below.direct ((hE _ _).mpr h)
    | step h _ ih => exact Below.trans ih (Below.direct ((hE _ _).mpr h))

/-- The dictionary and the list of statements `sv` are the same thing. -/
structure Agrees (r : Registry) (dict : Dict) (sv : List (Spec.Identity.Vertex × Mod × Stmt)) : Prop where
  a1 : ∀ e ∈ dict, ∃ m, r.byId e.root = some m ∧ (e.vtx, m, e.stmt) ∈ sv ∧ e.key = Vtx.key e.vtx ∧
    ∃ ow ∈ r.mods, e.vtx.1 = ow.name
  a2 : ∀ x ∈ sv, ∃ e ∈ dict, e.vtx = x.1 ∧ e.stmt = x.2.2 ∧ r.byId e.root = some x.2.1

theorem agrees_full {r : Registry} {G : Graph} {ps : List Mod} {dict : Dict} (hyp : Hyp r) (hone : G.verts.Nodup)
    (gf : GraphFacts r G ps) (hs : ∀ e ∈ dict, Sound r e)
    (hc : ∀ s, InSchema r s → ∀ m ow, r.byId s = some m → r.owner m = some ow → ∀ st ∈ identities m,
      ∃ x ∈ dict, x.key = Vtx.key (ow.name, st.arg)) : Agrees r dict (fullStmts r ps) := by
  have a1 : ∀ e ∈ dict, ∃ m, r.byId e.root = some m ∧ (e.vtx, m, e.stmt) ∈ fullStmts r ps ∧
      e.key = Vtx.key e.vtx ∧ ∃ ow ∈ r.mods, e.vtx.1 = ow.name := by
    intro e he
    obtain ⟨m, ow, hin, hroot, how, hst, hv, hk⟩ := hs e he
    exact ⟨m, hroot, mem_fullStmts.mpr ⟨m, (parts_spec gf.parts m).mpr ⟨m.seq, hin, byId_self hroot⟩, (e.vtx, e.stmt),
      mem_vertexStmts.mpr ⟨ow, how, hst, hv⟩, rfl⟩, hk, ow, owner_mem how (byId_mem hroot), by rw [hv]⟩
  refine ⟨a1, fun y hy => ?_⟩
  obtain ⟨m, hm, vs, hvs, rfl⟩ := mem_fullStmts.mp hy
  obtain ⟨s, hin, hbyid⟩ := (parts_spec gf.parts m).mp hm
  obtain ⟨ow, how, hst, hv⟩ := mem_vertexStmts.mp hvs
  obtain ⟨x, hx, hxk⟩ := hc s hin m ow hbyid how vs.2 hst
  obtain ⟨m', hroot', hfull', hk', ow', how', hname'⟩ := a1 x hx
  have hvtx : x.vtx = vs.1 := by
    apply key_inj _ _ (by rw [← hk', hxk, hv])
    · rw [hname']; exact hyp.noColon ow' how'
    · rw [hv]; exact hyp.noColon ow (owner_mem how (byId_mem hbyid))
  have he := eq_of_nodup_map (fun (y : Surv) => y.1) (fullStmts r ps) (fullStmts_verts r ps ▸ gf.vertsEq ▸ hone)
    _ hfull' _ hy hvtx
  simp only [Prod.mk.injEq] at he
  obtain ⟨-, hmod, hstmt⟩ := he
  exact ⟨x, hx, hvtx, hstmt, hmod ▸ hroot'⟩


theorem pairwise_before {l : List Vtx} (h : l.Pairwise (fun a b => vtxLt a b = true)) :
    l.Pairwise Spec.Identity.Before :=
  h.imp (fun hab => (vtxLt_iff _ _).mp hab)

/-! ### finite checks that establish the hypotheses for a concrete loaded set -/

theorem regOK_of_entries {r : Registry}
    (h : ∀ kv ∈ r.modules, ∀ m, r.byId kv.2 = some m → m.isSub = false) : RegOK r := by
  intro k m hk
  unfold Registry.getModule KeyMap.get? at hk
  obtain ⟨id, hid, hb⟩ := Option.bind_eq_some_iff.mp hk
  obtain ⟨kv, hkv, rfl⟩ := Option.map_eq_some_iff.mp hid
  exact h kv (List.mem_of_find?_eq_some hkv) m hb

theorem linkOK_of_all {r : Registry} {lk : Link}
    (h : ∀ m ∈ r.mods, includeSucc r lk m.seq = includedBy r m.seq) : LinkOK r lk := by
  intro s _
  cases hb : r.byId s with
  | none => simp [includeSucc, includedBy, hb]
  | some m =>
    have := h m (byId_mem hb)
    rw [byId_seq hb] at this
    exact this

theorem acyclic_of_rank {G : Graph} (rank : Spec.Identity.Vertex → Nat)
    (h : ∀ e ∈ G.edges, rank e.2 < rank e.1) : Spec.Identity.Acyclic G := by
  have key : ∀ j i, Derives G j i → rank i < rank j := by
    intro j i hd
    induction hd with
    | base he => exact h _ he
    | step he _ ih => exact Nat.lt_trans ih (h _ he)
  intro v hv
  exact Nat.lt_irrefl _ (key v v hv)

end Goyang.Lemmas.Identity
