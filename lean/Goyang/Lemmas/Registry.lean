import Goyang.Model.Ctx
import Goyang.Spec.Registry
import Goyang.Lemmas.StrOrd
import Goyang.Lemmas.Date
import Goyang.Lemmas.RegistryAux
/-
Lemmas for C13 (a): the registry `Registry.add` folded over a list of loads binds every key to
the header the specification names (`denotesS`, the specification read with Go's string order;
`Props/C13.lean` converts to date order for well-formed dates).
-/
open Goyang.Lemmas.RegistryAux (mods_withKm)
open Goyang.Lemmas.RegistryAux (mods_withUm)
namespace Goyang.Lemmas.Registry
open Goyang.Model Goyang.Spec.Registry Goyang.Lemmas.StrOrd

/-! ### keys -/

/-- The name contains no `@` (YANG identifiers never do). -/
def NoAt (s : String) : Prop := '@' ∉ s.toList

theorem contains_of_noAt {s : String} (h : NoAt s) : s.toList.contains '@' = false := by
  simpa [NoAt] using h

theorem noAt_of_contains {s : String} (h : s.toList.contains '@' = false) : NoAt s := by
  simpa [NoAt] using h

theorem toList_key (a r : String) : (a ++ "@" ++ r).toList = a.toList ++ '@' :: r.toList := by
  simp [String.toList_append]

theorem list_key_inj : ∀ {a a' r r' : List Char}, '@' ∉ a → '@' ∉ a' →
    a ++ '@' :: r = a' ++ '@' :: r' → a = a' ∧ r = r'
  | [], [], _, _, _, _, h => by simpa using h
  | [], c :: _, _, _, _, h', h => by simp at h; simp [← h.1] at h'
  | c :: _, [], _, _, h', _, h => by simp at h; simp [h.1] at h'
  | c :: a, c' :: a', _, _, h1, h2, h => by
    simp only [List.cons_append, List.cons.injEq] at h
    have := list_key_inj (a := a) (a' := a') (by simp_all) (by simp_all) h.2
    simp [h.1, this.1, this.2]

theorem key_inj {a a' r r' : String} (ha : NoAt a) (ha' : NoAt a') (h : a ++ "@" ++ r = a' ++ "@" ++ r') :
    a = a' ∧ r = r' := by
  have := congrArg String.toList h
  rw [toList_key, toList_key] at this
  have := list_key_inj ha ha' this
  exact ⟨String.toList_inj.mp this.1, String.toList_inj.mp this.2⟩

theorem key_ne_name {a r n : String} (hn : NoAt n) : a ++ "@" ++ r ≠ n := by
  intro h; apply hn; rw [← h, toList_key]; simp

theorem key_ne_self (a r : String) : a ++ "@" ++ r ≠ a := by
  intro h
  have := congrArg (fun s => s.toList.length) h
  simp at this

/-! ### the specification read with string order -/

/-- `a` is not later than `b` in Go's string order; `""` (no revision) is the least string. -/
def sLe (a b : String) : Bool := !strLt b a

theorem sLe_refl (a : String) : sLe a a = true := charsLe_refl _

theorem sLe_trans {a b c : String} (h1 : sLe a b = true) (h2 : sLe b c = true) : sLe a c = true :=
  charsLe_trans h1 h2

theorem sLe_total (a b : String) : sLe a b = true ∨ sLe b a = true :=
  Bool.or_eq_true _ _ ▸ charsLe_total a.toList b.toList

def latestS (hs : List Header) : Option Header := hs.find? fun h => hs.all fun g => sLe g.rev h.rev

def denotesS (hs : List Header) (sub : Bool) (key : String) : Option Header :=
  let same := hs.filter (·.isSub == sub)
  match same.find? (fun h => h.rev ≠ "" ∧ h.name ++ "@" ++ h.rev = key) with
  | some h => some h
  | none => latestS (same.filter (·.name = key))

theorem exists_max : ∀ (c : List Header), c ≠ [] → ∃ o ∈ c, ∀ g ∈ c, sLe g.rev o.rev = true
  | [h], _ => ⟨h, by simp, by simp [sLe_refl]⟩
  | h :: h' :: rest, _ => by
    obtain ⟨o, ho, hmax⟩ := exists_max (h' :: rest) (by simp)
    rcases sLe_total h.rev o.rev with hle | hle
    · exact ⟨o, List.mem_cons_of_mem _ ho, fun g hg => by
        rcases List.mem_cons.mp hg with rfl | hg
        · exact hle
        · exact hmax g hg⟩
    · exact ⟨h, by simp, fun g hg => by
        rcases List.mem_cons.mp hg with rfl | hg
        · exact sLe_refl _
        · exact sLe_trans (hmax g hg) hle⟩

theorem latestS_eq_none {c : List Header} : latestS c = none ↔ c = [] := by
  constructor
  · intro h
    apply Classical.byContradiction
    intro hc
    obtain ⟨o, ho, hmax⟩ := exists_max c hc
    simp only [latestS, List.find?_eq_none] at h
    exact h o ho (List.all_eq_true.mpr hmax)
  · rintro rfl; rfl

theorem latestS_some {c : List Header} {o : Header} (h : latestS c = some o) :
    o ∈ c ∧ ∀ g ∈ c, sLe g.rev o.rev = true := by
  have h1 := List.mem_of_find?_eq_some h
  have h2 := List.find?_some h
  exact ⟨h1, List.all_eq_true.mp h2⟩

/-- Adding a header at the end of a list of headers. -/
theorem latestS_snoc (c : List Header) (h : Header) :
    latestS (c ++ [h]) =
      match latestS c with
      | none => some h
      | some o => if strLt o.rev h.rev then some h else some o := by
  cases hc : latestS c with
  | none =>
    rw [latestS_eq_none.mp hc]
    simp [latestS, sLe_refl]
  | some o =>
    obtain ⟨ho, hmax⟩ := latestS_some hc
    simp only
    by_cases hlt : strLt o.rev h.rev = true
    · -- nobody in `c` is at least `h`
      simp only [hlt, if_true]
      unfold latestS
      rw [List.find?_append]
      have : (c.find? fun x => (c ++ [h]).all fun g => sLe g.rev x.rev) = none := by
        rw [List.find?_eq_none]
        intro g hg
        simp only [List.all_append, List.all_cons, List.all_nil, Bool.and_true, Bool.and_eq_true, not_and,
          Bool.not_eq_true]
        intro _
        have hgo := hmax g hg
        simp only [sLe, Bool.not_eq_true', Bool.not_eq_false'] at *
        rcases strLt_total g.rev o.rev with h' | h' | h'
        · exact strLt_trans h' hlt
        · rw [h']; exact hlt
        · simp [h'] at hgo
      rw [this]
      simp only [Option.none_or, List.find?_cons, List.all_append, List.all_cons, List.all_nil, Bool.and_true,
        sLe_refl]
      have : (c.all fun g => sLe g.rev h.rev) = true := by
        rw [List.all_eq_true]; intro g hg
        exact sLe_trans (hmax g hg) (by simp [sLe, strLt_asymm hlt])
      simp [this]
    · rw [if_neg hlt]
      unfold latestS at hc ⊢
      rw [List.find?_append]
      have hpred : ∀ x ∈ c, ((c ++ [h]).all fun g => sLe g.rev x.rev) =
          ((c.all fun g => sLe g.rev x.rev) && sLe h.rev x.rev) := by
        intro x _; simp [List.all_append]
      -- elements before `o` still fail, `o` still passes
      have : (c.find? fun x => (c ++ [h]).all fun g => sLe g.rev x.rev) = some o := by
        rw [List.find?_eq_some_iff_append] at hc ⊢
        obtain ⟨hp, as, bs, rfl, hbefore⟩ := hc
        refine ⟨?_, as, bs, rfl, ?_⟩
        · rw [hpred o ho, hp]; simp [sLe, hlt]
        · intro a ha
          have := hbefore a ha
          rw [hpred a (by simp [ha])]
          rw [Bool.not_eq_true'] at this ⊢
          rw [this]; rfl
      rw [this]; rfl

/-- A header that is already present changes nothing. -/
theorem latestS_snoc_dup (c : List Header) {h : Header} (hm : h ∈ c) : latestS (c ++ [h]) = latestS c := by
  unfold latestS
  have hpred : ∀ x : Header, ((c ++ [h]).all fun g => sLe g.rev x.rev) = (c.all fun g => sLe g.rev x.rev) := by
    intro x
    simp only [List.all_append, List.all_cons, List.all_nil, Bool.and_true]
    cases hall : c.all fun g => sLe g.rev x.rev with
    | false => rfl
    | true => simpa using List.all_eq_true.mp hall h hm
  simp only [hpred]
  rw [List.find?_append]
  cases hf : c.find? fun x => c.all fun g => sLe g.rev x.rev with
  | some o => rfl
  | none =>
    simp only [Option.none_or, List.find?_cons, List.find?_nil]
    rw [List.find?_eq_none] at hf
    have := hf h hm
    simp only [Bool.not_eq_true] at this
    simp [this]

/-! ### `denotesS` when one more header is loaded -/

def exactP (key : String) (h : Header) : Bool := decide (h.rev ≠ "" ∧ h.name ++ "@" ++ h.rev = key)

theorem denotesS_def (hs : List Header) (sub : Bool) (key : String) :
    denotesS hs sub key =
      ((hs.filter (·.isSub == sub)).find? (exactP key)).or
        (latestS ((hs.filter (·.isSub == sub)).filter (·.name = key))) := by
  unfold denotesS
  simp only
  split <;> rename_i h
  · unfold exactP; rw [h]; rfl
  · unfold exactP; rw [h]; rfl

theorem denotesS_other {hs : List Header} {h : Header} {sub : Bool} (hk : h.isSub ≠ sub) (key : String) :
    denotesS (hs ++ [h]) sub key = denotesS hs sub key := by
  simp [denotesS_def, List.filter_append, hk]

theorem denotesS_dup {hs : List Header} {h : Header} (hm : h ∈ hs) (sub : Bool) (key : String) :
    denotesS (hs ++ [h]) sub key = denotesS hs sub key := by
  by_cases hk : h.isSub = sub
  · rw [denotesS_def, denotesS_def]
    have hsame : h ∈ hs.filter (·.isSub == sub) := by simp [hm, hk]
    simp only [List.filter_append, List.filter_cons, List.filter_nil, hk, beq_self_eq_true, if_true,
      List.find?_append]
    cases hf : (hs.filter (·.isSub == sub)).find? (exactP key) with
    | some o => simp
    | none =>
      have hno : exactP key h = false := by
        rw [List.find?_eq_none] at hf
        simpa using hf h hsame
      simp only [Option.none_or, List.find?_cons, hno, List.find?_nil]
      by_cases hn : h.name = key
      · simp only [hn, decide_true, if_true]
        rw [latestS_snoc_dup]
        simp [hm, hk, hn]
      · simp [hn]
  · exact denotesS_other hk key

/-- `x` is what `key` denotes among `hs`, said without reference to the order of `hs`. -/
def Den (hs : List Header) (sub : Bool) (key : String) (x : Header) : Prop :=
  x ∈ hs ∧ x.isSub = sub ∧
  ((x.rev ≠ "" ∧ x.name ++ "@" ++ x.rev = key) ∨
   ((∀ g ∈ hs, g.isSub = sub → ¬ (g.rev ≠ "" ∧ g.name ++ "@" ++ g.rev = key)) ∧ x.name = key ∧
     ∀ g ∈ hs, g.isSub = sub → g.name = key → sLe g.rev x.rev = true))

theorem den_of_denotesS {hs : List Header} {sub : Bool} {key : String} {x : Header}
    (h : denotesS hs sub key = some x) : Den hs sub key x := by
  rw [denotesS_def] at h
  cases hf : (hs.filter (·.isSub == sub)).find? (exactP key) with
  | some o =>
    simp only [hf, Option.some_or, Option.some.injEq] at h
    subst h
    have h1 := List.mem_of_find?_eq_some hf
    have h2 := List.find?_some hf
    simp only [List.mem_filter, beq_iff_eq] at h1
    simp only [exactP, decide_eq_true_eq] at h2
    exact ⟨h1.1, h1.2, .inl h2⟩
  | none =>
    simp only [hf, Option.none_or] at h
    obtain ⟨hm, hmax⟩ := latestS_some h
    simp only [List.mem_filter, beq_iff_eq, decide_eq_true_eq] at hm
    refine ⟨hm.1.1, hm.1.2, .inr ⟨?_, hm.2, ?_⟩⟩
    · intro g hg hgs
      rw [List.find?_eq_none] at hf
      have := hf g (by simp [hg, hgs])
      simpa [exactP] using this
    · intro g hg hgs hgn
      exact hmax g (by simp [hg, hgs, hgn])

theorem denotesS_mem {hs : List Header} {sub : Bool} {key : String} {x : Header}
    (h : denotesS hs sub key = some x) :
    x ∈ hs ∧ x.isSub = sub ∧ ((x.rev ≠ "" ∧ x.name ++ "@" ++ x.rev = key) ∨ x.name = key) :=
  let ⟨hm, hsub, h3⟩ := den_of_denotesS h
  ⟨hm, hsub, h3.imp id (·.2.1)⟩

theorem denotesS_exact_eq {hs : List Header} {sub : Bool} {n r : String} {x : Header}
    (hn : ∀ g ∈ hs, NoAt g.name) (hnn : NoAt n) (h : denotesS hs sub (n ++ "@" ++ r) = some x) :
    x = ⟨sub, n, r⟩ := by
  obtain ⟨hm, hsub, h3⟩ := denotesS_mem h
  rcases h3 with ⟨_, hk⟩ | hk
  · obtain ⟨h1, h2⟩ := key_inj (hn x hm) hnn hk
    cases x; simp_all
  · exact absurd hk.symm (key_ne_name (hn x hm))

theorem find?_exactP_bare {n : String} (hn : NoAt n) (l : List Header) : l.find? (exactP n) = none := by
  rw [List.find?_eq_none]
  intro x _
  simp only [exactP, decide_eq_true_eq, not_and]
  intro _ he
  exact key_ne_name hn he

theorem denotesS_bare_of_mem {hs : List Header} {h : Header} (hm : h ∈ hs) (hn : NoAt h.name) :
    ∃ x, denotesS hs h.isSub h.name = some x := by
  rw [denotesS_def, find?_exactP_bare hn, Option.none_or]
  cases hl : latestS ((hs.filter (·.isSub == h.isSub)).filter (·.name = h.name)) with
  | some x => exact ⟨x, rfl⟩
  | none =>
    have : h ∈ (hs.filter (·.isSub == h.isSub)).filter (·.name = h.name) := by simp [hm]
    rw [latestS_eq_none.mp hl] at this
    cases this

/-- An exact key `name@rev` denotes the header with that name and revision, if loaded. -/
theorem denotesS_exact_of_mem {hs : List Header} {h : Header} (hm : h ∈ hs) (hr : h.rev ≠ "") :
    ∃ x, denotesS hs h.isSub (h.name ++ "@" ++ h.rev) = some x := by
  rw [denotesS_def]
  cases hf : (hs.filter (·.isSub == h.isSub)).find? (exactP (h.name ++ "@" ++ h.rev)) with
  | some o => exact ⟨o, by simp⟩
  | none =>
    rw [List.find?_eq_none] at hf
    have := hf h (by simp [hm])
    simp [exactP, hr] at this

theorem denotesS_snoc {hs : List Header} {h : Header} (hnew : h.rev ≠ "" → h ∉ hs)
    (hn : NoAt h.name) (hns : ∀ x ∈ hs, NoAt x.name) (key : String) :
    denotesS (hs ++ [h]) h.isSub key =
      if h.rev ≠ "" ∧ key = h.name ++ "@" ++ h.rev then some h
      else if key = h.name then
        (match denotesS hs h.isSub key with
         | none => some h
         | some o => if strLt o.rev h.rev then some h else some o)
      else denotesS hs h.isSub key := by
  rw [denotesS_def, denotesS_def]
  simp only [List.filter_append, List.filter_cons, List.filter_nil, beq_self_eq_true, if_true,
    List.find?_append, List.find?_cons, List.find?_nil]
  by_cases hk : h.rev ≠ "" ∧ key = h.name ++ "@" ++ h.rev
  · obtain ⟨hr, rfl⟩ := hk
    have hex : (hs.filter (·.isSub == h.isSub)).find? (exactP (h.name ++ "@" ++ h.rev)) = none := by
      rw [List.find?_eq_none]
      intro x hx
      simp only [List.mem_filter, beq_iff_eq] at hx
      simp only [exactP, decide_eq_true_eq, not_and]
      intro _ he
      have := key_inj (hns x hx.1) hn he
      apply hnew hr
      have : x = h := by
        cases x; cases h; simp_all
      exact this ▸ hx.1
    have hyes : exactP (h.name ++ "@" ++ h.rev) h = true := by simp [exactP, hr]
    simp [hex, hyes, hr]
  · have hno : exactP key h = false := by
      simp only [exactP, decide_eq_false_iff_not, not_and]
      intro hr he; exact hk ⟨hr, he.symm⟩
    rw [if_neg hk]
    simp only [hno, Option.or_none]
    by_cases hk2 : key = h.name
    · subst hk2
      have hex := find?_exactP_bare hn (hs.filter (·.isSub == h.isSub))
      simp only [hex, Option.none_or, decide_true, if_true]
      rw [latestS_snoc]
    · have : ¬ h.name = key := fun e => hk2 e.symm
      simp [hk2, this]

/-! ### association lists as maps -/

theorem get?_append (m : KeyMap) (k : String) (v : Nat) (k' : String) :
    KeyMap.get? (m ++ [(k, v)]) k' =
      match KeyMap.get? m k' with
      | some x => some x
      | none => if k' = k then some v else none := by
  unfold KeyMap.get?
  rw [List.find?_append]
  cases hf : m.find? (·.1 == k') with
  | some x => simp
  | none =>
    by_cases hk : k' = k
    · subst hk; simp
    · have : ¬ k = k' := fun e => hk e.symm
      simp [hk, this]

theorem get?_map_replace (m : KeyMap) (k : String) (v : Nat) (k' : String) :
    KeyMap.get? (m.map fun kv => if kv.1 == k then (k, v) else kv) k' =
      if k' = k then (if m.any (·.1 == k) then some v else none) else KeyMap.get? m k' := by
  unfold KeyMap.get?
  induction m with
  | nil => simp
  | cons kv rest ih =>
    rw [List.map_cons, List.find?_cons, List.find?_cons, List.any_cons]
    by_cases h1 : kv.1 = k
    · have e1 : (kv.1 == k) = true := by simpa using h1
      simp only [e1, if_true, Bool.true_or]
      by_cases hk : k' = k
      · subst hk; simp
      · have e2 : (k == k') = false := by simpa using fun e => hk (Eq.symm e)
        have e3 : (kv.1 == k') = false := by rw [h1]; exact e2
        simp only [e2, e3, hk, if_false] at ih ⊢
        exact ih
    · have e1 : (kv.1 == k) = false := by simpa using h1
      simp only [e1, Bool.false_or, if_false, Bool.false_eq_true]
      by_cases hk : kv.1 = k'
      · have e2 : (kv.1 == k') = true := by simpa using hk
        have : ¬ k' = k := fun e => h1 (hk.trans e)
        simp [e2, this]
      · have e2 : (kv.1 == k') = false := by simpa using hk
        simp only [e2]
        exact ih

theorem get?_eq_none_of_not_any {m : KeyMap} {k : String} (h : m.any (·.1 == k) = false) :
    KeyMap.get? m k = none := by
  unfold KeyMap.get?
  rw [Option.map_eq_none_iff, List.find?_eq_none]
  intro x hx
  have := List.any_eq_false.mp h x hx
  simpa using this

/-- Go map assignment then lookup. -/
theorem get?_bind (m : KeyMap) (k : String) (v : Nat) (k' : String) :
    KeyMap.get? (m.bind k v) k' = if k' = k then some v else KeyMap.get? m k' := by
  unfold KeyMap.bind
  by_cases ha : m.any (·.1 == k) = true
  · rw [if_pos ha, get?_map_replace]; simp [ha]
  · rw [if_neg ha, get?_append]
    have ha' : m.any (·.1 == k) = false := Bool.eq_false_iff.mpr ha
    by_cases hk : k' = k
    · subst hk; simp [get?_eq_none_of_not_any ha']
    · simp only [hk, if_false]; cases KeyMap.get? m k' <;> rfl

/-! ### module ids -/

theorem find?_seq : ∀ (l : List Mod) (off id : Nat), (∀ i (h : i < l.length), (l[i]).seq = off + i) →
    l.find? (·.seq == off + id) = l[id]?
  | [], _, _, _ => by simp
  | m :: rest, off, id, h => by
    have h0 := h 0 (by simp)
    simp only [List.getElem_cons_zero, Nat.add_zero] at h0
    cases id with
    | zero => simp [h0]
    | succ id =>
      have hne : (m.seq == off + (id + 1)) = false := by simp [h0]
      simp only [List.find?_cons, hne, List.getElem?_cons_succ]
      have := find?_seq rest (off + 1) id (fun i hi => by
        have := h (i + 1) (by simpa using hi)
        simp only [List.getElem_cons_succ] at this
        omega)
      rw [← this]; congr 1; funext x; congr 1; omega

def SeqOk (mods : List Mod) : Prop := ∀ i (h : i < mods.length), (mods[i]).seq = i

theorem byId_eq {r : Registry} (h : SeqOk r.mods) (id : Nat) : r.byId id = r.mods[id]? := by
  have := find?_seq r.mods 0 id (by simpa [SeqOk] using h)
  simpa [Registry.byId] using this

theorem seqOk_snoc {mods : List Mod} (h : SeqOk mods) (s : Stmt) : SeqOk (mods ++ [⟨mods.length, s⟩]) := by
  intro i hi
  by_cases hlt : i < mods.length
  · rw [List.getElem_append_left hlt]; exact h i hlt
  · have : i = mods.length := by simp at hi; omega
    subst this; simp

/-! ### the registry invariant -/

def hdrOf (m : Mod) : Header := ⟨m.isSub, m.name, m.current⟩
def hdr (s : Stmt) : Header := hdrOf ⟨0, s⟩

theorem hdrOf_eq (m : Mod) : hdrOf m = hdr m.stmt := rfl

/-- What a key denotes in the table of a kind (`getSub` / `getModule`). -/
def lk (r : Registry) (sub : Bool) (k : String) : Option Mod := ((r.kmOf sub).get? k).bind r.byId

theorem lk_true (r : Registry) (k : String) : lk r true k = r.getSub k := rfl
theorem lk_false (r : Registry) (k : String) : lk r false k = r.getModule k := rfl

theorem kmOf_withKm (r : Registry) (b b' : Bool) (km : KeyMap) :
    (r.withKm b km).kmOf b' = if b' = b then km else r.kmOf b' := by
  cases b <;> cases b' <;> rfl
theorem umOf_withKm (r : Registry) (b b' : Bool) (km : KeyMap) : (r.withKm b km).umOf b' = r.umOf b' := by
  cases b <;> cases b' <;> rfl
theorem kmOf_withUm (r : Registry) (b b' : Bool) (um : KeyMap) : (r.withUm b um).kmOf b' = r.kmOf b' := by
  cases b <;> cases b' <;> rfl
theorem umOf_withUm (r : Registry) (b b' : Bool) (um : KeyMap) :
    (r.withUm b um).umOf b' = if b' = b then um else r.umOf b' := by
  cases b <;> cases b' <;> rfl
theorem fullName_eq (m : Mod) :
    m.fullName = if m.current = "" then m.name else m.name ++ "@" ++ m.current := by
  unfold Mod.fullName
  by_cases h : m.current = "" <;> simp [h]

theorem fullName_beq_name (m : Mod) : (m.fullName == m.name) = decide (m.current = "") := by
  rw [fullName_eq]
  by_cases h : m.current = ""
  · simp [h]
  · simp only [h, if_false, decide_false]
    exact beq_false_of_ne (key_ne_self _ _)

structure Inv (r : Registry) (L : List Stmt) : Prop where
  seq : SeqOk r.mods
  valid : ∀ sub k id, (r.kmOf sub).get? k = some id → id < r.mods.length
  src : ∀ m ∈ r.mods, m.stmt ∈ L
  look : ∀ sub k, (lk r sub k).map hdrOf = denotesS (L.map hdr) sub k
  unrev : ∀ sub n, ((r.umOf sub).get? n).isSome = true ↔ (⟨sub, n, ""⟩ : Header) ∈ L.map hdr

theorem inv_empty : Inv {} [] where
  seq := by intro i h; simp at h
  valid := by intro sub k id h; cases sub <;> simp [Registry.kmOf, KeyMap.get?] at h
  src := by simp
  look := by intro sub k; cases sub <;> simp [lk, Registry.kmOf, KeyMap.get?, denotesS, latestS]
  unrev := by intro sub n; cases sub <;> simp [Registry.umOf, KeyMap.get?]

theorem inv_dup {r : Registry} {L : List Stmt} {s : Stmt} (inv : Inv r L) (hd : hdr s ∈ L.map hdr) :
    Inv r (L ++ [s]) where
  seq := inv.seq
  valid := inv.valid
  src := fun m hm => List.mem_append_left _ (inv.src m hm)
  look := by
    intro sub k
    rw [List.map_append, List.map_cons, List.map_nil, denotesS_dup hd]
    exact inv.look sub k
  unrev := by
    intro sub n
    rw [inv.unrev, List.map_append, List.mem_append]
    constructor
    · exact .inl
    · rintro (h | h)
      · exact h
      · simp only [List.map_cons, List.map_nil, List.mem_singleton] at h
        rw [h]; exact hd

/-- Lookup of an id after one more module has been appended. -/
theorem byId_snoc {r r' : Registry} {s : Stmt} (hseq : SeqOk r.mods)
    (hmods : r'.mods = r.mods ++ [⟨r.mods.length, s⟩]) (id : Nat) :
    r'.byId id = if id < r.mods.length then r.byId id
      else if id = r.mods.length then some ⟨r.mods.length, s⟩ else none := by
  have hseq' : SeqOk r'.mods := by rw [hmods]; exact seqOk_snoc hseq s
  rw [byId_eq hseq', byId_eq hseq, hmods]
  by_cases h1 : id < r.mods.length
  · rw [if_pos h1, List.getElem?_append_left h1]
  · rw [if_neg h1]
    by_cases h2 : id = r.mods.length
    · subst h2; simp
    · rw [if_neg h2]
      apply List.getElem?_eq_none
      simp; omega

theorem byId_some_of_lt {r : Registry} (hseq : SeqOk r.mods) {id : Nat} (h : id < r.mods.length) :
    ∃ o, r.byId id = some o ∧ o ∈ r.mods := by
  rw [byId_eq hseq]
  exact ⟨r.mods[id], List.getElem?_eq_getElem h, List.getElem_mem h⟩

theorem lk_snoc {r r' : Registry} {s : Stmt} (inv_seq : SeqOk r.mods)
    (hmods : r'.mods = r.mods ++ [⟨r.mods.length, s⟩]) (sub : Bool) (k : String) :
    lk r' sub k =
      match (r'.kmOf sub).get? k with
      | none => none
      | some id => if id < r.mods.length then r.byId id
          else if id = r.mods.length then some ⟨r.mods.length, s⟩ else none := by
  unfold lk
  cases (r'.kmOf sub).get? k with
  | none => rfl
  | some id => simp only [Option.bind_some]; exact byId_snoc inv_seq hmods id

/-- A table entry that is there denotes a loaded module. -/
theorem lk_of_get? {r : Registry} {L : List Stmt} (inv : Inv r L) {sub : Bool} {k : String} {id : Nat}
    (h : (r.kmOf sub).get? k = some id) : ∃ o, r.byId id = some o ∧ lk r sub k = some o ∧ o ∈ r.mods := by
  obtain ⟨o, ho, hmem⟩ := byId_some_of_lt inv.seq (inv.valid sub k id h)
  exact ⟨o, ho, by simp [lk, h, ho], hmem⟩

theorem lk_none_of_get? {r : Registry} {sub : Bool} {k : String} (h : (r.kmOf sub).get? k = none) :
    lk r sub k = none := by simp [lk, h]

theorem noAt_hdrs {L : List Stmt} (hL : ∀ t ∈ L, NoAt t.arg) : ∀ x ∈ L.map hdr, NoAt x.name := by
  intro x hx
  obtain ⟨t, ht, rfl⟩ := List.mem_map.mp hx
  exact hL t ht

theorem hdr_eta (h : Header) : h = ⟨h.isSub, h.name, h.rev⟩ := rfl

/-- A lookup whose table entry is an old id is the old lookup. -/
theorem lk_snoc_old {r r' : Registry} {L : List Stmt} {s : Stmt} (inv : Inv r L)
    (hmods : r'.mods = r.mods ++ [⟨r.mods.length, s⟩]) {sub : Bool} {k : String}
    (hsame : (r'.kmOf sub).get? k = (r.kmOf sub).get? k) : lk r' sub k = lk r sub k := by
  rw [lk_snoc inv.seq hmods, hsame]
  cases hg : (r.kmOf sub).get? k with
  | none => simp [lk, hg]
  | some id =>
    have := inv.valid sub k id hg
    simp [lk, hg, this]

theorem lk_snoc_new {r r' : Registry} {s : Stmt} (hseq : SeqOk r.mods)
    (hmods : r'.mods = r.mods ++ [⟨r.mods.length, s⟩]) {sub : Bool} {k : String}
    (hnew : (r'.kmOf sub).get? k = some r.mods.length) : lk r' sub k = some ⟨r.mods.length, s⟩ := by
  rw [lk_snoc hseq hmods, hnew]; simp

theorem inv_snoc {r r' : Registry} {L : List Stmt} {s : Stmt} (inv : Inv r L)
    (hmods : r'.mods = r.mods ++ [⟨r.mods.length, s⟩])
    (hkm : ∀ b, b ≠ (hdr s).isSub → r'.kmOf b = r.kmOf b)
    (hget : ∀ k,
      (r'.kmOf (hdr s).isSub).get? k = some r.mods.length ∧
        denotesS (L.map hdr ++ [hdr s]) (hdr s).isSub k = some (hdr s) ∨
      (r'.kmOf (hdr s).isSub).get? k = (r.kmOf (hdr s).isSub).get? k ∧
        denotesS (L.map hdr ++ [hdr s]) (hdr s).isSub k = denotesS (L.map hdr) (hdr s).isSub k)
    (hum : ∀ sub n, ((r'.umOf sub).get? n).isSome = true ↔
      ((r.umOf sub).get? n).isSome = true ∨ hdr s = ⟨sub, n, ""⟩) :
    Inv r' (L ++ [s]) where
  seq := by rw [hmods]; exact seqOk_snoc inv.seq s
  valid := by
    intro sub k id hg
    rw [hmods, List.length_append, List.length_singleton]
    by_cases hb : sub = (hdr s).isSub
    · subst hb
      rcases hget k with ⟨h1, _⟩ | ⟨h1, _⟩
      · rw [h1] at hg; cases hg; exact Nat.lt_succ_self _
      · rw [h1] at hg; exact Nat.lt_succ_of_lt (inv.valid _ _ _ hg)
    · rw [hkm _ hb] at hg; exact Nat.lt_succ_of_lt (inv.valid _ _ _ hg)
  src := by
    intro m hm
    rw [hmods] at hm
    rcases List.mem_append.mp hm with hm | hm
    · exact List.mem_append_left _ (inv.src m hm)
    · simp only [List.mem_singleton] at hm; subst hm; simp
  look := by
    intro sub k
    rw [List.map_append, List.map_cons, List.map_nil]
    by_cases hb : sub = (hdr s).isSub
    · subst hb
      rcases hget k with ⟨h1, h2⟩ | ⟨h1, h2⟩
      · rw [h2, lk_snoc_new inv.seq hmods h1]; rfl
      · rw [h2, lk_snoc_old inv hmods h1, inv.look]
    · rw [denotesS_other (fun e => hb e.symm), lk_snoc_old inv hmods (by rw [hkm _ hb]), inv.look]
  unrev := by
    intro sub n
    rw [hum, inv.unrev, List.map_append, List.mem_append]
    simp only [List.map_cons, List.map_nil, List.mem_singleton, eq_comm]

/-- The successful load of a module without revision. -/
theorem inv_add_unrev {r : Registry} {L : List Stmt} {s : Stmt} (inv : Inv r L)
    (hs : NoAt s.arg) (hL : ∀ t ∈ L, NoAt t.arg) (hc : (hdr s).rev = "")
    (hum : (r.umOf (hdr s).isSub).get? (hdr s).name = none) :
    hdr s ∉ L.map hdr ∧
    Inv (({ r with mods := r.mods ++ [(⟨r.mods.length, s⟩ : Mod)] } : Registry).withUm (hdr s).isSub
          ((r.umOf (hdr s).isSub).bind (hdr s).name r.mods.length)
        |>.withKm (hdr s).isSub
          (match (r.kmOf (hdr s).isSub).get? (hdr s).name with
           | some _ => r.kmOf (hdr s).isSub
           | none => (r.kmOf (hdr s).isSub).bind (hdr s).name r.mods.length)) (L ++ [s]) := by
  have hnew : hdr s ∉ L.map hdr := fun hm => by
    have := (inv.unrev (hdr s).isSub (hdr s).name).mpr (by rw [← hc]; exact hm)
    simp [hum] at this
  refine ⟨hnew, inv_snoc inv (by rw [mods_withKm, mods_withUm]) ?_ ?_ ?_⟩
  · intro b hb
    rw [kmOf_withKm, if_neg hb, kmOf_withUm]; cases b <;> rfl
  · intro k
    rw [kmOf_withKm, if_pos rfl, denotesS_snoc (fun hr => absurd hc hr) hs (noAt_hdrs hL) k, ← inv.look]
    simp only [ne_eq, hc, not_true_eq_false, false_and, if_false, strLt_empty_right, Bool.false_eq_true]
    by_cases hk : k = (hdr s).name
    · subst hk
      rw [if_pos rfl]
      cases hg0 : (r.kmOf (hdr s).isSub).get? (hdr s).name with
      | some id0 =>
        obtain ⟨o, _, hlk, _⟩ := lk_of_get? inv hg0
        exact .inr ⟨hg0, by rw [hlk]; rfl⟩
      | none => exact .inl ⟨(get?_bind ..).trans (if_pos rfl), by rw [lk_none_of_get? hg0]; rfl⟩
    · rw [if_neg hk]
      refine .inr ⟨?_, rfl⟩
      cases (r.kmOf (hdr s).isSub).get? (hdr s).name with
      | some _ => rfl
      | none => exact (get?_bind ..).trans (if_neg hk)
  · intro sub n
    rw [umOf_withKm, umOf_withUm]
    by_cases hb : sub = (hdr s).isSub
    · subst hb
      rw [if_pos rfl, get?_bind]
      by_cases hn : n = (hdr s).name
      · subst hn
        simp only [if_true, Option.isSome_some, true_iff]
        right; rw [← hc]
      · rw [if_neg hn]
        exact ⟨.inl, fun h => h.resolve_right fun e => hn (congrArg Header.name e).symm⟩
    · rw [if_neg hb]
      exact ⟨fun h => .inl (by cases sub <;> exact h),
        fun h => h.elim (fun h => by cases sub <;> exact h) fun e => absurd (congrArg Header.isSub e).symm hb⟩

theorem strLt_fullName {o : Mod} {name rev : String} (ho : o.name = name) (hr : rev ≠ "") :
    strLt o.fullName (name ++ "@" ++ rev) = strLt o.current rev := by
  rw [fullName_eq, ho]
  by_cases hc : o.current = ""
  · rw [if_pos hc, hc, String.append_assoc]
    have h1 : strLt name (name ++ ("@" ++ rev)) = true := by
      apply strLt_prefix
      intro h
      have := congrArg (fun s => s.toList.length) h
      simp [String.toList_append] at this
    have h2 : strLt "" rev = true := (strLt_empty_left rev).mpr hr
    rw [h1, h2]
  · rw [if_neg hc, strLt_append_left]

/-- The table after `full` is bound to `n` and the bare `name` is rebound when it is free or held
by a module with a smaller full name (`look` finds the module of an id), key by key. -/
theorem get?_rebind (km : KeyMap) {full name : String} (hne : name ≠ full) (n : Nat)
    (look : Nat → Option Mod) (k : String) :
    (match (km.bind full n).get? name with
     | none => (km.bind full n).bind name n
     | some oid =>
       match look oid with
       | none => km.bind full n
       | some o => if strLt o.fullName full then (km.bind full n).bind name n else km.bind full n).get? k =
      if k = full then some n
      else if k = name then
        (match km.get? name with
         | none => some n
         | some oid =>
           match look oid with
           | none => some oid
           | some o => if strLt o.fullName full then some n else some oid)
      else km.get? k := by
  rw [get?_bind, if_neg hne]
  have h1 : ((km.bind full n).bind name n).get? k =
      if k = full then some n else if k = name then some n else km.get? k := by
    rw [get?_bind, get?_bind]; by_cases hk : k = name <;> simp [hk, hne]
  have h2 : ∀ oid, km.get? name = some oid → (km.bind full n).get? k =
      if k = full then some n else if k = name then some oid else km.get? k := by
    intro oid h; rw [get?_bind]; by_cases hk : k = name <;> simp [hk, h]
  cases hg0 : km.get? name with
  | none => exact h1
  | some oid =>
    simp only []
    cases look oid with
    | none => exact h2 oid hg0
    | some o =>
      by_cases hlt : strLt o.fullName full = true
      · simp only [hlt, if_true]; exact h1
      · simp only [hlt, Bool.false_eq_true, if_false]; exact h2 oid hg0

theorem inv_add_rev {r : Registry} {L : List Stmt} {s : Stmt} {km2 : KeyMap} (inv : Inv r L)
    (hs : NoAt s.arg) (hL : ∀ t ∈ L, NoAt t.arg) (hc : (hdr s).rev ≠ "")
    (hg : (r.kmOf (hdr s).isSub).get? ((hdr s).name ++ "@" ++ (hdr s).rev) = none)
    (hkm2 : ∀ k, km2.get? k =
      if k = (hdr s).name ++ "@" ++ (hdr s).rev then some r.mods.length
      else if k = (hdr s).name then
        (match (r.kmOf (hdr s).isSub).get? (hdr s).name with
         | none => some r.mods.length
         | some oid =>
           match ({ r with mods := r.mods ++ [(⟨r.mods.length, s⟩ : Mod)] } : Registry).byId oid with
           | none => some oid
           | some o =>
             if strLt o.fullName ((hdr s).name ++ "@" ++ (hdr s).rev) then some r.mods.length else some oid)
      else (r.kmOf (hdr s).isSub).get? k) :
    hdr s ∉ L.map hdr ∧
    Inv (({ r with mods := r.mods ++ [(⟨r.mods.length, s⟩ : Mod)] } : Registry).withKm (hdr s).isSub km2)
      (L ++ [s]) := by
  have hn : NoAt (hdr s).name := hs
  have hnew : hdr s ∉ L.map hdr := by
    intro hm
    obtain ⟨x, hx⟩ := denotesS_exact_of_mem hm hc
    rw [← inv.look, lk_none_of_get? hg] at hx
    simp at hx
  refine ⟨hnew, inv_snoc inv (by rw [mods_withKm]) ?_ ?_ ?_⟩
  · intro b hb
    rw [kmOf_withKm, if_neg hb]; cases b <;> rfl
  · intro k
    rw [kmOf_withKm, if_pos rfl, hkm2, denotesS_snoc (fun _ => hnew) hn (noAt_hdrs hL) k, ← inv.look]
    simp only [ne_eq, hc, not_false_eq_true, true_and]
    by_cases hk1 : k = (hdr s).name ++ "@" ++ (hdr s).rev
    · rw [if_pos hk1, if_pos hk1]; exact .inl ⟨rfl, rfl⟩
    · rw [if_neg hk1, if_neg hk1]
      by_cases hk2 : k = (hdr s).name
      · subst hk2
        rw [if_pos rfl, if_pos rfl]
        cases hg0 : (r.kmOf (hdr s).isSub).get? (hdr s).name with
        | none => rw [lk_none_of_get? hg0]; exact .inl ⟨rfl, rfl⟩
        | some oid =>
          obtain ⟨o, ho, hlk, _⟩ := lk_of_get? inv hg0
          have hby : ({ r with mods := r.mods ++ [(⟨r.mods.length, s⟩ : Mod)] } : Registry).byId oid = some o := by
            rw [byId_snoc inv.seq rfl, if_pos (inv.valid _ _ _ hg0)]; exact ho
          have hon : o.name = (hdr s).name := by
            have := inv.look (hdr s).isSub (hdr s).name
            rw [hlk] at this
            obtain ⟨_, _, h3⟩ := denotesS_mem this.symm
            exact h3.resolve_left fun h3 => key_ne_name hn h3.2
          rw [hlk]
          simp only [hby, strLt_fullName hon hc, Option.map_some]
          by_cases hlt : strLt o.current (hdr s).rev = true
          · exact .inl ⟨if_pos hlt, if_pos hlt⟩
          · exact .inr ⟨if_neg hlt, if_neg hlt⟩
      · rw [if_neg hk2, if_neg hk2]; exact .inr ⟨rfl, rfl⟩
  · intro sub n
    rw [umOf_withKm]
    exact ⟨fun h => .inl (by cases sub <;> exact h),
      fun h => h.elim (fun h => by cases sub <;> exact h) fun e => absurd (congrArg Header.rev e) hc⟩

/-- One `add`: rejected exactly when a load with the same header came before; the invariant goes on. -/
theorem add_step {r : Registry} {L : List Stmt} {s : Stmt} (inv : Inv r L)
    (hs : NoAt s.arg) (hL : ∀ t ∈ L, NoAt t.arg) :
    match r.add s with
    | .ok r' => hdr s ∉ L.map hdr ∧ Inv r' (L ++ [s])
    | .error _ => hdr s ∈ L.map hdr ∧ Inv r (L ++ [s]) := by
  have e1 : (⟨r.mods.length, s⟩ : Mod).current = (hdr s).rev := rfl
  have e2 : (⟨r.mods.length, s⟩ : Mod).name = (hdr s).name := rfl
  have e3 : (⟨r.mods.length, s⟩ : Mod).isSub = (hdr s).isSub := rfl
  have hbeq : ((⟨r.mods.length, s⟩ : Mod).fullName == (hdr s).name) = decide ((hdr s).rev = "") :=
    fullName_beq_name ⟨r.mods.length, s⟩
  have hs' : NoAt (hdr s).name := hs
  rw [Registry.add_eq_addChecked (contains_of_noAt hs)]
  unfold Registry.addChecked
  simp only [e2, e3, hbeq]
  by_cases hc : (hdr s).rev = ""
  · simp only [hc, decide_true, if_true]
    cases hum : (r.umOf (hdr s).isSub).get? (hdr s).name with
    | some id =>
      simp only
      have hd : hdr s ∈ L.map hdr := by
        have := (inv.unrev (hdr s).isSub (hdr s).name).mp (by simp [hum])
        rw [← hc] at this; exact this
      exact ⟨hd, inv_dup inv hd⟩
    | none =>
      simp only
      exact inv_add_unrev inv hs hL hc hum
  · have hfull : (⟨r.mods.length, s⟩ : Mod).fullName = (hdr s).name ++ "@" ++ (hdr s).rev := by
      rw [fullName_eq, e1, e2, if_neg hc]
    simp only [hc, decide_false, if_false, Bool.false_eq_true, hfull]
    cases hg : (r.kmOf (hdr s).isSub).get? ((hdr s).name ++ "@" ++ (hdr s).rev) with
    | some id =>
      simp only
      obtain ⟨o, _, hlk, _⟩ := lk_of_get? inv hg
      have hden := inv.look (hdr s).isSub ((hdr s).name ++ "@" ++ (hdr s).rev)
      rw [hlk] at hden
      have hd : hdr s ∈ L.map hdr := by
        have heq : hdrOf o = hdr s := denotesS_exact_eq (noAt_hdrs hL) hs' hden.symm
        exact heq ▸ (denotesS_mem hden.symm).1
      exact ⟨hd, inv_dup inv hd⟩
    | none =>
      simp only
      exact inv_add_rev inv hs hL hc hg (get?_rebind _ (key_ne_self _ _).symm _ _)

/-! ### what `denotesS` returns, by membership only -/

theorem sLe_antisymm {a b : String} (h1 : sLe a b = true) (h2 : sLe b a = true) : a = b := by
  simp only [sLe, Bool.not_eq_true'] at h1 h2
  rcases strLt_total a b with h | h | h
  · simp [h] at h2
  · exact h
  · simp [h] at h1

theorem denotesS_ne_none_of_den {hs : List Header} {sub : Bool} {key : String} {x : Header}
    (h : Den hs sub key x) : denotesS hs sub key ≠ none := by
  obtain ⟨hm, hs', h3⟩ := h
  rw [denotesS_def]
  intro hnone
  rw [Option.or_eq_none_iff] at hnone
  obtain ⟨hf, hl⟩ := hnone
  rcases h3 with h3 | ⟨_, hn, _⟩
  · rw [List.find?_eq_none] at hf
    have := hf x (by simp [hm, hs'])
    simp [exactP, h3] at this
  · rw [latestS_eq_none] at hl
    have : x ∈ (hs.filter (·.isSub == sub)).filter (·.name = key) := by simp [hm, hs', hn]
    rw [hl] at this; simp at this

theorem den_unique {hs : List Header} {sub : Bool} {key : String} {x y : Header}
    (hn : ∀ g ∈ hs, NoAt g.name) (hx : Den hs sub key x) (hy : Den hs sub key y) : x = y := by
  obtain ⟨xm, xs, x3⟩ := hx
  obtain ⟨ym, ys, y3⟩ := hy
  have ext : x.isSub = y.isSub → x.name = y.name → x.rev = y.rev → x = y := by
    cases x; cases y; simp_all
  rcases x3 with ⟨xr, xk⟩ | ⟨xno, xn, xmax⟩ <;> rcases y3 with ⟨yr, yk⟩ | ⟨yno, yn, ymax⟩
  · have := key_inj (hn x xm) (hn y ym) (xk.trans yk.symm)
    exact ext (xs.trans ys.symm) this.1 this.2
  · exact absurd ⟨xr, xk⟩ (yno x xm xs)
  · exact absurd ⟨yr, yk⟩ (xno y ym ys)
  · exact ext (xs.trans ys.symm) (xn.trans yn.symm)
      (sLe_antisymm (ymax x xm xs xn) (xmax y ym ys yn))

theorem den_perm {hs hs' : List Header} (hp : hs.Perm hs') (sub : Bool) (key : String) (x : Header) :
    Den hs sub key x → Den hs' sub key x := by
  rintro ⟨hm, hs0, h3⟩
  refine ⟨hp.mem_iff.mp hm, hs0, ?_⟩
  rcases h3 with h3 | ⟨h1, h2, h4⟩
  · exact .inl h3
  · exact .inr ⟨fun g hg => h1 g (hp.mem_iff.mpr hg), h2, fun g hg => h4 g (hp.mem_iff.mpr hg)⟩

/-- What a key denotes does not depend on the order of the headers. -/
theorem denotesS_perm {hs hs' : List Header} (hp : hs.Perm hs') (hn : ∀ g ∈ hs, NoAt g.name)
    (sub : Bool) (key : String) : denotesS hs sub key = denotesS hs' sub key := by
  have hn' : ∀ g ∈ hs', NoAt g.name := fun g hg => hn g (hp.mem_iff.mpr hg)
  cases h1 : denotesS hs sub key with
  | none =>
    cases h2 : denotesS hs' sub key with
    | none => rfl
    | some y =>
      exact absurd h1 (denotesS_ne_none_of_den (den_perm hp.symm sub key y (den_of_denotesS h2)))
  | some x =>
    have dx := den_perm hp sub key x (den_of_denotesS h1)
    cases h2 : denotesS hs' sub key with
    | none => exact absurd h2 (denotesS_ne_none_of_den dx)
    | some y => rw [den_unique hn' dx (den_of_denotesS h2)]

/-! ### rejected loads -/

/-- The headers of the rejected loads, given the headers loaded before. -/
def rejAfter (before : List Header) : List Header → List Header
  | [] => []
  | h :: rest => (if before.contains h then [h] else []) ++ rejAfter (before ++ [h]) rest

theorem rejAfter_eq (before hs : List Header) :
    ((hs.zip (outcomesAfter before hs)).filter (·.2)).map (·.1) = rejAfter before hs := by
  induction hs generalizing before with
  | nil => rfl
  | cons h rest ih =>
    simp only [outcomesAfter, List.zip_cons_cons, List.filter_cons, rejAfter]
    by_cases hb : h ∈ before <;> simp [hb, ih]

theorem count_rejAfter (h : Header) (before hs : List Header) :
    (rejAfter before hs).count h = if h ∈ before then hs.count h else hs.count h - 1 := by
  induction hs generalizing before with
  | nil => simp [rejAfter]
  | cons g rest ih =>
    simp only [rejAfter, List.count_append, ih, List.mem_append, List.mem_singleton, List.count_cons]
    by_cases hgb : g ∈ before
    · have : before.contains g = true := by simpa using hgb
      simp only [this, if_true]
      by_cases hgh : g = h
      · subst hgh; simp [hgb] <;> omega
      · have hne : ¬ h = g := fun e => hgh e.symm
        have : (g == h) = false := by simpa using hgh
        simp [hne, this, hgh]
    · have : before.contains g = false := by simpa using hgb
      simp only [this, Bool.false_eq_true, if_false, List.count_nil, Nat.zero_add]
      by_cases hgh : g = h
      · subst hgh; simp [hgb]
      · have hne : ¬ h = g := fun e => hgh e.symm
        have : (g == h) = false := by simpa using hgh
        simp [hne, this] <;> omega

theorem rejAfter_perm {hs hs' : List Header} (hp : hs.Perm hs') : (rejAfter [] hs).Perm (rejAfter [] hs') := by
  rw [List.perm_iff_count]
  intro h
  rw [count_rejAfter, count_rejAfter, hp.count_eq]

/-- The outcome of load `j`: rejected exactly when an equal header is among the earlier loads. -/
theorem outcomesAfter_getElem? (before hs : List Header) (j : Nat) :
    (outcomesAfter before hs)[j]? = hs[j]?.map fun h => (before ++ hs.take j).contains h := by
  induction hs generalizing before j with
  | nil => simp [outcomesAfter]
  | cons g rest ih =>
    cases j with
    | zero => simp [outcomesAfter]
    | succ j => simp [outcomesAfter, ih]

/-- `findModule` in terms of `lk`. -/
theorem findModule_eq (r : Registry) (inc : Bool) (i : Stmt) :
    r.findModule inc i =
      match lk r inc (match i.argOf? "revision-date" with | some d => i.arg ++ "@" ++ d | none => i.arg) with
      | some m => some m
      | none => lk r inc i.arg := by
  cases inc <;> rfl

theorem lk_mem {r : Registry} {sub : Bool} {key : String} {m : Mod} (h : lk r sub key = some m) : m ∈ r.mods := by
  obtain ⟨id, _, h⟩ := Option.bind_eq_some_iff.mp h
  exact RegistryAux.byId_mem h

/-! ### string order = date order for well-formed revisions -/

theorem find?_congr_mem {α : Type} {p q : α → Bool} : ∀ {l : List α}, (∀ a ∈ l, p a = q a) → l.find? p = l.find? q
  | [], _ => rfl
  | a :: l, h => by
    have ha := h a (by simp)
    have := find?_congr_mem (l := l) (fun b hb => h b (by simp [hb]))
    simp [List.find?_cons, ha, this]

theorem all_congr_mem {α : Type} {p q : α → Bool} : ∀ {l : List α}, (∀ a ∈ l, p a = q a) → l.all p = l.all q
  | [], _ => rfl
  | a :: l, h => by
    have ha := h a (by simp)
    have := all_congr_mem (l := l) (fun b hb => h b (by simp [hb]))
    simp [ha, this]

theorem toList_ne_nil_of_parse {s : String} (h : (Spec.parseDate s.toList).isSome = true) : s ≠ "" := by
  intro e; subst e; simp [Spec.parseDate] at h

theorem sLe_eq_revLe {a b : String} (ha : WellFormedRev a) (hb : WellFormedRev b) : sLe a b = revLe a b := by
  unfold revLe
  rcases ha with rfl | ha
  · simp [sLe, strLt_empty_right]
  · have hane := toList_ne_nil_of_parse ha
    have hbeq : (a == "") = false := by simpa using hane
    rw [hbeq, Bool.false_or]
    obtain ⟨x, hx⟩ := Option.isSome_iff_exists.mp ha
    rcases hb with rfl | hb
    · have : Spec.parseDate ("" : String).toList = none := by simp [Spec.parseDate]
      rw [hx, this]
      simp [sLe, (strLt_empty_left a).mpr hane]
    · obtain ⟨y, hy⟩ := Option.isSome_iff_exists.mp hb
      rw [hx, hy]
      simp only [sLe, strLt, Spec.Date.le]
      rw [Goyang.Lemmas.Date.charsLt_date hy hx]

theorem latestS_eq_latest {c : List Header} (hw : ∀ h ∈ c, WellFormedRev h.rev) : latestS c = latest c := by
  unfold latestS latest
  apply find?_congr_mem
  intro h hh
  apply all_congr_mem
  intro g hg
  exact sLe_eq_revLe (hw g hg) (hw h hh)

theorem denotesS_eq_denotes {hs : List Header} (hw : ∀ h ∈ hs, WellFormedRev h.rev) (sub : Bool) (key : String) :
    denotesS hs sub key = denotes hs sub key := by
  have : latestS ((hs.filter (·.isSub == sub)).filter (·.name = key)) =
      latest ((hs.filter (·.isSub == sub)).filter (·.name = key)) := by
    apply latestS_eq_latest
    intro h hh
    simp only [List.mem_filter] at hh
    exact hw h hh.1.1
  unfold denotesS denotes
  simp only [this]
  rfl

/-! ### arbitrary names: a name with `@` is refused by `add` itself (D61) -/

/-- The load can be accepted at all: its name has no `@`. -/
def good (s : Stmt) : Bool := !s.arg.toList.contains '@'

theorem good_eq_nameOk (s : Stmt) : good s = nameOk (hdr s) := rfl

theorem noAt_of_good {s : Stmt} (h : good s = true) : NoAt s.arg := by
  apply noAt_of_contains; simpa [good] using h

theorem good_of_noAt {s : Stmt} (h : NoAt s.arg) : good s = true := by
  unfold good; rw [contains_of_noAt h]; rfl

/-- `add_accepts_only_ok_names`: whatever `add` accepts has a name without `@`. -/
theorem add_accepts_only_ok_names {r r' : Registry} {s : Stmt} (h : r.add s = .ok r') : NoAt s.arg :=
  noAt_of_contains (Registry.add_ok h).1

def toOutcome : Option Registry.AddErr → Outcome
  | none => .ok
  | some (.duplicate _ _) => .dup
  | some (.badName _ _) => .badName

theorem isSome_eq_toOutcome (o : Option Registry.AddErr) : o.isSome = (toOutcome o != .ok) := by
  rcases o with _ | ⟨_ | _⟩ <;> rfl

theorem addChecked_error {r : Registry} {s : Stmt} {e : Registry.AddErr} (h : r.addChecked s = .error e) :
    toOutcome (some e) = .dup := by
  unfold Registry.addChecked at h
  simp only at h
  repeat' split at h
  all_goals first
    | (cases h; rfl)
    | cases h

theorem add_error_good {r : Registry} {s : Stmt} {e : Registry.AddErr} (hg : good s = true)
    (h : r.add s = .error e) : toOutcome (some e) = .dup := by
  rw [Registry.add_eq_addChecked (contains_of_noAt (noAt_of_good hg))] at h
  exact addChecked_error h

theorem add_error_bad {r : Registry} {s : Stmt} (hg : good s = false) :
    ∃ e, r.add s = .error e ∧ toOutcome (some e) = .badName := by
  have hc : s.arg.toList.contains '@' = true := by simpa [good] using hg
  unfold Registry.add
  rw [if_pos hc]
  exact ⟨_, rfl, rfl⟩

/-! ### a whole sequence of loads -/

/-- The outcomes of loading `ss` — any names — into a registry that has seen the loadable loads
`L`, and the final invariant: only loadable loads count. -/
theorem loadFrom_specG : ∀ (ss : List Stmt) {r : Registry} {L : List Stmt}, Inv r L →
    (∀ t ∈ L, NoAt t.arg) →
    Inv (r.loadFrom ss).1 (L ++ ss.filter good) ∧
    (r.loadFrom ss).2.map toOutcome = outcomesAfterG (L.map hdr) (ss.map hdr)
  | [], r, L, inv, _ => by simpa [Registry.loadFrom, outcomesAfterG] using inv
  | s :: rest, r, L, inv, hL => by
    unfold Registry.loadFrom
    cases hg : good s with
    | false =>
      obtain ⟨e, he, hk⟩ := add_error_bad (r := r) hg
      obtain ⟨ih1, ih2⟩ := loadFrom_specG rest inv hL
      have hn : nameOk (hdr s) = false := by rw [← good_eq_nameOk]; exact hg
      rw [he]
      simp only [List.map_cons, outcomesAfterG, hn, Bool.false_eq_true, if_false, List.filter_cons, hg]
      exact ⟨ih1, by rw [hk, ih2]⟩
    | true =>
      have hs : NoAt s.arg := noAt_of_good hg
      have hn : nameOk (hdr s) = true := by rw [← good_eq_nameOk]; exact hg
      have hL' : ∀ t ∈ L ++ [s], NoAt t.arg := by
        intro t ht
        rcases List.mem_append.mp ht with ht | ht
        · exact hL t ht
        · simp only [List.mem_singleton] at ht; subst ht; exact hs
      have step := add_step inv hs hL
      cases hadd : r.add s with
      | ok r' =>
        rw [hadd] at step
        obtain ⟨hnew, inv'⟩ := step
        obtain ⟨ih1, ih2⟩ := loadFrom_specG rest inv' hL'
        have hc : (L.map hdr).contains (hdr s) = false := by simpa using hnew
        simp only [List.map_cons, outcomesAfterG, hn, if_true, List.filter_cons, hg, hc, Bool.false_eq_true,
          if_false, toOutcome]
        refine ⟨by simpa using ih1, ?_⟩
        rw [ih2, List.map_append]; rfl
      | error e =>
        rw [hadd] at step
        obtain ⟨hd, inv'⟩ := step
        obtain ⟨ih1, ih2⟩ := loadFrom_specG rest inv' hL'
        have hc : (L.map hdr).contains (hdr s) = true := by simpa using hd
        simp only [List.map_cons, outcomesAfterG, hn, if_true, List.filter_cons, hg, hc]
        refine ⟨by simpa using ih1, ?_⟩
        rw [add_error_good hg hadd, ih2, List.map_append]; rfl

/-- Loading any statements into a fresh registry. -/
theorem loadAll_specG (ss : List Stmt) :
    Inv (Registry.loadAll ss).1 (ss.filter good) ∧
    (Registry.loadAll ss).2.map toOutcome = outcomesG (ss.map hdr) := by
  have := loadFrom_specG ss inv_empty (by simp)
  simpa [Registry.loadAll, outcomesG] using this

theorem outcomesAfterG_of_ok : ∀ (before hs : List Header), (∀ h ∈ hs, nameOk h = true) →
    outcomesAfterG before hs = (outcomesAfter before hs).map fun b => if b then .dup else .ok
  | _, [], _ => rfl
  | before, h :: rest, hok => by
    rw [outcomesAfterG, if_pos (hok h (List.mem_cons_self ..)),
      outcomesAfterG_of_ok _ rest fun x hx => hok x (List.mem_cons_of_mem _ hx)]
    rfl

theorem loadAll_spec (ss : List Stmt) (hss : ∀ t ∈ ss, NoAt t.arg) :
    Inv (Registry.loadAll ss).1 ss ∧
    (Registry.loadAll ss).2.map Option.isSome = outcomes (ss.map hdr) := by
  obtain ⟨inv, hout⟩ := loadAll_specG ss
  rw [List.filter_eq_self.mpr fun t ht => good_of_noAt (hss t ht)] at inv
  refine ⟨inv, ?_⟩
  have hok : ∀ h ∈ ss.map hdr, nameOk h = true := by
    intro h hh
    obtain ⟨t, ht, rfl⟩ := List.mem_map.mp hh
    exact good_of_noAt (hss t ht)
  have h1 : (Registry.loadAll ss).2.map Option.isSome = ((Registry.loadAll ss).2.map toOutcome).map (· != .ok) := by
    rw [List.map_map]; exact List.map_congr_left fun o _ => isSome_eq_toOutcome o
  rw [h1, hout, outcomesG, outcomesAfterG_of_ok _ _ hok, List.map_map, outcomes]
  conv => rhs; rw [← List.map_id (outcomesAfter _ _)]
  exact List.map_congr_left fun b _ => by cases b <;> rfl

theorem noAt_filter_good (ss : List Stmt) : ∀ t ∈ ss.filter good, NoAt t.arg := by
  intro t ht
  exact noAt_of_good (List.mem_filter.mp ht).2

theorem map_hdr_filter_good (ss : List Stmt) : (ss.filter good).map hdr = loadable (ss.map hdr) := by
  unfold loadable
  rw [List.filter_map]
  rfl

/-- Every registry reached from the empty one by loads holds only modules with `@`-free names. -/
theorem loadAll_names_ok (ss : List Stmt) : ∀ m ∈ (Registry.loadAll ss).1.mods, NoAt m.stmt.arg := by
  intro m hm
  exact noAt_filter_good ss _ ((loadAll_specG ss).1.src m hm)

/-! #### the rejected headers, arbitrary names -/

/-- The headers of the loads that are not accepted. -/
def rejAfterG (before : List Header) : List Header → List Header
  | [] => []
  | h :: rest =>
    if nameOk h then (if before.contains h then [h] else []) ++ rejAfterG (before ++ [h]) rest
    else h :: rejAfterG before rest

theorem rejAfterG_eq (before hs : List Header) :
    ((hs.zip ((outcomesAfterG before hs).map (· != .ok))).filter (·.2)).map (·.1) = rejAfterG before hs := by
  induction hs generalizing before with
  | nil => rfl
  | cons h rest ih =>
    unfold outcomesAfterG rejAfterG
    cases hn : nameOk h with
    | false => simp [ih]
    | true =>
      by_cases hb : h ∈ before <;> simp [hb, ih]

theorem rejAfterG_perm_split : ∀ (before hs : List Header),
    (rejAfterG before hs).Perm (hs.filter (!nameOk ·) ++ rejAfter before (loadable hs))
  | _, [] => .refl _
  | before, h :: rest => by
    unfold rejAfterG loadable
    cases hn : nameOk h with
    | false =>
      simp only [Bool.false_eq_true, if_false, List.filter_cons, hn, Bool.not_false, if_true, List.cons_append]
      exact (rejAfterG_perm_split before rest).cons h
    | true =>
      simp only [if_true, List.filter_cons, hn, Bool.not_true, Bool.false_eq_true, if_false, rejAfter]
      exact ((rejAfterG_perm_split (before ++ [h]) rest).append_left _).trans (List.perm_append_comm_assoc ..)

theorem rejAfterG_perm {hs hs' : List Header} (hp : hs.Perm hs') : (rejAfterG [] hs).Perm (rejAfterG [] hs') :=
  (rejAfterG_perm_split [] hs).trans <|
    ((hp.filter _).append (rejAfter_perm (hp.filter _))).trans (rejAfterG_perm_split [] hs').symm

/-- The outcome of load `j`, arbitrary names. -/
theorem outcomesAfterG_getElem? (before hs : List Header) (j : Nat) :
    (outcomesAfterG before hs)[j]? = hs[j]?.map fun h =>
      if nameOk h then (if (before ++ loadable (hs.take j)).contains h then .dup else .ok) else .badName := by
  induction hs generalizing before j with
  | nil => simp [outcomesAfterG]
  | cons g rest ih =>
    cases j with
    | zero =>
      unfold outcomesAfterG
      cases hg : nameOk g <;> simp [loadable, hg]
    | succ j =>
      unfold outcomesAfterG
      cases hg : nameOk g with
      | false => simp [ih, loadable, hg]
      | true => simp [ih, loadable, hg]

/-! ### texts with several top-level statements (`Modules.Parse` is atomic) -/

theorem addText_nil (r : Registry) : r.addText [] = .ok r := rfl

theorem addText_cons (r : Registry) (s : Stmt) (rest : List Stmt) :
    r.addText (s :: rest) = match r.add s with | .ok r' => r'.addText rest | .error e => .error e := by
  unfold Registry.addText
  rw [List.foldlM_cons]
  cases r.add s <;> rfl

/-- One statement per text is the statement-wise load. -/
theorem loadTextsFrom_singletons : ∀ (ss : List Stmt) (r : Registry),
    r.loadTextsFrom (ss.map fun s => [s]) = r.loadFrom ss
  | [], _ => rfl
  | s :: rest, r => by
    simp only [List.map_cons, Registry.loadTextsFrom, Registry.loadFrom, addText_cons, addText_nil]
    cases r.add s with
    | ok r' => simp only [loadTextsFrom_singletons rest r']
    | error e => simp only [loadTextsFrom_singletons rest r]

/-- A text is accepted exactly when none of its statements would be refused when added one after
the other; the registry is then the one those adds produce. -/
theorem addText_ok_iff : ∀ (ss : List Stmt) (r r' : Registry),
    r.addText ss = .ok r' ↔ ((r.loadFrom ss).2.all Option.isNone = true ∧ r' = (r.loadFrom ss).1)
  | [], r, r' => by simp [addText_nil, Registry.loadFrom, eq_comm]
  | s :: rest, r, r' => by
    rw [addText_cons]
    unfold Registry.loadFrom
    cases r.add s with
    | ok r1 => simpa using addText_ok_iff rest r1 r'
    | error e => simp

theorem outcomesAfterG_all_ok (before hs : List Header) :
    (outcomesAfterG before hs).all (· == .ok) = true ↔
      (∀ h ∈ hs, nameOk h = true) ∧ hs.Nodup ∧ ∀ h ∈ hs, h ∉ before := by
  induction hs generalizing before with
  | nil => simp [outcomesAfterG]
  | cons g rest ih =>
    unfold outcomesAfterG
    cases hg : nameOk g with
    | false => simp [hg]
    | true =>
      simp only [if_true, List.all_cons, Bool.and_eq_true, ih, List.mem_cons, forall_eq_or_imp, hg, true_and,
        List.nodup_cons, List.mem_append, List.mem_singleton, not_or]
      by_cases hb : g ∈ before
      · simp [hb]
      · have hc : before.contains g = false := by simpa using hb
        simp only [hc, Bool.false_eq_true, if_false]
        constructor
        · rintro ⟨_, h1, h2, h3⟩
          exact ⟨h1, ⟨fun hm => (h3 g hm).2.1 rfl, h2⟩, hb, fun h hh => (h3 h hh).1⟩
        · rintro ⟨h1, ⟨h2, h3⟩, _, h4⟩
          exact ⟨rfl, h1, h3, fun h hh => ⟨h4 h hh, fun e => h2 (e ▸ hh), by simp⟩⟩

/-- **One text.**  Into a registry that holds the loads `L`, a text is accepted exactly when every
name in it is free of `@`, no two of its statements have the same header, and none has the header
of a load already there; the invariant then goes on with the text's statements appended. -/
theorem addText_spec {r : Registry} {L : List Stmt} (inv : Inv r L) (hL : ∀ t ∈ L, NoAt t.arg) (ss : List Stmt) :
    match r.addText ss with
    | .ok r' => ((∀ s ∈ ss, NoAt s.arg) ∧ (ss.map hdr).Nodup ∧ ∀ s ∈ ss, hdr s ∉ L.map hdr) ∧ Inv r' (L ++ ss)
    | .error _ => ¬ ((∀ s ∈ ss, NoAt s.arg) ∧ (ss.map hdr).Nodup ∧ ∀ s ∈ ss, hdr s ∉ L.map hdr) := by
  obtain ⟨inv', hout⟩ := loadFrom_specG ss inv hL
  have hall : (r.loadFrom ss).2.all Option.isNone = true ↔
      ((∀ s ∈ ss, NoAt s.arg) ∧ (ss.map hdr).Nodup ∧ ∀ s ∈ ss, hdr s ∉ L.map hdr) := by
    have h1 : (r.loadFrom ss).2.all Option.isNone = ((r.loadFrom ss).2.map toOutcome).all (· == .ok) := by
      rw [List.all_map]
      apply all_congr_mem
      intro o _
      rcases o with _ | ⟨_ | _⟩ <;> rfl
    rw [h1, hout, outcomesAfterG_all_ok]
    simp only [List.mem_map, forall_exists_index, and_imp, forall_apply_eq_imp_iff₂]
    constructor
    · rintro ⟨h1, h2, h3⟩
      exact ⟨fun s hs => noAt_of_good (h1 s hs), h2, h3⟩
    · rintro ⟨h1, h2, h3⟩
      exact ⟨fun s hs => good_of_noAt (h1 s hs), h2, h3⟩
  cases hadd : r.addText ss with
  | ok r' =>
    obtain ⟨ha, rfl⟩ := (addText_ok_iff ss r r').mp hadd
    have hc := hall.mp ha
    refine ⟨hc, ?_⟩
    have : ss.filter good = ss := List.filter_eq_self.mpr fun s hs => good_of_noAt (hc.1 s hs)
    rw [this] at inv'
    exact inv'
  | error e =>
    intro hc
    have := (addText_ok_iff ss r (r.loadFrom ss).1).mpr ⟨hall.mpr hc, rfl⟩
    rw [hadd] at this; cases this

/-- The texts that were accepted, in order. -/
def acceptedTexts (r : Registry) : List (List Stmt) → List (List Stmt)
  | [] => []
  | t :: rest =>
    match r.addText t with
    | .ok r' => t :: acceptedTexts r' rest
    | .error _ => acceptedTexts r rest

/-- **All texts.**  The invariant after loading texts: the registry has seen exactly the statements
of the accepted texts, all with `@`-free names and pairwise different headers. -/
theorem loadTextsFrom_spec : ∀ (ts : List (List Stmt)) {r : Registry} {L : List Stmt}, Inv r L →
    (∀ t ∈ L, NoAt t.arg) → (L.map hdr).Nodup →
    Inv (r.loadTextsFrom ts).1 (L ++ (acceptedTexts r ts).flatten) ∧
    (∀ t ∈ L ++ (acceptedTexts r ts).flatten, NoAt t.arg) ∧
    ((L ++ (acceptedTexts r ts).flatten).map hdr).Nodup
  | [], r, L, inv, hL, hnd => by simpa [Registry.loadTextsFrom, acceptedTexts] using ⟨inv, hL, hnd⟩
  | t :: rest, r, L, inv, hL, hnd => by
    have step := addText_spec inv hL t
    unfold Registry.loadTextsFrom acceptedTexts
    cases hadd : r.addText t with
    | ok r' =>
      rw [hadd] at step
      obtain ⟨⟨h1, h2, h3⟩, inv'⟩ := step
      have hL' : ∀ x ∈ L ++ t, NoAt x.arg := by
        intro x hx
        rcases List.mem_append.mp hx with hx | hx
        · exact hL x hx
        · exact h1 x hx
      have hnd' : ((L ++ t).map hdr).Nodup := by
        rw [List.map_append, List.nodup_append]
        refine ⟨hnd, h2, ?_⟩
        intro a ha b hb hab
        obtain ⟨s, hs, rfl⟩ := List.mem_map.mp hb
        exact h3 s hs (hab ▸ ha)
      have ih := loadTextsFrom_spec rest inv' hL' hnd'
      simpa [List.append_assoc] using ih
    | error e =>
      simpa using loadTextsFrom_spec rest inv hL hnd

/-- After the accepted texts, the registry is the one that loading their statements one by one
produces — and none of those loads is refused — so everything proved about `loadAll` applies. -/
theorem loadTextsFrom_eq_loadFrom : ∀ (ts : List (List Stmt)) (r : Registry),
    (r.loadTextsFrom ts).1 = (r.loadFrom (acceptedTexts r ts).flatten).1 ∧
    (r.loadFrom (acceptedTexts r ts).flatten).2.all Option.isNone = true
  | [], r => by simp [Registry.loadTextsFrom, acceptedTexts, Registry.loadFrom]
  | t :: rest, r => by
    unfold Registry.loadTextsFrom acceptedTexts
    cases hadd : r.addText t with
    | ok r' =>
      obtain ⟨ha, rfl⟩ := (addText_ok_iff t r r').mp hadd
      obtain ⟨ih1, ih2⟩ := loadTextsFrom_eq_loadFrom rest (r.loadFrom t).1
      simp only [List.flatten_cons]
      refine ⟨?_, ?_⟩
      · rw [ih1]
        exact (loadFrom_append_fst r t _).symm
      · rw [loadFrom_append_snd, List.all_append, ha, ih2]; rfl
    | error e => exact loadTextsFrom_eq_loadFrom rest r
where
  loadFrom_append_fst (r : Registry) : ∀ (a b : List Stmt),
      (r.loadFrom (a ++ b)).1 = ((r.loadFrom a).1.loadFrom b).1
    | [], _ => rfl
    | s :: rest, b => by
      simp only [List.cons_append, Registry.loadFrom]
      cases r.add s with
      | ok r' => exact loadFrom_append_fst r' rest b
      | error e => exact loadFrom_append_fst r rest b
  loadFrom_append_snd (r : Registry) : ∀ (a b : List Stmt),
      (r.loadFrom (a ++ b)).2 = (r.loadFrom a).2 ++ ((r.loadFrom a).1.loadFrom b).2
    | [], _ => rfl
    | s :: rest, b => by
      simp only [List.cons_append, Registry.loadFrom]
      cases r.add s with
      | ok r' => simp [loadFrom_append_snd r' rest b]
      | error e => simp [loadFrom_append_snd r rest b]

end Goyang.Lemmas.Registry
