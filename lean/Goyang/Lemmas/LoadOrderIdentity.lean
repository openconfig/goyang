import Goyang.Lemmas.LoadOrderReg
import Goyang.Model.Identity
/-
Load-order independence (C05), part 10: the identity layer as `process` runs it (insertion-order
oracle `Oracle.ofNat 0`; every map walk sorted first) on two registries that hold the same
modules under renamed sequence numbers: corresponding links, corresponding dictionaries (same
order), the same errors.  Core Lean only.
-/
namespace Goyang.Lemmas.LoadOrder
open Goyang.Model Goyang.Model.Identity

/-! ### generic -/

theorem ofNat0_order {α : Type} (site : Nat) (l : List α) : (Oracle.ofNat 0).order site l = l := by
  simp [Oracle.ofNat]

/-- A fold in `Option` commutes with a map of the state. -/
theorem foldlM_hom {α₁ α₂ β : Type} (φ : α₁ → α₂) (g₁ : α₁ → β → Option α₁) (g₂ : α₂ → β → Option α₂)
    (hg : ∀ x y, g₂ (φ x) y = (g₁ x y).map φ) : ∀ (l : List β) (init : α₁),
    l.foldlM g₂ (φ init) = (l.foldlM g₁ init).map φ
  | [], init => rfl
  | y :: t, init => by
    rw [List.foldlM_cons, List.foldlM_cons, hg]
    cases g₁ init y with
    | none => rfl
    | some x => exact foldlM_hom φ g₁ g₂ hg t x

theorem mem_map_inj {α β : Type} (f : α → β) (hf : ∀ a b, f a = f b → a = b) (l : List α) (a : α) :
    f a ∈ l.map f ↔ a ∈ l := by
  constructor
  · intro h
    obtain ⟨b, hb, e⟩ := List.mem_map.mp h
    rw [← hf _ _ e]; exact hb
  · exact List.mem_map_of_mem

theorem insertSorted_eq_insertBy {α : Type} (lt : α → α → Bool) (x : α) (l : List α) :
    insertSorted lt x l = insertBy lt x l := by
  induction l with
  | nil => rfl
  | cons y ys ih => simp only [insertSorted, insertBy, ih]

/-- Go's stable sort (as modelled in the identity layer) is the model's `sortBy` of the reversed
list. -/
theorem sortStable_eq_sortBy {α : Type} (lt : α → α → Bool) (l : List α) :
    sortStable lt l = sortBy lt l.reverse := by
  unfold sortStable sortBy
  rw [List.foldr_reverse]
  congr 1
  funext acc x
  exact insertSorted_eq_insertBy lt x acc

theorem sortStable_perm_map {α β : Type} (lt : α → α → Bool) (lt' : β → β → Bool)
    (f : α → β) (h : ∀ a b, lt' (f a) (f b) = lt a b)
    (irr : ∀ a, lt' a a = false) (tr : ∀ a b c, lt' a b = true → lt' b c = true → lt' a c = true)
    {l₁ : List α} {l₂ : List β} (hp : l₂.Perm (l₁.map f))
    (tot : ∀ a ∈ l₁, ∀ b ∈ l₁, f a ≠ f b → lt a b = true ∨ lt b a = true) :
    sortStable lt' l₂ = (sortStable lt l₁).map f := by
  rw [sortStable_eq_sortBy, sortStable_eq_sortBy]
  refine sortBy_perm_map lt lt' f h irr tr ?_ ?_
  · exact (List.reverse_perm _).trans (hp.trans ((List.reverse_perm _).map f).symm)
  · intro a ha b hb
    exact tot a (List.mem_reverse.mp ha) b (List.mem_reverse.mp hb)

/-! ### renaming of the identity layer's state -/

def lkRen (σ : Nat → Nat) (lk : Link) : Link :=
  { visited := lk.visited.map σ, linked := lk.linked.map fun p => (σ p.1, p.2) }

def deRen (σ : Nat → Nat) (e : DEntry) : DEntry := { e with root := σ e.root }

def lpRen (σ : Nat → Nat) (p : Link × Option Err) : Link × Option Err := (lkRen σ p.1, p.2)

/-! ### `Modules.include` as the identity layer models it -/

def goStep (r : Registry) (rec : Mod → Link → Option (Link × Option Err)) (m : Mod)
    (acc : Link × Option Err) (item : Bool × Nat × Stmt) : Option (Link × Option Err) :=
  match acc.2 with
  | some e => some (acc.1, some e)
  | none =>
    match r.findModule item.1 item.2.2 with
    | none => some (acc.1, some (Err.bare (if item.1 then "no-such-submodule" else "no-such-module")))
    | some im =>
      match rec im acc.1 with
      | none => none
      | some (st', some e) => some (st', some e)
      | some (st', none) =>
        some (if item.1 then { st' with linked := st'.linked ++ [(m.seq, item.2.1)] } else st', none)

theorem includeGo_succ (r : Registry) (fuel : Nat) (m : Mod) (st : Link) :
    includeGo r (fuel + 1) m st =
      if m.seq ∈ st.visited then some (st, none) else
      (linkItems m).foldlM (goStep r (includeGo r fuel) m) ({ st with visited := st.visited ++ [m.seq] }, none) := rfl

section
variable {σ : Nat → Nat} {r₁ r₂ : Registry} (h : RegRel σ r₁ r₂)
include h

theorem includeGo_ren : ∀ (fuel : Nat) (m : Mod) (st : Link),
    includeGo r₂ fuel (Mod.ren σ m) (lkRen σ st) = (includeGo r₁ fuel m st).map (lpRen σ)
  | 0, m, st => rfl
  | fuel + 1, m, st => by
    rw [includeGo_succ, includeGo_succ]
    have hv : (Mod.ren σ m).seq ∈ (lkRen σ st).visited ↔ m.seq ∈ st.visited := mem_map_inj σ h.inj st.visited m.seq
    by_cases hm : m.seq ∈ st.visited
    · rw [if_pos hm, if_pos (hv.mpr hm)]; rfl
    · rw [if_neg hm, if_neg (fun x => hm (hv.mp x))]
      have h0 : (({ lkRen σ st with visited := (lkRen σ st).visited ++ [(Mod.ren σ m).seq] } : Link), (none : Option Err)) =
          lpRen σ ({ st with visited := st.visited ++ [m.seq] }, none) := by
        simp [lpRen, lkRen]
      have hl : linkItems (Mod.ren σ m) = linkItems m := rfl
      rw [h0, hl]
      refine foldlM_hom (lpRen σ) _ _ ?_ _ _
      rintro ⟨lk, e⟩ item
      unfold goStep
      cases e with
      | some e => rfl
      | none =>
        simp only [lpRen, h.findModule]
        cases r₁.findModule item.1 item.2.2 with
        | none => rfl
        | some im =>
          simp only [Option.map_some, includeGo_ren fuel im lk]
          cases includeGo r₁ fuel im lk with
          | none => rfl
          | some p =>
            obtain ⟨st', e'⟩ := p
            cases e' with
            | some e' => rfl
            | none =>
              simp only [Option.map_some, lpRen]
              cases item.1 <;> simp [lkRen]

end

/-! ### the walk over include closures -/

theorem walk_ren {σ : Nat → Nat} (hσ : ∀ a b, σ a = σ b → a = b) (succ₁ succ₂ : Nat → List Nat)
    (hs : ∀ x, succ₂ (σ x) = (succ₁ x).map σ) : ∀ (fuel : Nat) (r : Nat) (ids : List Nat),
    walk succ₂ fuel (σ r) (ids.map σ) = (walk succ₁ fuel r ids).map (List.map σ)
  | 0, _, _ => rfl
  | fuel + 1, r, ids => by
    unfold walk
    have hv : σ r ∈ ids.map σ ↔ r ∈ ids := mem_map_inj σ hσ ids r
    by_cases hm : r ∈ ids
    · rw [if_pos hm, if_pos (hv.mpr hm)]; rfl
    · rw [if_neg hm, if_neg (fun x => hm (hv.mp x)), hs, List.foldlM_map]
      have h0 : ids.map σ ++ [σ r] = (ids ++ [r]).map σ := by simp
      rw [h0]
      exact foldlM_hom (List.map σ) _ _ (fun acc ch => walk_ren hσ succ₁ succ₂ hs fuel ch acc) _ _

section
variable {σ : Nat → Nat} {r₁ r₂ : Registry} (h : RegRel σ r₁ r₂)
include h

theorem moduleEntries_perm : (moduleEntries r₂).Perm ((moduleEntries r₁).map (Mod.ren σ)) := by
  unfold moduleEntries
  refine (h.modules.filterMap _).trans ?_
  rw [h.filterMap_byId]

theorem modulesByFullName_ren :
    modulesByFullName (Oracle.ofNat 0) r₂ = (modulesByFullName (Oracle.ofNat 0) r₁).map (Mod.ren σ) := by
  unfold modulesByFullName
  rw [ofNat0_order, ofNat0_order]
  refine sortStable_perm_map fullLt fullLt (Mod.ren σ) (fun _ _ => rfl) fullLt_irr fullLt_trans
    (moduleEntries_perm h) ?_
  intro a ha b hb hab
  obtain ⟨kva, hkva, hka⟩ := List.mem_filterMap.mp ha
  obtain ⟨kvb, hkvb, hkb⟩ := List.mem_filterMap.mp hb
  exact h.fullLt_total (mem_of_byId hka).1 (mem_of_byId hkb).1 (h.modsNotSub kva hkva a hka)
    (h.modsNotSub kvb hkvb b hkb) fun e => hab (e ▸ rfl)

def llRen (σ : Nat → Nat) (p : Link × List Err) : Link × List Err := (lkRen σ p.1, p.2)

theorem identity_linkAll_ren :
    Identity.linkAll (Oracle.ofNat 0) r₂ = (Identity.linkAll (Oracle.ofNat 0) r₁).map (llRen σ) := by
  unfold Identity.linkAll
  rw [modulesByFullName_ren h, List.foldlM_map, h.length]
  have h0 : (({} : Link), ([] : List Err)) = llRen σ ({}, []) := rfl
  rw [h0]
  refine foldlM_hom (llRen σ) _ _ ?_ _ _
  rintro ⟨lk, es⟩ m
  simp only [llRen, includeGo_ren h]
  cases includeGo r₁ (r₁.mods.length + 1) m lk with
  | none => rfl
  | some p =>
    obtain ⟨st, e⟩ := p
    cases e <;> rfl

theorem includeTargets_ren (lk : Link) (m : Mod) :
    includeTargets r₂ (lkRen σ lk) (Mod.ren σ m) = (includeTargets r₁ lk m).map (Mod.ren σ) := by
  unfold includeTargets
  rw [Mod.ren_includes, List.map_filterMap]
  apply ListAux.filterMap_congr'
  rintro ⟨s, i⟩ _
  simp only [Mod.ren_seq, lkRen]
  have hv : (σ m.seq, i) ∈ lk.linked.map (fun p => (σ p.1, p.2)) ↔ (m.seq, i) ∈ lk.linked :=
    mem_map_inj (fun p : Nat × Nat => (σ p.1, p.2))
      (fun a b e => by
        obtain ⟨a1, a2⟩ := a; obtain ⟨b1, b2⟩ := b
        simp only [Prod.mk.injEq] at e
        rw [h.inj _ _ e.1, e.2]) lk.linked (m.seq, i)
  by_cases hm : (m.seq, i) ∈ lk.linked
  · rw [if_pos hm, if_pos (hv.mpr hm)]; exact h.findModule true s
  · rw [if_neg hm, if_neg (fun x => hm (hv.mp x))]; rfl

theorem includeSucc_ren (lk : Link) (s : Nat) :
    includeSucc r₂ (lkRen σ lk) (σ s) = (includeSucc r₁ lk s).map σ := by
  unfold includeSucc
  rw [h.byId]
  cases r₁.byId s with
  | none => rfl
  | some m =>
    simp only [Option.map_some, includeTargets_ren h, List.map_map]
    rfl

/-! ### the dictionary -/

def dpRen (σ : Nat → Nat) (p : Dict × List Err) : Dict × List Err := (p.1.map (deRen σ), p.2)

omit h in
theorem dict_bind_ren (σ : Nat → Nat) (d : Dict) (e : DEntry) :
    Dict.bind (d.map (deRen σ)) (deRen σ e) = (Dict.bind d e).map (deRen σ) := by
  unfold Dict.bind
  have hk : ∀ x : DEntry, (deRen σ x).key = x.key := fun _ => rfl
  have ha : (d.map (deRen σ)).any (fun x => x.key == (deRen σ e).key) = d.any (fun x => x.key == e.key) := by
    rw [List.any_map]; rfl
  rw [ha, hk]
  by_cases hc : d.any (fun x => x.key == e.key) = true
  · rw [if_pos hc, if_pos hc, List.map_map, List.map_map]
    apply List.map_congr_left
    intro x _
    simp only [Function.comp, hk]
    split <;> rfl
  · rw [if_neg hc, if_neg hc]
    simp

omit h in
theorem dict_get?_ren (σ : Nat → Nat) (d : Dict) (k : String) :
    Dict.get? (d.map (deRen σ)) k = (Dict.get? d k).map (deRen σ) := by
  unfold Dict.get?
  rw [List.find?_map]
  rfl

theorem registerMod_ren (m : Mod) (acc : Dict × List Err) :
    registerMod r₂ (Mod.ren σ m) (dpRen σ acc) = dpRen σ (registerMod r₁ m acc) := by
  unfold registerMod
  rw [h.owner]
  cases r₁.owner m with
  | none =>
    simp only [Option.map_none, Mod.ren_stmt]
    cases m.stmt.one? "belongs-to" <;> rfl
  | some ow =>
    simp only [Option.map_some, Mod.ren_name, Mod.ren_seq, dpRen]
    have hid : identities (Mod.ren σ m) = identities m := rfl
    rw [hid]
    congr 1
    exact List.foldl_hom (List.map (deRen σ)) fun d x => dict_bind_ren σ d
      { key := Vtx.key (ow.name, x.1.arg), vtx := (ow.name, x.1.arg), root := m.seq, idx := x.2, stmt := x.1 }

theorem modulesByKey_ren :
    modulesByKey (Oracle.ofNat 0) r₂ = (modulesByKey (Oracle.ofNat 0) r₁).map (Mod.ren σ) := by
  unfold modulesByKey
  rw [ofNat0_order, ofNat0_order]
  have hs : sortStable (fun (a b : String × Nat) => decide (a.1 < b.1)) r₂.modules =
      (sortStable (fun (a b : String × Nat) => decide (a.1 < b.1)) r₁.modules).map (kvRen σ) := by
    exact sortStable_perm_map keyLt keyLt (kvRen σ) (fun _ _ => rfl) keyLt_irr keyLt_trans h.modules
      (keyLt_total h.modKeys)
  rw [hs, h.filterMap_byId]

theorem buildDict_ren (lk : Link) :
    buildDict (Oracle.ofNat 0) r₂ (lkRen σ lk) = (buildDict (Oracle.ofNat 0) r₁ lk).map (dpRen σ) := by
  unfold buildDict
  rw [modulesByKey_ren h, List.foldlM_map, h.length]
  have h0 : (([] : Dict), ([] : List Err)) = dpRen σ ([], []) := rfl
  rw [h0]
  refine foldlM_hom (dpRen σ) _ _ ?_ _ _
  intro acc m
  have hw := walk_ren h.inj (includeSucc r₁ lk) (includeSucc r₂ (lkRen σ lk)) (includeSucc_ren h lk)
    (r₁.mods.length + 1) m.seq []
  simp only [List.map_nil] at hw
  rw [Mod.ren_seq, hw]
  cases walk (includeSucc r₁ lk) (r₁.mods.length + 1) m.seq [] with
  | none => rfl
  | some closure =>
    simp only [Option.map_some, List.foldl_map]
    congr 1
    refine List.foldl_hom (dpRen σ) ?_
    intro x s
    rw [h.byId]
    cases r₁.byId s with
    | none => rfl
    | some mm => exact registerMod_ren h mm x

end

/-! ### bases, direct children, closure -/

section
variable {σ : Nat → Nat} {r₁ r₂ : Registry} (h : RegRel σ r₁ r₂)
include h

theorem findIdentityBase_ren (dict : Dict) (root : Mod) (baseStr : String) :
    findIdentityBase r₂ (dict.map (deRen σ)) (Mod.ren σ root) baseStr =
      (findIdentityBase r₁ dict root baseStr).map (deRen σ) := by
  unfold findIdentityBase
  simp only [Mod.ren_getPrefix, Mod.ren_stmt, h.owner, h.findModuleByPrefix, dict_get?_ren]
  split
  · cases r₁.owner root with
    | none => rfl
    | some ow =>
      simp only [Option.map_some, Mod.ren_name]
      cases Dict.get? dict _ <;> rfl
  · cases r₁.findModuleByPrefix root _ with
    | none => rfl
    | some ext =>
      simp only [Option.map_some, h.owner]
      cases r₁.owner ext with
      | none => rfl
      | some ow =>
        simp only [Option.map_some, Mod.ren_name]
        cases Dict.get? dict _ <;> rfl

theorem resolvedBases_ren (dict : Dict) (e : DEntry) :
    resolvedBases r₂ (dict.map (deRen σ)) (deRen σ e) =
      (resolvedBases r₁ dict e).map (fun x => x.map (deRen σ)) := by
  unfold resolvedBases
  have h1 : (deRen σ e).root = σ e.root := rfl
  have h2 : (deRen σ e).stmt = e.stmt := rfl
  rw [h1, h2, h.byId]
  cases r₁.byId e.root with
  | none => rfl
  | some root =>
    simp only [Option.map_some, List.map_map]
    apply List.map_congr_left
    intro b _
    exact findIdentityBase_ren h dict root b.arg

theorem directOne_ren (dict : Dict) (acc : (Vtx → List Vtx) × List Err) (e : DEntry) :
    directOne r₂ (dict.map (deRen σ)) acc (deRen σ e) = directOne r₁ dict acc e := by
  unfold directOne
  rw [resolvedBases_ren h, List.foldl_map]
  congr 1
  funext acc rb
  cases rb <;> rfl

theorem directAll_ren (dict order : Dict) (vals0 : Vtx → List Vtx) :
    directAll r₂ (dict.map (deRen σ)) (order.map (deRen σ)) vals0 = directAll r₁ dict order vals0 := by
  unfold directAll
  rw [List.foldl_map]
  congr 1
  funext acc e
  exact directOne_ren h dict acc e

/-- The errors of `resolveIdentities`, and its dictionary. -/
theorem resolveIdentities_ren (lk : Link) (vals0 : Vtx → List Vtx) :
    (resolveIdentities (Oracle.ofNat 0) r₂ (lkRen σ lk) vals0).map (·.errs) =
      (resolveIdentities (Oracle.ofNat 0) r₁ lk vals0).map (·.errs) := by
  unfold resolveIdentities
  rw [buildDict_ren h]
  cases buildDict (Oracle.ofNat 0) r₁ lk with
  | none => rfl
  | some p =>
    obtain ⟨dict, errs1⟩ := p
    simp only [Option.map_some, dpRen, ofNat0_order, directAll_ren h]
    have hv : (dict.map (deRen σ)).map (·.vtx) = dict.map (·.vtx) := by
      rw [List.map_map]; rfl
    have hf : closeFuel (dict.map (deRen σ)) = closeFuel dict := by
      unfold closeFuel; rw [List.length_map]
    rw [hv, hf]
    cases closeAll vtxLt (closeFuel dict) (dict.map (·.vtx)) (directAll r₁ dict dict vals0).1 with
    | none => rfl
    | some q =>
      obtain ⟨vals2, cyc⟩ := q
      simp only [Option.map_some, Option.some.injEq]
      congr 2
      funext v
      rw [dict_get?_ren]
      cases Dict.get? dict v.key <;> rfl

/-- `process`'s identity errors as the pipeline reads them off `Identity.run`. -/
def identityErrsOf (reg : Registry) : List Err :=
  match Identity.run (Oracle.ofNat 0) reg with
  | .done res _ => res.errs
  | _ => []

theorem identityErrsOf_eq : identityErrsOf r₂ = identityErrsOf r₁ := by
  unfold identityErrsOf Identity.run
  rw [identity_linkAll_ren h]
  cases Identity.linkAll (Oracle.ofNat 0) r₁ with
  | none => rfl
  | some p =>
    obtain ⟨lk, lerrs⟩ := p
    simp only [Option.map_some, llRen]
    by_cases hl : (!lerrs.isEmpty) = true
    · rw [if_pos hl, if_pos hl]
    · rw [if_neg hl, if_neg hl]
      have := resolveIdentities_ren h lk (fun _ => [])
      cases h1 : resolveIdentities (Oracle.ofNat 0) r₁ lk (fun _ => []) with
      | none =>
        rw [h1] at this
        cases h2 : resolveIdentities (Oracle.ofNat 0) r₂ (lkRen σ lk) (fun _ => []) with
        | none => rfl
        | some res₂ => rw [h2] at this; cases this
      | some res₁ =>
        rw [h1] at this
        cases h2 : resolveIdentities (Oracle.ofNat 0) r₂ (lkRen σ lk) (fun _ => []) with
        | none => rw [h2] at this; cases this
        | some res₂ =>
          rw [h2] at this
          simpa using this

end

end Goyang.Lemmas.LoadOrder
