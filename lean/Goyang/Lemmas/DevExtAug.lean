import Goyang.Lemmas.DevExtMain
/-
C08, frame across module sets — part 5: the augment stage when the base registry `B` HAS top-level
augments.  The run with the deviation-only modules visits, in the augment loop, the modules of `B`
followed by the new modules (they sort last).  A new module has nothing pending, so it is dropped
from the loop's array the first time it is visited; with the swap-remove of `augmentPass` this means:
the first time the run without the new modules drops a module at index `i`, the run with them moves
the new modules into slot `i` one after the other and drops each (`drain_mid`), and arrives at the
array of the run without them; if no module of `B` is dropped in the first pass, the new modules are
dropped at the end of the pass (`drain_end`).  From then on the arrays are equal.  On the states the
two runs are related by `lift`: extra trees, extra empty rows of pending augments.
Core Lean only.
-/
namespace Goyang.Lemmas.DevExt
open Goyang.Model
open Goyang.Lemmas.Tree (envOf keyOrder tstate forest0 pending0 pstate0 preDev fixAll afterLoop leftoverPass allMods augOrder)
open Goyang.Lemmas.Fuel (augStep augFail augmentTree_eq augmentPass_succ augmentLoop_succ augmentPass_fuel_eq augStep_spec)

/-! ### states with extra trees and extra empty rows -/

/-- The state `s` with the trees `G` and the pending rows `P` appended. -/
def lift (G : List (Nat × Entry)) (P : List (Nat × List Entry)) (s : PState) : PState :=
  { forest := ext G s.forest, pending := s.pending ++ P }

/-- Extra rows: nothing pending, filed under new modules. -/
def PNew (ds : List Mod) (P : List (Nat × List Entry)) : Prop := ∀ p ∈ P, p.2 = [] ∧ ∃ d ∈ ds, d.seq = p.1

/-- The rows of the run without the new modules: filed under modules of `B`, and the context module of
every pending augment is a module of `B`. -/
def PInv (B : Registry) (s : PState) : Prop :=
  (∀ p ∈ s.pending, ∃ m ∈ B.mods, m.seq = p.1) ∧
  (∀ p ∈ s.pending, ∀ a ∈ p.2, ∃ m ∈ B.mods, m.seq = a.d.nodeMod)

theorem augFail_lift (G : List (Nat × Entry)) (P : List (Nat × List Entry)) (id : Nat) (hid : ∀ g ∈ G, g.1 ≠ id)
    (ae : Bool) (a : Entry) (s : PState) : augFail id ae a (lift G P s) = lift G P (augFail id ae a s) := by
  unfold augFail
  cases ae with
  | false => rfl
  | true =>
    simp only [if_true]
    show (match (ext G s.forest).tree? id with
      | some root => { lift G P s with forest := (ext G s.forest).setTree id (root.addErr (Err.at_ a.d.node "augment-not-found")) }
      | none => lift G P s) = _
    rw [tree?_ext G s.forest id hid]
    cases s.forest.tree? id with
    | none => rfl
    | some root =>
      simp only
      rw [setTree_ext G s.forest id _ hid]
      rfl

theorem augFold_sub (reg : Registry) (id : Nat) (ae : Bool) (ns : String) (l : List Entry)
    (acc : PState × List Entry × Nat × Nat) :
    ∀ x ∈ (l.foldl (augStep reg id ae ns) acc).2.1, x ∈ acc.2.1 ∨ x ∈ l := by
  induction l generalizing acc with
  | nil => intro x hx; exact Or.inl hx
  | cons a l ih =>
    intro x hx
    simp only [List.foldl_cons] at hx
    rcases ih _ x hx with h1 | h1
    · rcases (augStep_spec reg id ae ns acc a).2 with ⟨e, _, _⟩ | ⟨e, _, _⟩
      · rw [e] at h1
        rcases List.mem_append.mp h1 with h2 | h2
        · exact Or.inl h2
        · simp only [List.mem_singleton] at h2; subst h2; exact Or.inr (List.mem_cons_self ..)
      · rw [e] at h1; exact Or.inl h1
    · exact Or.inr (List.mem_cons_of_mem _ h1)

theorem augFold_pending (reg : Registry) (id : Nat) (ae : Bool) (ns : String) (l : List Entry)
    (acc : PState × List Entry × Nat × Nat) : (l.foldl (augStep reg id ae ns) acc).1.pending = acc.1.pending := by
  induction l generalizing acc with
  | nil => rfl
  | cons a l ih => simp only [List.foldl_cons]; rw [ih, (augStep_spec reg id ae ns acc a).1]

theorem pendingOf_mem (s : PState) (id : Nat) (a : Entry) (ha : a ∈ s.pendingOf id) : ∃ p ∈ s.pending, a ∈ p.2 := by
  unfold PState.pendingOf at ha
  cases hf : s.pending.find? (·.1 == id) with
  | none => rw [hf] at ha; cases ha
  | some p => rw [hf] at ha; exact ⟨p, List.mem_of_find?_eq_some hf, ha⟩

/-- `augmentTree` (in any registry) keeps `PInv`: what stays pending was pending. -/
theorem augmentTree_pinv (B reg : Registry) (id : Nat) (ae : Bool) (s : PState) (hs : PInv B s) :
    PInv B (augmentTree reg id ae s).1 := by
  rw [augmentTree_eq]
  have hp := augFold_pending reg id ae (namespaceAt reg s.forest (id, [])) (s.pendingOf id) (s, [], 0, 0)
  have hsub := augFold_sub reg id ae (namespaceAt reg s.forest (id, [])) (s.pendingOf id) (s, [], 0, 0)
  generalize (s.pendingOf id).foldl (augStep reg id ae (namespaceAt reg s.forest (id, []))) (s, [], 0, 0) = r at hp hsub
  obtain ⟨s', un, p, k⟩ := r
  simp only at hp hsub ⊢
  have hmem : ∀ q ∈ (s'.setPending id un).pending, ∃ p0 ∈ s.pending, q.1 = p0.1 ∧ (q.2 = p0.2 ∨ q.2 = un) := by
    intro q hq
    unfold PState.setPending at hq
    simp only [List.mem_map] at hq
    obtain ⟨p0, hp0, rfl⟩ := hq
    rw [hp] at hp0
    refine ⟨p0, hp0, ?_⟩
    obtain ⟨i0, l0⟩ := p0
    simp only
    split
    · exact ⟨rfl, Or.inr rfl⟩
    · exact ⟨rfl, Or.inl rfl⟩
  constructor
  · intro q hq
    obtain ⟨p0, hp0, e1, _⟩ := hmem q hq
    rw [e1]; exact hs.1 p0 hp0
  · intro q hq a ha
    obtain ⟨p0, hp0, _, e2⟩ := hmem q hq
    rcases e2 with e2 | e2
    · rw [e2] at ha; exact hs.2 p0 hp0 a ha
    · rw [e2] at ha
      rcases hsub a ha with h1 | h1
      · cases h1
      · obtain ⟨p1, hp1, ha1⟩ := pendingOf_mem s id a h1
        exact hs.2 p1 hp1 a ha1

section
variable {B X : Registry} {ds : List Mod} {dk : KeyMap} (h : DevExtCore B X ds dk)
include h

theorem new_ne_old {n t : Nat} (hn : ∃ d ∈ ds, d.seq = n) (ht : ∃ m ∈ B.mods, m.seq = t) : n ≠ t := by
  obtain ⟨d, hd, rfl⟩ := hn
  obtain ⟨m, hm, rfl⟩ := ht
  exact fun e => h.seqFresh m hm d hd e.symm

theorem augStep_lift {G : List (Nat × Entry)} (hG : NewTrees ds G) (P : List (Nat × List Entry)) (id : Nat)
    (hid : ∃ m ∈ B.mods, m.seq = id) (ae : Bool) (ns : String) (s : PState) (un : List Entry) (p k : Nat) (a : Entry)
    (ha : ∃ m ∈ B.mods, m.seq = a.d.nodeMod) :
    augStep X id ae ns (lift G P s, un, p, k) a =
      (lift G P (augStep B id ae ns (s, un, p, k) a).1, (augStep B id ae ns (s, un, p, k) a).2) := by
  have hidG : ∀ g ∈ G, g.1 ≠ id := hG.ne (old_of_mem h hid)
  unfold augStep
  simp only
  have hs : ∃ m' ∈ B.mods, m'.seq = ((id, []) : Loc).1 := hid
  simp only [show (lift G P s).forest = ext G s.forest from rfl, show (lift G P s).pending = s.pending ++ P from rfl]
  rw [find_ext h hG s.forest (id, []) a.d.nodeMod a.d.name hs (old_of_mem h ha)]
  have hold := find_tree_old s.forest (id, []) a.d.nodeMod a.d.name hs
  generalize find B s.forest (id, []) a.d.nodeMod a.d.name = r at hold
  obtain ⟨target, f'⟩ := r
  have e0 : ({ forest := ext G f', pending := s.pending ++ P } : PState) = lift G P { forest := f', pending := s.pending } := rfl
  cases target with
  | none =>
    simp only
    rw [e0, augFail_lift G P id hidG]
  | some loc =>
    obtain ⟨t, path⟩ := loc
    have ht : ∀ g ∈ G, g.1 ≠ t := hG.ne (old_of_mem h (hold t path rfl))
    simp only
    rw [tree?_ext G f' t ht]
    cases hn : (f'.tree? t).bind (·.getAt path) with
    | none =>
      simp only
      rw [e0, augFail_lift G P id hidG]
    | some te =>
      simp only
      split
      · rw [e0, augFail_lift G P id hidG]
      · cases f'.tree? t with
        | none =>
          simp only
          rw [e0, augFail_lift G P id hidG]
        | some root =>
          simp only
          rw [setTree_ext G f' t _ ht]
          rfl

theorem augFold_lift {G : List (Nat × Entry)} (hG : NewTrees ds G) (P : List (Nat × List Entry)) (id : Nat)
    (hid : ∃ m ∈ B.mods, m.seq = id) (ae : Bool) (ns : String) (l : List Entry)
    (hl : ∀ a ∈ l, ∃ m ∈ B.mods, m.seq = a.d.nodeMod) :
    ∀ (s : PState) (un : List Entry) (p k : Nat),
    l.foldl (augStep X id ae ns) (lift G P s, un, p, k) =
      (lift G P (l.foldl (augStep B id ae ns) (s, un, p, k)).1, (l.foldl (augStep B id ae ns) (s, un, p, k)).2) := by
  intro s un p k
  exact foldl_lift (lift G P) (fun _ => True) _ _ l
    (fun a ha x _ => ⟨augStep_lift h hG P id hid ae ns x.1 x.2.1 x.2.2.1 x.2.2.2 a (hl a ha), trivial⟩) (s, un, p, k) trivial

omit h in
theorem pendingOf_lift (G : List (Nat × Entry)) {P : List (Nat × List Entry)} (s : PState) (id : Nat)
    (hP : ∀ p ∈ P, p.1 ≠ id) : (lift G P s).pendingOf id = s.pendingOf id := by
  unfold PState.pendingOf lift
  simp only [List.find?_append]
  cases s.pending.find? (·.1 == id) with
  | some x => rfl
  | none =>
    simp only [Option.none_or]
    rw [List.find?_eq_none.mpr]
    intro p hp
    simpa using hP p hp

omit h in
theorem setPending_lift (G : List (Nat × Entry)) {P : List (Nat × List Entry)} (s : PState) (id : Nat) (l : List Entry)
    (hP : ∀ p ∈ P, p.1 ≠ id) : (lift G P s).setPending id l = lift G P (s.setPending id l) := by
  unfold PState.setPending lift
  simp only [List.map_append, PState.mk.injEq, List.append_cancel_left_eq, true_and]
  rw [List.map_congr_left (g := fun x => x)]
  · simp
  · intro p hp
    obtain ⟨i, x⟩ := p
    have : ¬ i = id := hP (i, x) hp
    simp [this]

/-- **`augmentTree` for a tree of `B`, on a state with extra trees and extra empty rows.** -/
theorem augmentTree_lift {G : List (Nat × Entry)} (hG : NewTrees ds G) {P : List (Nat × List Entry)} (hP : PNew ds P)
    (id : Nat) (hid : ∃ m ∈ B.mods, m.seq = id) (ae : Bool) (s : PState) (hs : PInv B s) :
    augmentTree X id ae (lift G P s) = (lift G P (augmentTree B id ae s).1, (augmentTree B id ae s).2) := by
  have hPid : ∀ p ∈ P, p.1 ≠ id := fun p hp => new_ne_old h (hP p hp).2 hid
  rw [augmentTree_eq, augmentTree_eq, pendingOf_lift G s id hPid]
  have ens : namespaceAt X (lift G P s).forest (id, []) = namespaceAt B s.forest (id, []) :=
    namespaceAt_ext h hG s.forest (id, []) hid
  rw [ens]
  have hl : ∀ a ∈ s.pendingOf id, ∃ m ∈ B.mods, m.seq = a.d.nodeMod := by
    intro a ha
    obtain ⟨p, hp, hap⟩ := pendingOf_mem s id a ha
    exact hs.2 p hp a hap
  rw [augFold_lift h hG P id hid ae _ (s.pendingOf id) hl s [] 0 0]
  simp only
  rw [setPending_lift G _ id _ hPid]

/-- A new module has nothing pending: `augmentTree` does nothing and reports nothing skipped. -/
theorem augmentTree_new (G : List (Nat × Entry)) {P : List (Nat × List Entry)} (hP : PNew ds P) (n : Nat)
    (hn : ∃ d ∈ ds, d.seq = n) (s : PState) (hs : PInv B s) :
    augmentTree X n false (lift G P s) = (lift G P s, 0, 0) := by
  have hp0 : (lift G P s).pendingOf n = [] := by
    unfold PState.pendingOf lift
    simp only [List.find?_append]
    have : s.pending.find? (·.1 == n) = none := by
      apply List.find?_eq_none.mpr
      intro p hp
      have := new_ne_old h hn (hs.1 p hp)
      simpa using fun e => this e.symm
    rw [this]
    simp only [Option.none_or]
    cases hf : P.find? (·.1 == n) with
    | none => rfl
    | some p => simp [(hP p (List.mem_of_find?_eq_some hf)).1]
  rw [augmentTree_eq, hp0]
  simp only [List.foldl_nil]
  have : (lift G P s).setPending n [] = lift G P s := by
    unfold PState.setPending lift
    simp only [PState.mk.injEq, true_and]
    rw [List.map_congr_left (g := id)]
    · simp
    · intro p hp
      obtain ⟨i, x⟩ := p
      rcases List.mem_append.mp hp with hp | hp
      · have := new_ne_old h hn (hs.1 (i, x) hp)
        have : ¬ i = n := fun e => this e.symm
        simp [this]
      · have : x = [] := (hP (i, x) hp).1
        subst this
        simp only [id]
        split <;> rfl
  rw [this]

end

end Goyang.Lemmas.DevExt
