/-
Helper lemmas about `Goyang.Model.Number`, part 3 (core Lean only): what `String` prints, as a literal.
-/
import Goyang.Lemmas.NumberParse

namespace Goyang.Lemmas.Number
open Goyang.Model.Number
open Goyang.Spec.Number (num WF WFInt WFDec digitsVal Lit parseDecimalSpec parseIntSpec)

/-- decimal digits of a natural number, most significant first -/
def natDs (n : Nat) : List Nat :=
  if n < 10 then [n] else natDs (n / 10) ++ [n % 10]
termination_by n
decreasing_by omega

theorem natDigits_eq (n : Nat) : natDigits n = asc (natDs n) := by
  induction n using natDs.induct with
  | case1 n h => rw [natDigits, natDs, if_pos h, if_pos h]; rfl
  | case2 n h ih => rw [natDigits, natDs, if_neg h, if_neg h, ih, asc_append]; rfl

theorem natDs_lt (n : Nat) : ∀ d ∈ natDs n, d < 10 := by
  induction n using natDs.induct with
  | case1 n h => rw [natDs, if_pos h]; simpa using h
  | case2 n h ih =>
    rw [natDs, if_neg h]
    intro d hd
    rcases List.mem_append.mp hd with hd | hd
    · exact ih d hd
    · simp at hd; omega

theorem digitsVal_snoc (ds : List Nat) (d : Nat) : digitsVal (ds ++ [d]) = digitsVal ds * 10 + d := by
  unfold digitsVal; rw [List.foldl_append]; rfl

theorem natDs_val (n : Nat) : digitsVal (natDs n) = n := by
  induction n using natDs.induct with
  | case1 n h => rw [natDs, if_pos h]; simp [digitsVal]
  | case2 n h ih => rw [natDs, if_neg h, digitsVal_snoc, ih]; omega

theorem natDs_ne (n : Nat) : natDs n ≠ [] := by
  rw [natDs]; split <;> simp

theorem natDs_length_pos (n : Nat) : 1 ≤ (natDs n).length :=
  List.length_pos_iff.mpr (natDs_ne n)

theorem natDs_head (n : Nat) (h0 : n ≠ 0) : (natDs n).head? ≠ some 0 := by
  induction n using natDs.induct with
  | case1 n h => rw [natDs, if_pos h]; simpa using h0
  | case2 n h ih =>
    rw [natDs, if_neg h]
    have := ih (by omega)
    cases hh : natDs (n / 10) with
    | nil => exact absurd hh (natDs_ne _)
    | cons a b => rw [hh] at this; simpa using this

theorem natDs_noLeadingZero (n : Nat) : natDs n = [0] ∨ (natDs n).head? ≠ some 0 := by
  by_cases h : n = 0
  · subst h; left; rw [natDs]; simp
  · right; exact natDs_head n h

/-- the literal that `String` prints -/
def toLit (n : Number) : Lit :=
  let ds := natDs n.value
  let sg : Option Bool := if n.neg then some true else none
  if n.fd = 0 then ⟨sg, ds, none⟩
  else if ds.length ≤ n.fd then ⟨sg, [0], some (List.replicate (n.fd - ds.length) 0 ++ ds)⟩
  else ⟨sg, ds.take (ds.length - n.fd), some (ds.drop (ds.length - n.fd))⟩

theorem signB_neg (b : Bool) (rest : List UInt8) :
    (if b then (45 : UInt8) :: rest else rest) = signB (if b then some true else none) ++ rest := by
  cases b <;> rfl

theorem toStrPanics_false (n : Number) (h : n.fd ≤ 18) : toStrPanics n = false := by
  unfold toStrPanics
  have : 1 ≤ (natDigits n.value).length := by
    rw [natDigits_eq, asc, List.length_map]; exact natDs_length_pos _
  simp; omega

/-- `String` prints exactly the literal `toLit n` -/
theorem toStr_eq_render (n : Number) (h : n.fd ≤ 18) : toStr n = (toLit n).render := by
  unfold toStr toLit
  simp only [natDigits_eq]
  rw [signB_neg]
  have hlen : (asc (natDs n.value)).length = (natDs n.value).length := by unfold asc; simp
  by_cases h0 : n.fd = 0
  · simp only [h0, ne_eq, not_true_eq_false, if_false, if_true]
    rw [render_eq]; simp
  · simp only [h0, ne_eq, not_false_eq_true, if_true, if_false, hlen]
    by_cases hl : (natDs n.value).length ≤ n.fd
    · simp only [hl, if_true]
      have hk : n.fd - (natDs n.value).length + 1 ≤ 18 := by
        have := natDs_length_pos n.value
        omega
      rw [space18_take _ hk, ← asc_append, List.replicate_succ]
      rw [render_eq]
      simp [asc, List.append_assoc]
    · simp only [hl, if_false]
      rw [render_eq]
      simp only [asc, List.map_take, List.map_drop, List.append_assoc]
      rfl

theorem toLit_eq (n : Number) :
    (n.fd = 0 ∧ toLit n = ⟨if n.neg then some true else none, natDs n.value, none⟩) ∨
    (n.fd ≠ 0 ∧ (natDs n.value).length ≤ n.fd ∧ toLit n = ⟨if n.neg then some true else none, [0],
      some (List.replicate (n.fd - (natDs n.value).length) 0 ++ natDs n.value)⟩) ∨
    (n.fd ≠ 0 ∧ ¬ (natDs n.value).length ≤ n.fd ∧ toLit n = ⟨if n.neg then some true else none,
      (natDs n.value).take ((natDs n.value).length - n.fd), some ((natDs n.value).drop ((natDs n.value).length - n.fd))⟩) := by
  unfold toLit
  by_cases h0 : n.fd = 0
  · exact Or.inl ⟨h0, by simp only [h0, if_true]⟩
  · by_cases hl : (natDs n.value).length ≤ n.fd
    · exact Or.inr (Or.inl ⟨h0, hl, by simp only [h0, hl, if_true, if_false]⟩)
    · exact Or.inr (Or.inr ⟨h0, hl, by simp only [h0, hl, if_false]⟩)

theorem toLit_digitsOK (n : Number) : (toLit n).digitsOK := by
  have hlt := natDs_lt n.value
  unfold Lit.digitsOK
  rcases toLit_eq n with ⟨_, e⟩ | ⟨_, _, e⟩ | ⟨_, _, e⟩ <;> rw [e]
  · exact ⟨hlt, by simp⟩
  · refine ⟨by simp, fun d hd => ?_⟩
    rcases List.mem_append.mp hd with hd | hd
    · rw [List.mem_replicate] at hd; omega
    · exact hlt d hd
  · exact ⟨fun d hd => hlt d (List.mem_of_mem_take hd), fun d hd => hlt d (List.mem_of_mem_drop hd)⟩

theorem toLit_neg (n : Number) : (toLit n).neg = n.neg := by
  unfold Lit.neg
  -- the sign field is the same in all three shapes
  rcases toLit_eq n with ⟨_, e⟩ | ⟨_, _, e⟩ | ⟨_, _, e⟩
  all_goals
    rw [e]
    cases n.neg <;> rfl

theorem toLit_scale (n : Number) : (toLit n).scale = n.fd := by
  unfold Lit.scale
  rcases toLit_eq n with ⟨h0, e⟩ | ⟨_, hl, e⟩ | ⟨_, hl, e⟩ <;> rw [e]
  · exact h0.symm
  · simp; omega
  · simp; omega

theorem digitsVal_zero_cons (ds : List Nat) : digitsVal (0 :: ds) = digitsVal ds := rfl

theorem digitsVal_zeros_pre (k : Nat) (ds : List Nat) : digitsVal (List.replicate k 0 ++ ds) = digitsVal ds := by
  induction k with
  | zero => simp
  | succ k ih => rw [List.replicate_succ, List.cons_append, digitsVal_zero_cons, ih]

theorem toLit_mant (n : Number) : (toLit n).mant = n.value := by
  unfold Lit.mant
  rcases toLit_eq n with ⟨_, e⟩ | ⟨_, _, e⟩ | ⟨_, _, e⟩ <;> rw [e]
  · simp [natDs_val]
  · simp only [Option.getD_some, List.singleton_append, digitsVal_zero_cons, digitsVal_zeros_pre, natDs_val]
  · simp only [Option.getD_some, List.take_append_drop, natDs_val]

/-- the integer part of the printed literal is never empty, the fraction part never empty when present -/
theorem toLit_proper (n : Number) : (toLit n).proper := by
  have hne := natDs_ne n.value
  unfold Lit.proper
  rcases toLit_eq n with ⟨_, e⟩ | ⟨_, _, e⟩ | ⟨h0, hl, e⟩ <;> rw [e]
  · exact ⟨hne, by simp⟩
  · exact ⟨by simp, by simp; exact fun _ => hne⟩
  · refine ⟨fun e => ?_, fun e => ?_⟩
    · have := congrArg List.length e
      simp at this; omega
    · have := congrArg List.length (Option.some.inj e)
      simp at this; omega

theorem toLit_int (n : Number) (h : n.fd = 0) :
    (toLit n).fp = none ∧ (toLit n).ip ≠ [] ∧ (toLit n).noLeadingZero := by
  unfold toLit Lit.noLeadingZero
  simp only [h, if_true]
  exact ⟨trivial, natDs_ne _, natDs_noLeadingZero _⟩

/-! ### Int, FromInt -/

theorem toInt_eq (n : Number) :
    toInt n = if n.fd ≠ 0 then .error .decimalInt
      else if Spec.Number.inInt64 (num n) then .ok (num n) else .error .overflow := by
  have hH : H = 9223372036854775808 := rfl
  have hH' : (H : Int) = 9223372036854775808 := by rw [hH]; rfl
  unfold toInt num Spec.Number.inInt64
  by_cases hfd : n.fd ≠ 0
  · simp [hfd]
  · simp only [hfd, if_false]
    cases hneg : n.neg
    · simp only [Bool.false_eq_true, if_false]
      by_cases hv : n.value ≤ H - 1
      · rw [if_pos hv, toI64_of_lt _ (by omega), if_pos (by omega)]
      · rw [if_neg hv, if_neg (by omega)]
    · simp only [if_true]
      by_cases hv : n.value > H
      · rw [if_pos hv, if_neg (by omega)]
      · rw [if_neg hv]
        by_cases e : n.value = H
        · rw [e, toI64_H, negI64_neg _ (Nat.le_refl _), if_pos rfl, if_pos (by omega)]
        · rw [toI64_of_lt _ (by omega), negI64_pos _ (by omega), if_pos (by omega)]

theorem parseInt_toInt_render (l : Lit) (hd : l.digitsOK) (hip : l.ip ≠ []) (hfp : l.fp = none) (hz : l.noLeadingZero) :
    (l.mant < 2 ^ 64 ∧ ∃ n, parseInt l.render = .ok n ∧
      toInt n = if Spec.Number.inInt64 l.num then .ok l.num else .error .overflow) ∨
    (¬ l.mant < 2 ^ 64 ∧ parseInt l.render = .error .range ∧ ¬ Spec.Number.inInt64 l.num) := by
  rw [parseInt_render l hd hip hfp hz]
  unfold parseIntSpec
  by_cases hw : l.mant < 2 ^ 64
  · rw [if_pos hw]
    exact Or.inl ⟨hw, _, rfl, by rw [toInt_eq]; rfl⟩
  · rw [if_neg hw]
    refine Or.inr ⟨hw, rfl, fun hin => hw ?_⟩
    have : l.num.natAbs = l.mant := by unfold Lit.num; split <;> simp
    unfold Spec.Number.inInt64 at hin
    omega

theorem fromInt_eq (i : Int) (h1 : -(H : Int) ≤ i) (h2 : i < H) :
    fromInt i = { value := i.natAbs, fd := 0, neg := decide (i < 0) } := by
  have := toU64_abs i h1 h2
  unfold fromInt
  by_cases hi : i < 0
  · simp only [hi, if_true] at this ⊢; rw [this]; simp
  · simp only [hi, if_false] at this ⊢; rw [this]; simp

/-! ### printing then parsing -/

theorem print_parse_int (n : Number) (h : WFInt n) : parseInt (toStr n) = .ok n := by
  obtain ⟨hfd, hv⟩ := h
  rw [toStr_eq_render n (by omega)]
  obtain ⟨hfp, hip, hz⟩ := toLit_int n hfd
  rw [parseInt_render _ (toLit_digitsOK n) hip hfp hz]
  unfold parseIntSpec
  rw [toLit_mant, toLit_neg]
  simp only [hv, if_true]
  cases n; simp_all

theorem print_parse_dec (n : Number) (h : WFDec n) :
    parseDecimal (toStr n) n.fd = .ok { n with neg := n.neg && n.value != 0 } := by
  obtain ⟨hf1, hf2, hv⟩ := h
  rw [toStr_eq_render n hf2]
  rw [parseDecimal_render _ n.fd (toLit_digitsOK n) (Or.inl (toLit_proper n).1) hf1 hf2]
  unfold parseDecimalSpec
  rw [toLit_scale, toLit_mant, toLit_neg]
  simp only [Nat.lt_irrefl, if_false, Nat.sub_self, Nat.pow_zero, Nat.mul_one, hv, if_true]

end Goyang.Lemmas.Number
