import Goyang.Lemmas.ConfigNs
import Goyang.Lemmas.Traverse
import Goyang.Lemmas.ListAux
/-
C12, conversion part: every tree `toEntry` (Go: `ToEntry`) returns or keeps in its caches is free
of namespace stamps.  Induction on the fuel over `Tree.toEntryBody`, the body of `toEntry` with the
recursive calls abstracted; the case analyses are `Tree.stepFn_cases` (one field step) and
`Tree.toEntryBody_cases` (one level).  The state may be any state with stamp-free content: nothing
is assumed of the keys of the caches, which is why this is not an instance of `Traverse.toEntry_inv`.
Props/C12Conv.lean states the consequences.
-/
open Goyang.Lemmas.ListAux (forall_mem_snoc)
namespace Goyang.Lemmas.ConfigNsToEntry
open Goyang.Model Goyang.Spec.ConfigNs Goyang.Lemmas.ConfigNs Goyang.Lemmas.Tree

theorem noStamp_errorEntry (root : Mod) (n : Stmt) (cls : String) : noStamp (errorEntry root n cls) = true := by
  simp [errorEntry, noStamp_mk, noStampL]

theorem noStamp_leafEntry (env : Env) (root : Mod) (scope : List Stmt) (n : Stmt) (b : Bool) :
    noStamp (leafEntry env root scope n b) = true := by
  unfold leafEntry
  simp only [noStamp_mk, noStampL]
  rfl

/-- Everything `toEntry` keeps in its state is stamp-free. -/
def StOK (st : TState) : Prop :=
  (∀ x ∈ st.cache, noStamp x.2 = true) ∧ (∀ x ∈ st.gcache, noStamp x.2 = true) ∧ (∀ x ∈ st.augs, noStampL x.2 = true)

def Inv (acc : Entry × TState) : Prop := noStamp acc.1 = true ∧ StOK acc.2

theorem noStamp_withD' (e : Entry) (f : EData → EData) (he : noStamp e = true) (h : ∀ d, (f d).ns = d.ns) :
    noStamp (e.withD f) = true := (noStamp_withD e f h).trans he

theorem stOK_merged (st : TState) (m : List String) (h : StOK st) : StOK { st with merged := m } := h

theorem inv_of {e : Entry} {st : TState} (h1 : noStamp e = true) (h2 : StOK st) : Inv (e, st) := ⟨h1, h2⟩

theorem inv_ite {c : Prop} [Decidable c] {a b : Entry × TState} (ha : c → Inv a) (hb : ¬ c → Inv b) :
    Inv (if c then a else b) := by
  split
  · exact ha ‹_›
  · exact hb ‹_›

theorem Inv.entry {e e' : Entry} {st : TState} (h : Inv (e, st)) (he : noStamp e' = noStamp e) : Inv (e', st) :=
  ⟨he.trans h.1, h.2⟩

/-- What the induction on the fuel gives for the recursive calls. -/
def RecInv (rec : Rec) : Prop := ∀ root scope n visiting st, StOK st → Inv (rec root scope n visiting st)

theorem noStamp_e0 (root : Mod) (n : Stmt) : noStamp (e0 root n) = true := by
  have hb : (baseData root n).1.ns = none := by
    unfold baseData
    split
    · rfl
    · split <;> rfl
  simp only [e0, noStamp_mk, hb, noStampL]; rfl

theorem noStamp_setInput (e ie : Entry) (he : noStamp e = true) (hi : noStamp ie = true) :
    noStamp (setInput e ie) = true := by
  obtain ⟨d, c, inp, o⟩ := e
  simp only [setInput, noStamp_mk, Bool.and_eq_true] at he ⊢
  simp [noStampL, hi, he]

theorem noStamp_setOutput (e oe : Entry) (he : noStamp e = true) (ho : noStamp oe = true) :
    noStamp (setOutput e oe) = true := by
  obtain ⟨d, c, inp, o⟩ := e
  simp only [setOutput, noStamp_mk, Bool.and_eq_true] at he ⊢
  simp [noStampL, ho, he]

section Body
variable {rec : Rec} (hrec : RecInv rec) (env : Env) (root : Mod) (n : Stmt) (sub : List Stmt) (vis : List NodeId)
include hrec

theorem kidsFold_inv' (kw : String) (g : Entry → Stmt → Entry → Entry)
    (hg : ∀ e c ce, noStamp e = true → noStamp ce = true → noStamp (g e c ce) = true)
    (acc : Entry × TState) (hacc : Inv acc) : Inv (kidsFold rec root n sub vis kw g acc) :=
  kidsFold_inv rec root n sub vis Inv acc hacc fun _ st c _ h =>
    ⟨hg _ _ _ h.1 (hrec root sub c vis st h.2).1, (hrec root sub c vis st h.2).2⟩

theorem augsFn_inv (st : TState) (h : StOK st) :
    noStampL (augsFn rec root n sub vis st).1 = true ∧ StOK (augsFn rec root n sub vis st).2 := by
  refine ListAux.foldl_inv (fun x : List Entry × TState => noStampL x.1 = true ∧ StOK x.2) _ _ _ ⟨rfl, h⟩
    fun acc a _ hacc => ?_
  have hi := hrec root sub a vis acc.2 hacc.2
  exact ⟨by rw [noStampL_append, hacc.1]; simp [noStampL, hi.1], hi.2⟩

theorem stepFn_inv (isMod : Bool) (acc : Entry × TState) (f : String) (h : Inv acc) :
    Inv (stepFn env rec root n sub vis isMod acc f) := by
  obtain ⟨e, st⟩ := acc
  have wd : ∀ g : EData → EData, (∀ d, (g d).ns = d.ns) → Inv (e.withD g, st) :=
    fun g hg => h.entry (noStamp_withD e g hg)
  have wdE : ∀ (g : EData → EData) (er : List Err), (∀ d, (g d).ns = d.ns) → Inv ((e.withD g).addErrs er, st) :=
    fun g er hg => h.entry ((noStamp_addErrs _ _).trans (noStamp_withD e g hg))
  refine stepFn_cases env rec root n sub vis isMod (P := fun _ r => Inv r) e st
    (other := fun _ => h)
    (config := wdE _ _ fun _ => rfl)
    (mandatory := wdE _ _ fun _ => rfl)
    (description := fun _ => wd _ fun _ => rfl)
    (key := fun _ => wd _ fun _ => rfl)
    (units := fun _ => wd _ fun _ => rfl)
    (kids := fun kw _ => kidsFold_inv' hrec root n sub vis kw _ (fun _ _ _ => noStamp_add _ _ _) _ h)
    (rpc := fun kw _ _ => kidsFold_inv' hrec root n sub vis kw _
      (fun _ _ _ he hc => by exact noStamp_add _ _ _ he (noStamp_withD' _ _ hc fun _ => rfl)) _ h)
    (imports := fun kw _ => kidsFold_inv' hrec root n sub vis kw _
      (fun _ _ _ he _ => (noStamp_importErrors _ _).trans he) _ h)
    (uses := kidsFold_inv' hrec root n sub vis "uses" _ (fun _ _ _ => noStamp_merge_none _ _) _ h)
    (deviate := kidsFold_inv' hrec root n sub vis "deviate" _ (fun _ _ _ he _ => ?deviate) _ h)
    (input := fun i _ => ?input)
    (output := fun o _ => ?output)
    (include_ := ?include_)
    (typeOk := fun _ => wd _ fun _ => rfl)
    (typeBad := h.entry (noStamp_addErr _ _))
    (default_ := fun _ _ => wd _ fun _ => rfl)
    (maxEl := fun _ => ⟨wd _ fun _ => rfl, fun _ _ => ?maxEl⟩)
    (minEl := fun _ => ⟨wd _ fun _ => rfl, fun _ _ => ?minEl⟩)
    (augment := fun _ => ?augment)
    f
  case deviate =>
    split
    · exact (noStamp_importErrors _ _).trans he
    · exact (noStamp_addErr _ _).trans ((noStamp_importErrors _ _).trans he)
  case input =>
    have hi := hrec root sub i vis st h.2
    exact ⟨noStamp_setInput _ _ h.1 (noStamp_withD' _ _ hi.1 fun _ => rfl), hi.2⟩
  case output =>
    have ho := hrec root sub o vis st h.2
    exact ⟨noStamp_setOutput _ _ h.1 (noStamp_withD' _ _ ho.1 fun _ => rfl), ho.2⟩
  case include_ =>
    refine includeFn_inv env rec root n vis Inv _ h (fun _ _ _ h' => h'.entry (noStamp_addErr _ _)) ?_
    intro _ st' _ im m _ h'
    have him := hrec im [] im.stmt vis _ (stOK_merged st' m h'.2)
    exact ⟨noStamp_merge_none _ _ h'.1 him.1, him.2⟩
  case maxEl =>
    refine h.entry ?_
    rw [noStamp_addErrs, noStamp_withD, laInit, noStamp_withD]
    · exact fun _ => rfl
    · exact fun _ => rfl
  case minEl =>
    refine h.entry ?_
    rw [noStamp_addErrs, noStamp_withD, laInit, noStamp_withD]
    · exact fun _ => rfl
    · exact fun _ => rfl
  case augment =>
    obtain ⟨hcache, hgcache, haugs⟩ := h.2
    obtain ⟨has, hc', hg', ha'⟩ := augsFn_inv hrec root n sub vis st ⟨hcache, hgcache, haugs⟩
    exact ⟨h.1, hc', hg', forall_mem_snoc ha' has⟩

theorem toEntryBody_inv (fuel : Nat) : RecInv (toEntryBody env fuel rec) := by
  intro root scope n vis st hst
  obtain ⟨hcache, hgcache, haugs⟩ := hst
  have hst : StOK st := ⟨hcache, hgcache, haugs⟩
  refine toEntryBody_cases env fuel rec root scope n vis st (P := Inv)
    (modHit := fun p hp _ _ => ⟨hcache p hp, hst⟩)
    (grpHit := fun p hp _ => ⟨hgcache p hp, hst⟩)
    (cycle := fun _ => inv_of (noStamp_errorEntry _ _ _) hst)
    (leaf := fun _ => inv_of (noStamp_leafEntry _ _ _ _ _) hst)
    (leafList := fun _ => inv_of (noStamp_withD' _ _ (noStamp_leafEntry _ _ _ _ _) fun _ => rfl) hst)
    (noGroup := fun _ => inv_of (noStamp_errorEntry _ _ _) hst)
    (uses := fun _ _ _ _ _ => hrec _ _ _ _ _ hst)
    (dir := fun _ _ _ _ _ => ?_)
  unfold dirBody
  split
  rename_i e st' hfold
  have hr : Inv (e, st') := by
    rw [← hfold]
    exact ListAux.foldl_inv Inv _ _ _ ⟨noStamp_e0 root n, hst⟩ fun acc f _ => stepFn_inv hrec env root n _ _ _ acc f
  obtain ⟨he, hc', hg', ha'⟩ := hr
  -- a module entry goes to the module cache, a grouping entry to the grouping cache
  refine inv_ite (fun _ => ⟨he, forall_mem_snoc hc' he, hg', ha'⟩) fun _ =>
    inv_ite (fun _ => ⟨he, hc', forall_mem_snoc hg' he, ha'⟩) fun _ => ⟨he, hc', hg', ha'⟩
end Body

theorem toEntry_noStamp (env : Env) : ∀ (fuel : Nat) (root : Mod) (scope : List Stmt) (n : Stmt)
    (visiting : List NodeId) (st : TState), StOK st → Inv (toEntry env fuel root scope n visiting st) := by
  intro fuel
  induction fuel with
  | zero => exact fun root scope n visiting st hst => ⟨noStamp_errorEntry _ _ _, hst⟩
  | succ fuel ih =>
    intro root scope n visiting st
    rw [toEntry_succ]
    exact toEntryBody_inv ih env fuel root scope n visiting st

/-- The conversion phase of `Process`: `toEntry` of every module and submodule in turn, starting
from empty caches, leaves only stamp-free trees (and stamp-free pending augments) in the state. -/
theorem conversion_stOK (env : Env) (fuel : Nat) (ms : List Mod) :
    StOK (ms.foldl (fun st m => (toEntry env fuel m [] m.stmt [] st).2) {}) := by
  refine ListAux.foldl_inv StOK _ _ _ ?_ fun st m _ h => (toEntry_noStamp env fuel m [] m.stmt [] st h).2
  refine ⟨?_, ?_, ?_⟩ <;> (intro x hx; exact absurd hx (List.not_mem_nil))

/-- … so no tree of the forest the augment phase starts from has a stamp below its root: the premise
of the `init` constructors. -/
theorem conversion_free (env : Env) (fuel : Nat) (ms : List Mod) (id : Nat) (t : Entry)
    (ht : Forest.tree? { trees := (ms.foldl (fun st m => (toEntry env fuel m [] m.stmt [] st).2) {}).cache } id = some t) :
    noStampBelow t = true := by
  unfold Forest.tree? at ht
  cases hf : List.find? (fun x => x.1 == id) (ms.foldl (fun st m => (toEntry env fuel m [] m.stmt [] st).2) {}).cache with
  | none => rw [hf] at ht; cases ht
  | some x =>
    rw [hf] at ht
    simp only [Option.map_some, Option.some.injEq] at ht
    have := (conversion_stOK env fuel ms).1 x (List.mem_of_find?_eq_some hf)
    rw [ht] at this
    exact ((noStamp_iff t).mp this).2

end Goyang.Lemmas.ConfigNsToEntry
