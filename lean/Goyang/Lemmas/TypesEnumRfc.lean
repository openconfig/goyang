import Goyang.Props.C14
import Goyang.Lemmas.Types
import Goyang.Lemmas.TypesFuel
import Goyang.Lemmas.TypesComplete
/-
C09 ∘ C14: the enum / bit tables a resolved type carries are the RFC 7950 tables.

* `enumFold_errs_nil`: the error list of `enumFold` (the resolve loop's errors, positioned at the
  members) is empty only if the error list of the underlying `Enum.foldText` is (every index the
  fold records is the index of a member).
* `enumFold_rfc`: an error-free `enumFold` over written members is the RFC assignment
  (`Spec.Enum.assign` / `table`), through `Goyang.Props.C14.text_fold`.
* `overlayType_folds_nil`: an error-free `Type.resolve` overlay has error-free enum / bit folds.
* `resolve_chain_folds`: an error-free resolution went along a derivation chain whose enum / bit
  folds (those the resolved type shows) are error-free.
-/
namespace Goyang.Lemmas.TypesEnumRfc
open Goyang.Model Goyang.Model.Types Goyang.Spec.Types Goyang.Lemmas.Types

/-! ## The indices the fold records -/

theorem foldFrom_idx (ms : List Enum.Member) : ∀ (e : Enum.EnumType) (idx : Nat),
    ∀ ie ∈ (Enum.foldFrom e idx ms).2, idx ≤ ie.1 ∧ ie.1 < idx + ms.length := by
  induction ms with
  | nil => intro e idx ie h; simp [Enum.foldFrom] at h
  | cons m rest ih =>
    intro e idx ie h
    simp only [Enum.foldFrom] at h
    cases hs : e.step m with
    | ok e' =>
      rw [hs] at h
      have := ih e' (idx + 1) ie h
      simp only [List.length_cons]
      omega
    | error err =>
      rw [hs] at h
      simp only [List.mem_cons] at h
      rcases h with h | h
      · subst h
        simp only [List.length_cons]
        omega
      · have := ih e (idx + 1) ie h
        simp only [List.length_cons]
        omega

theorem foldText_idx (e : Enum.EnumType) (ms : List (Enum.Name × Option (List UInt8))) :
    ∀ ie ∈ (Enum.foldText e ms).2, ie.1 < ms.length := by
  intro ie h
  unfold Enum.foldText Enum.fold at h
  have := (foldFrom_idx _ e 0 ie h).2
  simpa using this

/-- (1) No error of the resolve loop means no error of the fold. -/
theorem enumFold_errs_nil {start : EnumTab} {kw : String} {es : List Stmt}
    (h : (enumFold start kw es).2 = []) :
    (Enum.foldText start (es.map fun e => (bytesOf e.arg, (e.argOf? kw).map bytesOf))).2 = [] := by
  unfold enumFold at h
  simp only at h
  cases hq : (Enum.foldText start (es.map fun e => (bytesOf e.arg, (e.argOf? kw).map bytesOf))).2 with
  | nil => rfl
  | cons ie rest =>
    exfalso
    have hmem : ie ∈ (Enum.foldText start (es.map fun e => (bytesOf e.arg, (e.argOf? kw).map bytesOf))).2 := by
      rw [hq]; exact List.mem_cons_self
    have hlt : ie.1 < es.length := by
      have := foldText_idx _ _ ie hmem
      simpa using this
    rw [hq, List.filterMap_cons, List.getElem?_eq_getElem hlt] at h
    simp at h

/-! ## The RFC reading -/

open Goyang.Spec.Enum Goyang.Spec.Number Goyang.Lemmas.Enum in
/-- (2) An error-free resolve loop over written members (`value` / `position` arguments of the
literal form) builds exactly the RFC 7950 table, and the RFC accepts the type. -/
theorem enumFold_rfc (k : Kind) (kw : String) (es : List Stmt)
    (ms : List (Goyang.Spec.Enum.Name × Option Lit))
    (hform : ∀ p ∈ ms, ∀ l, p.2 = some l → LitForm l)
    (hwritten : es.map (fun e => (bytesOf e.arg, (e.argOf? kw).map bytesOf))
      = ms.map fun p => (p.1, p.2.map Lit.render))
    (herr : (enumFold (new k) kw es).2 = []) :
    assign k (ms.map fun p => (p.1, p.2.map Lit.num))
      = some (table (ms.map fun p => (p.1, p.2.map Lit.num))) ∧
    (enumFold (new k) kw es).1.toInt = (table (ms.map fun p => (p.1, p.2.map Lit.num))).reverse := by
  have h1 := enumFold_errs_nil herr
  have h2 : (enumFold (new k) kw es).1
      = (Enum.foldText (new k) (es.map fun e => (bytesOf e.arg, (e.argOf? kw).map bytesOf))).1 := rfl
  rw [h2]
  rw [hwritten] at h1 ⊢
  obtain ⟨t1, t2⟩ := Goyang.Props.C14.text_fold k ms hform
  refine ⟨?_, t2 h1⟩
  have hne : assign k (ms.map fun p => (p.1, p.2.map Lit.num)) ≠ none := fun hn => (t1.mpr hn) h1
  unfold assign at hne ⊢
  split
  · rfl
  · rename_i hv; rw [if_neg hv] at hne; exact absurd rfl hne

/-! ## Error-free overlays have error-free folds -/

theorem stepEnum_fold_nil {t : Stmt} {s : St} (h : (stepEnum t s).2 = [])
    (hne : (t.all "enum").isEmpty = false) : (enumFold newEnum "value" (t.all "enum")).2 = [] := by
  unfold stepEnum at h
  cases hq : t.all "enum" with
  | nil => rw [hq] at hne; simp at hne
  | cons a l =>
    rw [hq] at h
    simp only at h
    exact (List.append_eq_nil_iff.mp h).2

theorem stepBit_fold_nil {t : Stmt} {s : St} (h : (stepBit t s).2 = [])
    (hne : (t.all "bit").isEmpty = false) : (enumFold newBits "position" (t.all "bit")).2 = [] := by
  unfold stepBit at h
  cases hq : t.all "bit" with
  | nil => rw [hq] at hne; simp at hne
  | cons a l =>
    rw [hq] at h
    simp only at h
    exact (List.append_eq_nil_iff.mp h).2

theorem overlayLocal_folds_nil {env : Env} {root : Mod} {t : Stmt} {src : Source} {tdY : YType} {s : St}
    (h : (overlayLocal env root t src tdY s).2 = []) :
    ((t.all "enum").isEmpty = false → (enumFold newEnum "value" (t.all "enum")).2 = []) ∧
    ((t.all "bit").isEmpty = false → (enumFold newBits "position" (t.all "bit")).2 = []) := by
  unfold overlayLocal at h
  simp only [] at h
  rw [stepPattern_errs] at h
  exact ⟨stepEnum_fold_nil (stepBit_errs_nil h), stepBit_fold_nil h⟩

/-- An error-free `Type.resolve` overlay: the enum loop and the bit loop reported nothing. -/
theorem overlayType_folds_nil {env : Env} {root : Mod} {t : Stmt} {src : Source} {tdY : YType}
    {ms : List Res} (h : (overlayType env root t src tdY ms).errs = []) :
    ((t.all "enum").isEmpty = false → (enumFold newEnum "value" (t.all "enum")).2 = []) ∧
    ((t.all "bit").isEmpty = false → (enumFold newBits "position" (t.all "bit")).2 = []) := by
  unfold overlayType at h
  simp only at h
  split at h
  · simp at h
  · split at h
    · simp at h
    · exact overlayLocal_folds_nil (stepPosix_errs_nil (stepMembers_errs_nil h))

/-! ## Along the derivation chain -/

theorem chainEnums_ty_cons (root : Mod) (scope : List Stmt) (t : Stmt) (chain : List Link) :
    chainEnums (.ty root scope t :: chain)
      = if (t.all "enum").isEmpty then chainEnums chain else some (t.all "enum") := by
  simp only [chainEnums, List.findSome?_cons]
  cases hq : (t.all "enum").isEmpty <;> simp

theorem chainEnums_td_cons (d : Stmt) (chain : List Link) : chainEnums (.td d :: chain) = chainEnums chain := by
  simp only [chainEnums, List.findSome?_cons]

theorem chainBits_ty_cons (root : Mod) (scope : List Stmt) (t : Stmt) (chain : List Link) :
    chainBits (.ty root scope t :: chain)
      = if (t.all "bit").isEmpty then chainBits chain else some (t.all "bit") := by
  simp only [chainBits, List.findSome?_cons]
  cases hq : (t.all "bit").isEmpty <;> simp

theorem chainBits_td_cons (d : Stmt) (chain : List Link) : chainBits (.td d :: chain) = chainBits chain := by
  simp only [chainBits, List.findSome?_cons]

/-- One level of the chain: what the overlay adds to the enum / bit part of the claim. -/
theorem level_folds {env : Env} {root : Mod} {scope : List Stmt} {t : Stmt} {src : Source} {tdY y : YType}
    {ms : List Res} {rest : List Link}
    (h : overlayType env root t src tdY ms = { ty := some y, errs := [] })
    (hen : tdY.enum = (chainEnums rest).map (fun es => (enumFold newEnum "value" es).1))
    (hbi : tdY.bit = (chainBits rest).map (fun bs => (enumFold newBits "position" bs).1))
    (hE : ∀ es, chainEnums rest = some es → (enumFold newEnum "value" es).2 = [])
    (hB : ∀ bs, chainBits rest = some bs → (enumFold newBits "position" bs).2 = []) :
    y.enum = (chainEnums (.ty root scope t :: rest)).map (fun es => (enumFold newEnum "value" es).1) ∧
    y.bit = (chainBits (.ty root scope t :: rest)).map (fun bs => (enumFold newBits "position" bs).1) ∧
    (∀ es, chainEnums (.ty root scope t :: rest) = some es → (enumFold newEnum "value" es).2 = []) ∧
    (∀ bs, chainBits (.ty root scope t :: rest) = some bs → (enumFold newBits "position" bs).2 = []) := by
  obtain ⟨_, _, _, _, _, _, a7, a8, _, _⟩ := overlay_attrs h
  have herrs : (overlayType env root t src tdY ms).errs = [] := by rw [h]
  obtain ⟨f1, f2⟩ := overlayType_folds_nil herrs
  rw [chainEnums_ty_cons, chainBits_ty_cons]
  refine ⟨?_, ?_, ?_, ?_⟩
  · rw [a7, hen]; split <;> simp
  · rw [a8, hbi]; split <;> simp
  · intro es hes
    split at hes
    · exact hE es hes
    · rename_i hne
      simp only [Option.some.injEq] at hes
      subst hes
      exact f1 (by simpa using hne)
  · intro bs hbs
    split at hbs
    · exact hB bs hbs
    · rename_i hne
      simp only [Option.some.injEq] at hbs
      subst hbs
      exact f2 (by simpa using hne)

/-- (3) An error-free resolution went along a derivation chain; the enum / bit tables of the
resolved type are those of the nearest type statement of the chain that lists members, and the
resolve loop reported no error for them (so `enumFold_rfc` applies to them). -/
theorem resolve_chain_folds (env : Env) :
    ∀ (fuel : Nat) (root : Mod) (scope : List Stmt) (t : Stmt) (stack : List TypeKey) (y : YType),
      scopeKinds.contains t.kw = false →
      resolveTypeF env fuel root scope t stack = { ty := some y, errs := [] } →
      ∃ kind chain, DerivesFrom env.reg root scope t kind chain ∧
        y.enum = (chainEnums chain).map (fun es => (enumFold newEnum "value" es).1) ∧
        y.bit = (chainBits chain).map (fun bs => (enumFold newBits "position" bs).1) ∧
        (∀ es, chainEnums chain = some es → (enumFold newEnum "value" es).2 = []) ∧
        (∀ bs, chainBits chain = some bs → (enumFold newBits "position" bs).2 = []) := by
  refine Goyang.Lemmas.TypesComplete.resolve_chain_ind env (Q := fun _ chain y =>
    y.enum = (chainEnums chain).map (fun es => (enumFold newEnum "value" es).1) ∧
    y.bit = (chainBits chain).map (fun bs => (enumFold newBits "position" bs).1) ∧
    (∀ es, chainEnums chain = some es → (enumFold newEnum "value" es).2 = []) ∧
    (∀ bs, chainBits chain = some bs → (enumFold newBits "position" bs).2 = [])) ?_ ?_
  · intro _ _ _ _ _ y0 _ hb0 h
    obtain ⟨_, _, _, _, _, _, _, _, hen, hbi, _, _⟩ := builtin_shape hb0
    exact level_folds (rest := []) h (by rw [hen]; rfl) (by rw [hbi]; rfl)
      (fun es hes => by simp [chainEnums] at hes) (fun bs hbs => by simp [chainBits] at hbs)
  · intro _ _ _ _ _ _ r _ _ _ _ _ chain ⟨hen, hbi, hE, hB⟩ htd h
    obtain ⟨_, _, _, _, _, _, _, b8, b9, _, _⟩ := typedefOverlay_ok htd
    exact level_folds (rest := .td r.td :: chain) h
      (by rw [b8, hen, chainEnums_td_cons]) (by rw [b9, hbi, chainBits_td_cons])
      (by rw [chainEnums_td_cons]; exact hE) (by rw [chainBits_td_cons]; exact hB)

end Goyang.Lemmas.TypesEnumRfc
