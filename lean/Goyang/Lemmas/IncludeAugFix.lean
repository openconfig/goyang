import Goyang.Lemmas.IncludeAugDump
import Goyang.Lemmas.AugmentReport
/-
C13 (third sentence), piece (F) — needed between the augment loop and the dump: `FixChoice` respects
the path view.  Two error-free trees with the same data at every step path (`PEq`: the children of a
node possibly in another order) still have the same data at every step path after `fixChoice` (which
wraps the shorthand members of every choice into implied cases).  Error-freeness is needed: `FixChoice`
leaves a choice with a recorded error alone, and `PEq` does not see recorded errors.
-/
namespace Goyang.Lemmas.IncludeAugFix
open Goyang.Model Goyang.Spec.Tree Goyang.Lemmas.Tree Goyang.Spec.Augment Goyang.Lemmas.IncludeAugDump
open Goyang.Lemmas.AugmentReport (wrap1 wrap1_name fixChoice_inp fixChoice_out fixChoice_dir)

/-- What `FixChoice` does to a child of `e`. -/
def gOf (e : Entry) : Entry → Entry :=
  if e.d.kind == .choice && e.d.errors.isEmpty then wrap1 ∘ fixChoice else fixChoice

theorem gOf_name (e x : Entry) : (gOf e x).name = x.name := by
  unfold gOf
  split
  · simp only [Function.comp, wrap1_name, fixChoice_name]
  · exact fixChoice_name x

/-- What `FixChoice` does to the node one step below `e`. -/
def fixAt (e : Entry) : Step → Entry → Entry
  | .child _ => gOf e
  | _ => fixChoice

theorem next_fix (e : Entry) (s : Step) : next (fixChoice e) s = (next e s).map (fixAt e s) := by
  cases s with
  | child k =>
    show (fixChoice e).dir.find? (·.name == k) = (e.dir.find? (·.name == k)).map (gOf e)
    rw [← AugmentTree.find?_map_name (gOf_name e)]
    congr 1
    rw [fixChoice_dir]
    unfold gOf
    split
    · rw [List.map_map]
    · rfl
  | input =>
    show (fixChoice e).inp.head? = e.inp.head?.map fixChoice
    rw [fixChoice_inp, List.head?_map]
  | output =>
    show (fixChoice e).out.head? = e.out.head?.map fixChoice
    rw [fixChoice_out, List.head?_map]

theorem noErrors_root {e : Entry} (h : NoErrors e) : e.d.errors = [] := by
  cases e with | mk d c i o => exact ((noErrors_mk d c i o).1 h).1

theorem noErrors_next {e c : Entry} {s : Step} (h : NoErrors e) (hc : next e s = some c) : NoErrors c := by
  cases e with | mk d ch i o =>
  have q := (noErrors_mk d ch i o).1 h
  cases s with
  | child k => exact q.2.1 c (List.mem_of_find?_eq_some hc)
  | input => exact q.2.2.1 c (List.mem_of_mem_head? hc)
  | output => exact q.2.2.2 c (List.mem_of_mem_head? hc)

theorem gOf_congr {t' t : Entry} (h : PEq t' t) (h' : NoErrors t') (h0 : NoErrors t) : gOf t' = gOf t := by
  unfold gOf
  rw [h.field EData.kind fun _ => rfl, noErrors_root h', noErrors_root h0]

/-- **`FixChoice` respects the path view** (error-free trees). -/
theorem fix_dataP : ∀ (n : Nat) (p : Path), p.length ≤ n → ∀ t' t : Entry, PEq t' t → NoErrors t' → NoErrors t →
    dataP (fixChoice t') p = dataP (fixChoice t) p
  | _, [], _, t', t, h, _, _ => by
    rw [dataP_nil, dataP_nil, fixChoice_d, fixChoice_d, h.data]
  | 0, _ :: _, hl, _, _, _, _, _ => by simp at hl
  | n + 1, s :: q, hl, t', t, h, h', h0 => by
    have hq : q.length ≤ n := by simpa using hl
    have ih := fix_dataP n
    rw [dataP_cons, dataP_cons, next_fix, next_fix]
    rcases h.next s with ⟨k1, k2⟩ | ⟨c', c, k1, k2, hc⟩
    · rw [k1, k2, Option.map_none, Option.map_none]
    · rw [k1, k2]
      simp only [Option.map_some, Option.bind_some]
      have hc' := noErrors_next h' k1
      have hc0 := noErrors_next h0 k2
      have plain := ih q hq c' c hc hc' hc0
      cases s with
      | input => exact plain
      | output => exact plain
      | child k =>
        show dataP (gOf t' c') q = dataP (gOf t c) q
        rw [gOf_congr h h' h0]
        unfold gOf
        split
        · -- a choice: the member is wrapped unless it is a case
          simp only [Function.comp]
          unfold wrap1
          have hk : (fixChoice c').d.kind = (fixChoice c).d.kind := by
            rw [fixChoice_d, fixChoice_d]; exact hc.field EData.kind fun _ => rfl
          rw [hk]
          split
          · exact plain
          · cases q with
            | nil =>
              rw [dataP_nil, dataP_nil]
              rw [AugmentTree.mk_d, AugmentTree.mk_d]
              simp only [fixChoice_d]
              rw [hc.field EData.name fun _ => rfl, hc.field EData.config fun _ => rfl, hc.field EData.node fun _ => rfl,
                hc.field EData.nodeMod fun _ => rfl]
            | cons s2 q2 =>
              rw [dataP_cons, dataP_cons]
              have hq2 : q2.length ≤ n := by simp at hq; omega
              cases s2 with
              | input => rfl
              | output => rfl
              | child k2 =>
                show (List.find? (·.name == k2) [fixChoice c']).bind _ = (List.find? (·.name == k2) [fixChoice c]).bind _
                simp only [List.find?_cons, List.find?_nil, fixChoice_name, hc.name]
                cases (c.name == k2)
                · rfl
                · simp only [Option.bind_some]
                  exact ih q2 hq2 c' c hc hc' hc0
        · exact plain

theorem fixChoice_peq {t' t : Entry} (h : PEq t' t) (h' : NoErrors t') (h0 : NoErrors t) : PEq (fixChoice t') (fixChoice t) :=
  fun p => fix_dataP p.length p (Nat.le_refl _) t' t h h' h0

/-! ### `KeysUnique` after `FixChoice` -/

theorem keysUnique_iff_mk (d : EData) (c i o : List Entry) : KeysUnique (.mk d c i o) ↔
    ((c.map (·.name)).Nodup ∧ i.length ≤ 1 ∧ o.length ≤ 1) ∧ (∀ x ∈ c, KeysUnique x) ∧ (∀ x ∈ i, KeysUnique x) ∧
      (∀ x ∈ o, KeysUnique x) := by
  unfold KeysUnique
  rw [everyNode_mk, keysUniqueHere_iff]

theorem keysUnique_wrapCase (x : Entry) (h : KeysUnique x) : KeysUnique (wrapCase x) := by
  unfold wrapCase
  split
  · exact h
  · rw [keysUnique_iff_mk]
    refine ⟨⟨by simp, by simp, by simp⟩, ?_, by simp, by simp⟩
    intro y hy
    simp only [List.mem_singleton] at hy
    subst hy
    exact h

theorem keysUnique_fixChoice (e : Entry) (h : KeysUnique e) : KeysUnique (fixChoice e) := by
  induction e using entry_ind with
  | h d c i o hc hi ho =>
    rw [fixChoice_eq, keysUnique_iff_mk]
    rw [keysUnique_iff_mk] at h
    obtain ⟨⟨h1, h2, h3⟩, h4, h5, h6⟩ := h
    refine ⟨⟨by rw [names_fix]; exact h1, by simpa using h2, by simpa using h3⟩, ?_, ?_, ?_⟩
    · intro y hy
      split at hy
      · simp only [List.map_map, List.mem_map, Function.comp] at hy
        obtain ⟨x, hx, rfl⟩ := hy
        exact keysUnique_wrapCase _ (hc x hx (h4 x hx))
      · simp only [List.mem_map] at hy
        obtain ⟨x, hx, rfl⟩ := hy
        exact hc x hx (h4 x hx)
    · intro y hy
      simp only [List.mem_map] at hy
      obtain ⟨x, hx, rfl⟩ := hy
      exact hi x hx (h5 x hx)
    · intro y hy
      simp only [List.mem_map] at hy
      obtain ⟨x, hx, rfl⟩ := hy
      exact ho x hx (h6 x hx)

/-- (E) + (F): error-free trees with the same path view and `KeysUnique` have the same dump after
`FixChoice` has run over both forests. -/
theorem dumpTree_fix_peq (reg : Registry) {f f' : Forest} {id : Nat} {t t' : Entry} (ht : f.tree? id = some t)
    (ht' : f'.tree? id = some t') (h : PEq t' t) (hk' : KeysUnique t') (hk : KeysUnique t) (hn' : NoErrors t')
    (hn : NoErrors t) (nm : String) :
    dumpTree reg (AugmentReport.fixAll f') nm (fixChoice t') id (entryDepth (fixChoice t') + 1) [] (fixChoice t') =
      dumpTree reg (AugmentReport.fixAll f) nm (fixChoice t) id (entryDepth (fixChoice t) + 1) [] (fixChoice t) :=
  dumpTree_root_peq reg (by rw [AugmentReport.tree?_fixAll, ht]; rfl) (by rw [AugmentReport.tree?_fixAll, ht']; rfl)
    (fixChoice_peq h hn' hn) (keysUnique_fixChoice _ hk') (keysUnique_fixChoice _ hk) nm

end Goyang.Lemmas.IncludeAugFix
