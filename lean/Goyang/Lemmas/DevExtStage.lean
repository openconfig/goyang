import Goyang.Lemmas.DevExtBase
/-
C08, frame across module sets — part 2: the deviation stage on a forest with extra trees.  The
deviations of a module of `B`, applied in `X` to a forest that holds the trees of new modules besides
those of `B`, do to the trees of `B` exactly what they do in `B`, and leave the extra trees alone.
Core Lean only.
-/
namespace Goyang.Lemmas.DevExt
open Goyang.Model
open Goyang.Lemmas.Deviate (innerStep outerStep applyDeviations_eq stageStep devsOf)

section
variable {B X : Registry} {ds : List Mod} {dk : KeyMap} (h : DevExtCore B X ds dk)
include h

omit h in
/-- The tree `find` ends in, on behalf of a module of `B`, is a tree of `B`. -/
theorem find_tree_old (f : Forest) (start : Loc) (ctxMod : Nat) (name : String)
    (hs : ∃ m ∈ B.mods, m.seq = start.1) (t : Nat) (p : Path)
    (hr : (find B f start ctxMod name).1 = some (t, p)) : ∃ m ∈ B.mods, m.seq = t := by
  rw [find_eq] at hr
  split at hr
  · cases hr
  · generalize name.splitOn "/" = l at hr
    unfold findParts at hr
    split at hr
    · next parts =>
      unfold findAbs at hr
      split at hr
      · cases hr
      · next t' htree =>
        split at hr
        · cases hr
        · simp only at hr
          cases hw : (walkParts parts _ (some [])).1 with
          | none => rw [hw] at hr; cases hr
          | some q =>
            rw [hw] at hr
            simp only [Option.map_some, Option.some.injEq, Prod.mk.injEq] at hr
            exact hr.1 ▸ treeOf_old hs _ t' htree
    · unfold findRel at hr
      split at hr
      · cases hr
      · simp only at hr
        cases hw : (walkParts l _ (some start.2)).1 with
        | none => rw [hw] at hr; cases hr
        | some q =>
          rw [hw] at hr
          simp only [Option.map_some, Option.some.injEq, Prod.mk.injEq] at hr
          exact hr.1 ▸ hs

omit h in
theorem innerStep_ext {G : List (Nat × Entry)} (opts : Opts) (m : Mod) (t : Nat) (path : Path)
    (ht : ∀ g ∈ G, g.1 ≠ t) (f : Forest) (node : Entry) (det : Bool) (errs : List Err) (d : String × Entry) :
    innerStep opts m t path (ext G f, node, det, errs) d =
      (ext G (innerStep opts m t path (f, node, det, errs) d).1, (innerStep opts m t path (f, node, det, errs) d).2) := by
  unfold innerStep
  simp only
  rw [tree?_ext G f t ht]
  cases det with
  | true => rfl
  | false =>
    simp only [Bool.false_eq_true, if_false]
    cases f.tree? t with
    | none => rfl
    | some root => simp only; rw [setTree_ext G f t _ ht]

omit h in
theorem innerFold_ext {G : List (Nat × Entry)} (opts : Opts) (m : Mod) (t : Nat) (path : Path)
    (ht : ∀ g ∈ G, g.1 ≠ t) (l : List (String × Entry)) :
    ∀ (f : Forest) (node : Entry) (det : Bool) (errs : List Err),
    l.foldl (innerStep opts m t path) (ext G f, node, det, errs) =
      (ext G (l.foldl (innerStep opts m t path) (f, node, det, errs)).1,
        (l.foldl (innerStep opts m t path) (f, node, det, errs)).2) := by
  intro f node det errs
  exact foldl_lift (ext G) (fun _ => True) _ _ l
    (fun d _ x _ => ⟨innerStep_ext opts m t path ht x.1 x.2.1 x.2.2.1 x.2.2.2 d, trivial⟩) (f, node, det, errs) trivial

theorem outerStep_ext {G : List (Nat × Entry)} (hG : NewTrees ds G) (opts : Opts) (m : Mod) (hm : m ∈ B.mods)
    (f : Forest) (errs : List Err) (dv : Stmt × List (String × Entry)) :
    outerStep X opts m (ext G f, errs) dv =
      (ext G (outerStep B opts m (f, errs) dv).1, (outerStep B opts m (f, errs) dv).2) := by
  unfold outerStep
  simp only
  have hs : ∃ m' ∈ B.mods, m'.seq = ((m.seq, []) : Loc).1 := ⟨m, hm, rfl⟩
  rw [find_ext h hG f (m.seq, []) m.seq dv.1.arg hs (Old.of_mem h hm)]
  have hold := find_tree_old f (m.seq, []) m.seq dv.1.arg hs
  generalize find B f (m.seq, []) m.seq dv.1.arg = r at hold
  obtain ⟨target, f'⟩ := r
  cases target with
  | none => rfl
  | some loc =>
    obtain ⟨t, path⟩ := loc
    have ht : ∀ g ∈ G, g.1 ≠ t := hG.ne (old_of_mem h (hold t path rfl))
    simp only
    rw [tree?_ext G f' t ht]
    cases (f'.tree? t).bind (·.getAt path) with
    | none => rfl
    | some node0 =>
      simp only
      rw [innerFold_ext opts m t path ht]

theorem applyDeviations_ext {G : List (Nat × Entry)} (hG : NewTrees ds G) (opts : Opts) (m : Mod) (hm : m ∈ B.mods)
    (devs : List (Stmt × List (String × Entry))) (f : Forest) :
    applyDeviations X opts m devs (ext G f) =
      (ext G (applyDeviations B opts m devs f).1, (applyDeviations B opts m devs f).2) := by
  rw [applyDeviations_eq, applyDeviations_eq]
  exact foldl_lift (ext G) (fun _ => True) _ _ devs
    (fun dv _ x _ => ⟨outerStep_ext h hG opts m hm x.1 x.2 dv, trivial⟩) (f, []) trivial

/-- One module of `B` at its turn in the deviation stage, when its deviate entries are the same. -/
theorem stageStep_ext {G : List (Nat × Entry)} (hG : NewTrees ds G) (opts : Opts) (envX envB : Env) (fX fB : Nat)
    (m : Mod) (hm : m ∈ B.mods) (hdevs : devsOf envX fX m = devsOf envB fB m)
    (f : Forest) (errs : List Err) (done : List String) :
    stageStep X opts envX fX (ext G f, errs, done) m =
      (ext G (stageStep B opts envB fB (f, errs, done) m).1, (stageStep B opts envB fB (f, errs, done) m).2) := by
  unfold stageStep
  simp only
  split
  · rfl
  · rw [hdevs, applyDeviations_ext h hG opts m hm]

theorem stageFold_ext {G : List (Nat × Entry)} (hG : NewTrees ds G) (opts : Opts) (envX envB : Env) (fX fB : Nat)
    (ms : List Mod) (hms : ∀ m ∈ ms, m ∈ B.mods) (hdevs : ∀ m ∈ ms, devsOf envX fX m = devsOf envB fB m) :
    ∀ (f : Forest) (errs : List Err) (done : List String),
    ms.foldl (stageStep X opts envX fX) (ext G f, errs, done) =
      (ext G (ms.foldl (stageStep B opts envB fB) (f, errs, done)).1,
        (ms.foldl (stageStep B opts envB fB) (f, errs, done)).2) := by
  intro f errs done
  exact foldl_lift (ext G) (fun _ => True) _ _ ms (fun m hm x _ =>
    ⟨stageStep_ext h hG opts envX envB fX fB m (hms m hm) (hdevs m hm) x.1 x.2.1 x.2.2, trivial⟩) (f, errs, done) trivial

end

end Goyang.Lemmas.DevExt
