import Goyang.Lemmas.ConfigNsDev
/-
C12, tree-level commutation lemmas for closing the composition gap (`Built` instead of `Built'`):
creating an absent rpc input / output (`addImplicit` at a path) commutes with an earlier graft
(`updateAt path (merge …)`) and with an earlier `FixChoice`.

`updateAt` rewrites every child whose *name* matches the step (the model keeps `Dir` as a list), so the
purely structural lemmas (`updateAt_append`, `updateAt_same`, the two commutation lemmas) hold for all
trees; where the first match must be the only match (`updateAt_congr_unique`, the `FixChoice`
commutation) the hypotheses are `U` (children filed under pairwise different non-empty names) and
`PathOK` (no empty name on the path), which the augment stage maintains.
-/
set_option linter.unusedVariables false
set_option linter.unusedSimpArgs false
namespace Goyang.Lemmas.ConfigNsComm
open Goyang.Model Goyang.Spec.ConfigNs Goyang.Lemmas.ConfigNs
open Goyang.Spec.Find (addImplicit)
open Goyang.Lemmas.Tree (U PathOK U_mk)

/-! ### `updateAt`: composition -/

theorem updateAt_name_keep {g : Entry → Entry} (hg : ∀ x, (g x).name = x.name) (x : Entry) (q : Path) :
    (x.updateAt q g).name = x.name := by
  cases q with
  | nil => rw [updateAt_nil]; exact hg x
  | cons s q => cases x; cases s <;> rfl

theorem updateAt_d_cons (x : Entry) (s : Step) (q : Path) (g : Entry → Entry) : (x.updateAt (s :: q) g).d = x.d := by
  cases x; cases s <;> rfl

theorem updateAt_append (h : Entry → Entry) : ∀ (q r : Path) (x : Entry),
    x.updateAt (q ++ r) h = x.updateAt q (fun y => y.updateAt r h) := by
  intro q
  induction q with
  | nil => intro r x; rw [List.nil_append, updateAt_nil]
  | cons s q ih =>
    intro r x
    cases x with
    | mk d c i o =>
      cases s with
      | child k =>
        simp only [List.cons_append, Entry.updateAt]
        congr 1
        apply List.map_congr_left
        intro y _
        split
        · exact ih r y
        · rfl
      | input =>
        simp only [List.cons_append, Entry.updateAt]
        congr 1
        apply List.map_congr_left
        intro y _; exact ih r y
      | output =>
        simp only [List.cons_append, Entry.updateAt]
        congr 1
        apply List.map_congr_left
        intro y _; exact ih r y

/-- Two updates at the same place compose (the first one keeps names). -/
theorem updateAt_same {g : Entry → Entry} (hg : ∀ x, (g x).name = x.name) (h : Entry → Entry) : ∀ (q : Path) (x : Entry),
    (x.updateAt q g).updateAt q h = x.updateAt q (fun y => h (g y)) := by
  intro q
  induction q with
  | nil => intro x; simp only [updateAt_nil]
  | cons s q ih =>
    intro x
    cases x with
    | mk d c i o =>
      cases s with
      | child k =>
        simp only [Entry.updateAt, List.map_map]
        congr 1
        apply List.map_congr_left
        intro y _
        simp only [Function.comp]
        by_cases hy : (y.name == k) = true
        · simp only [hy, if_true, updateAt_name_keep hg y q]
          exact ih y
        · simp only [hy, if_false]
          simp [hy]
      | input =>
        simp only [Entry.updateAt, List.map_map]
        congr 1
        apply List.map_congr_left
        intro y _; exact ih y
      | output =>
        simp only [Entry.updateAt, List.map_map]
        congr 1
        apply List.map_congr_left
        intro y _; exact ih y

/-- An update below an updated place. -/
theorem updateAt_below {g : Entry → Entry} (hg : ∀ x, (g x).name = x.name) (h : Entry → Entry) (q r : Path) (x : Entry) :
    (x.updateAt q g).updateAt (q ++ r) h = x.updateAt q (fun y => (g y).updateAt r h) := by
  rw [updateAt_append h q r, updateAt_same hg]

/-- One step apart: the two updates touch different children / different fields. -/
theorem updateAt_comm_step {g h : Entry → Entry} (hg : ∀ x, (g x).name = x.name) (hh : ∀ x, (h x).name = x.name)
    {s1 s2 : Step} (hne : s1 ≠ s2) (p' q' : Path) (y : Entry) :
    (y.updateAt (s2 :: q') h).updateAt (s1 :: p') g = (y.updateAt (s1 :: p') g).updateAt (s2 :: q') h := by
  cases y with
  | mk d c i o =>
    cases s1 with
    | child k1 =>
      cases s2 with
      | child k2 =>
        have hk : k1 ≠ k2 := fun e => hne (by rw [e])
        simp only [Entry.updateAt, List.map_map]
        congr 1
        apply List.map_congr_left
        intro z _
        simp only [Function.comp]
        by_cases h1 : (z.name == k1) = true
        · have h2 : (z.name == k2) = false := by
            rw [Bool.eq_false_iff]; intro h2
            exact hk ((eq_of_beq h1).symm.trans (eq_of_beq h2))
          simp only [h1, h2, if_true, if_false, Bool.false_eq_true]
          simp [updateAt_name_keep hg z p', h2]
        · by_cases h2 : (z.name == k2) = true
          · simp only [h1, h2, if_true, if_false]
            simp [updateAt_name_keep hh z q', h1]
            intro hc; exact absurd (eq_of_beq h2) hc
          · simp only [h1, h2, if_false]
            simp [h1, h2]
      | input => simp only [Entry.updateAt]
      | output => simp only [Entry.updateAt]
    | input =>
      cases s2 with
      | child k2 => simp only [Entry.updateAt]
      | input => exact absurd rfl hne
      | output => simp only [Entry.updateAt]
    | output =>
      cases s2 with
      | child k2 => simp only [Entry.updateAt]
      | input => simp only [Entry.updateAt]
      | output => exact absurd rfl hne

/-- Updates at diverging paths commute. -/
theorem updateAt_comm_diverge {g h : Entry → Entry} (hg : ∀ x, (g x).name = x.name) (hh : ∀ x, (h x).name = x.name)
    {s1 s2 : Step} (hne : s1 ≠ s2) (c p' q' : Path) (x : Entry) :
    (x.updateAt (c ++ s2 :: q') h).updateAt (c ++ s1 :: p') g = (x.updateAt (c ++ s1 :: p') g).updateAt (c ++ s2 :: q') h := by
  rw [updateAt_append h c (s2 :: q'), updateAt_append g c (s1 :: p'),
    updateAt_same (fun y => updateAt_name_keep hh y _), updateAt_append g c (s1 :: p'),
    updateAt_append h c (s2 :: q'), updateAt_same (fun y => updateAt_name_keep hg y _)]
  congr 1
  funext y
  exact updateAt_comm_step hg hh hne p' q' y

/-- An update at `p` commutes with an update strictly below `p`, when `g` does so at one node. -/
theorem updateAt_comm_above {g h : Entry → Entry} (hg : ∀ x, (g x).name = x.name) (p : Path) (s : Step) (r' : Path)
    (hgs : ∀ x, g (x.updateAt (s :: r') h) = (g x).updateAt (s :: r') h) (x : Entry) :
    (x.updateAt (p ++ s :: r') h).updateAt p g = (x.updateAt p g).updateAt (p ++ s :: r') h := by
  rw [updateAt_append h p (s :: r'),
    updateAt_same (g := fun y => y.updateAt (s :: r') h) (fun y => by cases y; cases s <;> rfl),
    updateAt_append h p (s :: r'), updateAt_same hg]
  congr 1
  funext y
  exact hgs y

/-! ### `addImplicit` -/

/-- The step an implicit creation fills. -/
def slot (b : Bool) : Step := if b then .input else .output

/-- The node lacks the input (output). -/
def SlotEmpty (b : Bool) (e : Entry) : Prop := if b = true then e.inp = [] else e.out = []

theorem addImplicit_name (b : Bool) (x : Entry) : (addImplicit b x).name = x.name := by
  cases x; cases b <;> rfl

theorem addImplicit_dir (b : Bool) (x : Entry) : (addImplicit b x).dir = x.dir := by
  cases x; cases b <;> rfl

theorem addImplicit_child? (b : Bool) (x : Entry) (k : String) : (addImplicit b x).child? k = x.child? k := by
  unfold Entry.child?; rw [addImplicit_dir]

/-- `addImplicit` at a node commutes with an update that goes down through another step. -/
theorem addImplicit_comm_step (b : Bool) (s : Step) (hs : s ≠ slot b) (r' : Path) (h : Entry → Entry) (x : Entry) :
    addImplicit b (x.updateAt (s :: r') h) = (addImplicit b x).updateAt (s :: r') h := by
  cases x with
  | mk d c i o =>
    cases b with
    | true =>
      cases s with
      | child k => rfl
      | input => exact absurd rfl hs
      | output => rfl
    | false =>
      cases s with
      | child k => rfl
      | input => rfl
      | output => exact absurd rfl hs

/-- Through an empty slot no path leads anywhere. -/
theorem getAt_slot_none (b : Bool) (e : Entry) (he : SlotEmpty b e) (r : Path) : e.getAt (slot b :: r) = none := by
  cases e with
  | mk d c i o =>
    cases b with
    | true => simp only [SlotEmpty, if_true, Entry.inp] at he; subst he; rfl
    | false => simp only [SlotEmpty, Bool.false_eq_true, if_false, Entry.out] at he; subst he; rfl

/-- Below a filled slot the other steps lead where they led. -/
theorem addImplicit_getAt (b : Bool) (s : Step) (hs : s ≠ slot b) (r : Path) (e : Entry) :
    (addImplicit b e).getAt (s :: r) = e.getAt (s :: r) := by
  cases e with
  | mk d c i o =>
    cases b with
    | true =>
      cases s with
      | child k => rfl
      | input => exact absurd rfl hs
      | output => rfl
    | false =>
      cases s with
      | child k => rfl
      | input => rfl
      | output => exact absurd rfl hs

/-! ### the one node a proper path leads to -/

/-- Under `U`, an update along a proper existing path only depends on what the function does to the
node the path leads to. -/
theorem updateAt_congr_unique (f g : Entry → Entry) (e : Entry) (hfg : f e = g e) :
    ∀ (p : Path) (root : Entry), U root → PathOK p → root.getAt p = some e → root.updateAt p f = root.updateAt p g := by
  intro p
  induction p with
  | nil =>
    intro root _ _ hg
    simp only [Entry.getAt, Option.some.injEq] at hg; subst hg
    rw [updateAt_nil, updateAt_nil]; exact hfg
  | cons s p ih =>
    intro root hu hp hg
    cases root with
    | mk d c i o =>
      cases s with
      | child k =>
        obtain ⟨pre, y, post, hc, hy, hgy, hpre, hpost, hupd⟩ :=
          Tree.updateAt_child d c i o k p f e hu (hp k (by simp)) hg
        rw [hupd]
        have huy : U y := ((U_mk _ _ _ _).1 hu).2.1 y (by rw [hc]; simp)
        simp only [Entry.updateAt]
        rw [hc, Tree.map_if_split pre post y k _ hpre hpost hy, ih y huy hp.tail hgy]
      | input =>
        obtain ⟨y, hi, hgy, hupd⟩ := Tree.updateAt_input d c i o p f e hu hg
        rw [hupd]; subst hi
        have huy : U y := ((U_mk _ _ _ _).1 hu).2.2.1 y (by simp)
        simp only [Entry.updateAt, List.map_cons, List.map_nil]
        rw [ih y huy hp.tail hgy]
      | output =>
        obtain ⟨y, ho, hgy, hupd⟩ := Tree.updateAt_output d c i o p f e hu hg
        rw [hupd]; subst ho
        have huy : U y := ((U_mk _ _ _ _).1 hu).2.2.2 y (by simp)
        simp only [Entry.updateAt, List.map_cons, List.map_nil]
        rw [ih y huy hp.tail hgy]

theorem U_addImplicit_node (b : Bool) (e : Entry) (hu : U e) (he : SlotEmpty b e) : U (addImplicit b e) := by
  cases e with
  | mk d c i o =>
    rw [U_mk] at hu
    cases b with
    | true =>
      simp only [SlotEmpty, if_true, Entry.inp] at he; subst he
      show U (.mk d c [implicitIO (.mk d c [] o) true] o)
      rw [U_mk]
      refine ⟨⟨hu.1.1, by simp, hu.1.2.2⟩, hu.2.1, ?_, hu.2.2.2⟩
      intro x hx; simp only [List.mem_singleton] at hx; subst hx; exact Tree.U_implicitIO _ _
    | false =>
      simp only [SlotEmpty, Bool.false_eq_true, if_false, Entry.out] at he; subst he
      show U (.mk d c i [implicitIO (.mk d c i []) false])
      rw [U_mk]
      refine ⟨⟨hu.1.1, hu.1.2.1, by simp⟩, hu.2.1, hu.2.2.1, ?_⟩
      intro x hx; simp only [List.mem_singleton] at hx; subst hx; exact Tree.U_implicitIO _ _

/-- `U` survives the creation of an absent input / output. -/
theorem U_addImplicit (b : Bool) (root : Entry) (p : Path) (e : Entry) (hu : U root) (hp : PathOK p)
    (hg : root.getAt p = some e) (he : SlotEmpty b e) : U (root.updateAt p (addImplicit b)) :=
  Tree.U_updateAt (addImplicit b) e (U_addImplicit_node b e (Tree.U_getAt p root e hu hg) he) (addImplicit_name b e)
    p root hu hp hg

/-! ### stamps -/

theorem noStamp_implicitIO (parent : Entry) (b : Bool) : noStamp (implicitIO parent b) = true := by
  unfold implicitIO; simp [noStamp, noStampL]

theorem noStamp_addImplicit (b : Bool) (x : Entry) (h : noStamp x = true) : noStamp (addImplicit b x) = true := by
  cases x with
  | mk d c i o =>
    simp only [noStamp_mk, Bool.and_eq_true] at h
    cases b with
    | true =>
      show noStamp (.mk d c [implicitIO (.mk d c i o) true] o) = true
      simp only [noStamp_mk, Bool.and_eq_true]
      refine ⟨⟨⟨h.1.1.1, h.1.1.2⟩, ?_⟩, h.2⟩
      simp [noStampL, noStamp_implicitIO]
    | false =>
      show noStamp (.mk d c i [implicitIO (.mk d c i o) false]) = true
      simp only [noStamp_mk, Bool.and_eq_true]
      refine ⟨⟨⟨h.1.1.1, h.1.1.2⟩, h.1.2⟩, ?_⟩
      simp [noStampL, noStamp_implicitIO]

theorem noStampL_map (l : List Entry) (F : Entry → Entry) (hF : ∀ x ∈ l, noStamp x = true → noStamp (F x) = true)
    (h : noStampL l = true) : noStampL (l.map F) = true := by
  rw [noStampL_iff] at h ⊢
  intro y hy
  simp only [List.mem_map] at hy
  obtain ⟨x, hx, rfl⟩ := hy
  exact hF x hx (h x hx)

theorem noStamp_updateAt (g : Entry → Entry) (hg : ∀ x, noStamp x = true → noStamp (g x) = true) :
    ∀ (q : Path) (x : Entry), noStamp x = true → noStamp (x.updateAt q g) = true := by
  intro q
  induction q with
  | nil => intro x h; rw [updateAt_nil]; exact hg x h
  | cons s q ih =>
    intro x h
    cases x with
    | mk d c i o =>
      simp only [noStamp_mk, Bool.and_eq_true] at h
      cases s with
      | child k =>
        simp only [Entry.updateAt, noStamp_mk, Bool.and_eq_true]
        refine ⟨⟨⟨h.1.1.1, ?_⟩, h.1.2⟩, h.2⟩
        refine noStampL_map c _ (fun y _ hy => ?_) h.1.1.2
        split
        · exact ih y hy
        · exact hy
      | input =>
        simp only [Entry.updateAt, noStamp_mk, Bool.and_eq_true]
        exact ⟨⟨⟨h.1.1.1, h.1.1.2⟩, noStampL_map i _ (fun y _ hy => ih y hy) h.1.2⟩, h.2⟩
      | output =>
        simp only [Entry.updateAt, noStamp_mk, Bool.and_eq_true]
        exact ⟨⟨⟨h.1.1.1, h.1.1.2⟩, h.1.2⟩, noStampL_map o _ (fun y _ hy => ih y hy) h.2⟩

/-- Creating an absent input / output somewhere below the root leaves a stamp-free tree stamp-free. -/
theorem noStampBelow_updateAt_addImplicit (b : Bool) (q : Path) (x : Entry) (h : noStampBelow x = true) :
    noStampBelow (x.updateAt q (addImplicit b)) = true := by
  have hA := fun y hy => noStamp_updateAt (addImplicit b) (noStamp_addImplicit b) q y hy
  cases x with
  | mk d c i o =>
    -- the root's own stamp does not matter: erase it, use `noStamp`, and read the children off
    have h0 : noStamp (.mk { d with ns := none } c i o) = true := by
      simp only [noStampBelow, Entry.dir, Entry.inp, Entry.out, Bool.and_eq_true] at h
      simp only [noStamp_mk, Bool.and_eq_true]
      exact ⟨⟨⟨rfl, h.1.1⟩, h.1.2⟩, h.2⟩
    have h1 := hA _ h0
    cases q with
    | nil =>
      rw [updateAt_nil] at h1 ⊢
      cases b with
      | true =>
        have : noStamp (.mk { d with ns := none } c [implicitIO (.mk { d with ns := none } c i o) true] o) = true := h1
        simp only [noStamp_mk, Bool.and_eq_true] at this
        show noStampBelow (.mk d c [implicitIO (.mk d c i o) true] o) = true
        simp only [noStampBelow, Entry.dir, Entry.inp, Entry.out, Bool.and_eq_true]
        exact ⟨⟨this.1.1.2, by simp [noStampL, noStamp_implicitIO]⟩, this.2⟩
      | false =>
        have : noStamp (.mk { d with ns := none } c i [implicitIO (.mk { d with ns := none } c i o) false]) = true := h1
        simp only [noStamp_mk, Bool.and_eq_true] at this
        show noStampBelow (.mk d c i [implicitIO (.mk d c i o) false]) = true
        simp only [noStampBelow, Entry.dir, Entry.inp, Entry.out, Bool.and_eq_true]
        exact ⟨⟨this.1.1.2, this.1.2⟩, by simp [noStampL, noStamp_implicitIO]⟩
    | cons s q =>
      cases s with
      | child k =>
        simp only [Entry.updateAt, noStamp_mk, Bool.and_eq_true] at h1
        simp only [Entry.updateAt, noStampBelow, Entry.dir, Entry.inp, Entry.out, Bool.and_eq_true]
        exact ⟨⟨h1.1.1.2, h1.1.2⟩, h1.2⟩
      | input =>
        simp only [Entry.updateAt, noStamp_mk, Bool.and_eq_true] at h1
        simp only [Entry.updateAt, noStampBelow, Entry.dir, Entry.inp, Entry.out, Bool.and_eq_true]
        exact ⟨⟨h1.1.1.2, h1.1.2⟩, h1.2⟩
      | output =>
        simp only [Entry.updateAt, noStamp_mk, Bool.and_eq_true] at h1
        simp only [Entry.updateAt, noStampBelow, Entry.dir, Entry.inp, Entry.out, Bool.and_eq_true]
        exact ⟨⟨h1.1.1.2, h1.1.2⟩, h1.2⟩

/-! ### what `merge` does, as a function of the names already present -/

/-- The children `merge` appends and the duplicate errors it records, given the names taken. -/
def mkids (ns : Option String) (pos : Stmt) : List String → List Entry → List Entry × List Err
  | _, [] => ([], [])
  | taken, v :: vs =>
    if taken.any (· == v.name) then
      ((mkids ns pos taken vs).1, Err.at_ pos "duplicate-node" :: (mkids ns pos taken vs).2)
    else
      (stamp ns v :: (mkids ns pos (taken ++ [v.name]) vs).1, (mkids ns pos (taken ++ [v.name]) vs).2)

theorem child?_any (c : List Entry) (k : String) :
    ((c.find? (·.name == k)).isSome) = (c.map (·.name)).any (· == k) := by
  induction c with
  | nil => rfl
  | cons x xs ih =>
    simp only [List.find?_cons, List.map_cons, List.any_cons]
    cases hx : (x.name == k) with
    | true => simp
    | false => simpa using ih

theorem mstep_mk (ns : Option String) (pos : Stmt) (d : EData) (c i o : List Entry) (v : Entry) :
    mstep ns pos (.mk d c i o) v =
      if (c.map (·.name)).any (· == v.name) then .mk { d with errors := d.errors ++ [Err.at_ pos "duplicate-node"] } c i o
      else .mk d (c ++ [stamp ns v]) i o := by
  unfold mstep
  rw [stamp_name]
  have hany := child?_any c v.name
  cases hv : (Entry.mk d c i o).child? v.name with
  | some x =>
    have ht : (c.map (·.name)).any (· == v.name) = true := by
      rw [← hany]; simp only [Entry.child?, Entry.dir] at hv; rw [hv]; rfl
    rw [if_pos ht]; rfl
  | none =>
    have ht : (c.map (·.name)).any (· == v.name) = false := by
      rw [← hany]; simp only [Entry.child?, Entry.dir] at hv; rw [hv]; rfl
    rw [if_neg (by simp [ht])]; rfl

theorem foldl_mstep_struct (ns : Option String) (pos : Stmt) : ∀ (l : List Entry) (d : EData) (c i o : List Entry),
    l.foldl (mstep ns pos) (.mk d c i o) =
      .mk { d with errors := d.errors ++ (mkids ns pos (c.map (·.name)) l).2 }
        (c ++ (mkids ns pos (c.map (·.name)) l).1) i o := by
  intro l
  induction l with
  | nil => intro d c i o; simp [mkids]
  | cons v l ih =>
    intro d c i o
    rw [List.foldl_cons, mstep_mk]
    by_cases ht : (c.map (·.name)).any (· == v.name) = true
    · rw [if_pos ht, ih]
      simp only [mkids, ht, if_true, List.append_assoc, List.singleton_append]
    · rw [if_neg ht, ih]
      simp only [mkids, ht, Bool.false_eq_true, if_false, List.map_append, List.map_cons, List.map_nil, stamp_name,
        List.append_assoc, List.singleton_append]

/-- What `importErrors` adds. -/
def imp (oe : Entry) : List Err :=
  oe.d.errors ++ Entry.allErrorsL oe.dir ++ Entry.allErrorsL oe.inp ++ Entry.allErrorsL oe.out

/-- **The shape of `merge`**: own data with more errors, own children followed by the new ones. -/
theorem merge_struct (ns : Option String) (oe : Entry) (d : EData) (c i o : List Entry) :
    (Entry.mk d c i o).merge ns oe =
      .mk { d with errors := (d.errors ++ imp oe) ++ (mkids ns oe.d.node (c.map (·.name)) oe.dir).2 }
        (c ++ (mkids ns oe.d.node (c.map (·.name)) oe.dir).1) i o := by
  rw [merge_eq]
  simp only [Entry.importErrors, Entry.addErrs, Entry.withD]
  rw [foldl_mstep_struct]
  rfl

/-- The appended children have names that were free. -/
theorem mkids_fresh (ns : Option String) (pos : Stmt) : ∀ (l : List Entry) (taken : List String),
    ∀ x ∈ (mkids ns pos taken l).1, taken.any (· == x.name) = false := by
  intro l
  induction l with
  | nil => intro taken x hx; simp [mkids] at hx
  | cons v l ih =>
    intro taken x hx
    unfold mkids at hx
    split at hx
    · exact ih taken x hx
    · rename_i hf
      simp only [List.mem_cons] at hx
      rcases hx with rfl | hx
      · rw [stamp_name]; exact Bool.eq_false_iff.mpr hf
      · have := ih (taken ++ [v.name]) x hx
        simp only [List.any_append, Bool.or_eq_false_iff] at this
        exact this.1

/-- Mapping the merged entry's children by a function that keeps names and commutes with stamping maps
the appended children. -/
theorem mkids_map (ns : Option String) (pos : Stmt) (F : Entry → Entry) (hn : ∀ v, (F v).name = v.name)
    (hst : ∀ v, stamp ns (F v) = F (stamp ns v)) : ∀ (l : List Entry) (taken : List String),
    mkids ns pos taken (l.map F) = ((mkids ns pos taken l).1.map F, (mkids ns pos taken l).2) := by
  intro l
  induction l with
  | nil => intro taken; simp [mkids]
  | cons v l ih =>
    intro taken
    simp only [List.map_cons]
    unfold mkids
    rw [hn v]
    split
    · rw [ih]
    · rw [ih, hst]; simp

/-! ### an update below a graft target commutes with the graft -/

theorem map_if_id (c : List Entry) (k : String) (G : Entry → Entry) (h : ∀ x ∈ c, (x.name == k) = false) :
    c.map (fun x => if x.name == k then G x else x) = c := by
  conv => rhs; rw [← List.map_id c]
  apply List.map_congr_left
  intro x hx; simp [h x hx]

theorem map_if_names (c : List Entry) (k : String) (G : Entry → Entry) (hG : ∀ x, (G x).name = x.name) :
    (c.map (fun x => if x.name == k then G x else x)).map (·.name) = c.map (·.name) := by
  rw [List.map_map]
  apply List.map_congr_left
  intro x _
  simp only [Function.comp]
  split
  · exact hG x
  · rfl

/-- An update that goes down through rpc input / output, or through a child the target already had,
commutes with the graft at the target. -/
theorem merge_updateAt_old {g : Entry → Entry} (hg : ∀ x, (g x).name = x.name) (ns : Option String) (a te : Entry)
    (s : Step) (r' : Path) (hs : ∀ k, s = .child k → (te.child? k).isSome = true) :
    (te.merge ns a).updateAt (s :: r') g = (te.updateAt (s :: r') g).merge ns a := by
  cases te with
  | mk d c i o =>
    cases s with
    | input => rw [merge_struct]; simp only [Entry.updateAt]; rw [merge_struct]
    | output => rw [merge_struct]; simp only [Entry.updateAt]; rw [merge_struct]
    | child k =>
      have hk := hs k rfl
      simp only [Entry.child?, Entry.dir] at hk
      rw [child?_any] at hk
      rw [merge_struct]
      simp only [Entry.updateAt]
      rw [merge_struct, map_if_names c k _ (fun x => updateAt_name_keep hg x r'), List.map_append]
      congr 2
      apply map_if_id
      intro x hx
      have hf := mkids_fresh ns a.d.node a.dir (c.map (·.name)) x hx
      rw [Bool.eq_false_iff]
      intro hxk
      rw [eq_of_beq hxk, hk] at hf
      cases hf

theorem stamp_updateAt_addImplicit (ns : Option String) (b : Bool) (r' : Path) (v : Entry) :
    stamp ns (v.updateAt r' (addImplicit b)) = (stamp ns v).updateAt r' (addImplicit b) := by
  cases ns with
  | none => rfl
  | some n =>
    cases v with
    | mk d c i o =>
      cases r' with
      | nil => rw [updateAt_nil, updateAt_nil]; cases b <;> rfl
      | cons s r'' => cases s <;> rfl

/-- An update that goes down through a child the graft adds is an update of the grafted entry. -/
theorem merge_updateAt_new (ns : Option String) (b : Bool) (a te : Entry) (k : String) (r' : Path)
    (hk : te.child? k = none)
    (himp : imp (a.updateAt (.child k :: r') (addImplicit b)) = imp a) :
    (te.merge ns a).updateAt (.child k :: r') (addImplicit b) =
      te.merge ns (a.updateAt (.child k :: r') (addImplicit b)) := by
  cases te with
  | mk d c i o =>
    cases a with
    | mk da ca ia oa =>
      have hfree : ∀ x ∈ c, (x.name == k) = false := by
        intro x hx
        have := Tree.child?_none (.mk d c i o) k hk x hx
        rw [Bool.eq_false_iff]; intro h; exact this (eq_of_beq h)
      rw [merge_struct, merge_struct, himp]
      simp only [Entry.updateAt, Entry.d, Entry.dir]
      rw [mkids_map ns da.node (fun x => if x.name == k then x.updateAt r' (addImplicit b) else x)
        (fun v => by
          show (if v.name == k then v.updateAt r' (addImplicit b) else v).name = v.name
          split
          · exact updateAt_name_keep (addImplicit_name b) v r'
          · rfl)
        (fun v => by
          show stamp ns (if v.name == k then v.updateAt r' (addImplicit b) else v) =
            (if (stamp ns v).name == k then (stamp ns v).updateAt r' (addImplicit b) else stamp ns v)
          rw [stamp_name]
          split
          · exact stamp_updateAt_addImplicit ns b r' v
          · rfl)]
      rw [List.map_append, map_if_id c k _ hfree]

/-! ### recorded errors are untouched by an implicit creation -/

theorem allErrorsL_append (a b : List Entry) : Entry.allErrorsL (a ++ b) = Entry.allErrorsL a ++ Entry.allErrorsL b := by
  induction a with
  | nil => simp [Entry.allErrorsL]
  | cons x xs ih => simp [Entry.allErrorsL, ih]

/-- Same data, same errors in each of the three child lists. -/
def SameErrs (x y : Entry) : Prop :=
  y.d = x.d ∧ Entry.allErrorsL y.dir = Entry.allErrorsL x.dir ∧ Entry.allErrorsL y.inp = Entry.allErrorsL x.inp ∧
    Entry.allErrorsL y.out = Entry.allErrorsL x.out

theorem SameErrs.all {x y : Entry} (h : SameErrs x y) : y.allErrors = x.allErrors := by
  cases x; cases y
  obtain ⟨h1, h2, h3, h4⟩ := h
  simp only [Entry.d, Entry.dir, Entry.inp, Entry.out] at h1 h2 h3 h4
  simp only [Entry.allErrors, h1, h2, h3, h4]

theorem SameErrs.imp {x y : Entry} (h : SameErrs x y) : imp y = imp x := by
  obtain ⟨h1, h2, h3, h4⟩ := h
  unfold ConfigNsComm.imp
  rw [h1, h2, h3, h4]

theorem sameErrs_addImplicit (b : Bool) (e : Entry) (he : SlotEmpty b e) : SameErrs e (addImplicit b e) := by
  cases e with
  | mk d c i o =>
    cases b with
    | true =>
      simp only [SlotEmpty, if_true, Entry.inp] at he; subst he
      refine ⟨rfl, rfl, ?_, rfl⟩
      show Entry.allErrorsL [implicitIO (.mk d c [] o) true] = Entry.allErrorsL []
      simp [Entry.allErrorsL, Entry.allErrors, implicitIO]
    | false =>
      simp only [SlotEmpty, Bool.false_eq_true, if_false, Entry.out] at he; subst he
      refine ⟨rfl, rfl, rfl, ?_⟩
      show Entry.allErrorsL [implicitIO (.mk d c i []) false] = Entry.allErrorsL []
      simp [Entry.allErrorsL, Entry.allErrors, implicitIO]

/-- Under `U`, creating an absent input / output at a proper existing path records no error and drops
none. -/
theorem sameErrs_updateAt_addImplicit (b : Bool) (e : Entry) (he : SlotEmpty b e) (p : Path) (root : Entry)
    (hu : U root) (hp : PathOK p) (hg : root.getAt p = some e) : SameErrs root (root.updateAt p (addImplicit b)) := by
  refine Tree.updateAt_unique_ind SameErrs (addImplicit b) e (sameErrs_addImplicit b e he) ?_ ?_ ?_ p root hu hp hg
  · intro d pre y post i o y' _ h
    refine ⟨rfl, ?_, rfl, rfl⟩
    simp only [Entry.dir, allErrorsL_append, Entry.allErrorsL, h.all]
  · intro d c y o y' _ h
    refine ⟨rfl, rfl, ?_, rfl⟩
    simp only [Entry.inp, Entry.allErrorsL, h.all]
  · intro d c i y y' _ h
    refine ⟨rfl, rfl, rfl, ?_⟩
    simp only [Entry.out, Entry.allErrorsL, h.all]

/-! ### `FixChoice` -/

theorem fixChoice_mk (d : EData) (c i o : List Entry) : fixChoice (.mk d c i o) =
    .mk d (if wraps (.mk d c i o) then (c.map fixChoice).map wrap1 else c.map fixChoice)
      (i.map fixChoice) (o.map fixChoice) := by
  rw [fixChoice, SortAux.fixChoiceL_eq_map, SortAux.fixChoiceL_eq_map, SortAux.fixChoiceL_eq_map, wrapCases_eq_map]
  rfl

theorem wrap1_mk (x : Entry) (h : x.d.kind ≠ .case_) :
    wrap1 x = .mk { name := x.d.name, kind := .case_, hasDir := true, config := x.d.config, node := x.d.node, nodeMod := x.d.nodeMod, nodeKw := "case" } [x] [] [] := by
  unfold wrap1; simp only [kind_beq, h, decide_false, Bool.false_eq_true, if_false]

/-- **Every rpc / action node of the fixed tree is the image of a node of the original tree**: the
nodes `FixChoice` inserts are plain cases. -/
theorem fix_preimage : ∀ (p : Path) (root0 e : Entry), (fixChoice root0).getAt p = some e → e.d.isRpc = true →
    ∃ p0 e0, root0.getAt p0 = some e0 ∧ liftPath root0 p0 = p ∧ e = fixChoice e0 ∧
      (∀ k, Step.child k ∈ p0 → Step.child k ∈ p)
  | [], root0, e, h, _ => by
    simp only [Entry.getAt, Option.some.injEq] at h
    exact ⟨[], root0, rfl, liftPath_nil _, h.symm, fun k hk => hk⟩
  | s :: r, root0, e, h, hr => by
    rw [getAt_cons] at h
    cases hn : next root0 s with
    | none => rw [(fix_step_none root0 s [] hn).2] at h; cases h
    | some x =>
      -- the preimage below `x`, one step further up
      have up : ∀ r' p0 e0, (x.getAt p0 = some e0 ∧ liftPath x p0 = r' ∧ e = fixChoice e0 ∧
            ∀ k, Step.child k ∈ p0 → Step.child k ∈ r') → (∀ k, Step.child k ∈ s :: r' → Step.child k ∈ s :: r) →
          ∀ pre, (∀ rest, liftPath root0 (s :: rest) = pre ++ liftPath x rest) → pre ++ r' = s :: r →
          ∃ p0 e0, root0.getAt p0 = some e0 ∧ liftPath root0 p0 = s :: r ∧ e = fixChoice e0 ∧
            (∀ k, Step.child k ∈ p0 → Step.child k ∈ s :: r) := by
        rintro r' p0 e0 ⟨h1, h2, h3, h4⟩ hsub pre hl hpre
        refine ⟨s :: p0, e0, by rw [getAt_cons, hn]; exact h1, by rw [hl, h2, hpre], h3, fun k hk => ?_⟩
        rcases List.mem_cons.mp hk with hk | hk
        · exact hsub k (hk ▸ List.mem_cons_self ..)
        · exact hsub k (List.mem_cons_of_mem _ (h4 k hk))
      rcases fix_step root0 x s hn with ⟨hl, hf⟩ | ⟨w, hl, hf, _, _, _, _, hwr, hwu⟩
      · rw [hf] at h
        obtain ⟨p0, e0, hrec⟩ := fix_preimage r x e h hr
        exact up r p0 e0 hrec (fun _ hk => hk) [s] hl rfl
      · rw [hf] at h
        simp only [Option.bind_some] at h
        cases r with
        | nil =>
          simp only [Entry.getAt, Option.some.injEq] at h
          rw [← h, hwr] at hr; cases hr
        | cons s' r' =>
          rw [getAt_cons] at h
          cases hy : next w s' with
          | none => rw [hy] at h; cases h
          | some y =>
            obtain ⟨rfl, rfl⟩ := hwu s' y hy
            rw [hy] at h
            obtain ⟨p0, e0, hrec⟩ := fix_preimage r' x e h hr
            exact up r' p0 e0 hrec (fun k hk => by
              rcases List.mem_cons.mp hk with hk | hk
              · exact hk ▸ List.mem_cons_self ..
              · exact List.mem_cons_of_mem _ (List.mem_cons_of_mem _ hk)) [s', s'] hl rfl

theorem fixChoice_implicitIO (parent : Entry) (b : Bool) : fixChoice (implicitIO parent b) = implicitIO parent b := by
  unfold implicitIO
  rw [fixChoice_mk]
  simp

theorem fixChoice_addImplicit (b : Bool) (e : Entry) : addImplicit b (fixChoice e) = fixChoice (addImplicit b e) := by
  cases e with
  | mk d c i o =>
    cases b with
    | true =>
      show addImplicit true (fixChoice (.mk d c i o)) = fixChoice (.mk d c [implicitIO (.mk d c i o) true] o)
      rw [fixChoice_mk, fixChoice_mk]
      simp only [List.map_cons, List.map_nil, fixChoice_implicitIO]
      rfl
    | false =>
      show addImplicit false (fixChoice (.mk d c i o)) = fixChoice (.mk d c i [implicitIO (.mk d c i o) false])
      rw [fixChoice_mk, fixChoice_mk]
      simp only [List.map_cons, List.map_nil, fixChoice_implicitIO]
      rfl

theorem map_split_update (pre post : List Entry) (y : Entry) (k : String) (hf G : Entry → Entry)
    (hname : ∀ x, (hf x).name = x.name)
    (hpre : ∀ x ∈ pre, (x.name == k) = false) (hpost : ∀ x ∈ post, (x.name == k) = false) (hy : y.name = k) :
    ((pre ++ y :: post).map hf).map (fun x => if x.name == k then G x else x) =
      pre.map hf ++ G (hf y) :: post.map hf := by
  rw [List.map_append, List.map_cons]
  apply Tree.map_if_split
  · intro x hx
    simp only [List.mem_map] at hx
    obtain ⟨z, hz, rfl⟩ := hx
    rw [hname]; exact hpre z hz
  · intro x hx
    simp only [List.mem_map] at hx
    obtain ⟨z, hz, rfl⟩ := hx
    rw [hname]; exact hpost z hz
  · rw [hname]; exact hy

theorem updateAt_d_addImplicit (b : Bool) (y : Entry) (q : Path) : (y.updateAt q (addImplicit b)).d = y.d := by
  cases q with
  | nil => rw [updateAt_nil]; exact ConfigNsDev.addImplicit_d b y
  | cons s q => exact updateAt_d_cons y s q _

/-- **Creating an absent input / output commutes with `FixChoice`** (at the translated path), under `U`
for a proper existing path. -/
theorem fix_updateAt_addImplicit (b : Bool) : ∀ (p0 : Path) (root0 e0 : Entry), U root0 → PathOK p0 →
    root0.getAt p0 = some e0 →
    (fixChoice root0).updateAt (liftPath root0 p0) (addImplicit b) = fixChoice (root0.updateAt p0 (addImplicit b)) := by
  intro p0
  induction p0 with
  | nil =>
    intro root0 e0 _ _ _
    rw [liftPath_nil, updateAt_nil, updateAt_nil]
    exact fixChoice_addImplicit b root0
  | cons s p1 ih =>
    intro root0 e0 hu hp hg
    cases root0 with
    | mk d c i o =>
      cases s with
      | input =>
        obtain ⟨y, hi, hgy, hupd⟩ := Tree.updateAt_input d c i o p1 (addImplicit b) e0 hu hg
        subst hi
        have huy : U y := ((U_mk _ _ _ _).1 hu).2.2.1 y (by simp)
        rw [hupd, liftPath_input]
        simp only [next, Entry.inp, List.head?_cons]
        rw [fixChoice_mk, fixChoice_mk]
        simp only [Entry.updateAt, List.map_cons, List.map_nil]
        rw [ih y e0 huy hp.tail hgy]
        rfl
      | output =>
        obtain ⟨y, ho, hgy, hupd⟩ := Tree.updateAt_output d c i o p1 (addImplicit b) e0 hu hg
        subst ho
        have huy : U y := ((U_mk _ _ _ _).1 hu).2.2.2 y (by simp)
        rw [hupd, liftPath_output]
        simp only [next, Entry.out, List.head?_cons]
        rw [fixChoice_mk, fixChoice_mk]
        simp only [Entry.updateAt, List.map_cons, List.map_nil]
        rw [ih y e0 huy hp.tail hgy]
        rfl
      | child k =>
        obtain ⟨pre, y, post, hc, hy, hgy, hpre, hpost, hupd⟩ :=
          Tree.updateAt_child d c i o k p1 (addImplicit b) e0 hu (hp k (by simp)) hg
        subst hc
        have huy : U y := ((U_mk _ _ _ _).1 hu).2.1 y (by simp)
        have hch : (Entry.mk d (pre ++ y :: post) i o).child? k = some y := by
          simp only [Entry.getAt] at hg
          cases hcc : (Entry.mk d (pre ++ y :: post) i o).child? k with
          | none => simp [hcc] at hg
          | some z =>
            -- the first child named `k` is `y`
            simp only [Entry.child?, Entry.dir] at hcc
            rw [List.find?_append] at hcc
            have : pre.find? (fun x => x.name == k) = none := by
              rw [List.find?_eq_none]; intro x hx; simp [hpre x hx]
            rw [this] at hcc
            simp only [Option.none_or, List.find?_cons, hy, beq_self_eq_true] at hcc
            exact congrArg some (Option.some.inj hcc).symm ▸ rfl
        have ihy := ih y e0 huy hp.tail hgy
        have hyd : (y.updateAt p1 (addImplicit b)).d = y.d := updateAt_d_addImplicit b y p1
        rw [hupd, liftPath_child, hch]
        simp only []
        rw [fixChoice_mk, fixChoice_mk]
        have hw : wraps (.mk d (pre ++ y.updateAt p1 (addImplicit b) :: post) i o) = wraps (.mk d (pre ++ y :: post) i o) := rfl
        rw [hw]
        by_cases hwr : wraps (.mk d (pre ++ y :: post) i o) = true
        · simp only [hwr, if_true, Bool.true_and, List.map_map]
          by_cases hyk : y.d.kind = .case_
          · -- a case member is not wrapped
            have hne : (y.d.kind != .case_) = false := by simp [hyk]
            simp only [hne, Bool.false_eq_true, if_false, List.singleton_append, Entry.updateAt]
            rw [map_split_update pre post y k (wrap1 ∘ fixChoice) _
              (fun x => by simp [Function.comp, wrap1_name, fixChoice_name]) hpre hpost hy]
            simp only [Function.comp, List.map_append, List.map_cons]
            rw [wrap1_of_case (fixChoice y) (by rw [fixChoice_d]; exact hyk), ihy,
              wrap1_of_case (fixChoice (y.updateAt p1 (addImplicit b))) (by rw [fixChoice_d, hyd]; exact hyk)]
          · have hne : (y.d.kind != .case_) = true := by simp [hyk]
            simp only [hne, if_true, List.cons_append, List.nil_append, Entry.updateAt]
            rw [map_split_update pre post y k (wrap1 ∘ fixChoice) _
              (fun x => by simp [Function.comp, wrap1_name, fixChoice_name]) hpre hpost hy]
            simp only [Function.comp, List.map_append, List.map_cons]
            have hk1 : (fixChoice y).d.kind ≠ .case_ := by rw [fixChoice_d]; exact hyk
            have hk2 : (fixChoice (y.updateAt p1 (addImplicit b))).d.kind ≠ .case_ := by rw [fixChoice_d, hyd]; exact hyk
            rw [wrap1_mk _ hk1, wrap1_mk _ hk2]
            have hfn : ((fixChoice y).name == k) = true := by rw [fixChoice_name, hy]; simp
            simp only [Entry.updateAt, List.map_cons, List.map_nil, hfn, if_true, ihy, fixChoice_d, hyd]
        · have hwf : wraps (.mk d (pre ++ y :: post) i o) = false := by simpa using hwr
          simp only [hwf, Bool.false_eq_true, if_false, Bool.false_and, List.singleton_append, Entry.updateAt]
          rw [map_split_update pre post y k fixChoice _ fixChoice_name hpre hpost hy, ihy]
          simp only [List.map_append, List.map_cons]

end Goyang.Lemmas.ConfigNsComm
