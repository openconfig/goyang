import Goyang.Lemmas.TypesDefs
import Goyang.Lemmas.TypesClosure
/-
The executable binding `Spec.Types.bindType` and the binding relation `Spec.Types.Binds` agree
(property C09, `spec_exec_binds_*`).
-/
namespace Goyang.Lemmas.TypesSpecBind
open Goyang.Model Goyang.Spec.Types Goyang.Lemmas.TypesDefs Goyang.Lemmas.TypesClosure Goyang.Lemmas.TypesFuel
open Goyang.Lemmas.RegistryAux

theorem pick_typedef {l : List (Mod × Stmt × List Stmt)} {m : Mod} {td : Stmt} {sc : List Stmt}
    (h : pick l = .typedef m td sc) : l = [(m, td, sc)] := by
  unfold pick at h
  split at h
  · cases h
  · cases h; rfl
  · cases h

theorem pick_of_mem {l : List (Mod × Stmt × List Stmt)} {m : Mod} {td : Stmt} {sc : List Stmt}
    (h : (m, td, sc) ∈ l) : pick l = .typedef m td sc ∨ pick l = .ambiguous := by
  match l, h with
  | [x], h => rw [List.mem_singleton] at h; subst h; exact Or.inl rfl
  | _ :: _ :: _, _ => exact Or.inr rfl

theorem nearestDeclaring_some {name : String} : ∀ {scope : List Stmt} {l : List Stmt},
    nearestDeclaring name scope = some l →
    ∃ pre n up, l = n :: up ∧ scope = pre ++ n :: up ∧ (∀ x ∈ pre, declared x name = []) ∧ declared n name ≠ [] := by
  intro scope
  induction scope with
  | nil => intro l h; simp [nearestDeclaring] at h
  | cons a rest ih =>
    intro l h
    unfold nearestDeclaring at h
    split at h
    · rename_i he
      obtain ⟨pre, n, up, h1, h2, h3, h4⟩ := ih h
      refine ⟨a :: pre, n, up, h1, by rw [h2]; rfl, ?_, h4⟩
      intro x hx
      cases hx with
      | head => exact List.isEmpty_iff.mp he
      | tail _ hx => exact h3 x hx
    · rename_i he
      cases h
      exact ⟨[], a, rest, rfl, rfl, (by intro x hx; cases hx), (by intro h0; rw [h0] at he; exact he rfl)⟩

theorem nearestDeclaring_none {name : String} : ∀ {scope : List Stmt},
    nearestDeclaring name scope = none → ∀ x ∈ scope, declared x name = [] := by
  intro scope
  induction scope with
  | nil => intro _ x hx; cases hx
  | cons a rest ih =>
    intro h x hx
    unfold nearestDeclaring at h
    split at h
    · rename_i he
      cases hx with
      | head => exact List.isEmpty_iff.mp he
      | tail _ hx => exact ih h x hx
    · cases h

theorem nearestDeclaring_of {name : String} {n : Stmt} {up : List Stmt} : ∀ {pre : List Stmt},
    (∀ x ∈ pre, declared x name = []) → declared n name ≠ [] → nearestDeclaring name (pre ++ n :: up) = some (n :: up) := by
  intro pre
  induction pre with
  | nil =>
    intro _ hn
    simp only [List.nil_append, nearestDeclaring]
    rw [if_neg]
    intro he
    exact hn (List.isEmpty_iff.mp he)
  | cons a rest ih =>
    intro hp hn
    simp only [List.cons_append, nearestDeclaring]
    rw [if_pos (by rw [hp a List.mem_cons_self]; rfl)]
    exact ih (fun x hx => hp x (List.mem_cons_of_mem _ hx)) hn

theorem nearestDeclaring_of_none {name : String} : ∀ {scope : List Stmt},
    (∀ x ∈ scope, declared x name = []) → nearestDeclaring name scope = none := by
  intro scope
  induction scope with
  | nil => intro _; rfl
  | cons a rest ih =>
    intro h
    simp only [nearestDeclaring]
    rw [if_pos (by rw [h a List.mem_cons_self]; rfl)]
    exact ih (fun x hx => h x (List.mem_cons_of_mem _ hx))

theorem mem_topLevel {ms : List Mod} {name : String} {m : Mod} {td : Stmt} {sc : List Stmt} :
    (m, td, sc) ∈ topLevel ms name ↔ m ∈ ms ∧ td ∈ declared m.stmt name ∧ sc = [m.stmt] := by
  unfold topLevel
  simp only [List.mem_flatMap, List.mem_map, Prod.mk.injEq]
  constructor
  · rintro ⟨m', hm', td', htd', rfl, rfl, rfl⟩
    exact ⟨hm', htd', rfl⟩
  · rintro ⟨hm, htd, rfl⟩
    exact ⟨m, hm, td, htd, rfl, rfl, rfl⟩

theorem unitOf_inUnit {reg : Registry} {root m : Mod} (h : m ∈ unitOf reg root) : InUnit reg root m := by
  unfold unitOf at h
  obtain ⟨s, hs, hstar⟩ := withSubmodules_sound reg _ m h
  cases hs with
  | head => exact Or.inl hstar
  | tail _ hs =>
    split at hs
    · rename_i b hb
      have hs' : s ∈ (reg.getModule b).toList := hs
      rw [Option.mem_toList] at hs'
      exact Or.inr ⟨b, s, hb, hs', hstar⟩
    · cases hs

/-- **The executable binding is sound**: the typedef `bindType` answers is one the name `Binds` to. -/
theorem bindType_sound (reg : Registry) (root : Mod) (scope : List Stmt) (name : String) (m : Mod) (td : Stmt)
    (sc : List Stmt) (h : bindType reg root scope name = .typedef m td sc) : Binds reg root scope name m td sc := by
  unfold bindType at h
  split at h
  · cases h
  · rename_i hnb
    have hnb' : builtinNames.contains name = false := by simpa using hnb
    simp only at h
    split at h
    · rename_i hloc
      have hlocal : isLocalRef root name = true := hloc
      split at h
      · rename_i n up hnd
        obtain ⟨pre, n', up', h1, h2, h3, h4⟩ := nearestDeclaring_some hnd
        cases h1
        have hl := pick_typedef h
        have hmem : (m, td, sc) ∈ (declared n (splitPrefix name).2).map fun td => (root, td, n :: up) := by
          rw [hl]; exact List.mem_singleton.mpr rfl
        rw [List.mem_map] at hmem
        obtain ⟨td', htd', heq⟩ := hmem
        simp only [Prod.mk.injEq] at heq
        obtain ⟨rfl, rfl, rfl⟩ := heq
        exact Binds.lexical pre n up td' hnb' hlocal h2 h3 htd'
      · rename_i hnd
        have hl := pick_typedef h
        have hmem : (m, td, sc) ∈ topLevel (unitOf reg root) (splitPrefix name).2 := by
          rw [hl]; exact List.mem_singleton.mpr rfl
        obtain ⟨hm, htd, rfl⟩ := mem_topLevel.mp hmem
        have hnone : ∀ x ∈ scope, declared x (baseName name) = [] := by
          cases hq : nearestDeclaring (splitPrefix name).2 scope with
          | none => exact nearestDeclaring_none hq
          | some l =>
            obtain ⟨pre, n', up', h1, _⟩ := nearestDeclaring_some hq
            subst h1
            exact absurd hq (hnd n' up')
        exact Binds.moduleLevel m td hnb' hlocal hnone (unitOf_inUnit hm) htd
    · rename_i hloc
      have hforeign : isLocalRef root name = false := by
        unfold isLocalRef; simpa using hloc
      split at h
      · cases h
      · rename_i i hfil
        have hi : i ∈ root.imports.filter fun i => i.argOf? "prefix" == some (splitPrefix name).1 := by
          rw [hfil]; exact List.mem_singleton.mpr rfl
        rw [List.mem_filter] at hi
        split at h
        · cases h
        · rename_i ext hext
          have hl := pick_typedef h
          have hmem : (m, td, sc) ∈ topLevel (withSubmodules reg [ext]) (splitPrefix name).2 := by
            rw [hl]; exact List.mem_singleton.mpr rfl
          obtain ⟨hm, htd, rfl⟩ := mem_topLevel.mp hmem
          obtain ⟨s, hs, hstar⟩ := withSubmodules_sound reg _ m hm
          rw [List.mem_singleton] at hs
          subst hs
          exact Binds.foreign i s m td hnb' hforeign hi.1 (by simpa using hi.2) hext hstar htd
      · cases h

/-- **The executable binding is complete**: a typedef the name `Binds` to is the one `bindType`
answers, unless `bindType` sees more than one candidate (`ambiguous`: no claim). -/
theorem bindType_complete (reg : Registry) (hid : SeqId reg) (root : Mod) (hroot : root ∈ reg.mods)
    (scope : List Stmt) (name : String) (m : Mod) (td : Stmt) (sc : List Stmt)
    (h : Binds reg root scope name m td sc) :
    bindType reg root scope name = .typedef m td sc ∨ bindType reg root scope name = .ambiguous := by
  unfold bindType
  cases h with
  | lexical pre n up td hnb hlocal hsc hpre htd =>
    have hlocal' : ((splitPrefix name).1 == "" || (splitPrefix name).1 == root.getPrefix) = true := hlocal
    simp only [hnb, Bool.false_eq_true, if_false, hlocal', if_true]
    unfold baseName at hpre htd
    rw [hsc, nearestDeclaring_of hpre (List.ne_nil_of_mem htd)]
    simp only
    exact pick_of_mem (List.mem_map.mpr ⟨td, htd, rfl⟩)
  | moduleLevel m td hnb hlocal hnone hunit htd =>
    have hlocal' : ((splitPrefix name).1 == "" || (splitPrefix name).1 == root.getPrefix) = true := hlocal
    simp only [hnb, Bool.false_eq_true, if_false, hlocal', if_true]
    unfold baseName at hnone htd
    rw [nearestDeclaring_of_none hnone]
    simp only
    exact pick_of_mem (mem_topLevel.mpr ⟨(mem_unitOf_iff reg hid root hroot m).mpr hunit, htd, rfl⟩)
  | foreign i ext m td hnb hforeign hi hp hf hstar htd =>
    have hforeign' : ((splitPrefix name).1 == "" || (splitPrefix name).1 == root.getPrefix) = false := hforeign
    simp only [hnb, Bool.false_eq_true, if_false, hforeign']
    unfold baseName at htd
    have hmemf : i ∈ root.imports.filter fun i => i.argOf? "prefix" == some (splitPrefix name).1 :=
      List.mem_filter.mpr ⟨hi, by rw [hp]; simp⟩
    split
    · rename_i hnil
      rw [hnil] at hmemf
      cases hmemf
    · rename_i i' hone
      rw [hone, List.mem_singleton] at hmemf
      subst hmemf
      rw [hf]
      simp only
      exact pick_of_mem (mem_topLevel.mpr
        ⟨withSubmodules_complete reg hid [ext] (by intro s hs; rw [List.mem_singleton] at hs; rw [hs]; exact findModule_mem hf)
          ext (List.mem_singleton.mpr rfl) m hstar, htd, rfl⟩)
    · exact Or.inr rfl

/-! ## Discharging the standing hypotheses on a concrete schema through the executable binding -/

/-- What `bindType` answers is the only typedef the name binds to. -/
theorem bindType_unique {reg : Registry} (hid : SeqId reg) {root : Mod} (hroot : root ∈ reg.mods)
    {scope : List Stmt} {name : String} {m : Mod} {td : Stmt} {sc : List Stmt}
    (h : bindType reg root scope name = .typedef m td sc) {m' : Mod} {td' : Stmt} {sc' : List Stmt}
    (hb : Binds reg root scope name m' td' sc') : m' = m ∧ td' = td ∧ sc' = sc := by
  rcases bindType_complete reg hid root hroot scope name m' td' sc' hb with h1 | h1
  · rw [h] at h1
    cases h1
    exact ⟨rfl, rfl, rfl⟩
  · rw [h] at h1
    cases h1

theorem unambiguousAt_of_bind {reg : Registry} (hid : SeqId reg) {root : Mod} (hroot : root ∈ reg.mods)
    {scope : List Stmt} {t : Stmt} {m : Mod} {td : Stmt} {sc : List Stmt}
    (h : bindType reg root scope t.arg = .typedef m td sc) : UnambiguousAt reg (root, scope, t) := by
  intro m1 td1 sc1 m2 td2 sc2 h1 h2
  obtain ⟨a1, a2, a3⟩ := bindType_unique hid hroot h h1
  obtain ⟨b1, b2, b3⟩ := bindType_unique hid hroot h h2
  exact ⟨a1.trans b1.symm, a2.trans b2.symm, a3.trans b3.symm⟩

theorem unambiguousAt_of_builtin {reg : Registry} {root : Mod} {scope : List Stmt} {t : Stmt}
    (h : builtinNames.contains t.arg = true) : UnambiguousAt reg (root, scope, t) := by
  intro m1 td1 sc1 m2 td2 sc2 h1 _
  rw [Goyang.Lemmas.Types.binds_not_builtin h1] at h
  cases h

/-- The sites a type statement bound by `bindType` uses: its typedef's type statement and its member types. -/
theorem uses_of_bind {reg : Registry} (hid : SeqId reg) {root : Mod} (hroot : root ∈ reg.mods)
    {scope : List Stmt} {t : Stmt} {m : Mod} {td : Stmt} {sc : List Stmt} {tt : Stmt}
    (hb : bindType reg root scope t.arg = .typedef m td sc) (htt : td.one? "type" = some tt)
    {x : Site} (h : Uses reg (root, scope, t) x) :
    x = (m, td :: sc, tt) ∨ ∃ ut ∈ t.all "type", x = (root, t :: scope, ut) := by
  cases h with
  | base m' td' sc' tt' hbind htt' =>
    obtain ⟨rfl, rfl, rfl⟩ := bindType_unique hid hroot hb hbind
    rw [htt] at htt'
    cases htt'
    exact Or.inl rfl
  | member ut hut => exact Or.inr ⟨ut, hut, rfl⟩

/-- … and those of one that names a built-in type: its member types. -/
theorem uses_of_builtin {reg : Registry} {root : Mod} {scope : List Stmt} {t : Stmt}
    (hb : builtinNames.contains t.arg = true) {x : Site} (h : Uses reg (root, scope, t) x) :
    ∃ ut ∈ t.all "type", x = (root, t :: scope, ut) := by
  cases h with
  | base m' td' sc' tt' hbind htt' =>
    rw [Goyang.Lemmas.Types.binds_not_builtin hbind] at hb
    cases hb
  | member ut hut => exact ⟨ut, hut, rfl⟩

end Goyang.Lemmas.TypesSpecBind
