import Goyang.Lemmas.Session
import Goyang.Lemmas.SessionCached
import Goyang.Lemmas.RegistryAux
/-
Property C18: the kit of the real resolver model (`realKit plug`), for which the pure machine of
Model/SessionCached.lean IS `Goyang.Model.Session` (`pstep_real`), and its three size laws.

What the real kit stores: the link phase (`linkAll reg`: the visited set and the link errors - the
frozen `processAll` is re-stated with that phase as a parameter, `processAllL`, `rfl`-checked), the
results of the identity and typedef passes of `plug reg`, and - per type statement (keyed by the
identity of its AST node, `nodeId`: module and position, as Go keeps the memo IN the node), stamped
with the generation - what `(plug reg).tres.resolve` answered for it; the conversion is handed a
`TypeRes` that looks into that memo first.
What Go converts on the fly outside the contract (`earlyRead`) has no model: a dummy answer, which the
pure machine never compares (it answers `unprocessed`).
-/
namespace Goyang.Lemmas.SessionCachedReal
open Goyang.Model Goyang.Model.Session Goyang.Model.SessionCached Goyang.Lemmas.SessionCached

/-- `processAll` with the result of the link phase as a parameter (copy of Model/Process.lean). -/
def processAllL (L : List Nat × List Err) (reg : Registry) (opts : Opts) (plug : Plug) : Outcome :=
  -- process(): linking, identities, typedefs
  let (linked, lerrs) := L
  let errs := lerrs ++ plug.identityErrs reg ++ plug.typedefErrs reg
  if !errs.isEmpty then { errors := canonErrs errs, forest := {}, reg := reg } else
  let env : Env := { reg := reg, opts := opts, tres := plug.tres, linked := linked }
  let fuel := entryFuel reg
  let mods := reg.distinctModules
  let subs := reg.distinctSubs
  -- ToEntry of every module, then every submodule (the cache makes the order matter only through
  -- the merged-submodule bookkeeping)
  -- in key order of the two maps (a module bound under two keys is converted once: the cache)
  let convOrder : List Mod :=
    let keys (km : KeyMap) := (sortBy (fun (a b : String × Nat) => a.1 < b.1) km).filterMap fun kv => reg.byId kv.2
    keys reg.modules ++ keys reg.subModules
  let st : TState := convOrder.foldl (fun st m => (toEntry env fuel m [] m.stmt [] st).2) {}
  let forest : Forest := { trees := st.cache }
  let errs := (forest.trees.map fun (_, e) => e.allErrors).flatten
  if !errs.isEmpty then { errors := canonErrs errs, forest := forest, reg := reg } else
  -- pending augments of every tree: ToEntry of each augment statement, parent = the module entry
  let pending := (mods ++ subs).map fun m => (m.seq, ((st.augs.find? (·.1 == m.seq)).map (·.2)).getD [])
  let s : PState := { forest := forest, pending := pending }
  -- the loop visits every key of both maps, in (full name, kind) order
  let keyed : List Mod := (reg.modules ++ reg.subModules).filterMap fun kv => reg.byId kv.2
  let order := sortBy (fun (a b : Mod) =>
      if a.fullName != b.fullName then a.fullName < b.fullName else !a.isSub && b.isSub) keyed
  let total := pending.foldl (fun n p => n + p.2.length) 0
  let s := augmentPhase reg (order.map (·.seq)) (total + 2) s
  let errs := (s.forest.trees.map fun (_, e) => e.allErrors).flatten
  -- deviations, once per module name, keys in sorted order (modules, then submodules)
  let devOrder : List Mod :=
    let keys (km : KeyMap) := (sortBy (fun (a b : String × Nat) => a.1 < b.1) km).filterMap fun kv => reg.byId kv.2
    keys reg.modules ++ keys reg.subModules
  let (forest, derrs, _) := devOrder.foldl (fun (acc : Forest × List Err × List String) m =>
    let (f, errs, done) := acc
    if done.contains m.name then acc else
    let devs := (m.stmt.all "deviation").map fun dv =>
      (dv, (dv.all "deviate").filterMap fun ds =>
        if deviateKinds.contains ds.arg then some (ds.arg, (toEntry env fuel m [dv, m.stmt] ds [] {}).1) else none)
    let (f, es) := applyDeviations reg opts m devs f
    (f, errs ++ es, done ++ [m.name])) (s.forest, [], [])
  { errors := canonErrs (errs ++ derrs), forest := forest, reg := reg }

attribute [local irreducible] leftoverRounds in
theorem processAll_eq_L (reg : Registry) (opts : Opts) (plug : Plug) :
    processAll reg opts plug = processAllL (linkAll reg) reg opts plug := rfl

/-! ### the adds of one text -/

/-- The adds of the statements of a text in order; stops at the first refusal with the tables as
they are then (Go: the loop over `nodes` in `Modules.Parse`). -/
def dirtyFold (r : Registry) : List Stmt → Registry × Option Reject
  | [] => (r, none)
  | s :: ss =>
    match addTop r s with
    | .ok r' => dirtyFold r' ss
    | .error w => (r, some w)

/-- A raw text: the front end of the model answers for the whole text (its adds are not visible
one by one: a refused text shows the tables as they were). -/
def dirtyOfText (reg : Registry) : Registry × LoadResult → Registry × Option Reject
  | (r, .accepted) => (r, none)
  | (_, res) => (reg, some (.text res))

def dirty (reg : Registry) : Src → Registry × Option Reject
  | .stmts f buildOk => if !buildOk then (reg, some .build) else dirtyFold reg f.stmts
  | .text name text => dirtyOfText reg (loadText reg name text)

/-- The `type` statements at and below `s`, each with its ancestors (nearest first). -/
def typeStmts : Nat → List Stmt → Stmt → List (List Stmt × Stmt)
  | 0, _, _ => []
  | fuel + 1, anc, s =>
    (if s.kw == "type" then [(anc, s)] else []) ++ (s.subs.map (typeStmts fuel (s :: anc))).flatten

/-- The arguments `TypeRes.resolve` is called with: registry, root module, ancestors, statement. -/
abbrev TyArgs := Registry × Mod × List Stmt × Stmt

def typeArgsOf (reg : Registry) (m : Mod) : List TyArgs :=
  (typeStmts (stmtCount m.stmt + 1) [] m.stmt).map fun p => (reg, m, p.1, p.2)

@[reducible] def realKit (plug : Registry → Plug) : Kit where
  Reg := Registry
  Opts := Opts
  Src := Src
  Rej := Reject
  Outc := Outcome
  Key := String
  Path := String
  Ans := Option Loc
  Links := List Nat × List Err
  Ids := (Registry → List Err) × (Registry → List Err)
  TyKey := TyArgs
  TyVal := Option TypeInfo × List Err
  Early := Unit
  -- Go keeps the memo in the AST node of the type statement: the node's identity (Entry.lean `nodeId`)
  keyEq := fun a b => nodeId a.2.1 a.2.2.2 == nodeId b.2.1 b.2.2.2
  loadDirty := dirty
  hasModule := fun reg key => (reg.getModule key).isSome
  size := fun reg => reg.mods.length
  link := linkAll
  linksNone := ([], [])
  idents := fun reg _ => ((plug reg).identityErrs, (plug reg).typedefErrs)
  idsNone := (fun _ => [], fun _ => [])
  resolveTy := fun reg _ _ k => (plug reg).tres.resolve k.1 k.2.1 k.2.2.1 k.2.2.2
  -- every type statement of every loaded module (Go: those the conversions reach)
  touched := fun reg => (reg.mods.map (typeArgsOf reg)).flatten
  touchedEarly := fun reg key =>
    match reg.getModule key with
    | some m => typeArgsOf reg m
    | none => []
  build := fun reg opts L I ty =>
    processAllL L reg opts { tres := ⟨fun r m anc t => ty (r, m, anc, t)⟩, identityErrs := I.1, typedefErrs := I.2 }
  osize := fun o => o.reg.mods.length
  hasTree := fun reg o key =>
    match reg.getModule key with
    | some m => (o.forest.tree? m.seq).isSome
    | none => false
  find := fun reg o key path =>
    match reg.getModule key with
    | some m =>
      let (loc, forest) := Goyang.Model.find reg o.forest (m.seq, []) m.seq path
      (loc, { o with forest := forest })
    | none => (none, o)
  earlyRead := fun _ _ _ _ _ _ _ _ => (none, ())

/-- A run from nothing of the real kit is `processAll reg opts (plug reg)`. -/
theorem processAll_real (plug : Registry → Plug) (reg : Registry) (opts : Opts) :
    (realKit plug).processAll reg opts = processAll reg opts (plug reg) := by
  -- unfold the kit's side only: `rfl` on the bare goal would open `processAllL` first
  rw [processAll_eq_L, Kit.processAll]

theorem dirtyFold_tryLoad (stmts : List Stmt) (r : Registry) :
    verdict (dirtyFold r stmts) = stmts.foldlM addTop r := by
  induction stmts generalizing r with
  | nil => rfl
  | cons s ss ih =>
    rw [List.foldlM_cons]
    unfold dirtyFold
    cases hs : addTop r s with
    | ok r' => simp only [bind, Except.bind]; exact ih r'
    | error e => rfl

theorem add_len {r r' : Registry} {s : Stmt} (h : r.add s = .ok r') : r.mods.length ≤ r'.mods.length := by
  rw [RegistryAux.add_mods h, List.length_append]
  exact Nat.le_add_right _ _

theorem foldlM_add_len (stmts : List Stmt) (r r' : Registry) (h : stmts.foldlM (fun r s => r.add s) r = .ok r') :
    r.mods.length ≤ r'.mods.length := by
  induction stmts generalizing r with
  | nil => rw [List.foldlM_nil] at h; cases h; exact Nat.le_refl _
  | cons s ss ih =>
    rw [List.foldlM_cons] at h
    cases hs : r.add s with
    | error e => rw [hs] at h; simp only [bind, Except.bind] at h; cases h
    | ok r1 =>
      rw [hs] at h
      exact Nat.le_trans (add_len hs) (ih r1 h)

attribute [local irreducible] Goyang.Model.loadText

/-- `Modules.Parse` of the real kit is `tryLoadSrc`. -/
theorem tryLoad_real (plug : Registry → Plug) (reg : Registry) (src : Src) :
    (realKit plug).tryLoad reg src = tryLoadSrc reg src := by
  cases src with
  | stmts f ok =>
    cases ok with
    | false => rfl
    | true => exact dirtyFold_tryLoad f.stmts reg
  | text name text =>
    show verdict (dirtyOfText reg (loadText reg name text)) = ofLoadText (loadText reg name text)
    generalize loadText reg name text = p
    obtain ⟨r, res⟩ := p
    cases res <;> rfl

/-! ### the pure machine of the real kit is the session machine -/

def toP (plug : Registry → Plug) (s : Session) : PState (realKit plug) := { reg := s.reg, opts := s.opts, cache := s.cache }

def embOp (plug : Registry → Plug) : Goyang.Model.Op → SessionCached.Op (realKit plug)
  | .load src => .load src
  | .process => .process
  | .read key path => .read key path

def embOut (plug : Registry → Plug) : Goyang.Model.Out → SessionCached.Out (realKit plug)
  | .accepted => .accepted
  | .rejected w => .rejected w
  | .processed o => .processed o
  | .found loc => .found loc
  | .noModule => .noModule
  | .unprocessed => .unprocessed

theorem pstep_real (plug : Registry → Plug) (s : Session) (op : Goyang.Model.Op) :
    pstep (realKit plug) (toP plug s) (embOp plug op) =
      (toP plug (Session.step plug s op).1, embOut plug (Session.step plug s op).2) := by
  cases op with
  | load src =>
    simp only [pstep, embOp, toP, Session.step, tryLoad_real]
    cases tryLoadSrc s.reg src <;> rfl
  | process =>
    simp only [pstep, embOp, toP, Session.step, processAll_real]
    rfl
  | read key path =>
    cases hm : s.reg.getModule key with
    | none => simp only [pstep, embOp, toP, Session.step, hm, Option.isSome_none, Bool.not_false, if_true]; rfl
    | some m =>
      cases hc : s.cache with
      | none =>
        simp only [pstep, embOp, toP, Session.step, hm, hc, Option.isSome_some, Bool.not_true, Bool.false_eq_true, if_false]
        rfl
      | some o =>
        by_cases hlen : (o.reg.mods.length != s.reg.mods.length) = true
        · simp only [pstep, embOp, toP, Session.step, hm, hc, hlen, Option.isSome_some, Bool.not_true, Bool.false_eq_true,
            if_false, if_true]
          rfl
        · cases ht : o.forest.tree? m.seq with
          | none =>
            simp only [pstep, embOp, toP, Session.step, hm, hc, hlen, ht, Option.isSome_some, Option.isSome_none, Bool.not_true,
              Bool.not_false, Bool.false_eq_true, if_false, if_true]
            rfl
          | some t =>
            simp only [pstep, embOp, toP, Session.step, hm, hc, hlen, ht, Option.isSome_some, Bool.not_true,
              Bool.false_eq_true, if_false]
            rfl

theorem prun_real (plug : Registry → Plug) (h : List Goyang.Model.Op) (s : Session) :
    prunFrom (realKit plug) (toP plug s) (h.map (embOp plug)) =
      (toP plug (Session.runFrom plug s h).1, (Session.runFrom plug s h).2.map (embOut plug)) := by
  induction h generalizing s with
  | nil => rfl
  | cons op ops ih =>
    rw [List.map_cons, prunFrom_cons, pstep_real, ih, Goyang.Lemmas.Session.runFrom_cons]
    rfl

theorem embOp_isRead (plug : Registry → Plug) (op : Goyang.Model.Op) : (embOp plug op).isRead = op.isRead := by
  cases op <;> rfl

theorem embOut_isReadOut (plug : Registry → Plug) (o : Goyang.Model.Out) : (embOut plug o).isReadOut = o.isReadOut := by
  cases o <;> rfl

theorem filter_map_embOut (plug : Registry → Plug) (l : List Goyang.Model.Out) :
    (l.map (embOut plug)).filter (fun o => !o.isReadOut) = (l.filter (fun o => !o.isReadOut)).map (embOut plug) := by
  induction l with
  | nil => rfl
  | cons o os ih =>
    simp only [List.map_cons, List.filter_cons, embOut_isReadOut, ih]
    split <;> rfl

/-! ### the laws -/

theorem processAllL_reg (L : List Nat × List Err) (reg : Registry) (opts : Opts) (plug : Plug) :
    (processAllL L reg opts plug).reg = reg := by
  unfold processAllL
  simp only []
  split
  · rfl
  · split <;> rfl

theorem laws_real (plug : Registry → Plug) : Laws (realKit plug) where
  grow := fun r src r' h =>
    have ⟨stmts, hs⟩ := Goyang.Lemmas.Session.tryLoadSrc_adds r r' src ((tryLoad_real plug r src).symm.trans h)
    foldlM_add_len stmts r r' hs
  osize_run := fun reg opts => Nat.le_of_eq
    ((congrArg (fun o : Outcome => o.reg.mods.length) (processAll_real plug reg opts)).trans
      (by rw [processAll_eq_L, processAllL_reg]))
  osize_find := fun reg o key path => by
    show (match reg.getModule key with
      | some m => ((Goyang.Model.find reg o.forest (m.seq, []) m.seq path).1,
          ({ o with forest := (Goyang.Model.find reg o.forest (m.seq, []) m.seq path).2 } : Outcome))
      | none => (none, o)).2.reg.mods.length = o.reg.mods.length
    cases reg.getModule key <;> rfl

end Goyang.Lemmas.SessionCachedReal
