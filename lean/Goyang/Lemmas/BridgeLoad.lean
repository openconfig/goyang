import Goyang.Lemmas.Bridge
import Goyang.Lemmas.BridgeRegistry
import Goyang.Model.Load
/-
Bridge lemmas: the two hypotheses on the registry that the bridge corollaries keep — `Fuel.LoadedShape`
and `ModsAreModules` — hold of every registry that loading from raw text produces
(`Model.loadText` / `loadTexts` = `Modules.Parse`: generic parser, AST builder, the check that every
top-level statement is a module or submodule, `Registry.add`), whatever the texts are and whichever
of them are rejected.
-/
set_option linter.unusedVariables false
open Goyang.Lemmas.RegistryAux (add_mods)
namespace Goyang.Lemmas.Bridge
open Goyang.Model

theorem modsAreModules_add {r r' : Registry} {s : Stmt} (h : ModsAreModules r) (hs : isModKw s = true)
    (ha : r.add s = .ok r') : ModsAreModules r' := by
  intro m hm
  rw [add_mods ha] at hm
  rcases List.mem_append.mp hm with h1 | h1
  · exact h m h1
  · simp only [List.mem_singleton] at h1; subst h1; exact hs

/-- Adding a list of module / submodule statements one after the other (the loop of `Modules.Parse`). -/
theorem foldlM_add_inv : ∀ (stmts : List Stmt) (r r' : Registry), stmts.foldlM (fun r s => r.add s) r = .ok r' →
    TablesOK r → ModsAreModules r → (∀ s ∈ stmts, isModKw s = true) → TablesOK r' ∧ ModsAreModules r'
  | [], r, r', h, h1, h2, _ => by
    simp only [List.foldlM_nil, pure, Except.pure, Except.ok.injEq] at h
    subst h; exact ⟨h1, h2⟩
  | s :: rest, r, r', h, h1, h2, hk => by
    simp only [List.foldlM_cons, bind, Except.bind] at h
    cases ha : r.add s with
    | error e => rw [ha] at h; cases h
    | ok r1 =>
      rw [ha] at h
      exact foldlM_add_inv rest r1 r' h (tablesOK_add h1 ha) (modsAreModules_add h2 (hk s (by simp)) ha)
        (fun x hx => hk x (by simp [hx]))

/-- A statement accepted by the top-level check of `loadText` is a module / submodule statement of
the resolver layers. -/
theorem toStmt?_kw (file : String) (ps : Parse.Statement) (s : Stmt) (h : toStmt? file ps = some s)
    (hk : (ps.keyword == Ast.kwModule || ps.keyword == Ast.kwSubmodule) = true) : isModKw s = true := by
  obtain ⟨kw, ha, arg, f, line, col, subs⟩ := ps
  unfold toStmt? at h
  simp only [Option.bind_eq_bind] at h
  cases hk1 : bytesToString? kw with
  | none => simp [hk1] at h
  | some k =>
    cases hk2 : bytesToString? arg with
    | none => simp [hk1, hk2] at h
    | some a =>
      cases hk3 : toStmt?.toStmtL? file subs with
      | none => simp [hk1, hk2, hk3] at h
      | some ss =>
        simp only [hk1, hk2, hk3, Option.bind_some, Option.some.injEq] at h
        subst h
        simp only [Bool.or_eq_true, beq_iff_eq] at hk
        simp only [isModKw, Stmt.kw, Bool.or_eq_true, beq_iff_eq]
        rcases hk with hk | hk
        · subst hk
          have : bytesToString? Ast.kwModule = some "module" := by decide
          rw [this] at hk1; left; exact (Option.some.inj hk1).symm
        · subst hk
          have : bytesToString? Ast.kwSubmodule = some "submodule" := by decide
          rw [this] at hk1; right; exact (Option.some.inj hk1).symm

theorem toStmtL?_kw (file : String) : ∀ (forest : List Parse.Statement) (stmts : List Stmt),
    toStmt?.toStmtL? file forest = some stmts →
    (forest.all fun s => s.keyword == Ast.kwModule || s.keyword == Ast.kwSubmodule) = true →
    ∀ s ∈ stmts, isModKw s = true
  | [], stmts, h, _ => by
    simp only [toStmt?.toStmtL?, Option.some.injEq] at h
    subst h; intro s hs; cases hs
  | ps :: rest, stmts, h, hk => by
    unfold toStmt?.toStmtL? at h
    simp only [Option.bind_eq_bind] at h
    cases h1 : toStmt? file ps with
    | none => simp [h1] at h
    | some x =>
      cases h2 : toStmt?.toStmtL? file rest with
      | none => simp [h1, h2] at h
      | some xs =>
        simp only [h1, h2, Option.bind_some, Option.some.injEq] at h
        subst h
        simp only [List.all_cons, Bool.and_eq_true] at hk
        intro s hs
        rcases List.mem_cons.mp hs with hs | hs
        · subst hs; exact toStmt?_kw file ps _ h1 hk.1
        · exact toStmtL?_kw file rest xs h2 hk.2 s hs

/-- One `Modules.Parse` keeps both registry invariants, accepted or rejected. -/
theorem loadText_inv (reg : Registry) (name text : List UInt8) (h1 : TablesOK reg) (h2 : ModsAreModules reg) :
    TablesOK (loadText reg name text).1 ∧ ModsAreModules (loadText reg name text).1 := by
  unfold loadText
  split
  · exact ⟨h1, h2⟩
  · exact ⟨h1, h2⟩
  · rename_i forest _
    split
    · exact ⟨h1, h2⟩
    · split
      · exact ⟨h1, h2⟩
      · rename_i hall
        split
        · exact ⟨h1, h2⟩
        · rename_i fname _
          split
          · exact ⟨h1, h2⟩
          · rename_i stmts hst
            split
            · rename_i r hfold
              refine foldlM_add_inv stmts reg r hfold h1 h2 (toStmtL?_kw fname forest stmts hst ?_)
              simp only [Bool.not_eq_true', Bool.not_eq_false] at hall
              simpa using hall
            · exact ⟨h1, h2⟩

/-- **Every registry loaded from raw texts has the loaded shape and holds module / submodule
statements only.** -/
theorem loadTexts_inv (texts : List (List UInt8 × List UInt8)) :
    TablesOK (loadTexts texts).1 ∧ ModsAreModules (loadTexts texts).1 := by
  unfold loadTexts
  refine ListAux.foldl_inv (fun acc : Registry × List LoadResult => TablesOK acc.1 ∧ ModsAreModules acc.1) _ _ _
    ⟨tablesOK_empty, fun m hm => by cases hm⟩ ?_
  rintro ⟨r, res⟩ nt _ ⟨h1, h2⟩
  exact loadText_inv r nt.1 nt.2 h1 h2

theorem loadedShape_loadTexts (texts : List (List UInt8 × List UInt8)) : Fuel.LoadedShape (loadTexts texts).1 :=
  loadedShape_of_tablesOK (loadTexts_inv texts).1

theorem modsAreModules_loadTexts (texts : List (List UInt8 × List UInt8)) : ModsAreModules (loadTexts texts).1 :=
  (loadTexts_inv texts).2

end Goyang.Lemmas.Bridge
