import Goyang.Spec.Find
/-
One turn of the step loop of `Entry.Find` (`walkParts`) as a function, `turn`, and the loop as its
iteration (`walkParts_cons`).  Imports the specification of C17 only, so that every layer that
follows a lookup through the trees can start from here.
-/
namespace Goyang.Lemmas.Find
open Goyang.Model Goyang.Spec.Find

theorem walkParts_none (parts : List String) (root : Entry) : walkParts parts root none = (none, root) := by
  cases parts <;> rfl

/-- One turn of the step loop of `Entry.Find` at the node `e` found at `p`: where it goes on (`none`:
nothing is found) and in which tree (an absent rpc input / output is created on the way). -/
def turn (part : String) (root : Entry) (p : Path) (e : Entry) : Option Path × Entry :=
  if part == "." then (some p, root)
  else if part == ".." then (if p.isEmpty then none else some p.dropLast, root)
  else if e.d.isRpc then
    if stripPrefix part == "input" then
      (some (p ++ [.input]), if e.inp.isEmpty then root.updateAt p (addImplicit true) else root)
    else if stripPrefix part == "output" then
      (some (p ++ [.output]), if e.out.isEmpty then root.updateAt p (addImplicit false) else root)
    else (none, root)
  else if stripPrefix part == "." then (some p, root)
  else if stripPrefix part == "" || stripPrefix part == ".." then (none, root)
  else ((e.child? (stripPrefix part)).map fun _ => p ++ [.child (stripPrefix part)], root)

theorem walkParts_cons {root e : Entry} {p : Path} (he : root.getAt p = some e) (part : String) (rest : List String) :
    walkParts (part :: rest) root (some p) = walkParts rest (turn part root p e).2 (turn part root p e).1 := by
  rw [walkParts, he]
  -- the rest of the walk moves into the branches of `turn`
  show _ = (fun r : Option Path × Entry => walkParts rest r.2 r.1) (turn part root p e)
  simp only [turn, apply_ite (fun r : Option Path × Entry => walkParts rest r.2 r.1)]
  cases e.child? (stripPrefix part)
  all_goals
    simp only [walkParts_none, Option.map_some, Option.map_none]
    rfl

theorem turn_grown {root e : Entry} {p : Path} (he : root.getAt p = some e) (part : String) :
    Grown root (turn part root p e).2 := by
  unfold turn
  cases part == "." with
  | true => exact .refl _
  | false =>
  cases part == ".." with
  | true => exact .refl _
  | false =>
  cases hr : e.d.isRpc with
  | false => cases stripPrefix part == "." <;> cases (stripPrefix part == "" || stripPrefix part == "..") <;> exact .refl _
  | true =>
    cases stripPrefix part == "input" with
    | true =>
      cases hi : e.inp.isEmpty with
      | true => exact .step (.input root p e he hr (List.isEmpty_iff.1 hi)) (.refl _)
      | false => exact .refl _
    | false =>
    cases stripPrefix part == "output" with
    | true =>
      cases hi : e.out.isEmpty with
      | true => exact .step (.output root p e he hr (List.isEmpty_iff.1 hi)) (.refl _)
      | false => exact .refl _
    | false => exact .refl _
end Goyang.Lemmas.Find
