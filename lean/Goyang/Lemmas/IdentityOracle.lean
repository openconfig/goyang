import Goyang.Lemmas.IdentityLink
/-
Helper lemmas for C11, part 6: the whole of `resolveIdentities`, in terms of the model's own edge
relation `MEdge`, and its independence of the map iteration order without any hypothesis on the
schema.

* The direct-children loop reports `order.flatMap baseErrs`, the closure loop reports a cycle for
  exactly the visited entries that lie below themselves, once each (`resolveIdentities_full`, the
  one analysis of the whole function; `resolveIdentities_model` adds what linked includes give).
* The keys of `ms.Modules` are distinct (`KeysDistinct`), so `sort.Strings(keys)` has one possible
  result: the dictionary loop visits the modules in the same order under every oracle, `buildDict`
  is the same function, and under two oracles the error lists are permutations of each other.
-/
namespace Goyang.Lemmas.Identity
open Goyang.Lemmas.ListAux (eq_of_nodup_map nodup_of_map)
open Goyang.Model Goyang.Model.Identity
open Goyang.Spec.Identity (Reach)

/-- Edge as the model sees it: dictionary entry `i` has a base statement that `findIdentityBase`
resolves to dictionary entry `b`. -/
def MEdge (r : Registry) (dict : Dict) (b i : Vtx) : Prop :=
  ∃ e ∈ dict, e.vtx = i ∧ ∃ eb, Except.ok eb ∈ resolvedBases r dict e ∧ eb.vtx = b

def baseErrs (r : Registry) (dict : Dict) (e : DEntry) : List Err :=
  (resolvedBases r dict e).filterMap fun rb => match rb with | .error x => some x | .ok _ => none

def directStep (e : DEntry) (acc : (Vtx → List Vtx) × List Err) (rb : Except Err DEntry) :
    (Vtx → List Vtx) × List Err :=
  match rb with
  | .error err => (acc.1, acc.2 ++ [err])
  | .ok b => (addDirect acc.1 b.vtx e.vtx, acc.2)

theorem directOne_eq (r : Registry) (dict : Dict) (acc : (Vtx → List Vtx) × List Err) (e : DEntry) :
    directOne r dict acc e = (resolvedBases r dict e).foldl (directStep e) acc := rfl

structure StepPost (e : DEntry) (rbs : List (Except Err DEntry)) (acc res : (Vtx → List Vtx) × List Err) : Prop where
  mono : ∀ x j, j ∈ acc.1 x → j ∈ res.1 x
  added : ∀ eb, Except.ok eb ∈ rbs → e.vtx ∈ res.1 eb.vtx
  only : ∀ x j, j ∈ res.1 x → j ∈ acc.1 x ∨ (j = e.vtx ∧ ∃ eb, Except.ok eb ∈ rbs ∧ eb.vtx = x)
  errs : res.2 = acc.2 ++ rbs.filterMap fun rb => match rb with | .error x => some x | .ok _ => none

theorem directFold_post (e : DEntry) : ∀ (rbs : List (Except Err DEntry)) (acc : (Vtx → List Vtx) × List Err),
    StepPost e rbs acc (rbs.foldl (directStep e) acc) := by
  intro rbs
  induction rbs with
  | nil => intro acc; exact ⟨fun _ _ h => h, by simp, fun _ _ h => Or.inl h, by simp⟩
  | cons rb rbs ih =>
    intro acc
    have p := ih (directStep e acc rb)
    simp only [List.foldl_cons]
    cases rb with
    | error err =>
      simp only [directStep] at p ⊢
      refine ⟨p.mono, ?_, ?_, ?_⟩
      · intro eb heb
        rcases List.mem_cons.mp heb with h | h
        · cases h
        · exact p.added eb h
      · intro x j hj
        rcases p.only x j hj with h | ⟨h1, eb, h2, h3⟩
        · exact Or.inl h
        · exact Or.inr ⟨h1, eb, List.mem_cons_of_mem _ h2, h3⟩
      · rw [p.errs]; simp
    | ok b =>
      simp only [directStep] at p ⊢
      refine ⟨?_, ?_, ?_, ?_⟩
      · intro x j hj
        apply p.mono
        unfold addDirect
        by_cases hx : x = b.vtx
        · simp [hx]; exact Or.inl (hx ▸ hj)
        · simp [hx]; exact hj
      · intro eb heb
        rcases List.mem_cons.mp heb with h | h
        · cases h
          apply p.mono
          simp [addDirect]
        · exact p.added eb h
      · intro x j hj
        rcases p.only x j hj with h | ⟨h1, eb, h2, h3⟩
        · unfold addDirect at h
          by_cases hx : x = b.vtx
          · simp only [hx, if_true, List.mem_append, List.mem_singleton] at h
            rcases h with h | h
            · exact Or.inl (hx ▸ h)
            · exact Or.inr ⟨h, b, List.mem_cons_self .., hx.symm⟩
          · simp only [hx, if_false] at h
            exact Or.inl h
        · exact Or.inr ⟨h1, eb, List.mem_cons_of_mem _ h2, h3⟩
      · rw [p.errs]; simp

structure DirectPost (r : Registry) (dict : Dict) (order : List DEntry)
    (acc res : (Vtx → List Vtx) × List Err) : Prop where
  mono : ∀ x j, j ∈ acc.1 x → j ∈ res.1 x
  added : ∀ e ∈ order, ∀ eb, Except.ok eb ∈ resolvedBases r dict e → e.vtx ∈ res.1 eb.vtx
  only : ∀ x j, j ∈ res.1 x → j ∈ acc.1 x ∨
    ∃ e ∈ order, e.vtx = j ∧ ∃ eb, Except.ok eb ∈ resolvedBases r dict e ∧ eb.vtx = x
  errs : res.2 = acc.2 ++ order.flatMap (baseErrs r dict)

theorem directAll_post (r : Registry) (dict : Dict) : ∀ (order : List DEntry) (acc : (Vtx → List Vtx) × List Err),
    DirectPost r dict order acc (order.foldl (directOne r dict) acc) := by
  intro order
  induction order with
  | nil => intro acc; exact ⟨fun _ _ h => h, by simp, fun _ _ h => Or.inl h, by simp⟩
  | cons e order ih =>
    intro acc
    have p1 := directFold_post e (resolvedBases r dict e) acc
    rw [← directOne_eq] at p1
    have p2 := ih (directOne r dict acc e)
    simp only [List.foldl_cons]
    refine ⟨fun x j h => p2.mono x j (p1.mono x j h), ?_, ?_, ?_⟩
    · intro e' he' eb heb
      rcases List.mem_cons.mp he' with rfl | he'
      · exact p2.mono _ _ (p1.added eb heb)
      · exact p2.added e' he' eb heb
    · intro x j hj
      rcases p2.only x j hj with h | ⟨e', he', h1, h2⟩
      · rcases p1.only x j h with h | ⟨h1, eb, h2, h3⟩
        · exact Or.inl h
        · exact Or.inr ⟨e, List.mem_cons_self .., h1.symm, eb, h2, h3⟩
      · exact Or.inr ⟨e', List.mem_cons_of_mem _ he', h1, h2⟩
    · rw [p2.errs, p1.errs, List.append_assoc]
      simp [baseErrs]

theorem directAll_inv (r : Registry) (dict : Dict) (order : List DEntry) (hp : order.Perm dict)
    (vals0 : Vtx → List Vtx) (h0 : ∀ x j, j ∈ vals0 x → Below (MEdge r dict) x j) :
    Inv (MEdge r dict) (directAll r dict order vals0).1 ∧
    (directAll r dict order vals0).2 = order.flatMap (baseErrs r dict) ∧
    (∀ x, (∀ e ∈ dict, e.vtx ≠ x) → (directAll r dict order vals0).1 x = vals0 x ∨
      ∀ j, j ∈ (directAll r dict order vals0).1 x ↔ j ∈ vals0 x) := by
  have p := directAll_post r dict order (vals0, [])
  unfold directAll
  refine ⟨⟨?_, ?_⟩, by simpa using p.errs, ?_⟩
  · rintro x j ⟨e, he, hej, eb, heb, hebx⟩
    subst hej hebx
    exact p.added e (hp.mem_iff.mpr he) eb heb
  · intro x j hj
    rcases p.only x j hj with h | ⟨e, he, h1, eb, h2, h3⟩
    · exact h0 x j h
    · exact Below.direct ⟨e, hp.mem_iff.mp he, h1, eb, h2, h3⟩
  · intro x hx
    right
    intro j
    constructor
    · intro hj
      rcases p.only x j hj with h | ⟨e, _, _, eb, h2, h3⟩
      · exact h
      · exfalso
        unfold resolvedBases at h2
        split at h2
        · obtain ⟨b, _, hb⟩ := List.mem_map.mp h2
          exact hx eb (findIdentityBase_mem hb) h3
        · cases h2
    · exact p.mono x j


/-- Sorting a table with distinct keys by key gives the same list whatever order it came in: both
results are strictly ascending by key, and permutations of each other. -/
theorem sortByKey_unique {γ : Type} (l1 l2 : List (String × γ)) (hp : l1.Perm l2)
    (hnd : (l1.map (·.1)).Nodup) :
    sortStable (fun a b => decide (a.1 < b.1)) l1 = sortStable (fun a b => decide (a.1 < b.1)) l2 := by
  have sorted : ∀ l : List (String × γ), (l.map (·.1)).Nodup →
      (sortStable (fun a b => decide (a.1 < b.1)) l).Pairwise (fun a b => decide (a.1 < b.1) = true) := by
    intro l hl
    refine sortStable_sorted ?_ l (fun a ha b hb hne => ?_) (nodup_of_map _ _ hl)
    · intro a b c hab hbc
      simp only [decide_eq_true_eq] at *
      exact String.lt_trans hab hbc
    · simp only [decide_eq_true_eq]
      exact str_lt_or_gt (fun e => hne (eq_of_nodup_map (·.1) l hl a ha b hb e))
  refine List.Perm.eq_of_pairwise ?_ (sorted l1 hnd) (sorted l2 ((hp.map _).nodup_iff.mp hnd))
    ((sortStable_perm _ _).trans (hp.trans (sortStable_perm _ _).symm))
  intro a b _ _ hab hba
  simp only [decide_eq_true_eq] at hab hba
  exact absurd (String.lt_trans hab hba) (String.lt_irrefl _)

/-- `sort.Strings(keys)` has one possible result: the dictionary loop visits the same modules in
the same order under every admissible oracle. -/
theorem modulesByKey_indep (r : Registry) (hk : KeysDistinct r) (o1 o2 : Oracle) (h1 : o1.Valid) (h2 : o2.Valid) :
    modulesByKey o1 r = modulesByKey o2 r := by
  unfold modulesByKey
  have hp : (o1.order siteModules r.modules).Perm (o2.order siteModules r.modules) :=
    (h1 _ siteModules r.modules).trans (h2 _ siteModules r.modules).symm
  have hnd : ((o1.order siteModules r.modules).map (·.1)).Nodup :=
    ((h1 _ siteModules r.modules).map _).nodup_iff.mpr hk
  rw [sortByKey_unique _ _ hp hnd]

theorem buildDict_indep (r : Registry) (lk : Link) (hk : KeysDistinct r) (o1 o2 : Oracle)
    (h1 : o1.Valid) (h2 : o2.Valid) : buildDict o1 r lk = buildDict o2 r lk := by
  rw [buildDict_eq, buildDict_eq, modulesByKey_indep r hk o1 o2 h1 h2]

/-- The first loop of `resolveIdentities` never exhausts the recursion budget, whatever the links. -/
theorem buildDict_some (o : Oracle) (ho : o.Valid) (r : Registry) (lk : Link) :
    ∃ dict errs, buildDict o r lk = some (dict, errs) :=
  ⟨_, _, buildDict_closures o ho r lk⟩

/-! ### `resolveIdentities` with its error list spelled out -/

/-- The error of a cycle through vertex `v`: positioned at the statement the dictionary holds
under `v`'s key. -/
def cycleErr (dict : Dict) (v : Vtx) : Option Err :=
  (dict.get? v.key).map fun e => Err.at_ e.stmt "cycle"

theorem resolveIdentities_full (o : Oracle) (ho : o.Valid) (r : Registry) (lk : Link)
    (p : Dict → Vtx → Bool) (hp : ∀ dict i, p dict i = true ↔ Below (MEdge r dict) i i) (vals0 : Vtx → List Vtx)
    (h0 : ∀ dict errs, buildDict o r lk = some (dict, errs) → ∀ x j, j ∈ vals0 x → Below (MEdge r dict) x j) :
    ∃ res errs1, buildDict o r lk = some (res.dict, errs1) ∧
      resolveIdentities o r lk vals0 = some res ∧ Inv (MEdge r res.dict) res.vals ∧
      (∀ e ∈ res.dict, Closed (MEdge r res.dict) vtxLt res.vals e.vtx) ∧
      (∀ x, (∀ e ∈ res.dict, e.vtx ≠ x) → ∀ j, j ∈ res.vals x ↔ j ∈ vals0 x) ∧
      res.errs = errs1 ++ (o.order siteDirect res.dict).flatMap (baseErrs r res.dict) ++
        (((o.order siteClose res.dict).map (·.vtx)).filter (p res.dict)).filterMap (cycleErr res.dict) := by
  obtain ⟨dict, errs1, hbd⟩ := buildDict_some o ho r lk
  have hp1 := ho DEntry siteDirect dict
  have hp2 := ho DEntry siteClose dict
  obtain ⟨hinv1, herr2, hout1⟩ := directAll_inv r dict (o.order siteDirect dict) hp1 vals0 (h0 dict errs1 hbd)
  have hU : ∀ x y, MEdge r dict x y → y ∈ dict.map (·.vtx) := by
    rintro x y ⟨e, he, hey, _⟩
    exact List.mem_map.mpr ⟨e, he, hey⟩
  obtain ⟨v2, hclose, hinv2, hcl2, hsame2, _⟩ :=
    closeAll_spec vtxLt_strictTotal (dict.map (·.vtx)) hU (closeFuel dict) (by simp [closeFuel]) (p dict) (hp dict)
      ((o.order siteClose dict).map (·.vtx)) (directAll r dict (o.order siteDirect dict) vals0).1 hinv1
  have hmem2 : ∀ v, v ∈ (o.order siteClose dict).map (·.vtx) ↔ ∃ e ∈ dict, e.vtx = v := by
    intro v
    simp only [List.mem_map]
    constructor
    · rintro ⟨e, he, h⟩; exact ⟨e, hp2.mem_iff.mp he, h⟩
    · rintro ⟨e, he, h⟩; exact ⟨e, hp2.mem_iff.mpr he, h⟩
  refine ⟨{ dict := dict, vals := v2, errs := errs1 ++ (directAll r dict (o.order siteDirect dict) vals0).2 ++
      (((o.order siteClose dict).map (·.vtx)).filter (p dict)).filterMap (cycleErr dict) }, errs1, hbd, ?_, hinv2,
    ?_, ?_, ?_⟩
  · unfold resolveIdentities
    simp only [hbd]
    cases hda : directAll r dict (o.order siteDirect dict) vals0 with
    | mk v1 e2 =>
      rw [hda] at hclose
      simp only [hclose]
      rfl
  · intro e he
    exact hcl2 e.vtx ((hmem2 _).mpr ⟨e, he, rfl⟩)
  · intro x hx j
    have hnot : x ∉ (o.order siteClose dict).map (·.vtx) := by
      intro hm
      obtain ⟨e, he, hev⟩ := (hmem2 x).mp hm
      exact hx e he hev
    show j ∈ v2 x ↔ j ∈ vals0 x
    rw [hsame2 x hnot]
    rcases hout1 x hx with h | h
    · rw [h]
    · exact h j
  · show _ ++ _ ++ _ = _
    rw [herr2]

/-- Two admissible oracles on a registry whose module table has distinct keys: same dictionary,
same lists for everybody, and the error lists are permutations of each other. -/
theorem resolve_two_oracles (r : Registry) (lk : Link) (hk : KeysDistinct r) (o1 o2 : Oracle)
    (h1 : o1.Valid) (h2 : o2.Valid) :
    ∃ res1 res2, resolveIdentities o1 r lk (fun _ => []) = some res1 ∧
      resolveIdentities o2 r lk (fun _ => []) = some res2 ∧
      res1.dict = res2.dict ∧ res1.vals = res2.vals ∧ res1.errs.Perm res2.errs := by
  classical
  let p : Dict → Vtx → Bool := fun dict i => decide (Below (MEdge r dict) i i)
  have hp : ∀ dict i, p dict i = true ↔ Below (MEdge r dict) i i := fun dict i => by simp [p]
  obtain ⟨res1, e1, hb1, hr1, _, hc1, ho1, he1⟩ :=
    resolveIdentities_full o1 h1 r lk p hp (fun _ => []) (fun _ _ _ _ _ h => nomatch h)
  obtain ⟨res2, e2, hb2, hr2, _, hc2, ho2, he2⟩ :=
    resolveIdentities_full o2 h2 r lk p hp (fun _ => []) (fun _ _ _ _ _ h => nomatch h)
  have hbd := buildDict_indep r lk hk o1 o2 h1 h2
  rw [hb1, hb2] at hbd
  simp only [Option.some.injEq, Prod.mk.injEq] at hbd
  obtain ⟨hd, hee⟩ := hbd
  refine ⟨res1, res2, hr1, hr2, hd, ?_, ?_⟩
  · funext x
    by_cases hx : ∃ e ∈ res1.dict, e.vtx = x
    · obtain ⟨e, he, rfl⟩ := hx
      have c1 := hc1 e he
      have c2 := hc2 e (hd ▸ he)
      rw [← hd] at c2
      exact closed_unique vtxLt_strictTotal c1 c2
    · have hx1 : ∀ e ∈ res1.dict, e.vtx ≠ x := fun e he hev => hx ⟨e, he, hev⟩
      have n1 : res1.vals x = [] := List.eq_nil_iff_forall_not_mem.mpr fun j hj => nomatch (ho1 x hx1 j).mp hj
      have n2 : res2.vals x = [] :=
        List.eq_nil_iff_forall_not_mem.mpr fun j hj => nomatch (ho2 x (hd ▸ hx1) j).mp hj
      rw [n1, n2]
  · rw [he1, he2, ← hd, ← hee]
    have hpd : (o1.order siteDirect res1.dict).Perm (o2.order siteDirect res1.dict) :=
      (h1 _ siteDirect res1.dict).trans (h2 _ siteDirect res1.dict).symm
    have hpc : (o1.order siteClose res1.dict).Perm (o2.order siteClose res1.dict) :=
      (h1 _ siteClose res1.dict).trans (h2 _ siteClose res1.dict).symm
    refine List.Perm.append (List.Perm.append (List.Perm.refl _) ?_) ?_
    · exact hpd.flatMap_right _
    · exact ((hpc.map _).filter _).filterMap _

/-- With all includes linked every entry stands for a statement of the schema, so every cycle
report exists: the error list is empty exactly when the dictionary loop, the base statements and
the closure loop have nothing to report. -/
theorem resolveIdentities_model (o : Oracle) (ho : o.Valid) (r : Registry) (lk : Link) (hlk : LinkOK r lk)
    (vals0 : Vtx → List Vtx)
    (h0 : ∀ dict errs, buildDict o r lk = some (dict, errs) → ∀ x j, j ∈ vals0 x → Below (MEdge r dict) x j) :
    ∃ res errs1, buildDict o r lk = some (res.dict, errs1) ∧ resolveIdentities o r lk vals0 = some res ∧
      Inv (MEdge r res.dict) res.vals ∧
      (∀ e ∈ res.dict, Closed (MEdge r res.dict) vtxLt res.vals e.vtx) ∧
      (∀ x, (∀ e ∈ res.dict, e.vtx ≠ x) → ∀ j, j ∈ res.vals x ↔ j ∈ vals0 x) ∧
      (res.errs = [] ↔ errs1 = [] ∧ (∀ e ∈ res.dict, baseErrs r res.dict e = []) ∧
        (∀ e ∈ res.dict, ¬ Below (MEdge r res.dict) e.vtx e.vtx)) := by
  classical
  obtain ⟨dict, errs, hbd', hsound, _, _⟩ := buildDict_spec o ho r lk hlk
  obtain ⟨res, errs1, hbd, hres, hinv, hclosed, hout, herrs⟩ := resolveIdentities_full o ho r lk
    (fun dict i => decide (Below (MEdge r dict) i i)) (fun _ _ => decide_eq_true_iff) vals0 h0
  rw [hbd] at hbd'
  simp only [Option.some.injEq, Prod.mk.injEq] at hbd'
  obtain ⟨rfl, rfl⟩ := hbd'
  have hp1 := ho DEntry siteDirect res.dict
  have hp2 := ho DEntry siteClose res.dict
  refine ⟨res, errs1, hbd, hres, hinv, hclosed, hout, ?_⟩
  rw [herrs, List.append_eq_nil_iff, List.append_eq_nil_iff]
  constructor
  · rintro ⟨⟨h1, h2⟩, h3⟩
    refine ⟨h1, fun e he => List.flatMap_eq_nil_iff.mp h2 e (hp1.mem_iff.mpr he), ?_⟩
    intro e he hb
    obtain ⟨m, ow, _, _, _, _, _, hkey⟩ := hsound e he
    obtain ⟨e', he'⟩ := get?_of_key (d := res.dict) (k := Vtx.key e.vtx) ⟨e, he, hkey⟩
    have := List.filterMap_eq_nil_iff.mp h3 e.vtx (List.mem_filter.mpr
      ⟨List.mem_map.mpr ⟨e, hp2.mem_iff.mpr he, rfl⟩, decide_eq_true hb⟩)
    simp [cycleErr, he'] at this
  · rintro ⟨h1, h2, h3⟩
    refine ⟨⟨h1, List.flatMap_eq_nil_iff.mpr fun e he => h2 e (hp1.mem_iff.mp he)⟩,
      List.filterMap_eq_nil_iff.mpr ?_⟩
    intro v hv
    obtain ⟨hvo, hpv⟩ := List.mem_filter.mp hv
    obtain ⟨e, he, rfl⟩ := List.mem_map.mp hvo
    exact absurd (of_decide_eq_true hpv) (h3 e (hp2.mem_iff.mp he))

end Goyang.Lemmas.Identity
