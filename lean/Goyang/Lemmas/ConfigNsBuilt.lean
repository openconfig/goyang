import Goyang.Lemmas.ConfigNsComm
/-
C12: closing the composition gap — the forest of an error-free, deviation-free `processAll` run is
`Spec.ConfigNs.Built` itself (not only `Bridge.Built'`).

`BuiltU` is `Built` with the side conditions of the commutation lemmas recorded at each step (the tree a
graft goes into and the grafted entry satisfy `U`, the graft path is proper, the target is no rpc; the
trees `FixChoice` is applied to satisfy `U`).  It is closed under the two stamp-free steps the augment
loop takes on an error-free run:
  `builtU_store`    — storing a tree back unchanged (`Find` does so after every walk);
  `builtU_implicit` — `Find` creating an absent rpc input / output: the creation is moved back through
                      every earlier graft (into the tree grafted into, or into the grafted entry) and
                      every earlier `FixChoice`, down to the conversion, where it meets a stamp-free tree.
Recording an error on a root is the third extra step of `Built'`; errors on roots are never removed, so
the threaded invariant is "`BuiltU`, or some root carries an error" (`Dirty`), and an error-free result
excludes the second alternative.
-/
set_option linter.unusedVariables false
set_option linter.unusedSimpArgs false
open Goyang.Lemmas.ForestAux (tree?_setTree)
namespace Goyang.Lemmas.ConfigNsBuilt
open Goyang.Model Goyang.Spec.ConfigNs Goyang.Lemmas.ConfigNs Goyang.Lemmas.Bridge Goyang.Lemmas.ConfigNsComm
open Goyang.Spec.Find (addImplicit)
open Goyang.Lemmas.Tree (U PathOK U_mk)
open Goyang.Lemmas.ConfigNsDev (setTree_setTree)

/-! ### forests, literally -/

theorem setTree_comm (f : Forest) (t t' : Nat) (a b : Entry) (h : t ≠ t') :
    (f.setTree t a).setTree t' b = (f.setTree t' b).setTree t a := by
  unfold Forest.setTree
  simp only [List.map_map]
  congr 1
  apply List.map_congr_left
  rintro ⟨i, x⟩ _
  simp only [Function.comp]
  by_cases h1 : i = t
  · subst h1
    have : ¬ i = t' := h
    simp [this]
  · by_cases h2 : i = t'
    · subst h2; simp [h1]
    · simp [h1, h2]

theorem fixAll_setTree (f : Forest) (t : Nat) (r : Entry) : (fixAll f).setTree t (fixChoice r) = fixAll (f.setTree t r) := by
  unfold fixAll Forest.setTree
  simp only [List.map_map]
  congr 1
  apply List.map_congr_left
  rintro ⟨i, x⟩ _
  simp only [Function.comp]
  by_cases h : (i == t) = true <;> simp [h]

/-- Storing a tree back after a step that replaced tree `t0` by `x`: when the step can be redone on every
forest that has the same tree `t0`, the forest with a tree stored back is reached by the same step. -/
theorem store_step {B B' : Forest → Prop} {f : Forest} {t0 : Nat} {root0 x : Entry}
    (h1 : f.tree? t0 = some root0) (hb0 : B f) (ih : ∀ t root, f.tree? t = some root → B (f.setTree t root))
    (step : ∀ g, B g → g.tree? t0 = some root0 → B' (g.setTree t0 x)) (t : Nat) (root : Entry)
    (ht : (f.setTree t0 x).tree? t = some root) : B' ((f.setTree t0 x).setTree t root) := by
  by_cases htt : t = t0
  · subst htt
    rw [tree?_setTree, if_pos rfl, h1] at ht
    simp only [Option.map_some, Option.some.injEq] at ht
    subst ht
    rw [setTree_setTree]
    exact step f hb0 h1
  · rw [tree?_setTree, if_neg htt] at ht
    rw [setTree_comm f t0 t _ _ (Ne.symm htt)]
    exact step _ (ih t root ht) (by rw [tree?_setTree, if_neg (Ne.symm htt)]; exact h1)

/-- Storing a tree back after `FixChoice`: the tree is the fixed form of a tree of the forest before, and
storing that one back first leaves every `tree?` as it was. -/
theorem store_fix {B B' : Forest → Prop} {f : Forest}
    (ih : ∀ t root, f.tree? t = some root → B (f.setTree t root))
    (step : ∀ g, B g → (∀ id, g.tree? id = f.tree? id) → B' (fixAll g))
    (t : Nat) (root : Entry) (ht : (fixAll f).tree? t = some root) : B' ((fixAll f).setTree t root) := by
  rw [tree?_fixAll] at ht
  cases h0 : f.tree? t with
  | none => simp [h0] at ht
  | some root0 =>
    simp only [h0, Option.map_some, Option.some.injEq] at ht
    subst ht
    rw [fixAll_setTree]
    exact step _ (ih t root0 h0) (tree?_setTree_self f t root0 h0)

/-! ### `BuiltU` -/

/-- `Spec.ConfigNs.Built` with the side conditions of the commutation lemmas recorded. -/
inductive BuiltU (reg : Registry) : Forest → (Loc → Option Nat) → Prop
  | init {f : Forest} :
      (∀ id t, f.tree? id = some t → noStampBelow t = true) →
      BuiltU reg f (fun loc => some loc.1)
  | graft {f : Forest} {prov prov' : Loc → Option Nat} {by_ t : Nat} {path : Path} {root te a : Entry} :
      BuiltU reg f prov →
      f.tree? t = some root → root.getAt path = some te →
      noStampL a.dir = true →
      U root → PathOK path → te.d.isRpc = false → U a →
      (∀ loc, NewBelow t path te a loc → prov' loc = some by_) →
      (∀ loc, ¬ NewBelow t path te a loc → prov' loc = prov loc) →
      BuiltU reg (f.setTree t (root.updateAt path fun te => te.merge (some (ownerNs reg by_)) a)) prov'
  | fix {f : Forest} {prov prov' : Loc → Option Nat} :
      BuiltU reg f prov →
      (∀ id root, f.tree? id = some root → U root) →
      (∀ id root p, f.tree? id = some root → (root.getAt p).isSome →
          prov' (id, liftPath root p) = prov (id, p)) →
      (∀ loc', (¬ ∃ root p, f.tree? loc'.1 = some root ∧ (root.getAt p).isSome ∧ loc'.2 = liftPath root p) →
          prov' loc' = none) →
      BuiltU reg (fixAll f) prov'

theorem BuiltU.toBuilt {reg : Registry} {f : Forest} {prov : Loc → Option Nat} (h : BuiltU reg f prov) :
    Built reg f prov := by
  induction h with
  | init h => exact Built.init h
  | graft _ h1 h2 h3 _ _ _ _ h4 h5 ih => exact Built.graft ih h1 h2 h3 h4 h5
  | fix _ _ h1 h2 ih => exact Built.fix ih h1 h2

/-! ### storing a tree back unchanged -/

theorem builtU_store {reg : Registry} {f : Forest} {prov : Loc → Option Nat} (hb : BuiltU reg f prov) :
    ∀ (t : Nat) (root : Entry), f.tree? t = some root → BuiltU reg (f.setTree t root) prov := by
  induction hb with
  | @init f h =>
    intro t root ht
    refine BuiltU.init ?_
    intro id tr htr
    rw [tree?_setTree_self f t root ht] at htr
    exact h id tr htr
  | @graft f prov prov' by_ t0 path root0 te a hb0 h1 h2 h3 hU hP hrpc hUa h4 h5 ih =>
    exact store_step (B' := (BuiltU reg · prov')) h1 hb0 ih fun g hg hg1 => BuiltU.graft hg hg1 h2 h3 hU hP hrpc hUa h4 h5
  | @fix f prov prov' hb0 hU h1 h2 ih =>
    refine store_fix (B' := (BuiltU reg · prov')) ih fun g hg hsame => BuiltU.fix hg ?_ ?_ ?_
    · intro id root hr; rw [hsame] at hr; exact hU id root hr
    · intro id root p hr; rw [hsame] at hr; exact h1 id root p hr
    · intro loc' hno
      apply h2 loc'
      rintro ⟨root, p, hr, hs, hl⟩
      exact hno ⟨root, p, by rw [hsame]; exact hr, hs, hl⟩

/-! ### small facts for the commutation -/

theorem merge_isRpc (te : Entry) (ns : Option String) (a : Entry) : (te.merge ns a).d.isRpc = te.d.isRpc := by
  cases te; rw [merge_struct]; rfl

theorem merge_name (ns : Option String) (a : Entry) (x : Entry) : (x.merge ns a).name = x.name :=
  (merge_sameCN ns a x).1

theorem slotEmpty_updateAt_cons (b : Bool) (x : Entry) (s : Step) (q : Path) (g : Entry → Entry) :
    SlotEmpty b (x.updateAt (s :: q) g) ↔ SlotEmpty b x := by
  cases x with
  | mk d c i o =>
    cases b <;> cases s <;> simp [SlotEmpty, Entry.updateAt, Entry.inp, Entry.out]

theorem slotEmpty_fix (b : Bool) (e0 : Entry) (h : SlotEmpty b (fixChoice e0)) : SlotEmpty b e0 := by
  cases b with
  | true => simp only [SlotEmpty, if_true, fixChoice_inp, List.map_eq_nil_iff] at h ⊢; exact h
  | false => simp only [SlotEmpty, Bool.false_eq_true, if_false, fixChoice_out, List.map_eq_nil_iff] at h ⊢; exact h

theorem slotEmpty_stamp (b : Bool) (ns : Option String) (v : Entry) (h : SlotEmpty b (stamp ns v)) : SlotEmpty b v := by
  cases b with
  | true => simpa [SlotEmpty] using h
  | false => simpa [SlotEmpty] using h

theorem child?_isSome_updateAt_cons {g : Entry → Entry} (hg : ∀ x, (g x).name = x.name) (x : Entry) (s : Step) (q : Path)
    (k' : String) : ((x.updateAt (s :: q) g).child? k').isSome = (x.child? k').isSome := by
  cases x with
  | mk d c i o =>
    cases s with
    | child k =>
      simp only [Entry.updateAt, Entry.child?, Entry.dir]
      rw [child?_any, child?_any, map_if_names c k _ (fun y => updateAt_name_keep hg y q)]
    | input => rfl
    | output => rfl

theorem child?_none_updateAt_cons {g : Entry → Entry} (hg : ∀ x, (g x).name = x.name) (x : Entry) (s : Step) (q : Path)
    (k' : String) : (x.updateAt (s :: q) g).child? k' = none ↔ x.child? k' = none := by
  have := child?_isSome_updateAt_cons hg x s q k'
  cases h1 : (x.updateAt (s :: q) g).child? k' <;> cases h2 : x.child? k' <;> simp_all

theorem newBelow_congr {t : Nat} {path : Path} {te te' a a' : Entry}
    (h1 : ∀ k, te'.child? k = none ↔ te.child? k = none) (h2 : ∀ k, (a'.child? k).isSome = (a.child? k).isSome) (loc : Loc) :
    NewBelow t path te' a' loc ↔ NewBelow t path te a loc := by
  unfold NewBelow
  constructor
  · rintro ⟨hl, k, r, hp, hk, ha⟩; exact ⟨hl, k, r, hp, (h1 k).mp hk, by rw [← h2]; exact ha⟩
  · rintro ⟨hl, k, r, hp, hk, ha⟩; exact ⟨hl, k, r, hp, (h1 k).mpr hk, by rw [h2]; exact ha⟩

theorem pathOK_right (p r : Path) (h : PathOK (p ++ r)) : PathOK r := fun k hk => h k (List.mem_append_right p hk)
theorem pathOK_left (p r : Path) (h : PathOK (p ++ r)) : PathOK p := fun k hk => h k (List.mem_append_left r hk)

theorem noStampL_dir_updateAt (b : Bool) (a : Entry) (s : Step) (q : Path) (h : noStampL a.dir = true) :
    noStampL (a.updateAt (s :: q) (addImplicit b)).dir = true := by
  cases a with
  | mk d c i o =>
    cases s with
    | child k =>
      simp only [Entry.updateAt, Entry.dir] at h ⊢
      refine noStampL_map c _ (fun y _ hy => ?_) h
      split
      · exact noStamp_updateAt _ (noStamp_addImplicit b) q y hy
      · exact hy
    | input => exact h
    | output => exact h

/-! ### `Find` creating an absent rpc input / output -/

/-- **`BuiltU` is closed under the creation of an absent rpc input / output** at a proper existing path
of any tree: the creation commutes back through every graft and every `FixChoice` of the derivation. -/
theorem builtU_implicit {reg : Registry} {f : Forest} {prov : Loc → Option Nat} (hb : BuiltU reg f prov) :
    ∀ (t : Nat) (root e : Entry) (p : Path) (b : Bool), f.tree? t = some root → root.getAt p = some e →
      e.d.isRpc = true → PathOK p → SlotEmpty b e →
      ∃ prov', BuiltU reg (f.setTree t (root.updateAt p (addImplicit b))) prov' := by
  classical
  induction hb with
  | @init f h =>
    intro t root e p b ht hg hr hp he
    refine ⟨_, BuiltU.init ?_⟩
    intro id tr htr
    rw [tree?_setTree] at htr
    split at htr
    · rw [ht] at htr
      simp only [Option.map_some, Option.some.injEq] at htr
      subst htr
      exact noStampBelow_updateAt_addImplicit b p root (h t root ht)
    · exact h id tr htr
  | @graft f prov prov' by_ t0 path root0 te a hb0 h1 h2 h3 hU hP hrpc hUa h4 h5 ih =>
    intro t root e p b ht hg hr hp he
    have hA : ∀ x, (addImplicit b x).name = x.name := addImplicit_name b
    have hM : ∀ x : Entry, (x.merge (some (ownerNs reg by_)) a).name = x.name := merge_name _ a
    by_cases htt : t = t0
    · subst htt
      rw [tree?_setTree, if_pos rfl, h1] at ht
      simp only [Option.map_some, Option.some.injEq] at ht
      subst ht
      rw [setTree_setTree]
      rcases Deviate.path_trichotomy path p with hpre | ⟨r, hrne, hpath⟩ | ⟨c, s2, s1, q2, q1, hne, hpath, hpp⟩
      · -- the creation is at or below the graft target
        obtain ⟨r, rfl⟩ := hpre
        rw [getAt_updateAt_through root0 path r _ (merge_sameCN _ a) te h2] at hg
        cases r with
        | nil =>
          simp only [Entry.getAt, Option.some.injEq] at hg
          rw [← hg, merge_isRpc, hrpc] at hr; cases hr
        | cons s r' =>
          have hbelow := updateAt_below (g := fun te : Entry => te.merge (some (ownerNs reg by_)) a) hM
            (addImplicit b) path (s :: r') root0
          rw [hbelow]
          by_cases hnew : ∃ k, s = .child k ∧ te.child? k = none
          · -- … inside a child the graft added: it becomes a creation in the grafted entry
            obtain ⟨k, rfl, hk⟩ := hnew
            rw [getAt_cons, next_child, merge_child?, hk] at hg
            simp only [] at hg
            cases hv : a.child? k with
            | none => simp [hv] at hg
            | some v =>
              simp only [hv, Option.map_some, Option.bind_some] at hg
              have hPa : PathOK (.child k :: r') := pathOK_right path _ hp
              obtain ⟨e0, hga, he0⟩ : ∃ e0, a.getAt (.child k :: r') = some e0 ∧ SlotEmpty b e0 := by
                cases r' with
                | nil =>
                  simp only [Entry.getAt, Option.some.injEq] at hg
                  refine ⟨v, by simp [Entry.getAt, hv], slotEmpty_stamp b _ v (by rw [hg]; exact he)⟩
                | cons s'' r'' =>
                  refine ⟨e, ?_, he⟩
                  simp only [Entry.getAt, hv, Option.bind_some]
                  rw [← hg]
                  cases hns : (some (ownerNs reg by_) : Option String) with
                  | none => cases hns
                  | some n => exact (Deviate.getAt_withD v _ s'' r'').symm
              have himp := (sameErrs_updateAt_addImplicit b e0 he0 (.child k :: r') a hUa hPa hga).imp
              have hfun := merge_updateAt_new (some (ownerNs reg by_)) b a te k r' hk himp
              rw [updateAt_congr_unique _ (fun te : Entry => te.merge (some (ownerNs reg by_)) (a.updateAt (.child k :: r') (addImplicit b)))
                te hfun path root0 hU hP h2]
              have hiff := fun loc => newBelow_congr (t := t) (path := path) (te := te) (te' := te)
                (a := a) (a' := a.updateAt (.child k :: r') (addImplicit b)) (fun _ => Iff.rfl)
                (fun k' => child?_isSome_updateAt_cons hA a (.child k) r' k') loc
              exact ⟨prov', BuiltU.graft hb0 h1 h2 (noStampL_dir_updateAt b a _ r' h3) hU hP hrpc
                (U_addImplicit b a _ e0 hUa hPa hga he0)
                (fun loc hl => h4 loc ((hiff loc).mp hl)) (fun loc hl => h5 loc (fun h' => hl ((hiff loc).mpr h')))⟩
          · -- … in the part of the target that was there before: it becomes a creation before the graft
            have hold : ∀ k, s = .child k → (te.child? k).isSome = true := by
              intro k hs
              cases hk : te.child? k with
              | none => exact absurd ⟨k, hs, hk⟩ hnew
              | some _ => rfl
            have hfun := merge_updateAt_old hA (some (ownerNs reg by_)) a te s r' hold
            rw [updateAt_congr_unique _ (fun y : Entry => (y.updateAt (s :: r') (addImplicit b)).merge (some (ownerNs reg by_)) a)
              te hfun path root0 hU hP h2]
            rw [← updateAt_same (g := fun y : Entry => y.updateAt (s :: r') (addImplicit b))
              (fun y => updateAt_name_keep hA y _) (fun te : Entry => te.merge (some (ownerNs reg by_)) a) path root0,
              ← updateAt_append (addImplicit b) path (s :: r') root0]
            -- the node exists before the graft
            have hg0 : root0.getAt (path ++ s :: r') = some e := by
              rw [ForestAux.getAt_append, h2]
              simp only [Option.bind_some]
              rw [getAt_cons] at hg ⊢
              rw [merge_next] at hg
              cases s with
              | input => exact hg
              | output => exact hg
              | child k =>
                have := hold k rfl
                cases hk : te.child? k with
                | none => simp [hk] at this
                | some x => simpa [hk, next_child] using hg
            obtain ⟨prov1, hb1⟩ := ih t root0 e (path ++ s :: r') b h1 hg0 hr hp he
            have hte' : (root0.updateAt (path ++ s :: r') (addImplicit b)).getAt path = some (te.updateAt (s :: r') (addImplicit b)) := by
              rw [updateAt_append (addImplicit b) path (s :: r') root0]
              have := getAt_updateAt_through root0 path [] (fun y : Entry => y.updateAt (s :: r') (addImplicit b))
                (fun y => by rw [sameCN, updateAt_d_cons]; exact ⟨rfl, rfl, rfl, rfl⟩) te h2
              simpa [Entry.getAt] using this
            have hiff := fun loc => newBelow_congr (t := t) (path := path) (te := te)
              (te' := te.updateAt (s :: r') (addImplicit b)) (a := a) (a' := a)
              (fun k' => child?_none_updateAt_cons hA te s r' k') (fun _ => rfl) loc
            rw [← setTree_setTree f t (root0.updateAt (path ++ s :: r') (addImplicit b))]
            refine ⟨fun loc => if NewBelow t path te a loc then some by_ else prov1 loc,
              BuiltU.graft hb1 (by rw [tree?_setTree, if_pos rfl, h1]; rfl) hte' h3
                (U_addImplicit b root0 _ e hU hp hg0 he) hP (by rw [updateAt_d_cons]; exact hrpc) hUa ?_ ?_⟩
            · intro loc hl; simp only [(hiff loc).mp hl, if_true]
            · intro loc hl
              have : ¬ NewBelow t path te a loc := fun h' => hl ((hiff loc).mpr h')
              simp only [this, if_false]
      · -- the creation is strictly above the graft target
        subst hpath
        cases r with
        | nil => exact absurd rfl hrne
        | cons s r' =>
          have hst : Deviate.NameStable (p ++ s :: r') (fun te : Entry => te.merge (some (ownerNs reg by_)) a) :=
            Deviate.NameStable.of_forall hM
          rw [Deviate.getAt_updateAt_prefix _ p (s :: r') hst root0] at hg
          cases hg0 : root0.getAt p with
          | none => simp [hg0] at hg
          | some e0 =>
            simp only [hg0, Option.map_some, Option.some.injEq] at hg
            subst hg
            rw [updateAt_d_cons] at hr
            rw [slotEmpty_updateAt_cons] at he
            have hs : s ≠ slot b := by
              intro hs; subst hs
              rw [ForestAux.getAt_append, hg0] at h2
              simp only [Option.bind_some] at h2
              rw [getAt_slot_none b e0 he r'] at h2; cases h2
            rw [updateAt_comm_above hA p s r' (fun x => addImplicit_comm_step b s hs r' _ x) root0]
            obtain ⟨prov1, hb1⟩ := ih t root0 e0 p b h1 hg0 hr hp he
            have hte' : (root0.updateAt p (addImplicit b)).getAt (p ++ s :: r') = some te := by
              rw [Deviate.getAt_updateAt_append _ p (Deviate.NameStable.of_forall hA) root0 (s :: r'), hg0]
              simp only [Option.map_some, Option.bind_some]
              rw [addImplicit_getAt b s hs r' e0]
              rw [ForestAux.getAt_append, hg0] at h2
              simpa using h2
            rw [← setTree_setTree f t (root0.updateAt p (addImplicit b))]
            refine ⟨fun loc => if NewBelow t (p ++ s :: r') te a loc then some by_ else prov1 loc,
              BuiltU.graft hb1 (by rw [tree?_setTree, if_pos rfl, h1]; rfl) hte' h3
                (U_addImplicit b root0 _ e0 hU hp hg0 he) hP hrpc hUa ?_ ?_⟩
            · intro loc hl; simp only [hl, if_true]
            · intro loc hl; simp only [hl, if_false]
      · -- the two places lie apart
        subst hpath; subst hpp
        have hst : Deviate.NameStable (c ++ s2 :: q2) (fun te : Entry => te.merge (some (ownerNs reg by_)) a) :=
          Deviate.NameStable.of_forall hM
        rw [Deviate.getAt_updateAt_diverge _ hne q2 q1 c hst root0] at hg
        rw [updateAt_comm_diverge hA hM (Ne.symm hne) c q1 q2 root0]
        obtain ⟨prov1, hb1⟩ := ih t root0 e (c ++ s1 :: q1) b h1 hg hr hp he
        have hte' : (root0.updateAt (c ++ s1 :: q1) (addImplicit b)).getAt (c ++ s2 :: q2) = some te := by
          rw [Deviate.getAt_updateAt_diverge _ (Ne.symm hne) q1 q2 c (Deviate.NameStable.of_forall hA) root0]
          exact h2
        rw [← setTree_setTree f t (root0.updateAt (c ++ s1 :: q1) (addImplicit b))]
        refine ⟨fun loc => if NewBelow t (c ++ s2 :: q2) te a loc then some by_ else prov1 loc,
          BuiltU.graft hb1 (by rw [tree?_setTree, if_pos rfl, h1]; rfl) hte' h3
            (U_addImplicit b root0 _ e hU hp hg he) hP hrpc hUa ?_ ?_⟩
        · intro loc hl; simp only [hl, if_true]
        · intro loc hl; simp only [hl, if_false]
    · -- another tree
      rw [tree?_setTree, if_neg htt] at ht
      obtain ⟨prov1, hb1⟩ := ih t root e p b ht hg hr hp he
      rw [setTree_comm f t0 t _ _ (Ne.symm htt)]
      refine ⟨fun loc => if NewBelow t0 path te a loc then some by_ else prov1 loc,
        BuiltU.graft hb1 (by rw [tree?_setTree, if_neg (Ne.symm htt)]; exact h1) h2 h3 hU hP hrpc hUa ?_ ?_⟩
      · intro loc hl; simp only [hl, if_true]
      · intro loc hl; simp only [hl, if_false]
  | @fix f prov prov' hb0 hU h1 h2 ih =>
    intro t root e p b ht hg hr hp he
    rw [tree?_fixAll] at ht
    cases h0 : f.tree? t with
    | none => simp [h0] at ht
    | some root0 =>
      simp only [h0, Option.map_some, Option.some.injEq] at ht
      subst ht
      obtain ⟨p0, e0, hg0, hlp, hee, hsub⟩ := fix_preimage p root0 e hg hr
      subst hee
      rw [fixChoice_d] at hr
      have he0 := slotEmpty_fix b e0 he
      have hp0 : PathOK p0 := fun k hk => hp k (hsub k hk)
      obtain ⟨prov1, hb1⟩ := ih t root0 e0 p0 b h0 hg0 hr hp0 he0
      have hU0 := hU t root0 h0
      rw [← hlp, fix_updateAt_addImplicit b p0 root0 e0 hU0 hp0 hg0, fixAll_setTree]
      obtain ⟨prov', hk, hn⟩ := Bridge.fix_prov (f.setTree t (root0.updateAt p0 (addImplicit b))) prov1
      refine ⟨prov', BuiltU.fix hb1 ?_ hk hn⟩
      intro id root hroot
      rw [tree?_setTree] at hroot
      split at hroot
      · rw [h0] at hroot
        simp only [Option.map_some, Option.some.injEq] at hroot
        subst hroot
        exact U_addImplicit b root0 p0 e0 hU0 hp0 hg0 he0
      · exact hU id root hroot

/-! ### an error recorded on a root stays -/

/-- Some visible root carries an error. -/
def Dirty (f : Forest) : Prop := ∃ t root, f.tree? t = some root ∧ root.d.errors ≠ []

/-- The threaded alternative: built by conversion, grafts and `FixChoice` — or a root carries an error. -/
def BD (reg : Registry) (f : Forest) : Prop := (∃ prov, BuiltU reg f prov) ∨ Dirty f

theorem dirty_setTree (f : Forest) (t : Nat) (root r' : Entry) (hroot : f.tree? t = some root)
    (himp : root.d.errors ≠ [] → r'.d.errors ≠ []) (h : Dirty f) : Dirty (f.setTree t r') := by
  obtain ⟨t1, r1, h1, e1⟩ := h
  by_cases htt : t1 = t
  · subst htt
    rw [hroot] at h1; cases h1
    exact ⟨t1, r', by rw [tree?_setTree, if_pos rfl, hroot]; rfl, himp e1⟩
  · exact ⟨t1, r1, by rw [tree?_setTree, if_neg htt]; exact h1, e1⟩

theorem dirty_addErr (f : Forest) (t : Nat) (root : Entry) (x : Err) (hroot : f.tree? t = some root) :
    Dirty (f.setTree t (root.addErr x)) := by
  refine ⟨t, root.addErr x, by rw [tree?_setTree, if_pos rfl, hroot]; rfl, ?_⟩
  cases root; simp [Entry.addErr, Entry.withD, Entry.d]

theorem dirty_fixAll (f : Forest) (h : Dirty f) : Dirty (fixAll f) := by
  obtain ⟨t, r, h1, e1⟩ := h
  exact ⟨t, fixChoice r, by rw [tree?_fixAll, h1]; rfl, by rw [fixChoice_d]; exact e1⟩

theorem updateAt_errors_mono (root : Entry) (path : Path) (g : Entry → Entry)
    (hg : root.d.errors ≠ [] → (g root).d.errors ≠ []) (h : root.d.errors ≠ []) :
    (root.updateAt path g).d.errors ≠ [] := by
  cases path with
  | nil => rw [updateAt_nil]; exact hg h
  | cons s p => rw [updateAt_d_cons]; exact h

theorem dirty_find (reg : Registry) (f : Forest) (start : Loc) (ctx : Nat) (name : String) (h : Dirty f) :
    Dirty (find reg f start ctx name).2 :=
  ConfigNsDev.find_keeps (fun f t root h ht => dirty_setTree f t root root ht id h)
    (fun f t root e p b h ht _ _ _ =>
      dirty_setTree f t root _ ht (updateAt_errors_mono root p _ (by rw [ConfigNsDev.addImplicit_d]; exact id)) h)
    (fun f t root x _ ht => dirty_addErr f t root x ht) f start ctx name h

/-! ### `Find` -/

theorem setImplicitIn_eq : Tree.setImplicitIn = addImplicit true := by funext e; cases e; rfl
theorem setImplicitOut_eq : Tree.setImplicitOut = addImplicit false := by funext e; cases e; rfl

/-- `Tree.walkParts_ind` for proper paths, the two lazy creations as one hypothesis. -/
theorem walkParts_inv3 (P : Entry → Prop)
    (hstep : ∀ root p e b, P root → PathOK p → root.getAt p = some e → e.d.isRpc = true → SlotEmpty b e →
      P (root.updateAt p (addImplicit b))) :
    ∀ (parts : List String) (root : Entry) (cur : Option Path), P root → (∀ p, cur = some p → PathOK p) →
      P (walkParts parts root cur).2 ∧ (∀ p, (walkParts parts root cur).1 = some p → PathOK p) :=
  Tree.walkParts_ind P PathOK Tree.pathOK_dropLast Tree.pathOK_append_input Tree.pathOK_append_output
    Tree.pathOK_append_child
    (fun root p e h hp hg hr hi => setImplicitIn_eq ▸ hstep root p e true h hp hg hr (by simpa [SlotEmpty] using hi))
    (fun root p e h hp hg hr ho => setImplicitOut_eq ▸ hstep root p e false h hp hg hr (by simpa [SlotEmpty] using ho))

theorem startOf_cur (reg : Registry) (start : Loc) (ctx : Nat) (parts : List String) (t : Nat) (cur : Path)
    (ps : List String) (h : Find.startOf reg start ctx parts = some (t, cur, ps)) : cur = [] ∨ cur = start.2 := by
  unfold Find.startOf at h
  split at h
  · simp only [Option.map_eq_some_iff, Prod.mk.injEq] at h
    obtain ⟨_, _, _, h2, _⟩ := h
    exact Or.inl h2.symm
  · simp only [Option.some.injEq, Prod.mk.injEq] at h
    exact Or.inr h.2.1.symm

/-- **`Find` keeps the alternative** "`BuiltU`, or a root carries an error" — for a forest whose trees
satisfy `U` and a proper start path. -/
theorem find_bd (reg : Registry) (f : Forest) (start : Loc) (ctx : Nat) (name : String)
    (hU : ∀ id root, f.tree? id = some root → U root) (hs : PathOK start.2) (h : BD reg f) :
    BD reg (find reg f start ctx name).2 := by
  rcases h with ⟨prov, hb⟩ | hd
  · by_cases h0 : name = ""
    · subst h0; left; simp only [find]; exact ⟨prov, hb⟩
    · rw [Find.find_eq_findParts _ _ _ _ _ h0]
      unfold Find.findParts
      cases hso : Find.startOf reg start ctx (name.splitOn "/") with
      | none =>
        simp only
        unfold Goyang.Spec.Find.withPrefixError
        split
        · rename_i root hroot; right; exact dirty_addErr f _ root _ hroot
        · left; exact ⟨prov, hb⟩
      | some r =>
        obtain ⟨t, cur, ps⟩ := r
        simp only
        cases htr : f.tree? t with
        | none => left; exact ⟨prov, hb⟩
        | some root =>
          simp only
          left
          have hcur : PathOK cur := by
            rcases startOf_cur reg start ctx _ t cur ps hso with rfl | rfl
            · exact Tree.pathOK_nil
            · exact hs
          have key := walkParts_inv3 (fun root' => (∃ prov', BuiltU reg (f.setTree t root') prov') ∧ U root')
            (fun root1 p e b hP hp hg hr he => by
              obtain ⟨⟨prov1, hb1⟩, hu1⟩ := hP
              refine ⟨?_, U_addImplicit b root1 p e hu1 hp hg he⟩
              have h1 : (f.setTree t root1).tree? t = some root1 := by rw [tree?_setTree, if_pos rfl, htr]; rfl
              obtain ⟨prov2, hb2⟩ := builtU_implicit hb1 t root1 e p b h1 hg hr hp he
              rw [setTree_setTree] at hb2
              exact ⟨prov2, hb2⟩)
            ps root (some cur) ⟨⟨prov, builtU_store hb t root htr⟩, hU t root htr⟩
            (fun p hp => by cases hp; exact hcur)
          exact key.1.1
  · right; exact dirty_find reg f start ctx name hd

/-! ### the augment stage -/

section Stage
variable {env : Env} {q : Entry → Bool} (hq : Tree.LocalOK env q)

/-- The invariant of the augment stage. -/
structure BJ (reg : Registry) (q : Entry → Bool) (s : PState) : Prop where
  main : BD reg s.forest
  pend : ∀ p ∈ s.pending, ∀ a ∈ p.2, noStampL a.dir = true
  trees : Tree.InvB s
  ainv : Tree.AInv (Tree.TreeInv q) (Tree.TInv q) s

theorem forestAll_U {q : Entry → Bool} {f : Forest} (h : Goyang.Spec.Tree.ForestAll (Tree.TreeInv q) f) :
    ∀ id root, f.tree? id = some root → U root :=
  fun id root hr => (Tree.forestAll_tree? f id root h hr).1.1

theorem augFail_bd {reg : Registry} (id : Nat) (addErrors : Bool) (a : Entry) (s : PState) (un : List Entry) (p k : Nat)
    (hb : BD reg s.forest) : BD reg (Tree.augFail id addErrors a s un p k).1.forest := by
  unfold Tree.augFail
  dsimp only
  split
  · split
    · rename_i root hroot
      exact Or.inr (dirty_addErr _ _ root _ hroot)
    · exact hb
  · exact hb

include hq in
theorem augStep_bd (reg : Registry) (id : Nat) (addErrors : Bool) (nsOf : String) (hns : nsOf = ownerNs reg id)
    (acc : PState × List Entry × Nat × Nat) (a : Entry) (hb : BD reg acc.1.forest)
    (hf : Goyang.Spec.Tree.ForestAll (Tree.TreeInv q) acc.1.forest)
    (ha : noStampL a.dir = true) (hUa : U a) : BD reg (Tree.augStep reg id addErrors nsOf acc a).1.forest := by
  classical
  obtain ⟨s, un, p, k⟩ := acc
  dsimp only at hb hf
  have hfind : BD reg (find reg s.forest (id, []) a.d.nodeMod a.d.name).2 ∧
      Goyang.Spec.Tree.ForestAll (Tree.TreeInv q) (find reg s.forest (id, []) a.d.nodeMod a.d.name).2 ∧
      ∀ t path, (find reg s.forest (id, []) a.d.nodeMod a.d.name).1 = some (t, path) → PathOK path := by
    have h2 := (Tree.augClosed_treeInv hq).find reg s.forest (id, []) a.d.nodeMod a.d.name hf Tree.pathOK_nil
    exact ⟨find_bd reg s.forest (id, []) a.d.nodeMod a.d.name (forestAll_U hf) Tree.pathOK_nil hb, h2.1, h2.2⟩
  unfold Tree.augStep
  dsimp only
  generalize find reg s.forest (id, []) a.d.nodeMod a.d.name = r at hfind
  obtain ⟨target, forest⟩ := r
  dsimp only at hfind ⊢
  obtain ⟨hbd, hfa, hpo⟩ := hfind
  have fail := augFail_bd id addErrors a { s with forest := forest } un p k hbd
  split
  · exact fail
  · rename_i t path
    have hpath : PathOK path := hpo t path rfl
    split
    · exact fail
    · rename_i te hte
      split
      · exact fail
      · rename_i hcan
        split
        · exact fail
        · rename_i root hroot
          dsimp only at hroot hte ⊢
          simp only [hroot, Option.bind_some] at hte
          subst hns
          have hrpc : te.d.isRpc = false := by
            simp only [cannotHaveChildren, Bool.or_eq_true, not_or, Bool.not_eq_true] at hcan
            exact hcan.2
          rcases hbd with ⟨prov, hb1⟩ | hd
          · left
            exact ⟨fun loc => if NewBelow t path te a loc then some id else prov loc,
              BuiltU.graft hb1 hroot hte ha (forestAll_U hfa t root hroot) hpath hrpc hUa
                (fun loc h => by simp only [h, if_true]) (fun loc h => by simp only [h, if_false])⟩
          · right
            refine dirty_setTree forest t root _ hroot ?_ hd
            apply updateAt_errors_mono
            intro hne hm
            obtain ⟨xs, hxs⟩ := Tree.merge_root_errors root (some (ownerNs reg id)) a
            rw [hxs] at hm
            simp only [List.append_eq_nil_iff] at hm
            exact hne hm.1.1

include hq in
theorem augmentTree_bj (reg : Registry) (id : Nat) (addErrors : Bool) (s : PState) (h : BJ reg q s) :
    BJ reg q (augmentTree reg id addErrors s).1 := by
  have hA := Tree.augClosed_treeInv hq
  refine ⟨?_, ?_, Tree.invB_augmentTree reg id addErrors s h.trees, Tree.augmentTree_ainv hA reg id addErrors s h.ainv⟩
  · rw [Tree.augmentTree_eq]
    dsimp only
    refine (ListAux.foldl_inv (fun acc : PState × List Entry × Nat × Nat =>
        BD reg acc.1.forest ∧ Goyang.Spec.Tree.ForestAll (Tree.TreeInv q) acc.1.forest) _ _ _
      ⟨h.main, h.ainv.trees⟩ ?_).1
    · intro acc a ha hacc
      obtain ⟨p, hp', hap⟩ := Tree.pendingOf_mem s id a ha
      obtain ⟨p0, hp0, h1, h2⟩ := Tree.pendingOf_ne_nil s id (List.ne_nil_of_mem ha)
      have hkey : id ∈ Tree.fkeys s.forest := by rw [← h1]; exact h.trees p0 hp0 h2
      obtain ⟨r0, hr0⟩ := Option.isSome_iff_exists.mp ((Tree.tree?_isSome _ _).2 hkey)
      exact ⟨augStep_bd hq reg id addErrors _ (namespaceAt_root reg s.forest id r0 hr0) acc a hacc.1 hacc.2
          (h.pend p hp' a hap) (h.ainv.pend p hp' a hap).1,
        Tree.augStep_inv hA reg id addErrors _ acc a hacc.2 (h.ainv.pend p hp' a hap)⟩
  · exact Tree.augmentTree_pending _ reg id addErrors s h.pend

theorem fixAll_bj (reg : Registry) (hfix : ∀ e, Goyang.Spec.Tree.everyNode q e = true → Goyang.Spec.Tree.everyNode q (fixChoice e) = true)
    (s : PState) (h : BJ reg q s) : BJ reg q (Tree.fixAll s) := by
  classical
  refine ⟨?_, h.pend, Tree.invB_fixAll s h.trees, Tree.ainv_fixAll hfix s h.ainv⟩
  rcases h.main with ⟨prov, hb⟩ | hd
  · left
    obtain ⟨prov', hk, hn⟩ := Bridge.fix_prov s.forest prov
    exact ⟨prov', BuiltU.fix hb (forestAll_U h.ainv.trees) hk hn⟩
  · right
    show Dirty (fixAll s.forest)
    exact dirty_fixAll _ hd

end Stage

/-! ### the state before the deviations -/

theorem bj_pstate0 (reg : Registry) (opts : Opts) (plug : Plug) {q : Entry → Bool}
    (hq : Tree.LocalOK (Tree.envOf reg opts plug) q) : BJ reg q (Tree.pstate0 reg opts plug) := by
  have hbi := bi_pstate0 reg opts plug
  exact ⟨Or.inl ⟨fun loc => some loc.1,
      BuiltU.init (ConfigNsToEntry.conversion_free (Tree.envOf reg opts plug) (entryFuel reg) (Tree.keyOrder reg))⟩,
    hbi.pend, hbi.trees, Tree.ainv_pstate0 reg opts plug hq⟩

/-- **The forest `processAll` applies its deviations to is `BuiltU` — or a root carries an error.** -/
theorem bj_preDev (reg : Registry) (opts : Opts) (plug : Plug) :
    BJ reg (Tree.wfqB false) (Tree.preDev reg opts plug) := by
  have hq : Tree.LocalOK (Tree.envOf reg opts plug) (Tree.wfqB false) :=
    Tree.localOK_wfqB _ false (fun h => by cases h)
  have hfix := Tree.wfqB_fixChoice false
  have h1 := Tree.afterRounds_state reg opts plug (BJ reg (Tree.wfqB false))
    (fun fuel mods s h => Tree.augmentLoop_keeps reg _ (fun id s => augmentTree_bj hq reg id false s) fuel mods s h) (fun s h => fixAll_bj reg hfix s h)
    (bj_pstate0 reg opts plug hq)
  have h2 := Tree.leftover_keeps reg _ (fun id s => augmentTree_bj hq reg id true s) (Tree.afterRounds reg opts plug).1 (Tree.afterRounds reg opts plug).2 h1
  unfold Tree.preDev
  split
  · exact fixAll_bj reg hfix _ h2
  · exact h2

/-- **On an error-free run, the forest before the deviations is `Built`.** -/
theorem preDev_built_of_clean (reg : Registry) (opts : Opts) (plug : Plug)
    (hclean : Tree.forestErrs (Tree.preDev reg opts plug).forest = []) :
    ∃ prov, Built reg (Tree.preDev reg opts plug).forest prov := by
  rcases (bj_preDev reg opts plug).main with ⟨prov, hb⟩ | ⟨t, root, hroot, herr⟩
  · exact ⟨prov, hb.toBuilt⟩
  · exfalso
    have hne := (Tree.forestErrs_eq_nil _).1 hclean
    exact herr (Tree.noErrors_own root (Tree.forestAll_tree? _ t root hne hroot))

end Goyang.Lemmas.ConfigNsBuilt
