import Goyang.Lemmas.DevExtAugMain
/-
C08, frame across module sets — part 8: `uses` in the base registry.

The conversion of a statement of a module of `B` in the run with the new modules (`toEntry` in the
environment of `X`, fuel `entryFuel X`) against the run without them (environment of `B`, fuel
`entryFuel B`), split into two independent facts:

* SAME FUEL, two registries (`toEntry_sameFuel`, proved here): at every fuel the two environments give
  the same conversion, `uses` included — the grouping search (`findGrouping`, which runs on
  `2 * fuel + 16`) is simulated step by step (`fg_all`): it follows imports of modules of `B` only,
  and those resolve alike; it asks whether the module was linked, and that is the same in both runs
  (`FgAgree.linked`, hypothesis).
* SAME REGISTRY, two fuels (`FuelStable`, hypothesis here): the conversion in `B` alone does not change
  when the fuel grows from `entryFuel B` to `entryFuel X`.  Without `uses` this is `toEntry_env`
  (`fuelStable_noUses`); with `uses` it needs that the grouping search is not cut short at the fuels
  that occur (a sharper bound than `groupingNeed`, which counts the length of the name).

Together: `ConvAgree` (`convAgree_of_stable`).  Core Lean only.

Later parts: `LinkAgree` is derived from `DevExtCore` in `DevExtLink.lean`; `FuelStable` (every call, any
scope list) is NOT true of a base whose `uses` resolves (`Props/C08.lean`, `fuelStable_fails`) — the
top-level version `FuelStableTop` is, for every registry (`DevExtFuel.lean`, `fuelStableTop`), and
`convAgreeTop_of_devExtCore` there puts the halves together.  `FgAgree.imp` asks only about statements
with the keyword `module` / `submodule` (`ModImports`; `FlatModKw`: none but the roots).
-/
set_option linter.unusedSectionVars false
open Goyang.Lemmas.RegistryAux (findModule_mem)
namespace Goyang.Lemmas.DevExt
open Goyang.Model
open Goyang.Lemmas.Tree (envOf)
open Goyang.Lemmas.Fuel (Sub Rec toEntryBody toEntry_succ body_congr Callee visiting' skeleton stepB foldl_ext_mem fgScope_cons fgImports_cons fgIncludes_cons orElse orElse_congr viaOwner importHit includeHit isModKw findGrouping_sound includeTarget_mem mem_all_subs)

/-! ### a property of every statement of a tree -/

mutual
/-- `P` holds of the statement and of every statement below it. -/
def Deep (P : Stmt → Prop) : Stmt → Prop
  | .mk kw ha arg file line col subs => P (.mk kw ha arg file line col subs) ∧ DeepL P subs
def DeepL (P : Stmt → Prop) : List Stmt → Prop
  | [] => True
  | s :: ss => Deep P s ∧ DeepL P ss
end

theorem deepL_mem {P : Stmt → Prop} {l : List Stmt} (h : DeepL P l) {c : Stmt} (hc : c ∈ l) : Deep P c := by
  induction l with
  | nil => cases hc
  | cons a l ih =>
    simp only [DeepL] at h
    rcases List.mem_cons.mp hc with rfl | hc
    · exact h.1
    · exact ih h.2 hc

theorem deep_self {P : Stmt → Prop} {t : Stmt} (h : Deep P t) : P t := by
  cases t with
  | mk kw ha arg file line col subs => simp only [Deep] at h; exact h.1

theorem deep_subs {P : Stmt → Prop} {t : Stmt} (h : Deep P t) : DeepL P t.subs := by
  cases t with
  | mk kw ha arg file line col subs => simp only [Deep] at h; exact h.2

theorem deep_sub {P : Stmt → Prop} {s t : Stmt} (hs : Sub s t) (h : Deep P t) : P s := by
  induction hs with
  | refl => exact deep_self h
  | step hm _ ih => exact ih (deepL_mem (deep_subs h) hm)

/-! ### the grouping search in two registries, same fuel -/

/-- What the grouping search reads of the registry and of the linked set, on behalf of modules of `B`. -/
structure FgAgree (B X : Registry) (lX lB : List Nat) : Prop where
  linked : ∀ m ∈ B.mods, lX.contains m.seq = lB.contains m.seq
  imp : ∀ m ∈ B.mods, ∀ s, Sub s m.stmt → isModKw s = true → ∀ i ∈ s.all "import", X.findModule false i = B.findModule false i
  inc : ∀ i, X.findModule true i = B.findModule true i
  own : ∀ m ∈ B.mods, m.belongsTo?.bind X.getModule = m.belongsTo?.bind B.getModule

theorem fg_all {B X : Registry} {lX lB : List Nat} (a : FgAgree B X lX lB) : ∀ fuel : Nat,
    (∀ root scope name seen, root ∈ B.mods → (∀ s ∈ scope, Sub s root.stmt) →
      findGrouping X lX fuel root scope name seen = findGrouping B lB fuel root scope name seen) ∧
    (∀ root scope name seen, root ∈ B.mods → (∀ s ∈ scope, Sub s root.stmt) →
      fgScope X lX fuel root scope name seen = fgScope B lB fuel root scope name seen) ∧
    (∀ imports name seen, (∀ i ∈ imports, X.findModule false i = B.findModule false i) →
      fgImports X lX fuel imports name seen = fgImports B lB fuel imports name seen) ∧
    (∀ includes name seen, fgIncludes X lX fuel includes name seen = fgIncludes B lB fuel includes name seen) := by
  intro fuel
  induction fuel with
  | zero => refine ⟨?_, ?_, ?_, ?_⟩ <;> intros <;> simp [findGrouping, fgScope, fgImports, fgIncludes]
  | succ fuel ih =>
    obtain ⟨ihF, ihS, ihI, ihN⟩ := ih
    have hOwner : ∀ root cond name seen, root ∈ B.mods →
        viaOwner X lX fuel root cond name seen = viaOwner B lB fuel root cond name seen := by
      intro root cond name seen hr
      unfold viaOwner
      rw [a.own root hr]
      split
      · cases ho : root.belongsTo?.bind B.getModule with
        | none => rfl
        | some owner =>
          simp only
          split
          · rfl
          · exact ihF owner [owner.stmt] name _ (RegistryAux.belongsTo_mem ho) (fun s hs => by
              rw [List.mem_singleton] at hs; subst hs; exact .refl _)
      · rfl
    refine ⟨?_, ?_, ?_, ?_⟩
    · intro root scope name seen hr hs
      rw [findGrouping.eq_2, findGrouping.eq_2]
      exact ihS root scope _ seen hr hs
    · intro root scope name seen hr hs
      cases scope with
      | nil => simp [fgScope]
      | cons n up =>
        rw [fgScope_cons, fgScope_cons]
        have hn : Sub n root.stmt := hs n (List.mem_cons_self ..)
        have hup : ∀ s ∈ up, Sub s root.stmt := fun s h => hs s (List.mem_cons_of_mem _ h)
        cases (n.all "grouping").find? (·.arg == name) with
        | some g => rfl
        | none =>
          simp only
          rw [a.linked root hr]
          apply orElse_congr
          · apply ihI
            intro i hi
            split at hi
            · next hcond =>
              simp only [Bool.and_eq_true] at hcond
              exact a.imp root hr n hn hcond.1 i hi
            · cases hi
          · apply orElse_congr
            · exact ihN _ _ _
            · apply orElse_congr
              · exact hOwner root _ name _ hr
              · exact ihS root up name _ hr hup
    · intro imports name seen himp
      cases imports with
      | nil => simp [fgImports]
      | cons i rest =>
        rw [fgImports_cons, fgImports_cons]
        apply orElse_congr
        · unfold importHit
          simp only
          rw [himp i (List.mem_cons_self ..)]
          split
          · cases hf : B.findModule false i with
            | none => rfl
            | some im =>
              simp only
              exact ihF im [im.stmt] _ seen (findModule_mem hf) (fun s hs => by
                rw [List.mem_singleton] at hs; subst hs; exact .refl _)
          · rfl
        · exact ihI rest name _ (fun j hj => himp j (List.mem_cons_of_mem _ hj))
    · intro includes name seen
      cases includes with
      | nil => simp [fgIncludes]
      | cons i rest =>
        rw [fgIncludes_cons, fgIncludes_cons]
        apply orElse_congr
        · unfold includeHit
          rw [a.inc i]
          cases hf : B.findModule true i with
          | none => rfl
          | some im =>
            simp only
            split
            · rfl
            · exact ihF im [im.stmt] name _ (findModule_mem hf) (fun s hs => by
                rw [List.mem_singleton] at hs; subst hs; exact .refl _)
        · exact ihN rest name _

/-! ### `toEntry` in two environments, same fuel -/

section
variable {B : Registry} (envX envB : Env) (hreg : envB.reg = B)
  (hagree : ∀ root ∈ B.mods, EnvAgree envX envB root)
  (hfg : FgAgree B envX.reg envX.linked envB.linked)
include hreg hagree hfg

theorem findGrouping_envs (fuel : Nat) (root : Mod) (scope : List Stmt) (n : Stmt) (inv : Fuel.Inv envB root scope n)
    (name : String) (seen : List String) :
    findGrouping envX.reg envX.linked fuel root scope name seen = findGrouping envB.reg envB.linked fuel root scope name seen := by
  rw [hreg]
  exact (fg_all hfg fuel).1 root scope name seen (hreg ▸ inv.root_mem) inv.scope

theorem toEntryBody_envs (fuel : Nat) (r : Rec) (root : Mod) (scope : List Stmt) (n : Stmt) (vis : List NodeId) (st : TState)
    (inv : Fuel.Inv envB root scope n) :
    toEntryBody envX fuel r root scope n vis st = toEntryBody envB fuel r root scope n vis st := by
  have ha := hagree root (hreg ▸ inv.root_mem)
  have hdir : (fun (isMod : Bool) (e0 : Entry) =>
        (fieldOrder n.kw).foldl (stepB envX r root n (n :: scope) (visiting' root n vis) isMod) (e0, st)) =
      (fun (isMod : Bool) (e0 : Entry) =>
        (fieldOrder n.kw).foldl (stepB envB r root n (n :: scope) (visiting' root n vis) isMod) (e0, st)) := by
    funext isMod e0
    apply foldl_ext_mem
    intro acc f _
    exact stepB_env ha _ _ _ _ _ _ _
  unfold toEntryBody
  rw [hdir, findGrouping_envs envX envB hreg hagree hfg (2 * fuel + 16) root scope n inv n.arg []]
  exact skeleton_env ha _ _ _ _ _ _

theorem callee_inv {root : Mod} {scope : List Stmt} {n : Stmt} {vis : List NodeId} (inv : Fuel.Inv envB root scope n)
    {root' : Mod} {scope' : List Stmt} {n' : Stmt} {vis' : List NodeId}
    (hcal : Callee envX root scope n vis root' scope' n' vis') : Fuel.Inv envB root' scope' n' := by
  cases hcal with
  | child hc =>
    refine ⟨inv.root_mem, Sub.child hc inv.node, ?_⟩
    intro s hs
    rcases List.mem_cons.mp hs with rfl | hs
    · exact inv.node
    · exact inv.scope s hs
  | uses hfind =>
    rw [findGrouping_envs envX envB hreg hagree hfg _ root scope n inv] at hfind
    obtain ⟨_, ⟨n0, up, hg, hgm⟩, hcase⟩ := findGrouping_sound hfind
    rcases hcase with ⟨hr, pre, hpre⟩ | ⟨hr, hsc⟩
    · subst hr
      have hsub : ∀ s ∈ scope', Sub s root'.stmt := fun s hs => inv.scope s (by rw [hpre]; exact List.mem_append_right _ hs)
      refine ⟨inv.root_mem, ?_, hsub⟩
      exact Sub.child hgm (hsub n0 (by rw [hg]; exact List.mem_cons_self ..))
    · have hn0 : n0 = root'.stmt := by
        rw [hg] at hsc
        simp only [List.cons.injEq] at hsc
        exact hsc.1
      subst hn0
      refine ⟨hr, Sub.child hgm (.refl _), ?_⟩
      intro s hs
      rw [hsc, List.mem_singleton] at hs
      subst hs
      exact .refl _
  | include_ hf hit =>
    have ha := hagree root (hreg ▸ inv.root_mem)
    rw [ha.incl] at hit
    exact ⟨includeTarget_mem hit, .refl _, fun _ h => by cases h⟩

/-- **Same fuel, two environments**: the conversion of a statement of a module of `B` is the same. -/
theorem toEntry_sameFuel : ∀ (fuel : Nat) (root : Mod) (scope : List Stmt) (n : Stmt) (vis : List NodeId) (st : TState),
    Fuel.Inv envB root scope n → toEntry envX fuel root scope n vis st = toEntry envB fuel root scope n vis st := by
  intro fuel
  induction fuel with
  | zero => intro root scope n vis st _; rfl
  | succ f ih =>
    intro root scope n vis st inv
    rw [toEntry_succ, toEntry_succ]
    rw [body_congr envX f (toEntry envX f) (toEntry envB f) root scope n vis st
      (fun root' scope' n' vis' st' hcal => ih root' scope' n' vis' st' (callee_inv envX envB hreg hagree hfg inv hcal))]
    exact toEntryBody_envs envX envB hreg hagree hfg f _ root scope n vis st inv

end

/-! ### putting the two halves together -/

/-- The conversion in `B` alone is the same at the fuel `fX` as at `entryFuel B`. -/
def FuelStable (B : Registry) (fX : Nat) (opts : Opts) (plug : Plug) : Prop :=
  ∀ (root : Mod) (scope : List Stmt) (n : Stmt) (vis : List NodeId) (st : TState),
    Fuel.Inv (envOf B opts plug) root scope n →
    toEntry (envOf B opts plug) fX root scope n vis st = toEntry (envOf B opts plug) (entryFuel B) root scope n vis st

/-- The imports of every statement of a module of `B` (not only the top-level ones) resolve alike. -/
def DeepImports (B X : Registry) : Prop :=
  ∀ m ∈ B.mods, Deep (fun s => ∀ i ∈ s.all "import", X.findModule false i = B.findModule false i) m.stmt

/-- The imports of every statement of a module of `B` that has the keyword `module` / `submodule` (the
grouping search reads the imports of no other statement) resolve alike. -/
def ModImports (B X : Registry) : Prop :=
  ∀ m ∈ B.mods, ∀ s, Sub s m.stmt → isModKw s = true → ∀ i ∈ s.all "import", X.findModule false i = B.findModule false i

theorem DeepImports.modImports {B X : Registry} (hdeep : DeepImports B X) : ModImports B X :=
  fun m hm _ hs _ i hi => deep_sub hs (hdeep m hm) i hi

/-- The modules of `B` are linked in the one run iff in the other. -/
def LinkAgree (B X : Registry) : Prop := ∀ m ∈ B.mods, (linkAll X).1.contains m.seq = (linkAll B).1.contains m.seq

section
variable {B X : Registry} {ds : List Mod} {dk : KeyMap} (h : DevExtCore B X ds dk)
include h

/-- No statement below a (sub)module statement has the keyword `module` or `submodule` (true of every
statement tree the AST builder accepts). -/
def FlatModKw (B : Registry) : Prop := ∀ m ∈ B.mods, ∀ s, Sub s m.stmt → isModKw s = true → s = m.stmt

/-- For such a base `ModImports` is what `DevExtCore` says about the imports of the modules of `B`. -/
theorem modImports_of_flat (hflat : FlatModKw B) : ModImports B X := by
  intro m hm s hs hk i hi
  rw [hflat m hm s hs hk] at hi
  exact h.imports m hm i hi

theorem fgAgree' (hmi : ModImports B X) (hlink : LinkAgree B X) : FgAgree B X (linkAll X).1 (linkAll B).1 where
  linked := hlink
  imp := hmi
  inc i := by
    have hx : ∀ (r : Registry), r.subModules = [] → r.findModule true i = none := by
      intro r hr
      unfold Registry.findModule Registry.getSub
      simp [hr, KeyMap.get?]
    rw [hx X h.subsX, hx B h.subsB]
  own m hm := by
    have := h.ownerEq m hm
    unfold Registry.owner at this
    cases hb : m.belongsTo? with
    | none => rfl
    | some b => rw [hb] at this; simpa using this

theorem fgAgree (hdeep : DeepImports B X) (hlink : LinkAgree B X) : FgAgree B X (linkAll X).1 (linkAll B).1 :=
  fgAgree' h hdeep.modImports hlink

/-- **`ConvAgree` from the two halves.** -/
theorem convAgree_of_stable {plug : Plug} (hplug : PlugAgree plug B X) (opts : Opts) (hdeep : DeepImports B X)
    (hlink : LinkAgree B X) (hst : FuelStable B (entryFuel X) opts plug) : ConvAgree B X opts plug := by
  intro root scope n vis st inv
  rw [toEntry_sameFuel (envOf X opts plug) (envOf B opts plug) rfl (envAgree h hplug opts) (fgAgree h hdeep hlink)
    (entryFuel X) root scope n vis st inv]
  exact hst root scope n vis st inv

omit h in
/-- Without `uses` the conversion in `B` does not depend on the fuel (above the need). -/
theorem fuelStable_noUses (hno : ∀ m ∈ B.mods, noUses m.stmt = true) (fX : Nat) (hf : entryFuel B ≤ fX) (opts : Opts)
    (plug : Plug) : FuelStable B fX opts plug := by
  intro root scope n vis st inv
  exact toEntry_env (B := B) (envOf B opts plug) (envOf B opts plug) rfl
    (fun _ _ => ⟨rfl, fun _ _ => rfl, fun _ => rfl⟩) hno (fun _ hm => hm) (entryFuel B) fX root scope n vis st inv
    (need_le_fuel (envOf B opts plug) vis inv) (Nat.le_trans (need_le_fuel (envOf B opts plug) vis inv) hf)

end

end Goyang.Lemmas.DevExt
