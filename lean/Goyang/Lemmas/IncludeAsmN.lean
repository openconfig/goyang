import Goyang.Lemmas.ListAux
import Goyang.Lemmas.IncludeAsm
/-
C13 (third sentence), part 4c: the combinatorial side for NESTED includes.  The entry of the owner
as goyang's depth-first conversion builds it (`ppart`: own steps before the include step, the
entries of the not yet started include targets — built the same way — merged, own remaining steps)
is, when the unsplit result is error free, error free with the unsplit module's children in
another order (`assemblyN`), and so is every entry produced on the way (`ppart_clean`).

Structure: (1) list facts; (2) the standing hypotheses `NestOK` (what they give together with the
error-free unsplit entry is `NestFacts`, IncludeAsm.lean); (3) the invariant of the depth-first conversion
(`ppart_inv`, by induction on the fuel; `ptgt_fold` is the fold over the include targets);
(4) the top: everything reachable has been started, so the started submodules are all of them.
-/
namespace Goyang.Lemmas.IncludeAsm
open Goyang.Model Goyang.Spec.Include Goyang.Lemmas.Tree Goyang.Spec.Tree Goyang.Lemmas.IncludeRel
open Goyang.Lemmas.IncludePure

/-! ### lists -/

/-- Marking one more submodule of `Ss` as started leaves fewer to start. -/
theorem count_lt (Ss : List Stmt) (S S' : List String) (hsub : ∀ n ∈ S, n ∈ S') (Y : Stmt) (hY : Y ∈ Ss)
    (h1 : Y.arg ∉ S) (h2 : Y.arg ∈ S') :
    (Ss.filter fun Z => !S'.contains Z.arg).length < (Ss.filter fun Z => !S.contains Z.arg).length := by
  rw [← List.countP_eq_length_filter, ← List.countP_eq_length_filter]
  refine ListAux.countP_lt ?_ hY ?_ ?_
  · intro a _ ha
    simp only [Bool.not_eq_true', List.contains_eq_mem, decide_eq_false_iff_not] at ha ⊢
    exact fun hm => ha (hsub _ hm)
  · simpa using h1
  · simpa using h2

/-- In a concatenation with distinct names, different members contribute different names. -/
theorem disj_of_nodup_flatMap {β : Type} (g : β → List Entry) (l : List β) (h : (nm (l.flatMap g)).Nodup)
    (P Q : β) (hP : P ∈ l) (hQ : Q ∈ l) (hne : P ≠ Q) : ∀ a ∈ nm (g P), a ∉ nm (g Q) := by
  induction l with
  | nil => cases hP
  | cons y l ih =>
    simp only [List.flatMap_cons, nm, List.map_append] at h
    rw [List.nodup_append] at h
    have hin : ∀ (R : β), R ∈ l → ∀ a ∈ nm (g R), a ∈ List.map Entry.name (l.flatMap g) := by
      intro R hR a ha
      obtain ⟨x, hx, rfl⟩ := List.mem_map.1 ha
      exact List.mem_map.2 ⟨x, List.mem_flatMap.2 ⟨R, hR, hx⟩, rfl⟩
    rcases List.mem_cons.1 hP with rfl | hP' <;> rcases List.mem_cons.1 hQ with rfl | hQ'
    · exact absurd rfl hne
    · intro a ha hb
      exact h.2.2 a ha a (hin Q hQ' a hb) rfl
    · intro a ha hb
      exact h.2.2 a hb a (hin P hP' a ha) rfl
    · exact ih h.2.1 hP' hQ'

theorem nodup_flatMap_of {β : Type} (g : β → List Entry) (Ps : List β) (hnd : Ps.Nodup)
    (h1 : ∀ P ∈ Ps, (nm (g P)).Nodup)
    (h2 : ∀ P ∈ Ps, ∀ Q ∈ Ps, P ≠ Q → ∀ a ∈ nm (g P), a ∉ nm (g Q)) : (nm (Ps.flatMap g)).Nodup := by
  induction Ps with
  | nil => exact List.nodup_nil
  | cons y l ih =>
    rw [List.nodup_cons] at hnd
    simp only [List.flatMap_cons, nm, List.map_append]
    rw [List.nodup_append]
    refine ⟨h1 y (List.mem_cons_self ..), ih hnd.2 (fun P hP => h1 P (List.mem_cons_of_mem _ hP))
      (fun P hP Q hQ => h2 P (List.mem_cons_of_mem _ hP) Q (List.mem_cons_of_mem _ hQ)), ?_⟩
    intro a ha b hb hab
    subst hab
    obtain ⟨x, hx, rfl⟩ := List.mem_map.1 hb
    obtain ⟨R, hR, hx⟩ := List.mem_flatMap.1 hx
    have hne : y ≠ R := fun e => hnd.1 (e ▸ hR)
    exact h2 y (List.mem_cons_self ..) R (List.mem_cons_of_mem _ hR) hne _ ha (List.mem_map.2 ⟨x, hx, rfl⟩)

/-- What is reached from `X` has every property that `X` has and that the targets inherit. -/
theorem treach_closed (tgt : Stmt → List Stmt) (P : Stmt → Prop) (hcl : ∀ Y, P Y → ∀ Z ∈ tgt Y, P Z)
    (X Y : Stmt) (hr : TReach tgt X Y) (hX : P X) : P Y := by
  induction hr with
  | refl => exact hX
  | step _ hZ ih => exact hcl _ ih _ hZ

/-! ### the standing hypotheses -/

/-- the standing hypotheses -/
structure NestOK (v : Stmt → Entry) (m O : Stmt) (Ss : List Stmt) (tgt : Stmt → List Stmt) : Prop where
  shape : ∀ c, Clean (v c) → c.kw ∈ nameKws → (v c).name = c.arg
  okw : O.kw = "module"
  skw : ∀ X ∈ Ss, X.kw = "submodule"
  body : ∀ kw ∈ bodyKws, (m.all kw).Perm ((O :: Ss).flatMap (·.all kw))
  devO : O.all "deviation" = m.all "deviation"
  devS : ∀ X ∈ Ss, X.all "deviation" = []
  descO : O.all "description" = m.all "description"
  argO : O.arg = m.arg
  mkw : m.kw = "module"
  names : (Ss.map (·.arg)).Nodup                       -- submodule names are distinct
  tgt_sub : ∀ X ∈ O :: Ss, ∀ Y ∈ tgt X, Y ∈ Ss           -- include statements resolve to submodules of the split
  cover : ∀ Y ∈ Ss, TReach tgt O Y                      -- every submodule is reached from the owner

theorem NestFacts.nd {env : Env} {v : Stmt → Entry} {root : Mod} {m O : Stmt} {Ss : List Stmt}
    (F : NestFacts env v root m O Ss) (Ps : List Stmt) (hPs : Ps.Nodup) (hsub : ∀ P ∈ Ps, P ∈ O :: Ss) :
    (nm (Ps.flatMap (itemsA v))).Nodup := by
  refine nodup_flatMap_of _ Ps hPs (fun P hP => nodup_of_mem_flatMap _ (O :: Ss) P (hsub P hP) F.ndAll) ?_
  intro P hP Q hQ hne
  exact disj_of_nodup_flatMap _ (O :: Ss) F.ndAll P Q (hsub P hP) (hsub Q hQ) hne

section Nest
variable (env : Env) (v : Stmt → Entry) (root : Mod) (m O : Stmt) (Ss : List Stmt) (tgt : Stmt → List Stmt)

theorem itemsA_clean (F : NestFacts env v root m O Ss) (P : Stmt) (hP : P ∈ O :: Ss) : ∀ x ∈ itemsA v P, Clean x :=
  items_clean v P _ (F.val P hP)

/-- The names of what a part and other, pairwise different submodules contribute are distinct. -/
theorem nd_part (F : NestFacts env v root m O Ss) (X : Stmt) (hX : X ∈ O :: Ss) (N : List Stmt) (hN : N.Nodup)
    (hsub : ∀ Y ∈ N, Y ∈ Ss) (hXN : X ∉ N) : (nm (itemsA v X ++ N.flatMap (itemsA v))).Nodup := by
  have := F.nd (X :: N) (List.nodup_cons.2 ⟨hXN, hN⟩) (by
    intro P hP
    rcases List.mem_cons.1 hP with rfl | hP
    · exact hX
    · exact List.mem_cons_of_mem _ (hsub P hP))
  simpa only [List.flatMap_cons] using this

theorem nd_pre (F : NestFacts env v root m O Ss) (X : Stmt) (hX : X ∈ O :: Ss) (N : List Stmt) (hN : N.Nodup)
    (hsub : ∀ Y ∈ N, Y ∈ Ss) (hXN : X ∉ N) : (nm (items v X preFields ++ N.flatMap (itemsA v))).Nodup := by
  have h := nd_part env v root m O Ss F X hX N hN hsub hXN
  rw [itemsA_eq, List.append_assoc] at h
  refine List.Nodup.sublist ?_ h
  exact ((List.Sublist.refl _).append (List.sublist_append_right _ _)).map _

theorem clean_of_perm (F : NestFacts env v root m O Ss) (X : Stmt) (hX : X ∈ O :: Ss) (N : List Stmt)
    (hsub : ∀ Y ∈ N, Y ∈ Ss) (L : List Entry) (hL : L.Perm (itemsA v X ++ N.flatMap (itemsA v))) :
    ∀ x ∈ L, Clean x := by
  intro x hx
  rcases List.mem_append.1 (hL.mem_iff.1 hx) with hx | hx
  · exact itemsA_clean env v root m O Ss F X hX x hx
  · obtain ⟨Y, hY, hx⟩ := List.mem_flatMap.1 hx
    exact itemsA_clean env v root m O Ss F Y (List.mem_cons_of_mem _ (hsub Y hY)) x hx

/-! ### the depth-first conversion -/

/-- One include target in the depth-first conversion. -/
def ptgt (f : Nat) (acc : Entry × List String) (Y : Stmt) : Entry × List String :=
  if acc.2.contains Y.arg then acc
  else (acc.1.merge none (ppart env v root tgt f (acc.2 ++ [Y.arg]) Y).1,
    (ppart env v root tgt f (acc.2 ++ [Y.arg]) Y).2)

theorem ppart_succ_eq (f : Nat) (S : List String) (X : Stmt) :
    ppart env v root tgt (f + 1) S X =
      ((pfold env v root X postFields
          (((tgt X).foldl (ptgt env v root tgt f) ((pfold env v root X preFields (e0 root X, {})).1, S)).1, {})).1,
        ((tgt X).foldl (ptgt env v root tgt f) ((pfold env v root X preFields (e0 root X, {})).1, S)).2) := rfl

theorem ptgt_skip (f : Nat) (acc : Entry × List String) (Y : Stmt) (hc : Y.arg ∈ acc.2) :
    ptgt env v root tgt f acc Y = acc := by
  unfold ptgt
  rw [if_pos (List.contains_iff_mem.2 hc)]

theorem ptgt_go (f : Nat) (acc : Entry × List String) (Y : Stmt) (hc : Y.arg ∉ acc.2) :
    ptgt env v root tgt f acc Y =
      (acc.1.merge none (ppart env v root tgt f (acc.2 ++ [Y.arg]) Y).1,
        (ppart env v root tgt f (acc.2 ++ [Y.arg]) Y).2) := by
  unfold ptgt
  rw [if_neg (fun hm => hc (List.contains_iff_mem.1 hm))]

/-- The submodules `N` newly started in a conversion that began with the names `S` started: members
of the split, pairwise different, not started before, and whatever their include statements resolve
to has been started. -/
structure Started (S : List String) (N : List Stmt) : Prop where
  sub : ∀ Y ∈ N, Y ∈ Ss
  nd : N.Nodup
  fresh : ∀ Y ∈ N, Y.arg ∉ S
  clos : ∀ Z ∈ N, ∀ Y ∈ tgt Z, Y.arg ∈ S ++ N.map (·.arg)

/-- The invariant of the depth-first conversion of the part `X` with the names `S` started. -/
def PartInv (f : Nat) (S : List String) (X : Stmt) : Prop :=
  ∃ (N : List Stmt) (L : List Entry), Started Ss tgt S N ∧
    (∀ Y ∈ tgt X, Y.arg ∈ S ++ N.map (·.arg)) ∧
    (ppart env v root tgt f S X).2 = S ++ N.map (·.arg) ∧
    (ppart env v root tgt f S X).1 = descE X (ext (e0 root X) L) ∧
    L.Perm (itemsA v X ++ N.flatMap (itemsA v))

theorem not_mem_started (S : List String) (X : Stmt) (hXS : X ∈ Ss → X.arg ∈ S) (N : List Stmt)
    (hst : Started Ss tgt S N) : X ∉ N :=
  fun hm => hst.fresh X hm (hXS (hst.sub X hm))

/-- The fold over the include targets `T` of `X`. -/
theorem ptgt_fold (h : NestOK v m O Ss tgt) (F : NestFacts env v root m O Ss) (f : Nat)
    (ih : ∀ (S : List String) (X : Stmt), X ∈ O :: Ss → (∀ n ∈ S, ∃ Y ∈ Ss, Y.arg = n) →
      (X ∈ Ss → X.arg ∈ S) → (Ss.filter fun Y => !S.contains Y.arg).length < f →
      PartInv env v root Ss tgt f S X)
    (S : List String) (X : Stmt) (hX : X ∈ O :: Ss) (hS : ∀ n ∈ S, ∃ Y ∈ Ss, Y.arg = n)
    (hXS : X ∈ Ss → X.arg ∈ S) (hf : (Ss.filter fun Y => !S.contains Y.arg).length < f + 1)
    (T : List Stmt) (hT : ∀ Y ∈ T, Y ∈ Ss) (N0 : List Stmt) (L0 : List Entry) (hst : Started Ss tgt S N0)
    (hL0 : L0.Perm (items v X preFields ++ N0.flatMap (itemsA v))) :
    ∃ N1 L1, Started Ss tgt S N1 ∧ (∀ Y ∈ N0, Y ∈ N1) ∧ (∀ Y ∈ T, Y.arg ∈ S ++ N1.map (·.arg)) ∧
      L1.Perm (items v X preFields ++ N1.flatMap (itemsA v)) ∧
      T.foldl (ptgt env v root tgt f) (ext (e0 root X) L0, S ++ N0.map (·.arg)) =
        (ext (e0 root X) L1, S ++ N1.map (·.arg)) := by
  induction T generalizing N0 L0 with
  | nil => exact ⟨N0, L0, hst, fun _ hY => hY, fun _ hY => absurd hY (by simp), hL0, rfl⟩
  | cons Y T ihT =>
    have hY : Y ∈ Ss := hT Y (List.mem_cons_self ..)
    have hT' : ∀ Z ∈ T, Z ∈ Ss := fun Z hZ => hT Z (List.mem_cons_of_mem _ hZ)
    simp only [List.foldl_cons]
    by_cases hc : Y.arg ∈ S ++ N0.map (·.arg)
    · rw [ptgt_skip env v root tgt f _ Y hc]
      obtain ⟨N1, L1, a1, a2, a3, a4, a5⟩ := ihT hT' N0 L0 hst hL0
      refine ⟨N1, L1, a1, a2, ?_, a4, a5⟩
      intro Z hZ
      rcases List.mem_cons.1 hZ with rfl | hZ
      · rcases List.mem_append.1 hc with hc | hc
        · exact List.mem_append_left _ hc
        · obtain ⟨W, hW, hWa⟩ := List.mem_map.1 hc
          exact List.mem_append_right _ (List.mem_map.2 ⟨W, a2 W hW, hWa⟩)
      · exact a3 Z hZ
    · rw [ptgt_go env v root tgt f _ Y hc]
      dsimp only
      have hcS : Y.arg ∉ S := fun hm => hc (List.mem_append_left _ hm)
      have hcN : ∀ Z ∈ N0, Z.arg ≠ Y.arg := fun Z hZ e =>
        hc (List.mem_append_right _ (List.mem_map.2 ⟨Z, hZ, e⟩))
      -- the nested conversion
      have hS' : ∀ n ∈ S ++ N0.map (·.arg) ++ [Y.arg], ∃ Z ∈ Ss, Z.arg = n := by
        intro n hn
        rcases List.mem_append.1 hn with hn | hn
        · rcases List.mem_append.1 hn with hn | hn
          · exact hS n hn
          · obtain ⟨W, hW, hWa⟩ := List.mem_map.1 hn
            exact ⟨W, hst.sub W hW, hWa⟩
        · rw [List.mem_singleton] at hn
          exact ⟨Y, hY, hn.symm⟩
      have hfuel : (Ss.filter fun Z => !(S ++ N0.map (·.arg) ++ [Y.arg]).contains Z.arg).length < f := by
        have := count_lt Ss S (S ++ N0.map (·.arg) ++ [Y.arg])
          (fun n hn => List.mem_append_left _ (List.mem_append_left _ hn)) Y hY hcS
          (List.mem_append_right _ (List.mem_singleton.2 rfl))
        omega
      obtain ⟨N', L', hst', hclY, h2, h1, hL'⟩ := ih (S ++ N0.map (·.arg) ++ [Y.arg]) Y (List.mem_cons_of_mem _ hY) hS'
        (fun _ => List.mem_append_right _ (List.mem_singleton.2 rfl)) hfuel
      have hfr' : ∀ Z ∈ N', Z.arg ∉ S ∧ (∀ W ∈ N0, W.arg ≠ Z.arg) ∧ Z.arg ≠ Y.arg := by
        intro Z hZ
        have := hst'.fresh Z hZ
        refine ⟨fun hm => this (List.mem_append_left _ (List.mem_append_left _ hm)), ?_, ?_⟩
        · intro W hW e
          exact this (List.mem_append_left _ (List.mem_append_right _ (List.mem_map.2 ⟨W, hW, e⟩)))
        · intro e
          exact this (List.mem_append_right _ (List.mem_singleton.2 e))
      have heq : S ++ (N0 ++ Y :: N').map (·.arg) = S ++ N0.map (·.arg) ++ [Y.arg] ++ N'.map (·.arg) := by
        simp [List.map_append, List.append_assoc]
      have hst0 : Started Ss tgt S (N0 ++ Y :: N') := by
        refine ⟨?_, ?_, ?_, ?_⟩
        · intro Z hZ
          rcases List.mem_append.1 hZ with hZ | hZ
          · exact hst.sub Z hZ
          · rcases List.mem_cons.1 hZ with rfl | hZ
            · exact hY
            · exact hst'.sub Z hZ
        · rw [List.nodup_append]
          refine ⟨hst.nd, List.nodup_cons.2 ⟨fun hm => (hfr' Y hm).2.2 rfl, hst'.nd⟩, ?_⟩
          intro a ha b hb e
          subst e
          rcases List.mem_cons.1 hb with rfl | hb
          · exact hcN a ha rfl
          · exact (hfr' a hb).2.1 a ha rfl
        · intro Z hZ
          rcases List.mem_append.1 hZ with hZ | hZ
          · exact hst.fresh Z hZ
          · rcases List.mem_cons.1 hZ with rfl | hZ
            · exact hcS
            · exact (hfr' Z hZ).1
        · intro Z hZ W hW
          rw [heq]
          rcases List.mem_append.1 hZ with hZ | hZ
          · exact List.mem_append_left _ (List.mem_append_left _ (hst.clos Z hZ W hW))
          · rcases List.mem_cons.1 hZ with rfl | hZ
            · exact hclY W hW
            · exact hst'.clos Z hZ W hW
      have hXN0 : X ∉ N0 ++ Y :: N' := not_mem_started Ss tgt S X hXS _ hst0
      have hL0' : (L0 ++ L').Perm (items v X preFields ++ (N0 ++ Y :: N').flatMap (itemsA v)) := by
        refine (hL0.append hL').trans ?_
        simp only [List.flatMap_append, List.flatMap_cons, List.append_assoc]
        exact List.Perm.refl _
      have hndm : (nm (L0 ++ L')).Nodup :=
        (hL0'.map Entry.name).nodup_iff.2 (nd_pre env v root m O Ss F X hX _ hst0.nd hst0.sub hXN0)
      have hclq : Clean (descE Y (ext (e0 root Y) L')) := by
        rw [clean_descE, clean_ext]
        exact ⟨clean_e0 root Y (Or.inr (h.skw Y hY)),
          clean_of_perm env v root m O Ss F Y (List.mem_cons_of_mem _ hY) N' hst'.sub L' hL'⟩
      have hmerge : (ext (e0 root X) L0).merge none (descE Y (ext (e0 root Y) L')) = ext (e0 root X) (L0 ++ L') := by
        rw [merge_eq' _ _ hclq (by
          rw [ext_dir, descE_dir, ext_dir, e0_dir, e0_dir, List.nil_append, List.nil_append]; exact hndm),
          descE_dir, ext_dir, e0_dir, List.nil_append, ext_ext]
      rw [h1, h2, hmerge, ← heq]
      obtain ⟨N1, L1, a1, a2, a3, a4, a5⟩ := ihT hT' (N0 ++ Y :: N') (L0 ++ L') hst0 hL0'
      refine ⟨N1, L1, a1, fun Z hZ => a2 Z (List.mem_append_left _ hZ), ?_, a4, a5⟩
      intro Z hZ
      rcases List.mem_cons.1 hZ with rfl | hZ
      · exact List.mem_append_right _ (List.mem_map.2
          ⟨Z, a2 Z (List.mem_append_right _ (List.mem_cons_self ..)), rfl⟩)
      · exact a3 Z hZ

/-- **The invariant of the depth-first conversion.** -/
theorem ppart_inv (h : NestOK v m O Ss tgt) (hclean : Clean (pmod env v root m)) :
    ∀ (f : Nat) (S : List String) (X : Stmt), X ∈ O :: Ss → (∀ n ∈ S, ∃ Y ∈ Ss, Y.arg = n) →
      (X ∈ Ss → X.arg ∈ S) → (Ss.filter fun Y => !S.contains Y.arg).length < f →
      PartInv env v root Ss tgt f S X := by
  have F := nestFacts env v h.shape root m O Ss h.body h.devO h.devS hclean
  intro f
  induction f with
  | zero => intro S X _ _ _ hf; exact absurd hf (Nat.not_lt_zero _)
  | succ f ih =>
    intro S X hX hS hXS hf
    have hvalX := F.val X hX
    have hst0 : Started Ss tgt S [] :=
      ⟨fun _ hY => absurd hY (by simp), List.nodup_nil, fun _ hY => absurd hY (by simp), fun _ hZ => absurd hZ (by simp)⟩
    have hndA : (nm (items v X preFields)).Nodup := by
      simpa using nd_pre env v root m O Ss F X hX [] List.nodup_nil (fun _ hY => absurd hY (by simp)) (by simp)
    have hpre : (pfold env v root X preFields (e0 root X, {})).1 = ext (e0 root X) (items v X preFields) := by
      rw [pfold_fst env v root X preFields (fun f hf => List.mem_append_left _ hf),
        foldFs_eq v h.shape X preFields (e0 root X) (fun f hf => hvalX f (List.mem_append_left _ hf))
          (by rw [e0_dir, List.nil_append]; exact hndA),
        D_pre]
    obtain ⟨N1, L1, a1, _, a3, a4, a5⟩ := ptgt_fold env v root m O Ss tgt h F f ih S X hX hS hXS hf (tgt X)
      (h.tgt_sub X hX) [] (items v X preFields) hst0 (by simp)
    have hXN1 : X ∉ N1 := not_mem_started Ss tgt S X hXS _ a1
    have hLp : (L1 ++ items v X postFields).Perm (itemsA v X ++ N1.flatMap (itemsA v)) := by
      rw [itemsA_eq]
      refine (a4.append_right _).trans ?_
      rw [List.append_assoc, List.append_assoc]
      exact List.Perm.append_left _ List.perm_append_comm
    have hndp : (nm (L1 ++ items v X postFields)).Nodup :=
      (hLp.map Entry.name).nodup_iff.2 (nd_part env v root m O Ss F X hX N1 a1.nd a1.sub hXN1)
    simp only [List.map_nil, List.append_nil] at a5
    rw [← hpre] at a5
    refine ⟨N1, L1 ++ items v X postFields, a1, a3, ?_, ?_, hLp⟩
    · rw [ppart_succ_eq, a5]
    · rw [ppart_succ_eq, a5]
      dsimp only
      rw [pfold_fst env v root X postFields (fun f hf => List.mem_append_right _ hf),
        foldFs_eq v h.shape X postFields _ (fun f hf => hvalX f (List.mem_append_right _ hf))
          (by rw [ext_dir, e0_dir, List.nil_append]; exact hndp),
        D_post, ext_ext]

/-- every entry the depth-first conversion produces on the way is error free -/
theorem ppart_clean (h : NestOK v m O Ss tgt) (hclean : Clean (pmod env v root m))
    (f : Nat) (S : List String) (X : Stmt) (hX : X ∈ O :: Ss) (hS : ∀ n ∈ S, ∃ Y ∈ Ss, Y.arg = n)
    (hXS : X ∈ Ss → X.arg ∈ S) (hf : (Ss.filter fun Y => !S.contains Y.arg).length < f) :
    Clean (ppart env v root tgt f S X).1 := by
  have F := nestFacts env v h.shape root m O Ss h.body h.devO h.devS hclean
  obtain ⟨N, L, hst, _, _, h1, hL⟩ := ppart_inv env v root m O Ss tgt h hclean f S X hX hS hXS hf
  rw [h1, clean_descE, clean_ext]
  refine ⟨clean_e0 root X ?_, clean_of_perm env v root m O Ss F X hX N hst.sub L hL⟩
  rcases List.mem_cons.1 hX with rfl | hX
  · exact Or.inl h.okw
  · exact Or.inr (h.skw X hX)

/-- the owner's entry is the unsplit module's, children in another order -/
theorem assemblyN (h : NestOK v m O Ss tgt) (hclean : Clean (pmod env v root m)) (F : Nat) (hF : Ss.length < F) :
    Clean (ppart env v root tgt F [] O).1 ∧
    (ppart env v root tgt F [] O).1.dir.Perm (pmod env v root m).dir ∧
    SameData (ppart env v root tgt F [] O).1.d (pmod env v root m).d ∧
    (ppart env v root tgt F [] O).1.inp = [] ∧ (pmod env v root m).inp = [] ∧
    (ppart env v root tgt F [] O).1.out = [] ∧ (pmod env v root m).out = [] ∧
    (∀ Y ∈ Ss, Y.arg ∈ (ppart env v root tgt F [] O).2) := by
  have Fc := nestFacts env v h.shape root m O Ss h.body h.devO h.devS hclean
  have hO : O ∈ O :: Ss := List.mem_cons_self ..
  have hOS : O ∉ Ss := fun hm => by
    have := h.skw O hm
    rw [h.okw] at this
    exact absurd this (by decide)
  have hfuel : (Ss.filter fun Y => !([] : List String).contains Y.arg).length < F :=
    Nat.lt_of_le_of_lt (List.length_filter_le _ _) hF
  have hS0 : ∀ n ∈ ([] : List String), ∃ Y ∈ Ss, Y.arg = n := fun _ hn => absurd hn (by simp)
  have hcl := ppart_clean env v root m O Ss tgt h hclean F [] O hO hS0 (fun hm => absurd hm hOS) hfuel
  obtain ⟨N, L, hst, hclO, h2, h1, hL⟩ := ppart_inv env v root m O Ss tgt h hclean F [] O hO hS0
    (fun hm => absurd hm hOS) hfuel
  simp only [List.nil_append] at hclO h2
  have hclos := hst.clos
  simp only [List.nil_append] at hclos
  have hinj := ListAux.eq_of_nodup_map (·.arg) Ss h.names
  -- everything reached from the owner is the owner or has been started
  have hmemN : ∀ (W Z : Stmt), (W = O ∨ W ∈ N) → Z ∈ tgt W → Z ∈ N := by
    intro W Z hW hZ
    have hWp : W ∈ O :: Ss := by
      rcases hW with rfl | hW
      · exact hO
      · exact List.mem_cons_of_mem _ (hst.sub W hW)
    have hZs : Z ∈ Ss := h.tgt_sub W hWp Z hZ
    have hZa : Z.arg ∈ N.map (·.arg) := by
      rcases hW with rfl | hW
      · exact hclO Z hZ
      · exact hclos W hW Z hZ
    obtain ⟨U, hU, hUa⟩ := List.mem_map.1 hZa
    have : U = Z := hinj U (hst.sub U hU) Z hZs hUa
    exact this ▸ hU
  have hall : ∀ Y ∈ Ss, Y ∈ N := by
    intro Y hY
    have := treach_closed tgt (fun W => W = O ∨ W ∈ N) (fun W hW Z hZ => Or.inr (hmemN W Z hW hZ)) O Y
      (h.cover Y hY) (Or.inl rfl)
    rcases this with rfl | this
    · exact absurd hY hOS
    · exact this
  have hNS : N.Perm Ss :=
    (List.perm_ext_iff_of_nodup hst.nd (ListAux.nodup_of_map _ Ss h.names)).2
      (fun a => ⟨hst.sub a, hall a⟩)
  have hLm : L.Perm (itemsA v m) := by
    refine hL.trans (List.Perm.trans ?_ Fc.perm.symm)
    simp only [List.flatMap_cons]
    exact List.Perm.append_left _ (List.Perm.flatMap_right _ hNS)
  refine ⟨hcl, ?_, ?_, ?_, ?_, ?_, ?_, ?_⟩
  · rw [h1, Fc.meq, descE_dir, descE_dir, ext_dir, ext_dir]
    exact List.Perm.append_left _ hLm
  · rw [h1, Fc.meq, descE_ext_d, descE_ext_d]
    exact sameData_desc root O m h.okw h.mkw h.argO (argOf?_of_all h.descO)
  · rw [h1, descE_inp, ext_inp]; rfl
  · rw [Fc.meq, descE_inp, ext_inp]; rfl
  · rw [h1, descE_out, ext_out]; rfl
  · rw [Fc.meq, descE_out, ext_out]; rfl
  · intro Y hY
    rw [h2]
    exact List.mem_map.2 ⟨Y, hall Y hY, rfl⟩

end Nest

end Goyang.Lemmas.IncludeAsm
