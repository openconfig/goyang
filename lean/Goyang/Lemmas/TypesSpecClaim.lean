import Goyang.Lemmas.TypesSpecFuel
/-
The converse of `chainOf_noClaim_reason` (Lemmas/TypesSpecFuel.lean): when `chainOf` answers `ok`, no
site met while resolving the type statement has a `Feature` that puts it outside the claim
(`chainOf_ok_no_feature`).  On the way: an `ok` answer of `chainOf` does not depend on the budget nor
on the type statements in progress (`chainOf_ok_stable`).
-/
namespace Goyang.Lemmas.TypesSpecClaim
open Goyang.Model Goyang.Model.Types Goyang.Spec.Types Goyang.Lemmas.Types Goyang.Lemmas.TypesFuel
  Goyang.Lemmas.TypesDefs Goyang.Lemmas.TypesSpecBind Goyang.Lemmas.TypesSpecChain Goyang.Lemmas.TypesSpecErr
  Goyang.Lemmas.TypesSpecFuel

theorem forall₂_functional {α β : Type} {R S : α → β → Prop} :
    ∀ {l : List α} {ms ms' : List β}, List.Forall₂ R l ms → List.Forall₂ S l ms' →
      (∀ a ∈ l, ∀ b b', R a b → S a b' → b = b') → ms = ms'
  | _, _, _, .nil, .nil, _ => rfl
  | _, _, _, .cons h1 h2, .cons h1' h2', hf => by
    rw [hf _ List.mem_cons_self _ _ h1 h1',
      forall₂_functional h2 h2' (fun a ha => hf a (List.mem_cons_of_mem _ ha))]

/-- **An `ok` answer is independent of the budget and of the statements in progress**: these only
ever turn an answer into `noClaim "fuel"` or `error`. -/
theorem chainOf_ok_stable (reg : Registry) :
    ∀ (fuel fuel' : Nat) (root : Mod) (scope : List Stmt) (t : Stmt) (vis vis' : List Key) (k k' : String)
      (ls ls' : List Layer),
      chainOf reg fuel root scope t vis = .ok k ls → chainOf reg fuel' root scope t vis' = .ok k' ls' →
      k = k' ∧ ls = ls' := by
  intro fuel
  induction fuel with
  | zero => intro fuel' root scope t vis vis' k k' ls ls' h; unfold chainOf at h; cases h
  | succ fuel ih =>
    intro fuel' root scope t vis vis' k k' ls ls' h h'
    cases fuel' with
    | zero => unfold chainOf at h'; cases h'
    | succ fuel' =>
      obtain ⟨ms, own, hcm, hown, hcase⟩ := chainOf_succ_ok' h
      obtain ⟨ms', own', hcm', hown', hcase'⟩ := chainOf_succ_ok' h'
      have hf := forall₂_map_left _ (collectMembers_ok _ _ hcm)
      have hf' := forall₂_map_left _ (collectMembers_ok _ _ hcm')
      have hms : ms = ms' := by
        apply forall₂_functional hf hf'
        intro ut _ st st' hst hst'
        obtain ⟨k1, ls1, hc1, rfl⟩ := finish_ok hst
        obtain ⟨k2, ls2, hc2, rfl⟩ := finish_ok hst'
        obtain ⟨rfl, rfl⟩ := ih _ _ _ _ _ _ _ _ _ _ hc1 hc2
        rfl
      subst hms
      rw [hown] at hown'
      simp only [Except.ok.injEq] at hown'
      subst hown'
      rcases hcase with ⟨hbt, rfl⟩ | ⟨m, td, sc, tt, ls0, hbt, htt, hch, rfl⟩
      · rcases hcase' with ⟨hbt', rfl⟩ | ⟨m', td', sc', tt', ls0', hbt', _, _, _⟩
        · rw [hbt] at hbt'
          simp only [Binding.builtin.injEq] at hbt'
          exact ⟨hbt', rfl⟩
        · rw [hbt] at hbt'; cases hbt'
      · rcases hcase' with ⟨hbt', rfl⟩ | ⟨m', td', sc', tt', ls0', hbt', htt', hch', rfl⟩
        · rw [hbt] at hbt'; cases hbt'
        · rw [hbt] at hbt'
          simp only [Binding.typedef.injEq] at hbt'
          obtain ⟨rfl, rfl, rfl⟩ := hbt'
          rw [htt] at htt'
          simp only [Option.some.injEq] at htt'
          subst htt'
          obtain ⟨rfl, rfl⟩ := ih _ _ _ _ _ _ _ _ _ _ hch hch'
          exact ⟨rfl, rfl⟩

theorem finish_ok_inClaim {c : Chain} {st : SType} (h : finish c = .ok st) :
    ∃ k ls, c = .ok k ls ∧ chainInClaim ls = true := by
  cases c with
  | ok k ls =>
    simp only [finish] at h
    split at h
    · rename_i hc; exact ⟨k, ls, rfl, hc⟩
    · cases h
  | error => cases h
  | noClaim w => cases h

theorem usesStar_cases {reg : Registry} {a c : Site} (h : UsesStar reg a c) :
    a = c ∨ ∃ b, Uses reg a b ∧ UsesStar reg b c := by
  induction h with
  | refl => exact Or.inl rfl
  | tail hab hbc ih =>
    rcases ih with rfl | ⟨b', hab', hb'⟩
    · exact Or.inr ⟨_, hbc, UsesStar.refl _⟩
    · exact Or.inr ⟨b', hab', UsesStar.tail hb' hbc⟩

/-- **Inside the claim.**  When `chainOf` answers `ok`, none of the sites met while resolving the type
statement has a feature that puts it outside the claim. -/
theorem chainOf_ok_no_feature (reg : Registry) (hid : SeqId reg) :
    ∀ (fuel : Nat) (root : Mod) (scope : List Stmt) (t : Stmt) (vis : List Key) (k : String) (ls : List Layer),
      root ∈ reg.mods → chainOf reg fuel root scope t vis = .ok k ls →
      ∀ site w, UsesStar reg (root, scope, t) site → ¬ Feature reg site w := by
  intro fuel
  induction fuel with
  | zero => intro root scope t vis k ls _ h; unfold chainOf at h; cases h
  | succ fuel ih =>
    intro root scope t vis k ls hroot h site w hstar hfeat
    obtain ⟨ms, own, hcm, hown, hcase⟩ := chainOf_succ_ok' h
    have hf := forall₂_map_left _ (collectMembers_ok _ _ hcm)
    obtain ⟨ms0, hms0, _, _, _, _, hfd, hen, hbi, _, hfdn, hfdr, henn, hbin⟩ := ownLayer_ok hown
    rcases usesStar_cases hstar with rfl | ⟨b, hab, hb⟩
    · -- a feature of the statement itself
      cases hfeat with
      | ambiguous hamb =>
        rcases hcase with ⟨hbt, _⟩ | ⟨_, _, _, _, _, hbt, _⟩ <;> (rw [hbt] at hamb; cases hamb)
      | noType m td sc hbt' hnt =>
        rcases hcase with ⟨hbt, _⟩ | ⟨m0, td0, sc0, tt, _, hbt, htt, _⟩
        · rw [hbt] at hbt'; cases hbt'
        · rw [hbt] at hbt'
          simp only [Binding.typedef.injEq] at hbt'
          obtain ⟨rfl, rfl, rfl⟩ := hbt'
          rw [htt] at hnt; cases hnt
      | enumValues hne hnone =>
        have : own.enum = none := by
          rw [hen]
          split
          · rfl
          · exact hnone
        exact hne (henn.mp this)
      | bitPositions hne hnone =>
        have : own.bit = none := by
          rw [hbi]
          split
          · rfl
          · exact hnone
        exact hne (hbin.mp this)
      | fractionDigits a ha hbad =>
        cases hq : own.fd with
        | none => rw [hfdn.mp hq] at ha; cases ha
        | some n =>
          have hr := hfdr n hq
          rw [hfd, ha] at hq
          exact hbad n hq hr
      | restated ut fuel' vis' k' ls' hut hok hcl =>
        obtain ⟨st, hst⟩ := forall₂_left_mem hf hut
        obtain ⟨k1, ls1, hc1, hin⟩ := finish_ok_inClaim hst
        obtain ⟨_, rfl⟩ := chainOf_ok_stable reg _ _ _ _ _ _ _ _ _ _ _ hc1 hok
        rw [hin] at hcl; cases hcl
    · -- a feature further down
      cases hab with
      | base m td sc tt hbind htt =>
        rcases hcase with ⟨hbt, _⟩ | ⟨m0, td0, sc0, tt0, ls0, hbt, htt0, hch, _⟩
        · have := binds_not_builtin hbind
          rw [(bindType_builtin hbt).1] at this; cases this
        · rcases bindType_complete reg hid root hroot scope t.arg m td sc hbind with hbt' | hbt'
          · rw [hbt] at hbt'
            simp only [Binding.typedef.injEq] at hbt'
            obtain ⟨rfl, rfl, rfl⟩ := hbt'
            rw [htt0] at htt
            simp only [Option.some.injEq] at htt
            subst htt
            exact ih _ _ _ _ _ _ (binds_root_mem hroot hbind) hch site w hb hfeat
          · rw [hbt] at hbt'; cases hbt'
      | member ut hut =>
        obtain ⟨st, hst⟩ := forall₂_left_mem hf hut
        obtain ⟨k1, ls1, hc1, _⟩ := finish_ok hst
        exact ih _ _ _ _ _ _ hroot hc1 site w hb hfeat

/-- `InsideClaim reg s`: no type statement met while resolving the one at `s` (itself, the type
statements of the typedefs along its chain, all member types, recursively) has a feature that puts
the reference outside the claim of the specification (`Feature`, Lemmas/TypesSpecFuel.lean). -/
def InsideClaim (reg : Registry) (s : Site) : Prop := ∀ site w, UsesStar reg s site → ¬ Feature reg site w

end Goyang.Lemmas.TypesSpecClaim
