import Goyang.Lemmas.IdentityLoad
/-
Helper lemmas for C11, part 5: `ms.include` (model: `includeGo`, `linkAll`) never runs out of the
recursion budget, and when it reports no error the include statements of every part of the schema
are linked (`LinkOK`).
-/
open Goyang.Lemmas.RegistryAux (byId_mem)
namespace Goyang.Lemmas.Identity
open Goyang.Lemmas.ListAux (filterMap_congr')
open Goyang.Model Goyang.Model.Identity
open Goyang.Spec.Identity (Reach includedBy)

/-- Every include statement of `m` is linked. -/
def FullyLinked (lk : Link) (m : Mod) : Prop := ∀ i, i < m.includes.length → (m.seq, i) ∈ lk.linked

theorem filterMap_zipIdx_fst {α β : Type} (g : α → Option β) (l : List α) (k : Nat) :
    (l.zipIdx k).filterMap (fun si => g si.1) = l.filterMap g := by
  induction l generalizing k with
  | nil => rfl
  | cons a l ih => simp only [List.zipIdx_cons, List.filterMap_cons]; rw [ih]

theorem succ_of_fullyLinked (r : Registry) (lk : Link) (m : Mod) (hm : r.byId m.seq = some m)
    (hf : FullyLinked lk m) : includeSucc r lk m.seq = includedBy r m.seq := by
  unfold includeSucc includedBy includeTargets
  simp only [hm]
  have : (m.includes.zipIdx.filterMap fun (si : Stmt × Nat) =>
      if (m.seq, si.2) ∈ lk.linked then r.findModule true si.1 else none) =
      m.includes.zipIdx.filterMap (fun si => r.findModule true si.1) := by
    apply filterMap_congr'
    intro si hsi
    have hlt : si.2 < m.includes.length := by
      have := List.snd_lt_of_mem_zipIdx hsi
      simpa using this
    simp [hf si.2 hlt]
  show List.map (fun x => x.seq) (m.includes.zipIdx.filterMap fun (si : Stmt × Nat) =>
      if (m.seq, si.2) ∈ lk.linked then r.findModule true si.1 else none) = _
  rw [this, filterMap_zipIdx_fst (fun s => r.findModule true s), List.map_filterMap]

/-- The state only grows. -/
def Mono (st st' : Link) : Prop :=
  (∀ x ∈ st.visited, x ∈ st'.visited) ∧ (∀ p ∈ st.linked, p ∈ st'.linked)

theorem Mono.refl (st : Link) : Mono st st := ⟨fun _ h => h, fun _ h => h⟩
theorem Mono.trans {a b c : Link} (h1 : Mono a b) (h2 : Mono b c) : Mono a c :=
  ⟨fun x hx => h2.1 x (h1.1 x hx), fun p hp => h2.2 p (h1.2 p hp)⟩

/-- Node `x` is finished: its includes are linked and what they denote has been visited. -/
def Done (r : Registry) (st : Link) (x : Nat) : Prop :=
  ∀ m, r.byId x = some m → FullyLinked st m ∧ ∀ y ∈ includedBy r x, y ∈ st.visited

theorem Done.mono {r : Registry} {st st' : Link} {x : Nat} (h : Done r st x) (hm : Mono st st') : Done r st' x :=
  fun m hb => ⟨fun i hi => hm.2 _ ((h m hb).1 i hi), fun y hy => hm.1 _ ((h m hb).2 y hy)⟩

/-- The body of the loop of `includeGo` over `linkItems m`. -/
def linkStep (r : Registry) (fuel : Nat) (m : Mod) (acc : Link × Option Err) (item : Bool × Nat × Stmt) :
    Option (Link × Option Err) :=
  match acc.2 with
  | some e => some (acc.1, some e)
  | none =>
    match r.findModule item.1 item.2.2 with
    | none => some (acc.1, some (Err.bare (if item.1 then "no-such-submodule" else "no-such-module")))
    | some im =>
      match includeGo r fuel im acc.1 with
      | none => none
      | some (st', some e) => some (st', some e)
      | some (st', none) =>
        some (if item.1 then { st' with linked := st'.linked ++ [(m.seq, item.2.1)] } else st', none)

theorem includeGo_succ (r : Registry) (fuel : Nat) (m : Mod) (st : Link) :
    includeGo r (fuel + 1) m st =
      if m.seq ∈ st.visited then some (st, none) else
      (linkItems m).foldlM (linkStep r fuel m) ({ st with visited := st.visited ++ [m.seq] }, none) := by
  rfl

theorem linkFold_err (r : Registry) (fuel : Nat) (m : Mod) (e : Err) :
    ∀ (its : List (Bool × Nat × Stmt)) (st : Link), its.foldlM (linkStep r fuel m) (st, some e) = some (st, some e) := by
  intro its
  induction its with
  | nil => intro st; rfl
  | cons it its ih => intro st; simp only [List.foldlM, linkStep]; exact ih st

def unvM (r : Registry) (st : Link) : Nat := unv (r.mods.map (·.seq)) st.visited

theorem unv_le {α : Type} [DecidableEq α] (U ids : List α) : unv U ids ≤ U.length :=
  unv_nil U ▸ unv_mono U (fun _ h => nomatch h)

/-- What one call of `includeGo` guarantees. -/
structure IncPost (r : Registry) (m : Mod) (st st' : Link) (e : Option Err) : Prop where
  mono : Mono st st'
  visited : m.seq ∈ st'.visited
  done : e = none → ∀ x ∈ st'.visited, x ∈ st.visited ∨ Done r st' x

theorem mem_linkItems_include {m : Mod} {i : Nat} (hi : i < m.includes.length) :
    (true, i, m.includes[i]) ∈ linkItems m := by
  unfold linkItems
  apply List.mem_append_left
  apply List.mem_map.mpr
  refine ⟨(m.includes[i], i), ?_, rfl⟩
  rw [List.mk_mem_zipIdx_iff_getElem?]
  simp [hi]

theorem includeGo_spec (r : Registry) : ∀ (fuel : Nat) (m : Mod) (st : Link), r.byId m.seq = some m →
    unvM r st < fuel → ∃ st' e, includeGo r fuel m st = some (st', e) ∧ IncPost r m st st' e := by
  intro fuel
  induction fuel with
  | zero => intro m st _ h; omega
  | succ fuel ih =>
    intro m st hm hf
    rw [includeGo_succ]
    by_cases hv : m.seq ∈ st.visited
    · simp only [hv, if_true]
      exact ⟨st, none, rfl, Mono.refl st, hv, fun _ x hx => Or.inl hx⟩
    · simp only [hv, if_false]
      -- the loop, over any suffix of the items
      have key : ∀ (its : List (Bool × Nat × Stmt)) (stA : Link), unvM r stA < fuel →
          ∃ stB eB, its.foldlM (linkStep r fuel m) (stA, none) = some (stB, eB) ∧ Mono stA stB ∧
            (eB = none → (∀ item ∈ its, ∃ im, r.findModule item.1 item.2.2 = some im ∧ im.seq ∈ stB.visited ∧
                (item.1 = true → (m.seq, item.2.1) ∈ stB.linked)) ∧
              ∀ x ∈ stB.visited, x ∈ stA.visited ∨ Done r stB x) := by
        intro its
        induction its with
        | nil =>
          intro stA _
          exact ⟨stA, none, rfl, Mono.refl stA, fun _ => ⟨by simp, fun x hx => Or.inl hx⟩⟩
        | cons it its ihits =>
          intro stA hfA
          simp only [List.foldlM]
          cases hfm : r.findModule it.1 it.2.2 with
          | none =>
            simp only [linkStep, hfm]
            refine ⟨stA, _, linkFold_err r fuel m _ its stA, Mono.refl stA, fun h => by cases h⟩
          | some im =>
            obtain ⟨id, hid⟩ := findModule_byId hfm
            obtain ⟨st1, e1, hcall, p1⟩ := ih im stA (byId_self hid) hfA
            cases e1 with
            | some e =>
              simp only [linkStep, hfm, hcall]
              exact ⟨st1, some e, linkFold_err r fuel m e its st1, p1.mono, fun h => by cases h⟩
            | none =>
              simp only [linkStep, hfm, hcall]
              generalize hst2 : (if it.1 = true then { st1 with linked := st1.linked ++ [(m.seq, it.2.1)] } else st1) = st2
              have hm12 : Mono st1 st2 := by
                rw [← hst2]
                split
                · exact ⟨fun _ h => h, fun p hp => List.mem_append_left _ hp⟩
                · exact Mono.refl st1
              have hvis2 : st2.visited = st1.visited := by
                rw [← hst2]; split <;> rfl
              have hf2 : unvM r st2 < fuel := by
                unfold unvM at hfA ⊢
                rw [hvis2]
                exact Nat.lt_of_le_of_lt (unv_mono _ p1.mono.1) hfA
              obtain ⟨stB, eB, hfold, hmB, hpost⟩ := ihits st2 hf2
              refine ⟨stB, eB, hfold, (p1.mono.trans hm12).trans hmB, ?_⟩
              intro heB
              obtain ⟨hitems, hdone⟩ := hpost heB
              refine ⟨?_, ?_⟩
              · intro item hitem
                rcases List.mem_cons.mp hitem with rfl | hitem
                · refine ⟨im, hfm, hmB.1 _ (hm12.1 _ p1.visited), ?_⟩
                  intro htrue
                  apply hmB.2
                  rw [← hst2]
                  simp [htrue]
                · exact hitems item hitem
              · intro x hx
                rcases hdone x hx with h | h
                · rw [hvis2] at h
                  rcases p1.done rfl x h with h' | h'
                  · exact Or.inl h'
                  · exact Or.inr ((h'.mono hm12).mono hmB)
                · exact Or.inr h
      have hmU : m.seq ∈ r.mods.map (·.seq) := List.mem_map.mpr ⟨m, byId_mem hm, rfl⟩
      have hf0 : unvM r { st with visited := st.visited ++ [m.seq] } < fuel := by
        unfold unvM at hf ⊢
        have := unv_lt (r.mods.map (·.seq)) hmU hv
        simp only
        omega
      obtain ⟨stB, eB, hfold, hmB, hpost⟩ := key (linkItems m) { st with visited := st.visited ++ [m.seq] } hf0
      have hm0 : Mono st { st with visited := st.visited ++ [m.seq] } :=
        ⟨fun x hx => List.mem_append_left _ hx, fun _ h => h⟩
      refine ⟨stB, eB, hfold, hm0.trans hmB, hmB.1 _ (by simp), ?_⟩
      intro heB x hx
      obtain ⟨hitems, hdone⟩ := hpost heB
      rcases hdone x hx with h | h
      · simp only [List.mem_append, List.mem_singleton] at h
        rcases h with h | rfl
        · exact Or.inl h
        · right
          intro m' hm'
          rw [hm] at hm'
          cases hm'
          constructor
          · intro i hi
            obtain ⟨_, _, _, hl⟩ := hitems _ (mem_linkItems_include hi)
            exact hl rfl
          · intro y hy
            unfold includedBy at hy
            simp only [hm] at hy
            obtain ⟨inc, hinc, hy'⟩ := List.mem_filterMap.mp hy
            obtain ⟨i, hi, rfl⟩ := List.getElem_of_mem hinc
            obtain ⟨im, him, hvis, _⟩ := hitems _ (mem_linkItems_include hi)
            simp only at him
            rw [him] at hy'
            simp only [Option.map_some, Option.some.injEq] at hy'
            exact hy' ▸ hvis
      · exact Or.inr h

/-! ### the loop of `process` over `ms.Modules` -/

def AllDone (r : Registry) (st : Link) : Prop := ∀ x ∈ st.visited, Done r st x

/-- The body of the loop of `linkAll`. -/
def linkTop (r : Registry) (acc : Link × List Err) (m : Mod) : Option (Link × List Err) :=
  match includeGo r (r.mods.length + 1) m acc.1 with
  | none => none
  | some (st, none) => some (st, acc.2)
  | some (st, some e) => some (st, acc.2 ++ [e])

theorem linkAll_eq (o : Oracle) (r : Registry) :
    linkAll o r = (modulesByFullName o r).foldlM (linkTop r) ({}, []) := rfl

theorem linkTop_fold (r : Registry) : ∀ (L : List Mod), (∀ md ∈ L, r.byId md.seq = some md) →
    ∀ acc : Link × List Err, ∃ res, L.foldlM (linkTop r) acc = some res ∧ Mono acc.1 res.1 ∧
      (res.2 = [] → acc.2 = [] ∧ (AllDone r acc.1 → AllDone r res.1) ∧ ∀ md ∈ L, md.seq ∈ res.1.visited) := by
  intro L
  induction L with
  | nil =>
    intro _ acc
    exact ⟨acc, rfl, Mono.refl _, fun h => ⟨h, fun h => h, by simp⟩⟩
  | cons md L ih =>
    intro hL acc
    have hfuel : unvM r acc.1 < r.mods.length + 1 := by
      unfold unvM
      have := unv_le (r.mods.map (·.seq)) acc.1.visited
      simp only [List.length_map] at this
      omega
    obtain ⟨st1, e1, hcall, p1⟩ := includeGo_spec r _ md acc.1 (hL md (List.mem_cons_self ..)) hfuel
    simp only [List.foldlM]
    cases e1 with
    | some e =>
      obtain ⟨res, hres, hmono, hpost⟩ := ih (fun x hx => hL x (List.mem_cons_of_mem _ hx)) (st1, acc.2 ++ [e])
      refine ⟨res, by simp only [linkTop, hcall]; exact hres, p1.mono.trans hmono, ?_⟩
      intro hnil
      have := (hpost hnil).1
      simp at this
    | none =>
      obtain ⟨res, hres, hmono, hpost⟩ := ih (fun x hx => hL x (List.mem_cons_of_mem _ hx)) (st1, acc.2)
      refine ⟨res, by simp only [linkTop, hcall]; exact hres, p1.mono.trans hmono, ?_⟩
      intro hnil
      obtain ⟨h1, h2, h3⟩ := hpost hnil
      refine ⟨h1, ?_, ?_⟩
      · intro hall
        apply h2
        intro x hx
        rcases p1.done rfl x hx with h | h
        · exact (hall x h).mono p1.mono
        · exact h
      · intro md' hmd'
        rcases List.mem_cons.mp hmd' with rfl | hmd'
        · exact hmono.1 _ p1.visited
        · exact h3 md' hmd'

theorem mem_modulesByFullName (o : Oracle) (ho : o.Valid) (r : Registry) (md : Mod) :
    md ∈ modulesByFullName o r ↔ md ∈ moduleEntries r := by
  unfold modulesByFullName
  exact ((sortStable_perm _ _).trans (ho _ siteLink (moduleEntries r))).mem_iff

theorem visited_closed {r : Registry} {lk : Link} (hall : AllDone r lk) {x s : Nat}
    (hr : Reach (includedBy r) x s) (hx : x ∈ lk.visited) : s ∈ lk.visited := by
  induction hr with
  | refl => exact hx
  | @step a b c hy _ ih =>
    apply ih
    cases hb : r.byId a with
    | none => simp [includedBy, hb] at hy
    | some m => exact ((hall a hx) m hb).2 _ hy

/-- `ms.include` over all modules, for every map order: it answers (the recursion budget is never
exhausted), and when it reports no error, the include statements of every part of the schema are
linked. -/
theorem linkAll_spec (o : Oracle) (ho : o.Valid) (r : Registry) :
    ∃ lk errs, linkAll o r = some (lk, errs) ∧ (errs = [] → LinkOK r lk) := by
  have hL : ∀ md ∈ modulesByFullName o r, r.byId md.seq = some md := by
    intro md hmd
    obtain ⟨id, hid⟩ := moduleEntries_byId ((mem_modulesByFullName o ho r md).mp hmd)
    exact byId_self hid
  obtain ⟨res, hres, _, hpost⟩ := linkTop_fold r (modulesByFullName o r) hL ({}, [])
  refine ⟨res.1, res.2, by rw [linkAll_eq, hres], ?_⟩
  intro hnil
  obtain ⟨_, hall, hvis⟩ := hpost hnil
  have hdone : AllDone r res.1 := hall (by intro x hx; cases hx)
  rintro s ⟨md, hmd, hreach⟩
  have hs : s ∈ res.1.visited :=
    visited_closed hdone hreach (hvis md ((mem_modulesByFullName o ho r md).mpr hmd))
  cases hb : r.byId s with
  | none => simp [includeSucc, includedBy, hb]
  | some m =>
    have := succ_of_fullyLinked r res.1 m (byId_self hb) ((hdone s hs) m hb).1
    rw [byId_seq hb] at this
    exact this

end Goyang.Lemmas.Identity
