import Goyang.Lemmas.ListAux
import Goyang.Lemmas.IncludeWorld
import Goyang.Lemmas.IncludeAsmDefs
/-
C13 (third sentence), part 4b: the conversion of a (sub)module statement.

`mod_conv`: a (sub)module without include statements converts to the pure fold of its field steps
over the values of its top-level statements (`pmod`), up to renaming and where error free.  The
include step (`IncludeRel.incStep`) and the conversion of the parts of a split are in IncludeModN.lean.
-/
namespace Goyang.Lemmas.IncludeMod
open Goyang.Model Goyang.Spec.Include Goyang.Lemmas.Tree Goyang.Spec.Tree Goyang.Lemmas.IncludeRel
open Goyang.Lemmas.IncludePure Goyang.Lemmas.IncludeRun Goyang.Lemmas.IncludeAsm

/-! ### a sublist of the field steps -/

section Fields
variable {RE : Entry → Entry → Prop} (hC : Closed2 RE) {RS : TState → TState → Prop} {U : Stmt → Prop}
  (env₁ env₂ : Env) (r1 r2 : Rec) (root₁ root₂ : Mod) (n : Stmt) (sub₁ sub₂ : List Stmt) (vis₁ vis₂ : List NodeId)
  (hch : ∀ c, U c → ∀ s₁ s₂, RS s₁ s₂ → AccRel RE RS (r1 root₁ sub₁ c vis₁ s₁) (r2 root₂ sub₂ c vis₂ s₂))
include hC hch

theorem fields_rel (isMod : Bool)
    (haug : isMod = true → ∀ s₁ s₂ as₁ as₂, RS s₁ s₂ → RelL RE as₁ as₂ →
      RS { s₁ with augs := s₁.augs ++ [(root₁.seq, as₁)] } { s₂ with augs := s₂.augs ++ [(root₂.seq, as₂)] })
    (l : List String) (hU : ∀ f ∈ l, ∀ c, Called n f c → U c)
    (hl : "input" ∉ l ∧ "output" ∉ l ∧ "include" ∉ l ∧ "type" ∉ l)
    (a₁ a₂ : Entry × TState) (h : AccRel RE RS a₁ a₂) (hk : a₁.1.d.kind = a₂.1.d.kind) :
    AccRel RE RS (l.foldl (stepFn env₁ r1 root₁ n sub₁ vis₁ isMod) a₁) (l.foldl (stepFn env₂ r2 root₂ n sub₂ vis₂ isMod) a₂) ∧
    (l.foldl (stepFn env₁ r1 root₁ n sub₁ vis₁ isMod) a₁).1.d.kind = (l.foldl (stepFn env₂ r2 root₂ n sub₂ vis₂ isMod) a₂).1.d.kind := by
  exact foldl_steps_rel hC env₁ env₂ r1 r2 root₁ root₂ n sub₁ sub₂ vis₁ vis₂ hch isMod haug l hU
    (fun h => absurd h hl.2.2.2) (fun h => absurd h hl.2.2.1) hl.1 hl.2.1 a₁ a₂ h hk

end Fields

/-! ### the body of a (sub)module statement -/

theorem toEntryBody_mod (env : Env) (fuel : Nat) (rec : Rec) (root : Mod) (scope : List Stmt) (n : Stmt)
    (vis : List NodeId) (st : TState) (hm : isModKw n = true)
    (h1 : st.cache.find? (·.1 == root.seq) = none) (h3 : vis.contains (nodeId root n) = false) :
    toEntryBody env fuel rec root scope n vis st = dirBody env rec root scope n (nodeId root n :: vis) st true := by
  have hk : n.kw = "module" ∨ n.kw = "submodule" := by
    unfold isModKw at hm; simpa using hm
  have hng : (n.kw == "grouping") = false := by rcases hk with h | h <;> rw [h] <;> decide
  rw [toEntryBody_core env fuel rec root scope n vis st (by rw [hm]; simpa using h1) (by rw [hng]; rfl)
    (by rw [h3]; simp)]
  unfold core vis' tracked
  rw [hm]
  have h4 : (n.kw == "leaf") = false := by rcases hk with h | h <;> rw [h] <;> decide
  have h5 : (n.kw == "leaf-list") = false := by rcases hk with h | h <;> rw [h] <;> decide
  have h6 : (n.kw == "uses") = false := by rcases hk with h | h <;> rw [h] <;> decide
  simp only [h4, h5, h6, Bool.false_eq_true, if_false, Bool.true_or, if_true]

theorem fieldOrder_mod {n : Stmt} (hm : isModKw n = true) : fieldOrder n.kw = preFields ++ ["include"] ++ postFields := by
  have hk : n.kw = "module" ∨ n.kw = "submodule" := by
    unfold isModKw at hm; simpa using hm
  rcases hk with h | h <;> rw [h] <;> rfl

theorem step_include_nil (env : Env) (rec : Rec) (root : Mod) (n : Stmt) (sub : List Stmt) (vis : List NodeId)
    (isMod : Bool) (acc : Entry × TState) (h : n.all "include" = []) :
    stepFn env rec root n sub vis isMod acc "include" = acc := by
  unfold stepFn
  simp only [h, List.foldl_nil]


/-! ### (sub)modules in progress do not matter to statements -/

section Mod
variable (W : World) (hW : W.OK)

/-- Only (sub)module statements are in progress. -/
def OnlyMods (vis : List NodeId) : Prop :=
  ∀ k, vis.contains k = true → ∃ P ∈ W.env₁.reg.mods, isModKw P.stmt = true ∧ k = nodeId P P.stmt

include hW in
theorem harmless_of_onlyMods {vis : List NodeId} (h : OnlyMods W vis) (p : Place) : Harmless W vis p := by
  intro r₁ s₁ g hwf hgk hmem r₂ s₂ _
  obtain ⟨P, hP, hPm, hk⟩ := h _ hmem
  have hPt : isTrackedStmt P.stmt = true := by
    unfold isModKw at hPm
    unfold isTrackedStmt
    rw [hPm]; rfl
  obtain ⟨_, e2, _⟩ := hW.pos r₁ hwf.1 P hP g P.stmt s₁ [] hwf.2 rfl (isTrackedStmt_grouping hgk) hPt hk
  rw [e2] at hgk
  unfold isModKw at hPm
  rw [hgk] at hPm
  exact absurd hPm (by decide)

theorem onlyMods_nil : OnlyMods W [] := fun k h => by simp at h

theorem onlyMods_cons {vis : List NodeId} (h : OnlyMods W vis) {P : Mod} (hP : P ∈ W.env₁.reg.mods)
    (hm : isModKw P.stmt = true) : OnlyMods W (nodeId P P.stmt :: vis) := by
  intro k hk
  simp only [List.contains_cons, Bool.or_eq_true, beq_iff_eq] at hk
  rcases hk with rfl | hk
  · exact ⟨P, hP, hm, rfl⟩
  · exact h k hk

/-- The state relation during the steps of a (sub)module statement: coherent grouping cache; module
cache and merged-submodule keys as they were. -/
def RSm (st : TState) : TState → TState → Prop :=
  fun t₁ _ => Coh W t₁.gcache ∧ t₁.cache = st.cache ∧ t₁.merged = st.merged

include hW in
/-- The recursive calls of a (sub)module statement `X` on its converted substatements, against the
values in the corresponding (sub)module `X₂`. -/
theorem mod_calls (X X₂ : Mod) (hX : X ∈ W.env₁.reg.mods) (hm : isModKw X.stmt = true)
    (hcr : W.CR X [X.stmt] X₂ [X₂.stmt]) (f : Nat) (vis : List NodeId) (st : TState) (hvis : OnlyMods W vis)
    (hnv : vis.contains (nodeId X X.stmt) = false)
    (hneed : Fuel.need W.env₁.reg X X.stmt vis + W.slack ≤ f + 1) :
    ∀ c, (∃ fld ∈ fieldOrder X.stmt.kw, Called X.stmt fld c) → ∀ t₁ t₂, RSm W st t₁ t₂ →
      AccRel (REb W.σ) (RSm W st) (toEntry W.env₁ f X [X.stmt] c (nodeId X X.stmt :: vis) t₁)
        (constRec (fun c => W.val X₂ [X₂.stmt] c) X₂ [X.stmt] c [] t₂) := by
  intro c hc t₁ t₂ hs
  obtain ⟨fld, hfld, hcf⟩ := hc
  have hwf : WF W.env₁.reg X [] X.stmt := ⟨hX, rfl⟩
  have hpos := Fuel.need_pos (env := W.env₁) vis hwf.inv
  have hneed' : Fuel.need W.env₁.reg X X.stmt vis ≤ (f - W.slack) + 1 := by omega
  have htr : Fuel.isTracked X.stmt = true := by
    unfold isModKw at hm; unfold Fuel.isTracked; rw [hm]; rfl
  have hc3 : ¬ (Fuel.isTracked X.stmt && vis.contains (nodeId X X.stmt)) = true := by
    rw [hnv]; simp
  obtain ⟨_, hn'⟩ := Fuel.callee_need hwf.inv hneed' hc3 (Fuel.Callee.child (scope := []) hcf.mem)
  have hv' : Fuel.visiting' X X.stmt vis = nodeId X X.stmt :: vis := by
    unfold Fuel.visiting'; rw [htr]; rfl
  rw [hv'] at hn'
  have := run_val W hW f X [X.stmt] c (nodeId X X.stmt :: vis) t₁ X₂ [X₂.stmt] hcr (hwf.child hcf.mem)
    (called_not_mod hfld hcf) (by omega) hs.1 (harmless_of_onlyMods W hW (onlyMods_cons W hvis hX hm) _)
  exact ⟨this.1, this.2.1, this.2.2.1.trans hs.2.1, this.2.2.2.1.trans hs.2.2⟩


theorem no_io_pre : "input" ∉ preFields ∧ "output" ∉ preFields ∧ "include" ∉ preFields ∧ "type" ∉ preFields := by decide
theorem no_io_post : "input" ∉ postFields ∧ "output" ∉ postFields ∧ "include" ∉ postFields ∧ "type" ∉ postFields := by
  decide

theorem pre_sub {n : Stmt} (hm : isModKw n = true) : ∀ f ∈ preFields, f ∈ fieldOrder n.kw := by
  intro f hf; rw [fieldOrder_mod hm]; simp [hf]
theorem post_sub {n : Stmt} (hm : isModKw n = true) : ∀ f ∈ postFields, f ∈ fieldOrder n.kw := by
  intro f hf; rw [fieldOrder_mod hm]; simp [hf]

theorem e0_kind_eq (r₁ r₂ : Mod) (n : Stmt) : (e0 r₁ n).d.kind = (e0 r₂ n).d.kind := by
  rw [(e0_data r₁ n).2.1, (e0_data r₂ n).2.1]

include hW in
/-- **A (sub)module without include statements converts to the pure fold over the values.** -/
theorem mod_conv (X X₂ : Mod) (hX : X ∈ W.env₁.reg.mods) (hm : isModKw X.stmt = true)
    (hinc : X.stmt.all "include" = []) (hcr : W.CR X [X.stmt] X₂ [X₂.stmt]) (f : Nat) (vis : List NodeId) (st : TState)
    (hvis : OnlyMods W vis) (hnv : vis.contains (nodeId X X.stmt) = false)
    (hcache : st.cache.find? (·.1 == X.seq) = none)
    (hneed : Fuel.need W.env₁.reg X X.stmt vis + W.slack ≤ f + 1) (hcoh : Coh W st.gcache) :
    REb W.σ (toEntry W.env₁ (f + 1) X [] X.stmt vis st).1 (pmod W.env₂ (fun c => W.val X₂ [X₂.stmt] c) X₂ X.stmt) ∧
    Coh W (toEntry W.env₁ (f + 1) X [] X.stmt vis st).2.gcache ∧
    (toEntry W.env₁ (f + 1) X [] X.stmt vis st).2.cache = st.cache ++ [(X.seq, (toEntry W.env₁ (f + 1) X [] X.stmt vis st).1)] ∧
    (toEntry W.env₁ (f + 1) X [] X.stmt vis st).2.merged = st.merged := by
  rw [Tree.toEntry_succ, toEntryBody_mod W.env₁ f _ X [] X.stmt vis st hm hcache hnv]
  unfold dirBody
  dsimp only
  rw [fieldOrder_mod hm, List.foldl_append, List.foldl_append, List.foldl_cons, List.foldl_nil,
    step_include_nil _ _ _ _ _ _ _ _ hinc, ← List.foldl_append]
  have hcalls := mod_calls W hW X X₂ hX hm hcr f vis st hvis hnv hneed
  have key := fields_rel (RE := REb W.σ) (RS := RSm W st) (closed2_REb W.σ) W.env₁ W.env₂ (toEntry W.env₁ f)
    (constRec (fun c => W.val X₂ [X₂.stmt] c)) X X₂ X.stmt [X.stmt] [X.stmt] (nodeId X X.stmt :: vis) [] hcalls true
    (fun _ s₁ s₂ _ _ hs _ => hs) (preFields ++ postFields)
    (fun fld hfld c hc => ⟨fld, by
      rcases List.mem_append.1 hfld with h | h
      · exact pre_sub hm fld h
      · exact post_sub hm fld h, hc⟩)
    (by decide) (e0 X X.stmt, st) (e0 X₂ X.stmt, {})
    ⟨REb_of_eq _ (ren_e0 _ _ _ _ (hW.cr_seq hcr)), hcoh, rfl, rfl⟩ (e0_kind_eq _ _ _)
  obtain ⟨⟨hre, hco, hca, hme⟩, _⟩ := key
  simp only [if_true]
  refine ⟨hre, hco, ?_, hme⟩
  rw [hca]

end Mod


/-! ### the include step -/

theorem step_include_eq (env : Env) (rec : Rec) (root : Mod) (n : Stmt) (sub : List Stmt) (vis : List NodeId)
    (isMod : Bool) (acc : Entry × TState) :
    stepFn env rec root n sub vis isMod acc "include" = (n.all "include").foldl (incStep env rec root n vis) acc := by
  rfl

theorem str_cancel (a b c : String) (h : a ++ c = b ++ c) : a = b := by
  have := congrArg String.toList h
  simp only [String.toList_append] at this
  exact String.toList_inj.1 (List.append_cancel_right this)

/-- One include of a submodule that has not been merged yet: it is converted and merged. -/
theorem incStep_fresh (env : Env) (rec : Rec) (root : Mod) (n : Stmt) (vis : List NodeId) (e : Entry) (st : TState)
    (a : Stmt) (im : Mod) (par : String) (ht : env.includeTarget root a = some im) (hpar : im.belongsTo? = some par)
    (h1 : st.merged.contains (im.name ++ ":" ++ n.arg) = false)
    (h2 : st.merged.contains (n.arg ++ ":" ++ im.name) = false) (h3 : im.name ≠ n.arg)
    (h4 : st.merged.contains (im.name ++ ":" ++ par) = false) :
    incStep env rec root n vis (e, st) a =
      (e.merge none (rec im [] im.stmt vis { st with merged := st.merged ++ [im.name ++ ":" ++ n.arg, im.name ++ ":" ++ par] }).1,
       (rec im [] im.stmt vis { st with merged := st.merged ++ [im.name ++ ":" ++ n.arg, im.name ++ ":" ++ par] }).2) := by
  unfold incStep
  simp only [ht, hpar, Option.getD_some, h1, h2, h4, Bool.false_eq_true, if_false, Bool.not_false, Bool.true_and,
    bne_iff_ne, ne_eq, h3, not_false_eq_true, if_true]


/-! ### the owner of a split -/

section Owner
open Goyang.Lemmas.IncludeWorld
variable {s : Split} {R R' : Registry} (opts : Opts) (plug plug' : Plug)
  (ht : TextOK s) (hr : RegsOK s R R') (hl : LinkOK s R (linkAll R).1 (linkAll R').1)
  (hW : (Ws s R R' opts plug plug').OK)

/-- The value of a top-level statement of the unsplit module. -/
noncomputable def vm (s : Split) (R : Registry) (opts : Opts) (plug : Plug) : Stmt → Entry :=
  fun c => IncludePure.val (envOf R opts plug) (lkOf R (linkAll R).1) s.m [s.m.stmt] c

/-- The merged-submodule key goyang records for a submodule of the split. -/
def mkey (s : Split) (sb : Mod) : String := sb.name ++ ":" ++ s.m.name

omit opts plug plug' in
theorem mkey_inj (a b : Mod) (h : mkey s a = mkey s b) : a.name = b.name := by
  unfold mkey at h
  exact str_cancel _ _ ":" (str_cancel _ _ _ h)

omit opts plug plug' in
theorem sub_kw_mod (ht : TextOK s) {sb : Mod} (h : sb ∈ s.subs) : isModKw sb.stmt = true := by
  unfold isModKw; rw [ht.sub_kw sb h]; rfl

omit opts plug plug' in
theorem owner_kw_mod (ht : TextOK s) : isModKw s.owner.stmt = true := by
  unfold isModKw; rw [ht.owner_kw]; rfl

omit opts plug plug' in
theorem owner_linked (hr : RegsOK s R R') (hl : LinkOK s R (linkAll R).1 (linkAll R').1) :
    (linkAll R').1.contains s.owner.seq = true := by
  rw [hr.owner_seq, hl.same s.m hr.m_mem]; exact hl.m_linked

omit opts plug plug' in
theorem sub_seq_ne_owner (hr : RegsOK s R R') {sb : Mod} (h : sb ∈ s.subs) : sb.seq ≠ s.owner.seq := by
  rw [hr.owner_seq]; exact hr.sub_seqs_fresh sb h s.m hr.m_mem

omit opts plug plug' in
theorem sub_eq_of_seq (hr : RegsOK s R R') : ∀ {a b : Mod}, a ∈ s.subs → b ∈ s.subs → a.seq = b.seq → a = b := by
  have := hr.sub_seqs_nodup
  intro a b ha hb hab
  exact ListAux.eq_of_nodup_map _ _ this _ ha _ hb hab

omit opts plug plug' in
theorem sub_eq_of_name (hr : RegsOK s R R') : ∀ {a b : Mod}, a ∈ s.subs → b ∈ s.subs → a.name = b.name → a = b := by
  have := hr.sub_names_nodup
  intro a b ha hb hab
  exact ListAux.eq_of_nodup_map _ _ this _ ha _ hb hab

end Owner

end Goyang.Lemmas.IncludeMod
