import Goyang.Lemmas.AugmentTree
import Goyang.Lemmas.AugmentModel
import Goyang.Lemmas.ForestAux
/-
C07 — one attempt of one augment (`attemptR`, i.e. one iteration of the loop in `Entry.Augment`)
as seen on the flat view (`attemptR_outcome`, read off by `attempt_fail` / `attempt_ok`):
* it succeeds exactly when the resolved augment is applicable in the view;
* a failed attempt changes nothing visible, it can only add errors and materialise implicit rpc
  input / output nodes, which the view contains anyway;
* a successful attempt never removes or changes a visible node, and when no name collides it adds
  exactly the stamped copies of the body's nodes below the target;
* a collision leaves a `duplicate-node` error on the target.
-/
namespace Goyang.Lemmas.AugmentStep
open Goyang.Model Goyang.Spec.Augment Goyang.Lemmas.AugmentConfl Goyang.Lemmas.AugmentTree
  Goyang.Lemmas.AugmentModel
open Goyang.Lemmas.ForestAux (tree?_setTree tree?_setTree_same)

/-! ### implicit input / output -/

theorem matIn_namePres : NamePres matIn := by intro y; cases y; rfl
theorem matOut_namePres : NamePres matOut := by intro y; cases y; rfl

theorem fullAt_of_kid {e e' : Entry} (hd : e'.d = e.d) (hk : ∀ k, kid e' k = kid e k) : ∀ r, fullAt e' r = fullAt e r
  | [] => by rw [fullAt_nil, fullAt_nil, hd]
  | k :: r => by rw [fullAt_cons, fullAt_cons, hk]

theorem matIn_invisible (e : Entry) (hr : e.d.isRpc = true) (he : e.inp.isEmpty = true) :
    ∀ r, fullAt (matIn e) r = fullAt e r := by
  cases e with
  | mk d c i o =>
    obtain rfl : i = [] := by simpa using he
    exact fullAt_of_kid rfl fun k => by simp only [mk_d] at hr; simp [kid, matIn, implicitIO, hr]

theorem matOut_invisible (e : Entry) (hr : e.d.isRpc = true) (he : e.out.isEmpty = true) :
    ∀ r, fullAt (matOut e) r = fullAt e r := by
  cases e with
  | mk d c i o =>
    obtain rfl : o = [] := by simpa using he
    exact fullAt_of_kid rfl fun k => by simp only [mk_d] at hr; simp [kid, matOut, implicitIO, hr]

theorem matIn_tracks {e : Entry} (hr : e.d.isRpc = true) (he : e.inp.isEmpty = true) :
    Tracks (matIn e) ["input"] [.input] (implicitIO e true) := by
  cases e with
  | mk d c i o =>
    obtain rfl : i = [] := by simpa using he
    exact Tracks.input hr rfl (Tracks.nil _)

theorem matOut_tracks {e : Entry} (hr : e.d.isRpc = true) (he : e.out.isEmpty = true) :
    Tracks (matOut e) ["output"] [.output] (implicitIO e false) := by
  cases e with
  | mk d c i o =>
    obtain rfl : o = [] := by simpa using he
    exact Tracks.output hr rfl (Tracks.nil _)

/-! ### the step loop -/

theorem exists_head_of_not_isEmpty {α} {l : List α} (h : ¬ l.isEmpty = true) : ∃ c, l.head? = some c := by
  cases l with
  | nil => exact absurd rfl h
  | cons a _ => exact ⟨a, rfl⟩

/-- What the step loop returns (`r`) for the name path `np` from the root: the tree afterwards shows
the same data everywhere; a result is a track of the whole name path; no result means the name path
does not exist. -/
def WalkOK (root : Entry) (np : NPath) (r : Option Path × Entry) : Prop :=
  (∀ P, fullAt r.2 P = fullAt root P) ∧ (∀ q, r.1 = some q → ∃ x, Tracks r.2 np q x) ∧
  (r.1 = none → fullAt root np = none)

theorem WalkOK.of_same {root root1 : Entry} {np : NPath} {r : Option Path × Entry}
    (hF : ∀ P, fullAt root1 P = fullAt root P) (h : WalkOK root1 np r) : WalkOK root np r :=
  ⟨fun P => (h.1 P).trans (hF P), h.2.1, fun hq => (hF _).symm.trans (h.2.2 hq)⟩

theorem walkN_spec : ∀ (names : List String) (root : Entry) (n0 : NPath) (p0 : Path) (e0 : Entry),
    Tracks root n0 p0 e0 → WalkOK root (n0 ++ names) (walkN names root (some p0))
  | [], root, n0, p0, e0, h => by
    refine ⟨fun _ => rfl, fun q hq => ?_, nofun⟩
    obtain rfl : p0 = q := Option.some.inj hq
    exact ⟨e0, by rw [List.append_nil]; exact h⟩
  | nm :: rest, root, n0, p0, e0, h => by
    have cont : ∀ (root1 : Entry) (s : Step) (c : Entry), (∀ P, fullAt root1 P = fullAt root P) →
        Tracks root1 (n0 ++ [nm]) (p0 ++ [s]) c →
        WalkOK root (n0 ++ nm :: rest) (walkN rest root1 (some (p0 ++ [s]))) := fun root1 s c hF hT => by
      have := walkN_spec rest root1 (n0 ++ [nm]) (p0 ++ [s]) c hT
      rw [List.append_assoc] at this
      exact this.of_same hF
    have stop : kid e0 nm = none → WalkOK root (n0 ++ nm :: rest) (none, root) := fun hk =>
      ⟨fun _ => rfl, nofun, fun _ => by rw [fullAt_append, h.walk, Option.bind_some, fullAt_cons, hk]; rfl⟩
    simp only [walkN, h.getAt]
    by_cases hr : e0.d.isRpc = true
    · simp only [hr, if_true]
      by_cases hi : nm = "input"
      · subst hi
        simp only [beq_self_eq_true, if_true]
        by_cases he : e0.inp.isEmpty = true
        · rw [if_pos he]
          exact cont _ .input _ (fullAt_update_invisible h matIn_namePres (matIn_invisible e0 hr he))
            ((h.update matIn_namePres).append (matIn_tracks hr he))
        · rw [if_neg he]
          obtain ⟨c, hc⟩ := exists_head_of_not_isEmpty he
          exact cont root .input c (fun _ => rfl) (h.append (Tracks.input hr hc (Tracks.nil _)))
      · have hi' : (nm == "input") = false := by simpa using hi
        simp only [hi', Bool.false_eq_true, if_false]
        by_cases ho : nm = "output"
        · subst ho
          simp only [beq_self_eq_true, if_true]
          by_cases he : e0.out.isEmpty = true
          · rw [if_pos he]
            exact cont _ .output _ (fullAt_update_invisible h matOut_namePres (matOut_invisible e0 hr he))
              ((h.update matOut_namePres).append (matOut_tracks hr he))
          · rw [if_neg he]
            obtain ⟨c, hc⟩ := exists_head_of_not_isEmpty he
            exact cont root .output c (fun _ => rfl) (h.append (Tracks.output hr hc (Tracks.nil _)))
        · have ho' : (nm == "output") = false := by simpa using ho
          simp only [ho', Bool.false_eq_true, if_false]
          exact stop (by simp [kid, hr, hi', ho'])
    · have hr' : e0.d.isRpc = false := by simpa using hr
      simp only [hr, Bool.false_eq_true, if_false]
      cases hc : e0.child? nm with
      | none =>
        simp only [walkN_none]
        exact stop (by rw [kid_nonrpc hr', hc])
      | some c => exact cont root (.child nm) c (fun _ => rfl) (h.append (Tracks.child hr' hc (Tracks.nil _)))

/-! ### forests -/

theorem tree?_of_mem {f : Forest} (hn : (f.trees.map (·.1)).Nodup) {id : Nat} {root : Entry} (h : (id, root) ∈ f.trees) :
    f.tree? id = some root := by
  unfold Forest.tree?
  generalize f.trees = L at hn h
  induction L with
  | nil => cases h
  | cons a L ih =>
    simp only [List.map_cons, List.nodup_cons] at hn
    rcases List.mem_cons.mp h with rfl | h
    · simp
    · have hne : (a.1 == id) = false := by
        simpa using fun e : a.1 = id => hn.1 (e ▸ List.mem_map.mpr ⟨(id, root), h, rfl⟩)
      simp only [List.find?_cons, hne]
      exact ih hn.2 h

theorem tree?_setTree_ne (f : Forest) {t t' : Nat} (h : t' ≠ t) (e : Entry) :
    (f.setTree t e).tree? t' = f.tree? t' := by
  rw [tree?_setTree, if_neg h]

/-- Forest `f'` extends `f`: the same trees exist, and each extends its predecessor. -/
def FLe (f f' : Forest) : Prop :=
  ∀ id, (∀ root, f.tree? id = some root → ∃ root', f'.tree? id = some root' ∧ Le root root') ∧
    (f.tree? id = none → f'.tree? id = none)

theorem FLe.refl (f : Forest) : FLe f f := fun _ => ⟨fun root h => ⟨root, h, Le.refl _⟩, fun h => h⟩

theorem FLe.trans {a b c : Forest} (h1 : FLe a b) (h2 : FLe b c) : FLe a c := by
  intro id
  refine ⟨?_, fun h => (h2 id).2 ((h1 id).2 h)⟩
  intro root h
  obtain ⟨r1, hr1, l1⟩ := (h1 id).1 root h
  obtain ⟨r2, hr2, l2⟩ := (h2 id).1 r1 hr1
  exact ⟨r2, hr2, l1.trans l2⟩

theorem FLe.setTree {f : Forest} {t : Nat} {root root' : Entry} (h : f.tree? t = some root) (hle : Le root root') :
    FLe f (f.setTree t root') := by
  intro id
  by_cases hid : id = t
  · subst hid
    refine ⟨?_, fun hn => by rw [h] at hn; cases hn⟩
    intro r hr
    rw [h] at hr; cases hr
    exact ⟨root', tree?_setTree_same h root', hle⟩
  · rw [tree?_setTree_ne f hid]
    exact ⟨fun r hr => ⟨r, hr, Le.refl _⟩, fun h => h⟩

theorem FLe.isSome {f f' : Forest} (h : FLe f f') (id : Nat) : (f'.tree? id).isSome = (f.tree? id).isSome := by
  cases hf : f.tree? id with
  | none => rw [(h id).2 hf]
  | some root => obtain ⟨r', hr', _⟩ := (h id).1 root hf; rw [hr']; rfl

/-- Monotonicity on the view: what is visible in `f` is visible, unchanged, in an extension. -/
theorem FLe.view {f f' : Forest} (h : FLe f f') {l : NLoc} {d : EData} (hv : viewOf f l d) : viewOf f' l d := by
  obtain ⟨e, he, hd⟩ := hv
  unfold nodeAt at he
  cases hroot : f.tree? l.1 with
  | none => simp [hroot] at he
  | some root =>
    simp only [hroot, Option.bind_some] at he
    obtain ⟨root', hr', hle⟩ := (h l.1).1 root hroot
    obtain ⟨d', hd', hsame, _⟩ := hle l.2 e.d (by simp [fullAt, he])
    simp only [fullAt] at hd'
    cases hw : walk root' l.2 with
    | none => simp [hw] at hd'
    | some e' =>
      simp only [hw, Option.map_some, Option.some.injEq] at hd'
      refine ⟨e', by simp [nodeAt, hr', hw], ?_⟩
      rw [hd', hsame, hd]

/-- An error recorded on a visible node of the forest. -/
def FVisErr (f : Forest) (er : Err) : Prop := ∃ id root, f.tree? id = some root ∧ VisErr root er

theorem FVisErr.mono {f f' : Forest} {er : Err} (h : FVisErr f er) (hle : FLe f f') : FVisErr f' er := by
  obtain ⟨id, root, hr, hv⟩ := h
  obtain ⟨root', hr', l⟩ := (hle id).1 root hr
  exact ⟨id, root', hr', hv.mono l⟩

theorem viewOf_at {f : Forest} {t : Nat} {root : Entry} (h : f.tree? t = some root) (P : NPath) (d : EData) :
    viewOf f (t, P) d ↔ dataAt root P = some d := by
  unfold viewOf nodeAt dataAt
  simp only [h, Option.bind_some]
  cases walk root P with
  | none => simp
  | some e => simp

theorem viewOf_no_tree {f : Forest} {t : Nat} (h : f.tree? t = none) (P : NPath) (d : EData) : ¬ viewOf f (t, P) d := by
  unfold viewOf nodeAt
  simp [h]

/-- Replacing a tree by one that shows the same data leaves the view as it is. -/
theorem viewOf_setTree_invisible {f : Forest} {t : Nat} {root root' : Entry} (h : f.tree? t = some root)
    (hinv : ∀ P, dataAt root' P = dataAt root P) : viewOf (f.setTree t root') = viewOf f := by
  funext l d
  obtain ⟨t', P⟩ := l
  by_cases hl : t' = t
  · subst hl
    exact propext (by rw [viewOf_at (tree?_setTree_same h root'), viewOf_at h, hinv])
  · unfold viewOf nodeAt
    rw [tree?_setTree_ne f hl]

theorem kid_addErr (root : Entry) (x : Err) (k : String) : kid (root.addErr x) k = kid root k := by
  cases root
  simp [kid, Entry.addErr, Entry.withD, implicitIO, Entry.child?]

theorem viewOf_addErr_root {f : Forest} {id : Nat} {root : Entry} (h : f.tree? id = some root) (x : Err) :
    viewOf (f.setTree id (root.addErr x)) = viewOf f := by
  refine viewOf_setTree_invisible h fun P => ?_
  cases P with
  | nil => simp [dataAt_nil, Entry.addErr, nodeData]
  | cons k r => rw [dataAt_cons, dataAt_cons, kid_addErr]

theorem le_addErr (root : Entry) (x : Err) : Le root (root.addErr x) := by
  intro P d hd
  cases P with
  | nil =>
    simp only [fullAt_nil, Option.some.injEq] at hd
    subst hd
    exact ⟨_, rfl, by simp [Entry.addErr, nodeData], fun er h => by simp [Entry.addErr, h]⟩
  | cons k r =>
    refine ⟨d, ?_, rfl, fun _ h => h⟩
    rw [fullAt_cons] at hd ⊢
    rw [kid_addErr]; exact hd

/-! ### the pieces of one attempt -/

theorem failForest_view (id : Nat) (ae : Bool) (a : Entry) (f : Forest) : viewOf (failForest id ae a f) = viewOf f := by
  unfold failForest
  cases ae with
  | false => rfl
  | true =>
    simp only [if_true]
    cases h : f.tree? id with
    | none => rfl
    | some root => exact viewOf_addErr_root h _

theorem failForest_le (id : Nat) (ae : Bool) (a : Entry) (f : Forest) : FLe f (failForest id ae a f) := by
  unfold failForest
  cases ae with
  | false => exact FLe.refl f
  | true =>
    simp only [if_true]
    cases h : f.tree? id with
    | none => exact FLe.refl f
    | some root => exact FLe.setTree h (le_addErr root _)

theorem failForest_err (id : Nat) (a : Entry) (f : Forest) (h : (f.tree? id).isSome = true) :
    FVisErr (failForest id true a f) (Err.at_ a.d.node "augment-not-found") := by
  unfold failForest
  simp only [if_true]
  cases hr : f.tree? id with
  | none => simp [hr] at h
  | some root =>
    refine ⟨id, _, tree?_setTree_same hr _, [], _, rfl, ?_⟩
    simp [Entry.addErr]

theorem addOther_view (f : Forest) (id : Nat) : viewOf (addOther f id) = viewOf f := by
  unfold addOther
  cases h : f.tree? id with
  | none => rfl
  | some root => exact viewOf_addErr_root h _

theorem addOther_le (f : Forest) (id : Nat) : FLe f (addOther f id) := by
  unfold addOther
  cases h : f.tree? id with
  | none => exact FLe.refl f
  | some root => exact FLe.setTree h (le_addErr root _)

/-- The resolved augment (`Spec.Augment.Aug`) of a pending pair; `f0` is any forest of the run
(only whether the owner's tree exists is read, and that never changes). -/
def absAug (R : Res) (f0 : Forest) (id : Nat) (a : Entry) : Aug where
  owner := id
  body := a
  target := match R.tgt id a with
    | .go t names => some (t, names)
    | _ => none
  ns := nsOfR R f0 id

theorem canHave_iff (x : Entry) : canHaveChildren (nodeData x.d) = !cannotHaveChildren x := by
  simp only [canHaveChildren, cannotHaveChildren, nodeData, Bool.not_or, Bool.not_not, bne]

/-- The forest after the search part of an attempt (`findR`): untouched, or with the `other` error of
an unresolvable first prefix on the owner's root, or with the implicit rpc input / output nodes on
the path created. -/
inductive Searched (R : Res) (id : Nat) (a : Entry) (f : Forest) : Forest → Prop
  | same : R.tgt id a ≠ .badPrefix → Searched R id a f f
  | other : R.tgt id a = .badPrefix → Searched R id a f (addOther f id)
  | walked {t : Nat} {names : NPath} {root : Entry} : R.tgt id a = .go t names → f.tree? t = some root →
      Searched R id a f (f.setTree t (walkN names root (some [])).2)

theorem Searched.view {R : Res} {id : Nat} {a : Entry} {f f1 : Forest} (h : Searched R id a f f1) :
    viewOf f1 = viewOf f ∧ FLe f f1 := by
  cases h with
  | same _ => exact ⟨rfl, FLe.refl f⟩
  | other _ => exact ⟨addOther_view f id, addOther_le f id⟩
  | @walked t names root _ hroot =>
    have hfull := (walkN_spec names root [] [] root (Tracks.nil root)).1
    exact ⟨viewOf_setTree_invisible hroot fun P => by rw [dataAt_eq_fullAt, dataAt_eq_fullAt, hfull],
      FLe.setTree hroot (Le.of_fullAt_eq hfull)⟩

/-- Result of analysing one attempt: it fails after the search, the augment not being applicable, or it
merges the augment entry into the node `x` the search tracked. -/
inductive Outcome (R : Res) (id : Nat) (ae : Bool) (nsOf : String) (a : Entry) (f : Forest) : Forest × Bool → Prop
  | fail (f1 : Forest) : Searched R id a f f1 → (∀ f0, ¬ (absAug R f0 id a).Applicable (viewOf f)) →
      Outcome R id ae nsOf a f (failForest id ae a f1, false)
  | ok (t : Nat) (names : NPath) (f1 : Forest) (root' : Entry) (q : Path) (x : Entry) :
      R.tgt id a = .go t names → Searched R id a f f1 → f1.tree? t = some root' →
      Tracks root' names q x → cannotHaveChildren x = false →
      Outcome R id ae nsOf a f (f1.setTree t (root'.updateAt q fun te => te.merge (some nsOf) a), true)

theorem attemptR_outcome (R : Res) (id : Nat) (ae : Bool) (nsOf : String) (a : Entry) (f : Forest) :
    Outcome R id ae nsOf a f (attemptR R id ae nsOf a f) := by
  unfold attemptR findR
  cases htg : R.tgt id a with
  | noName =>
    exact Outcome.fail f (.same (by simp [htg])) (by intro f0 ⟨t, ht, _⟩; simp [absAug, htg] at ht)
  | badPrefix =>
    exact Outcome.fail _ (.other htg) (by intro f0 ⟨t, ht, _⟩; simp [absAug, htg] at ht)
  | go t names =>
    simp only
    have htarget : ∀ f0, (absAug R f0 id a).target = some (t, names) := by intro f0; simp [absAug, htg]
    cases hroot : f.tree? t with
    | none =>
      refine Outcome.fail f (.same (by simp [htg])) ?_
      intro f0 ⟨tt, ht, d, hd, _⟩
      rw [htarget f0] at ht; cases ht
      exact viewOf_no_tree hroot _ _ hd
    | some root =>
      simp only
      have hs : Searched R id a f (f.setTree t (walkN names root (some [])).2) := .walked htg hroot
      obtain ⟨hfull, hsome, hnone⟩ := walkN_spec names root [] [] root (Tracks.nil root)
      have ht1 := tree?_setTree_same hroot (walkN names root (some [])).2
      cases hres : (walkN names root (some [])).1 with
      | none =>
        refine Outcome.fail _ hs ?_
        intro f0 ⟨tt, ht, d, hd, _⟩
        rw [htarget f0] at ht; cases ht
        have := (viewOf_at hroot names d).mp hd
        rw [dataAt_eq_fullAt, show fullAt root names = none from hnone hres] at this
        cases this
      | some q =>
        simp only [Option.map_some]
        obtain ⟨x, hx⟩ := hsome q hres
        simp only [List.nil_append] at hx
        simp only [ht1, Option.bind_some, hx.getAt]
        by_cases hc : cannotHaveChildren x = true
        · simp only [hc, if_true]
          refine Outcome.fail _ hs ?_
          intro f0 ⟨tt, ht, d, hd, hcan⟩
          rw [htarget f0] at ht; cases ht
          have h1 := (viewOf_at hroot names d).mp hd
          have h2 : dataAt root names = some (nodeData x.d) := by
            rw [dataAt_eq_fullAt, ← hfull names]
            simp [fullAt, hx.walk]
          rw [h2] at h1
          simp only [Option.some.injEq] at h1
          rw [← h1, canHave_iff, hc] at hcan
          simp at hcan
        · simp only [hc, Bool.false_eq_true, if_false]
          exact Outcome.ok t names _ _ q x htg hs ht1 hx (by simpa using hc)

/-! ### a successful attempt on the view -/

/-- Below a node that received a collision-free merge: the old locations, plus the stamped
copies of the body's nodes. -/
theorem dataAt_merge_free (x a : Entry) (ns : String) (hr : x.d.isRpc = false) (hf : FreeIn x a.dir)
    (r : NPath) (d : EData) :
    dataAt (x.merge (some ns) a) r = some d ↔
      dataAt x r = some d ∨ ∃ c ∈ a.dir, ∃ r', r = c.name :: r' ∧ dataAt (stamp ns c) r' = some d := by
  cases r with
  | nil =>
    simp only [dataAt_nil, Option.some.injEq]
    have := merge_sameData x (some ns) a
    unfold SameData at this
    rw [this]
    constructor
    · exact fun h => Or.inl h
    · rintro (h | ⟨c, _, r', hr', _⟩)
      · exact h
      · cases hr'
  | cons k r' =>
    rw [dataAt_cons, dataAt_cons, kid_merge_free x ns a hr hf k, kid_nonrpc hr]
    cases hc : x.child? k with
    | some c0 =>
      simp only [Option.some_or, Option.bind_some]
      constructor
      · exact fun h => Or.inl h
      · rintro (h | ⟨c, hcm, r'', hr'', _⟩)
        · exact h
        · simp only [List.cons.injEq] at hr''
          have := hf.1 c hcm
          rw [← hr''.1, hc] at this
          cases this
    | none =>
      simp only [Option.none_or, Option.bind_none]
      constructor
      · intro h
        right
        cases hfnd : a.dir.find? (·.name == k) with
        | none => simp [hfnd] at h
        | some c =>
          simp only [hfnd, Option.map_some, Option.bind_some] at h
          have hn : c.name = k := by simpa using List.find?_some hfnd
          exact ⟨c, List.mem_of_find?_eq_some hfnd, r', by rw [hn], h⟩
      · rintro (h | ⟨c, hcm, r'', hr'', hd⟩)
        · cases h
        · simp only [List.cons.injEq] at hr''
          obtain ⟨rfl, rfl⟩ := hr''
          rw [find?_of_nodup a.dir hf.2 hcm]
          exact hd

theorem nsOfR_le (R : Res) {f f' : Forest} (h : FLe f f') (id : Nat) : nsOfR R f' id = nsOfR R f id := by
  unfold nsOfR
  have := h.isSome id
  cases h1 : f.tree? id <;> cases h2 : f'.tree? id <;> simp [h1, h2] at this ⊢

theorem freeIn_iff {R : Res} {id : Nat} {a : Entry} {f : Forest} {t : Nat} {names : NPath} {root' x : Entry} {q : Path}
    (htg : R.tgt id a = .go t names) (hview_t : ∀ P d, viewOf f (t, P) d ↔ dataAt root' P = some d)
    (hx : Tracks root' names q x) (hxr : x.d.isRpc = false) (f0 : Forest) :
    FreeIn x a.dir ↔ (absAug R f0 id a).roots.Nodup ∧ ¬ (absAug R f0 id a).Collides (viewOf f) := by
  have htarget : (absAug R f0 id a).target = some (t, names) := by simp [absAug, htg]
  have hbelow : ∀ c : Entry, dataAt root' (names ++ [c.name]) = (x.child? c.name).map fun y => nodeData y.d := by
    intro c
    rw [dataAt_append, hx.walk, Option.bind_some, dataAt_cons, kid_nonrpc hxr]
    cases x.child? c.name <;> rfl
  have hcol : (absAug R f0 id a).Collides (viewOf f) ↔ ∃ c ∈ a.dir, x.child? c.name ≠ none := by
    constructor
    · rintro ⟨tt, htt, k, hk, d, hd⟩
      rw [htarget] at htt; cases htt
      obtain ⟨c, hc, rfl⟩ := List.mem_map.mp hk
      refine ⟨c, hc, fun hnone => ?_⟩
      have := (hview_t _ d).mp hd
      rw [hbelow, hnone] at this
      cases this
    · rintro ⟨c, hc, hne⟩
      refine ⟨(t, names), htarget, c.name, List.mem_map.mpr ⟨c, hc, rfl⟩, ?_⟩
      obtain ⟨y, hy⟩ := Option.ne_none_iff_exists'.mp hne
      exact ⟨nodeData y.d, (hview_t _ _).mpr (by rw [hbelow, hy]; rfl)⟩
  unfold FreeIn
  rw [hcol, and_comm]
  refine and_congr_right fun _ => ⟨fun h1 ⟨c, hc, hne⟩ => hne (h1 c hc), fun h c hc => ?_⟩
  exact Classical.byContradiction fun hne => h ⟨c, hc, hne⟩

theorem adds_iff {A : Aug} {t : Nat} {names : NPath} (ht : A.target = some (t, names)) (lt : Nat) (P : NPath) (d : EData) :
    A.adds (lt, P) d ↔
      lt = t ∧ ∃ c ∈ A.body.dir, ∃ r', P = names ++ c.name :: r' ∧ dataAt (stamp A.ns c) r' = some d := by
  unfold Aug.adds dataAt
  constructor
  · rintro ⟨t', ht', h1, c, hc, r, hr, e, he, hd⟩
    rw [ht] at ht'; cases ht'
    exact ⟨h1, c, hc, r, hr, by simp [he, hd]⟩
  · rintro ⟨rfl, c, hc, r, hr, hd⟩
    cases hw : walk (stamp A.ns c) r with
    | none => simp [hw] at hd
    | some e => exact ⟨_, ht, rfl, c, hc, r, hr, e, hw, by simpa [hw] using hd⟩

/-- A failed attempt. -/
theorem attempt_fail {R : Res} {id : Nat} {ae : Bool} {nsOf : String} {a : Entry} {f f' : Forest}
    (h : attemptR R id ae nsOf a f = (f', false)) :
    viewOf f' = viewOf f ∧ FLe f f' ∧ (∀ f0, ¬ (absAug R f0 id a).Applicable (viewOf f)) ∧
    (ae = true → (f.tree? id).isSome = true → FVisErr f' (Err.at_ a.d.node "augment-not-found")) := by
  have := attemptR_outcome R id ae nsOf a f
  rw [h] at this
  cases this with
  | fail f1 hs hna =>
    obtain ⟨hv, hle⟩ := hs.view
    refine ⟨(failForest_view id ae a f1).trans hv, hle.trans (failForest_le id ae a f1), hna, fun hae hsome => ?_⟩
    subst hae
    exact failForest_err id a f1 (by rw [hle.isSome]; exact hsome)

/-- A successful attempt. -/
theorem attempt_ok {R : Res} {id : Nat} {ae : Bool} {nsOf : String} {a : Entry} {f f' : Forest}
    (h : attemptR R id ae nsOf a f = (f', true)) (f0 : Forest) (hns : nsOf = nsOfR R f0 id) :
    FLe f f' ∧ (absAug R f0 id a).Applicable (viewOf f) ∧
    ((absAug R f0 id a).roots.Nodup →
      ¬ (absAug R f0 id a).Collides (viewOf f) → viewOf f' = graft (viewOf f) (absAug R f0 id a)) ∧
    ((¬ (absAug R f0 id a).roots.Nodup ∨ (absAug R f0 id a).Collides (viewOf f)) →
      FVisErr f' (Err.at_ a.d.node "duplicate-node")) := by
  have hout := attemptR_outcome R id ae nsOf a f
  rw [h] at hout
  generalize hfe : (f', true) = res at hout
  cases hout with
  | fail _ _ _ => simp at hfe
  | ok t names f1 root' q x htg hs ht1 hx hcan =>
    simp only [Prod.mk.injEq, and_true] at hfe
    subst hfe
    obtain ⟨hv1, hle1⟩ := hs.view
    have hnp := merge_namePres (some nsOf) a
    have htarget : (absAug R f0 id a).target = some (t, names) := by simp [absAug, htg]
    -- the target as the view shows it
    have hview_t : ∀ P d, viewOf f (t, P) d ↔ dataAt root' P = some d := by
      intro P d; rw [← hv1]; exact viewOf_at ht1 P d
    have hxdata : dataAt root' names = some (nodeData x.d) := by simp [dataAt, hx.walk]
    have hbelow : ∀ r, dataAt root' (names ++ r) = dataAt x r := by
      intro r; rw [dataAt_append, hx.walk]; rfl
    have hle2 : FLe f1 (f1.setTree t (root'.updateAt q fun te => te.merge (some nsOf) a)) :=
      FLe.setTree ht1 (Le.update hx hnp (Le.merge x (some nsOf) a))
    have ht2 : (f1.setTree t (root'.updateAt q fun te => te.merge (some nsOf) a)).tree? t =
        some (root'.updateAt q fun te => te.merge (some nsOf) a) := tree?_setTree_same ht1 _
    -- the model's collision test is the view's
    have hxr : x.d.isRpc = false := by
      simp only [cannotHaveChildren, Bool.or_eq_false_iff] at hcan
      exact hcan.2
    have hfree_iff := freeIn_iff htg hview_t hx hxr f0
    refine ⟨hle1.trans hle2, ?_, ?_, ?_⟩
    · -- applicable
      refine ⟨(t, names), htarget, nodeData x.d, (hview_t names _).mpr hxdata, ?_⟩
      rw [canHave_iff, hcan]; rfl
    · -- exact effect
      intro hnd hnc
      have hfree : FreeIn x a.dir := hfree_iff.mpr ⟨hnd, hnc⟩
      have hnsEq : (absAug R f0 id a).ns = nsOf := by simp [absAug, hns]
      funext ⟨lt, P⟩ d
      apply propext
      unfold graft
      rw [adds_iff htarget, hnsEq]
      by_cases hlt : lt = t
      · subst hlt
        rw [viewOf_at ht2 P d, hview_t P d]
        by_cases hP : names <+: P
        · obtain ⟨r, rfl⟩ := hP
          have h1 : dataAt (root'.updateAt q fun te => te.merge (some nsOf) a) (names ++ r) =
              dataAt (x.merge (some nsOf) a) r := by
            simp only [dataAt]; rw [walk_update_below hx hnp]
          rw [h1, hbelow, dataAt_merge_free x a nsOf hxr hfree r d]
          simp only [true_and, List.append_cancel_left_eq, or_comm]
          rfl
        · rw [dataAt_update_off hx hnp P hP]
          exact (or_iff_right fun ⟨_, c, _, r', hr', _⟩ => hP ⟨_, hr'.symm⟩).symm
      · have h1 : viewOf (f1.setTree t (root'.updateAt q fun te => te.merge (some nsOf) a)) (lt, P) d ↔
            viewOf f1 (lt, P) d := by
          unfold viewOf nodeAt
          simp only [tree?_setTree_ne f1 hlt]
        rw [h1, hv1]
        exact (or_iff_right fun h => hlt h.1).symm
    · -- a collision is recorded
      intro hbad
      have hnf : ¬ FreeIn x a.dir := by
        intro hf
        have := hfree_iff.mp hf
        rcases hbad with h | h
        · exact h this.1
        · exact this.2 h
      refine ⟨t, _, ht2, names, (x.merge (some nsOf) a).d, ?_, merge_collision_err x (some nsOf) a hnf⟩
      simp [fullAt, (hx.update hnp).walk]

theorem attempt_ok_le {R : Res} {id : Nat} {ae : Bool} {nsOf : String} {a : Entry} {f f' : Forest}
    (h : attemptR R id ae nsOf a f = (f', true)) : FLe f f' := by
  have hout := attemptR_outcome R id ae nsOf a f
  rw [h] at hout
  generalize hfe : (f', true) = res at hout
  cases hout with
  | fail _ _ _ => simp at hfe
  | ok t names f1 root' q x htg hs ht1 hx hcan =>
    simp only [Prod.mk.injEq, and_true] at hfe
    subst hfe
    exact hs.view.2.trans (FLe.setTree ht1 (Le.update hx (merge_namePres (some nsOf) a) (Le.merge x (some nsOf) a)))

end Goyang.Lemmas.AugmentStep
