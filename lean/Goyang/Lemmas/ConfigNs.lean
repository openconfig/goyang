import Goyang.Spec.ConfigNs
import Goyang.Lemmas.ForestAux
import Goyang.Lemmas.SortAux
/-
Helper lemmas for C12 (Props/C12.lean): the model's accumulator walks (`readOnlyAt`, `stampAt`)
against the declarative readings of Spec/ConfigNs.lean, what `merge` / `updateAt` / `fixChoice` do
to children, stamps and config inheritance.
-/
open Goyang.Lemmas.ForestAux (tree?_setTree)
namespace Goyang.Lemmas.ConfigNs
open Goyang.Model Goyang.Spec.ConfigNs

/-! ### derived `==` on the small enumerations is equality -/

/- The derived `==` of an enumeration compares constructor indices. -/
instance : LawfulBEq Tri where
  eq_of_beq {a b} h := by
    have : a.ctorIdx = b.ctorIdx := eq_of_beq h
    rw [← Tri.ofNat_ctorIdx a, this, Tri.ofNat_ctorIdx]
  rfl {a} := beq_self_eq_true a.ctorIdx

instance : LawfulBEq Kind where
  eq_of_beq {a b} h := by
    have : a.ctorIdx = b.ctorIdx := eq_of_beq h
    rw [← Kind.ofNat_ctorIdx a, this, Kind.ofNat_ctorIdx]
  rfl {a} := beq_self_eq_true a.ctorIdx

theorem beq_decide {α : Type} [BEq α] [LawfulBEq α] [DecidableEq α] (a b : α) : (a == b) = decide (a = b) := by
  by_cases h : a = b
  · rw [h, beq_self_eq_true, decide_eq_true rfl]
  · rw [decide_eq_false h, beq_eq_false_iff_ne.mpr h]

theorem tri_beq (a b : Tri) : (a == b) = decide (a = b) := beq_decide a b
theorem kind_beq (a b : Kind) : (a == b) = decide (a = b) := beq_decide a b

/-! ### the step function -/

theorem next_child (e : Entry) (k : String) : next e (.child k) = e.child? k := rfl
theorem next_input (e : Entry) : next e .input = e.inp.head? := rfl
theorem next_output (e : Entry) : next e .output = e.out.head? := rfl

theorem getAt_cons (e : Entry) (s : Step) (p : Path) :
    e.getAt (s :: p) = (next e s).bind (·.getAt p) := by
  cases s <;> rfl

/-! ### (a) read-only -/

/-- The nearest decisive node decides, `inh` when there is none. -/
def settle (cs : List CK) (inh : Bool) : Bool := ((cs.reverse.find? decisive).map verdict).getD inh

theorem settle_nil (inh : Bool) : settle [] inh = inh := rfl

theorem settle_cons (c : CK) (cs : List CK) (inh : Bool) :
    settle (c :: cs) inh = settle cs (if decisive c then verdict c else inh) := by
  unfold settle
  rw [List.reverse_cons, List.find?_append]
  cases h : cs.reverse.find? decisive with
  | some x => simp
  | none =>
    by_cases hd : decisive c <;> simp [List.find?, hd]

theorem readOnlyExact_eq_settle (cs : List CK) : readOnlyExact cs = settle cs false := rfl

/-- What `ReadOnly()` answers at one node, given the parent's answer. -/
theorem here_eq (e : Entry) (inh : Bool) :
    (if e.d.kind == .output then true
      else match e.d.config with
        | .unset => inh
        | .true_ => false
        | .false_ => true) = (if decisive (ck e) then verdict (ck e) else inh) := by
  unfold decisive verdict ck
  by_cases hk : e.d.kind = .output
  · simp [hk]
  · cases hc : e.d.config <;> simp [hk]

theorem readOnlyGo_eq (e : Entry) (p : Path) (inh : Bool) :
    Entry.readOnlyAt.go e p inh = settle (configsAlong e p) inh := by
  induction p generalizing e inh with
  | nil =>
    unfold Entry.readOnlyAt.go configsAlong
    rw [settle_cons, settle_nil]; exact here_eq e inh
  | cons s rest ih =>
    unfold Entry.readOnlyAt.go configsAlong
    rw [settle_cons, ← here_eq e inh]
    cases s with
    | child k => simp only [next]; cases e.child? k <;> simp [settle_nil, ih] <;> cases e.d.config <;> rfl
    | input => simp only [next]; cases e.inp.head? <;> simp [settle_nil, ih] <;> cases e.d.config <;> rfl
    | output => simp only [next]; cases e.out.head? <;> simp [settle_nil, ih] <;> cases e.d.config <;> rfl

/-- The model's `readOnlyAt` is "the nearest decisive node decides". -/
theorem readOnlyAt_exact (root : Entry) (p : Path) :
    root.readOnlyAt p = readOnlyExact (configsAlong root p) := by
  unfold Entry.readOnlyAt
  exact readOnlyGo_eq root p false

/-! ### the two readings of the read-only rule, and the rule against what the code computes -/

theorem split_reverse {α} {cs as bs : List α} {c : α} (h : cs.reverse = as ++ c :: bs) :
    cs = bs.reverse ++ c :: as.reverse := by
  have := congrArg List.reverse h
  simpa using this

theorem reverse_split {α} {cs pre post : List α} {c : α} (h : cs = pre ++ c :: post) :
    cs.reverse = post.reverse ++ c :: pre.reverse := by
  subst h; simp

theorem nearestExplicit_false_iff (cs : List CK) :
    nearestExplicit cs = some .false_ ↔
      ∃ pre c post, cs = pre ++ c :: post ∧ c.1 = .false_ ∧ ∀ y ∈ post, y.1 = .unset := by
  unfold nearestExplicit
  constructor
  · intro h
    cases hf : cs.reverse.find? (·.1 != .unset) with
    | none => simp [hf] at h
    | some c =>
      rw [hf] at h
      simp only [Option.map_some, Option.some.injEq] at h
      obtain ⟨_, as, bs, hsplit, hall⟩ := List.find?_eq_some_iff_append.mp hf
      refine ⟨bs.reverse, c, as.reverse, split_reverse hsplit, h, ?_⟩
      intro y hy
      have := hall y (List.mem_reverse.mp hy)
      simpa using this
  · rintro ⟨pre, c, post, hcs, hc, hpost⟩
    have hf : cs.reverse.find? (·.1 != .unset) = some c := by
      rw [List.find?_eq_some_iff_append]
      refine ⟨by simp [hc], post.reverse, pre.reverse, reverse_split hcs, ?_⟩
      intro a ha
      simp [hpost a (List.mem_reverse.mp ha)]
    simp [hf, hc]

theorem inOutput_iff (cs : List CK) : inOutput cs = true ↔ ∃ c ∈ cs, c.2 = .output := by
  unfold inOutput
  simp [List.any_eq_true]

/-- The executable rule and the sentence with the decomposition written out say the same. -/
theorem readOnly_iff (cs : List CK) : readOnly cs = true ↔ ReadOnly cs := by
  unfold readOnly ReadOnly
  rw [Bool.or_eq_true, inOutput_iff, ← nearestExplicit_false_iff]
  simp

/-- No config statement and no output on the path: read-write. -/
theorem readOnly_none (cs : List CK) (h : ∀ c ∈ cs, c.1 = .unset ∧ c.2 ≠ .output) : readOnly cs = false := by
  cases hr : readOnly cs with
  | false => rfl
  | true =>
    rcases (readOnly_iff cs).mp hr with ⟨pre, c, post, hcs, hc, _⟩ | ⟨c, hc, ho⟩
    · have := (h c (by simp [hcs])).1
      rw [hc] at this; cases this
    · exact absurd ho (h c hc).2

/-- On reversed lists (nearest node first): the property's rule and the code's rule agree when
no output has a `config true` nearer to the node. -/
theorem rules_agree_rev (r : List CK)
    (h : ∀ a c b, r = a ++ c :: b → c.2 = .output → ∀ y ∈ a, y.1 ≠ .true_) :
    (((r.find? (·.1 != .unset)).map (·.1)) == some .false_ || r.any (·.2 == .output)) =
      ((r.find? decisive).map verdict).getD false := by
  induction r with
  | nil => rfl
  | cons x r ih =>
    have h' : ∀ a c b, r = a ++ c :: b → c.2 = .output → ∀ y ∈ a, y.1 ≠ .true_ := by
      intro a c b hr hc y hy
      exact h (x :: a) c b (by simp [hr]) hc y (List.mem_cons_of_mem _ hy)
    have ih := ih h'
    by_cases ho : x.2 = .output
    · simp [List.find?, decisive, verdict, ho]
    · cases hx : x.1 with
      | false_ => simp [List.find?, decisive, verdict, ho, hx, bne, tri_beq, kind_beq]
      | true_ =>
        have hno : r.any (·.2 == .output) = false := by
          rw [Bool.eq_false_iff]
          intro hany
          obtain ⟨c, hc, hco⟩ := List.any_eq_true.mp hany
          obtain ⟨a, b, hab⟩ := List.append_of_mem hc
          exact h (x :: a) c b (by simp [hab]) (by simpa using hco) x (by simp) hx
        simp only [List.any_cons, hno]
        simp [List.find?, decisive, verdict, ho, hx, bne, tri_beq, kind_beq]
      | unset =>
        simpa [List.find?, decisive, verdict, ho, hx, bne, tri_beq, kind_beq] using ih

/-- Under the property's exclusion the property's rule is what the code computes. -/
theorem readOnly_eq_exact (cs : List CK) (h : NoConfigTrueBelowOutput cs) :
    readOnly cs = readOnlyExact cs := by
  unfold readOnly readOnlyExact nearestExplicit inOutput
  have := rules_agree_rev cs.reverse (by
    intro a c b hr hc y hy
    exact h b.reverse c a.reverse (split_reverse hr) hc y (List.mem_reverse.mpr hy))
  simpa using this

/-! ### `configsAlong` really lists the nodes on the path -/

theorem configsAlong_getElem? (e : Entry) (p : Path) (h : (e.getAt p).isSome) (i : Nat) (hi : i ≤ p.length) :
    (configsAlong e p)[i]? = (e.getAt (p.take i)).map ck := by
  induction p generalizing e i with
  | nil =>
    have : i = 0 := by simpa using hi
    subst this; simp [configsAlong, Entry.getAt]
  | cons s rest ih =>
    cases i with
    | zero => simp [configsAlong, Entry.getAt]
    | succ i =>
      rw [getAt_cons] at h
      unfold configsAlong
      rw [List.take_succ_cons, getAt_cons, List.getElem?_cons_succ]
      cases hn : next e s with
      | none => simp [hn] at h
      | some c =>
        simp only [hn, Option.bind_some] at h ⊢
        exact ih c h i (by simpa using hi)

theorem configsAlong_length (e : Entry) (p : Path) (h : (e.getAt p).isSome) :
    (configsAlong e p).length = p.length + 1 := by
  induction p generalizing e with
  | nil => simp [configsAlong]
  | cons s rest ih =>
    rw [getAt_cons] at h
    unfold configsAlong
    cases hn : next e s with
    | none => simp [hn] at h
    | some c =>
      simp only [hn, Option.bind_some] at h
      simp [ih c h]

/-! ### (b) stamps: the accumulator walk is "the deepest graft root decides" -/

theorem deepestGraft_cons (x : Option String) (l : List (Option String)) :
    deepestGraft (x :: l) = (deepestGraft l).or x := by
  unfold deepestGraft
  rw [List.reverse_cons, List.findSome?_append]
  cases x <;> simp [List.findSome?]

/-- One step of the walk. -/
theorem stampGo_cons (e : Entry) (s : Step) (p : Path) (acc : Option String) :
    Entry.stampAt.go e (s :: p) acc =
      match next e s with
      | some c => Entry.stampAt.go c p (c.d.ns.or acc)
      | none => acc := by
  rw [Entry.stampAt.go.eq_def]
  cases s with
  | child k => simp only [next]; cases e.child? k with
    | none => rfl
    | some c => simp only; cases c.d.ns <;> rfl
  | input => simp only [next]; cases e.inp.head? with
    | none => rfl
    | some c => simp only; cases c.d.ns <;> rfl
  | output => simp only [next]; cases e.out.head? with
    | none => rfl
    | some c => simp only; cases c.d.ns <;> rfl

theorem stampGo_nil (e : Entry) (acc : Option String) : Entry.stampAt.go e [] acc = acc := by
  rw [Entry.stampAt.go.eq_def]

theorem stampGo_eq (e : Entry) (p : Path) (acc : Option String) :
    Entry.stampAt.go e p acc = (deepestGraft (stampsAlong e p)).or acc := by
  induction p generalizing e acc with
  | nil => rw [stampGo_nil]; simp [stampsAlong, deepestGraft]
  | cons s rest ih =>
    rw [stampGo_cons]; unfold stampsAlong
    cases next e s with
    | none => simp [deepestGraft]
    | some c => simp only [ih, deepestGraft_cons]; cases c.d.ns <;> cases deepestGraft (stampsAlong c rest) <;> rfl

theorem stampAt_eq (root : Entry) (p : Path) : root.stampAt p = deepestGraft (stampsAlong root p) := by
  unfold Entry.stampAt
  rw [stampGo_eq]; simp

theorem stampGo_append (e : Entry) (p q : Path) (acc : Option String) (te : Entry) (h : e.getAt p = some te) :
    Entry.stampAt.go e (p ++ q) acc = Entry.stampAt.go te q (Entry.stampAt.go e p acc) := by
  induction p generalizing e acc with
  | nil => simp [Entry.getAt] at h; subst h; simp [stampGo_nil]
  | cons s p ih =>
    rw [getAt_cons] at h
    rw [List.cons_append, stampGo_cons, stampGo_cons]
    cases hn : next e s with
    | none => simp [hn] at h
    | some c =>
      simp only [hn, Option.bind_some] at h ⊢
      exact ih c _ h

theorem namespaceAt_eq_spec (reg : Registry) (f : Forest) (loc : Loc) :
    namespaceAt reg f loc = namespaceOf reg f loc := by
  unfold namespaceAt namespaceOf ownerNs
  cases f.tree? loc.1 with
  | none => rfl
  | some root =>
    simp only [stampAt_eq]
    cases deepestGraft (stampsAlong root loc.2) with
    | some n => rfl
    | none =>
      simp only
      cases reg.byId loc.1 with
      | none => rfl
      | some m => simp only; cases reg.owner m <;> rfl

/-- The root of a tree reports its module's (owner's) namespace: this is what an augment stamps. -/
theorem namespaceAt_root (reg : Registry) (f : Forest) (id : Nat) (root : Entry) (h : f.tree? id = some root) :
    namespaceAt reg f (id, []) = ownerNs reg id := by
  rw [namespaceAt_eq_spec]; unfold namespaceOf
  simp [h, stampsAlong, deepestGraft]

/-! ### stamp-free trees -/

theorem noStampL_iff (l : List Entry) : noStampL l = true ↔ ∀ x ∈ l, noStamp x = true := by
  induction l with
  | nil => simp [noStampL]
  | cons a l ih => simp [noStampL, ih]

theorem noStamp_iff (e : Entry) : noStamp e = true ↔ e.d.ns = none ∧ noStampBelow e = true := by
  cases e with
  | mk d c i o => simp [noStamp, noStampBelow, Entry.d, Entry.dir, Entry.inp, Entry.out, Bool.and_assoc]

theorem next_mem (e c : Entry) (s : Step) (h : next e s = some c) : c ∈ e.dir ∨ c ∈ e.inp ∨ c ∈ e.out := by
  cases s with
  | child k => exact Or.inl (List.mem_of_find?_eq_some h)
  | input => exact Or.inr (Or.inl (List.mem_of_mem_head? h))
  | output => exact Or.inr (Or.inr (List.mem_of_mem_head? h))

theorem noStamp_next (e c : Entry) (s : Step) (hb : noStampBelow e = true) (h : next e s = some c) :
    noStamp c = true := by
  unfold noStampBelow at hb
  simp only [Bool.and_eq_true] at hb
  rcases next_mem e c s h with hm | hm | hm
  · exact (noStampL_iff _).mp hb.1.1 c hm
  · exact (noStampL_iff _).mp hb.1.2 c hm
  · exact (noStampL_iff _).mp hb.2 c hm

/-- Below a node under which nothing is stamped, the walk finds nothing new. -/
theorem stampGo_noStampBelow (e : Entry) (p : Path) (acc : Option String) (h : noStampBelow e = true) :
    Entry.stampAt.go e p acc = acc := by
  induction p generalizing e acc with
  | nil => exact stampGo_nil e acc
  | cons s p ih =>
    rw [stampGo_cons]
    cases hn : next e s with
    | none => rfl
    | some c =>
      have hc := (noStamp_iff c).mp (noStamp_next e c s h hn)
      simp only [hc.1, Option.none_or]
      exact ih c acc hc.2

/-! ### what `merge` does to the receiver -/

/-- The part of a node's data that config inheritance and namespace attribution read. -/
def sameCN (a b : Entry) : Prop :=
  a.d.name = b.d.name ∧ a.d.config = b.d.config ∧ a.d.kind = b.d.kind ∧ a.d.ns = b.d.ns

theorem sameCN_refl (a : Entry) : sameCN a a := ⟨rfl, rfl, rfl, rfl⟩

@[simp] theorem addErr_dir (e : Entry) (x : Err) : (e.addErr x).dir = e.dir := by cases e; rfl
@[simp] theorem addErr_inp (e : Entry) (x : Err) : (e.addErr x).inp = e.inp := by cases e; rfl
@[simp] theorem addErr_out (e : Entry) (x : Err) : (e.addErr x).out = e.out := by cases e; rfl
@[simp] theorem addErr_child? (e : Entry) (x : Err) (k : String) : (e.addErr x).child? k = e.child? k := by
  cases e; rfl
theorem addErr_sameCN (e : Entry) (x : Err) : sameCN (e.addErr x) e := by cases e; exact ⟨rfl, rfl, rfl, rfl⟩
@[simp] theorem addErrs_dir (e : Entry) (x : List Err) : (e.addErrs x).dir = e.dir := by cases e; rfl
@[simp] theorem addErrs_inp (e : Entry) (x : List Err) : (e.addErrs x).inp = e.inp := by cases e; rfl
@[simp] theorem addErrs_out (e : Entry) (x : List Err) : (e.addErrs x).out = e.out := by cases e; rfl
@[simp] theorem addErrs_child? (e : Entry) (x : List Err) (k : String) : (e.addErrs x).child? k = e.child? k := by
  cases e; rfl
theorem addErrs_sameCN (e : Entry) (x : List Err) : sameCN (e.addErrs x) e := by cases e; exact ⟨rfl, rfl, rfl, rfl⟩
@[simp] theorem withDir_dir (e : Entry) (c : List Entry) : (e.withDir c).dir = c := by cases e; rfl
@[simp] theorem withDir_inp (e : Entry) (c : List Entry) : (e.withDir c).inp = e.inp := by cases e; rfl
@[simp] theorem withDir_out (e : Entry) (c : List Entry) : (e.withDir c).out = e.out := by cases e; rfl
@[simp] theorem withDir_d (e : Entry) (c : List Entry) : (e.withDir c).d = e.d := by cases e; rfl
theorem withDir_sameCN (e : Entry) (c : List Entry) : sameCN (e.withDir c) e := by cases e; exact ⟨rfl, rfl, rfl, rfl⟩
@[simp] theorem importErrors_dir (e c : Entry) : (e.importErrors c).dir = e.dir := by simp [Entry.importErrors]
@[simp] theorem importErrors_inp (e c : Entry) : (e.importErrors c).inp = e.inp := by simp [Entry.importErrors]
@[simp] theorem importErrors_out (e c : Entry) : (e.importErrors c).out = e.out := by simp [Entry.importErrors]
@[simp] theorem importErrors_child? (e c : Entry) (k : String) : (e.importErrors c).child? k = e.child? k := by
  simp [Entry.importErrors]
theorem importErrors_sameCN (e c : Entry) : sameCN (e.importErrors c) e := addErrs_sameCN _ _

theorem sameCN_trans {a b c : Entry} (h1 : sameCN a b) (h2 : sameCN b c) : sameCN a c :=
  ⟨h1.1.trans h2.1, h1.2.1.trans h2.2.1, h1.2.2.1.trans h2.2.2.1, h1.2.2.2.trans h2.2.2.2⟩

@[simp] theorem stamp_name (ns : Option String) (v : Entry) : (stamp ns v).name = v.name := by
  cases ns <;> cases v <;> rfl
@[simp] theorem stamp_dir (ns : Option String) (v : Entry) : (stamp ns v).dir = v.dir := by
  cases ns <;> cases v <;> rfl
@[simp] theorem stamp_inp (ns : Option String) (v : Entry) : (stamp ns v).inp = v.inp := by
  cases ns <;> cases v <;> rfl
@[simp] theorem stamp_out (ns : Option String) (v : Entry) : (stamp ns v).out = v.out := by
  cases ns <;> cases v <;> rfl
theorem stamp_some_ns (n : String) (v : Entry) : (stamp (some n) v).d.ns = some n := by cases v; rfl
@[simp] theorem stamp_none (v : Entry) : stamp none v = v := rfl
theorem stamp_config (ns : Option String) (v : Entry) : (stamp ns v).d.config = v.d.config := by
  cases ns <;> cases v <;> rfl
theorem stamp_kind (ns : Option String) (v : Entry) : (stamp ns v).d.kind = v.d.kind := by
  cases ns <;> cases v <;> rfl

/-- One iteration of `merge`'s loop. -/
def mstep (ns : Option String) (pos : Stmt) (e v : Entry) : Entry :=
  match e.child? (stamp ns v).name with
  | some _ => e.addErr (Err.at_ pos "duplicate-node")
  | none => e.withDir (e.dir ++ [stamp ns v])

theorem merge_eq (e : Entry) (ns : Option String) (oe : Entry) :
    e.merge ns oe = oe.dir.foldl (mstep ns oe.d.node) (e.importErrors oe) := by
  unfold Entry.merge mstep stamp
  cases ns <;> rfl

theorem mstep_sameCN (ns : Option String) (pos : Stmt) (e v : Entry) : sameCN (mstep ns pos e v) e := by
  unfold mstep; split
  · exact addErr_sameCN _ _
  · exact withDir_sameCN _ _

theorem mstep_inp (ns : Option String) (pos : Stmt) (e v : Entry) : (mstep ns pos e v).inp = e.inp := by
  unfold mstep; split <;> simp
theorem mstep_out (ns : Option String) (pos : Stmt) (e v : Entry) : (mstep ns pos e v).out = e.out := by
  unfold mstep; split <;> simp

theorem child?_withDir_append (e : Entry) (v : Entry) (k : String) :
    (e.withDir (e.dir ++ [v])).child? k = (e.child? k).or (if v.name == k then some v else none) := by
  unfold Entry.child?
  rw [withDir_dir, List.find?_append]
  simp [List.find?]
  split <;> simp_all

theorem foldl_mstep_child? (ns : Option String) (pos : Stmt) (l : List Entry) (e : Entry) (k : String) :
    (l.foldl (mstep ns pos) e).child? k =
      match e.child? k with
      | some c => some c
      | none => (l.find? (·.name == k)).map (stamp ns) := by
  induction l generalizing e with
  | nil => simp; cases e.child? k <;> rfl
  | cons v l ih =>
    rw [List.foldl_cons, ih]
    unfold mstep
    rw [stamp_name]
    cases hv : e.child? v.name with
    | some x =>
      simp only [addErr_child?]
      cases hk : e.child? k with
      | some c => rfl
      | none =>
        have : (v.name == k) = false := by
          rw [Bool.eq_false_iff]; intro h
          have := eq_of_beq h
          rw [this, hk] at hv; cases hv
        simp [List.find?, this]
    | none =>
      simp only [child?_withDir_append, stamp_name]
      cases hk : e.child? k with
      | some c => simp
      | none =>
        by_cases hvk : (v.name == k) = true
        · simp [List.find?, hvk]
        · have : (v.name == k) = false := by simpa using hvk
          simp [List.find?, this]

/-- The children of the receiver after `merge`: its own, then the (stamped) children of the
merged entry whose names were free. -/
theorem merge_child? (e : Entry) (ns : Option String) (oe : Entry) (k : String) :
    (e.merge ns oe).child? k =
      match e.child? k with
      | some c => some c
      | none => (oe.child? k).map (stamp ns) := by
  rw [merge_eq, foldl_mstep_child?, importErrors_child?]; rfl

theorem foldl_mstep_keep (ns : Option String) (pos : Stmt) (l : List Entry) (e : Entry) :
    sameCN (l.foldl (mstep ns pos) e) e ∧ (l.foldl (mstep ns pos) e).inp = e.inp ∧
      (l.foldl (mstep ns pos) e).out = e.out := by
  induction l generalizing e with
  | nil => exact ⟨sameCN_refl e, rfl, rfl⟩
  | cons v l ih =>
    rw [List.foldl_cons]
    obtain ⟨h1, h2, h3⟩ := ih (mstep ns pos e v)
    exact ⟨sameCN_trans h1 (mstep_sameCN ..), h2.trans (mstep_inp ..), h3.trans (mstep_out ..)⟩

/-- `merge` leaves the receiver's own config, kind, name, stamp and rpc input/output alone. -/
theorem merge_keep (e : Entry) (ns : Option String) (oe : Entry) :
    sameCN (e.merge ns oe) e ∧ (e.merge ns oe).inp = e.inp ∧ (e.merge ns oe).out = e.out := by
  rw [merge_eq]
  obtain ⟨h1, h2, h3⟩ := foldl_mstep_keep ns oe.d.node oe.dir (e.importErrors oe)
  exact ⟨sameCN_trans h1 (importErrors_sameCN ..), by simpa using h2, by simpa using h3⟩

theorem merge_next (e : Entry) (ns : Option String) (oe : Entry) (s : Step) :
    next (e.merge ns oe) s =
      match s with
      | .child k => (match e.child? k with | some c => some c | none => (oe.child? k).map (stamp ns))
      | .input => next e .input
      | .output => next e .output := by
  cases s with
  | child k => exact merge_child? e ns oe k
  | input => simp [next, (merge_keep e ns oe).2.1]
  | output => simp [next, (merge_keep e ns oe).2.2]

/-! ### `updateAt` -/

theorem updateAt_nil (e : Entry) (g : Entry → Entry) : e.updateAt [] g = g e := by
  rw [Entry.updateAt]

theorem updateAt_sameCN (e : Entry) (p : Path) (g : Entry → Entry) (hg : ∀ x, sameCN (g x) x) :
    sameCN (e.updateAt p g) e := by
  cases p with
  | nil => rw [updateAt_nil]; exact hg e
  | cons s p =>
    cases e with
    | mk d c i o => cases s <;> (rw [Entry.updateAt]; exact ⟨rfl, rfl, rfl, rfl⟩)

theorem updateAt_name (e : Entry) (p : Path) (g : Entry → Entry) (hg : ∀ x, sameCN (g x) x) :
    (e.updateAt p g).name = e.name := (updateAt_sameCN e p g hg).1

/-- One step below an updated node: only the step towards the updated place sees a change — when the
update does not rename the children it is applied to. -/
theorem updateAt_next_of (e : Entry) (s : Step) (p : Path) (g : Entry → Entry)
    (hn : ∀ k, s = .child k → ∀ x : Entry, (if x.name == k then x.updateAt p g else x).name = x.name)
    (s' : Step) :
    next (e.updateAt (s :: p) g) s' =
      if s' = s then (next e s).map (·.updateAt p g) else next e s' := by
  cases e with
  | mk d c i o =>
    cases s with
    | child k =>
      rw [Entry.updateAt]
      cases s' with
      | child k' =>
        simp only [next, Entry.child?, Entry.dir]
        rw [List.find?_map]
        have hcomp : ((fun x : Entry => x.name == k') ∘ fun x => if x.name == k then x.updateAt p g else x) =
            (fun x : Entry => x.name == k') := by
          funext x; simp only [Function.comp]
          rw [hn k rfl x]
        rw [hcomp]
        by_cases hk : k' = k
        · subst hk
          simp only [if_true]
          cases hf : c.find? (fun x => x.name == k') with
          | none => rfl
          | some x =>
            have : (x.name == k') = true := List.find?_some (p := fun x : Entry => x.name == k') hf
            have h2 : x.name = k' := eq_of_beq this
            simp [h2]
        · have hne : ¬ (Step.child k' = Step.child k) := by intro h; cases h; exact hk rfl
          simp only [hne, if_false]
          cases hf : c.find? (fun x => x.name == k') with
          | none => rfl
          | some x =>
            have h1 : (x.name == k') = true := List.find?_some (p := fun x : Entry => x.name == k') hf
            have : (x.name == k) = false := by
              rw [Bool.eq_false_iff]; intro h2
              exact hk ((eq_of_beq h1).symm.trans (eq_of_beq h2))
            have h3 : ¬ x.name = k := by intro h; simp [h] at this
            simp [h3]
      | input => simp [next, Entry.inp]
      | output => simp [next, Entry.out]
    | input =>
      rw [Entry.updateAt]
      cases s' with
      | child k' => simp [next, Entry.child?, Entry.dir]
      | input => simp [next, Entry.inp, List.head?_map]
      | output => simp [next, Entry.out]
    | output =>
      rw [Entry.updateAt]
      cases s' with
      | child k' => simp [next, Entry.child?, Entry.dir]
      | input => simp [next, Entry.inp]
      | output => simp [next, Entry.out, List.head?_map]

theorem updateAt_next (e : Entry) (s : Step) (p : Path) (g : Entry → Entry) (hg : ∀ x, sameCN (g x) x)
    (s' : Step) :
    next (e.updateAt (s :: p) g) s' =
      if s' = s then (next e s).map (·.updateAt p g) else next e s' := by
  refine updateAt_next_of e s p g (fun k _ x => ?_) s'
  split
  · exact updateAt_name x p g hg
  · rfl

/-- The walk down to the updated place and on: stamps collected on the way are the old ones. -/
theorem stampGo_updateAt_through (e : Entry) (p q : Path) (g : Entry → Entry) (hg : ∀ x, sameCN (g x) x)
    (te : Entry) (h : e.getAt p = some te) (acc : Option String) :
    Entry.stampAt.go (e.updateAt p g) (p ++ q) acc = Entry.stampAt.go (g te) q (Entry.stampAt.go e p acc) := by
  induction p generalizing e acc with
  | nil =>
    simp only [Entry.getAt, Option.some.injEq] at h; subst h
    simp [updateAt_nil, stampGo_nil]
  | cons s p ih =>
    rw [getAt_cons] at h
    rw [List.cons_append, stampGo_cons, stampGo_cons, updateAt_next e s p g hg]
    cases hn : next e s with
    | none => simp [hn] at h
    | some c =>
      simp only [hn, Option.bind_some, if_true, Option.map_some] at h ⊢
      rw [(updateAt_sameCN c p g hg).2.2.2]
      exact ih c h _

/-- A walk that leaves the way to the updated place (or stops before reaching it) sees no change. -/
theorem stampGo_updateAt_off (e : Entry) (p q : Path) (g : Entry → Entry) (hg : ∀ x, sameCN (g x) x)
    (hoff : ¬ p <+: q) (acc : Option String) :
    Entry.stampAt.go (e.updateAt p g) q acc = Entry.stampAt.go e q acc := by
  induction p generalizing e q acc with
  | nil => exact absurd (List.nil_prefix) hoff
  | cons s p ih =>
    cases q with
    | nil => simp [stampGo_nil]
    | cons s' q =>
      rw [stampGo_cons, stampGo_cons, updateAt_next e s p g hg]
      by_cases hs : s' = s
      · subst hs
        simp only [if_true]
        cases hn : next e s' with
        | none => rfl
        | some c =>
          simp only [Option.map_some]
          rw [(updateAt_sameCN c p g hg).2.2.2]
          apply ih
          intro hpre
          exact hoff ((List.cons_prefix_cons).mpr ⟨rfl, hpre⟩)
      · simp only [hs, if_false]

theorem getAt_updateAt_through (e : Entry) (p q : Path) (g : Entry → Entry) (hg : ∀ x, sameCN (g x) x)
    (te : Entry) (h : e.getAt p = some te) :
    (e.updateAt p g).getAt (p ++ q) = (g te).getAt q := by
  induction p generalizing e with
  | nil =>
    simp only [Entry.getAt, Option.some.injEq] at h; subst h
    simp [updateAt_nil]
  | cons s p ih =>
    rw [getAt_cons] at h
    rw [List.cons_append, getAt_cons, updateAt_next e s p g hg]
    cases hn : next e s with
    | none => simp [hn] at h
    | some c =>
      simp only [hn, Option.bind_some, if_true, Option.map_some] at h ⊢
      exact ih c h

/-! ### graft: what an augment stamps, and what it leaves alone -/

theorem merge_sameCN (ns : Option String) (a : Entry) : ∀ x, sameCN (x.merge ns a) x :=
  fun x => (merge_keep x ns a).1

/-- The root of every grafted child carries the stamp. -/
theorem graft_root (root : Entry) (path : Path) (te a : Entry) (n k : String) (v : Entry)
    (h : root.getAt path = some te) (hfree : te.child? k = none) (hv : a.child? k = some v) :
    (root.updateAt path fun te => te.merge (some n) a).getAt (path ++ [.child k]) = some (stamp (some n) v) := by
  rw [getAt_updateAt_through root path _ _ (merge_sameCN _ a) te h, getAt_cons, merge_next]
  simp [hfree, hv, Entry.getAt]

/-- At and below a grafted child everything reports the stamp, as long as the grafted subtree
itself is stamp-free below its root. -/
theorem graft_new (root : Entry) (path : Path) (te a : Entry) (n k : String) (v : Entry) (r : Path)
    (h : root.getAt path = some te) (hfree : te.child? k = none) (hv : a.child? k = some v)
    (hns : noStampBelow v = true) :
    (root.updateAt path fun te => te.merge (some n) a).stampAt (path ++ .child k :: r) = some n := by
  unfold Entry.stampAt
  rw [stampGo_updateAt_through root path _ _ (merge_sameCN _ a) te h, stampGo_cons, merge_next]
  simp only [hfree, hv, Option.map_some]
  rw [stampGo_noStampBelow _ _ _ (by simpa [noStampBelow] using hns), stamp_some_ns]
  rfl

/-- Frame: a path that does not enter a grafted child sees the stamps it saw before. -/
theorem graft_frame (root : Entry) (path : Path) (te a : Entry) (ns : Option String) (q : Path)
    (h : root.getAt path = some te)
    (hq : ¬ ∃ k r, q = path ++ Step.child k :: r ∧ te.child? k = none ∧ (a.child? k).isSome) :
    (root.updateAt path fun te => te.merge ns a).stampAt q = root.stampAt q := by
  unfold Entry.stampAt
  by_cases hpre : path <+: q
  · obtain ⟨r, rfl⟩ := hpre
    rw [stampGo_updateAt_through root path _ _ (merge_sameCN _ a) te h, stampGo_append root path r none te h]
    cases r with
    | nil => simp [stampGo_nil]
    | cons s r =>
      rw [stampGo_cons, stampGo_cons, merge_next]
      cases s with
      | child k =>
        simp only [next]
        cases hk : te.child? k with
        | some c => rfl
        | none =>
          cases ha : a.child? k with
          | none => rfl
          | some v => exact absurd ⟨k, r, rfl, hk, by simp [ha]⟩ hq
      | input => rfl
      | output => rfl
  · exact stampGo_updateAt_off root path q _ (merge_sameCN _ a) hpre none

/-- `merge` without a namespace (uses, include) changes no stamp anywhere: the copied children
keep what they had (nothing, for grouping and submodule content), so they report the namespace
of the place they are used in. -/
theorem merge_none_stampGo (e oe : Entry) (s : Step) (r : Path) (acc : Option String) :
    Entry.stampAt.go (e.merge none oe) (s :: r) acc =
      match next e s with
      | some c => Entry.stampAt.go c r (c.d.ns.or acc)
      | none =>
        match s with
        | .child k => (match oe.child? k with | some v => Entry.stampAt.go v r (v.d.ns.or acc) | none => acc)
        | _ => acc := by
  rw [stampGo_cons, merge_next]
  cases s with
  | child k =>
    simp only [next]
    cases e.child? k with
    | some c => rfl
    | none => cases oe.child? k <;> rfl
  | input => rfl
  | output => rfl

/-! ### `FixChoice` -/

/-- What `wrapCases` does to one child. -/
def wrap1 (ce : Entry) : Entry :=
  if ce.d.kind == .case_ then ce
  else .mk { name := ce.d.name, kind := .case_, hasDir := true, config := ce.d.config, node := ce.d.node,
             nodeMod := ce.d.nodeMod, nodeKw := "case" } [ce] [] []

/-- The choice inserts cases (Go: `e.Kind == ChoiceEntry && len(e.Errors) == 0`). -/
def wraps (e : Entry) : Bool := e.d.kind == .choice && e.d.errors.isEmpty

theorem wrapCases_eq_map (l : List Entry) : wrapCases l = l.map wrap1 := by
  induction l with
  | nil => rfl
  | cons a l ih => rw [wrapCases, ih]; rfl

theorem fixChoice_d (e : Entry) : (fixChoice e).d = e.d := by cases e; rw [fixChoice]; rfl
theorem fixChoice_name (e : Entry) : (fixChoice e).name = e.name := by
  unfold Entry.name; rw [fixChoice_d]
theorem fixChoice_inp (e : Entry) : (fixChoice e).inp = e.inp.map fixChoice := by
  cases e; rw [fixChoice]; simp only [Entry.inp, SortAux.fixChoiceL_eq_map]
theorem fixChoice_out (e : Entry) : (fixChoice e).out = e.out.map fixChoice := by
  cases e; rw [fixChoice]; simp only [Entry.out, SortAux.fixChoiceL_eq_map]
theorem fixChoice_dir (e : Entry) :
    (fixChoice e).dir = if wraps e then (e.dir.map fixChoice).map wrap1 else e.dir.map fixChoice := by
  cases e with
  | mk d c i o =>
    rw [fixChoice, SortAux.fixChoiceL_eq_map, wrapCases_eq_map]
    simp only [Entry.dir, wraps, Entry.d]
    split <;> simp_all

theorem wrap1_name (e : Entry) : (wrap1 e).name = e.name := by
  unfold wrap1; split <;> rfl

theorem wrap1_of_case (e : Entry) (h : e.d.kind = .case_) : wrap1 e = e := by
  unfold wrap1; simp [h]

/-- The child named `k` after `FixChoice`. -/
theorem fixChoice_child? (e : Entry) (k : String) :
    (fixChoice e).child? k =
      (e.child? k).map fun x => if wraps e then wrap1 (fixChoice x) else fixChoice x := by
  unfold Entry.child?
  rw [fixChoice_dir]
  by_cases hw : wraps e = true
  · simp only [hw, if_true, List.map_map, List.find?_map]
    have : ((fun x : Entry => x.name == k) ∘ (wrap1 ∘ fixChoice)) = (fun x : Entry => x.name == k) := by
      funext x; simp [Function.comp, wrap1_name, fixChoice_name]
    rw [this]; rfl
  · have hw' : wraps e = false := by simpa using hw
    simp only [hw', Bool.false_eq_true, if_false, List.find?_map]
    have : ((fun x : Entry => x.name == k) ∘ fixChoice) = (fun x : Entry => x.name == k) := by
      funext x; simp [Function.comp, fixChoice_name]
    rw [this]

theorem fixChoice_next_input (e : Entry) : next (fixChoice e) .input = (next e .input).map fixChoice := by
  simp [next, fixChoice_inp, List.head?_map]
theorem fixChoice_next_output (e : Entry) : next (fixChoice e) .output = (next e .output).map fixChoice := by
  simp [next, fixChoice_out, List.head?_map]

/-- The inserted case: kind, no stamp, the member's config, the member as only child. -/
theorem wrap1_next (x : Entry) (h : x.d.kind ≠ .case_) :
    (wrap1 x).d.kind = .case_ ∧ (wrap1 x).d.ns = none ∧ (wrap1 x).d.config = x.d.config ∧
      next (wrap1 x) (.child x.name) = some x := by
  unfold wrap1
  simp only [kind_beq, h, decide_false, Bool.false_eq_true, if_false]
  refine ⟨rfl, rfl, rfl, ?_⟩
  simp [next, Entry.child?, Entry.dir]

theorem wrap1_only (x : Entry) (h : x.d.kind ≠ .case_) :
    (wrap1 x).d.isRpc = false ∧ ∀ s' y, next (wrap1 x) s' = some y → s' = .child x.name ∧ y = x := by
  unfold wrap1
  simp only [kind_beq, h, decide_false, Bool.false_eq_true, if_false]
  refine ⟨rfl, fun s' y hy => ?_⟩
  cases s' with
  | child k' =>
    simp only [next, Entry.child?, Entry.dir, List.find?_cons, List.find?_nil] at hy
    split at hy
    · rename_i hk
      exact ⟨by rw [eq_of_beq hk], (Option.some.inj hy).symm⟩
    · cases hy
  | input => cases hy
  | output => cases hy

theorem liftPath_nil (e : Entry) : liftPath e [] = [] := by rw [liftPath]

theorem liftPath_child (e : Entry) (k : String) (rest : Path) :
    liftPath e (.child k :: rest) =
      match e.child? k with
      | none => .child k :: rest
      | some x =>
        (if wraps e && x.d.kind != .case_ then [Step.child k, Step.child k] else [Step.child k]) ++ liftPath x rest := by
  rw [liftPath]; cases e.child? k <;> simp [wraps]

theorem liftPath_input (e : Entry) (rest : Path) :
    liftPath e (.input :: rest) = .input :: (match next e .input with | some x => liftPath x rest | none => rest) := by
  rw [liftPath]; rfl

theorem liftPath_output (e : Entry) (rest : Path) :
    liftPath e (.output :: rest) = .output :: (match next e .output with | some x => liftPath x rest | none => rest) := by
  rw [liftPath]; rfl

theorem fix_step_none (e : Entry) (s : Step) (rest : Path) (h : next e s = none) :
    liftPath e (s :: rest) = s :: rest ∧ next (fixChoice e) s = none := by
  cases s with
  | child k =>
    simp only [next] at h
    exact ⟨by rw [liftPath_child, h], by simp only [next, fixChoice_child?, h, Option.map_none]⟩
  | input => exact ⟨by rw [liftPath_input, h], by rw [fixChoice_next_input, h]; rfl⟩
  | output => exact ⟨by rw [liftPath_output, h], by rw [fixChoice_next_output, h]; rfl⟩

theorem fix_step (e x : Entry) (s : Step) (hx : next e s = some x) :
    ((∀ rest, liftPath e (s :: rest) = s :: liftPath x rest) ∧ next (fixChoice e) s = some (fixChoice x)) ∨
    ∃ w, (∀ rest, liftPath e (s :: rest) = s :: s :: liftPath x rest) ∧ next (fixChoice e) s = some w ∧
      next w s = some (fixChoice x) ∧ w.d.kind = .case_ ∧ w.d.ns = none ∧ w.d.config = x.d.config ∧
      w.d.isRpc = false ∧ ∀ s' y, next w s' = some y → s' = s ∧ y = fixChoice x := by
  cases s with
  | input => exact Or.inl ⟨fun _ => by rw [liftPath_input, hx], by rw [fixChoice_next_input, hx]; rfl⟩
  | output => exact Or.inl ⟨fun _ => by rw [liftPath_output, hx], by rw [fixChoice_next_output, hx]; rfl⟩
  | child k =>
    simp only [next] at hx
    have hname := ForestAux.child?_name hx
    simp only [liftPath_child, hx, next, fixChoice_child?, Option.map_some]
    by_cases hw : (wraps e && x.d.kind != .case_) = true
    · simp only [Bool.and_eq_true, bne_iff_ne] at hw
      have hfk : (fixChoice x).d.kind ≠ .case_ := by rw [fixChoice_d]; exact hw.2
      obtain ⟨hk, hns, hc, hnext⟩ := wrap1_next (fixChoice x) hfk
      obtain ⟨hr, hu⟩ := wrap1_only (fixChoice x) hfk
      rw [fixChoice_name, hname] at hnext hu
      rw [fixChoice_d] at hc
      exact Or.inr ⟨wrap1 (fixChoice x), fun _ => by simp [hw.1, hw.2], by simp [hw.1], hnext, hk, hns, hc, hr, hu⟩
    · refine Or.inl ⟨fun _ => by simp [hw], ?_⟩
      by_cases hwe : wraps e = true
      · simp only [hwe, if_true]
        rw [wrap1_of_case]
        rw [fixChoice_d]
        simpa [hwe] using hw
      · simp [hwe]

/-- Stamps seen along the translated path in the fixed tree are those seen along the original
path in the original tree: inserted cases carry no stamp. -/
theorem stampGo_fix (e : Entry) (p : Path) (acc : Option String) :
    Entry.stampAt.go (fixChoice e) (liftPath e p) acc = Entry.stampAt.go e p acc := by
  induction p generalizing e acc with
  | nil => rw [liftPath_nil, stampGo_nil, stampGo_nil]
  | cons s rest ih =>
    rw [stampGo_cons e]
    cases hx : next e s with
    | none =>
      rw [(fix_step_none e s rest hx).1, stampGo_cons, (fix_step_none e s rest hx).2]
    | some x =>
      rcases fix_step e x s hx with ⟨hl, hn⟩ | ⟨w, hl, hn, hn2, _, hns, _, _, _⟩
      · rw [hl rest, stampGo_cons, hn]
        simp only
        rw [ih x, fixChoice_d]
      · rw [hl rest, stampGo_cons, hn]
        simp only
        rw [stampGo_cons, hn2, hns]
        simp only [Option.none_or]
        rw [ih x, fixChoice_d]

theorem stampAt_fix (root : Entry) (p : Path) :
    (fixChoice root).stampAt (liftPath root p) = root.stampAt p := stampGo_fix root p none

/-- What `ReadOnly()` answers at node `e` when its parent answers `inh`. -/
def hereB (e : Entry) (inh : Bool) : Bool := if decisive (ck e) then verdict (ck e) else inh

theorem readOnlyGo_nil (e : Entry) (inh : Bool) : Entry.readOnlyAt.go e [] inh = hereB e inh := by
  rw [readOnlyGo_eq]; unfold configsAlong; rw [settle_cons, settle_nil]; rfl

theorem readOnlyGo_cons (e : Entry) (s : Step) (p : Path) (inh : Bool) :
    Entry.readOnlyAt.go e (s :: p) inh =
      match next e s with
      | some c => Entry.readOnlyAt.go c p (hereB e inh)
      | none => hereB e inh := by
  rw [readOnlyGo_eq]; unfold configsAlong; rw [settle_cons]
  cases next e s with
  | none => rfl
  | some c => simp only; rw [readOnlyGo_eq]; rfl

/-- `hereB` only reads config and kind. -/
theorem hereB_congr (a b : Entry) (h : a.d = b.d) (inh : Bool) : hereB a inh = hereB b inh := by
  unfold hereB ck; rw [h]

/-- The inserted case copies the member's config, so the member answers as it did before. -/
theorem hereB_wrap (x : Entry) (w : Entry) (hk : w.d.kind = .case_) (hc : w.d.config = x.d.config) (inh : Bool) :
    hereB x (hereB w inh) = hereB x inh := by
  unfold hereB decisive verdict ck
  simp only [hk, hc, kind_beq, tri_beq, bne]
  by_cases ho : x.d.kind = .output
  · simp [ho]
  · cases hx : x.d.config <;> simp [ho]

theorem readOnlyGo_congr (x : Entry) (p : Path) (i i' : Bool) (h : hereB x i = hereB x i') :
    Entry.readOnlyAt.go x p i = Entry.readOnlyAt.go x p i' := by
  cases p with
  | nil => rw [readOnlyGo_nil, readOnlyGo_nil, h]
  | cons s p => rw [readOnlyGo_cons, readOnlyGo_cons, h]

/-- Read-only answers along the translated path in the fixed tree are those along the original
path in the original tree. -/
theorem readOnlyGo_fix (e : Entry) (p : Path) (inh : Bool) :
    Entry.readOnlyAt.go (fixChoice e) (liftPath e p) inh = Entry.readOnlyAt.go e p inh := by
  induction p generalizing e inh with
  | nil =>
    have hh := hereB_congr _ _ (fixChoice_d e) inh
    rw [liftPath_nil, readOnlyGo_nil, readOnlyGo_nil, hh]
  | cons s rest ih =>
    have hh := hereB_congr _ _ (fixChoice_d e) inh
    rw [readOnlyGo_cons e]
    cases hx : next e s with
    | none => rw [(fix_step_none e s rest hx).1, readOnlyGo_cons, (fix_step_none e s rest hx).2, hh]
    | some x =>
      rcases fix_step e x s hx with ⟨hl, hn⟩ | ⟨w, hl, hn, hn2, hk, _, hc, _, _⟩
      · rw [hl rest, readOnlyGo_cons, hn]
        simp only
        rw [ih x, hh]
      · rw [hl rest, readOnlyGo_cons, hn]
        simp only
        rw [readOnlyGo_cons, hn2]
        simp only
        rw [ih x, hh]
        exact readOnlyGo_congr x rest _ _ (hereB_wrap x w hk hc _)

theorem readOnlyAt_fix (root : Entry) (p : Path) :
    (fixChoice root).readOnlyAt (liftPath root p) = root.readOnlyAt p := readOnlyGo_fix root p false

/-- Every node of the original tree is found again at its translated path (itself fixed). -/
theorem getAt_fix (e : Entry) (p : Path) :
    (fixChoice e).getAt (liftPath e p) = (e.getAt p).map fixChoice := by
  induction p generalizing e with
  | nil => rw [liftPath_nil]; simp [Entry.getAt]
  | cons s rest ih =>
    rw [getAt_cons e]
    cases hx : next e s with
    | none => rw [(fix_step_none e s rest hx).1, getAt_cons, (fix_step_none e s rest hx).2]; rfl
    | some x =>
      rcases fix_step e x s hx with ⟨hl, hn⟩ | ⟨w, hl, hn, hn2, _, _, _, _, _⟩
      · rw [hl rest, getAt_cons, hn]; exact ih x
      · rw [hl rest, getAt_cons, hn, Option.bind_some, getAt_cons, hn2]; exact ih x

theorem liftPath_append (e : Entry) (p q : Path) (te : Entry) (h : e.getAt p = some te) :
    liftPath e (p ++ q) = liftPath e p ++ liftPath te q := by
  induction p generalizing e with
  | nil => simp only [Entry.getAt, Option.some.injEq] at h; subst h; simp [liftPath_nil]
  | cons s p ih =>
    rw [getAt_cons] at h
    cases s with
    | child k =>
      rw [List.cons_append, liftPath_child, liftPath_child]
      simp only [next] at h
      cases hx : e.child? k with
      | none => simp [hx] at h
      | some x =>
        simp only [hx, Option.bind_some] at h
        simp only [ih x h, List.append_assoc]
    | input =>
      rw [List.cons_append, liftPath_input, liftPath_input]
      cases hx : next e .input with
      | none => simp [hx] at h
      | some x =>
        simp only [hx, Option.bind_some] at h
        simp only [ih x h, List.cons_append]
    | output =>
      rw [List.cons_append, liftPath_output, liftPath_output]
      cases hx : next e .output with
      | none => simp [hx] at h
      | some x =>
        simp only [hx, Option.bind_some] at h
        simp only [ih x h, List.cons_append]

theorem readOnlyGo_snoc (e : Entry) (p : Path) (s : Step) (inh : Bool) (te c : Entry)
    (h : e.getAt p = some te) (hn : next te s = some c) :
    Entry.readOnlyAt.go e (p ++ [s]) inh = hereB c (Entry.readOnlyAt.go e p inh) := by
  induction p generalizing e inh with
  | nil =>
    simp only [Entry.getAt, Option.some.injEq] at h; subst h
    rw [List.nil_append, readOnlyGo_cons, hn, readOnlyGo_nil]
    simp only
    rw [readOnlyGo_nil]
  | cons s0 p ih =>
    rw [getAt_cons] at h
    rw [List.cons_append, readOnlyGo_cons, readOnlyGo_cons e]
    cases h0 : next e s0 with
    | none => simp [h0] at h
    | some c0 =>
      simp only [h0, Option.bind_some] at h ⊢
      exact ih c0 _ h

/-- What the library-inserted case of a shorthand member reports (DESIGN D39): the stamp seen at
the *choice* (so, for a member grafted by an augment, the augmented module's namespace), while
the member below it reports its own stamp (the augmenting module's); its read-only answer is the
member's. -/
theorem impliedCase_reports (root : Entry) (p : Path) (e x : Entry) (k : String)
    (he : root.getAt p = some e) (hw : wraps e = true) (hx : e.child? k = some x) (hk : x.d.kind ≠ .case_) :
    let pc := liftPath root p ++ [Step.child k]
    ((fixChoice root).getAt pc).map (·.d.kind) = some .case_ ∧
    (fixChoice root).stampAt pc = root.stampAt p ∧
    (fixChoice root).stampAt (pc ++ [Step.child k]) = x.d.ns.or (root.stampAt p) ∧
    (x.d.kind ≠ .output → (fixChoice root).readOnlyAt pc = root.readOnlyAt (p ++ [Step.child k])) := by
  intro pc
  have hlift : liftPath root (p ++ [Step.child k]) = pc ++ [Step.child k] := by
    rw [liftPath_append root p _ e he, liftPath_child, hx]
    simp [hw, hk, liftPath_nil, pc]
  have hfe : (fixChoice root).getAt (liftPath root p) = some (fixChoice e) := by
    rw [getAt_fix, he]; rfl
  have hfk : (fixChoice x).d.kind ≠ .case_ := by rw [fixChoice_d]; exact hk
  obtain ⟨hwk, hwns, hwc, _⟩ := wrap1_next (fixChoice x) hfk
  have hnext : next (fixChoice e) (.child k) = some (wrap1 (fixChoice x)) := by
    simp [next, fixChoice_child?, hx, hw]
  refine ⟨?_, ?_, ?_, ?_⟩
  · rw [ForestAux.getAt_append, hfe]
    simp only [Option.bind_some]
    rw [getAt_cons, hnext]
    simp [Entry.getAt, hwk]
  · unfold Entry.stampAt
    rw [stampGo_append _ _ _ none _ hfe, stampGo_cons, hnext]
    simp only
    rw [stampGo_nil, hwns, stampGo_fix]; rfl
  · rw [← hlift, stampAt_fix]
    unfold Entry.stampAt
    rw [stampGo_append _ _ _ none _ he, stampGo_cons]
    simp only [next, hx]
    rw [stampGo_nil]
  · intro hout
    unfold Entry.readOnlyAt
    rw [readOnlyGo_snoc _ _ _ false _ _ hfe hnext, readOnlyGo_fix,
      readOnlyGo_snoc _ _ _ false _ _ he (by simpa [next] using hx)]
    unfold hereB decisive verdict ck
    rw [hwk, hwc, fixChoice_d]
    simp [kind_beq, hout]

/-! ### forests -/

theorem find?_key_map (l : List (Nat × Entry)) (g : Nat × Entry → Nat × Entry) (hg : ∀ x, (g x).1 = x.1)
    (id : Nat) : (l.map g).find? (·.1 == id) = (l.find? (·.1 == id)).map g := by
  rw [List.find?_map]
  have : ((fun x : Nat × Entry => x.1 == id) ∘ g) = (fun x : Nat × Entry => x.1 == id) := by
    funext x; simp [Function.comp, hg]
  rw [this]

theorem tree?_fixAll (f : Forest) (id : Nat) : (fixAll f).tree? id = (f.tree? id).map fixChoice := by
  unfold fixAll Forest.tree?
  simp only
  rw [find?_key_map _ _ (by intro x; rfl)]
  cases f.trees.find? (·.1 == id) <;> rfl

/-- The namespace of a location, given its tree. -/
def nsOfTree (reg : Registry) (id : Nat) (root : Entry) (p : Path) : String :=
  match root.stampAt p with
  | some n => n
  | none => ownerNs reg id

theorem namespaceAt_tree (reg : Registry) (f : Forest) (loc : Loc) (root : Entry) (h : f.tree? loc.1 = some root) :
    namespaceAt reg f loc = nsOfTree reg loc.1 root loc.2 := by
  rw [namespaceAt_eq_spec]; unfold namespaceOf nsOfTree
  simp only [h, stampAt_eq]
  cases deepestGraft (stampsAlong root loc.2) <;> rfl

/-! ### provenance: the namespace is that of the placing module -/

/-- `prov` is right about namespaces: every location of the forest that it says module `m` placed
reports the namespace of `m` (of the module `m` belongs to, for a submodule). -/
def Placed (reg : Registry) (f : Forest) (prov : Loc → Option Nat) : Prop :=
  ∀ (loc : Loc) (m : Nat), (f.tree? loc.1).isSome = true → prov loc = some m →
    namespaceAt reg f loc = ownerNs reg m

theorem isSome_tree?_setTree (f : Forest) (t id : Nat) (e : Entry) :
    ((f.setTree t e).tree? id).isSome = (f.tree? id).isSome := by
  rw [tree?_setTree]
  split
  · rename_i h
    rw [h]
    cases f.tree? t <;> rfl
  · rfl

section Placed
variable {reg : Registry} {f : Forest} {prov prov' : Loc → Option Nat}

theorem placed_init (hfree : ∀ id t, f.tree? id = some t → noStampBelow t = true) :
    Placed reg f (fun loc => some loc.1) := by
  intro loc m hsome hp
  obtain ⟨root, hroot⟩ := Option.isSome_iff_exists.mp hsome
  simp only [Option.some.injEq] at hp; subst hp
  rw [namespaceAt_tree reg _ loc root hroot]; unfold nsOfTree Entry.stampAt
  rw [stampGo_noStampBelow root loc.2 none (hfree _ _ hroot)]

theorem placed_graft {by_ t : Nat} {path : Path} {root te a : Entry} (ih : Placed reg f prov)
    (hroot : f.tree? t = some root) (hte : root.getAt path = some te) (hfree : noStampL a.dir = true)
    (hnew : ∀ loc, NewBelow t path te a loc → prov' loc = some by_)
    (hold : ∀ loc, ¬ NewBelow t path te a loc → prov' loc = prov loc) :
    Placed reg (f.setTree t (root.updateAt path fun te => te.merge (some (ownerNs reg by_)) a)) prov' := by
  intro loc m hsome hp
  by_cases hl : loc.1 = t
  · have hroot0 : f.tree? loc.1 = some root := by rw [hl]; exact hroot
    rw [namespaceAt_tree reg _ loc _ (by rw [tree?_setTree, if_pos hl, hroot]; rfl)]
    unfold nsOfTree
    by_cases hnb : NewBelow t path te a loc
    · rw [hnew loc hnb] at hp
      simp only [Option.some.injEq] at hp; subst hp
      obtain ⟨_, k, r, hpath, hk, hak⟩ := hnb
      obtain ⟨v, hv⟩ := Option.isSome_iff_exists.mp hak
      have hvs : noStamp v = true := (noStampL_iff _).mp hfree v (List.mem_of_find?_eq_some hv)
      rw [hpath, graft_new root path te a _ k v r hte hk hv ((noStamp_iff v).mp hvs).2]
    · rw [hold loc hnb] at hp
      rw [← ih loc m (by rw [hroot0]; rfl) hp, namespaceAt_tree reg _ loc root hroot0]
      unfold nsOfTree
      rw [graft_frame root path te a _ loc.2 hte (by
        rintro ⟨k, r, h1, h2, h3⟩; exact hnb ⟨hl, k, r, h1, h2, h3⟩)]
  · rw [hold loc (fun h => hl h.1)] at hp
    rw [isSome_tree?_setTree] at hsome
    rw [← ih loc m hsome hp]
    unfold namespaceAt
    rw [tree?_setTree, if_neg hl]

theorem placed_fix (ih : Placed reg f prov)
    (hkeep : ∀ id root p, f.tree? id = some root → (root.getAt p).isSome → prov' (id, liftPath root p) = prov (id, p))
    (hnone : ∀ loc', (¬ ∃ root p, f.tree? loc'.1 = some root ∧ (root.getAt p).isSome ∧ loc'.2 = liftPath root p) →
      prov' loc' = none) : Placed reg (fixAll f) prov' := by
  intro loc m hsome hp
  by_cases hex : ∃ root p, f.tree? loc.1 = some root ∧ (root.getAt p).isSome ∧ loc.2 = liftPath root p
  · obtain ⟨root, p, hroot, hsome', hlp⟩ := hex
    have hp' : prov (loc.1, p) = some m := by
      rw [← hkeep loc.1 root p hroot hsome', ← hlp]; exact hp
    rw [← ih (loc.1, p) m (by simp only; rw [hroot]; rfl) hp', namespaceAt_tree reg _ (loc.1, p) root hroot,
      namespaceAt_tree reg _ loc (fixChoice root) (by rw [tree?_fixAll, hroot]; rfl)]
    unfold nsOfTree
    rw [hlp, stampAt_fix]
  · rw [hnone loc hex] at hp; cases hp

end Placed

theorem built_placed {reg : Registry} {f : Forest} {prov : Loc → Option Nat} (hb : Built reg f prov) :
    Placed reg f prov := by
  induction hb with
  | init h => exact placed_init h
  | graft _ h1 h2 h3 h4 h5 ih => exact placed_graft ih h1 h2 h3 h4 h5
  | fix _ h1 h2 ih => exact placed_fix ih h1 h2

/-- **Provenance theorem.** In a forest built by conversion, grafts and `FixChoice`, every node
that some module's text placed reports the namespace of that module (of the module it belongs
to, for a submodule). -/
theorem built_namespace {reg : Registry} {f : Forest} {prov : Loc → Option Nat} (hb : Built reg f prov) :
    ∀ (loc : Loc) (m : Nat) (root : Entry), f.tree? loc.1 = some root → prov loc = some m →
      namespaceAt reg f loc = ownerNs reg m :=
  fun loc m _ hroot hp => built_placed hb loc m (by rw [hroot]; rfl) hp

/-! ### instantiating module -/

/-- The namespace a module declares. -/
def nsOfMod (m : Mod) : String := (m.stmt.argOf? "namespace").getD ""

theorem instantiatingModuleAt_eq_findByNamespace (reg : Registry) (f : Forest) (loc : Loc) :
    instantiatingModuleAt reg f loc = findByNamespace reg (namespaceAt reg f loc) := rfl

/-- The answer is `n` exactly when some loaded module declares exactly the string `ns` and is
called `n`, and every loaded module declaring exactly `ns` is called `n`. -/
theorem findByNamespace_eq_some_iff (reg : Registry) (ns n : String) :
    findByNamespace reg ns = some n ↔
      (∃ m ∈ reg.distinctModules, nsOfMod m = ns ∧ m.name = n) ∧
      (∀ m ∈ reg.distinctModules, nsOfMod m = ns → m.name = n) := by
  unfold findByNamespace
  have hmem : ∀ m, m ∈ reg.distinctModules.filter (fun m => (m.stmt.argOf? "namespace").getD "" == ns) ↔
      m ∈ reg.distinctModules ∧ nsOfMod m = ns := by
    intro m; simp [List.mem_filter, nsOfMod]
  generalize reg.distinctModules.filter (fun m => (m.stmt.argOf? "namespace").getD "" == ns) = l at hmem
  cases l with
  | nil =>
    constructor
    · intro h; cases h
    · rintro ⟨⟨m, hm, hns, _⟩, _⟩
      exact absurd ((hmem m).mpr ⟨hm, hns⟩) (by simp)
  | cons m0 rest =>
    simp only
    constructor
    · intro h
      split at h
      · rename_i hall
        simp only [Option.some.injEq] at h
        have h0 := (hmem m0).mp (by simp)
        refine ⟨⟨m0, h0.1, h0.2, h⟩, ?_⟩
        intro m hm hns
        have := (hmem m).mpr ⟨hm, hns⟩
        rcases List.mem_cons.mp this with rfl | hr
        · exact h
        · have := List.all_eq_true.mp hall m hr
          simp only [beq_iff_eq] at this
          rw [this, h]
      · cases h
    · rintro ⟨_, hall⟩
      have h0 := (hmem m0).mp (by simp)
      have hn0 := hall m0 h0.1 h0.2
      have : rest.all (fun x => x.name == m0.name) = true := by
        rw [List.all_eq_true]
        intro x hx
        have hx' := (hmem x).mp (List.mem_cons_of_mem _ hx)
        simp [hall x hx'.1 hx'.2, hn0]
      rw [if_pos this, hn0]

/-- A spelling that no loaded module declares exactly finds nothing. -/
theorem findByNamespace_undeclared (reg : Registry) (ns : String)
    (h : ∀ m ∈ reg.distinctModules, nsOfMod m ≠ ns) : findByNamespace reg ns = none := by
  cases hr : findByNamespace reg ns with
  | none => rfl
  | some n =>
    obtain ⟨⟨m, hm, hns, _⟩, _⟩ := (findByNamespace_eq_some_iff reg ns n).mp hr
    exact absurd hns (h m hm)

/-- `InstantiatingModule()` answers `n` exactly when some loaded module with the node's
namespace is called `n` and every loaded module with that namespace is called `n` (several
revisions of one module are one module). -/
theorem instantiatingModuleAt_eq_some_iff (reg : Registry) (f : Forest) (loc : Loc) (n : String) :
    instantiatingModuleAt reg f loc = some n ↔
      (∃ m ∈ reg.distinctModules, nsOfMod m = namespaceAt reg f loc ∧ m.name = n) ∧
      (∀ m ∈ reg.distinctModules, nsOfMod m = namespaceAt reg f loc → m.name = n) :=
  findByNamespace_eq_some_iff reg (namespaceAt reg f loc) n

/-- … and it fails exactly when no loaded module declares the namespace or two with different
names do. -/
theorem instantiatingModuleAt_eq_none_iff (reg : Registry) (f : Forest) (loc : Loc) :
    instantiatingModuleAt reg f loc = none ↔
      (¬ ∃ m ∈ reg.distinctModules, nsOfMod m = namespaceAt reg f loc) ∨
      (∃ m ∈ reg.distinctModules, ∃ m' ∈ reg.distinctModules,
        nsOfMod m = namespaceAt reg f loc ∧ nsOfMod m' = namespaceAt reg f loc ∧ m.name ≠ m'.name) := by
  constructor
  · intro h
    by_cases hex : ∃ m ∈ reg.distinctModules, nsOfMod m = namespaceAt reg f loc
    · right
      obtain ⟨m, hm, hns⟩ := hex
      by_cases hall : ∀ m' ∈ reg.distinctModules, nsOfMod m' = namespaceAt reg f loc → m'.name = m.name
      · have := (instantiatingModuleAt_eq_some_iff reg f loc m.name).mpr ⟨⟨m, hm, hns, rfl⟩, hall⟩
        rw [h] at this; cases this
      · have : ∃ m' ∈ reg.distinctModules, nsOfMod m' = namespaceAt reg f loc ∧ m'.name ≠ m.name :=
          Classical.byContradiction fun hno => hall fun m' hm' hns' =>
            Classical.byContradiction fun hne => hno ⟨m', hm', hns', hne⟩
        obtain ⟨m', hm', hns', hne⟩ := this
        exact ⟨m, hm, m', hm', hns, hns', fun e => hne e.symm⟩
    · exact Or.inl hex
  · intro h
    cases hr : instantiatingModuleAt reg f loc with
    | none => rfl
    | some n =>
      obtain ⟨⟨m0, hm0, hns0, _⟩, hall⟩ := (instantiatingModuleAt_eq_some_iff reg f loc n).mp hr
      rcases h with h | ⟨m, hm, m', hm', hns, hns', hne⟩
      · exact absurd ⟨m0, hm0, hns0⟩ h
      · exact absurd ((hall m hm hns).trans (hall m' hm' hns').symm) hne

/-! ### `merge` without a namespace keeps trees stamp-free -/

theorem foldl_mstep_mem (ns : Option String) (pos : Stmt) (l : List Entry) (e : Entry) :
    ∀ x ∈ (l.foldl (mstep ns pos) e).dir, x ∈ e.dir ∨ ∃ v ∈ l, x = stamp ns v := by
  induction l generalizing e with
  | nil => intro x hx; exact Or.inl hx
  | cons v l ih =>
    intro x hx
    rw [List.foldl_cons] at hx
    rcases ih _ x hx with h | ⟨w, hw, rfl⟩
    · unfold mstep at h
      split at h
      · rw [addErr_dir] at h; exact Or.inl h
      · rw [withDir_dir, List.mem_append, List.mem_singleton] at h
        rcases h with h | h
        · exact Or.inl h
        · exact Or.inr ⟨v, by simp, h⟩
    · exact Or.inr ⟨w, List.mem_cons_of_mem _ hw, rfl⟩

theorem merge_mem (e : Entry) (ns : Option String) (oe : Entry) :
    ∀ x ∈ (e.merge ns oe).dir, x ∈ e.dir ∨ ∃ v ∈ oe.dir, x = stamp ns v := by
  rw [merge_eq]
  intro x hx
  rcases foldl_mstep_mem ns oe.d.node oe.dir _ x hx with h | h
  · rw [importErrors_dir] at h; exact Or.inl h
  · exact Or.inr h

/-- uses / include: merging stamp-free content into a stamp-free node leaves it stamp-free. -/
theorem noStampBelow_merge_none (e oe : Entry) (he : noStampBelow e = true) (ho : noStampL oe.dir = true) :
    noStampBelow (e.merge none oe) = true := by
  unfold noStampBelow at he ⊢
  simp only [Bool.and_eq_true] at he ⊢
  obtain ⟨_, hi, hout⟩ := merge_keep e none oe
  rw [hi, hout]
  refine ⟨⟨?_, he.1.2⟩, he.2⟩
  rw [noStampL_iff]
  intro x hx
  rcases merge_mem e none oe x hx with h | ⟨v, hv, hxe⟩
  · exact (noStampL_iff _).mp he.1.1 x h
  · rw [hxe, stamp_none]; exact (noStampL_iff _).mp ho v hv

/-! ### the augment step of `Process` is the `graft` constructor -/

/-- One successful augment of tree `id` (the only pending one, to keep the loop out of the
statement): the resulting forest is the target's tree with the augment's entry merged at the target
under the namespace that the root of tree `id` reports. -/
theorem augmentStep_eq (reg : Registry) (id : Nat) (addErrors : Bool) (s : PState) (a : Entry)
    (t : Nat) (path : Path) (f1 : Forest) (root te : Entry)
    (hp : s.pendingOf id = [a])
    (hfind : find reg s.forest (id, []) a.d.nodeMod a.d.name = (some (t, path), f1))
    (hroot : f1.tree? t = some root) (hte : root.getAt path = some te) (hok : cannotHaveChildren te = false) :
    (augmentTree reg id addErrors s).1.forest =
      f1.setTree t (root.updateAt path fun te => te.merge (some (namespaceAt reg s.forest (id, []))) a) := by
  unfold augmentTree
  simp only [hp, List.foldl_cons, List.foldl_nil, hfind, hroot, hte, Option.bind_some, hok]
  rfl

/-- … and therefore a `Built` forest stays `Built`, the new nodes being placed by module `id`
(when `Find` did not have to create an absent rpc input/output on the way). -/
theorem augmentStep_built (reg : Registry) (id : Nat) (addErrors : Bool) (s : PState) (a : Entry)
    (t : Nat) (path : Path) (root te r0 : Entry) (prov : Loc → Option Nat)
    (hb : Built reg s.forest prov)
    (hid : s.forest.tree? id = some r0)
    (hp : s.pendingOf id = [a]) (ha : noStampL a.dir = true)
    (hfind : find reg s.forest (id, []) a.d.nodeMod a.d.name = (some (t, path), s.forest))
    (hroot : s.forest.tree? t = some root) (hte : root.getAt path = some te) (hok : cannotHaveChildren te = false) :
    ∃ prov', Built reg (augmentTree reg id addErrors s).1.forest prov' ∧
      (∀ loc, NewBelow t path te a loc → prov' loc = some id) ∧
      (∀ loc, ¬ NewBelow t path te a loc → prov' loc = prov loc) := by
  classical
  rw [augmentStep_eq reg id addErrors s a t path s.forest root te hp hfind hroot hte hok,
    namespaceAt_root reg s.forest id r0 hid]
  refine ⟨fun loc => if NewBelow t path te a loc then some id else prov loc, ?_, ?_, ?_⟩
  · exact Built.graft hb hroot hte ha (fun loc h => by simp only [h, if_true]) (fun loc h => by simp only [h, if_false])
  · intro loc h; simp only [h, if_true]
  · intro loc h; simp only [h, if_false]

/-! ### the tree-building operations of `ToEntry` keep trees stamp-free -/

theorem noStamp_mk (d : EData) (c i o : List Entry) :
    noStamp (.mk d c i o) = (d.ns.isNone && noStampL c && noStampL i && noStampL o) := by rw [noStamp]

theorem noStamp_withD (e : Entry) (f : EData → EData) (h : ∀ d, (f d).ns = d.ns) :
    noStamp (e.withD f) = noStamp e := by
  cases e with
  | mk d c i o => simp only [Entry.withD, noStamp_mk, h]

theorem noStamp_addErr (e : Entry) (x : Err) : noStamp (e.addErr x) = noStamp e :=
  noStamp_withD e _ (fun _ => rfl)
theorem noStamp_addErrs (e : Entry) (x : List Err) : noStamp (e.addErrs x) = noStamp e :=
  noStamp_withD e _ (fun _ => rfl)
theorem noStamp_importErrors (e c : Entry) : noStamp (e.importErrors c) = noStamp e :=
  noStamp_addErrs e _

theorem noStampL_append (a b : List Entry) : noStampL (a ++ b) = (noStampL a && noStampL b) := by
  induction a with
  | nil => simp [noStampL]
  | cons x a ih => simp [noStampL, ih, Bool.and_assoc]

theorem noStamp_withDir (e : Entry) (c : List Entry) (he : noStamp e = true) (hc : noStampL c = true) :
    noStamp (e.withDir c) = true := by
  cases e with
  | mk d c0 i o =>
    simp only [Entry.withDir, noStamp_mk, Bool.and_eq_true] at he ⊢
    exact ⟨⟨⟨he.1.1.1, hc⟩, he.1.2⟩, he.2⟩

theorem noStamp_dir (e : Entry) (he : noStamp e = true) : noStampL e.dir = true := by
  cases e with
  | mk d c0 i o =>
    simp only [noStamp_mk, Bool.and_eq_true] at he
    exact he.1.1.2

theorem noStamp_add (e : Entry) (key : String) (v : Entry) (he : noStamp e = true) (hv : noStamp v = true) :
    noStamp (e.add key v) = true := by
  unfold Entry.add
  split
  · rw [noStamp_addErr]; exact he
  · apply noStamp_withDir _ _ he
    rw [noStampL_append, noStamp_dir e he]; simp [noStampL, hv]

theorem noStamp_merge_none (e oe : Entry) (he : noStamp e = true) (ho : noStamp oe = true) :
    noStamp (e.merge none oe) = true := by
  rw [noStamp_iff] at he ⊢
  refine ⟨?_, noStampBelow_merge_none e oe he.2 (noStamp_dir oe ho)⟩
  rw [(merge_keep e none oe).1.2.2.2]; exact he.1

end Goyang.Lemmas.ConfigNs
