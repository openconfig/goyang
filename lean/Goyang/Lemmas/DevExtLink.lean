import Goyang.Lemmas.DevExtUses
/-
C08, frame across module sets — part 9: the linking stage (`linkAll`) of the run with the
deviation-only modules against the run without them.

`linkAll X` walks the distinct modules in full-name order: first those of `B` (the new modules sort
last), then the new ones.
* part 1 (`includeWalk_ext`, `includeWalk_fuels`, `linkFold_base`): a walk that starts in a module of `B`
  stays in `B` and is the same walk in both registries (imports of modules of `B` resolve alike, there
  are no submodules; the two runs give different fuels, both above the bound of `includeWalk_fuel_indep`);
  so after the modules of `B` the run with the new modules has exactly `linkAll B`;
* part 2 (`includeWalk_new`, `linkFold_new`): by then every module the table of `B` points to is
  marked (`linkFold_marks`), so a walk from a new module marks new modules only.
Hence `linkAll_ext`: `(linkAll X).1 = N ++ (linkAll B).1` with `N` sequence numbers of new modules,
and `linkAgree_of_devExtCore : LinkAgree B X`.  Core Lean only.
-/
open Goyang.Lemmas.RegistryAux (findModule_mem)
namespace Goyang.Lemmas.DevExt
open Goyang.Model
open Goyang.Lemmas.Fuel (walkStep includeWalk_succ includeWalk_fuel_indep includeWalk_visited_mono unvisited unvisited_le foldl_ext_mem)

/-! ### generic facts about the walk -/

/-- With fuel the walk marks its start. -/
theorem includeWalk_marks (reg : Registry) (fuel : Nat) (v : List Nat) (m : Mod) :
    m.seq ∈ (includeWalk reg (fuel + 1) v m).1 := by
  rw [includeWalk_succ]
  split
  · next hc => simpa using hc
  · have hstep : ∀ b (acc : List Nat × Option Err) i, m.seq ∈ acc.1 → m.seq ∈ (walkStep reg fuel b acc i).1 := by
      intro b acc i ha
      unfold walkStep
      split
      · exact ha
      · split
        · exact ha
        · exact includeWalk_visited_mono _ _ _ _ _ ha
    apply ListAux.foldl_inv (fun acc : List Nat × Option Err => m.seq ∈ acc.1)
    · apply ListAux.foldl_inv (fun acc : List Nat × Option Err => m.seq ∈ acc.1)
      · exact List.mem_cons_self ..
      · exact fun a i _ ha => hstep true a i ha
    · exact fun a i _ ha => hstep false a i ha

/-- A registry without submodules resolves no include statement. -/
theorem findModule_include_none (r : Registry) (hr : r.subModules = []) (i : Stmt) : r.findModule true i = none := by
  unfold Registry.findModule Registry.getSub
  simp [hr, KeyMap.get?]

/-- What `findModule` returns for an import is the module a row of the table points to. -/
theorem findModule_row {r : Registry} {i : Stmt} {m : Mod} (h : r.findModule false i = some m) :
    ∃ kv ∈ r.modules, kv.2 = m.seq := by
  have key : ∀ k, r.getModule k = some m → ∃ kv ∈ r.modules, kv.2 = m.seq := by
    intro k hk
    unfold Registry.getModule KeyMap.get? at hk
    cases hf : r.modules.find? (·.1 == k) with
    | none => simp [hf] at hk
    | some kv =>
      simp only [hf, Option.map_some, Option.bind_some] at hk
      refine ⟨kv, List.mem_of_find?_eq_some hf, ?_⟩
      unfold Registry.byId at hk
      have := List.find?_some hk
      exact (by simpa using this : m.seq = kv.2).symm
  unfold Registry.findModule at h
  simp only [Bool.false_eq_true, if_false] at h
  split at h
  · next m' hm' => cases h; exact key _ hm'
  · exact key _ h

/-- The loop body of `linkAll`. -/
def linkStep (reg : Registry) (acc : List Nat × List Err) (m : Mod) : List Nat × List Err :=
  ((includeWalk reg (reg.mods.length + 1) acc.1 m).1,
    match (includeWalk reg (reg.mods.length + 1) acc.1 m).2 with | some e => acc.2 ++ [e] | none => acc.2)

theorem linkAll_eq (reg : Registry) :
    linkAll reg = (sortBy (fun (a b : Mod) => a.fullName < b.fullName) reg.distinctModules).foldl (linkStep reg) ([], []) := rfl

/-- The loop only adds marks, and marks the modules it walks. -/
theorem linkFold_mono (reg : Registry) (l : List Mod) (acc : List Nat × List Err) (x : Nat) (hx : x ∈ acc.1) :
    x ∈ (l.foldl (linkStep reg) acc).1 := by
  induction l generalizing acc with
  | nil => exact hx
  | cons m l ih =>
    simp only [List.foldl_cons]
    exact ih _ (includeWalk_visited_mono _ _ _ _ _ hx)

theorem linkFold_marks (reg : Registry) (l : List Mod) (acc : List Nat × List Err) (m : Mod) (hm : m ∈ l) :
    m.seq ∈ (l.foldl (linkStep reg) acc).1 := by
  induction l generalizing acc with
  | nil => cases hm
  | cons a l ih =>
    simp only [List.foldl_cons]
    rcases List.mem_cons.mp hm with rfl | hm
    · exact linkFold_mono reg l _ _ (includeWalk_marks reg _ acc.1 m)
    · exact ih _ hm

section
variable {B X : Registry} {ds : List Mod} {dk : KeyMap} (h : DevExtCore B X ds dk)
include h

/-! ### part 1: walks from modules of `B` -/

/-- Same fuel: a walk from a module of `B` is the same in both registries. -/
theorem includeWalk_ext : ∀ (fuel : Nat) (v : List Nat) (m : Mod), m ∈ B.mods →
    includeWalk X fuel v m = includeWalk B fuel v m := by
  intro fuel
  induction fuel with
  | zero => intro v m _; rfl
  | succ n ih =>
    intro v m hm
    rw [includeWalk_succ, includeWalk_succ]
    split
    · rfl
    · have hinc : m.includes.foldl (walkStep X n true) (m.seq :: v, none) =
          m.includes.foldl (walkStep B n true) (m.seq :: v, none) := by
        apply foldl_ext_mem
        intro acc i _
        unfold walkStep
        rw [findModule_include_none X h.subsX, findModule_include_none B h.subsB]
      rw [hinc]
      apply foldl_ext_mem
      intro acc i hi
      unfold walkStep
      rw [h.imports m hm i hi]
      split
      · rfl
      · split
        · rfl
        · next im him => exact ih acc.1 im (findModule_mem him)

theorem length_le : B.mods.length ≤ X.mods.length := by
  rw [h.mods, List.length_append]
  exact Nat.le_add_right _ _

/-- The fuels of the two runs: the walk from a module of `B` is the same. -/
theorem includeWalk_fuels (v : List Nat) (m : Mod) (hm : m ∈ B.mods) :
    includeWalk X (X.mods.length + 1) v m = includeWalk B (B.mods.length + 1) v m := by
  rw [includeWalk_ext h _ v m hm]
  have h1 := unvisited_le B v
  have h2 := length_le h
  rw [includeWalk_fuel_indep B (X.mods.length + 1) v m hm (by omega),
    includeWalk_fuel_indep B (B.mods.length + 1) v m hm (by omega)]

theorem linkFold_base (l : List Mod) (hl : ∀ m ∈ l, m ∈ B.mods) (acc : List Nat × List Err) :
    l.foldl (linkStep X) acc = l.foldl (linkStep B) acc := by
  apply foldl_ext_mem
  intro a m hm
  unfold linkStep
  rw [includeWalk_fuels h a.1 m (hl m hm)]

/-! ### part 2: walks from new modules -/

/-- The sequence number of a new module. -/
def NewSeq (ds : List Mod) (x : Nat) : Prop := ∃ d ∈ ds, d.seq = x

/-- Once every row of the table of `B` is marked, a walk in `X` from a module that is marked or new
marks new modules only. -/
theorem includeWalk_new : ∀ (fuel : Nat) (v : List Nat) (m : Mod), (∀ kv ∈ B.modules, kv.2 ∈ v) →
    (m.seq ∈ v ∨ NewSeq ds m.seq) →
    ∃ N, (includeWalk X fuel v m).1 = N ++ v ∧ ∀ x ∈ N, NewSeq ds x := by
  intro fuel
  induction fuel with
  | zero => intro v m _ _; exact ⟨[], rfl, fun _ hx => by cases hx⟩
  | succ n ih =>
    intro v m hv hm
    rw [includeWalk_succ]
    split
    · exact ⟨[], rfl, fun _ hx => by cases hx⟩
    · next hc =>
      have hnew : NewSeq ds m.seq := by
        rcases hm with hm | hm
        · exact absurd (by simpa using hm) hc
        · exact hm
      -- the invariant of the two folds
      let P : List Nat × Option Err → Prop := fun acc => ∃ N, acc.1 = N ++ v ∧ ∀ x ∈ N, NewSeq ds x
      have hstep : ∀ b (acc : List Nat × Option Err) i, P acc → P (walkStep X n b acc i) := by
        intro b acc i hacc
        obtain ⟨N, hN, hNn⟩ := hacc
        unfold walkStep
        split
        · exact ⟨N, hN, hNn⟩
        · split
          · exact ⟨N, hN, hNn⟩
          · next im him =>
            have hrow : im.seq ∈ acc.1 ∨ NewSeq ds im.seq := by
              cases b with
              | true => rw [findModule_include_none X h.subsX] at him; cases him
              | false =>
                obtain ⟨kv, hkv, hkvs⟩ := findModule_row him
                rw [h.modules] at hkv
                rcases List.mem_append.mp hkv with hkv | hkv
                · left; rw [hN, ← hkvs]; exact List.mem_append_right _ (hv kv hkv)
                · right
                  obtain ⟨d, hd, hds⟩ := h.tblD kv hkv
                  exact ⟨d, hd, hds.trans hkvs⟩
            obtain ⟨N', hN', hN'n⟩ := ih acc.1 im
              (fun kv hkv => by rw [hN]; exact List.mem_append_right _ (hv kv hkv)) hrow
            refine ⟨N' ++ N, by rw [hN', hN, List.append_assoc], ?_⟩
            intro x hx
            rcases List.mem_append.mp hx with hx | hx
            · exact hN'n x hx
            · exact hNn x hx
      have h0 : P (m.seq :: v, none) := ⟨[m.seq], rfl, fun x hx => by
        rw [List.mem_singleton] at hx; subst hx; exact hnew⟩
      have h1 : P (m.includes.foldl (walkStep X n true) (m.seq :: v, none)) :=
        ListAux.foldl_inv P _ _ _ h0 (fun a i _ ha => hstep true a i ha)
      exact ListAux.foldl_inv P _ _ _ h1 (fun a i _ ha => hstep false a i ha)

theorem linkFold_new (l : List Mod) (hl : ∀ d ∈ l, d ∈ ds) (acc : List Nat × List Err)
    (hv : ∀ kv ∈ B.modules, kv.2 ∈ acc.1) :
    ∃ N, (l.foldl (linkStep X) acc).1 = N ++ acc.1 ∧ ∀ x ∈ N, NewSeq ds x := by
  induction l generalizing acc with
  | nil => exact ⟨[], rfl, fun _ hx => by cases hx⟩
  | cons d l ih =>
    simp only [List.foldl_cons]
    obtain ⟨N1, hN1, hN1n⟩ := includeWalk_new h (X.mods.length + 1) acc.1 d hv
      (Or.inr ⟨d, hl d (List.mem_cons_self ..), rfl⟩)
    have hacc1 : (linkStep X acc d).1 = N1 ++ acc.1 := hN1
    obtain ⟨N2, hN2, hN2n⟩ := ih (fun x hx => hl x (List.mem_cons_of_mem _ hx)) (linkStep X acc d)
      (fun kv hkv => by rw [hacc1]; exact List.mem_append_right _ (hv kv hkv))
    refine ⟨N2 ++ N1, by rw [hN2, hacc1, List.append_assoc], ?_⟩
    intro x hx
    rcases List.mem_append.mp hx with hx | hx
    · exact hN2n x hx
    · exact hN1n x hx

/-! ### the two runs -/

/-- **The linked set of the run with the new modules** is that of the run without them plus
sequence numbers of new modules. -/
theorem linkAll_ext : ∃ N, (linkAll X).1 = N ++ (linkAll B).1 ∧ ∀ x ∈ N, NewSeq ds x := by
  have hsort : sortBy (fun (a b : Mod) => a.fullName < b.fullName) X.distinctModules =
      sortBy (fun (a b : Mod) => a.fullName < b.fullName) B.distinctModules ++
        sortBy (fun (a b : Mod) => a.fullName < b.fullName) (ds.filter fun m => X.modules.any (·.2 == m.seq)) := by
    rw [distinctModules_ext h]
    apply sortBy_append
    intro a ha b hb
    have := h.nameLast a (Fuel.distinctModules_mem B a ha) b (List.mem_filter.mp hb).1
    simpa using this
  rw [linkAll_eq X, hsort, List.foldl_append,
    linkFold_base h _ (fun m hm => Fuel.distinctModules_mem B m ((SortAux.mem_sortBy _ m _).mp hm)), ← linkAll_eq B]
  apply linkFold_new h
  · intro d hd
    exact (List.mem_filter.mp ((SortAux.mem_sortBy _ d _).mp hd)).1
  · intro kv hkv
    obtain ⟨m, hm, hms⟩ := h.tblB kv hkv
    have hdm : m ∈ B.distinctModules := by
      unfold Registry.distinctModules
      refine List.mem_filter.mpr ⟨hm, ?_⟩
      apply List.any_eq_true.mpr
      exact ⟨kv, hkv, by simp [hms]⟩
    rw [← hms, linkAll_eq B]
    exact linkFold_marks B _ _ m ((SortAux.mem_sortBy _ m _).mpr hdm)

/-- **`LinkAgree` holds under `DevExtCore`**: a module of `B` is linked in the run with the new modules
iff it is linked in the run without them. -/
theorem linkAgree_of_devExtCore : LinkAgree B X := by
  intro m hm
  obtain ⟨N, hN, hNn⟩ := linkAll_ext h
  rw [hN, List.contains_eq_mem, List.contains_eq_mem]
  have : m.seq ∉ N := by
    intro hx
    obtain ⟨d, hd, hds⟩ := hNn _ hx
    exact h.seqFresh m hm d hd hds.symm
  simp [this]

end

end Goyang.Lemmas.DevExt
