import Goyang.Lemmas.IncludeRel
/-
C13 (third sentence), part 2: the value of a statement.

`pent` is `toEntry` without the conversion state and without the cycle check: a function of the
place (root module, ancestor chain, statement) and of a fuel alone.  An error-free `pent` is stable
under more fuel (`pent_mono`), so an error-free value, when there is one, is unique (`IsVal`,
`val`).  `step_back`/`core_back`: an error-free result has error-free ingredients (every
substatement that the conversion converts has an error-free value).
-/
namespace Goyang.Lemmas.IncludePure
open Goyang.Model Goyang.Spec.Include Goyang.Lemmas.Tree Goyang.Spec.Tree Goyang.Lemmas.IncludeRel

/-- A stateless recursive call. -/
abbrev PVal := Mod → List Stmt → Stmt → Entry
def pureRec (v : PVal) : Rec := fun r s c _ st => (v r s c, st)

/-- `c` is converted by the field step `f` of statement `n` and its entry becomes part of (or is
checked into) the entry of `n` (everything `Called` but the augment statements of a module). -/
def CalledE (n : Stmt) (f : String) (c : Stmt) : Prop :=
  (f ∈ convKws ∧ c ∈ n.all f) ∨ ((f = "input" ∨ f = "output") ∧ n.one? f = some c)

theorem CalledE.called {n c : Stmt} {f : String} (h : CalledE n f c) : Called n f c := by
  rcases h with h | h
  · exact Or.inl h
  · exact Or.inr (Or.inl h)

theorem Called.calledE {n c : Stmt} {f : String} (h : Called n f c) (hf : f ≠ "augment") : CalledE n f c := by
  rcases h with h | h | ⟨h, _⟩
  · exact Or.inl h
  · exact Or.inr h
  · exact absurd h hf

theorem fieldOrder_steps (kw : String) :
    (("include" ∈ fieldOrder kw ∨ "augment" ∈ fieldOrder kw) → kw = "module" ∨ kw = "submodule") ∧
      "module" ∉ fieldOrder kw ∧ "submodule" ∉ fieldOrder kw := by
  unfold fieldOrder
  split
  case h_1 => exact ⟨fun _ => Or.inl rfl, by decide, by decide⟩
  case h_2 => exact ⟨fun _ => Or.inr rfl, by decide, by decide⟩
  all_goals
    simp only [List.mem_cons, List.mem_nil_iff, String.reduceEq, or_self, false_imp_iff, not_false_eq_true, and_self]

theorem not_mod_hinc {n : Stmt} (hn : isModKw n = false) : "include" ∈ fieldOrder n.kw → n.all "include" = [] := by
  intro hf
  have := (fieldOrder_steps n.kw).1 (Or.inl hf)
  unfold isModKw at hn
  simp only [Bool.or_eq_false_iff, beq_eq_false_iff_ne] at hn
  rcases this with h | h
  · exact absurd h hn.1
  · exact absurd h hn.2

theorem not_mod_aug {n : Stmt} (hn : isModKw n = false) : "augment" ∉ fieldOrder n.kw := by
  intro hf
  have := (fieldOrder_steps n.kw).1 (Or.inr hf)
  unfold isModKw at hn
  simp only [Bool.or_eq_false_iff, beq_eq_false_iff_ne] at hn
  rcases this with h | h
  · exact hn.1 h
  · exact hn.2 h

/-- A substatement that a field step converts is not a (sub)module statement. -/
theorem called_not_mod {n c : Stmt} {f : String} (hf : f ∈ fieldOrder n.kw) (hc : Called n f c) : isModKw c = false := by
  unfold isModKw
  rw [hc.kw]
  have h := (fieldOrder_steps n.kw).2
  have h1 : f ≠ "module" := fun e => h.1 (e ▸ hf)
  have h2 : f ≠ "submodule" := fun e => h.2 (e ▸ hf)
  simp [h1, h2]

theorem foldl_back {α : Type} (G : Entry × TState → α → Entry × TState) (w : α → Entry)
    (hG : ∀ acc x, Clean (G acc x).1 → Clean acc.1 ∧ Clean (w x)) (l : List α) (acc : Entry × TState)
    (h : Clean (l.foldl G acc).1) : Clean acc.1 ∧ ∀ x ∈ l, Clean (w x) := by
  induction l generalizing acc with
  | nil => exact ⟨h, by simp⟩
  | cons x xs ih =>
    simp only [List.foldl_cons] at h
    obtain ⟨h1, h2⟩ := ih _ h
    obtain ⟨h3, h4⟩ := hG acc x h1
    refine ⟨h3, ?_⟩
    intro y hy
    rcases List.mem_cons.1 hy with rfl | hy
    · exact h4
    · exact h2 y hy

theorem clean_of_withD {e : Entry} {f : EData → EData} (h : Clean (e.withD f)) (hf : ∀ d, (f d).errors = d.errors) :
    Clean e := (clean_withD e f hf).1 h

theorem conv_not_io {f : String} (h : f ∈ convKws) : ¬ (f = "input" ∨ f = "output") := by
  rintro (rfl | rfl) <;>
    simp only [convKws, List.mem_cons, List.mem_nil_iff, String.reduceEq, or_self] at h

section Back
variable (env : Env) (v : PVal) (root : Mod) (n : Stmt) (sub : List Stmt) (vis : List NodeId)

/-- One field step backwards: an error-free result comes from an error-free accumulator and
error-free values of the substatements the step converts. -/
theorem step_back (isMod : Bool) (acc : Entry × TState) (f : String) (hinc : f = "include" → n.all "include" = [])
    (hin : f = "input" → acc.1.inp = []) (hout : f = "output" → acc.1.out = [])
    (h : Clean (stepFn env (pureRec v) root n sub vis isMod acc f).1) :
    Clean acc.1 ∧ ∀ c, CalledE n f c → Clean (v root sub c) := by
  obtain ⟨e, st⟩ := acc
  dsimp only at hin hout
  have hnone : f ∉ callKws → ∀ c, CalledE n f c → Clean (v root sub c) :=
    fun hf c hc => absurd hc.called.mem_callKws hf
  obtain ⟨S, hS, q⟩ := stepFn_shape₁ n isMod f env (pureRec v) root sub vis e st
  rw [q] at h
  cases hS with
  | conv hop =>
    obtain ⟨h1, h2⟩ := foldl_back _ (v root sub) (fun _ _ hc => hop.clean hc) _ _ h
    refine ⟨h1, ?_⟩
    rintro c (⟨_, hc⟩ | ⟨hio, _⟩)
    · exact h2 c hc
    · exact absurd hio (conv_not_io hop.conv)
  | input =>
    dsimp only at h
    cases hi : n.one? "input" with
    | none =>
      rw [hi] at h
      refine ⟨h, ?_⟩
      rintro c (⟨hk, _⟩ | ⟨_, hc⟩)
      · exact absurd (Or.inl rfl) (conv_not_io hk)
      · rw [hi] at hc; cases hc
    | some i =>
      rw [hi] at h
      obtain ⟨h1, h2⟩ := clean_setInp _ _ h (hin rfl)
      refine ⟨h1, ?_⟩
      rintro c (⟨hk, _⟩ | ⟨_, hc⟩)
      · exact absurd (Or.inl rfl) (conv_not_io hk)
      · rw [hi] at hc; cases hc
        exact clean_of_withD h2 (fun _ => rfl)
  | output =>
    dsimp only at h
    cases ho : n.one? "output" with
    | none =>
      rw [ho] at h
      refine ⟨h, ?_⟩
      rintro c (⟨hk, _⟩ | ⟨_, hc⟩)
      · exact absurd (Or.inr rfl) (conv_not_io hk)
      · rw [ho] at hc; cases hc
    | some o =>
      rw [ho] at h
      obtain ⟨h1, h2⟩ := clean_setOut _ _ h (hout rfl)
      refine ⟨h1, ?_⟩
      rintro c (⟨hk, _⟩ | ⟨_, hc⟩)
      · exact absurd (Or.inr rfl) (conv_not_io hk)
      · rw [ho] at hc; cases hc
        exact clean_of_withD h2 (fun _ => rfl)
  | incl =>
    dsimp only at h
    rw [hinc rfl] at h
    refine ⟨h, hnone (not_callKws ?_)⟩
    simp only [convKws, List.mem_cons, List.mem_nil_iff, String.reduceEq, ne_eq, or_self, not_false_eq_true, and_self]
  | augment =>
    refine ⟨?_, ?_⟩
    · dsimp only at h
      split at h <;> exact h
    · rintro c (⟨hk, _⟩ | ⟨hk, _⟩)
      · simp only [convKws, List.mem_cons, List.mem_nil_iff, String.reduceEq, or_self] at hk
      · simp only [String.reduceEq, or_self] at hk
  | type =>
    refine ⟨?_, hnone (not_callKws ?_)⟩
    · dsimp only at h
      split at h
      · exact h
      · split at h
        · exact clean_of_withD h (fun _ => rfl)
        · exact absurd h (not_clean_addErr _ _)
    · simp only [convKws, List.mem_cons, List.mem_nil_iff, String.reduceEq, ne_eq, or_self, not_false_eq_true, and_self]
  | data hf hF => exact ⟨hF.clean h, hnone hf⟩


/-- A stateless call leaves the state of a field step alone, unless the step records augments. -/
theorem foldl_steps_back (hinc : "include" ∈ fieldOrder n.kw → n.all "include" = []) (isMod : Bool) (l : List String)
    (hl : ∀ f ∈ l, f ∈ fieldOrder n.kw) (hio : ∀ f ∈ l, f ≠ "input" ∧ f ≠ "output") (acc : Entry × TState)
    (h : Clean (l.foldl (stepFn env (pureRec v) root n sub vis isMod) acc).1) :
    Clean acc.1 ∧ ∀ f ∈ l, ∀ c, CalledE n f c → Clean (v root sub c) := by
  induction l generalizing acc with
  | nil => exact ⟨h, by simp⟩
  | cons f fs ih =>
    simp only [List.foldl_cons] at h
    obtain ⟨h1, h2⟩ := ih (fun g hg => hl g (List.mem_cons_of_mem _ hg)) (fun g hg => hio g (List.mem_cons_of_mem _ hg)) _ h
    have hf := hio f (List.mem_cons_self ..)
    obtain ⟨h3, h4⟩ := step_back env v root n sub vis isMod acc f (fun hfi => hinc (hfi ▸ hl f (List.mem_cons_self ..)))
      (fun hx => absurd hx hf.1) (fun hx => absurd hx hf.2) h1
    refine ⟨h3, ?_⟩
    intro g hg
    rcases List.mem_cons.1 hg with rfl | hg
    · exact h4
    · exact h2 g hg

/-- All field steps backwards. -/
theorem steps_back (hinc : "include" ∈ fieldOrder n.kw → n.all "include" = []) (isMod : Bool) (st : TState)
    (h : Clean ((fieldOrder n.kw).foldl (stepFn env (pureRec v) root n sub vis isMod) (e0 root n, st)).1) :
    ∀ f ∈ fieldOrder n.kw, ∀ c, CalledE n f c → Clean (v root sub c) := by
  by_cases hio : "input" ∈ fieldOrder n.kw ∨ "output" ∈ fieldOrder n.kw
  · have hfo := fieldOrder_io _ hio
    rw [hfo] at h ⊢
    rw [List.foldl_cons, List.foldl_cons] at h
    have i1 := stepFn_output_inp env (pureRec v) root n sub vis isMod (e0 root n, st)
    generalize hx1 : stepFn env (pureRec v) root n sub vis isMod (e0 root n, st) "output" = x1 at h i1
    generalize hx2 : stepFn env (pureRec v) root n sub vis isMod x1 "input" = x2 at h
    have no : ∀ {f g : String} {P : Prop}, f ≠ g → f = g → P := fun h e => absurd e h
    obtain ⟨c3, d34⟩ := foldl_steps_back env v root n sub vis hinc isMod ["grouping", "description"]
      (fun f hf => by rw [hfo]; exact List.mem_cons_of_mem _ (List.mem_cons_of_mem _ hf)) (by decide) x2 h
    rw [← hx2] at c3
    obtain ⟨c2, d2⟩ := step_back env v root n sub vis isMod x1 "input" (no (by decide)) (fun _ => i1) (no (by decide)) c3
    rw [← hx1] at c2
    obtain ⟨_, d1⟩ := step_back env v root n sub vis isMod (e0 root n, st) "output" (no (by decide)) (no (by decide))
      (fun _ => rfl) c2
    intro f hf
    rcases List.mem_cons.1 hf with rfl | hf
    · exact d1
    · rcases List.mem_cons.1 hf with rfl | hf
      · exact d2
      · exact d34 f hf
  · exact (foldl_steps_back env v root n sub vis hinc isMod _ (fun f hf => hf)
      (fun f hf => ⟨fun hx => hio (Or.inl (hx ▸ hf)), fun hx => hio (Or.inr (hx ▸ hf))⟩) _ h).2

end Back

/-- **An error-free result has error-free ingredients**: for a `uses`, the value of the grouping;
otherwise the values of all substatements that the field steps convert. -/
theorem core_back (env : Env) (v : PVal) (root : Mod) (scope : List Stmt) (n : Stmt) (vis : List NodeId) (st : TState)
    (lk : Option GroupingRef) (isMod : Bool) (hinc : "include" ∈ fieldOrder n.kw → n.all "include" = [])
    (h : Clean (core env (pureRec v) root scope n vis st lk isMod).1) :
    (n.kw = "uses" → ∃ g gr gs, lk = some (g, gr, gs) ∧ Clean (v gr gs g)) ∧
    (n.kw ≠ "leaf" → n.kw ≠ "leaf-list" → n.kw ≠ "uses" →
      ∀ f ∈ fieldOrder n.kw, ∀ c, CalledE n f c → Clean (v root (n :: scope) c)) := by
  unfold core at h
  split at h
  · rename_i hk
    have hk' : n.kw = "leaf" := by simpa using hk
    exact ⟨fun hu => by rw [hk'] at hu; exact absurd hu (by decide), fun h1 => absurd hk' h1⟩
  · split at h
    · rename_i hk
      have hk' : n.kw = "leaf-list" := by simpa using hk
      exact ⟨fun hu => by rw [hk'] at hu; exact absurd hu (by decide), fun _ h2 => absurd hk' h2⟩
    · split at h
      · rename_i hk
        have hk' : n.kw = "uses" := by simpa using hk
        refine ⟨fun _ => ?_, fun _ _ h3 => absurd hk' h3⟩
        cases lk with
        | none =>
          exfalso
          have : (errorEntry root n "unknown-group").d.errors ≠ [] := errorEntry_errors _ _ _
          exact this (clean_own _ h)
        | some r =>
          obtain ⟨g, gr, gs⟩ := r
          exact ⟨g, gr, gs, rfl, h⟩
      · rename_i hk
        have hk' : n.kw ≠ "uses" := by simpa using hk
        refine ⟨fun hu => absurd hu hk', fun _ _ _ => ?_⟩
        unfold dirBody at h
        dsimp only at h
        have hc : Clean ((fieldOrder n.kw).foldl (stepFn env (pureRec v) root n (n :: scope) vis isMod) (e0 root n, st)).1 := by
          generalize (fieldOrder n.kw).foldl (stepFn env (pureRec v) root n (n :: scope) vis isMod) (e0 root n, st) = x at h
          obtain ⟨x1, x2⟩ := x
          dsimp only at h ⊢
          cases isMod with
          | true => simpa using h
          | false =>
            simp only [Bool.false_eq_true, if_false] at h
            split at h <;> exact h
        exact steps_back env v root n (n :: scope) vis hinc isMod st hc

/-! ### the value of a statement -/

/-- The grouping lookup as a function of the place and the name. -/
abbrev Lookup := Mod → List Stmt → String → Option GroupingRef

/-- One level of conversion over given values of the substatements. -/
def pcore (env : Env) (lk : Lookup) (v : PVal) : PVal :=
  fun root scope n => (core env (pureRec v) root scope n [] {} (lk root scope n.arg) false).1

/-- `toEntry` without conversion state and cycle check. -/
def pent (env : Env) (lk : Lookup) : Nat → PVal
  | 0 => fun root _ n => errorEntry root n "out-of-fuel"
  | f + 1 => pcore env lk (pent env lk f)

theorem not_clean_errorEntry (root : Mod) (n : Stmt) (cls : String) : ¬ Clean (errorEntry root n cls) :=
  fun h => errorEntry_errors root n cls (clean_own _ h)

theorem REl_id_refl (e : Entry) : REl id e e := fun _ => ren_id e

theorem pcore_congr (env : Env) (lk : Lookup) (v w : PVal) (root : Mod) (scope : List Stmt) (n : Stmt)
    (hnm : isModKw n = false)
    (hch : ∀ c, (∃ f ∈ fieldOrder n.kw, Called n f c) → Clean (v root (n :: scope) c) →
      v root (n :: scope) c = w root (n :: scope) c)
    (huses : ∀ g gr gs, lk root scope n.arg = some (g, gr, gs) → Clean (v gr gs g) → v gr gs g = w gr gs g)
    (h : Clean (pcore env lk v root scope n)) : pcore env lk v root scope n = pcore env lk w root scope n := by
  have hrel : ∀ {a b : Entry}, (Clean a → a = b) → REl id a b := fun hab hc => by rw [ren_id]; exact hab hc
  have := core_relQ (RE := REl id) (RS := fun _ _ => True) (closed2_REl id) env env (pureRec v) (pureRec w) root root n
    scope scope [] [] (fun x y => REl id x.1 y.1) {} {} trivial (lk root scope n.arg) (lk root scope n.arg) false
    (REl_id_refl _) (fun _ _ => REl_id_refl _) (fun _ => REl_id_refl _) (fun _ _ _ => rfl) (not_mod_hinc hnm)
    (fun c hc _ _ _ => ⟨hrel (hch c hc), trivial⟩)
    (fun _ => by
      cases hl : lk root scope n.arg with
      | none => trivial
      | some r => obtain ⟨g, gr, gs⟩ := r; exact fun _ _ _ => ⟨hrel (huses g gr gs hl), trivial⟩)
    (fun h => absurd h (by decide)) (fun _ _ _ _ hab _ => hab) (fun h => absurd h (by decide))
    (fun _ _ _ _ _ _ hab => hab)
  have h2 := this h
  rw [ren_id] at h2
  exact h2

/-- `pcore` respects "equal where error free" (left to right). -/
theorem pcore_rel (env : Env) (lk : Lookup) (hlk : ∀ r s a g gr gs, lk r s a = some (g, gr, gs) → isModKw g = false)
    (v w : PVal) (hvw : ∀ r s c, isModKw c = false → Clean (v r s c) → v r s c = w r s c)
    (root : Mod) (scope : List Stmt) (n : Stmt) (hnm : isModKw n = false)
    (h : Clean (pcore env lk v root scope n)) : pcore env lk v root scope n = pcore env lk w root scope n :=
  pcore_congr env lk v w root scope n hnm
    (fun c ⟨_, hf, hcf⟩ => hvw _ _ c (called_not_mod hf hcf)) (fun g _ _ hl => hvw _ _ g (hlk _ _ _ _ _ _ hl)) h


section Val
variable (env : Env) (lk : Lookup) (hlk : ∀ r s a g gr gs, lk r s a = some (g, gr, gs) → isModKw g = false)
include hlk

/-- An error-free value is stable under more fuel. -/
theorem pent_mono : ∀ (f : Nat) (root : Mod) (scope : List Stmt) (n : Stmt), isModKw n = false →
    Clean (pent env lk f root scope n) → pent env lk (f + 1) root scope n = pent env lk f root scope n := by
  intro f
  induction f with
  | zero => intro root scope n _ h; exact absurd h (not_clean_errorEntry _ _ _)
  | succ f ih =>
    intro root scope n hn h
    exact (pcore_rel env lk hlk (pent env lk f) (pent env lk (f + 1)) (fun r s c hc hcl => (ih r s c hc hcl).symm)
      root scope n hn h).symm

theorem pent_stable (f k : Nat) (root : Mod) (scope : List Stmt) (n : Stmt) (hn : isModKw n = false)
    (h : Clean (pent env lk f root scope n)) : pent env lk (f + k) root scope n = pent env lk f root scope n := by
  induction k with
  | zero => rfl
  | succ k ih =>
    have : f + (k + 1) = (f + k) + 1 := by omega
    rw [this, pent_mono env lk hlk (f + k) root scope n hn (by rw [ih]; exact h), ih]

theorem pent_le (f g : Nat) (hfg : f ≤ g) (root : Mod) (scope : List Stmt) (n : Stmt) (hn : isModKw n = false)
    (h : Clean (pent env lk f root scope n)) : pent env lk g root scope n = pent env lk f root scope n := by
  obtain ⟨k, rfl⟩ : ∃ k, g = f + k := ⟨g - f, by omega⟩
  exact pent_stable env lk hlk f k root scope n hn h

omit hlk in
/-- The statement has an error-free value. -/
def HasVal (root : Mod) (scope : List Stmt) (n : Stmt) : Prop := ∃ f, Clean (pent env lk f root scope n)

open Classical in
omit hlk in
/-- The least-effort witness. -/
noncomputable def fuelOf (root : Mod) (scope : List Stmt) (n : Stmt) : Nat :=
  if h : HasVal env lk root scope n then Classical.choose h else 0

open Classical in
omit hlk in
/-- **The value of a statement**: its error-free conversion, if it has one. -/
noncomputable def val : PVal := fun root scope n => pent env lk (fuelOf env lk root scope n) root scope n

omit hlk in
theorem fuelOf_clean (root : Mod) (scope : List Stmt) (n : Stmt) (h : HasVal env lk root scope n) :
    Clean (pent env lk (fuelOf env lk root scope n) root scope n) := by
  unfold fuelOf
  rw [dif_pos h]
  exact Classical.choose_spec h

theorem val_eq (f : Nat) (root : Mod) (scope : List Stmt) (n : Stmt) (hn : isModKw n = false)
    (h : Clean (pent env lk f root scope n)) : val env lk root scope n = pent env lk f root scope n := by
  have hv : HasVal env lk root scope n := ⟨f, h⟩
  have hc := fuelOf_clean env lk root scope n hv
  unfold val
  rcases Nat.le_total f (fuelOf env lk root scope n) with hle | hle
  · exact pent_le env lk hlk f _ hle root scope n hn h
  · exact (pent_le env lk hlk _ f hle root scope n hn hc).symm

omit hlk in
theorem val_clean (root : Mod) (scope : List Stmt) (n : Stmt) (h : Clean (val env lk root scope n)) :
    HasVal env lk root scope n := ⟨_, h⟩

theorem val_ge (g : Nat) (root : Mod) (scope : List Stmt) (n : Stmt) (hn : isModKw n = false)
    (h : Clean (val env lk root scope n)) (hg : fuelOf env lk root scope n ≤ g) :
    pent env lk g root scope n = val env lk root scope n :=
  pent_le env lk hlk _ g hg root scope n hn h

omit hlk in
theorem fuelOf_pos (root : Mod) (scope : List Stmt) (n : Stmt) (h : Clean (val env lk root scope n)) :
    0 < fuelOf env lk root scope n := by
  rcases Nat.eq_zero_or_pos (fuelOf env lk root scope n) with h0 | h0
  · unfold val at h
    rw [h0] at h
    exact absurd h (not_clean_errorEntry _ _ _)
  · exact h0

/-- The value satisfies the equation of one level of conversion (when it is error free). -/
theorem val_unfold (root : Mod) (scope : List Stmt) (n : Stmt) (hn : isModKw n = false)
    (h : Clean (val env lk root scope n)) : val env lk root scope n = pcore env lk (val env lk) root scope n := by
  have hp := fuelOf_pos env lk root scope n h
  obtain ⟨k, hk⟩ : ∃ k, fuelOf env lk root scope n = k + 1 := ⟨fuelOf env lk root scope n - 1, by omega⟩
  have h1 : val env lk root scope n = pcore env lk (pent env lk k) root scope n := by
    unfold val; rw [hk]; rfl
  rw [h1]
  rw [h1] at h
  exact pcore_rel env lk hlk (pent env lk k) (val env lk)
    (fun r s c hc hcl => (val_eq env lk hlk k r s c hc hcl).symm) root scope n hn h

omit hlk in
theorem le_foldr_max {α : Type} (g : α → Nat) (l : List α) (a : Nat) : a ≤ l.foldr (fun x m => max (g x) m) a ∧
    ∀ x ∈ l, g x ≤ l.foldr (fun x m => max (g x) m) a := by
  induction l with
  | nil => exact ⟨Nat.le_refl _, by simp⟩
  | cons y ys ih =>
    simp only [List.foldr_cons]
    refine ⟨Nat.le_trans ih.1 (Nat.le_max_right _ _), ?_⟩
    intro x hx
    rcases List.mem_cons.1 hx with rfl | hx
    · exact Nat.le_max_left _ _
    · exact Nat.le_trans (ih.2 x hx) (Nat.le_max_right _ _)

/-- … and one level of conversion over values, when error free, is the value. -/
theorem val_fold (root : Mod) (scope : List Stmt) (n : Stmt) (hn : isModKw n = false)
    (h : Clean (pcore env lk (val env lk) root scope n)) :
    val env lk root scope n = pcore env lk (val env lk) root scope n := by
  -- a fuel that is enough for every substatement and for the grouping of a `uses`
  let F0 : Nat := match lk root scope n.arg with
    | some (g, gr, gs) => fuelOf env lk gr gs g
    | none => 0
  let F : Nat := n.subs.foldr (fun c m => max (fuelOf env lk root (n :: scope) c) m) F0
  have hF := le_foldr_max (fun c => fuelOf env lk root (n :: scope) c) n.subs F0
  have h3 : pcore env lk (val env lk) root scope n = pent env lk (F + 1) root scope n :=
    pcore_congr env lk (val env lk) (pent env lk F) root scope n hn
      (fun c ⟨_, hf, hcf⟩ hcl =>
        (val_ge env lk hlk F root (n :: scope) c (called_not_mod hf hcf) hcl (hF.2 c hcf.mem)).symm)
      (fun g gr gs hl hcl => by
        refine (val_ge env lk hlk F gr gs g (hlk _ _ _ _ _ _ hl) hcl ?_).symm
        have : F0 = fuelOf env lk gr gs g := by simp only [F0, hl]
        rw [← this]; exact hF.1)
      h
  rw [h3] at h ⊢
  exact val_eq env lk hlk (F + 1) root scope n hn h

/-- The fixed-point equation of the value, in the form the traversal uses. -/
theorem val_fix (root : Mod) (scope : List Stmt) (n : Stmt) (hn : isModKw n = false)
    (h : Clean (val env lk root scope n) ∨ Clean (pcore env lk (val env lk) root scope n)) :
    val env lk root scope n = pcore env lk (val env lk) root scope n := by
  rcases h with h | h
  · exact val_unfold env lk hlk root scope n hn h
  · exact val_fold env lk hlk root scope n hn h

end Val

end Goyang.Lemmas.IncludePure
