import Goyang.Lemmas.Fuel
/-
Cycles are errors (property C01, part d): what `toEntry` answers when a `uses` statement leads
back into a grouping whose conversion is in progress, directly or through other groupings.
-/
namespace Goyang.Lemmas.Fuel
open Goyang.Model

/-- Re-entering a tracked statement (module, submodule, grouping) whose conversion is in progress
answers the `cycle` error entry at that statement and leaves the state alone, for every positive
fuel. (The cache premises: no finished entry of that statement exists yet — it is in progress.) -/
theorem toEntry_reentry (env : Env) (k : Nat) (root : Mod) (scope : List Stmt) (n : Stmt) (visiting : List NodeId)
    (st : TState) (ht : isTracked n = true) (hv : visiting.contains (nodeId root n) = true)
    (hcache : (if (n.kw == "module" || n.kw == "submodule") then st.cache.find? (·.1 == root.seq) else none) = none)
    (hg : (if n.kw == "grouping" then st.gcache.find? (·.1 == nodeId root n) else none) = none) :
    toEntry env (k + 1) root scope n visiting st = (errorEntry root n "cycle", st) := by
  rw [toEntry_succ]
  unfold toEntryBody
  simp only [isTracked] at ht
  simp only [skeleton, hcache, hg, ht, hv, Bool.and_self, ↓reduceIte]

/-- A `uses` statement that resolves to a grouping whose conversion is in progress — the grouping
uses itself, directly or through any chain of other groupings, all of which are then in
`visiting` — is answered by the `cycle` error entry positioned at that grouping: no divergence,
no out-of-fuel. -/
theorem uses_of_grouping_in_progress (env : Env) (k : Nat) (root : Mod) (scope : List Stmt) (u : Stmt)
    (visiting : List NodeId) (st : TState) (g : Stmt) (groot : Mod) (gscope : List Stmt)
    (hu : u.kw = "uses")
    (hfind : (findGrouping env.reg env.linked (2 * (k + 1) + 16) root scope u.arg []).1 = some (g, groot, gscope))
    (hv : visiting.contains (nodeId groot g) = true)
    (hg : st.gcache.find? (·.1 == nodeId groot g) = none) :
    toEntry env (k + 2) root scope u visiting st = (errorEntry groot g "cycle", st) := by
  have hgk : g.kw = "grouping" := (findGrouping_sound hfind).1
  have hin : toEntry env (k + 1) groot gscope g visiting st = (errorEntry groot g "cycle", st) := by
    apply toEntry_reentry
    · simp [isTracked, hgk]
    · exact hv
    · simp [hgk]
    · simp [hgk, hg]
  rw [toEntry_succ]
  unfold toEntryBody
  rw [skeleton_uses _ _ _ _ _ _ _ hu, hfind, visiting'_uses root visiting hu]
  exact hin

end Goyang.Lemmas.Fuel
